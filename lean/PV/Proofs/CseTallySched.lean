import PV.Model.CseTally
import PV.Proofs.CseShare
import PV.Proofs.CseEval
import PV.Proofs.SyntaxBEq
/-
  C12 helper: the SCHEDULE of an evaluator with a CSE result cache on tagged expressions — which
  operation nodes get their handler run, in which order, and which wrappers end up in the cache —
  is a function of the expressions and the cache alone (no values, no environment): `c12Sched`.
  Every successful run of the counting evaluator `evalCnt` follows it (`evalCnt_sched`), whatever
  the environment and whatever the functions in it compute.
-/
namespace PV

mutual
/-- tagged fragment: the fragment of the property plus wrappers -/
def Expr.tfrag : Expr → Bool
  | .const (.int _) => true
  | .var _ => true
  | .nary o cs => o.isComm && Expr.tfragL cs
  | .bin o a b => o.isDivPow && a.tfrag && b.tfrag
  | .call f as => f.tfrag && Expr.tfragL as
  | .cse c _ _ => c.tfrag
  | _ => false
def Expr.tfragL : List Expr → Bool
  | [] => true
  | c :: cs => c.tfrag && Expr.tfragL cs
end

mutual
theorem tfrag_simple : ∀ (e : Expr), e.tfrag = true → e.simple = true
  | .const c, h => by cases c <;> simp_all [Expr.tfrag, Expr.simple, Const.simple]
  | .var _, _ => by simp [Expr.simple]
  | .nary o cs, h => by
      simp only [Expr.tfrag, Bool.and_eq_true] at h
      simp only [Expr.simple]; exact tfragL_simple cs h.2
  | .bin o a b, h => by
      simp only [Expr.tfrag, Bool.and_eq_true] at h
      simp [Expr.simple, tfrag_simple a h.1.2, tfrag_simple b h.2]
  | .call f as, h => by
      simp only [Expr.tfrag, Bool.and_eq_true] at h
      simp [Expr.simple, tfrag_simple f h.1, tfragL_simple as h.2]
  | .cse c _ _, h => by
      simp only [Expr.tfrag] at h
      simp [Expr.simple, tfrag_simple c h]
  | .un .., h | .cmp .., h | .ite .., h | .callKw .., h | .subscript .., h | .lookup .., h
  | .subst .., h | .deriv .., h | .slice _, h | .nan, h | .wildcard, h
  | .dotWild _, h | .starWild _, h | .funcSym, h | .tuple _, h | .list _, h => by
      simp [Expr.tfrag] at h
theorem tfragL_simple : ∀ (cs : List Expr), Expr.tfragL cs = true → Expr.simpleL cs = true
  | [], _ => rfl
  | c :: cs, h => by
      simp only [Expr.tfragL, Bool.and_eq_true] at h
      simp [Expr.simpleL, tfrag_simple c h.1, tfragL_simple cs h.2]
end

mutual
/-- The schedule of an evaluator with wrapper cache `C` on `e`: the operation nodes whose handler
runs, in the order in which the handlers return, and the cache afterwards.  The cache is searched
by structural equality; on simple expressions that is the evaluator's look-up by Python `==`
(`findBy_c12`). -/
def c12Sched : Expr → List Expr → List Expr × List Expr
  | .nary o cs, C => ((c12SchedL cs C).1 ++ [.nary o cs], (c12SchedL cs C).2)
  | .bin o a b, C =>
      ((c12Sched a C).1 ++ (c12Sched b (c12Sched a C).2).1 ++ [.bin o a b],
       (c12Sched b (c12Sched a C).2).2)
  | .call f as, C =>
      ((c12Sched f C).1 ++ (c12SchedL as (c12Sched f C).2).1 ++ [.call f as],
       (c12SchedL as (c12Sched f C).2).2)
  | .cse c p s, C =>
      if Expr.cse c p s ∈ C then ([], C) else ((c12Sched c C).1, Expr.cse c p s :: (c12Sched c C).2)
  | _, C => ([], C)
def c12SchedL : List Expr → List Expr → List Expr × List Expr
  | [], C => ([], C)
  | c :: cs, C =>
      ((c12Sched c C).1 ++ (c12SchedL cs (c12Sched c C).2).1, (c12SchedL cs (c12Sched c C).2).2)
end

/-! ### wrappers inside a tagged tree, and caches closed under them -/

mutual
def c12Wrappers : Expr → List Expr
  | .nary _ cs => c12WrappersL cs
  | .bin _ a b => c12Wrappers a ++ c12Wrappers b
  | .call f as => c12Wrappers f ++ c12WrappersL as
  | .cse c p s => .cse c p s :: c12Wrappers c
  | _ => []
def c12WrappersL : List Expr → List Expr
  | [] => []
  | c :: cs => c12Wrappers c ++ c12WrappersL cs
end

/-- with every wrapper the cache holds the wrappers inside it -/
def c12Closed (C : List Expr) : Prop := ∀ w ∈ C, ∀ w' ∈ c12Wrappers w, w' ∈ C

mutual
theorem c12Sched_closed : ∀ (e : Expr) (C : List Expr), c12Closed C →
    c12Closed (c12Sched e C).2 ∧ (∀ w ∈ c12Wrappers e, w ∈ (c12Sched e C).2) ∧
      ∀ w ∈ C, w ∈ (c12Sched e C).2
  | .nary o cs, C, h => by
      simp only [c12Sched, c12Wrappers]; exact c12SchedL_closed cs C h
  | .bin o a b, C, h => by
      obtain ⟨a1, a2, a3⟩ := c12Sched_closed a C h
      obtain ⟨b1, b2, b3⟩ := c12Sched_closed b _ a1
      simp only [c12Sched, c12Wrappers]
      refine ⟨b1, ?_, fun w hw => b3 w (a3 w hw)⟩
      intro w hw
      rcases List.mem_append.mp hw with hw | hw
      · exact b3 w (a2 w hw)
      · exact b2 w hw
  | .call f as, C, h => by
      obtain ⟨a1, a2, a3⟩ := c12Sched_closed f C h
      obtain ⟨b1, b2, b3⟩ := c12SchedL_closed as _ a1
      simp only [c12Sched, c12Wrappers]
      refine ⟨b1, ?_, fun w hw => b3 w (a3 w hw)⟩
      intro w hw
      rcases List.mem_append.mp hw with hw | hw
      · exact b3 w (a2 w hw)
      · exact b2 w hw
  | .cse c p s, C, h => by
      simp only [c12Sched, c12Wrappers]
      by_cases hm : Expr.cse c p s ∈ C
      · simp only [hm, if_true]
        refine ⟨h, ?_, fun w hw => hw⟩
        intro w hw
        rcases List.mem_cons.mp hw with rfl | hw
        · exact hm
        · exact h _ hm w (by simp [c12Wrappers, hw])
      · simp only [hm, if_false]
        obtain ⟨a1, a2, a3⟩ := c12Sched_closed c C h
        refine ⟨?_, ?_, fun w hw => List.mem_cons_of_mem _ (a3 w hw)⟩
        · intro w hw w' hw'
          rcases List.mem_cons.mp hw with rfl | hw
          · simp only [c12Wrappers, List.mem_cons] at hw'
            rcases hw' with rfl | hw'
            · simp
            · exact List.mem_cons_of_mem _ (a2 w' hw')
          · exact List.mem_cons_of_mem _ (a1 w hw w' hw')
        · intro w hw
          rcases List.mem_cons.mp hw with rfl | hw
          · simp
          · exact List.mem_cons_of_mem _ (a2 w hw)
  | .const _, C, h | .var _, C, h | .un .., C, h | .cmp .., C, h | .ite .., C, h
  | .callKw .., C, h | .subscript .., C, h | .lookup .., C, h | .subst .., C, h
  | .deriv .., C, h | .slice _, C, h | .nan, C, h | .wildcard, C, h | .dotWild _, C, h
  | .starWild _, C, h | .funcSym, C, h | .tuple _, C, h | .list _, C, h => by
      simp only [c12Sched, c12Wrappers]
      exact ⟨h, fun w hw => by simp at hw, fun w hw => hw⟩
theorem c12SchedL_closed : ∀ (cs : List Expr) (C : List Expr), c12Closed C →
    c12Closed (c12SchedL cs C).2 ∧ (∀ w ∈ c12WrappersL cs, w ∈ (c12SchedL cs C).2) ∧
      ∀ w ∈ C, w ∈ (c12SchedL cs C).2
  | [], C, h => by
      simp only [c12SchedL, c12WrappersL]
      exact ⟨h, fun w hw => by simp at hw, fun w hw => hw⟩
  | c :: cs, C, h => by
      obtain ⟨a1, a2, a3⟩ := c12Sched_closed c C h
      obtain ⟨b1, b2, b3⟩ := c12SchedL_closed cs _ a1
      simp only [c12SchedL, c12WrappersL]
      refine ⟨b1, ?_, fun w hw => b3 w (a3 w hw)⟩
      intro w hw
      rcases List.mem_append.mp hw with hw | hw
      · exact b3 w (a2 w hw)
      · exact b2 w hw
end

/-! ### logs -/

/-- the wrappers whose child has been computed, newest first -/
def c12Computed (t : C12Log) : List Expr := (c12CacheOf t).map Prod.fst

theorem c12CacheOf_append : ∀ (a b : C12Log), c12CacheOf (a ++ b) = c12CacheOf a ++ c12CacheOf b
  | [], _ => rfl
  | .child w v :: a, b => by simp [c12CacheOf, c12CacheOf_append a b]
  | .call .. :: a, b => by simp [c12CacheOf, c12CacheOf_append a b]
  | .arithN .. :: a, b => by simp [c12CacheOf, c12CacheOf_append a b]
  | .arithB .. :: a, b => by simp [c12CacheOf, c12CacheOf_append a b]
  | .node _ :: a, b => by simp [c12CacheOf, c12CacheOf_append a b]

theorem c12Computed_append (a b : C12Log) :
    c12Computed (a ++ b) = c12Computed a ++ c12Computed b := by
  simp [c12Computed, c12CacheOf_append]

theorem c12Nodes_append : ∀ (a b : C12Log), c12Nodes (a ++ b) = c12Nodes a ++ c12Nodes b
  | [], _ => rfl
  | .child w v :: a, b => by simp [c12Nodes, c12Nodes_append a b]
  | .call .. :: a, b => by simp [c12Nodes, c12Nodes_append a b]
  | .arithN .. :: a, b => by simp [c12Nodes, c12Nodes_append a b]
  | .arithB .. :: a, b => by simp [c12Nodes, c12Nodes_append a b]
  | .node _ :: a, b => by simp [c12Nodes, c12Nodes_append a b]

theorem c12Count_append (k : C12Kind) : ∀ (a b : C12Log),
    c12Count k (a ++ b) = c12Count k a + c12Count k b
  | [], _ => by simp [c12Count]
  | e :: a, b => by simp [c12Count, c12Count_append k a b]; omega

theorem c12Cost_append (k : C12Kind) : ∀ (a b : List Expr),
    c12Cost k (a ++ b) = c12Cost k a + c12Cost k b
  | [], _ => by simp [c12Cost]
  | e :: a, b => by simp [c12Cost, c12Cost_append k a b]; omega

theorem c12_bind_ok {α β : Type} {x : C12M α} {f : α → C12M β} {t t' : C12Log} {v : β}
    (h : (x >>= f) t = (.ok v, t')) : ∃ a t1, x t = (.ok a, t1) ∧ f a t1 = (.ok v, t') := by
  change C12M.bind x f t = _ at h
  unfold C12M.bind at h
  cases hx : x t with
  | mk r t1 =>
    rw [hx] at h
    cases r with
    | error e => simp at h
    | ok a => exact ⟨a, t1, rfl, h⟩

/-- the part `new` of the log written by a run from `t` to `t'` follows the schedule `r`; `extra`
are arithmetic operations performed for a handler that has not returned yet.  (A log has its
newest event first, a schedule its first handler first: hence `reverse`.) -/
def SchedOk (t t' : C12Log) (r : List Expr × List Expr) (extra : C12Kind → Nat) : Prop :=
  ∃ new, t' = new ++ t ∧ (c12Nodes new).reverse = r.1 ∧ c12Computed t' = r.2 ∧
    (∀ w ∈ c12Computed t', w.simple = true) ∧ ∀ k, c12Count k new = c12Cost k r.1 + extra k

theorem SchedOk.refl {t : C12Log} (hs : ∀ w ∈ c12Computed t, w.simple = true) :
    SchedOk t t ([], c12Computed t) (fun _ => 0) :=
  ⟨[], rfl, rfl, rfl, hs, fun _ => rfl⟩

theorem SchedOk.simpleC {t t' : C12Log} {r : List Expr × List Expr} {x : C12Kind → Nat}
    (h : SchedOk t t' r x) : ∀ w ∈ c12Computed t', w.simple = true := by
  obtain ⟨_, _, _, _, h, _⟩ := h; exact h

theorem SchedOk.cache {t t' : C12Log} {r : List Expr × List Expr} {x : C12Kind → Nat}
    (h : SchedOk t t' r x) : c12Computed t' = r.2 := by
  obtain ⟨_, _, _, h, _, _⟩ := h; exact h

theorem SchedOk.trans {t t1 t2 : C12Log} {r1 r2 : List Expr × List Expr} {x1 x2 : C12Kind → Nat}
    (h1 : SchedOk t t1 r1 x1) (h2 : SchedOk t1 t2 r2 x2) :
    SchedOk t t2 (r1.1 ++ r2.1, r2.2) (fun k => x1 k + x2 k) := by
  obtain ⟨n1, e1, a1, _, _, d1⟩ := h1
  obtain ⟨n2, e2, a2, b2, c2, d2⟩ := h2
  refine ⟨n2 ++ n1, by rw [e2, e1, List.append_assoc], ?_, b2, c2, ?_⟩
  · simp only [c12Nodes_append, List.reverse_append, a1, a2]
  · intro k
    simp only [c12Count_append, c12Cost_append, d1 k, d2 k]; omega

theorem c12Computed_cons_counted {ev : C12Ev} {k0 : C12Kind} (hk : ev.kind? = some k0)
    (t : C12Log) : c12Computed (ev :: t) = c12Computed t := by
  cases ev <;> simp [C12Ev.kind?] at hk <;> rfl

theorem c12Nodes_cons_counted {ev : C12Ev} {k0 : C12Kind} (hk : ev.kind? = some k0)
    (t : C12Log) : c12Nodes (ev :: t) = c12Nodes t := by
  cases ev <;> simp [C12Ev.kind?] at hk <;> rfl

/-- a counted event (an arithmetic operation, a call) that is not a handler return -/
theorem SchedOk.event {t : C12Log} (ev : C12Ev) (k0 : C12Kind) (hk : ev.kind? = some k0)
    (hs : ∀ w ∈ c12Computed t, w.simple = true) :
    SchedOk t (ev :: t) ([], c12Computed t) (fun k => if k = k0 then 1 else 0) := by
  refine ⟨[ev], rfl, ?_, ?_, ?_, ?_⟩
  · rw [c12Nodes_cons_counted hk]; rfl
  · exact c12Computed_cons_counted hk t
  · rw [c12Computed_cons_counted hk]; exact hs
  · intro k
    simp only [c12Count, hk, c12Cost, Option.some.injEq]
    by_cases h : k = k0
    · subst h; simp
    · have : ¬ k0 = k := fun h' => h h'.symm
      simp [h, this]

/-- the handler of `e` returns: the operations performed for it are accounted to the node -/
theorem SchedOk.done {t t1 : C12Log} {r : List Expr × List Expr} {x : C12Kind → Nat} (e : Expr)
    (h : SchedOk t t1 r x) (hx : ∀ k, x k = c12CostNode k e) :
    SchedOk t (.node e :: t1) (r.1 ++ [e], r.2) (fun _ => 0) := by
  obtain ⟨n1, e1, a1, b1, c1, d1⟩ := h
  refine ⟨.node e :: n1, by rw [e1]; rfl, ?_, ?_, ?_, ?_⟩
  · simp [c12Nodes, a1]
  · simpa [c12Computed, c12CacheOf] using b1
  · simpa [c12Computed, c12CacheOf] using c1
  · intro k
    simp only [c12Count, C12Ev.kind?, c12Cost_append, c12Cost, d1 k, hx k]
    simp

/-- the schedule and the extra counts replaced by equal ones (the callers get the equations from
unfolding `c12Sched`) -/
theorem SchedOk.congr {t t' : C12Log} {r r' : List Expr × List Expr} {x x' : C12Kind → Nat}
    (h : SchedOk t t' r x) (hr : r = r') (hx : ∀ k, x k = x' k) : SchedOk t t' r' x' := by
  subst hr
  obtain ⟨n1, e1, a1, b1, c1, d1⟩ := h
  exact ⟨n1, e1, a1, b1, c1, fun k => by rw [d1 k, hx k]⟩

theorem c12Done_op {e : Expr} (he : e.isCseOp = true) (t : C12Log) :
    c12Done e t = (.ok (), .node e :: t) := by
  simp [c12Done, he]

theorem findBy_mem_simple {w : Expr} (hw : w.simple = true) : ∀ {l : List (Expr × Value)} {v : Value},
    (∀ p ∈ l, p.1.simple = true) → findBy Expr.pyEq w l = some v → w ∈ l.map Prod.fst
  | [], _, _, h => by simp [findBy] at h
  | (k', v') :: rest, v, hs, h => by
    simp only [findBy] at h
    by_cases hk : k'.pyEq w = true
    · have : k' = w := pyEq_eq_of_simple k' w (hs (k', v') (by simp)) hw hk
      simp [this]
    · simp only [hk, Bool.false_eq_true, if_false] at h
      have := findBy_mem_simple hw (fun p hp => hs p (by simp [hp])) h
      simp only [List.map_cons, List.mem_cons]; exact Or.inr this

/-- cache look-up by Python `==` is membership, on simple expressions -/
theorem findBy_c12 {t : C12Log} {w : Expr} (hw : w.simple = true)
    (hs : ∀ w' ∈ c12Computed t, w'.simple = true) :
    (∃ v, findBy Expr.pyEq w (c12CacheOf t) = some v) ↔ w ∈ c12Computed t := by
  constructor
  · rintro ⟨v, h⟩
    refine findBy_mem_simple hw ?_ h
    intro p hp
    exact hs p.1 (by simp only [c12Computed, List.mem_map]; exact ⟨p, hp, rfl⟩)
  · intro h
    cases hf : findBy Expr.pyEq w (c12CacheOf t) with
    | some v => exact ⟨v, rfl⟩
    | none =>
      exfalso
      simp only [c12Computed, List.mem_map] at h
      obtain ⟨p, hp, rfl⟩ := h
      have := findBy_none hf p hp
      rw [pyEq_self_simple _ hw] at this
      cases this

theorem c12Call_ok {sem : C12Sem} {fv : Value} {avs : List Value} {ns : List String}
    {kvs : List Value} {t t' : C12Log} {v : Value}
    (h : c12Call sem fv avs ns kvs t = (.ok v, t')) :
    ∃ name, t' = .call name avs ns kvs :: t := by
  unfold c12Call at h
  cases fv <;> simp at h
  exact ⟨_, h.2.symm⟩

mutual
/-- **every successful run follows the schedule** -/
theorem evalCnt_sched (sem : C12Sem) (env : Env) : ∀ (e : Expr) (t t' : C12Log) (v : Value),
    e.tfrag = true → (∀ w ∈ c12Computed t, w.simple = true) →
    evalCnt sem env e t = (.ok v, t') →
    SchedOk t t' (c12Sched e (c12Computed t)) (fun _ => 0)
  | .const (.int n), t, t', v, _, hs, h => by
      simp only [evalCnt, C12M.lift] at h
      injection h with _ h; subst h
      simp only [c12Sched]; exact SchedOk.refl hs
  | .var x, t, t', v, _, hs, h => by
      simp only [evalCnt] at h
      cases hg : env.get x with
      | none => simp [hg, C12M.throw] at h
      | some v0 =>
        simp only [hg, C12M.pure] at h
        injection h with _ h; subst h
        simp only [c12Sched]; exact SchedOk.refl hs
  | .nary .sum cs, t, t', v, hf, hs, h => by
      simp only [Expr.tfrag, Bool.and_eq_true] at hf
      simp only [evalCnt] at h
      obtain ⟨r, t1, h1, h⟩ := c12_bind_ok h
      obtain ⟨_, t2, h2, h⟩ := c12_bind_ok h
      rw [c12Done_op (by rfl)] at h2; cases h2
      cases h
      have := (evalCntFold_sched sem env .sum cs (.int 0) t t1 _ hf.2 hs h1).done (.nary .sum cs)
        (fun k => by simp [c12CostNode])
      simpa only [c12Sched] using this
  | .nary .prod cs, t, t', v, hf, hs, h => by
      simp only [Expr.tfrag, Bool.and_eq_true] at hf
      simp only [evalCnt] at h
      obtain ⟨r, t1, h1, h⟩ := c12_bind_ok h
      obtain ⟨_, t2, h2, h⟩ := c12_bind_ok h
      rw [c12Done_op (by rfl)] at h2; cases h2
      cases h
      have := (evalCntFold_sched sem env .prod cs (.int 1) t t1 _ hf.2 hs h1).done (.nary .prod cs)
        (fun k => by simp [c12CostNode])
      simpa only [c12Sched] using this
  | .bin o a b, t, t', v, hf, hs, h => by
      simp only [Expr.tfrag, Bool.and_eq_true] at hf
      have hop := isCseOp_bin hf.1.1 a b
      simp only [evalCnt] at h
      obtain ⟨x, t1, h1, h⟩ := c12_bind_ok h
      obtain ⟨y, t2, h2, h⟩ := c12_bind_ok h
      obtain ⟨_, t3, h3, h⟩ := c12_bind_ok h
      obtain ⟨r, t4, h4, h⟩ := c12_bind_ok h
      obtain ⟨_, t5, h5, h⟩ := c12_bind_ok h
      cases h3
      simp only [C12M.lift] at h4
      injection h4 with _ h4; subst h4
      rw [c12Done_op hop] at h5; cases h5
      cases h
      have s1 := evalCnt_sched sem env a t t1 x hf.1.2 hs h1
      have s2 := evalCnt_sched sem env b t1 t2 y hf.2 s1.simpleC h2
      rw [s1.cache] at s2
      have s3 := SchedOk.event (.arithB o x y) (.bin o) rfl s2.simpleC
      have := ((s1.trans s2).trans s3).done (.bin o a b)
        (fun k => by simp [c12CostNode])
      refine this.congr ?_ (fun _ => rfl)
      simp only [c12Sched, List.append_nil, s2.cache]
  | .call f as, t, t', v, hf, hs, h => by
      simp only [Expr.tfrag, Bool.and_eq_true] at hf
      simp only [evalCnt] at h
      obtain ⟨fv, t1, h1, h⟩ := c12_bind_ok h
      obtain ⟨avs, t2, h2, h⟩ := c12_bind_ok h
      obtain ⟨r, t3, h3, h⟩ := c12_bind_ok h
      obtain ⟨_, t4, h4, h⟩ := c12_bind_ok h
      obtain ⟨name, h3⟩ := c12Call_ok h3
      subst h3
      rw [c12Done_op (by rfl)] at h4; cases h4
      cases h
      have s1 := evalCnt_sched sem env f t t1 fv hf.1 hs h1
      have s2 := evalCntList_sched sem env as t1 t2 avs hf.2 s1.simpleC h2
      rw [s1.cache] at s2
      have s3 := SchedOk.event (.call name avs [] []) .call rfl s2.simpleC
      have := ((s1.trans s2).trans s3).done (.call f as)
        (fun k => by simp [c12CostNode])
      refine this.congr ?_ (fun _ => rfl)
      simp only [c12Sched, List.append_nil, s2.cache]
  | .cse c p sc, t, t', v, hf, hs, h => by
      have hsim := tfrag_simple _ hf
      simp only [Expr.tfrag] at hf
      have hl : c.hasList = false := by
        have := simple_nolist _ hsim; simpa [Expr.hasList] using this
      simp only [evalCnt, hl, Bool.false_eq_true, if_false] at h
      cases hfb : findBy Expr.pyEq (.cse c p sc) (c12CacheOf t) with
      | some v0 =>
        simp only [hfb] at h
        injection h with _ h; subst h
        have hm : Expr.cse c p sc ∈ c12Computed t := (findBy_c12 hsim hs).mp ⟨v0, hfb⟩
        simp only [c12Sched, hm, if_true]
        exact SchedOk.refl hs
      | none =>
        simp only [hfb] at h
        have hm : ¬ Expr.cse c p sc ∈ c12Computed t := by
          intro hm
          obtain ⟨v0, hv0⟩ := (findBy_c12 hsim hs).mpr hm
          rw [hfb] at hv0; cases hv0
        cases hr : evalCnt sem env c t with
        | mk r t1 =>
          rw [hr] at h
          cases r with
          | error e => simp at h
          | ok v1 =>
            simp only at h
            injection h with _ h; subst h
            obtain ⟨n1, e1, a1, b1, c1, d1⟩ := evalCnt_sched sem env c t t1 v1 hf hs hr
            simp only [c12Sched, hm, if_false]
            refine ⟨.child (.cse c p sc) v1 :: n1, by rw [e1]; rfl, ?_, ?_, ?_, ?_⟩
            · simpa [c12Nodes] using a1
            · simp [c12Computed, c12CacheOf] at b1 ⊢; exact b1
            · intro w hw
              simp only [c12Computed, c12CacheOf, List.map_cons, List.mem_cons] at hw
              rcases hw with rfl | hw
              · exact hsim
              · exact c1 w hw
            · intro k; simpa [c12Count, C12Ev.kind?] using d1 k
  | .nary .bor _, _, _, _, hf, _, _ | .nary .bxor _, _, _, _, hf, _, _
  | .nary .band _, _, _, _, hf, _, _ | .nary .lor _, _, _, _, hf, _, _
  | .nary .land _, _, _, _, hf, _, _ | .nary .min _, _, _, _, hf, _, _
  | .nary .max _, _, _, _, hf, _, _ => by simp [Expr.tfrag, NaryOp.isComm] at hf
  | .const (.bool _), _, _, _, hf, _, _ | .const (.flt ..), _, _, _, hf, _, _
  | .const (.str _), _, _, _, hf, _, _ | .const .none, _, _, _, hf, _, _
  | .un .., _, _, _, hf, _, _ | .cmp .., _, _, _, hf, _, _ | .ite .., _, _, _, hf, _, _
  | .callKw .., _, _, _, hf, _, _ | .subscript .., _, _, _, hf, _, _
  | .lookup .., _, _, _, hf, _, _ | .subst .., _, _, _, hf, _, _
  | .deriv .., _, _, _, hf, _, _ | .slice _, _, _, _, hf, _, _ | .nan, _, _, _, hf, _, _
  | .wildcard, _, _, _, hf, _, _ | .dotWild _, _, _, _, hf, _, _
  | .starWild _, _, _, _, hf, _, _ | .funcSym, _, _, _, hf, _, _
  | .tuple _, _, _, _, hf, _, _ | .list _, _, _, _, hf, _, _ => by simp [Expr.tfrag] at hf
theorem evalCntFold_sched (sem : C12Sem) (env : Env) (o : NaryOp) :
    ∀ (cs : List Expr) (acc : Value) (t t' : C12Log) (v : Value),
    Expr.tfragL cs = true → (∀ w ∈ c12Computed t, w.simple = true) →
    evalCntFold sem env o acc cs t = (.ok v, t') →
    SchedOk t t' (c12SchedL cs (c12Computed t)) (fun k => if k = .nary o then cs.length else 0)
  | [], acc, t, t', v, _, hs, h => by
      cases h
      simp only [c12SchedL]
      exact (SchedOk.refl hs).congr rfl (fun k => by simp)
  | c :: cs, acc, t, t', v, hf, hs, h => by
      simp only [Expr.tfragL, Bool.and_eq_true] at hf
      simp only [evalCntFold] at h
      obtain ⟨x, t1, h1, h⟩ := c12_bind_ok h
      obtain ⟨_, t2, h2, h⟩ := c12_bind_ok h
      obtain ⟨acc', t3, h3, h⟩ := c12_bind_ok h
      cases h2
      simp only [C12M.lift] at h3
      injection h3 with _ h3; subst h3
      have s1 := evalCnt_sched sem env c t t1 x hf.1 hs h1
      have s2 := SchedOk.event (.arithN o acc x) (.nary o) rfl s1.simpleC
      have s3 := evalCntFold_sched sem env o cs acc' _ t' v hf.2 s2.simpleC h
      have hc : c12Computed (C12Ev.arithN o acc x :: t1) = (c12Sched c (c12Computed t)).2 := by
        rw [← s1.cache]; simp [c12Computed, c12CacheOf]
      rw [hc] at s3
      refine ((s1.trans s2).trans s3).congr ?_ ?_
      · simp only [c12SchedL, List.append_nil]
      · intro k
        by_cases hk : k = .nary o <;> simp [hk]; omega
theorem evalCntList_sched (sem : C12Sem) (env : Env) :
    ∀ (cs : List Expr) (t t' : C12Log) (vs : List Value),
    Expr.tfragL cs = true → (∀ w ∈ c12Computed t, w.simple = true) →
    evalCntList sem env cs t = (.ok vs, t') →
    SchedOk t t' (c12SchedL cs (c12Computed t)) (fun _ => 0)
  | [], t, t', vs, _, hs, h => by
      cases h
      simp only [c12SchedL]
      exact SchedOk.refl hs
  | c :: cs, t, t', vs, hf, hs, h => by
      simp only [Expr.tfragL, Bool.and_eq_true] at hf
      simp only [evalCntList] at h
      obtain ⟨x, t1, h1, h⟩ := c12_bind_ok h
      obtain ⟨xs, t2, h2, h⟩ := c12_bind_ok h
      cases h
      have s1 := evalCnt_sched sem env c t t1 x hf.1 hs h1
      have s2 := evalCntList_sched sem env cs t1 _ xs hf.2 s1.simpleC h2
      rw [s1.cache] at s2
      refine (s1.trans s2).congr ?_ (fun _ => rfl)
      simp only [c12SchedL]
end

end PV
