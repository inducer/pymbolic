import PV.Proofs.UnifyTableLink
import PV.Proofs.ExprSize
/-
  C16 (T-gen), part 6: records with distinct keys stay so through every function of the model
  (`URec.WF`: what makes an association list a Python dict), in particular through `unifyE`.
-/
open PV PV.Unify
namespace PV.Unify

theorem unpackIndex_size (i : Expr) : (unpackIndex i).size ≤ i.size := by
  cases i with
  | tuple cs =>
    match cs with
    | [] => simp [unpackIndex]
    | [x] => simp [unpackIndex, Expr.size, Expr.sizeL]
    | x :: y :: l => simp [unpackIndex]
  | _ => simp [unpackIndex]

theorem bindParts_wf' {cands : List String} {o : NaryOp} {ds : List Expr} {zs cur u'} (hc : URec.WF cur)
    (h : bindParts cands o ds cur zs = some u') : u'.WF := bindParts_wf zs cur u' hc h

theorem matchPlain_wf {cands : List String} {o : NaryOp} {plain : List String} {hasNonvar : Bool}
    {ds : List Expr} {us : List URec} {u : URec} {left : List Nat} (hus : ∀ v ∈ us, v.WF) (hu : u.WF) :
    ∀ r ∈ matchPlain cands o plain hasNonvar ds us u left, r.WF := by
  intro r hr
  simp only [matchPlain] at hr
  split at hr
  · simp at hr; subst hr; exact hu
  · split at hr
    · simp only [Option.mem_toList, Option.mem_def] at hr
      have := List.mem_of_mem_head? hr
      simp only [List.mem_filterMap] at this
      obtain ⟨part, _, hb⟩ := this
      exact bindParts_wf' hu hb
    · simp only [List.mem_flatMap, List.mem_filterMap] at hr
      obtain ⟨res, ⟨part, _, hb⟩, hr⟩ := hr
      exact unifyMany_wf hus (bindParts_wf' hu hb) hr

theorem matchChildren_wf {cands : List String} {o : NaryOp} {plain : List String} {hasNonvar : Bool}
    {ds : List Expr} {us : List URec} (hus : ∀ v ∈ us, v.WF) :
    ∀ (t : List (List (Nat × List URec))) (u : URec) (left : List Nat),
      (∀ row ∈ t, ∀ p ∈ row, ∀ r ∈ p.2, r.WF) → u.WF →
      ∀ r ∈ matchChildren cands o plain hasNonvar ds us t u left, r.WF
  | [], u, left, _, hu => by
    intro r hr
    simp only [matchChildren] at hr
    exact matchPlain_wf hus hu r hr
  | row :: rest, u, left, ht, hu => by
    intro r hr
    simp only [matchChildren, List.mem_flatMap] at hr
    obtain ⟨p, hp, hr⟩ := hr
    obtain ⟨j, pairs⟩ := p
    simp only at hr
    split at hr
    · simp only [List.mem_flatMap, List.mem_filterMap] at hr
      obtain ⟨cu, ⟨q, hq, hqu⟩, hr⟩ := hr
      have hcu : cu.WF := unify_wf (ht row (by simp) (j, pairs) hp q hq) hu hqu
      exact matchChildren_wf hus rest cu _ (fun row' h' => ht row' (by simp [h'])) hcu r hr
    · simp at hr

/-- one unfolding keeps records well-formed when the recursive calls on SMALLER patterns do -/
theorem c16UnifyF_wf (cands : List String) (recur : Expr → Expr → List URec → List URec) (e : Expr)
    (hrec : ∀ a, a.size < e.size → ∀ b vs, (∀ v ∈ vs, v.WF) → ∀ r ∈ recur a b vs, r.WF)
    (oth : Expr) (us : List URec) (hus : ∀ v ∈ us, v.WF) :
    ∀ r ∈ c16UnifyF cands recur e oth us, r.WF := by
  intro r hr
  cases e with
  | const c =>
    simp only [c16UnifyF] at hr
    split at hr
    · exact hus r hr
    · simp at hr
  | var x =>
    simp only [c16UnifyF, mapVariable_eq] at hr
    split at hr
    · rename_i n hn
      exact unifyMany_wf hus (recFromEq_wf hn) hr
    · split at hr
      · exact hus r hr
      · simp at hr
  | nary o cs =>
    simp only [c16UnifyF] at hr
    split at hr <;> try (simp at hr)
    rename_i o' ds
    obtain ⟨_, hr⟩ := hr
    simp only [c16CommutF] at hr
    refine matchChildren_wf hus _ _ _ ?_ wf_empty r hr
    intro row hrow
    simp only [List.mem_map, List.mem_filter] at hrow
    obtain ⟨c, ⟨hc, _⟩, rfl⟩ := hrow
    have hsz : c.size < (Expr.nary o cs).size := by
      have := Expr.size_le_sizeL hc; simp [Expr.size]; omega
    exact c16RowF_wf (hrec c hsz) hus
  | bin o a b =>
    simp only [c16UnifyF] at hr
    split at hr <;> try (simp at hr)
    rename_i o' a' b'
    obtain ⟨_, hr⟩ := hr
    exact hrec a (by simp only [Expr.size]; have := Expr.size_pos b; omega) _ _
      (hrec b (by simp only [Expr.size]; have := Expr.size_pos a; omega) _ _ hus) r hr
  | un o a =>
    simp only [c16UnifyF] at hr
    split at hr <;> try (simp at hr)
    obtain ⟨_, hr⟩ := hr
    exact hrec a (by simp only [Expr.size]; omega) _ _ hus r hr
  | cmp o a b =>
    simp only [c16UnifyF] at hr
    split at hr <;> try (simp at hr)
    obtain ⟨_, hr⟩ := hr
    exact hrec a (by simp only [Expr.size]; have := Expr.size_pos b; omega) _ _
      (hrec b (by simp only [Expr.size]; have := Expr.size_pos a; omega) _ _ hus) r hr
  | ite c t e =>
    simp only [c16UnifyF] at hr
    split at hr <;> try (simp at hr)
    have h1 := Expr.size_pos c; have h2 := Expr.size_pos t; have h3 := Expr.size_pos e
    exact hrec c (by simp only [Expr.size]; omega) _ _
      (hrec t (by simp only [Expr.size]; omega) _ _ (hrec e (by simp only [Expr.size]; omega) _ _ hus)) r hr
  | call f as =>
    simp only [c16UnifyF] at hr
    split at hr <;> try (simp at hr)
    have h1 := Expr.size_pos f
    exact hrec f (by simp only [Expr.size]; omega) _ _
      (hrec (.tuple as) (by simp only [Expr.size]; omega) _ _ hus) r hr
  | subscript a i =>
    simp only [c16UnifyF] at hr
    split at hr <;> try (simp at hr)
    have h1 := Expr.size_pos a; have h2 := Expr.size_pos i; have h3 := unpackIndex_size i
    exact hrec a (by simp only [Expr.size]; omega) _ _
      (hrec (unpackIndex i) (by simp only [Expr.size]; omega) _ _ hus) r hr
  | lookup a n =>
    simp only [c16UnifyF] at hr
    split at hr <;> try (simp at hr)
    obtain ⟨_, hr⟩ := hr
    exact hrec a (by simp only [Expr.size]; omega) _ _ hus r hr
  | tuple cs =>
    simp only [c16UnifyF] at hr
    split at hr <;> try (simp at hr)
    rename_i ds
    obtain ⟨_, hr⟩ := hr
    · have hz : ∀ (L : List (Expr × Expr)) (vs : List URec), (∀ p ∈ L, p.1 ∈ cs) → (∀ v ∈ vs, v.WF) →
          ∀ r ∈ c16ZipF recur L vs, r.WF := by
        intro L
        induction L with
        | nil => intro vs _ hv r hr; simpa [c16ZipF] using hv r hr
        | cons p L ih =>
          intro vs hL hv r hr
          obtain ⟨c, d⟩ := p
          simp only [c16ZipF] at hr
          split at hr
          · simp at hr
          · have hc : c ∈ cs := hL (c, d) (by simp)
            exact ih _ (fun q hq => hL q (by simp [hq]))
              (hrec c (by have := Expr.size_le_sizeL hc; simp [Expr.size]; omega) d vs hv) r hr
      exact hz _ _ (fun p hp => (List.of_mem_zip hp).1) hus r hr
  | _ => simp [c16UnifyF] at hr

/-- **`unifyE` keeps records well-formed.** -/
theorem unifyE_wf (cands : List String) : ∀ (n : Nat) (e : Expr), e.size ≤ n → ∀ (oth : Expr)
    (us : List URec), (∀ v ∈ us, v.WF) → ∀ r ∈ unifyE cands e oth us, r.WF
  | 0, e, h => by have := Expr.size_pos e; omega
  | n + 1, e, h => by
    intro oth us hus r hr
    rw [unifyE_eq_F] at hr
    exact c16UnifyF_wf cands (unifyE cands) e
      (fun a ha b vs hv q hq => unifyE_wf cands n a (by omega) b vs hv q hq) oth us hus r hr

theorem unifyE_wf' (cands : List String) (e oth : Expr) (us : List URec) (hus : ∀ v ∈ us, v.WF) :
    ∀ r ∈ unifyE cands e oth us, r.WF := unifyE_wf cands e.size e (Nat.le_refl _) oth us hus

end PV.Unify
