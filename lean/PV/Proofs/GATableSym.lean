import PV.Proofs.GATableExpected
/-
  C18, the tie of the model to the source by a table generated from it (T-gen): rewriting
  lemmas for the symbolic execution of the table interpreter (PV/Model/GATable.lean) — every primitive on the shapes of operands the translated functions
  meet — and the tactic `c18sym` that runs a body.
-/
namespace PV.GA.C18T

section
variable {R : Type} [Add R] [Mul R] [Neg R] [OfNat R 0] [OfNat R 1]

@[simp] theorem C18Res.ok_bind {α β : Type} (a : α) (f : α → C18Res β) :
    (C18Res.ok a >>= f) = f a := rfl
@[simp] theorem C18Res.raise_bind {α β : Type} (e : String) (f : α → C18Res β) :
    (C18Res.raise e >>= f) = .raise e := rfl
@[simp] theorem C18Res.stuck_bind {α β : Type} (e : String) (f : α → C18Res β) :
    (C18Res.stuck e >>= f) = .stuck e := rfl
@[simp] theorem C18Res.fuel_bind {α β : Type} (f : α → C18Res β) :
    (C18Res.fuel >>= f) = .fuel := rfl
@[simp] theorem C18Res.pure_eq {α : Type} (a : α) : (pure a : C18Res α) = .ok a := rfl
@[simp] theorem C18Res.ok_bind' {α β : Type} (a : α) (f : α → C18Res β) :
    (C18Res.ok a).bind f = f a := rfl
@[simp] theorem C18Res.raise_bind' {α β : Type} (e : String) (f : α → C18Res β) :
    (C18Res.raise e).bind f = .raise e := rfl
@[simp] theorem C18Res.stuck_bind' {α β : Type} (e : String) (f : α → C18Res β) :
    (C18Res.stuck e).bind f = .stuck e := rfl
@[simp] theorem C18Res.fuel_bind' {α β : Type} (f : α → C18Res β) :
    (C18Res.fuel : C18Res α).bind f = .fuel := rfl

@[simp] theorem C18Out.ofRes_ok {α : Type} (a : α) (f : α → C18Out R) :
    C18Out.ofRes (.ok a) f = f a := rfl
@[simp] theorem C18Out.ofRes_raise {α : Type} (e : String) (f : α → C18Out R) :
    C18Out.ofRes (.raise e) f = .raise e := rfl
@[simp] theorem C18Out.ofRes_stuck {α : Type} (e : String) (f : α → C18Out R) :
    C18Out.ofRes (.stuck e) f = .stuck e := rfl
@[simp] theorem C18Out.ofRes_fuel {α : Type} (f : α → C18Out R) :
    C18Out.ofRes (.fuel : C18Res α) f = .fuel := rfl

@[simp] theorem C18Out.andThen_normal (env : C18Env R) (k : C18Env R → C18Out R) :
    (C18Out.normal env).andThen k = k env := rfl
@[simp] theorem C18Out.andThen_ret (v : C18Val R) (k : C18Env R → C18Out R) :
    (C18Out.ret v).andThen k = .ret v := rfl
@[simp] theorem C18Out.andThen_raise (e : String) (k : C18Env R → C18Out R) :
    (C18Out.raise e : C18Out R).andThen k = .raise e := rfl
@[simp] theorem C18Out.andThen_stuck (e : String) (k : C18Env R → C18Out R) :
    (C18Out.stuck e : C18Out R).andThen k = .stuck e := rfl
@[simp] theorem C18Out.andThen_fuel (k : C18Env R → C18Out R) :
    (C18Out.fuel : C18Out R).andThen k = .fuel := rfl

@[simp] theorem c18Branch_true (env : C18Env R) (t e : C18Env R → C18Out R) :
    c18Branch (.ok (true, env)) t e = t env := rfl
@[simp] theorem c18Branch_false (env : C18Env R) (t e : C18Env R → C18Out R) :
    c18Branch (.ok (false, env)) t e = e env := rfl
@[simp] theorem c18Branch_raise (x : String) (t e : C18Env R → C18Out R) :
    c18Branch (.raise x) t e = .raise x := rfl
@[simp] theorem c18Branch_stuck (x : String) (t e : C18Env R → C18Out R) :
    c18Branch (.stuck x) t e = .stuck x := rfl

/-- a branch on a condition that is not known yet -/
theorem c18Branch_ok (b : Bool) (env : C18Env R) (t e : C18Env R → C18Out R) :
    c18Branch (.ok (b, env)) t e = if b = true then t env else e env := by
  cases b <;> rfl

/-! An outcome that hangs on a condition not decided yet: what follows runs on both sides.
(Not `simp` lemmas: given to `c18sym` where a body is to be run once for all outcomes of a test.) -/

theorem C18Res.ite_bind {α β : Type} (c : Prop) [Decidable c] (a b : C18Res α)
    (f : α → C18Res β) : ((if c then a else b) >>= f) = if c then a >>= f else b >>= f := by
  split <;> rfl
theorem C18Out.ofRes_ite {α : Type} (c : Prop) [Decidable c] (a b : C18Res α) (f : α → C18Out R) :
    C18Out.ofRes (if c then a else b) f = if c then C18Out.ofRes a f else C18Out.ofRes b f := by
  split <;> rfl
theorem C18Out.andThen_ite (c : Prop) [Decidable c] (a b : C18Out R) (k : C18Env R → C18Out R) :
    (if c then a else b).andThen k = if c then a.andThen k else b.andThen k := by
  split <;> rfl

theorem c18Branch_ite (c : Prop) [Decidable c] (a b : C18Res (Bool × C18Env R))
    (t e : C18Env R → C18Out R) :
    c18Branch (if c then a else b) t e = if c then c18Branch a t e else c18Branch b t e := by
  split <;> rfl

/-- one iteration of a `while` loop whose condition holds and whose body completes -/
theorem c18While_iter {cond : C18Env R → C18Res (Bool × C18Env R)} {body : C18Env R → C18Out R}
    {n : Nat} {env env1 env2 : C18Env R} (hc : cond env = .ok (true, env1))
    (hb : body env1 = .normal env2) :
    c18While cond body (n + 1) env = c18While cond body n env2 := by
  simp [c18While, hc, hb]

/-- a `while` loop whose condition fails -/
theorem c18While_exit {cond : C18Env R → C18Res (Bool × C18Env R)} {body : C18Env R → C18Out R}
    {n : Nat} {env env1 : C18Env R} (hc : cond env = .ok (false, env1)) :
    c18While cond body (n + 1) env = .normal env1 := by
  simp [c18While, hc]

/-- an iteration of a `while` loop that leaves it (return / exception) -/
theorem c18While_leave {cond : C18Env R → C18Res (Bool × C18Env R)} {body : C18Env R → C18Out R}
    {n : Nat} {env env1 : C18Env R} {o : C18Out R} (hc : cond env = .ok (true, env1))
    (hb : body env1 = o) (ho : ∀ e, o ≠ .normal e) :
    c18While cond body (n + 1) env = o := by
  simp only [c18While, hc, c18Branch_true, hb]
  cases o <;> simp_all [C18Out.andThen]

/-- one iteration of a `for` loop whose body completes -/
theorem c18For_iter {bind : C18Val R → C18Env R → C18Res (C18Env R)} {body : C18Env R → C18Out R}
    {x : C18Val R} {xs : List (C18Val R)} {env env1 env2 : C18Env R}
    (hbind : bind x env = .ok env1) (hb : body env1 = .normal env2) :
    c18For bind body (x :: xs) env = c18For bind body xs env2 := by
  simp [c18For, hbind, hb]

/-- **a `for` loop is a fold.**  If every iteration (binding + body) completes and carries the
invariant `P` from state `s` to `step s x`, the loop completes with the invariant at the fold. -/
theorem c18For_fold {α : Type} {bind : C18Val R → C18Env R → C18Res (C18Env R)}
    {body : C18Env R → C18Out R} (P : C18Env R → α → Prop) (step : α → C18Val R → α) :
    ∀ (xs : List (C18Val R)) (env : C18Env R) (s : α), P env s →
    (∀ env s x, x ∈ xs → P env s → ∃ env1 env2, bind x env = .ok env1 ∧
        body env1 = .normal env2 ∧ P env2 (step s x)) →
    ∃ env', c18For bind body xs env = .normal env' ∧ P env' (xs.foldl step s) := by
  intro xs
  induction xs with
  | nil => intro env s h _; exact ⟨env, rfl, h⟩
  | cons x xs ih =>
    intro env s h hstep
    obtain ⟨env1, env2, h1, h2, h3⟩ := hstep env s x (List.mem_cons_self) h
    rw [c18For_iter h1 h2]
    exact ih env2 (step s x) h3 fun env s y hy => hstep env s y (List.mem_cons_of_mem _ hy)

/-- `c18For_fold` for environments of one shape: `E s u` is the environment in state `s`, whatever
the other loop variables `u` hold -/
theorem c18For_env {α U : Type} (E : α → U → C18Env R)
    {bind : C18Val R → C18Env R → C18Res (C18Env R)} {body : C18Env R → C18Out R}
    (step : α → C18Val R → α) (xs : List (C18Val R))
    (hstep : ∀ s u x, x ∈ xs → ∃ u1 u2, bind x (E s u) = .ok (E s u1) ∧
      body (E s u1) = .normal (E (step s x) u2)) (s : α) (u : U) :
    ∃ u', c18For bind body xs (E s u) = .normal (E (xs.foldl step s) u') := by
  obtain ⟨_, hfor, u', rfl⟩ := c18For_fold (fun env s => ∃ u, env = E s u) step xs (E s u) s
    ⟨u, rfl⟩ (by
      rintro _ s x hx ⟨u, rfl⟩
      obtain ⟨u1, u2, h1, h2⟩ := hstep s u x hx
      exact ⟨_, _, h1, h2, u2, rfl⟩)
  exact ⟨u', hfor⟩

@[simp] theorem c18For_nil {bind : C18Val R → C18Env R → C18Res (C18Env R)}
    {body : C18Env R → C18Out R} (env : C18Env R) : c18For bind body [] env = .normal env := rfl

@[simp] theorem c18OfNat_zero : (c18OfNat 0 : R) = 0 := rfl
@[simp] theorem c18OfNat_one : (c18OfNat 1 : R) = 1 := rfl

@[simp] theorem C18Val.ofInt_natCast (n : Nat) : (C18Val.ofInt (n : Int) : C18Val R) = .nat n := rfl
@[simp] theorem C18Val.ofInt_negSucc (n : Nat) :
    (C18Val.ofInt (Int.negSucc n) : C18Val R) = .neg n := rfl
@[simp] theorem C18Val.ofInt_one : (C18Val.ofInt 1 : C18Val R) = .nat 1 := rfl
@[simp] theorem C18Val.ofInt_neg_one : (C18Val.ofInt (-1) : C18Val R) = .neg 0 := rfl
@[simp] theorem C18Val.ofInt_zero : (C18Val.ofInt 0 : C18Val R) = .nat 0 := rfl

@[simp] theorem c18NegOfNat_zero : (c18NegOfNat 0 : C18Val R) = .nat 0 := rfl
@[simp] theorem c18NegOfNat_succ (n : Nat) : (c18NegOfNat (n + 1) : C18Val R) = .neg n := rfl
@[simp] theorem c18NegOfNat_one : (c18NegOfNat 1 : C18Val R) = .neg 0 := rfl

/-! ### truth -/

variable (rt : C18Rt R)

@[simp] theorem c18Cond_nat (n : Nat) : c18Cond rt (.nat n) = .ok (n != 0) := by
  simp [c18Cond, c18UnOp, c18Truthy]
@[simp] theorem c18Cond_bool (b : Bool) : c18Cond rt (.bool b) = .ok b := by
  simp [c18Cond, c18UnOp, c18Truthy]
@[simp] theorem c18Cond_none : c18Cond rt .none = .ok false := by
  simp [c18Cond, c18UnOp, c18Truthy]
@[simp] theorem c18Cond_dict (d : MVOf R) : c18Cond rt (.dict d) = .ok (!d.isEmpty) := by
  simp [c18Cond, c18UnOp, c18Truthy]
@[simp] theorem c18Cond_tdict (d : List (List Nat × R)) :
    c18Cond rt (.tdict d) = .ok (!d.isEmpty) := by
  simp [c18Cond, c18UnOp, c18Truthy]
@[simp] theorem c18Cond_list (xs : List (C18Val R)) : c18Cond rt (.list xs) = .ok (!xs.isEmpty) := by
  simp [c18Cond, c18UnOp, c18Truthy]

@[simp] theorem c18UnOp_not_nat (n : Nat) : c18UnOp rt .not (.nat n) = .ok (.bool (!(n != 0))) := by
  simp [c18UnOp, c18Truthy]
@[simp] theorem c18UnOp_not_bool (b : Bool) : c18UnOp rt .not (.bool b) = .ok (.bool (!b)) := by
  simp [c18UnOp, c18Truthy]
@[simp] theorem c18UnOp_not_dict (d : MVOf R) :
    c18UnOp rt .not (.dict d) = .ok (.bool (!!d.isEmpty)) := by
  simp [c18UnOp, c18Truthy]
@[simp] theorem c18UnOp_neg_nat (n : Nat) :
    c18UnOp rt .neg (.nat n) = .ok (c18NegOfNat n) := rfl
@[simp] theorem c18UnOp_neg_neg (n : Nat) : c18UnOp rt .neg (.neg n) = .ok (.nat (n + 1)) := rfl
@[simp] theorem c18UnOp_neg_coef (c : R) : c18UnOp rt .neg (.coef c) = .ok (.coef (-c)) := rfl
@[simp] theorem c18UnOp_pos_nat (n : Nat) : c18UnOp rt .pos (.nat n) = .ok (.nat n) := rfl

/-! ### binary operators -/

@[simp] theorem c18BinOp_nat_nat (op : C18Bin) (a b : Nat) :
    c18BinOp rt op (.nat a) (.nat b) = c18BinVal rt.Γ op (.nat a) (.nat b) := rfl
@[simp] theorem c18BinOp_nat_neg (op : C18Bin) (a b : Nat) :
    c18BinOp rt op (.nat a) (.neg b) = c18BinVal rt.Γ op (.nat a) (.neg b) := rfl
@[simp] theorem c18BinOp_neg_nat (op : C18Bin) (a b : Nat) :
    c18BinOp rt op (.neg a) (.nat b) = c18BinVal rt.Γ op (.neg a) (.nat b) := rfl
@[simp] theorem c18BinOp_nat_coef (op : C18Bin) (a : Nat) (b : R) :
    c18BinOp rt op (.nat a) (.coef b) = c18BinVal rt.Γ op (.nat a) (.coef b) := rfl
@[simp] theorem c18BinOp_neg_coef (op : C18Bin) (a : Nat) (b : R) :
    c18BinOp rt op (.neg a) (.coef b) = c18BinVal rt.Γ op (.neg a) (.coef b) := rfl
@[simp] theorem c18BinOp_coef_nat (op : C18Bin) (a : R) (b : Nat) :
    c18BinOp rt op (.coef a) (.nat b) = c18BinVal rt.Γ op (.coef a) (.nat b) := rfl
@[simp] theorem c18BinOp_coef_neg (op : C18Bin) (a : R) (b : Nat) :
    c18BinOp rt op (.coef a) (.neg b) = c18BinVal rt.Γ op (.coef a) (.neg b) := rfl
@[simp] theorem c18BinOp_coef_coef (op : C18Bin) (a b : R) :
    c18BinOp rt op (.coef a) (.coef b) = c18BinVal rt.Γ op (.coef a) (.coef b) := rfl
@[simp] theorem c18BinOp_hash_hash (op : C18Bin) (a b : Nat) :
    c18BinOp rt op (.hash a) (.hash b) = c18BinVal rt.Γ op (.hash a) (.hash b) := rfl
@[simp] theorem c18BinOp_list_list (op : C18Bin) (a b : List (C18Val R)) :
    c18BinOp rt op (.list a) (.list b) = c18BinVal rt.Γ op (.list a) (.list b) := rfl

variable (Γ : C18Ctx R)

@[simp] theorem c18BinVal_add_nat (a b : Nat) :
    c18BinVal Γ .add (.nat a) (.nat b) = .ok (.nat (a + b)) := rfl
@[simp] theorem c18BinVal_sub_nat (a b : Nat) :
    c18BinVal Γ .sub (.nat a) (.nat b)
      = .ok (if b ≤ a then .nat (a - b) else .neg (b - a - 1)) := rfl
@[simp] theorem c18BinVal_mul_nat (a b : Nat) :
    c18BinVal Γ .mul (.nat a) (.nat b) = .ok (.nat (a * b)) := rfl
@[simp] theorem c18BinVal_floordiv_nat (a b : Nat) :
    c18BinVal Γ .floordiv (.nat a) (.nat b)
      = if b = 0 then .raise "ZeroDivisionError" else .ok (.nat (a / b)) := rfl
@[simp] theorem c18BinVal_mod_nat (a b : Nat) :
    c18BinVal Γ .mod (.nat a) (.nat b)
      = if b = 0 then .raise "ZeroDivisionError" else .ok (.nat (a % b)) := rfl
@[simp] theorem c18BinVal_pow_nat (a b : Nat) :
    c18BinVal Γ .pow (.nat a) (.nat b) = .ok (.nat (a ^ b)) := rfl
@[simp] theorem c18BinVal_band_nat (a b : Nat) :
    c18BinVal Γ .band (.nat a) (.nat b) = .ok (.nat (a &&& b)) := rfl
@[simp] theorem c18BinVal_bor_nat (a b : Nat) :
    c18BinVal Γ .bor (.nat a) (.nat b) = .ok (.nat (a ||| b)) := rfl
@[simp] theorem c18BinVal_bxor_nat (a b : Nat) :
    c18BinVal Γ .bxor (.nat a) (.nat b) = .ok (.nat (a ^^^ b)) := rfl
@[simp] theorem c18BinVal_shl_nat (a b : Nat) :
    c18BinVal Γ .shl (.nat a) (.nat b) = .ok (.nat (a <<< b)) := rfl
@[simp] theorem c18BinVal_shr_nat (a b : Nat) :
    c18BinVal Γ .shr (.nat a) (.nat b) = .ok (.nat (a >>> b)) := rfl
@[simp] theorem c18BinVal_mul_nat_neg (a b : Nat) :
    c18BinVal Γ .mul (.nat a) (.neg b) = .ok (c18NegOfNat (a * (b + 1))) := rfl
@[simp] theorem c18BinVal_mul_neg_nat (a b : Nat) :
    c18BinVal Γ .mul (.neg a) (.nat b) = .ok (c18NegOfNat ((a + 1) * b)) := rfl
@[simp] theorem c18BinVal_coef_coef (op : C18Bin) (a b : R) :
    c18BinVal Γ op (.coef a) (.coef b) = c18CoefOp Γ op a b := rfl
@[simp] theorem c18BinVal_nat_coef (op : C18Bin) (a : Nat) (b : R) :
    c18BinVal Γ op (.nat a) (.coef b) = c18CoefOp Γ op (c18OfNat a) b := rfl
@[simp] theorem c18BinVal_neg_coef (op : C18Bin) (a : Nat) (b : R) :
    c18BinVal Γ op (.neg a) (.coef b) = c18CoefOp Γ op (-(c18OfNat (a + 1))) b := rfl
@[simp] theorem c18BinVal_coef_nat (op : C18Bin) (a : R) (b : Nat) :
    c18BinVal Γ op (.coef a) (.nat b) = c18CoefOp Γ op a (c18OfNat b) := rfl
@[simp] theorem c18BinVal_coef_neg (op : C18Bin) (a : R) (b : Nat) :
    c18BinVal Γ op (.coef a) (.neg b) = c18CoefOp Γ op a (-(c18OfNat (b + 1))) := rfl
@[simp] theorem c18CoefOp_add (a b : R) : c18CoefOp Γ .add a b = .ok (.coef (a + b)) := rfl
@[simp] theorem c18CoefOp_mul (a b : R) : c18CoefOp Γ .mul a b = .ok (.coef (a * b)) := rfl
@[simp] theorem c18CoefOp_truediv (a b : R) :
    c18CoefOp Γ .truediv a b
      = if Γ.z b then .raise "ZeroDivisionError" else .ok (.coef (Γ.div a b)) := rfl
@[simp] theorem c18BinVal_bxor_hash (a b : Nat) :
    c18BinVal Γ .bxor (.hash a) (.hash b) = .ok (.hash (a ^^^ b)) := rfl

/-! ### iteration -/

@[simp] theorem c18Iter_list (xs : List (C18Val R)) : c18Iter (.list xs) = some xs := rfl
@[simp] theorem c18Iter_tuple (xs : List (C18Val R)) : c18Iter (.tuple xs) = some xs := rfl
@[simp] theorem c18Iter_dict (d : MVOf R) :
    c18Iter (.dict d) = some (d.map fun (k, _) => (.nat k : C18Val R)) := rfl

/-! ### builtins -/

@[simp] theorem c18Apply_fn (q : String) (args : List (C18Val R)) (kw : List (String × C18Val R)) :
    c18Apply rt (.fn q) args kw = rt.callee q args kw := rfl
@[simp] theorem c18Apply_prim (n : String) (args : List (C18Val R))
    (kw : List (String × C18Val R)) : c18Apply rt (.prim n) args kw = c18Prim rt n args kw := rfl
@[simp] theorem c18Prim_int_bool (b : Bool) :
    c18Prim rt "int" [.bool b] [] = .ok (.nat (if b then 1 else 0)) := rfl
@[simp] theorem c18Prim_int_nat (n : Nat) : c18Prim rt "int" [.nat n] [] = .ok (.nat n) := rfl
@[simp] theorem c18Prim_len_dict (d : MVOf R) :
    c18Prim rt "len" [.dict d] [] = .ok (.nat d.length) := rfl
@[simp] theorem c18Prim_is_zero_coef (c : R) :
    c18Prim rt "pymbolic.primitives.is_zero" [.coef c] [] = .ok (.bool (rt.Γ.z c)) := rfl
@[simp] theorem c18Prim_is_zero_nat (n : Nat) :
    c18Prim rt "pymbolic.primitives.is_zero" [.nat n] [] = .ok (.bool (rt.Γ.z (c18OfNat n))) := rfl
@[simp] theorem c18Prim_hash_space :
    c18Prim rt "hash" [(.space : C18Val R)] [] = .ok (.hash rt.Γ.hspace) := rfl
@[simp] theorem c18Prim_hash_nat (n : Nat) :
    c18Prim rt "hash" [.nat n] [] = .ok (.hash (rt.Γ.hb n)) := rfl
@[simp] theorem c18Prim_hash_coef (c : R) :
    c18Prim rt "hash" [.coef c] [] = .ok (.hash (rt.Γ.hc c)) := rfl

/-! ### attributes, indexing -/

@[simp] theorem c18GetAttr_space_metric :
    c18GetAttr rt (.space : C18Val R) "metric_matrix" = .ok .metric := rfl
@[simp] theorem c18GetAttr_space_dims :
    c18GetAttr rt (.space : C18Val R) "dimensions" = .ok (.nat rt.Γ.dims) := rfl
@[simp] theorem c18GetAttr_space_orth :
    c18GetAttr rt (.space : C18Val R) "is_orthogonal" = .ok (.bool rt.Γ.orth) := rfl
@[simp] theorem c18GetAttr_obj_data (sp : Bool) (d : MVOf R) :
    c18GetAttr rt (.obj sp (some d)) "data" = .ok (.dict d) := rfl
@[simp] theorem c18GetAttr_obj_space (d : Option (MVOf R)) :
    c18GetAttr rt (.obj true d) "space" = .ok .space := rfl
@[simp] theorem c18Index_metric_diag (i : Nat) :
    c18Index rt (.metric : C18Val R) [.nat i, .nat i] = .ok (.coef (rt.Γ.g i)) := by
  simp [c18Index]

/-! ### comparisons -/

@[simp] theorem c18CmpOp_eq_nat (a b : Nat) :
    c18CmpOp rt .eq (.nat a) (.nat b) = .ok (.bool (a == b)) := rfl
@[simp] theorem c18CmpOp_ne_nat (a b : Nat) :
    c18CmpOp rt .ne (.nat a) (.nat b) = .ok (.bool (!(a == b))) := rfl
@[simp] theorem c18CmpOp_gt_nat (a b : Nat) :
    c18CmpOp rt .gt (.nat a) (.nat b) = .ok (.bool (a > b)) := rfl
@[simp] theorem c18CmpOp_lt_nat (a b : Nat) :
    c18CmpOp rt .lt (.nat a) (.nat b) = .ok (.bool (a < b)) := rfl
@[simp] theorem c18CmpOp_is_none_none :
    c18CmpOp rt .is (.none : C18Val R) .none = .ok (.bool true) := rfl
@[simp] theorem c18CmpOp_is_nat_none (a : Nat) :
    c18CmpOp rt .is (.nat a) .none = .ok (.bool false) := rfl
@[simp] theorem c18CmpOp_is_obj_notimpl (s : Bool) (d : Option (MVOf R)) :
    c18CmpOp rt .is (.obj s d) .notImplemented = .ok (.bool false) := rfl
@[simp] theorem c18CmpOp_isNot_space :
    c18CmpOp rt .isNot (.space : C18Val R) .space = .ok (.bool false) := rfl
@[simp] theorem c18CmpOp_is_space_none :
    c18CmpOp rt .is (.space : C18Val R) .none = .ok (.bool false) := rfl
@[simp] theorem c18CmpOp_isNot_none_none :
    c18CmpOp rt .isNot (.none : C18Val R) .none = .ok (.bool false) := rfl

/-! ### what an expression or statement does once its parts are values

The interpreter decides these by a `match` with overlapping patterns on values that are bound
only later (`let (v, env) ← …`).  Under the binder `simp` cannot reduce such a `match` and would
try, and fail, to discharge the side conditions of its equations at every visit; so each is given
a name here, with rewrite rules for the shapes of operands that occur.  The named functions repeat
the `match` blocks of PV/Model/GATable.lean; the equations `c18Eval_callMethod`, `c18Store_index`,
`c18Store_attr`, `c18Exec_del` and `c18RunFn_of_body` tie them to the interpreter and stop checking
if the two drift apart. -/

/-- `recv.m(args)` for a receiver value `v`: `x.setdefault(k, dflt)` on a local dict `x` updates
it, every other call goes through `c18CallMethod` -/
def c18EvalMethod (rt : C18Rt R) (recv : C18Expr) (m : String) (kwNames : List String)
    (v : C18Val R) (as ks : List (C18Val R)) (env : C18Env R) : C18Res (C18Val R × C18Env R) :=
  match v, m, as, recv with
  | .dict d, "setdefault", [.nat k, dflt], .name x =>
    match dictGet d k with
    | some c => pure (.coef c, env)
    | Option.none =>
      match dflt with
      | .nat i => pure (.nat i, c18Set x (.dict (dictSet d k (c18OfNat i))) env)
      | .coef c => pure (.coef c, c18Set x (.dict (dictSet d k c)) env)
      | _ => .stuck "setdefault with this default"
  | _, _, _, _ => do
    let r ← c18CallMethod rt v m as (c18ZipKw kwNames ks)
    pure (r, env)

@[simp] theorem c18EvalMethod_obj (rt : C18Rt R) (recv : C18Expr) (m : String)
    (kwNames : List String) (s : Bool) (d : Option (MVOf R)) (as ks : List (C18Val R))
    (env : C18Env R) :
    c18EvalMethod rt recv m kwNames (.obj s d) as ks env = (do
      let r ← c18CallMethod rt (.obj s d) m as (c18ZipKw kwNames ks)
      pure (r, env)) := rfl

@[simp] theorem c18EvalMethod_dict (rt : C18Rt R) (recv : C18Expr) {m : String}
    (hm : m ≠ "setdefault") (kwNames : List String) (d : MVOf R) (as ks : List (C18Val R))
    (env : C18Env R) :
    c18EvalMethod rt recv m kwNames (.dict d) as ks env = (do
      let r ← c18CallMethod rt (.dict d) m as (c18ZipKw kwNames ks)
      pure (r, env)) := by
  unfold c18EvalMethod
  split
  · exact absurd rfl hm
  · rfl

@[simp] theorem c18EvalMethod_setdefault (rt : C18Rt R) (x : String) (kwNames : List String)
    (d : MVOf R) (k i : Nat) (ks : List (C18Val R)) (env : C18Env R) :
    c18EvalMethod rt (.name x) "setdefault" kwNames (.dict d) [.nat k, .nat i] ks env =
      match dictGet d k with
      | some c => .ok (.coef c, env)
      | Option.none => .ok (.nat i, c18Set x (.dict (dictSet d k (c18OfNat i))) env) := rfl

@[simp] theorem c18DictPut_coef (d : MVOf R) (k : Nat) (c : R) :
    c18DictPut (.nat k, .coef c) (.dict d) = .ok (.dict (dictSet d k c)) := rfl
@[simp] theorem c18DictPut_nat (d : MVOf R) (k c : Nat) :
    c18DictPut (.nat k, .nat c) (.dict d) = .ok (.dict (dictSet d k (c18OfNat c))) := rfl

/-- `obj[k] = v` for the value `tgt` of the local `obj` -/
def c18StoreAt (obj : String) (tgt : Option (C18Val R)) (k v : C18Val R) (env : C18Env R) :
    C18Res (C18Env R) :=
  match tgt, k with
  | some (.dict d), .nat k =>
    match v with
    | .coef c => .ok (c18Set obj (.dict (dictSet d k c)) env)
    | .nat c => .ok (c18Set obj (.dict (dictSet d k (c18OfNat c))) env)
    | _ => .stuck "dict value"
  | some (.list xs), .nat k =>
    if k < xs.length then .ok (c18Set obj (.list (xs.set k v)) env)
    else .raise "IndexError"
  | _, _ => .stuck "subscript store"

@[simp] theorem c18StoreAt_dict_coef (obj : String) (d : MVOf R) (k : Nat) (c : R)
    (env : C18Env R) :
    c18StoreAt obj (some (.dict d)) (.nat k) (.coef c) env
      = .ok (c18Set obj (.dict (dictSet d k c)) env) := rfl

/-- `obj.a = v` for the value `tgt` of the local `obj` -/
def c18StoreAttr (obj a : String) (tgt : Option (C18Val R)) (v : C18Val R) (env : C18Env R) :
    C18Res (C18Env R) :=
  match tgt, a, v with
  | some (.obj _ data), "space", .space => .ok (c18Set obj (.obj true data) env)
  | some (.obj sp _), "data", .dict d => .ok (c18Set obj (.obj sp (some d)) env)
  | _, _, _ => .stuck ("attribute store " ++ a)

@[simp] theorem c18StoreAttr_space (obj : String) (sp : Bool) (data : Option (MVOf R))
    (env : C18Env R) :
    c18StoreAttr obj "space" (some (.obj sp data)) .space env
      = .ok (c18Set obj (.obj true data) env) := rfl
@[simp] theorem c18StoreAttr_data (obj : String) (sp : Bool) (data : Option (MVOf R)) (d : MVOf R)
    (env : C18Env R) :
    c18StoreAttr obj "data" (some (.obj sp data)) (.dict d) env
      = .ok (c18Set obj (.obj sp (some d)) env) := rfl

/-- `del obj[k]` for the value `tgt` of the local `obj` -/
def c18DelAt (obj : String) (tgt : Option (C18Val R)) (k : C18Val R) (env : C18Env R) : C18Out R :=
  match tgt, k with
  | some (.dict d), .nat k =>
    if (dictGet d k).isSome then .normal (c18Set obj (.dict (dictDel d k)) env)
    else .raise "KeyError"
  | _, _ => .stuck "del on these operands"

@[simp] theorem c18DelAt_dict (obj : String) (d : MVOf R) (k : Nat) (env : C18Env R) :
    c18DelAt obj (some (.dict d)) (.nat k) env
      = if (dictGet d k).isSome then .normal (c18Set obj (.dict (dictDel d k)) env)
        else .raise "KeyError" := rfl

theorem c18StoreAll_nil (rt : C18Rt R) (env : C18Env R) : c18StoreAll rt [] [] env = .ok env := rfl
theorem c18StoreAll_cons (rt : C18Rt R) (t : C18Target) (ts : List C18Target) (v : C18Val R)
    (vs : List (C18Val R)) (env : C18Env R) :
    c18StoreAll rt (t :: ts) (v :: vs) env = (do
      let env ← c18Store rt t v env
      c18StoreAll rt ts vs env) := rfl
theorem c18Store_name (rt : C18Rt R) (n : String) (v : C18Val R) (env : C18Env R) :
    c18Store rt (.name n) v env = .ok (c18Set n v env) := rfl
theorem c18Store_index (rt : C18Rt R) (obj : String) (i : C18Expr) (v : C18Val R)
    (env : C18Env R) :
    c18Store rt (.index obj i) v env = (do
      let (k, env) ← c18Eval rt i env
      c18StoreAt obj (c18Get obj env) k v env) := rfl
theorem c18Store_attr (rt : C18Rt R) (obj a : String) (v : C18Val R) (env : C18Env R) :
    c18Store rt (.attr obj a) v env = c18StoreAttr obj a (c18Get obj env) v env := rfl
theorem c18Store_names (rt : C18Rt R) (ns : List String) (v : C18Val R) (env : C18Env R) :
    c18Store rt (.names ns) v env = c18BindNames ns v env := rfl

/-! ### the interpreter, one equation per constructor, for FULLY APPLIED calls only (a
continuation `c18ExecList rt rest` / `c18Eval rt k` that is not yet applied stays folded) -/

section Eqns
variable (rt : C18Rt R) (env : C18Env R)

theorem c18Eval_name (n : String) :
    c18Eval rt (.name n) env = (do let v ← c18Lookup rt n env; pure (v, env)) := rfl
theorem c18Eval_nat (n : Nat) : c18Eval rt (.nat n) env = .ok (.nat n, env) := rfl
theorem c18Eval_str (s : String) : c18Eval rt (.str s) env = .ok (.str s, env) := rfl
theorem c18Eval_none : c18Eval rt .none env = .ok (.none, env) := rfl
theorem c18Eval_bin (op : C18Bin) (a b : C18Expr) :
    c18Eval rt (.bin op a b) env = (do
      let (x, env) ← c18Eval rt a env
      let (y, env) ← c18Eval rt b env
      let r ← c18BinOp rt op x y
      pure (r, env)) := rfl
theorem c18Eval_un (op : C18Un) (a : C18Expr) :
    c18Eval rt (.un op a) env = (do
      let (x, env) ← c18Eval rt a env
      let r ← c18UnOp rt op x
      pure (r, env)) := rfl
theorem c18Eval_cmp (op : C18Cmp) (a b : C18Expr) :
    c18Eval rt (.cmp op a b) env = (do
      let (x, env) ← c18Eval rt a env
      let (y, env) ← c18Eval rt b env
      let r ← c18CmpOp rt op x y
      pure (r, env)) := rfl
theorem c18Eval_and (a b : C18Expr) :
    c18Eval rt (.and a b) env = (do
      let (x, env) ← c18Eval rt a env
      let t ← c18Cond rt x
      if t then c18Eval rt b env else pure (x, env)) := rfl
theorem c18Eval_or (a b : C18Expr) :
    c18Eval rt (.or a b) env = (do
      let (x, env) ← c18Eval rt a env
      let t ← c18Cond rt x
      if t then pure (x, env) else c18Eval rt b env) := rfl
theorem c18Eval_ifExp (c t e : C18Expr) :
    c18Eval rt (.ifExp c t e) env = (do
      let (x, env) ← c18Eval rt c env
      let b ← c18Cond rt x
      if b then c18Eval rt t env else c18Eval rt e env) := rfl
theorem c18Eval_attr (e : C18Expr) (a : String) :
    c18Eval rt (.attr e a) env = (do
      let (v, env) ← c18Eval rt e env
      let r ← c18GetAttr rt v a
      pure (r, env)) := rfl
theorem c18Eval_index (e : C18Expr) (idx : List C18Expr) :
    c18Eval rt (.index e idx) env = (do
      let (v, env) ← c18Eval rt e env
      let (is, env) ← c18EvalList rt idx env
      let r ← c18Index rt v is
      pure (r, env)) := rfl
theorem c18Eval_callMethod (recv : C18Expr) (m : String) (args : List C18Expr)
    (kwNames : List String) (kwVals : List C18Expr) :
    c18Eval rt (.callMethod recv m args kwNames kwVals) env = (do
      let (v, env) ← c18Eval rt recv env
      let (as, env) ← c18EvalList rt args env
      let (ks, env) ← c18EvalList rt kwVals env
      c18EvalMethod rt recv m kwNames v as ks env) := rfl
theorem c18Eval_call (f : C18Expr) (args : List C18Expr) (kwNames : List String)
    (kwVals : List C18Expr) :
    c18Eval rt (.call f args kwNames kwVals) env = (do
      let (fv, env) ← c18Eval rt f env
      let (as, env) ← c18EvalList rt args env
      let (ks, env) ← c18EvalList rt kwVals env
      let r ← c18Apply rt fv as (c18ZipKw kwNames ks)
      pure (r, env)) := rfl
theorem c18Eval_dict (keys vals : List C18Expr) :
    c18Eval rt (.dict keys vals) env = (do
      let (ks, env) ← c18EvalList rt keys env
      let (vs, env) ← c18EvalList rt vals env
      let d ← (ks.zip vs).foldl (fun acc kv => acc.bind (c18DictPut kv)) (.ok (.dict []))
      pure (d, env)) := rfl
theorem c18Eval_list (items : List C18Expr) :
    c18Eval rt (.list items) env = (do
      let (xs, env) ← c18EvalList rt items env
      pure (.list xs, env)) := rfl
theorem c18Eval_tuple (items : List C18Expr) :
    c18Eval rt (.tuple items) env = (do
      let (xs, env) ← c18EvalList rt items env
      pure (.tuple xs, env)) := rfl
theorem c18Eval_dictComp (k v : C18Expr) (targets : List String) (iter : C18Expr) :
    c18Eval rt (.dictComp k v targets iter) env = (do
      let (it, env) ← c18Eval rt iter env
      match c18Iter it with
      | Option.none => .stuck "iteration over this value"
      | some xs =>
        let d ← xs.foldl (c18DictCompStep (c18Eval rt k) (c18Eval rt v) targets env) (.ok (.dict []))
        pure (d, env)) := rfl
theorem c18Eval_gen (kind : String) (elt : C18Expr) (targets : List String) (iter : C18Expr)
    (conds : List C18Expr) :
    c18Eval rt (.gen kind elt targets iter conds) env = (do
      let (it, env) ← c18Eval rt iter env
      match c18Iter it with
      | Option.none => .stuck "iteration over this value"
      | some xs =>
        let out ← xs.foldl
          (c18GenStep (c18Cond rt) (c18EvalList rt conds) (c18Eval rt elt) targets env) (.ok [])
        pure (.list out, env)) := rfl

theorem c18EvalList_nil : c18EvalList rt [] env = .ok ([], env) := rfl
theorem c18EvalList_cons (e : C18Expr) (es : List C18Expr) :
    c18EvalList rt (e :: es) env = (do
      let (v, env) ← c18Eval rt e env
      let (vs, env) ← c18EvalList rt es env
      pure (v :: vs, env)) := rfl

theorem c18Exec_assign (targets : List C18Target) (unpack : Bool) (e : C18Expr) :
    c18Exec rt (.assign targets unpack e) env =
      C18Out.ofRes (c18Eval rt e env) fun (v, env) =>
        if unpack then
          match c18Iter v with
          | some xs => C18Out.ofRes (c18StoreAll rt targets xs env) .normal
          | Option.none => .stuck "unpacking a non-iterable"
        else C18Out.ofRes (c18StoreAll rt targets (targets.map fun _ => v) env) .normal := rfl
theorem c18Exec_aug (t : C18Target) (op : C18Bin) (e : C18Expr) :
    c18Exec rt (.aug t op e) env =
      C18Out.ofRes (c18Load rt t env) fun (x, env) =>
      C18Out.ofRes (c18Eval rt e env) fun (y, env) =>
      C18Out.ofRes (c18BinOp rt op x y) fun r =>
      C18Out.ofRes (c18Store rt t r env) .normal := rfl
theorem c18Exec_ifThen (c : C18Expr) (body orelse : List C18Stmt) :
    c18Exec rt (.ifThen c body orelse) env =
      c18Branch (c18CondOf rt c env) (c18ExecList rt body) (c18ExecList rt orelse) := rfl
theorem c18Exec_while (c : C18Expr) (body : List C18Stmt) :
    c18Exec rt (.while c body) env =
      c18While (c18CondOf rt c) (c18ExecList rt body) rt.fuel env := rfl
theorem c18Exec_forIn (targets : List String) (iter : C18Expr) (body : List C18Stmt) :
    c18Exec rt (.forIn targets iter body) env =
      C18Out.ofRes (c18Eval rt iter env) fun (it, env) =>
        match c18Iter it with
        | Option.none => .stuck "iteration over this value"
        | some xs => c18For (c18BindNames targets) (c18ExecList rt body) xs env := rfl
theorem c18Exec_ret (e : C18Expr) :
    c18Exec rt (.ret e) env = C18Out.ofRes (c18Eval rt e env) fun (v, _) => .ret v := rfl
theorem c18Exec_raise (exc : String) : c18Exec rt (.raise exc) env = .raise exc := rfl
theorem c18Exec_del (obj : String) (i : C18Expr) :
    c18Exec rt (.del obj i) env =
      C18Out.ofRes (c18Eval rt i env) fun (k, env) => c18DelAt obj (c18Get obj env) k env := rfl
theorem c18Exec_pass : c18Exec rt .pass env = .normal env := rfl
theorem c18Exec_assert (src : String) : c18Exec rt (.assert src) env = .normal env := rfl
theorem c18Exec_importFrom (module name asname : String) :
    c18Exec rt (.importFrom module name asname) env =
      .normal (c18Set asname (.prim (module ++ "." ++ name)) env) := rfl

theorem c18ExecList_nil : c18ExecList rt [] env = .normal env := rfl
theorem c18ExecList_cons (s : C18Stmt) (rest : List C18Stmt) :
    c18ExecList rt (s :: rest) env = (c18Exec rt s env).andThen (c18ExecList rt rest) := rfl

end Eqns

/-! ### a call -/

/-- what `c18RunFn` makes of the outcome of the body of the function named `name` -/
def c18Ret (name : String) : C18Out R → C18Res (C18Val R)
  | .normal env =>
    if name = "__init__" then
      match c18Get "self" env with
      | some (.obj true (some d)) => .ok (.obj true (some d))
      | _ => .stuck "__init__ left the object incomplete"
    else .ok .none
  | .ret v => .ok v
  | .raise e => .raise e
  | .stuck w => .stuck w
  | .fuel => .fuel

@[simp] theorem c18Ret_ret (name : String) (v : C18Val R) : c18Ret name (.ret v) = .ok v := rfl
@[simp] theorem c18Ret_raise (name e : String) : (c18Ret name (.raise e) : C18Res (C18Val R)) = .raise e :=
  rfl
@[simp] theorem c18Ret_init (env : C18Env R) (d : MVOf R)
    (h : c18Get "self" env = some (.obj true (some d))) :
    c18Ret "__init__" (.normal env) = .ok (.obj true (some d)) := by
  simp [c18Ret, h]

theorem c18Ret_ite (name : String) (c : Prop) [Decidable c] (a b : C18Out R) :
    c18Ret name (if c then a else b) = if c then c18Ret name a else c18Ret name b := by
  split <;> rfl

/-- A call whose arguments bind runs the body.  Stated with the outcome `r` as a variable, for
`apply`: unfolding `c18RunFn` on a concrete function and concrete arguments instead leaves a
`match` on a closed interpreter run, which `simp` would evaluate by `whnf`. -/
theorem c18RunFn_of_body {M : C18Module} {Γ : C18Ctx R} {fuel : Nat} {callee : C18Callee R}
    {f : C18Fn} {args : List (C18Val R)} {kw : List (String × C18Val R)} {env : C18Env R}
    {r : C18Res (C18Val R)}
    (hb : c18BindArgs ⟨M, Γ, fuel, callee⟩ f f.params args kw [] = .ok env)
    (hr : c18Ret f.name (c18ExecList ⟨M, Γ, fuel, callee⟩ f.body
      (env ++ f.locals.map fun n => (n, .unbound))) = r) :
    c18RunFn M Γ fuel callee f args kw = r := by
  subst hr
  simp only [c18RunFn, hb]
  cases c18ExecList ⟨M, Γ, fuel, callee⟩ f.body (env ++ f.locals.map fun n => (n, .unbound)) <;> rfl

end

/-- symbolic execution of the interpreter: the control structure is unfolded, primitives are
rewritten by the lemmas above.  Many of those hold by `rfl` through a dispatch on string literals
(`c18Prim`, `c18GetAttr`, `c18Global`, …); with `-implicitDefEqProofs` the proof cites them, so
that the kernel checks the dispatch where the lemma is stated and not at its uses.  The three monad
lemmas of the default set are left out: `C18Res` is no `LawfulMonad`.  Three forms: on the goal,
on the goal with further rules, and with further rules at a hypothesis (that one is plain `simp`
with the interpreter's own `c18Store` / `c18StoreAll` unfolded). -/
macro "c18sym" : tactic => `(tactic|
  simp -implicitDefEqProofs [c18CondOf, c18Eval_name, c18Eval_nat, c18Eval_str, c18Eval_none,
    c18Eval_bin, c18Eval_un, c18Eval_cmp, c18Eval_and, c18Eval_or, c18Eval_ifExp, c18Eval_attr,
    c18Eval_index, c18Eval_call, c18Eval_callMethod, c18Eval_dict, c18Eval_list, c18Eval_tuple,
    c18Eval_dictComp, c18Eval_gen, c18EvalList_nil, c18EvalList_cons, c18Exec_assign, c18Exec_aug,
    c18Exec_ifThen, c18Exec_while, c18Exec_forIn, c18Exec_ret, c18Exec_raise, c18Exec_del,
    c18Exec_pass, c18Exec_assert, c18Exec_importFrom, c18ExecList_nil, c18ExecList_cons,
    c18Lookup, c18Get, c18Set, c18Store_name, c18Store_index, c18Store_attr, c18Store_names,
    c18StoreAll_nil, c18StoreAll_cons, c18Load, c18ZipKw, -bind_pure_comp, -bind_assoc,
    -Option.bind_eq_bind])

macro "c18sym" "[" ts:Lean.Parser.Tactic.simpLemma,* "]" : tactic => `(tactic|
  simp -implicitDefEqProofs [c18CondOf, c18Eval_name, c18Eval_nat, c18Eval_str, c18Eval_none,
    c18Eval_bin, c18Eval_un, c18Eval_cmp, c18Eval_and, c18Eval_or, c18Eval_ifExp, c18Eval_attr,
    c18Eval_index, c18Eval_call, c18Eval_callMethod, c18Eval_dict, c18Eval_list, c18Eval_tuple,
    c18Eval_dictComp, c18Eval_gen, c18EvalList_nil, c18EvalList_cons, c18Exec_assign, c18Exec_aug,
    c18Exec_ifThen, c18Exec_while, c18Exec_forIn, c18Exec_ret, c18Exec_raise, c18Exec_del,
    c18Exec_pass, c18Exec_assert, c18Exec_importFrom, c18ExecList_nil, c18ExecList_cons,
    c18Lookup, c18Get, c18Set, c18Store_name, c18Store_index, c18Store_attr, c18Store_names,
    c18StoreAll_nil, c18StoreAll_cons, c18Load, c18ZipKw, -bind_pure_comp, -bind_assoc,
    -Option.bind_eq_bind, $ts,*])

macro "c18sym" "[" ts:Lean.Parser.Tactic.simpLemma,* "]" "at" h:ident : tactic => `(tactic|
  simp [c18CondOf, c18Eval_name, c18Eval_nat, c18Eval_str, c18Eval_none, c18Eval_bin, c18Eval_un,
    c18Eval_cmp, c18Eval_and, c18Eval_or, c18Eval_ifExp, c18Eval_attr, c18Eval_index, c18Eval_call,
    c18Eval_callMethod,
    c18Eval_dict, c18Eval_list, c18Eval_tuple, c18Eval_dictComp, c18Eval_gen, c18EvalList_nil,
    c18EvalList_cons, c18Exec_assign, c18Exec_aug, c18Exec_ifThen, c18Exec_while, c18Exec_forIn,
    c18Exec_ret, c18Exec_raise, c18Exec_del, c18Exec_pass, c18Exec_assert, c18Exec_importFrom,
    c18ExecList_nil, c18ExecList_cons, c18Lookup, c18Get, c18Set, c18Store, c18StoreAll, c18Load,
    c18ZipKw, $ts,*] at $h:ident)


end PV.GA.C18T
