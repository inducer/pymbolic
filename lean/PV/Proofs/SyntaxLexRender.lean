import PV.Proofs.SyntaxLexPieces
/-
  C06/C07.  The lexer on the rendered pieces of the printer: if every piece is lexed as itself in
  its context (`adjOk`, a decidable check on the piece list: shape of identifiers and float
  literals, and the character that follows each piece), then `lex (render ps) = .ok (toks ps)`.
-/
set_option linter.unusedSimpArgs false
namespace PV.Lexer
open PV

/-! ### pieces of the printer -/

def pieceChars : Piece → List Char
  | .tok t => t.text.toList
  | .sp => [' ']

theorem render_toList (ps : List Piece) : (render ps).toList = ps.flatMap pieceChars := by
  simp only [render, String.toList_join, List.flatMap_map]
  congr 1
  funext p
  cases p <;> rfl

def symEntry (s : List Char) : Option (List Char × String × (Char → Bool)) :=
  symTable.find? (fun e => e.1 == s)

/-- the float token that `floatTok` makes of the text `r` is `flt r n d` -/
def floatTokIs (r : String) (n : Int) (d : Nat) : Bool :=
  match floatTok r.toList with
  | .ok t => t == Tok.flt r n d
  | .error _ => false

/-- the piece, followed by `nx`, is lexed as itself (4300: the most digits `int(text)` accepts,
CPython's default `sys.int_info.default_max_str_digits`; see `natOk`) -/
def pieceOk : Piece → Option Char → Bool
  | .sp, nx => nextNot isSpace nx
  | .tok (.sym s), nx =>
    match symEntry s.toList with
    | some e => nextNot e.2.2 nx
    | none => false
  | .tok (.int n), nx => decide ((Nat.toDigits 10 n).length ≤ 4300) && nextNot intStop nx
  | .tok (.ident s), nx => identOk s.toList && nextNot isIdCont nx
  | .tok .tTrue, nx => nextNot isWord nx
  | .tok .tFalse, nx => nextNot isWord nx
  | .tok (.flt r n d), nx => floatShape r.toList && floatTokIs r n d && nextNot isWord nx
  | .tok (.imag _), _ => false

/-- the lexed item a piece stands for -/
def pieceTag : Piece → String
  | .sp => "whitespace"
  | .tok (.sym s) => match symEntry s.toList with
    | some e => e.2.1
    | none => ""
  | .tok (.int _) => "int"
  | .tok (.ident _) => "identifier"
  | .tok .tTrue => "True"
  | .tok .tFalse => "False"
  | .tok (.flt ..) => "float"
  | .tok (.imag _) => "imaginary"

def pieceTok : Piece → Option Tok
  | .sp => none
  | .tok t => some t

theorem charIsDigit {c : Char} (h : c.isDigit = true) : isDigit c = true := by
  simp only [Char.isDigit, Bool.and_eq_true, decide_eq_true_eq] at h
  simp only [isDigit, Bool.and_eq_true, decide_eq_true_eq]
  have h1 : '0'.val ≤ c.val := h.1
  have h2 := h.2
  rw [UInt32.le_iff_toNat_le] at h1 h2
  exact ⟨h1, h2⟩

theorem symTable_nonempty : ∀ e ∈ symTable, e.1 ≠ [] := by decide

theorem symTable_tags : ∀ e ∈ symTable, e.2.1 ≠ "whitespace" ∧ e.2.1 ≠ "int" ∧ e.2.1 ≠ "float" ∧
    e.2.1 ≠ "imaginary" ∧ e.2.1 ≠ "identifier" ∧ e.2.1 ≠ "True" ∧ e.2.1 ≠ "False" := by
  decide +kernel

theorem symEntry_some {s : List Char} {e : List Char × String × (Char → Bool)}
    (h : symEntry s = some e) : e ∈ symTable ∧ e.1 = s := by
  unfold symEntry at h
  refine ⟨List.mem_of_find?_eq_some h, ?_⟩
  have := List.find?_some h
  simpa using this

theorem tokOf_sym {tag : String} {s : List Char} (h : tag ≠ "whitespace" ∧ tag ≠ "int" ∧
    tag ≠ "float" ∧ tag ≠ "imaginary" ∧ tag ≠ "identifier" ∧ tag ≠ "True" ∧ tag ≠ "False") :
    tokOf (tag, s) = .ok (some (.sym (String.ofList s))) := by
  obtain ⟨h1, h2, h3, h4, h5, h6, h7⟩ := h
  simp [tokOf, h1, h2, h3, h4, h5, h6, h7, pure, Except.pure]

theorem piece_step {p : Piece} {rest : List Char} (h : pieceOk p rest.head? = true) :
    firstC rulesC (pieceChars p ++ rest) = some (pieceTag p, (pieceChars p).length) ∧
    pieceChars p ≠ [] ∧ tokOf (pieceTag p, pieceChars p) = .ok (pieceTok p) := by
  cases p with
  | sp =>
    simp only [pieceOk] at h
    exact ⟨sp_step rest h, by simp [pieceChars], rfl⟩
  | tok t =>
    cases t with
    | int n =>
      simp only [pieceOk, Bool.and_eq_true, decide_eq_true_eq] at h
      have hch : pieceChars (.tok (.int n)) = Nat.toDigits 10 n := by
        simp [pieceChars, Tok.text]
      rw [hch]
      have hdig : ∀ c ∈ Nat.toDigits 10 n, isDigit c = true := fun c hc =>
        charIsDigit (Nat.isDigit_of_mem_toDigits (by decide) (by decide) hc)
      cases hds : Nat.toDigits 10 n with
      | nil => exact absurd hds Nat.toDigits_ne_nil
      | cons d ds =>
        rw [hds] at hdig h
        refine ⟨?_, by simp, ?_⟩
        · exact int_step (hdig d (List.mem_cons_self ..))
            (fun c hc => hdig c (List.mem_cons_of_mem _ hc)) h.2
        · have hv : Nat.ofDigitChars 10 (d :: ds) 0 = n := by
            rw [← hds]; exact Nat.ofDigitChars_ten_toDigits
          have hl : ¬ (d :: ds).length > 4300 := by omega
          simp only [pieceTag, tokOf, hl, hv, pieceTok, pure, Except.pure]
          simp
    | flt r n d =>
      simp only [pieceOk, Bool.and_eq_true] at h
      obtain ⟨⟨hsh, htk⟩, hn⟩ := h
      have hch : pieceChars (.tok (.flt r n d)) = r.toList := rfl
      rw [hch]
      refine ⟨float_step hsh hn, ?_, ?_⟩
      · obtain ⟨_, _, h, _⟩ := floatShape_head hsh
        rw [h]; simp
      · unfold floatTokIs at htk
        cases hf : floatTok r.toList with
        | error e => rw [hf] at htk; cases htk
        | ok t =>
          rw [hf] at htk
          have : t = Tok.flt r n d := by simpa using htk
          subst this
          simp [pieceTag, tokOf, hf, pieceTok, bind, Except.bind, pure, Except.pure]
    | imag s => simp [pieceOk] at h
    | ident s =>
      simp only [pieceOk, Bool.and_eq_true] at h
      have hch : pieceChars (.tok (.ident s)) = s.toList := rfl
      rw [hch]
      cases hs : s.toList with
      | nil => rw [hs] at h; simp [identOk] at h
      | cons c r =>
        rw [hs] at h
        refine ⟨ident_step h.1 h.2, by simp, ?_⟩
        have : String.ofList (c :: r) = s := by rw [← hs, String.ofList_toList]
        simp [pieceTag, tokOf, pieceTok, this, pure, Except.pure]
    | tTrue => exact ⟨true_step rest h, by decide, rfl⟩
    | tFalse => exact ⟨false_step rest h, by decide, rfl⟩
    | sym s =>
      simp only [pieceOk] at h
      have hch : pieceChars (.tok (.sym s)) = s.toList := rfl
      rw [hch]
      cases he : symEntry s.toList with
      | none => rw [he] at h; cases h
      | some e =>
        rw [he] at h
        obtain ⟨hm, h1⟩ := symEntry_some he
        obtain ⟨txt, tag, bad⟩ := e
        simp only at h1 h
        subst h1
        refine ⟨?_, symTable_nonempty _ hm, ?_⟩
        · simpa [pieceTag, he] using sym_step hm rest h
        · have := tokOf_sym (s := s.toList) (symTable_tags _ hm)
          simp only at this
          simp [pieceTag, he, this, pieceTok, String.ofList_toList]

/-! ### the loop -/

/-- first character of what follows: of the next piece, or `nx` after the last piece -/
def nextCharN : List Piece → Option Char → Option Char
  | [], nx => nx
  | q :: _, _ => (pieceChars q).head?

/-- every piece of the list is lexed as itself in its context; `nx` follows the last piece -/
def adjOkN : List Piece → Option Char → Bool
  | [], _ => true
  | p :: ps, nx => pieceOk p (nextCharN ps nx) && adjOkN ps nx

/-- the decidable condition of `lex_render_of_adjOk`: the pieces of a printed form, as a whole string -/
def adjOk (ps : List Piece) : Bool := adjOkN ps none

theorem pieceOk_nonempty {p : Piece} {nx : Option Char} (h : pieceOk p nx = true) :
    pieceChars p ≠ [] := by
  have : nx = (match nx with | some c => [c] | none => ([] : List Char)).head? := by
    cases nx <;> rfl
  rw [this] at h
  exact (piece_step h).2.1

theorem head_flatMap : ∀ {ps : List Piece} {nx : Option Char}, adjOkN ps nx = true →
    ∀ rest : List Char, rest.head? = nx → (ps.flatMap pieceChars ++ rest).head? = nextCharN ps nx
  | [], _, _, rest, hr => by simpa [nextCharN] using hr
  | p :: ps, nx, h, rest, _ => by
    simp only [adjOkN, Bool.and_eq_true] at h
    have := pieceOk_nonempty h.1
    cases hp : pieceChars p with
    | nil => exact absurd hp this
    | cons c r => simp [nextCharN, hp]

theorem lexLoop_step {tbl : LexTable} {fuel i : Nat} {cs : List Char} {tag : String} {n : Nat}
    (hne : cs ≠ []) (hf : firstMatch tbl tbl cs = some (tag, n)) :
    lexLoop tbl (fuel + 1) i cs =
      (lexLoop tbl fuel (i + n) (cs.drop n)).map (fun r => (tag, cs.take n) :: r) := by
  cases cs with
  | nil => exact absurd rfl hne
  | cons c cs =>
    simp only [lexLoop, hf]
    cases lexLoop tbl fuel (i + n) (List.drop n (c :: cs)) <;> rfl

theorem lex_pieces : ∀ (ps : List Piece) (fuel i : Nat), adjOkN ps none = true →
    (ps.flatMap pieceChars).length ≤ fuel →
    ∃ raws, lexLoop table fuel i (ps.flatMap pieceChars) = .ok raws ∧ toksOf raws = .ok (toks ps)
  | [], fuel, i, _, _ => ⟨[], by cases fuel <;> simp [lexLoop, pure, Except.pure], rfl⟩
  | p :: ps, fuel, i, h, hfuel => by
    simp only [adjOkN, Bool.and_eq_true] at h
    obtain ⟨hp, hps⟩ := h
    have hhead := head_flatMap hps [] rfl
    simp only [List.append_nil] at hhead
    rw [← hhead] at hp
    obtain ⟨hstep, hne, htok⟩ := piece_step hp
    simp only [List.flatMap_cons] at hfuel ⊢
    have hpos : 0 < (pieceChars p).length := List.length_pos_iff.mpr hne
    cases fuel with
    | zero => simp only [List.length_append] at hfuel; omega
    | succ fuel =>
      have hf : firstMatch table table (pieceChars p ++ ps.flatMap pieceChars)
          = some (pieceTag p, (pieceChars p).length) := by rw [firstMatch_table]; exact hstep
      rw [lexLoop_step (by simp [hne]) hf]
      obtain ⟨raws, hl, ht⟩ := lex_pieces ps fuel (i + (pieceChars p).length) hps (by
        simp only [List.length_append] at hfuel; omega)
      refine ⟨(pieceTag p, pieceChars p) :: raws, ?_, ?_⟩
      · simp [hl, Except.map]
      · simp only [toksOf, htok, ht, bind, Except.bind, pure, Except.pure]
        cases p <;> simp [pieceTok, toks]

theorem lexWith_ok {tbl : LexTable} {s : String} {raws : List Lexed} {ts : List Tok}
    (hok : tableOk tbl = true) (hl : lexLoop tbl s.toList.length 0 s.toList = .ok raws)
    (ht : toksOf raws = .ok ts) : lexWith tbl s = .ok ts := by
  simp only [lexWith, lexRawWith, hok, if_true, hl, bind, Except.bind, ht]

/-- **the lexer reads a rendered piece list back as its tokens** -/
theorem lex_render_of_adjOk {ps : List Piece} (h : adjOk ps = true) :
    lex (render ps) = .ok (toks ps) := by
  obtain ⟨raws, hl, ht⟩ := lex_pieces ps (ps.flatMap pieceChars).length 0 h (Nat.le_refl _)
  rw [← render_toList] at hl
  exact lexWith_ok tableOk_table hl ht

end PV.Lexer
