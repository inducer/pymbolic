import PV.Proofs.GAExt
import PV.Proofs.AlgoArith
import Mathlib.Algebra.Field.Basic
import Mathlib.Data.List.Nodup
import Mathlib.Data.List.Perm.Basic
/-
  C18 — proofs about the model `PV/Model/GA.lean`, part 5: the multivectors of the model modulo
  "denote the same formal sum" form a monoid under the geometric product as coded; `__pow__`
  (`integer_power`) is the `n`-fold product; `__hash__` respects `==`; the divided inverse over a
  field; `as_vector`; `permutation_sign`/`bits_and_sign`.
-/
namespace PV.GA

section Ring
variable {R : Type} [CommRing R]

/-! ## the Clifford monoid of the model -/

/-- two dicts denote the same formal sum `Σ v·e_k` (duplicate keys add up) -/
def linSetoid (R : Type) [CommRing R] : Setoid (MVOf R) where
  r a b := ∀ F, evalLin F a = evalLin F b
  iseqv := ⟨fun _ _ => rfl, fun h F => (h F).symm, fun h1 h2 F => (h1 F).trans (h2 F)⟩

theorem evalLin_genericProductZ_left {z : R → Bool} (hz : ZSound z) (w : Nat → Nat → R)
    (a b : MVOf R) (F : Nat → R) :
    evalLin F (genericProductZ z w a b)
      = evalLin (fun m => lsum (fun o : Nat × R =>
          F (m ^^^ o.1) * (w m o.1 * reorderSignR m o.1 * o.2)) b) a := by
  rw [evalLin_genericProductZ hz, evalLin_eq_lsum]
  apply lsum_congr; intro s _
  rw [← lsum_mul_right]
  apply lsum_congr; intro o _
  unfold termCoeff; ring

theorem evalLin_genericProductZ_right {z : R → Bool} (hz : ZSound z) (w : Nat → Nat → R)
    (a b : MVOf R) (F : Nat → R) :
    evalLin F (genericProductZ z w a b)
      = lsum (fun s : Nat × R => evalLin (fun m =>
          F (s.1 ^^^ m) * (w s.1 m * reorderSignR s.1 m * s.2)) b) a := by
  rw [evalLin_genericProductZ hz]
  apply lsum_congr; intro s _
  rw [evalLin_eq_lsum]
  apply lsum_congr; intro o _
  unfold termCoeff; ring

/-- the product respects "same formal sum" in both operands — no hypothesis on the dicts -/
theorem evalLin_genericProductZ_congr {z : R → Bool} (hz : ZSound z) (w : Nat → Nat → R)
    {a a' b b' : MVOf R} (ha : ∀ F, evalLin F a = evalLin F a')
    (hb : ∀ F, evalLin F b = evalLin F b') (F : Nat → R) :
    evalLin F (genericProductZ z w a b) = evalLin F (genericProductZ z w a' b') := by
  rw [evalLin_genericProductZ_left hz, ha, ← evalLin_genericProductZ_left hz,
    evalLin_genericProductZ_right hz, evalLin_genericProductZ_right hz]
  apply lsum_congr; intro s _
  exact hb _

/-- associativity through every linear functional -/
theorem evalLin_genericProductZ_assoc {z : R → Bool} (hz : ZSound z) {w : Nat → Nat → R}
    (hw : Cocycle w) (a b c : MVOf R) (F : Nat → R) :
    evalLin F (genericProductZ z w (genericProductZ z w a b) c)
      = evalLin F (genericProductZ z w a (genericProductZ z w b c)) := by
  rw [evalLin_genericProductZ_left hz, evalLin_genericProductZ hz,
    evalLin_genericProductZ_right hz]
  apply lsum_congr; intro s _
  rw [evalLin_genericProductZ hz]
  apply lsum_congr; intro o _
  rw [← lsum_mul_right]
  apply lsum_congr; intro t _
  unfold termCoeff
  rw [Nat.xor_assoc]
  have := hw s.1 o.1 t.1
  linear_combination (F (s.1 ^^^ (o.1 ^^^ t.1)) * s.2 * o.2 * t.2) * this

theorem wGeometric_zero_left (g : Nat → R) (a : Nat) : wGeometric g 0 a = 1 := by
  rw [wGeometric_eq_prodBits, Nat.zero_and, prodBits_zero]

theorem wGeometric_zero_right (g : Nat → R) (a : Nat) : wGeometric g a 0 = 1 := by
  rw [wGeometric_eq_prodBits, Nat.and_zero, prodBits_zero]

theorem evalLin_one_mul {z : R → Bool} (hz : ZSound z) (g : Nat → R) (a : MVOf R) (F : Nat → R) :
    evalLin F (genericProductZ z (wGeometric g) mvOne a) = evalLin F a := by
  rw [evalLin_genericProductZ hz, evalLin_eq_lsum]
  simp only [mvOne, lsum, add_zero]
  apply lsum_congr; intro o _
  unfold termCoeff
  simp only [wGeometric_zero_left, reorderSignR_zero_left, Nat.zero_xor]; ring

theorem evalLin_mul_one {z : R → Bool} (hz : ZSound z) (g : Nat → R) (a : MVOf R) (F : Nat → R) :
    evalLin F (genericProductZ z (wGeometric g) a mvOne) = evalLin F a := by
  rw [evalLin_genericProductZ hz, evalLin_eq_lsum]
  apply lsum_congr; intro s _
  simp only [mvOne, lsum, add_zero]
  unfold termCoeff
  simp only [wGeometric_zero_right, reorderSignR_zero_right, Nat.xor_zero]; ring

variable [DecidableEq R]

/-- the multivectors of the model modulo "same formal sum" (for well-formed dicts: same
    coefficient function), for the metric `g` (the type does not depend on `g`; the argument is
    what lets instance search find the `Monoid` structure of that metric) -/
def CliffQ (_g : Nat → R) : Type := Quotient (linSetoid R)

def CliffQ.mk (g : Nat → R) (a : MVOf R) : CliffQ g := Quotient.mk (linSetoid R) a

/-- the classes of `CliffQ g` form a monoid under `MultiVector.__mul__` as coded, with unit
    `MultiVector({0: 1})` -/
instance (g : Nat → R) : Monoid (CliffQ g) where
  mul := Quotient.map₂ (mvMul g) (fun _ _ ha _ _ hb =>
    evalLin_genericProductZ_congr isZeroD_sound (wGeometric g) ha hb)
  one := CliffQ.mk g mvOne
  mul_assoc := by
    rintro ⟨a⟩ ⟨b⟩ ⟨c⟩
    exact Quotient.sound (evalLin_genericProductZ_assoc isZeroD_sound (cocycle_wGeometric g) a b c)
  one_mul := by
    rintro ⟨a⟩
    exact Quotient.sound (evalLin_one_mul isZeroD_sound g a)
  mul_one := by
    rintro ⟨a⟩
    exact Quotient.sound (evalLin_mul_one isZeroD_sound g a)

theorem CliffQ.mk_mul (g : Nat → R) (a b : MVOf R) :
    CliffQ.mk g (mvMul g a b) = CliffQ.mk g a * CliffQ.mk g b := rfl

theorem CliffQ.mk_one (g : Nat → R) : CliffQ.mk g (mvOne : MVOf R) = 1 := rfl

theorem CliffQ.mk_npow (g : Nat → R) (a : MVOf R) (n : Nat) :
    CliffQ.mk g (mvNPow g a n) = CliffQ.mk g a ^ n := by
  induction n with
  | zero => rw [pow_zero]; rfl
  | succ n ih =>
    rw [pow_succ, ← ih]; rfl

omit [DecidableEq R] in
/-- equal classes of well-formed dicts: equal coefficient functions -/
theorem CliffQ.coeff_eq (g : Nat → R) {a b : MVOf R} (ha : NodupKeys a) (hb : NodupKeys b)
    (h : CliffQ.mk g a = CliffQ.mk g b) (k : Nat) : coeff a k = coeff b k := by
  have := Quotient.exact h
  rw [coeff_eq_evalLin ha, coeff_eq_evalLin hb]
  exact this _

/-! ## `__pow__` -/

omit [CommRing R] [DecidableEq R] in
/-- after at least one iteration the result of `integer_power` is a product -/
theorem integerPowerLoop_pred {α : Type} (P : α → Prop) (mul : α → α → α)
    (hmul : ∀ a b, P (mul a b)) : ∀ (n : Nat) (aux x : α), (n = 0 → P aux) →
    P (PV.Algo.integerPowerLoop mul aux x n) := by
  intro n
  induction n using Nat.strongRecOn with
  | _ n ih =>
    intro aux x h0
    rw [PV.Algo.integerPowerLoop]
    split
    · split
      · split
        · exact hmul _ _
        · exact ih (n / 2) (by omega) _ _ (fun _ => hmul _ _)
      · exact ih (n / 2) (by omega) _ _ (fun e => by omega)
    · exact h0 (by omega)

/-- `A ** n` (the `integer_power` square-and-multiply loop run on `MultiVector.__mul__`) denotes
    the `n`-fold product `((1 * A) * A) * … * A` -/
theorem coeff_mvPow (g : Nat → R) (a : MVOf R) (n : Nat) (k : Nat) :
    coeff (PV.Algo.integerPower (mvMul g) mvOne a n) k = coeff (mvNPow g a n) k := by
  have hq : CliffQ.mk g (PV.Algo.integerPower (mvMul g) mvOne a n) = CliffQ.mk g (mvNPow g a n) := by
    rw [CliffQ.mk_npow]
    exact PV.Algo.integerPower_hom (CliffQ.mk g) (mvMul g) mvOne (CliffQ.mk_mul g) (CliffQ.mk_one g)
      a n
  have hone : NodupKeys (mvOne : MVOf R) := by simp [NodupKeys, mvOne]
  refine CliffQ.coeff_eq g ?_ ?_ hq k
  · exact integerPowerLoop_pred NodupKeys (mvMul g) (fun a b => genericProductZ_nodup _ _ a b)
      n _ _ (fun _ => hone)
  · cases n with
    | zero => exact hone
    | succ n => exact genericProductZ_nodup _ _ _ _

theorem dictEq_refl_one : mvEq (mvOne : MVOf R) mvOne = true := by
  simp [mvEq, dictEq, mvOne, dictGet]

/-- the power computed by `integer_power` compares equal to the monoid power with Python's `==` -/
theorem mvPow_eq_npow (g : Nat → R) (a : MVOf R) (n : Nat) :
    mvEq (PV.Algo.integerPower (mvMul g) mvOne a n) (mvNPow g a n) = true := by
  cases n with
  | zero =>
    have : PV.Algo.integerPower (mvMul g) mvOne a 0 = mvOne := by
      unfold PV.Algo.integerPower; rw [PV.Algo.integerPowerLoop]; simp
    rw [this]; exact dictEq_refl_one
  | succ n =>
    rw [mvEq_iff_coeffwise]
    · exact coeff_mvPow g a (n + 1)
    · exact integerPowerLoop_pred Pruned (mvMul g) (fun a b => genericProduct_pruned _ a b)
        (n + 1) _ _ (fun e => by omega)
    · exact genericProduct_pruned _ _ _

/-! ## `__hash__` respects `==` -/

omit [CommRing R] in
theorem perm_of_mvEq {a b : MVOf R} (ha : NodupKeys a) (h : mvEq a b = true) : a.Perm b := by
  unfold mvEq dictEq at h
  simp only [Bool.and_eq_true, beq_iff_eq, List.all_eq_true] at h
  have hnd : a.Nodup := List.Nodup.of_map _ ha
  have hsub : a ⊆ b := by
    rintro ⟨k, v⟩ hp
    exact dictGet_mem (h.2 (k, v) hp)
  exact (List.subperm_of_subset hnd hsub).perm_of_length_le (by rw [h.1])

omit [CommRing R] in
/-- equal multivectors (Python `==` of the dicts) have equal hashes, whatever the hash functions
    of bitmaps and coefficients are and whatever the insertion orders -/
theorem mvHash_eq_of_mvEq (hspace : Nat) (hb : Nat → Nat) (hc : R → Nat) {a b : MVOf R}
    (ha : NodupKeys a) (h : mvEq a b = true) :
    mvHash hspace hb hc a = mvHash hspace hb hc b := by
  unfold mvHash
  apply List.Perm.foldl_eq' (perm_of_mvEq ha h)
  rintro ⟨xb, xc⟩ _ ⟨yb, yc⟩ _ r
  show (r ^^^ (hb xb ^^^ hc xc)) ^^^ (hb yb ^^^ hc yc) = (r ^^^ (hb yb ^^^ hc yc)) ^^^ (hb xb ^^^ hc xc)
  generalize hb xb ^^^ hc xc = X
  generalize hb yb ^^^ hc yc = Y
  rw [Nat.xor_assoc, Nat.xor_assoc, Nat.xor_comm X Y]

end Ring

/-! ## the divided inverse over a field -/

section Field
variable {R : Type} [Field R] [DecidableEq R]

omit [DecidableEq R] in
theorem coeff_map_div (numer : MVOf R) (d : R) (k : Nat) :
    coeff (numer.map fun p => (p.1, p.2 / d)) k = coeff numer k / d := by
  induction numer with
  | nil => simp
  | cons p l ih =>
    obtain ⟨k0, v0⟩ := p
    rw [List.map_cons, coeff_cons, coeff_cons, ih]
    split <;> rfl

omit [DecidableEq R] in
theorem keys_map_div (numer : MVOf R) (d : R) :
    keys (numer.map fun p => (p.1, p.2 / d)) = keys numer := by
  unfold keys; simp [Function.comp_def]

/-- over a field the unit `{0: 1}` stores no zero -/
theorem pruned_mvOne : Pruned (mvOne : MVOf R) := by
  refine ⟨by simp [NodupKeys, mvOne], ?_⟩
  intro p hp; simp [mvOne] at hp; subst hp; simp

/-- `A.inv() * A == 1 == A * A.inv()` whenever `inv` returns, on every well-formed multivector
    with coefficients in a field (Python `Fraction`s: `coeff / nsqr` is exact) -/
theorem mvInvDiv_mul_self (g : Nat → R) (dims : Nat) {a ai : MVOf R}
    (ha : NodupKeys a) (hr : ∀ k ∈ keys a, k < 2 ^ dims)
    (h : mvInvDiv g dims a = .ok ai) :
    mvEq (mvMul g ai a) mvOne = true ∧ mvEq (mvMul g a ai) mvOne = true := by
  unfold mvInvDiv at h
  cases hi : inv g dims a with
  | ok numer denom =>
    rw [hi] at h
    simp only at h
    injection h with h
    obtain ⟨hne, _, hnum, h1, h2⟩ := inv_mul_self g dims numer denom ha hr hi
    have hai : NodupKeys ai := by
      rw [← h]; unfold NodupKeys; rw [keys_map_div]; exact hnum
    have hlin : ∀ k, coeff ai k = (1 / denom) * coeff numer k + 0 * coeff numer k := by
      intro k; rw [← h, coeff_map_div]; ring
    have hone : Pruned (mvOne : MVOf R) := pruned_mvOne
    constructor
    · rw [mvEq_iff_coeffwise (genericProduct_pruned _ _ _) hone]
      intro k
      rw [coeff_genericProductZ_lin_left isZeroD_sound _ (1 / denom) 0 a hai hnum hnum hlin, h1 k,
        mvOne, coeff_scalar_blade]
      split <;> simp [hne]
    · rw [mvEq_iff_coeffwise (genericProduct_pruned _ _ _) hone]
      intro k
      rw [coeff_genericProductZ_lin_right isZeroD_sound _ a (1 / denom) 0 hai hnum hnum hlin, h2 k,
        mvOne, coeff_scalar_blade]
      split <;> simp [hne]
  | zeroDivision => rw [hi] at h; cases h
  | notImplemented => rw [hi] at h; cases h
  | valueError => rw [hi] at h; cases h

/-- `(A / B) * B == A`: `__truediv__` (`self * other.inv()`) undoes the multiplication whenever
    `B.inv()` returns -/
theorem mvTrueDiv_mul_cancel (g : Nat → R) (dims : Nat) {a b q : MVOf R}
    (ha : NodupKeys a) (hb : NodupKeys b) (hr : ∀ k ∈ keys b, k < 2 ^ dims)
    (h : mvTrueDiv g dims a b = .ok q) (k : Nat) :
    coeff (mvMul g q b) k = coeff a k := by
  unfold mvTrueDiv at h
  cases hi : mvInvDiv g dims b with
  | error e => rw [hi] at h; cases h
  | ok bi =>
    rw [hi] at h
    simp only at h
    injection h with h
    subst h
    have hinv := (mvInvDiv_mul_self g dims hb hr hi).1
    have hone : Pruned (mvOne : MVOf R) := pruned_mvOne
    rw [mvEq_iff_coeffwise (genericProduct_pruned _ _ _) hone] at hinv
    have h1 := coeff_genericProductZ_assoc isZeroD_sound (cocycle_wGeometric g) a bi b k
    have h2 := coeff_genericProductZ_congr isZeroD_sound (wGeometric g) ha ha
      (genericProductZ_nodup isZeroD (wGeometric g) bi b) hone.1 (fun _ => rfl) hinv k
    have h3 : coeff (genericProductZ isZeroD (wGeometric g) a mvOne) k = coeff a k := by
      rw [coeff_eq_evalLin (genericProductZ_nodup _ _ _ _), coeff_eq_evalLin ha]
      exact evalLin_mul_one isZeroD_sound g a _
    exact h1.trans (h2.trans h3)


end Field

/-! ## the zero multivector and scalars: how `==`, `bool` and stored zeros interact -/

section Ring
variable {R : Type} [CommRing R]

/-- a pruned dict denoting the zero function is the empty dict -/
theorem pruned_eq_nil {d : MVOf R} (hd : Pruned d) (h : ∀ k, coeff d k = 0) : d = [] := by
  cases d with
  | nil => rfl
  | cons p d =>
    exfalso
    have : p.1 ∈ keys (p :: d) := by simp
    exact (mem_keys_iff_coeff_ne_zero hd p.1).1 this (h p.1)

/-- `bool(x)` on a pruned dict is the documented "has a non-zero coefficient" -/
theorem mvBool_iff_of_pruned {a : MVOf R} (ha : Pruned a) :
    mvBool a = true ↔ ∃ k, coeff a k ≠ 0 := by
  cases a with
  | nil => simp [mvBool]
  | cons p d =>
    simp only [mvBool, List.isEmpty_cons, Bool.not_false, true_iff]
    exact ⟨p.1, (mem_keys_iff_coeff_ne_zero ha p.1).1 (by simp)⟩

variable [DecidableEq R]

/-- `MultiVector(0)` is the empty dict, so products with it are empty -/
theorem genericProduct_ofScalar_zero (w : Nat → Nat → R) (a : MVOf R) :
    genericProduct w (ofScalar 0) a = [] ∧ genericProduct w a (ofScalar 0) = [] := by
  have h0 : (ofScalar (0 : R)) = [] := by simp [ofScalar, ofScalarZ, isZeroD]
  rw [h0]
  constructor
  · rfl
  · apply pruned_eq_nil (genericProduct_pruned _ _ _)
    intro k
    rw [coeff_genericProduct]
    simp [lsum, lsum_zero]

/-- every scalar constructor result is pruned -/
theorem ofScalar_pruned (x : R) : Pruned (ofScalar x) := by
  unfold ofScalar ofScalarZ
  split
  · exact pruned_nil
  · rename_i hx
    refine ⟨by simp [NodupKeys, keys], ?_⟩
    intro p hp
    simp at hp
    subst hp
    intro e
    apply hx
    exact isZeroD_complete x e

theorem coeff_ofScalar (x : R) (k : Nat) : coeff (ofScalar x) k = if k = 0 then x else 0 := by
  unfold ofScalar ofScalarZ
  split
  · next h =>
    have : x = 0 := isZeroD_sound x h
    subst this; simp
  · exact coeff_scalar_blade x k

/-- on a pruned dict — in particular on every result of `+`, `-`, and of the six products —
    `x == 0` is exactly "every coefficient is zero" -/
theorem mvEqScalar_zero_iff_of_pruned {a : MVOf R} (ha : Pruned a) :
    mvEqScalar a 0 = true ↔ ∀ k, coeff a k = 0 := by
  unfold mvEqScalar
  rw [mvEq_iff_coeffwise ha (ofScalar_pruned 0)]
  simp [coeff_ofScalar]

end Ring

/-! ## `as_vector`, `xproject` -/

theorem logTable_two_pow : ∀ (dims i : Nat), i < dims → logTable dims (2 ^ i) = some i := by
  intro dims
  induction dims with
  | zero => intro i h; omega
  | succ n ih =>
    intro i h
    unfold logTable at *
    rw [List.range_succ, List.find?_append]
    by_cases hi : i < n
    · rw [ih i hi]; rfl
    · have hin : i = n := by omega
      subst hin
      have hnone : (List.range i).find? (fun j => decide (2 ^ j = 2 ^ i)) = none := by
        rw [List.find?_eq_none]
        intro j hj
        have : j < i := List.mem_range.1 hj
        simp only [decide_eq_true_eq]
        intro e
        have := Nat.pow_right_injective (le_refl 2) e
        omega
      rw [hnone]; simp

section Ring
variable {R : Type} [CommRing R]

/-- the loop of `as_vector` started from the list `v0` -/
theorem asVector_fold (dims : Nat) : ∀ (d : MVOf R) (v0 : List R), NodupKeys d →
    (∀ k ∈ keys d, ∃ i, i < dims ∧ k = 2 ^ i) → v0.length = dims →
    ∃ v, d.foldl (fun r (p : Nat × R) => r.bind fun v =>
          (logTable dims p.1).map fun i => v.set i p.2) (some v0) = some v
      ∧ v.length = dims
      ∧ ∀ i, i < dims → v[i]? = if 2 ^ i ∈ keys d then some (coeff d (2 ^ i)) else v0[i]? := by
  intro d
  induction d with
  | nil => intro v0 _ _ hl; exact ⟨v0, rfl, hl, fun i _ => by simp⟩
  | cons p d ih =>
    obtain ⟨k, c⟩ := p
    intro v0 hd hk hl
    unfold NodupKeys at hd
    simp only [keys_cons, List.nodup_cons] at hd
    obtain ⟨i0, hi0, hk0⟩ := hk k (by simp)
    subst hk0
    obtain ⟨v, hv, hlen, hget⟩ := ih (v0.set i0 c) hd.2
      (fun k' hk' => hk k' (List.mem_cons_of_mem _ hk')) (by simp [hl])
    refine ⟨v, ?_, hlen, fun i hi => ?_⟩
    · simp only [List.foldl_cons, Option.bind_some, logTable_two_pow dims i0 hi0, Option.map_some]
      exact hv
    · rw [hget i hi, keys_cons, coeff_cons]
      by_cases hii : i = i0
      · subst hii
        simp only [hd.1, ↓reduceIte, List.mem_cons, true_or]
        rw [List.getElem?_set_self (by omega)]
      · have hne : (2 : Nat) ^ i0 ≠ 2 ^ i := by
          intro e; exact hii (Nat.pow_right_injective (le_refl 2) e).symm
        have hne' : (2 : Nat) ^ i ≠ 2 ^ i0 := fun e => hne e.symm
        simp only [List.mem_cons, hne', false_or, hne, ↓reduceIte]
        split
        · rfl
        · rw [List.getElem?_set_ne (by omega)]

/-- `as_vector` of a multivector all of whose keys are basis vectors of the space never raises and
    returns the coefficient of `e_i` at position `i` -/
theorem asVector_spec (dims : Nat) {d : MVOf R} (hd : NodupKeys d)
    (h : ∀ k ∈ keys d, ∃ i, i < dims ∧ k = 2 ^ i) :
    ∃ v, asVector dims d = some v ∧ v.length = dims
      ∧ ∀ i, i < dims → v[i]? = some (coeff d (2 ^ i)) := by
  obtain ⟨v, hv, hl, hg⟩ := asVector_fold dims d (List.replicate dims 0) hd h (by simp)
  refine ⟨v, hv, hl, fun i hi => ?_⟩
  rw [hg i hi]
  split
  · rfl
  · next hk => rw [coeff_eq_zero_of_not_mem hk]; simp [hi]

/-- `xproject(0)` never raises on a well-formed dict and returns the scalar coefficient -/
theorem xproject_zero (dims : Nat) {a : MVOf R} (ha : NodupKeys a) :
    xproject dims a 0 = .scalar (coeff a 0) := by
  unfold xproject
  have hp : NodupKeys (project a 0) := nodupKeys_filter _ ha
  have hk : ∀ k ∈ keys (project a 0), k = 0 := by
    intro k hk
    obtain ⟨v, hv⟩ := mem_keys_iff_exists.1 hk
    have := (List.mem_filter.1 hv).2
    simp only [decide_eq_true_eq, bitCount_eq_popcount] at this
    exact (pc_eq_zero_iff k).1 this
  rw [if_pos rfl, asScalar_eq_coeff_zero hp hk, coeff_project]
  simp [bitCount_eq_popcount]

/-- `xproject(1)` on a well-formed multivector of the space: the vector of the grade-1
    coefficients -/
theorem xproject_one (dims : Nat) {a : MVOf R} (ha : NodupKeys a)
    (hr : ∀ k ∈ keys a, k < 2 ^ dims) :
    ∃ v, xproject dims a 1 = .vector v ∧ v.length = dims
      ∧ ∀ i, i < dims → v[i]? = some (coeff a (2 ^ i)) := by
  unfold xproject
  have hp : NodupKeys (project a 1) := nodupKeys_filter _ ha
  have hk : ∀ k ∈ keys (project a 1), ∃ i, i < dims ∧ k = 2 ^ i := by
    intro k hk
    obtain ⟨v, hv⟩ := mem_keys_iff_exists.1 hk
    have hm := List.mem_filter.1 hv
    have h1 := hm.2
    simp only [decide_eq_true_eq, bitCount_eq_popcount] at h1
    obtain ⟨i, hi⟩ := exists_two_pow_of_pc_one k h1
    refine ⟨i, ?_, hi⟩
    have := hr k (mem_keys_iff_exists.2 ⟨v, hm.1⟩)
    rw [hi] at this
    exact (Nat.pow_lt_pow_iff_right (by decide)).1 this
  obtain ⟨v, hv, hl, hg⟩ := asVector_spec dims hp hk
  refine ⟨v, ?_, hl, fun i hi => ?_⟩
  · simp [hv]
  · rw [hg i hi, coeff_project, bitCount_eq_popcount, pc_two_pow]; simp

end Ring

/-! ## `permutation_sign` and `bits_and_sign` -/

theorem permSignLoop_range (n : Nat) : ∀ (m i : Nat) (s : Int), i + m ≤ n →
    permSignLoop m i (List.range n) s = some s := by
  intro m
  induction m with
  | zero => intro i s _; rfl
  | succ m ih =>
    intro i s h
    have hi : i < n := by omega
    have hf : findFrom (List.range n) i ((List.range n).length + 1) i = some i := by
      simp [findFrom, hi]
    simp only [permSignLoop, hf, ne_eq, not_true_eq_false, ↓reduceIte]
    exact ih (i + 1) s (by omega)

/-- the identity permutation is even -/
theorem permutationSign_range (n : Nat) : permutationSign? (List.range n) = some 1 := by
  unfold permutationSign?
  rw [List.length_range]
  exact permSignLoop_range n n 0 1 (by omega)

/-- the tuple-key constructor agrees with the product: `MultiVector({(i, j): c})` stores
    `e_i e_j` with the sign `canonical_reordering_sign` gives to that product -/
theorem bitsAndSign_pair {i j : Nat} (h : i ≠ j) :
    bitsAndSign [i, j] = (2 ^ i ||| 2 ^ j, reorderSign (2 ^ i) (2 ^ j)) := by
  have hs : reorderSign (2 ^ i) (2 ^ j) = if j < i then -1 else 1 := by
    rw [reorderSign_eq_sgn, reorderSignExp_two_pow]; split <;> rfl
  rw [hs]
  unfold bitsAndSign
  by_cases hlt : i < j
  · have h1 : ¬ j < i := by omega
    simp [sortPairs, enumFrom', insertPair, hlt, h1]
    -- left: `permutation_sign` of `[0, 1]`
    decide
  · have h1 : j < i := by omega
    have h2 : ¬ i = j := h
    simp [sortPairs, enumFrom', insertPair, hlt, h1, h2]
    -- left: `permutation_sign` of `[1, 0]`
    decide

end PV.GA
