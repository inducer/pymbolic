import PV.Proofs.CseTallyCount
/-
  C12 helper: the reference plan `c12Plan` is what its name says — "every distinct operation
  once": its members are operation subterms of the inputs, no two of them have the same
  normalised key, and every operation subterm of the inputs has the key of a member.
-/
namespace PV

mutual
/-- the operation subterms of an expression of the fragment (the node itself first) -/
def c12Ops : Expr → List Expr
  | .nary o cs => .nary o cs :: c12OpsL cs
  | .bin o a b => .bin o a b :: (c12Ops a ++ c12Ops b)
  | .call f as => .call f as :: (c12Ops f ++ c12OpsL as)
  | _ => []
def c12OpsL : List Expr → List Expr
  | [] => []
  | c :: cs => c12Ops c ++ c12OpsL cs
end

theorem mem_c12OpsL {x : Expr} : ∀ {cs : List Expr}, x ∈ c12OpsL cs ↔ ∃ c ∈ cs, x ∈ c12Ops c
  | [] => by simp [c12OpsL]
  | c :: cs => by
    simp only [c12OpsL, List.mem_append, mem_c12OpsL (cs := cs), List.mem_cons, exists_eq_or_imp]

/-- memo invariant of the reference walk -/
structure PlanInv (d : List Expr) : Prop where
  fr : ∀ s ∈ d, s.frag = true
  pw : d.Pairwise (fun a b => c12SameKey a b = false)
  cl : ∀ s ∈ d, ∀ x ∈ c12Ops s, c12Has d x = true

/-- what the walk over one expression establishes -/
def PlanOk (ops : List Expr) (bound : Nat) (d d' : List Expr) : Prop :=
  ∃ dn, d' = d ++ dn ∧ PlanInv d' ∧ (∀ s ∈ dn, s.size ≤ bound ∧ s ∈ ops) ∧
    ∀ x ∈ ops, c12Has d' x = true

theorem c12Has_mono {d : List Expr} (dn : List Expr) {x : Expr} (h : c12Has d x = true) :
    c12Has (d ++ dn) x = true := by
  rw [c12Has_append_list, h]; rfl

/-- a memo hit: nothing is added, and the operations inside `e` are all in the memo already -/
theorem planOk_hit {e : Expr} {d : List Expr} (he : e.frag = true) (hI : PlanInv d)
    (hh : c12Has d e = true) : PlanOk (c12Ops e) e.size d d := by
  refine ⟨[], by simp, hI, by simp, ?_⟩
  intro x hx
  obtain ⟨s, hsd, hk⟩ := c12Has_mem hh
  have hss := frag_simple s (hI.fr s hsd)
  have hse := frag_simple e he
  rcases keyEq_simple hss hse hk with rfl | ⟨o, cs, cs', _, rfl, rfl, hp⟩
  · exact hI.cl _ hsd x hx
  · simp only [c12Ops, List.mem_cons] at hx
    rcases hx with rfl | hx
    · exact hh
    · obtain ⟨c, hc, hxc⟩ := mem_c12OpsL.mp hx
      have hc' : c ∈ cs := hp.symm.subset hc
      exact hI.cl _ hsd x (by
        simp only [c12Ops, List.mem_cons]
        exact Or.inr (mem_c12OpsL.mpr ⟨c, hc', hxc⟩))

/-- a first visit: after the operands (`hk`), the operation itself enters the memo -/
theorem planOk_first {e : Expr} {d d2 : List Expr} {kidOps : List Expr} {kb : Nat}
    (he : e.frag = true) (hop : e.isCseOp = true) (hh : c12Has d e = false)
    (hkb : kb < e.size) (hops : ∀ x, x ∈ c12Ops e ↔ x = e ∨ x ∈ kidOps)
    (hk : PlanOk kidOps kb d d2) : PlanOk (c12Ops e) e.size d (d2 ++ [e]) := by
  obtain ⟨dn2, rfl, hI2, hsz, hall⟩ := hk
  have hse := frag_simple e he
  have hself : c12SameKey e e = true := keyEq_refl_simple hse
  refine ⟨dn2 ++ [e], by simp, ⟨?_, ?_, ?_⟩, ?_, ?_⟩
  · intro s hs
    rcases List.mem_append.mp hs with hs | hs
    · exact hI2.fr s hs
    · simp only [List.mem_singleton] at hs; subst hs; exact he
  · rw [List.pairwise_append]
    refine ⟨hI2.pw, by simp, ?_⟩
    intro a ha b hb
    simp only [List.mem_singleton] at hb; subst hb
    cases hab : c12SameKey a b with
    | false => rfl
    | true =>
      exfalso
      rcases List.mem_append.mp ha with ha' | ha'
      · have := c12Has_of_mem ha' hab
        rw [hh] at this; cases this
      · have h1 := keyEq_size (frag_simple a (hI2.fr a ha)) hse hab
        have h2 := (hsz a ha').1
        omega
  · intro s hs x hx
    rcases List.mem_append.mp hs with hs | hs
    · exact c12Has_mono _ (hI2.cl s hs x hx)
    · simp only [List.mem_singleton] at hs; subst hs
      rcases (hops x).mp hx with rfl | hx
      · rw [c12Has_append]; simp [hself]
      · exact c12Has_mono _ (hall x hx)
  · intro s hs
    rcases List.mem_append.mp hs with hs | hs
    · have := hsz s hs
      exact ⟨by omega, (hops s).mpr (Or.inr this.2)⟩
    · simp only [List.mem_singleton] at hs; subst hs
      exact ⟨Nat.le_refl _, (hops s).mpr (Or.inl rfl)⟩
  · intro x hx
    rcases (hops x).mp hx with rfl | hx
    · rw [c12Has_append]; simp [hself]
    · exact c12Has_mono _ (hall x hx)

theorem planOk_nil {d : List Expr} (b : Nat) (hI : PlanInv d) : PlanOk [] b d d :=
  ⟨[], by simp, hI, by simp, by simp⟩

theorem planOk_seq {d d1 d2 : List Expr} {o1 o2 : List Expr} {b1 b2 : Nat}
    (h1 : PlanOk o1 b1 d d1) (h2 : PlanOk o2 b2 d1 d2) : PlanOk (o1 ++ o2) (b1 + b2) d d2 := by
  obtain ⟨dn1, rfl, _, s1, a1⟩ := h1
  obtain ⟨dn2, rfl, I2, s2, a2⟩ := h2
  refine ⟨dn1 ++ dn2, by simp, I2, ?_, ?_⟩
  · intro s hs
    rcases List.mem_append.mp hs with hs | hs
    · have := s1 s hs; exact ⟨by omega, List.mem_append_left _ this.2⟩
    · have := s2 s hs; exact ⟨by omega, List.mem_append_right _ this.2⟩
  · intro x hx
    rcases List.mem_append.mp hx with hx | hx
    · exact c12Has_mono _ (a1 x hx)
    · exact a2 x hx

mutual
theorem c12Plan_ok : ∀ (e : Expr) (d : List Expr), e.frag = true → PlanInv d →
    PlanOk (c12Ops e) e.size d (c12Plan e d)
  | .const (.int n), d, _, hI => by simpa [c12Plan, c12Ops] using planOk_nil _ hI
  | .var x, d, _, hI => by simpa [c12Plan, c12Ops] using planOk_nil _ hI
  | .nary o cs, d, he, hI => by
      have hf := he
      simp only [Expr.frag, Bool.and_eq_true] at he
      have hop := isCseOp_nary he.1 cs
      cases hh : c12Has d (.nary o cs) with
      | true => simpa [c12Plan, hh] using planOk_hit hf hI hh
      | false =>
        simp only [c12Plan, hh, Bool.false_eq_true, if_false]
        exact planOk_first hf hop hh (by simp only [Expr.size]; omega)
          (fun x => by simp [c12Ops]) (c12PlanL_ok cs d he.2 hI)
  | .bin o a b, d, he, hI => by
      have hf := he
      simp only [Expr.frag, Bool.and_eq_true] at he
      have hop := isCseOp_bin he.1.1 a b
      cases hh : c12Has d (.bin o a b) with
      | true => simpa [c12Plan, hh] using planOk_hit hf hI hh
      | false =>
        simp only [c12Plan, hh, Bool.false_eq_true, if_false]
        have h1 := c12Plan_ok a d he.1.2 hI
        have h2 := c12Plan_ok b (c12Plan a d) he.2 (by obtain ⟨_, _, i, _, _⟩ := h1; exact i)
        exact planOk_first hf hop hh (by simp only [Expr.size]; omega)
          (fun x => by simp [c12Ops]) (planOk_seq h1 h2)
  | .call f as, d, he, hI => by
      have hf := he
      simp only [Expr.frag, Bool.and_eq_true] at he
      cases hh : c12Has d (.call f as) with
      | true => simpa [c12Plan, hh] using planOk_hit hf hI hh
      | false =>
        simp only [c12Plan, hh, Bool.false_eq_true, if_false]
        have h1 := c12Plan_ok f d he.1 hI
        have h2 := c12PlanL_ok as (c12Plan f d) he.2 (by obtain ⟨_, _, i, _, _⟩ := h1; exact i)
        exact planOk_first hf rfl hh (by simp only [Expr.size]; omega)
          (fun x => by simp [c12Ops]) (planOk_seq h1 h2)
  | .const (.bool _), _, h, _ | .const (.flt ..), _, h, _ | .const (.str _), _, h, _
  | .const .none, _, h, _
  | .un .., _, h, _ | .cmp .., _, h, _ | .ite .., _, h, _ | .callKw .., _, h, _
  | .subscript .., _, h, _ | .lookup .., _, h, _ | .cse .., _, h, _ | .subst .., _, h, _
  | .deriv .., _, h, _ | .slice _, _, h, _ | .nan, _, h, _ | .wildcard, _, h, _
  | .dotWild _, _, h, _ | .starWild _, _, h, _ | .funcSym, _, h, _
  | .tuple _, _, h, _ | .list _, _, h, _ => by simp [Expr.frag] at h
theorem c12PlanL_ok : ∀ (cs : List Expr) (d : List Expr), Expr.fragL cs = true → PlanInv d →
    PlanOk (c12OpsL cs) (Expr.sizeL cs) d (c12PlanL cs d)
  | [], d, _, hI => by simpa [c12PlanL, c12OpsL, Expr.sizeL] using planOk_nil 0 hI
  | c :: cs, d, he, hI => by
      simp only [Expr.fragL, Bool.and_eq_true] at he
      have h1 := c12Plan_ok c d he.1 hI
      have h2 := c12PlanL_ok cs (c12Plan c d) he.2 (by obtain ⟨_, _, i, _, _⟩ := h1; exact i)
      simpa [c12PlanL, c12OpsL, Expr.sizeL] using planOk_seq h1 h2
end

end PV
