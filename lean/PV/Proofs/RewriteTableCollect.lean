import PV.Proofs.RewriteTableSplit
/-
  C11 (T-gen), part 5: `TermCollector.map_sum` of the table, interpreted, is the sum case of
  `collectM` (`collectSumLoop` with `t2cInsert` = `term2coeff[term] = term2coeff.get(term, 0) +
  coeff` keyed by frozensets, then `coeff * rep2term(termrep)` over the items); with
  `split_term` (part 4) and the inherited rows this gives the whole class.
-/
namespace PV
open PV.Generated (c04Classes c04IdentityTable)
open PV.C11Expected
attribute [local simp] c11ExecL c11Exec c11Eval c11EvalL c11Get c11Set c11Apply c11Truthy c11Lift
  bind Except.bind pure Except.pure throw throwThe MonadExceptOf.throw

/-! ### the `{term: coefficient}` dictionary of `map_sum` -/

def c11T2C (d : List (List (Expr × Expr) × Expr)) : List C11Val :=
  d.map fun kc => .list [.set (c11B2E kc.1), .expr kc.2]

theorem c11T2C_cons (kc : List (Expr × Expr) × Expr) (d : List (List (Expr × Expr) × Expr)) :
    c11T2C (kc :: d) = .list [.set (c11B2E kc.1), .expr kc.2] :: c11T2C d := rfl

theorem c11Eq_keys (k' k : List (Expr × Expr)) :
    c11Eq (.set (c11B2E k')) (.set (c11B2E k)) = keyEqSet k' k := by
  simp [c11Eq, keyEqSet, c11B2E, List.all_map, List.any_map, c11Eq1, c11EqL, c11Eq0,
    Function.comp_def]

def t2cSet (k : List (Expr × Expr)) (v : Expr) :
    List (List (Expr × Expr) × Expr) → List (List (Expr × Expr) × Expr)
  | [] => [(k, v)]
  | (k', c') :: r => if keyEqSet k' k then (k', v) :: r else (k', c') :: t2cSet k v r

theorem c11_t2c_find (k : List (Expr × Expr)) (d : List (List (Expr × Expr) × Expr)) :
    c11DictFind (.set (c11B2E k)) (c11T2C d) =
      (d.find? (fun kc => keyEqSet kc.1 k)).map (fun kc => C11Val.expr kc.2) := by
  induction d with
  | nil => rfl
  | cons p d ih =>
    simp only [c11T2C_cons, c11DictFind, c11Eq_keys, List.find?_cons]
    by_cases h : keyEqSet p.1 k = true <;> simp [h, ih]

theorem c11_t2c_set (k : List (Expr × Expr)) (v : Expr) (d : List (List (Expr × Expr) × Expr)) :
    c11DictSet (.set (c11B2E k)) (.expr v) (c11T2C d) = c11T2C (t2cSet k v d) := by
  induction d with
  | nil => rfl
  | cons p d ih =>
    simp only [c11T2C_cons, c11DictSet, c11Eq_keys, t2cSet]
    by_cases h : keyEqSet p.1 k = true <;> simp [h, ih, c11T2C_cons]

theorem t2cInsert_eq (k : List (Expr × Expr)) (c : Expr) (d : List (List (Expr × Expr) × Expr)) :
    t2cInsert k c d =
      (match pyAdd (match d.find? (fun kc => keyEqSet kc.1 k) with
          | some kc => kc.2
          | none => zero) c with
       | .ok s => .ok (t2cSet k s d)
       | .error er => .error er) := by
  induction d with
  | nil =>
    simp only [t2cInsert, bind, Except.bind, List.find?_nil, t2cSet]
    cases pyAdd zero c <;> rfl
  | cons p d ih =>
    obtain ⟨k', c'⟩ := p
    simp only [t2cInsert, List.find?_cons, t2cSet]
    by_cases h : keyEqSet k' k = true
    · simp only [h, if_true, bind, Except.bind]
      cases pyAdd c' c <;> rfl
    · simp only [h, Bool.false_eq_true, if_false, bind, Except.bind, ih]
      cases pyAdd (match d.find? (fun kc => keyEqSet kc.1 k) with
          | some kc => kc.2
          | none => zero) c <;> rfl


/-! ### `TermCollector.map_sum` -/

def c11CollEnv (m : C11Val) (acc : List (List (Expr × Expr) × Expr)) (child term coeff r2t result : C11Val) :
    C11Env :=
  [("mysum", m), ("term2coeff", .dict (c11T2C acc)), ("child", child), ("term", term),
   ("coeff", coeff), ("rep2term", r2t), ("result", result)]

/-- the body of the `for` of `TermCollector.map_sum` in RewriteTableExpected.lean; with `c11CollTail`
below it is the method body (`c11_coll_body`) -/
def c11CollStmts : List C11Stmt := [
        .assign2 "term" "coeff" (.selfCall "split_term" [(.var "child")]),
        .setItem "term2coeff" (.var "term") (.bin .add (.method (.var "term2coeff") "get" [(.var "term"), (.int 0)]) (.var "coeff"))]

def c11CollBody (ctx : C11Ctx) (F : Nat) (item : C11Val) (env : C11Env) : C11Out :=
  match c11Bind c11Set ["child"] item env with
  | some env' => c11ExecL ctx F c11CollStmts env'
  | none => .fail .stuck

section
attribute [local simp] c11CollBody c11Bind c11CollEnv c11CollStmts c11SplitResult

theorem c11_coll_loop (ctx : C11Ctx) (params : List Expr)
    (hs : ∀ t, ctx.callSelf "split_term" [.expr t] = c11SplitResult (splitTerm ctx.recur params t))
    (F : Nat) (m r2t result : C11Val) :
    ∀ (cs : List Expr) (acc : List (List (Expr × Expr) × Expr)) (child term coeff : C11Val),
      match collectSumLoop ctx.recur params cs acc with
      | .ok acc' => ∃ ch' t' c',
          c11For (c11CollBody ctx F) (cs.map .expr) (c11CollEnv m acc child term coeff r2t result)
            = .fell (c11CollEnv m acc' ch' t' c' r2t result)
      | .error er =>
          c11For (c11CollBody ctx F) (cs.map .expr) (c11CollEnv m acc child term coeff r2t result)
            = .fail (.py er)
  | [], acc, child, term, coeff => by
    simp only [collectSumLoop, pure, Except.pure, List.map_nil, c11For]
    exact ⟨child, term, coeff, rfl⟩
  | c :: cs, acc, child, term, coeff => by
    have ih := c11_coll_loop ctx params hs F m r2t result cs
    simp only [collectSumLoop, List.map_cons, c11For, t2cInsert_eq, zero]
    cases hsp : splitTerm ctx.recur params c with
    | error er =>
      simp [hs, hsp]
    | ok r =>
      obtain ⟨k, cf⟩ := r
      cases hadd : pyAdd (match acc.find? (fun kc => keyEqSet kc.1 k) with
          | some kc => kc.2
          | none => Expr.const (Const.int 0)) cf with
      | error er =>
        cases hf : acc.find? (fun kc => keyEqSet kc.1 k) <;>
        simp [hf] at hadd <;>
        simp [hs, hsp, c11Method, c11Hashable, c11Hashable0, c11_t2c_find, hf, c11Bin, hadd]
      | ok sm =>
        have := ih (t2cSet k sm acc) (.expr c) (.set (c11B2E k)) (.expr cf)
        cases hf : acc.find? (fun kc => keyEqSet kc.1 k) <;>
        simp [hf] at hadd <;>
        simp [hs, hsp, c11Method, c11Hashable, c11Hashable0, c11_t2c_find, hf, c11Bin, hadd,
          c11_t2c_set] at this ⊢ <;>
        exact this

end

def c11CollDefs : List C11Def := c11_TermCollector_map_sum.defs

/-- a comprehension over `(base, exponent)` pairs whose element is a function of the tree model -/
theorem c11MapM_pairs (f : C11Val → C11R C11Val) (g : Expr × Expr → RwR)
    (hf : ∀ b e : Expr, f (.list [.expr b, .expr e]) =
      (match g (b, e) with
       | .ok t => .ok (.expr t)
       | .error er => .error (.py er))) :
    ∀ d : List (Expr × Expr), c11MapM f (c11B2E d) =
      (match d.mapM g with
       | .ok ts => .ok (ts.map .expr)
       | .error er => .error (.py er))
  | [] => rfl
  | p :: d => by
    rw [c11B2E_cons, c11MapM, hf, c11MapM_pairs f g hf d, List.mapM_cons]
    cases g (p.1, p.2) with
    | error er => rfl
    | ok t => cases d.mapM g <;> rfl

theorem c11_call_rep2term (ctx : C11Ctx) (F : Nat) (k : List (Expr × Expr)) :
    c11CallLocal ctx c11CollDefs F "rep2term" [.set (c11B2E k)] =
      (match rep2term k with
       | .ok t => .ok (.expr t)
       | .error er => .error (.py er)) := by
  have key : ∀ ctx' : C11Ctx, ∀ F' : Nat,
      c11RunBody ctx' F' ["rep"] [] [("rep2term", .closure "rep2term")]
        [.ret (.call (.glob .flattenedProduct) [(.comp (.bin .pow (.var "base") (.var "exp")) ["base", "exp"] (.var "rep"))])]
        [.set (c11B2E k)] =
      (match rep2term k with
       | .ok t => .ok (.expr t)
       | .error er => .error (.py er)) := by
    intro ctx' F'
    simp only [c11RunBody, c11Frame, List.length_cons, List.length_nil, beq_self_eq_true, if_true,
      List.zip_cons_cons, List.zip_nil_right, List.map_nil, List.append_nil, List.nil_append,
      List.cons_append, c11ExecL, c11Exec, c11Eval, c11EvalL, c11Get, c11Items, bind, Except.bind,
      pure, Except.pure]
    rw [c11MapM_pairs _ (fun p => pyPow p.1 p.2)]
    · simp only [rep2term, bind, Except.bind]
      cases hm : k.mapM (fun p => pyPow p.1 p.2) with
      | error er => simp [c11OutToR]
      | ok ts =>
        cases hf : flatProd ts <;>
        simp [c11AsExprs_exprs, hf, c11OutToR]
    · intro b e
      cases hp : pyPow b e <;>
      simp [c11Bind, c11Push, c11Bin, hp]
  cases F <;> simp only [c11CallLocal, c11CollDefs, c11_TermCollector_map_sum, c11FindDef,
    beq_self_eq_true, if_true, Bool.false_eq_true, if_false] <;> exact key _ _

theorem c11MapM_t2c (f : C11Val → C11R C11Val) (g : List (Expr × Expr) × Expr → RwR)
    (hf : ∀ (k : List (Expr × Expr)) (c : Expr), f (.list [.set (c11B2E k), .expr c]) =
      (match g (k, c) with
       | .ok t => .ok (.expr t)
       | .error er => .error (.py er))) :
    ∀ d : List (List (Expr × Expr) × Expr), c11MapM f (c11T2C d) =
      (match d.mapM g with
       | .ok ts => .ok (ts.map .expr)
       | .error er => .error (.py er))
  | [] => rfl
  | p :: d => by
    rw [c11T2C_cons, c11MapM, hf, c11MapM_t2c f g hf d, List.mapM_cons]
    cases g (p.1, p.2) with
    | error er => rfl
    | ok t => cases d.mapM g <;> rfl

theorem c11Exec_coll_for (ctx : C11Ctx) (F : Nat) (env : C11Env) :
    c11Exec ctx F (.for ["child"] (.attr (.var "mysum") "children") c11CollStmts) env =
      (match c11Eval ctx env (.attr (.var "mysum") "children") with
       | .error e => .fail e
       | .ok v => match c11Items v with
         | .error e => .fail e
         | .ok items => c11For (c11CollBody ctx F) items env) := by
  rw [c11Exec]; rfl

def c11CollTail : List C11Stmt := [
      .defFn "rep2term",
      .assign "result" (.call (.glob .flattenedSum) [(.comp (.bin .mul (.var "coeff") (.call (.var "rep2term") [(.var "termrep")])) ["termrep", "coeff"] (.method (.var "term2coeff") "items" []))]),
      .ret (.var "result")]

theorem c11_coll_body : c11_TermCollector_map_sum.body =
    [.assign "term2coeff" .emptyDict,
     .for ["child"] (.attr (.var "mysum") "children") c11CollStmts] ++ c11CollTail := rfl

theorem c11_coll_tail (ctx : C11Ctx) (F : Nat)
    (hr : ∀ k, ctx.callLocal "rep2term" [.set (c11B2E k)] =
      (match rep2term k with
       | .ok t => .ok (.expr t)
       | .error er => .error (.py er)))
    (m ch t c r2t result : C11Val) (acc : List (List (Expr × Expr) × Expr)) :
    c11ToRw (c11OutToR (c11ExecL ctx F c11CollTail (c11CollEnv m acc ch t c r2t result))) =
      (do let terms ← acc.mapM fun kc => do
            let t ← rep2term kc.1
            pyMul kc.2 t
          pure (flattenedSum terms)) := by
  unfold c11CollTail
  rw [c11ExecL_cons_fell (env' := c11CollEnv m acc ch t c (.closure "rep2term") result)
    (by simp [c11CollEnv])]
  simp only [c11ExecL, c11Exec, c11Eval, c11EvalL, c11CollEnv, c11Get, c11Method, c11Items, bind,
    Except.bind, pure, Except.pure, ↓reduceIte, String.reduceBEq, Bool.false_eq_true]
  rw [c11MapM_t2c _ (fun kc => do let t ← rep2term kc.1; pyMul kc.2 t)]
  · cases hm : acc.mapM (fun kc => do let t ← rep2term kc.1; pyMul kc.2 t) with
    | error er =>
      simp only [bind, Except.bind] at hm
      simp [c11OutToR, c11ToRw, hm]
    | ok ts =>
      simp only [bind, Except.bind] at hm
      simp [c11AsExprs_exprs, c11OutToR, c11ToRw, hm]
  · intro k cf
    cases hk : rep2term k with
    | error er =>
      simp [c11Bind, c11Push, hr, hk]
    | ok tt =>
      cases hmul : pyMul cf tt <;>
      simp [c11Bind, c11Push, hr, hk, c11Bin, hmul]

theorem c11_coll_map_sum (ctx : C11Ctx) (params : List Expr)
    (hs : ∀ t, ctx.callSelf "split_term" [.expr t] = c11SplitResult (splitTerm ctx.recur params t))
    (fuel : Nat) (cs : List Expr) :
    c11ToRw (c11RunFn ctx fuel c11_TermCollector_map_sum [.expr (.nary .sum cs)]) =
      (do let t2c ← collectSumLoop ctx.recur params cs []
          let terms ← t2c.mapM fun kc => do
            let t ← rep2term kc.1
            pyMul kc.2 t
          pure (flattenedSum terms)) := by
  generalize hctx' : ({ ctx with callLocal := c11CallLocal ctx c11_TermCollector_map_sum.defs fuel } : C11Ctx) = ctx'
  have hrec : ctx'.recur = ctx.recur := by rw [← hctx']
  have hs' : ∀ t, ctx'.callSelf "split_term" [.expr t] =
      c11SplitResult (splitTerm ctx'.recur params t) := by rw [← hctx']; exact hs
  have hr : ∀ k, ctx'.callLocal "rep2term" [.set (c11B2E k)] =
      (match rep2term k with
       | .ok t => .ok (.expr t)
       | .error er => .error (.py er)) := by
    rw [← hctx']; exact c11_call_rep2term ctx fuel
  unfold c11RunFn
  rw [hctx']
  simp only [c11RunBody, c11_coll_body]
  have hframe : c11Frame c11_TermCollector_map_sum.params c11_TermCollector_map_sum.locals []
      [.expr (.nary .sum cs)] = some [("mysum", .expr (.nary .sum cs)), ("term2coeff", .unbound),
        ("child", .unbound), ("term", .unbound), ("coeff", .unbound), ("rep2term", .unbound),
        ("result", .unbound)] := rfl
  rw [hframe]
  have hloop := c11_coll_loop ctx' params hs' fuel (.expr (.nary .sum cs)) .unbound .unbound cs []
    .unbound .unbound .unbound
  rw [hrec] at hloop
  simp only [c11CollEnv, c11T2C, List.map_nil] at hloop
  simp only [List.cons_append, List.nil_append, c11ExecL, c11Exec_coll_for]
  simp [c11Attr, Expr.c04Field, Expr.c04Fields, c04Assoc, c11Items]
  cases hl : collectSumLoop ctx.recur params cs [] with
  | error er =>
    rw [hl] at hloop
    simp only at hloop
    rw [hloop]; rfl
  | ok acc =>
    rw [hl] at hloop
    obtain ⟨ch', t', c', hloop⟩ := hloop
    rw [hloop]
    have := c11_coll_tail ctx' fuel hr (.expr (.nary .sum cs)) ch' t' c' .unbound .unbound acc
    simp only [c11CollEnv, c11T2C] at this
    exact this

/-- the table-driven `TermCollector(parameters)` -/
def c11CollectT (params : List Expr) : Nat → Expr → RwR :=
  c11Mapper c04Classes c04IdentityTable c11Class_collector
    [("parameters", .set (params.map .expr))] c11NoInst

theorem c11_collector_ctx (S : C11Self) (hcls : S.cls = c11Class_collector) (params : List Expr)
    (hp : S.selfAttrs = [("parameters", .set (params.map .expr))]) (fuel : Nat) :
    C11CollCtx (c11CtxOf S fuel 2) params where
  deps t := by
    show c11CallSelf S fuel 2 "get_dependencies" _ = _
    rw [c11CallSelf_own S fuel 1 _ _ "get_dependencies" "TermCollector"
      c11_TermCollector_get_dependencies (by rw [hcls]; rfl), c11_get_dependencies]
  params := by
    show c11Get "parameters" S.selfAttrs = _
    rw [hp]; rfl

theorem c11_collector_step (params : List Expr) (S : C11Self) (hc : S.classes = c04Classes)
    (hi : S.ident = c04IdentityTable) (hcls : S.cls = c11Class_collector)
    (hp : S.selfAttrs = [("parameters", .set (params.map .expr))]) (fuel : Nat) (e : Expr) :
    c11Handle S fuel e =
      (match e with
       | .nary .sum cs => do
          let t2c ← collectSumLoop S.recur params cs []
          let terms ← t2c.mapM fun kc => do
            let t ← rep2term kc.1
            pyMul kc.2 t
          pure (flattenedSum terms)
       | e => idMap S.recur e) := by
  have inh : ∀ n, c11HandlerOf e = .ok n → c11FindMethod n S.cls.methods = none →
      c11Handle S fuel e = idMap S.recur e := fun n hn hm =>
    c11Handle_inherited S hc hi fuel e n hn hm
  have plain : c11Overridden e = false → c11Handle S fuel e = idMap S.recur e :=
    c11Handle_plain S hc hi (by rw [hcls]; repeat constructor) fuel e
  cases e with
  | nary o cs =>
    cases o with
    | sum =>
      rw [c11Handle_eq S hc hi]
      simp only [c11HandlerOf, c11Depth]
      rw [c11CallSelf_own S fuel 3 _ _ "map_sum" "TermCollector" c11_TermCollector_map_sum
        (by rw [hcls]; rfl)]
      rw [c11_coll_map_sum (c11CtxOf S fuel 3) params]
      · rfl
      · intro t
        show c11CallSelf S fuel 3 "split_term" _ = _
        rw [c11CallSelf_own S fuel 2 _ _ "split_term" "TermCollector" c11_TermCollector_split_term
          (by rw [hcls]; rfl), c11_split_term _ params (c11_collector_ctx S hcls params hp fuel)]
        rfl
    | prod => exact inh _ rfl (by rw [hcls]; rfl)
    | _ => exact plain rfl
  | bin o a b =>
    cases o with
    | quot => exact inh _ rfl (by rw [hcls]; rfl)
    | pow => exact inh _ rfl (by rw [hcls]; rfl)
    | _ => exact plain rfl
  | cse c p s => exact inh _ rfl (by rw [hcls]; rfl)
  | _ => exact plain rfl

theorem collectM_succ (params : List Expr) (fuel : Nat) (e : Expr) :
    collectM params (fuel + 1) e =
      (match e with
       | .nary .sum cs => do
          let t2c ← collectSumLoop (collectM params fuel) params cs []
          let terms ← t2c.mapM fun kc => do
            let t ← rep2term kc.1
            pyMul kc.2 t
          pure (flattenedSum terms)
       | e => idMap (collectM params fuel) e) := by
  cases e with
  | nary o cs => cases o <;> rfl
  | _ => rfl

theorem c11CollectT_eq (params : List Expr) :
    ∀ (fuel : Nat) (e : Expr), c11CollectT params fuel e = collectM params fuel e
  | 0, _ => rfl
  | fuel + 1, e => by
    have ih : c11CollectT params fuel = collectM params fuel := funext (c11CollectT_eq params fuel)
    unfold c11CollectT at ih ⊢
    rw [c11Mapper, collectM_succ, ← ih]
    exact c11_collector_step params _ rfl rfl rfl rfl fuel e
end PV
