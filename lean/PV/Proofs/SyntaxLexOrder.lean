import PV.Proofs.SyntaxLexPieces
/-
  C07.  General facts about the lexer model, for an ARBITRARY table: `lex` partitions its input
  into non-empty items (`lexLoop_partition`); the definitions with which `Properties/C07.lean`
  says which literal rules hide a later rule (`shadowedIn`, `hasBoundary`, `ruleIndex`); and, for
  the table of the current code, that no item is tagged `imaginary` (`lexRaw_no_imaginary`).
-/
set_option linter.unusedSimpArgs false
namespace PV.Lexer
open PV

theorem firstMatch_pos {tbl : LexTable} : ∀ {rules : LexTable} {cs : List Char} {tag : String}
    {n : Nat}, firstMatch tbl rules cs = some (tag, n) → 0 < n
  | [], _, _, _, h => by simp [firstMatch] at h
  | (t, b) :: rules, cs, tag, n, h => by
    simp only [firstMatch] at h
    split at h
    · exact firstMatch_pos h
    · simp only [Option.some.injEq, Prod.mk.injEq] at h
      omega

/-- induction over a successful run of the `lex` loop, one item at a time -/
theorem lexLoop_induction {tbl : LexTable} {motive : List Char → List Lexed → Prop}
    (nil : motive [] [])
    (cons : ∀ cs tag n rest, cs ≠ [] → firstMatch tbl tbl cs = some (tag, n) →
      motive (cs.drop n) rest → motive cs ((tag, cs.take n) :: rest)) :
    ∀ (fuel i : Nat) (cs : List Char) (ls : List Lexed),
    lexLoop tbl fuel i cs = .ok ls → motive cs ls
  | _, _, [], ls, h => by
    have : ls = [] := by
      cases ‹Nat› <;> simpa [lexLoop, pure, Except.pure] using h.symm
    exact this ▸ nil
  | 0, i, c :: cs, ls, h => by simp [lexLoop, throw, throwThe, MonadExceptOf.throw] at h
  | fuel + 1, i, c :: cs, ls, h => by
    simp only [lexLoop] at h
    split at h
    · simp [throw, throwThe, MonadExceptOf.throw] at h
    · rename_i tag n hf
      cases hr : lexLoop tbl fuel (i + n) (List.drop n (c :: cs)) with
      | error e => rw [hr] at h; simp [bind, Except.bind] at h
      | ok rest =>
        rw [hr] at h
        simp only [bind, Except.bind, pure, Except.pure, Except.ok.injEq] at h
        exact h ▸ cons _ tag n rest (List.cons_ne_nil c cs) hf
          (lexLoop_induction nil cons fuel (i + n) _ rest hr)

/-- **`lex` partitions the input**: the texts of the lexed items, in order, concatenate to the
input string, and no item is empty (for every rule table) -/
theorem lexLoop_partition (tbl : LexTable) : ∀ (fuel i : Nat) (cs : List Char) (ls : List Lexed),
    lexLoop tbl fuel i cs = .ok ls → (ls.map (·.2)).flatten = cs ∧ ∀ l ∈ ls, l.2 ≠ [] :=
  lexLoop_induction ⟨rfl, fun _ hl => nomatch hl⟩ fun cs tag n rest hne hf ⟨h1, h2⟩ => by
    refine ⟨?_, List.forall_mem_cons.mpr ⟨fun hnil => ?_, h2⟩⟩
    · simp only [List.map_cons, List.flatten_cons, h1, List.take_append_drop]
    · have hpos := firstMatch_pos hf
      rcases List.take_eq_nil_iff.mp hnil with h | h
      · omega
      · exact hne h

theorem lexRawWith_partition {tbl : LexTable} {cs : List Char} {ls : List Lexed}
    (h : lexRawWith tbl cs = .ok ls) : (ls.map (·.2)).flatten = cs ∧ ∀ l ∈ ls, l.2 ≠ [] := by
  unfold lexRawWith at h
  split at h
  · exact lexLoop_partition tbl _ _ _ _ h
  · simp [throw, throwThe, MonadExceptOf.throw] at h

/-! ### rule order -/

/-- the literal text of a rule that matches a fixed string (`kw`: followed by `\b`) -/
def litOf : Body → Option (List Char)
  | .one (.re src) =>
    match reOf src with
    | some (.lit l) => some l
    | some (.kw l) => some l
    | _ => none
  | _ => none

/-- pairs (earlier rule, later rule) of literal rules such that the earlier text is a prefix of
the later one: the later rule can then never produce its full text -/
def shadowedIn : LexTable → List (String × String)
  | [] => []
  | (t, b) :: rest =>
    (match litOf b with
     | some l => rest.filterMap fun r =>
        match litOf r.2 with
        | some l' => if l.isPrefixOf l' then some (t, r.1) else none
        | none => none
     | none => []) ++ shadowedIn rest

/-- the rule of `tag` is a literal followed by a word boundary `\\b` -/
def hasBoundary (tbl : LexTable) (tag : String) : Bool :=
  match dictGet tbl tag with
  | some (.one (.re src)) =>
    match reOf src with
    | some (.kw _) => true
    | _ => false
  | _ => false

/-- position of the first rule with a tag -/
def ruleIndex (tbl : LexTable) (tag : String) : Nat := tbl.findIdx (fun r => r.1 == tag)

theorem dropWhile_suffix' (p : Char → Bool) (l : List Char) : l.dropWhile p <:+ l :=
  List.dropWhile_suffix p

theorem firstC_mem : ∀ {rs : List RuleC} {cs : List Char} {tag : String} {n : Nat},
    firstC rs cs = some (tag, n) → ∃ r ∈ rs, r.1 = tag ∧ r.2 cs = n ∧ n ≠ 0
  | [], _, _, _, h => by simp [firstC] at h
  | (t, m) :: rs, cs, tag, n, h => by
    simp only [firstC] at h
    split at h
    · obtain ⟨r, hr, h1⟩ := firstC_mem h
      exact ⟨r, List.mem_cons_of_mem _ hr, h1⟩
    · rename_i hne
      simp only [Option.some.injEq, Prod.mk.injEq] at h
      exact ⟨(t, m), List.mem_cons_self .., h.1, h.2, h.2 ▸ hne⟩

theorem firstC_not_imaginary {cs : List Char} {tag : String} {n : Nat}
    (h : firstC rulesC cs = some (tag, n)) : tag ≠ "imaginary" := by
  obtain ⟨r, hr, h1, h2, h3⟩ := firstC_mem h
  rintro rfl
  obtain ⟨t, m⟩ := r
  simp only at h1 h2
  subst h1
  simp only [rulesC, List.mem_cons, Prod.mk.injEq, List.not_mem_nil, or_false] at hr
  simp at hr
  subst hr
  exact h3 (h2 ▸ imagLen_zero cs)

theorem lexLoop_tags (tbl : LexTable) (P : String → Prop)
    (hP : ∀ cs tag n, firstMatch tbl tbl cs = some (tag, n) → P tag) :
    ∀ (fuel i : Nat) (cs : List Char) (ls : List Lexed),
    lexLoop tbl fuel i cs = .ok ls → ∀ l ∈ ls, P l.1 :=
  lexLoop_induction (fun _ hl => nomatch hl) fun cs tag n _ _ hf ih =>
    List.forall_mem_cons.mpr ⟨hP cs tag n hf, ih⟩

/-- no item of the current table's lexer carries the tag `imaginary` -/
theorem lexRaw_no_imaginary {cs : List Char} {ls : List Lexed} (h : lexRaw cs = .ok ls) :
    ∀ l ∈ ls, l.1 ≠ "imaginary" := by
  unfold lexRaw lexRawWith at h
  split at h
  · exact lexLoop_tags table (· ≠ "imaginary")
      (fun cs tag n hf => firstC_not_imaginary (firstMatch_table cs ▸ hf)) _ _ _ _ h
  · simp [throw, throwThe, MonadExceptOf.throw] at h

end PV.Lexer
