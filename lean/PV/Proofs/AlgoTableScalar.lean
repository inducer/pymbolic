import PV.Model.AlgoScalar
import PV.Proofs.AlgoTablePoly
/-!
  C19 (T-gen): `Polynomial.__divmod__` with a divisor that is NOT a `Polynomial` (a Python int) —
  the first branch of the regenerated body — is `divmodScalar`.
-/
namespace PV.Algo
open PV.Generated
variable {α : Type}

section
variable (ops : C19Ops α) (ext : String → List (C19V α) → C19R (C19V α))

/-- one entry of `dm_list` -/
def c19EncDm (d : Int) (t : Term) : C19V α :=
  .tup [.int t.1, .tup [.int (Int.fdiv t.2 d), .int (Int.fmod t.2 d)]]

theorem c19IsInst_int_poly (n k : Nat) (d : Int) :
    c19IsInst (c19CxAt ops c19Table ext n k) (.int d : C19V α) ["Polynomial"] = false := by rfl

theorem c19EncTerms_fdiv (p : Poly) (d : Int) :
    (p.map fun t => (c19EncTerm (t.1, Int.fdiv t.2 d) : C19V α))
      = c19EncTerms (p.map fun t => (t.1, Int.fdiv t.2 d)) := by
  simp [c19EncTerms, List.map_map, Function.comp_def]

theorem c19EncTerms_fmod (p : Poly) (d : Int) :
    (p.map fun t => (c19EncTerm (t.1, Int.fmod t.2 d) : C19V α))
      = c19EncTerms (p.map fun t => (t.1, Int.fmod t.2 d)) := by
  simp [c19EncTerms, List.map_map, Function.comp_def]

/-- the non-`Polynomial` branch of `__divmod__` on an int divisor `d`, when no coefficient is
divided by zero -/
theorem c19_dm_scalar (b : String) (p : Poly) (d : Int) (hd : d ≠ 0 ∨ p = []) (n kf : Nat) :
    c19ExecL (c19CxAt ops c19Table ext (n + 1) kf) c19DmMixed
        [("self", c19EncPoly b p), ("other", .int d)]
      = .ret (.tup [c19EncPoly b (p.map fun t => (t.1, Int.fdiv t.2 d)),
                    c19EncPoly b (p.map fun t => (t.1, Int.fmod t.2 d))]) := by
  unfold c19DmMixed c19EncPoly
  c19_run [c19IsInst_int_poly, c19Attr_poly_base, c19Attr_poly_data]
  simp only [c19EncTerms]
  rw [c19MapM_enc _ c19EncTerm (c19EncDm d) p (by
    intro t ht
    rcases hd with hd | rfl
    · unfold c19EncTerm c19EncDm; c19_run [c19Call_divmod_ne _ _ _ hd]
    · exact absurd ht List.not_mem_nil)]
  c19_run []
  rw [c19MapM_enc _ (c19EncDm d) (fun t => c19EncTerm (t.1, Int.fdiv t.2 d)) p
    (by intro t _; unfold c19EncTerm c19EncDm; c19_run [])]
  c19_run [c19New_polynomial, c19EncTerms_fdiv, c19_poly_init_run]
  rw [c19MapM_enc _ (c19EncDm d) (fun t => c19EncTerm (t.1, Int.fmod t.2 d)) p
    (by intro t _; unfold c19EncTerm c19EncDm; c19_run [])]
  c19_run [c19New_polynomial, c19EncTerms_fmod, c19_poly_init_run]
  rfl

/-- ... on the divisor `0`: `divmod(coeff, 0)` raises for the first term -/
theorem c19_dm_scalar_zero (b : String) (t : Term) (p : Poly) (n kf : Nat) :
    c19ExecL (c19CxAt ops c19Table ext (n + 1) kf) c19DmMixed
        [("self", c19EncPoly b (t :: p)), ("other", .int 0)]
      = .raise "ZeroDivisionError" := by
  unfold c19DmMixed c19EncPoly
  c19_run [c19IsInst_int_poly, c19Attr_poly_base, c19Attr_poly_data]
  simp only [c19EncTerms, List.map_cons, c19MapM, c19EncTerm]
  c19_run [c19Call_divmod_zero]

end
end PV.Algo
