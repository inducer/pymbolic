import PV.Proofs.GATableInv
/-
  C18 (T-gen): `MultiVector.__add__` of the expected function table is `mvAddZ` (with the
  model's iteration order of the key union).
-/
-- one `variable` line serves every statement of the file, and `c18sym` is handed rules that not
-- every run needs
set_option linter.unusedSectionVars false
set_option linter.unusedVariables false
set_option linter.unusedSimpArgs false
namespace PV.GA.C18T

section
variable {R : Type} [Add R] [Mul R] [Neg R] [OfNat R 0] [OfNat R 1]
variable (Γ : C18Ctx R) (fuel : Nat) (callee : C18Callee R)


def natVals (l : List Nat) : List (C18Val R) := l.map fun k => .nat k

theorem any_natVals (l : List Nat) (k : Nat) :
    (natVals l : List (C18Val R)).any (fun y => c18NatEq (.nat k) y) = l.contains k := by
  induction l with
  | nil => rfl
  | cons a l ih =>
    simp only [natVals, List.map_cons, List.any_cons, List.contains_cons, c18NatEq] at ih ⊢
    rw [ih]

theorem any_natVals' (l : List Nat) (k : Nat) :
    (natVals l : List (C18Val R)).any (fun x => c18NatEq x (.nat k)) = l.contains k := by
  induction l with
  | nil => rfl
  | cons a l ih =>
    simp only [natVals, List.map_cons, List.any_cons, List.contains_cons, c18NatEq] at ih ⊢
    rw [ih]
    congr 1
    exact Bool.beq_comm

theorem dedup_natVals : ∀ (l acc : List Nat), l.Nodup → (∀ k ∈ l, k ∉ acc) →
    c18Dedup (natVals acc : List (C18Val R)) (natVals l) = natVals (acc ++ l) := by
  intro l
  induction l with
  | nil => intro acc _ _; simp [natVals, c18Dedup]
  | cons k l ih =>
    intro acc hnd hdis
    simp only [List.nodup_cons] at hnd
    have hk : acc.contains k = false := by
      simp only [List.contains_eq_mem, decide_eq_false_iff_not]
      exact hdis k (List.mem_cons_self)
    have hany := any_natVals (R := R) acc k
    rw [hk] at hany
    have h2 := ih (acc ++ [k]) hnd.2 (by
      intro k' hk'
      simp only [List.mem_append, List.mem_singleton, not_or]
      refine ⟨hdis k' (List.mem_cons_of_mem _ hk'), ?_⟩
      rintro rfl; exact hnd.1 hk')
    have hstep : c18Dedup (natVals acc : List (C18Val R)) (natVals (k :: l))
        = c18Dedup (natVals (acc ++ [k])) (natVals l) := by
      simp only [natVals, List.map_cons, c18Dedup, List.map_append, List.map_nil]
      simp only [natVals] at hany
      rw [hany]
      simp
    rw [hstep, h2]
    simp [natVals]

theorem dictGet_isNone_iff (x : MVOf R) (k : Nat) :
    (dictGet x k).isNone = !(dkeys x).contains k := by
  induction x with
  | nil => rfl
  | cons p x ih =>
    obtain ⟨k', v⟩ := p
    by_cases h : k' = k
    · subst h; simp [dictGet, dkeys]
    · have h' : (k == k') = false := by
        simp only [beq_eq_false_iff_ne, ne_eq]; exact fun e => h e.symm
      simp only [dictGet, h, if_false, dkeys, List.map_cons, List.contains_cons, h', Bool.false_or]
      exact ih

theorem dictGet_some_of_mem (x : MVOf R) (k : Nat) (h : k ∈ dkeys x) : ∃ c, dictGet x k = some c := by
  have := dictGet_isNone_iff x k
  have hc : (dkeys x).contains k = true := by simpa using h
  rw [hc] at this
  cases hg : dictGet x k with
  | none => rw [hg] at this; simp at this
  | some c => exact ⟨c, rfl⟩

/-- the key union as the table computes it is the model's -/
theorem union_natVals (kx ky : List Nat) (p : Nat → Bool) (hp : ∀ k, p k = !kx.contains k) :
    (natVals kx : List (C18Val R)) ++ (natVals ky).filter (fun b =>
        !(natVals kx : List (C18Val R)).any fun a => c18NatEq a b)
      = natVals (kx ++ ky.filter p) := by
  have hf : (natVals ky : List (C18Val R)).filter (fun b =>
        !(natVals kx : List (C18Val R)).any fun a => c18NatEq a b)
      = natVals (ky.filter p) := by
    induction ky with
    | nil => rfl
    | cons k ky ih =>
      have h1 := any_natVals' (R := R) kx k
      simp only [natVals, List.map_cons, List.filter_cons] at ih h1 ⊢
      rw [h1, hp]
      cases hc : kx.contains k <;>
        simp only [Bool.not_false, Bool.not_true, if_true, if_false, List.map_cons, ih,
          Bool.false_eq_true]
  rw [hf]
  simp [natVals]

theorem keys_natVals (x : MVOf R) :
    x.map (fun p => (C18Val.nat p.1 : C18Val R)) = natVals (dkeys x) := by
  simp [natVals, dkeys]

def addStep (z : R → Bool) (x y : MVOf R) (acc : MVOf R) : C18Val R → MVOf R
  | .nat k =>
    let nc := (dictGet x k).getD 0 + (dictGet y k).getD 0
    if z nc then acc else dictSet acc k nc
  | _ => acc

theorem foldl_addStep (z : R → Bool) (x y : MVOf R) (l : List Nat) (acc : MVOf R) :
    (natVals l : List (C18Val R)).foldl (addStep z x y) acc
      = l.foldl (fun acc bits =>
          let nc := (dictGet x bits).getD 0 + (dictGet y bits).getD 0
          if z nc then acc else dictSet acc bits nc) acc := by
  induction l generalizing acc with
  | nil => rfl
  | cons k l ih => simp only [natVals, List.map_cons, List.foldl_cons, addStep] at ih ⊢; exact ih _

@[simp] theorem c18CallMethod_dict_get (rt : C18Rt R) (d : MVOf R) (k : Nat) (dflt : C18Val R) :
    c18CallMethod rt (.dict d) "get" [.nat k, dflt] [] = .ok ((dictGet d k).elim dflt .coef) := by
  simp only [c18CallMethod]
  cases dictGet d k <;> rfl

/-- `x.get(k, 0) + y.get(k, 0)` for a key one of the two dicts has: a coefficient -/
theorem c18BinOp_add_get (rt : C18Rt R) (x y : MVOf R) (k : Nat)
    (h : (∃ c, dictGet x k = some c) ∨ ∃ c, dictGet y k = some c) :
    c18BinOp rt .add ((dictGet x k).elim (.nat 0) .coef) ((dictGet y k).elim (.nat 0) .coef)
      = .ok (.coef ((dictGet x k).getD 0 + (dictGet y k).getD 0)) := by
  cases hx : dictGet x k <;> cases hy : dictGet y k <;> simp_all

@[simp] theorem c18BinVal_bor_list (Γ : C18Ctx R) (a b : List (C18Val R)) :
    c18BinVal Γ .bor (.list a) (.list b)
      = .ok (.list (a ++ b.filter fun y => !a.any fun x => c18NatEq x y)) := rfl

@[simp] theorem c18Prim_set_list (rt : C18Rt R) (xs : List (C18Val R)) :
    c18Prim rt "set" [.list xs] [] = .ok (.list (c18Dedup [] xs)) := rfl

/-- **`__add__` of the table is `mvAddZ`** (both operands `MultiVector`s) -/
theorem c18_add (hc : C18HasCast Γ callee) (hinit : C18HasInit callee) (x y : MVOf R)
    (hx : (dkeys x).Nodup) (hy : (dkeys y).Nodup) :
    c18RunFn c18ExpectedModule Γ fuel callee c18X_MultiVector___add__ [.mv x, .mv y] []
      = .ok (.mv (mvAddZ Γ.z x y)) := by
  have hcast := hc (.mv y) y rfl
  have hmodel : mvAddZ Γ.z x y = (dkeys x ++ (dkeys y).filter fun k => (dictGet x k).isNone).foldl
      (fun acc bits =>
        let nc := (dictGet x bits).getD 0 + (dictGet y bits).getD 0
        if Γ.z nc then acc else dictSet acc bits nc) [] := rfl
  have hkx1 := keys_natVals x
  have hky1 := keys_natVals y
  have hsomex := dictGet_some_of_mem x
  have hsomey := dictGet_some_of_mem y
  have hnone := dictGet_isNone_iff x
  generalize dkeys x = kx at *
  generalize dkeys y = ky at *
  apply c18RunFn_of_body rfl
  have hdx : c18Dedup [] (natVals kx : List (C18Val R)) = natVals kx :=
    dedup_natVals (R := R) kx [] hx (by simp)
  have hdy : c18Dedup [] (natVals ky : List (C18Val R)) = natVals ky :=
    dedup_natVals (R := R) ky [] hy (by simp)
  have hun := union_natVals (R := R) kx ky (fun k => (dictGet x k).isNone) hnone
  obtain ⟨u, hfor⟩ := c18For_env
    (fun acc (u : C18Val R × C18Val R) => [("self", .mv x), ("other", .mv y),
      ("all_bits", .list (natVals (kx ++ ky.filter fun k => (dictGet x k).isNone))),
      ("is_zero", .prim "pymbolic.primitives.is_zero"), ("new_data", .dict acc), ("bits", u.1),
      ("new_coeff", u.2)])
    (bind := c18BindNames ["bits"])
    (body := c18ExecList (c18Rt Γ fuel callee) [
      .assign [.name "new_coeff"] false (.bin .add
        (.callMethod (.attr (.name "self") "data") "get" [(.name "bits"), (.nat 0)] [] [])
        (.callMethod (.attr (.name "other") "data") "get" [(.name "bits"), (.nat 0)] [] [])),
      .ifThen (.un .not (.call (.name "is_zero") [(.name "new_coeff")] [] []))
        [.assign [.index "new_data" (.name "bits")] false (.name "new_coeff")] []])
    (addStep Γ.z x y) (natVals (kx ++ ky.filter fun k => (dictGet x k).isNone))
    (fun acc u xv hxv => by
      simp only [natVals, List.mem_map] at hxv
      obtain ⟨k, hkmem, rfl⟩ := hxv
      have hsome : (∃ cx, dictGet x k = some cx) ∨ (∃ cy, dictGet y k = some cy) := by
        rcases List.mem_append.mp hkmem with h | h
        · exact Or.inl (hsomex k h)
        · exact Or.inr (hsomey k (List.mem_filter.mp h).1)
      refine ⟨(.nat k, u.2),
        (.nat k, .coef ((dictGet x k).getD 0 + (dictGet y k).getD 0)), by simp [c18BindNames, c18Set], ?_⟩
      c18sym [c18BinOp_add_get _ x y k hsome, addStep, c18Branch_ok]
      cases Γ.z ((dictGet x k).getD 0 + (dictGet y k).getD 0) <;> rfl)
    [] (.unbound, .unbound)
  rw [hmodel, ← foldl_addStep]
  c18sym [c18X_MultiVector___add__, hcast, hkx1, hky1, hdx, hdy, hun, hfor, hinit _]

end
end PV.GA.C18T
