import PV.Proofs.ImpFuse
import Mathlib.Data.Finset.Card
import Mathlib.Data.List.Perm.Subperm
/-
  Helper lemmas for C20: the dependency graph of `get_dot_dependency_graph`, its closure loop and
  its reduction loop.
-/
namespace PV.Imp
open PV

/-! ### dict-of-sets basics -/

theorem Graph.get_cons (k' : String) (vs : List String) (rest : Graph) (k : String) :
    Graph.get ((k', vs) :: rest) k = if k = k' then vs else Graph.get rest k := by
  unfold Graph.get
  rw [List.lookup_cons]
  by_cases h : k = k'
  · subst h
    simp
  · have : (k == k') = false := by simpa using h
    simp [this, h]

theorem Graph.get_of_not_key : ∀ {g : Graph} {k : String}, k ∉ g.keys → g.get k = []
  | [], _, _ => rfl
  | (k', vs) :: rest, k, h => by
    simp only [Graph.keys, List.map_cons, List.mem_cons, not_or] at h
    rw [Graph.get_cons, if_neg h.1]
    exact Graph.get_of_not_key h.2

theorem Graph.key_of_mem_get {g : Graph} {k x : String} (h : x ∈ g.get k) : k ∈ g.keys := by
  by_contra hk
  rw [Graph.get_of_not_key hk] at h
  cases h

theorem Graph.keys_modify (k : String) (f : List String → List String) :
    ∀ g : Graph, (g.modify k f).keys = g.keys
  | [] => rfl
  | (k', vs) :: rest => by
    simp only [Graph.modify]
    split
    · rfl
    · simp only [Graph.keys, List.map_cons, List.cons.injEq, true_and]
      exact Graph.keys_modify k f rest

theorem Graph.get_modify_ne {k k' : String} (f : List String → List String) (h : k' ≠ k) :
    ∀ g : Graph, (g.modify k f).get k' = g.get k'
  | [] => rfl
  | (k₀, vs) :: rest => by
    simp only [Graph.modify]
    split
    · rename_i hk
      have hk : k₀ = k := by simpa using hk
      subst hk
      rw [Graph.get_cons, Graph.get_cons, if_neg h, if_neg h]
    · rw [Graph.get_cons, Graph.get_cons, Graph.get_modify_ne f h rest]

theorem Graph.get_modify_self {k : String} (f : List String → List String) :
    ∀ {g : Graph}, k ∈ g.keys → (g.modify k f).get k = f (g.get k)
  | [], h => by cases h
  | (k₀, vs) :: rest, h => by
    simp only [Graph.modify]
    split
    · rename_i hk
      have hk : k₀ = k := by simpa using hk
      subst hk
      rw [Graph.get_cons, Graph.get_cons, if_pos rfl, if_pos rfl]
    · rename_i hk
      have hk : k₀ ≠ k := by simpa using hk
      simp only [Graph.keys, List.map_cons, List.mem_cons] at h
      rcases h with h | h
      · exact absurd h.symm hk
      · rw [Graph.get_cons, Graph.get_cons, if_neg (Ne.symm hk), if_neg (Ne.symm hk)]
        exact Graph.get_modify_self f h

theorem Graph.modify_not_key {k : String} (f : List String → List String) :
    ∀ {g : Graph}, k ∉ g.keys → g.modify k f = g
  | [], _ => rfl
  | (k₀, vs) :: rest, h => by
    simp only [Graph.keys, List.map_cons, List.mem_cons, not_or] at h
    have : (k₀ == k) = false := by simpa using (Ne.symm h.1)
    simp only [Graph.modify, this, Bool.false_eq_true, if_false]
    rw [Graph.modify_not_key f h.2]

/-- rows are duplicate-free, keys are distinct -/
def Graph.WF (g : Graph) : Prop := g.keys.Nodup ∧ ∀ k, (g.get k).Nodup

theorem Graph.WF.tail {k : String} {vs : List String} {rest : Graph}
    (h : Graph.WF ((k, vs) :: rest)) : Graph.WF rest := by
  have hk : k ∉ Graph.keys rest ∧ (Graph.keys rest).Nodup := by
    simpa [Graph.keys] using h.1
  refine ⟨hk.2, fun k' => ?_⟩
  by_cases hkk : k' = k
  · subst hkk
    rw [Graph.get_of_not_key hk.1]
    exact List.nodup_nil
  · have := h.2 k'
    rwa [Graph.get_cons, if_neg hkk] at this

theorem Graph.WF.modify {g : Graph} (h : g.WF) (k : String) {f : List String → List String}
    (hf : ∀ vs : List String, vs.Nodup → (f vs).Nodup) : (g.modify k f).WF := by
  refine ⟨by rw [Graph.keys_modify]; exact h.1, fun k' => ?_⟩
  by_cases hk : k' = k
  · subst hk
    by_cases hkey : k' ∈ g.keys
    · rw [Graph.get_modify_self f hkey]
      exact hf _ (h.2 k')
    · rw [Graph.modify_not_key f hkey]
      exact h.2 k'
  · rw [Graph.get_modify_ne f hk]
    exact h.2 k'

/-! ### building the graph -/

theorem Graph.keys_addEdge (k v : String) :
    ∀ g : Graph, (g.addEdge k v).keys = if k ∈ g.keys then g.keys else g.keys ++ [k]
  | [] => by simp [Graph.addEdge, Graph.keys]
  | (k₀, vs) :: rest => by
    simp only [Graph.addEdge]
    split
    · rename_i hk
      have hk : k₀ = k := by simpa using hk
      subst hk
      simp [Graph.keys]
    · rename_i hk
      have hk : k₀ ≠ k := by simpa using hk
      have ih := Graph.keys_addEdge k v rest
      simp only [Graph.keys, List.map_cons, List.mem_cons] at ih ⊢
      rw [ih]
      by_cases hm : k ∈ List.map (fun x => x.1) rest
      · simp [hm]
      · simp [hm, Ne.symm hk]

theorem Graph.get_addEdge (k v k' : String) :
    ∀ g : Graph, (g.addEdge k v).get k' = if k' = k then insertS (g.get k) v else g.get k'
  | [] => by
    simp only [Graph.addEdge, Graph.get_cons]
    by_cases h : k' = k
    · simp [h, Graph.get, insertS]
    · simp [h, Graph.get]
  | (k₀, vs) :: rest => by
    simp only [Graph.addEdge]
    split
    · rename_i hk
      have hk : k₀ = k := by simpa using hk
      subst hk
      simp only [Graph.get_cons]
      by_cases h : k' = k₀ <;> simp [h]
    · rename_i hk
      have hk : k₀ ≠ k := by simpa using hk
      simp only [Graph.get_cons, Graph.get_addEdge k v k' rest]
      by_cases h : k' = k
      · subst h
        simp [Ne.symm hk]
      · simp [h]

theorem Graph.WF.addEdge {g : Graph} (h : g.WF) (k v : String) : (g.addEdge k v).WF := by
  constructor
  · rw [Graph.keys_addEdge]
    split
    · exact h.1
    · rename_i hk
      rw [List.nodup_append]
      refine ⟨h.1, by simp, ?_⟩
      intro a ha b hb
      simp only [List.mem_singleton] at hb
      subst hb
      rintro rfl
      exact hk ha
  · intro k'
    rw [Graph.get_addEdge]
    split
    · exact nodup_insertS _ (h.2 k)
    · exact h.2 k'

theorem foldDeps_spec (id : String) : ∀ (ds : List String) (g : Graph), g.WF →
    (ds.foldl (fun g d => g.addEdge id d) g).WF ∧
    ∀ k x, x ∈ (ds.foldl (fun g d => g.addEdge id d) g).get k ↔ (x ∈ g.get k ∨ (k = id ∧ x ∈ ds))
  | [], g, h => ⟨h, by simp⟩
  | d :: ds, g, h => by
    obtain ⟨hwf, hmem⟩ := foldDeps_spec id ds (g.addEdge id d) (h.addEdge id d)
    refine ⟨hwf, fun k x => ?_⟩
    simp only [List.foldl_cons]
    rw [hmem k x, Graph.get_addEdge]
    by_cases hk : k = id
    · subst hk
      simp [mem_insertS, or_assoc]
    · simp [hk]

theorem buildGraph_aux : ∀ (ss : List Stmt) (g : Graph), g.WF →
    (ss.foldl (fun g s => s.dependsOn.foldl (fun g d => g.addEdge s.id d) g) g).WF ∧
    ∀ k x, x ∈ (ss.foldl (fun g s => s.dependsOn.foldl (fun g d => g.addEdge s.id d) g) g).get k ↔
      (x ∈ g.get k ∨ ∃ s ∈ ss, s.id = k ∧ x ∈ s.dependsOn)
  | [], g, h => ⟨h, by simp⟩
  | s :: ss, g, h => by
    obtain ⟨hwf1, hmem1⟩ := foldDeps_spec s.id s.dependsOn g h
    obtain ⟨hwf, hmem⟩ := buildGraph_aux ss _ hwf1
    refine ⟨hwf, fun k x => ?_⟩
    simp only [List.foldl_cons]
    rw [hmem k x, hmem1 k x]
    simp [or_assoc, eq_comm]

theorem buildGraph_spec (ss : List Stmt) :
    (buildGraph ss).WF ∧
    ∀ k x, x ∈ (buildGraph ss).get k ↔ ∃ s ∈ ss, s.id = k ∧ x ∈ s.dependsOn := by
  have hwf0 : Graph.WF [] := ⟨List.nodup_nil, fun _ => List.nodup_nil⟩
  obtain ⟨hwf, hmem⟩ := buildGraph_aux ss [] hwf0
  refine ⟨hwf, fun k x => ?_⟩
  unfold buildGraph
  rw [hmem k x]
  simp [Graph.get]

/-! ### the closure loop -/

/-- the edge relation of a graph -/
def Graph.E (g : Graph) (a b : String) : Prop := b ∈ g.get a

section closure
variable (g₀ : Graph)

/-- every edge is a path of the original graph -/
def Sound (g : Graph) : Prop := ∀ k x, x ∈ g.get k → Relation.TransGen g₀.E k x

theorem closeInner_spec (s1 : String) : ∀ (l : List String) (g : Graph), s1 ∈ g.keys →
    ((closeInner g s1 l).1.keys = g.keys) ∧
    (g.WF → (closeInner g s1 l).1.WF) ∧
    (∀ k x, x ∈ g.get k → x ∈ (closeInner g s1 l).1.get k) ∧
    (Sound g₀ g → (∀ x ∈ l, Relation.TransGen g₀.E s1 x) → Sound g₀ (closeInner g s1 l).1) ∧
    ((closeInner g s1 l).2 = false → (closeInner g s1 l).1 = g ∧ ∀ x ∈ l, x ∈ g.get s1)
  | [], g, _ => by simp [closeInner]
  | s3 :: rest, g, hk => by
    by_cases h3 : s3 ∈ g.get s1
    · obtain ⟨i1, i2, i3, i4, i5⟩ := closeInner_spec s1 rest g hk
      simp only [closeInner, h3, if_true]
      refine ⟨i1, i2, i3, fun hs hl => i4 hs (fun x hx => hl x (List.mem_cons_of_mem _ hx)), ?_⟩
      intro hf
      obtain ⟨e, hall⟩ := i5 hf
      refine ⟨e, fun x hx => ?_⟩
      rcases List.mem_cons.1 hx with rfl | hx
      · exact h3
      · exact hall x hx
    · have hk' : s1 ∈ (g.modify s1 (fun vs => insertS vs s3)).keys := by
        rw [Graph.keys_modify]; exact hk
      obtain ⟨i1, i2, i3, i4, _⟩ := closeInner_spec s1 rest _ hk'
      simp only [closeInner, h3, if_false]
      have hmono : ∀ k x, x ∈ g.get k → x ∈ (g.modify s1 (fun vs => insertS vs s3)).get k := by
        intro k x hx
        by_cases hks : k = s1
        · subst hks
          rw [Graph.get_modify_self _ hk, mem_insertS]
          exact Or.inl hx
        · rw [Graph.get_modify_ne _ hks]
          exact hx
      refine ⟨by rw [i1, Graph.keys_modify], fun hwf => i2 (hwf.modify s1 (fun vs h => nodup_insertS _ h)),
        fun k x hx => i3 k x (hmono k x hx), ?_, by simp⟩
      intro hs hl
      refine i4 ?_ (fun x hx => hl x (List.mem_cons_of_mem _ hx))
      intro k x hx
      by_cases hks : k = s1
      · subst hks
        rw [Graph.get_modify_self _ hk, mem_insertS] at hx
        rcases hx with hx | rfl
        · exact hs _ _ hx
        · exact hl _ (List.mem_cons_self ..)
      · rw [Graph.get_modify_ne _ hks] at hx
        exact hs _ _ hx

theorem closeMid_spec (s1 : String) : ∀ (l2 : List String) (g : Graph), s1 ∈ g.keys →
    ((closeMid g s1 l2).1.keys = g.keys) ∧
    (g.WF → (closeMid g s1 l2).1.WF) ∧
    (∀ k x, x ∈ g.get k → x ∈ (closeMid g s1 l2).1.get k) ∧
    (Sound g₀ g → (∀ x ∈ l2, Relation.TransGen g₀.E s1 x) → Sound g₀ (closeMid g s1 l2).1) ∧
    ((closeMid g s1 l2).2 = false →
      (closeMid g s1 l2).1 = g ∧ ∀ s2 ∈ l2, ∀ s3 ∈ g.get s2, s3 ∈ g.get s1)
  | [], g, _ => by simp [closeMid]
  | s2 :: rest, g, hk => by
    obtain ⟨a1, a2, a3, a4, a5⟩ := closeInner_spec g₀ s1 (g.get s2) g hk
    have hk' : s1 ∈ (closeInner g s1 (g.get s2)).1.keys := by rw [a1]; exact hk
    obtain ⟨b1, b2, b3, b4, b5⟩ := closeMid_spec s1 rest _ hk'
    simp only [closeMid]
    refine ⟨by rw [b1, a1], fun h => b2 (a2 h), fun k x hx => b3 k x (a3 k x hx), ?_, ?_⟩
    · intro hs hl
      refine b4 (a4 hs ?_) (fun x hx => hl x (List.mem_cons_of_mem _ hx))
      intro x hx
      exact (hl s2 (List.mem_cons_self ..)).trans (hs _ _ hx)
    · intro hf
      simp only [Bool.or_eq_false_iff] at hf
      obtain ⟨e1, hall1⟩ := a5 hf.1
      rw [e1] at b5
      obtain ⟨e2, hall2⟩ := b5 (e1 ▸ hf.2)
      refine ⟨by rw [e1]; exact e2, fun s2' hs2' => ?_⟩
      rcases List.mem_cons.1 hs2' with rfl | hs2'
      · exact hall1
      · exact hall2 s2' hs2'

theorem closeOuter_spec : ∀ (ks : List String) (g : Graph), (∀ k ∈ ks, k ∈ g.keys) →
    ((closeOuter g ks).1.keys = g.keys) ∧
    (g.WF → (closeOuter g ks).1.WF) ∧
    (∀ k x, x ∈ g.get k → x ∈ (closeOuter g ks).1.get k) ∧
    (Sound g₀ g → Sound g₀ (closeOuter g ks).1) ∧
    ((closeOuter g ks).2 = false →
      (closeOuter g ks).1 = g ∧ ∀ s1 ∈ ks, ∀ s2 ∈ g.get s1, ∀ s3 ∈ g.get s2, s3 ∈ g.get s1)
  | [], g, _ => by simp [closeOuter]
  | s1 :: rest, g, hk => by
    have hk1 := hk s1 (List.mem_cons_self ..)
    obtain ⟨a1, a2, a3, a4, a5⟩ := closeMid_spec g₀ s1 (g.get s1) g hk1
    have hk' : ∀ k ∈ rest, k ∈ (closeMid g s1 (g.get s1)).1.keys := by
      intro k hkr
      rw [a1]
      exact hk k (List.mem_cons_of_mem _ hkr)
    obtain ⟨b1, b2, b3, b4, b5⟩ := closeOuter_spec rest _ hk'
    simp only [closeOuter]
    refine ⟨by rw [b1, a1], fun h => b2 (a2 h), fun k x hx => b3 k x (a3 k x hx), ?_, ?_⟩
    · intro hs
      exact b4 (a4 hs (fun x hx => hs _ _ hx))
    · intro hf
      simp only [Bool.or_eq_false_iff] at hf
      obtain ⟨e1, hall1⟩ := a5 hf.1
      rw [e1] at b5
      obtain ⟨e2, hall2⟩ := b5 (e1 ▸ hf.2)
      refine ⟨by rw [e1]; exact e2, fun s1' hs1' => ?_⟩
      rcases List.mem_cons.1 hs1' with rfl | hs1'
      · exact hall1
      · exact hall2 s1' hs1'

theorem closure_spec : ∀ (fuel : Nat) (g g' : Graph), closure fuel g = some g' →
    g'.keys = g.keys ∧ (g.WF → g'.WF) ∧ (∀ k x, x ∈ g.get k → x ∈ g'.get k) ∧
    (Sound g₀ g → Sound g₀ g') ∧
    (∀ a b c, b ∈ g'.get a → c ∈ g'.get b → c ∈ g'.get a)
  | 0, g, g', h => by simp [closure] at h
  | fuel + 1, g, g', h => by
    obtain ⟨a1, a2, a3, a4, a5⟩ := closeOuter_spec g₀ g.keys g (fun k hk => hk)
    simp only [closure] at h
    split at h
    · obtain ⟨b1, b2, b3, b4, b5⟩ := closure_spec fuel _ g' h
      exact ⟨by rw [b1, a1], fun hw => b2 (a2 hw), fun k x hx => b3 k x (a3 k x hx),
        fun hs => b4 (a4 hs), b5⟩
    · rename_i hch
      cases h
      have hch : (closeOuter g g.keys).2 = false := by simpa using hch
      obtain ⟨e, hall⟩ := a5 hch
      refine ⟨a1, a2, a3, a4, ?_⟩
      rw [e]
      intro a b c hab hbc
      exact hall a (Graph.key_of_mem_get hab) b hab c hbc

end closure

/-- the closure loop computes the transitive closure of the edge relation -/
theorem closure_transGen {fuel : Nat} {g g' : Graph} (h : closure fuel g = some g') :
    ∀ a b, b ∈ g'.get a ↔ Relation.TransGen g.E a b := by
  obtain ⟨-, -, hmono, hsound, htrans⟩ := closure_spec g fuel g g' h
  intro a b
  constructor
  · exact hsound (fun k x hx => .single hx) a b
  · intro hp
    induction hp with
    | single hab => exact hmono _ _ hab
    | tail _ hbc ih => exact htrans _ _ _ ih (hmono _ _ hbc)

/-! ### the reduction loop -/

theorem reduceInner_spec (s1 : String) : ∀ (l : List String) (g : Graph),
    (reduceInner g s1 l).keys = g.keys ∧
    (∀ k, k ≠ s1 → (reduceInner g s1 l).get k = g.get k) ∧
    (reduceInner g s1 l).get s1 = (g.get s1).filter (fun v => !(decide (v ∈ l)))
  | [], g => by simp [reduceInner]
  | s3 :: rest, g => by
    by_cases h3 : s3 ∈ g.get s1
    · have hk := Graph.key_of_mem_get h3
      obtain ⟨i1, i2, i3⟩ := reduceInner_spec s1 rest (g.modify s1 (fun vs => vs.filter (fun v => v != s3)))
      simp only [reduceInner, h3, if_true]
      refine ⟨by rw [i1, Graph.keys_modify], fun k hks => by rw [i2 k hks, Graph.get_modify_ne _ hks], ?_⟩
      rw [i3, Graph.get_modify_self _ hk, List.filter_filter]
      apply List.filter_congr
      intro v _
      by_cases hv : v = s3 <;> simp [hv]
    · obtain ⟨i1, i2, i3⟩ := reduceInner_spec s1 rest g
      simp only [reduceInner, h3, if_false]
      refine ⟨i1, i2, ?_⟩
      rw [i3]
      apply List.filter_congr
      intro v hv
      have : v ≠ s3 := by rintro rfl; exact h3 hv
      simp [this]

theorem reduceMid_spec (s1 : String) : ∀ (l2 : List String) (g : Graph), s1 ∉ l2 →
    (reduceMid g s1 l2).keys = g.keys ∧
    (∀ k, k ≠ s1 → (reduceMid g s1 l2).get k = g.get k) ∧
    (reduceMid g s1 l2).get s1 =
      (g.get s1).filter (fun v => l2.all (fun s2 => !(decide (v ∈ g.get s2))))
  | [], g, _ => by simp [reduceMid]
  | s2 :: rest, g, h => by
    simp only [List.mem_cons, not_or] at h
    obtain ⟨a1, a2, a3⟩ := reduceInner_spec s1 (g.get s2) g
    obtain ⟨b1, b2, b3⟩ := reduceMid_spec s1 rest (reduceInner g s1 (g.get s2)) h.2
    simp only [reduceMid]
    refine ⟨by rw [b1, a1], fun k hk => by rw [b2 k hk, a2 k hk], ?_⟩
    rw [b3, a3, List.filter_filter]
    apply List.filter_congr
    intro v _
    simp only [List.all_cons]
    have hrest : ∀ s2' ∈ rest, (reduceInner g s1 (g.get s2)).get s2' = g.get s2' :=
      fun s2' hs2' => a2 s2' (by rintro rfl; exact h.2 hs2')
    have : (rest.all fun s2' => !decide (v ∈ (reduceInner g s1 (g.get s2)).get s2')) =
        (rest.all fun s2' => !decide (v ∈ g.get s2')) := by
      rw [Bool.eq_iff_iff]
      simp only [List.all_eq_true]
      constructor
      · intro hh s2' hs2'
        rw [← hrest s2' hs2']
        exact hh s2' hs2'
      · intro hh s2' hs2'
        rw [hrest s2' hs2']
        exact hh s2' hs2'
    rw [this, Bool.and_comm]

/-- `a → b` is an edge of the closed relation with nothing strictly between -/
def Cover (C : Graph) (a b : String) : Prop := b ∈ C.get a ∧ ¬ ∃ m, m ∈ C.get a ∧ b ∈ C.get m

section reduction
variable {C : Graph} (htrans : ∀ a b c, b ∈ C.get a → c ∈ C.get b → c ∈ C.get a)
  (hirr : ∀ a, a ∉ C.get a)
include htrans hirr

/-- in a finite transitive irreflexive relation every edge `m → x` ends in a covering edge
`w → x` with `w = m` or `m → w` -/
theorem exists_cover (x : String) : ∀ m, x ∈ C.get m →
    ∃ w, (w = m ∨ w ∈ C.get m) ∧ Cover C w x := by
  intro m
  -- induction on the number of nodes strictly between `m` and `x`
  generalize hn : ((C.get m).filter (fun y => decide (x ∈ C.get y))).toFinset.card = n
  induction n using Nat.strong_induction_on generalizing m with
  | _ n ih =>
    intro hmx
    by_cases hc : ∃ m', m' ∈ C.get m ∧ x ∈ C.get m'
    · obtain ⟨m', hm', hm'x⟩ := hc
      have hlt : ((C.get m').filter (fun y => decide (x ∈ C.get y))).toFinset.card < n := by
        rw [← hn]
        apply Finset.card_lt_card
        rw [Finset.ssubset_iff_of_subset]
        · refine ⟨m', ?_, ?_⟩
          · simp only [List.mem_toFinset, List.mem_filter, decide_eq_true_eq]
            exact ⟨hm', hm'x⟩
          · simp only [List.mem_toFinset, List.mem_filter, decide_eq_true_eq, not_and]
            intro h
            exact absurd h (hirr m')
        · intro y
          simp only [List.mem_toFinset, List.mem_filter, decide_eq_true_eq]
          rintro ⟨h1, h2⟩
          exact ⟨htrans _ _ _ hm' h1, h2⟩
      obtain ⟨w, hw, hcov⟩ := ih _ hlt m' rfl hm'x
      refine ⟨w, Or.inr ?_, hcov⟩
      rcases hw with rfl | hw
      · exact hm'
      · exact htrans _ _ _ hm' hw
    · exact ⟨m, Or.inl rfl, hmx, hc⟩

theorem reduceOuter_spec : ∀ (ks : List String) (g : Graph), ks.Nodup → g.keys = C.keys →
    (∀ k ∈ ks, g.get k = C.get k) → (∀ k, k ∉ ks → ∀ x, x ∈ g.get k ↔ Cover C k x) →
    (reduceOuter g ks).keys = C.keys ∧ ∀ k x, x ∈ (reduceOuter g ks).get k ↔ Cover C k x
  | [], g, _, hkeys, _, hb => ⟨hkeys, fun k x => hb k (by simp) x⟩
  | s1 :: rest, g, hnd, hkeys, ha, hb => by
    have hnd' := List.nodup_cons.1 hnd
    have hs1 : s1 ∉ g.get s1 := by
      rw [ha s1 (List.mem_cons_self ..)]
      exact hirr s1
    obtain ⟨a1, a2, a3⟩ := reduceMid_spec s1 (g.get s1) g hs1
    simp only [reduceOuter]
    have hsub : ∀ k x, x ∈ g.get k → x ∈ C.get k := by
      intro k x hx
      by_cases hk : k ∈ s1 :: rest
      · rw [← ha k hk]; exact hx
      · exact ((hb k hk x).1 hx).1
    apply reduceOuter_spec rest _ hnd'.2 (by rw [a1, hkeys])
    · intro k hk
      have : k ≠ s1 := by rintro rfl; exact hnd'.1 hk
      rw [a2 k this]
      exact ha k (List.mem_cons_of_mem _ hk)
    · intro k hk x
      by_cases hks : k = s1
      · subst hks
        rw [a3, List.mem_filter, ha k (List.mem_cons_self ..)]
        simp only [List.all_eq_true, Bool.not_eq_true', decide_eq_false_iff_not]
        constructor
        · rintro ⟨hx, hall⟩
          refine ⟨hx, ?_⟩
          rintro ⟨m, hm, hmx⟩
          obtain ⟨w, hw, hcov⟩ := exists_cover htrans hirr x m hmx
          have hwk : w ∈ C.get k := by
            rcases hw with rfl | hw
            · exact hm
            · exact htrans _ _ _ hm hw
          have hxw : x ∈ g.get w := by
            by_cases hwks : w ∈ k :: rest
            · rw [ha w hwks]
              exact hcov.1
            · exact (hb w hwks x).2 hcov
          exact hall w hwk hxw
        · rintro ⟨hx, hno⟩
          refine ⟨hx, fun s2 hs2 hxs2 => hno ⟨s2, hs2, hsub _ _ hxs2⟩⟩
      · rw [a2 k hks]
        have : k ∉ s1 :: rest := by
          simp only [List.mem_cons, not_or]
          exact ⟨hks, hk⟩
        exact hb k this x


/-- every edge of the closed relation is a path of covering edges: the reduction keeps
reachability -/
theorem cover_transGen (x : String) : ∀ a, x ∈ C.get a → Relation.TransGen (Cover C) a x := by
  intro a
  -- the same measure: the number of nodes strictly between `a` and `x`
  generalize hn : ((C.get a).filter (fun y => decide (x ∈ C.get y))).toFinset.card = n
  induction n using Nat.strong_induction_on generalizing x with
  | _ n ih =>
    intro hax
    obtain ⟨w, hw, hcov⟩ := exists_cover htrans hirr x a hax
    rcases hw with rfl | hw
    · exact .single hcov
    · have hlt : ((C.get a).filter (fun y => decide (w ∈ C.get y))).toFinset.card < n := by
        rw [← hn]
        apply Finset.card_lt_card
        rw [Finset.ssubset_iff_of_subset]
        · refine ⟨w, ?_, ?_⟩
          · simp only [List.mem_toFinset, List.mem_filter, decide_eq_true_eq]
            exact ⟨hw, hcov.1⟩
          · simp only [List.mem_toFinset, List.mem_filter, decide_eq_true_eq, not_and]
            intro _
            exact hirr w
        · intro y
          simp only [List.mem_toFinset, List.mem_filter, decide_eq_true_eq]
          rintro ⟨h1, h2⟩
          exact ⟨h1, htrans _ _ _ h2 hcov.1⟩
      exact .tail (ih _ hlt w rfl hw) hcov

omit hirr in
/-- a relation inside the closed relation whose paths reach everything the closed relation
reaches contains every covering edge: the covering edges are the LEAST such relation -/
theorem cover_least (R' : String → String → Prop) (hsub : ∀ a b, R' a b → b ∈ C.get a)
    (hreach : ∀ a b, b ∈ C.get a → Relation.TransGen R' a b) {a b : String} (h : Cover C a b) :
    R' a b := by
  have hpath : ∀ {u v}, Relation.TransGen R' u v → v ∈ C.get u := by
    intro u v hp
    induction hp with
    | single h => exact hsub _ _ h
    | tail _ h ih => exact htrans _ _ _ ih (hsub _ _ h)
  cases hreach a b h.1 with
  | single h' => exact h'
  | tail hp h' => exact absurd ⟨_, hpath hp, hsub _ _ h'⟩ h.2

/-- on a transitively closed, irreflexive graph the reduction loop leaves exactly the covering
edges -/
theorem reduce_spec (hnd : C.keys.Nodup) :
    (reduce C).keys = C.keys ∧ ∀ k x, x ∈ (reduce C).get k ↔ Cover C k x := by
  unfold reduce
  apply reduceOuter_spec htrans hirr C.keys C hnd rfl (fun _ _ => rfl)
  intro k hk x
  rw [Graph.get_of_not_key hk]
  constructor
  · intro h; cases h
  · rintro ⟨h, -⟩
    rw [Graph.get_of_not_key hk] at h
    cases h

end reduction

/-- the drawn edges are the entries of the rows (keys are distinct) -/
theorem mem_edges {g : Graph} (hnd : g.keys.Nodup) (a b : String) :
    (a, b) ∈ g.edges ↔ b ∈ g.get a := by
  induction g with
  | nil => simp [Graph.edges, Graph.get]
  | cons kv rest ih =>
    obtain ⟨k, vs⟩ := kv
    simp only [Graph.keys, List.map_cons, List.nodup_cons] at hnd
    have ih := ih hnd.2
    have hcons : (a, b) ∈ Graph.edges ((k, vs) :: rest) ↔
        ((a = k ∧ b ∈ vs) ∨ (a, b) ∈ Graph.edges rest) := by
      simp only [Graph.edges, List.flatMap_cons, List.mem_append, List.mem_map, Prod.mk.injEq]
      constructor
      · rintro (⟨v, hv, h1, h2⟩ | h)
        · exact Or.inl ⟨h1.symm, h2 ▸ hv⟩
        · exact Or.inr h
      · rintro (⟨h1, h2⟩ | h)
        · exact Or.inl ⟨b, h2, h1.symm, rfl⟩
        · exact Or.inr h
    rw [hcons, ih, Graph.get_cons]
    by_cases hak : a = k
    · subst hak
      rw [if_pos rfl]
      constructor
      · rintro (⟨-, h⟩ | h)
        · exact h
        · exact absurd (Graph.key_of_mem_get h) hnd.1
      · exact fun h => Or.inl ⟨rfl, h⟩
    · rw [if_neg hak]
      constructor
      · rintro (⟨h, -⟩ | h)
        · exact absurd h hak
        · exact h
      · exact Or.inr

/-! ### duplicate-freeness of the drawn edges -/

theorem reduceInner_WF (s1 : String) : ∀ (l : List String) (g : Graph), g.WF → (reduceInner g s1 l).WF
  | [], _, h => h
  | s3 :: rest, g, h => by
    simp only [reduceInner]
    split
    · exact reduceInner_WF s1 rest _ (h.modify s1 (fun vs hv => hv.filter _))
    · exact reduceInner_WF s1 rest g h

theorem reduceMid_WF (s1 : String) : ∀ (l2 : List String) (g : Graph), g.WF → (reduceMid g s1 l2).WF
  | [], _, h => h
  | _ :: rest, g, h => reduceMid_WF s1 rest _ (reduceInner_WF s1 _ g h)

theorem reduceOuter_WF : ∀ (ks : List String) (g : Graph), g.WF → (reduceOuter g ks).WF
  | [], _, h => h
  | s1 :: rest, g, h => reduceOuter_WF rest _ (reduceMid_WF s1 _ g h)

theorem reduce_WF {g : Graph} (h : g.WF) : (reduce g).WF := reduceOuter_WF _ g h

theorem edges_nodup : ∀ {g : Graph}, g.WF → g.edges.Nodup
  | [], _ => by simp [Graph.edges]
  | (k, vs) :: rest, h => by
    have hk : k ∉ Graph.keys rest ∧ (Graph.keys rest).Nodup := by
      simpa [Graph.keys] using h.1
    have hrest := h.tail
    have hvs : vs.Nodup := by
      have := h.2 k
      rwa [Graph.get_cons, if_pos rfl] at this
    have ih := edges_nodup hrest
    have hcons : Graph.edges ((k, vs) :: rest) = vs.map (fun v => (k, v)) ++ Graph.edges rest := by
      simp [Graph.edges]
    rw [hcons, List.nodup_append]
    refine ⟨?_, ih, ?_⟩
    · exact List.Nodup.map (fun _ _ h => (Prod.mk.inj h).2) hvs
    · intro p hp q hq hpq
      subst hpq
      obtain ⟨v, -, rfl⟩ := List.mem_map.1 hp
      exact hk.1 (Graph.key_of_mem_get ((mem_edges hk.2 k v).1 hq))

/-! ### the closure loop reaches its fixed point within the fuel -/

/-- total number of stored edges -/
def Graph.size (g : Graph) : Nat := (g.map (fun kv => kv.2.length)).sum

theorem Graph.size_modify {k : String} (f : List String → List String) :
    ∀ {g : Graph}, k ∈ g.keys →
      (g.modify k f).size + (g.get k).length = g.size + (f (g.get k)).length
  | [], h => by cases h
  | (k₀, vs) :: rest, h => by
    simp only [Graph.modify]
    split
    · rename_i hk
      have hk : k₀ = k := by simpa using hk
      subst hk
      simp only [Graph.size, List.map_cons, List.sum_cons, Graph.get_cons, if_true]
      omega
    · rename_i hk
      have hk : k₀ ≠ k := by simpa using hk
      simp only [Graph.keys, List.map_cons, List.mem_cons] at h
      rcases h with h | h
      · exact absurd h.symm hk
      · have ih := Graph.size_modify f h
        simp only [Graph.size, List.map_cons, List.sum_cons, Graph.get_cons,
          if_neg (Ne.symm hk)] at ih ⊢
        omega

theorem closeInner_size (s1 : String) : ∀ (l : List String) (g : Graph), s1 ∈ g.keys →
    g.size ≤ (closeInner g s1 l).1.size ∧
    ((closeInner g s1 l).2 = true → g.size < (closeInner g s1 l).1.size)
  | [], g, _ => by simp [closeInner]
  | s3 :: rest, g, hk => by
    by_cases h3 : s3 ∈ g.get s1
    · simp only [closeInner, h3, if_true]
      exact closeInner_size s1 rest g hk
    · have hk' : s1 ∈ (g.modify s1 (fun vs => insertS vs s3)).keys := by
        rw [Graph.keys_modify]; exact hk
      obtain ⟨i1, _⟩ := closeInner_size s1 rest _ hk'
      have hsz := Graph.size_modify (fun vs => insertS vs s3) hk
      have hlen : (insertS (g.get s1) s3).length = (g.get s1).length + 1 := by
        simp [insertS, h3]
      simp only [closeInner, h3, if_false]
      constructor
      · omega
      · intro _; omega

theorem closeMid_size (s1 : String) : ∀ (l2 : List String) (g : Graph), s1 ∈ g.keys →
    g.size ≤ (closeMid g s1 l2).1.size ∧
    ((closeMid g s1 l2).2 = true → g.size < (closeMid g s1 l2).1.size)
  | [], g, _ => by simp [closeMid]
  | s2 :: rest, g, hk => by
    obtain ⟨a1, a2⟩ := closeInner_size s1 (g.get s2) g hk
    have hk' : s1 ∈ (closeInner g s1 (g.get s2)).1.keys := by
      rw [(closeInner_spec g s1 (g.get s2) g hk).1]; exact hk
    obtain ⟨b1, b2⟩ := closeMid_size s1 rest _ hk'
    simp only [closeMid]
    refine ⟨by omega, fun h => ?_⟩
    simp only [Bool.or_eq_true] at h
    rcases h with h | h
    · have := a2 h; omega
    · have := b2 h; omega

theorem closeOuter_size : ∀ (ks : List String) (g : Graph), (∀ k ∈ ks, k ∈ g.keys) →
    g.size ≤ (closeOuter g ks).1.size ∧
    ((closeOuter g ks).2 = true → g.size < (closeOuter g ks).1.size)
  | [], g, _ => by simp [closeOuter]
  | s1 :: rest, g, hk => by
    have hk1 := hk s1 (List.mem_cons_self ..)
    obtain ⟨a1, a2⟩ := closeMid_size s1 (g.get s1) g hk1
    have hk' : ∀ k ∈ rest, k ∈ (closeMid g s1 (g.get s1)).1.keys := by
      intro k hkr
      rw [(closeMid_spec g s1 (g.get s1) g hk1).1]
      exact hk k (List.mem_cons_of_mem _ hkr)
    obtain ⟨b1, b2⟩ := closeOuter_size rest _ hk'
    simp only [closeOuter]
    refine ⟨by omega, fun h => ?_⟩
    simp only [Bool.or_eq_true] at h
    rcases h with h | h
    · have := a2 h; omega
    · have := b2 h; omega

theorem Graph.size_le {U : List String} :
    ∀ {g : Graph}, g.WF → (∀ k x, x ∈ g.get k → x ∈ U) → g.size ≤ g.keys.length * U.length
  | [], _, _ => by simp [Graph.size]
  | (k, vs) :: rest, h, hU => by
    have hk : k ∉ Graph.keys rest ∧ (Graph.keys rest).Nodup := by
      simpa [Graph.keys] using h.1
    have hget : ∀ k', k' ≠ k → Graph.get ((k, vs) :: rest) k' = Graph.get rest k' := by
      intro k' hkk
      rw [Graph.get_cons, if_neg hkk]
    have hrest := h.tail
    have hUrest : ∀ k' x, x ∈ Graph.get rest k' → x ∈ U := by
      intro k' x hx
      have hkk : k' ≠ k := by
        rintro rfl
        exact hk.1 (Graph.key_of_mem_get hx)
      exact hU k' x (by rw [hget k' hkk]; exact hx)
    have ih := Graph.size_le hrest hUrest
    have hvs : vs.Nodup := by
      have := h.2 k
      rwa [Graph.get_cons, if_pos rfl] at this
    have hsub : vs ⊆ U := by
      intro x hx
      exact hU k x (by rw [Graph.get_cons, if_pos rfl]; exact hx)
    have hlen : vs.length ≤ U.length := (hvs.subperm hsub).length_le
    simp only [Graph.size, Graph.keys, List.map_cons, List.sum_cons, List.length_cons,
      List.length_map] at ih ⊢
    rw [Nat.succ_mul]
    omega

/-- with `fuel + (edges stored) > keys × universe` the closure loop terminates normally -/
theorem closure_total (g₀ : Graph) {U : List String} (hU : ∀ k x, x ∈ g₀.get k → x ∈ U) :
    ∀ (fuel : Nat) (g : Graph), g.WF → Sound g₀ g → g.keys = g₀.keys →
      fuel + g.size > g₀.keys.length * U.length → ∃ g', closure fuel g = some g' := by
  have hbound : ∀ g : Graph, g.WF → Sound g₀ g → g.keys = g₀.keys →
      g.size ≤ g₀.keys.length * U.length := by
    intro g hwf hs hk
    rw [← hk]
    apply Graph.size_le hwf
    intro k x hx
    have hp := hs k x hx
    cases hp with
    | single h => exact hU _ _ h
    | tail _ h => exact hU _ _ h
  intro fuel
  induction fuel with
  | zero =>
    intro g hwf hs hk hf
    have := hbound g hwf hs hk
    omega
  | succ fuel ih =>
    intro g hwf hs hk hf
    obtain ⟨a1, a2, _, a4, _⟩ := closeOuter_spec g₀ g.keys g (fun k hk => hk)
    obtain ⟨_, b2⟩ := closeOuter_size g.keys g (fun k hk => hk)
    simp only [closure]
    split
    · rename_i hch
      have := b2 hch
      exact ih _ (a2 hwf) (a4 hs) (by rw [a1, hk]) (by omega)
    · exact ⟨_, rfl⟩

theorem mem_flatMap_of_mem_get : ∀ {g : Graph} {k x : String}, x ∈ g.get k → x ∈ g.flatMap (·.2)
  | [], _, _, h => by cases h
  | (k₀, vs) :: rest, k, x, h => by
    rw [Graph.get_cons] at h
    simp only [List.flatMap_cons, List.mem_append]
    split at h
    · exact Or.inl h
    · exact Or.inr (mem_flatMap_of_mem_get h)

/-- the fuel the model supplies is enough: the dot export never reports `noFixpoint` -/
theorem closure_fuelFor {g : Graph} (hwf : g.WF) : ∃ g', closure (fuelFor g) g = some g' := by
  apply closure_total g (U := unionS g.keys (g.flatMap (·.2)))
    (fun k x hx => mem_unionS.2 (Or.inr (mem_flatMap_of_mem_get hx))) _ g hwf
    (fun k x hx => .single hx) rfl
  unfold fuelFor
  simp only
  omega

/-! ### plumbing for the export theorems -/

theorem transGen_congr {r r' : String → String → Prop} (h : ∀ a b, r a b ↔ r' a b) (a b : String) :
    Relation.TransGen r a b ↔ Relation.TransGen r' a b := by
  constructor <;> intro hp <;> induction hp with
  | single hab => first | exact .single ((h _ _).1 hab) | exact .single ((h _ _).2 hab)
  | tail _ hbc ih => first | exact .tail ih ((h _ _).1 hbc) | exact .tail ih ((h _ _).2 hbc)

theorem dotEdges_unfold {ss : List Stmt} {es : List (String × String)} (h : dotEdges ss = .ok es) :
    ∃ c, closure (fuelFor (buildGraph ss)) (buildGraph ss) = some c ∧ es = (reduce c).edges := by
  unfold dotEdges at h
  simp only at h
  split at h
  · cases h
  · rename_i c hc
    cases h
    exact ⟨c, hc, rfl⟩

end PV.Imp
