import PV.Proofs.MatchpyInj
/-
  C16, matchpy bridge: every term `toM` builds from a wildcard-free tree is well-formed and
  name-free (`MTerm.wf`), so the multiplicity law of `ToFromReplacement` applies to everything
  captured from a converted subject.
-/
namespace PV.Matchpy
open PV

/-- the specification of `MTerm.wf` -/
def W (t : MTerm) : Prop := ∃ e, fromM t = .ok e ∧ frag e = true ∧ toRaw e = t

mutual
theorem MTerm.beq_refl : ∀ t : MTerm, MTerm.beq t t = true
  | .scalar c v => by simp [MTerm.beq]
  | .id s v => by simp [MTerm.beq]
  | .cmpOp s v => by simp [MTerm.beq]
  | .wild k n => by simp [MTerm.beq]
  | .op o as v => by simp [MTerm.beq, MTerm.beqL_refl as]
theorem MTerm.beqL_refl : ∀ ts : List MTerm, MTerm.beqL ts ts = true
  | [] => rfl
  | t :: ts => by simp [MTerm.beqL, MTerm.beq_refl t, MTerm.beqL_refl ts]
end

theorem wf_of_W {t : MTerm} (h : W t) : t.wf = true := by
  obtain ⟨e, he, fe, re⟩ := h
  simp [MTerm.wf, he, fe, re, MTerm.beq_refl]

theorem W_of_wf {t : MTerm} (h : t.wf = true) : W t := MTerm.wf_spec h

theorem WL : ∀ {ts : List MTerm}, (∀ t ∈ ts, W t) →
    ∃ es, fromML ts = .ok es ∧ fragL es = true ∧ toRawL es = ts
  | [], _ => ⟨[], rfl, rfl, rfl⟩
  | t :: ts, h => by
    obtain ⟨e, he, fe, re⟩ := h t (by simp)
    obtain ⟨es, hes, fes, res⟩ := WL (ts := ts) (fun u hu => h u (List.mem_cons_of_mem _ hu))
    exact ⟨e :: es, fromML_cons_ok he hes, by simp [fragL, fe, fes], by simp [toRawL, re, res]⟩

theorem WL_elim : ∀ {ts : List MTerm} {es : List Expr}, fromML ts = .ok es → fragL es = true →
    toRawL es = ts → ∀ t ∈ ts, W t
  | [], _, _, _, _, t, ht => by cases ht
  | t :: ts, es, h, fes, res, u, hu => by
    obtain ⟨e, es', rfl, ht, hts⟩ := fromML_cons h
    simp only [fragL, Bool.and_eq_true] at fes
    simp only [toRawL, List.cons.injEq] at res
    rcases List.mem_cons.1 hu with rfl | hu'
    · exact ⟨e, ht, fes.1, res.1⟩
    · exact WL_elim hts fes.2 res.2 u hu'

theorem W_ac_intro {mo : MOp} {o : NaryOp} (hn : mo.nary? = some o) {ts : List MTerm}
    (h : ∀ t ∈ ts, W t) : W (.op mo ts none) := by
  obtain ⟨es, hes, fes, res⟩ := WL h
  refine ⟨.nary o es, by rw [fromM_ac hn, hes]; rfl, ?_, ?_⟩
  · simp [frag, nary?_mopOfNary hn, fes]
  · simp [toRaw, nary?_mopOfNary hn, res]

theorem W_ac_elim {mo : MOp} {o : NaryOp} (hn : mo.nary? = some o) {as : List MTerm}
    {vn : Option String} (h : W (.op mo as vn)) : ∀ a ∈ as, W a := by
  obtain ⟨e, he, fe, re⟩ := h
  rw [fromM_ac hn] at he
  cases hl : fromML as with
  | error err => simp [hl, Except.map] at he
  | ok as' =>
    simp [hl, Except.map] at he
    subst he
    simp only [frag, Bool.and_eq_true] at fe
    simp only [toRaw, nary?_mopOfNary hn, MTerm.op.injEq] at re
    exact WL_elim hl fe.2 re.2.1

theorem W_flatten {mo : MOp} {o : NaryOp} (hn : mo.nary? = some o) :
    ∀ {ts : List MTerm}, (∀ t ∈ ts, W t) → ∀ u ∈ flattenOps mo ts, W u
  | [], _, u, hu => by simp [flattenOps] at hu
  | t :: ts, h, u, hu => by
    have ih := W_flatten hn (ts := ts) (fun x hx => h x (List.mem_cons_of_mem _ hx))
    have keep : u ∈ t :: flattenOps mo ts → W u := by
      intro hu'
      rcases List.mem_cons.1 hu' with rfl | hu''
      · exact h u (by simp)
      · exact ih u hu''
    cases t with
    | op o' as vn =>
      by_cases ho : o' = mo
      · subst ho
        simp only [flattenOps, beq_self_eq_true, if_true, List.mem_append] at hu
        rcases hu with hu | hu
        · exact W_ac_elim hn (h (.op o' as vn) (List.mem_cons_self)) u hu
        · exact ih u hu
      · have : (o' == mo) = false := by simpa using ho
        simp only [flattenOps, this, Bool.false_eq_true, if_false] at hu
        exact keep hu
    | scalar c vn => exact keep (by simpa [flattenOps] using hu)
    | id s vn => exact keep (by simpa [flattenOps] using hu)
    | cmpOp s vn => exact keep (by simpa [flattenOps] using hu)
    | wild k n => exact keep (by simpa [flattenOps] using hu)

/-- every term `toM` builds from a wildcard-free tree satisfies `W` -/
theorem toM_W_aux : ∀ n : Nat,
    (∀ e : Expr, e.size ≤ n → ∀ t, toM e = .ok t → hasWild e = false → W t) ∧
    (∀ es : List Expr, Expr.sizeL es ≤ n → ∀ ts, toML es = .ok ts → hasWildL es = false →
      ∀ t ∈ ts, W t) := by
  intro n
  induction n with
  | zero =>
    refine ⟨fun e he => ?_, fun es hes ts h _ => ?_⟩
    · have := e.size_pos; omega
    · cases es with
      | nil =>
        simp [toML, pure, Except.pure] at h; subst h
        intro t ht; cases ht
      | cons c cs =>
        simp [Expr.sizeL] at hes
        have := c.size_pos; omega
  | succ n ih =>
    obtain ⟨ihE, ihL⟩ := ih
    have treeCase : ∀ e : Expr, e.size ≤ n + 1 → ∀ t, toM e = .ok t → hasWild e = false →
        W t := by
      intro e he t h hw
      cases e with
      | const c =>
        cases c <;> simp [toM, pure, Except.pure, throw, throwThe, MonadExceptOf.throw] at h <;>
          subst h <;> exact ⟨_, rfl, rfl, rfl⟩
      | var x =>
        simp [toM, pure, Except.pure] at h; subst h
        exact ⟨.var x, by rw [mk_plain (by rfl)]; rfl, rfl, by rw [mk_plain (by rfl)]; rfl⟩
      | nary o cs =>
        simp only [toM] at h
        cases hm : mopOfNary o with
        | none => simp [hm, throw, throwThe, MonadExceptOf.throw] at h
        | some mo =>
          simp only [hm] at h
          obtain ⟨ts, hts, h⟩ := MR.bind_ok h
          have := MR.pure_ok h; subst this
          simp only [hasWild] at hw
          simp only [Expr.size] at he
          have hall := ihL cs (by omega) ts hts hw
          have hn := mopOfNary_nary? hm
          rw [mk_ac (mopOfNary_isAC hm)]
          refine W_ac_intro hn (fun u hu => ?_)
          exact W_flatten hn hall u ((pySort_perm MTerm.lt _).mem_iff.1 hu)
      | bin o a b =>
        simp only [toM] at h
        obtain ⟨a', ha, h⟩ := MR.bind_ok h
        obtain ⟨b', hb, h⟩ := MR.bind_ok h
        have := MR.pure_ok h; subst this
        simp only [hasWild, Bool.or_eq_false_iff] at hw
        simp only [Expr.size] at he
        obtain ⟨ea, hfa, fa, ra⟩ := ihE a (by omega) a' ha hw.1
        obtain ⟨eb, hfb, fb, rb⟩ := ihE b (by omega) b' hb hw.2
        refine ⟨.bin o ea eb, ?_, by simp [frag, fa, fb], ?_⟩
        · cases o <;> rw [mk_plain (by rfl)] <;>
            simp [mopOfBin, fromM, hfa, hfb, bind, Except.bind, pure, Except.pure]
        · rw [mk_plain (by cases o <;> rfl)]; simp [toRaw, ra, rb]
      | un o a =>
        simp only [toM] at h
        obtain ⟨a', ha, h⟩ := MR.bind_ok h
        have := MR.pure_ok h; subst this
        simp only [hasWild] at hw
        simp only [Expr.size] at he
        obtain ⟨ea, hfa, fa, ra⟩ := ihE a (by omega) a' ha hw
        refine ⟨.un o ea, ?_, by simp [frag, fa], ?_⟩
        · cases o <;> rw [mk_plain (by rfl)] <;>
            simp [mopOfUn, fromM, hfa, bind, Except.bind, pure, Except.pure]
        · rw [mk_plain (by cases o <;> rfl)]; simp [toRaw, ra]
      | cmp o a b =>
        simp only [toM] at h
        obtain ⟨a', ha, h⟩ := MR.bind_ok h
        obtain ⟨b', hb, h⟩ := MR.bind_ok h
        have := MR.pure_ok h; subst this
        simp only [hasWild, Bool.or_eq_false_iff] at hw
        simp only [Expr.size] at he
        obtain ⟨ea, hfa, fa, ra⟩ := ihE a (by omega) a' ha hw.1
        obtain ⟨eb, hfb, fb, rb⟩ := ihE b (by omega) b' hb hw.2
        refine ⟨.cmp o ea eb, ?_, by simp [frag, fa, fb], ?_⟩
        · rw [mk_plain (by rfl)]
          simp [fromM, hfa, hfb, cmp_ofSym_sym, bind, Except.bind, pure, Except.pure]
        · rw [mk_plain (by rfl)]; simp [toRaw, ra, rb]
      | ite c x y =>
        simp only [toM] at h
        obtain ⟨c', hc, h⟩ := MR.bind_ok h
        obtain ⟨x', hx, h⟩ := MR.bind_ok h
        obtain ⟨y', hy, h⟩ := MR.bind_ok h
        have := MR.pure_ok h; subst this
        simp only [hasWild, Bool.or_eq_false_iff] at hw
        simp only [Expr.size] at he
        obtain ⟨ec, hfc, fc, rc⟩ := ihE c (by omega) c' hc hw.1.1
        obtain ⟨ex, hfx, fx, rx⟩ := ihE x (by omega) x' hx hw.1.2
        obtain ⟨ey, hfy, fy, ry⟩ := ihE y (by omega) y' hy hw.2
        refine ⟨.ite ec ex ey, ?_, by simp [frag, fc, fx, fy], ?_⟩
        · rw [mk_plain (by rfl)]
          simp [fromM, hfc, hfx, hfy, bind, Except.bind, pure, Except.pure]
        · rw [mk_plain (by rfl)]; simp [toRaw, rc, rx, ry]
      | call f as =>
        simp only [toM] at h
        obtain ⟨f', hf, h⟩ := MR.bind_ok h
        obtain ⟨as', has, h⟩ := MR.bind_ok h
        have := MR.pure_ok h; subst this
        simp only [hasWild, Bool.or_eq_false_iff] at hw
        simp only [Expr.size] at he
        obtain ⟨ef, hff, ff, rf⟩ := ihE f (by omega) f' hf hw.1
        obtain ⟨eas, hfas, fas, ras⟩ := WL (ihL as (by omega) as' has hw.2)
        refine ⟨.call ef eas, ?_, by simp [frag, ff, fas], ?_⟩
        · rw [mk_plain (by rfl), mk_plain (by rfl)]
          simp [fromM, hff, hfas, bind, Except.bind, pure, Except.pure]
        · rw [mk_plain (by rfl), mk_plain (by rfl)]; simp [toRaw, rf, ras]
      | subscript a i =>
        simp only [hasWild, Bool.or_eq_false_iff] at hw
        simp only [Expr.size] at he
        by_cases hi : ∃ cs, i = .tuple cs
        · obtain ⟨cs, rfl⟩ := hi
          simp only [toM] at h
          obtain ⟨a', ha, h⟩ := MR.bind_ok h
          obtain ⟨is', his, h⟩ := MR.bind_ok h
          have := MR.pure_ok h; subst this
          simp only [Expr.size] at he
          simp only [hasWild] at hw
          obtain ⟨ea, hfa, fa, ra⟩ := ihE a (by omega) a' ha hw.1
          obtain ⟨eis, hfis, fis, ris⟩ := WL (ihL cs (by omega) is' his hw.2)
          refine ⟨.subscript ea (.tuple eis), ?_, by simp [frag, fa, fis], ?_⟩
          · rw [mk_plain (by rfl), mk_plain (by rfl)]
            simp [fromM, hfa, hfis, bind, Except.bind, pure, Except.pure]
          · rw [mk_plain (by rfl), mk_plain (by rfl)]; simp [toRaw, ra, ris]
        · have hi' : ∀ cs, i ≠ .tuple cs := fun cs hc => hi ⟨cs, hc⟩
          have hto := toM_subscript_of_not_tuple (a := a) hi'
          rw [hto] at h
          obtain ⟨a', ha, h⟩ := MR.bind_ok h
          obtain ⟨i', hi2, h⟩ := MR.bind_ok h
          have := MR.pure_ok h; subst this
          obtain ⟨ea, hfa, fa, ra⟩ := ihE a (by omega) a' ha hw.1
          obtain ⟨ei, hfi, fi, ri⟩ := ihE i (by omega) i' hi2 hw.2
          refine ⟨.subscript ea (.tuple [ei]), ?_, by simp [frag, fragL, fa, fi], ?_⟩
          · rw [mk_plain (by rfl), mk_plain (by rfl)]
            simp [fromM, fromML, hfa, hfi, bind, Except.bind, pure, Except.pure]
          · rw [mk_plain (by rfl), mk_plain (by rfl)]; simp [toRaw, toRawL, ra, ri]
      | dotWild s => simp [hasWild] at hw
      | starWild s => simp [hasWild] at hw
      | _ => simp [toM, throw, throwThe, MonadExceptOf.throw] at h
    refine ⟨treeCase, fun es => ?_⟩
    induction es with
    | nil =>
      intro _ ts h _ t ht
      simp [toML, pure, Except.pure] at h; subst h; cases ht
    | cons c cs ihcs =>
      intro hs ts h hw t ht
      simp only [toML] at h
      obtain ⟨c', hc, h⟩ := MR.bind_ok h
      obtain ⟨cs', hcs, h⟩ := MR.bind_ok h
      have := MR.pure_ok h; subst this
      simp only [hasWildL, Bool.or_eq_false_iff] at hw
      simp only [Expr.sizeL] at hs
      rcases List.mem_cons.1 ht with rfl | ht'
      · exact treeCase c (by omega) _ hc hw.1
      · exact ihcs (by omega) cs' hcs hw.2 t ht'

/-- **a converted subject consists of well-formed name-free terms** -/
theorem toM_wf {e : Expr} {t : MTerm} (h : toM e = .ok t) (hw : hasWild e = false) :
    t.wf = true :=
  wf_of_W ((toM_W_aux e.size).1 e (Nat.le_refl _) t h hw)

end PV.Matchpy
