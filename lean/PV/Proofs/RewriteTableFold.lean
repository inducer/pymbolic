import PV.Proofs.RewriteTableBase
/-
  C11 (T-gen), part 3: the constant folders.  `ConstantFoldingMapperBase.fold` of the table,
  interpreted — the `while queue:` loop with its three-way classification, `reduce`, the
  constructor call — is `foldLoop` + `foldFinish`; `is_constant`, `evaluate` are the two halves of
  `classify`; the CSE mix-in hands over to the inherited row.
-/
namespace PV
open PV.Generated (c04Classes c04IdentityTable)
open PV.C11Expected
attribute [local simp] c11ExecL c11Exec c11Eval c11EvalL c11Get c11Set c11Apply c11Truthy c11Lift
  bind Except.bind pure Except.pure throw throwThe MonadExceptOf.throw

theorem c11_is_constant (ctx : C11Ctx) (fuel : Nat) (child : Expr) :
    c11RunFn ctx fuel c11_ConstantFoldingMapperBase_is_constant [.expr child] =
      (match depsR child with
       | .ok d => .ok (.bool d.isEmpty)
       | .error e => .error (.py e)) := by
  simp only [c11RunFn, c11_ConstantFoldingMapperBase_is_constant, c11RunBody, c11Frame,
    List.length_cons, List.length_nil, beq_self_eq_true, if_true, List.zip_cons_cons,
    List.zip_nil_right, List.map_nil, List.append_nil, c11ExecL_ret, c11Eval, c11EvalL, c11Get,
    bind, Except.bind, pure, Except.pure]
  rw [show c11Apply _ (.glob .depMapper) [] = .ok (.inst .depMapper [] []) from rfl]
  simp only [c11Apply_depMapper]
  cases depsR child with
  | error e => rfl
  | ok d => cases d <;> rfl

theorem c11_evaluate (ctx : C11Ctx) (fuel : Nat) (child : Expr) :
    c11RunFn ctx fuel c11_ConstantFoldingMapperBase_evaluate [.expr child] =
      (match c11Evaluate child with
       | .ok v => .ok v
       | .error e => if e.isInstance .valueError then .ok .none else .error e) := by
  simp only [c11RunFn, c11_ConstantFoldingMapperBase_evaluate, c11RunBody, c11Frame,
    List.length_cons, List.length_nil, beq_self_eq_true, if_true, List.zip_cons_cons,
    List.zip_nil_right, List.map_nil, List.append_nil, c11ExecL, c11Exec, c11Eval, c11EvalL, c11Get,
    bind, Except.bind, pure, Except.pure]
  rw [show ∀ c, c11Apply c (.glob .evaluate) [.expr child] = c11Evaluate child from fun _ => rfl]
  cases c11Evaluate child with
  | ok v => rfl
  | error e => cases h : e.isInstance .valueError <;> simp only [h, c11OutToR, if_true,
    Bool.false_eq_true, if_false] <;> rfl

/-- the frame of `fold` at the head of its loop -/
def c11FoldEnv (e : Expr) (klass op ctor : C11Val) (c : List Value) (n q : List Expr)
    (t child value constant : C11Val) : C11Env :=
  [("expr", .expr e), ("klass", klass), ("op", op), ("constructor", ctor),
   ("constants", .list (c.map .num)), ("nonconstants", .list (n.map .expr)),
   ("queue", .list (q.map .expr)), ("queue.pop(0)", t), ("child", child), ("value", value),
   ("constant", constant)]

def c11FoldKlassG (isProd : Bool) : C11Glob := if isProd then .clsProduct else .clsSum

def c11FoldKlass (isProd : Bool) : C11Val := .glob (c11FoldKlassG isProd)

/-- what `self.is_constant` / `self.evaluate` do, as hypotheses on the context -/
structure C11FoldCtx (ctx : C11Ctx) : Prop where
  isConst : ∀ child, ctx.callSelf "is_constant" [.expr child] =
    (match depsR child with
     | .ok d => .ok (.bool d.isEmpty)
     | .error e => .error (.py e))
  eval : ∀ child, ctx.callSelf "evaluate" [.expr child] =
    (match c11Evaluate child with
     | .ok v => .ok v
     | .error e => if e.isInstance .valueError then .ok .none else .error e)

/-- the body of the `while` of `fold` in RewriteTableExpected.lean; with `c11FoldTail` below and the
three assignments before the loop it is the whole method body (`c11_fold_body`) -/
def c11FoldWhileBody : List C11Stmt := [
        .popFront "queue.pop(0)" "queue",
        .assign "child" (.selfCall "rec" [(.var "queue.pop(0)")]),
        .ifThen (.call (.glob .pyIsinstance) [(.var "child"), (.var "klass")]) [
          .assign "queue" (.bin .add (.call (.glob .pyList) [(.attr (.var "child") "children")]) (.var "queue"))]
          [
          .ifThen (.selfCall "is_constant" [(.var "child")]) [
            .assign "value" (.selfCall "evaluate" [(.var "child")]),
            .ifThen (.cmp .is (.var "value") .pyNone) [
              .append "nonconstants" (.var "child")]
              [
              .append "constants" (.var "value")]]
            [
            .append "nonconstants" (.var "child")]]]

def Expr.naryChildren : Expr → List Expr
  | .nary _ cs => cs
  | _ => []

def c11IsKlass (isProd : Bool) (ch : Expr) : Bool := if isProd then isProdE ch else isSum ch

theorem c11_foldLoop_step (rec : Expr → RwR) (isProd : Bool) (n : Nat) (item : Expr)
    (queue : List Expr) (c : List Value) (non : List Expr) (ch : Expr) (hr : rec item = .ok ch) :
    foldLoop rec isProd (n + 1) (item :: queue) c non =
      (if c11IsKlass isProd ch then foldLoop rec isProd n (ch.naryChildren ++ queue) c non
       else match classify ch with
        | .error err => .error err
        | .ok (.constant v) => foldLoop rec isProd n queue (c ++ [v]) non
        | .ok .nonconstant => foldLoop rec isProd n queue c (non ++ [ch])) := by
  simp only [foldLoop, bind, Except.bind, hr]
  split
  · rfl
  · rfl
  · rename_i h1 h2
    have hk : c11IsKlass isProd ch = false := by
      cases isProd
      · cases hs : isSum ch with
        | false => simp [c11IsKlass, hs]
        | true => obtain ⟨cs, rfl⟩ := c11_isSum_eq hs; exact (h1 cs rfl rfl).elim
      · cases hs : isProdE ch with
        | false => simp [c11IsKlass, hs]
        | true => obtain ⟨cs, rfl⟩ := c11_isProdE_eq hs; exact (h2 cs rfl rfl).elim
    rw [hk]
    cases classify ch with
    | error err => rfl
    | ok v => cases v <;> rfl

theorem c11_isinst_klass (isProd : Bool) (ch : Expr) :
    c11IsInstance (.expr ch) (.glob (c11FoldKlassG isProd)) = .ok (c11IsKlass isProd ch) := by
  cases isProd <;> rfl

theorem c11_klass_children (isProd : Bool) (ch : Expr) (h : c11IsKlass isProd ch = true) :
    c11Attr (.expr ch) "children" = .ok (.list (ch.naryChildren.map .expr)) := by
  cases isProd
  · obtain ⟨cs, rfl⟩ := c11_isSum_eq h; rfl
  · obtain ⟨cs, rfl⟩ := c11_isProdE_eq h; rfl

def c11FoldCond (ctx : C11Ctx) (env : C11Env) : C11R Bool := do
  c11Truthy (← c11Eval ctx env (.var "queue"))

def c11FoldBody (ctx : C11Ctx) (F : Nat) (env : C11Env) : C11Out :=
  c11ExecL ctx F c11FoldWhileBody env

/-- `evaluate` and its `ValueError` handler against the evaluator half of `classify` -/
theorem c11_classify_eval (ch : Expr) (d : List Expr) (hd : depsR ch = .ok d) (hde : d.isEmpty = true) :
    match c11Evaluate ch with
    | .ok w => ∃ v, w = .num v ∧ classify ch = .ok (.constant v)
    | .error er =>
      if er.isInstance .valueError then classify ch = .ok .nonconstant
      else ∃ err, er = .py err ∧ classify ch = .error err := by
  simp only [classify, c11Evaluate, hd, hde, bind, Except.bind, Bool.not_true, Bool.false_eq_true,
    if_false]
  cases (evalG true [] ch {}).1 with
  | ok v => cases v <;> simp [C11Err.isInstance]
  | error er => cases er <;> simp [C11Err.isInstance]

/-- one pass through the body of the `while`, given what `self.rec` returned (`v'`: what is left in
the local `value`) -/
theorem c11_fold_body_step (ctx : C11Ctx) (hctx : C11FoldCtx ctx) (F : Nat) (isProd : Bool)
    (e : Expr) (op ctor constant : C11Val) (item : Expr) (queue : List Expr) (c : List Value)
    (non : List Expr) (t child value : C11Val) (ch : Expr) (hr : ctx.recur item = .ok ch) :
    ∃ v', c11FoldBody ctx F
        (c11FoldEnv e (c11FoldKlass isProd) op ctor c non (item :: queue) t child value constant) =
      (if c11IsKlass isProd ch then
        .fell (c11FoldEnv e (c11FoldKlass isProd) op ctor c non (ch.naryChildren ++ queue)
          (.expr item) (.expr ch) value constant)
       else match classify ch with
        | .error err => .fail (.py err)
        | .ok (.constant v) => .fell (c11FoldEnv e (c11FoldKlass isProd) op ctor (c ++ [v]) non queue
            (.expr item) (.expr ch) v' constant)
        | .ok .nonconstant => .fell (c11FoldEnv e (c11FoldKlass isProd) op ctor c (non ++ [ch]) queue
            (.expr item) (.expr ch) v' constant)) := by
  unfold c11FoldBody c11FoldWhileBody
  rw [c11ExecL_cons_fell (env' := c11FoldEnv e (c11FoldKlass isProd) op ctor c non queue
        (.expr item) child value constant)
      (by simp [c11FoldEnv]),
    c11ExecL_cons_fell (env' := c11FoldEnv e (c11FoldKlass isProd) op ctor c non queue
        (.expr item) (.expr ch) value constant)
      (by simp [c11FoldEnv, hr]),
    c11ExecL_ifThen (v := .bool (c11IsKlass isProd ch))
      (by simp [c11FoldEnv, c11FoldKlass, c11_isinst_klass]) rfl]
  cases hk : c11IsKlass isProd ch with
  | true =>
    refine ⟨value, ?_⟩
    simp [c11FoldEnv, c11_klass_children isProd ch hk, c11Items, c11Bin]
  | false =>
    simp only [cond_false, List.append_nil, Bool.false_eq_true, if_false]
    cases hd : depsR ch with
    | error err =>
      refine ⟨value, ?_⟩
      rw [c11ExecL_ifThen_error (er := .py err)
        (by simp [c11FoldEnv, hctx.isConst, hd])]
      simp [classify, hd]
    | ok d =>
      rw [c11ExecL_ifThen (v := .bool d.isEmpty)
        (by simp [c11FoldEnv, hctx.isConst, hd]) rfl]
      cases hde : d.isEmpty with
      | false =>
        refine ⟨value, ?_⟩
        simp [c11FoldEnv, classify, hd, hde]
      | true =>
        have hce := c11_classify_eval ch d hd hde
        simp only [cond_true, List.append_nil]
        have hev := hctx.eval ch
        cases hE : c11Evaluate ch with
        | ok w =>
          simp only [hE] at hce hev
          obtain ⟨v, rfl, hcl⟩ := hce
          refine ⟨.num v, ?_⟩
          simp [c11FoldEnv, hev, c11Cmp, hcl]
        | error er =>
          simp only [hE] at hce hev
          cases hi : er.isInstance .valueError with
          | true =>
            simp only [hi, if_true] at hce hev
            refine ⟨.none, ?_⟩
            simp [c11FoldEnv, hev, c11Cmp, hce]
          | false =>
            simp only [hi, Bool.false_eq_true, if_false] at hce hev
            obtain ⟨err, rfl, hcl⟩ := hce
            refine ⟨value, ?_⟩
            simp [c11FoldEnv, hev, hcl]

theorem c11_fold_loop (ctx : C11Ctx) (hctx : C11FoldCtx ctx) (F : Nat) (isProd : Bool) (e : Expr)
    (op ctor constant : C11Val) :
    ∀ (n : Nat) (q : List Expr) (c : List Value) (non : List Expr) (t child value : C11Val),
      match foldLoop ctx.recur isProd n q c non with
      | .ok (c', n') => ∃ t' ch' v',
          c11While (c11FoldCond ctx) (c11FoldBody ctx F) n
            (c11FoldEnv e (c11FoldKlass isProd) op ctor c non q t child value constant)
          = .fell (c11FoldEnv e (c11FoldKlass isProd) op ctor c' n' [] t' ch' v' constant)
      | .error err =>
          c11While (c11FoldCond ctx) (c11FoldBody ctx F) n
            (c11FoldEnv e (c11FoldKlass isProd) op ctor c non q t child value constant)
          = .fail (.py err)
  | 0, q, c, non, t, child, value => by
    simp [foldLoop, c11While]
  | n + 1, [], c, non, t, child, value => by
    simp [foldLoop, c11While, c11FoldCond, c11FoldEnv]
  | n + 1, item :: queue, c, non, t, child, value => by
    have ih := c11_fold_loop ctx hctx F isProd e op ctor constant n
    have hcond : c11FoldCond ctx (c11FoldEnv e (c11FoldKlass isProd) op ctor c non (item :: queue)
        t child value constant) = .ok true := by
      simp [c11FoldCond, c11FoldEnv]
    rw [c11While, hcond]
    cases hr : ctx.recur item with
    | error err =>
      have hb : c11FoldBody ctx F (c11FoldEnv e (c11FoldKlass isProd) op ctor c non (item :: queue)
          t child value constant) = .fail (.py err) := by
        simp [c11FoldBody, c11FoldWhileBody, c11FoldEnv, hr]
      simp only [foldLoop, bind, Except.bind, hr, hb]
    | ok ch =>
      obtain ⟨v', hb⟩ := c11_fold_body_step ctx hctx F isProd e op ctor constant item queue c non t
        child value ch hr
      rw [c11_foldLoop_step ctx.recur isProd n item queue c non ch hr, hb]
      cases c11IsKlass isProd ch with
      | true => exact ih _ _ _ _ _ _
      | false =>
        cases classify ch with
        | error err => rfl
        | ok cl => cases cl <;> exact ih _ _ _ _ _ _

def c11FoldOp (isProd : Bool) : C11Glob := if isProd then .opMul else .opAdd
def c11FoldCtor (isProd : Bool) : C11Glob := if isProd then .flattenedProduct else .flattenedSum

def c11FoldTail : List C11Stmt := [
      .ifThen (.var "constants") [
        .assign "constant" (.call (.glob .reduce) [(.var "op"), (.var "constants")]),
        .ret (.call (.var "constructor") [(.seq [(.var "constant"),
          (.star (.var "nonconstants"))])])]
        [
        .ret (.call (.var "constructor") [(.call (.glob .pyTuple) [(.var "nonconstants")])])]]

theorem c11AsNums_nums (c : List Value) : c11AsNums (c.map .num) = some c := by
  induction c with
  | nil => rfl
  | cons v c ih => simp [c11AsNums, ih]

theorem c11AsExprs_cons_num (v : Value) (rs : List Expr) :
    c11AsExprs (.list (.num v :: rs.map .expr)) =
      (match v.toExpr? with
       | some k => .ok (k :: rs)
       | none => .error (.py .noClaim)) := by
  have h := c11AsExprs_exprs rs
  simp only [c11AsExprs, c11Items, pure, Except.pure, bind, Except.bind, List.mapM_cons,
    c11AsExpr] at h ⊢
  cases hv : v.toExpr? with
  | none => simp
  | some k => simp [h]

section
attribute [local simp] c11FoldTail c11FoldEnv c11Items c11FoldCtor c11FoldOp c11OutToR c11ToRw
  foldFinish

theorem c11_fold_finish (ctx : C11Ctx) (F : Nat) (isProd : Bool) (e : Expr) (c : List Value)
    (non : List Expr) (t ch v constant : C11Val) :
    c11ToRw (c11OutToR (c11ExecL ctx F c11FoldTail
      (c11FoldEnv e (c11FoldKlass isProd) (.glob (c11FoldOp isProd)) (.glob (c11FoldCtor isProd))
        c non [] t ch v constant))) = foldFinish isProd c non := by
  cases c with
  | nil =>
    cases isProd
    · simp [c11AsExprs_exprs]
    · cases h : flatProd non <;>
      simp [c11AsExprs_exprs, h]
  | cons k ks =>
    cases isProd
    · cases h : reduceConsts false k ks with
      | error er =>
        simp [c11AsNums_nums, c11AsNums, h]
      | ok w =>
        cases h2 : w.toExpr? <;>
        simp [c11AsNums_nums, c11AsNums, h, c11AsExprs_cons_num, h2]
    · cases h : reduceConsts true k ks with
      | error er =>
        simp [c11AsNums_nums, c11AsNums, h]
      | ok w =>
        cases h2 : w.toExpr? with
        | none =>
          simp [c11AsNums_nums, c11AsNums, h, c11AsExprs_cons_num, h2]
        | some kk =>
          cases h3 : flatProd (kk :: non) <;>
          simp [c11AsNums_nums, c11AsNums, h, c11AsExprs_cons_num, h2, h3]

end

theorem c11Exec_fold_while (ctx : C11Ctx) (F : Nat) (env : C11Env) :
    c11Exec ctx F (.while (.var "queue") c11FoldWhileBody) env =
      c11While (c11FoldCond ctx) (c11FoldBody ctx F) F env := by
  rw [c11Exec]; rfl

theorem c11_fold_body : c11_ConstantFoldingMapperBase_fold.body =
    [.assign "constants" (.seq []), .assign "nonconstants" (.seq []),
     .assign "queue" (.call (.glob .pyList) [(.attr (.var "expr") "children")]),
     .while (.var "queue") c11FoldWhileBody] ++ c11FoldTail := rfl

theorem c11_fold (ctx : C11Ctx) (hctx : C11FoldCtx ctx) (fuel : Nat) (isProd : Bool) (o : NaryOp)
    (cs : List Expr) :
    c11ToRw (c11RunFn ctx fuel c11_ConstantFoldingMapperBase_fold
      [.expr (.nary o cs), c11FoldKlass isProd, .glob (c11FoldOp isProd),
        .glob (c11FoldCtor isProd)])
    = (do let (consts, non) ← foldLoop ctx.recur isProd fuel cs [] []
          foldFinish isProd consts non) := by
  generalize hctx' : ({ ctx with callLocal := c11CallLocal ctx c11_ConstantFoldingMapperBase_fold.defs fuel } : C11Ctx) = ctx'
  have hrec : ctx'.recur = ctx.recur := by rw [← hctx']
  have hf : C11FoldCtx ctx' := by rw [← hctx']; exact ⟨hctx.isConst, hctx.eval⟩
  have hloop := c11_fold_loop ctx' hf fuel isProd (.nary o cs) (.glob (c11FoldOp isProd))
    (.glob (c11FoldCtor isProd)) .unbound fuel cs [] [] .unbound .unbound .unbound
  rw [hrec] at hloop
  unfold c11RunFn
  rw [hctx']
  simp only [c11RunBody, c11_fold_body]
  simp only [c11_ConstantFoldingMapperBase_fold, c11Frame, List.length_cons, List.length_nil,
    beq_self_eq_true, if_true, List.zip_cons_cons, List.zip_nil_right, List.map_cons, List.map_nil,
    List.cons_append, List.nil_append, c11ExecL, c11Exec_fold_while]
  simp [c11Attr, Expr.c04Field, Expr.c04Fields, c04Assoc, c11Items]
  simp only [c11FoldEnv, List.map_nil] at hloop
  cases hfl : foldLoop ctx.recur isProd fuel cs [] [] with
  | error err =>
    rw [hfl] at hloop
    simp only at hloop
    rw [hloop]; rfl
  | ok r =>
    obtain ⟨c', n'⟩ := r
    rw [hfl] at hloop
    obtain ⟨t', ch', v', hloop⟩ := hloop
    rw [hloop]
    exact c11_fold_finish ctx' fuel isProd (.nary o cs) c' n' t' ch' v' .unbound

theorem c11_folder_map_sum (ctx : C11Ctx) (fuel : Nat) (e : Expr) :
    c11RunFn ctx fuel c11_ConstantFoldingMapperBase_map_sum [.expr e] =
      ctx.callSelf "fold" [.expr e, .glob .clsSum, .glob .opAdd, .glob .flattenedSum] := by
  simp [c11RunFn, c11_ConstantFoldingMapperBase_map_sum, c11RunBody, c11Frame]
  cases ctx.callSelf "fold" [.expr e, .glob .clsSum, .glob .opAdd, .glob .flattenedSum] <;> rfl

theorem c11_folder_map_product (ctx : C11Ctx) (fuel : Nat) (e : Expr) :
    c11RunFn ctx fuel c11_CommutativeConstantFoldingMapperBase_map_product [.expr e] =
      ctx.callSelf "fold" [.expr e, .glob .clsProduct, .glob .opMul, .glob .flattenedProduct] := by
  simp [c11RunFn, c11_CommutativeConstantFoldingMapperBase_map_product, c11RunBody, c11Frame]
  cases ctx.callSelf "fold" [.expr e, .glob .clsProduct, .glob .opMul,
    .glob .flattenedProduct] <;> rfl

/-- the table-driven constant folders -/
def c11FoldT (comm : Bool) : Nat → Expr → RwR :=
  c11Mapper c04Classes c04IdentityTable (if comm then c11Class_commFolder else c11Class_plainFolder) []
    c11NoInst

/-- in both folder classes the helpers resolve to the same functions -/
structure C11IsFolder (C : C11Class) : Prop where
  fold : c11FindMethod "fold" C.methods =
    some ⟨"fold", "ConstantFoldingMapperBase", .own c11_ConstantFoldingMapperBase_fold⟩
  isConst : c11FindMethod "is_constant" C.methods =
    some ⟨"is_constant", "ConstantFoldingMapperBase",
      .own c11_ConstantFoldingMapperBase_is_constant⟩
  eval : c11FindMethod "evaluate" C.methods =
    some ⟨"evaluate", "ConstantFoldingMapperBase", .own c11_ConstantFoldingMapperBase_evaluate⟩
  mapSum : c11FindMethod "map_sum" C.methods =
    some ⟨"map_sum", "ConstantFoldingMapperBase", .own c11_ConstantFoldingMapperBase_map_sum⟩
  cse : c11FindMethod "map_common_subexpression" C.methods =
    some ⟨"map_common_subexpression", "CSECachingMapperMixin", .cseMixin⟩
  uncached : ∃ b, c11FindMethod "map_common_subexpression_uncached" C.methods =
    some ⟨"map_common_subexpression_uncached", b, .identity "map_common_subexpression"⟩

theorem c11_folder_ctx (S : C11Self) (hF : C11IsFolder S.cls) (fuel : Nat) :
    C11FoldCtx (c11CtxOf S fuel 2) where
  isConst child := by
    show c11CallSelf S fuel 2 "is_constant" _ = _
    rw [c11CallSelf_own S fuel 1 _ _ _ _ _ hF.isConst, c11_is_constant]
  eval child := by
    show c11CallSelf S fuel 2 "evaluate" _ = _
    rw [c11CallSelf_own S fuel 1 _ _ _ _ _ hF.eval, c11_evaluate]

/-- `self.fold(expr, klass, op, constructor)` from a handler of a folder class -/
theorem c11_folder_fold (S : C11Self) (hF : C11IsFolder S.cls) (fuel : Nat) (isProd : Bool)
    (o : NaryOp) (cs : List Expr) :
    c11ToRw (c11CallSelf S fuel 3 "fold" [.expr (.nary o cs), c11FoldKlass isProd,
      .glob (c11FoldOp isProd), .glob (c11FoldCtor isProd)]) =
    (do let (consts, non) ← foldLoop S.recur isProd fuel cs [] []
        foldFinish isProd consts non) := by
  rw [c11CallSelf_own S fuel 2 _ _ _ _ _ hF.fold, c11_fold _ (c11_folder_ctx S hF fuel)]
  rfl

/-- one level of `foldM` with the recursive calls left open -/
def c11FoldStep (comm : Bool) (rec : Expr → RwR) (fuel : Nat) : Expr → RwR
  | .nary .sum cs => do
      let (consts, non) ← foldLoop rec false fuel cs [] []
      foldFinish false consts non
  | .nary .prod cs =>
      if comm then do
        let (consts, non) ← foldLoop rec true fuel cs [] []
        foldFinish true consts non
      else idMap rec (.nary .prod cs)
  | .cse c p s => if c.hasList then throw .typeError else idMap rec (.cse c p s)
  | e => idMap rec e

theorem foldM_succ (comm : Bool) (fuel : Nat) (e : Expr) :
    foldM comm (fuel + 1) e = c11FoldStep comm (foldM comm fuel) fuel e := by
  cases e with
  | nary o cs => cases o <;> rfl
  | _ => rfl

theorem c11_folder_isFolder (comm : Bool) :
    C11IsFolder (if comm then c11Class_commFolder else c11Class_plainFolder) := by
  cases comm <;> exact ⟨rfl, rfl, rfl, rfl, rfl, ⟨_, rfl⟩⟩

theorem c11_folder_step (comm : Bool) (S : C11Self) (hc : S.classes = c04Classes)
    (hi : S.ident = c04IdentityTable)
    (hcls : S.cls = if comm then c11Class_commFolder else c11Class_plainFolder) (fuel : Nat)
    (e : Expr) : c11Handle S fuel e = c11FoldStep comm S.recur fuel e := by
  have hF : C11IsFolder S.cls := by rw [hcls]; exact c11_folder_isFolder comm
  have inh : ∀ n, c11HandlerOf e = .ok n → c11FindMethod n S.cls.methods = none →
      c11Handle S fuel e = idMap S.recur e := fun n hn hm =>
    c11Handle_inherited S hc hi fuel e n hn hm
  have plain : c11Overridden e = false → c11Handle S fuel e = idMap S.recur e :=
    c11Handle_plain S hc hi (by rw [hcls]; cases comm <;> repeat constructor) fuel e
  cases e with
  | nary o cs =>
    cases o with
    | sum =>
      rw [c11Handle_eq S hc hi]
      simp only [c11HandlerOf, c11Depth]
      rw [c11CallSelf_own S fuel 3 _ _ _ _ _ hF.mapSum, c11_folder_map_sum]
      exact c11_folder_fold S hF fuel false .sum cs
    | prod =>
      cases comm with
      | true =>
        rw [c11Handle_eq S hc hi]
        simp only [c11HandlerOf, c11Depth]
        rw [c11CallSelf_own S fuel 3 "map_product" _ "map_product"
          "CommutativeConstantFoldingMapperBase" c11_CommutativeConstantFoldingMapperBase_map_product
          (by rw [hcls]; rfl), c11_folder_map_product]
        exact c11_folder_fold S hF fuel true .prod cs
      | false => exact inh _ rfl (by rw [hcls]; rfl)
    | _ => exact plain rfl
  | cse c p s =>
    rw [c11Handle_eq S hc hi]
    obtain ⟨b, hu⟩ := hF.uncached
    simp only [c11HandlerOf, c11Depth, c11FoldStep, c11CallSelf, hF.cse, hu, Expr.hasList, hi,
      c11IdentRow_cse]
    cases c.hasList with
    | true => rfl
    | false => exact c11ToRw_lift' _
  | bin o a b =>
    cases o with
    | quot => exact inh _ rfl (by rw [hcls]; cases comm <;> rfl)
    | pow => exact inh _ rfl (by rw [hcls]; cases comm <;> rfl)
    | _ => exact plain rfl
  | _ => exact plain rfl

theorem c11FoldT_eq (comm : Bool) : ∀ (fuel : Nat) (e : Expr),
  c11FoldT comm fuel e = foldM comm fuel e
  | 0, _ => rfl
  | fuel + 1, e => by
    have ih : c11FoldT comm fuel = foldM comm fuel := funext (c11FoldT_eq comm fuel)
    unfold c11FoldT at ih ⊢
    rw [c11Mapper, foldM_succ, ← ih]
    exact c11_folder_step comm _ rfl rfl rfl fuel e
end PV
