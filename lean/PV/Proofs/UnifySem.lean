import PV.Proofs.UnifyAC
import Mathlib.Algebra.Field.Basic
import Mathlib.Algebra.CharZero.Defs
import Mathlib.Algebra.GroupWithZero.Units.Basic
import Mathlib.Data.Int.Cast.Lemmas
import Mathlib.Algebra.BigOperators.Group.List.Basic
/-
  AC-equivalence is sound for VALUES: AC-equal trees have the same value in every field of
  characteristic 0 under every assignment of the variables (sums, products, quotients, negation-free
  rational expressions; every other node is uninterpreted and makes the value undefined on both
  sides).  Exact commutative arithmetic is what `Sum` / `Product` mean for Python ints, bools and
  Fractions (C02 / C03); floats enter only as the exact rationals they are.  A quotient by zero has
  the field's value `x / 0 = 0` here, where Python raises: harmless for equalities between AC-equal
  trees, but `evalC` is not Python's value on such trees.
-/
namespace PV.Unify
open PV

-- the field `K` with `[CharZero K]` is declared once for the file; not every lemma needs all of it
set_option linter.unusedSectionVars false

universe u
variable {K : Type u} [Field K] [CharZero K]

/-- value of a constant: ints, bools (0 / 1) and finite floats as exact rationals -/
def evalConst : Const → Option K
  | .int n => some (n : K)
  | .bool b => some (if b then 1 else 0)
  | .flt _ n d => if d = 0 then none else some ((n : K) / (d : K))
  | _ => none

theorem evalConst_of_numVal {c : Const} {n : Int} {d : Nat} (h : c.numVal? = some (n, d)) :
    evalConst (K := K) c = some ((n : K) / (d : K)) := by
  cases c with
  | int m => simp [Const.numVal?] at h; obtain ⟨rfl, rfl⟩ := h; simp [evalConst]
  | bool b =>
    simp [Const.numVal?] at h; obtain ⟨rfl, rfl⟩ := h
    cases b <;> simp [evalConst]
  | flt r m e =>
    simp only [Const.numVal?] at h
    split at h
    · simp at h
    · rename_i he
      simp only [Option.some.injEq, Prod.mk.injEq] at h
      obtain ⟨rfl, rfl⟩ := h
      simp [evalConst, he]
  | str _ => simp [Const.numVal?] at h
  | none => simp [Const.numVal?] at h

theorem evalConst_of_not_numVal {c : Const} (h : c.numVal? = none) :
    evalConst (K := K) c = none := by
  cases c with
  | int m => simp [Const.numVal?] at h
  | bool b => simp [Const.numVal?] at h
  | flt r m e =>
    simp only [Const.numVal?] at h
    split at h
    · rename_i he; simp [evalConst, he]
    · simp at h
  | str _ => rfl
  | none => rfl

/-- Python equality of constants is equality of values -/
theorem evalConst_pyEq {a b : Const} (h : a.pyEq b = true) :
    evalConst (K := K) a = evalConst b := by
  unfold Const.pyEq at h
  split at h
  · rename_i n d n' d' ha hb
    have hd := Const.numVal?_den ha
    have hd' := Const.numVal?_den hb
    rw [evalConst_of_numVal ha, evalConst_of_numVal hb]
    have hdK : (d : K) ≠ 0 := Nat.cast_ne_zero.2 hd
    have hdK' : (d' : K) ≠ 0 := Nat.cast_ne_zero.2 hd'
    have hz : n * (d' : Int) = n' * (d : Int) := by simpa using h
    have hK : (n : K) * (d' : K) = (n' : K) * (d : K) := by exact_mod_cast congrArg (Int.cast (R := K)) hz
    rw [Option.some.injEq, div_eq_div_iff hdK hdK']
    exact hK
  · rename_i ha hb
    rw [evalConst_of_not_numVal ha, evalConst_of_not_numVal hb]
  · simp at h

mutual
/-- value of a tree in a field of characteristic 0 (`none`: not a rational expression) -/
def evalC (ρ : String → K) : Expr → Option K
  | .const c => evalConst c
  | .var x => some (ρ x)
  | .nary .sum cs => (evalCL ρ cs).map List.sum
  | .nary .prod cs => (evalCL ρ cs).map List.prod
  | .bin .quot a b =>
    match evalC ρ a, evalC ρ b with
    | some x, some y => some (x / y)
    | _, _ => none
  | _ => none
def evalCL (ρ : String → K) : List Expr → Option (List K)
  | [] => some []
  | c :: cs =>
    match evalC ρ c, evalCL ρ cs with
    | some k, some ks => some (k :: ks)
    | _, _ => none
end

variable (ρ : String → K)

theorem evalCL_append : ∀ (as bs : List Expr),
    evalCL ρ (as ++ bs) =
      match evalCL ρ as, evalCL ρ bs with
      | some x, some y => some (x ++ y)
      | _, _ => none
  | [], bs => by cases h : evalCL ρ bs <;> simp [evalCL, h]
  | a :: as, bs => by
    simp only [List.cons_append, evalCL, evalCL_append as bs]
    cases evalC ρ a <;> cases evalCL ρ as <;> cases evalCL ρ bs <;> simp

/-- permuting the operands permutes the values (or leaves the list undefined) -/
theorem evalCL_perm {as bs : List Expr} (h : as.Perm bs) :
    (evalCL ρ as = none ∧ evalCL ρ bs = none) ∨
    ∃ ks ls, evalCL ρ as = some ks ∧ evalCL ρ bs = some ls ∧ ks.Perm ls := by
  induction h with
  | nil => exact Or.inr ⟨[], [], rfl, rfl, .refl _⟩
  | cons x _ ih =>
    simp only [evalCL]
    cases hx : evalC ρ x with
    | none => exact Or.inl ⟨by simp, by simp⟩
    | some k =>
      rcases ih with ⟨h1, h2⟩ | ⟨ks, ls, h1, h2, hp⟩
      · exact Or.inl ⟨by simp [h1], by simp [h2]⟩
      · exact Or.inr ⟨k :: ks, k :: ls, by simp [h1], by simp [h2], hp.cons k⟩
  | swap x y l =>
    simp only [evalCL]
    cases evalC ρ x <;> cases evalC ρ y <;> cases evalCL ρ l <;> simp
    exact List.Perm.swap _ _ _
  | trans _ _ ih1 ih2 =>
    rcases ih1 with ⟨h1, h2⟩ | ⟨ks, ls, h1, h2, hp⟩
    · rcases ih2 with ⟨h3, h4⟩ | ⟨ks', ls', h3, _, _⟩
      · exact Or.inl ⟨h1, h4⟩
      · rw [h2] at h3; simp at h3
    · rcases ih2 with ⟨h3, _⟩ | ⟨ks', ls', h3, h4, hp'⟩
      · rw [h2] at h3; simp at h3
      · rw [h2] at h3; simp only [Option.some.injEq] at h3; subst h3
        exact Or.inr ⟨ks, ls', h1, h4, hp.trans hp'⟩

theorem evalCL_pyEqL : ∀ (cs ds : List Expr),
    (∀ c ∈ cs, ∀ b, c.pyEq b = true → evalC ρ c = evalC ρ b) →
    Expr.pyEqL cs ds = true → evalCL ρ cs = evalCL ρ ds
  | [], [], _, _ => rfl
  | c :: cs, d :: ds, ih, h => by
    simp only [Expr.pyEqL, Bool.and_eq_true] at h
    simp only [evalCL, ih c (by simp) d h.1,
      evalCL_pyEqL cs ds (fun c' hc' => ih c' (by simp [hc'])) h.2]
  | [], _ :: _, _, h => by simp [Expr.pyEqL] at h
  | _ :: _, [], _, h => by simp [Expr.pyEqL] at h

/-- Python equality preserves the value -/
theorem evalC_pyEq (a : Expr) : ∀ b, a.pyEq b = true → evalC ρ a = evalC ρ b := by
  induction a using Expr.induct with
  | h e ih =>
    intro b hb
    cases PyEqNode.of_pyEq hb with
    | const h => exact evalConst_pyEq h
    | @nary o cs ds h =>
      have := evalCL_pyEqL ρ cs ds (fun c hc => ih c (by simpa [Expr.children] using hc)) h
      cases o <;> simp only [evalC, this]
    | @bin o a b a' b' ha hb' =>
      have h1 := ih a (by simp [Expr.children]) a' ha
      have h2 := ih b (by simp [Expr.children]) b' hb'
      cases o <;> simp only [evalC, h1, h2]
    | _ => rfl

theorem evalC_perm {o : NaryOp} (hac : isAC o) {cs ds : List Expr} (h : cs.Perm ds) :
    evalC ρ (.nary o cs) = evalC ρ (.nary o ds) := by
  rcases evalCL_perm ρ h with ⟨h1, h2⟩ | ⟨ks, ls, h1, h2, hp⟩
  · rcases hac with rfl | rfl <;> simp only [evalC, h1, h2]
  · rcases hac with rfl | rfl <;> simp only [evalC, h1, h2, Option.map_some]
    · rw [hp.sum_eq]
    · rw [hp.prod_eq]

theorem evalC_flat {o : NaryOp} (hac : isAC o) (xs ys zs : List Expr) :
    evalC ρ (.nary o (xs ++ .nary o ys :: zs)) = evalC ρ (.nary o (xs ++ ys ++ zs)) := by
  rcases hac with rfl | rfl
  · simp only [evalC, evalCL_append, evalCL]
    cases evalCL ρ xs <;> cases evalCL ρ ys <;> cases evalCL ρ zs <;>
      simp [List.sum_append]
  · simp only [evalC, evalCL_append, evalCL]
    cases evalCL ρ xs <;> cases evalCL ρ ys <;> cases evalCL ρ zs <;>
      simp [List.prod_append]

theorem evalC_single {o : NaryOp} (hac : isAC o) (a : Expr) :
    evalC ρ (.nary o [a]) = evalC ρ a := by
  rcases hac with rfl | rfl <;> simp only [evalC, evalCL] <;> cases evalC ρ a <;> simp

mutual
/-- **AC-equal trees have equal values** in every field of characteristic 0, under every
assignment (both undefined, or both defined and equal) -/
theorem ACEq.evalC_eq : ∀ {a b : Expr}, ACEq a b → evalC ρ a = evalC ρ b
  | _, _, .refl _ => rfl
  | _, _, .py h => evalC_pyEq ρ _ _ h
  | _, _, .symm h => (ACEq.evalC_eq h).symm
  | _, _, .trans h1 h2 => (ACEq.evalC_eq h1).trans (ACEq.evalC_eq h2)
  | _, _, .nary o h => by
      have := ACEqL.evalCL_eq h
      cases o <;> simp only [evalC, this]
  | _, _, .bin o h1 h2 => by
      have e1 := ACEq.evalC_eq h1
      have e2 := ACEq.evalC_eq h2
      cases o <;> simp only [evalC, e1, e2]
  | _, _, .un _ _ => by simp only [evalC]
  | _, _, .cmp _ _ _ => by simp only [evalC]
  | _, _, .ite _ _ _ => by simp only [evalC]
  | _, _, .call _ _ => by simp only [evalC]
  | _, _, .subscript _ _ => by simp only [evalC]
  | _, _, .lookup _ _ => by simp only [evalC]
  | _, _, .tuple _ => by simp only [evalC]
  | _, _, .callKw _ _ _ _ => by simp only [evalC]
  | _, _, .cse _ _ _ => by simp only [evalC]
  | _, _, .subst _ _ _ => by simp only [evalC]
  | _, _, .deriv _ _ => by simp only [evalC]
  | _, _, .slice _ => by simp only [evalC]
  | _, _, .list _ => by simp only [evalC]
  | _, _, .perm hac h => evalC_perm ρ hac h
  | _, _, .flat xs ys zs hac => evalC_flat ρ hac xs ys zs
  | _, _, .single a hac => evalC_single ρ hac a
theorem ACEqL.evalCL_eq : ∀ {as bs : List Expr}, ACEqL as bs → evalCL ρ as = evalCL ρ bs
  | _, _, .nil => rfl
  | _, _, .cons h t => by simp only [evalCL, ACEq.evalC_eq h, ACEqL.evalCL_eq t]
end

end PV.Unify
