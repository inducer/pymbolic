import PV.Model.OpsTable
import PV.Generated.Operators
import PV.Proofs.WalkTable
/-
  C03 (T-gen): the hand-written operator model of PV/Model/Ops.lean IS the table interpreter of
  PV/Model/OpsTable.lean run on the table regenerated from the current source
  (PV/Generated/Operators.lean).  One lemma per dunder method, by cases on the three kinds of
  `self` the source tells apart (a `Sum`, a `Product`, any other node) and on the shapes of `other`
  its `isinstance` tests look at.
-/
-- `c03_run` passes one fixed rule set to `simp only` for every method body: not every rule fires
-- on every body
set_option linter.unusedSimpArgs false
set_option linter.unusedVariables false
namespace PV
open PV.Generated

/-! ### operand predicates -/

/-- `isinstance` against the three class tuples of the current source, on the operands of the model -/
theorem c03_isinst (e : Expr) :
    c03IsInst c03Preds.validOperands e = e.isNode ∧
    c03IsInst c03Preds.validConstantClasses e = e.isConstant ∧
    c03IsInst c03Preds.boolClasses e = e.isBoolConst := by
  cases e with
  | const c => cases c <;> exact ⟨rfl, rfl, rfl⟩
  | nary o cs => cases o <;> exact ⟨rfl, rfl, rfl⟩
  | _ => exact ⟨rfl, rfl, rfl⟩

theorem c03_isConstant (e : Expr) :
    c03PredEval c03Preds c03PredFuel .isConstant e = e.isConstant := (c03_isinst e).2.1

theorem c03_isValidOperand (e : Expr) :
    c03PredEval c03Preds c03PredFuel .isValidOperand e = e.isValidOperand := by
  show (c03IsInst c03Preds.validOperands e || c03IsInst c03Preds.validConstantClasses e) = _
  rw [(c03_isinst e).1, (c03_isinst e).2.1]; rfl

theorem c03_isNumber (e : Expr) :
    c03PredEval c03Preds c03PredFuel .isNumber e = e.isNumber := by
  show (!c03IsInst c03Preds.boolClasses e && c03IsInst c03Preds.validConstantClasses e) = _
  rw [(c03_isinst e).2.2, (c03_isinst e).2.1]
  cases e with
  | const c => cases c <;> rfl
  | _ => rfl

theorem c03_isArith (e : Expr) :
    c03PredEval c03Preds c03PredFuel .isArith e = e.isArith := by
  show (!c03IsInst c03Preds.boolClasses e &&
    (c03IsInst c03Preds.validOperands e || c03IsInst c03Preds.validConstantClasses e)) = _
  rw [(c03_isinst e).1, (c03_isinst e).2.1, (c03_isinst e).2.2]; rfl

/-! ### truthiness -/

theorem c03_all_truthyProd (f : Expr → Bool) (cs : List Expr) (h : ∀ c ∈ cs, f c = c.truthy) :
    cs.all f = Expr.truthyProd cs := by
  induction cs with
  | nil => rfl
  | cons c cs ih =>
    simp only [List.all_cons, Expr.truthyProd, h c (by simp)]
    rw [ih (fun d hd => h d (by simp [hd]))]

/-- the `__bool__` the node classes of the current source end up with: `Sum` by the number of
children, `Product` no zero child, the quotient classes their numerator, the default `True` for
every other class -/
def c03RuleOf : Expr → C03Truth
  | .nary .sum _ => .byLen (.const true) (.child 0) (.const true)
  | .nary .prod _ => .noZeroChild
  | .bin .quot _ _ | .bin .floordiv _ _ | .bin .rem _ _ => .field 0
  | _ => .const true

/-- the table of `__bool__` methods gives every node class the rule `c03RuleOf` names (a class
without a row has the default) -/
theorem c03Truth_rows : ∀ r ∈ classReps,
    (c03Truth.lookup r.c03ClassName).getD (.const true) = c03RuleOf r := by decide +kernel

theorem c03Truth_lookup (e : Expr) :
    (c03Truth.lookup e.c03ClassName).getD (.const true) = c03RuleOf e := by
  refine Expr.eq_of_classReps (f := fun e => (c03Truth.lookup e.c03ClassName).getD (.const true))
    (fun e => ?_) (fun e => ?_) c03Truth_rows e
  · have : e.c03ClassName = e.classRep.c03ClassName := by
      cases e with
      | const c => cases c <;> rfl
      | _ => rfl
    simp only [this]
  · cases e with
    | const c => cases c <;> rfl
    | nary o cs => cases o <;> rfl
    | bin o a b => cases o <;> rfl
    | _ => rfl

theorem c03TruthyFuel_node (T : List (String × C03Truth)) (n : Nat) {e : Expr}
    (he : e.isNode = true) :
    c03TruthyFuel T (n + 1) e =
      ((T.lookup e.c03ClassName).getD (.const true)).eval (c03TruthyFuel T n) e := by
  cases e <;> first | (simp only [c03TruthyFuel]; cases T.lookup _ <;> rfl) | cases he

/-- with enough fuel the regenerated `__bool__` table computes `Expr.truthy` -/
theorem c03_truthyFuel (n : Nat) :
    ∀ e : Expr, e.size ≤ n → c03TruthyFuel c03Truth (n + 1) e = e.truthy := by
  induction n with
  | zero => intro e h; have := e.size_pos; omega
  | succ n ih =>
    intro e h
    by_cases he : e.isNode = true
    · rw [c03TruthyFuel_node _ _ he, c03Truth_lookup]
      cases e with
      | nary o cs =>
        simp only [Expr.size] at h
        cases o
        · match cs with
          | [] => rfl
          | [c] => exact ih c (by simp only [Expr.sizeL] at h; omega)
          | _ :: _ :: _ => rfl
        · exact c03_all_truthyProd _ cs fun c hc => ih c (by have := Expr.size_le_sizeL hc; omega)
        all_goals rfl
      | bin o a b =>
        have ha : a.size ≤ n := by simp only [Expr.size] at h; omega
        cases o <;> first | exact ih a ha | rfl
      | un o a => cases o <;> rfl
      | const c => cases he
      | tuple cs => cases he
      | list cs => cases he
      | _ => rfl
    · cases e <;> first | exact absurd rfl he | rfl

/-- `bool(e)` as the `__bool__` methods of the current source define it is `Expr.truthy` -/
theorem c03_truthy (e : Expr) : c03Truthy c03Preds.truth e = e.truthy :=
  c03_truthyFuel e.size e (Nat.le_refl _)

theorem c03_not_truthy (e : Expr) : (!(c03Truthy c03Preds.truth e)) = e.isZero := by
  rw [c03_truthy]; rfl

/-! ### shapes of `self` and `other` -/

/-- a node that is neither a `Sum` nor a `Product`: `Expression` is its only class in the table -/
def C03Generic (s : Expr) : Prop := s.c03Mro = [.expression]

theorem C03Generic.notSum {s : Expr} (h : C03Generic s) (cs : List Expr) : s ≠ .nary .sum cs := by
  rintro rfl; cases h

theorem C03Generic.notProd {s : Expr} (h : C03Generic s) (cs : List Expr) : s ≠ .nary .prod cs := by
  rintro rfl; cases h

theorem c03_shape (s : Expr) (hs : s.isNode = true) :
    (∃ cs, s = .nary .sum cs) ∨ (∃ cs, s = .nary .prod cs) ∨ C03Generic s := by
  cases s with
  | nary o cs =>
    cases o
    · exact .inl ⟨_, rfl⟩
    · exact .inr (.inl ⟨_, rfl⟩)
    all_goals exact .inr (.inr rfl)
  | const c => cases hs
  | tuple c => cases hs
  | list c => cases hs
  | _ => exact .inr (.inr rfl)

/-- `isinstance(o, Sum)` as the hand-written methods test it -/
theorem c03_other_sum (o : Expr) : (∃ ds, o = .nary .sum ds) ∨ c03IsInst [.sum] o = false := by
  cases o with
  | nary op cs =>
    cases op
    · exact .inl ⟨_, rfl⟩
    all_goals exact .inr rfl
  | const c => cases c <;> exact .inr rfl
  | _ => exact .inr rfl

theorem c03_other_prod (o : Expr) :
    (∃ ds, o = .nary .prod ds) ∨ c03IsInst [.product] o = false := by
  cases o with
  | nary op cs =>
    cases op
    · exact .inr rfl
    · exact .inl ⟨_, rfl⟩
    all_goals exact .inr rfl
  | const c => cases c <;> exact .inr rfl
  | _ => exact .inr rfl

theorem c03_not_sum {o : Expr} (h : c03IsInst [.sum] o = false) (ds : List Expr) :
    o ≠ .nary .sum ds := by
  rintro rfl; cases h

theorem c03_not_prod {o : Expr} (h : c03IsInst [.product] o = false) (ds : List Expr) :
    o ≠ .nary .prod ds := by
  rintro rfl; cases h

theorem c03_isinst_sum (ds : List Expr) : c03IsInst [.sum] (.nary .sum ds) = true := rfl
theorem c03_isinst_prod (ds : List Expr) : c03IsInst [.product] (.nary .prod ds) = true := rfl

theorem c03_node_not_one {s : Expr} (hs : s.isNode = true) : s.isOne = false := by
  cases s <;> first | rfl | cases hs

/-! ### method lookup -/

theorem c03Dunder_step (T : C03Table) (n : Nat) (d : C03Dunder) (hd : d ≠ .quotientFn)
    (s o : Expr) :
    c03Dunder T (n + 1) d s o =
      match T.resolve s d with
      | some body => body.eval T.preds (c03Dunder T n) s o
      | Option.none => .notImpl := by
  cases d <;> first | rfl | exact absurd rfl hd

/-- method lookup only sees the MRO: a node that is neither a `Sum` nor a `Product` finds what a
`Variable` finds -/
theorem C03Generic.resolve {s : Expr} (h : C03Generic s) (d : C03Dunder) :
    c03Table.resolve s d = c03Table.resolve (.var "") d := by
  simp only [C03Table.resolve, show s.c03Mro = [.expression] from h]; rfl

theorem c03Table_preds : c03Table.preds = c03Preds := rfl

/-- a method that only `Expression` defines is found there by every node -/
theorem c03_resolve_base {s : Expr} (hs : s.isNode = true) {d : C03Dunder}
    (hd : (c03Methods.all fun m => m.cls == .expression || m.name != d) = true) :
    c03Table.resolve s d = c03Table.resolve (.var "") d := by
  have hn : ∀ c, c ≠ .expression →
      c03Methods.find? (fun m => m.cls == c && m.name == d) = none := by
    intro c hc
    refine List.find?_eq_none.2 fun m hm => ?_
    have := List.all_eq_true.1 hd m hm
    cases hcls : m.cls == c
    · simp
    · rw [beq_iff_eq] at hcls
      subst hcls
      simpa [hc] using this
  rcases c03_shape s hs with ⟨cs, rfl⟩ | ⟨cs, rfl⟩ | h
  · simp only [C03Table.resolve, Expr.c03Mro, List.findSome?, c03Table, hn .sum (by decide)]
  · simp only [C03Table.resolve, Expr.c03Mro, List.findSome?, c03Table, hn .product (by decide)]
  · exact h.resolve d

/-- the method is found in `Expression` whatever node `self` is -/
macro "c03_base" s:ident hs:ident : tactic =>
  `(tactic| exact (c03_resolve_base (s := $s) $hs (by decide +kernel)).trans rfl)

/-- run the interpreter on a body: the step equations of the interpreter, the operand predicates and
`bool` by their hand-written counterparts.  The rules `ls` name the body, the hand-written method it
is compared to and the facts that decide the shape tests. -/
syntax "c03_run" ("[" Lean.Parser.Tactic.simpLemma,* "]")? : tactic
macro_rules
  | `(tactic| c03_run) => `(tactic| c03_run [])
  | `(tactic| c03_run [$ls,*]) =>
    `(tactic| simp only [C03Body.eval, C03Cond.eval, C03Term.eval, C03Res.eval, c03Pieces,
      Dunder.ofExcept, c03Table_preds, c03_truthy, c03_isConstant, c03_isNumber, c03_isValidOperand,
      c03_isArith, Expr.c03Children, bind, Except.bind, pure, Except.pure, Bool.not_eq_true',
      Bool.not_eq_true, Bool.not_not, List.append_nil, List.nil_append, List.cons_append,
      Expr.isZero, zero, one, Bool.not_eq_eq_eq_not, Bool.not_true, Bool.not_false, ite_not,
      Bool.if_true_left, Bool.if_false_right, Bool.false_eq_true, if_false, if_true, false_implies,
      implies_true, $ls,*])

/-! ### the methods only `Expression` defines -/

/-- finish a goal whose right-hand side still matches on the shape of `o` -/
macro "c03_by_cases" o:ident "[" ls:Lean.Parser.Tactic.simpLemma,* "]" : tactic =>
  `(tactic| (cases $o:ident with
      | nary op ds =>
        cases op <;> simp_all [zero, one, Expr.isZero, $ls,*] <;> try (split <;> simp_all)
      | const c =>
        cases c <;> simp_all [zero, one, Expr.isZero, $ls,*] <;> try (split <;> simp_all)
      | _ => simp_all [zero, one, Expr.isZero, $ls,*] <;> try (split <;> simp_all)))

/-- a method of `Expression` that no node class overrides and whose hand-written counterpart does
not look at the shape of `self` -/
macro "c03_simple" s:ident hs:ident d:term:max body:ident "[" ls:Lean.Parser.Tactic.simpLemma,* "]" : tactic =>
  `(tactic| (have hr : c03Table.resolve $s $d = some $body := by c03_base $s $hs
             rw [c03Dunder_step _ _ _ (by decide), hr]
             simp only [$body:ident]
             c03_run
             try simp [zero, one, Expr.isZero, $ls,*]
             try (split <;> simp_all)))

theorem tbl_floordiv (n : Nat) (s o : Expr) (hs : s.isNode = true) :
    c03Dunder c03Table (n + 1) .floordiv s o = floordivD s o := by
  c03_simple s hs .floordiv c03_Expression_floordiv [floordivD]

theorem tbl_rfloordiv (n : Nat) (s o : Expr) (hs : s.isNode = true) :
    c03Dunder c03Table (n + 1) .rfloordiv s o = rfloordivD s o := by
  c03_simple s hs .rfloordiv c03_Expression_rfloordiv [rfloordivD, c03_node_not_one hs]

theorem tbl_mod (n : Nat) (s o : Expr) (hs : s.isNode = true) :
    c03Dunder c03Table (n + 1) .mod s o = modD s o := by
  c03_simple s hs .mod c03_Expression_mod [modD]

theorem tbl_rmod (n : Nat) (s o : Expr) (hs : s.isNode = true) :
    c03Dunder c03Table (n + 1) .rmod s o = rmodD s o := by
  c03_simple s hs .rmod c03_Expression_rmod [rmodD]

theorem tbl_pow (n : Nat) (s o : Expr) (hs : s.isNode = true) :
    c03Dunder c03Table (n + 1) .pow s o = powD s o := by
  c03_simple s hs .pow c03_Expression_pow [powD]

theorem tbl_rpow (n : Nat) (s o : Expr) (hs : s.isNode = true) :
    c03Dunder c03Table (n + 1) .rpow s o = rpowD s o := by
  c03_simple s hs .rpow c03_Expression_rpow [rpowD]

theorem tbl_lshift (n : Nat) (s o : Expr) (hs : s.isNode = true) :
    c03Dunder c03Table (n + 1) .lshift s o = mkBinD (.bin .lshift) s o := by
  c03_simple s hs .lshift c03_Expression_lshift [mkBinD]

theorem tbl_rlshift (n : Nat) (s o : Expr) (hs : s.isNode = true) :
    c03Dunder c03Table (n + 1) .rlshift s o = mkBinRD (.bin .lshift) s o := by
  c03_simple s hs .rlshift c03_Expression_rlshift [mkBinRD]

theorem tbl_rshift (n : Nat) (s o : Expr) (hs : s.isNode = true) :
    c03Dunder c03Table (n + 1) .rshift s o = mkBinD (.bin .rshift) s o := by
  c03_simple s hs .rshift c03_Expression_rshift [mkBinD]

theorem tbl_rrshift (n : Nat) (s o : Expr) (hs : s.isNode = true) :
    c03Dunder c03Table (n + 1) .rrshift s o = mkBinRD (.bin .rshift) s o := by
  c03_simple s hs .rrshift c03_Expression_rrshift [mkBinRD]

theorem tbl_and (n : Nat) (s o : Expr) (hs : s.isNode = true) :
    c03Dunder c03Table (n + 1) .and_ s o = mkBinD (fun a b => .nary .band [a, b]) s o := by
  c03_simple s hs .and_ c03_Expression_and_ [mkBinD]

theorem tbl_rand (n : Nat) (s o : Expr) (hs : s.isNode = true) :
    c03Dunder c03Table (n + 1) .rand s o = mkBinRD (fun a b => .nary .band [a, b]) s o := by
  c03_simple s hs .rand c03_Expression_rand [mkBinRD]

theorem tbl_or (n : Nat) (s o : Expr) (hs : s.isNode = true) :
    c03Dunder c03Table (n + 1) .or_ s o = mkBinD (fun a b => .nary .bor [a, b]) s o := by
  c03_simple s hs .or_ c03_Expression_or_ [mkBinD]

theorem tbl_ror (n : Nat) (s o : Expr) (hs : s.isNode = true) :
    c03Dunder c03Table (n + 1) .ror s o = mkBinRD (fun a b => .nary .bor [a, b]) s o := by
  c03_simple s hs .ror c03_Expression_ror [mkBinRD]

theorem tbl_xor (n : Nat) (s o : Expr) (hs : s.isNode = true) :
    c03Dunder c03Table (n + 1) .xor s o = mkBinD (fun a b => .nary .bxor [a, b]) s o := by
  c03_simple s hs .xor c03_Expression_xor [mkBinD]

theorem tbl_rxor (n : Nat) (s o : Expr) (hs : s.isNode = true) :
    c03Dunder c03Table (n + 1) .rxor s o = mkBinRD (fun a b => .nary .bxor [a, b]) s o := by
  c03_simple s hs .rxor c03_Expression_rxor [mkBinRD]

theorem tbl_pos (n : Nat) (s o : Expr) (hs : s.isNode = true) :
    c03Dunder c03Table (n + 1) .pos s o = .ret s := by
  c03_simple s hs .pos c03_Expression_pos []

theorem tbl_invert (n : Nat) (s o : Expr) (hs : s.isNode = true) :
    c03Dunder c03Table (n + 1) .invert s o = .ret (.un .bnot s) := by
  c03_simple s hs .invert c03_Expression_invert []

/-! ### the methods `Sum` / `Product` override

The hand-written methods `match` on `Sum` / `Product` where the source tests `isinstance`: with
`∀ ds, o ≠ .nary .sum ds` among the rewrite rules, `simp only [addD]` takes the default branch. -/

/-- `Expression.__add__` -/
theorem c03_exprAdd (call : C03Call) (s o : Expr) :
    c03_Expression_add.eval c03Preds call s o = exprAdd s o := by
  rcases c03_other_sum o with ⟨ds, rfl⟩ | ho
  · c03_run [c03_Expression_add, exprAdd, c03_isinst_sum]
  · c03_run [c03_Expression_add, exprAdd, ho, c03_not_sum ho]

theorem c03_addD_generic {s : Expr} (h : C03Generic s) (o : Expr) : addD s o = exprAdd s o := by
  simp only [addD, h.notSum, false_implies, implies_true]

theorem tbl_add (n : Nat) (s o : Expr) (hs : s.isNode = true) :
    c03Dunder c03Table (n + 1) .add s o = addD s o := by
  rcases c03_shape s hs with ⟨cs, rfl⟩ | ⟨cs, rfl⟩ | h
  · rw [c03Dunder_step _ _ _ (by decide),
      show c03Table.resolve (.nary .sum cs) .add = some c03_Sum_add from rfl]
    rcases c03_other_sum o with ⟨ds, rfl⟩ | ho
    · c03_run [c03_Sum_add, addD, c03_isinst_sum]
    · c03_run [c03_Sum_add, addD, ho, c03_not_sum ho]
  · rw [c03Dunder_step _ _ _ (by decide),
      show c03Table.resolve (.nary .prod cs) .add = some c03_Expression_add from rfl]
    exact c03_exprAdd ..
  · rw [c03Dunder_step _ _ _ (by decide), h.resolve, c03_addD_generic h,
      show c03Table.resolve (.var "") .add = some c03_Expression_add from rfl]
    exact c03_exprAdd ..

theorem tbl_radd (n : Nat) (s o : Expr) (hs : s.isNode = true) :
    c03Dunder c03Table (n + 1) .radd s o = raddD s o := by
  rcases c03_shape s hs with ⟨cs, rfl⟩ | ⟨cs, rfl⟩ | h
  · rw [c03Dunder_step _ _ _ (by decide),
      show c03Table.resolve (.nary .sum cs) .radd = some c03_Sum_radd from rfl]
    rcases c03_other_sum o with ⟨ds, rfl⟩ | ho
    · c03_run [c03_Sum_radd, raddD, Expr.isConstant]
    · c03_run [c03_Sum_radd, raddD, ho]
  · rw [c03Dunder_step _ _ _ (by decide),
      show c03Table.resolve (.nary .prod cs) .radd = some c03_Expression_radd from rfl]
    cases hn : o.isNumber <;> c03_run [c03_Expression_radd, raddD, hn]
  · rw [c03Dunder_step _ _ _ (by decide), h.resolve,
      show c03Table.resolve (.var "") .radd = some c03_Expression_radd from rfl]
    cases hn : o.isNumber <;> c03_run [c03_Expression_radd, raddD, h.notSum, hn]

theorem tbl_mul (n : Nat) (s o : Expr) (hs : s.isNode = true) :
    c03Dunder c03Table (n + 1) .mul s o = mulD s o := by
  rcases c03_shape s hs with ⟨cs, rfl⟩ | ⟨cs, rfl⟩ | h
  · rw [c03Dunder_step _ _ _ (by decide),
      show c03Table.resolve (.nary .sum cs) .mul = some c03_Expression_mul from rfl]
    c03_run [c03_Expression_mul, mulD]
  · rw [c03Dunder_step _ _ _ (by decide),
      show c03Table.resolve (.nary .prod cs) .mul = some c03_Product_mul from rfl]
    rcases c03_other_prod o with ⟨ds, rfl⟩ | ho
    · c03_run [c03_Product_mul, mulD, c03_isinst_prod]
    · c03_run [c03_Product_mul, mulD, ho, c03_not_prod ho]
  · rw [c03Dunder_step _ _ _ (by decide), h.resolve,
      show c03Table.resolve (.var "") .mul = some c03_Expression_mul from rfl]
    c03_run [c03_Expression_mul, mulD, h.notProd]

theorem tbl_rmul (n : Nat) (s o : Expr) (hs : s.isNode = true) :
    c03Dunder c03Table (n + 1) .rmul s o = rmulD s o := by
  rcases c03_shape s hs with ⟨cs, rfl⟩ | ⟨cs, rfl⟩ | h
  · rw [c03Dunder_step _ _ _ (by decide),
      show c03Table.resolve (.nary .sum cs) .rmul = some c03_Expression_rmul from rfl]
    c03_run [c03_Expression_rmul, rmulD]
  · rw [c03Dunder_step _ _ _ (by decide),
      show c03Table.resolve (.nary .prod cs) .rmul = some c03_Product_rmul from rfl]
    rcases c03_other_prod o with ⟨ds, rfl⟩ | ho
    · c03_run [c03_Product_rmul, rmulD, Expr.isConstant]
    · c03_run [c03_Product_rmul, rmulD, ho]
  · rw [c03Dunder_step _ _ _ (by decide), h.resolve,
      show c03Table.resolve (.var "") .rmul = some c03_Expression_rmul from rfl]
    c03_run [c03_Expression_rmul, rmulD, h.notProd]

/-! ### negation, subtraction, division: bodies that call other methods -/

theorem c03Bin_node_right (call : C03Call) (o : PyBinOp) (a v : Expr) (hv : v.isNode = true) :
    c03Bin call o a v = dispatch (call o.c03Fwd) (call o.c03Refl) a v := by
  unfold c03Bin
  split
  · cases hv
  · rfl

theorem rmulD_negOne (v : Expr) : ∃ r, rmulD v negOne = .ret r := by
  have h1 : negOne.isConstant = true := rfl
  have h2 : negOne.isZero = false := rfl
  have h3 : negOne.isOne = false := rfl
  unfold rmulD
  simp only [h1, h2, h3, Bool.not_true, Bool.false_eq_true, if_false]
  split <;> exact ⟨_, rfl⟩

theorem negE_node {v : Expr} (hv : v.isNode = true) :
    negE v = match rmulD v negOne with
      | .ret r => pure r
      | _ => throw .typeError := by
  cases v <;> first | rfl | cases hv

/-- `Expression.__neg__` is `-1*self`: the reflected multiplication of `self` -/
theorem tbl_neg (n : Nat) (s o : Expr) (hs : s.isNode = true) :
    (c03Dunder c03Table (n + 2) .neg s o).c03Result = negE s := by
  obtain ⟨r, hr⟩ := rmulD_negOne s
  rw [negE_node hs, hr, c03Dunder_step _ _ _ (by decide),
    show c03Table.resolve s .neg = some c03_Expression_neg by c03_base s hs]
  c03_run [c03_Expression_neg, c03Bin_node_right _ _ _ _ hs, dispatch, hs, PyBinOp.c03Refl,
    show Expr.const (.int (-1)) = negOne from rfl, show negOne.isNode = false from rfl,
    show negOne.isConstant = true from rfl, tbl_rmul n s _ hs, hr, Dunder.c03Result]

/-- `-v` inside a method body -/
theorem tbl_neg_un (n : Nat) (v : Expr) :
    c03Un (c03Dunder c03Table (n + 2)) .neg v = negE v := by
  by_cases hv : v.isNode = true
  · rw [← tbl_neg n v v hv]
    unfold c03Un
    split
    · cases hv
    · simp only [hv, if_true]; rfl
  · cases v <;> first | rfl | exact absurd rfl hv

theorem tbl_sub (n : Nat) (s o : Expr) (hs : s.isNode = true) :
    c03Dunder c03Table (n + 3) .sub s o = subD s o := by
  rcases c03_shape s hs with ⟨cs, rfl⟩ | ⟨cs, rfl⟩ | h
  · rw [c03Dunder_step _ _ _ (by decide),
      show c03Table.resolve (.nary .sum cs) .sub = some c03_Sum_sub from rfl]
    c03_run [c03_Sum_sub, tbl_neg_un, subD]
    cases negE o <;> rfl
  · rw [c03Dunder_step _ _ _ (by decide),
      show c03Table.resolve (.nary .prod cs) .sub = some c03_Expression_sub from rfl]
    c03_run [c03_Expression_sub, tbl_neg_un, subD, tbl_add (n + 1) _ _ hs, addD]
    cases negE o <;> rfl
  · rw [c03Dunder_step _ _ _ (by decide), h.resolve,
      show c03Table.resolve (.var "") .sub = some c03_Expression_sub from rfl]
    c03_run [c03_Expression_sub, tbl_neg_un, subD, tbl_add (n + 1) _ _ hs, c03_addD_generic h,
      h.notSum]
    cases negE o <;> rfl

theorem tbl_rsub (n : Nat) (s o : Expr) (hs : s.isNode = true) :
    c03Dunder c03Table (n + 3) .rsub s o = rsubD s o := by
  rw [c03Dunder_step _ _ _ (by decide),
    show c03Table.resolve s .rsub = some c03_Expression_rsub by c03_base s hs]
  cases hn : negE s <;> c03_run [c03_Expression_rsub, tbl_neg_un, rsubD, hn, ite_self]

/-- the helper `quotient(a, b)` with at least one node operand -/
theorem tbl_quotientFn (n : Nat) (a b : Expr) (h : a.isNode = true ∨ b.isNode = true) :
    c03Dunder c03Table (n + 1) .quotientFn a b =
      if b.isOne then .ret a else .ret (.bin .quot a b) := by
  have h1 : c03Dunder c03Table (n + 1) .quotientFn a b =
      c03_quotient.eval c03Preds (c03Dunder c03Table n) a b := by
    cases a <;> first | rfl | cases b <;> first | rfl | simp [Expr.isNode] at h
  rw [h1]
  c03_run [c03_quotient]

theorem tbl_truediv (n : Nat) (s o : Expr) (hs : s.isNode = true) :
    c03Dunder c03Table (n + 2) .truediv s o = divD s o := by
  rw [c03Dunder_step _ _ _ (by decide),
    show c03Table.resolve s .truediv = some c03_Expression_truediv by c03_base s hs]
  cases h1 : o.isOne <;>
    c03_run [c03_Expression_truediv, tbl_quotientFn n s o (Or.inl hs), divD, h1]

theorem tbl_rtruediv (n : Nat) (s o : Expr) (hs : s.isNode = true) :
    c03Dunder c03Table (n + 2) .rtruediv s o = rdivD s o := by
  rw [c03Dunder_step _ _ _ (by decide),
    show c03Table.resolve s .rtruediv = some c03_Expression_rtruediv by c03_base s hs]
  c03_run [c03_Expression_rtruediv, tbl_quotientFn n o s (Or.inr hs), rdivD, c03_node_not_one hs]

/-! ### the operators -/

theorem c03_dispatch_congr {f f' g g' : Expr → Expr → Dunder}
    (hf : ∀ s o, s.isNode = true → f s o = f' s o)
    (hg : ∀ s o, s.isNode = true → g s o = g' s o) (a b : Expr) :
    dispatch f g a b = dispatch f' g' a b := by
  unfold dispatch
  by_cases ha : a.isNode = true <;> by_cases hb : b.isNode = true <;> simp [ha, hb, hf, hg]

/-- `Ops.bin` is the table interpreter run on the regenerated table.  `opByTable` calls a dunder with
the fuel `c03Fuel = 5`; the argument of a `tbl_*` lemma is what is left of it below the deepest
chain of calls inside that method (`__sub__ → __neg__ → __rmul__`: `n + 3`, so `2`;
`__truediv__ → quotient`: `n + 2`, so `3`; a method that calls nothing: `n + 1`, so `4`). -/
theorem c03_bin_eq_table (o : PyBinOp) (a b : Expr) :
    Ops.bin o a b = opByTable c03Table o a b := by
  cases o
  · exact (c03_dispatch_congr (tbl_add 4) (tbl_radd 4) a b).symm
  · exact (c03_dispatch_congr (tbl_sub 2) (tbl_rsub 2) a b).symm
  · exact (c03_dispatch_congr (tbl_mul 4) (tbl_rmul 4) a b).symm
  · exact (c03_dispatch_congr (tbl_truediv 3) (tbl_rtruediv 3) a b).symm
  · exact (c03_dispatch_congr (tbl_floordiv 4) (tbl_rfloordiv 4) a b).symm
  · exact (c03_dispatch_congr (tbl_mod 4) (tbl_rmod 4) a b).symm
  · exact (c03_dispatch_congr (tbl_pow 4) (tbl_rpow 4) a b).symm
  · exact (c03_dispatch_congr (tbl_lshift 4) (tbl_rlshift 4) a b).symm
  · exact (c03_dispatch_congr (tbl_rshift 4) (tbl_rrshift 4) a b).symm
  · exact (c03_dispatch_congr (tbl_and 4) (tbl_rand 4) a b).symm
  · exact (c03_dispatch_congr (tbl_or 4) (tbl_ror 4) a b).symm
  · exact (c03_dispatch_congr (tbl_xor 4) (tbl_rxor 4) a b).symm

/-- `Ops.un` is the table interpreter run on the regenerated table -/
theorem c03_un_eq_table (o : PyUnOp) (e : Expr) : Ops.un o e = unByTable c03Table o e := by
  by_cases he : e.isNode = true
  · cases o
    · simp only [Ops.un, unByTable, he, if_true, PyUnOp.c03Dunder, c03Fuel]
      exact (tbl_neg 3 e e he).symm
    · simp [Ops.un, unByTable, he, PyUnOp.c03Dunder, c03Fuel, tbl_pos 4 e e he,
        Dunder.c03Result]
    · simp [Ops.un, unByTable, he, PyUnOp.c03Dunder, c03Fuel, tbl_invert 4 e e he,
        Dunder.c03Result]
  · cases o <;> simp [Ops.un, unByTable, he]

/-! ### flatteners -/

theorem c03_flatSumLoop_of (F : C03Flatten) (h1 : F.zeroReturns = false)
    (h2 : F.skipsOne = false) (h3 : F.cls = .sum) (h4 : F.spliceFront = true)
    (fuel : Nat) (q d : List Expr) :
    c03FlattenLoop c03Preds F fuel q d = some (flattenedSumLoop fuel q d) := by
  induction fuel generalizing q d with
  | zero => rfl
  | succ n ih =>
    cases q with
    | nil => rfl
    | cons item queue =>
      simp only [c03FlattenLoop, flattenedSumLoop, h1, h2, h3, h4, if_true, Bool.false_and,
        c03_not_truthy]
      by_cases hz : item.isZero = true
      · simp [hz, ih]
      · simp only [hz]
        cases item with
        | nary op cs => cases op <;> simp [ih]
        | _ => simp [ih]

theorem c03_flatProductLoop_of (F : C03Flatten) (h1 : F.zeroReturns = true)
    (h2 : F.skipsOne = true) (h3 : F.cls = .prod) (h4 : F.spliceFront = true)
    (fuel : Nat) (q d : List Expr) :
    c03FlattenLoop c03Preds F fuel q d = flattenedProductLoop fuel q d := by
  induction fuel generalizing q d with
  | zero => rfl
  | succ n ih =>
    cases q with
    | nil => rfl
    | cons item queue =>
      simp only [c03FlattenLoop, flattenedProductLoop, h1, h2, h3, h4, if_true, Bool.true_and,
        c03_not_truthy]
      by_cases hz : item.isZero = true
      · simp [hz]
      · by_cases ho : item.isOne = true
        · simp [hz, ho, ih]
        · simp only [hz, ho]
          cases item with
          | nary op cs => cases op <;> simp [ih]
          | _ => simp [ih]

theorem c03_flatSumLoop (fuel : Nat) (q d : List Expr) :
    c03FlattenLoop c03Preds c03FlatSum fuel q d = some (flattenedSumLoop fuel q d) :=
  c03_flatSumLoop_of _ rfl rfl rfl rfl fuel q d

theorem c03_flatProductLoop (fuel : Nat) (q d : List Expr) :
    c03FlattenLoop c03Preds c03FlatProduct fuel q d = flattenedProductLoop fuel q d :=
  c03_flatProductLoop_of _ rfl rfl rfl rfl fuel q d

theorem c03_flattenedSum_eq (terms : List Expr) :
    flattenedSum terms = c03Flatten c03Preds c03FlatSum terms := by
  unfold flattenedSum c03Flatten
  rw [c03_flatSumLoop]
  generalize flattenedSumLoop _ _ _ = l
  match l with
  | [] => rfl
  | [x] => rfl
  | x :: y :: r => rfl

theorem c03_flattenedProduct_eq (terms : List Expr) :
    flattenedProduct terms = c03Flatten c03Preds c03FlatProduct terms := by
  unfold flattenedProduct c03Flatten
  rw [c03_flatProductLoop]
  generalize flattenedProductLoop _ _ _ = l
  match l with
  | Option.none => rfl
  | some [] => rfl
  | some [x] => rfl
  | some (x :: y :: r) => rfl

/-! ### `is_zero(x - 1)`: the one place where the table language abbreviates an expression -/

theorem c03_exprAdd_negOne (e : Expr) :
    exprAdd e negOne = if e.truthy then .ret (.nary .sum [e, negOne]) else .ret negOne := by
  have h4 : (Expr.const (.int (-1))).isArith = true := rfl
  have h5 : (Expr.const (.int (-1))).truthy = true := rfl
  simp [exprAdd, negOne, h4, h5]

/-- for a node `e`, the tree the operators build for `e - 1` is truthy: `is_zero(e - 1)` is
`False`, as `Expr.isOne` says -/
theorem c03_subD_one (e : Expr) (he : e.isNode = true) :
    ∃ r, subD e one = .ret r ∧ r.isZero = false := by
  have h1 : one.isValidOperand = true := rfl
  have h2 : one.truthy = true := rfl
  have h3 : negE one = .ok negOne := rfl
  have hgen : subD e one = exprAdd e negOne → ∃ r, subD e one = .ret r ∧ r.isZero = false := by
    intro hsub
    rw [hsub, c03_exprAdd_negOne]
    by_cases ht : e.truthy = true
    · exact ⟨.nary .sum [e, negOne], by simp [ht], rfl⟩
    · exact ⟨negOne, by simp [ht], rfl⟩
  rcases c03_shape e he with ⟨cs, rfl⟩ | ⟨cs, rfl⟩ | hg
  · refine ⟨.nary .sum (cs ++ [negOne]), by simp [subD, h1, h2, h3], ?_⟩
    cases cs with
    | nil => rfl
    | cons c cs => cases cs <;> simp [Expr.isZero, Expr.truthy, Expr.truthySum]
  · exact hgen (by simp [subD, h1, h2, h3])
  · exact hgen (by simp [subD, hg.notSum, h1, h2, h3])

theorem c03_sub_one_node (e r : Expr) (he : e.isNode = true)
    (h : Ops.bin .sub e one = .ok r) : r.isZero = e.isOne := by
  rw [c03_node_not_one he]
  obtain ⟨r', hr, hz⟩ := c03_subD_one e he
  simp [Ops.bin, dispatch, he, hr, pure, Except.pure] at h
  subst h
  exact hz

/-- for an int or bool constant `c`, `c - 1` is zero exactly when `Const.isOne c` -/
theorem c03_sub_one_const (c c' : Const) (h : constBin .sub c (.int 1) = .ok (.const c')) :
    (Expr.const c').isZero = (Expr.const c).isOne := by
  cases c with
  | int n =>
    simp [constBin, Const.toValue?, PyBinOp.onValues, Value.sub, arith, Value.isInexact,
      Value.isSeq, Value.num?, subN, Value.toConst?, pure, Except.pure] at h
    subst h
    simp [Expr.isZero, Expr.truthy, Const.truthy, Expr.isOne, Const.isOne]
    by_cases hn : n = 1
    · subst hn; rfl
    · have : n - 1 ≠ 0 := by omega
      rw [show (n - 1 != 0) = true from by simpa using this,
        show (n == 1) = false from by simpa using hn]
      rfl
  | bool b =>
    simp [constBin, Const.toValue?, PyBinOp.onValues, Value.sub, arith, Value.isInexact,
      Value.isSeq, Value.num?, subN, Value.toConst?, pure, Except.pure] at h
    subst h
    cases b <;> simp [Expr.isZero, Expr.truthy, Const.truthy, Expr.isOne, Const.isOne]
  | _ => simp [constBin, Const.toValue?] at h

/-! ### operator programs -/

theorem c03_build_eq_table (p : OpProg) : p.build = p.c03BuildByTable c03Table := by
  induction p with
  | leaf e => rfl
  | bin o p q ihp ihq =>
    simp only [OpProg.build, OpProg.c03BuildByTable, ihp, ihq, c03_bin_eq_table]
    rfl
  | un o p ih =>
    simp only [OpProg.build, OpProg.c03BuildByTable, ih, c03_un_eq_table]
    rfl

end PV
