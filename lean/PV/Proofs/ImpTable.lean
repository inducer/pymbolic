import PV.Generated.Imperative
import PV.Proofs.ImpTableSteps
import PV.Proofs.ImpReads
/-
  C20 (T-gen, the tie of the model to the source through a table regenerated from it): the
  hand-written statement model is the table interpreter run on the regenerated table — statement
  methods (`get_written_variables`, `get_read_variables`, `map_expressions`,
  `get_dependency_mapper`) and `get_all_used_identifiers`.
-/
set_option linter.unusedSimpArgs false

namespace PV.Imp
open PV PV.Generated

variable {σ : Type}

/-! ### plumbing -/

/-- a model result as an interpreter result -/
def C20Res.ofExcept {α β : Type} (f : α → β) : Except ImpErr α → C20Res β
  | .ok a => .ok (f a)
  | .error e => .err e

@[simp] theorem C20Res.bind_ok {α β : Type} (a : α) (f : α → C20Res β) :
    (C20Res.ok a).bind f = f a := rfl
@[simp] theorem C20Res.bind_err {α β : Type} (e : ImpErr) (f : α → C20Res β) :
    (C20Res.err e : C20Res α).bind f = .err e := rfl
@[simp] theorem C20Res.bind_stuck {α β : Type} (f : α → C20Res β) :
    (C20Res.stuck : C20Res α).bind f = .stuck := rfl
@[simp] theorem C20Res.bind_fuel {α β : Type} (f : α → C20Res β) :
    (C20Res.fuel : C20Res α).bind f = .fuel := rfl

@[c20step] theorem then_ok {α : Type} (a : α) (k : α → C20Out σ) : c20Then (.ok a) k = k a := rfl
@[c20step] theorem then_err {α : Type} (e : ImpErr) (k : α → C20Out σ) :
    c20Then (.err e) k = .err e := rfl
@[c20step] theorem then_stuck {α : Type} (k : α → C20Out σ) : c20Then .stuck k = .stuck := rfl
@[c20step] theorem then_fuel {α : Type} (k : α → C20Out σ) : c20Then .fuel k = .fuel := rfl

/-- the run-time configuration over the regenerated table -/
abbrev cfgCur (G : NameGen σ) (order : List String → List String) (wf : Nat) : C20Cfg σ :=
  { T := c20Table, G := G, order := order, whileFuel := wf }

/-- the evaluation context of a frame over the regenerated table -/
abbrev cxCur (G : NameGen σ) (order : List String → List String) (wf : Nat) (hook : C20Hook σ)
    (cls : Option String) : C20Ctx σ :=
  { T := c20Table, G := G, order := order, whileFuel := wf, hook := hook, cls := cls }

@[simp, c20step] theorem ctx_cur (G : NameGen σ) (order) (wf : Nat) (hook : C20Hook σ) (cls) :
    (cfgCur G order wf).ctx hook cls = cxCur G order wf hook cls := rfl

@[simp, c20step] theorem run_succ (k : C20Cfg σ) (n : Nat) (cls) (env) (body) :
    c20Run k (n + 1) cls env body = c20OutVal (c20Exec (k.ctx (c20Run k n) cls) body env) := rfl

/-! the equations of the interpreter, one per syntactic form; as they are fully applied, loop
bodies (`c20Exec c body` as an argument of `c20ForIn` / `c20While`) and comprehension elements stay
folded -/
attribute [c20step] c20Eval.eq_1 c20Eval.eq_2 c20Eval.eq_3 c20Eval.eq_4 c20Eval.eq_5 c20Eval.eq_6
  c20Eval.eq_7 c20Eval.eq_8 c20Eval.eq_9 c20Eval.eq_10 c20Eval.eq_11 c20Eval.eq_12 c20Eval.eq_13
  c20Eval.eq_14 c20Eval.eq_15 c20Eval.eq_16 c20Eval.eq_17 c20Eval.eq_18 c20Eval.eq_19
  c20Eval.eq_20 c20Eval.eq_21 c20Eval.eq_22 c20Eval.eq_23 c20Eval.eq_24 c20Eval.eq_25
  c20Eval.eq_26 c20Eval.eq_27 c20Eval.eq_28 c20Eval.eq_29 c20EvalL.eq_1 c20EvalL.eq_2
  c20ExecS.eq_1 c20ExecS.eq_2 c20ExecS.eq_3 c20ExecS.eq_4 c20ExecS.eq_5 c20ExecS.eq_6
  c20ExecS.eq_7 c20ExecS.eq_8 c20ExecS.eq_9 c20ExecS.eq_10 c20ExecS.eq_11 c20ExecS.eq_12
  c20ExecS.eq_13 c20ExecS.eq_14 c20ExecS.eq_15 c20ExecS.eq_16 c20ExecS.eq_17 c20ExecS.eq_18
  c20ExecS.eq_19 c20ExecS.eq_20 c20ExecS.eq_21 c20Exec.eq_1 c20Exec.eq_2

attribute [c20step] c20Look c20Get c20Set c20OutVal c20GenOf
  c20StrsOf c20SetOfList c20BitOr c20BitAnd c20Branch c20Truthy c20Cond
  c20IsNone c20IsInstanceV c20BoolRes c20In c20Index c20DictGet c20LocalFrame
  c20Resolve c20After c20MethodOf c20Frame
  c20KwOk c20BindParams c20Locals c20LocalsS c20Unbound c20Nub c20OfLit c20Elems
  c20ForElems c20Resizes c20ResizesS c20Touches c20TouchesS c20AssignTuple c20SetAll
  c20OutOfOption c20Append c20Extend c20SetItem c20SetdefaultAddV c20ItemUpdate c20ForItems
  c20Fstr c20Interleave c20Join c20GenCall c20CallFunc c20CallMethod
  c20Cls_Statement c20Cls_ConditionalStatement c20Cls_Assignment
  c20Cls_ConditionalAssignment c20Cls_Nop c20Cls_RecordWithoutPickling

/-! the functions of the table stay folded (their bodies are unfolded where they are run); their
names are all a look-up needs -/
@[c20step] theorem fn_name_fuse : c20Fn_fuse_statement_streams_with_unique_ids.name =
    "pymbolic.imperative.transform.fuse_statement_streams_with_unique_ids" := rfl
@[c20step] theorem fn_name_disambiguate : c20Fn_disambiguate_identifiers.name =
    "pymbolic.imperative.transform.disambiguate_identifiers" := rfl
@[c20step] theorem fn_name_disfuse : c20Fn_disambiguate_and_fuse.name =
    "pymbolic.imperative.transform.disambiguate_and_fuse" := rfl
@[c20step] theorem fn_name_used : c20Fn_get_all_used_identifiers.name =
    "pymbolic.imperative.analysis.get_all_used_identifiers" := rfl
@[c20step] theorem fn_name_dot : c20Fn_get_dot_dependency_graph.name =
    "pymbolic.imperative.utils.get_dot_dependency_graph" := rfl

@[c20step] theorem stmtFlags_fold :
    ({ subscripts := false, lookups := false, calls := .descend, cses := false } : DepFlags) =
      stmtFlags := rfl

@[c20step] theorem strSetOf_nil (d : List String → List String) :
    c20StrSetOf (σ := σ) d [] = .ok (.strSet (d [])) := rfl
@[c20step] theorem strSetOf_one (d : List String → List String) (a : String) :
    c20StrSetOf (σ := σ) d [.str a] = .ok (.strSet (d [a])) := rfl

/-! with them: list functions on literal lists, decisions on Boolean literals, the monad of results -/
attribute [c20step] List.find? beq_self_eq_true bne_self_eq_false List.all_cons List.any_cons
  List.all_nil List.any_nil Bool.or_false Bool.or_true Bool.and_true Bool.and_false Bool.true_and
  Bool.false_and Bool.true_or Bool.false_or Bool.not_true Bool.not_false Bool.false_eq_true
  List.length_nil List.length_cons List.zip_nil_right List.zip_nil_left List.zip_cons_cons
  Option.map_some Option.map_none List.filter_cons List.filter_nil List.map_cons List.map_nil
  List.nil_append List.cons_append List.append_nil bne_iff_ne ne_eq not_true_eq_false
  not_false_eq_true decide_true decide_false decide_not Bool.decide_eq_true C20Res.bind_ok
  C20Res.bind_err C20Res.bind_stuck C20Res.bind_fuel List.mem_cons List.mem_nil_iff
  List.not_mem_nil or_false or_true false_or true_or and_true true_and and_false false_and
  List.contains_cons List.contains_nil List.elem_cons List.elem_nil bne Bool.not_eq_true'

/-- run the table interpreter symbolically, statement by statement: the rewrite set `c20step`,
decisions on string and number literals and on constructors, and the extra lemmas given -/
syntax "c20_run" ("[" Lean.Parser.Tactic.simpLemma,* "]")? : tactic
macro_rules
  | `(tactic| c20_run) => `(tactic| c20_run [])
  | `(tactic| c20_run [$ls,*]) => `(tactic| simp only [c20step, String.reduceEq, String.reduceBEq,
      String.reduceBNe, String.reduceNe, ↓reduceIte, Nat.reduceBNe, Nat.reduceEqDiff, Nat.reduceAdd,
      reduceCtorEq, $ls,*])

/-! ### names: what the interpreter's look-ups by name yield

Each look-up the runs below need (a class of the table, a module-level name, an attribute, a method
of a built-in value) is decided once, here, and the runs rewrite with the result, because a
comparison of two long names is checked by decoding both.  Look-ups in the same list stand in one
statement, a conjunction: `simp` takes every conjunct as a rewrite rule of its own, and the kernel
decodes a string literal once per declaration. -/

section names
variable (G : NameGen σ) (order : List String → List String) (wf : Nat) (hook : C20Hook σ)
  (cls : Option String)

/-- a function of the table, called by its qualified name -/
@[c20step] theorem applyRef_fn (args kw kv) :
    c20ApplyRef (cxCur G order wf hook cls) "pymbolic.imperative.analysis.get_all_used_identifiers"
      args kw kv = c20CallFn (cxCur G order wf hook cls) c20Fn_get_all_used_identifiers args kw kv ∧
    c20ApplyRef (cxCur G order wf hook cls) "pymbolic.imperative.transform.disambiguate_identifiers"
      args kw kv = c20CallFn (cxCur G order wf hook cls) c20Fn_disambiguate_identifiers args kw kv ∧
    c20ApplyRef (cxCur G order wf hook cls)
      "pymbolic.imperative.transform.fuse_statement_streams_with_unique_ids" args kw kv =
      c20CallFn (cxCur G order wf hook cls) c20Fn_fuse_statement_streams_with_unique_ids args kw kv ∧
    c20ApplyRef (cxCur G order wf hook cls) "pymbolic.imperative.transform.disambiguate_and_fuse"
      args kw kv = c20CallFn (cxCur G order wf hook cls) c20Fn_disambiguate_and_fuse args kw kv ∧
    c20ApplyRef (cxCur G order wf hook cls) "pymbolic.imperative.utils.get_dot_dependency_graph"
      args kw kv = c20CallFn (cxCur G order wf hook cls) c20Fn_get_dot_dependency_graph args kw kv := by
  c20_run [c20ApplyRef, C20Table.func?, c20Table]

/-- the names that are not functions of the table are primitives of the reading (`c20Prim`);
`DependencyMapper(include_subscripts=False, include_lookups=False, include_calls="descend_args")`
is the mapper the model calls `stmtFlags` -/
@[c20step] theorem applyRef_prim :
    (∀ xs kv, c20ApplyRef (cxCur G order wf hook cls) "builtins.list" [.list xs] [] kv =
      .ok (.list xs)) ∧
    (∀ xs kv, c20ApplyRef (cxCur G order wf hook cls) "pytools.UniqueNameGenerator" [.strSet xs] []
      kv = .ok (.gen (G.init xs))) ∧
    (∀ x kv, c20ApplyRef (cxCur G order wf hook cls) "pymbolic.primitives.Variable" [.str x] [] kv =
      .ok (.expr (.var x))) ∧
    (∀ kvs kv, c20ApplyRef (cxCur G order wf hook cls) "pymbolic.mapper.substitutor.make_subst_func"
      [.dict kvs] [] kv =
        match c20ExprDict kvs with
        | some m => .ok (.substFn m)
        | none => .stuck) ∧
    (∀ m kv, c20ApplyRef (cxCur G order wf hook cls)
      "pymbolic.mapper.substitutor.SubstitutionMapper" [.substFn m] [] kv =
        .ok (.exprMap fun e => (substM { byName := m } e).1)) ∧
    c20ApplyRef (cxCur G order wf hook cls) "pymbolic.mapper.dependency.DependencyMapper" []
      ["include_subscripts", "include_lookups", "include_calls"]
      [.bool false, .bool false, .str "descend_args"] = .ok (.depMap stmtFlags) := by
  refine ⟨?_, ?_, ?_, ?_, ?_, ?_⟩ <;> intros <;> c20_run [c20ApplyRef, C20Table.func?, c20Table] <;> rfl

/-! calling a value -/

@[c20step] theorem apply_ref (c : C20Ctx σ) (env q args kw kv) :
    c20Apply c env (.ref q) args kw kv = c20ApplyRef c q args kw kv := rfl
@[c20step] theorem apply_localFn (c : C20Ctx σ) (env ps body args kv) :
    c20Apply c env (.localFn ps body) args [] kv =
      if ps.length != args.length then .stuck
      else c.hook c.cls (c20LocalFrame ps body args env) body := rfl
@[c20step] theorem apply_strPred (c : C20Ctx σ) (env p s kv) :
    c20Apply c env (.strPred p) [.str s] [] kv = .ok (.bool (p s)) := rfl
@[c20step] theorem apply_stmtStr (c : C20Ctx σ) (env p s kv) :
    c20Apply c env (.stmtStr p) [.stmt s] [] kv = .ok (.str (p s)) := rfl
@[c20step] theorem apply_thunk (c : C20Ctx σ) (env v kv) :
    c20Apply c env (.thunk v) [] [] kv = .ok v := rfl
@[c20step] theorem apply_exprMap (c : C20Ctx σ) (env g e kv) :
    c20Apply c env (.exprMap g) [.expr e] [] kv = .ok (.expr (g e)) := rfl
@[c20step] theorem apply_depMap (c : C20Ctx σ) (env fl e kv) :
    c20Apply c env (.depMap fl) [.expr e] [] kv = c20DepsOf fl e := rfl

/-! attributes and `copy(**kw)` of a statement, attributes of an expression -/

@[c20step] theorem attr_id (s : Stmt) : c20Attr (σ := σ) (.stmt s) "id" = .ok (.str s.id) := rfl
@[c20step] theorem attr_dependsOn (s : Stmt) :
    c20Attr (σ := σ) (.stmt s) "depends_on" = .ok (.strSet s.dependsOn) := rfl
@[c20step] theorem attr_lhs (i d l r c) :
    c20Attr (σ := σ) (.stmt ⟨i, d, .assign l r c⟩) "lhs" = .ok (.expr l) := rfl
@[c20step] theorem attr_rhs (i d l r c) :
    c20Attr (σ := σ) (.stmt ⟨i, d, .assign l r c⟩) "rhs" = .ok (.expr r) := rfl
@[c20step] theorem attr_condition (i d l r c) :
    c20Attr (σ := σ) (.stmt ⟨i, d, .assign l r (some c)⟩) "condition" = .ok (.expr c) := rfl
@[c20step] theorem attr_name (x : String) :
    c20Attr (σ := σ) (.expr (.var x)) "name" = .ok (.str x) := rfl
@[c20step] theorem attr_aggregate (a i : Expr) :
    c20Attr (σ := σ) (.expr (.subscript a i)) "aggregate" = .ok (.expr a) := rfl

@[c20step] theorem copy_id (s : Stmt) (i : String) :
    c20Copy (σ := σ) s ["id"] [.str i] = some { s with id := i } := rfl
@[c20step] theorem copy_dependsOn (s : Stmt) (d : List String) :
    c20Copy (σ := σ) s ["depends_on"] [.strSet d] = some { s with dependsOn := d } := rfl

/-! methods of a `dict` and of a `set` -/

@[c20step] theorem method_get (c : C20Ctx σ) (kvs) (k : String) (d kv) :
    c20Method c (.dict kvs) "get" [.str k, d] [] kv = .ok ((c20DictGet k kvs).getD d) := rfl
@[c20step] theorem method_copy (c : C20Ctx σ) (xs : List String) (kv) :
    c20Method c (.strSet xs) "copy" [] [] kv = .ok (.strSet xs) := rfl

/-! what a `for` statement may iterate over -/

@[c20step] theorem iterOk_var (body) (x : String) :
    c20IterOk body (.var x) = !c20Resizes x body := rfl
@[c20step] theorem iterOk_attr (body e) (a : String) : c20IterOk body (.attr e a) = true := rfl
@[c20step] theorem iterOk_bitAnd (body a b) : c20IterOk body (.bitAnd a b) = true := rfl
@[c20step] theorem iterOk_get (body) (d : String) (as kw kv) :
    c20IterOk body (.meth (.var d) "get" as kw kv) = !(c20Resizes d body || c20Touches d body) := rfl
@[c20step] theorem iterOk_copy (body o) : c20IterOk body (.meth o "copy" [] [] []) = true := by
  cases o <;> rfl

/-! the classes of the regenerated table -/

@[c20step] theorem class?_cur :
    c20Table.class? "pymbolic.imperative.statement.Statement" = some c20Cls_Statement ∧
    c20Table.class? "pymbolic.imperative.statement.ConditionalStatement" =
      some c20Cls_ConditionalStatement ∧
    c20Table.class? "pymbolic.imperative.statement.Assignment" = some c20Cls_Assignment ∧
    c20Table.class? "pymbolic.imperative.statement.ConditionalAssignment" =
      some c20Cls_ConditionalAssignment ∧
    c20Table.class? "pymbolic.imperative.statement.Nop" = some c20Cls_Nop ∧
    c20Table.class? "pytools.RecordWithoutPickling" = some c20Cls_RecordWithoutPickling := by
  c20_run [C20Table.class?, c20Table]

/-- the class of a statement value in the regenerated table -/
def clsCur (s : Stmt) : C20Class :=
  match s.kind with
  | .assign _ _ none => c20Cls_Assignment
  | .assign _ _ (some _) => c20Cls_ConditionalAssignment
  | .nop => c20Cls_Nop

theorem class?_classOf (s : Stmt) : c20Table.class? (c20ClassOf c20Table s) = some (clsCur s) := by
  obtain ⟨i, d, k⟩ := s
  cases k with
  | nop => exact class?_cur.2.2.2.2.1
  | assign l r c =>
    cases c
    · exact class?_cur.2.2.1
    · exact class?_cur.2.2.2.1

/-- a method call on a statement is a look-up along the MRO of its class -/
@[c20step] theorem method_stmt (s : Stmt) (m : String) (args kw kv) :
    c20Method (cxCur G order wf hook cls) (.stmt s) m args kw kv =
      c20CallBody (cxCur G order wf hook cls) s (c20Resolve c20Table m (clsCur s).mro) args kw kv := by
  simp only [c20Method, class?_classOf]

/-- `super().m(…)` inside a method of class `cl` continues the look-up after `cl` (`self` is the
first entry of every method's frame) -/
theorem super_stmt (cl : String) (s : Stmt) (env : C20Env σ) (m : String) (args kw kv) :
    c20Super (cxCur G order wf hook (some cl)) (("self", .stmt s) :: env) m args kw kv =
      c20CallBody (cxCur G order wf hook (some cl)) s
        (c20Resolve c20Table m (c20After cl (clsCur s).mro)) args kw kv := by
  simp only [c20Super, c20Get, ↓reduceIte, class?_classOf]

@[c20step] theorem callBody_code (c : C20Ctx σ) (s : Stmt) (cl : String) (ps body args kw kv) :
    c20CallBody c s (some (cl, .code ps body)) args kw kv =
      match c20Frame (⟨"self", none⟩ :: ps) body (.stmt s :: args) kw kv with
      | some env => c.hook (some cl) env body
      | none => .stuck := rfl
@[c20step] theorem callBody_copy (c : C20Ctx σ) (s : Stmt) (cl : String) (kw kv) :
    c20CallBody c s (some (cl, .prim "pytools.RecordWithoutPickling.copy")) [] kw kv =
      match c20Copy s kw kv with
      | some s' => .ok (.stmt s')
      | none => .stuck := by
  cases h : c20Copy s kw kv <;> simp only [c20CallBody, h]

end names

/-- look-up in a `dict` whose values are all built by `f` -/
theorem dictGet_map {α : Type} (f : α → C20Val σ) (k : String) : ∀ m : List (String × α),
    c20DictGet k (m.map fun p => (p.1, f p.2)) = (m.lookup k).map f
  | [] => rfl
  | (a, b) :: m => by
    have ih := dictGet_map f k m
    by_cases h : a = k
    · subst h; simp [c20DictGet, List.lookup]
    · have h' : (k == a) = false := by simpa using fun h' => h h'.symm
      simp only [List.map_cons, c20DictGet, List.lookup, h'] at ih ⊢
      simp [h, ih]

theorem strsOf_map_str : ∀ xs : List String, c20StrsOf (xs.map (C20Val.str (σ := σ))) = some xs
  | [] => rfl
  | x :: xs => by simp [c20StrsOf, strsOf_map_str xs]

/-! ### `frozenset(dep.name for dep in …)` -/

def varNames : List Expr → List String
  | [] => []
  | .var x :: r => x :: varNames r
  | _ :: r => varNames r

theorem depNames_eq_setOfList : ∀ (r : List Expr), (∀ y ∈ r, ∃ x, y = .var x) →
    depNames r = .ok (c20SetOfList (varNames r))
  | [], _ => rfl
  | y :: r, h => by
    obtain ⟨x, rfl⟩ := h y (List.mem_cons_self ..)
    have ih := depNames_eq_setOfList r (fun y hy => h y (List.mem_cons_of_mem _ hy))
    simp [depNames, ih, varNames, c20SetOfList, pure, Except.pure, bind, Except.bind]

theorem mapElems_names (c : C20Ctx σ) (env : C20Env σ) : ∀ (r : List Expr),
    (∀ y ∈ r, ∃ x, y = .var x) →
    c20MapElems (c20Eval c (.attr (.var "dep") "name")) "dep" env (r.map .expr) =
      .ok ((varNames r).map .str)
  | [], _ => rfl
  | y :: r, h => by
    obtain ⟨x, rfl⟩ := h y (List.mem_cons_self ..)
    have ih := mapElems_names c env r (fun y hy => h y (List.mem_cons_of_mem _ hy))
    c20_run [c20MapElems, ih, varNames]

/-- `frozenset(dep.name for dep in M(e))` for a dependency mapper with the statement flags is
`varsOf e` -/
theorem names_of_deps (c : C20Ctx σ) (env : C20Env σ) (e : Expr) :
    ((c20DepsOf stmtFlags e).bind fun iv =>
      (c20Comp (c20Eval c (.attr (.var "dep") "name")) "dep" env iv).bind fun ws =>
        c20StrSetOf c20SetOfList ws) = C20Res.ofExcept .strSet (varsOf e) := by
  unfold varsOf c20DepsOf
  cases hr : deps stmtFlags e with
  | error x => rfl
  | ok r =>
    have hv := (deps_stmt e r hr).1
    simp [c20Comp, c20Elems, mapElems_names c env r hv, c20StrSetOf, strsOf_map_str,
      depNames_eq_setOfList r hv, C20Res.ofExcept]

/-! ### the statement methods

The call depth a theorem asks for (`n + 1`, `3 ≤ m`, …) is the longest chain of nested calls of
translated code below the call it speaks of, that call included (`c20Run k 0` answers no call):
`get_dependency_mapper` and `get_written_variables` call nothing (1); `get_read_variables` of a
`ConditionalAssignment` goes on with `super()` into `Assignment`'s, which calls `get_vars` and
`get_dependency_mapper` (3), and so does the `super()` chain of `map_expressions` (3);
`get_all_used_identifiers` calls those (4), `disambiguate_identifiers` calls it (5),
`disambiguate_and_fuse` that (6). -/

section methods
variable (G : NameGen σ) (order : List String → List String) (wf : Nat)

/-- what a look-up along an MRO yields when class `cl` is the first to define method `m` -/
@[c20step] def foundIn (cl : C20Class) (m : String) : Option (String × C20Body) :=
  (c20MethodOf cl m).map fun b => (cl.name, b)

/-- where the look-ups of the statement methods end: every class finds `copy` in
`RecordWithoutPickling` and `get_dependency_mapper` in `Statement`; `Assignment` and
`ConditionalAssignment` find `get_written_variables` in `Assignment`; `Assignment` finds
`get_read_variables` in itself and, going on from there with `super()`, in `Statement`; after
`ConditionalStatement`, the MRO of `ConditionalAssignment` is that of `Assignment` -/
@[c20step] theorem resolve_cur :
    (∀ s, c20Resolve c20Table "copy" (clsCur s).mro =
      some ("pytools.RecordWithoutPickling", .prim "pytools.RecordWithoutPickling.copy")) ∧
    (∀ s, c20Resolve c20Table "get_dependency_mapper" (clsCur s).mro =
      foundIn c20Cls_Statement "get_dependency_mapper") ∧
    (∀ i d l r c, c20Resolve c20Table "get_written_variables" (clsCur ⟨i, d, .assign l r c⟩).mro =
      foundIn c20Cls_Assignment "get_written_variables") ∧
    c20Resolve c20Table "get_read_variables" c20Cls_Assignment.mro =
      foundIn c20Cls_Assignment "get_read_variables" ∧
    (∀ i d l r c, c20Resolve c20Table "get_read_variables"
        (c20After "pymbolic.imperative.statement.Assignment" (clsCur ⟨i, d, .assign l r c⟩).mro) =
      foundIn c20Cls_Statement "get_read_variables") ∧
    c20After "pymbolic.imperative.statement.ConditionalStatement" c20Cls_ConditionalAssignment.mro =
      c20Cls_Assignment.mro := by
  refine ⟨fun s => ?_, fun s => ?_, fun i d l r c => ?_, ?_, fun i d l r c => ?_, by decide +kernel⟩
  · rcases s with ⟨i, d, ⟨l, r, _ | c⟩ | _⟩ <;> c20_run [clsCur]
  · rcases s with ⟨i, d, ⟨l, r, _ | c⟩ | _⟩ <;> c20_run [clsCur]
  · cases c <;> c20_run [clsCur]
  · c20_run []
  · cases c <;> c20_run [clsCur]

/-- `get_dependency_mapper()` of every statement class builds the mapper the model calls
`stmtFlags` (the keyword arguments are read from the table; `include_calls` is the parameter's
default) -/
theorem get_deps_eq_table (n : Nat) (cls : Option String) (s : Stmt) :
    c20Method (cxCur G order wf (c20Run (cfgCur G order wf) (n + 1)) cls) (.stmt s)
      "get_dependency_mapper" [] [] [] = .ok (.depMap stmtFlags) := by
  c20_run []

/-- the body of `Assignment.get_read_variables`, whichever way it is reached (called on an
`Assignment`, or through `super()` from `ConditionalStatement`) -/
theorem reads_assign_body (n : Nat) (cls : Option String) (i d l r c) :
    c20CallBody (cxCur G order wf (c20Run (cfgCur G order wf) (n + 2)) cls)
      ⟨i, d, .assign l r c⟩
      (foundIn c20Cls_Assignment "get_read_variables") [] [] [] =
      C20Res.ofExcept .strSet (readsAssign l r) := by
  c20_run [super_stmt, get_deps_eq_table, names_of_deps]
  cases hv : varsOf r <;>
    c20_run [C20Res.ofExcept, readsAssign, hv, bind, Except.bind, pure, Except.pure]

/-- **`get_read_variables` of the current source is `Kind.reads`**: for every statement, the
method the MRO of its class resolves to (`Statement`'s for a `Nop`, `Assignment`'s for an
`Assignment`, `ConditionalStatement`'s — which continues in `Assignment`'s through `super()` — for
a `ConditionalAssignment`), run by the table interpreter, returns the set the model computes,
or raises what the model raises. -/
theorem reads_method_eq_table (m : Nat) (hm : 3 ≤ m) (cls : Option String) (s : Stmt) :
    c20Method (cxCur G order wf (c20Run (cfgCur G order wf) m) cls) (.stmt s)
      "get_read_variables" [] [] [] = C20Res.ofExcept .strSet s.kind.reads := by
  obtain ⟨n, rfl⟩ := Nat.exists_eq_add_of_le' hm
  obtain ⟨i, d, k⟩ := s
  cases k with
  | nop => c20_run [clsCur]; rfl
  | assign l r c =>
    cases c with
    | none =>
      simp only [method_stmt, clsCur, resolve_cur]
      exact reads_assign_body G order wf (n + 1) cls i d l r none
    | some c =>
      have hs : ∀ env, c20Super (cxCur G order wf (c20Run (cfgCur G order wf) (n + 2))
            (some "pymbolic.imperative.statement.ConditionalStatement"))
          (("self", .stmt ⟨i, d, .assign l r (some c)⟩) :: env) "get_read_variables" [] [] [] =
          C20Res.ofExcept .strSet (readsAssign l r) := fun env => by
        simp only [super_stmt, clsCur, resolve_cur]
        exact reads_assign_body G order wf n _ i d l r (some c)
      c20_run [clsCur, hs, get_deps_eq_table, names_of_deps]
      cases ha : readsAssign l r <;> cases hv : varsOf c <;>
        c20_run [C20Res.ofExcept, Kind.reads, ha, hv, bind, Except.bind, pure, Except.pure]

/-- **`get_written_variables` of the current source is `Kind.written`** (the `isinstance` chain,
the `assert` and the final `raise TypeError` of `Assignment.get_written_variables`; `Statement`'s
empty set for a `Nop`). -/
theorem written_method_eq_table (m : Nat) (hm : 1 ≤ m) (cls : Option String) (s : Stmt) :
    c20Method (cxCur G order wf (c20Run (cfgCur G order wf) m) cls) (.stmt s)
      "get_written_variables" [] [] [] = C20Res.ofExcept .strSet s.kind.written := by
  obtain ⟨n, rfl⟩ := Nat.exists_eq_add_of_le' hm
  obtain ⟨i, d, k⟩ := s
  cases k with
  | nop => c20_run [clsCur]; rfl
  | assign l r c =>
    -- the run is the same for any `l` up to the tests on `l`; those are then decided for each
    -- form of `l` (and of the aggregate, when `l` is a subscript)
    c20_run []
    cases l <;> try rfl
    all_goals
      rename_i a _
      cases a <;> rfl

/-- **`map_expressions` of the current source is `Stmt.mapExprs`**: `Statement`'s returns `self`;
`Assignment`'s copies with `lhs=mapper(lhs)` (as `include_lhs` defaults to `True`) and
`rhs=mapper(rhs)`; `ConditionalAssignment`'s continues in `Assignment`'s through `super()` (its MRO
passes `ConditionalStatement`, which defines none) and copies with `condition=mapper(condition)`. -/
theorem mapExprs_method_eq_table (m : Nat) (hm : 3 ≤ m) (cls : Option String) (s : Stmt)
    (f : Expr → Expr) :
    c20Method (cxCur G order wf (c20Run (cfgCur G order wf) m) cls) (.stmt s)
      "map_expressions" [.exprMap f] [] [] = .ok (.stmt (s.mapExprs f)) := by
  obtain ⟨n, rfl⟩ := Nat.exists_eq_add_of_le' hm
  obtain ⟨i, d, k⟩ := s
  -- once the class is known the run is closed: it only moves `l`, `r`, `c`, `f` around
  cases k with
  | nop => rfl
  | assign l r c => cases c <;> rfl

/-- `get_deps_eq_table` at any call depth from 1 on -/
theorem get_deps_ge (m : Nat) (hm : 1 ≤ m) (cls : Option String) (s : Stmt) :
    c20Method (cxCur G order wf (c20Run (cfgCur G order wf) m) cls) (.stmt s)
      "get_dependency_mapper" [] [] [] = .ok (.depMap stmtFlags) := by
  obtain ⟨n, rfl⟩ := Nat.exists_eq_add_of_le' hm
  exact get_deps_eq_table G order wf n cls s

end methods

/-! ### `get_all_used_identifiers` -/

theorem unionS_cons (a : List String) (x : String) (c : List String) :
    unionS a (x :: c) = unionS (insertS a x) c := rfl

theorem unionS_insertS (a b : List String) (x : String) :
    unionS a (insertS b x) = insertS (unionS a b) x := by
  by_cases hx : x ∈ b
  · have h1 : insertS b x = b := by simp [insertS, hx]
    have h2 : insertS (unionS a b) x = unionS a b := by
      simp [insertS, mem_unionS.2 (Or.inr hx)]
    rw [h1, h2]
  · have h1 : insertS b x = b ++ [x] := by simp [insertS, hx]
    rw [h1]
    simp only [unionS, List.foldl_append, List.foldl_cons, List.foldl_nil]

theorem unionS_assoc (a : List String) : ∀ (c b : List String),
    unionS (unionS a b) c = unionS a (unionS b c)
  | [], b => rfl
  | x :: c, b => by
    rw [unionS_cons, unionS_cons, ← unionS_insertS, unionS_assoc a c (insertS b x)]

theorem unionS_eq_append : ∀ (xs a : List String), (a ++ xs).Nodup → unionS a xs = a ++ xs
  | [], a, _ => by simp [unionS]
  | x :: xs, a, h => by
    have hx : x ∉ a := by
      intro hx
      have := List.nodup_append.1 h
      exact this.2.2 x hx x (List.mem_cons_self ..) rfl
    rw [unionS_cons]
    have : insertS a x = a ++ [x] := by simp [insertS, hx]
    rw [this, unionS_eq_append xs (a ++ [x]) (by simpa using h)]
    simp

theorem unionS_nil_left {xs : List String} (h : xs.Nodup) : unionS [] xs = xs := by
  simpa using unionS_eq_append xs [] (by simpa using h)

/-- the value a loop variable holds after the loop -/
def c20LastD (j : C20Val σ) : List (C20Val σ) → C20Val σ
  | [] => j
  | v :: vs => c20LastD v vs

theorem used_loop (f : C20Env σ → C20Out σ) (v : C20Val σ)
    (hf : ∀ (s : Stmt) (acc : List String),
      f [("insn_stream", v), ("result", .strSet acc), ("insn", .stmt s)] =
        match s.kind.reads with
        | .error e => .err e
        | .ok r =>
          match s.kind.written with
          | .error e => .err e
          | .ok w => .next [("insn_stream", v), ("result", .strSet (unionS (unionS acc r) w)),
                            ("insn", .stmt s)]) :
    ∀ (ss : List Stmt) (acc : List String) (j : C20Val σ),
      c20ForIn f "insn" (ss.map .stmt) [("insn_stream", v), ("result", .strSet acc), ("insn", j)] =
        match usedIdentifiers ss with
        | .ok ids => .next [("insn_stream", v), ("result", .strSet (unionS acc ids)),
                            ("insn", c20LastD j (ss.map .stmt))]
        | .error e => .err e
  | [], acc, j => by simp [c20ForIn, usedIdentifiers, pure, Except.pure, unionS, c20LastD]
  | s :: ss, acc, j => by
    simp only [List.map_cons, c20ForIn, c20Set, String.reduceEq, if_false, if_true, hf, usedIdentifiers, c20LastD]
    cases hr : s.kind.reads with
    | error e => simp [bind, Except.bind]
    | ok r =>
      cases hw : s.kind.written with
      | error e => simp [bind, Except.bind]
      | ok w =>
        simp only [used_loop f v hf ss]
        cases ht : usedIdentifiers ss with
        | error e => simp [bind, Except.bind]
        | ok tl => simp [bind, Except.bind, pure, Except.pure, unionS_assoc]

/-- **`get_all_used_identifiers` of the current source is `usedIdentifiers`**: the loop that
unions `get_read_variables()` and `get_written_variables()` of every statement, in order. -/
theorem used_eq_table (G : NameGen σ) (order) (wf m : Nat) (hm : 4 ≤ m) (cls : Option String)
    (ss : List Stmt) :
    c20CallFn (cxCur G order wf (c20Run (cfgCur G order wf) m) cls)
      c20Fn_get_all_used_identifiers [.list (ss.map .stmt)] [] [] =
      C20Res.ofExcept .strSet (usedIdentifiers ss) := by
  obtain ⟨n, rfl⟩ := Nat.exists_eq_add_of_le' hm
  simp only [c20CallFn, c20Fn_get_all_used_identifiers]
  c20_run []
  rw [used_loop]
  · cases h : usedIdentifiers ss with
    | error e => rfl
    | ok ids => c20_run [C20Res.ofExcept, unionS_nil_left (usedIdentifiers_spec h).1]
  · intro s acc
    c20_run [reads_method_eq_table G order wf (n + 3) (by omega),
      written_method_eq_table G order wf (n + 3) (by omega)]
    cases hr : s.kind.reads <;> cases hw : s.kind.written <;>
      c20_run [C20Res.ofExcept, written_method_eq_table G order wf (n + 3) (by omega), hw]


end PV.Imp
