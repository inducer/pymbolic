import PV.Model.SubstCache
import PV.Proofs.Subterm
import PV.Proofs.PyEqEquiv
/-
  C08, the memoizing mapper.  Generic form of the model (`csubst_generic`, `substE_generic`), an
  abstract invariant theorem for the memo table (`csubst_rel`), and its two instances:
  results equal the plain mapper's up to Python `==` (`Expr.pyEq`) on well-formed trees, and
  exactly when no two trees in play are `==`-confusable.
-/
namespace PV
-- one `simp` set serves several constructor cases at once; not every case uses every lemma
set_option linter.unusedSimpArgs false

/-! ### positional relation between two lists

`relL P` is `List.Forall₂ P` on expression lists, kept with its own few lemmas: core Lean has next
to none for `Forall₂`. -/

def relL (P : Expr → Expr → Prop) : List Expr → List Expr → Prop
  | [], [] => True
  | a :: as, b :: bs => P a b ∧ relL P as bs
  | _, _ => False

theorem relL_length {P : Expr → Expr → Prop} : ∀ {as bs : List Expr}, relL P as bs →
    as.length = bs.length
  | [], [], _ => rfl
  | [], _ :: _, h => h.elim
  | _ :: _, [], h => h.elim
  | _ :: as, _ :: bs, h => by simp [relL_length h.2]

theorem relL_mono {P Q : Expr → Expr → Prop} : ∀ {as bs : List Expr},
    (∀ a ∈ as, ∀ b ∈ bs, P a b → Q a b) → relL P as bs → relL Q as bs
  | [], [], _, _ => trivial
  | [], _ :: _, _, h => h.elim
  | _ :: _, [], _, h => h.elim
  | a :: as, b :: bs, hpq, h =>
    ⟨hpq a (by simp) b (by simp) h.1,
     relL_mono (fun a' ha' b' hb' => hpq a' (by simp [ha']) b' (by simp [hb'])) h.2⟩

theorem relL_append {P : Expr → Expr → Prop} : ∀ {as bs cs ds : List Expr},
    relL P as bs → relL P cs ds → relL P (as ++ cs) (bs ++ ds)
  | [], [], _, _, _, h => h
  | [], _ :: _, _, _, h, _ => h.elim
  | _ :: _, [], _, _, h, _ => h.elim
  | _ :: _, _ :: _, _, _, h1, h2 => ⟨h1.1, relL_append h1.2 h2⟩

theorem relL_split {P : Expr → Expr → Prop} : ∀ {as cs rest : List Expr},
    relL P (as ++ cs) rest → relL P as (rest.take as.length) ∧ relL P cs (rest.drop as.length)
  | [], _, _, h => ⟨by simp [relL], by simpa using h⟩
  | _ :: _, _, [], h => h.elim
  | a :: as, cs, r :: rest, h => by
    have := relL_split (as := as) (cs := cs) (rest := rest) h.2
    exact ⟨⟨h.1, by simpa using this.1⟩, by simpa using this.2⟩

theorem relL_map_eq {f : Expr → Expr} : ∀ {cs vs : List Expr},
    relL (fun c v => v = f c) cs vs → vs = cs.map f
  | [], [], _ => rfl
  | [], _ :: _, h => h.elim
  | _ :: _, [], h => h.elim
  | _ :: _, _ :: _, h => by simp [h.1, relL_map_eq h.2]

theorem relL_map {P : Expr → Expr → Prop} {f : Expr → Expr} : ∀ (cs : List Expr),
    (∀ c ∈ cs, P c (f c)) → relL P cs (cs.map f)
  | [], _ => trivial
  | c :: cs, h => ⟨h c (by simp), relL_map cs (fun c' hc' => h c' (by simp [hc']))⟩

/-! ### generic form of the plain substitution -/

/-- the plain mapper, one level: interception, else the handler's rebuild of the mapped children -/
theorem substE_generic (σ : SubstMap) (e : Expr) :
    substE σ e = match c08Intercept σ e with
      | some r => r
      | none => c08Build e (e.children.map (substE σ)) := by
  cases e <;> simp only [substE, c08Intercept, c08Build, Expr.c08WithKids, Expr.children, List.map,
    substEL_eq_map]
  case var x => cases σ.apply (.var x) <;> rfl
  case subscript a i => cases σ.apply (.subscript a i) <;> rfl
  case lookup a n => cases σ.apply (.lookup a n) <;> rfl
  case callKw f as ns vs => simp [List.map_append]

/-! ### generic form of the memoizing mapper -/

theorem csubstL_length (σ : SubstMap) : ∀ (cs : List Expr) (m : C08Cache),
    (csubstL σ cs m).1.length = cs.length
  | [], _ => by simp [csubstL]
  | c :: cs, m => by simp [csubstL, csubstL_length σ cs]

theorem csubstL_append (σ : SubstMap) : ∀ (as bs : List Expr) (m : C08Cache),
    csubstL σ (as ++ bs) m =
      ((csubstL σ as m).1 ++ (csubstL σ bs (csubstL σ as m).2).1,
       (csubstL σ bs (csubstL σ as m).2).2)
  | [], bs, m => by simp [csubstL]
  | a :: as, bs, m => by simp [csubstL, csubstL_append σ as bs]

/-- `CachedSubstitutionMapper.rec`, one level: look-aside, then interception or the handler's
rebuild of the children's results (dispatched left to right on the shared table), then store -/
theorem csubst_generic (σ : SubstMap) (e : Expr) (m : C08Cache) (h : e ≠ .const .none) :
    csubst σ e m = c08Memo σ e m (csubstL σ e.children) := by
  cases e with
  | const c => cases c <;> first | exact absurd rfl h | (simp only [csubst, Expr.children]; rfl)
  | call f as => simp only [csubst, Expr.children]; rfl
  | callKw f as ns vs =>
    simp only [csubst, Expr.children]
    congr 1
    funext m
    simp [csubstL, csubstL_append]
  | subst c vars xs => simp only [csubst, Expr.children]; rfl
  | _ => simp only [csubst, Expr.children] <;> rfl

theorem c08Find_some {k : Expr} : ∀ {m : C08Cache} {v : Expr}, c08Find k m = some v →
    ∃ k', (k', v) ∈ m ∧ k'.keyEq k = true
  | [], _, h => by simp [c08Find] at h
  | (k', v') :: m, v, h => by
    simp only [c08Find] at h
    by_cases hk : k'.keyEq k = true
    · simp only [hk, if_true, Option.some.injEq] at h
      subst h; exact ⟨k', by simp, hk⟩
    · simp only [hk, Bool.false_eq_true, if_false] at h
      obtain ⟨k'', h1, h2⟩ := c08Find_some h
      exact ⟨k'', by simp [h1], h2⟩

/-! ### the abstract invariant -/

/-- what a relation `P key result` must satisfy to be maintained by the memo table; `G` are the
admissible queries -/
structure CacheRel (σ : SubstMap) (G : Expr → Prop) (P : Expr → Expr → Prop) : Prop where
  /-- queries stay admissible on the way down -/
  child : ∀ e, G e → ∀ c ∈ e.children, G c
  /-- a memo hit: what is stored for a key is right for every query equal to it as a key -/
  transfer : ∀ k e v, G k → G e → k.keyEq e = true → P k v → P e v
  /-- an intercepted node: the replacement -/
  hit : ∀ e r, G e → c08Intercept σ e = some r → P e r
  /-- any other node: the handler's rebuild from related children -/
  build : ∀ e vs, G e → c08Intercept σ e = none → relL P e.children vs → P e (c08Build e vs)
  /-- `csubst` returns the `None` parts of a slice without dispatching them -/
  noneC : P (.const .none) (.const .none)

/-- every entry of the memo table has an admissible key related to its value -/
def CInv (G : Expr → Prop) (P : Expr → Expr → Prop) (m : C08Cache) : Prop :=
  ∀ k v, (k, v) ∈ m → G k ∧ P k v

theorem csubstL_rel_of {σ : SubstMap} {G : Expr → Prop} {P : Expr → Expr → Prop} :
    ∀ (cs : List Expr),
    (∀ c ∈ cs, ∀ m, CInv G P m → CInv G P (csubst σ c m).2 ∧ P c (csubst σ c m).1) →
    ∀ m, CInv G P m → CInv G P (csubstL σ cs m).2 ∧ relL P cs (csubstL σ cs m).1
  | [], _, m, hm => by simpa [csubstL, relL] using hm
  | c :: cs, ih, m, hm => by
    have h1 := ih c (by simp) m hm
    have h2 := csubstL_rel_of cs (fun c' hc' => ih c' (by simp [hc'])) _ h1.1
    simp only [csubstL]
    exact ⟨h2.1, h1.2, h2.2⟩

/-- **Memo-table invariant.**  Every entry relates its key to its value, and every answer relates
the query to the result — for any relation that the handlers preserve (`CacheRel`). -/
theorem csubst_rel {σ : SubstMap} {G : Expr → Prop} {P : Expr → Expr → Prop}
    (hR : CacheRel σ G P) (e : Expr) :
    G e → ∀ m, CInv G P m → CInv G P (csubst σ e m).2 ∧ P e (csubst σ e m).1 := by
  induction e using Expr.induct with | _ e ih => ?_
  intro hG m hm
  by_cases hn : e = .const .none
  · subst hn; simp only [csubst]; exact ⟨hm, hR.noneC⟩
  rw [csubst_generic σ e m hn]
  simp only [c08Memo]
  cases hf : c08Find e m with
  | some v =>
    obtain ⟨k, hk, hke⟩ := c08Find_some hf
    exact ⟨hm, hR.transfer k e v (hm k v hk).1 hG hke (hm k v hk).2⟩
  | none =>
    simp only [c08Handler]
    cases hi : c08Intercept σ e with
    | some r =>
      have hp := hR.hit e r hG hi
      refine ⟨?_, hp⟩
      intro k v hkv
      simp only [List.mem_cons, Prod.mk.injEq] at hkv
      rcases hkv with ⟨rfl, rfl⟩ | hkv
      · exact ⟨hG, hp⟩
      · exact hm k v hkv
    | none =>
      have hk := csubstL_rel_of e.children
        (fun c hc => ih c hc (hR.child e hG c hc)) m hm
      have hp := hR.build e _ hG hi hk.2
      refine ⟨?_, hp⟩
      intro k v hkv
      simp only [List.mem_cons, Prod.mk.injEq] at hkv
      rcases hkv with ⟨rfl, rfl⟩ | hkv
      · exact ⟨hG, hp⟩
      · exact hk.1 k v hkv

/-! ### instance 1: exact equality when no two admissible trees are confusable -/

/-- `U` is closed under taking children and no two of its members are equal as memo-table keys
(`type(a) is type(b) and a == b`) without being the same tree -/
structure NoConfuse (U : Expr → Prop) : Prop where
  child : ∀ e, U e → ∀ c ∈ e.children, U c
  inj : ∀ a b, U a → U b → a.keyEq b = true → a = b

theorem cacheRel_eq (σ : SubstMap) {U : Expr → Prop} (hU : NoConfuse U) :
    CacheRel σ U (fun e v => v = substE σ e) where
  child := hU.child
  transfer := fun k e v hk he hke hp => by rw [← hU.inj k e hk he hke]; exact hp
  hit := fun e r _ hi => by rw [substE_generic, hi]
  build := fun e vs _ hi hrel => by rw [substE_generic, hi, relL_map_eq hrel]
  noneC := by simp [substE]

/-! ### instance 2: equality up to Python `==` on well-formed trees -/

/-- keys and replacements are well-formed (no nan, keyword names distinct) -/
structure SubstMap.WF (σ : SubstMap) : Prop where
  keys : ∀ p ∈ σ.byExpr, p.1.wf = true
  vals : ∀ p ∈ σ.byExpr, p.2.wf = true
  nvals : ∀ p ∈ σ.byName, p.2.wf = true

/-! #### well-formedness, `==` and truthiness: what the instance below needs of them -/

theorem Const.truthy_of_numVal? {a : Const} {n : Int} {d : Nat} (h : a.numVal? = some (n, d)) :
    a.truthy = (n != 0) := by
  cases a with
  | int m => cases h; rfl
  | bool b => cases b <;> cases h <;> rfl
  | flt r m e =>
    simp only [Const.numVal?] at h
    split at h
    · cases h
    · cases h; simp [Const.truthy, *]
  | str | none => cases h

theorem Const.truthy_congr {a b : Const} (h : a.pyEq b = true) : a.truthy = b.truthy := by
  unfold Const.pyEq at h
  split at h
  · rename_i n d n' d' h1 h2
    have hd := Const.numVal?_den h1
    have hd' := Const.numVal?_den h2
    simp only [beq_iff_eq] at h
    -- cross-multiplied equality of two fractions: one numerator is zero iff the other is
    have key : n = 0 ↔ n' = 0 := by
      constructor
      · intro h0; subst h0
        have : n' * (d : Int) = 0 := by simpa using h.symm
        rcases Int.mul_eq_zero.mp this with h | h
        · exact h
        · omega
      · intro h0; subst h0
        have : n * (d' : Int) = 0 := by simpa using h
        rcases Int.mul_eq_zero.mp this with h | h
        · exact h
        · omega
    rw [Const.truthy_of_numVal? h1, Const.truthy_of_numVal? h2, Bool.eq_iff_iff]
    simp [key]
  · rename_i h1 h2
    split at h <;> simp_all [Const.truthy]
  · simp at h

theorem truthy_congr (a : Expr) : ∀ b : Expr, a.pyEq b = true → a.truthy = b.truthy := by
  induction a using Expr.induct with | _ a ih => ?_
  intro b h
  cases PyEqNode.of_pyEq h with
  | const hc => exact Const.truthy_congr hc
  | @nary o cs cs' h2 =>
    simp only [Expr.children] at ih
    cases o <;> simp only [Expr.truthy]
    · -- sum
      match cs, cs', h2 with
      | [], [], _ => rfl
      | [c], [c'], h2 =>
        simp only [Expr.pyEqL, Bool.and_eq_true] at h2
        simp only [Expr.truthySum]; exact ih c (by simp) c' h2.1
      | _ :: _ :: _, _ :: _ :: _, _ => rfl
      | [], _ :: _, h2 => simp [Expr.pyEqL] at h2
      | _ :: _, [], h2 => simp [Expr.pyEqL] at h2
      | [_], _ :: _ :: _, h2 => simp [Expr.pyEqL] at h2
      | _ :: _ :: _, [_], h2 => simp [Expr.pyEqL] at h2
    · -- product
      clear h
      revert cs' h2
      induction cs with
      | nil => intro cs' h2; cases cs' <;> simp_all [Expr.pyEqL, Expr.truthyProd]
      | cons c cs ihl =>
        intro cs' h2
        cases cs' with
        | nil => simp [Expr.pyEqL] at h2
        | cons c' cs' =>
          simp only [Expr.pyEqL, Bool.and_eq_true] at h2
          simp only [Expr.truthyProd, ih c (by simp) c' h2.1,
            ihl (fun x hx => ih x (by simp [hx])) h2.2]
  | @bin o x y x' y' h1 _ =>
    simp only [Expr.children, List.mem_cons, List.not_mem_nil, or_false] at ih
    cases o <;> simp only [Expr.truthy] <;> exact ih x (Or.inl rfl) x' h1
  | @tuple cs cs' h2 | @list cs cs' h2 =>
    simp only [Expr.truthy]
    cases cs <;> cases cs' <;> simp_all [Expr.pyEqL]
  | _ => rfl

/-- two trees are well-formed and `==` (`relL WfEq`: two result lists are so position by position) -/
abbrev WfEq (v w : Expr) : Prop := v.wf = true ∧ w.wf = true ∧ v.pyEq w = true

theorem relL_lists : ∀ {vs ws : List Expr}, relL WfEq vs ws →
    Expr.wfL vs = true ∧ Expr.wfL ws = true ∧ Expr.pyEqL vs ws = true
  | [], [], _ => by simp [Expr.wfL, Expr.pyEqL]
  | [], _ :: _, h => h.elim
  | _ :: _, [], h => h.elim
  | v :: vs, w :: ws, h => by
    have ih := relL_lists h.2
    simp only [Expr.wfL, Expr.pyEqL, Bool.and_eq_true]
    exact ⟨⟨h.1.1, ih.1⟩, ⟨h.1.2.1, ih.2.1⟩, h.1.2.2, ih.2.2⟩

theorem relL_take {P : Expr → Expr → Prop} (n : Nat) : ∀ {vs ws : List Expr}, relL P vs ws →
    relL P (vs.take n) (ws.take n) := by
  induction n with
  | zero => intro vs ws _; simp [relL]
  | succ n ih =>
    intro vs ws h
    cases vs <;> cases ws <;> simp only [relL, List.take_succ_cons, List.take_nil] at h ⊢
    exact ⟨h.1, ih h.2⟩

theorem relL_drop {P : Expr → Expr → Prop} (n : Nat) : ∀ {vs ws : List Expr}, relL P vs ws →
    relL P (vs.drop n) (ws.drop n) := by
  induction n with
  | zero => intro vs ws h; simpa using h
  | succ n ih =>
    intro vs ws h
    cases vs <;> cases ws <;> simp only [relL, List.drop_succ_cons, List.drop_nil] at h ⊢
    exact ih h.2

theorem relL_zip {P : Expr → Expr → Prop} : ∀ {ns : List String} {vs ws : List Expr},
    relL P vs ws → ∀ n v, (n, v) ∈ ns.zip vs → ∃ w, (n, w) ∈ ns.zip ws ∧ P v w
  | [], _, _, _, _, _, hm => by simp at hm
  | _ :: _, [], _, _, _, _, hm => by simp at hm
  | _ :: _, _ :: _, [], h, _, _, _ => h.elim
  | m :: ns, v' :: vs, w' :: ws, h, n, v, hm => by
    simp only [List.zip_cons_cons, List.mem_cons, Prod.mk.injEq] at hm ⊢
    rcases hm with ⟨rfl, rfl⟩ | hm
    · exact ⟨w', Or.inl ⟨rfl, rfl⟩, h.1⟩
    · obtain ⟨w, hw, hp⟩ := relL_zip h.2 n v hm
      exact ⟨w, Or.inr hw, hp⟩

theorem wf_zero : zero.wf = true := by decide
theorem pyEq_zero : zero.pyEq zero = true := by decide

/-- the handlers' rebuild respects well-formedness and `==`, child by child -/
theorem c08Build_congr {e : Expr} (he : e.wf = true) {vs ws : List Expr}
    (hlen : vs.length = e.children.length) (hrel : relL WfEq vs ws) :
    (c08Build e vs).wf = true ∧ (c08Build e ws).wf = true ∧
      (c08Build e vs).pyEq (c08Build e ws) = true := by
  have hrefl := pyEq_refl e he
  have hl2 := relL_length hrel
  cases e with
  | nary o cs | slice cs | tuple cs | list cs =>
    simp only [c08Build, Expr.c08WithKids, Expr.wf, Expr.pyEq, Bool.and_eq_true, beq_self_eq_true,
      true_and]
    exact relL_lists hrel
  | call f as | subst f vars as =>
    rcases vs with _ | ⟨vf, vas⟩ <;> simp only [Expr.children, List.length_cons, List.length_nil,
      Nat.add_one_ne_zero, reduceCtorEq] at hlen
    rcases ws with _ | ⟨wf', was⟩ <;> simp only [relL] at hrel
    have hL := relL_lists hrel.2
    simp only [c08Build, Expr.c08WithKids, Expr.wf, Expr.pyEq, Bool.and_eq_true, beq_self_eq_true,
      and_true]
    exact ⟨⟨hrel.1.1, hL.1⟩, ⟨hrel.1.2.1, hL.2.1⟩, hrel.1.2.2, hL.2.2⟩
  | callKw f as ns vs0 =>
    rcases vs with _ | ⟨vf, vr⟩ <;> simp only [Expr.children, List.length_cons, List.length_nil,
      List.length_append, Nat.add_one_ne_zero, reduceCtorEq] at hlen
    rcases ws with _ | ⟨wf', wr⟩ <;> simp only [relL] at hrel
    simp only [Expr.wf, Bool.and_eq_true, decide_eq_true_eq, beq_iff_eq] at he
    obtain ⟨⟨⟨⟨_, _⟩, hnd⟩, hnl⟩, _⟩ := he
    have hT := relL_lists (relL_take as.length hrel.2)
    have hD := relL_lists (relL_drop as.length hrel.2)
    have hlw : wr.length = vr.length := by
      have := relL_length hrel.2; omega
    simp only [c08Build, Expr.c08WithKids, Expr.wf, Expr.pyEq, Bool.and_eq_true,
      decide_eq_true_eq, beq_iff_eq, List.length_drop]
    refine ⟨⟨⟨⟨⟨hrel.1.1, hT.1⟩, hnd⟩, by omega⟩, hD.1⟩,
      ⟨⟨⟨⟨hrel.1.2.1, hT.2.1⟩, hnd⟩, by omega⟩, hD.2.1⟩,
      ⟨⟨hrel.1.2.2, hT.2.2⟩, trivial⟩, ?_⟩
    rw [pyEqKw_iff hnd]
    intro n v hm
    obtain ⟨w, hw, hp⟩ := relL_zip (relL_drop as.length hrel.2) n v hm
    exact ⟨w, hw, hp.2.2⟩
  | cse c p sc =>
    rcases vs with _ | ⟨vc, _ | ⟨_, _⟩⟩ <;> simp [Expr.children] at hlen
    rcases ws with _ | ⟨wc, _ | ⟨_, _⟩⟩ <;> simp only [relL, and_false] at hrel
    have hz : vc.isZero = wc.isZero := by
      simp only [Expr.isZero, truthy_congr vc wc hrel.1.2.2]
    simp only [c08Build, ← hz]
    cases vc.isZero
    · simp only [Bool.false_eq_true, if_false, Expr.wf, Expr.pyEq, Bool.and_eq_true,
        beq_self_eq_true, and_true]
      exact ⟨hrel.1.1, hrel.1.2.1, hrel.1.2.2⟩
    · simp only [if_true]; exact ⟨wf_zero, wf_zero, pyEq_zero⟩
  | bin o a b | cmp o a b | subscript a b =>
    rcases vs with _ | ⟨v1, _ | ⟨v2, _ | ⟨_, _⟩⟩⟩ <;> simp [Expr.children] at hlen
    rcases ws with _ | ⟨w1, _ | ⟨w2, _ | ⟨_, _⟩⟩⟩ <;> simp only [relL, and_false] at hrel
    simp only [c08Build, Expr.c08WithKids, Expr.wf, Expr.pyEq, Bool.and_eq_true, beq_self_eq_true,
      true_and]
    exact ⟨⟨hrel.1.1, hrel.2.1.1⟩, ⟨hrel.1.2.1, hrel.2.1.2.1⟩, hrel.1.2.2, hrel.2.1.2.2⟩
  | ite a b c =>
    rcases vs with _ | ⟨v1, _ | ⟨v2, _ | ⟨v3, _ | ⟨_, _⟩⟩⟩⟩ <;> simp [Expr.children] at hlen
    rcases ws with _ | ⟨w1, _ | ⟨w2, _ | ⟨w3, _ | ⟨_, _⟩⟩⟩⟩ <;>
      simp only [relL, and_false] at hrel
    simp only [c08Build, Expr.c08WithKids, Expr.wf, Expr.pyEq, Bool.and_eq_true]
    exact ⟨⟨⟨hrel.1.1, hrel.2.1.1⟩, hrel.2.2.1.1⟩, ⟨⟨hrel.1.2.1, hrel.2.1.2.1⟩, hrel.2.2.1.2.1⟩,
      ⟨hrel.1.2.2, hrel.2.1.2.2⟩, hrel.2.2.1.2.2⟩
  | un o a | lookup a n | deriv a vars =>
    rcases vs with _ | ⟨v1, _ | ⟨_, _⟩⟩ <;> simp [Expr.children] at hlen
    rcases ws with _ | ⟨w1, _ | ⟨_, _⟩⟩ <;> simp only [relL, and_false] at hrel
    simp only [c08Build, Expr.c08WithKids, Expr.wf, Expr.pyEq, Bool.and_eq_true, beq_self_eq_true,
      true_and, and_true]
    exact ⟨hrel.1.1, hrel.1.2.1, hrel.1.2.2⟩
  | _ =>
    rcases vs with _ | ⟨_, _⟩ <;> simp [Expr.children] at hlen
    rcases ws with _ | ⟨_, _⟩ <;> simp only [relL] at hrel
    simp only [c08Build, Expr.c08WithKids]
    exact ⟨he, he, hrefl⟩

/-! ### `make_subst_func` and the plain mapper respect `==` -/

theorem find?_congr {α : Type} {p q : α → Bool} : ∀ {l : List α}, (∀ x ∈ l, p x = q x) →
    l.find? p = l.find? q
  | [], _ => rfl
  | x :: l, h => by
    simp only [List.find?_cons, h x (by simp)]
    cases q x
    · exact find?_congr (fun y hy => h y (by simp [hy]))
    · rfl

theorem findExpr_congr {σ : SubstMap} (hσ : σ.WF) {a b : Expr} (ha : a.wf = true)
    (hb : b.wf = true) (h : a.pyEq b = true) : σ.findExpr a = σ.findExpr b := by
  simp only [SubstMap.findExpr]
  rw [find?_congr (q := fun p => p.1.pyEq b)]
  intro p hp
  have hk := hσ.keys p hp
  rw [Bool.eq_iff_iff]
  exact ⟨fun h1 => pyEq_trans p.1 a b hk ha hb h1 h,
    fun h2 => pyEq_trans p.1 b a hk hb ha h2 (pyEq_symm a b ha hb h)⟩

theorem relL_self : ∀ {vs : List Expr}, (∀ v ∈ vs, v.wf = true) → relL WfEq vs vs
  | [], _ => trivial
  | v :: vs, h =>
    ⟨⟨h v (by simp), h v (by simp), pyEq_refl v (h v (by simp))⟩,
     relL_self (fun w hw => h w (by simp [hw]))⟩

theorem apply_wf {σ : SubstMap} (hσ : σ.WF) {e r : Expr} (h : σ.apply e = some r) :
    r.wf = true := by
  simp only [SubstMap.apply, SubstMap.findExpr, SubstMap.findName] at h
  cases hq : σ.byExpr.find? (fun p => p.1.pyEq e) with
  | some p =>
    simp only [hq, Option.some.injEq] at h
    rw [← h]; exact hσ.vals p (List.mem_of_find?_eq_some hq)
  | none =>
    simp only [hq] at h
    cases e <;> simp only [reduceCtorEq] at h
    rename_i x
    cases hn : σ.byName.find? (fun p => p.1 == x) with
    | some p =>
      simp only [hn, Option.some.injEq] at h
      rw [← h]; exact hσ.nvals p (List.mem_of_find?_eq_some hn)
    | none => simp [hn] at h

theorem intercept_wf {σ : SubstMap} (hσ : σ.WF) {e r : Expr} (h : c08Intercept σ e = some r) :
    r.wf = true := by
  cases e <;> simp only [c08Intercept, reduceCtorEq] at h <;> exact apply_wf hσ h

theorem intercept_congr {σ : SubstMap} (hσ : σ.WF) {a b : Expr} (ha : a.wf = true)
    (hb : b.wf = true) (h : a.pyEq b = true) : c08Intercept σ a = c08Intercept σ b := by
  have hf := findExpr_congr hσ ha hb h
  cases PyEqNode.of_pyEq h <;> simp only [c08Intercept, SubstMap.apply, hf]

theorem substE_wf {σ : SubstMap} (hσ : σ.WF) (e : Expr) : e.wf = true → (substE σ e).wf = true := by
  induction e using Expr.induct with | _ e ih => ?_
  intro he
  rw [substE_generic]
  cases hi : c08Intercept σ e with
  | some r => exact intercept_wf hσ hi
  | none =>
    have hc := wf_children he
    refine (c08Build_congr he (by simp) (relL_self ?_)).1
    intro v hv
    simp only [List.mem_map] at hv
    obtain ⟨c, hc', rfl⟩ := hv
    exact ih c hc' (hc c hc')

theorem pyEqL_substEL {σ : SubstMap} : ∀ {as bs : List Expr},
    (∀ c ∈ as, c.wf = true → ∀ b : Expr, b.wf = true → c.pyEq b = true →
      (substE σ c).pyEq (substE σ b) = true) →
    (∀ c ∈ as, c.wf = true) → (∀ c ∈ bs, c.wf = true) → Expr.pyEqL as bs = true →
    Expr.pyEqL (substEL σ as) (substEL σ bs) = true
  | [], [], _, _, _, _ => by simp [substEL, Expr.pyEqL]
  | [], _ :: _, _, _, _, h => by simp [Expr.pyEqL] at h
  | _ :: _, [], _, _, _, h => by simp [Expr.pyEqL] at h
  | a :: as, b :: bs, ih, ha, hb, h => by
    simp only [Expr.pyEqL, Bool.and_eq_true] at h
    simp only [substEL, Expr.pyEqL, Bool.and_eq_true]
    exact ⟨ih a (by simp) (ha a (by simp)) b (hb b (by simp)) h.1,
      pyEqL_substEL (fun c hc => ih c (by simp [hc])) (fun c hc => ha c (by simp [hc]))
        (fun c hc => hb c (by simp [hc])) h.2⟩

theorem assocLookupE_map (f : Expr → Expr) (n : String) : ∀ (ms : List String) (ws : List Expr),
    assocLookupE n ms (ws.map f) = (assocLookupE n ms ws).map f
  | [], _ => by simp [assocLookupE]
  | _ :: _, [] => by simp [assocLookupE]
  | m :: ms, w :: ws => by
    simp only [List.map, assocLookupE]
    split
    · rfl
    · exact assocLookupE_map f n ms ws

theorem mem_zip_map {f : Expr → Expr} {n : String} {v : Expr} : ∀ {ns : List String}
    {vs : List Expr}, (n, v) ∈ ns.zip (vs.map f) → ∃ v0, (n, v0) ∈ ns.zip vs ∧ v = f v0
  | [], _, h => by simp at h
  | _ :: _, [], h => by simp at h
  | m :: ns, w :: vs, h => by
    simp only [List.map, List.zip_cons_cons, List.mem_cons, Prod.mk.injEq] at h ⊢
    rcases h with ⟨rfl, rfl⟩ | h
    · exact ⟨w, Or.inl ⟨rfl, rfl⟩, rfl⟩
    · obtain ⟨v0, h1, h2⟩ := mem_zip_map h
      exact ⟨v0, Or.inr h1, h2⟩

/-- **The plain mapper respects `==`**: `==`-equal trees have `==`-equal substitution results. -/
theorem substE_pyEq {σ : SubstMap} (hσ : σ.WF) (a : Expr) :
    a.wf = true → ∀ b : Expr, b.wf = true → a.pyEq b = true →
      (substE σ a).pyEq (substE σ b) = true := by
  induction a using Expr.induct with | _ a ih => ?_
  intro ha b hb h
  have hint := intercept_congr hσ ha hb h
  have hself := pyEq_refl _ (substE_wf hσ a ha)
  cases PyEqNode.of_pyEq h <;>
    simp only [Expr.children, List.forall_mem_cons, List.not_mem_nil, false_imp_iff, implies_true,
      and_true, List.mem_append] at ih <;>
    simp only [Expr.wf, Bool.and_eq_true, wfL_iff, decide_eq_true_eq, beq_iff_eq] at ha hb <;>
    simp only [c08Intercept] at hint <;>
    simp only [substE, Expr.pyEq, Bool.and_eq_true, beq_iff_eq, true_and, and_true]
  case const hc => exact hc
  case var => exact hself
  case nary h1 | slice h1 | tuple h1 | list h1 => exact pyEqL_substEL ih ha hb h1
  case un h1 | deriv h1 => exact ih ha _ hb h1
  case bin h1 h2 | cmp h1 h2 => exact ⟨ih.1 ha.1 _ hb.1 h1, ih.2 ha.2 _ hb.2 h2⟩
  case ite h1 h2 h3 =>
    exact ⟨⟨ih.1 ha.1.1 _ hb.1.1 h1, ih.2.1 ha.1.2 _ hb.1.2 h2⟩, ih.2.2 ha.2 _ hb.2 h3⟩
  case call h1 h2 | subst h1 h2 => exact ⟨ih.1 ha.1 _ hb.1 h1, pyEqL_substEL ih.2 ha.2 hb.2 h2⟩
  case subscript x i x' i' h1 h2 =>
    rw [hint]
    cases hy : σ.apply (.subscript x' i') with
    | some r => exact pyEq_refl r (apply_wf hσ hy)
    | none =>
      simp only [Expr.pyEq, Bool.and_eq_true]
      exact ⟨ih.1 ha.1 _ hb.1 h1, ih.2 ha.2 _ hb.2 h2⟩
  case lookup x n x' h1 =>
    rw [hint]
    cases hy : σ.apply (.lookup x' n) with
    | some r => exact pyEq_refl r (apply_wf hσ hy)
    | none =>
      simp only [Expr.pyEq, Bool.and_eq_true, beq_self_eq_true, and_true]
      exact ih ha _ hb h1
  case cse c p s c' h1 =>
    have hc := ih ha _ hb h1
    have hz : (substE σ c).isZero = (substE σ c').isZero := by
      simp only [Expr.isZero, truthy_congr _ _ hc]
    rw [hz]
    split
    · exact pyEq_zero
    · simpa only [Expr.pyEq, Bool.and_eq_true, beq_self_eq_true, and_true] using hc
  case callKw f as ns vs g bs ms ws h1 h2 h3 h4 =>
    obtain ⟨⟨⟨⟨a1, a2⟩, a3⟩, a4⟩, a5⟩ := ha
    obtain ⟨⟨⟨⟨b1, b2⟩, b3⟩, b4⟩, b5⟩ := hb
    refine ⟨⟨⟨ih.1 a1 _ b1 h1, pyEqL_substEL (fun c hc => ih.2 c (Or.inl hc)) a2 b2 h2⟩, h3⟩, ?_⟩
    rw [pyEqKw_iff_lookup] at h4 ⊢
    intro n v hm
    rw [substEL_eq_map] at hm
    obtain ⟨v0, hv0, rfl⟩ := mem_zip_map hm
    obtain ⟨w0, hw0, hr⟩ := h4 n v0 hv0
    refine ⟨substE σ w0, ?_, ?_⟩
    · rw [substEL_eq_map, assocLookupE_map, hw0]; rfl
    · have hv0m := (List.of_mem_zip hv0).2
      have hw0m := (List.of_mem_zip (lookup_mem hw0)).2
      exact ih.2 v0 (Or.inr hv0m) (a5 v0 hv0m) w0 (b5 w0 hw0m) hr

theorem relL_to_wfEq {σ : SubstMap} (hσ : σ.WF) : ∀ {cs vs : List Expr},
    (∀ c ∈ cs, c.wf = true) →
    relL (fun c v => v.wf = true ∧ v.pyEq (substE σ c) = true) cs vs →
    relL WfEq vs (cs.map (substE σ))
  | [], [], _, _ => trivial
  | [], _ :: _, _, h => h.elim
  | _ :: _, [], _, h => h.elim
  | c :: cs, v :: vs, hc, h =>
    ⟨⟨h.1.1, substE_wf hσ c (hc c (by simp)), h.1.2⟩,
     relL_to_wfEq hσ (fun c' hc' => hc c' (by simp [hc'])) h.2⟩

theorem cacheRel_pyEq {σ : SubstMap} (hσ : σ.WF) :
    CacheRel σ (fun e => e.wf = true)
      (fun e v => v.wf = true ∧ v.pyEq (substE σ e) = true) where
  child := fun e he => wf_children he
  transfer := fun k e v hk he hke hp => by
    have hke' : k.pyEq e = true := by
      simp only [Expr.keyEq, Bool.and_eq_true] at hke; exact hke.2
    exact ⟨hp.1, pyEq_trans v (substE σ k) (substE σ e) hp.1 (substE_wf hσ k hk)
      (substE_wf hσ e he) hp.2 (substE_pyEq hσ k hk e he hke')⟩
  hit := fun e r _ hi => by
    rw [substE_generic, hi]
    exact ⟨intercept_wf hσ hi, pyEq_refl r (intercept_wf hσ hi)⟩
  build := fun e vs he hi hrel => by
    rw [substE_generic, hi]
    have hl := relL_length hrel
    have := c08Build_congr he hl.symm (relL_to_wfEq hσ (wf_children he) hrel)
    exact ⟨this.1, this.2.2⟩
  noneC := ⟨by decide, by simp only [substE]; decide⟩

/-! ### histories -/

/-- what a history of calls returns, for any maintained relation: `TypeError` exactly on the
unhashable trees, otherwise a result related to the query -/
def HistOK (P : Expr → Expr → Prop) (e : Expr) (r : Option Expr) : Prop :=
  match r with
  | none => e.hasList = true
  | some v => e.hasList = false ∧ P e v

/-- the answers of a history, position by position -/
def histRel (P : Expr → Expr → Prop) : List Expr → List (Option Expr) → Prop
  | [], [] => True
  | e :: es, r :: rs => HistOK P e r ∧ histRel P es rs
  | _, _ => False

theorem csubstHist_rel {σ : SubstMap} {G : Expr → Prop} {P : Expr → Expr → Prop}
    (hR : CacheRel σ G P) : ∀ (es : List Expr) (m : C08Cache), CInv G P m → (∀ e ∈ es, G e) →
    histRel P es (csubstHist σ es m)
  | [], _, _, _ => trivial
  | e :: es, m, hm, hG => by
    simp only [csubstHist, csubstTop]
    by_cases hl : e.hasList = true
    · simp only [hl, if_true]
      exact ⟨hl, csubstHist_rel hR es m hm (fun e' he' => hG e' (by simp [he']))⟩
    · simp only [hl, Bool.false_eq_true, if_false]
      have h1 := csubst_rel hR e (hG e (by simp)) m hm
      exact ⟨⟨by simpa using hl, h1.2⟩,
        csubstHist_rel hR es _ h1.1 (fun e' he' => hG e' (by simp [he']))⟩

theorem histRel_get {P : Expr → Expr → Prop} : ∀ {es : List Expr} {rs : List (Option Expr)},
    histRel P es rs → es.length = rs.length ∧
      ∀ i (h1 : i < es.length) (h2 : i < rs.length), HistOK P es[i] rs[i]
  | [], [], _ => ⟨rfl, fun i h1 => by simp at h1⟩
  | [], _ :: _, h => h.elim
  | _ :: _, [], h => h.elim
  | e :: es, r :: rs, h => by
    have ih := histRel_get h.2
    refine ⟨by simp [ih.1], fun i h1 h2 => ?_⟩
    cases i with
    | zero => exact h.1
    | succ i => exact ih.2 i (by simpa using h1) (by simpa using h2)

theorem cinv_nil (G : Expr → Prop) (P : Expr → Expr → Prop) : CInv G P [] := by
  intro k v h; simp at h

end PV
