import PV.Model.AnalysisTable
import PV.Proofs.WalkTable
import PV.Proofs.UnionPy
/-
  C09 (T-gen) — the hand-written analysis models against the table-driven reading of the handlers
  (PV/Model/AnalysisTable.lean).

  `c09DepBody`, `c09FlopBody`, `c04WalkBody` state, per constructor of `Expr`, the closed handler
  body the hand-written models `deps`, `flopsG`, `c09CountWalk` were written from.  This file
  proves — for ALL expressions, flag settings, seen-sets and caches, by case analysis on the
  constructor — that the models are exactly the table-driven step functions run on these bodies,
  and the only functions that are.  That the bodies ARE what the regenerated tables of the current
  source resolve to is the `…_resolve_current` family in PV/Properties/C09.lean (one evaluation
  of lean/PV/Generated/Analysis.lean and lean/PV/Generated/Traversal.lean on a node of each class).
-/
set_option linter.unusedSimpArgs false
set_option linter.unusedVariables false
namespace PV

theorem c09Resolve_classRep (classes : List C04NodeClass) (layers : List C09Layer) (e : Expr) :
    c09Resolve classes layers e = c09Resolve classes layers e.classRep := by
  rw [c09Resolve, c04Dispatch_classRep]; rfl

/-! ### handlers inherited from `CombineMapper` -/

/-- a node whose handler is `CombineMapper`'s (or a `Mapper` stub): the row of the C04 combine
table (`c04CombineBody`, tied to the source by `C04.combine_resolve_current`) -/
def c09Inherited (e : Expr) : Except DepErr C09Body :=
  match c04CombineBody e with
  | .ok b => .ok (.c04 b)
  | .error err => .error err

/-! ### the dependency mapper -/

/-- the closed `DependencyMapper` handler body `deps` was written from, per node -/
def c09DepBody : Expr → Except DepErr C09Body
  | .const (.str _) => .error .foreign
  | .const .none => .error .foreign
  | .const _ => .ok .empty                                  -- `Collector.map_constant`
  | .var _ => .ok .single
  | .wildcard => .ok .empty
  | .dotWild _ => .ok .empty
  | .starWild _ => .ok .empty
  | .funcSym => .ok .empty
  | .nan => .ok .empty
  | .call _ _ => .ok (.ifFlagEq "include_calls" "descend_args"
      (.combine [⟨"parameters", .each, true⟩])
      (.ifFlag "include_calls" .single
        (.c04 (.fold true [⟨"function", .one, true⟩, ⟨"parameters", .each, true⟩]))))
  | .callKw _ _ _ _ => .ok (.ifFlagEq "include_calls" "descend_args"
      (.combine [⟨"parameters", .each, true⟩, ⟨"kw_parameters", .eachValue, true⟩])
      (.ifFlag "include_calls" .single
        (.c04 (.fold true [⟨"function", .one, true⟩, ⟨"parameters", .each, true⟩,
          ⟨"kw_parameters", .eachValue, true⟩]))))
  | .lookup _ _ => .ok (.ifFlag "include_lookups" .single
      (.c04 (.fold false [⟨"aggregate", .one, true⟩])))
  | .subscript _ _ => .ok (.ifFlag "include_subscripts" .single
      (.c04 (.fold true [⟨"aggregate", .one, true⟩, ⟨"index", .one, true⟩])))
  | .cse _ _ _ => .ok (.hashed (.ifFlag "include_cses" .single
      (.c04 (.fold false [⟨"child", .one, true⟩]))))
  | .slice _ => .ok (.combine [⟨"children", .eachNotNone, true⟩])
  | e => c09Inherited e

theorem c09DepBody_classRep (e : Expr) : c09DepBody e = c09DepBody e.classRep := by
  cases e with
  | const k => cases k <;> rfl
  | bin o a b => cases o <;> rfl
  | _ => rfl

theorem depsL_eq_c09SeqU (fl : DepFlags) : ∀ cs : List Expr,
    depsL fl cs = c09SeqU (deps fl) cs
  | [] => by simp [depsL, c09SeqU]
  | c :: cs => by simp [depsL, c09SeqU, depsL_eq_c09SeqU fl cs]

theorem depsSlice_cons (fl : DepFlags) (c : Expr) (cs : List Expr) :
    depsSlice fl (c :: cs) =
      if c.c04IsNone then depsSlice fl cs
      else (do let x ← deps fl c; let y ← depsSlice fl cs; pure (unionPy x y)) := by
  cases c with
  | const k => cases k <;> simp [depsSlice, Expr.c04IsNone]
  | _ => simp [depsSlice, Expr.c04IsNone]

theorem depsSlice_eq_c09SeqU (fl : DepFlags) : ∀ cs : List Expr,
    depsSlice fl cs = c09SeqU (deps fl) (cs.filter (fun c => !c.c04IsNone))
  | [] => by simp [depsSlice, c09SeqU]
  | c :: cs => by
    rw [depsSlice_cons, depsSlice_eq_c09SeqU fl cs, List.filter_cons]
    cases c.c04IsNone <;> simp [c09SeqU]

/-- a one-child site contributes the result of the child -/
theorem c09SeqU_one (rec : Expr → Except DepErr (List Expr)) (c : Expr) :
    c09SeqU rec [c] = rec c := by
  simp only [c09SeqU]
  cases rec c <;> simp [bind, Except.bind, pure, Except.pure, unionPy_nil]

macro "c09_deps_sites" : tactic =>
  `(tactic| simp only [c09DepsRun, c09UnionSites, c09UnionRest, c09SiteU, c04RecChildren,
      Expr.c04Field, Expr.c04Fields, c04Assoc, String.reduceBEq, ↓reduceIte, Bool.false_eq_true,
      c09SeqU_one, ← depsL_eq_c09SeqU, ← depsSlice_eq_c09SeqU])

macro "c09_except" : tactic =>
  `(tactic| simp [bind, Except.bind, pure, Except.pure])

/-- **`deps` solves the table-driven equations**: a call of `deps` on any node, under any flag
setting, is one handler call of the closed body `c09DepBody` gives for the node, recursing through
`deps` itself. -/
theorem deps_eq_stepB (fl : DepFlags) (e : Expr) :
    deps fl e = c09DepsStepB (c09DepBody e) fl (deps fl) e := by
  cases e with
  | const k => cases k <;> simp [c09DepBody, c09DepsStepB, c09DepsRun, deps] <;> rfl
  | var x => simp [c09DepBody, c09DepsStepB, c09DepsRun, deps, depSingle, Expr.hasList]
  | wildcard | dotWild n | starWild n | funcSym | nan =>
    simp [c09DepBody, c09DepsStepB, c09DepsRun, deps]
  | subst c vs xs | deriv c vs =>
    simp [c09DepBody, c09Inherited, c04CombineBody, c09DepsStepB, deps]; rfl
  | bin o a b =>
    cases o <;> simp only [c09DepBody, c09Inherited, c04CombineBody, c09DepsStepB, deps] <;>
      c09_deps_sites <;>
      cases deps fl a <;> cases deps fl b <;> c09_except
  | nary o cs | tuple cs | list cs =>
    simp only [c09DepBody, c09Inherited, c04CombineBody, c09DepsStepB, deps]
    c09_deps_sites
    cases depsL fl cs <;> c09_except
  | slice cs =>
    rw [deps, depsSlice_eq_c09SeqU]
    simp only [c09DepBody, c09DepsStepB, c09DepsRun, c09UnionSites, c09UnionRest, c09SiteU,
      c04RecChildren, Expr.c04Field, Expr.c04Fields, c04Assoc, String.reduceBEq, ↓reduceIte]
    cases c09SeqU (deps fl) (cs.filter fun c => !c.c04IsNone) <;> c09_except
  | un o a =>
    simp only [c09DepBody, c09Inherited, c04CombineBody, c09DepsStepB, deps]
    c09_deps_sites
    try (cases deps fl a <;> c09_except)
  | cmp o a b =>
    simp only [c09DepBody, c09Inherited, c04CombineBody, c09DepsStepB, deps]
    c09_deps_sites
    try (cases deps fl a <;> cases deps fl b <;> c09_except)
  | ite a b c =>
    simp only [c09DepBody, c09Inherited, c04CombineBody, c09DepsStepB, deps]
    c09_deps_sites
    try (cases deps fl a <;> cases deps fl b <;> cases deps fl c <;> c09_except)
  | lookup a n =>
    simp only [c09DepBody, c09DepsStepB, deps, c09DepsRun, DepFlags.c09Attrs, c04Assoc,
      String.reduceBEq, ↓reduceIte, Bool.false_eq_true, C09FlagVal.truthy]
    cases fl.lookups <;> simp only [↓reduceIte, Bool.false_eq_true]
    · c09_deps_sites
      try (cases deps fl a <;> c09_except)
  | subscript a i =>
    simp only [c09DepBody, c09DepsStepB, deps, c09DepsRun, DepFlags.c09Attrs, c04Assoc,
      String.reduceBEq, ↓reduceIte, Bool.false_eq_true, C09FlagVal.truthy]
    cases fl.subscripts <;> simp only [↓reduceIte, Bool.false_eq_true]
    · c09_deps_sites
      try (cases deps fl a <;> cases deps fl i <;> c09_except)
  | cse c p s =>
    simp only [c09DepBody, c09DepsStepB, deps, c09DepsRun, DepFlags.c09Attrs, c04Assoc,
      String.reduceBEq, ↓reduceIte, Bool.false_eq_true, C09FlagVal.truthy, Expr.hasList, depSingle]
    by_cases h : c.hasList = true
    · simp only [h, ↓reduceIte]; rfl
    · simp only [h, ↓reduceIte, Bool.false_eq_true]
      cases fl.cses <;> simp only [↓reduceIte, Bool.false_eq_true]
      · c09_deps_sites
        try (cases deps fl c <;> c09_except)
  | call f as =>
    simp only [c09DepBody, c09DepsStepB, deps, c09DepsRun, DepFlags.c09Attrs, c04Assoc,
      String.reduceBEq, ↓reduceIte, Bool.false_eq_true]
    cases fl.calls <;> simp only [C09FlagVal.eqStr, C09FlagVal.truthy, String.reduceBEq,
      String.reduceBNe, ↓reduceIte, Bool.false_eq_true]
    · c09_deps_sites
      try (cases deps fl f <;> cases depsL fl as <;> c09_except)
    · c09_deps_sites
      try (cases depsL fl as <;> c09_except)
  | callKw f as ns vs =>
    simp only [c09DepBody, c09DepsStepB, deps, c09DepsRun, DepFlags.c09Attrs, c04Assoc,
      String.reduceBEq, ↓reduceIte, Bool.false_eq_true]
    cases fl.calls <;> simp only [C09FlagVal.eqStr, C09FlagVal.truthy, String.reduceBEq,
      String.reduceBNe, ↓reduceIte, Bool.false_eq_true]
    · c09_deps_sites
      try (cases deps fl f <;> cases depsL fl as <;> cases depsL fl vs <;> c09_except)
    · c09_deps_sites
      try (cases depsL fl as <;> cases depsL fl vs <;> c09_except)

/-! #### one step per node, recursion into the children only: at most one solution -/

/-- two functions that satisfy `f e = step f e` agree on every tree, when `step f e` reads `f` on
the children of `e` only (instances: `c09Deps_unique`, `c09Flops_unique`, `c09Count_unique`) -/
theorem fix_unique {α : Type} (step : (Expr → α) → Expr → α)
    (hloc : ∀ (f g : Expr → α) (e : Expr), (∀ c ∈ e.children, f c = g c) → step f e = step g e)
    {f g : Expr → α} (hf : ∀ e, f e = step f e) (hg : ∀ e, g e = step g e) : ∀ e, f e = g e := by
  intro e
  induction e using Expr.induct with
  | h e ih => rw [hf, hg]; exact hloc f g e ih

/-! #### the dependency equations have one solution -/

theorem c09SeqU_congr {f g : Expr → Except DepErr (List Expr)} :
    ∀ {cs : List Expr}, (∀ c ∈ cs, f c = g c) → c09SeqU f cs = c09SeqU g cs
  | [], _ => rfl
  | c :: cs, h => by
    have ih : c09SeqU f cs = c09SeqU g cs :=
      c09SeqU_congr (fun d hd => h d (List.mem_cons_of_mem _ hd))
    simp only [c09SeqU, h c (by simp), ih]

theorem c09SiteU_congr {f g : Expr → Except DepErr (List Expr)} {e : Expr}
    (h : ∀ c ∈ e.children, f c = g c) (r : C04Rec) : c09SiteU f e r = c09SiteU g e r := by
  unfold c09SiteU
  cases hr : c04RecChildren e r with
  | none => rfl
  | some cs => exact c09SeqU_congr (fun c hc => h c (c04RecChildren_sub hr c hc))

theorem c09UnionRest_congr {f g : Expr → Except DepErr (List Expr)} {e : Expr}
    (h : ∀ c ∈ e.children, f c = g c) :
    ∀ (recs : List C04Rec) (acc : List Expr), c09UnionRest f e acc recs = c09UnionRest g e acc recs
  | [], _ => rfl
  | r :: rs, acc => by
    simp only [c09UnionRest, c09SiteU_congr h r]
    cases c09SiteU g e r with
    | error err => rfl
    | ok y => exact c09UnionRest_congr h rs _

theorem c09UnionSites_congr {f g : Expr → Except DepErr (List Expr)} {e : Expr}
    (h : ∀ c ∈ e.children, f c = g c) (recs : List C04Rec) :
    c09UnionSites f e recs = c09UnionSites g e recs := by
  cases recs with
  | nil => rfl
  | cons r rs =>
    simp only [c09UnionSites, c09SiteU_congr h r]
    cases c09SiteU g e r with
    | error err => rfl
    | ok y => exact c09UnionRest_congr h rs _

theorem c09DepsRun_congr {fl : DepFlags} {f g : Expr → Except DepErr (List Expr)} {e : Expr}
    (h : ∀ c ∈ e.children, f c = g c) (b : C09Body) :
    c09DepsRun fl f e b = c09DepsRun fl g e b := by
  induction b with
  | c04 b => cases b <;> simp only [c09DepsRun, c09UnionSites_congr h]
  | combine recs => simp only [c09DepsRun, c09UnionSites_congr h]
  | hashed k ih => simp only [c09DepsRun, ih]
  | ifFlagEq fg l t e' iht ihe => simp only [c09DepsRun, iht, ihe]
  | ifFlag fg t e' iht ihe => simp only [c09DepsRun, iht, ihe]
  | _ => simp only [c09DepsRun]

theorem c09DepsStepB_congr {body : Except DepErr C09Body} {fl : DepFlags}
    {f g : Expr → Except DepErr (List Expr)} {e : Expr} (h : ∀ c ∈ e.children, f c = g c) :
    c09DepsStepB body fl f e = c09DepsStepB body fl g e := by
  unfold c09DepsStepB
  split
  · rfl
  · exact c09DepsRun_congr h _

/-- **The table-driven dependency equations have one solution.**  Whatever the closed handler
bodies `body` are: two functions that both run one handler call per node and recurse through
themselves agree on every tree (recursion only ever reaches direct children). -/
theorem c09Deps_unique (body : Expr → Except DepErr C09Body) (fl : DepFlags)
    (f g : Expr → Except DepErr (List Expr))
    (hf : ∀ e, f e = c09DepsStepB (body e) fl f e)
    (hg : ∀ e, g e = c09DepsStepB (body e) fl g e) : ∀ e, f e = g e :=
  fix_unique (fun f e => c09DepsStepB (body e) fl f e) (fun _ _ _ h => c09DepsStepB_congr h) hf hg

/-! ### the flop counters -/

/-- `FlopCounterBase.map_sum` (= `map_product`) -/
def c09FlopNary : C09Body :=
  .ifField "children"
    (.num (.add (.sub (.len "children") (.lit 1)) (.recSum ⟨"children", .each, false⟩)))
    (.num (.lit 0))

/-- `FlopCounterBase.map_quotient` (= `map_floor_div`) / `map_power` -/
def c09FlopBin (f1 f2 : String) : C09Body :=
  .num (.add (.add (.lit 1) (.recSum ⟨f1, .one, false⟩)) (.recSum ⟨f2, .one, false⟩))

/-- `CSEAwareFlopCounter.map_common_subexpression` -/
def c09FlopCseBody : C09Body :=
  .ifSeen "cse_seen_set" (.num (.lit 0))
    (.addSeen "cse_seen_set" (.num (.recSum ⟨"child", .one, false⟩)))

/-- the closed flop-counter handler body `flopsG` was written from, per node (`aware`:
`CSEAwareFlopCounter`, else `FlopCounter` / `FlopCounterBase`) -/
def c09FlopBody (aware : Bool) : Expr → Except DepErr C09Body
  | .const (.str _) => .error .foreign
  | .const .none => .error .foreign
  | .const _ => .ok (.num (.lit 0))
  | .var _ => .ok (.num (.lit 0))
  | .nary .sum _ => .ok c09FlopNary
  | .nary .prod _ => .ok c09FlopNary
  | .bin .quot _ _ => .ok (c09FlopBin "numerator" "denominator")
  | .bin .floordiv _ _ => .ok (c09FlopBin "numerator" "denominator")
  | .bin .pow _ _ => .ok (c09FlopBin "base" "exponent")
  | .cse c p s => if aware then .ok c09FlopCseBody else c09Inherited (.cse c p s)
  -- no handler of their own in `CombineMapper`: `Mapper.map_algebraic_leaf` raises
  | .wildcard => .ok (.c04 .raises)
  | .dotWild _ => .ok (.c04 .raises)
  | .starWild _ => .ok (.c04 .raises)
  | .funcSym => .ok (.c04 .raises)
  | e => c09Inherited e

theorem c09FlopBody_classRep (aware : Bool) (e : Expr) :
    c09FlopBody aware e = c09FlopBody aware e.classRep := by
  cases e with
  | const k => cases k <;> rfl
  | nary o cs => cases o <;> rfl
  | bin o a b => cases o <;> rfl
  | _ => rfl

theorem c09Lift_ok (n : Nat) (s : List Expr) : c09Lift (.ok (n, s)) = .ok ((n : Int), s) := rfl
theorem c09Lift_error (err : DepErr) : c09Lift (.error err) = .error err := rfl

theorem flopsL_eq_c09SumL (aware : Bool) : ∀ (cs seen : List Expr),
    c09Lift (flopsL aware cs seen) = c09SumL (fun c s => c09Lift (flopsG aware c s)) cs seen
  | [], seen => by simp [flopsL, c09SumL, c09Lift, pure, Except.pure]
  | c :: cs, seen => by
    simp only [flopsL, c09SumL]
    rcases h1 : flopsG aware c seen with err | ⟨x, s1⟩
    · simp [c09Lift, bind, Except.bind]
    · simp only [c09Lift_ok, bind, Except.bind, ← flopsL_eq_c09SumL aware cs s1]
      rcases h2 : flopsL aware cs s1 with err | ⟨y, s2⟩ <;>
        simp [c09Lift, pure, Except.pure]

macro "c09_flop_unfold" : tactic =>
  `(tactic| simp only [flopsG, c09FlopBody, c09FlopNary, c09FlopBin, c09FlopCseBody, c09Inherited,
      c04CombineBody, c09FlopsStepB, c09FlopsRun, c09NumEval, c09SumSites, c04RecChildren,
      Expr.c04Field, Expr.c04Fields, c04Assoc, String.reduceBEq, ↓reduceIte, Bool.false_eq_true,
      c09SumL, ← flopsL_eq_c09SumL])

macro "c09_flop_close" : tactic =>
  `(tactic| ((try simp [*, c09Lift, bind, Except.bind, pure, Except.pure]) <;> (first | rfl | omega)))

/-- **`flopsG` solves the table-driven equations** (both counters): a call on any node with any
seen-set is one handler call of the closed body `c09FlopBody` gives for the node, recursing through
`flopsG` itself; counts are Python integers on the table side. -/
theorem flopsG_eq_stepB (aware : Bool) (e : Expr) (seen : List Expr) :
    c09Lift (flopsG aware e seen) =
      c09FlopsStepB (c09FlopBody aware e) (fun c s => c09Lift (flopsG aware c s)) e seen := by
  cases e with
  | const k => cases k <;> c09_flop_unfold <;> c09_flop_close
  | var x | wildcard | dotWild n | starWild n | funcSym | nan | subst c vs xs | deriv c vs
  | slice cs => c09_flop_unfold; c09_flop_close
  | un o a | lookup a n =>
    c09_flop_unfold
    rcases h1 : flopsG aware a seen with err | ⟨x, s1⟩ <;> c09_flop_close
  | bin o a b =>
    cases o <;> c09_flop_unfold <;>
    (rcases h1 : flopsG aware a seen with err | ⟨x, s1⟩
     · c09_flop_close
     · rcases h2 : flopsG aware b s1 with err | ⟨y, s2⟩ <;> c09_flop_close)
  | cmp o a b | subscript a b =>
    c09_flop_unfold
    rcases h1 : flopsG aware a seen with err | ⟨x, s1⟩
    · c09_flop_close
    · rcases h2 : flopsG aware b s1 with err | ⟨y, s2⟩ <;> c09_flop_close
  | ite a b c =>
    c09_flop_unfold
    rcases h1 : flopsG aware a seen with err | ⟨x, s1⟩
    · c09_flop_close
    · rcases h2 : flopsG aware b s1 with err | ⟨y, s2⟩
      · c09_flop_close
      · rcases h3 : flopsG aware c s2 with err | ⟨z, s3⟩ <;> c09_flop_close
  | tuple cs | list cs =>
    c09_flop_unfold
    rcases h1 : flopsL aware cs seen with err | ⟨x, s1⟩ <;> c09_flop_close
  | call f as =>
    c09_flop_unfold
    rcases h1 : flopsG aware f seen with err | ⟨x, s1⟩
    · c09_flop_close
    · rcases h2 : flopsL aware as s1 with err | ⟨y, s2⟩ <;> c09_flop_close
  | callKw f as ns vs =>
    c09_flop_unfold
    rcases h1 : flopsG aware f seen with err | ⟨x, s1⟩
    · c09_flop_close
    · rcases h2 : flopsL aware as s1 with err | ⟨y, s2⟩
      · c09_flop_close
      · rcases h3 : flopsL aware vs s2 with err | ⟨z, s3⟩ <;> c09_flop_close
  | nary o cs =>
    have hsum : ∀ (cs : List Expr),
        (c09Lift do
          let __x ← flopsL aware cs seen
          pure (__x.fst + (cs.length - 1), __x.snd)) =
        c09FlopsRun (fun c s => c09Lift (flopsG aware c s)) (.nary o cs) c09FlopNary seen := by
      intro cs
      cases cs with
      | nil =>
        simp [c09FlopNary, c09FlopsRun, c09NumEval, Expr.c04Field, Expr.c04Fields, c04Assoc, flopsL,
          c09Lift, bind, Except.bind, pure, Except.pure]
      | cons c cs' =>
        simp only [c09FlopNary, c09FlopsRun, c09NumEval, c09SumSites, c04RecChildren,
          Expr.c04Field, Expr.c04Fields, c04Assoc, String.reduceBEq, ↓reduceIte,
          List.isEmpty_cons, Bool.false_eq_true, bind, Except.bind, pure, Except.pure,
          ← flopsL_eq_c09SumL]
        rcases h1 : flopsL aware (c :: cs') seen with err | ⟨x, s1⟩
        · simp [c09Lift]
        · simp [c09Lift]; omega
    cases o with
    | sum | prod => simp only [flopsG, c09FlopBody, c09FlopsStepB]; exact hsum cs
    | _ =>
      c09_flop_unfold
      rcases h1 : flopsL aware cs seen with err | ⟨x, s1⟩ <;> c09_flop_close
  | cse c p s =>
    cases aware
    · c09_flop_unfold
      rcases h1 : flopsG false c seen with err | ⟨x, s1⟩ <;> c09_flop_close
    · simp only [flopsG, c09FlopBody, c09FlopCseBody, c09FlopsStepB, c09FlopsRun, c09NumEval,
        c09SumSites, c04RecChildren, Expr.c04Field, Expr.c04Fields, c04Assoc, String.reduceBEq,
        ↓reduceIte, c09SumL, Expr.hasList]
      by_cases hl : c.hasList = true
      · simp only [hl, ↓reduceIte]; rfl
      · simp only [hl, ↓reduceIte, Bool.false_eq_true]
        by_cases hs : (seen.any fun k => k.pyEq (c.cse p s)) = true
        · simp [hs, c09Lift, pure, Except.pure]
        · simp only [hs, ↓reduceIte, Bool.false_eq_true]
          rcases h1 : flopsG true c (seen ++ [c.cse p s]) with err | ⟨x, s1⟩ <;> c09_flop_close

/-! #### the flop equations have one solution -/

theorem c09SumL_congr {f g : Expr → List Expr → Except DepErr (Int × List Expr)} :
    ∀ {cs : List Expr}, (∀ c ∈ cs, f c = g c) → c09SumL f cs = c09SumL g cs
  | [], _ => by funext s; rfl
  | c :: cs, h => by
    have ih : c09SumL f cs = c09SumL g cs :=
      c09SumL_congr (fun d hd => h d (List.mem_cons_of_mem _ hd))
    funext s
    simp only [c09SumL, h c (by simp), ih]

theorem c09SumSites_congr {f g : Expr → List Expr → Except DepErr (Int × List Expr)} {e : Expr}
    (h : ∀ c ∈ e.children, f c = g c) :
    ∀ recs : List C04Rec, c09SumSites f e recs = c09SumSites g e recs
  | [] => by funext s; rfl
  | r :: rs => by
    funext s
    simp only [c09SumSites]
    cases hr : c04RecChildren e r with
    | none => rfl
    | some cs =>
      simp only [c09SumSites_congr h rs,
        c09SumL_congr (fun c hc => h c (c04RecChildren_sub hr c hc))]

theorem c09NumEval_congr {f g : Expr → List Expr → Except DepErr (Int × List Expr)} {e : Expr}
    (h : ∀ c ∈ e.children, f c = g c) (n : C09Num) : c09NumEval f e n = c09NumEval g e n := by
  induction n with
  | lit n => funext s; rfl
  | len fld => funext s; rfl
  | add a b iha ihb => funext s; simp only [c09NumEval, iha, ihb]
  | sub a b iha ihb => funext s; simp only [c09NumEval, iha, ihb]
  | max a b iha ihb => funext s; simp only [c09NumEval, iha, ihb]
  | recSum r => funext s; simp only [c09NumEval, c09SumSites_congr h]

theorem c09FlopsRun_congr {f g : Expr → List Expr → Except DepErr (Int × List Expr)} {e : Expr}
    (h : ∀ c ∈ e.children, f c = g c) (b : C09Body) : c09FlopsRun f e b = c09FlopsRun g e b := by
  induction b with
  | c04 b => funext s; cases b <;> simp only [c09FlopsRun, c09SumSites_congr h]
  | num n => funext s; simp only [c09FlopsRun, c09NumEval_congr h]
  | ifField fld t e' iht ihe => funext s; simp only [c09FlopsRun, iht, ihe]
  | ifSeen a t e' iht ihe => funext s; simp only [c09FlopsRun, iht, ihe]
  | addSeen a k ih => funext s; simp only [c09FlopsRun, ih]
  | _ => funext s; simp only [c09FlopsRun]

theorem c09FlopsStepB_congr {body : Except DepErr C09Body}
    {f g : Expr → List Expr → Except DepErr (Int × List Expr)} {e : Expr}
    (h : ∀ c ∈ e.children, f c = g c) (seen : List Expr) :
    c09FlopsStepB body f e seen = c09FlopsStepB body g e seen := by
  unfold c09FlopsStepB
  split
  · rfl
  · rw [c09FlopsRun_congr h]

/-- **The table-driven flop equations have one solution** (for every seen-set). -/
theorem c09Flops_unique (body : Expr → Except DepErr C09Body)
    (f g : Expr → List Expr → Except DepErr (Int × List Expr))
    (hf : ∀ e s, f e s = c09FlopsStepB (body e) f e s)
    (hg : ∀ e s, g e s = c09FlopsStepB (body e) g e s) : ∀ e s, f e s = g e s :=
  fun e => congrFun (fix_unique (fun f e => c09FlopsStepB (body e) f e)
    (fun _ _ _ h => funext (c09FlopsStepB_congr h)) (fun e => funext (hf e))
    (fun e => funext (hg e)) e)

/-! ### the node counter -/

/-- `NodeCountMapper` / `CachedMapper.__call__` / `get_num_nodes` as `c09CountWalk` was written
from them: the memo is looked up first under the key `(type(expr), expr)`, every result is stored,
`visit` is `WalkMapper`'s (returns `True`, counts nothing), `post_visit` counts one, a fresh
mapper starts at zero. -/
def c09CountSpecHand : C09CountSpec :=
  { mro := ["NodeCountMapper", "CachedWalkMapper", "CachedMapper", "WalkMapper", "Mapper"],
    recOwner := "CachedMapper",
    memo := { lookupFirst := true, keyType := true, keyExpr := true, storeMethod := true,
              storeFallback := true },
    visit := { definedIn := "WalkMapper", incr := 0, returnsTrue := true },
    postVisit := { definedIn := "NodeCountMapper", incr := 1, returnsTrue := false },
    counter := "count", initial := 0, freshMapper := true, returnsCounter := true }

theorem c09CountWalkL_eq_seqL : ∀ (cs cache : List Expr),
    c09CountWalkL cs cache = c09CountSeqL c09CountWalk cs cache
  | [], cache => rfl
  | c :: cs, cache => by
    simp only [c09CountWalkL, c09CountSeqL]
    congr 1; funext c1; exact c09CountWalkL_eq_seqL cs c1

theorem c09CountWalkS_cons (c : Expr) (cs cache : List Expr) :
    c09CountWalkS (c :: cs) cache =
      if c.c04IsNone then c09CountWalkS cs cache
      else c09Seq (c09CountWalk c cache) (fun c1 => c09CountWalkS cs c1) := by
  cases c with
  | const k => cases k <;> simp [c09CountWalkS, Expr.c04IsNone]
  | _ => simp [c09CountWalkS, Expr.c04IsNone]

theorem c09CountWalkS_eq_seqL : ∀ (cs cache : List Expr),
    c09CountWalkS cs cache =
      c09CountSeqL c09CountWalk (cs.filter (fun c => !c.c04IsNone)) cache
  | [], cache => rfl
  | c :: cs, cache => by
    rw [c09CountWalkS_cons, List.filter_cons]
    cases c.c04IsNone
    · simp only [Bool.false_eq_true, ↓reduceIte, Bool.not_false, c09CountSeqL]
      congr 1; funext c1; exact c09CountWalkS_eq_seqL cs c1
    · simp only [↓reduceIte, Bool.not_true, Bool.false_eq_true]
      exact c09CountWalkS_eq_seqL cs cache

theorem c09Seq_zero (r : Except DepErr (Nat × List Expr)) :
    c09Seq r (fun c1 => .ok (0, c1)) = r := by
  rcases r with err | ⟨x, c⟩ <;> simp [c09Seq]

theorem c09Seq_assoc (r : Except DepErr (Nat × List Expr))
    (k1 k2 : List Expr → Except DepErr (Nat × List Expr)) :
    c09Seq (c09Seq r k1) k2 = c09Seq r (fun c => c09Seq (k1 c) k2) := by
  rcases r with err | ⟨x, c⟩
  · rfl
  · simp only [c09Seq]
    rcases k1 c with err | ⟨y, c'⟩
    · rfl
    · simp only []
      rcases k2 c' with err | ⟨z, c''⟩
      · rfl
      · simp [Nat.add_assoc]

theorem c09CountSeqL_one (rec : Expr → List Expr → Except DepErr (Nat × List Expr)) (a : Expr)
    (cache : List Expr) : c09CountSeqL rec [a] cache = rec a cache := by
  simp only [c09CountSeqL, c09Seq_zero]

/-- the bracket of a guarded / leaf walk handler under `c09CountSpecHand` is `c09Cached` -/
theorem c09CountStepB_walk (bm : Bool) (visit : C04Visit) (hv : visit ≠ .absent) (vf pf : Bool)
    (recs : List C04Rec) (rec : Expr → List Expr → Except DepErr (Nat × List Expr)) (e : Expr)
    (cache : List Expr) :
    c09CountStepB c09CountSpecHand bm (.ok (.walk visit vf recs true pf)) rec e cache =
      c09Cached cache e (fun _ => c09CountSites rec e recs cache) := by
  have hve : (visit == C04Visit.absent) = false := by cases visit <;> simp_all
  simp only [c09CountStepB, c09Cached, c09Hit, c09CountSpecHand, C09CountSpec.memoActive,
    c09MemoKeyEq, beq_self_eq_true, Bool.true_and, ↓reduceIte, Bool.not_true, Bool.and_false,
    Bool.false_eq_true, hve, if_true, ite_self]
  by_cases h : (cache.any fun k => k.keyEq e) = true
  · simp only [h, ↓reduceIte]
  · simp only [h, ↓reduceIte, Bool.false_eq_true]
    rcases c09CountSites rec e recs cache with err | ⟨n, c1⟩
    · rfl
    · simp [c09Store]

macro "c09_count_unfold" : tactic =>
  `(tactic| simp only [c09CountWalk, c04WalkBody, c09CountStepB_walk, c09CountSites,
      c04RecChildren, Expr.c04Field, Expr.c04Fields, c04Assoc, String.reduceBEq, ↓reduceIte,
      Bool.false_eq_true, c09CountSeqL_one, c09CountWalkL_eq_seqL, c09CountWalkS_eq_seqL,
      c09Seq_zero, ne_eq, reduceCtorEq, not_false_eq_true])

/-- **`c09CountWalk` solves the table-driven equations**: for every node and every cache, one
`NodeCountMapper.rec` call as the `WalkMapper` handler shape `c04WalkBody`, the memo protocol and
the hooks of `c09CountSpecHand` describe it, recursing through `c09CountWalk` itself. -/
theorem c09CountWalk_eq_stepB (bm : Bool) (e : Expr) (cache : List Expr) :
    c09CountWalk e cache =
      c09CountStepB c09CountSpecHand bm (c04WalkBody e) c09CountWalk e cache := by
  cases e with
  | const k =>
    cases k <;> c09_count_unfold
    all_goals
      simp [c09CountStepB, c09Hit, c09CountSpecHand, C09CountSpec.memoActive, c09MemoKeyEq]
  | bin o a b => cases o <;> c09_count_unfold
  | _ => c09_count_unfold

/-! #### the node-count equations have one solution -/

theorem c09CountSeqL_congr {f g : Expr → List Expr → Except DepErr (Nat × List Expr)} :
    ∀ {cs : List Expr}, (∀ c ∈ cs, f c = g c) → c09CountSeqL f cs = c09CountSeqL g cs
  | [], _ => by funext s; rfl
  | c :: cs, h => by
    have ih : c09CountSeqL f cs = c09CountSeqL g cs :=
      c09CountSeqL_congr (fun d hd => h d (List.mem_cons_of_mem _ hd))
    funext s
    simp only [c09CountSeqL, h c (by simp), ih]

theorem c09CountSites_congr {f g : Expr → List Expr → Except DepErr (Nat × List Expr)} {e : Expr}
    (h : ∀ c ∈ e.children, f c = g c) :
    ∀ recs : List C04Rec, c09CountSites f e recs = c09CountSites g e recs
  | [] => by funext s; rfl
  | r :: rs => by
    funext s
    simp only [c09CountSites]
    cases hr : c04RecChildren e r with
    | none => rfl
    | some cs =>
      simp only [c09CountSites_congr h rs,
        c09CountSeqL_congr (fun c hc => h c (c04RecChildren_sub hr c hc))]

theorem c09CountStepB_congr {sp : C09CountSpec} {bm : Bool} {body : Except DepErr C04Body}
    {f g : Expr → List Expr → Except DepErr (Nat × List Expr)} {e : Expr}
    (h : ∀ c ∈ e.children, f c = g c) (cache : List Expr) :
    c09CountStepB sp bm body f e cache = c09CountStepB sp bm body g e cache := by
  unfold c09CountStepB
  simp only [c09CountSites_congr h]

/-- **The table-driven node-count equations have one solution** (for every cache), whatever the
memo protocol, hooks and handler shapes are. -/
theorem c09Count_unique (sp : C09CountSpec) (bm : Expr → Bool) (body : Expr → Except DepErr C04Body)
    (f g : Expr → List Expr → Except DepErr (Nat × List Expr))
    (hf : ∀ e c, f e c = c09CountStepB sp (bm e) (body e) f e c)
    (hg : ∀ e c, g e c = c09CountStepB sp (bm e) (body e) g e c) : ∀ e c, f e c = g e c :=
  fun e => congrFun (fix_unique (fun f e => c09CountStepB sp (bm e) (body e) f e)
    (fun _ _ _ h => funext (c09CountStepB_congr h)) (fun e => funext (hf e))
    (fun e => funext (hg e)) e)

/-- `get_num_nodes` as coded is the entry point the spec describes, run with `c09CountWalk` -/
theorem c09NumNodesKeys_eq_T (e : Expr) :
    c09NumNodesKeys e = c09NumNodesT c09CountSpecHand c09CountWalk e := by
  simp only [c09NumNodesKeys, c09NumNodesT, c09CountSpecHand, C09CountSpec.memoActive,
    beq_self_eq_true, Bool.true_and, Bool.and_self, ↓reduceIte]
  split
  · rfl
  · rcases c09CountWalk e [] with err | ⟨n, c⟩ <;> simp

/-! ### `Collector.combine` read literally

`reduce(operator.or_, values, set())` is the LEFT fold from the empty set over the results of all
recursive calls.  `c09UnionSites` (and `deps`) compute the same set in another association.  For
lists that are duplicate-free under `==` and whose elements lie in a class on which `==` is an
equivalence (well-formed expressions: PV/Proofs/PyEqEquiv.lean) the two lists are EQUAL. -/

/-- a class of expressions on which Python `==` is reflexive, symmetric and transitive -/
structure C09EqClass (W : Expr → Prop) : Prop where
  refl : ∀ x, W x → x.pyEq x = true
  symm : ∀ x y, W x → W y → x.pyEq y = true → y.pyEq x = true
  trans : ∀ x y z, W x → W y → W z → x.pyEq y = true → y.pyEq z = true → x.pyEq z = true

/-- no earlier element is `==` a later one (a Python set as a list) -/
def c09Distinct : List Expr → Prop
  | [] => True
  | x :: xs => (∀ y ∈ xs, x.pyEq y = false) ∧ c09Distinct xs

theorem unionPy_append_singleton (a b : List Expr) (x : Expr) :
    unionPy a (b ++ [x]) = insPy (unionPy a b) x := by
  simp [unionPy, insPy, List.foldl_append]

theorem insPy_of_rep {a : List Expr} {x : Expr} (h : ∃ y ∈ a, y.pyEq x = true) : insPy a x = a := by
  obtain ⟨y, hy, hyx⟩ := h
  have : a.any (fun y => y.pyEq x) = true := List.any_eq_true.mpr ⟨y, hy, hyx⟩
  simp [insPy, this]

theorem insPy_of_not_rep {a : List Expr} {x : Expr} (h : ¬ ∃ y ∈ a, y.pyEq x = true) :
    insPy a x = a ++ [x] := by
  have : a.any (fun y => y.pyEq x) = false := by
    rw [Bool.eq_false_iff]; intro hc
    obtain ⟨y, hy, hyx⟩ := List.any_eq_true.mp hc
    exact h ⟨y, hy, hyx⟩
  simp [insPy, this]

variable {W : Expr → Prop}

/-- every element of either operand is represented in the union -/
theorem c09_rep_union (hW : C09EqClass W) {a b : List Expr} (ha : ∀ y ∈ a, W y) (hb : ∀ y ∈ b, W y)
    {x : Expr} (hx : x ∈ a ∨ x ∈ b) : ∃ y ∈ unionPy a b, y.pyEq x = true := by
  rcases hx with hx | hx
  · exact ⟨x, mem_unionPy_left hx, hW.refl x (ha x hx)⟩
  · obtain ⟨y, hy, hyx⟩ := mem_unionPy_right (a := a) hx
    rcases hyx with rfl | hyx
    · exact ⟨y, hy, hW.refl y (hb y hx)⟩
    · exact ⟨y, hy, hyx⟩

theorem c09_mem_union_W {a b : List Expr} (ha : ∀ y ∈ a, W y) (hb : ∀ y ∈ b, W y) :
    ∀ y ∈ unionPy a b, W y := by
  intro y hy
  rcases mem_unionPy hy with h | h
  · exact ha y h
  · exact hb y h

theorem c09_insPy_W {b : List Expr} {x : Expr} (hb : ∀ y ∈ b, W y) (hx : W x) :
    ∀ y ∈ insPy b x, W y := by
  intro y hy
  rcases mem_insPy hy with h | h
  · exact hb y h
  · exact h ▸ hx

/-- **`∪` on duplicate-free lists is associative** on a class where `==` is an equivalence -/
theorem unionPy_assoc (hW : C09EqClass W) (a : List Expr) (ha : ∀ y ∈ a, W y) :
    ∀ (c b : List Expr), (∀ y ∈ b, W y) → (∀ y ∈ c, W y) →
    unionPy (unionPy a b) c = unionPy a (unionPy b c)
  | [], b, _, _ => rfl
  | x :: c, b, hb, hc => by
    have hc' : ∀ y ∈ c, W y := fun y hy => hc y (by simp [hy])
    have hx : W x := hc x (by simp)
    rw [unionPy_cons, unionPy_cons, ← unionPy_assoc hW a ha c (insPy b x) (c09_insPy_W hb hx) hc']
    congr 1
    by_cases hr : ∃ y ∈ b, y.pyEq x = true
    · rw [insPy_of_rep hr]
      obtain ⟨y, hy, hyx⟩ := hr
      obtain ⟨z, hz, hzy⟩ := c09_rep_union hW ha hb (x := y) (.inr hy)
      have hzW : W z := c09_mem_union_W ha hb z hz
      exact insPy_of_rep ⟨z, hz, hW.trans z y x hzW (hb y hy) hx hzy hyx⟩
    · rw [insPy_of_not_rep hr, unionPy_append_singleton]

theorem unionPy_nil_left_of_distinct : ∀ (r : List Expr), c09Distinct r → unionPy [] r = r := by
  have key : ∀ (r acc : List Expr), c09Distinct r → (∀ y ∈ acc, ∀ x ∈ r, y.pyEq x = false) →
      unionPy acc r = acc ++ r := by
    intro r
    induction r with
    | nil => intro acc _ _; simp [unionPy_nil]
    | cons x xs ih =>
      intro acc hd hacc
      rw [unionPy_cons]
      have hn : ¬ ∃ y ∈ acc, y.pyEq x = true := by
        rintro ⟨y, hy, hyx⟩
        have := hacc y hy x (by simp)
        simp [this] at hyx
      rw [insPy_of_not_rep hn, ih (acc ++ [x]) hd.2]
      · simp
      · intro y hy z hz
        rcases List.mem_append.mp hy with hy | hy
        · exact hacc y hy z (by simp [hz])
        · simp only [List.mem_singleton] at hy
          subst hy
          exact hd.1 z hz
  intro r hd
  simpa using key r [] hd (by simp)

theorem c09Distinct_insPy {a : List Expr} {x : Expr} (ha : c09Distinct a) : c09Distinct (insPy a x) := by
  by_cases hr : ∃ y ∈ a, y.pyEq x = true
  · rw [insPy_of_rep hr]; exact ha
  · rw [insPy_of_not_rep hr]
    induction a with
    | nil => simp [c09Distinct]
    | cons y ys ih =>
      refine ⟨?_, ih ha.2 (fun ⟨z, hz, hzx⟩ => hr ⟨z, by simp [hz], hzx⟩)⟩
      intro z hz
      rcases List.mem_append.mp hz with hz | hz
      · exact ha.1 z hz
      · simp only [List.mem_singleton] at hz
        subst hz
        cases h : y.pyEq z
        · rfl
        · exact absurd ⟨y, by simp, h⟩ hr

/-- a union of duplicate-free lists is duplicate-free -/
theorem c09Distinct_unionPy : ∀ (b a : List Expr), c09Distinct a → c09Distinct (unionPy a b)
  | [], a, ha => ha
  | x :: b, a, ha => by rw [unionPy_cons]; exact c09Distinct_unionPy b _ (c09Distinct_insPy ha)

/-- `[self.rec(c, …) for c in cs]`: the results in order; the first exception ends it -/
def c09MapM (rec : Expr → Except DepErr (List Expr)) : List Expr → Except DepErr (List (List Expr))
  | [] => .ok []
  | c :: cs =>
    match rec c with
    | .error err => .error err
    | .ok x =>
      match c09MapM rec cs with
      | .error err => .error err
      | .ok xs => .ok (x :: xs)

/-- **`Collector.combine`, literally**: `reduce(operator.or_, values, set())` -/
def c09ReduceOr (vals : List (List Expr)) : List Expr := vals.foldl unionPy []

/-- the right-nested union `v₁ ∪ (v₂ ∪ (… ∪ ∅))` (the shape of `c09SeqU` / `depsL`) -/
def c09UnionR : List (List Expr) → List Expr
  | [] => []
  | v :: vs => unionPy v (c09UnionR vs)

theorem c09SeqU_eq_mapM (rec : Expr → Except DepErr (List Expr)) : ∀ cs : List Expr,
    c09SeqU rec cs = (c09MapM rec cs).map c09UnionR
  | [] => rfl
  | c :: cs => by
    simp only [c09SeqU, c09MapM, c09SeqU_eq_mapM rec cs]
    rcases rec c with err | x
    · rfl
    · rcases c09MapM rec cs with err | xs <;> rfl

theorem c09MapM_append (rec : Expr → Except DepErr (List Expr)) : ∀ (a b : List Expr),
    c09MapM rec (a ++ b) =
      match c09MapM rec a with
      | .error err => .error err
      | .ok v => match c09MapM rec b with
        | .error err => .error err
        | .ok w => .ok (v ++ w)
  | [], b => by
    simp only [List.nil_append, c09MapM]
    rcases c09MapM rec b with err | w <;> rfl
  | c :: a, b => by
    simp only [List.cons_append, c09MapM, c09MapM_append rec a b]
    rcases rec c with err | x
    · rfl
    · rcases c09MapM rec a with err | v
      · rfl
      · rcases c09MapM rec b with err | w <;> rfl

theorem c09MapM_mem {rec : Expr → Except DepErr (List Expr)} : ∀ {cs : List Expr}
    {vals : List (List Expr)}, c09MapM rec cs = .ok vals → ∀ v ∈ vals, ∃ c ∈ cs, rec c = .ok v
  | [], vals, h, v, hv => by simp [c09MapM] at h; subst h; simp at hv
  | c :: cs, vals, h, v, hv => by
    simp only [c09MapM] at h
    rcases hc : rec c with err | x
    · simp [hc] at h
    · rcases hcs : c09MapM rec cs with err | xs
      · simp [hc, hcs] at h
      · simp only [hc, hcs, Except.ok.injEq] at h
        subst h
        rcases List.mem_cons.mp hv with rfl | hv
        · exact ⟨c, by simp, hc⟩
        · obtain ⟨d, hd, hdv⟩ := c09MapM_mem hcs v hv
          exact ⟨d, by simp [hd], hdv⟩

/-- a list of result sets: each duplicate-free, all elements in `W` -/
def C09Good (W : Expr → Prop) (vals : List (List Expr)) : Prop :=
  ∀ v ∈ vals, c09Distinct v ∧ ∀ y ∈ v, W y

theorem c09UnionR_good {vals : List (List Expr)} (h : C09Good W vals) :
    c09Distinct (c09UnionR vals) ∧ ∀ y ∈ c09UnionR vals, W y := by
  induction vals with
  | nil => exact ⟨trivial, by simp [c09UnionR]⟩
  | cons v vs ih =>
    have hv := h v (by simp)
    have hvs := ih (fun w hw => h w (by simp [hw]))
    exact ⟨c09Distinct_unionPy _ _ hv.1, c09_mem_union_W hv.2 hvs.2⟩

theorem c09UnionR_append (hW : C09EqClass W) : ∀ {v w : List (List Expr)}, C09Good W v →
    C09Good W w → c09UnionR (v ++ w) = unionPy (c09UnionR v) (c09UnionR w)
  | [], w, _, hw => by
    simp only [List.nil_append, c09UnionR]
    exact (unionPy_nil_left_of_distinct _ (c09UnionR_good hw).1).symm
  | x :: v, w, hv, hw => by
    have hx := hv x (by simp)
    have hv' : C09Good W v := fun u hu => hv u (by simp [hu])
    simp only [List.cons_append, c09UnionR, c09UnionR_append hW hv' hw]
    exact (unionPy_assoc hW x hx.2 _ _ (c09UnionR_good hv').2 (c09UnionR_good hw).2).symm

theorem c09_foldl_union (hW : C09EqClass W) : ∀ {vals : List (List Expr)} {acc : List Expr},
    C09Good W vals → (∀ y ∈ acc, W y) →
    vals.foldl unionPy acc = unionPy acc (c09UnionR vals)
  | [], acc, _, _ => rfl
  | v :: vs, acc, hv, hacc => by
    have hx := hv v (by simp)
    have hvs : C09Good W vs := fun u hu => hv u (by simp [hu])
    simp only [List.foldl_cons, c09UnionR]
    rw [c09_foldl_union hW hvs (c09_mem_union_W hacc hx.2)]
    exact unionPy_assoc hW acc hacc _ _ hx.2 (c09UnionR_good hvs).2

/-- **Python's left fold from `set()` is the right-nested union** on good operands -/
theorem c09ReduceOr_eq_unionR (hW : C09EqClass W) {vals : List (List Expr)} (h : C09Good W vals) :
    c09ReduceOr vals = c09UnionR vals := by
  unfold c09ReduceOr
  rw [c09_foldl_union hW h (by simp)]
  exact unionPy_nil_left_of_distinct _ (c09UnionR_good h).1

/-- `c09UnionSites` over explicit children lists -/
def c09UnionRestL (rec : Expr → Except DepErr (List Expr)) :
    List Expr → List (List Expr) → Except DepErr (List Expr)
  | acc, [] => .ok acc
  | acc, l :: ls =>
    match c09SeqU rec l with
    | .error err => .error err
    | .ok y => c09UnionRestL rec (unionPy acc y) ls

theorem c09UnionRest_eq_L (rec : Expr → Except DepErr (List Expr)) (e : Expr) :
    ∀ (recs : List C04Rec) (css : List (List Expr)) (acc : List Expr),
    c04OptSeq (recs.map (c04RecChildren e)) = some css →
    c09UnionRest rec e acc recs = c09UnionRestL rec acc css
  | [], css, acc, h => by
    simp only [List.map_nil, c04OptSeq, Option.some.injEq] at h
    subst h; rfl
  | r :: rs, css, acc, h => by
    simp only [List.map_cons, c04OptSeq] at h
    rcases hr : c04RecChildren e r with _ | l
    · simp [hr, c04OptSeq] at h
    · rcases hrs : c04OptSeq (rs.map (c04RecChildren e)) with _ | ls
      · simp [hr, hrs, c04OptSeq] at h
      · simp only [hr, hrs, c04OptSeq, Option.some.injEq] at h
        subst h
        simp only [c09UnionRest, c09SiteU, hr, c09UnionRestL, bind, Except.bind]
        rcases c09SeqU rec l with err | y
        · rfl
        · exact c09UnionRest_eq_L rec e rs ls _ hrs

theorem c09UnionRestL_literal (hW : C09EqClass W) (rec : Expr → Except DepErr (List Expr)) :
    ∀ (css : List (List Expr)) (acc : List Expr),
    (∀ c ∈ css.flatten, ∀ r, rec c = .ok r → c09Distinct r ∧ ∀ y ∈ r, W y) →
    (∀ y ∈ acc, W y) →
    c09UnionRestL rec acc css =
      (c09MapM rec css.flatten).map (fun vals => unionPy acc (c09UnionR vals))
  | [], acc, _, _ => rfl
  | l :: ls, acc, hrec, hacc => by
    have hgood : ∀ {cs : List Expr} {vals}, (∀ c ∈ cs, c ∈ (l :: ls).flatten) →
        c09MapM rec cs = .ok vals → C09Good W vals := by
      intro cs vals hsub hm v hv
      obtain ⟨c, hc, hcv⟩ := c09MapM_mem hm v hv
      exact hrec c (hsub c hc) v hcv
    simp only [c09UnionRestL, List.flatten_cons, c09MapM_append, c09SeqU_eq_mapM]
    rcases hl : c09MapM rec l with err | v
    · rfl
    · have hv : C09Good W v := hgood (fun c hc => by simp [hc]) hl
      simp only [Except.map]
      rw [c09UnionRestL_literal hW rec ls _
        (fun c hc => hrec c (by simp [hc])) (c09_mem_union_W hacc (c09UnionR_good hv).2)]
      rcases hls : c09MapM rec ls.flatten with err | w
      · rfl
      · have hw : C09Good W w := hgood (fun c hc => by simp [hc]) hls
        simp only [Except.map]
        rw [c09UnionR_append hW hv hw,
          unionPy_assoc hW acc hacc _ _ (c09UnionR_good hv).2 (c09UnionR_good hw).2]

theorem c09SeqU_distinct {rec : Expr → Except DepErr (List Expr)} :
    ∀ {cs : List Expr} {r : List Expr}, (∀ c ∈ cs, ∀ x, rec c = .ok x → c09Distinct x) →
    c09SeqU rec cs = .ok r → c09Distinct r
  | [], r, _, h => by simp [c09SeqU, pure, Except.pure] at h; subst h; trivial
  | c :: cs, r, hrec, h => by
    simp only [c09SeqU, bind, Except.bind] at h
    rcases hc : rec c with err | x
    · simp [hc] at h
    · rcases hcs : c09SeqU rec cs with err | y
      · simp [hc, hcs] at h
      · simp only [hc, hcs, pure, Except.pure, Except.ok.injEq] at h
        subst h
        exact c09Distinct_unionPy _ _ (hrec c (by simp) x hc)

/-- **The union computed by the step function is Python's `reduce(operator.or_, values, set())`**
over the results of ALL recursive calls of the handler, in source order — when every recursion
site fits the node, and the recursive results are duplicate-free lists of elements on which `==`
is an equivalence. -/
theorem c09UnionSites_eq_literal (hW : C09EqClass W) (rec : Expr → Except DepErr (List Expr))
    (e : Expr) (recs : List C04Rec) (cs : List Expr) (hfit : c04RecsChildren e recs = some cs)
    (hrec : ∀ c ∈ cs, ∀ r, rec c = .ok r → c09Distinct r ∧ ∀ y ∈ r, W y) :
    c09UnionSites rec e recs = (c09MapM rec cs).map c09ReduceOr := by
  unfold c04RecsChildren at hfit
  rcases hcss : c04OptSeq (recs.map (c04RecChildren e)) with _ | css
  · simp [hcss] at hfit
  · simp only [hcss, Option.map_some, Option.some.injEq] at hfit
    subst hfit
    -- the first site's result is duplicate-free, so starting from it is starting from `set()`
    have hstart : c09UnionSites rec e recs = c09UnionRest rec e [] recs := by
      cases recs with
      | nil => rfl
      | cons r rs =>
        simp only [c09UnionSites, c09UnionRest, bind, Except.bind]
        rcases hs : c09SiteU rec e r with err | y
        · rfl
        · unfold c09SiteU at hs
          rcases hr : c04RecChildren e r with _ | l
          · simp [hr] at hs
          · rw [hr] at hs
            simp only [List.map_cons, hr, c04OptSeq] at hcss
            rcases hrs : c04OptSeq (rs.map (c04RecChildren e)) with _ | ls
            · simp [hrs] at hcss
            · simp only [hrs, Option.some.injEq] at hcss
              subst hcss
              simp only [unionPy_nil_left_of_distinct y (c09SeqU_distinct
                (fun c hc x hx => (hrec c (by simp [hc]) x hx).1) hs)]
    rw [hstart, c09UnionRest_eq_L rec e recs css [] hcss,
      c09UnionRestL_literal hW rec css [] hrec (by simp)]
    rcases hm : c09MapM rec css.flatten with err | vals
    · rfl
    · have hgood : C09Good W vals := fun v hv => by
        obtain ⟨c, hc, hcv⟩ := c09MapM_mem hm v hv
        exact hrec c hc v hcv
      simp only [Except.map]
      rw [c09ReduceOr_eq_unionR hW hgood,
        unionPy_nil_left_of_distinct _ (c09UnionR_good hgood).1]

/-- the recursion sites of a handler reach direct children only -/
theorem c04RecsChildren_sub {e : Expr} : ∀ {recs : List C04Rec} {cs : List Expr},
    c04RecsChildren e recs = some cs → ∀ c ∈ cs, c ∈ e.children
  | [], cs, h, c, hc => by
    simp only [c04RecsChildren, List.map_nil, c04OptSeq, Option.map_some, Option.some.injEq] at h
    subst h; simp at hc
  | r :: rs, cs, h, c, hc => by
    unfold c04RecsChildren at h
    rcases hr : c04RecChildren e r with _ | l
    · simp [hr, c04OptSeq] at h
    · rcases hrs : c04OptSeq (rs.map (c04RecChildren e)) with _ | ls
      · simp [hr, hrs, c04OptSeq] at h
      · simp only [List.map_cons, hr, hrs, c04OptSeq, Option.map_some, Option.some.injEq] at h
        subst h
        rw [List.flatten_cons, List.mem_append] at hc
        rcases hc with hc | hc
        · exact c04RecChildren_sub hr c hc
        · exact c04RecsChildren_sub (recs := rs) (by rw [c04RecsChildren, hrs]; rfl) c hc

/-! #### results of the dependency handlers are duplicate-free -/

theorem c09UnionRest_distinct {rec : Expr → Except DepErr (List Expr)} {e : Expr} :
    ∀ {recs : List C04Rec} {acc r : List Expr}, c09Distinct acc →
    c09UnionRest rec e acc recs = .ok r → c09Distinct r
  | [], acc, r, ha, h => by simp [c09UnionRest, pure, Except.pure] at h; subst h; exact ha
  | s :: rs, acc, r, ha, h => by
    simp only [c09UnionRest, bind, Except.bind] at h
    rcases hs : c09SiteU rec e s with err | y
    · simp [hs] at h
    · simp only [hs] at h
      exact c09UnionRest_distinct (c09Distinct_unionPy _ _ ha) h

theorem c09UnionSites_distinct {rec : Expr → Except DepErr (List Expr)} {e : Expr}
    (hrec : ∀ c ∈ e.children, ∀ x, rec c = .ok x → c09Distinct x) {recs : List C04Rec}
    {r : List Expr} (h : c09UnionSites rec e recs = .ok r) : c09Distinct r := by
  cases recs with
  | nil => simp [c09UnionSites, pure, Except.pure] at h; subst h; trivial
  | cons s rs =>
    simp only [c09UnionSites, bind, Except.bind] at h
    rcases hs : c09SiteU rec e s with err | y
    · simp [hs] at h
    · simp only [hs] at h
      refine c09UnionRest_distinct ?_ h
      unfold c09SiteU at hs
      rcases hc : c04RecChildren e s with _ | cs
      · simp [hc] at hs
      · simp only [hc] at hs
        exact c09SeqU_distinct (fun c hcm => hrec c (c04RecChildren_sub hc c hcm)) hs

theorem c09DepsRun_distinct {fl : DepFlags} {rec : Expr → Except DepErr (List Expr)} {e : Expr}
    (hrec : ∀ c ∈ e.children, ∀ x, rec c = .ok x → c09Distinct x) :
    ∀ (b : C09Body) {r : List Expr}, c09DepsRun fl rec e b = .ok r → c09Distinct r := by
  intro b
  induction b with
  | single =>
    intro r h
    simp only [c09DepsRun, depSingle] at h
    split at h
    · cases h
    · simp only [pure, Except.pure, Except.ok.injEq] at h; subst h; exact ⟨by simp, trivial⟩
  | empty => intro r h; simp only [c09DepsRun, pure, Except.pure, Except.ok.injEq] at h; subst h; trivial
  | combine recs => intro r h; exact c09UnionSites_distinct hrec (by simpa [c09DepsRun] using h)
  | c04 b =>
    intro r h
    cases b <;> simp only [c09DepsRun, reduceCtorEq] at h
    exact c09UnionSites_distinct hrec h
  | hashed k ih =>
    intro r h
    simp only [c09DepsRun] at h
    split at h
    · cases h
    · exact ih h
  | ifFlagEq fg l t e' iht ihe =>
    intro r h
    simp only [c09DepsRun] at h
    split at h
    · split at h
      · exact iht h
      · exact ihe h
    · cases h
  | ifFlag fg t e' iht ihe =>
    intro r h
    simp only [c09DepsRun] at h
    split at h
    · split at h
      · exact iht h
      · exact ihe h
    · cases h
  | _ => intro r h; simp [c09DepsRun] at h

/-- every set `deps` returns is duplicate-free under `==` (as a Python set is) -/
theorem deps_distinct (fl : DepFlags) (e : Expr) : ∀ {r : List Expr}, deps fl e = .ok r →
    c09Distinct r := by
  induction e using Expr.induct with
  | h e ih =>
    intro r h
    rw [deps_eq_stepB] at h
    unfold c09DepsStepB at h
    split at h
    · cases h
    · exact c09DepsRun_distinct (fun c hc x hx => ih c hc hx) _ h

end PV
