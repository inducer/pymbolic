import PV.Model.CacheTable
import PV.Proofs.MemoOpt
/-
  Helper lemmas for C05 (T-gen): the readings of the cache-protocol tables
  (lean/PV/Model/CacheTable.lean) are the hand-written model (`callC`, `Key.eq`, `Key.cseEq`,
  `optimize`) for tables of THE shape written down here.  lean/PV/Properties/C05.lean then checks
  (`rfl` / `decide`) that the regenerated tables have that shape.
-/
namespace PV.Memo
open PV

/-! ## the shapes -/

/-- `CachedMapper.__call__` as the model `callC` mirrors it: look-up with a sentinel default BEFORE
any dispatch, hit test by identity with the sentinel, then the method path and the fallback path,
each storing AFTER the handler returned -/
def c05ExpectedCall : C05Method :=
  { cls := "CachedMapper", name := "__call__", sig := ⟨true, true⟩,
    body := [
      .assign "result" (.cacheGet (.selfAttr "_cache") "cache_key" (some (.getKeyCall true true))
        (some "_NOT_IN_CACHE")),
      .ifThen (.isNot "result" (.global "_NOT_IN_CACHE")) [.ret "result"] [],
      .assign "method_name" .mapperMethodName,
      .ifThen (.isNot "method_name" .pyNone) [
        .assign "method" (.selfMethod "method_name"),
        .ifThen (.isNot "method" .pyNone) [
          .assign "result" (.callVar "method" true true),
          .store (.selfAttr "_cache") "cache_key" "result",
          .ret "result"] []] [],
      .assign "result" (.callSelf "rec_fallback" true true),
      .store (.selfAttr "_cache") "cache_key" "result",
      .ret "result"] }

/-- `CSECachingMapperMixin.map_common_subexpression` as `callC (cseMixinSpec …)` mirrors it -/
def c05ExpectedCse : C05Method :=
  { cls := "CSECachingMapperMixin", name := "map_common_subexpression", sig := ⟨true, false⟩,
    body := [
      .lazyDict "ccd" "_cse_cache_dict",
      .assign "key" (.keyTuple [.part .expr, .splatArgs]),
      .tryIndexReturn (.var "ccd") "key" [
        .assign "result" (.callSelf "map_common_subexpression_uncached" true false),
        .store (.var "ccd") "key" "result",
        .ret "result"]] }

variable {K X R : Type}

/-- the context of one `CachedMapper.__call__`: the recursive dispatcher is `callC` itself -/
def c05CallCtx (S : Spec K X R) (n : Nat) (k : K) (hasName hasMethod : Bool)
    (falsy isNone : R → Bool) : C05Ctx K X R :=
  { S := S, recur := callC S n, k := k, hasName := hasName, hasMethod := hasMethod,
    falsy := falsy, isNone := isNone, sig := {}, dictAttr := "_cache",
    entries := ["rec_fallback"] }

/-- the context of one call of the mix-in's `map_common_subexpression` -/
def c05CseCtx (S : Spec K X R) (n : Nat) (k : K) (falsy isNone : R → Bool) : C05Ctx K X R :=
  { S := S, recur := callC S n, k := k, hasName := true, hasMethod := true,
    falsy := falsy, isNone := isNone, sig := {}, dictAttr := "_cse_cache_dict",
    entries := ["map_common_subexpression_uncached"] }

/-! ## a body of that shape is `callC` -/

section
/- the reading of a body, statement by statement; with the outcome of the look-up and of the handler
fixed, `simp` runs a body of known shape to its end -/
attribute [local simp] c05Run C05Stmt.execList C05Stmt.exec C05Rhs.exec C05Test.eval c05DictOk
  c05Fwd c05Probe c05Handler c05Get c05Is C05Out.ofOption

theorem c05Run_expectedCall (S : Spec K X R) (n : Nat) (k : K) (s : St K R)
    (hasName hasMethod : Bool) (falsy isNone : R → Bool) (hc : S.cacheable k = true) :
    c05Run c05ExpectedCall (c05CallCtx S n k hasName hasMethod falsy isNone) s
      = .ofOption (callC S (n+1) k s) := by
  simp only [callC, hc, if_true]
  cases hu : S.unhashable k with
  | some x => simp [c05ExpectedCall, c05CallCtx, hu]
  | none =>
    cases hl : lookup S.keq k s.cache with
    | some r => simp [c05ExpectedCall, c05CallCtx, hu, hl]
    | none =>
      cases hasName <;> cases hasMethod <;>
        rcases hi : interpC (callC S n) (S.h k) { s with trace := (false, k) :: s.trace }
          with _ | ⟨_ | _, _⟩ <;>
        simp [c05ExpectedCall, c05CallCtx, hu, hl, hi]

theorem c05Run_expectedCse (S : Spec K X R) (n : Nat) (k : K) (s : St K R)
    (falsy isNone : R → Bool) (hc : S.cacheable k = true) :
    c05Run c05ExpectedCse (c05CseCtx S n k falsy isNone) s = .ofOption (callC S (n+1) k s) := by
  simp only [callC, hc, if_true]
  cases hu : S.unhashable k with
  | some x => simp [c05ExpectedCse, c05CseCtx, hu]
  | none =>
    cases hl : lookup S.keq k s.cache with
    | some r => simp [c05ExpectedCse, c05CseCtx, hu, hl]
    | none =>
      rcases hi : interpC (callC S n) (S.h k) { s with trace := (false, k) :: s.trace }
        with _ | ⟨_ | _, _⟩ <;>
      simp [c05ExpectedCse, c05CseCtx, hu, hl, hi]

end

/-! ## key tuples of that shape compare like the model's keys -/

theorem c05TupleEq_stock (a b : Key) :
    c05TupleEq [.part .ty, .part .expr, .part .args, .part .kwargs] a b = Key.eq a b := by
  simp [c05TupleEq, c05KeyVals, tupleEq, KVal.eq, Key.eq, Expr.keyEq, ArgKey.pyEq, Bool.and_assoc]

theorem tupleEq_consts : ∀ (as bs : List Const),
    tupleEq (as.map fun c => KVal.expr (.const c)) (bs.map fun c => KVal.expr (.const c))
      = constsEq as bs
  | [], [] | [], _ :: _ | _ :: _, [] => by simp [tupleEq, constsEq]
  | a :: as, b :: bs => by simp [tupleEq, constsEq, KVal.eq, Expr.pyEq, tupleEq_consts as bs]

theorem c05TupleEq_cse (a b : Key) :
    c05TupleEq [.part .expr, .splatArgs] a b = Key.cseEq a b := by
  simp [c05TupleEq, c05KeyVals, tupleEq, KVal.eq, Key.cseEq, tupleEq_consts]

/-- a key method of the stock shape is the model's `get_cache_key` -/
def c05ExpectedGetKey : C05KeyMethod :=
  ⟨"CachedMapper", "get_cache_key", Code.stock.getKeySig, Code.stock.getKeyBody.map .part⟩

/-! ## the optimizer's rewriting loop, table-driven -/

/-- one step of the loop on the model's `Code`; the association of a transformer class with a
function of the model is checked behaviourally (the `c05…Rows` tables), the ORDER and the
conditions come from the table -/
def c05ApplyPass (o : Opts) (c : Code) (p : C05Pass) : Option Code :=
  if p.name = "signature" ∧ p.options = ["vararg:drop_args", "kwarg:drop_kwargs"] ∧ p.guard = "" then
    some { c with getKeySig := c.getKeySig.drop o.dropArgs o.dropKwargs,
                  callSig := c.callSig.drop o.dropArgs o.dropKwargs,
                  handlerSig := c.handlerSig.drop o.dropArgs o.dropKwargs }
  else if p.name = "_VarArgsRemover" ∧ p.options = ["drop_args=drop_args", "drop_kwargs=drop_kwargs"]
      ∧ p.guard = "" then
    some { c with callBody := c.callBody.dropStar o.dropArgs o.dropKwargs,
                  recSite := c.recSite.dropStar o.dropArgs o.dropKwargs }
  else if p.name = "_CacheKeyInliner" ∧ p.options = ["cache_key_expr=cache_key_expr"]
      ∧ p.guard = "cache_key_expr is not None" then
    some (if o.inlineGetCacheKey then c.inlineGetCacheKey else c)
  else if p.name = "_RecInliner" ∧ p.options = ["inline_rec=inline_rec", "inline_cache=inline_cache"]
      ∧ p.guard = "" then
    some { c with callBody := c.callBody.inlineRecCache o.inlineRec o.inlineCache,
                  recSite := c.recSite.inlineRecCache o.inlineRec o.inlineCache }
  else none

def c05RunPasses (o : Opts) : List C05Pass → Code → Option Code
  | [], c => some c
  | p :: ps, c => match c05ApplyPass o c p with
    | some c' => c05RunPasses o ps c'
    | none => none

def c05ExpectedPasses : List C05Pass := [
  ⟨"signature", ["vararg:drop_args", "kwarg:drop_kwargs"], ""⟩,
  ⟨"_VarArgsRemover", ["drop_args=drop_args", "drop_kwargs=drop_kwargs"], ""⟩,
  ⟨"_CacheKeyInliner", ["cache_key_expr=cache_key_expr"], "cache_key_expr is not None"⟩,
  ⟨"_RecInliner", ["inline_rec=inline_rec", "inline_cache=inline_cache"], ""⟩]

theorem c05RunPasses_expected (o : Opts) (c : Code) :
    c05RunPasses o c05ExpectedPasses c = some (optimize o c) := by
  obtain ⟨da, dk, ir, ic, ig⟩ := o
  cases ig <;>
    simp [c05RunPasses, c05ExpectedPasses, c05ApplyPass, optimize, Code.dropVarArgs,
      Code.inlineGetCacheKey]

end PV.Memo
