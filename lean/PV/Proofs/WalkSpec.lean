import PV.Model.Traverse
import PV.Proofs.Subterm
import PV.Proofs.ExprSize
/-
  C04 — an independent specification of the `WalkMapper` event trace (`walkSpec`: generic pre/post
  order over `walkChildren`) and its link to the coded traversal `walk`.
-/
namespace PV

/-! ### the specification -/

/-- node classes whose `WalkMapper` handler has no children to descend into -/
def Expr.isLeafNode : Expr → Bool
  | .const _ | .var _ | .wildcard | .dotWild _ | .starWild _ | .funcSym | .nan => true
  | _ => false

/-- the Python object `None` (the table side has the same test as `Expr.c04IsNone`; they are
identified by `Expr.c04IsNone_eq` in Proofs/WalkTable.lean) -/
def Expr.isNoneConst : Expr → Bool
  | .const .none => true
  | _ => false

/-- a string or `None` constant: not an expression, not a number — `map_foreign` rejects it -/
def Expr.isRejectedConst : Expr → Bool
  | .const (.str _) | .const .none => true
  | _ => false

def BinOp.isShift : BinOp → Bool
  | .lshift | .rshift => true
  | _ => false

/-- The children a `WalkMapper` descends into, in the order it does: the expression-valued
dataclass fields in field order, except that a shift visits the shift count before the shiftee and
a slice skips its `None` parts. -/
def walkChildren : Expr → List Expr
  | .bin o a b => if o.isShift then [b, a] else [a, b]
  | .slice cs => cs.filter (fun c => !c.isNoneConst)
  | e => e.children

theorem mem_children_of_mem_walkChildren {c e : Expr} (h : c ∈ walkChildren e) :
    c ∈ e.children := by
  unfold walkChildren at h
  split at h
  · split at h <;> simp_all [Expr.children, or_comm]
  · exact (List.mem_filter.1 h).1
  · exact h

theorem walkChildren_nil_of_leaf {e : Expr} (h : e.isLeafNode = true) : walkChildren e = [] := by
  unfold Expr.isLeafNode at h
  split at h <;> first | rfl | cases h

theorem walkChildren_size_lt {c e : Expr} (h : c ∈ walkChildren e) : c.size < e.size :=
  Expr.size_lt_of_mem_children (mem_children_of_mem_walkChildren h)

/-- **Specification of the walk trace.**  `visit` of the node; then — unless `visit` returned
`False` (the node's kind is in `skip`; leaf handlers have nothing to skip) — the traces of all
children, each once, in traversal order; then `post_visit` of the node.  Every event carries
`args`. -/
def walkSpec (skip : List String) (args : Bool) (e : Expr) : List Event :=
  if e.isLeafNode then [⟨false, e, args⟩, ⟨true, e, args⟩]
  else if skip.contains e.kind then [⟨false, e, args⟩]
  else ⟨false, e, args⟩ ::
    ((walkChildren e).attach.flatMap (fun ⟨c, _⟩ => walkSpec skip args c) ++ [⟨true, e, args⟩])
termination_by e.size
decreasing_by exact walkChildren_size_lt ‹_›

theorem walkSpec_leaf (skip : List String) (args : Bool) {e : Expr} (h : e.isLeafNode = true) :
    walkSpec skip args e = [⟨false, e, args⟩, ⟨true, e, args⟩] := by
  rw [walkSpec, if_pos h]

theorem walkSpec_node (skip : List String) (args : Bool) {e : Expr} (h : e.isLeafNode = false) :
    walkSpec skip args e =
      if skip.contains e.kind then [⟨false, e, args⟩]
      else ⟨false, e, args⟩ ::
        ((walkChildren e).flatMap (walkSpec skip args) ++ [⟨true, e, args⟩]) := by
  rw [walkSpec, if_neg (by simp [h])]
  simp [List.flatMap_subtype, List.unattach_attach]

/-! ### the side condition -/

mutual
/-- decidable side condition: the walk reaches no string / `None` constant (other than the `None`
parts of a slice); children of a node whose `visit` returns `False` are not reached -/
def walkOK (skip : List String) : Expr → Bool
  | .const (.str _) => false
  | .const .none => false
  | .const _ => true
  | .var _ => true
  | .wildcard => true
  | .dotWild _ => true
  | .starWild _ => true
  | .funcSym => true
  | .nan => true
  | .nary o cs => skip.contains (Expr.kind (.nary o cs)) || walkOKL skip cs
  | .bin o a b => skip.contains (Expr.kind (.bin o a b)) || (walkOK skip a && walkOK skip b)
  | .un o a => skip.contains (Expr.kind (.un o a)) || walkOK skip a
  | .cmp o a b => skip.contains (Expr.kind (.cmp o a b)) || (walkOK skip a && walkOK skip b)
  | .ite c t e => skip.contains (Expr.kind (.ite c t e)) ||
      (walkOK skip c && walkOK skip t && walkOK skip e)
  | .call f as => skip.contains (Expr.kind (.call f as)) || (walkOK skip f && walkOKL skip as)
  | .callKw f as ns vs => skip.contains (Expr.kind (.callKw f as ns vs)) ||
      (walkOK skip f && walkOKL skip as && walkOKL skip vs)
  | .subscript a i => skip.contains (Expr.kind (.subscript a i)) || (walkOK skip a && walkOK skip i)
  | .lookup a n => skip.contains (Expr.kind (.lookup a n)) || walkOK skip a
  | .cse c p s => skip.contains (Expr.kind (.cse c p s)) || walkOK skip c
  | .subst c vs xs => skip.contains (Expr.kind (.subst c vs xs)) || (walkOK skip c && walkOKL skip xs)
  | .deriv c vs => skip.contains (Expr.kind (.deriv c vs)) || walkOK skip c
  | .slice cs => skip.contains (Expr.kind (.slice cs)) || walkOKS skip cs
  | .tuple cs => skip.contains (Expr.kind (.tuple cs)) || walkOKL skip cs
  | .list cs => skip.contains (Expr.kind (.list cs)) || walkOKL skip cs
def walkOKL (skip : List String) : List Expr → Bool
  | [] => true
  | c :: cs => walkOK skip c && walkOKL skip cs
/-- the parts of a slice: `None` parts are allowed -/
def walkOKS (skip : List String) : List Expr → Bool
  | [] => true
  | c :: cs => (c.isNoneConst || walkOK skip c) && walkOKS skip cs
end

/-- result of a traversal that can only fail on a foreign object -/
def okIf {α : Type} (b : Bool) (x : α) : Except DepErr α := if b then .ok x else .error .foreign

theorem walkOpt_eq (skip : List String) (args : Bool) (c : Expr) :
    walkOpt skip args c = if c.isNoneConst then pure [] else walk skip args c := by
  unfold walkOpt
  split <;> simp_all [Expr.isNoneConst]

theorem walkL_append (skip : List String) (args : Bool) : ∀ as bs : List Expr,
    walkL skip args (as ++ bs) = do
      let x ← walkL skip args as
      let y ← walkL skip args bs
      pure (x ++ y)
  | [], bs => by
    cases h : walkL skip args bs <;> simp [walkL, h, bind, Except.bind, pure, Except.pure]
  | a :: as, bs => by
    simp only [List.cons_append, walkL, walkL_append skip args as bs]
    cases walk skip args a <;> cases walkL skip args as <;> cases walkL skip args bs <;>
      simp [bind, Except.bind, pure, Except.pure]

theorem walkSlice_eq_walkL (skip : List String) (args : Bool) : ∀ cs : List Expr,
    walkSlice skip args cs = walkL skip args (cs.filter (fun c => !c.isNoneConst))
  | [] => by simp [walkSlice, walkL]
  | c :: cs => by
    rw [walkSlice, walkSlice_eq_walkL skip args cs, walkOpt_eq, List.filter_cons]
    cases c.isNoneConst <;> cases h : walkL skip args (cs.filter fun c => !c.isNoneConst) <;>
      simp [walkL, h, bind, Except.bind, pure, Except.pure]

/-- **One handler call of `walk`, for every node class at once**: a string / `None` is rejected, a
leaf is visited and post-visited, any other node brackets the walks of `walkChildren`. -/
theorem walk_eq_children (skip : List String) (args : Bool) (e : Expr) :
    walk skip args e =
      if e.isRejectedConst then throw .foreign
      else if e.isLeafNode then leafWalk args e
      else wrapWalk skip args e (walkL skip args (walkChildren e)) := by
  cases e with
  | const k => cases k <;> simp [walk, Expr.isRejectedConst, Expr.isLeafNode]
  | var | wildcard | dotWild | starWild | funcSym | nan =>
    simp [walk, Expr.isRejectedConst, Expr.isLeafNode]
  | nary | tuple | list | call | subst =>
    simp [walk, Expr.isRejectedConst, Expr.isLeafNode, walkChildren, Expr.children, walkL]
  | slice cs =>
    simp [walk, walkSlice_eq_walkL, Expr.isRejectedConst, Expr.isLeafNode, walkChildren]
  | un o a | lookup a | cse a | deriv a =>
    simp only [walk, Expr.isRejectedConst, Expr.isLeafNode, walkChildren, Expr.children, walkL]
    cases walk skip args a <;> simp [bind, Except.bind, pure, Except.pure]
  | bin o a b =>
    cases o <;>
      simp only [walk, Expr.isRejectedConst, Expr.isLeafNode, walkChildren, BinOp.isShift,
        Bool.false_eq_true, reduceIte, walkL] <;>
      cases walk skip args a <;> cases walk skip args b <;>
      simp [bind, Except.bind, pure, Except.pure]
  | cmp o a b | subscript a b =>
    simp only [walk, Expr.isRejectedConst, Expr.isLeafNode, walkChildren, Expr.children, walkL]
    cases walk skip args a <;> cases walk skip args b <;>
      simp [bind, Except.bind, pure, Except.pure]
  | ite a b c =>
    simp only [walk, Expr.isRejectedConst, Expr.isLeafNode, walkChildren, Expr.children, walkL]
    cases walk skip args a <;> cases walk skip args b <;> cases walk skip args c <;>
      simp [bind, Except.bind, pure, Except.pure]
  | callKw f as ns vs =>
    simp only [walk, Expr.isRejectedConst, Expr.isLeafNode, walkChildren, Expr.children, walkL,
      walkL_append]
    cases walk skip args f <;> cases walkL skip args as <;> cases walkL skip args vs <;>
      simp [bind, Except.bind, pure, Except.pure]

/-! ### the side condition, generically -/

theorem walkOKL_eq (skip : List String) : ∀ cs : List Expr, walkOKL skip cs = cs.all (walkOK skip)
  | [] => by simp [walkOKL]
  | c :: cs => by simp [walkOKL, walkOKL_eq skip cs]

theorem walkOKS_eq (skip : List String) : ∀ cs : List Expr,
    walkOKS skip cs = (cs.filter (fun c => !c.isNoneConst)).all (walkOK skip)
  | [] => by simp [walkOKS]
  | c :: cs => by
      simp only [walkOKS, walkOKS_eq skip cs, List.filter_cons]
      cases c.isNoneConst <;> simp

/-- `walkOK` says: the node itself is not a string / `None`, and unless its children are skipped
every child the walk descends into is fine. -/
theorem walkOK_eq (skip : List String) (e : Expr) :
    walkOK skip e = (!e.isRejectedConst &&
      ((!e.isLeafNode && skip.contains e.kind) || (walkChildren e).all (walkOK skip))) := by
  cases e with
  | const c => cases c <;> simp [walkOK, Expr.isRejectedConst, Expr.isLeafNode, walkChildren, Expr.children]
  | bin o a b =>
    cases o <;> simp [walkOK, Expr.isRejectedConst, Expr.isLeafNode, walkChildren, BinOp.isShift,
      Bool.and_comm]
  | _ => simp [walkOK, Expr.isRejectedConst, Expr.isLeafNode, walkChildren, Expr.children,
      walkOKL_eq, walkOKS_eq, Bool.and_assoc]

/-- induction over the walk's child relation -/
theorem walkChildren_induct {P : Expr → Prop}
    (step : ∀ e, (∀ c ∈ walkChildren e, P c) → P e) (e : Expr) : P e := by
  have : ∀ n (e : Expr), e.size = n → P e := by
    intro n
    induction n using Nat.strongRecOn with
    | _ n ih =>
      intro e he
      exact step e (fun c hc => ih c.size (he ▸ walkChildren_size_lt hc) c rfl)
  exact this _ e rfl

/-! ### the coded walk equals the specification -/

theorem walkL_okIf {skip : List String} {args : Bool} : ∀ {cs : List Expr},
    (∀ c ∈ cs, walk skip args c = okIf (walkOK skip c) (walkSpec skip args c)) →
    walkL skip args cs = okIf (cs.all (walkOK skip)) (cs.flatMap (walkSpec skip args))
  | [], _ => by rw [walkL]; rfl
  | c :: cs, h => by
    rw [walkL, h c (by simp), walkL_okIf (fun d hd => h d (List.mem_cons_of_mem _ hd)),
      List.all_cons, List.flatMap_cons]
    cases walkOK skip c <;> cases cs.all (walkOK skip) <;> rfl

theorem walk_total (skip : List String) (args : Bool) : ∀ e : Expr,
    walk skip args e = okIf (walkOK skip e) (walkSpec skip args e) := by
  intro e
  induction e using walkChildren_induct with
  | step e ih =>
    rw [walk_eq_children, walkOK_eq, walkL_okIf ih]
    cases hr : e.isRejectedConst
    · cases hl : e.isLeafNode
      · rw [walkSpec_node _ _ hl, wrapWalk]
        cases skip.contains e.kind <;> cases (walkChildren e).all (walkOK skip) <;> rfl
      · rw [walkSpec_leaf _ _ hl, walkChildren_nil_of_leaf hl]; rfl
    · rfl

theorem walkL_total (skip : List String) (args : Bool) : ∀ cs : List Expr,
    walkL skip args cs = okIf (walkOKL skip cs) (cs.flatMap (walkSpec skip args)) := by
  intro cs
  rw [walkOKL_eq]; exact walkL_okIf (fun c _ => walk_total skip args c)

theorem walkSlice_total (skip : List String) (args : Bool) : ∀ cs : List Expr,
    walkSlice skip args cs = okIf (walkOKS skip cs)
      ((cs.filter (fun c => !c.isNoneConst)).flatMap (walkSpec skip args)) := by
  intro cs
  rw [walkSlice_eq_walkL, walkOKS_eq]; exact walkL_okIf (fun c _ => walk_total skip args c)
end PV
