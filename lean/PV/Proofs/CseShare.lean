import PV.Proofs.CseValue
/-
  C12 helper: on the fragment named by the property (variables, integer constants, sums,
  products, divisions, powers, calls) the stateful mapper `cseMap` computes the same trees as the
  STATELESS function `applyTbl` that reads the final canonical table: every occurrence of an
  operation to be eliminated is replaced by the one wrapper stored under its key (`applyTbl` also
  has an answer where the key is missing from the table; `cseMap_frag` shows that the final table
  of a run never leaves a key missing).
-/
namespace PV

def BinOp.isDivPow : BinOp → Bool
  | .quot | .floordiv | .rem | .pow => true
  | _ => false

/-- `wrap_in_cse` wraps an operation node -/
theorem wrapInCse_op {r : Expr} (hr : r.isCseOp = true) (p : Option String) :
    wrapInCse r p = .cse r p evalScope := by
  cases r with
  | var _ | subscript _ _ | cse _ _ _ => cases hr
  | _ => rfl

theorem isCseOp_nary {o : NaryOp} (h : o.isComm = true) (cs : List Expr) :
    (Expr.nary o cs).isCseOp = true := by
  cases o <;> first | rfl | cases h

theorem isCseOp_bin {o : BinOp} (h : o.isDivPow = true) (a b : Expr) :
    (Expr.bin o a b).isCseOp = true := by
  cases o <;> first | rfl | cases h

mutual
/-- inputs built from variables, integer constants, sums, products, divisions, powers, calls -/
def Expr.frag : Expr → Bool
  | .const (.int _) => true
  | .var _ => true
  | .nary o cs => o.isComm && Expr.fragL cs
  | .bin o a b => o.isDivPow && a.frag && b.frag
  | .call f as => f.frag && Expr.fragL as
  | _ => false
def Expr.fragL : List Expr → Bool
  | [] => true
  | c :: cs => c.frag && Expr.fragL cs
end

mutual
theorem frag_simple : ∀ (e : Expr), e.frag = true → e.simple = true
  | .const c, h => by cases c <;> simp_all [Expr.frag, Expr.simple, Const.simple]
  | .var _, _ => by simp [Expr.simple]
  | .nary o cs, h => by
      simp only [Expr.frag, Bool.and_eq_true] at h
      simp only [Expr.simple]; exact fragL_simple cs h.2
  | .bin o a b, h => by
      simp only [Expr.frag, Bool.and_eq_true] at h
      simp [Expr.simple, frag_simple a h.1.2, frag_simple b h.2]
  | .call f as, h => by
      simp only [Expr.frag, Bool.and_eq_true] at h
      simp [Expr.simple, frag_simple f h.1, fragL_simple as h.2]
  | .un .., h | .cmp .., h | .ite .., h | .callKw .., h | .subscript .., h | .lookup .., h
  | .cse .., h | .subst .., h | .deriv .., h | .slice _, h | .nan, h | .wildcard, h
  | .dotWild _, h | .starWild _, h | .funcSym, h | .tuple _, h | .list _, h => by
      simp [Expr.frag] at h
theorem fragL_simple : ∀ (cs : List Expr), Expr.fragL cs = true → Expr.simpleL cs = true
  | [], _ => rfl
  | c :: cs, h => by
      simp only [Expr.fragL, Bool.and_eq_true] at h
      simp [Expr.simpleL, frag_simple c h.1, fragL_simple cs h.2]
end

/-- the decision of `CSEMapper.map_sum`, as a pure function of the table: the model's `opMode`
without the `TypeError` of unhashable nodes (`opMode_eq`) -/
def modeOf (elim : List CKey) (T : Tbl) (e : Expr) : OpMode :=
  if e.isCseOp && inElim elim (normalizedKey e) then
    match T.find (normalizedKey e) with
    | some w => .hit w
    | none => .miss (normalizedKey e)
  else .plain

/-- what `map_sum` returns for `e`, given `e` rebuilt from its mapped operands: the stored wrapper,
a fresh wrapper, or the rebuilt node -/
def choose (elim : List CKey) (T : Tbl) (e rebuilt : Expr) : Expr :=
  match modeOf elim T e with
  | .hit w => w
  | .miss _ => wrapInCse rebuilt none
  | .plain => rebuilt

mutual
/-- the tagged tree read off a FIXED table: no state -/
def applyTbl (elim : List CKey) (T : Tbl) : Expr → Expr
  | .nary o cs => choose elim T (.nary o cs) (.nary o (applyTblL elim T cs))
  | .bin o a b => choose elim T (.bin o a b) (.bin o (applyTbl elim T a) (applyTbl elim T b))
  | .call f as => choose elim T (.call f as) (.call (applyTbl elim T f) (applyTblL elim T as))
  | e => e
def applyTblL (elim : List CKey) (T : Tbl) : List Expr → List Expr
  | [] => []
  | c :: cs => applyTbl elim T c :: applyTblL elim T cs
end

theorem opMode_eq (elim : List CKey) (T : Tbl) (e : Expr) (h : e.hasList = false) :
    opMode elim T e = .ok (modeOf elim T e) := by
  unfold opMode modeOf
  by_cases h1 : e.isCseOp = true
  · simp only [h1, if_true, h, Bool.false_eq_true, if_false, Bool.true_and]
    by_cases h2 : inElim elim (normalizedKey e) = true
    · simp only [h2, if_true]
      cases T.find (normalizedKey e) <;> rfl
    · simp only [h2, Bool.false_eq_true, if_false]; rfl
  · simp only [h1, Bool.false_eq_true, if_false, Bool.false_and]; rfl

/-! ### tables -/

/-- every entry of `T` is still found, unchanged, in `T'` -/
def Tbl.le (T T' : Tbl) : Prop := ∀ k w, T.find k = some w → T'.find k = some w

theorem Tbl.le_refl (T : Tbl) : T.le T := fun _ _ h => h
theorem Tbl.le_trans {A B C : Tbl} (h1 : A.le B) (h2 : B.le C) : A.le C :=
  fun k w h => h2 k w (h1 k w h)

theorem Tbl.find_none_mem {k : CKey} : ∀ {T : Tbl}, T.find k = none → ∀ p ∈ T, p.1.eq k = false
  | [], _, p, hp => by simp at hp
  | (k0, w0) :: rest, h, p, hp => by
    simp only [Tbl.find] at h
    by_cases hk : k0.eq k = true
    · simp [hk] at h
    · simp only [hk, Bool.false_eq_true, if_false] at h
      simp only [List.mem_cons] at hp
      rcases hp with rfl | hp
      · simpa using hk
      · exact Tbl.find_none_mem h p hp

theorem Tbl.set_of_find_none {k : CKey} {w : Expr} : ∀ {T : Tbl}, T.find k = none →
    Tbl.set k w T = T ++ [(k, w)]
  | [], _ => rfl
  | (k0, w0) :: rest, h => by
    simp only [Tbl.find] at h
    by_cases hk : k0.eq k = true
    · simp [hk] at h
    · simp only [hk, Bool.false_eq_true, if_false] at h
      simp only [Tbl.set, hk, Bool.false_eq_true, if_false, List.cons_append,
        Tbl.set_of_find_none h]

theorem Tbl.find_append_some {k : CKey} {w : Expr} : ∀ {T : Tbl} (X : Tbl), T.find k = some w →
    Tbl.find k (T ++ X) = some w
  | [], _, h => by simp [Tbl.find] at h
  | (k0, w0) :: rest, X, h => by
    simp only [Tbl.find, List.cons_append] at h ⊢
    by_cases hk : k0.eq k = true
    · simpa [hk] using h
    · simp only [hk, Bool.false_eq_true, if_false] at h ⊢
      exact Tbl.find_append_some X h

theorem Tbl.find_append_none {k : CKey} : ∀ {T : Tbl} (X : Tbl), T.find k = none →
    Tbl.find k (T ++ X) = Tbl.find k X
  | [], _, _ => rfl
  | (k0, w0) :: rest, X, h => by
    simp only [Tbl.find, List.cons_append] at h ⊢
    by_cases hk : k0.eq k = true
    · simp [hk] at h
    · simp only [hk, Bool.false_eq_true, if_false] at h ⊢
      exact Tbl.find_append_none X h

/-! ### key equality on simple expressions -/

theorem keyEq_refl_simple {e : Expr} (h : e.simple = true) :
    (normalizedKey e).eq (normalizedKey e) = true := by
  rcases normalizedKey_cases e with ⟨o, cs, _, rfl, k⟩ | k <;> rw [k]
  · simp only [Expr.simple] at h
    exact keyEq_of_perm_aux h (List.Perm.refl _) o
  · simp only [CKey.eq]; exact pyEq_self_simple e h

theorem keyEq_size {a b : Expr} (ha : a.simple = true) (hb : b.simple = true)
    (h : (normalizedKey a).eq (normalizedKey b) = true) : a.size = b.size := by
  rcases keyEq_simple ha hb h with rfl | ⟨o, cs, cs', _, rfl, rfl, hp⟩
  · rfl
  · simp only [Expr.size, sizeL_perm hp]

theorem keyEq_symm_simple {a b : Expr} (ha : a.simple = true) (hb : b.simple = true)
    (h : (normalizedKey a).eq (normalizedKey b) = true) :
    (normalizedKey b).eq (normalizedKey a) = true := by
  rcases normalizedKey_cases a with ⟨o, cs, ho, rfl, ka⟩ | ka <;>
    rcases normalizedKey_cases b with ⟨o', cs', ho', rfl, kb⟩ | kb <;> rw [ka, kb] at h ⊢
  · simp only [Expr.simple] at ha hb
    obtain ⟨h1, h2⟩ := kidPerm_of_keyEq ha hb h
    subst h1
    exact keyEq_of_perm_aux hb h2.symm o
  · simp [CKey.eq] at h
  · simp [CKey.eq] at h
  · simp only [CKey.eq] at h ⊢
    have := pyEq_eq_of_simple a b ha hb h
    subst this; exact h

theorem keyEq_trans_simple {a b c : Expr} (ha : a.simple = true) (hb : b.simple = true)
    (hc : c.simple = true) (h1 : (normalizedKey a).eq (normalizedKey b) = true)
    (h2 : (normalizedKey b).eq (normalizedKey c) = true) :
    (normalizedKey a).eq (normalizedKey c) = true := by
  rcases normalizedKey_cases a with ⟨o, cs, ho, rfl, ka⟩ | ka <;>
    rcases normalizedKey_cases b with ⟨o', cs', ho', rfl, kb⟩ | kb <;>
    rcases normalizedKey_cases c with ⟨o'', cs'', ho'', rfl, kc⟩ | kc <;>
    rw [ka, kb] at h1 <;> rw [kb, kc] at h2 <;> rw [ka, kc]
  · simp only [Expr.simple] at ha hb hc
    obtain ⟨e1, p1⟩ := kidPerm_of_keyEq ha hb h1
    obtain ⟨e2, p2⟩ := kidPerm_of_keyEq hb hc h2
    subst e1; subst e2
    exact keyEq_of_perm_aux ha (p1.trans p2) o
  all_goals first
    | (simp [CKey.eq] at h1; done)
    | (simp [CKey.eq] at h2; done)
    | (simp only [CKey.eq] at h1 h2 ⊢
       have e1 := pyEq_eq_of_simple _ _ ha hb h1
       subst e1; exact h2)

/-! ### the main induction on the fragment -/

/-- entries of `T'` that are not in `T` have the key of a simple expression of size ≤ `B` and
hold a prefix-less evaluation-scope wrapper directly around an operation node.  The bound is what
keeps the key of a node out of what its operands add: simple expressions with Python-equal keys
have the same size (`keyEq_size`), and the operands are smaller than the node (`Added.find_none`). -/
def Added (T T' : Tbl) (B : Nat) : Prop :=
  ∀ p ∈ T', p ∈ T ∨ ((∃ e0, e0.simple = true ∧ p.1 = normalizedKey e0 ∧ e0.size ≤ B) ∧
    ∃ r, p.2 = .cse r none evalScope ∧ r.isCseOp = true)

theorem Added.refl (T : Tbl) (B : Nat) : Added T T B := fun _ hp => Or.inl hp

theorem Added.trans {A B C : Tbl} {n m k : Nat} (h1 : Added A B n) (h2 : Added B C m)
    (hn : n ≤ k) (hm : m ≤ k) : Added A C k := by
  intro p hp
  rcases h2 p hp with h | ⟨⟨e0, a, b, c⟩, hw⟩
  · rcases h1 p h with h | ⟨⟨e0, a, b, c⟩, hw⟩
    · exact Or.inl h
    · exact Or.inr ⟨⟨e0, a, b, Nat.le_trans c hn⟩, hw⟩
  · exact Or.inr ⟨⟨e0, a, b, Nat.le_trans c hm⟩, hw⟩

/-- **Nothing below a node has the node's key**: what is added under a bound smaller than the size
of `e` does not hold the key of `e`, because simple expressions with Python-equal keys have the
same size. -/
theorem Added.find_none {T T2 : Tbl} {B : Nat} {e : Expr} (hadd : Added T T2 B)
    (hs : e.simple = true) (hB : B < e.size) (hf : T.find (normalizedKey e) = none) :
    T2.find (normalizedKey e) = none := by
  cases hf2 : T2.find (normalizedKey e) with
  | none => rfl
  | some w2 =>
    exfalso
    obtain ⟨k', hmem, hk⟩ := Tbl.find_some hf2
    rcases hadd (k', w2) hmem with hold | ⟨⟨e0, hs0, hk0, hsz⟩, _⟩
    · have := Tbl.find_none_mem hf (k', w2) hold
      simp only at this; rw [hk] at this; cases this
    · simp only at hk0; subst hk0
      have := keyEq_size hs0 hs hk
      omega

/-- What the three operation cases share once the operands have been mapped (`T2`: the table
after them, `r`: the node rebuilt from them): after `get_cse`'s bookkeeping the table has only
grown, what was added is bounded by the size of `e`, and every later table `T''` still extends
`T2` and makes the stateless `choose` return what the mapper returned. -/
theorem finish_frag (elim : List CKey) {T T2 : Tbl} {e r : Expr} {B : Nat}
    (hs : e.simple = true) (hr : r.isCseOp = true) (hle : T.le T2) (hadd : Added T T2 B)
    (hB : B < e.size) (hm : ∀ w, modeOf elim T e ≠ .hit w) :
    T.le (finishOp (modeOf elim T e) r T2).2 ∧ Added T (finishOp (modeOf elim T e) r T2).2 e.size ∧
    (∀ T'', (finishOp (modeOf elim T e) r T2).2.le T'' →
      T2.le T'' ∧ choose elim T'' e r = (finishOp (modeOf elim T e) r T2).1) := by
  unfold modeOf at hm ⊢
  by_cases h1 : (e.isCseOp && inElim elim (normalizedKey e)) = true
  · simp only [h1, if_true] at hm ⊢
    cases hf : T.find (normalizedKey e) with
    | some w => simp only [hf] at hm; exact absurd rfl (hm w)
    | none =>
      simp only [finishOp]
      have hf2 := hadd.find_none hs hB hf
      rw [Tbl.set_of_find_none hf2]
      refine ⟨?_, ?_, ?_⟩
      · intro k w hk
        exact Tbl.find_append_some _ (hle k w hk)
      · intro p hp
        rcases List.mem_append.mp hp with hp | hp
        · rcases hadd p hp with h | ⟨⟨e0, a, b, c⟩, hw⟩
          · exact Or.inl h
          · exact Or.inr ⟨⟨e0, a, b, by omega⟩, hw⟩
        · simp only [List.mem_singleton] at hp
          subst hp
          exact Or.inr ⟨⟨e, hs, rfl, Nat.le_refl _⟩, r, wrapInCse_op hr none, hr⟩
      · intro T'' hle''
        refine ⟨fun k w hk => hle'' k w (Tbl.find_append_some _ hk), ?_⟩
        have : T''.find (normalizedKey e) = some (wrapInCse r none) := by
          apply hle''
          rw [Tbl.find_append_none _ hf2]
          simp [Tbl.find, keyEq_refl_simple hs]
        simp only [choose, modeOf, h1, if_true, this]
  · simp only [h1, Bool.false_eq_true, if_false, finishOp]
    refine ⟨hle, ?_, ?_⟩
    · intro p hp
      rcases hadd p hp with h | ⟨⟨e0, a, b, c⟩, hw⟩
      · exact Or.inl h
      · exact Or.inr ⟨⟨e0, a, b, by omega⟩, hw⟩
    · intro T'' hle''
      exact ⟨hle'', by simp only [choose, modeOf, h1, Bool.false_eq_true, if_false]⟩

theorem hit_frag (elim : List CKey) {T : Tbl} {e w r : Expr} (hm : modeOf elim T e = .hit w) :
    ∀ T'', T.le T'' → choose elim T'' e r = w := by
  intro T'' hle
  unfold modeOf at hm
  by_cases h1 : (e.isCseOp && inElim elim (normalizedKey e)) = true
  · simp only [h1, if_true] at hm
    cases hf : T.find (normalizedKey e) with
    | none => simp [hf] at hm
    | some w' =>
      simp only [hf] at hm
      injection hm with hm; subst hm
      simp only [choose, modeOf, h1, if_true, hle _ _ hf]
  · simp [h1] at hm

mutual
theorem cseMap_frag (elim : List CKey) : ∀ (e : Expr) (T : Tbl), e.frag = true →
    ∃ e' T', cseMap elim e T = .ok (e', T') ∧ T.le T' ∧ Added T T' e.size ∧
      ∀ T'', T'.le T'' → applyTbl elim T'' e = e'
  | .const (.int n), T, _ =>
      ⟨_, T, rfl, Tbl.le_refl T, Added.refl T _, fun _ _ => rfl⟩
  | .var x, T, _ => ⟨_, T, rfl, Tbl.le_refl T, Added.refl T _, fun _ _ => rfl⟩
  | .nary o cs, T, h => by
      have hs := frag_simple _ h
      have hl := simple_nolist _ hs
      simp only [Expr.frag, Bool.and_eq_true] at h
      have hop := isCseOp_nary h.1
      obtain ⟨cs', T1, h1, le1, ad1, ap1⟩ := cseMapL_frag elim cs T h.2
      simp only [cseMap, opMode_eq elim T _ hl]
      cases hm : modeOf elim T (.nary o cs) with
      | hit w =>
        exact ⟨w, T, rfl, Tbl.le_refl T, Added.refl T _, fun T'' hle => by
          simp only [applyTbl]; exact hit_frag elim hm T'' hle⟩
      | _ =>
        have hnh : ∀ w, modeOf elim T (.nary o cs) ≠ .hit w := by rw [hm]; intro w hw; cases hw
        obtain ⟨f1, f2, f3⟩ := finish_frag elim (r := .nary o cs') hs (hop cs') le1 ad1
          (by simp only [Expr.size]; omega) hnh
        rw [hm] at f1 f2 f3
        refine ⟨_, _, by simp only [bind, Except.bind, h1]; rfl, f1, f2, ?_⟩
        intro T'' hle
        obtain ⟨g1, g2⟩ := f3 T'' hle
        simp only [applyTbl, ap1 T'' g1]; exact g2
  | .bin o a b, T, h => by
      have hs := frag_simple _ h
      have hl := simple_nolist _ hs
      simp only [Expr.frag, Bool.and_eq_true] at h
      have hop := isCseOp_bin h.1.1
      obtain ⟨a', T1, h1, le1, ad1, ap1⟩ := cseMap_frag elim a T h.1.2
      obtain ⟨b', T2, h2, le2, ad2, ap2⟩ := cseMap_frag elim b T1 h.2
      have le12 := Tbl.le_trans le1 le2
      have ad12 : Added T T2 (a.size + b.size) := Added.trans ad1 ad2 (by omega) (by omega)
      simp only [cseMap, opMode_eq elim T _ hl]
      cases hm : modeOf elim T (.bin o a b) with
      | hit w =>
        exact ⟨w, T, rfl, Tbl.le_refl T, Added.refl T _, fun T'' hle => by
          simp only [applyTbl]; exact hit_frag elim hm T'' hle⟩
      | _ =>
        have hnh : ∀ w, modeOf elim T (.bin o a b) ≠ .hit w := by rw [hm]; intro w hw; cases hw
        obtain ⟨f1, f2, f3⟩ := finish_frag elim (r := .bin o a' b') hs (hop a' b') le12 ad12
          (by simp only [Expr.size]; omega) hnh
        rw [hm] at f1 f2 f3
        refine ⟨_, _, by simp only [bind, Except.bind, h1, h2]; rfl, f1, f2, ?_⟩
        intro T'' hle
        obtain ⟨g1, g2⟩ := f3 T'' hle
        simp only [applyTbl, ap1 T'' (Tbl.le_trans le2 g1), ap2 T'' g1]; exact g2
  | .call f as, T, h => by
      have hs := frag_simple _ h
      have hl := simple_nolist _ hs
      simp only [Expr.frag, Bool.and_eq_true] at h
      obtain ⟨f', T1, h1, le1, ad1, ap1⟩ := cseMap_frag elim f T h.1
      obtain ⟨as', T2, h2, le2, ad2, ap2⟩ := cseMapL_frag elim as T1 h.2
      have le12 := Tbl.le_trans le1 le2
      have ad12 : Added T T2 (f.size + Expr.sizeL as) := Added.trans ad1 ad2 (by omega) (by omega)
      simp only [cseMap, opMode_eq elim T _ hl]
      cases hm : modeOf elim T (.call f as) with
      | hit w =>
        exact ⟨w, T, rfl, Tbl.le_refl T, Added.refl T _, fun T'' hle => by
          simp only [applyTbl]; exact hit_frag elim hm T'' hle⟩
      | _ =>
        have hnh : ∀ w, modeOf elim T (.call f as) ≠ .hit w := by rw [hm]; intro w hw; cases hw
        obtain ⟨f1, f2, f3⟩ := finish_frag elim (r := .call f' as') hs (by rfl) le12 ad12
          (by simp only [Expr.size]; omega) hnh
        rw [hm] at f1 f2 f3
        refine ⟨_, _, by simp only [bind, Except.bind, h1, h2]; rfl, f1, f2, ?_⟩
        intro T'' hle
        obtain ⟨g1, g2⟩ := f3 T'' hle
        simp only [applyTbl, ap1 T'' (Tbl.le_trans le2 g1), ap2 T'' g1]; exact g2
  | .const (.bool _), _, h | .const (.flt ..), _, h | .const (.str _), _, h | .const .none, _, h
  | .un .., _, h | .cmp .., _, h | .ite .., _, h | .callKw .., _, h | .subscript .., _, h
  | .lookup .., _, h | .cse .., _, h | .subst .., _, h | .deriv .., _, h | .slice _, _, h
  | .nan, _, h | .wildcard, _, h | .dotWild _, _, h | .starWild _, _, h | .funcSym, _, h
  | .tuple _, _, h | .list _, _, h => by cases h
theorem cseMapL_frag (elim : List CKey) : ∀ (cs : List Expr) (T : Tbl), Expr.fragL cs = true →
    ∃ cs' T', cseMapL elim cs T = .ok (cs', T') ∧ T.le T' ∧ Added T T' (Expr.sizeL cs) ∧
      ∀ T'', T'.le T'' → applyTblL elim T'' cs = cs'
  | [], T, _ => ⟨[], T, rfl, Tbl.le_refl T, Added.refl T _, fun _ _ => rfl⟩
  | c :: cs, T, h => by
      simp only [Expr.fragL, Bool.and_eq_true] at h
      obtain ⟨c', T1, h1, le1, ad1, ap1⟩ := cseMap_frag elim c T h.1
      obtain ⟨cs', T2, h2, le2, ad2, ap2⟩ := cseMapL_frag elim cs T1 h.2
      refine ⟨c' :: cs', T2, by simp [cseMapL, bind, Except.bind, h1, h2, pure, Except.pure],
        Tbl.le_trans le1 le2,
        Added.trans ad1 ad2 (by simp only [Expr.sizeL]; omega) (by simp only [Expr.sizeL]; omega), ?_⟩
      intro T'' hle
      simp only [applyTblL, ap1 T'' (Tbl.le_trans le2 hle), ap2 T'' hle]
end

/-- every key of the table is the key of a simple expression (true of a table built from the
empty one: `tblKeys_of_added`) -/
def TblKeys (T : Tbl) : Prop := ∀ p ∈ T, ∃ e0, e0.simple = true ∧ p.1 = normalizedKey e0

theorem tblKeys_of_added {T : Tbl} {B : Nat} (h : Added [] T B) : TblKeys T := by
  intro p hp
  rcases h p hp with h | ⟨⟨e0, a, b, _⟩, _⟩
  · simp at h
  · exact ⟨e0, a, b⟩

/-- looking up Python-equal keys of simple expressions gives the same answer -/
theorem Tbl.find_congr {a b : Expr} (ha : a.simple = true) (hb : b.simple = true)
    (h : (normalizedKey a).eq (normalizedKey b) = true) : ∀ {T : Tbl}, TblKeys T →
      T.find (normalizedKey a) = T.find (normalizedKey b)
  | [], _ => rfl
  | (k0, w0) :: rest, hT => by
    obtain ⟨e0, hs0, hk0⟩ := hT (k0, w0) (by simp)
    simp only at hk0; subst hk0
    have ih := Tbl.find_congr ha hb h (T := rest) (fun p hp => hT p (by simp [hp]))
    simp only [Tbl.find]
    by_cases h1 : (normalizedKey e0).eq (normalizedKey a) = true
    · have h2 := keyEq_trans_simple hs0 ha hb h1 h
      simp [h1, h2]
    · have h2 : ¬ (normalizedKey e0).eq (normalizedKey b) = true := by
        intro h2
        exact h1 (keyEq_trans_simple hs0 hb ha h2 (keyEq_symm_simple ha hb h))
      simp [h1, h2, ih]

end PV
