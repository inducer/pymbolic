import PV.Proofs.GATableLink
/-
  C18 (T-gen): the REFLECTED product operators of the expected function table.
  Python calls `MultiVector.__rmul__ / __rxor__ / __ror__ / __rlshift__ / __rrshift__` when the
  LEFT operand of `* ^ | << >>` is not a `MultiVector` (a plain scalar).  Their bodies wrap the
  scalar, `MultiVector(other, self.space)`, and hand it to `_generic_product` as the LEFT factor,
  with the product class of the operator: `s OP B` is the model's product of `ofScalarZ s` and `B`
  IN THIS ORDER.  The order matters for the two contractions, which are not symmetric in their
  operands (`scalar_contraction_order_matters`).
-/
-- one `variable` line serves every statement of the file, and `c18sym` is handed rules that not
-- every run needs
set_option linter.unusedSectionVars false
set_option linter.unusedVariables false
set_option linter.unusedSimpArgs false
namespace PV.GA.C18T

section
variable {R : Type} [Add R] [Mul R] [Neg R] [OfNat R 0] [OfNat R 1]

/-- the keys of a wrapped scalar (`{}` or `{0: c}`) are below the loop bound -/
theorem ofScalarZ_keys_lt (z : R → Bool) (c : R) (fuel : Nat) (h2 : 2 ≤ fuel) :
    ∀ k ∈ dkeys (ofScalarZ z c), k < fuel := by
  intro k hk
  unfold ofScalarZ at hk
  cases hz : z c <;> simp [hz] at hk
  omega

section RDunders
variable (Γ : C18Ctx R) (fuel : Nat) (callee : C18Callee R)

/-- `other OP self` for the five reflected products: `other` (a scalar) is wrapped as
`MultiVector(other, self.space)` and becomes the LEFT factor handed to `_generic_product`,
together with the class named in the body -/
theorem c18_rdunder (hs : C18HasInitScalar Γ callee) (f : C18Fn) (cn : String)
    (hf : f = c18X_MultiVector___rmul__ ∧ cn = "_GeometricProduct" ∨
      f = c18X_MultiVector___rxor__ ∧ cn = "_OuterProduct" ∨
      f = c18X_MultiVector___ror__ ∧ cn = "_InnerProduct" ∨
      f = c18X_MultiVector___rlshift__ ∧ cn = "_LeftContractionProduct" ∨
      f = c18X_MultiVector___rrshift__ ∧ cn = "_RightContractionProduct")
    (x : MVOf R) (c : R) :
    c18RunFn c18ExpectedModule Γ fuel callee f [.mv x, .coef c] []
      = callee "MultiVector._generic_product" [.mv (ofScalarZ Γ.z c), .mv x, .cls cn] [] := by
  have hinit := hs c
  rcases hf with ⟨rfl, rfl⟩ | ⟨rfl, rfl⟩ | ⟨rfl, rfl⟩ | ⟨rfl, rfl⟩ | ⟨rfl, rfl⟩ <;>
    apply c18RunFn_of_body rfl <;>
    c18sym [c18X_MultiVector___rmul__, c18X_MultiVector___rxor__, c18X_MultiVector___ror__,
      c18X_MultiVector___rlshift__, c18X_MultiVector___rrshift__, hinit] <;>
    cases callee "MultiVector._generic_product" _ [] <;> rfl

end RDunders

section Specs
variable (Γ : C18Ctx R) (fuel : Nat)

/-- `c * x`, `c ^ x`, `c | x`, `c << x`, `c >> x` for a scalar `c` on the left (the reflected
dunder methods): the model's products with the wrapped scalar as the LEFT factor -/
theorem tail_rmul (ok : C18Ok Γ fuel) (n : Nat) (hn : n ≤ 14) (x : MVOf R) (c : R) :
    c18Tail Γ fuel n "MultiVector.__rmul__" [.mv x, .coef c] []
      = .ok (.mv (genericProductZ Γ.z (wGeometric Γ.g) (ofScalarZ Γ.z c) x)) := by
  refine (c18Tail_run Γ fuel 14 rfl hn _ _).trans ?_
  rw [c18_rdunder Γ fuel _ (tail_init_scalar 15 (by omega)) _ "_GeometricProduct"
    (Or.inl ⟨rfl, rfl⟩) x c]
  exact tail_gp_geometric ok 15 (by omega) _ x (ofScalarZ_keys_lt Γ.z c fuel ok.fuel2)

theorem tail_rxor (ok : C18Ok Γ fuel) (n : Nat) (hn : n ≤ 16) (x : MVOf R) (c : R) :
    c18Tail Γ fuel n "MultiVector.__rxor__" [.mv x, .coef c] []
      = .ok (.mv (genericProductZ Γ.z (wOuter Γ.g) (ofScalarZ Γ.z c) x)) := by
  refine (c18Tail_run Γ fuel 16 rfl hn _ _).trans ?_
  rw [c18_rdunder Γ fuel _ (tail_init_scalar 17 (by omega)) _ "_OuterProduct"
    (Or.inr (Or.inl ⟨rfl, rfl⟩)) x c]
  exact tail_gp_outer ok 17 (by omega) _ x (ofScalarZ_keys_lt Γ.z c fuel ok.fuel2)

theorem tail_ror (ok : C18Ok Γ fuel) (n : Nat) (hn : n ≤ 18) (x : MVOf R) (c : R) :
    c18Tail Γ fuel n "MultiVector.__ror__" [.mv x, .coef c] []
      = .ok (.mv (genericProductZ Γ.z (wInner Γ.g) (ofScalarZ Γ.z c) x)) := by
  refine (c18Tail_run Γ fuel 18 rfl hn _ _).trans ?_
  rw [c18_rdunder Γ fuel _ (tail_init_scalar 19 (by omega)) _ "_InnerProduct"
    (Or.inr (Or.inr (Or.inl ⟨rfl, rfl⟩))) x c]
  exact tail_gp_inner ok 19 (by omega) _ x (ofScalarZ_keys_lt Γ.z c fuel ok.fuel2)

theorem tail_rlshift (ok : C18Ok Γ fuel) (n : Nat) (hn : n ≤ 20) (x : MVOf R) (c : R) :
    c18Tail Γ fuel n "MultiVector.__rlshift__" [.mv x, .coef c] []
      = .ok (.mv (genericProductZ Γ.z (wLeftContraction Γ.g) (ofScalarZ Γ.z c) x)) := by
  refine (c18Tail_run Γ fuel 20 rfl hn _ _).trans ?_
  rw [c18_rdunder Γ fuel _ (tail_init_scalar 21 (by omega)) _ "_LeftContractionProduct"
    (Or.inr (Or.inr (Or.inr (Or.inl ⟨rfl, rfl⟩)))) x c]
  exact tail_gp_left ok 21 (by omega) _ x (ofScalarZ_keys_lt Γ.z c fuel ok.fuel2)

theorem tail_rrshift (ok : C18Ok Γ fuel) (n : Nat) (hn : n ≤ 22) (x : MVOf R) (c : R) :
    c18Tail Γ fuel n "MultiVector.__rrshift__" [.mv x, .coef c] []
      = .ok (.mv (genericProductZ Γ.z (wRightContraction Γ.g) (ofScalarZ Γ.z c) x)) := by
  refine (c18Tail_run Γ fuel 22 rfl hn _ _).trans ?_
  rw [c18_rdunder Γ fuel _ (tail_init_scalar 23 (by omega)) _ "_RightContractionProduct"
    (Or.inr (Or.inr (Or.inr (Or.inr ⟨rfl, rfl⟩)))) x c]
  exact tail_gp_right ok 23 (by omega) _ x (ofScalarZ_keys_lt Γ.z c fuel ok.fuel2)

end Specs

end
end PV.GA.C18T
