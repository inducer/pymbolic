import PV.Model.EvalTable
/-
  Helper lemmas for the T-gen tie of C02 (table-free): the list-consuming loops of the hand-written
  evaluator (`evalFold`, `evalReduce`, `evalAny`, `evalAll`, `evalMinMax`, `evalList`) are the
  generic consumers of PV/Model/EvalTable.lean applied to the suspended recursive calls.
-/
namespace PV

/-- `self.rec(c)` for every child, suspended — as the hand-written evaluator performs them -/
def c02ModelRuns (cached : Bool) (env : Env) : List Expr → List (EvM Value)
  | [] => []
  | c :: cs => withMemo cached c (evalNode cached env c) :: c02ModelRuns cached env cs

theorem evalFold_eq_runs (cached : Bool) (env : Env) (o : NaryOp) :
    ∀ (acc : Value) (cs : List Expr),
      evalFold cached env o acc cs = c02FoldRuns o.apply acc (c02ModelRuns cached env cs)
  | _, [] => by simp only [evalFold, c02ModelRuns, c02FoldRuns]
  | acc, c :: cs => by
      simp only [evalFold, c02ModelRuns, c02FoldRuns, fun a => evalFold_eq_runs cached env o a cs]

theorem evalReduce_eq_runs (cached : Bool) (env : Env) (o : NaryOp) :
    ∀ (cs : List Expr),
      evalReduce cached env o cs = c02ReduceRuns o.apply (c02ModelRuns cached env cs)
  | [] => by simp only [evalReduce, c02ModelRuns, c02ReduceRuns]
  | c :: cs => by simp only [evalReduce, c02ModelRuns, c02ReduceRuns, evalFold_eq_runs]

theorem evalAny_eq_runs (cached : Bool) (env : Env) :
    ∀ (cs : List Expr), evalAny cached env cs = c02AnyRuns (c02ModelRuns cached env cs)
  | [] => by simp only [evalAny, c02ModelRuns, c02AnyRuns]
  | c :: cs => by simp only [evalAny, c02ModelRuns, c02AnyRuns, evalAny_eq_runs cached env cs]

theorem evalAll_eq_runs (cached : Bool) (env : Env) :
    ∀ (cs : List Expr), evalAll cached env cs = c02AllRuns (c02ModelRuns cached env cs)
  | [] => by simp only [evalAll, c02ModelRuns, c02AllRuns]
  | c :: cs => by simp only [evalAll, c02ModelRuns, c02AllRuns, evalAll_eq_runs cached env cs]

theorem evalMinMax_eq_runs (cached : Bool) (env : Env) (isMin : Bool) :
    ∀ (cur : Option Value) (cs : List Expr),
      evalMinMax cached env isMin cur cs = c02MinMaxRuns isMin cur (c02ModelRuns cached env cs)
  | cur, [] => by cases cur <;> simp only [evalMinMax, c02ModelRuns, c02MinMaxRuns]
  | cur, c :: cs => by
      cases cur <;> simp only [evalMinMax, c02ModelRuns, c02MinMaxRuns,
        fun a => evalMinMax_eq_runs cached env isMin a cs]

theorem evalList_eq_runs (cached : Bool) (env : Env) :
    ∀ (cs : List Expr), evalList cached env cs = c02ListRuns (c02ModelRuns cached env cs)
  | [] => by simp only [evalList, c02ModelRuns, c02ListRuns]
  | c :: cs => by simp only [evalList, c02ModelRuns, c02ListRuns, evalList_eq_runs cached env cs]

end PV
