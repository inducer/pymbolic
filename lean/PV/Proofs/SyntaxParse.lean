import PV.Model.Parser
/-
  C06/C07.  Big-step reading of the fuel-indexed parser model: "for every fuel ≥ k the call
  returns `res`".  The lemmas below read like the rules of a relational (big-step) semantics of
  the Pratt parser, one rule per path; they are proved as facts about the executable functions.

  Each lemma follows one path through one call: the call unfolds by computation (the tokens it
  looks at are literals), the tests on the path are decided by `if_pos` / `if_neg`, and a
  recursive call is replaced by its result with `bind_ok`.
-/
namespace PV.Syntax
open PV

/-- `parseExpr` returns `res` for every fuel ≥ `k` -/
def PEok (P : ParserPrec) (k m : Nat) (ts : List Tok) (res : Expr × List Tok) : Prop :=
  ∀ j, k ≤ j → parseExpr P j m ts = .ok res

def PPok (P : ParserPrec) (k : Nat) (ts : List Tok) (res : (Expr × Bool) × List Tok) : Prop :=
  ∀ j, k ≤ j → parsePrefix P j ts = .ok res

def PLok (P : ParserPrec) (k m : Nat) (left : Expr) (fin : Bool) (ts : List Tok)
    (res : Expr × List Tok) : Prop :=
  ∀ j, k ≤ j → postfixLoop P j m left fin ts = .ok res

variable {P : ParserPrec}

theorem PEok.mono {k k' m ts res} (h : PEok P k m ts res) (hk : k ≤ k') : PEok P k' m ts res :=
  fun j hj => h j (Nat.le_trans hk hj)
theorem PPok.mono {k k' ts res} (h : PPok P k ts res) (hk : k ≤ k') : PPok P k' ts res :=
  fun j hj => h j (Nat.le_trans hk hj)
theorem PLok.mono {k k' m l f ts res} (h : PLok P k m l f ts res) (hk : k ≤ k') :
    PLok P k' m l f ts res :=
  fun j hj => h j (Nat.le_trans hk hj)

/-- every parse function spends one unit of fuel per call: a statement about all fuels from
`k + 1` on is proved for `j + 1` with `j ≥ k`, where the call unfolds once -/
theorem fuel_succ {α : Type} {f : Nat → α} {a : α} {k : Nat} (h : ∀ j, k ≤ j → f (j + 1) = a) :
    ∀ j, k + 1 ≤ j → f j = a
  | j + 1, hj => h j (Nat.le_of_succ_le_succ hj)

theorem bind_ok {ε α β : Type} {x : Except ε α} {a : α} {f : α → Except ε β} {b : Except ε β}
    (hx : x = .ok a) (hf : f a = b) : x >>= f = b := by
  subst hx; exact hf

theorem PE_mk {k1 k2 m ts l fin r1 res} (hp : PPok P k1 ts ((l, fin), r1))
    (hl : PLok P k2 m l fin r1 res) : PEok P (max k1 k2 + 1) m ts res :=
  fuel_succ fun j hj => bind_ok (hp j (by omega)) (hl j (by omega))

/-! ### prefix forms -/

theorem PP_int {n : Nat} {r : List Tok} : PPok P 1 (.int n :: r) ((.const (.int n), false), r) :=
  fuel_succ fun _ _ => rfl

theorem PP_flt {s n d} {r : List Tok} :
    PPok P 1 (.flt s n d :: r) ((.const (.flt s n d), false), r) :=
  fuel_succ fun _ _ => rfl

theorem PP_bool {b : Bool} {r : List Tok} :
    PPok P 1 ((if b then .tTrue else .tFalse) :: r) ((.const (.bool b), false), r) :=
  fuel_succ fun _ _ => by cases b <;> rfl

theorem PP_ident {s : String} {r : List Tok} : PPok P 1 (.ident s :: r) ((.var s, false), r) :=
  fuel_succ fun _ _ => rfl

def UnOp.symS : UnOp → String
  | .bnot => "~" | .lnot => "not"

theorem PP_un (o : UnOp) {k ts e r} (h : PEok P k P.unary ts (e, r)) :
    PPok P (k + 1) (.sym (UnOp.symS o) :: ts) ((.un o e, false), r) :=
  fuel_succ fun j hj => by cases o <;> exact bind_ok (h j hj) rfl

theorem PP_neg {k ts e n r} (h : PEok P k P.unary ts (e, r)) (hn : parseNeg e = .ok n) :
    PPok P (k + 1) (.sym "-" :: ts) ((n, false), r) :=
  fuel_succ fun j hj => bind_ok (h j hj) (bind_ok hn rfl)

theorem PEok_ne_nil {k m ts res} (h : PEok P k m ts res) : ts ≠ [] := by
  rintro rfl
  cases h (k + 2) (by omega)

/-- an expression does not start with a closing bracket or a comma -/
theorem PEok_not_sym {k m ts res} (h : PEok P k m ts res) {s : String}
    (hs : s = ")" ∨ s = "]" ∨ s = ",") : ¬ isSym s ts = true := by
  intro hh
  match ts, hh with
  | .sym s' :: ts, hh =>
    obtain rfl : s' = s := by simpa [isSym] using hh
    have := h (k + 2) (by omega)
    rcases hs with rfl | rfl | rfl <;> cases this

/-- `( e )` for a non-tuple `e` -/
theorem PP_paren {k ts e r} (h : PEok P k 0 ts (e, .sym ")" :: r))
    (hne : ∀ cs, e ≠ .tuple cs) :
    PPok P (k + 1) (.sym "(" :: ts) ((e, false), r) :=
  fuel_succ fun j hj => by
    refine (if_neg (PEok_not_sym h (.inl rfl))).trans (bind_ok (h j hj) ?_)
    cases e <;> first | rfl | exact absurd rfl (hne _)

/-! ### the binary operators of the postfix loop -/

inductive Infix where
  | plus | times | quot | floordiv | rem | pow | lshift | rshift | band | bxor | bor | land | lor
  | cmp (o : CmpOp)
  deriving Repr, DecidableEq

def Infix.sym : Infix → String
  | .plus => "+" | .times => "*" | .quot => "/" | .floordiv => "//" | .rem => "%" | .pow => "**"
  | .lshift => "<<" | .rshift => ">>" | .band => "&" | .bxor => "^" | .bor => "|"
  | .land => "and" | .lor => "or" | .cmp o => o.sym

/-- the loop absorbs the operator iff `guard > minPrec` -/
def Infix.guard (P : ParserPrec) : Infix → Nat
  | .plus => P.plus | .times | .quot | .floordiv | .rem => P.times | .pow => P.power
  | .lshift | .rshift => P.shift | .band => P.band | .bxor => P.bxor | .bor => P.bor
  | .land => P.land | .lor => P.lor | .cmp _ => P.comparison

/-- the level at which the right operand is parsed -/
def Infix.rhs (P : ParserPrec) : Infix → Nat
  | .plus => P.plus | .times => P.plus | .quot | .floordiv | .rem => P.times | .pow => P.times
  | .lshift | .rshift => P.shift | .band => P.band | .bxor => P.bxor | .bor => P.bor
  | .land => P.land | .lor => P.lor | .cmp _ => P.comparison

/-- the node the loop builds -/
def Infix.build : Infix → Expr → Expr → Expr
  | .plus, l, r => spliceNary .sum l r
  | .times, l, r => spliceNary .prod l r
  | .quot, l, r => .bin .quot l r
  | .floordiv, l, r => .bin .floordiv l r
  | .rem, l, r => .bin .rem l r
  | .pow, l, r => .bin .pow l r
  | .lshift, l, r => .bin .lshift l r
  | .rshift, l, r => .bin .rshift l r
  | .band, l, r => .nary .band [l, r]
  | .bxor, l, r => .nary .bxor [l, r]
  | .bor, l, r => .nary .bor [l, r]
  | .land, l, r => .nary .land [l, r]
  | .lor, l, r => .nary .lor [l, r]
  | .cmp o, l, r => .cmp o l r

/-- one round of the loop on a binary operator -/
theorem postfixLoop_infix (o : Infix) (j m : Nat) (l : Expr) (fin : Bool) (ts : List Tok) :
    postfixLoop P (j + 1) m l fin (.sym o.sym :: ts) =
      if o.guard P > m then do
        let (r, rest) ← parseExpr P j (o.rhs P) ts
        postfixLoop P j m (o.build l r) false rest
      else pure (l, .sym o.sym :: ts) := by
  cases o with
  | cmp c => cases c <;> rfl
  | _ => rfl

theorem PL_infix (o : Infix) {k1 k2 m ts l fin r r1 res} (hg : o.guard P > m)
    (hr : PEok P k1 (o.rhs P) ts (r, r1)) (hl : PLok P k2 m (o.build l r) false r1 res) :
    PLok P (max k1 k2 + 1) m l fin (.sym o.sym :: ts) res :=
  fuel_succ fun j hj => by
    rw [postfixLoop_infix, if_pos hg]
    exact bind_ok (hr j (by omega)) (hl j (by omega))

/-! ### when the loop stops -/

/-- the guard of a token in the postfix loop: the loop at level `m` reacts to the token iff
`guard > m`; `none`: the loop never reacts to it -/
def tokGuard (P : ParserPrec) : Tok → Option Nat
  | .sym "(" | .sym "[" | .sym "." => some P.call
  | .sym "if" => some P.ifp
  | .sym "+" | .sym "-" => some P.plus
  | .sym "*" | .sym "/" | .sym "//" | .sym "%" => some P.times
  | .sym "**" => some P.power
  | .sym "and" => some P.land
  | .sym "or" => some P.lor
  | .sym "|" => some P.bor
  | .sym "^" => some P.bxor
  | .sym "&" => some P.band
  | .sym ">>" | .sym "<<" => some P.shift
  | .sym ":" => some (P.slice + 1)
  | .sym "," => some P.comma
  | .sym "==" | .sym "!=" | .sym "<" | .sym "<=" | .sym ">" | .sym ">=" => some P.comparison
  | _ => none

/-- the loop at level `m` reacts to the first token of `ts` -/
def absorbs (P : ParserPrec) (m : Nat) : List Tok → Prop
  | [] => False
  | t :: _ => match tokGuard P t with
    | some g => g > m
    | none => False

instance (m : Nat) (ts : List Tok) : Decidable (absorbs P m ts) := by
  unfold absorbs; split
  · exact instDecidableFalse
  · split <;> infer_instance

theorem tokGuard_cmp {s : String} {op : CmpOp} (h : CmpOp.ofSym? s = some op) :
    tokGuard P (.sym s) = some P.comparison := by
  unfold CmpOp.ofSym? at h
  split at h
  -- `h_7`: the wildcard alternative of `CmpOp.ofSym?` (after the six operator symbols)
  case h_7 => cases h
  all_goals rfl

theorem PL_stop {m left fin ts} (h : ¬ absorbs P m ts) : PLok P 1 m left fin ts (left, ts) :=
  fuel_succ fun j _ => by
    cases ts with
    | nil => rfl
    | cons t ts =>
      have hg : ∀ g, tokGuard P t = some g → ¬ g > m := fun g ht => by
        simpa only [absorbs, ht] using h
      unfold postfixLoop
      split
      -- the colon of a slice is guarded by `slice ≥ m`, that is `slice + 1 > m`
      case h_19 => exact if_neg fun hm => hg _ rfl (Nat.lt_succ_of_le hm)
      -- `h_19`, `h_21`: the positions of the colon and of the comparison-operator alternatives
      -- in the `match` of `postfixLoop`
      case h_21 =>
        split
        · exact if_neg (hg _ (tokGuard_cmp ‹_›))
        · rfl
      all_goals first | exact if_neg (hg _ rfl) | rfl

theorem PL_ite {k1 k2 k3 m ts l fin c e r1 r2 res} (hg : P.ifp > m)
    (hc : PEok P k1 P.ifp ts (c, .sym "else" :: r1)) (he : PEok P k2 0 r1 (e, r2))
    (hl : PLok P k3 m (.ite c l e) false r2 res) :
    PLok P (max (max k1 k2) k3 + 1) m l fin (.sym "if" :: ts) res :=
  fuel_succ fun j hj =>
    (if_pos hg).trans <| (if_neg (by simpa using PEok_ne_nil hc)).trans <|
      bind_ok (hc j (by omega)) (bind_ok (he j (by omega)) (hl j (by omega)))

/-! ### facts about `absorbs` -/

theorem absorbs_sym {m : Nat} {s : String} {r} {g : Nat} (h : tokGuard P (.sym s) = some g) :
    absorbs P m (.sym s :: r) ↔ g > m := by
  simp only [absorbs, h]

theorem not_absorbs_sym {m : Nat} {s : String} {r} (h : tokGuard P (.sym s) = none) :
    ¬ absorbs P m (.sym s :: r) := by
  simp only [absorbs, h, not_false_eq_true]

/-- a loop at the level of a token's own guard does not react to it -/
theorem not_absorbs_self {s : String} {r} {g : Nat} (h : tokGuard P (.sym s) = some g) :
    ¬ absorbs P g (.sym s :: r) :=
  fun hab => Nat.lt_irrefl _ ((absorbs_sym h).mp hab)

theorem absorbs_mono {m k : Nat} {ts : List Tok} (h : m ≤ k) : absorbs P k ts → absorbs P m ts := by
  cases ts with
  | nil => exact id
  | cons t ts =>
    simp only [absorbs]
    split
    · exact Nat.lt_of_le_of_lt h
    · exact id

theorem not_absorbs_nil {m : Nat} : ¬ absorbs P m [] := id
theorem not_absorbs_rparen {m : Nat} {r} : ¬ absorbs P m (.sym ")" :: r) := not_absorbs_sym rfl
theorem not_absorbs_rbrack {m : Nat} {r} : ¬ absorbs P m (.sym "]" :: r) := not_absorbs_sym rfl
theorem not_absorbs_else {m : Nat} {r} : ¬ absorbs P m (.sym "else" :: r) := not_absorbs_sym rfl

theorem tokGuard_infix (o : Infix) : tokGuard P (.sym o.sym) = some (o.guard P) := by
  cases o with
  | cmp c => cases c <;> rfl
  | _ => rfl

theorem absorbs_infix (o : Infix) {m : Nat} {r} :
    absorbs P m (.sym o.sym :: r) ↔ o.guard P > m :=
  absorbs_sym (tokGuard_infix o)

theorem absorbs_comma {m : Nat} {r} : absorbs P m (.sym "," :: r) ↔ P.comma > m :=
  absorbs_sym rfl

/-! ### postfix forms: look-up, subscript, call -/

theorem PL_lookup {k m ts l fin n res} (hg : P.call > m)
    (hl : PLok P k m (.lookup l n) false ts res) :
    PLok P (k + 1) m l fin (.sym "." :: .ident n :: ts) res :=
  fuel_succ fun j hj => (if_pos hg).trans (hl j hj)

theorem PL_subscript {k1 k2 m ts l fin i r1 res} (hg : P.call > m)
    (hi : PEok P k1 0 ts (i, .sym "]" :: r1))
    (hl : PLok P k2 m (.subscript l i) false r1 res) :
    PLok P (max k1 k2 + 1) m l fin (.sym "[" :: ts) res :=
  fuel_succ fun j hj =>
    (if_pos hg).trans <| (if_neg (by simpa using PEok_ne_nil hi)).trans <|
      bind_ok (hi j (by omega)) (hl j (by omega))

/-- `parseArglist` returns `res` for every fuel ≥ `k` -/
def PAok (P : ParserPrec) (k : Nat) (ts : List Tok) (args : List Expr) (kwn : List String)
    (kwv : List Expr) (ca : Bool) (res : (List Expr × List String × List Expr) × List Tok) : Prop :=
  ∀ j, k ≤ j → parseArglist P j ts args kwn kwv ca = .ok res

theorem PAok.mono {k k' ts a kn kv ca res} (h : PAok P k ts a kn kv ca res) (hk : k ≤ k') :
    PAok P k' ts a kn kv ca res :=
  fun j hj => h j (Nat.le_trans hk hj)

theorem PL_call {k1 k2 m ts l fin args kwn kwv r1 res} (hg : P.call > m)
    (ha : PAok P k1 ts [] [] [] false ((args, kwn, kwv), r1))
    (hl : PLok P k2 m (if kwn.isEmpty then Expr.call l args else Expr.callKw l args kwn kwv)
      false r1 res) :
    PLok P (max k1 k2 + 1) m l fin (.sym "(" :: ts) res :=
  fuel_succ fun j hj => (if_pos hg).trans (bind_ok (ha j (by omega)) (hl j (by omega)))

/-- the closing parenthesis ends the argument list -/
theorem PA_close {ts args kwn kwv ca} :
    PAok P 1 (.sym ")" :: ts) args kwn kwv ca ((args, kwn, kwv), ts) :=
  fuel_succ fun _ _ => by cases ca <;> rfl

/-- an input that starts with `name =` is not an expression followed by `,` or `)`: the loop
stops at `=` -/
theorem PEok_kw_head {k m x ts e r} (h : PEok P k m (.ident x :: .sym "=" :: ts) (e, r)) :
    r = .sym "=" :: ts :=
  (Prod.mk.inj (Except.ok.inj (h (k + 3) (by omega)))).2.symm

/-- one positional argument; `ca` says whether a comma must come first -/
theorem PA_pos {k1 k2 ts args ca a r1 res}
    (ha : PEok P k1 P.comma ts (a, r1)) (hr : isSym "=" r1 = false)
    (hl : PAok P k2 r1 (args ++ [a]) [] [] true res) :
    PAok P (max k1 k2 + 1) (if ca then .sym "," :: ts else ts) args [] [] ca res := by
  have hnc := PEok_not_sym ha (.inr (.inr rfl))
  have hnp := PEok_not_sym ha (.inl rfl)
  have hkw : ∀ x rest, ts = .ident x :: .sym "=" :: rest → False := fun x rest hts => by
    subst hts; rw [PEok_kw_head ha] at hr; cases hr
  obtain ⟨t, ts', rfl⟩ := List.exists_cons_of_ne_nil (PEok_ne_nil ha)
  refine fuel_succ fun j hj => ?_
  have h1 := ha j (by omega)
  have h2 := hl j (by omega)
  cases ca
  · simp only [Bool.false_eq_true, if_false]
    simp only [parseArglist, hnc]
    simp only [Bool.false_and, Bool.false_eq_true, if_false, List.isEmpty_cons, hnp,
      Bool.not_false, Bool.and_false, List.isEmpty_nil, Bool.not_true]
    simp [h1, h2, bind, Except.bind]
  · simp only [if_true]
    have hc : isSym "," (.sym "," :: t :: ts') = true := rfl
    simp only [parseArglist, hc, Bool.not_true, Bool.and_false, Bool.false_eq_true, if_false,
      if_true, List.tail_cons, List.isEmpty_cons, hnp, Bool.false_and]
    simp [h1, h2, bind, Except.bind]

/-- one keyword argument `name = value` -/
theorem PA_kw {k1 k2 ts args kwn kwv ca x v r1 res}
    (hv : PEok P k1 P.comma ts (v, r1)) (hx : kwn.contains x = false)
    (hl : PAok P k2 r1 args (kwn ++ [x]) (kwv ++ [v]) true res) :
    PAok P (max k1 k2 + 1)
      (if ca then .sym "," :: .ident x :: .sym "=" :: ts else .ident x :: .sym "=" :: ts)
      args kwn kwv ca res :=
  fuel_succ fun j hj => by
    have h := hl j (by omega)
    cases ca <;> refine bind_ok (hv j (by omega)) ?_ <;> simp only [hx] <;> exact h

/-! ### tuples, lists and the comma -/

theorem PP_unit {r : List Tok} : PPok P 1 (.sym "(" :: .sym ")" :: r) ((.tuple [], true), r) :=
  fuel_succ fun _ _ => rfl

theorem PP_paren_tuple {k ts cs r} (h : PEok P k 0 ts (.tuple cs, .sym ")" :: r)) :
    PPok P (k + 1) (.sym "(" :: ts) ((.tuple cs, true), r) :=
  fuel_succ fun j hj => (if_neg (PEok_not_sym h (.inl rfl))).trans (bind_ok (h j hj) rfl)

theorem PP_nil_list {r : List Tok} : PPok P 1 (.sym "[" :: .sym "]" :: r) ((.list [], true), r) :=
  fuel_succ fun _ _ => rfl

theorem PP_list_tuple {k ts cs r} (h : PEok P k 0 ts (.tuple cs, .sym "]" :: r)) :
    PPok P (k + 1) (.sym "[" :: ts) ((.list cs, true), r) :=
  fuel_succ fun j hj => (if_neg (PEok_not_sym h (.inr (.inl rfl)))).trans (bind_ok (h j hj) rfl)

theorem PP_list_one {k ts e r} (h : PEok P k 0 ts (e, .sym "]" :: r))
    (hne : ∀ cs, e ≠ .tuple cs) :
    PPok P (k + 1) (.sym "[" :: ts) ((.list [e], true), r) :=
  fuel_succ fun j hj => by
    refine (if_neg (PEok_not_sym h (.inr (.inl rfl)))).trans (bind_ok (h j hj) ?_)
    cases e <;> first | rfl | exact absurd rfl (hne _)

/-- an input that parses is not empty and does not start with `)`: the test by which the loop,
after a comma, goes on to a further element -/
theorem PEok_more {k m ts res} (h : PEok P k m ts res) :
    ¬ (ts.isEmpty || isSym ")" ts) = true := by
  have h1 := PEok_ne_nil h
  have h2 := PEok_not_sym h (.inl rfl)
  cases ts <;> simp_all

/-- the state of the loop between two commas: `left` is the first element (not a tuple under
construction), or the tuple `acc` under construction -/
def TupState (acc : List Expr) (left : Expr) (fin : Bool) : Prop :=
  (acc = [left] ∧ ∀ cs, left = .tuple cs → fin = true) ∨ (left = .tuple acc ∧ fin = false)

/-- a comma followed by a further element -/
theorem PL_comma_step {acc left fin k1 k2 m ts el r1 res} (hst : TupState acc left fin)
    (hg : P.comma > m) (he : PEok P k1 P.comma ts (el, r1))
    (hl : PLok P k2 m (.tuple (acc ++ [el])) false r1 res) :
    PLok P (max k1 k2 + 1) m left fin (.sym "," :: ts) res :=
  fuel_succ fun j hj => by
    refine (if_pos hg).trans ((if_neg (PEok_more he)).trans (bind_ok (he j (by omega)) ?_))
    have h := hl j (by omega)
    rcases hst with ⟨rfl, hopen⟩ | ⟨rfl, rfl⟩
    · dsimp only
      split
      · rename_i heq
        split at heq
        · cases hopen _ rfl
        · cases heq
      · exact h
    · exact h

/-- `x ,)`: a one-element tuple -/
theorem PL_comma_single {k m ts l fin res} (hg : P.comma > m)
    (hopen : ∀ cs, l = .tuple cs → fin = true)
    (hl : PLok P k m (.tuple [l]) false (.sym ")" :: ts) res) :
    PLok P (k + 1) m l fin (.sym "," :: .sym ")" :: ts) res :=
  fuel_succ fun j hj => by
    refine (if_pos hg).trans ((if_pos rfl).trans ?_)
    have h := hl j hj
    split
    · rename_i heq
      split at heq
      · cases hopen _ rfl
      · cases heq
    · exact h

/-! ### slices -/

/-- `: rest` at the start of an expression: the first part of the slice is omitted -/
theorem PP_colon {k ts next r1} (h : PEok P k P.slice ts (next, r1)) :
    PPok P (k + 1) (.sym ":" :: ts) ((joinToSlice (.const .none) next, false), r1) :=
  fuel_succ fun j hj => by
    have h' := h j hj
    simp only [parsePrefix, h']
    rfl

/-- `left : rest` in the loop -/
theorem PL_colon {k1 k2 m ts l fin next r1 res} (hg : P.slice ≥ m)
    (hl0 : ∀ cs, l ≠ .slice cs) (hn : PEok P k1 P.slice ts (next, r1))
    (hl : PLok P k2 m (joinToSlice l next) false r1 res) :
    PLok P (max k1 k2 + 1) m l fin (.sym ":" :: ts) res :=
  fuel_succ fun j hj => by
    have h1 := hn j (by omega)
    have h2 := hl j (by omega)
    refine (if_pos hg).trans ?_
    split
    · exact absurd rfl (hl0 _)
    · rw [h1]; exact h2

end PV.Syntax
