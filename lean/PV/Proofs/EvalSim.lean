import PV.Model.Eval
/-
  Helper lemmas for C02: the stateful evaluator simulates the denotation.
-/
namespace PV

/-- A set of expressions closed under taking children, on which Python `==` coincides with
structural identity, and free of (unhashable) Python lists. -/
structure Universe (U : Expr → Prop) : Prop where
  closed : ∀ e, U e → ∀ c ∈ e.children, U c
  coherent : ∀ a b, U a → U b → a.pyEq b = true → a = b
  nolist : ∀ e, U e → e.hasList = false

/-- Cache invariant: every stored result is the denotation of its key. -/
def EvInv (env : Env) (U : Expr → Prop) (s : EvState) : Prop :=
  (∀ k v, (k, v) ∈ s.cse → U k ∧ den env k = .ok v) ∧
  (∀ k v, (k, v) ∈ s.memo → U k ∧ den env k = .ok v)

theorem findBy_some {eq : Expr → Expr → Bool} {e : Expr} {v : Value} :
    ∀ {l : List (Expr × Value)}, findBy eq e l = some v → ∃ k, (k, v) ∈ l ∧ eq k e = true
  | (k', v') :: rest, h => by
    simp only [findBy] at h
    split at h
    · next hk => cases h; exact ⟨k', by simp, hk⟩
    · obtain ⟨k, hm, he⟩ := findBy_some h
      exact ⟨k, by simp [hm], he⟩

/-- `m` computes `d` from every state satisfying the invariant and re-establishes it. -/
def Sim (env : Env) (U : Expr → Prop) {α : Type} (m : EvM α) (d : Except Err α) : Prop :=
  ∀ s, EvInv env U s → ∃ s', m s = (d, s') ∧ EvInv env U s'

variable {env : Env} {U : Expr → Prop}

theorem Sim.pure {α} (a : α) : Sim env U (EvM.pure a) (.ok a) :=
  fun s h => ⟨s, rfl, h⟩

theorem Sim.throw {α} (e : Err) : Sim env U (EvM.throw e : EvM α) (.error e) :=
  fun s h => ⟨s, rfl, h⟩

theorem Sim.lift {α} (x : Except Err α) : Sim env U (EvM.lift x) x :=
  fun s h => ⟨s, rfl, h⟩

theorem Sim.bind {α β} {m : EvM α} {d : Except Err α} {f : α → EvM β} {g : α → Except Err β}
    (hm : Sim env U m d) (hf : ∀ a, Sim env U (f a) (g a)) :
    Sim env U (m >>= f) (d >>= g) := by
  intro s hs
  obtain ⟨s1, h1, i1⟩ := hm s hs
  cases d with
  | error e =>
    refine ⟨s1, ?_, i1⟩
    show EvM.bind m f s = _
    simp only [EvM.bind, h1]; rfl
  | ok a =>
    obtain ⟨s2, h2, i2⟩ := hf a s1 i1
    refine ⟨s2, ?_, i2⟩
    show EvM.bind m f s = _
    simp only [EvM.bind, h1, h2]; rfl

theorem Sim.ite {α} {c : Bool} {m1 m2 : EvM α} {d1 d2 : Except Err α}
    (h1 : Sim env U m1 d1) (h2 : Sim env U m2 d2) :
    Sim env U (if c then m1 else m2) (if c then d1 else d2) := by
  cases c <;> simpa

theorem keyEq_pyEq {a b : Expr} (h : a.keyEq b = true) : a.pyEq b = true := by
  simp only [Expr.keyEq, Bool.and_eq_true] at h; exact h.2

/-- The memoising dispatch wrapper is transparent. -/
theorem Sim.memo (hU : Universe U) {cached : Bool} {e : Expr} {k : EvM Value}
    (he : U e) (hk : Sim env U k (den env e)) :
    Sim env U (withMemo cached e k) (den env e) := by
  intro s hs
  unfold withMemo
  cases cached with
  | false => simpa using hk s hs
  | true =>
    simp only [if_true, hU.nolist e he, Bool.false_eq_true, if_false]
    cases hf : findBy Expr.keyEq e s.memo with
    | some v =>
      obtain ⟨k', hmem, heq⟩ := findBy_some hf
      obtain ⟨hUk, hden⟩ := hs.2 k' v hmem
      cases hU.coherent k' e hUk he (keyEq_pyEq heq)
      exact ⟨s, by simp [hden], hs⟩
    | none =>
      obtain ⟨s1, h1, i1⟩ := hk s hs
      cases hd : den env e with
      | error err => exact ⟨s1, by simp [h1, hd], i1⟩
      | ok v =>
        refine ⟨{ s1 with memo := (e, v) :: s1.memo }, by simp [h1, hd], i1.1, fun k' v' hm => ?_⟩
        rcases List.mem_cons.1 hm with e' | hm
        · cases e'; exact ⟨he, hd⟩
        · exact i1.2 k' v' hm

/-- The CSE result cache of `CSECachingMapperMixin` is transparent. -/
theorem Sim.cse (hU : Universe U) {cached : Bool} {c : Expr} {p : Option String} {sc : String}
    (he : U (.cse c p sc)) (hk : Sim env U (withMemo cached c (evalNode cached env c)) (den env c)) :
    Sim env U (evalNode cached env (.cse c p sc)) (den env (.cse c p sc)) := by
  intro s hs
  have hl : c.hasList = false := by
    have := hU.nolist _ he; simpa [Expr.hasList] using this
  simp only [evalNode, hl, Bool.false_eq_true, if_false]
  cases hf : findBy Expr.pyEq (.cse c p sc) s.cse with
  | some v =>
    obtain ⟨k', hmem, heq⟩ := findBy_some hf
    obtain ⟨hUk, hden⟩ := hs.1 k' v hmem
    cases hU.coherent k' _ hUk he heq
    exact ⟨s, by simp [hden], hs⟩
  | none =>
    obtain ⟨s1, h1, i1⟩ := hk s hs
    have hd' : den env (.cse c p sc) = den env c := by simp [den]
    cases hd : den env c with
    | error err => exact ⟨s1, by simp [h1, hd, hd'], i1⟩
    | ok v =>
      refine ⟨{ s1 with cse := (.cse c p sc, v) :: s1.cse }, by simp [h1, hd, hd'],
        fun k' v' hm => ?_, i1.2⟩
      rcases List.mem_cons.1 hm with e' | hm
      · cases e'; exact ⟨he, by rw [hd', hd]⟩
      · exact i1.1 k' v' hm

end PV
