import PV.Proofs.UnifyTableStep
/-
  C16 (T-gen), part 5: the hand-written model solves the equations of the table —
  `unifyE = c16UnifyF unifyE` (one unfolding), the model functions are what the table's functions
  compute when the calls between them mean the model functions (linking).  That records stay
  well-formed is PV/Proofs/UnifyTableWF.lean, that `unifyE` is the only solution
  PV/Proofs/UnifyTableUnique.lean.
-/
open PV PV.Unify
namespace PV.Unify

/-! ### `unifyE` is one unfolding of itself through `c16UnifyF` -/

theorem unifyL_eq_zipF (cands : List String) : ∀ (cs ds : List Expr) (us : List URec),
    unifyL cands cs ds us
      = if cs.length = ds.length then c16ZipF (unifyE cands) (cs.zip ds) us else []
  | [], [], us => by simp [unifyL, c16ZipF]
  | [], _ :: _, us => by simp [unifyL]
  | _ :: _, [], us => by simp [unifyL]
  | c :: cs, d :: ds, us => by
    simp only [unifyL, List.length_cons, List.zip_cons_cons, c16ZipF, unifyL_eq_zipF cands cs ds]
    by_cases hl : cs.length = ds.length <;> simp [hl]

theorem candTable_eq (cands : List String) (ds : List Expr) (us : List URec) :
    ∀ cs : List Expr, candTable cands cs ds us
      = (cs.filter fun c => !isPlain cands c).map fun c => c16RowF (unifyE cands) c ds us
  | [] => by simp [candTable]
  | c :: cs => by
    simp only [candTable, candTable_eq cands ds us cs]
    by_cases hp : isPlain cands c = true
    · simp [hp]
    · simp [hp, c16RowF]

theorem unifyE_subscript' (cands : List String) (a i other : Expr) (us : List URec) :
    unifyE cands (.subscript a i) other us =
      match other with
      | .subscript a' i' => unifyE cands a a' (unifyE cands (unpackIndex i) (unpackIndex i') us)
      | _ => [] := by
  by_cases h : ∃ x, i = .tuple [x]
  · obtain ⟨x, rfl⟩ := h
    cases other <;> rfl
  · -- the equations of `unifyE` for an index that is no 1-tuple carry this as a side condition
    have hi : ∀ i1, i = .tuple [i1] → False := fun x hx => h ⟨x, hx⟩
    have hu : unpackIndex i = i := by
      unfold unpackIndex
      split
      · exact absurd rfl (hi _)
      · rfl
    cases other with
    | subscript a' i' => rw [hu, unifyE]; exact hi
    | _ => rw [unifyE] <;> first | exact hi | exact fun _ _ h => nomatch h

/-- **the model satisfies the dispatch equation** (one unfolding of `unifyE`, with the loops of
`map_list` / of the candidate table written without the mutual recursion) -/
theorem unifyE_eq_F (cands : List String) (e oth : Expr) (us : List URec) :
    unifyE cands e oth us = c16UnifyF cands (unifyE cands) e oth us := by
  cases e with
  | nary o cs =>
    cases oth <;> simp only [unifyE, c16UnifyF]
    rename_i o' ds
    by_cases h : (o = o' && (o = .sum || o = .prod)) = true
    · simp only [h, if_true, c16CommutF, candTable_eq]
      simp
    · simp [h]
  | call f as =>
    cases oth <;> simp only [unifyE, c16UnifyF]
  | subscript a i =>
    rw [unifyE_subscript']
    cases oth <;> simp only [c16UnifyF]
  | tuple cs =>
    cases oth <;> simp only [unifyE, c16UnifyF, unifyL_eq_zipF]
  | _ => simp only [unifyE, c16UnifyF] <;> (try (cases oth <;> rfl))

/-! ### linking: the table's own functions compute the model's functions -/

/-- **Record-level functions.**  If the callees of a context mean the model's functions, then so do
the functions of the table run in that context (`c16LinkFn`: class construction through
`__init__`, methods resolved along the MRO). -/
theorem c16LinkFn_spec (cands : List String) (cx : C16Ctx) (hs : C16FnSpec cands cx.fn)
    (ha : cx.selfAttrs = c16ModelAttrs cands) : C16FnSpec cands (c16LinkFn c16Expected cx) := by
  obtain ⟨hcls, hmap, hmany, hinit, hunify, hrfe, htm, _, _⟩ := c16Resolve_expected
  have hfinit : c16FindFn c16Expected "UnificationRecord.__init__" = some c16X_Rec_init :=
    c16FindFn_mem (fn := c16X_Rec_init) (by repeat constructor)
  refine ⟨fun a b hb => ?_, ?_, fun l r => ?_, fun l r => ?_, fun a b hb => ?_,
    fun v us n hv hn => ?_, fun l r => ?_, fun e o v _ => ?_⟩
  · have h2 : c16FindFn c16Expected "unify_map" = some c16X_unify_map :=
      c16FindFn_mem (fn := c16X_unify_map) (by repeat constructor)
    simp only [c16LinkFn, hmap, h2, c16Call_unify_map cx a b hb, c16ResOpt]
  · simp only [c16LinkFn, hcls, hinit, hfinit, c16Init_empty]
    rfl
  · simp only [c16LinkFn, hcls, hinit, hfinit, c16Init_one]
    rfl
  · simp only [c16LinkFn, hcls, hinit, hfinit, c16Init_maps]
    rfl
  · have h3 : c16FindFn c16Expected "UnificationRecord.unify" = some c16X_Rec_unify :=
      c16FindFn_mem (fn := c16X_Rec_unify) (by repeat constructor)
    simp only [c16LinkFn, c16CallAttr, hunify, h3, c16Call_unify cands cx hs a b hb, c16ResOpt]
  · have h2 : c16FindFn c16Expected "unify_many" = some c16X_unify_many :=
      c16FindFn_mem (fn := c16X_unify_many) (by repeat constructor)
    simp only [c16LinkFn, hmany, h2, c16Call_unify_many cands cx hs v us n hv hn, c16ResOpt]
  · have h3 : c16FindFn c16Expected "UnifierBase.unification_record_from_equation"
        = some c16X_Base_unification_record_from_equation :=
      c16FindFn_mem (fn := c16X_Base_unification_record_from_equation) (by repeat constructor)
    simp only [c16LinkFn, c16CallAttr, hrfe, h3, c16Call_rec_from_eq cands cx hs ha l r, c16ResOpt]
  · have h3 : c16FindFn c16Expected "UnidirectionalUnifier.treat_mismatch"
        = some c16X_Uni_treat_mismatch :=
      c16FindFn_mem (fn := c16X_Uni_treat_mismatch) (by repeat constructor)
    simp only [c16LinkFn, c16CallAttr, htm, h3, c16Call_treat_mismatch cx e o v, c16ResOpt]

/-- **The nested generators.**  If the callees mean the model's functions, then so do the nested
generator functions of the table, run with the variables of `map_commut_assoc` they see. -/
theorem c16LinkGen_spec (cands : List String) (cx : C16Ctx) (hs : C16FnSpec cands cx.fn)
    (hg : C16GenSpec cands cx.gen) : C16GenSpec cands (c16LinkGen c16Expected cx) where
  subsets cl s m := by
    have h : c16FindFn c16Expected c16N_subsets = some c16X_Uni_mca_mpv_subsets :=
      c16FindFn_mem (fn := c16X_Uni_mca_mpv_subsets) (by repeat constructor)
    simp only [c16LinkGen, h, c16Gen_subsets, c16ResOpt]
  partitions cl s k := by
    have h : c16FindFn c16Expected c16N_partitions = some c16X_Uni_mca_mpv_partitions :=
      c16FindFn_mem (fn := c16X_Uni_mca_mpv_partitions) (by repeat constructor)
    simp only [c16LinkGen, h, c16ResOpt,
      c16Gen_partitions cands { cx with closure := some cl } hg s k]
  match_plain cl o names nv t us ds u left hc hu := by
    have h : c16FindFn c16Expected c16N_match_plain = some c16X_Uni_mca_match_plain_var_candidates :=
      c16FindFn_mem (fn := c16X_Uni_mca_match_plain_var_candidates) (by repeat constructor)
    simp only [c16LinkGen, h, c16ResOpt,
      c16Gen_match_plain cands { cx with closure := some cl } hs hg cl rfl o names nv t us ds hc u hu left]
  match_children cl o names nv t us ds u i left hc hu := by
    have h : c16FindFn c16Expected c16N_match_children = some c16X_Uni_mca_match_children :=
      c16FindFn_mem (fn := c16X_Uni_mca_match_children) (by repeat constructor)
    simp only [c16LinkGen, h, c16ResOpt,
      c16Gen_match_children cands { cx with closure := some cl } hs hg cl rfl o names nv t us ds hc u hu i left]

/-- **`map_commut_assoc`.** -/
theorem c16LinkGen_ca (cands : List String) (cx : C16Ctx) (hs : C16FnSpec cands cx.fn)
    (hg : C16GenSpec cands cx.gen) (ha : cx.selfAttrs = c16ModelAttrs cands)
    (hrec : ∀ a b vs, (∀ v ∈ vs, v.WF) → ∀ r ∈ cx.recur a b vs, r.WF) :
    C16CASpec cands cx.recur (c16LinkGen c16Expected cx) := by
  intro cl e oth cs ds uv us o he ho hus husw hsafe
  have h2 := c16Resolve_expected.2.2.2.2.2.2.2.1
  have h3 : c16FindFn c16Expected "UnidirectionalUnifier.map_commut_assoc" = some c16X_Uni_map_commut_assoc :=
      c16FindFn_mem (fn := c16X_Uni_map_commut_assoc) (by repeat constructor)
  simp only [c16LinkGen, h2, h3, c16ResOpt,
    c16Gen_commut_assoc cands { cx with closure := none } hs hg ha rfl hrec e oth cs ds he ho uv us hus
      husw o hsafe]

end PV.Unify
