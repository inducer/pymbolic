import PV.Model.ImpTable
import PV.Proofs.ImpTableAttr
/-
  C20 (T-gen): an expression statement drops its value; an expression or statement the table language
  has no form for has no meaning (`stuck`).
-/
namespace PV.Imp
open PV
variable {σ : Type}

theorem c20Eval_notModelled (c : C20Ctx σ) :
    ∀ w1 w2, c20Eval c (.notModelled w1) w2 =
 .stuck := by
  intros; rfl

theorem c20ExecS_exprStmt (c : C20Ctx σ) :
    ∀ e env, c20ExecS c (.exprStmt e) env =
 c20Then (c20Eval c e env) fun _ => .next env := by
  intros; rfl

theorem c20ExecS_notModelled (c : C20Ctx σ) :
    ∀ w1 w2, c20ExecS c (.notModelled w1) w2 =
 .stuck := by
  intros; rfl
end PV.Imp
