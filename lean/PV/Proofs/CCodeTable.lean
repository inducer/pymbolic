import PV.Model.CCodeTable
import PV.Proofs.NodeClass
/-
  C14 (T-gen: the tie to the table regenerated from the source).  Lemmas for the tie of the
  hand-written C mapper model (PV/Model/CCode.lean) to the table interpreter
  (PV/Model/CCodeTable.lean).  First: what the printed structure `Doc` renders to, in
  terms of Python's string operations (`join`, `%`-formatting, `+`), independent of any table.
  Then, from "the model against a table row" on: the `…Spec` structures (what the model assumes of
  one row) and the `…_eq_row` lemmas (model = interpreter for any row with these entries).
-/
namespace PV.C14
open PV

/-- the text of a printer result -/
def outText (x : COut) : String × List String × CSt := (x.1.render, x.2.1, x.2.2)

/-- a structure printer seen as a text printer -/
def textPrinter (f : CSt → Expr → Nat → Except CErr COut) : C14Printer :=
  fun st e enc => (f st e enc).map outText

def outsText (x : List Doc × List String × CSt) : List String × List String × CSt :=
  (x.1.map Doc.render, x.2.1, x.2.2)

theorem printAll_text (f : CSt → Expr → Nat → Except CErr COut) :
    ∀ pl st, (printAll f st pl).map outsText = c14PrintAll (textPrinter f) st pl := by
  intro pl
  induction pl with
  | nil => intro st; rfl
  | cons x rest ih =>
    intro st
    obtain ⟨e, enc⟩ := x
    simp only [printAll, c14PrintAll, textPrinter, bind, Except.bind]
    cases h1 : f st e enc with
    | error err => rfl
    | ok v =>
      obtain ⟨d1, r1, st1⟩ := v
      simp only [Except.map, outText]
      rw [← ih st1]
      cases h2 : printAll f st1 rest with
      | error err => rfl
      | ok w =>
        obtain ⟨ds2, r2, st2⟩ := w
        rfl

theorem printAll_length (f : CSt → Expr → Nat → Except CErr COut) :
    ∀ pl st ds r st', printAll f st pl = .ok (ds, r, st') → ds.length = pl.length := by
  intro pl
  induction pl with
  | nil =>
    intro st ds r st' h
    simp only [printAll, pure, Except.pure, Except.ok.injEq, Prod.mk.injEq] at h
    rw [← h.1]
    rfl
  | cons x rest ih =>
    intro st ds r st' h
    obtain ⟨e, enc⟩ := x
    simp only [printAll, bind, Except.bind] at h
    cases h1 : f st e enc with
    | error err => simp [h1] at h
    | ok v =>
      obtain ⟨d1, r1, st1⟩ := v
      simp only [h1] at h
      cases h2 : printAll f st1 rest with
      | error err => simp [h2] at h
      | ok w =>
        obtain ⟨ds2, r2, st2⟩ := w
        simp only [h2, pure, Except.pure, Except.ok.injEq, Prod.mk.injEq] at h
        rw [← h.1, List.length_cons, List.length_cons, ih st1 ds2 r2 st2 h2]

/-! ### dispatch and named precedences -/

/-- position in `T.handlers` of the handler the dispatch of `T` reaches for `e`: a number, so that
for a concrete table the kernel can compute it -/
def bodyPos (T : C14Table) (e : Expr) : Option Nat :=
  match T.handlerName e with
  | some h => T.handlers.findIdx? (fun x => x.name == h)
  | none => none

theorem bodyOf_eq_pos (T : C14Table) (e : Expr) :
    T.bodyOf e = (bodyPos T e).bind fun i => T.handlers[i]?.map (·.body) := by
  unfold C14Table.bodyOf bodyPos
  cases T.handlerName e with
  | none => rfl
  | some h =>
    simp only [List.find?_eq_bind_findIdx?_getElem?]
    cases List.findIdx? (fun x => x.name == h) T.handlers with
    | none => rfl
    | some i =>
      simp only [Option.bind_some]
      cases T.handlers[i]? <;> rfl

/-- the dispatch looks at the class of a node only -/
theorem bodyPos_classRep (T : C14Table) (e : Expr) : bodyPos T e = bodyPos T e.classRep := by
  have h : T.handlerName e = T.handlerName e.classRep := by
    cases e with
    | const k => cases k <;> rfl
    | _ => rfl
  rw [bodyPos, h]
  rfl

/-- so does `isinstance` -/
theorem isInst_classRep (e : Expr) : c14IsInst e = c14IsInst e.classRep := by
  funext cls
  cases e with
  | const k => cases k <;> rfl
  | _ => rfl

/-- the `PREC_*` constants by name (one rewrite rule each) -/
theorem precNamed_eq (S : PrintPrec) :
    c14PrecNamed S "PREC_CALL" = some S.call ∧ c14PrecNamed S "PREC_POWER" = some S.power ∧
    c14PrecNamed S "PREC_UNARY" = some S.unary ∧ c14PrecNamed S "PREC_PRODUCT" = some S.product ∧
    c14PrecNamed S "PREC_SUM" = some S.sum ∧ c14PrecNamed S "PREC_SHIFT" = some S.shift ∧
    c14PrecNamed S "PREC_BITWISE_AND" = some S.band ∧
    c14PrecNamed S "PREC_BITWISE_XOR" = some S.bxor ∧
    c14PrecNamed S "PREC_BITWISE_OR" = some S.bor ∧
    c14PrecNamed S "PREC_COMPARISON" = some S.comparison ∧
    c14PrecNamed S "PREC_LOGICAL_AND" = some S.land ∧
    c14PrecNamed S "PREC_LOGICAL_OR" = some S.lor ∧ c14PrecNamed S "PREC_IF" = some S.ifp ∧
    c14PrecNamed S "PREC_NONE" = some S.none := by
  simp only [c14PrecNamed, and_self]

/-! ### `join` -/

/-- `sep + x1 + sep + x2 + …` -/
def tailJoin (sep : String) : List String → String
  | [] => ""
  | x :: xs => sep ++ x ++ tailJoin sep xs

theorem intercalate_cons (sep t : String) (l : List String) :
    sep.intercalate (t :: l) = t ++ tailJoin sep l := by
  induction l generalizing t with
  | nil => simp [tailJoin]
  | cons u l ih =>
    rw [String.intercalate_cons_cons, ih u]
    simp [tailJoin, String.append_assoc]

theorem render_foldl_bin (op : COp) (ds : List Doc) (acc : Doc) :
    (ds.foldl (fun a x => Doc.bin a op x) acc).render
      = acc.render ++ tailJoin op.text (ds.map Doc.render) := by
  induction ds generalizing acc with
  | nil => simp [tailJoin]
  | cons d ds ih =>
    simp only [List.foldl_cons, List.map_cons, ih, Doc.render, tailJoin, String.append_assoc]

/-- `joiner.join(strings)` is what the chain of infix nodes renders to -/
theorem render_joinDocs (op : COp) (ds : List Doc) :
    (joinDocs op ds).render = op.text.intercalate (ds.map Doc.render) := by
  cases ds with
  | nil => simp [joinDocs, Doc.render]
  | cons d ds =>
    simp only [joinDocs, List.map_cons, intercalate_cons, render_foldl_bin]

/-- `map_min` (shared by `Max`) prints the lower-cased class name and the joined operands; the
model's two-operand form renders to the same text -/
theorem assemble_minmax (S : PrintPrec) (rev : Bool) (o : NaryOp) (ho : o = .min ∨ o = .max)
    (cs : List Expr) (enc : Nat) (ds : List Doc) :
    (assemble S rev (.nary o cs) enc ds).map Doc.render
      = .ok (c14Lower o.name ++ "(" ++ joinText ", " ds ++ ")") := by
  rcases ho with rfl | rfl <;> rcases ds with _ | ⟨a, _ | ⟨b, _ | ⟨c, r⟩⟩⟩ <;>
    simp [assemble, Except.map, pure, Except.pure, Doc.render, joinText, c14Lower, NaryOp.name,
      String.append_assoc]

/-! ### `sort` -/

theorem insertDoc_render (rev : Bool) (x : Doc) (ds : List Doc) :
    (insertDoc rev x ds).map Doc.render = c14InsertStr rev x.render (ds.map Doc.render) := by
  induction ds with
  | nil => rfl
  | cons y ys ih =>
    simp only [insertDoc, List.map_cons, c14InsertStr]
    split
    · rfl
    · simp only [List.map_cons, ih]

theorem sortDocs_render (rev : Bool) (ds : List Doc) :
    (sortDocs rev ds).map Doc.render = c14SortStrs rev (ds.map Doc.render) := by
  induction ds with
  | nil => rfl
  | cons x xs ih => simp only [sortDocs, insertDoc_render, ih, List.map_cons, c14SortStrs]

/-! ### `%`-formatting of the negatives of a sum -/

theorem formatEach_one (a b : String) (l : List String) :
    c14FormatEach [a, b] l = some (l.map fun x => a ++ x ++ b) := by
  induction l with
  | nil => rfl
  | cons x xs ih => simp [c14FormatEach, c14Format, ih]

theorem intercalate_empty_map (a : String) (l : List String) :
    "".intercalate (l.map fun x => a ++ x ++ "") = tailJoin a l := by
  cases l with
  | nil => simp [tailJoin]
  | cons x xs =>
    rw [List.map_cons, intercalate_cons]
    induction xs generalizing x with
    | nil => simp [tailJoin]
    | cons y ys ih =>
      simp only [List.map_cons, tailJoin, String.empty_append, String.append_empty] at ih ⊢
      rw [← ih y]

/-! ### forced parentheses -/

theorem parenIfD_render (d : Doc) (enc my : Nat) :
    (parenIfD d enc my).render = if enc > my then "(" ++ d.render ++ ")" else d.render := by
  unfold parenIfD
  split <;> rfl

/-! ## the model against a table row with the expected entries

Each `…Spec` lists what the hand-written model assumes about one piece of the source; the lemmas
prove the model equal to the table interpreter for ANY row with these entries
(PV/Properties/C14Table.lean shows that the regenerated rows have them). -/

/-- what the model's `negProd` assumes about `get_neg_product` -/
structure SumNegSpec (r : C14SumRow) : Prop where
  cls : r.negCls = "Product"
  field : r.negField = "children"
  nonEmpty : r.negNonEmpty = true
  headIndex : r.negHeadIndex = 0
  headPlus : r.negHeadPlus = 1
  twoLen : r.negTwoLen = 2
  twoIndex : r.negTwoIndex = 1
  restCls : r.negRestCls = "Product"
  restFrom : r.negRestFrom = 1

theorem isInst_product : ∀ x : Expr,
    c14IsInst x "Product" = (match x with | .nary .prod _ => true | _ => false) :=
  Expr.eq_of_classReps (fun e => by rw [isInst_classRep])
    (fun e => by
      cases e with
      | const k => cases k <;> rfl
      | nary o _ => cases o <;> rfl
      | _ => rfl)
    (by decide +kernel)

theorem negProd_eq_row (r : C14SumRow) (h : SumNegSpec r) (ch : Expr) :
    negProd ch = c14NegProdT r ch := by
  unfold c14NegProdT
  rw [h.cls, h.field, h.nonEmpty, h.headIndex, h.headPlus, h.twoLen, h.twoIndex, h.restCls,
    h.restFrom, isInst_product]
  cases ch with
  | nary o cs =>
    cases o <;> try rfl
    cases cs with
    | nil => rfl
    | cons c0 rest =>
      simp only [negProd, if_true]
      have hz : c14PlusIsZero c0 1 = plusOneIsZero c0 := rfl
      show _ = (match c14PlusIsZero c0 1 with | .error err => _ | .ok false => _ | .ok true => _)
      rw [hz]
      cases plusOneIsZero c0 with
      | error err => rfl
      | ok b =>
        cases b with
        | false => rfl
        | true =>
          cases rest with
          | nil => rfl
          | cons b1 rest2 =>
            cases rest2 with
            | nil => rfl
            | cons b2 rest3 => rfl
  | _ => rfl

theorem sumPlan_eq_row (S : PrintPrec) (r : C14SumRow) (h : SumNegSpec r)
    (hn : r.negPrec = .named "PREC_PRODUCT") (hp : r.posPrec = .named "PREC_SUM") (enc : Nat) :
    ∀ cs, sumPlan S cs = c14SumPlanL r S enc cs := by
  intro cs
  induction cs with
  | nil => rfl
  | cons ch cs ih =>
    simp only [sumPlan, c14SumPlanL, ← negProd_eq_row r h, hn, hp, bind, Except.bind, ← ih]
    cases negProd ch with
    | error err => rfl
    | ok np =>
      cases np with
      | none => cases sumPlan S cs <;> rfl
      | some x => cases sumPlan S cs <;> rfl

theorem sumSplit_eq_row (r : C14SumRow) (h : SumNegSpec r) :
    ∀ (cs : List Expr) (ds : List Doc),
      ((sumSplit cs ds).1.map Doc.render, (sumSplit cs ds).2.map Doc.render)
        = c14SumSplit r cs (ds.map Doc.render) := by
  intro cs
  induction cs with
  | nil => intro ds; rfl
  | cons ch cs ih =>
    intro ds
    cases ds with
    | nil => rfl
    | cons d ds =>
      simp only [sumSplit, c14SumSplit, List.map_cons, ← negProd_eq_row r h, ← ih ds]
      cases negProd ch with
      | error err => rfl
      | ok np => cases np <;> rfl

/-- `a * a`: plain arithmetic on a constant, the overloaded operator otherwise -/
theorem c14MulE_self (a : Expr) : c14MulE a a = (match a with
    | .const ca => match constBin .mul ca ca with
      | .ok r => pure r
      | .error _ => throw .noClaim
    | _ => match Ops.bin .mul a a with
      | .ok r => pure r
      | .error _ => throw .unsupported) := by
  cases a <;> rfl

/-- the case distinction of the model's `powPlan`, with the squared base written as `c14MulE` -/
theorem powPlan_eq (a b : Expr) : powPlan a b = (match b with
    | .const c =>
      if !b.isConstant then pure .powCall else if !c.truthy then pure .one
      else if c.isOne then pure .base
      else if c.isTwo then (c14MulE a a).map PowPlan.square else pure .powCall
    | _ => pure .powCall) := by
  cases b with
  | const c =>
    have h : (c14MulE a a).map PowPlan.square = (match a with
        | .const ca => match constBin .mul ca ca with
          | .ok r => pure (.square r)
          | .error _ => throw .noClaim
        | _ => match Ops.bin .mul a a with
          | .ok r => pure (.square r)
          | .error _ => throw .unsupported) := by
      rw [c14MulE_self]
      generalize Ops.bin .mul a a = m
      cases a with
      | const ca =>
        dsimp only
        generalize constBin .mul ca ca = k
        cases k <;> rfl
      | _ => cases m <;> rfl
    rw [h]
    rfl
  | _ => rfl

/-- what the model assumes about the helper methods of the stringifier -/
structure HelpersSpec (H : C14Helpers) : Prop where
  format : H.formatIsPercent = true
  joinRec : H.joinRecIsJoinOfForced = true
  join : H.joinIsJoin = true
  forceTest : H.forceTest = "isinstance"
  forceDefault : H.forceDefaultEmpty = true
  forceOpen : H.forceOpen = "("
  forceClose : H.forceClose = ")"
  parenOpen : H.parenOpen = "("
  parenClose : H.parenClose = ")"
  parenIfCmp : H.parenIfCmp = "gt"
  parenIfOpen : H.parenIfOpen = "("
  parenIfClose : H.parenIfClose = ")"

theorem parenIfS_spec {H : C14Helpers} (h : HelpersSpec H) (s : String) (enc my : Nat) :
    c14ParenIfS H s enc my = .ok (if enc > my then "(" ++ s ++ ")" else s) := by
  simp only [c14ParenIfS, h.parenIfCmp, h.parenIfOpen, h.parenIfClose, c14Cmp]
  by_cases hh : enc > my <;> simp [hh, pure, Except.pure]

theorem isMult_eq : ∀ a : Expr,
    isMultiplicative a = c14AnyInst a ["Product", "Quotient", "FloorDiv", "Remainder"] :=
  Expr.eq_of_classReps
    (fun e => by
      cases e with
      | const k => cases k <;> rfl
      | nary o _ => cases o <;> rfl
      | bin o _ _ => cases o <;> rfl
      | _ => rfl)
    (fun e => by rw [c14AnyInst, isInst_classRep]; rfl) (by decide +kernel)

theorem forceWrapD_render {H : C14Helpers} (h : HelpersSpec H) (a : Expr) (x : Doc) :
    (forceWrapD a x).render
      = c14ForceS H ["Product", "Quotient", "FloorDiv", "Remainder"] a x.render := by
  simp only [forceWrapD, c14ForceS, isMult_eq, h.forceOpen, h.forceClose]
  split <;> rfl

theorem forceAll_nil (H : C14Helpers) : ∀ (cs : List Expr) (ss : List String),
    cs.length = ss.length → c14ForceAll H [] cs ss = ss
  | [], [], _ => rfl
  | c :: cs, s :: ss, h => by
      have : c14ForceS H [] c s = s := rfl
      simp only [c14ForceAll, this, forceAll_nil H cs ss (by simpa using h)]
  | [], _ :: _, h => by simp at h
  | _ :: _, [], h => by simp at h

theorem len0 {α : Type} {l : List α} (h : l.length = 0) : l = [] := List.eq_nil_of_length_eq_zero h
theorem len1 {α : Type} {l : List α} (h : l.length = 1) : ∃ x, l = [x] := by
  match l, h with
  | [x], _ => exact ⟨x, rfl⟩
theorem len2 {α : Type} {l : List α} (h : l.length = 2) : ∃ x y, l = [x, y] := by
  match l, h with
  | [x, y], _ => exact ⟨x, y, rfl⟩
theorem len3 {α : Type} {l : List α} (h : l.length = 3) : ∃ x y z, l = [x, y, z] := by
  match l, h with
  | [x, y, z], _ => exact ⟨x, y, z, rfl⟩

theorem take_len_map {α β : Type} (f : α → β) (l : List α) :
    (l.map f).take l.length = l.map f := by
  have := List.take_length (l := l.map f)
  simpa using this

theorem drop_len_map {α β : Type} (f : α → β) (l : List α) : (l.map f).drop l.length = [] := by
  have := List.drop_length (l := l.map f)
  simpa using this

theorem isInst_variable : ∀ g : Expr,
    c14IsInst g "Variable" = (match g with | .var _ => true | _ => false) :=
  Expr.eq_of_classReps (fun e => by rw [isInst_classRep])
    (fun e => by
      cases e with
      | const k => cases k <;> rfl
      | _ => rfl)
    (by decide +kernel)

/-- what the model's sum assumes about the rest of `map_sum` -/
structure SumAsmSpec (r : C14SumRow) : Prop where
  field : r.field = "children"
  posSorted : r.posSorted = true
  negSorted : r.negSorted = true
  posSep : r.posSep = " + "
  negPieces : r.negPieces = [" - ", ""]
  negSep : r.negSep = ""
  posFirst : r.posFirst = true
  ownEnc : r.ownEnc = .enclosing
  ownPrec : r.ownPrec = .named "PREC_SUM"

theorem sumAsm_eq_row (r : C14SumRow) (hn : SumNegSpec r) (ha : SumAsmSpec r) {H : C14Helpers}
    (hH : HelpersSpec H) (S : PrintPrec) (rev : Bool) (enc : Nat) (cs : List Expr) (ds : List Doc) :
    (assemble S rev (.nary .sum cs) enc ds).map Doc.render
      = c14SumAsm r S H rev (.nary .sum cs) enc (ds.map Doc.render) := by
  unfold c14SumAsm
  rw [ha.field, ha.posSorted, ha.negSorted, ha.posSep, ha.negPieces, ha.negSep, ha.posFirst,
    ha.ownEnc, ha.ownPrec]
  have he : c14Elems (.nary .sum cs) "children" = .ok cs := rfl
  simp only [he, ← sumSplit_eq_row r hn cs ds, if_true, ← sortDocs_render, formatEach_one,
    intercalate_empty_map, C14Prec.eval, c14PrecNamed, parenIfS_spec hH, assemble, pure,
    Except.pure, Except.map, parenIfD_render, render_foldl_bin, render_joinDocs, COp.text]

theorem render_parens (ps : List Piece) : render (parens ps) = "(" ++ render ps ++ ")" := by
  apply String.toList_inj.mp
  simp [render, parens, String.toList_join, String.toList_append, sy, Tok.text]

/-- what the model's `constDoc` assumes about `map_constant` -/
structure ConstSpec (r : C14ConstRow) : Prop where
  textOf : r.textOf = "str"
  bracketOpen : r.bracketOpen = "("
  bracketClose : r.bracketClose = ")"
  signs : r.signs = ["-", "+"]
  guardCmp : r.guardCmp = "gt"
  guardPrec : r.guardPrec = .named "PREC_SUM"
  wraps : r.wrapsWithParenthesize = true

theorem constAsm_eq_row (r : C14ConstRow) (hr : ConstSpec r) {H : C14Helpers} (hH : HelpersSpec H)
    (S : PrintPrec) (c : Const) (enc : Nat) :
    (constDoc S c enc).map Doc.render = c14ConstAsm r S H c enc := by
  unfold c14ConstAsm
  rw [hr.signs, hr.guardCmp, hr.guardPrec, hr.wraps, hH.parenOpen, hH.parenClose]
  cases c with
  | int n =>
    simp [constDoc, c14ConstBody, C14Prec.eval, c14PrecNamed, c14Cmp, c14ConstBracketed,
      c14ConstHas, pure, Except.pure, Except.map]
    by_cases h1 : n < 0 <;> by_cases h2 : enc > S.sum <;> simp [h1, h2, Doc.render]
  | bool b =>
    simp [constDoc, constPieces, c14ConstBody, C14Prec.eval, c14PrecNamed, c14Cmp,
      c14ConstBracketed, c14ConstHas, pure, Except.pure, Except.map, Doc.render]
  | flt s n d =>
    by_cases hd : d = 0
    · simp [constDoc, constPieces, c14ConstBody, hd, Except.map]
      rfl
    · simp [constDoc, constPieces, c14ConstBody, hd, C14Prec.eval, c14PrecNamed, c14Cmp,
        c14ConstBracketed, c14ConstHas, pure, Except.pure, Except.map]
      by_cases hneg : ['-'] <+: s.toList <;> by_cases hpl : '+' ∈ s.toList <;>
        by_cases hm : '-' ∈ s.toList <;> by_cases h2 : S.sum < enc <;>
        simp [hneg, hpl, hm, h2, Doc.render, render_parens]
  | str s => rfl
  | none => rfl

/-- what the model's `ccodeCse` / `candName` assume about `map_common_subexpression` -/
structure CseSpec (r : C14CseRow) : Prop where
  keyField : r.keyField = "child"
  missExc : r.missExc = "KeyError"
  recArg : r.recArg = .field "child"
  recPrec : r.recPrec = .named "PREC_NONE"
  prefixField : r.prefixField = "prefix"
  withFirst : r.withFirst = [.selfPrefix, .lit "_", .exprPrefix]
  withStart : r.withStart = 2
  withNext : r.withNext = [.selfPrefix, .lit "_", .exprPrefix, .lit "_", .counter]
  withoutStart : r.withoutStart = 0
  withoutNext : r.withoutNext = [.selfPrefix, .counter]
  takenIn : r.takenIn = "cse_names"
  effects : r.effects = [.appendList true, .storeToName "child", .addName, .assertSameLen]
  returnsName : r.returnsName = true

theorem cand_eq_row (r : C14CseRow) (h : CseSpec r) (pfx : String) (p : Option String) :
    c14CandT r pfx p = candName pfx p := by
  funext i
  unfold c14CandT candName
  rw [h.withFirst, h.withStart, h.withNext, h.withoutStart, h.withoutNext]
  cases p with
  | none => simp [c14Cat, C14NamePart.text]
  | some q =>
    by_cases hi : i = 0
    · simp [hi, c14Cat, C14NamePart.text]
    · have : 2 + (i - 1) = i + 1 := by omega
      simp [hi, c14Cat, C14NamePart.text, this]

theorem cse_eq_row (r : C14CseRow) (h : CseSpec r) (S : PrintPrec)
    (f : CSt → Expr → Nat → Except CErr COut) (st : CSt) (c : Expr) (p : Option String)
    (sc : String) (enc : Nat) :
    (ccodeCse S f st c p).map outText = c14CseT r S (textPrinter f) st c p sc enc := by
  unfold c14CseT ccodeCse
  rw [h.keyField, h.missExc, h.recArg, h.recPrec, h.prefixField, h.takenIn, h.effects,
    h.returnsName]
  simp only [cand_eq_row r h]
  have hk : c14CseKey "child" c p sc = .ok c := rfl
  simp only [hk]
  by_cases hl : c.hasList = true
  · simp [hl]; rfl
  · simp only [hl]
    cases hf : st.toName.find? (fun kv => kv.1.eq (.expr c)) with
    | some kv => simp [Except.map, outText, pure, Except.pure, Doc.render]
    | none =>
      simp [C14Arg.eval, c14Field, C14Prec.eval, c14PrecNamed, textPrinter, pure, Except.pure]
      cases hff : f st c S.none with
      | error err => rfl
      | ok v =>
        obtain ⟨d, rr, st1⟩ := v
        simp [Except.map, outText, freshName]
        cases firstFree st1.names (candName st1.pfx p) (st1.names.length + 1) 0 with
        | none => rfl
        | some n =>
          have hk2 : c14CseKey "child" c p sc = .ok c := rfl
          simp only [c14CseEffects, c14CseEffectRun, hk2, if_true]
          cases hf1 : st1.toName.find? (fun kv => kv.1.eq (.expr c)) with
          | some kv => simp [hf1, pure, Except.pure, throw, throwThe, MonadExceptOf.throw]
          | none => simp [hf1, pure, Except.pure, Doc.render]

theorem dictOf_second_first (l : List CEntry) :
    c14DictOf .second .first l = some (l.foldl (fun d e => dictSet d e.val e.name) []) := by
  unfold c14DictOf
  generalize ([] : List (CCKey × String)) = d
  induction l generalizing d with
  | nil => rfl
  | cons e l ih =>
    simp only [List.foldl_cons, C14Sel.str, C14Sel.key] at ih ⊢
    exact ih _

end PV.C14
