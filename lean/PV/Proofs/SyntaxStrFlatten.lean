import PV.Proofs.SyntaxFlatten
/-
  C06.  The stringifier does not see the nesting of sums and products: `str(flattenAssoc e)` and
  `str(e)` are the same pieces, provided no n-ary node is empty.  Consequences: the round trip
  for trees with arbitrarily nested sums/products, and "printing the reparsed tree gives the
  first string".
-/
namespace PV.Syntax
open PV

/-! ### `joinWith` and splicing -/

theorem joinWith_cons_cons (sep x y : Pieces) (ys : List Pieces) :
    joinWith sep (x :: y :: ys) = x ++ sep ++ joinWith sep (y :: ys) := by
  simp [joinWith]

/-- `joinWith` of a list depends on the tail only through its `joinWith` and its emptiness -/
theorem joinWith_cons_congr (sep x : Pieces) {ys zs : List Pieces}
    (h1 : joinWith sep ys = joinWith sep zs) (h2 : ys.isEmpty = zs.isEmpty) :
    joinWith sep (x :: ys) = joinWith sep (x :: zs) := by
  cases ys with
  | nil => cases zs with
    | nil => rfl
    | cons z zs => simp at h2
  | cons y ys => cases zs with
    | nil => simp at h2
    | cons z zs => simp only [joinWith_cons_cons, h1]

theorem joinWith_splice_head (sep : Pieces) : ∀ (ys zs : List Pieces), ys ≠ [] →
    joinWith sep (joinWith sep ys :: zs) = joinWith sep (ys ++ zs)
  | [], _, h => absurd rfl h
  | [y], zs, _ => by simp [joinWith]
  | y :: y' :: ys, zs, _ => by
    have ih := joinWith_splice_head sep (y' :: ys) zs (by simp)
    cases zs with
    | nil => simp [joinWith]
    | cons z zs =>
      simp only [List.cons_append, joinWith_cons_cons] at ih ⊢
      rw [← ih]
      simp [List.append_assoc]

theorem joinWith_splice (sep : Pieces) : ∀ (xs ys zs : List Pieces), ys ≠ [] →
    joinWith sep (xs ++ joinWith sep ys :: zs) = joinWith sep (xs ++ (ys ++ zs))
  | [], ys, zs, h => joinWith_splice_head sep ys zs h
  | x :: xs, ys, zs, h => by
    simp only [List.cons_append]
    apply joinWith_cons_congr
    · exact joinWith_splice sep xs ys zs h
    · cases xs <;> cases ys <;> simp_all

/-! ### a generic child-list printer -/

def mapE (f : Expr → Except SErr Pieces) : List Expr → Except SErr (List Pieces)
  | [] => pure []
  | c :: cs => do
      let x ← f c
      let xs ← mapE f cs
      pure (x :: xs)

theorem strL_eq_mapE (S : PrintPrec) (enc : Nat) : ∀ cs,
    strL S cs enc = mapE (fun c => strE S c enc) cs
  | [] => by simp [strL, mapE]
  | c :: cs => by simp [strL, mapE, strL_eq_mapE S enc cs]

theorem strForceL_eq_mapE (S : PrintPrec) (all : Bool) (enc : Nat) : ∀ cs,
    strForceL S all cs enc = mapE (fun c => (strE S c enc).map (forceWrap all c)) cs
  | [] => by simp [strForceL, mapE]
  | c :: cs => by
    simp only [strForceL, mapE, strForceL_eq_mapE S all enc cs]
    cases strE S c enc <;> simp [Except.map, bind, Except.bind]

theorem mapE_append (f : Expr → Except SErr Pieces) : ∀ (as bs : List Expr),
    mapE f (as ++ bs) = (do let xs ← mapE f as; let ys ← mapE f bs; pure (xs ++ ys))
  | [], bs => by simp [mapE]
  | a :: as, bs => by
    simp only [List.cons_append, mapE, mapE_append f as bs]
    cases f a <;> simp [bind, Except.bind]
    cases mapE f as <;> simp
    cases mapE f bs <;> simp [pure, Except.pure]

theorem mapE_isEmpty {f : Expr → Except SErr Pieces} {cs : List Expr} {xs : List Pieces}
    (h : mapE f cs = .ok xs) : xs.isEmpty = cs.isEmpty := by
  cases cs with
  | nil => simp only [mapE, pure, Except.pure, Except.ok.injEq] at h; subst h; rfl
  | cons c cs =>
    simp only [mapE, bind_eq_ok, pure, Except.pure, Except.ok.injEq] at h
    obtain ⟨_, _, _, _, rfl⟩ := h; rfl

theorem mapE_congr {f g : Expr → Except SErr Pieces} : ∀ {cs : List Expr},
    (∀ c ∈ cs, f c = g c) → mapE f cs = mapE g cs
  | [], _ => rfl
  | c :: cs, h => by
    simp only [mapE, h c (List.mem_cons_self ..),
      mapE_congr (cs := cs) (fun d hd => h d (List.mem_cons_of_mem _ hd))]

theorem map_bind_pure {ε α β γ δ : Type} (x : Except ε α) (y : Except ε β) (g : α → β → γ)
    (h : γ → δ) : (x >>= fun a => y >>= fun b => pure (g a b)).map h
      = x >>= fun a => y.map fun b => h (g a b) := by
  cases x <;> cases y <;> rfl

theorem flatOne_other {op : NaryOp} {y : Expr} (h : ∀ ds, y ≠ .nary op ds) : flatOne op y = [y] := by
  unfold flatOne
  split
  · rename_i o ds
    split
    · rename_i ho
      exact absurd (by rw [eq_of_beq ho]) (h ds)
    · rfl
  · rfl

/-- the flattened operand list prints to the same joined pieces -/
theorem mapE_flattenInto (op : NaryOp) (f : Expr → Except SErr Pieces) (sep : Pieces) :
    ∀ (cs : List Expr),
    (∀ c ∈ cs, (∀ ds, flattenAssoc c = .nary op ds →
        ds ≠ [] ∧ f c = (mapE f ds).map (joinWith sep)) ∧
      ((∀ ds, flattenAssoc c ≠ .nary op ds) → f (flattenAssoc c) = f c)) →
    ∀ xs0 : List Pieces,
      (mapE f (flattenInto op cs)).map (fun ys => joinWith sep (xs0 ++ ys))
        = (mapE f cs).map (fun zs => joinWith sep (xs0 ++ zs))
  | [], _, xs0 => by simp [flattenInto_nil]
  | c :: cs, h, xs0 => by
    have ih := mapE_flattenInto op f sep cs (fun d hd => h d (List.mem_cons_of_mem _ hd))
    obtain ⟨h2, h1⟩ := h c (List.mem_cons_self ..)
    rw [flattenInto_cons, mapE_append, mapE, map_bind_pure, map_bind_pure]
    by_cases hop : ∃ ds, flattenAssoc c = .nary op ds
    · obtain ⟨ds, hds⟩ := hop
      obtain ⟨hne, hfc⟩ := h2 ds hds
      rw [hds, flatOne_self, hfc]
      cases hm : mapE f ds with
      | error e => rfl
      | ok xs =>
        have hxs : xs ≠ [] := fun hx => hne (List.isEmpty_iff.mp (mapE_isEmpty hm ▸ hx ▸ rfl))
        show (mapE f (flattenInto op cs)).map (fun ys => joinWith sep (xs0 ++ (xs ++ ys)))
          = (mapE f cs).map (fun zs => joinWith sep (xs0 ++ joinWith sep xs :: zs))
        simp only [joinWith_splice sep xs0 xs _ hxs, ← List.append_assoc]
        exact ih (xs0 ++ xs)
    · have hno : ∀ ds, flattenAssoc c ≠ .nary op ds := fun ds hds => hop ⟨ds, hds⟩
      rw [flatOne_other hno, mapE, mapE, h1 hno]
      cases hx : f c with
      | error e => rfl
      | ok x =>
        show (mapE f (flattenInto op cs)).map (fun ys => joinWith sep (xs0 ++ ([x] ++ ys)))
          = (mapE f cs).map (fun zs => joinWith sep (xs0 ++ ([x] ++ zs)))
        simp only [← List.append_assoc]
        exact ih (xs0 ++ [x])

/-! ### what `flattenAssoc` preserves at the top of a tree -/

theorem fA_nary (o : NaryOp) (cs : List Expr) : ∃ ds, flattenAssoc (.nary o cs) = .nary o ds := by
  cases o <;> exact ⟨_, rfl⟩

theorem fA_nary_inv {c : Expr} {op : NaryOp} {ds : List Expr} (h : flattenAssoc c = .nary op ds) :
    ∃ cs0, c = .nary op cs0 := by
  cases c with
  | nary o cs =>
    obtain ⟨ds', hds'⟩ := fA_nary o cs
    exact ⟨cs, (Expr.nary.inj (hds'.symm.trans h)).1 ▸ rfl⟩
  | _ => cases h

theorem fA_isDivision (c : Expr) : isDivision (flattenAssoc c) = isDivision c := by
  cases c with
  | nary o cs => cases o <;> rfl
  | bin o a b => cases o <;> rfl
  | _ => rfl

theorem fA_isMultiplicative (c : Expr) :
    isMultiplicative (flattenAssoc c) = isMultiplicative c := by
  cases c with
  | nary o cs => cases o <;> rfl
  | bin o a b => cases o <;> rfl
  | _ => rfl

theorem fA_not_tuple {i : Expr} (hi : ∀ cs, i ≠ .tuple cs) : ∀ cs, flattenAssoc i ≠ .tuple cs := by
  intro cs h
  cases i with
  | tuple ds => exact hi ds rfl
  | nary o ds => obtain ⟨ds', hds'⟩ := fA_nary o ds; cases hds'.symm.trans h
  | _ => cases h

theorem fA_not_none {c : Expr} (hc : c ≠ .const .none) : flattenAssoc c ≠ .const .none := by
  intro h
  cases c with
  | const k => exact hc h
  | nary o ds => obtain ⟨ds', hds'⟩ := fA_nary o ds; cases hds'.symm.trans h
  | _ => cases h

/-! ### no empty n-ary node -/

mutual
/-- every n-ary node has at least one operand -/
def nonemptyNary : Expr → Bool
  | .nary _ cs => !cs.isEmpty && nonemptyNaryL cs
  | .bin _ a b => nonemptyNary a && nonemptyNary b
  | .un _ a => nonemptyNary a
  | .cmp _ a b => nonemptyNary a && nonemptyNary b
  | .ite c t e => nonemptyNary c && nonemptyNary t && nonemptyNary e
  | .call f as => nonemptyNary f && nonemptyNaryL as
  | .callKw f as _ vs => nonemptyNary f && nonemptyNaryL as && nonemptyNaryL vs
  | .subscript a i => nonemptyNary a && nonemptyNary i
  | .lookup a _ => nonemptyNary a
  | .slice cs => nonemptyNaryL cs
  | .tuple cs => nonemptyNaryL cs
  | .list cs => nonemptyNaryL cs
  | _ => true
def nonemptyNaryL : List Expr → Bool
  | [] => true
  | c :: cs => nonemptyNary c && nonemptyNaryL cs
end

theorem nonemptyNaryL_iff : ∀ {cs : List Expr},
    nonemptyNaryL cs = true ↔ ∀ c ∈ cs, nonemptyNary c = true
  | [] => by simp [nonemptyNaryL]
  | d :: ds => by
    simp only [nonemptyNaryL, Bool.and_eq_true, List.forall_mem_cons, nonemptyNaryL_iff (cs := ds)]

theorem nonemptyNaryL_mem {cs : List Expr} (h : nonemptyNaryL cs = true) :
    ∀ c ∈ cs, nonemptyNary c = true := nonemptyNaryL_iff.mp h

theorem parenIf_self (p : Pieces) (a : Nat) : parenIf p a a = p := by simp [parenIf]

theorem strE_sum_eq (S : PrintPrec) (cs : List Expr) (enc : Nat) :
    strE S (.nary .sum cs) enc =
      ((mapE (fun c => (strE S c S.sum).map id) cs).map (joinWith [.sp, sy "+", .sp])).map
        (fun p => parenIf p enc S.sum) := by
  have : (fun c => (strE S c S.sum).map id) = fun c => strE S c S.sum :=
    funext fun c => by cases strE S c S.sum <;> rfl
  simp only [strE, strL_eq_mapE, this]
  cases mapE (fun c => strE S c S.sum) cs <;> rfl

theorem strE_prod_eq (S : PrintPrec) (cs : List Expr) (enc : Nat) :
    strE S (.nary .prod cs) enc =
      ((mapE (fun c => (strE S c S.product).map (forceWrap false c)) cs).map
        (joinWith [sy "*"])).map (fun p => parenIf p enc S.product) := by
  simp only [strE, strForceL_eq_mapE]
  cases mapE (fun c => (strE S c S.product).map (forceWrap false c)) cs <;> rfl

theorem flatOne_ne_nil {op : NaryOp} {y : Expr} (h : ∀ ds, y = .nary op ds → ds ≠ []) :
    flatOne op y ≠ [] := by
  unfold flatOne
  split
  · rename_i o ds
    split
    · rename_i ho
      have : o = op := by simpa using ho
      subst this
      exact h ds rfl
    · simp
  · simp

theorem strL_fAL (S : PrintPrec) (enc : Nat) : ∀ (cs : List Expr),
    (∀ c ∈ cs, strE S (flattenAssoc c) enc = strE S c enc) →
    strL S (flattenAssocL cs) enc = strL S cs enc
  | [], _ => by simp [flattenAssocL]
  | c :: cs, h => by
    simp only [flattenAssocL, strL, h c (List.mem_cons_self ..),
      strL_fAL S enc cs (fun d hd => h d (List.mem_cons_of_mem _ hd))]

theorem strSliceL_fAL (S : PrintPrec) : ∀ (cs : List Expr),
    (∀ c ∈ cs, strE S (flattenAssoc c) S.none = strE S c S.none) →
    strSliceL S (flattenAssocL cs) = strSliceL S cs
  | [], _ => by simp [flattenAssocL]
  | c :: cs, h => by
    have ih := strSliceL_fAL S cs (fun d hd => h d (List.mem_cons_of_mem _ hd))
    by_cases hc : c = .const .none
    · subst hc
      simp only [flattenAssocL, flattenAssoc, strSliceL, ih]
    · have hc' := fA_not_none hc
      simp only [flattenAssocL]
      rw [strSliceL, strSliceL, ih, h c (List.mem_cons_self ..)]
      · exact fun h' => hc h'
      · exact fun h' => hc' h'

theorem forceWrap_fA (all : Bool) (c : Expr) :
    forceWrap all (flattenAssoc c) = forceWrap all c := by
  funext x; simp [forceWrap, fA_isDivision, fA_isMultiplicative]

/-- flattening leaves no empty n-ary node at the top -/
theorem fA_nary_ne_nil {e : Expr} (hne : nonemptyNary e = true) {op : NaryOp} {ds : List Expr}
    (h : flattenAssoc e = .nary op ds) : ds ≠ [] := by
  induction e using Expr.induct generalizing op ds with | _ e ih => ?_
  obtain ⟨cs, rfl⟩ := fA_nary_inv h
  simp only [nonemptyNary, Bool.and_eq_true, Bool.not_eq_true', List.isEmpty_eq_false_iff] at hne
  obtain ⟨c0, cs0, rfl⟩ := List.exists_cons_of_ne_nil hne.1
  have h0 : flatOne op (flattenAssoc c0) ≠ [] := flatOne_ne_nil fun ds hds =>
    ih c0 (List.mem_cons_self ..) (nonemptyNaryL_mem hne.2 c0 (List.mem_cons_self ..)) hds
  cases op with
  | sum =>
    rw [flattenAssoc_sum, flattenInto_cons] at h
    exact fun hd => h0 (List.append_eq_nil_iff.mp (hd ▸ (Expr.nary.inj h).2)).1
  | prod =>
    rw [flattenAssoc_prod, flattenInto_cons] at h
    exact fun hd => h0 (List.append_eq_nil_iff.mp (hd ▸ (Expr.nary.inj h).2)).1
  | _ =>
    simp only [flattenAssoc, flattenAssocL, Expr.nary.injEq, true_and] at h
    exact h ▸ List.cons_ne_nil _ _

/-- Sums and products.  Both print their operands at the precedence `prec` of the node, dress
each with `w` (nothing in a sum; parentheses around a division in a product) and join them, so a
nested node of the same kind prints as its operands in a row. -/
theorem str_flatten_nary {S : PrintPrec} {op : NaryOp} {sep : Pieces} {prec : Nat}
    {w : Expr → Pieces → Pieces} (hop : op = .sum ∨ op = .prod)
    (hstr : ∀ cs enc, strE S (.nary op cs) enc =
      ((mapE (fun c => (strE S c prec).map (w c)) cs).map (joinWith sep)).map
        (fun p => parenIf p enc prec))
    (hw : ∀ c, w (flattenAssoc c) = w c) (hwn : ∀ ds x, w (.nary op ds) x = x)
    {cs : List Expr} (hne : nonemptyNaryL cs = true)
    (hch : ∀ c ∈ cs, strE S (flattenAssoc c) prec = strE S c prec) (enc : Nat) :
    strE S (flattenAssoc (.nary op cs)) enc = strE S (.nary op cs) enc := by
  have hfl : flattenAssoc (.nary op cs) = .nary op (flattenInto op cs) := by
    rcases hop with rfl | rfl
    · exact flattenAssoc_sum cs
    · exact flattenAssoc_prod cs
  rw [hfl, hstr, hstr]
  have := mapE_flattenInto op (fun c => (strE S c prec).map (w c)) sep cs
    (fun c hc => ⟨fun ds hds => ⟨fA_nary_ne_nil (nonemptyNaryL_mem hne c hc) hds, by
        obtain ⟨cs0, rfl⟩ := fA_nary_inv hds
        rw [← hch _ hc, hds, hstr]
        cases mapE (fun c => (strE S c prec).map (w c)) ds <;>
          simp only [Except.map, parenIf_self, hwn]⟩,
      fun _ => by simp only [hch c hc, hw]⟩) []
  simp only [List.nil_append] at this
  rw [this]

/-- **The stringifier does not see the nesting of sums and products.** -/
theorem str_flatten (S : PrintPrec) {e : Expr} (hne : nonemptyNary e = true) (enc : Nat) :
    strE S (flattenAssoc e) enc = strE S e enc := by
  induction e using Expr.size_induction generalizing enc with | step e ih => ?_
  have ihL : ∀ {cs : List Expr}, (∀ c ∈ cs, c.size < e.size) → nonemptyNaryL cs = true →
      ∀ enc, strL S (flattenAssocL cs) enc = strL S cs enc := fun hcs hn _ =>
    strL_fAL S _ _ fun c hc => ih c (hcs c hc) (nonemptyNaryL_mem hn c hc) _
  have ihc : ∀ c ∈ e.children, nonemptyNary c = true →
      ∀ enc, strE S (flattenAssoc c) enc = strE S c enc := fun c hc => ih c (Expr.size_lt_of_mem_children hc)
  have hsz : ∀ c ∈ e.children, c.size < e.size := fun c => Expr.size_lt_of_mem_children
  cases e with
  | nary o cs =>
    simp only [nonemptyNary, Bool.and_eq_true] at hne
    cases o with
    | sum =>
      exact str_flatten_nary (w := fun _ => id) (Or.inl rfl) (strE_sum_eq S) (fun _ => rfl)
        (fun _ _ => rfl) hne.2 (fun c hc => ihc c hc (nonemptyNaryL_mem hne.2 c hc) _) enc
    | prod =>
      exact str_flatten_nary (Or.inr rfl) (strE_prod_eq S) (forceWrap_fA false) (fun _ _ => rfl)
        hne.2 (fun c hc => ihc c hc (nonemptyNaryL_mem hne.2 c hc) _) enc
    | _ => simp only [flattenAssoc, strE, ihL (cs := cs) hsz hne.2]
  | bin o a b =>
    simp only [nonemptyNary, Bool.and_eq_true] at hne
    simp only [Expr.children, List.forall_mem_cons] at ihc
    cases o <;> simp only [flattenAssoc, strE, ihc.1 hne.1, ihc.2.1 hne.2, forceWrap_fA]
  | un o a =>
    simp only [nonemptyNary] at hne
    simp only [Expr.children, List.forall_mem_cons] at ihc
    cases o <;> simp only [flattenAssoc, strE, ihc.1 hne]
  | cmp o a b =>
    simp only [nonemptyNary, Bool.and_eq_true] at hne
    simp only [Expr.children, List.forall_mem_cons] at ihc
    simp only [flattenAssoc, strE, ihc.1 hne.1, ihc.2.1 hne.2]
  | ite c t e =>
    simp only [nonemptyNary, Bool.and_eq_true] at hne
    simp only [Expr.children, List.forall_mem_cons] at ihc
    simp only [flattenAssoc, strE, ihc.1 hne.1.1, ihc.2.1 hne.1.2, ihc.2.2.1 hne.2]
  | call f as =>
    simp only [nonemptyNary, Bool.and_eq_true] at hne
    simp only [Expr.children, List.forall_mem_cons] at ihc hsz
    simp only [flattenAssoc, strE, ihc.1 hne.1, ihL hsz.2 hne.2]
  | callKw f as ns vs =>
    simp only [nonemptyNary, Bool.and_eq_true] at hne
    simp only [Expr.children, List.forall_mem_cons, List.forall_mem_append] at ihc hsz
    simp only [flattenAssoc, strE, ihc.1 hne.1.1, ihL hsz.2.1 hne.1.2, ihL hsz.2.2 hne.2]
  | lookup a nm =>
    simp only [nonemptyNary] at hne
    simp only [Expr.children, List.forall_mem_cons] at ihc
    simp only [flattenAssoc, strE, ihc.1 hne]
  | subscript a i =>
    simp only [nonemptyNary, Bool.and_eq_true] at hne
    simp only [Expr.children, List.forall_mem_cons] at ihc
    by_cases hit : ∃ cs, i = .tuple cs
    · obtain ⟨cs, rfl⟩ := hit
      -- the index tuple is printed without its parentheses: its elements are what matters
      have hcs : ∀ c ∈ cs, c.size < (Expr.subscript a (.tuple cs)).size := fun c hc => by
        have := Expr.size_le_sizeL hc
        simp only [Expr.size]; omega
      simp only [flattenAssoc, strE, ihc.1 hne.1, ihL hcs hne.2]
    · have hnt : ∀ cs, i = .tuple cs → False := fun cs h => hit ⟨cs, h⟩
      have hnt' : ∀ cs, flattenAssoc i = .tuple cs → False :=
        fun cs h => fA_not_tuple (fun cs h => hnt cs h) cs h
      simp only [flattenAssoc]
      rw [strE, strE, ihc.1 hne.1, ihc.2.1 hne.2]
      · exact hnt
      · exact hnt'
  | slice cs =>
    simp only [nonemptyNary] at hne
    simp only [flattenAssoc, strE, strSliceL_fAL S cs fun c hc =>
      ihc c hc (nonemptyNaryL_mem hne c hc) _]
  | tuple cs =>
    simp only [nonemptyNary] at hne
    have hlen : (flattenAssocL cs).length = cs.length := by
      clear hne ihL ih ihc hsz
      induction cs with
      | nil => rfl
      | cons c cs ihc => simp [flattenAssocL, ihc]
    simp only [flattenAssoc, strE, ihL (cs := cs) hsz hne, hlen]
  | list cs =>
    simp only [nonemptyNary] at hne
    simp only [flattenAssoc, strE, ihL (cs := cs) hsz hne]
  | _ => simp only [flattenAssoc]

/-! ### `flattenAssoc` is idempotent -/

theorem flattenInto_flatOne (op : NaryOp) (hop : op = .sum ∨ op = .prod) {c : Expr}
    (hI : flattenAssoc (flattenAssoc c) = flattenAssoc c) :
    flattenInto op (flatOne op (flattenAssoc c)) = flatOne op (flattenAssoc c) := by
  by_cases h : ∃ ds, flattenAssoc c = .nary op ds
  · obtain ⟨ds, hds⟩ := h
    rw [hds] at hI
    have : flattenInto op ds = ds := by
      rcases hop with rfl | rfl
      · rw [flattenAssoc_sum] at hI; simpa using hI
      · rw [flattenAssoc_prod] at hI; simpa using hI
    simp [hds, flatOne, this]
  · have hflat := flatOne_other (op := op) fun ds hds => h ⟨ds, hds⟩
    rw [hflat, flattenInto_cons, hI, hflat, flattenInto_nil]; rfl

theorem flattenInto_idem (op : NaryOp) (hop : op = .sum ∨ op = .prod) : ∀ (cs : List Expr),
    (∀ c ∈ cs, flattenAssoc (flattenAssoc c) = flattenAssoc c) →
    flattenInto op (flattenInto op cs) = flattenInto op cs
  | [], _ => by simp [flattenInto_nil]
  | c :: cs, h => by
    rw [flattenInto_cons, flattenInto_append,
      flattenInto_flatOne op hop (h c (List.mem_cons_self ..)),
      flattenInto_idem op hop cs (fun d hd => h d (List.mem_cons_of_mem _ hd))]

theorem fAL_idem : ∀ (cs : List Expr),
    (∀ c ∈ cs, flattenAssoc (flattenAssoc c) = flattenAssoc c) →
    flattenAssocL (flattenAssocL cs) = flattenAssocL cs
  | [], _ => by simp [flattenAssocL]
  | c :: cs, h => by
    simp only [flattenAssocL, h c (List.mem_cons_self ..),
      fAL_idem cs (fun d hd => h d (List.mem_cons_of_mem _ hd))]

theorem flattenAssoc_idem (e : Expr) : flattenAssoc (flattenAssoc e) = flattenAssoc e := by
  induction e using Expr.induct with | _ e ih => ?_
  cases e with
  | nary o cs =>
    cases o with
    | sum => rw [flattenAssoc_sum, flattenAssoc_sum, flattenInto_idem .sum (Or.inl rfl) cs ih]
    | prod => rw [flattenAssoc_prod, flattenAssoc_prod, flattenInto_idem .prod (Or.inr rfl) cs ih]
    | _ => simp only [flattenAssoc, fAL_idem cs ih]
  | call f as =>
    simp only [Expr.children, List.forall_mem_cons] at ih
    simp only [flattenAssoc, ih.1, fAL_idem as ih.2]
  | callKw f as ns vs =>
    simp only [Expr.children, List.forall_mem_cons, List.forall_mem_append] at ih
    simp only [flattenAssoc, ih.1, fAL_idem as ih.2.1, fAL_idem vs ih.2.2]
  | tuple cs | list cs | slice cs => simp only [flattenAssoc, fAL_idem cs ih]
  | bin | un | cmp | ite | subscript | lookup =>
    simp only [Expr.children, List.forall_mem_cons] at ih
    simp only [flattenAssoc, ih]
  | _ => rfl

/-! ### trees of the fragment and their normal forms have no empty n-ary node -/

theorem nonemptyNaryL_append {as bs : List Expr} (ha : nonemptyNaryL as = true)
    (hb : nonemptyNaryL bs = true) : nonemptyNaryL (as ++ bs) = true :=
  nonemptyNaryL_iff.mpr (List.forall_mem_append.mpr ⟨nonemptyNaryL_mem ha, nonemptyNaryL_mem hb⟩)

theorem printable_nonempty {P : ParserPrec} {S : PrintPrec} {e : Expr}
    (hp : Printable P S e = true) : nonemptyNary e = true := by
  induction e using Expr.induct with | _ e ih => ?_
  have hch : ∀ c ∈ e.children, nonemptyNary c = true := fun c hc =>
    (printable_children' hp c hc).elim (fun h => h ▸ rfl) (ih c hc)
  cases e with
  | nary o cs =>
    obtain ⟨c, d, cs', rfl⟩ := printable_nary hp
    simp only [nonemptyNary, List.isEmpty_cons, Bool.not_false, Bool.true_and]
    exact nonemptyNaryL_iff.mpr hch
  | call f as =>
    simp only [Expr.children, List.forall_mem_cons] at hch
    simp only [nonemptyNary, hch.1, nonemptyNaryL_iff.mpr hch.2, Bool.and_self]
  | callKw f as ns vs =>
    simp only [Expr.children, List.forall_mem_cons, List.forall_mem_append] at hch
    simp only [nonemptyNary, hch.1, nonemptyNaryL_iff.mpr hch.2.1, nonemptyNaryL_iff.mpr hch.2.2,
      Bool.and_self]
  | tuple cs | list cs | slice cs => exact nonemptyNaryL_iff.mpr hch
  | bin | un | cmp | ite | subscript | lookup =>
    simp only [Expr.children, List.forall_mem_cons] at hch
    simp only [nonemptyNary, hch, Bool.and_self]
  | _ => rfl

theorem nn_splice (op : NaryOp) {l r : Expr} (hl : nonemptyNary l = true)
    (hr : nonemptyNary r = true) : nonemptyNary (spliceNary op l r) = true := by
  unfold spliceNary
  split
  · rename_i o cs
    split
    · simp only [nonemptyNary, Bool.and_eq_true, Bool.not_eq_true'] at hl ⊢
      exact ⟨by simp, nonemptyNaryL_append hl.2 (by simp [nonemptyNaryL, hr])⟩
    · simp only [nonemptyNary, nonemptyNaryL, hr, Bool.and_true] at hl ⊢
      simpa using hl
  · simp [nonemptyNary, nonemptyNaryL, hl, hr]

theorem nn_pnfSum : ∀ (cs : List Expr) (acc : Expr), nonemptyNary acc = true →
    (∀ c ∈ cs, nonemptyNary (pnf c) = true) → nonemptyNary (pnfSum acc cs) = true
  | [], acc, h, _ => by simpa [pnfSum] using h
  | c :: cs, acc, h, hc => by
    simp only [pnfSum]
    exact nn_pnfSum cs _ (nn_splice .sum h (hc c (List.mem_cons_self ..)))
      (fun d hd => hc d (List.mem_cons_of_mem _ hd))

theorem nn_pnfProd : ∀ (c : Expr) (cs : List Expr),
    (∀ d ∈ c :: cs, nonemptyNary (pnf d) = true) → nonemptyNary (pnfProd (c :: cs)) = true
  | c, [], h => by rw [pnfProd_one]; exact h c (List.mem_cons_self ..)
  | c, d :: ds, h => by
    rw [pnfProd_cons2]
    exact nn_splice .prod (h c (List.mem_cons_self ..))
      (nn_pnfProd d ds (fun e he => h e (List.mem_cons_of_mem _ he)))

theorem nn_pnfL : ∀ {cs : List Expr}, (∀ c ∈ cs, nonemptyNary (pnf c) = true) →
    nonemptyNaryL (pnfL cs) = true
  | [], _ => rfl
  | c :: cs, h => by
    simp only [pnfL, nonemptyNaryL, Bool.and_eq_true]
    exact ⟨h c (List.mem_cons_self ..), nn_pnfL (fun d hd => h d (List.mem_cons_of_mem _ hd))⟩

theorem pnf_nonempty {P : ParserPrec} {S : PrintPrec} {e : Expr}
    (hp : Printable P S e = true) : nonemptyNary (pnf e) = true := by
  induction e using Expr.induct with | _ e ih => ?_
  have hch : ∀ c ∈ e.children, nonemptyNary (pnf c) = true := fun c hc =>
    (printable_children' hp c hc).elim (fun h => h ▸ rfl) (ih c hc)
  cases e with
  | nary o cs =>
    obtain ⟨c, d, cs', rfl⟩ := printable_nary hp
    cases o with
    | sum =>
      simp only [Expr.children, List.forall_mem_cons] at hch
      simp only [pnf, pnfSum]
      exact nn_pnfSum cs' _ (nn_splice .sum hch.1 hch.2.1) hch.2.2
    | prod => exact nn_pnfProd c (d :: cs') hch
    | _ =>
      simp only [pnf, nonemptyNary, pnfL, List.isEmpty_cons, Bool.not_false, Bool.true_and]
      exact nn_pnfL hch
  | call f as =>
    simp only [Expr.children, List.forall_mem_cons] at hch
    simp only [pnf, nonemptyNary, hch.1, nn_pnfL hch.2, Bool.and_self]
  | callKw f as ns vs =>
    simp only [Expr.children, List.forall_mem_cons, List.forall_mem_append] at hch
    simp only [pnf, nonemptyNary, hch.1, nn_pnfL hch.2.1, nn_pnfL hch.2.2, Bool.and_self]
  | tuple cs | list cs | slice cs => exact nn_pnfL hch
  | bin | un | cmp | ite | subscript | lookup =>
    simp only [Expr.children, List.forall_mem_cons] at hch
    simp only [pnf, nonemptyNary, hch, Bool.and_self]
  | _ => rfl

/-- **Printing the reparsed tree gives the first printed form** (pieces, hence string) -/
theorem str_pnf {P : ParserPrec} {S : PrintPrec} {e : Expr} (hp : Printable P S e = true)
    (enc : Nat) : strE S (pnf e) enc = strE S e enc := by
  rw [← str_flatten S (pnf_nonempty hp), flatten_pnf hp, str_flatten S (printable_nonempty hp)]

/-! ### printing never fails on the fragment -/

def IsOk {ε α : Type} (x : Except ε α) : Prop := ∃ a, x = .ok a

theorem isOk_pure {ε α : Type} {a : α} : IsOk (pure a : Except ε α) := ⟨a, rfl⟩

theorem isOk_bind {ε α β : Type} {x : Except ε α} {f : α → Except ε β} (hx : IsOk x)
    (hf : ∀ a, IsOk (f a)) : IsOk (x >>= f) := by
  obtain ⟨a, rfl⟩ := hx
  exact hf a

theorem isOk_of_bind {ε α β : Type} {x : Except ε α} {f : α → Except ε β} (h : IsOk (x >>= f)) :
    IsOk x := by
  cases x with
  | ok a => exact ⟨a, rfl⟩
  | error => obtain ⟨_, h⟩ := h; cases h

theorem strL_total {S : PrintPrec} {enc : Nat} : ∀ {cs : List Expr},
    (∀ c ∈ cs, IsOk (strE S c enc)) → IsOk (strL S cs enc)
  | [], _ => isOk_pure
  | c :: _, h =>
    isOk_bind (h c (List.mem_cons_self ..)) fun _ =>
      isOk_bind (strL_total fun d hd => h d (List.mem_cons_of_mem _ hd)) fun _ => isOk_pure

theorem strForceL_total {S : PrintPrec} {all : Bool} {enc : Nat} : ∀ {cs : List Expr},
    (∀ c ∈ cs, IsOk (strE S c enc)) → IsOk (strForceL S all cs enc)
  | [], _ => isOk_pure
  | c :: _, h =>
    isOk_bind (h c (List.mem_cons_self ..)) fun _ =>
      isOk_bind (strForceL_total fun d hd => h d (List.mem_cons_of_mem _ hd)) fun _ => isOk_pure

theorem strSliceL_total {S : PrintPrec} : ∀ {cs : List Expr},
    (∀ c ∈ cs, c ≠ .const .none → IsOk (strE S c S.none)) → IsOk (strSliceL S cs)
  | [], _ => isOk_pure
  | c :: cs, h => by
    have ih := strSliceL_total fun d hd => h d (List.mem_cons_of_mem _ hd)
    by_cases hc : c = .const .none
    · subst hc
      exact isOk_bind ih fun _ => isOk_pure
    · rw [strSliceL]
      · exact isOk_bind (h c (List.mem_cons_self ..) hc) fun _ => isOk_bind ih fun _ => isOk_pure
      · exact fun h' => hc h'

/-- **printing never fails on the fragment** -/
theorem str_total {P : ParserPrec} {S : PrintPrec} {e : Expr} (hp : Printable P S e = true)
    (enc : Nat) : ∃ ps, strE S e enc = .ok ps := by
  induction e using Expr.induct generalizing enc with | _ e ih => ?_
  by_cases hs : ∃ cs, e = .slice cs
  · obtain ⟨cs, rfl⟩ := hs
    exact isOk_bind (strSliceL_total fun c hc hn =>
      ((printable_children' hp c hc).resolve_left hn |> ih c hc) _) fun _ => isOk_pure
  have hch : ∀ c ∈ e.children, ∀ enc, IsOk (strE S c enc) := fun c hc =>
    ih c hc (printable_children hp (fun cs h => hs ⟨cs, h⟩) c hc)
  cases e with
  | const k =>
    cases k with
    | int i => simp only [strE, constPieces]; split <;> exact isOk_pure
    | bool b => exact isOk_pure
    | flt r m d =>
      have hd : d ≠ 0 := by
        intro hd; simp [Printable, fltKind, hd] at hp
      simp only [strE, constPieces, hd, if_false]
      exact isOk_pure
    | _ => simp [Printable] at hp
  | var x => exact isOk_pure
  | nary o cs =>
    cases o with
    | prod => exact isOk_bind (strForceL_total fun c hc => hch c hc _) fun _ => isOk_pure
    | min | max =>
      obtain ⟨c, d, cs', rfl⟩ := printable_nary hp
      cases cs' <;> simp [Printable, naryInfix] at hp
    | _ => exact isOk_bind (strL_total fun c hc => hch c hc _) fun _ => isOk_pure
  | bin o a b | cmp o a b =>
    simp only [Expr.children, List.forall_mem_cons] at hch
    cases o <;> exact isOk_bind (hch.1 _) fun _ => isOk_bind (hch.2.1 _) fun _ => isOk_pure
  | un o a =>
    simp only [Expr.children, List.forall_mem_cons] at hch
    cases o <;> exact isOk_bind (hch.1 _) fun _ => isOk_pure
  | ite c t e =>
    simp only [Expr.children, List.forall_mem_cons] at hch
    exact isOk_bind (hch.2.1 _) fun _ => isOk_bind (hch.1 _) fun _ =>
      isOk_bind (hch.2.2.1 _) fun _ => isOk_pure
  | call f as =>
    simp only [Expr.children, List.forall_mem_cons] at hch
    exact isOk_bind (hch.1 _) fun _ => isOk_bind (strL_total fun c hc => hch.2 c hc _) fun _ =>
      isOk_pure
  | callKw f as ns vs =>
    simp only [Expr.children, List.forall_mem_cons, List.forall_mem_append] at hch
    exact isOk_bind (strL_total fun c hc => hch.2.1 c hc _) fun _ =>
      isOk_bind (strL_total fun c hc => hch.2.2 c hc _) fun _ =>
        isOk_bind (hch.1 _) fun _ => isOk_pure
  | lookup a nm =>
    simp only [Expr.children, List.forall_mem_cons] at hch
    exact isOk_bind (hch.1 _) fun _ => isOk_pure
  | subscript a i =>
    simp only [Expr.children, List.forall_mem_cons] at hch
    by_cases hit : ∃ cs, i = .tuple cs
    · obtain ⟨cs, rfl⟩ := hit
      -- the index tuple is printed without its parentheses: its elements, as in the tuple itself
      have hcs := hch.2.1 0
      rw [strE] at hcs
      exact isOk_bind (isOk_of_bind hcs) fun _ => isOk_bind (hch.1 _) fun _ => isOk_pure
    · rw [strE]
      · exact isOk_bind (hch.2.1 _) fun _ => isOk_bind (hch.1 _) fun _ => isOk_pure
      · exact fun cs h => hit ⟨cs, h⟩
  | tuple | list => exact isOk_bind (strL_total fun c hc => hch c hc _) fun _ => isOk_pure
  | slice cs => exact absurd ⟨cs, rfl⟩ hs
  | _ => simp [Printable] at hp

/-! ### the two fragments of the round-trip theorems -/

/-- the fragment: every node has a covered shape (variables, integer constants, finite float
constants, `True`/`False`,
sums and products with at least two operands, the six binary nodes, comparisons, two-operand
bitwise/logical nodes, `~`/`not`, conditionals, calls, calls with at least one keyword argument
and pairwise different keywords, subscripts whose index is not a tuple or is a tuple of at least
two elements, attribute look-ups, tuples, lists) and every child passes `okTriple` in its
position; the root passes it in position `top` -/
def InFragment (P : ParserPrec) (S : PrintPrec) (e : Expr) : Bool :=
  Printable P S e && okAt P S .top e

/-- the larger fragment: sums and products may be nested in any way (the local conditions are
checked on the flattened tree); no n-ary node is empty -/
def InFragmentFlat (P : ParserPrec) (S : PrintPrec) (e : Expr) : Bool :=
  nonemptyNary e && InFragment P S (flattenAssoc e)

end PV.Syntax
