import PV.Model.Ops
import Mathlib.Algebra.Ring.Defs
import Mathlib.Algebra.Ring.Basic
import Mathlib.Data.Int.Cast.Basic
import Mathlib.Algebra.Ring.Int.Defs
import Mathlib.Data.Int.Cast.Lemmas
/-
  C03: the operators never reorder non-commuting operands.  Trees over int constants, variables,
  sums and products are evaluated in an arbitrary (possibly non-commutative) ring, `evalRing`,
  left to right; `no_reorder`: the tree an operator program builds has the ring value of the program
  (`plainRing`).  The first part says what the flattening methods of PV/Model/Ops.lean can answer
  (`mulD_ret`, `addD_ret`, …); PV/Proofs/OpsSound.lean reads the same lemmas against `den`.
-/

namespace PV

universe u
variable {K : Type u} [Ring K]

mutual
/-- the value of a tree in the ring `K` under the assignment `ρ`: a sum is folded from `0` and a
product from `1`, left to right; any other node has none -/
def evalRing (ρ : String → K) : Expr → Option K
  | .const (.int n) => some (n : K)
  | .var x => some (ρ x)
  | .nary .sum cs => evalRingFold ρ (· + ·) 0 cs
  | .nary .prod cs => evalRingFold ρ (· * ·) 1 cs
  | _ => none
def evalRingFold (ρ : String → K) (f : K → K → K) (acc : K) : List Expr → Option K
  | [] => some acc
  | c :: cs => match evalRing ρ c with
     | some k => evalRingFold ρ f (f acc k) cs
     | none => none
end

/-- the ring value of an operator program over `+ - * neg pos`, operators applied to the values of
the leaves in source order -/
def plainRing (ρ : String → K) : OpProg → Option K
  | .leaf e => evalRing ρ e
  | .bin .add p q => match plainRing ρ p, plainRing ρ q with
    | some a, some b => some (a + b)
    | _, _ => none
  | .bin .sub p q => match plainRing ρ p, plainRing ρ q with
    | some a, some b => some (a - b)
    | _, _ => none
  | .bin .mul p q => match plainRing ρ p, plainRing ρ q with
    | some a, some b => some (a * b)
    | _, _ => none
  | .un .neg p => match plainRing ρ p with
    | some a => some (-a)
    | none => none
  | .un .pos p => plainRing ρ p
  | _ => none

/-! ### what a method can answer -/

/-- a method that answers with a tree has passed its guard (`if not p(other): return NotImplemented`,
or an `assert`) -/
theorem ret_of_guard {c : Bool} {d x : Dunder} {t : Expr}
    (h : (if (!c) = true then d else x) = .ret t) (hd : d ≠ .ret t := by nofun) : x = .ret t := by
  cases c
  · exact absurd h hd
  · exact h

/-- the operands a flattening method takes from `e`: the children of an `o` node, or `e` itself -/
def Operands (o : NaryOp) (e : Expr) (xs : List Expr) : Prop := e = .nary o xs ∨ xs = [e]

theorem mulD_ret {self other t : Expr} (h : mulD self other = .ret t) :
    (other.isZero = true ∧ t = zero) ∨ (other.isOne = true ∧ t = self) ∨
      ∃ xs ys, Operands .prod self xs ∧ Operands .prod other ys ∧ t = .nary .prod (xs ++ ys) := by
  unfold mulD at h
  replace h := ret_of_guard h
  split at h
  · split at h
    · cases h; exact .inr (.inr ⟨_, _, .inl rfl, .inl rfl, rfl⟩)
    · split at h
      · cases h; exact .inl ⟨‹_›, rfl⟩
      · split at h <;> cases h
        · exact .inr (.inl ⟨‹_›, rfl⟩)
        · exact .inr (.inr ⟨_, _, .inl rfl, .inr rfl, rfl⟩)
  · split at h
    · cases h; exact .inr (.inl ⟨‹_›, rfl⟩)
    · split at h <;> cases h
      · exact .inl ⟨‹_›, rfl⟩
      · exact .inr (.inr ⟨_, _, .inr rfl, .inr rfl, rfl⟩)

theorem rmulD_ret {self other t : Expr} (h : rmulD self other = .ret t) :
    (other.isZero = true ∧ t = zero) ∨ (other.isOne = true ∧ t = self) ∨
      ∃ xs, Operands .prod self xs ∧ t = .nary .prod (other :: xs) := by
  unfold rmulD at h
  replace h := ret_of_guard h
  split at h
  · split at h
    · cases h; exact .inl ⟨‹_›, rfl⟩
    · split at h <;> cases h
      · exact .inr (.inl ⟨‹_›, rfl⟩)
      · exact .inr (.inr ⟨_, .inl rfl, rfl⟩)
  · split at h
    · cases h; exact .inr (.inl ⟨‹_›, rfl⟩)
    · split at h <;> cases h
      · exact .inl ⟨‹_›, rfl⟩
      · exact .inr (.inr ⟨_, .inr rfl, rfl⟩)

theorem exprAdd_ret {self other t : Expr} (h : exprAdd self other = .ret t) :
    (other.truthy = false ∧ t = self) ∨ (self.truthy = false ∧ t = other) ∨
      ∃ ys, Operands .sum other ys ∧ t = .nary .sum (self :: ys) := by
  unfold exprAdd at h
  replace h := ret_of_guard h
  split at h
  · split at h
    · split at h <;> cases h
      · exact .inr (.inr ⟨_, .inl rfl, rfl⟩)
      · exact .inr (.inr ⟨_, .inr rfl, rfl⟩)
    · cases h; exact .inr (.inl ⟨by simpa using ‹¬self.truthy = true›, rfl⟩)
  · cases h; exact .inl ⟨by simpa using ‹¬other.truthy = true›, rfl⟩

theorem addD_ret {self other t : Expr} (h : addD self other = .ret t) :
    (other.truthy = false ∧ t = self) ∨ (self.truthy = false ∧ t = other) ∨
      ∃ xs ys, Operands .sum self xs ∧ Operands .sum other ys ∧ t = .nary .sum (xs ++ ys) := by
  unfold addD at h
  split at h
  · replace h := ret_of_guard h
    split at h
    · cases h; exact .inr (.inr ⟨_, _, .inl rfl, .inl rfl, rfl⟩)
    · split at h <;> cases h
      · exact .inl ⟨by simpa using ‹(!other.truthy) = true›, rfl⟩
      · exact .inr (.inr ⟨_, _, .inl rfl, .inr rfl, rfl⟩)
  · rcases exprAdd_ret h with h | h | ⟨ys, hy, rfl⟩
    · exact .inl h
    · exact .inr (.inl h)
    · exact .inr (.inr ⟨[self], ys, .inr rfl, hy, rfl⟩)

theorem raddD_ret {self other t : Expr} (h : raddD self other = .ret t) :
    (other.truthy = false ∧ t = self) ∨ (self.truthy = false ∧ t = other) ∨
      ∃ xs, Operands .sum self xs ∧ t = .nary .sum (other :: xs) := by
  unfold raddD at h
  split at h
  · replace h := ret_of_guard h
    split at h <;> cases h
    · exact .inl ⟨by simpa using ‹(!other.truthy) = true›, rfl⟩
    · exact .inr (.inr ⟨_, .inl rfl, rfl⟩)
  · replace h := ret_of_guard h
    split at h
    · split at h <;> cases h
      · exact .inr (.inr ⟨_, .inr rfl, rfl⟩)
      · exact .inr (.inl ⟨by simpa using ‹¬self.truthy = true›, rfl⟩)
    · cases h; exact .inl ⟨by simpa using ‹¬other.truthy = true›, rfl⟩

theorem subD_ret {self other t : Expr} (h : subD self other = .ret t) :
    (other.truthy = false ∧ t = self) ∨ ∃ n, negE other = .ok n ∧
      ((∃ cs, self = .nary .sum cs ∧ t = .nary .sum (cs ++ [n])) ∨ exprAdd self n = .ret t) := by
  unfold subD at h
  split at h <;> replace h := ret_of_guard h <;> split at h
  · cases h; exact .inl ⟨by simpa using ‹(!other.truthy) = true›, rfl⟩
  · split at h <;> cases h
    exact .inr ⟨_, ‹_›, .inl ⟨_, rfl, rfl⟩⟩
  · split at h
    · exact .inr ⟨_, ‹_›, .inr h⟩
    · cases h
  · cases h; exact .inl ⟨by simpa using ‹¬other.truthy = true›, rfl⟩

theorem rsubD_ret {self other t : Expr} (h : rsubD self other = .ret t) :
    ∃ n, negE self = .ok n ∧ ((other.truthy = false ∧ t = n) ∨ t = .nary .sum [other, n]) := by
  unfold rsubD at h
  replace h := ret_of_guard h
  split at h
  · cases h
  · split at h <;> cases h
    · exact ⟨_, ‹_›, .inr rfl⟩
    · exact ⟨_, ‹_›, .inl ⟨by simpa using ‹¬other.truthy = true›, rfl⟩⟩

section
variable (ρ : String → K)

theorem evalRing_const {c : Const} {k : K} (h : evalRing ρ (.const c) = some k) :
    ∃ n : Int, c = .int n ∧ k = (n : K) := by
  cases c <;> simp only [evalRing] at h <;> try contradiction
  · injection h with h; exact ⟨_, rfl, h.symm⟩

theorem fold_append (f : K → K → K) : ∀ (cs ds : List Expr) (acc : K),
    evalRingFold ρ f acc (cs ++ ds) = (evalRingFold ρ f acc cs).bind (fun r => evalRingFold ρ f r ds)
  | [], ds, acc => by simp [evalRingFold]
  | c :: cs, ds, acc => by
      simp only [List.cons_append, evalRingFold]
      cases evalRing ρ c with
      | none => simp
      | some k => simp only; exact fold_append f cs ds _

theorem fold_acc (f : K → K → K) (e : K) (hassoc : ∀ a b c, f (f a b) c = f a (f b c))
    (hl : ∀ a, f e a = a) (hr : ∀ a, f a e = a) : ∀ (cs : List Expr) (acc : K),
    evalRingFold ρ f acc cs = (evalRingFold ρ f e cs).map (f acc)
  | [], acc => by simp [evalRingFold, hr]
  | c :: cs, acc => by
      simp only [evalRingFold]
      cases evalRing ρ c with
      | none => simp
      | some k =>
        simp only
        rw [fold_acc f e hassoc hl hr cs (f acc k), fold_acc f e hassoc hl hr cs (f e k)]
        cases evalRingFold ρ f e cs with
        | none => simp
        | some r => simp [hassoc, hl]

theorem sum_acc {cs : List Expr} {s : K} (acc : K)
    (h : evalRingFold ρ (· + ·) 0 cs = some s) :
    evalRingFold ρ (· + ·) acc cs = some (acc + s) := by
  rw [fold_acc ρ (· + ·) 0 (fun a b c => add_assoc a b c) zero_add add_zero cs acc, h]; rfl

theorem prod_acc {cs : List Expr} {s : K} (acc : K)
    (h : evalRingFold ρ (· * ·) 1 cs = some s) :
    evalRingFold ρ (· * ·) acc cs = some (acc * s) := by
  rw [fold_acc ρ (· * ·) 1 (fun a b c => mul_assoc a b c) one_mul mul_one cs acc, h]; rfl

theorem fold_mul_zero : ∀ (cs : List Expr) (k : K),
    evalRingFold ρ (· * ·) 0 cs = some k → k = 0
  | [], k, h => by simp only [evalRingFold] at h; injection h with h; exact h.symm
  | c :: cs, k, h => by
      simp only [evalRingFold] at h
      cases hc : evalRing ρ c with
      | none => rw [hc] at h; contradiction
      | some k' =>
        rw [hc] at h; simp only [zero_mul] at h
        exact fold_mul_zero cs k h

mutual
theorem falsy_ring : ∀ (e : Expr) (k : K), e.truthy = false → evalRing ρ e = some k → k = 0
  | .const c, k, ht, he => by
      obtain ⟨n, rfl, rfl⟩ := evalRing_const ρ he
      simp only [Expr.truthy, Const.truthy, bne_eq_false_iff_eq] at ht
      subst ht; exact Int.cast_zero
  | .nary .sum cs, k, ht, he => by
      simp only [Expr.truthy] at ht; simp only [evalRing] at he
      exact falsySum_ring cs k ht he
  | .nary .prod cs, k, ht, he => by
      simp only [Expr.truthy] at ht; simp only [evalRing] at he
      exact falsyProd_ring cs 1 k ht he
  | .var _, _, ht, _ => by cases ht
  | .nary .bor _, _, _, he | .nary .bxor _, _, _, he | .nary .band _, _, _, he
  | .nary .lor _, _, _, he | .nary .land _, _, _, he | .nary .min _, _, _, he
  | .nary .max _, _, _, he => by cases he
  | .bin .., _, _, he | .un .., _, _, he | .cmp .., _, _, he | .ite .., _, _, he
  | .call .., _, _, he | .callKw .., _, _, he | .subscript .., _, _, he | .lookup .., _, _, he
  | .cse .., _, _, he | .subst .., _, _, he | .deriv .., _, _, he | .slice .., _, _, he
  | .nan, _, _, he | .wildcard, _, _, he | .dotWild .., _, _, he | .starWild .., _, _, he
  | .funcSym, _, _, he | .tuple .., _, _, he | .list .., _, _, he => by cases he
theorem falsySum_ring : ∀ (cs : List Expr) (k : K), Expr.truthySum cs = false →
    evalRingFold ρ (· + ·) 0 cs = some k → k = 0
  | [], _, ht, _ => by simp [Expr.truthySum] at ht
  | [c], k, ht, he => by
      simp only [Expr.truthySum] at ht
      simp only [evalRingFold] at he
      cases hc : evalRing ρ c with
      | none => rw [hc] at he; contradiction
      | some k' =>
        rw [hc] at he; simp only [zero_add] at he
        injection he with he; subst he
        exact falsy_ring c k' ht hc
  | _ :: _ :: _, _, ht, _ => by simp [Expr.truthySum] at ht
theorem falsyProd_ring : ∀ (cs : List Expr) (acc k : K), Expr.truthyProd cs = false →
    evalRingFold ρ (· * ·) acc cs = some k → k = 0
  | [], _, _, ht, _ => by simp [Expr.truthyProd] at ht
  | c :: cs, acc, k, ht, he => by
      simp only [Expr.truthyProd, Bool.and_eq_false_iff] at ht
      simp only [evalRingFold] at he
      cases hc : evalRing ρ c with
      | none => rw [hc] at he; contradiction
      | some k' =>
        rw [hc] at he; simp only at he
        rcases ht with ht | ht
        · have := falsy_ring c k' ht hc
          subst this
          rw [mul_zero] at he
          exact fold_mul_zero ρ cs k he
        · exact falsyProd_ring cs _ k ht he
end

theorem isZero_ring {e : Expr} {k : K} (hz : e.isZero = true) (he : evalRing ρ e = some k) :
    k = 0 := by
  simp only [Expr.isZero, Bool.not_eq_true'] at hz
  exact falsy_ring ρ e k hz he

theorem isOne_ring {e : Expr} {k : K} (h1 : e.isOne = true) (he : evalRing ρ e = some k) :
    k = 1 := by
  cases e <;> simp only [Expr.isOne] at h1 <;> try contradiction
  obtain ⟨n, rfl, rfl⟩ := evalRing_const ρ he
  simp only [Const.isOne, beq_iff_eq] at h1
  subst h1; exact Int.cast_one

theorem evalRing_zero : evalRing ρ zero = some 0 := by
  simp only [zero, evalRing, Int.cast_zero]

theorem evalRing_sum_cons {x : Expr} {cs : List Expr} {a b : K} (hx : evalRing ρ x = some a)
    (hy : evalRing ρ (.nary .sum cs) = some b) :
    evalRing ρ (.nary .sum (x :: cs)) = some (a + b) := by
  simp only [evalRing] at hy
  simp only [evalRing, evalRingFold, hx, zero_add]
  exact sum_acc ρ a hy

theorem evalRing_prod_cons {x : Expr} {cs : List Expr} {a b : K} (hx : evalRing ρ x = some a)
    (hy : evalRing ρ (.nary .prod cs) = some b) :
    evalRing ρ (.nary .prod (x :: cs)) = some (a * b) := by
  simp only [evalRing] at hy
  simp only [evalRing, evalRingFold, hx, one_mul]
  exact prod_acc ρ a hy

theorem evalRing_sum_append {cs ds : List Expr} {a b : K}
    (hx : evalRing ρ (.nary .sum cs) = some a) (hy : evalRing ρ (.nary .sum ds) = some b) :
    evalRing ρ (.nary .sum (cs ++ ds)) = some (a + b) := by
  simp only [evalRing] at hx hy ⊢
  rw [fold_append, hx]
  exact sum_acc ρ a hy

theorem evalRing_prod_append {cs ds : List Expr} {a b : K}
    (hx : evalRing ρ (.nary .prod cs) = some a) (hy : evalRing ρ (.nary .prod ds) = some b) :
    evalRing ρ (.nary .prod (cs ++ ds)) = some (a * b) := by
  simp only [evalRing] at hx hy ⊢
  rw [fold_append, hx]
  exact prod_acc ρ a hy

theorem evalRing_sum_operands {e : Expr} {xs : List Expr} {a : K} (h : Operands .sum e xs)
    (he : evalRing ρ e = some a) : evalRing ρ (.nary .sum xs) = some a := by
  rcases h with rfl | rfl
  · exact he
  · simp only [evalRing, evalRingFold, he, zero_add]

theorem evalRing_prod_operands {e : Expr} {xs : List Expr} {a : K} (h : Operands .prod e xs)
    (he : evalRing ρ e = some a) : evalRing ρ (.nary .prod xs) = some a := by
  rcases h with rfl | rfl
  · exact he
  · simp only [evalRing, evalRingFold, he, one_mul]

theorem rmulD_ring {self other t : Expr} {a b : K} (h : rmulD self other = .ret t)
    (hs : evalRing ρ self = some a) (ho : evalRing ρ other = some b) :
    evalRing ρ t = some (b * a) := by
  rcases rmulD_ret h with ⟨hz, rfl⟩ | ⟨h1, rfl⟩ | ⟨xs, hx, rfl⟩
  · rw [isZero_ring ρ hz ho, zero_mul]; exact evalRing_zero ρ
  · rw [isOne_ring ρ h1 ho, one_mul]; exact hs
  · exact evalRing_prod_cons ρ ho (evalRing_prod_operands ρ hx hs)

theorem mulD_ring {self other t : Expr} {a b : K} (h : mulD self other = .ret t)
    (hs : evalRing ρ self = some a) (ho : evalRing ρ other = some b) :
    evalRing ρ t = some (a * b) := by
  rcases mulD_ret h with ⟨hz, rfl⟩ | ⟨h1, rfl⟩ | ⟨xs, ys, hx, hy, rfl⟩
  · rw [isZero_ring ρ hz ho, mul_zero]; exact evalRing_zero ρ
  · rw [isOne_ring ρ h1 ho, mul_one]; exact hs
  · exact evalRing_prod_append ρ (evalRing_prod_operands ρ hx hs) (evalRing_prod_operands ρ hy ho)

theorem evalRing_negOne : evalRing ρ negOne = some (-1) := by
  simp only [negOne, evalRing, Int.cast_neg, Int.cast_one]

theorem negE_ring {e n : Expr} {k : K} (h : negE e = .ok n) (he : evalRing ρ e = some k) :
    evalRing ρ n = some (-k) := by
  unfold negE at h
  split at h
  · obtain ⟨m, rfl, rfl⟩ := evalRing_const ρ he
    simp only [Const.neg, pure, Except.pure] at h
    injection h with h; subst h
    simp only [evalRing, Int.cast_neg]
  · split at h
    · split at h
      · rename_i r hr
        simp only [pure, Except.pure] at h
        injection h with h; subst h
        have := rmulD_ring ρ hr he (evalRing_negOne ρ)
        rw [this, neg_one_mul]
      · simp only [throw, throwThe, MonadExceptOf.throw] at h; contradiction
    · simp only [throw, throwThe, MonadExceptOf.throw] at h; contradiction

theorem exprAdd_ring {self other t : Expr} {a b : K} (h : exprAdd self other = .ret t)
    (hs : evalRing ρ self = some a) (ho : evalRing ρ other = some b) :
    evalRing ρ t = some (a + b) := by
  rcases exprAdd_ret h with ⟨hf, rfl⟩ | ⟨hf, rfl⟩ | ⟨ys, hy, rfl⟩
  · rw [falsy_ring ρ _ _ hf ho, add_zero]; exact hs
  · rw [falsy_ring ρ _ _ hf hs, zero_add]; exact ho
  · exact evalRing_sum_cons ρ hs (evalRing_sum_operands ρ hy ho)

theorem addD_ring {self other t : Expr} {a b : K} (h : addD self other = .ret t)
    (hs : evalRing ρ self = some a) (ho : evalRing ρ other = some b) :
    evalRing ρ t = some (a + b) := by
  rcases addD_ret h with ⟨hf, rfl⟩ | ⟨hf, rfl⟩ | ⟨xs, ys, hx, hy, rfl⟩
  · rw [falsy_ring ρ _ _ hf ho, add_zero]; exact hs
  · rw [falsy_ring ρ _ _ hf hs, zero_add]; exact ho
  · exact evalRing_sum_append ρ (evalRing_sum_operands ρ hx hs) (evalRing_sum_operands ρ hy ho)

theorem raddD_ring {self other t : Expr} {a b : K} (h : raddD self other = .ret t)
    (hs : evalRing ρ self = some a) (ho : evalRing ρ other = some b) :
    evalRing ρ t = some (b + a) := by
  rcases raddD_ret h with ⟨hf, rfl⟩ | ⟨hf, rfl⟩ | ⟨xs, hx, rfl⟩
  · rw [falsy_ring ρ _ _ hf ho, zero_add]; exact hs
  · rw [falsy_ring ρ _ _ hf hs, add_zero]; exact ho
  · exact evalRing_sum_cons ρ ho (evalRing_sum_operands ρ hx hs)

theorem subD_ring {self other t : Expr} {a b : K} (h : subD self other = .ret t)
    (hs : evalRing ρ self = some a) (ho : evalRing ρ other = some b) :
    evalRing ρ t = some (a - b) := by
  rcases subD_ret h with ⟨hf, rfl⟩ | ⟨n, hn, ⟨cs, rfl, rfl⟩ | h⟩
  · rw [falsy_ring ρ _ _ hf ho, sub_zero]; exact hs
  · rw [sub_eq_add_neg]
    exact evalRing_sum_append ρ hs (evalRing_sum_operands ρ (.inr rfl) (negE_ring ρ hn ho))
  · rw [sub_eq_add_neg]
    exact exprAdd_ring ρ h hs (negE_ring ρ hn ho)

theorem rsubD_ring {self other t : Expr} {a b : K} (h : rsubD self other = .ret t)
    (hs : evalRing ρ self = some a) (ho : evalRing ρ other = some b) :
    evalRing ρ t = some (b - a) := by
  obtain ⟨n, hn, ⟨hf, rfl⟩ | rfl⟩ := rsubD_ret h
  · rw [falsy_ring ρ _ _ hf ho, zero_sub]; exact negE_ring ρ hn hs
  · rw [sub_eq_add_neg]
    exact evalRing_sum_cons ρ ho (evalRing_sum_operands ρ (.inr rfl) (negE_ring ρ hn hs))

theorem dispatch_ring {fwd refl : Expr → Expr → Dunder} (g : K → K → K)
    (hf : ∀ {s o t : Expr} {a b : K}, fwd s o = .ret t → evalRing ρ s = some a →
      evalRing ρ o = some b → evalRing ρ t = some (g a b))
    (hr : ∀ {s o t : Expr} {a b : K}, refl s o = .ret t → evalRing ρ s = some a →
      evalRing ρ o = some b → evalRing ρ t = some (g b a))
    {x y t : Expr} {a b : K} (h : dispatch fwd refl x y = .ok t)
    (hx : evalRing ρ x = some a) (hy : evalRing ρ y = some b) :
    evalRing ρ t = some (g a b) := by
  unfold dispatch at h
  simp only [pure, Except.pure, throw, throwThe, MonadExceptOf.throw] at h
  split at h
  · split at h
    · rename_i r hr'
      injection h with h; subst h
      exact hf hr' hx hy
    · contradiction
    · split at h
      · split at h
        · rename_i r hr'
          injection h with h; subst h
          exact hr hr' hy hx
        · contradiction
        · contradiction
      · contradiction
  · split at h
    · split at h
      · split at h
        · rename_i r hr'
          injection h with h; subst h
          exact hr hr' hy hx
        · contradiction
        · contradiction
      · contradiction
    · contradiction

theorem bin_add_ring {x y t : Expr} {a b : K} (h : Ops.bin .add x y = .ok t)
    (hx : evalRing ρ x = some a) (hy : evalRing ρ y = some b) :
    evalRing ρ t = some (a + b) :=
  dispatch_ring ρ (· + ·) (addD_ring ρ) (raddD_ring ρ) h hx hy

theorem bin_sub_ring {x y t : Expr} {a b : K} (h : Ops.bin .sub x y = .ok t)
    (hx : evalRing ρ x = some a) (hy : evalRing ρ y = some b) :
    evalRing ρ t = some (a - b) :=
  dispatch_ring ρ (· - ·) (subD_ring ρ) (rsubD_ring ρ) h hx hy

theorem bin_mul_ring {x y t : Expr} {a b : K} (h : Ops.bin .mul x y = .ok t)
    (hx : evalRing ρ x = some a) (hy : evalRing ρ y = some b) :
    evalRing ρ t = some (a * b) :=
  dispatch_ring ρ (· * ·) (mulD_ring ρ) (rmulD_ring ρ) h hx hy

theorem constBin_add (m n : Int) : constBin .add (.int m) (.int n) = .ok (.const (.int (m + n))) := rfl
theorem constBin_sub (m n : Int) : constBin .sub (.int m) (.int n) = .ok (.const (.int (m - n))) := rfl
theorem constBin_mul (m n : Int) : constBin .mul (.int m) (.int n) = .ok (.const (.int (m * n))) := rfl

theorem plainRing_bin {o : PyBinOp} {p q : OpProg} {k : K}
    (h : plainRing ρ (.bin o p q) = some k) :
    ∃ ka kb, plainRing ρ p = some ka ∧ plainRing ρ q = some kb ∧
      ((o = .add ∧ k = ka + kb) ∨ (o = .sub ∧ k = ka - kb) ∨ (o = .mul ∧ k = ka * kb)) := by
  cases o <;> simp only [plainRing] at h <;> try contradiction
  all_goals
    cases hp : plainRing ρ p with
    | none => rw [hp] at h; contradiction
    | some ka =>
      cases hq : plainRing ρ q with
      | none => rw [hp, hq] at h; contradiction
      | some kb =>
        rw [hp, hq] at h; injection h with h
        exact ⟨ka, kb, rfl, rfl, by simp [h.symm]⟩

theorem plainRing_un {o : PyUnOp} {p : OpProg} {k : K}
    (h : plainRing ρ (.un o p) = some k) :
    ∃ ka, plainRing ρ p = some ka ∧ ((o = .neg ∧ k = -ka) ∨ (o = .pos ∧ k = ka)) := by
  cases o <;> simp only [plainRing] at h <;> try contradiction
  · cases hp : plainRing ρ p with
    | none => rw [hp] at h; contradiction
    | some ka => rw [hp] at h; injection h with h; exact ⟨ka, rfl, Or.inl ⟨rfl, h.symm⟩⟩
  · exact ⟨k, h, Or.inr ⟨rfl, rfl⟩⟩

/-- the tree built by an operator program has the ring value of the program, in every ring: a
reordering of factors would show in a non-commutative one -/
theorem no_reorder : ∀ (p : OpProg) (t : Expr) (k : K),
    p.build = .ok t → plainRing ρ p = some k → evalRing ρ t = some k := by
  intro p
  induction p with
  | leaf e =>
    intro t k hb hp
    simp only [OpProg.build, pure, Except.pure] at hb
    injection hb with hb; subst hb
    simpa only [plainRing] using hp
  | bin o p q ihp ihq =>
    intro t k hb hp
    obtain ⟨ka, kb, hka, hkb, hk⟩ := plainRing_bin ρ hp
    simp only [OpProg.build, bind, Except.bind] at hb
    cases hpb : p.build with
    | error e => rw [hpb] at hb; contradiction
    | ok a =>
      rw [hpb] at hb; simp only at hb
      cases hqb : q.build with
      | error e => rw [hqb] at hb; contradiction
      | ok b =>
        rw [hqb] at hb; simp only at hb
        have ha := ihp a ka hpb hka
        have hb' := ihq b kb hqb hkb
        split at hb
        · obtain ⟨m, rfl, rfl⟩ := evalRing_const ρ ha
          obtain ⟨n, rfl, rfl⟩ := evalRing_const ρ hb'
          rcases hk with ⟨rfl, rfl⟩ | ⟨rfl, rfl⟩ | ⟨rfl, rfl⟩
          · rw [constBin_add] at hb; injection hb with hb; subst hb
            simp only [evalRing, Int.cast_add]
          · rw [constBin_sub] at hb; injection hb with hb; subst hb
            simp only [evalRing, Int.cast_sub]
          · rw [constBin_mul] at hb; injection hb with hb; subst hb
            simp only [evalRing, Int.cast_mul]
        · rcases hk with ⟨rfl, rfl⟩ | ⟨rfl, rfl⟩ | ⟨rfl, rfl⟩
          · exact bin_add_ring ρ hb ha hb'
          · exact bin_sub_ring ρ hb ha hb'
          · exact bin_mul_ring ρ hb ha hb'
  | un o p ihp =>
    intro t k hb hp
    obtain ⟨ka, hka, hk⟩ := plainRing_un ρ hp
    simp only [OpProg.build, bind, Except.bind] at hb
    cases hpb : p.build with
    | error e => rw [hpb] at hb; contradiction
    | ok a =>
      rw [hpb] at hb; simp only at hb
      have ha := ihp a ka hpb hka
      split at hb
      · obtain ⟨m, rfl, rfl⟩ := evalRing_const ρ ha
        rcases hk with ⟨rfl, rfl⟩ | ⟨rfl, rfl⟩
        · have hb2 : (Except.ok (.const (.int (-m))) : OpR) = .ok t := hb
          injection hb2 with hb2; subst hb2
          simp only [evalRing, Int.cast_neg]
        · have hb2 : (Except.ok (.const (.int m)) : OpR) = .ok t := hb
          injection hb2 with hb2; subst hb2
          simp only [evalRing]
      · rcases hk with ⟨rfl, rfl⟩ | ⟨rfl, rfl⟩
        · simp only [Ops.un] at hb
          split at hb
          · exact negE_ring ρ hb ha
          · simp only [throw, throwThe, MonadExceptOf.throw] at hb; contradiction
        · simp only [Ops.un, pure, Except.pure, throw, throwThe, MonadExceptOf.throw] at hb
          split at hb
          · injection hb with hb; subst hb; exact ha
          · contradiction
end

end PV

