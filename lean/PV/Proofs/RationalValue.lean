import PV.Model.RationalOps
import PV.Proofs.AlgoArith
import Mathlib.Algebra.Field.Rat
import Mathlib.Algebra.Order.Field.Rat
import Mathlib.Data.Rat.Cast.Defs
import Mathlib.Data.Int.GCD
import Mathlib.RingTheory.Coprime.Lemmas
import Mathlib.Tactic.Ring
import Mathlib.Tactic.FieldSimp
import Mathlib.Tactic.Linarith
/-!
  C19: what the `Rational` methods compute under the Python-2 reading of `/` — the value in ℚ of
  the result, the exactness of every division, and the normalisation of the result.
-/
namespace PV.Algo

/-- the rational number a result stands for -/
def RatRes.value : RatRes → Option ℚ
  | .int i => some (i : ℚ)
  | .rat n d => some ((n : ℚ) / (d : ℚ))
  | .raise _ => none

/-- in lowest terms with a positive denominator (a plain int counts as such) -/
def RatRes.reduced : RatRes → Prop
  | .int _ => True
  | .rat n d => 0 < d ∧ Int.gcd n d = 1
  | .raise _ => False

/-- a `Rational` object as the constructor leaves it: positive denominator -/
def RatRes.positive : RatRes → Prop
  | .int _ => True
  | .rat _ d => 0 < d
  | .raise _ => False

theorem fdiv_mul_cancel_left' (g a : ℤ) (hg : g ≠ 0) : Int.fdiv (g * a) g = a := by
  rw [Int.fdiv_eq_ediv_of_dvd ⟨a, rfl⟩, Int.mul_ediv_cancel_left a hg]

/-! ## the constructor and `quotient` -/

theorem ratInit_value (n d : ℤ) (hd : d ≠ 0) : (ratInit n d).value = some ((n : ℚ) / d) := by
  unfold ratInit
  by_cases h1 : d < 0
  · simp only [h1, if_true, RatRes.value]
    push_cast
    rw [neg_div_neg_eq]
  · have h2 : d > 0 := by omega
    simp [h1, h2, RatRes.value]

theorem ratInit_positive (n d : ℤ) (hd : d ≠ 0) : (ratInit n d).positive := by
  unfold ratInit
  by_cases h1 : d < 0
  · simp only [h1, if_true, RatRes.positive]; omega
  · have h2 : d > 0 := by omega
    simp [h1, h2, RatRes.positive]

theorem ratInit_reduced (n d : ℤ) (hd : d ≠ 0) (h : Int.gcd n d = 1) : (ratInit n d).reduced := by
  unfold ratInit
  by_cases h1 : d < 0
  · simp only [h1, if_true, RatRes.reduced]
    exact ⟨by omega, by simpa using h⟩
  · have h2 : d > 0 := by omega
    simp [h1, h2, RatRes.reduced, h]

theorem ratInit_zero (n : ℤ) : ratInit n 0 = .raise "RuntimeError" := by simp [ratInit]

theorem ratQuotient_value (n d : ℤ) (hd : d ≠ 0) : (ratQuotient n d).value = some ((n : ℚ) / d) := by
  unfold ratQuotient
  by_cases h : d - 1 = 0
  · have : d = 1 := by omega
    subst this
    simp [RatRes.value]
  · simp only [h, if_false]
    exact ratInit_value n d hd

theorem ratQuotient_reduced (n d : ℤ) (hd : d ≠ 0) (h : Int.gcd n d = 1) :
    (ratQuotient n d).reduced := by
  unfold ratQuotient
  by_cases h1 : d - 1 = 0
  · simp [h1, RatRes.reduced]
  · simp only [h1, if_false]
    exact ratInit_reduced n d hd h

theorem ratQuotient_positive (n d : ℤ) (hd : d ≠ 0) : (ratQuotient n d).positive := by
  unfold ratQuotient
  by_cases h1 : d - 1 = 0
  · simp [h1, RatRes.positive]
  · simp only [h1, if_false]
    exact ratInit_positive n d hd

/-! ## the computed gcd -/

theorem gcd_ne_zero_right (a b : ℤ) (hb : b ≠ 0) : gcd a b ≠ 0 := by
  intro h; exact hb ((gcd_eq_zero_iff a b).mp h).2

theorem gcd_ne_zero_left (a b : ℤ) (ha : a ≠ 0) : gcd a b ≠ 0 := by
  intro h; exact ha ((gcd_eq_zero_iff a b).mp h).1

theorem gcd_dvd_left' (a b : ℤ) : gcd a b ∣ a := (extEuclid_dvd a b).1
theorem gcd_dvd_right' (a b : ℤ) : gcd a b ∣ b := (extEuclid_dvd a b).2.1

/-- dividing both arguments by the computed gcd (whatever its sign) leaves coprime numbers -/
theorem gcd_div_coprime (a b g x y : ℤ) (hgd : gcd a b = g) (hg : g ≠ 0) (hx : a = g * x)
    (hy : b = g * y) : Int.gcd x y = 1 := by
  have h0 : (gcd a b).natAbs = Int.gcd a b := gcd_natAbs a b
  rw [hgd] at h0
  subst hx hy
  rw [Int.gcd_mul_left] at h0
  have hpos : 0 < g.natAbs := Int.natAbs_pos.mpr hg
  have : g.natAbs * 1 = g.natAbs * Int.gcd x y := by omega
  exact (Nat.eq_of_mul_eq_mul_left hpos this).symm

/-! ## `__add__` -/

/-- the decomposition the proof of `__add__` works with: `d1 = g·k1`, `d2 = g·k2` -/
theorem ratAdd_eq (n1 d1 n2 d2 : ℤ) (h1 : d1 ≠ 0) (h2 : d2 ≠ 0) :
    ∃ g k1 k2 a b h, g ≠ 0 ∧ h ≠ 0 ∧ d1 = g * k1 ∧ d2 = g * k2 ∧ k1 ≠ 0 ∧ k2 ≠ 0 ∧
      n1 * k2 + n2 * k1 = h * a ∧ g * k1 * k2 = h * b ∧ b ≠ 0 ∧ Int.gcd a b = 1 ∧
      ratAdd n1 d1 n2 d2 = ratQuotient a b := by
  have hg := gcd_ne_zero_left d1 d2 h1
  obtain ⟨k1, hk1⟩ := gcd_dvd_left' d1 d2
  obtain ⟨k2, hk2⟩ := gcd_dvd_right' d1 d2
  unfold ratAdd
  simp only []
  generalize gcd d1 d2 = g at *
  subst hk1 hk2
  have hk1' : k1 ≠ 0 := by rintro rfl; simp at h1
  have hk2' : k2 ≠ 0 := by rintro rfl; simp at h2
  have hnd : Int.fdiv (g * k1 * (g * k2)) g = g * k1 * k2 := by
    have : g * k1 * (g * k2) = g * (g * k1 * k2) := by ring
    rw [this, fdiv_mul_cancel_left' _ _ hg]
  have hA : Int.fdiv (n1 * (g * k1 * k2)) (g * k1) = n1 * k2 := by
    have : n1 * (g * k1 * k2) = (g * k1) * (n1 * k2) := by ring
    rw [this, fdiv_mul_cancel_left' _ _ h1]
  have hB : Int.fdiv (n2 * (g * k1 * k2)) (g * k2) = n2 * k1 := by
    have : n2 * (g * k1 * k2) = (g * k2) * (n2 * k1) := by ring
    rw [this, fdiv_mul_cancel_left' _ _ h2]
  have hden0 : g * k1 * k2 ≠ 0 := mul_ne_zero (mul_ne_zero hg hk1') hk2'
  have hh := gcd_ne_zero_left (g * k1 * k2) (n1 * k2 + n2 * k1) hden0
  obtain ⟨b, hb⟩ := gcd_dvd_left' (g * k1 * k2) (n1 * k2 + n2 * k1)
  obtain ⟨a, ha⟩ := gcd_dvd_right' (g * k1 * k2) (n1 * k2 + n2 * k1)
  have hcop := gcd_div_coprime _ _ _ b a rfl hh hb ha
  simp only [hg, h1, h2, if_false, hnd, hA, hB, hh]
  generalize gcd (g * k1 * k2) (n1 * k2 + n2 * k1) = h at *
  have hb0 : b ≠ 0 := by rintro rfl; simp at hb; omega
  refine ⟨g, k1, k2, a, b, h, hg, hh, rfl, rfl, hk1', hk2', ha, hb, hb0, ?_, ?_⟩
  · rwa [Int.gcd_comm]
  · rw [ha, hb, fdiv_mul_cancel_left' _ _ hh, fdiv_mul_cancel_left' _ _ hh]

/-- **`__add__` adds**: for non-zero denominators the result stands for `n1/d1 + n2/d2`, it never
raises, and it is in lowest terms with a positive denominator -/
theorem ratAdd_value (n1 d1 n2 d2 : ℤ) (h1 : d1 ≠ 0) (h2 : d2 ≠ 0) :
    (ratAdd n1 d1 n2 d2).value = some ((n1 : ℚ) / d1 + (n2 : ℚ) / d2) ∧
      (ratAdd n1 d1 n2 d2).reduced := by
  obtain ⟨g, k1, k2, a, b, h, hg, hh, hd1, hd2, hk1, hk2, hnum, hden, hb, hcop, heq⟩ :=
    ratAdd_eq n1 d1 n2 d2 h1 h2
  rw [heq]
  refine ⟨?_, ratQuotient_reduced a b hb hcop⟩
  rw [ratQuotient_value a b hb]
  congr 1
  have hgq : (g : ℚ) ≠ 0 := by exact_mod_cast hg
  have hhq : (h : ℚ) ≠ 0 := by exact_mod_cast hh
  have hk1q : (k1 : ℚ) ≠ 0 := by exact_mod_cast hk1
  have hk2q : (k2 : ℚ) ≠ 0 := by exact_mod_cast hk2
  have hbq : (b : ℚ) ≠ 0 := by exact_mod_cast hb
  have e1 : (n1 : ℚ) * k2 + n2 * k1 = h * a := by exact_mod_cast hnum
  have e2 : (g : ℚ) * k1 * k2 = h * b := by exact_mod_cast hden
  subst hd1 hd2
  push_cast
  have : (a : ℚ) / b = (h * a) / (h * b) := by field_simp
  rw [this, ← e1, ← e2]
  field_simp

/-- **every `/` of `__add__` divides exactly** (no remainder is dropped by the floor division of
the Python-2 reading): `a*b / gcd(a, b)` in `lcm`, the two `… * newden / denominator`, and the two
divisions by the final gcd -/
theorem ratAdd_divisions_exact (n1 d1 n2 d2 : ℤ) (h1 : d1 ≠ 0) :
    let newden := Int.fdiv (d1 * d2) (gcd d1 d2)
    let newnum := Int.fdiv (n1 * newden) d1 + Int.fdiv (n2 * newden) d2
    gcd d1 d2 ∣ d1 * d2 ∧ d1 ∣ n1 * newden ∧ d2 ∣ n2 * newden ∧
      gcd newden newnum ∣ newnum ∧ gcd newden newnum ∣ newden := by
  intro newden newnum
  have hdvd : gcd d1 d2 ∣ d1 * d2 := Dvd.dvd.mul_right (gcd_dvd_left' d1 d2) d2
  have hnd : newden * gcd d1 d2 = d1 * d2 := Int.fdiv_mul_cancel hdvd
  refine ⟨hdvd, ?_, ?_, gcd_dvd_right' _ _, gcd_dvd_left' _ _⟩
  · obtain ⟨k2, hk2⟩ := gcd_dvd_right' d1 d2
    have hg : gcd d1 d2 ≠ 0 := gcd_ne_zero_left d1 d2 h1
    · have : newden = d1 * k2 := by
        have h1 : newden * gcd d1 d2 = (d1 * k2) * gcd d1 d2 := by
          rw [hnd]; conv_lhs => rw [hk2]
          ring
        exact Int.eq_of_mul_eq_mul_right hg h1
      rw [this]
      exact ⟨n1 * k2, by ring⟩
  · obtain ⟨k1, hk1⟩ := gcd_dvd_left' d1 d2
    have hg : gcd d1 d2 ≠ 0 := gcd_ne_zero_left d1 d2 h1
    · have : newden = d2 * k1 := by
        have h1 : newden * gcd d1 d2 = (d2 * k1) * gcd d1 d2 := by
          rw [hnd]; conv_lhs => rw [hk1]
          ring
        exact Int.eq_of_mul_eq_mul_right hg h1
      rw [this]
      exact ⟨n2 * k1, by ring⟩

/-! ## `__mul__` -/

/-- **every `/` of `__mul__` divides exactly** -/
theorem ratMul_divisions_exact (n1 d1 n2 d2 : ℤ) :
    gcd n1 d2 ∣ n1 ∧ gcd n2 d1 ∣ Int.fdiv n1 (gcd n1 d2) * n2 ∧ gcd n2 d1 ∣ d1 ∧
      gcd n1 d2 ∣ Int.fdiv d1 (gcd n2 d1) * d2 :=
  ⟨gcd_dvd_left' _ _, Dvd.dvd.mul_left (gcd_dvd_left' _ _) _, gcd_dvd_right' _ _,
    Dvd.dvd.mul_left (gcd_dvd_right' _ _) _⟩

theorem ratMul_eq (n1 d1 n2 d2 : ℤ) (h1 : d1 ≠ 0) (h2 : d2 ≠ 0) :
    ∃ g1 g2 x1 y1 x2 y2, g1 ≠ 0 ∧ g2 ≠ 0 ∧ n1 = g1 * x1 ∧ d2 = g1 * y2 ∧ n2 = g2 * x2 ∧
      d1 = g2 * y1 ∧ y1 ≠ 0 ∧ y2 ≠ 0 ∧ Int.gcd x1 y2 = 1 ∧ Int.gcd x2 y1 = 1 ∧
      ratMul n1 d1 n2 d2 = (if y1 * y2 - 1 = 0 then .int (x1 * x2) else ratInit (x1 * x2) (y1 * y2)) := by
  have hg1 := gcd_ne_zero_right n1 d2 h2
  have hg2 := gcd_ne_zero_right n2 d1 h1
  obtain ⟨x1, hx1⟩ := gcd_dvd_left' n1 d2
  obtain ⟨y2, hy2⟩ := gcd_dvd_right' n1 d2
  obtain ⟨x2, hx2⟩ := gcd_dvd_left' n2 d1
  obtain ⟨y1, hy1⟩ := gcd_dvd_right' n2 d1
  have hc1 := gcd_div_coprime _ _ _ x1 y2 rfl hg1 hx1 hy2
  have hc2 := gcd_div_coprime _ _ _ x2 y1 rfl hg2 hx2 hy1
  unfold ratMul
  simp only []
  generalize gcd n1 d2 = g1 at *
  generalize gcd n2 d1 = g2 at *
  subst hx1 hy2 hx2 hy1
  have hy1' : y1 ≠ 0 := by rintro rfl; simp at h1
  have hy2' : y2 ≠ 0 := by rintro rfl; simp at h2
  refine ⟨g1, g2, x1, y1, x2, y2, hg1, hg2, rfl, rfl, rfl, rfl, hy1', hy2', hc1, hc2, ?_⟩
  have e1 : Int.fdiv (Int.fdiv (g1 * x1) g1 * (g2 * x2)) g2 = x1 * x2 := by
    rw [fdiv_mul_cancel_left' _ _ hg1]
    have : x1 * (g2 * x2) = g2 * (x1 * x2) := by ring
    rw [this, fdiv_mul_cancel_left' _ _ hg2]
  have e2 : Int.fdiv (Int.fdiv (g2 * y1) g2 * (g1 * y2)) g1 = y1 * y2 := by
    rw [fdiv_mul_cancel_left' _ _ hg2]
    have : y1 * (g1 * y2) = g1 * (y1 * y2) := by ring
    rw [this, fdiv_mul_cancel_left' _ _ hg1]
  simp only [hg1, hg2, if_false, e1, e2]

/-- **`__mul__` multiplies**: for non-zero denominators the result stands for
`(n1/d1)·(n2/d2)` and never raises -/
theorem ratMul_value (n1 d1 n2 d2 : ℤ) (h1 : d1 ≠ 0) (h2 : d2 ≠ 0) :
    (ratMul n1 d1 n2 d2).value = some ((n1 : ℚ) / d1 * ((n2 : ℚ) / d2)) ∧
      (ratMul n1 d1 n2 d2).positive := by
  obtain ⟨g1, g2, x1, y1, x2, y2, hg1, hg2, rfl, rfl, rfl, rfl, hy1, hy2, -, -, heq⟩ :=
    ratMul_eq n1 d1 n2 d2 h1 h2
  rw [heq]
  have hy : y1 * y2 ≠ 0 := mul_ne_zero hy1 hy2
  have hg1q : (g1 : ℚ) ≠ 0 := by exact_mod_cast hg1
  have hg2q : (g2 : ℚ) ≠ 0 := by exact_mod_cast hg2
  have hy1q : (y1 : ℚ) ≠ 0 := by exact_mod_cast hy1
  have hy2q : (y2 : ℚ) ≠ 0 := by exact_mod_cast hy2
  by_cases hone : y1 * y2 - 1 = 0
  · have h1' : y1 * y2 = 1 := by omega
    have h1q : (y1 : ℚ) * y2 = 1 := by exact_mod_cast h1'
    simp only [hone, if_true, RatRes.value, RatRes.positive, and_true]
    congr 1
    push_cast
    field_simp
    rw [mul_comm (y1 : ℚ) y2] at h1q
    calc (x1 : ℚ) * x2 * y1 * y2 = x1 * x2 * (y2 * y1) := by ring
      _ = x1 * x2 := by rw [h1q]; ring
  · simp only [hone, if_false]
    refine ⟨?_, ratInit_positive _ _ hy⟩
    rw [ratInit_value _ _ hy]
    congr 1
    push_cast
    field_simp

/-- the product of two `Rational`s in lowest terms is in lowest terms -/
theorem ratMul_reduced (n1 d1 n2 d2 : ℤ) (h1 : d1 ≠ 0) (h2 : d2 ≠ 0)
    (hr1 : Int.gcd n1 d1 = 1) (hr2 : Int.gcd n2 d2 = 1) : (ratMul n1 d1 n2 d2).reduced := by
  obtain ⟨g1, g2, x1, y1, x2, y2, hg1, hg2, rfl, rfl, rfl, rfl, hy1, hy2, hc1, hc2, heq⟩ :=
    ratMul_eq n1 d1 n2 d2 h1 h2
  rw [heq]
  have hy : y1 * y2 ≠ 0 := mul_ne_zero hy1 hy2
  by_cases hone : y1 * y2 - 1 = 0
  · simp [hone, RatRes.reduced]
  · simp only [hone, if_false]
    apply ratInit_reduced _ _ hy
    have c11 : IsCoprime x1 y1 :=
      (Int.isCoprime_iff_gcd_eq_one.mpr hr1).of_mul_left_right.of_mul_right_right
    have c22 : IsCoprime x2 y2 :=
      (Int.isCoprime_iff_gcd_eq_one.mpr hr2).of_mul_left_right.of_mul_right_right
    have c12 : IsCoprime x1 y2 := Int.isCoprime_iff_gcd_eq_one.mpr hc1
    have c21 : IsCoprime x2 y1 := Int.isCoprime_iff_gcd_eq_one.mpr hc2
    exact Int.isCoprime_iff_gcd_eq_one.mp
      (IsCoprime.mul_left (IsCoprime.mul_right c11 c12) (IsCoprime.mul_right c21 c22))

/-! ## `__neg__`, `__sub__`, `__rsub__` -/

theorem ratNeg_value (n d : ℤ) (hd : d ≠ 0) : (ratNeg n d).value = some (-((n : ℚ) / d)) := by
  unfold ratNeg
  rw [ratInit_value _ _ hd]
  congr 1
  push_cast
  ring

/-- `-Rational(n, d)` is again a `Rational` with a positive denominator, standing for `-(n/d)` -/
theorem ratNeg_eq (n d : ℤ) (hd : d ≠ 0) :
    ∃ n' d', ratNeg n d = .rat n' d' ∧ 0 < d' ∧ (n' : ℚ) / d' = -((n : ℚ) / d) := by
  have hv := ratNeg_value n d hd
  have hp := ratInit_positive (-n) d hd
  unfold ratNeg at hv hp ⊢
  rcases h : ratInit (-n) d with i | ⟨n', d'⟩ | k
  · unfold ratInit at h; split_ifs at h
  · rw [h] at hv hp
    exact ⟨n', d', rfl, hp, by simpa [RatRes.value] using hv⟩
  · rw [h] at hp; exact hp.elim

/-- the value of an operand with a non-zero denominator -/
def RatArg.value (a : RatArg) : ℚ := (a.fields.1 : ℚ) / a.fields.2

/-! ## `__div__`, `__rdiv__`, `reciprocal`, `__pow__` -/

theorem ratInit_eq (n d : ℤ) (hd : d ≠ 0) :
    ∃ n' d', ratInit n d = .rat n' d' ∧ 0 < d' ∧ (n' : ℚ) / d' = (n : ℚ) / d := by
  have hv := ratInit_value n d hd
  have hp := ratInit_positive n d hd
  rcases h : ratInit n d with i | ⟨n', d'⟩ | k
  · unfold ratInit at h; split_ifs at h
  · rw [h] at hv hp
    exact ⟨n', d', rfl, hp, by simpa [RatRes.value] using hv⟩
  · rw [h] at hp; exact hp.elim

/-- **`__div__` divides** (the `/` of Python 2) when the divisor is not zero … -/
theorem ratDiv_value (n1 d1 : ℤ) (other : RatArg) (h1 : d1 ≠ 0) (h2 : other.fields.2 ≠ 0)
    (h3 : other.fields.1 ≠ 0) :
    (ratDiv n1 d1 other).value = some ((n1 : ℚ) / d1 / other.value) := by
  unfold ratDiv RatArg.value
  obtain ⟨n', d', he, hd', hq⟩ := ratInit_eq other.fields.2 other.fields.1 h3
  simp only [he, RatRes.bind]
  rw [(ratMul_value n1 d1 n' d' h1 (by omega)).1, hq]
  congr 1
  have : (other.fields.1 : ℚ) ≠ 0 := by exact_mod_cast h3
  have : (other.fields.2 : ℚ) ≠ 0 := by exact_mod_cast h2
  field_simp

/-- … and raises `RuntimeError` (not `ZeroDivisionError`) when the divisor is zero -/
theorem ratDiv_zero (n1 d1 : ℤ) (other : RatArg) (h3 : other.fields.1 = 0) :
    ratDiv n1 d1 other = .raise "RuntimeError" := by
  unfold ratDiv
  rw [h3, ratInit_zero]
  rfl

/-- **`__rdiv__`**: `other / self` -/
theorem ratRdiv_value (n1 d1 : ℤ) (other : RatArg) (h1 : d1 ≠ 0) (h2 : other.fields.2 ≠ 0)
    (h3 : n1 ≠ 0) :
    (ratRdiv n1 d1 other).value = some (other.value / ((n1 : ℚ) / d1)) := by
  unfold ratRdiv RatArg.value
  obtain ⟨n', d', he, hd', hq⟩ := ratInit_eq d1 n1 h3
  simp only [he, RatRes.bind]
  rw [(ratMul_value n' d' _ _ (by omega) h2).1, hq]
  congr 1
  have : (n1 : ℚ) ≠ 0 := by exact_mod_cast h3
  have : (d1 : ℚ) ≠ 0 := by exact_mod_cast h1
  field_simp

theorem ratRdiv_zero (d1 : ℤ) (other : RatArg) : ratRdiv 0 d1 other = .raise "RuntimeError" := by
  unfold ratRdiv
  rw [ratInit_zero]
  rfl

/-- **`__pow__` as coded computes the power of the RECIPROCAL**: `(d/n)^k`, not `(n/d)^k` -/
theorem ratPow_value (n d : ℤ) (k : ℕ) (hn : n ≠ 0) :
    (ratPow n d k).value = some (((d : ℚ) / n) ^ k) := by
  unfold ratPow
  rw [ratInit_value _ _ (pow_ne_zero k hn)]
  congr 1
  push_cast
  rw [div_pow]

end PV.Algo
