import PV.Proofs.CoeffTableProd
/-
  C15, T-gen tie, part 1c: for every expression and every target set, the table interpreter run on
  the literal table is the hand-written collector:  `c15CoeffsT c15ExpTable tg e = coeffs tg e`.
-/
namespace PV.Coeff
open PV

/-! ### look-ups in the literal table

A handler or a class row is looked up by its POSITION in `c15ExpHandlers` / `c15ExpClasses`
(`exp_handler i`, `exp_row i`): `exp_hidx` and `exp_row` check once, for the whole table, that the
look-up by name stops at that position.  A wrong position fails at the `rfl` next to it. -/

def mkFn (name definedIn : String) (body : List C15S) : C15Fn :=
  { name := name, definedIn := definedIn, params := [], vararg := "", body := body }

/-- the entry found by name is the one at the index `findIdx?` gives -/
theorem find?_of_findIdx? {α : Type} (p : α → Bool) : ∀ (l : List α) (i : Nat) (a : α),
    l.findIdx? p = some i → l[i]? = some a → l.find? p = some a
  | [], _, _, h, _ => by simp at h
  | b :: l, i, a, h, ha => by
    rw [List.findIdx?_cons] at h
    by_cases hb : p b = true
    · simp only [hb, if_true, Option.some.injEq] at h
      subst h
      simp only [List.getElem?_cons_zero, Option.some.injEq] at ha
      simp [ha ▸ hb, ha]
    · simp only [hb, Bool.false_eq_true, if_false, Option.map_eq_some_iff] at h
      obtain ⟨j, hj, rfl⟩ := h
      simp only [List.find?_cons, hb]
      exact find?_of_findIdx? p l j a hj (by simpa using ha)

/-- no handler name occurs twice: the look-up by name of entry `i` stops at `i` -/
theorem exp_hidx : ∀ (i : Nat) (h : i < c15ExpHandlers.length),
    c15ExpHandlers.findIdx? (fun f => f.name == c15ExpHandlers[i].name) = some i := by
  decide +kernel

/-- entry `i` of the handler table is what the look-up by its name finds -/
theorem exp_handler (i : Nat) (name : String) (f : C15Fn) (hf : c15ExpHandlers[i]? = some f)
    (hn : f.name = name) : c15ExpTable.handlerFn name = some f := by
  obtain ⟨h, hi⟩ := List.getElem?_eq_some_iff.1 hf
  subst hn
  exact find?_of_findIdx? _ _ i f (hi ▸ exp_hidx i h) hf

theorem exp_h_leaf : c15ExpTable.handlerFn "map_algebraic_leaf" =
    some (mkFn "map_algebraic_leaf" "CoefficientCollector.map_algebraic_leaf" expLeafBody) :=
  exp_handler_leaf
theorem exp_h_const : c15ExpTable.handlerFn "map_constant" =
    some (mkFn "map_constant" "CoefficientCollector.map_constant" [.ret (.mkDict (.lit 1) .node)]) :=
  exp_handler_const
theorem exp_h_sum : c15ExpTable.handlerFn "map_sum" =
    some (mkFn "map_sum" "CoefficientCollector.map_sum" expSumBody) := exp_handler 10 _ _ rfl rfl
theorem exp_h_prod : c15ExpTable.handlerFn "map_product" =
    some (mkFn "map_product" "CoefficientCollector.map_product" expProdBody) :=
  exp_handler 7 _ _ rfl rfl
theorem exp_h_quot : c15ExpTable.handlerFn "map_quotient" =
    some (mkFn "map_quotient" "CoefficientCollector.map_quotient" expQuotBody) :=
  exp_handler 8 _ _ rfl rfl
theorem exp_h_pow : c15ExpTable.handlerFn "map_power" =
    some (mkFn "map_power" "CoefficientCollector.map_power" expPowBody) := exp_handler 6 _ _ rfl rfl
theorem exp_h_variable : c15ExpTable.handlerFn "map_variable" =
    some (mkFn "map_variable" "Mapper.map_variable" [.delegate "map_algebraic_leaf"]) :=
  exp_handler 12 _ _ rfl rfl
theorem exp_h_call : c15ExpTable.handlerFn "map_call" =
    some (mkFn "map_call" "Mapper.map_call" [.delegate "map_algebraic_leaf"]) :=
  exp_handler 1 _ _ rfl rfl
theorem exp_h_lookup : c15ExpTable.handlerFn "map_lookup" =
    some (mkFn "map_lookup" "Mapper.map_lookup" [.delegate "map_algebraic_leaf"]) :=
  exp_handler 4 _ _ rfl rfl
theorem exp_h_subscript : c15ExpTable.handlerFn "map_subscript" =
    some (mkFn "map_subscript" "Mapper.map_subscript" [.delegate "map_algebraic_leaf"]) :=
  exp_handler 9 _ _ rfl rfl
theorem exp_h_nan : c15ExpTable.handlerFn "map_nan" =
    some (mkFn "map_nan" "Mapper.map_nan" [.delegate "map_algebraic_leaf"]) :=
  exp_handler 5 _ _ rfl rfl
theorem exp_h_list : c15ExpTable.handlerFn "map_list" =
    some (mkFn "map_list" "Mapper.map_list" [.raise_ "NotImplementedError" ""]) :=
  exp_handler 3 _ _ rfl rfl
theorem exp_h_tuple : c15ExpTable.handlerFn "map_tuple" =
    some (mkFn "map_tuple" "Mapper.map_tuple" [.raise_ "NotImplementedError" ""]) :=
  exp_handler 11 _ _ rfl rfl

/-- every row of the class table is the one the look-up by class name finds (no class occurs twice) -/
theorem exp_row : ∀ (i : Nat) (h : i < c15ExpClasses.length),
    c15ExpTable.classRow c15ExpClasses[i].cls = some c15ExpClasses[i] := by
  decide +kernel

/-! ### running a handler of the literal table -/

theorem dictOf_dictRes (r : CR Dict) : c15DictOf (dictRes r) = r := by
  cases r <;> rfl

theorem run_handler_leaf (ctx : C15Ctx) (n : Nat) :
    c15RunHandler c15ExpTable ctx (n + 1) "map_algebraic_leaf" =
      c15Result (C15S.execL { ctx with delegate := c15RunHandler c15ExpTable ctx n } expLeafBody []) := by
  simp only [c15RunHandler, exp_h_leaf, mkFn]

/-- a handler whose body is `return self.map_algebraic_leaf(expr, …)` -/
theorem run_delegate (ctx : C15Ctx) (n : Nat) (h d : String)
    (hh : c15ExpTable.handlerFn h = some (mkFn h d [.delegate "map_algebraic_leaf"])) :
    c15RunHandler c15ExpTable ctx (n + 1) h = c15RunHandler c15ExpTable ctx n "map_algebraic_leaf" := by
  simp only [c15RunHandler, hh, mkFn, C15S.execL, C15S.exec]
  cases c15RunHandler c15ExpTable ctx n "map_algebraic_leaf" <;> rfl

theorem nodeCtx_self (tg : Option (List String)) (e : Expr) (fields : List String) (fs : C15Fields) :
    (c15NodeCtx c15ExpTable tg e fields fs).selfAttrs = [("target_names", c15Targets tg)] := by rfl

/-- `map_algebraic_leaf` reached directly or through one delegating handler -/
theorem dispatch_leaf (tg : Option (List String)) (e : Expr) (fields : List String) (fs : C15Fields)
    (nm : Option String) (h : String)
    (hrun : ∀ ctx : C15Ctx, c15RunHandler c15ExpTable ctx 4 h =
      c15RunHandler c15ExpTable ctx 3 "map_algebraic_leaf" ∨
      (h = "map_algebraic_leaf"))
    (hname : c15Getattr (c15NodeCtx c15ExpTable tg e fields fs) "name" = some nm)
    (htg : isTarget tg e = tgTest tg nm) :
    c15Dispatch c15ExpTable tg e h fields fs = leafR tg e := by
  unfold c15Dispatch
  have key : ∀ n, c15RunHandler c15ExpTable (c15NodeCtx c15ExpTable tg e fields fs) (n + 1)
      "map_algebraic_leaf" = dictRes (leafR tg e) := by
    intro n
    rw [run_handler_leaf]
    exact run_leaf _ tg e nm rfl (nodeCtx_self tg e fields fs) hname htg
  rcases hrun (c15NodeCtx c15ExpTable tg e fields fs) with hr | rfl
  · rw [hr, key 2, dictOf_dictRes]
  · rw [key 3, dictOf_dictRes]

/-- a node class the collector has no handler for -/
theorem class_unsupported (tg : Option (List String)) (e : Expr) (fs : C15Fields) (cls : String)
    (fields : List String) (hc : c15ClassOf e = some cls)
    (hrow : c15ExpTable.classRow cls = some { cls := cls, fields := fields, handler := none }) :
    c15Class c15ExpTable tg e fs = .error .unsupported := by
  simp only [c15Class, hc, hrow]

theorem class_leaf (tg : Option (List String)) (e : Expr) (fs : C15Fields) (cls : String)
    (fields : List String) (h : String) (nm : Option String) (hc : c15ClassOf e = some cls)
    (hrow : c15ExpTable.classRow cls = some { cls := cls, fields := fields, handler := some h })
    (hrun : ∀ ctx : C15Ctx, c15RunHandler c15ExpTable ctx 4 h =
      c15RunHandler c15ExpTable ctx 3 "map_algebraic_leaf" ∨ (h = "map_algebraic_leaf"))
    (hname : c15Getattr (c15NodeCtx c15ExpTable tg e fields fs) "name" = some nm)
    (htg : isTarget tg e = tgTest tg nm) :
    c15Class c15ExpTable tg e fs = leafR tg e := by
  simp only [c15Class, hc, hrow]
  exact dispatch_leaf tg e fields fs nm h hrun hname htg

/-- a node class whose handler has a body of its own: the dispatch runs that body -/
theorem class_run (tg : Option (List String)) (e : Expr) (fs : C15Fields) (cls : String)
    (fields : List String) (h d : String) (body : List C15S) (hc : c15ClassOf e = some cls)
    (hrow : c15ExpTable.classRow cls = some { cls := cls, fields := fields, handler := some h })
    (hh : c15ExpTable.handlerFn h = some (mkFn h d body)) :
    c15Class c15ExpTable tg e fs = c15DictOf (c15Result (C15S.execL
      { c15NodeCtx c15ExpTable tg e fields fs with
        delegate := c15RunHandler c15ExpTable (c15NodeCtx c15ExpTable tg e fields fs) 3 } body [])) := by
  simp only [c15Class, hc, hrow, c15Dispatch, c15RunHandler, hh, mkFn]

theorem foreign_rule_const (k : String) (hk : k = "int" ∨ k = "bool" ∨ k = "float") :
    c15ForeignRule c15ExpTable.constKinds k c15ExpTable.foreign = some "map_constant" := by
  rcases hk with rfl | rfl | rfl <;> rfl

theorem foreign_const (tg : Option (List String)) (c : Const) (k : String)
    (hk : k = "int" ∨ k = "bool" ∨ k = "float") :
    c15Foreign c15ExpTable tg k (.const c) = .ok [(one, .const c)] := by
  simp only [c15Foreign, foreign_rule_const k hk, c15Dispatch, c15RunHandler, exp_h_const, mkFn]
  rw [run_const _ (.const c) rfl]
  rfl

theorem foreign_raise (tg : Option (List String)) (e : Expr) (k h d : String)
    (hr : c15ForeignRule c15ExpTable.constKinds k c15ExpTable.foreign = some h)
    (hh : c15ExpTable.handlerFn h = some (mkFn h d [.raise_ "NotImplementedError" ""])) :
    c15Foreign c15ExpTable tg k e = .error .notImplemented := by
  simp only [c15Foreign, hr, c15Dispatch, c15RunHandler, hh, mkFn, C15S.execL, C15S.exec]
  rfl

/-! ### the theorem -/

mutual
/-- **The table interpreter on the literal table is `coeffs`.**  Both sides unfold by evaluation once
the node's constructor is known; `exp_row i` is row `i` of the class table. -/
theorem coeffsT_exp (tg : Option (List String)) : ∀ e : Expr, c15CoeffsT c15ExpTable tg e = coeffs tg e
  | .const (.int n) => foreign_const tg _ _ (Or.inl rfl)
  | .const (.bool b) => foreign_const tg _ _ (Or.inr (Or.inl rfl))
  | .const (.flt r n d) => foreign_const tg _ _ (Or.inr (Or.inr rfl))
  | .const (.str s) => rfl
  | .const .none => rfl
  | .tuple cs => foreign_raise tg _ "tuple" "map_tuple" _ (by rfl) exp_h_tuple
  | .list cs => foreign_raise tg _ "list" "map_list" _ (by rfl) exp_h_list
  | .var n =>
    class_leaf tg _ _ "Variable" _ "map_variable" (some n) rfl (exp_row 0 (by decide))
      (fun ctx => Or.inl (run_delegate ctx 3 _ _ exp_h_variable)) (by rfl) (by cases tg <;> rfl)
  | .subscript a i =>
    class_leaf tg _ _ "Subscript" _ "map_subscript" none rfl (exp_row 22 (by decide))
      (fun ctx => Or.inl (run_delegate ctx 3 _ _ exp_h_subscript)) (by rfl) (by cases tg <;> rfl)
  | .call f as =>
    class_leaf tg _ _ "Call" _ "map_call" none rfl (exp_row 20 (by decide))
      (fun ctx => Or.inl (run_delegate ctx 3 _ _ exp_h_call)) (by rfl) (by cases tg <;> rfl)
  | .callKw f as ns vs =>
    class_leaf tg _ _ "CallWithKwargs" _ "map_algebraic_leaf" none rfl (exp_row 21 (by decide))
      (fun ctx => Or.inr rfl) (by rfl) (by cases tg <;> rfl)
  | .lookup a n =>
    class_leaf tg _ _ "Lookup" _ "map_lookup" (some n) rfl (exp_row 23 (by decide))
      (fun ctx => Or.inl (run_delegate ctx 3 _ _ exp_h_lookup)) (by rfl) (by cases tg <;> rfl)
  | .nan =>
    class_leaf tg _ _ "NaN" _ "map_nan" none rfl (exp_row 28 (by decide))
      (fun ctx => Or.inl (run_delegate ctx 3 _ _ exp_h_nan)) (by rfl) (by cases tg <;> rfl)
  | .wildcard =>
    class_leaf tg _ _ "Wildcard" _ "map_algebraic_leaf" none rfl (exp_row 29 (by decide))
      (fun ctx => Or.inr rfl) (by rfl) (by cases tg <;> rfl)
  | .dotWild n =>
    class_leaf tg _ _ "DotWildcard" _ "map_algebraic_leaf" (some n) rfl (exp_row 30 (by decide))
      (fun ctx => Or.inr rfl) (by rfl) (by cases tg <;> rfl)
  | .starWild n =>
    class_leaf tg _ _ "StarWildcard" _ "map_algebraic_leaf" (some n) rfl (exp_row 31 (by decide))
      (fun ctx => Or.inr rfl) (by rfl) (by cases tg <;> rfl)
  | .funcSym =>
    class_leaf tg _ _ "FunctionSymbol" _ "map_algebraic_leaf" none rfl (exp_row 32 (by decide))
      (fun ctx => Or.inr rfl) (by rfl) (by cases tg <;> rfl)
  | .nary .sum cs =>
    (class_run tg _ _ "Sum" _ "map_sum" _ _ rfl (exp_row 1 (by decide)) exp_h_sum).trans (by
      rw [run_sum _ (c15CoeffsTL c15ExpTable tg cs) rfl, dictOf_dictRes, coeffsTL_exp tg cs]; rfl)
  | .nary .prod cs =>
    (class_run tg _ _ "Product" _ "map_product" _ _ rfl (exp_row 2 (by decide)) exp_h_prod).trans (by
      rw [run_prod _ (c15CoeffsTL c15ExpTable tg cs) rfl
        (by rw [coeffsTL_exp tg cs]; exact coeffsL_ok tg cs), dictOf_dictRes, coeffsTL_exp tg cs]
      rfl)
  | .bin .quot a b =>
    (class_run tg _ _ "Quotient" _ "map_quotient" _ _ rfl (exp_row 10 (by decide)) exp_h_quot).trans (by
      rw [run_quot _ (fun _ => c15CoeffsT c15ExpTable tg a) (fun _ => c15CoeffsT c15ExpTable tg b) rfl,
        dictOf_dictRes, coeffsT_exp tg a, coeffsT_exp tg b]
      rfl)
  | .bin .pow a b =>
    (class_run tg _ _ "Power" _ "map_power" _ _ rfl (exp_row 13 (by decide)) exp_h_pow).trans (by
      rw [run_pow _ (.bin .pow a b) (fun _ => c15CoeffsT c15ExpTable tg a)
        (fun _ => c15CoeffsT c15ExpTable tg b) rfl rfl, dictOf_dictRes, coeffsT_exp tg a,
        coeffsT_exp tg b]
      rfl)
  | .nary .bor cs => class_unsupported tg _ _ "BitwiseOr" _ rfl (exp_row 3 (by decide))
  | .nary .bxor cs => class_unsupported tg _ _ "BitwiseXor" _ rfl (exp_row 4 (by decide))
  | .nary .band cs => class_unsupported tg _ _ "BitwiseAnd" _ rfl (exp_row 5 (by decide))
  | .nary .lor cs => class_unsupported tg _ _ "LogicalOr" _ rfl (exp_row 6 (by decide))
  | .nary .land cs => class_unsupported tg _ _ "LogicalAnd" _ rfl (exp_row 7 (by decide))
  | .nary .min cs => class_unsupported tg _ _ "Min" _ rfl (exp_row 8 (by decide))
  | .nary .max cs => class_unsupported tg _ _ "Max" _ rfl (exp_row 9 (by decide))
  | .bin .floordiv a b => class_unsupported tg _ _ "FloorDiv" _ rfl (exp_row 11 (by decide))
  | .bin .rem a b => class_unsupported tg _ _ "Remainder" _ rfl (exp_row 12 (by decide))
  | .bin .lshift a b => class_unsupported tg _ _ "LeftShift" _ rfl (exp_row 14 (by decide))
  | .bin .rshift a b => class_unsupported tg _ _ "RightShift" _ rfl (exp_row 15 (by decide))
  | .un .bnot a => class_unsupported tg _ _ "BitwiseNot" _ rfl (exp_row 16 (by decide))
  | .un .lnot a => class_unsupported tg _ _ "LogicalNot" _ rfl (exp_row 17 (by decide))
  | .cmp o a b => class_unsupported tg _ _ "Comparison" _ rfl (exp_row 18 (by decide))
  | .ite c t e => class_unsupported tg _ _ "If" _ rfl (exp_row 19 (by decide))
  | .cse c p sc => class_unsupported tg _ _ "CommonSubexpression" _ rfl (exp_row 24 (by decide))
  | .subst c vars vals => class_unsupported tg _ _ "Substitution" _ rfl (exp_row 25 (by decide))
  | .deriv c vars => class_unsupported tg _ _ "Derivative" _ rfl (exp_row 26 (by decide))
  | .slice cs => class_unsupported tg _ _ "Slice" _ rfl (exp_row 27 (by decide))
theorem coeffsTL_exp (tg : Option (List String)) : ∀ cs : List Expr,
    (c15CoeffsTL c15ExpTable tg cs).mapM (fun r => r ()) = coeffsL tg cs
  | [] => rfl
  | c :: cs => by
    rw [show c15CoeffsTL c15ExpTable tg (c :: cs) =
      (fun _ => c15CoeffsT c15ExpTable tg c) :: c15CoeffsTL c15ExpTable tg cs from rfl,
      List.mapM_cons, coeffsT_exp tg c, coeffsTL_exp tg cs]
    rfl
end

end PV.Coeff
