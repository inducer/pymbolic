import PV.Proofs.RewriteTableBase
-- one `simp` call with the common lemma set closes several cases; not every lemma fires in each
set_option linter.unusedSimpArgs false
/-
  C11 (T-gen), part 4: `TermCollector.split_term` of the table, interpreted, is `splitTerm`:
  the nested functions `base` / `exponent` are `termBase` / `termExp`, the `isinstance` chain is
  `splitFactors`, the first loop (`in` / `+=` / `=` on the dictionary) is `b2eBuild`, the second
  loop (`get_dependencies(term) <= self.parameters`) is `b2eSplit`, the frozenset of pairs hashes
  the exponents, `self.rec(flattened_product(coefficients))` closes.  Needs two facts about what
  `b2eBuild` returns: its keys are hashable and pairwise different under `==` (so the second
  dictionary only ever appends).
-/
namespace PV
open PV.Generated (c04Classes c04IdentityTable)
open PV.C11Expected
attribute [local simp] c11ExecL c11Exec c11Eval c11EvalL c11Get c11Set c11Apply c11Truthy c11Lift
  bind Except.bind pure Except.pure throw throwThe MonadExceptOf.throw

theorem c11_get_dependencies (ctx : C11Ctx) (fuel : Nat) (t : Expr) :
    c11RunFn ctx fuel c11_TermCollector_get_dependencies [.expr t] =
      (match depsR t with
       | .ok d => .ok (.set (d.map .expr))
       | .error e => .error (.py e)) := by
  simp only [c11RunFn, c11_TermCollector_get_dependencies, c11RunBody, c11Frame,
    List.length_cons, List.length_nil, beq_self_eq_true, if_true, List.zip_cons_cons,
    List.zip_nil_right, List.map_nil, List.append_nil, c11ExecL_ret, c11Eval, c11EvalL, c11Get,
    bind, Except.bind, pure, Except.pure]
  rw [show c11Apply _ (.glob .depMapper) [] = .ok (.inst .depMapper [] []) from rfl]
  simp only [c11Apply_depMapper]
  cases depsR t <;> rfl

def c11SplitDefs : List C11Def := c11_TermCollector_split_term.defs

/-- the nested functions `base` / `exponent` only ask whether the factor is a `Power` -/
theorem c11_pow_or_not (t : Expr) :
    (∃ a b, t = .bin .pow a b) ∨ (t.isPow = false ∧ termBase t = t ∧ termExp t = one) := by
  cases t with
  | bin o a b => cases o <;> first | exact .inl ⟨a, b, rfl⟩ | exact .inr ⟨rfl, rfl, rfl⟩
  | _ => exact .inr ⟨rfl, rfl, rfl⟩

theorem c11_call_base (ctx : C11Ctx) (F : Nat) (t : Expr) :
    c11CallLocal ctx c11SplitDefs F "base" [.expr t] = .ok (.expr (termBase t)) := by
  rcases c11_pow_or_not t with ⟨a, b, rfl⟩ | ⟨hp, hb, _⟩
  · cases F <;> rfl
  · rw [hb]
    cases F <;>
    simp [c11CallLocal, c11SplitDefs, c11_TermCollector_split_term, c11FindDef, c11RunBody,
      c11Frame, c11IsInstance, hp, c11OutToR]

theorem c11_call_exponent (ctx : C11Ctx) (F : Nat) (t : Expr) :
    c11CallLocal ctx c11SplitDefs F "exponent" [.expr t] = .ok (.expr (termExp t)) := by
  rcases c11_pow_or_not t with ⟨a, b, rfl⟩ | ⟨hp, _, he⟩
  · cases F <;> rfl
  · rw [he]
    cases F <;>
    simp [c11CallLocal, c11SplitDefs, c11_TermCollector_split_term, c11FindDef, c11RunBody,
      c11Frame, c11IsInstance, hp, c11OutToR, one]

/-! ### dictionaries keyed by expressions -/

/-- a `{base: exponent}` dictionary (also: a frozenset of `(base, exponent)` pairs) as a value -/
def c11B2E (d : List (Expr × Expr)) : List C11Val := d.map fun p => .list [.expr p.1, .expr p.2]

/-- `d[b] = v` on the association list: the first key with `stored == b` keeps its place -/
def b2eSet (b v : Expr) : List (Expr × Expr) → List (Expr × Expr)
  | [] => [(b, v)]
  | (b', e') :: r => if b'.pyEq b then (b', v) :: r else (b', e') :: b2eSet b v r

theorem c11B2E_cons (p : Expr × Expr) (d : List (Expr × Expr)) :
    c11B2E (p :: d) = .list [.expr p.1, .expr p.2] :: c11B2E d := rfl

theorem c11Eq_expr (a b : Expr) : c11Eq (.expr a) (.expr b) = a.pyEq b := rfl

theorem c11_b2e_any (b : Expr) (d : List (Expr × Expr)) :
    c11DictHas (.expr b) (c11B2E d) = d.any (fun p => p.1.pyEq b) := by
  induction d with
  | nil => rfl
  | cons p d ih => simp [c11B2E_cons, c11DictHas, ih, c11Eq_expr]

theorem c11_b2e_find (b : Expr) (d : List (Expr × Expr)) :
    c11DictFind (.expr b) (c11B2E d) =
      (d.find? (fun p => p.1.pyEq b)).map (fun p => C11Val.expr p.2) := by
  induction d with
  | nil => rfl
  | cons p d ih =>
    simp only [c11B2E_cons, c11DictFind, c11Eq_expr, List.find?_cons]
    by_cases h : p.1.pyEq b = true <;> simp [h, ih]

theorem c11_b2e_set (b v : Expr) (d : List (Expr × Expr)) :
    c11DictSet (.expr b) (.expr v) (c11B2E d) = c11B2E (b2eSet b v d) := by
  induction d with
  | nil => rfl
  | cons p d ih =>
    simp only [c11B2E_cons, c11DictSet, c11Eq_expr, b2eSet]
    by_cases h : p.1.pyEq b = true <;> simp [h, ih, c11B2E_cons]

theorem b2eInsert_eq (b e : Expr) (d : List (Expr × Expr)) :
    b2eInsert b e d =
      (if b.hasList then .error .typeError
       else match d.find? (fun p => p.1.pyEq b) with
        | some p => (match pyAdd p.2 e with
            | .ok s => .ok (b2eSet b s d)
            | .error er => .error er)
        | none => .ok (b2eSet b e d)) := by
  induction d with
  | nil => cases h : b.hasList <;> simp [b2eInsert, b2eSet, h]
  | cons p d ih =>
    obtain ⟨b', e'⟩ := p
    cases h : b.hasList
    · simp only [b2eInsert, h, Bool.false_eq_true, if_false, List.find?_cons, b2eSet] at ih ⊢
      cases h2 : b'.pyEq b
      · simp only [Bool.false_eq_true, if_false, ih, bind, Except.bind]
        cases d.find? (fun p => p.1.pyEq b) with
        | none => simp
        | some q => cases h3 : pyAdd q.2 e <;> simp [h3]
      · simp only [if_true, bind, Except.bind]
        cases h3 : pyAdd e' e <;> simp [h3]
    · simp [b2eInsert, h]

/-! ### `split_term` -/

/-- the frame of `split_term` -/
def c11SplitEnvG (m bv xv terms dv t mb me co cl ex : C11Val) : C11Env :=
  [("mul_term", m), ("base", bv), ("exponent", xv), ("terms", terms),
   ("base2exp", dv), ("term", t), ("mybase", mb), ("myexp", me), ("coefficients", co),
   ("cleaned_base2exp", cl), ("exp", ex)]

def c11SplitEnv (m terms : C11Val) (d : List (Expr × Expr)) (t mb me : C11Val) (co cl ex : C11Val) :
    C11Env :=
  c11SplitEnvG m (.closure "base") (.closure "exponent") terms (.dict (c11B2E d)) t mb me co cl ex

/-- the body of the first `for` of `split_term` in RewriteTableExpected.lean; the method body is cut
into `c11SplitPrefix`, this loop, `c11Split2Stmts` (second loop) and `c11SplitTail`, and glued back
by `c11_split_body` -/
def c11Split1Stmts : List C11Stmt := [
        .assign "mybase" (.call (.var "base") [(.var "term")]),
        .assign "myexp" (.call (.var "exponent") [(.var "term")]),
        .ifThen (.cmp .isIn (.var "mybase") (.var "base2exp")) [
          .augItem "base2exp" (.var "mybase") .add (.var "myexp")]
          [
          .setItem "base2exp" (.var "mybase") (.var "myexp")]]

def c11Split1Body (ctx : C11Ctx) (F : Nat) (item : C11Val) (env : C11Env) : C11Out :=
  match c11Bind c11Set ["term"] item env with
  | some env' => c11ExecL ctx F c11Split1Stmts env'
  | none => .fail .stuck

/-- what the nested functions `base` / `exponent` do, as hypotheses on the context -/
structure C11SplitLocals (ctx : C11Ctx) : Prop where
  base : ∀ t, ctx.callLocal "base" [.expr t] = .ok (.expr (termBase t))
  exponent : ∀ t, ctx.callLocal "exponent" [.expr t] = .ok (.expr (termExp t))

section
attribute [local simp] c11Split1Body c11Bind c11SplitEnv c11SplitEnvG c11Split1Stmts c11Cmp
  c11Hashable c11Hashable0

theorem c11_split_loop1 (ctx : C11Ctx) (hl : C11SplitLocals ctx) (F : Nat) (m terms co cl ex : C11Val) :
    ∀ (fs : List Expr) (d : List (Expr × Expr)) (t mb me : C11Val),
      match b2eBuild fs d with
      | .ok d' => ∃ t' mb' me',
          c11For (c11Split1Body ctx F) (fs.map .expr) (c11SplitEnv m terms d t mb me co cl ex)
            = .fell (c11SplitEnv m terms d' t' mb' me' co cl ex)
      | .error er =>
          c11For (c11Split1Body ctx F) (fs.map .expr) (c11SplitEnv m terms d t mb me co cl ex)
            = .fail (.py er)
  | [], d, t, mb, me => by
    simp only [b2eBuild, c11For, pure, Except.pure, List.map_nil]
    exact ⟨t, mb, me, rfl⟩
  | f :: fs, d, t, mb, me => by
    have ih := c11_split_loop1 ctx hl F m terms co cl ex fs
    simp only [b2eBuild, b2eInsert_eq, List.map_cons, c11For]
    cases hh : (termBase f).hasList with
    | true =>
      simp [hl.base, hl.exponent, hh]
    | false =>
      cases hf : d.find? (fun p => p.1.pyEq (termBase f)) with
      | none =>
        have := ih (b2eSet (termBase f) (termExp f) d) (.expr f) (.expr (termBase f)) (.expr (termExp f))
        have hany : d.any (fun p => p.1.pyEq (termBase f)) = false := by
          rw [List.find?_eq_none] at hf
          simpa [List.any_eq_false] using hf
        simp [hl.base, hl.exponent, hh, c11_b2e_any, c11_b2e_find, c11_b2e_set, hf,
          List.any_eq_true, c11Bin, hany] at this ⊢
        exact this
      | some p =>
        have hany : d.any (fun p => p.1.pyEq (termBase f)) = true := by
          rw [List.any_eq_true]
          exact ⟨p, List.mem_of_find?_eq_some hf, by simpa using List.find?_some hf⟩
        cases hadd : pyAdd p.2 (termExp f) with
        | error er =>
          simp [hl.base, hl.exponent, hh, c11_b2e_any, c11_b2e_find, c11_b2e_set, hf,
            List.any_eq_true, c11Bin, hany, hadd]
        | ok sm =>
          have := ih (b2eSet (termBase f) sm d) (.expr f) (.expr (termBase f)) (.expr (termExp f))
          simp [hl.base, hl.exponent, hh, c11_b2e_any, c11_b2e_find, c11_b2e_set, hf,
            List.any_eq_true, c11Bin, hany, hadd] at this ⊢
          exact this

end

/-! #### what `b2eBuild` guarantees about its keys -/

def b2eKeysOk (d : List (Expr × Expr)) : Prop :=
  (∀ p ∈ d, p.1.hasList = false) ∧ d.Pairwise (fun p q => p.1.pyEq q.1 = false)

theorem b2eSet_of_found (b v : Expr) : ∀ (d : List (Expr × Expr)),
    d.any (fun p => p.1.pyEq b) = true → (b2eSet b v d).map Prod.fst = d.map Prod.fst
  | [], h => by simp at h
  | (b', e') :: r, h => by
    simp only [b2eSet]
    by_cases hb : b'.pyEq b = true
    · simp [hb]
    · simp only [List.any_cons, Bool.or_eq_true] at h
      have hr := h.resolve_left hb
      simp [hb, b2eSet_of_found b v r hr]

theorem b2eSet_of_not_found (b v : Expr) : ∀ (d : List (Expr × Expr)),
    d.any (fun p => p.1.pyEq b) = false → b2eSet b v d = d ++ [(b, v)]
  | [], _ => rfl
  | (b', e') :: r, h => by
    simp only [List.any_cons, Bool.or_eq_false_iff] at h
    simp [b2eSet, h.1, b2eSet_of_not_found b v r h.2]

theorem b2eKeysOk_congr {d d' : List (Expr × Expr)} (h : d'.map Prod.fst = d.map Prod.fst)
    (hd : b2eKeysOk d) : b2eKeysOk d' := by
  obtain ⟨h1, h2⟩ := hd
  have e1 : ∀ l : List (Expr × Expr), (∀ p ∈ l, p.1.hasList = false) ↔
      ∀ k ∈ l.map Prod.fst, k.hasList = false := by
    intro l; simp
  have e2 : ∀ l : List (Expr × Expr), l.Pairwise (fun p q => p.1.pyEq q.1 = false) ↔
      (l.map Prod.fst).Pairwise (fun a b => a.pyEq b = false) := by
    intro l; rw [List.pairwise_map]
  exact ⟨(e1 d').2 (h ▸ (e1 d).1 h1), (e2 d').2 (h ▸ (e2 d).1 h2)⟩

theorem b2eInsert_keysOk {b e : Expr} {d d' : List (Expr × Expr)} (h : b2eInsert b e d = .ok d')
    (hd : b2eKeysOk d) : b2eKeysOk d' := by
  rw [b2eInsert_eq] at h
  cases hh : b.hasList with
  | true => simp [hh] at h
  | false =>
    simp only [hh, Bool.false_eq_true, if_false] at h
    cases hf : d.find? (fun p => p.1.pyEq b) with
    | some p =>
      rw [hf] at h
      have hany : d.any (fun p => p.1.pyEq b) = true := by
        rw [List.any_eq_true]
        exact ⟨p, List.mem_of_find?_eq_some hf, by simpa using List.find?_some hf⟩
      cases hadd : pyAdd p.2 e with
      | error er => simp [hadd] at h
      | ok sm =>
        simp only [hadd, Except.ok.injEq] at h
        subst h
        exact b2eKeysOk_congr (b2eSet_of_found b sm d hany) hd
    | none =>
      rw [hf] at h
      simp only [Except.ok.injEq] at h
      subst h
      have hany : d.any (fun p => p.1.pyEq b) = false := by
        rw [List.find?_eq_none] at hf
        simpa [List.any_eq_false] using hf
      rw [b2eSet_of_not_found b e d hany]
      obtain ⟨h1, h2⟩ := hd
      refine ⟨?_, ?_⟩
      · intro p hp
        rcases List.mem_append.1 hp with hp | hp
        · exact h1 p hp
        · simp only [List.mem_singleton] at hp; subst hp; exact hh
      · rw [List.pairwise_append]
        refine ⟨h2, List.pairwise_singleton _ _, ?_⟩
        intro p hp q hq
        simp only [List.mem_singleton] at hq; subst hq
        simp only [List.any_eq_false] at hany
        simpa using hany p hp

theorem b2eBuild_keysOk : ∀ {fs : List Expr} {d d' : List (Expr × Expr)},
    b2eBuild fs d = .ok d' → b2eKeysOk d → b2eKeysOk d'
  | [], d, d', h, hd => by
    simp only [b2eBuild, pure, Except.pure, Except.ok.injEq] at h; subst h; exact hd
  | f :: fs, d, d', h, hd => by
    simp only [b2eBuild, bind, Except.bind] at h
    cases hi : b2eInsert (termBase f) (termExp f) d with
    | error er => simp [hi] at h
    | ok d1 =>
      rw [hi] at h
      exact b2eBuild_keysOk h (b2eInsert_keysOk hi hd)

def c11Split2Stmts : List C11Stmt := [
        .assign "term" (.bin .pow (.var "base") (.var "exp")),
        .ifThen (.cmp .le (.selfCall "get_dependencies" [(.var "term")]) (.selfAttr "parameters")) [
          .append "coefficients" (.var "term")]
          [
          .setItem "cleaned_base2exp" (.var "base") (.var "exp")]]

def c11Split2Body (ctx : C11Ctx) (F : Nat) (item : C11Val) (env : C11Env) : C11Out :=
  match c11Bind c11Set ["base", "exp"] item env with
  | some env' => c11ExecL ctx F c11Split2Stmts env'
  | none => .fail .stuck

/-- what `self.get_dependencies` / `self.parameters` are, as hypotheses on the context -/
structure C11CollCtx (ctx : C11Ctx) (params : List Expr) : Prop where
  deps : ∀ t, ctx.callSelf "get_dependencies" [.expr t] =
    (match depsR t with
     | .ok d => .ok (.set (d.map .expr))
     | .error e => .error (.py e))
  params : c11Get "parameters" ctx.selfAttrs = .set (params.map .expr)

theorem c11Subset_exprs (d ps : List Expr) :
    c11Subset (d.map .expr) (ps.map .expr) = subsetPy d ps := by
  simp [c11Subset, subsetPy, List.all_map, List.any_map, c11Eq1, c11Eq0, Function.comp_def]

section
attribute [local simp] c11Split2Body c11Bind c11SplitEnvG c11Split2Stmts c11Bin

theorem c11_split_loop2 (ctx : C11Ctx) (params : List Expr) (hc : C11CollCtx ctx params) (F : Nat)
    (m xv terms dv mb me : C11Val) :
    ∀ (rest : List (Expr × Expr)) (co : List Expr) (cl : List (Expr × Expr)) (bv t ex : C11Val),
      (∀ p ∈ rest, p.1.hasList = false) →
      rest.Pairwise (fun p q => p.1.pyEq q.1 = false) →
      (∀ k ∈ cl, ∀ p ∈ rest, k.1.pyEq p.1 = false) →
      match b2eSplit params rest with
      | .ok (cs, cln) => ∃ bv' t' ex',
          c11For (c11Split2Body ctx F) (c11B2E rest)
            (c11SplitEnvG m bv xv terms dv t mb me (.list (co.map .expr)) (.dict (c11B2E cl)) ex)
          = .fell (c11SplitEnvG m bv' xv terms dv t' mb me (.list ((co ++ cs).map .expr))
              (.dict (c11B2E (cl ++ cln))) ex')
      | .error er =>
          c11For (c11Split2Body ctx F) (c11B2E rest)
            (c11SplitEnvG m bv xv terms dv t mb me (.list (co.map .expr)) (.dict (c11B2E cl)) ex)
          = .fail (.py er)
  | [], co, cl, bv, t, ex, _, _, _ => by
    simp only [b2eSplit, pure, Except.pure, c11B2E, List.map_nil, c11For, List.append_nil]
    exact ⟨bv, t, ex, rfl⟩
  | (b, e) :: rest, co, cl, bv, t, ex, h1, h2, h3 => by
    have hb : b.hasList = false := h1 (b, e) (List.mem_cons_self ..)
    have h1' : ∀ p ∈ rest, p.1.hasList = false := fun p hp => h1 p (List.mem_cons_of_mem _ hp)
    rw [List.pairwise_cons] at h2
    have hcl : (cl.any fun p => p.1.pyEq b) = false := by
      simp only [List.any_eq_false]
      intro p hp; simpa using h3 p hp (b, e) (List.mem_cons_self ..)
    have ih := c11_split_loop2 ctx params hc F m xv terms dv mb me rest
    simp only [b2eSplit, c11B2E_cons, c11For]
    cases hpow : pyPow b e with
    | error er =>
      simp [hpow]
    | ok term =>
      cases hd : depsR term with
      | error er =>
        simp [hpow, hc.deps, hd]
      | ok dd =>
        cases hsub : subsetPy dd params with
        | true =>
          have := ih (co ++ [term]) cl (.expr b) (.expr term) (.expr e) h1' h2.2
            (fun k hk p hp => h3 k hk p (List.mem_cons_of_mem _ hp))
          cases hrest : b2eSplit params rest with
          | error er =>
            rw [hrest] at this
            simp [hpow, hc.deps, hd, hc.params, c11Cmp, c11Subset_exprs, hsub] at this ⊢
            exact this
          | ok r =>
            obtain ⟨cs, cln⟩ := r
            rw [hrest] at this
            simp [hpow, hc.deps, hd, hc.params, c11Cmp, c11Subset_exprs, hsub] at this ⊢
            exact this
        | false =>
          have := ih co (cl ++ [(b, e)]) (.expr b) (.expr term) (.expr e) h1' h2.2
            (fun k hk p hp => by
              rcases List.mem_append.1 hk with hk | hk
              · exact h3 k hk p (List.mem_cons_of_mem _ hp)
              · simp only [List.mem_singleton] at hk; subst hk; exact h2.1 p hp)
          cases hrest : b2eSplit params rest with
          | error er =>
            rw [hrest] at this
            simp [hpow, hc.deps, hd, hc.params, c11Cmp, c11Subset_exprs, hsub, c11Hashable,
              c11Hashable0, hb, c11_b2e_set, b2eSet_of_not_found b e cl hcl] at this ⊢
            exact this
          | ok r =>
            obtain ⟨cs, cln⟩ := r
            rw [hrest] at this
            simp [hpow, hc.deps, hd, hc.params, c11Cmp, c11Subset_exprs, hsub, c11Hashable,
              c11Hashable0, hb, c11_b2e_set, b2eSet_of_not_found b e cl hcl] at this ⊢
            exact this

end

def c11SplitPrefix : List C11Stmt := [
      .defFn "base",
      .defFn "exponent",
      .ifThen (.call (.glob .pyIsinstance) [(.var "mul_term"), (.glob .clsProduct)]) [
        .assign "terms" (.attr (.var "mul_term") "children")]
        [
        .ifThen (.call (.glob .pyIsinstance) [(.var "mul_term"), (.seq [(.glob .clsPower),
          (.glob .clsAlgebraicLeaf)])]) [
          .assign "terms" (.seq [(.var "mul_term")])]
          [
          .ifThen (.not (.call (.glob .pyBool) [(.selfCall "get_dependencies" [(.var "mul_term")])])) [
            .assign "terms" (.seq [(.var "mul_term")])]
            [
            .raise .runtimeError]]]]

def c11SplitEnv0 (t : Expr) : C11Env :=
  c11SplitEnvG (.expr t) .unbound .unbound .unbound .unbound .unbound .unbound .unbound .unbound
    .unbound .unbound

/-- `split_term`'s `isinstance` chain, for a term that is not a product -/
theorem splitFactors_eq (t : Expr) (hp : isProdE t = false) :
    splitFactors t = if t.isPow || t.isAlgebraicLeaf then pure [t] else
      (do let d ← depsR t; if d.isEmpty then pure [t] else throw .runtime) := by
  cases t with
  | nary o cs => cases o <;> first | rfl | cases hp
  | bin o a b => cases o <;> rfl
  | _ => rfl

section
attribute [local simp] c11SplitPrefix c11SplitEnv0 c11SplitEnvG c11IsInstance

theorem c11_split_prefix (ctx : C11Ctx) (params : List Expr) (hc : C11CollCtx ctx params) (F : Nat)
    (t : Expr) :
    c11ExecL ctx F c11SplitPrefix (c11SplitEnv0 t) =
      (match splitFactors t with
       | .ok fs => .fell (c11SplitEnvG (.expr t) (.closure "base") (.closure "exponent")
           (.list (fs.map .expr)) .unbound .unbound .unbound .unbound .unbound .unbound .unbound)
       | .error er => .fail (.py er)) := by
  cases hp : isProdE t with
  | true =>
    obtain ⟨cs, rfl⟩ := c11_isProdE_eq hp
    simp [isProdE, splitFactors, c11Attr, Expr.c04Field, Expr.c04Fields, c04Assoc]
  | false =>
    rw [splitFactors_eq t hp]
    cases h2 : t.isPow <;> cases h1 : t.isAlgebraicLeaf
    · cases hd : depsR t with
      | error er =>
        simp [h1, h2, hp, hc.deps, hd]
      | ok d =>
        cases hde : d.isEmpty <;>
        simp [h1, h2, hp, hc.deps, hd, hde]
    all_goals simp [h1, h2, hp]

end

def c11SplitTail : List C11Stmt := [
      .assign "term" (.call (.glob .pyFrozenset) [(.comp (.seq [(.var "base"),
        (.var "exp")]) ["base", "exp"] (.method (.var "cleaned_base2exp") "items" []))]),
      .ret (.seq [(.var "term"),
        (.selfCall "rec" [(.call (.glob .flattenedProduct) [(.var "coefficients")])])])]

theorem c11MapM_pairs_id (f : C11Val → C11R C11Val)
    (hf : ∀ b e : Expr, f (.list [.expr b, .expr e]) = .ok (.list [.expr b, .expr e])) :
    ∀ d : List (Expr × Expr), c11MapM f (c11B2E d) = .ok (c11B2E d)
  | [] => rfl
  | p :: d => by
    simp [c11B2E_cons, c11MapM, c11MapM_pairs_id f hf d, hf]

/-- `[(base, exp) for base, exp in ITER]` rebuilds the pairs -/
theorem c11_comp_pairs (ctx : C11Ctx) (env : C11Env) (iter : C11Tm) (d : List (Expr × Expr))
    (h : c11Eval ctx env iter = .ok (.list (c11B2E d))) :
    c11Eval ctx env (.comp (.seq [(.var "base"), (.var "exp")]) ["base", "exp"] iter)
      = .ok (.list (c11B2E d)) := by
  simp only [c11Eval, h, c11Items, bind, Except.bind, pure, Except.pure]
  rw [c11MapM_pairs_id]
  intro b e
  simp [c11Bind, c11Push]

theorem c11_b2e_hashable (d : List (Expr × Expr)) (h : ∀ p ∈ d, p.1.hasList = false) :
    (c11B2E d).all c11Hashable = !d.any (fun p => p.2.hasList) := by
  induction d with
  | nil => rfl
  | cons p d ih =>
    have h1 := h p (List.mem_cons_self ..)
    have h2 := ih (fun q hq => h q (List.mem_cons_of_mem _ hq))
    simp only [c11B2E_cons, List.all_cons, h2, List.any_cons, c11Hashable, c11Hashable0,
      List.all_nil,
      h1, Bool.not_false, Bool.true_and, Bool.and_true, Bool.not_or]

section
attribute [local simp] c11SplitTail c11SplitEnvG c11Method c11Items c11OutToR

theorem c11_split_tail (ctx : C11Ctx) (F : Nat) (m bv xv terms dv t mb me ex : C11Val)
    (coeffs : List Expr) (cleaned : List (Expr × Expr)) (hk : ∀ p ∈ cleaned, p.1.hasList = false) :
    c11OutToR (c11ExecL ctx F c11SplitTail
      (c11SplitEnvG m bv xv terms dv t mb me (.list (coeffs.map .expr)) (.dict (c11B2E cleaned)) ex)) =
    (if cleaned.any (fun p => p.2.hasList) then .error (.py .typeError)
     else match flatProd coeffs with
      | .error er => .error (.py er)
      | .ok cf => match ctx.recur cf with
        | .error er => .error (.py er)
        | .ok coeff => .ok (.list [.set (c11B2E cleaned), .expr coeff])) := by
  have hcomp := c11_comp_pairs ctx
    (c11SplitEnvG m bv xv terms dv t mb me (.list (coeffs.map .expr)) (.dict (c11B2E cleaned)) ex)
    (.method (.var "cleaned_base2exp") "items" []) cleaned
    (by simp [c11SplitEnvG, c11Method])
  simp only [c11SplitTail, c11ExecL, c11Exec]
  simp only [c11Eval, c11EvalL] at hcomp ⊢
  simp only [hcomp]
  cases hh : cleaned.any (fun p => p.2.hasList) with
  | true =>
    simp [c11_b2e_hashable cleaned hk, hh]
  | false =>
    cases hf : flatProd coeffs with
    | error er =>
      simp [c11_b2e_hashable cleaned hk, hh, c11AsExprs_exprs, hf]
    | ok cf =>
      cases hr : ctx.recur cf <;>
      simp [c11_b2e_hashable cleaned hk, hh, c11AsExprs_exprs, hf, hr, Functor.map, Except.map]

end

theorem b2eSplit_mem {params : List Expr} : ∀ {d : List (Expr × Expr)} {cs : List Expr}
    {cln : List (Expr × Expr)}, b2eSplit params d = .ok (cs, cln) → ∀ p ∈ cln, p ∈ d
  | [], cs, cln, h, p, hp => by
    simp only [b2eSplit, pure, Except.pure, Except.ok.injEq, Prod.mk.injEq] at h
    rw [← h.2] at hp; cases hp
  | (b, e) :: rest, cs, cln, h, p, hp => by
    simp only [b2eSplit, bind, Except.bind] at h
    cases hpow : pyPow b e with
    | error er => simp [hpow] at h
    | ok term =>
      cases hd : depsR term with
      | error er => simp [hpow, hd] at h
      | ok dd =>
        cases hr : b2eSplit params rest with
        | error er => simp [hpow, hd, hr] at h
        | ok r =>
          obtain ⟨cs', cl'⟩ := r
          simp only [hpow, hd, hr] at h
          cases hsub : subsetPy dd params
          case true =>
            simp only [hsub, if_true, pure, Except.pure, Except.ok.injEq, Prod.mk.injEq] at h
            rw [← h.2] at hp
            exact List.mem_cons_of_mem _ (b2eSplit_mem hr p hp)
          case false =>
            simp only [hsub, Bool.false_eq_true, if_false, pure, Except.pure, Except.ok.injEq,
              Prod.mk.injEq] at h
            rw [← h.2] at hp
            rcases List.mem_cons.1 hp with hp | hp
            · rw [hp]; exact List.mem_cons_self ..
            · exact List.mem_cons_of_mem _ (b2eSplit_mem hr p hp)

theorem c11Exec_split_for1 (ctx : C11Ctx) (F : Nat) (env : C11Env) :
    c11Exec ctx F (.for ["term"] (.var "terms") c11Split1Stmts) env =
      (match c11Eval ctx env (.var "terms") with
       | .error e => .fail e
       | .ok v => match c11Items v with
         | .error e => .fail e
         | .ok items => c11For (c11Split1Body ctx F) items env) := by
  rw [c11Exec]; rfl

theorem c11Exec_split_for2 (ctx : C11Ctx) (F : Nat) (env : C11Env) :
    c11Exec ctx F (.for ["base", "exp"] (.method (.var "base2exp") "items" []) c11Split2Stmts) env =
      (match c11Eval ctx env (.method (.var "base2exp") "items" []) with
       | .error e => .fail e
       | .ok v => match c11Items v with
         | .error e => .fail e
         | .ok items => c11For (c11Split2Body ctx F) items env) := by
  rw [c11Exec]; rfl

theorem c11_split_body : c11_TermCollector_split_term.body =
    c11SplitPrefix ++ ([.assign "base2exp" .emptyDict,
      .for ["term"] (.var "terms") c11Split1Stmts] ++ ([
      .assign "coefficients" (.seq []),
      .assign "cleaned_base2exp" .emptyDict,
      .for ["base",
        "exp"] (.method (.var "base2exp") "items" []) c11Split2Stmts] ++ c11SplitTail)) :=
  rfl

/-- the value `split_term` returns: `(frozenset of (base, exponent) pairs, coefficient)` -/
def c11SplitResult : Except RwErr (List (Expr × Expr) × Expr) → C11R C11Val
  | .ok (k, coeff) => .ok (.list [.set (c11B2E k), .expr coeff])
  | .error er => .error (.py er)

theorem c11_split_term (ctx : C11Ctx) (params : List Expr) (hc : C11CollCtx ctx params) (fuel : Nat)
    (t : Expr) :
    c11RunFn ctx fuel c11_TermCollector_split_term [.expr t] =
      c11SplitResult (splitTerm ctx.recur params t) := by
  generalize hctx' : ({ ctx with callLocal := c11CallLocal ctx c11_TermCollector_split_term.defs fuel } : C11Ctx) = ctx'
  have hrec : ctx'.recur = ctx.recur := by rw [← hctx']
  have hc' : C11CollCtx ctx' params := by rw [← hctx']; exact ⟨hc.deps, hc.params⟩
  have hl : C11SplitLocals ctx' := by
    rw [← hctx']; exact ⟨c11_call_base ctx fuel, c11_call_exponent ctx fuel⟩
  unfold c11RunFn
  rw [hctx']
  simp only [c11RunBody, c11_split_body]
  have hframe : c11Frame c11_TermCollector_split_term.params c11_TermCollector_split_term.locals []
      [.expr t] = some (c11SplitEnv0 t) := rfl
  rw [hframe]
  simp only [c11ExecL_append, c11_split_prefix ctx' params hc' fuel t, splitTerm]
  cases hsf : splitFactors t with
  | error er => rfl
  | ok fs =>
    simp only [bind, Except.bind]
    -- first loop
    have h1 := c11_split_loop1 ctx' hl fuel (.expr t) (.list (fs.map .expr)) .unbound .unbound .unbound
      fs [] .unbound .unbound .unbound
    simp only [c11ExecL, c11Exec_split_for1, c11Exec_split_for2]
    simp only [c11SplitEnv, c11SplitEnvG, c11B2E, List.map_nil] at h1
    simp [c11SplitEnvG, c11Items]
    cases hb : b2eBuild fs [] with
    | error er =>
      rw [hb] at h1
      simp only at h1
      rw [h1]; rfl
    | ok d =>
      rw [hb] at h1
      obtain ⟨t', mb', me', h1⟩ := h1
      rw [h1]
      -- second loop: the keys of `d` are hashable and pairwise different, so `cleaned_base2exp[base] =
      -- exp` only ever appends
      have hk : b2eKeysOk d := b2eBuild_keysOk hb ⟨by simp, List.Pairwise.nil⟩
      have h2 := c11_split_loop2 ctx' params hc' fuel (.expr t) (.closure "exponent")
        (.list (fs.map .expr)) (.dict (c11B2E d)) mb' me' d [] [] (.closure "base") t' .unbound
        hk.1 hk.2 (by simp)
      simp only [c11SplitEnvG, List.map_nil, List.nil_append] at h2
      simp [c11Method, c11Items]
      cases hs : b2eSplit params d with
      | error er =>
        rw [hs] at h2
        simp only [c11B2E, List.map_nil] at h2
        rw [h2]; rfl
      | ok r =>
        obtain ⟨cs, cln⟩ := r
        rw [hs] at h2
        obtain ⟨bv', t'', ex', h2⟩ := h2
        -- tail: `frozenset(...)` hashes the pairs; the bases are hashable (`hcl`), so only an
        -- exponent can make it raise
        have hcl : ∀ p ∈ cln, p.1.hasList = false := fun p hp => hk.1 p (b2eSplit_mem hs p hp)
        have htail := c11_split_tail ctx' fuel (.expr t) bv' (.closure "exponent")
          (.list (fs.map .expr)) (.dict (c11B2E d)) t'' mb' me' ex' cs cln hcl
        simp only [c11SplitEnvG] at htail
        simp only [c11B2E, List.map_nil] at h2 htail
        rw [h2]
        simp only [htail, hrec]
        cases hh : cln.any (fun p => p.2.hasList) with
        | true => simp [c11SplitResult]
        | false =>
          cases hf : flatProd cs with
          | error er => simp [c11SplitResult]
          | ok cf => cases hr : ctx.recur cf <;> simp [c11SplitResult, c11B2E, hr]
end PV
