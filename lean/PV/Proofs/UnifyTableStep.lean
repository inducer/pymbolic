import PV.Proofs.UnifyTableCA
import PV.Proofs.NodeClass
/-
  C16 (T-gen), part 4: the `map_*` handlers of the table `c16Expected` run by the table interpreter,
  one dispatched call `self.rec(expr, other, urecs)` in closed form (`c16UnifyF`: the model's
  `unifyE` with the recursive calls left open): `c16Step_expected`.
-/
open PV PV.Unify
namespace PV.Unify

/-! ### which objects are instances of the class of a node -/

theorem kind_classRep (e : Expr) : e.classRep.kind = e.kind := by
  cases e with
  | const c => cases c <;> rfl
  | _ => rfl

theorem nodup_inj {α β : Type} (f : α → β) : ∀ {l : List α}, (l.map f).Nodup →
    ∀ {x y : α}, x ∈ l → y ∈ l → f x = f y → x = y
  | z :: l, hnd, x, y, hx, hy, h => by
    rw [List.map_cons, List.nodup_cons] at hnd
    rcases List.mem_cons.1 hx with hx | hx <;> rcases List.mem_cons.1 hy with hy | hy
    · rw [hx, hy]
    · exact absurd (hx ▸ h ▸ List.mem_map_of_mem hy) hnd.1
    · exact absurd (hy ▸ h.symm ▸ List.mem_map_of_mem hx) hnd.1
    · exact nodup_inj f hnd.2 hx hy h

/-- the node classes have distinct names: two objects whose classes have the same name are of the
same class -/
theorem classRep_of_kind_eq {e e' : Expr} (h : e.kind = e'.kind) : e.classRep = e'.classRep :=
  nodup_inj Expr.kind (by decide +kernel) e.classRep_mem e'.classRep_mem
    (by rw [kind_classRep, kind_classRep, h])

theorem kind_inv_bin (o : BinOp) (oth : Expr) (h : oth.kind = o.name) : ∃ a b, oth = .bin o a b := by
  have hc := classRep_of_kind_eq (e' := .bin o .nan .nan) h
  cases oth with
  | bin o' a b => cases (Expr.bin.inj hc).1; exact ⟨a, b, rfl⟩
  | const c => cases c <;> cases hc
  | _ => cases hc

theorem kind_inv_un (o : UnOp) (oth : Expr) (h : oth.kind = o.name) : ∃ a, oth = .un o a := by
  have hc := classRep_of_kind_eq (e' := .un o .nan) h
  cases oth with
  | un o' a => cases (Expr.un.inj hc).1; exact ⟨a, rfl⟩
  | const c => cases c <;> cases hc
  | _ => cases hc

theorem kind_inv_nary (o : NaryOp) (oth : Expr) (h : oth.kind = o.name) : ∃ ds, oth = .nary o ds := by
  have hc := classRep_of_kind_eq (e' := .nary o []) h
  cases oth with
  | nary o' ds => cases (Expr.nary.inj hc).1; exact ⟨ds, rfl⟩
  | const c => cases c <;> cases hc
  | _ => cases hc

/-- the node classes with one constructor of their own -/
theorem kind_inv_plain (k : String) (oth : Expr) (h : oth.kind = k)
    (hk : k = "Comparison" ∨ k = "If" ∨ k = "Call" ∨ k = "Subscript" ∨ k = "Lookup" ∨ k = "tuple") :
    (k = "Comparison" → ∃ o a b, oth = .cmp o a b) ∧ (k = "If" → ∃ c t e, oth = .ite c t e) ∧
    (k = "Call" → ∃ f as, oth = .call f as) ∧ (k = "Subscript" → ∃ a i, oth = .subscript a i) ∧
    (k = "Lookup" → ∃ a n, oth = .lookup a n) ∧ (k = "tuple" → ∃ cs, oth = .tuple cs) := by
  subst h
  cases oth with
  | const c => cases c <;> simp [Expr.kind] at hk
  | nary o' _ => cases o' <;> simp [Expr.kind, NaryOp.name] at hk
  | bin o' _ _ => cases o' <;> simp [Expr.kind, BinOp.name] at hk
  | un o' _ => cases o' <;> simp [Expr.kind, UnOp.name] at hk
  | _ => simp [Expr.kind]

/-! ### the structural handlers -/

/-- a handler with the four parameters `(self, expr, other, urecs)` every `map_*` method of the
unifier has -/
def c16H4 (name : String) (locals : List String) (body : List C16S) : C16Fn :=
  ⟨name, [("self", none), ("expr", none), ("other", none), ("urecs", none)], locals, false, body⟩

def c16Guard : C16S :=
  .ifThen (.not_ (.builtin .isinstance [(.name "other"), (.builtin .type_ [(.name "expr")])]))
    [(.ret (some (.selfCall "treat_mismatch" [(.name "expr"), (.name "other"), (.name "urecs")])))] []

def c16RecE (f : String) (inner : C16E) : C16E :=
  .selfCall "rec" [(.attr (.name "expr") f), (.attr (.name "other") f), inner]

def c16OneFieldBody (f1 : String) : List C16S :=
  [c16Guard, (.ret (some (c16RecE f1 (.name "urecs"))))]

def c16TwoFieldBody (f1 f2 : String) : List C16S :=
  [c16Guard, (.ret (some (c16RecE f1 (c16RecE f2 (.name "urecs")))))]

def c16ThreeFieldBody (f1 f2 f3 : String) : List C16S :=
  [c16Guard, (.ret (some (c16RecE f1 (c16RecE f2 (c16RecE f3 (.name "urecs"))))))]

theorem isinstance_kind (v : Expr) (k : String) :
    c16IsInstance (.obj v) (.cls k) = some (v.kind == k) := rfl

/-- the class test fails: `treat_mismatch`, i.e. no record -/
theorem c16Call_guard_fails (cands : List String) (cx : C16Ctx) (hs : C16FnSpec cands cx.fn)
    (name : String) (locals : List String) (rest : List C16S) (e oth : Expr) (uv : C16Val)
    (huv : uv.isUnbound = false) (hk : oth.kind ≠ e.kind) :
    c16CallVal cx (c16H4 name locals (c16Guard :: rest)) [.self, .obj e, .obj oth, uv]
      = .ok (.objs []) := by
  have hkk : (oth.kind == e.kind) = false := by simpa using hk
  simp only [c16CallVal, c16H4, c16Guard, c16RunFn, c16BindParams, Option.map, List.map]
  c16evalA [isinstance_kind, c16KindOf, hkk, C16Val.truthy, huv, hs.treat_mismatch e oth uv huv]

theorem c16Call_one_field (cands : List String) (cx : C16Ctx) (name f1 : String) (e oth : Expr)
    (uv : C16Val) (us : List URec) (hus : uv.asRecs = some us) (hk : oth.kind = e.kind) (a a' : Expr)
    (h1 : e.c16Attr f1 = some (.obj a)) (h1' : oth.c16Attr f1 = some (.obj a')) :
    c16CallVal cx (c16H4 name [] (c16OneFieldBody f1)) [.self, .obj e, .obj oth, uv]
      = .ok (C16Val.ofRecs (cx.recur a a' us)) := by
  have hkk : (oth.kind == e.kind) = true := by simpa using hk
  have huv : uv.isUnbound = false := by cases uv <;> simp_all [C16Val.asRecs]
  simp only [c16CallVal, c16H4, c16OneFieldBody, c16Guard, c16RecE, c16RunFn, c16BindParams, Option.map,
    List.map]
  c16evalA [isinstance_kind, c16KindOf, hkk, C16Val.truthy, huv, C16Val.attr, h1, h1', hus]

theorem c16Call_two_field (cands : List String) (cx : C16Ctx) (name f1 f2 : String) (e oth : Expr)
    (uv : C16Val) (us : List URec) (hus : uv.asRecs = some us) (hk : oth.kind = e.kind)
    (a a' b b' : Expr)
    (h1 : e.c16Attr f1 = some (.obj a)) (h1' : oth.c16Attr f1 = some (.obj a'))
    (h2 : e.c16Attr f2 = some (.obj b)) (h2' : oth.c16Attr f2 = some (.obj b')) :
    c16CallVal cx (c16H4 name [] (c16TwoFieldBody f1 f2)) [.self, .obj e, .obj oth, uv]
      = .ok (C16Val.ofRecs (cx.recur a a' (cx.recur b b' us))) := by
  have hkk : (oth.kind == e.kind) = true := by simpa using hk
  have huv : uv.isUnbound = false := by cases uv <;> simp_all [C16Val.asRecs]
  simp only [c16CallVal, c16H4, c16TwoFieldBody, c16Guard, c16RecE, c16RunFn, c16BindParams, Option.map,
    List.map]
  c16evalA [isinstance_kind, c16KindOf, hkk, C16Val.truthy, huv, C16Val.attr, h1, h1', h2, h2', hus,
    asRecs_ofRecs]

theorem c16Call_three_field (cands : List String) (cx : C16Ctx) (name f1 f2 f3 : String)
    (e oth : Expr) (uv : C16Val) (us : List URec) (hus : uv.asRecs = some us)
    (hk : oth.kind = e.kind) (a a' b b' c c' : Expr)
    (h1 : e.c16Attr f1 = some (.obj a)) (h1' : oth.c16Attr f1 = some (.obj a'))
    (h2 : e.c16Attr f2 = some (.obj b)) (h2' : oth.c16Attr f2 = some (.obj b'))
    (h3 : e.c16Attr f3 = some (.obj c)) (h3' : oth.c16Attr f3 = some (.obj c')) :
    c16CallVal cx (c16H4 name [] (c16ThreeFieldBody f1 f2 f3)) [.self, .obj e, .obj oth, uv]
      = .ok (C16Val.ofRecs (cx.recur a a' (cx.recur b b' (cx.recur c c' us)))) := by
  have hkk : (oth.kind == e.kind) = true := by simpa using hk
  have huv : uv.isUnbound = false := by cases uv <;> simp_all [C16Val.asRecs]
  simp only [c16CallVal, c16H4, c16ThreeFieldBody, c16Guard, c16RecE, c16RunFn, c16BindParams,
    Option.map, List.map]
  c16evalA [isinstance_kind, c16KindOf, hkk, C16Val.truthy, huv, C16Val.attr, h1, h1', h2, h2', h3,
    h3', hus, asRecs_ofRecs]

/-! ### `map_comparison`, `map_lookup` -/

theorem c16Call_comparison (cands : List String) (cx : C16Ctx) (hs : C16FnSpec cands cx.fn)
    (e oth : Expr) (uv : C16Val) (us : List URec) (hus : uv.asRecs = some us)
    (hk : oth.kind = e.kind) (s s' : String) (a a' b b' : Expr)
    (ho : e.c16Attr "operator" = some (.str s)) (ho' : oth.c16Attr "operator" = some (.str s'))
    (h1 : e.c16Attr "left" = some (.obj a)) (h1' : oth.c16Attr "left" = some (.obj a'))
    (h2 : e.c16Attr "right" = some (.obj b)) (h2' : oth.c16Attr "right" = some (.obj b')) :
    c16CallVal cx c16X_Base_map_comparison [.self, .obj e, .obj oth, uv]
      = .ok (if s = s' then C16Val.ofRecs (cx.recur a a' (cx.recur b b' us)) else .objs []) := by
  have hkk : (oth.kind == e.kind) = true := by simpa using hk
  have huv : uv.isUnbound = false := by cases uv <;> simp_all [C16Val.asRecs]
  simp only [c16CallVal, c16X_Base_map_comparison, c16RunFn, c16BindParams, Option.map, List.map]
  by_cases hss : s = s'
  · c16evalA [isinstance_kind, c16KindOf, hkk, C16Val.truthy, huv, C16Val.attr, h1, h1', h2, h2', hus,
      asRecs_ofRecs, ho, ho', c16Cmp, hss]
  · have hne : (s != s') = true := by simpa [bne] using hss
    c16evalA [isinstance_kind, c16KindOf, hkk, C16Val.truthy, huv, C16Val.attr, ho, ho', c16Cmp, hss, hne,
      hs.treat_mismatch e oth uv huv]

theorem c16Call_comparison_mismatch (cands : List String) (cx : C16Ctx) (hs : C16FnSpec cands cx.fn)
    (e oth : Expr) (uv : C16Val) (huv : uv.isUnbound = false) (hk : oth.kind ≠ e.kind) :
    c16CallVal cx c16X_Base_map_comparison [.self, .obj e, .obj oth, uv] = .ok (.objs []) := by
  have hkk : (oth.kind == e.kind) = false := by simpa using hk
  simp only [c16CallVal, c16X_Base_map_comparison, c16RunFn, c16BindParams, Option.map, List.map]
  c16evalA [isinstance_kind, c16KindOf, hkk, C16Val.truthy, huv, hs.treat_mismatch e oth uv huv]

theorem c16Call_lookup (cx : C16Ctx) (e oth : Expr) (uv : C16Val) (us : List URec)
    (hus : uv.asRecs = some us) (hk : oth.kind = e.kind) (n n' : String) (a a' : Expr)
    (hn : e.c16Attr "name" = some (.str n)) (hn' : oth.c16Attr "name" = some (.str n'))
    (h1 : e.c16Attr "aggregate" = some (.obj a)) (h1' : oth.c16Attr "aggregate" = some (.obj a')) :
    c16CallVal cx c16X_Base_map_lookup [.self, .obj e, .obj oth, uv]
      = .ok (if n = n' then C16Val.ofRecs (cx.recur a a' us) else .objs []) := by
  have hkk : (oth.kind == e.kind) = true := by simpa using hk
  have huv : uv.isUnbound = false := by cases uv <;> simp_all [C16Val.asRecs]
  simp only [c16CallVal, c16X_Base_map_lookup, c16RunFn, c16BindParams, Option.map, List.map]
  by_cases hnn : n = n'
  · c16evalA [isinstance_kind, c16KindOf, hkk, C16Val.truthy, huv, C16Val.attr, h1, h1', hus, hn, hn',
      c16Cmp, hnn]
  · have hne : (n != n') = true := by simpa [bne] using hnn
    c16evalA [isinstance_kind, c16KindOf, hkk, C16Val.truthy, huv, C16Val.attr, hn, hn', c16Cmp, hnn, hne]

/-! ### `map_constant`, `map_variable` -/

theorem c16Call_constant (cx : C16Ctx) (e oth : Expr) (uv : C16Val) (huv : uv.isUnbound = false) :
    c16CallVal cx c16X_Base_map_constant [.self, .obj e, .obj oth, uv]
      = .ok (if e.pyEq oth then uv else .objs []) := by
  simp only [c16CallVal, c16X_Base_map_constant, c16RunFn, c16BindParams, Option.map, List.map]
  by_cases h : e.pyEq oth
  · c16evalA [c16Cmp, C16Val.truthy, huv, h]
  · c16evalA [c16Cmp, C16Val.truthy, huv, h]

theorem mapVariable_nonvar {cands : List String} {x : String} {oth : Expr} {us : List URec}
    (h : c16VarName oth = none) (hr : recFromEq cands x oth = none) :
    mapVariable cands x oth us = [] := by
  cases oth <;> simp_all [mapVariable, c16VarName]

theorem c16Call_variable (cands : List String) (cx : C16Ctx) (hs : C16FnSpec cands cx.fn)
    (ha : cx.selfAttrs = c16ModelAttrs cands) (x : String) (oth : Expr) (uv : C16Val)
    (us : List URec) (hus : uv.asRecs = some us) :
    c16CallVal cx c16X_Base_map_variable [.self, .obj (.var x), .obj oth, uv]
      = .ok (match recFromEq cands x oth with
        | some n => C16Val.ofRecs (unifyMany us n)
        | none => if c16VarName oth = some x ∧ x ∉ cands then uv else .objs []) := by
  have huv : uv.isUnbound = false := by cases uv <;> simp_all [C16Val.asRecs]
  have hrf := hs.rec_from_eq (.var x) oth
  rw [← recFromEq_eq_G] at hrf
  have hnx : (Expr.var x).c16Attr "name" = some (.str x) := rfl
  simp only [c16CallVal, c16X_Base_map_variable, c16RunFn, c16BindParams, Option.map, List.map]
  generalize Expr.var x = e at hrf hnx ⊢
  cases hr : recFromEq cands x oth with
  | some n =>
    have hum := hs.unify_many uv us n hus (recFromEq_wf hr)
    simp only [hr, C16Val.ofOptRec] at hrf
    c16evalA [hrf, c16Cmp, C16Val.truthy, huv, hum]
  | none =>
    simp only [hr, C16Val.ofOptRec] at hrf
    cases hv : c16VarName oth with
    | none =>
      c16evalA [hrf, c16Cmp, C16Val.truthy, huv, isinstance_kind, kind_eq_Variable, hv]
    | some y =>
      have hny := c16Attr_name_of_var hv
      by_cases hyx : y = x
      · subst hyx
        by_cases hc : y ∈ cands
        · c16evalA [hrf, c16Cmp, C16Val.truthy, huv, isinstance_kind, kind_eq_Variable, hv, C16Val.attr,
            hny, hnx, ha, c16ModelAttrs, hc]
        · c16evalA [hrf, c16Cmp, C16Val.truthy, huv, isinstance_kind, kind_eq_Variable, hv, C16Val.attr,
            hny, hnx, ha, c16ModelAttrs, hc]
      · have hne : (y == x) = false := by simpa using hyx
        c16evalA [hrf, c16Cmp, C16Val.truthy, huv, isinstance_kind, kind_eq_Variable, hv, C16Val.attr,
          hny, hnx, hyx, hne]

/-! ### `map_subscript` -/

/-- the four shapes of an index as far as the unpacking of 1-tuples goes -/
inductive C16IdxShape (i : Expr) : Prop where
  | other (h : (i.kind == "tuple") = false)
  | empty (h : i = .tuple [])
  | one (x : Expr) (h : i = .tuple [x])
  | many (x y : Expr) (l : List Expr) (h : i = .tuple (x :: y :: l))

theorem c16IdxShape_of (i : Expr) : C16IdxShape i := by
  by_cases hk : i.kind = "tuple"
  · obtain ⟨cs, rfl⟩ := (kind_inv_plain "tuple" i hk (by simp)).2.2.2.2.2 rfl
    match cs with
    | [] => exact .empty rfl
    | [x] => exact .one x rfl
    | x :: y :: l => exact .many x y l rfl
  · exact .other (by simpa using hk)

theorem unpackIndex_other {i : Expr} (h : (i.kind == "tuple") = false) : unpackIndex i = i := by
  cases i <;> first | rfl | (simp [Expr.kind] at h)

theorem kind_tuple (cs : List Expr) : (Expr.tuple cs).kind = "tuple" := rfl

theorem C16Env.set_of_get {x : String} {v : C16Val} : ∀ {env : C16Env},
    C16Env.get x env = some v → C16Env.set x v env = env
  | [], h => by simp [C16Env.get] at h
  | (n, w) :: rest, h => by
    by_cases hn : n = x
    · simp only [C16Env.get, hn, if_true, Option.some.injEq] at h
      simp [C16Env.set, hn, h]
    · simp only [C16Env.get, hn, if_false] at h
      simp [C16Env.set, hn, C16Env.set_of_get h]

/-- `if isinstance(v, tuple) and len(v) == 1: v, = v` -/
def c16Unpack1 (v : String) : C16S :=
  .ifThen (.and_ (.builtin .isinstance [(.name v), (.clsRef "tuple")])
    (.cmp .eq (.builtin .len [(.name v)]) (.int 1))) [(.unpack1 v (.name v))] []

theorem exec_c16Unpack1 (cx : C16Ctx) (v : String) (i : Expr) (st : C16St)
    (hv : C16Env.get v st.env = some (.obj i)) :
    C16S.exec cx (c16Unpack1 v) st = st.bind v (.obj (unpackIndex i)) := by
  have hlen2 : ∀ n : Nat, (((n : Int) + 1 + 1) == 1) = false := fun n => by simp; omega
  have hsame : st.bind v (.obj i) = st := by rw [C16St.bind, C16Env.set_of_get hv]
  rcases c16IdxShape_of i with hi | rfl | ⟨x, rfl⟩ | ⟨x, y, l, rfl⟩
  · rw [unpackIndex_other hi, hsame]
    c16evalA [c16Unpack1, hv, isinstance_kind, c16KindOf, hi, C16Val.truthy]
  · rw [show unpackIndex (.tuple []) = .tuple [] from rfl, hsame]
    c16evalA [c16Unpack1, hv, isinstance_kind, c16KindOf, kind_tuple, C16Val.truthy, C16Val.len, c16Elems,
      c16Cmp]
  · c16evalA [c16Unpack1, hv, isinstance_kind, c16KindOf, kind_tuple, C16Val.truthy, C16Val.len, c16Elems,
      c16Cmp, unpackIndex]
    split <;> rfl
  · rw [show unpackIndex (.tuple (x :: y :: l)) = .tuple (x :: y :: l) from rfl, hsame]
    c16evalA [c16Unpack1, hv, isinstance_kind, c16KindOf, kind_tuple, C16Val.truthy, C16Val.len, c16Elems,
      c16Cmp, hlen2]

theorem c16X_subscript_eq : c16X_Base_map_subscript
    = c16H4 "UnifierBase.map_subscript" ["expr_index", "other_index"]
      [c16Guard, .assign "expr_index" (.attr (.name "expr") "index"), c16Unpack1 "expr_index",
       .assign "other_index" (.attr (.name "other") "index"), c16Unpack1 "other_index",
       .ret (some (.selfCall "rec" [.attr (.name "expr") "aggregate", .attr (.name "other") "aggregate",
         .selfCall "rec" [.name "expr_index", .name "other_index", .name "urecs"]]))] := rfl

theorem c16Call_subscript (cx : C16Ctx) (e oth : Expr) (uv : C16Val) (us : List URec)
    (hus : uv.asRecs = some us) (hk : oth.kind = e.kind) (a a' i i' : Expr)
    (h1 : e.c16Attr "aggregate" = some (.obj a)) (h1' : oth.c16Attr "aggregate" = some (.obj a'))
    (h2 : e.c16Attr "index" = some (.obj i)) (h2' : oth.c16Attr "index" = some (.obj i')) :
    c16CallVal cx c16X_Base_map_subscript [.self, .obj e, .obj oth, uv]
      = .ok (C16Val.ofRecs (cx.recur a a' (cx.recur (unpackIndex i) (unpackIndex i') us))) := by
  have hkk : (oth.kind == e.kind) = true := by simpa using hk
  have huv : uv.isUnbound = false := by cases uv <;> simp_all [C16Val.asRecs]
  rw [c16X_subscript_eq]
  simp only [c16CallVal, c16H4, c16Guard, c16RunFn, c16BindParams, Option.map, List.map]
  c16evalA [isinstance_kind, c16KindOf, hkk, C16Val.truthy, huv, C16Val.attr, h1, h1', h2, h2', hus,
    asRecs_ofRecs, exec_c16Unpack1 cx _ i, exec_c16Unpack1 cx _ i']
/-! ### `map_list` / `map_tuple` -/

/-- the loop of `map_list` with `self.rec` left open -/
def c16ZipF (recur : Expr → Expr → List URec → List URec) : List (Expr × Expr) → List URec → List URec
  | [], us => us
  | (c, d) :: L, us =>
    let r := recur c d us
    if r.isEmpty then [] else c16ZipF recur L r

def mlBody : List C16S :=
  [(.assign "urecs" (.selfCall "rec" [(.name "my_child"), (.name "other_child"), (.name "urecs")])),
   (.ifThen (.not_ (.name "urecs")) [.brk] [])]

def mlSt (e oth : Expr) (us : List URec) (mc oc : C16Val) (ctl : C16Ctl) : C16St :=
  { env := [("self", .self), ("expr", .obj e), ("other", .obj oth), ("urecs", C16Val.ofRecs us),
            ("my_child", mc), ("other_child", oc)], attrs := [], out := [], ctl := ctl }

theorem truthy_bool (b : Bool) : (C16Val.bool b).truthy = some b := rfl

theorem c16Loop_map_list (cx : C16Ctx) (e oth : Expr) :
    ∀ (L : List (Expr × Expr)) (us : List URec) (mc oc : C16Val),
      ∃ mc' oc' ctl', (ctl' = C16Ctl.run ∨ ctl' = C16Ctl.brk) ∧
        c16Loop (c16LoopBody cx ["my_child", "other_child"] mlBody)
          (L.map fun p => .tup (.obj p.1) (.obj p.2)) (mlSt e oth us mc oc .run)
        = mlSt e oth (c16ZipF cx.recur L us) mc' oc' ctl' := by
  intro L
  induction L with
  | nil => intro us mc oc; exact ⟨mc, oc, .run, Or.inl rfl, by simp [c16Loop, c16ZipF]⟩
  | cons p L ih =>
    intro us mc oc
    obtain ⟨c, d⟩ := p
    simp only [List.map_cons, c16Loop]
    by_cases hr : cx.recur c d us = []
    · have hstep : c16LoopBody cx ["my_child", "other_child"] mlBody (.tup (.obj c) (.obj d))
          (mlSt e oth us mc oc .run) = mlSt e oth [] (.obj c) (.obj d) .brk := by
        simp only [c16LoopBody, mlBody, mlSt]
        c16evalA [ofRecs_isUnbound, asRecs_ofRecs, hr, C16Val.truthy]
      rw [hstep]
      exact ⟨.obj c, .obj d, .brk, Or.inr rfl, by simp [mlSt, c16ZipF, hr]⟩
    · have hne : (cx.recur c d us).isEmpty = false := by
        cases h : cx.recur c d us <;> simp_all
      have hstep : c16LoopBody cx ["my_child", "other_child"] mlBody (.tup (.obj c) (.obj d))
          (mlSt e oth us mc oc .run) = mlSt e oth (cx.recur c d us) (.obj c) (.obj d) .run := by
        simp only [c16LoopBody, mlBody, mlSt]
        c16evalA [ofRecs_isUnbound, asRecs_ofRecs, truthy_ofRecs, hne, truthy_bool]
      rw [hstep]
      obtain ⟨mc', oc', ctl', hc, h⟩ := ih (cx.recur c d us) (.obj c) (.obj d)
      refine ⟨mc', oc', ctl', hc, ?_⟩
      simp only [mlSt] at h ⊢
      rw [h]
      simp [c16ZipF, hne]

theorem c16ZipF_unequal (recur : Expr → Expr → List URec → List URec) :
    ∀ (cs ds : List Expr) (us : List URec), cs.length = ds.length →
      c16ZipF recur (cs.zip ds) us = (match cs, ds with | _, _ => c16ZipF recur (cs.zip ds) us) := by
  intros; rfl

theorem c16Call_tuple (cx : C16Ctx) (cs : List Expr) (oth : Expr) (us : List URec) :
    c16CallVal cx c16X_Base_map_list [.self, .obj (.tuple cs), .obj oth, C16Val.ofRecs us]
      = .ok (C16Val.ofRecs (match oth with
        | .tuple ds => if cs.length = ds.length then c16ZipF cx.recur (cs.zip ds) us else []
        | _ => [])) := by
  simp only [c16CallVal, c16X_Base_map_list, c16RunFn, c16BindParams, Option.map, List.map]
  simp only [C16S.execList, exec_forIn]
  by_cases hk : oth.kind = "tuple"
  · obtain ⟨ds, rfl⟩ := (kind_inv_plain "tuple" oth hk (by simp)).2.2.2.2.2 rfl
    by_cases hl : cs.length = ds.length
    · obtain ⟨mc', oc', ctl', hc, hloop⟩ := c16Loop_map_list cx (.tuple cs) (.tuple ds) (cs.zip ds) us
        .unbound .unbound
      simp only [mlSt, mlBody] at hloop
      have hzip : c16Zip (cs.map C16Val.obj) (ds.map C16Val.obj)
          = (cs.zip ds).map fun p => .tup (.obj p.1) (.obj p.2) := c16Zip_map _ _ cs ds
      have hll : ((cs.length : Int) != (ds.length : Int)) = false := by simp [hl]
      c16evalA [isinstance_kind, c16KindOf, kind_tuple, C16Val.truthy, C16Val.len, c16Elems, c16Cmp, hll,
        C16Val.iter, hzip, hloop, ofRecs_isUnbound]
      rcases hc with rfl | rfl <;> c16evalA [c16ForEnd, ofRecs_isUnbound, hl]
    · have hll : ((cs.length : Int) != (ds.length : Int)) = true := by
        simp; omega
      c16evalA [isinstance_kind, c16KindOf, kind_tuple, C16Val.truthy, C16Val.len, c16Elems, c16Cmp, hll, hl]
  · have hkk : (oth.kind == "tuple") = false := by simpa using hk
    have hm : (match oth with
        | .tuple ds => if cs.length = ds.length then c16ZipF cx.recur (cs.zip ds) us else []
        | _ => []) = [] := by
      cases oth <;> first | rfl | (simp [Expr.kind] at hk)
    rw [hm]
    c16evalA [isinstance_kind, c16KindOf, kind_tuple, C16Val.truthy, hkk]

/-! ### `UnidirectionalUnifier.map_sum` / `map_product`, `__call__` -/

/-- what `self.map_commut_assoc(expr, other, urecs, factory)` yields -/
def C16CASpec (cands : List String) (recur : Expr → Expr → List URec → List URec)
    (gen : C16Env → C16Callee → List C16Val → Option (List C16Val)) : Prop :=
  ∀ (cl : C16Env) (e oth : Expr) (cs ds : List Expr) (uv : C16Val) (us : List URec) (o : NaryOp),
    e.c16Attr "children" = some (.obj (.tuple cs)) →
    (oth.kind = e.kind → oth.c16Attr "children" = some (.obj (.tuple ds))) →
    uv.asRecs = some us → (∀ u ∈ us, u.WF) → (oth.kind = e.kind → c16Safe o ds) →
    gen cl (.self "map_commut_assoc") [.obj e, .obj oth, uv, .factory o]
      = some (if oth.kind = e.kind then (c16CommutF cands recur o cs ds us).map .urec else [])

theorem c16Collect_urecs_cons (r : URec) : ∀ l : List URec,
    c16Collect ((r :: l).map .urec) = some (.recs (r :: l))
  | [] => by simp [c16Collect]
  | r' :: l => by
    have := c16Collect_urecs_cons r' l
    simp only [List.map_cons] at this ⊢
    rw [c16Collect, this]

theorem c16Collect_urecs : ∀ l : List URec, c16Collect (l.map .urec) = some (C16Val.ofRecs l)
  | [] => rfl
  | r :: l => by rw [c16Collect_urecs_cons]; rfl

theorem c16Call_nary (cands : List String) (cx : C16Ctx) (hca : C16CASpec cands cx.recur cx.gen)
    (fn : C16Fn) (o : NaryOp) (imp : String)
    (hfn : fn = ⟨fn.name, [("self", none), ("expr", none), ("other", none), ("unis", none)], [], false,
      [(.import_ [imp]), (.ret (some (.builtin .list [(.selfCall "map_commut_assoc"
        [(.name "expr"), (.name "other"), (.name "unis"), (.factoryRef o)])])))]⟩)
    (e oth : Expr) (cs ds : List Expr) (uv : C16Val) (us : List URec)
    (he : e.c16Attr "children" = some (.obj (.tuple cs)))
    (ho : oth.kind = e.kind → oth.c16Attr "children" = some (.obj (.tuple ds)))
    (hus : uv.asRecs = some us) (husw : ∀ u ∈ us, u.WF) (hsafe : oth.kind = e.kind → c16Safe o ds) :
    c16CallVal cx fn [.self, .obj e, .obj oth, uv]
      = .ok (C16Val.ofRecs (if oth.kind = e.kind then c16CommutF cands cx.recur o cs ds us else [])) := by
  have huv : uv.isUnbound = false := by cases uv <;> simp_all [C16Val.asRecs]
  rw [hfn]
  simp only [c16CallVal, c16RunFn, c16BindParams, Option.map, List.map]
  have := fun cl => hca cl e oth cs ds uv us o he ho hus husw hsafe
  by_cases hk : oth.kind = e.kind
  · c16evalA [huv, this, hk, C16Val.iter, c16Collect_urecs]
  · c16evalA [huv, this, hk, C16Val.iter, c16Collect]

theorem c16Call_entry (cands : List String) (cx : C16Ctx) (hs : C16FnSpec cands cx.fn) (e oth : Expr) :
    c16CallVal cx c16X_Base_call [.self, .obj e, .obj oth]
      = .ok (C16Val.ofRecs (cx.recur e oth [URec.empty])) := by
  simp only [c16CallVal, c16X_Base_call, c16RunFn, c16BindParams, Option.map, List.map]
  c16evalA [c16Cmp, C16Val.truthy, hs.ctor0, c16Collect, C16Val.asRecs]

/-! ### one dispatched call in closed form -/

/-- the node kinds the hand-written model `unifyE` gives an answer for (the top node only) -/
def c16Top : Expr → Bool
  | .const (.int _) => true
  | .const (.bool _) => true
  | .const (.flt ..) => true
  | .var _ => true
  | .nary o _ => o == .sum || o == .prod
  | .bin .. => true
  | .un .. => true
  | .cmp .. => true
  | .ite .. => true
  | .call .. => true
  | .subscript .. => true
  | .lookup .. => true
  | .tuple _ => true
  | _ => false

/-- the function the dispatch of `UnidirectionalUnifier` reaches for a node of the model (what
`PV.C16.handler_resolve_current` proves of the regenerated table).  Several classes share a
function through the class-body aliases of unifier.py (`map_right_shift = map_left_shift`,
`map_floor_div = map_remainder = map_quotient`, `map_logical_not = map_bitwise_not`, the other n-ary
classes `= UnifierBase.map_sum`).  The last row is right for `CallWithKwargs`, the wildcards and
`FunctionSymbol` only: `NaN` reaches `Mapper.map_nan`, and `CommonSubexpression`, `Substitution`,
`Derivative`, `Slice` have no handler (`UnsupportedExpressionError`); none of them is in `c16Top`. -/
def c16ExpectedHandler : Expr → String
  | .const _ => "UnifierBase.map_constant"
  | .var _ => "UnifierBase.map_variable"
  | .nary .sum _ => "UnidirectionalUnifier.map_sum"
  | .nary .prod _ => "UnidirectionalUnifier.map_product"
  | .nary _ _ => "UnifierBase.map_sum"
  | .bin .pow _ _ => "UnifierBase.map_power"
  | .bin .lshift _ _ => "UnifierBase.map_left_shift"
  | .bin .rshift _ _ => "UnifierBase.map_left_shift"
  | .bin _ _ _ => "UnifierBase.map_quotient"
  | .un _ _ => "UnifierBase.map_bitwise_not"
  | .cmp .. => "UnifierBase.map_comparison"
  | .ite .. => "UnifierBase.map_if"
  | .call .. => "UnifierBase.map_call"
  | .subscript .. => "UnifierBase.map_subscript"
  | .lookup .. => "UnifierBase.map_lookup"
  | .tuple _ => "UnifierBase.map_list"
  | .list _ => "UnifierBase.map_list"
  | _ => "Mapper.map_algebraic_leaf"

/-- **one handler call with `self.rec` left open**: the model's `unifyE` with every recursive call
replaced by `recur` -/
def c16UnifyF (cands : List String) (recur : Expr → Expr → List URec → List URec) :
    Expr → Expr → List URec → List URec
  | .const c, other, us => if (Expr.const c).pyEq other then us else []
  | .var x, other, us => mapVariable cands x other us
  | .nary o cs, other, us =>
    match other with
    | .nary o' ds => if o = o' && (o = .sum || o = .prod) then c16CommutF cands recur o cs ds us else []
    | _ => []
  | .bin o a b, other, us =>
    match other with
    | .bin o' a' b' => if o = o' then recur a a' (recur b b' us) else []
    | _ => []
  | .un o a, other, us =>
    match other with
    | .un o' a' => if o = o' then recur a a' us else []
    | _ => []
  | .cmp o a b, other, us =>
    match other with
    | .cmp o' a' b' => if o = o' then recur a a' (recur b b' us) else []
    | _ => []
  | .ite c t e, other, us =>
    match other with
    | .ite c' t' e' => recur c c' (recur t t' (recur e e' us))
    | _ => []
  | .call f as, other, us =>
    match other with
    | .call f' as' => recur f f' (recur (.tuple as) (.tuple as') us)
    | _ => []
  | .subscript a i, other, us =>
    match other with
    | .subscript a' i' => recur a a' (recur (unpackIndex i) (unpackIndex i') us)
    | _ => []
  | .lookup a n, other, us =>
    match other with
    | .lookup a' n' => if n = n' then recur a a' us else []
    | _ => []
  | .tuple cs, other, us =>
    match other with
    | .tuple ds => if cs.length = ds.length then c16ZipF recur (cs.zip ds) us else []
    | _ => []
  | _, _, _ => []

/-- for a sum / product against a sum / product of the same class: whatever share of the target's
operands is handed to the factory, the result is no tuple / list (`c16Safe`; otherwise
`unification_record_from_equation` returns `None`).  `c16TgtSafe` is the decidable condition on the
target that implies it (`c16SafeTop_of_tgtSafe`). -/
def c16SafeTop : Expr → Expr → Prop
  | .nary o _, .nary o' ds => o = o' → c16Safe o ds
  | _, _ => True

/-- everything a dispatched call relies on: the meanings of the callees -/
structure C16CxOk (cands : List String) (cx : C16Ctx) : Prop where
  fn : C16FnSpec cands cx.fn
  ca : C16CASpec cands cx.recur cx.gen
  attrs : cx.selfAttrs = c16ModelAttrs cands

theorem c16FindFn_expected (e : Expr) :
    ∃ fn, c16FindFn c16Expected (c16ExpectedHandler e) = some fn ∧ fn.name = c16ExpectedHandler e ∨
      c16ExpectedHandler e = "Mapper.map_algebraic_leaf" := by
  have found : ∀ fn ∈ c16ExpectedFns, fn.name = c16ExpectedHandler e →
      ∃ fn, c16FindFn c16Expected (c16ExpectedHandler e) = some fn ∧ fn.name = c16ExpectedHandler e ∨
        c16ExpectedHandler e = "Mapper.map_algebraic_leaf" :=
    fun fn hm hn => ⟨fn, .inl ⟨hn ▸ c16FindFn_mem hm, hn⟩⟩
  cases e with
  | nary o _ =>
    have hs : c16X_Base_map_sum ∈ c16ExpectedFns := by repeat constructor
    cases o with
    | sum => exact found c16X_Uni_map_sum (by repeat constructor) rfl
    | prod => exact found c16X_Uni_map_product (by repeat constructor) rfl
    | _ => exact found _ hs rfl
  | bin o _ _ =>
    have hq : c16X_Base_map_quotient ∈ c16ExpectedFns := by repeat constructor
    have hl : c16X_Base_map_left_shift ∈ c16ExpectedFns := by repeat constructor
    cases o with
    | pow => exact found c16X_Base_map_power (by repeat constructor) rfl
    | lshift | rshift => exact found _ hl rfl
    | _ => exact found _ hq rfl
  | const _ => exact found c16X_Base_map_constant (by repeat constructor) rfl
  | var _ => exact found c16X_Base_map_variable (by repeat constructor) rfl
  | un _ _ => exact found c16X_Base_map_bitwise_not (by repeat constructor) rfl
  | cmp _ _ _ => exact found c16X_Base_map_comparison (by repeat constructor) rfl
  | ite _ _ _ => exact found c16X_Base_map_if (by repeat constructor) rfl
  | call _ _ => exact found c16X_Base_map_call (by repeat constructor) rfl
  | subscript _ _ => exact found c16X_Base_map_subscript (by repeat constructor) rfl
  | lookup _ _ => exact found c16X_Base_map_lookup (by repeat constructor) rfl
  | tuple _ | list _ => exact found c16X_Base_map_list (by repeat constructor) rfl
  | _ => exact ⟨default, .inr rfl⟩

/-- a dispatched call of a function of the table that returns the records `r` -/
theorem c16StepFn_eq {cx : C16Ctx} {e oth : Expr} {us : List URec} (fn : C16Fn)
    (hf : fn ∈ c16ExpectedFns) (v : C16Val) (r : List URec)
    (hcall : c16CallVal cx fn [.self, .obj e, .obj oth, C16Val.ofRecs us] = .ok v)
    (hv : v.asRecs = some r) :
    c16StepFn c16Expected cx (.ok fn.name) e oth us = .ok r := by
  simp [c16StepFn, c16FindFn_mem hf, hcall, hv]

theorem asRecs_nil : (C16Val.objs ([] : List Expr)).asRecs = some [] := rfl

theorem mapVariable_eq (cands : List String) (x : String) (oth : Expr) (us : List URec) :
    mapVariable cands x oth us = match recFromEq cands x oth with
      | some n => unifyMany us n
      | none => if c16VarName oth = some x ∧ x ∉ cands then us else [] := by
  cases hr : recFromEq cands x oth with
  | some n => simp [mapVariable, hr]
  | none =>
    cases oth with
    | var y =>
      by_cases hy : y = x
      · subst hy; simp [mapVariable, hr, c16VarName]
      · simp [mapVariable, hr, c16VarName, hy]
    | _ => simp [mapVariable, hr, c16VarName]

/-! ### the handler calls per node class, instantiated -/

/-- a handler that starts with the class test, on a target of another class: no record -/
theorem c16StepFn_mismatch (cands : List String) (cx : C16Ctx) (hs : C16FnSpec cands cx.fn)
    (name : String) (locals : List String) (rest : List C16S)
    (hf : c16H4 name locals (c16Guard :: rest) ∈ c16ExpectedFns)
    (e oth : Expr) (us : List URec) (hk : oth.kind ≠ e.kind) :
    c16StepFn c16Expected cx (.ok name) e oth us = .ok [] :=
  c16StepFn_eq _ hf _ _
    (c16Call_guard_fails cands cx hs name locals rest e oth _ (ofRecs_isUnbound us) hk) asRecs_nil

theorem c16Step_bin (cands : List String) (cx : C16Ctx) (hs : C16FnSpec cands cx.fn)
    (o : BinOp) (a b oth : Expr) (us : List URec) :
    c16StepFn c16Expected cx (.ok (c16ExpectedHandler (.bin o a b))) (.bin o a b) oth us
      = .ok (c16UnifyF cands cx.recur (.bin o a b) oth us) := by
  -- the handler of the class and the names of its two fields
  obtain ⟨name, f1, f2, hn, hf, hattr⟩ : ∃ name f1 f2, c16ExpectedHandler (.bin o a b) = name ∧
      c16H4 name [] (c16TwoFieldBody f1 f2) ∈ c16ExpectedFns ∧
      ∀ x y, (Expr.bin o x y).c16Attr f1 = some (.obj x) ∧ (Expr.bin o x y).c16Attr f2 = some (.obj y) := by
    cases o with
    | quot | floordiv | rem =>
      exact ⟨_, "numerator", "denominator", rfl,
        (by repeat constructor : c16X_Base_map_quotient ∈ c16ExpectedFns), fun _ _ => ⟨rfl, rfl⟩⟩
    | pow =>
      exact ⟨_, "base", "exponent", rfl,
        (by repeat constructor : c16X_Base_map_power ∈ c16ExpectedFns), fun _ _ => ⟨rfl, rfl⟩⟩
    | lshift | rshift =>
      exact ⟨_, "shiftee", "shift", rfl,
        (by repeat constructor : c16X_Base_map_left_shift ∈ c16ExpectedFns), fun _ _ => ⟨rfl, rfl⟩⟩
  rw [hn]
  by_cases hk : oth.kind = o.name
  · obtain ⟨a', b', rfl⟩ := kind_inv_bin o oth hk
    rw [show c16UnifyF cands cx.recur (.bin o a b) (.bin o a' b') us
      = cx.recur a a' (cx.recur b b' us) by simp [c16UnifyF]]
    exact c16StepFn_eq _ hf _ _
      (c16Call_two_field cands cx name f1 f2 (.bin o a b) (.bin o a' b') _ us (asRecs_ofRecs us) rfl
        a a' b b' (hattr a b).1 (hattr a' b').1 (hattr a b).2 (hattr a' b').2) (asRecs_ofRecs _)
  · rw [show c16UnifyF cands cx.recur (.bin o a b) oth us = [] by
      cases oth <;> first | rfl | skip
      rename_i o' a' b'
      have : o ≠ o' := fun h => hk (h ▸ rfl)
      simp [c16UnifyF, this]]
    exact c16StepFn_mismatch cands cx hs name _ _ hf _ oth us hk

theorem c16Step_un (cands : List String) (cx : C16Ctx) (hs : C16FnSpec cands cx.fn)
    (o : UnOp) (a oth : Expr) (us : List URec) :
    c16StepFn c16Expected cx (.ok "UnifierBase.map_bitwise_not") (.un o a) oth us
      = .ok (c16UnifyF cands cx.recur (.un o a) oth us) := by
  have hf : c16H4 "UnifierBase.map_bitwise_not" [] (c16OneFieldBody "child") ∈ c16ExpectedFns :=
    (by repeat constructor : c16X_Base_map_bitwise_not ∈ c16ExpectedFns)
  by_cases hk : oth.kind = o.name
  · obtain ⟨a', rfl⟩ := kind_inv_un o oth hk
    rw [show c16UnifyF cands cx.recur (.un o a) (.un o a') us = cx.recur a a' us by simp [c16UnifyF]]
    exact c16StepFn_eq _ hf _ _
      (c16Call_one_field cands cx "UnifierBase.map_bitwise_not" "child" (.un o a) (.un o a') _ us
        (asRecs_ofRecs us) rfl a a' rfl rfl) (asRecs_ofRecs _)
  · rw [show c16UnifyF cands cx.recur (.un o a) oth us = [] by
      cases oth <;> first | rfl | skip
      rename_i o' a'
      have : o ≠ o' := fun h => hk (h ▸ rfl)
      simp [c16UnifyF, this]]
    exact c16StepFn_mismatch cands cx hs _ _ _ hf _ oth us hk

theorem c16Step_ite (cands : List String) (cx : C16Ctx) (hs : C16FnSpec cands cx.fn)
    (c t e oth : Expr) (us : List URec) :
    c16StepFn c16Expected cx (.ok "UnifierBase.map_if") (.ite c t e) oth us
      = .ok (c16UnifyF cands cx.recur (.ite c t e) oth us) := by
  have hf : c16H4 "UnifierBase.map_if" [] (c16ThreeFieldBody "condition" "then" "else_")
      ∈ c16ExpectedFns := (by repeat constructor : c16X_Base_map_if ∈ c16ExpectedFns)
  by_cases hk : oth.kind = "If"
  · obtain ⟨c', t', e', rfl⟩ := (kind_inv_plain "If" oth hk (by simp)).2.1 rfl
    exact c16StepFn_eq _ hf _ _
      (c16Call_three_field cands cx "UnifierBase.map_if" "condition" "then" "else_" (.ite c t e)
        (.ite c' t' e') _ us (asRecs_ofRecs us) rfl c c' t t' e e' rfl rfl rfl rfl rfl rfl)
      (asRecs_ofRecs _)
  · rw [show c16UnifyF cands cx.recur (.ite c t e) oth us = [] by
      cases oth <;> first | rfl | exact absurd rfl hk]
    exact c16StepFn_mismatch cands cx hs _ _ _ hf _ oth us hk

theorem c16Step_call (cands : List String) (cx : C16Ctx) (hs : C16FnSpec cands cx.fn)
    (f : Expr) (as : List Expr) (oth : Expr) (us : List URec) :
    c16StepFn c16Expected cx (.ok "UnifierBase.map_call") (.call f as) oth us
      = .ok (c16UnifyF cands cx.recur (.call f as) oth us) := by
  have hf : c16H4 "UnifierBase.map_call" [] (c16TwoFieldBody "function" "parameters")
      ∈ c16ExpectedFns := (by repeat constructor : c16X_Base_map_call ∈ c16ExpectedFns)
  by_cases hk : oth.kind = "Call"
  · obtain ⟨f', as', rfl⟩ := (kind_inv_plain "Call" oth hk (by simp)).2.2.1 rfl
    exact c16StepFn_eq _ hf _ _
      (c16Call_two_field cands cx "UnifierBase.map_call" "function" "parameters" (.call f as)
        (.call f' as') _ us (asRecs_ofRecs us) rfl f f' (.tuple as) (.tuple as') rfl rfl rfl rfl)
      (asRecs_ofRecs _)
  · rw [show c16UnifyF cands cx.recur (.call f as) oth us = [] by
      cases oth <;> first | rfl | exact absurd rfl hk]
    exact c16StepFn_mismatch cands cx hs _ _ _ hf _ oth us hk

theorem c16Step_subscript (cands : List String) (cx : C16Ctx) (hs : C16FnSpec cands cx.fn)
    (a i oth : Expr) (us : List URec) :
    c16StepFn c16Expected cx (.ok "UnifierBase.map_subscript") (.subscript a i) oth us
      = .ok (c16UnifyF cands cx.recur (.subscript a i) oth us) := by
  have hf : c16X_Base_map_subscript ∈ c16ExpectedFns := by repeat constructor
  by_cases hk : oth.kind = "Subscript"
  · obtain ⟨a', i', rfl⟩ := (kind_inv_plain "Subscript" oth hk (by simp)).2.2.2.1 rfl
    exact c16StepFn_eq _ hf _ _
      (c16Call_subscript cx (.subscript a i) (.subscript a' i') _ us (asRecs_ofRecs us) rfl a a' i i'
        rfl rfl rfl rfl) (asRecs_ofRecs _)
  · rw [show c16UnifyF cands cx.recur (.subscript a i) oth us = [] by
      cases oth <;> first | rfl | exact absurd rfl hk]
    exact c16StepFn_mismatch cands cx hs "UnifierBase.map_subscript" _ _ hf _ oth us hk

theorem c16Step_lookup (cands : List String) (cx : C16Ctx) (hs : C16FnSpec cands cx.fn)
    (a : Expr) (n : String) (oth : Expr) (us : List URec) :
    c16StepFn c16Expected cx (.ok "UnifierBase.map_lookup") (.lookup a n) oth us
      = .ok (c16UnifyF cands cx.recur (.lookup a n) oth us) := by
  have hf : c16X_Base_map_lookup ∈ c16ExpectedFns := by repeat constructor
  by_cases hk : oth.kind = "Lookup"
  · obtain ⟨a', n', rfl⟩ := (kind_inv_plain "Lookup" oth hk (by simp)).2.2.2.2.1 rfl
    refine c16StepFn_eq _ hf _ _
      (c16Call_lookup cx (.lookup a n) (.lookup a' n') _ us (asRecs_ofRecs us) rfl n n' a a'
        rfl rfl rfl rfl) ?_
    by_cases hn : n = n' <;> simp [c16UnifyF, hn, asRecs_ofRecs, asRecs_nil]
  · rw [show c16UnifyF cands cx.recur (.lookup a n) oth us = [] by
      cases oth <;> first | rfl | exact absurd rfl hk]
    exact c16StepFn_mismatch cands cx hs "UnifierBase.map_lookup" _ _ hf _ oth us hk

theorem c16_cmp_sym_inj (o o' : CmpOp) : o.sym = o'.sym ↔ o = o' := by
  cases o <;> cases o' <;> simp [CmpOp.sym]

theorem c16Step_cmp (cands : List String) (cx : C16Ctx) (hs : C16FnSpec cands cx.fn)
    (o : CmpOp) (a b oth : Expr) (us : List URec) :
    c16StepFn c16Expected cx (.ok "UnifierBase.map_comparison") (.cmp o a b) oth us
      = .ok (c16UnifyF cands cx.recur (.cmp o a b) oth us) := by
  have hf : c16X_Base_map_comparison ∈ c16ExpectedFns := by repeat constructor
  by_cases hk : oth.kind = "Comparison"
  · obtain ⟨o', a', b', rfl⟩ := (kind_inv_plain "Comparison" oth hk (by simp)).1 rfl
    refine c16StepFn_eq _ hf _ _
      (c16Call_comparison cands cx hs (.cmp o a b) (.cmp o' a' b') _ us (asRecs_ofRecs us) rfl
        o.sym o'.sym a a' b b' rfl rfl rfl rfl rfl rfl) ?_
    by_cases ho : o = o'
    · subst ho; simp [c16UnifyF, asRecs_ofRecs]
    · have : ¬ o.sym = o'.sym := fun h => ho ((c16_cmp_sym_inj o o').1 h)
      simp [c16UnifyF, ho, this, asRecs_nil]
  · rw [show c16UnifyF cands cx.recur (.cmp o a b) oth us = [] by
      cases oth <;> first | rfl | exact absurd rfl hk]
    exact c16StepFn_eq _ hf _ _
      (c16Call_comparison_mismatch cands cx hs (.cmp o a b) oth _ (ofRecs_isUnbound us) hk) asRecs_nil

theorem c16Step_tuple (cands : List String) (cx : C16Ctx) (cs : List Expr) (oth : Expr)
    (us : List URec) :
    c16StepFn c16Expected cx (.ok "UnifierBase.map_list") (.tuple cs) oth us
      = .ok (c16UnifyF cands cx.recur (.tuple cs) oth us) := by
  refine c16StepFn_eq c16X_Base_map_list (by repeat constructor) _ _ (c16Call_tuple cx cs oth us) ?_
  rw [asRecs_ofRecs]
  cases oth <;> simp [c16UnifyF]

theorem c16Step_const (cands : List String) (cx : C16Ctx) (c : Const) (oth : Expr) (us : List URec) :
    c16StepFn c16Expected cx (.ok "UnifierBase.map_constant") (.const c) oth us
      = .ok (c16UnifyF cands cx.recur (.const c) oth us) := by
  refine c16StepFn_eq c16X_Base_map_constant (by repeat constructor) _ _
    (c16Call_constant cx _ oth _ (ofRecs_isUnbound us)) ?_
  simp only [c16UnifyF]
  split <;> simp [asRecs_ofRecs, asRecs_nil]

theorem c16Step_var (cands : List String) (cx : C16Ctx) (hc : C16CxOk cands cx) (x : String)
    (oth : Expr) (us : List URec) :
    c16StepFn c16Expected cx (.ok "UnifierBase.map_variable") (.var x) oth us
      = .ok (c16UnifyF cands cx.recur (.var x) oth us) := by
  refine c16StepFn_eq c16X_Base_map_variable (by repeat constructor) _ _
    (c16Call_variable cands cx hc.fn hc.attrs x oth _ us (asRecs_ofRecs us)) ?_
  simp only [c16UnifyF, mapVariable_eq]
  cases recFromEq cands x oth with
  | some n => simp [asRecs_ofRecs]
  | none => simp only []; split <;> simp [asRecs_ofRecs, asRecs_nil]

/-- `map_sum` / `map_product` of `UnidirectionalUnifier`: `map_commut_assoc` with the factory of the
class -/
theorem c16Step_nary (cands : List String) (cx : C16Ctx) (hc : C16CxOk cands cx) (o : NaryOp)
    (ho : o = .sum ∨ o = .prod) (cs : List Expr) (oth : Expr) (us : List URec)
    (husw : ∀ u ∈ us, u.WF) (hsafe : c16SafeTop (.nary o cs) oth) :
    c16StepFn c16Expected cx (.ok (c16ExpectedHandler (.nary o cs))) (.nary o cs) oth us
      = .ok (c16UnifyF cands cx.recur (.nary o cs) oth us) := by
  obtain ⟨fn, imp, hn, hf, hfn⟩ : ∃ fn imp, c16ExpectedHandler (.nary o cs) = fn.name ∧
      fn ∈ c16ExpectedFns ∧
      fn = ⟨fn.name, [("self", none), ("expr", none), ("other", none), ("unis", none)], [], false,
        [(.import_ [imp]), (.ret (some (.builtin .list [(.selfCall "map_commut_assoc"
          [(.name "expr"), (.name "other"), (.name "unis"), (.factoryRef o)])])))]⟩ := by
    rcases ho with rfl | rfl
    · exact ⟨c16X_Uni_map_sum, "flattened_sum", rfl, by repeat constructor, rfl⟩
    · exact ⟨c16X_Uni_map_product, "flattened_product", rfl, by repeat constructor, rfl⟩
  rw [hn]
  by_cases hk : oth.kind = o.name
  · obtain ⟨ds, rfl⟩ := kind_inv_nary o oth hk
    refine c16StepFn_eq fn hf _ _
      (c16Call_nary cands cx hc.ca fn o imp hfn (.nary o cs) (.nary o ds) cs ds _ us rfl
        (fun _ => rfl) (asRecs_ofRecs us) husw (fun _ => hsafe rfl)) ?_
    rcases ho with rfl | rfl <;>
      simp [c16UnifyF, asRecs_ofRecs, show (Expr.nary _ ds).kind = (Expr.nary _ cs).kind from rfl]
  · have hk' : ¬ oth.kind = (Expr.nary o cs).kind := hk
    rw [show c16UnifyF cands cx.recur (.nary o cs) oth us = [] by
      cases oth <;> first | rfl | skip
      rename_i o' ds
      have : o ≠ o' := fun h => hk (h ▸ rfl)
      simp [c16UnifyF, this]]
    refine c16StepFn_eq fn hf _ _
      (c16Call_nary cands cx hc.ca fn o imp hfn (.nary o cs) oth cs [] _ us rfl
        (fun h => absurd h hk') (asRecs_ofRecs us) husw (fun h => absurd h hk')) ?_
    simp [hk', asRecs_nil]

/-- **One dispatched call of the table is `c16UnifyF`**: for every node kind of the model, every
target, every list of (well-formed) incoming records and ANY meaning `recur` of `self.rec`, running
the handler the table prescribes for the node — with the other functions of the module meaning what
the model says (`C16CxOk`) — returns exactly what one unfolding of `unifyE` returns. -/
theorem c16Step_expected (cands : List String) (cx : C16Ctx) (hc : C16CxOk cands cx)
    (e oth : Expr) (us : List URec) (ht : c16Top e = true) (husw : ∀ u ∈ us, u.WF)
    (hsafe : c16SafeTop e oth) :
    c16StepFn c16Expected cx (.ok (c16ExpectedHandler e)) e oth us
      = .ok (c16UnifyF cands cx.recur e oth us) := by
  cases e with
  | const c => exact c16Step_const cands cx c oth us
  | var x => exact c16Step_var cands cx hc x oth us
  | nary o cs =>
    exact c16Step_nary cands cx hc o (by cases o <;> simp [c16Top] at ht ⊢) cs oth us husw hsafe
  | bin o a b => exact c16Step_bin cands cx hc.fn o a b oth us
  | un o a => exact c16Step_un cands cx hc.fn o a oth us
  | cmp o a b => exact c16Step_cmp cands cx hc.fn o a b oth us
  | ite c t e => exact c16Step_ite cands cx hc.fn c t e oth us
  | call f as => exact c16Step_call cands cx hc.fn f as oth us
  | subscript a i => exact c16Step_subscript cands cx hc.fn a i oth us
  | lookup a n => exact c16Step_lookup cands cx hc.fn a n oth us
  | tuple cs => exact c16Step_tuple cands cx cs oth us
  | _ => simp [c16Top] at ht

end PV.Unify
