import PV.Proofs.CseTallyJoint
import PV.Proofs.CseTallyErase
/-
  C12 helper: assembling the end-to-end statement — tagging a fragment list, then evaluating all
  tagged expressions with one evaluator, performs a SUBLIST of the reference plan (one operation per
  normalised key), and exactly the reference plan when the canonical wrappers are pairwise distinct.
-/
namespace PV

/-- the canonical-wrapper table `tag_common_subexpressions` ends with on `es` (`[]` if the run
fails; for a successful run it is the table of that run: `tagAll_sched`) -/
def c12Table (es : List Expr) : Tbl :=
  match useCountL es [] with
  | .ok cnt =>
    match cseMapL (elimKeys cnt) es [] with
    | .ok (_, T) => T
    | .error _ => []
  | .error _ => []

/-- the keys counted more than once in the run on `es` (`to_eliminate`; `[]` if counting fails) -/
def c12Elim (es : List Expr) : List CKey :=
  match useCountL es [] with
  | .ok cnt => elimKeys cnt
  | .error _ => []

/-- no two canonical wrappers are structurally equal (they always are distinct unless two
operations with DIFFERENT keys, both repeated, have operands that were merged, i.e. differ only
in the order of the operands of a nested sum or product) -/
def c12NoCollapse (es : List Expr) : Prop := ((c12Table es).map Prod.snd).Nodup

instance (es : List Expr) : Decidable (c12NoCollapse es) :=
  inferInstanceAs (Decidable (List.Nodup _))

theorem applyTblL_length (elim : List CKey) (T : Tbl) : ∀ (cs : List Expr),
    (applyTblL elim T cs).length = cs.length
  | [] => rfl
  | c :: cs => by simp [applyTblL, applyTblL_length elim T cs]

theorem c12CostNode_rebuild (k : C12Kind) (elim : List CKey) (T : Tbl) (e : Expr) :
    c12CostNode k (c12Rebuild elim T e) = c12CostNode k e := by
  cases e <;> simp [c12Rebuild, c12CostNode, applyTblL_length]

theorem c12Cost_map_rebuild (k : C12Kind) (elim : List CKey) (T : Tbl) : ∀ (l : List Expr),
    c12Cost k (l.map (c12Rebuild elim T)) = c12Cost k l
  | [] => rfl
  | e :: l => by
    simp [c12Cost, c12CostNode_rebuild, c12Cost_map_rebuild k elim T l]

theorem c12Cost_sublist (k : C12Kind) {l1 l2 : List Expr} (h : l1.Sublist l2) :
    c12Cost k l1 ≤ c12Cost k l2 := by
  induction h with
  | slnil => exact Nat.le_refl _
  | cons a _ ih => simp only [c12Cost]; omega
  | cons_cons a _ ih => simp only [c12Cost]; omega

/-- tagging a fragment list, side by side with the schedule of the outputs and the reference plan
of the inputs -/
theorem tagAll_sched (es : List Expr) (hf : Expr.fragL es = true) :
    ∃ outs, tagAll es = .ok outs ∧ outs = applyTblL (c12Elim es) (c12Table es) es ∧
      Expr.tfragL outs = true ∧
      (c12SchedL outs []).1.Sublist
        ((c12PlanL es []).map (c12Rebuild (c12Elim es) (c12Table es))) ∧
      (c12NoCollapse es →
        (c12SchedL outs []).1 = (c12PlanL es []).map (c12Rebuild (c12Elim es) (c12Table es))) := by
  obtain ⟨cnt, hc, hH, hE⟩ := useCountL_hitsElim es hf
  obtain ⟨outs, X, dn, m, p, t, _, _, _, _, sub, eq⟩ := c12GoalL_all hE es hf [] [] [] hH
    ⟨by intro s hs; simp at hs, by intro p hp; simp at hp, by intro s hs; simp at hs,
      by intro p hp; simp at hp⟩
    ⟨by intro p hp; simp at hp, by intro w hw; simp at hw, by intro w hw; simp at hw⟩
  simp only [List.nil_append] at m p sub eq
  obtain ⟨cs'', T', m', _, _, ap⟩ := cseMapL_frag (elimKeys cnt) es [] hf
  rw [m] at m'
  injection m' with m'; injection m' with e1 e2; subst e1; subst e2
  have hT : c12Table es = X := by simp [c12Table, hc, m]
  have hEl : c12Elim es = elimKeys cnt := by simp [c12Elim, hc]
  refine ⟨outs, by simp [tagAll, hc, m, bind, Except.bind, pure, Except.pure], ?_, t, ?_, ?_⟩
  · rw [hT, hEl]; exact (ap X (Tbl.le_refl X)).symm
  · rw [hT, hEl, p]; exact sub X (Tbl.le_refl X)
  · intro hnc
    rw [hT, hEl, p]
    have := eq [] (by simpa [c12NoCollapse, hT] using hnc)
    simpa using this

end PV
