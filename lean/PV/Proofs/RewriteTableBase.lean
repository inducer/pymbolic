import PV.Proofs.RewriteTableExpected
import PV.Properties.C04
/-
  C11 (T-gen), part 1: lemmas every symbolic execution of a table program uses — the inherited
  handlers (`c11IdentRow` on the regenerated C04 rows IS `idMap`), lists of expression values,
  lifting between the result types, loops.
-/
namespace PV
open PV.Generated (c04Classes c04IdentityTable)

/-! ### dispatch and inherited handlers

`c04BodyOf tbl 4`: the `4` is the bound of the model (`c11IdentRow`, `c04Resolve`) on how many
`return self.map_x(expr)` stubs are followed from a handler name to the body that runs. -/

theorem c11Dispatch_resolve {classes : List C04NodeClass} {tbl : List C04Handler} {e : Expr}
    {n : String} (h : c11Dispatch classes tbl e = .ok n) :
    c04Resolve classes tbl e =
      (match c04BodyOf tbl 4 n with
       | some b => .ok b
       | none => .error .unsupported) := by
  unfold c11Dispatch at h
  unfold c04Resolve
  split at h <;> simp_all [throw, throwThe, MonadExceptOf.throw, pure, Except.pure] <;>
    (cases c04BodyOf tbl 4 n <;> rfl)

/-- the name `Mapper.__call__` reaches for a node: written out for the classes some mapper class of
the table has a handler for (those are matched on below), the dispatch on the regenerated class
table and handler names of `IdentityMapper` for every other node -/
def c11HandlerOf : Expr → Except RwErr String
  | .nary .sum _ => .ok "map_sum"
  | .nary .prod _ => .ok "map_product"
  | .bin .quot _ _ => .ok "map_quotient"
  | .bin .pow _ _ => .ok "map_power"
  | .cse .. => .ok "map_common_subexpression"
  | e => c11Dispatch c04Classes c04IdentityTable e

theorem c11Dispatch_classRep (e : Expr) :
    c11Dispatch c04Classes c04IdentityTable e =
      c11Dispatch c04Classes c04IdentityTable e.classRep := by
  rw [c11Dispatch, c04Dispatch_classRep]; rfl

theorem c11HandlerOf_classRep (e : Expr) : c11HandlerOf e = c11HandlerOf e.classRep := by
  cases e with
  | const k => cases k <;> (unfold c11HandlerOf; exact c11Dispatch_classRep _)
  | nary o cs =>
    cases o with
    | sum => rfl
    | prod => rfl
    | _ => (unfold c11HandlerOf; exact c11Dispatch_classRep _)
  | bin o a b =>
    cases o with
    | quot => rfl
    | pow => rfl
    | _ => (unfold c11HandlerOf; exact c11Dispatch_classRep _)
  | un o a => cases o <;> (unfold c11HandlerOf; exact c11Dispatch_classRep _)
  | cse c p s => rfl
  | _ => (unfold c11HandlerOf; exact c11Dispatch_classRep _)

/-- the node classes for which some mapper class of the table has a handler of its own -/
def c11Overridden : Expr → Bool
  | .nary .sum _ | .nary .prod _ | .bin .quot _ _ | .bin .pow _ _ | .cse .. => true
  | _ => false

theorem Expr.c04IsNode_classRep (e : Expr) : e.classRep.c04IsNode = e.c04IsNode := by
  cases e with
  | const k => cases k <;> rfl
  | _ => rfl

theorem c11Overridden_classRep (e : Expr) : c11Overridden e.classRep = c11Overridden e := by
  cases e with
  | const k => cases k <;> rfl
  | nary o cs => cases o <;> rfl
  | bin o a b => cases o <;> rfl
  | _ => rfl

open PV.C11Expected in
/-- one evaluation over the representatives: where `Mapper.__call__` sends a node of each class on
the regenerated tables, and that none of the mapper classes has a method of that name unless the
class is one of `c11Overridden`; only what is no node is refused -/
theorem c11_classReps_current :
    (∀ r ∈ classReps, c11Dispatch c04Classes c04IdentityTable r = c11HandlerOf r) ∧
    ∀ C ∈ [c11Class_flatten, c11Class_plainFolder, c11Class_commFolder, c11Class_collector,
        c11Class_distributor],
      ∀ r ∈ classReps, (c11Overridden r || match c11HandlerOf r with
        | .ok n => (c11FindMethod n C.methods).isNone
        | .error _ => !r.c04IsNode) = true := by
  decide +kernel

theorem c11Dispatch_current (e : Expr) :
    c11Dispatch c04Classes c04IdentityTable e = c11HandlerOf e :=
  Expr.eq_of_classReps c11Dispatch_classRep c11HandlerOf_classRep c11_classReps_current.1 e

/-- the C04 row the dispatch of `e` reaches, by the theorem of C04 about the regenerated rows -/
theorem c11_bodyOf {e : Expr} {n : String} {b : C04Body}
    (hd : c11Dispatch c04Classes c04IdentityTable e = .ok n) (hb : c04IdentBody e = .ok b) :
    c04BodyOf c04IdentityTable 4 n = some b := by
  have h1 := c11Dispatch_resolve hd
  rw [PV.C04.identity_resolve_current, hb] at h1
  cases h : c04BodyOf c04IdentityTable 4 n with
  | none => rw [h] at h1; cases h1
  | some b' => rw [h] at h1; injection h1 with h1; rw [h1]

/-- a node with two expression fields, rebuilt from both in order -/
theorem c11IdentStepB_two (rec : Expr → RwR) (e : Expr) (f g : String) (a b : Expr)
    (K : Expr → Expr → Expr) (hfg : (f == g) = false)
    (hfields : e.c04Fields = [(f, .one a), (g, .one b)])
    (hctor : ∀ a' b', e.c04Construct [.one a', .one b'] = some (K a' b')) :
    c11IdentStepB (some (.rebuild [⟨f, .one, true⟩, ⟨g, .one, true⟩] true [f, g] false
      (.sameClass [.rebuilt f, .rebuilt g] false))) rec e =
      (do let a' ← rec a; let b' ← rec b; pure (K a' b')) := by
  simp only [c11IdentStepB, c11MapRecs, c11MapRec, Expr.c04Field, hfields, c04Assoc,
    c04Rebuild, c04ArgVal, c04OptSeq, hctor, bind_assoc, pure_bind, ↓reduceIte,
    hfg, Bool.false_eq_true, beq_self_eq_true, Bool.false_and, List.map_cons,
    List.map_nil, Option.map_some]

/-- one inherited handler call on the row of the node's own class is `idMap` -/
theorem c11IdentStepB_idMap (rec : Expr → RwR) (e : Expr) (b : C04Body)
    (hb : c04IdentBody e = .ok b) : c11IdentStepB (some b) rec e = idMap rec e := by
  cases e with
  | const k =>
    cases k <;> simp only [c04IdentBody, Except.ok.injEq, reduceCtorEq] at hb <;> subst hb <;> rfl
  | bin o a b =>
    cases o <;> (simp only [c04IdentBody, Except.ok.injEq] at hb; subst hb) <;>
    exact c11IdentStepB_two rec _ _ _ a b (.bin _) (by decide +kernel) rfl (fun _ _ => rfl)
  | subscript a i =>
    simp only [c04IdentBody, Except.ok.injEq] at hb; subst hb
    exact c11IdentStepB_two rec _ _ _ a i .subscript (by decide +kernel) rfl (fun _ _ => rfl)
  | cse c p s =>
    simp only [c04IdentBody, Except.ok.injEq] at hb; subst hb
    simp [c11IdentStepB, c11MapRecs, c11MapRec, Expr.c04Field, Expr.c04Fields, c04Assoc, idMap,
      c04Rebuild, c04ArgVal, c04OptSeq, Expr.c04Construct]
  | _ =>
    simp only [c04IdentBody, Except.ok.injEq] at hb; subst hb
    -- a leaf is returned as it is; otherwise the fields are looked up by name
    first
    | rfl
    | simp only [c11IdentStepB, c11MapRecs, c11MapRec, Expr.c04Field, Expr.c04Fields, c04Assoc,
        idMap, c04Rebuild, c04ArgVal, c04OptSeq, Expr.c04Construct, bind_assoc, pure_bind,
        ↓reduceIte, String.reduceBEq, Bool.false_eq_true, beq_self_eq_true, Bool.false_and,
        List.map_cons, List.map_nil, Option.map_some]

/-- **An inherited handler is `idMap`**: the handler the dispatch reaches on `IdentityMapper`,
read from the regenerated C04 row, run with any `self.rec`. -/
theorem c11_inherited (rec : Expr → RwR) (e : Expr) (n : String)
    (hd : c11Dispatch c04Classes c04IdentityTable e = .ok n) :
    c11IdentRow c04IdentityTable n rec e = idMap rec e := by
  cases hb : c04IdentBody e with
  | error err =>
    exfalso
    cases e with
    | const k =>
      cases k <;> simp [c04IdentBody, c11Dispatch, c04Dispatch, dispatchForeign] at hb hd
    | bin o a b => cases o <;> simp [c04IdentBody] at hb
    | _ => simp [c04IdentBody] at hb
  | ok b =>
    rw [c11IdentRow, c11_bodyOf hd hb]
    exact c11IdentStepB_idMap rec e b hb

/-- the row `IdentityMapper.map_product`, which `DistributeMapper` also calls on what is not a
product (`IdentityMapper.map_product(self, expr)`) -/
theorem c11_row_map_product :
    c04BodyOf c04IdentityTable 4 "map_product" = some (.rebuild [⟨"children", .each, true⟩] true
      ["children"] false (.sameClass [.rebuilt "children"] false)) :=
  c11_bodyOf (e := .nary .prod []) (by rw [c11Dispatch_current]; rfl) rfl

/-- `IdentityMapper.map_product(self, e)` on any n-ary node -/
theorem c11IdentRow_nary (rec : Expr → RwR) (row : String) (o : NaryOp) (cs : List Expr)
    (hrow : c04BodyOf c04IdentityTable 4 row = some (.rebuild [⟨"children", .each, true⟩] true
      ["children"] false (.sameClass [.rebuilt "children"] false))) :
    c11IdentRow c04IdentityTable row rec (.nary o cs) = idMap rec (.nary o cs) := by
  rw [c11IdentRow, hrow]
  exact c11IdentStepB_idMap rec (.nary o cs) _ rfl

/-- `IdentityMapper.map_power(self, e)` on a power -/
theorem c11IdentRow_pow (rec : Expr → RwR) (a b : Expr) :
    c11IdentRow c04IdentityTable "map_power" rec (.bin .pow a b) = idMap rec (.bin .pow a b) :=
  c11_inherited rec _ _ (by rw [c11Dispatch_current]; rfl)

/-- `IdentityMapper.map_common_subexpression(self, e)` on a CSE wrapper -/
theorem c11IdentRow_cse (rec : Expr → RwR) (c : Expr) (p : Option String) (s : String) :
    c11IdentRow c04IdentityTable "map_common_subexpression" rec (.cse c p s)
      = idMap rec (.cse c p s) :=
  c11_inherited rec _ _ (by rw [c11Dispatch_current]; rfl)

/-! ### lists of values, lifting -/

theorem c11MapM_map {α β γ : Type} (f : β → C11R γ) (g : α → β) : ∀ l : List α,
    c11MapM f (l.map g) = c11MapM (fun a => f (g a)) l
  | [] => rfl
  | a :: l => by simp only [List.map_cons, c11MapM, c11MapM_map f g l]

theorem c11MapM_congr {α β : Type} {f g : α → C11R β} (h : ∀ a, f a = g a) (l : List α) :
    c11MapM f l = c11MapM g l := by
  have : f = g := funext h
  rw [this]

/-- a list of expressions mapped through `self.rec` (or any function of the tree model) -/
theorem c11MapM_lift (f : Expr → RwR) : ∀ cs : List Expr,
    c11MapM (fun c => C11Val.expr <$> c11Lift (f c)) cs =
      (match cs.mapM f with
       | .ok rs => .ok (rs.map .expr)
       | .error e => .error (.py e))
  | [] => rfl
  | c :: cs => by
    rw [c11MapM, c11MapM_lift f cs, List.mapM_cons]
    cases hc : f c with
    | error e => rfl
    | ok r =>
      cases hcs : cs.mapM f with
      | error e => rfl
      | ok rs => rfl

theorem c11AsExprs_exprs (rs : List Expr) : c11AsExprs (.list (rs.map .expr)) = .ok rs := by
  simp only [c11AsExprs, c11Items, pure, Except.pure, bind, Except.bind]
  induction rs with
  | nil => rfl
  | cons r rs ih =>
    simp only [List.map_cons, List.mapM_cons, c11AsExpr, pure, Except.pure, bind, Except.bind, ih]


theorem c11ToRw_lift (r : RwR) : c11ToRw (C11Val.expr <$> c11Lift r) = r := by
  cases r <;> rfl

theorem c11ToRw_lift' (r : RwR) : c11ToRw (do pure (C11Val.expr (← c11Lift r))) = r := by
  cases r <;> rfl

theorem c11_isProdE_eq {x : Expr} (h : isProdE x = true) : ∃ cs, x = .nary .prod cs := by
  cases x with
  | nary o cs => cases o <;> first | exact ⟨cs, rfl⟩ | cases h
  | _ => cases h

theorem c11_isSum_eq {x : Expr} (h : isSum x = true) : ∃ cs, x = .nary .sum cs := by
  cases x with
  | nary o cs => cases o <;> first | exact ⟨cs, rfl⟩ | cases h
  | _ => cases h

theorem c11Apply_depMapper (ctx : C11Ctx) (a : List String) (b : List C11Val) (e : Expr) :
    c11Apply ctx (.inst .depMapper a b) [.expr e] =
      (match depsR e with
       | .ok d => .ok (.set (d.map .expr))
       | .error er => .error (.py er)) := by
  cases h : depsR e <;> simp [c11Apply, h, c11Lift, bind, Except.bind, pure, Except.pure]

/-! ### statement lists -/

theorem c11ExecL_append (ctx : C11Ctx) (F : Nat) : ∀ (a b : List C11Stmt) (env : C11Env),
    c11ExecL ctx F (a ++ b) env =
      (match c11ExecL ctx F a env with
       | .fell env' => c11ExecL ctx F b env'
       | o => o)
  | [], b, env => rfl
  | s :: a, b, env => by
    simp only [List.cons_append, c11ExecL]
    cases c11Exec ctx F s env with
    | fell env' => exact c11ExecL_append ctx F a b env'
    | _ => rfl

theorem c11ExecL_cons_fell {ctx : C11Ctx} {F : Nat} {s : C11Stmt} {r : List C11Stmt}
    {env env' : C11Env} (h : c11Exec ctx F s env = .fell env') :
    c11ExecL ctx F (s :: r) env = c11ExecL ctx F r env' := by
  rw [c11ExecL, h]

/-- an `if` whose test is decided is the branch taken, spliced in -/
theorem c11ExecL_ifThen {ctx : C11Ctx} {F : Nat} {c : C11Tm} {t e r : List C11Stmt} {env : C11Env}
    {v : C11Val} {b : Bool} (hc : c11Eval ctx env c = .ok v) (hv : c11Truthy v = .ok b) :
    c11ExecL ctx F (.ifThen c t e :: r) env = c11ExecL ctx F ((bif b then t else e) ++ r) env := by
  rw [c11ExecL_append, c11ExecL, c11Exec, hc]
  simp only [hv]
  cases b <;> rfl

theorem c11ExecL_ifThen_error {ctx : C11Ctx} {F : Nat} {c : C11Tm} {t e r : List C11Stmt}
    {env : C11Env} {er : C11Err} (hc : c11Eval ctx env c = .error er) :
    c11ExecL ctx F (.ifThen c t e :: r) env = .fail er := by
  rw [c11ExecL, c11Exec, hc]

theorem c11ExecL_ret (ctx : C11Ctx) (F : Nat) (x : C11Tm) (r : List C11Stmt) (env : C11Env) :
    c11ExecL ctx F (.ret x :: r) env =
      (match c11Eval ctx env x with
       | .ok v => .ret v
       | .error e => .fail e) := by
  rw [c11ExecL, c11Exec]
  cases c11Eval ctx env x <;> rfl

/-! ### one handler call of a class -/

/-- the context the methods of an instance run in -/
def c11CtxOf (S : C11Self) (fuel depth : Nat) : C11Ctx :=
  { recur := S.recur, selfAttrs := S.selfAttrs, callSelf := c11CallSelf S fuel depth,
    callLocal := fun _ _ => throw .stuck,
    sup := fun c row e =>
      match c with
      | .identityMapper => c11IdentRow S.ident row S.recur e
      | _ => throw .noClaim,
    applyInst := S.applyInst, construct := fun _ _ => throw .stuck }

/- `c11Handle` starts a handler with `c11Depth = 4` nested `self.<method>` calls to spend; the
literals `3`, `2`, `1` in the class proofs are what is left inside the handler, inside a helper it
calls, and inside a helper of that helper (`depth + 1` below is matched against them). -/
theorem c11CallSelf_own (S : C11Self) (fuel depth : Nat) (m : String) (args : List C11Val)
    (n b : String) (fn : C11Fn) (h : c11FindMethod m S.cls.methods = some ⟨n, b, .own fn⟩) :
    c11CallSelf S fuel (depth + 1) m args = c11RunFn (c11CtxOf S fuel depth) fuel fn args := by
  simp only [c11CallSelf, h]; rfl

theorem c11CallSelf_inherited (S : C11Self) (fuel depth : Nat) (m : String) (e : Expr)
    (h : c11FindMethod m S.cls.methods = none) :
    c11CallSelf S fuel (depth + 1) m [.expr e] =
      (do pure (.expr (← c11Lift (c11IdentRow S.ident m S.recur e)))) := by
  simp only [c11CallSelf, h]

theorem c11Handle_eq (S : C11Self) (hc : S.classes = c04Classes) (hi : S.ident = c04IdentityTable)
    (fuel : Nat) (e : Expr) :
    c11Handle S fuel e =
      (match c11HandlerOf e with
       | .error err => .error err
       | .ok n => c11ToRw (c11CallSelf S fuel c11Depth n [.expr e])) := by
  rw [c11Handle, hc, hi, c11Dispatch_current]
  cases c11HandlerOf e <;> rfl

/-- a node whose handler the class does not override goes through the C04 row: `idMap` -/
theorem c11Handle_inherited (S : C11Self) (hc : S.classes = c04Classes)
    (hi : S.ident = c04IdentityTable) (fuel : Nat) (e : Expr) (n : String)
    (hn : c11HandlerOf e = .ok n) (hm : c11FindMethod n S.cls.methods = none) :
    c11Handle S fuel e = idMap S.recur e := by
  rw [c11Handle_eq S hc hi, hn]
  simp only [c11Depth, c11CallSelf_inherited S fuel 3 n e hm, hi]
  rw [c11_inherited S.recur e n (by rw [c11Dispatch_current, hn])]
  exact c11ToRw_lift' _

theorem c11Handle_foreign (S : C11Self) (hc : S.classes = c04Classes)
    (hi : S.ident = c04IdentityTable) (fuel : Nat) (e : Expr) (err : RwErr)
    (hn : c11HandlerOf e = .error err) : c11Handle S fuel e = .error err := by
  rw [c11Handle_eq S hc hi, hn]

/-! ### nodes whose handler no class of the table overrides -/

open PV.C11Expected in
/-- a node of a class outside `c11Overridden` is mapped by the C04 row in each of the mapper
classes: `idMap` -/
theorem c11Handle_plain (S : C11Self) (hc : S.classes = c04Classes)
    (hi : S.ident = c04IdentityTable)
    (hcls : S.cls ∈ [c11Class_flatten, c11Class_plainFolder, c11Class_commFolder,
      c11Class_collector, c11Class_distributor])
    (fuel : Nat) (e : Expr) (he : c11Overridden e = false) :
    c11Handle S fuel e = idMap S.recur e := by
  have h := c11_classReps_current.2 _ hcls _ e.classRep_mem
  rw [c11Overridden_classRep, he, ← c11HandlerOf_classRep] at h
  cases hn : c11HandlerOf e with
  | ok n =>
    rw [hn] at h
    exact c11Handle_inherited S hc hi fuel e n hn (Option.isNone_iff_eq_none.1 h)
  | error err =>
    -- refused: a `str` or `None`, which `idMap` refuses as well
    rw [hn, Bool.false_or, Bool.not_eq_true', Expr.c04IsNode_classRep] at h
    rw [c11Handle_foreign S hc hi fuel e err hn]
    cases e with
    | const k => cases k <;> cases hn <;> rfl
    | tuple cs => cases hn
    | list cs => cases hn
    | _ => cases h

end PV
