import PV.Proofs.AlgoTableMap
import PV.Model.RationalOps
/-!
  C19 (T-gen): `Rational` arithmetic and `primitives.quotient` under the Python-2 reading of `/`
  — the table regenerated from the current source with every `/` read as `//`
  (`c19TablePy2 = c19Table.py2`) — symbolic execution of the table interpreter.

  The callees that contain no `/` (`traits`, `IntegerTraits.norm / get_unit`,
  `extended_euclidean`) are unchanged by the reading: their run lemmas
  (PV/Proofs/AlgoTableArith.lean, AlgoTableMap.lean) hold for any `C19Reading`.  The frame the
  arithmetic methods share (coercion of the operand, `try … except`, fallback) is run here for an
  arbitrary context; PV/Proofs/RationalTablePy3.lean uses it for the table as it is.
-/
namespace PV.Algo
open PV.Generated
variable {α : Type}

/-- the regenerated table under the Python-2 reading of `/` -/
abbrev c19TablePy2 : C19Table := c19Table.py2

theorem c19TablePy2_reading : C19Reading c19TablePy2 := .inr rfl

/-- a function of the Python-2 table is the function of the table with its `/` read as `//` -/
theorem c19p2_find {name : String} {f : C19Fn} (h : c19FindFn c19Table name = some f) :
    c19FindFn c19TablePy2 name = some f.py2 := by
  rw [c19FindFn_py2, h, Option.map_some]

section
variable (ops : C19Ops α) (ext : String → List (C19V α) → C19R (C19V α))

/-! ## `IntegerTraits`: `norm`, `gcd`, `lcm`, `get_unit` -/

theorem c19p2_Method_integer_norm (n k : Nat) (v : C19V α) :
    c19Method (c19CxAt ops c19TablePy2 ext n k) (.obj "IntegerTraits" [] []) "norm" [v]
      = c19RunFn ops c19TablePy2 ext n "IntegerTraits.norm" [v] :=
  c19TablePy2_reading.method_integer_norm ops ext n k v

theorem c19p2_Method_gcd (n k : Nat) (a b : C19V α) :
    c19Method (c19CxAt ops c19TablePy2 ext n k) (.obj "IntegerTraits" [] []) "gcd" [a, b]
      = c19RunFn ops c19TablePy2 ext n "EuclideanRingTraits.gcd" [a, b] :=
  c19TablePy2_reading.method ops ext n k (by simp)
    (c19Resolve_integerTraits_inherited _ _ (by simp)
      (c19Table_absent "IntegerTraits.gcd" (by simp [c19Table_names])) (by simp) c19_find_traits_gcd)

/-- `t.gcd(q, r)` is `extended_euclidean(q, r)[0]` -/
theorem c19p2_traits_gcd_run (q r : Int) (n : Nat) (hn : q.natAbs + r.natAbs + 4 ≤ n) :
    c19RunFn ops c19TablePy2 ext (n + 1) "EuclideanRingTraits.gcd" [.int q, .int r]
      = .ok (.int (gcd q r)) := by
  obtain ⟨n, rfl⟩ : ∃ n', n = n' + 1 := ⟨n - 1, by omega⟩
  have he := c19_extended_euclidean_run c19TablePy2_reading ops ext q r n (by omega)
  rw [c19RunFn_succ ops c19TablePy2 ext _ _ _ _ _
    (c19TablePy2_reading.find c19_find_traits_gcd (by rfl)) rfl]
  simp only [c19Fn_EuclideanRingTraits_gcd]
  c19_run [c19Call_extended_euclidean, he, c19Enc3]
  rfl

theorem c19p2_Method_lcm (n k : Nat) (a b : C19V α) :
    c19Method (c19CxAt ops c19TablePy2 ext n k) (.obj "IntegerTraits" [] []) "lcm" [a, b]
      = c19RunFn ops c19TablePy2 ext n "EuclideanRingTraits.lcm"
          [.obj "IntegerTraits" [] [], a, b] :=
  c19TablePy2_reading.method ops ext n k (by simp)
    (c19Resolve_integerTraits_inherited _ _ (by simp)
      (c19Table_absent "IntegerTraits.lcm" (by simp [c19Table_names])) (by simp) c19_find_traits_lcm)

/-- the body of `EuclideanRingTraits.lcm` in the current source, `/` read as `//` -/
theorem c19p2_lcm_body_current :
    c19FindFn c19TablePy2 "EuclideanRingTraits.lcm" = some ⟨"EuclideanRingTraits.lcm", .method,
      ["cls", "a", "b"], [],
      [.ret (.bin .floordiv (.bin .mul (.var "a") (.var "b"))
        (.method (.var "cls") "gcd" [(.var "a"), (.var "b")]))]⟩ :=
  c19p2_find c19_find_traits_lcm

/-- what `t.lcm(a, b)` answers under the Python-2 reading -/
def c19EncTraitsLcm (a b : Int) : C19R (C19V α) :=
  if gcd a b = 0 then .raise "ZeroDivisionError" else .ok (.int (Int.fdiv (a * b) (gcd a b)))

theorem c19p2_traits_lcm_run (a b : Int) (n : Nat) (hn : a.natAbs + b.natAbs + 5 ≤ n) :
    c19RunFn ops c19TablePy2 ext (n + 1) "EuclideanRingTraits.lcm"
        [.obj "IntegerTraits" [] [], .int a, .int b] = c19EncTraitsLcm a b := by
  obtain ⟨n, rfl⟩ : ∃ n', n = n' + 1 := ⟨n - 1, by omega⟩
  have hg := c19p2_traits_gcd_run ops ext a b n (by omega)
  rw [c19RunFn_succ ops c19TablePy2 ext _ _ _ _ _ c19p2_lcm_body_current rfl]
  unfold c19EncTraitsLcm
  by_cases h0 : gcd a b = 0
  · c19_run [c19p2_Method_gcd, hg, h0]
    rfl
  · c19_run [c19p2_Method_gcd, hg, c19Scalar_floordiv_ne _ _ _ h0]
    simp [h0]

theorem c19p2_Method_get_unit (n k : Nat) (v : C19V α) :
    c19Method (c19CxAt ops c19TablePy2 ext n k) (.obj "IntegerTraits" [] []) "get_unit" [v]
      = c19RunFn ops c19TablePy2 ext n "IntegerTraits.get_unit" [v] :=
  c19TablePy2_reading.method_get_unit ops ext n k v

/-! ## `Rational.__init__` -/

/-- a `Rational` object with integer fields -/
def c19RatObj (n d : Int) : C19V α :=
  .obj "Rational" ["Numerator", "Denominator"] [.int n, .int d]

/-- results of the `Rational` methods on the wire of the interpreter -/
def c19EncRatRes : RatRes → C19R (C19V α)
  | .int i => .ok (.int i)
  | .rat n d => .ok (c19RatObj n d)
  | .raise k => .raise k

@[simp] theorem c19EncRatRes_int (i : Int) : (c19EncRatRes (.int i) : C19R (C19V α)) = .ok (.int i) := by rfl
@[simp] theorem c19EncRatRes_rat (n d : Int) :
    (c19EncRatRes (.rat n d) : C19R (C19V α)) = .ok (c19RatObj n d) := by rfl
@[simp] theorem c19EncRatRes_raise (k : String) : (c19EncRatRes (.raise k) : C19R (C19V α)) = .raise k := by rfl

/-- the body of `Rational.__init__` in the current source, `/=` read as `//=` -/
theorem c19p2_rational_init_body_current :
    c19FindFn c19TablePy2 "Rational.__init__" = some ⟨"Rational.__init__", .init,
      ["self", "numerator", "denominator"], [(.int 1)], [
      .assign (.pat (.name "d_unit")) (.method (.call "traits.traits" [(.var "denominator")]) "get_unit" [(.var "denominator")]),
      .aug "numerator" .floordiv (.var "d_unit"),
      .aug "denominator" .floordiv (.var "d_unit"),
      .assign (.attr "self" "Numerator") (.var "numerator"),
      .assign (.attr "self" "Denominator") (.var "denominator")]⟩ :=
  c19p2_find c19_find_rational_init

theorem c19_fdiv_neg_one (a : Int) : Int.fdiv a (-1) = -a := by
  rw [Int.fdiv_eq_ediv_of_dvd ⟨-a, by omega⟩]
  simp

theorem c19_fdiv_one (a : Int) : Int.fdiv a 1 = a := by
  rw [Int.fdiv_eq_ediv_of_dvd ⟨a, by omega⟩]
  simp

theorem ratInit_cases (n d : Int) :
    (∃ a b, ratInit n d = .rat a b) ∨ ratInit n d = .raise "RuntimeError" := by
  unfold ratInit
  by_cases h1 : d < 0
  · simp [h1]
  · by_cases h2 : d > 0
    · simp [h1, h2]
    · simp [h1, h2]

/-- **`Rational.__init__` under the Python-2 reading IS `ratInit`**: both fields divided by the sign
of the denominator, `RuntimeError` for a zero denominator -/
theorem c19p2_rational_init_run (num den : Int) (n : Nat) :
    c19RunFn ops c19TablePy2 ext (n + 1 + 1 + 1) "Rational.__init__"
        [.obj "Rational" [] [], .int num, .int den] = c19EncRatRes (ratInit num den) := by
  rw [c19RunFn_succ ops c19TablePy2 ext _ _ _ _ _ c19p2_rational_init_body_current rfl]
  unfold ratInit
  c19_run [c19Call_traits, c19_traits_int_run c19TablePy2_reading, c19p2_Method_get_unit,
    c19_get_unit_run c19TablePy2_reading, C19R.bind_ite, C19O.ofR_ite, C19O.andThen_ite,
    apply_ite (c19Finish _), c19_fdiv_neg_one, c19_fdiv_one]
  by_cases h1 : den < 0
  · simp only [h1, if_true]; rfl
  · by_cases h2 : den > 0 <;> simp only [h1, h2, if_true, if_false] <;> rfl

/-! ## `primitives.quotient` on two ints -/

section
variable {tbl : C19Table} (ht : C19Reading tbl)
include ht

theorem C19Reading.new_rational (n k : Nat) (a b : C19V α) :
    c19New (c19CxAt ops tbl ext n k) "Rational" [a, b]
      = c19RunFn ops tbl ext n "Rational.__init__" [.obj "Rational" [] [], a, b] :=
  ht.new ops ext n k (c19Resolve_rational [] [] (by simp) c19_find_rational_init) (by rfl)

theorem C19Reading.isInst_rational (n k : Nat) (ks : List String) (vs : List (C19V α)) :
    c19IsInst (c19CxAt ops tbl ext n k) (.obj "Rational" ks vs) ["Rational"] = true := by
  rw [ht.isInst_obj, c19ClassesOf_rational]
  simp

theorem C19Reading.isInst_traits_euclid (n k : Nat) :
    c19IsInst (c19CxAt ops tbl ext n k) (.obj "IntegerTraits" [] []) ["EuclideanRingTraits"]
      = true := by
  rw [ht.isInst_obj, c19ClassesOf_integerTraits]
  simp

/-- **`primitives.quotient` on two ints as regenerated**, under either reading: `numerator` itself
when `denominator - 1` is zero; otherwise the common traits of two ints are `IntegerTraits`, a
Euclidean ring, and what `Rational(numerator, denominator)` answers (`R`) is returned — never the
`Quotient` node -/
theorem c19_quotient_int_run (num den : Int) (n : Nat) (R : C19R (C19V α))
    (hi : c19RunFn ops tbl ext (n + 1 + 1 + 1) "Rational.__init__"
      [.obj "Rational" [] [], .int num, .int den] = R)
    (hR : R = .raise "RuntimeError" ∨ ∃ v, R = .ok v) :
    c19RunFn ops tbl ext (n + 1 + 1 + 1 + 1) "primitives.quotient" [.int num, .int den]
      = if den - 1 = 0 then .ok (.int num) else R := by
  rw [c19RunFn_succ ops tbl ext _ _ _ _ _ (ht.find c19_find_quotient (by rfl)) rfl]
  simp only [c19Fn_primitives_quotient]
  have hint : ∀ cx : C19Cx α, c19IsInst cx (.int num) ["Rational"] = false := fun _ => rfl
  by_cases h1 : den - 1 = 0
  · have hb : (den - 1 != 0) = false := by simp [h1]
    c19_run [hb]
    simp [h1]
  · have hb : (den - 1 != 0) = true := by simp [h1]
    rw [if_neg h1]
    rcases hR with rfl | ⟨v, rfl⟩ <;>
      c19_run [hb, hint, c19CommonTraits_two ht, ht.isInst_traits_euclid, ht.new_rational, hi] <;>
      rfl
end

theorem c19p2_New_rational (n k : Nat) (a b : C19V α) :
    c19New (c19CxAt ops c19TablePy2 ext n k) "Rational" [a, b]
      = c19RunFn ops c19TablePy2 ext n "Rational.__init__" [.obj "Rational" [] [], a, b] :=
  c19TablePy2_reading.new_rational ops ext n k a b

theorem c19p2_IsInst_int_rational (n k : Nat) (i : Int) :
    c19IsInst (c19CxAt ops c19TablePy2 ext n k) (.int i) ["Rational"] = false := by rfl

theorem c19p2_IsInst_rat_rational (n k : Nat) (a b : Int) :
    c19IsInst (c19CxAt ops c19TablePy2 ext n k) (c19RatObj a b) ["Rational"] = true :=
  c19TablePy2_reading.isInst_rational ops ext n k _ _

theorem c19p2_IsInst_traits_euclid (n k : Nat) :
    c19IsInst (c19CxAt ops c19TablePy2 ext n k) (.obj "IntegerTraits" [] [])
      ["EuclideanRingTraits"] = true :=
  c19TablePy2_reading.isInst_traits_euclid ops ext n k

/-- **`primitives.quotient` on two ints (Python-2 reading) IS `ratQuotient`** -/
theorem c19p2_quotient_run (num den : Int) (n : Nat) :
    c19RunFn ops c19TablePy2 ext (n + 1 + 1 + 1 + 1) "primitives.quotient" [.int num, .int den]
      = c19EncRatRes (ratQuotient num den) := by
  rw [c19_quotient_int_run ops ext c19TablePy2_reading num den n _
    (c19p2_rational_init_run ops ext num den n)
    (by rcases ratInit_cases num den with ⟨a, b, h⟩ | h <;> rw [h]
        · exact .inr ⟨_, rfl⟩
        · exact .inl rfl)]
  unfold ratQuotient
  split <;> rfl

end

/-! ## the frame of `__add__` / `__mul__`, for any table -/

/-- `newother = Rational(other)` unless `other` is a `Rational` -/
def c19RatCoerce : List C19S := [
  .ite (.not (.isinst (.var "other") ["Rational"])) [
    .assign (.pat (.name "newother")) (.new "Rational" [(.var "other"), (.int 1)])] [
    .assign (.pat (.name "newother")) (.var "other")]]

/-- `other = Rational(other)` unless `other` is a `Rational` (the coercion of `__div__` /
`__rdiv__`, which rebinds `other`) -/
def c19RatCoerceSelf : List C19S := [
  .ite (.not (.isinst (.var "other") ["Rational"])) [
    .assign (.pat (.name "other")) (.new "Rational" [(.var "other"), (.int 1)])] []]

def c19RatFallback (fn : String) : List C19S := [
  .ite (.cmp .eq (.var "_handler") (.int 1)) [
      .ret (.call fn [(.var "self"), (.var "other")])] [
    .ite (.cmp .eq (.var "_handler") (.int 2)) [
      .ret (.call fn [(.var "self"), (.var "other")])] []]]

/-- the common frame of `__add__` / `__mul__`: coercion of the operand, the `try` body, the two
fallback clauses (never entered on the data considered) -/
def c19RatFrame (tryB : List C19S) (fb : String) : List C19S :=
  c19RatCoerce ++ [
    .assign (.pat (.name "_handler")) (.int 0),
    .tryExcept [.tryExcept tryB "NoTraitsError" [.assign (.pat (.name "_handler")) (.int 1)]]
      "NoCommonTraitsError" [.assign (.pat (.name "_handler")) (.int 2)]] ++
  c19RatFallback fb

section
variable (cx : C19Cx α) (S O N : C19V α)

/-- the operand is a `Rational` already, or the constructor makes one of it -/
theorem c19_coerce_run
    (h : c19IsInst cx O ["Rational"] = true ∧ N = O ∨
      c19IsInst cx O ["Rational"] = false ∧ c19New cx "Rational" [O, .int 1] = .ok N) :
    c19ExecL cx c19RatCoerce [("self", S), ("other", O)]
      = .next [("self", S), ("other", O), ("newother", N)] := by
  unfold c19RatCoerce
  rcases h with ⟨hi, rfl⟩ | ⟨hi, hn⟩
  · c19_run [hi]
  · c19_run [hi, hn]

theorem c19_coerce_self_run
    (h : c19IsInst cx O ["Rational"] = true ∧ N = O ∨
      c19IsInst cx O ["Rational"] = false ∧ c19New cx "Rational" [O, .int 1] = .ok N) :
    c19ExecL cx c19RatCoerceSelf [("self", S), ("other", O)]
      = .next [("self", S), ("other", N)] := by
  unfold c19RatCoerceSelf
  rcases h with ⟨hi, rfl⟩ | ⟨hi, hn⟩
  · c19_run [hi]
  · c19_run [hi, hn]

/-- `try: B except k₁: … except k₂: …` around a body that ends otherwise than in `k₁` or `k₂`:
neither clause fires -/
theorem c19_try2 (body h1 h2 : List C19S) (k1 k2 : String) (σ : C19Store α) (o : C19O α)
    (hb : c19ExecL cx body σ = o) (hk1 : o ≠ .raise k1) (hk2 : o ≠ .raise k2) :
    c19Exec cx (.tryExcept [.tryExcept body k1 h1] k2 h2) σ = o := by
  have hin : c19Exec cx (.tryExcept body k1 h1) σ = o := by
    rw [c19Exec, hb]
    cases o <;> simp_all
  rw [c19Exec]
  simp only [c19ExecL, hin]
  cases o <;> simp_all

/-- the frame around a `try` body that returns or raises (not one of the two handled classes) -/
theorem c19_frame_run (tryB : List C19S) (fb : String) (o : C19O α)
    (hc : c19ExecL cx c19RatCoerce [("self", S), ("other", O)]
      = .next [("self", S), ("other", O), ("newother", N)])
    (ht : c19ExecL cx tryB [("self", S), ("other", O), ("newother", N), ("_handler", .int 0)] = o)
    (hk1 : o ≠ .raise "NoTraitsError") (hk2 : o ≠ .raise "NoCommonTraitsError")
    (hn : ∀ σ, o ≠ .next σ) :
    c19ExecL cx (c19RatFrame tryB fb) [("self", S), ("other", O)] = o := by
  have ha : c19Exec cx (.assign (.pat (.name "_handler")) (.int 0))
      [("self", S), ("other", O), ("newother", N)]
      = .next [("self", S), ("other", O), ("newother", N), ("_handler", .int 0)] := by
    c19_run []
  rw [c19RatFrame, c19ExecL_append, c19ExecL_append, hc, C19O.andThen_next]
  simp only [c19ExecL]
  rw [ha, C19O.andThen_next, c19_try2 cx tryB _ _ _ _ _ o ht hk1 hk2]
  cases o <;> first | rfl | exact absurd rfl (hn _)
end

/-! ## `Rational.__add__` / `__radd__` -/

/-- the other operand on the wire -/
def c19EncRatArg : RatArg → C19V α
  | .int i => .int i
  | .rat n d => c19RatObj n d

/-- `return v` / `raise` for a result -/
def c19RetRes : RatRes → C19O α
  | .int i => .ret (.int i)
  | .rat n d => .ret (c19RatObj n d)
  | .raise k => .raise k

theorem c19_ofR_encRatRes (r : RatRes) :
    C19O.ofR (c19EncRatRes r : C19R (C19V α)) (fun v => C19O.ret v) = c19RetRes r := by
  cases r <;> rfl

theorem c19RetRes_andThen (r : RatRes) (f : C19Store α → C19O α) :
    (c19RetRes r : C19O α).andThen f = c19RetRes r := by
  cases r <;> rfl

theorem c19EncRatRes_finish (r : RatRes) :
    c19Finish .method (c19RetRes r : C19O α) = c19EncRatRes r := by
  cases r <;> rfl

theorem c19RetRes_ite (c : Prop) [Decidable c] (r s : RatRes) :
    (c19RetRes (if c then r else s) : C19O α) = if c then c19RetRes r else c19RetRes s := by
  split <;> rfl
theorem c19RetRes_raise (k : String) : (c19RetRes (.raise k) : C19O α) = .raise k := by rfl
theorem c19RetRes_int (i : Int) : (c19RetRes (.int i) : C19O α) = .ret (.int i) := by rfl

/-- the only exceptions the integer arithmetic raises -/
def RatRes.plain (r : RatRes) : Prop :=
  ∀ k, r = .raise k → k = "ZeroDivisionError" ∨ k = "RuntimeError"

theorem RatRes.plain.ne_raise {r : RatRes} (hr : r.plain) (k : String)
    (hk : k ≠ "ZeroDivisionError" ∧ k ≠ "RuntimeError") : (c19RetRes r : C19O α) ≠ .raise k := by
  cases r with
  | int i => simp [c19RetRes]
  | rat n d => simp [c19RetRes]
  | raise k' =>
    simp only [c19RetRes, ne_eq, C19O.raise.injEq]
    rintro rfl
    rcases hr _ rfl with h | h
    · exact hk.1 h
    · exact hk.2 h

theorem ratInit_plain (n d : Int) : (ratInit n d).plain := by
  intro k hk
  rcases ratInit_cases n d with ⟨a, b, h⟩ | h <;> rw [h] at hk
  · cases hk
  · cases hk; exact Or.inr rfl

theorem ratQuotient_plain (n d : Int) : (ratQuotient n d).plain := by
  unfold ratQuotient
  by_cases h : d - 1 = 0
  · simp only [h, if_true]; intro k hk; cases hk
  · simp only [h, if_false]; exact ratInit_plain n d

theorem RatRes.plain_int (i : Int) : (RatRes.int i).plain := by
  intro k hk; cases hk

theorem RatRes.plain_raise_zd : (RatRes.raise "ZeroDivisionError").plain := by
  intro k hk; cases hk; exact Or.inl rfl

theorem ratAdd_plain (n1 d1 n2 d2 : Int) : (ratAdd n1 d1 n2 d2).plain := by
  unfold ratAdd
  simp only []
  repeat (first | exact RatRes.plain_raise_zd | exact ratQuotient_plain _ _ | split)

theorem ratMul_plain (n1 d1 n2 d2 : Int) : (ratMul n1 d1 n2 d2).plain := by
  unfold ratMul
  simp only []
  repeat (first | exact RatRes.plain_raise_zd | exact ratInit_plain _ _
                | exact RatRes.plain_int _ | split)

section
variable (ops : C19Ops α) (ext : String → List (C19V α) → C19R (C19V α))

theorem c19p2_Attr_num (cx : C19Cx α) (n d : Int) :
    c19Attr cx (c19RatObj n d) "Numerator" = .ok (.int n) := by rfl
theorem c19p2_Attr_den (cx : C19Cx α) (n d : Int) :
    c19Attr cx (c19RatObj n d) "Denominator" = .ok (.int d) := by rfl

/-- an int operand becomes `Rational(i, 1)`, a `Rational` operand is taken as it is -/
theorem c19p2_coerce (n k : Nat) (other : RatArg) :
    c19IsInst (c19CxAt ops c19TablePy2 ext (n + 1 + 1 + 1) k) (c19EncRatArg other) ["Rational"] = true
        ∧ (c19RatObj other.fields.1 other.fields.2 : C19V α) = c19EncRatArg other ∨
      c19IsInst (c19CxAt ops c19TablePy2 ext (n + 1 + 1 + 1) k) (c19EncRatArg other) ["Rational"] = false
        ∧ c19New (c19CxAt ops c19TablePy2 ext (n + 1 + 1 + 1) k) "Rational"
            [c19EncRatArg other, .int 1] = .ok (c19RatObj other.fields.1 other.fields.2) := by
  cases other with
  | int i =>
    have h1 : ratInit i 1 = .rat i 1 := by simp [ratInit]
    exact .inr ⟨c19p2_IsInst_int_rational ops ext _ _ i, by
      rw [c19EncRatArg, c19p2_New_rational, c19p2_rational_init_run, h1]; rfl⟩
  | rat a b => exact .inl ⟨c19p2_IsInst_rat_rational ops ext _ _ a b, rfl⟩

/-- the `try` body of `__add__` as the source has it -/
def c19RatAddSrc : List C19S := [
  .assign (.pat (.name "t")) (.commonTraits [(.attr (.var "self") "Denominator"), (.attr (.var "newother") "Denominator")]),
  .assign (.pat (.name "newden")) (.method (.var "t") "lcm" [(.attr (.var "self") "Denominator"), (.attr (.var "newother") "Denominator")]),
  .assign (.pat (.name "newnum")) (.bin .add (.bin .truediv (.bin .mul (.attr (.var "self") "Numerator") (.var "newden")) (.attr (.var "self") "Denominator")) (.bin .truediv (.bin .mul (.attr (.var "newother") "Numerator") (.var "newden")) (.attr (.var "newother") "Denominator"))),
  .assign (.pat (.name "gcd")) (.method (.var "t") "gcd" [(.var "newden"), (.var "newnum")]),
  .ret (.call "primitives.quotient" [(.bin .truediv (.var "newnum") (.var "gcd")), (.bin .truediv (.var "newden") (.var "gcd"))])]

/-- … with `/` read as `//` -/
def c19RatAddTry : List C19S := C19S.py2L c19RatAddSrc

/-- the call depth that suffices for `__add__`: the two runs of Euclid's algorithm, each
`|q| + |r| + 3` for `extended_euclidean` (`c19_extended_euclidean_run`) plus the levels of calls
above it (`t.lcm` → `cls.gcd` → `extended_euclidean` for the new denominator, `t.gcd` →
`extended_euclidean` for the final reduction) -/
def ratAddFuel (n1 d1 n2 d2 : Int) : Nat :=
  let newden := Int.fdiv (d1 * d2) (gcd d1 d2)
  let newnum := Int.fdiv (n1 * newden) d1 + Int.fdiv (n2 * newden) d2
  max (d1.natAbs + d2.natAbs + 6) (newden.natAbs + newnum.natAbs + 5)

theorem c19Call_quotient (cx : C19Cx α) (a b : C19V α) :
    c19Call cx "primitives.quotient" [a, b] = cx.calls "primitives.quotient" [a, b] := by rfl

theorem c19p2_add_try_run (N k : Nat) (n1 d1 n2 d2 : Int) (O : C19V α)
    (hN : ratAddFuel n1 d1 n2 d2 ≤ N) :
    c19ExecL (c19CxAt ops c19TablePy2 ext N k) c19RatAddTry
        [("self", c19RatObj n1 d1), ("other", O), ("newother", c19RatObj n2 d2),
          ("_handler", .int 0)]
      = c19RetRes (ratAdd n1 d1 n2 d2) := by
  unfold ratAddFuel at hN
  simp only [] at hN
  obtain ⟨M, rfl⟩ : ∃ M, N = M + 1 + 1 + 1 + 1 := ⟨N - 4, by omega⟩
  have hl := c19p2_traits_lcm_run ops ext d1 d2 (M + 1 + 1 + 1) (by omega)
  have hg := c19p2_traits_gcd_run ops ext (Int.fdiv (d1 * d2) (gcd d1 d2))
    (Int.fdiv (n1 * Int.fdiv (d1 * d2) (gcd d1 d2)) d1 + Int.fdiv (n2 * Int.fdiv (d1 * d2) (gcd d1 d2)) d2)
    (M + 1 + 1 + 1) (by omega)
  unfold ratAdd
  simp only [c19RatAddTry, c19RatAddSrc, C19S.py2L, C19S.py2, C19E.py2, C19E.py2L, C19T.py2,
    C19Bin.py2]
  unfold c19EncTraitsLcm at hl
  c19_run [c19p2_Attr_num, c19p2_Attr_den, c19CommonTraits_two c19TablePy2_reading,
    c19p2_Method_lcm, hl, c19p2_Method_gcd, hg, c19Call_quotient, c19p2_quotient_run,
    c19_ofR_encRatRes, c19RetRes_andThen, C19R.bind_ite, C19O.ofR_ite, C19O.andThen_ite,
    c19RetRes_ite, c19RetRes_raise, c19_ite_ite_same]

/-- a method whose body is the frame around `tryB`: what the `try` body returns -/
theorem c19p2_frame_run (name fb : String) (tryB : List C19S) (N : Nat) (n1 d1 : Int)
    (other : RatArg) (r : RatRes)
    (hf : c19FindFn c19TablePy2 name = some ⟨name, .method, ["self", "other"], [],
      c19RatFrame tryB fb⟩)
    (hN : 3 ≤ N) (hr : r.plain)
    (ht : c19ExecL (c19CxAt ops c19TablePy2 ext N (N + 1)) tryB
        [("self", c19RatObj n1 d1), ("other", c19EncRatArg other),
          ("newother", c19RatObj other.fields.1 other.fields.2), ("_handler", .int 0)]
      = c19RetRes r) :
    c19RunFn ops c19TablePy2 ext (N + 1) name [c19RatObj n1 d1, c19EncRatArg other]
      = c19EncRatRes r := by
  obtain ⟨M, rfl⟩ : ∃ M, N = M + 1 + 1 + 1 := ⟨N - 3, by omega⟩
  rw [c19RunFn_succ ops c19TablePy2 ext _ _ _ _ _ hf rfl]
  simp only []
  rw [c19_frame_run _ _ _ _ tryB fb _ (c19_coerce_run _ _ _ _ (c19p2_coerce ops ext M _ other)) ht
    (hr.ne_raise _ (by decide)) (hr.ne_raise _ (by decide)) (by cases r <;> simp [c19RetRes]),
    c19EncRatRes_finish]

theorem c19p2_rational_add_frame :
    c19FindFn c19TablePy2 "Rational.__add__" = some ⟨"Rational.__add__", .method,
      ["self", "other"], [], c19RatFrame c19RatAddTry "Expression.__add__"⟩ :=
  c19p2_find c19_find_rational_add
theorem c19p2_rational_radd_frame :
    c19FindFn c19TablePy2 "Rational.__radd__" = some ⟨"Rational.__radd__", .method,
      ["self", "other"], [], c19RatFrame c19RatAddTry "Expression.__add__"⟩ :=
  c19p2_find c19_find_rational_radd

/-- **`Rational.__add__` under the Python-2 reading IS `ratAdd`** on integer fields, the operand a
`Rational` or a plain int -/
theorem c19p2_rational_add_run (n1 d1 : Int) (other : RatArg) (N : Nat)
    (hN : ratAddFuel n1 d1 other.fields.1 other.fields.2 ≤ N) :
    c19RunFn ops c19TablePy2 ext (N + 1) "Rational.__add__" [c19RatObj n1 d1, c19EncRatArg other]
      = c19EncRatRes (ratAdd n1 d1 other.fields.1 other.fields.2) :=
  c19p2_frame_run ops ext _ _ _ N n1 d1 other _ c19p2_rational_add_frame
    (by unfold ratAddFuel at hN; simp only [] at hN; omega) (ratAdd_plain _ _ _ _)
    (c19p2_add_try_run ops ext N (N + 1) n1 d1 _ _ _ hN)

theorem c19p2_rational_radd_run (n1 d1 : Int) (other : RatArg) (N : Nat)
    (hN : ratAddFuel n1 d1 other.fields.1 other.fields.2 ≤ N) :
    c19RunFn ops c19TablePy2 ext (N + 1) "Rational.__radd__" [c19RatObj n1 d1, c19EncRatArg other]
      = c19EncRatRes (ratAdd n1 d1 other.fields.1 other.fields.2) :=
  c19p2_frame_run ops ext _ _ _ N n1 d1 other _ c19p2_rational_radd_frame
    (by unfold ratAddFuel at hN; simp only [] at hN; omega) (ratAdd_plain _ _ _ _)
    (c19p2_add_try_run ops ext N (N + 1) n1 d1 _ _ _ hN)

/-! ## `Rational.__mul__` / `__rmul__` -/

/-- the `try` body of `__mul__` as the source has it -/
def c19RatMulSrc : List C19S := [
  .assign (.pat (.name "t")) (.commonTraits [(.attr (.var "self") "Numerator"), (.attr (.var "newother") "Numerator"), (.attr (.var "self") "Denominator"), (.attr (.var "newother") "Denominator")]),
  .assign (.pat (.name "gcd_1")) (.method (.var "t") "gcd" [(.attr (.var "self") "Numerator"), (.attr (.var "newother") "Denominator")]),
  .assign (.pat (.name "gcd_2")) (.method (.var "t") "gcd" [(.attr (.var "newother") "Numerator"), (.attr (.var "self") "Denominator")]),
  .assign (.pat (.name "new_num")) (.bin .truediv (.bin .mul (.bin .truediv (.attr (.var "self") "Numerator") (.var "gcd_1")) (.attr (.var "newother") "Numerator")) (.var "gcd_2")),
  .assign (.pat (.name "new_denom")) (.bin .truediv (.bin .mul (.bin .truediv (.attr (.var "self") "Denominator") (.var "gcd_2")) (.attr (.var "newother") "Denominator")) (.var "gcd_1")),
  .ite (.not (.bin .sub (.var "new_denom") (.int 1))) [
    .ret (.var "new_num")] [],
  .ret (.new "Rational" [(.var "new_num"), (.var "new_denom")])]

/-- … with `/` read as `//` -/
def c19RatMulTry : List C19S := C19S.py2L c19RatMulSrc

theorem c19p2_rational_mul_frame :
    c19FindFn c19TablePy2 "Rational.__mul__" = some ⟨"Rational.__mul__", .method,
      ["self", "other"], [], c19RatFrame c19RatMulTry "Expression.__mul__"⟩ :=
  c19p2_find c19_find_rational_mul
theorem c19p2_rational_rmul_frame :
    c19FindFn c19TablePy2 "Rational.__rmul__" = some ⟨"Rational.__rmul__", .method,
      ["self", "other"], [], c19RatFrame c19RatMulTry "Expression.__mul__"⟩ :=
  c19p2_find c19_find_rational_rmul

def ratMulFuel (n1 d1 n2 d2 : Int) : Nat :=
  max (n1.natAbs + d2.natAbs + 5) (n2.natAbs + d1.natAbs + 5)

theorem c19p2_mul_try_run (N k : Nat) (n1 d1 n2 d2 : Int) (O : C19V α)
    (hN : ratMulFuel n1 d1 n2 d2 ≤ N) :
    c19ExecL (c19CxAt ops c19TablePy2 ext N k) c19RatMulTry
        [("self", c19RatObj n1 d1), ("other", O), ("newother", c19RatObj n2 d2),
          ("_handler", .int 0)]
      = c19RetRes (ratMul n1 d1 n2 d2) := by
  unfold ratMulFuel at hN
  obtain ⟨M, rfl⟩ : ∃ M, N = M + 1 + 1 + 1 + 1 := ⟨N - 4, by omega⟩
  have hg1 := c19p2_traits_gcd_run ops ext n1 d2 (M + 1 + 1 + 1) (by omega)
  have hg2 := c19p2_traits_gcd_run ops ext n2 d1 (M + 1 + 1 + 1) (by omega)
  unfold ratMul
  simp only [c19RatMulTry, c19RatMulSrc, C19S.py2L, C19S.py2, C19E.py2, C19E.py2L, C19T.py2,
    C19Bin.py2]
  c19_run [c19p2_Attr_num, c19p2_Attr_den, c19CommonTraits_four c19TablePy2_reading,
    c19p2_Method_gcd, hg1, hg2, c19p2_New_rational, c19p2_rational_init_run, c19_ofR_encRatRes,
    c19RetRes_andThen, C19R.bind_ite, C19O.ofR_ite, C19O.andThen_ite, c19RetRes_ite,
    c19RetRes_raise, c19RetRes_int, c19_ite_ite_same]
  -- the first gcd is tested again after the second (`… / gcd_2` before `… / gcd_1`)
  by_cases h1 : gcd n1 d2 = 0
  · rw [if_pos h1, if_pos h1]
  · simp only [h1, if_false, Bool.not_eq_true', bne_eq_false_iff_eq]

/-- **`Rational.__mul__` under the Python-2 reading IS `ratMul`** -/
theorem c19p2_rational_mul_run (n1 d1 : Int) (other : RatArg) (N : Nat)
    (hN : ratMulFuel n1 d1 other.fields.1 other.fields.2 ≤ N) :
    c19RunFn ops c19TablePy2 ext (N + 1) "Rational.__mul__" [c19RatObj n1 d1, c19EncRatArg other]
      = c19EncRatRes (ratMul n1 d1 other.fields.1 other.fields.2) :=
  c19p2_frame_run ops ext _ _ _ N n1 d1 other _ c19p2_rational_mul_frame
    (by unfold ratMulFuel at hN; omega) (ratMul_plain _ _ _ _)
    (c19p2_mul_try_run ops ext N (N + 1) n1 d1 _ _ _ hN)

theorem c19p2_rational_rmul_run (n1 d1 : Int) (other : RatArg) (N : Nat)
    (hN : ratMulFuel n1 d1 other.fields.1 other.fields.2 ≤ N) :
    c19RunFn ops c19TablePy2 ext (N + 1) "Rational.__rmul__" [c19RatObj n1 d1, c19EncRatArg other]
      = c19EncRatRes (ratMul n1 d1 other.fields.1 other.fields.2) :=
  c19p2_frame_run ops ext _ _ _ N n1 d1 other _ c19p2_rational_rmul_frame
    (by unfold ratMulFuel at hN; omega) (ratMul_plain _ _ _ _)
    (c19p2_mul_try_run ops ext N (N + 1) n1 d1 _ _ _ hN)

/-! ## `__neg__`, `reciprocal`, `__pow__` -/

/-- **`Rational.__neg__` (Python-2 reading) IS `ratNeg`** -/
theorem c19p2_rational_neg_run (n d : Int) (m : Nat) :
    c19RunFn ops c19TablePy2 ext (m + 1 + 1 + 1 + 1) "Rational.__neg__" [c19RatObj n d]
      = c19EncRatRes (ratNeg n d) := by
  rw [c19RunFn_succ ops c19TablePy2 ext _ _ _ _ _
    (c19TablePy2_reading.find c19_find_rational_neg (by rfl)) rfl]
  simp only [c19Fn_Rational___neg__]
  unfold ratNeg
  c19_run [c19p2_Attr_num, c19p2_Attr_den, c19p2_New_rational, c19p2_rational_init_run,
    c19_ofR_encRatRes, c19RetRes_andThen, c19EncRatRes_finish]

/-! ## `__sub__`, `__rsub__`, `__div__`, `__rdiv__` -/

def ratSubFuel (n1 d1 : Int) (other : RatArg) : Nat :=
  match ratNegArg other with
  | .int i => ratAddFuel n1 d1 i 1 + 1
  | .rat n d => max (ratAddFuel n1 d1 n d + 1) 4
  | .raise _ => 4

theorem c19p2_Method_add (n k : Nat) (a b : Int) (v : C19V α) :
    c19Method (c19CxAt ops c19TablePy2 ext n k) (c19RatObj a b) "__add__" [v]
      = c19RunFn ops c19TablePy2 ext n "Rational.__add__" [c19RatObj a b, v] :=
  c19TablePy2_reading.method ops ext n k (by simp) (c19Resolve_rational _ _ (by simp) c19_find_rational_add)
theorem c19p2_Method_radd (n k : Nat) (a b : Int) (v : C19V α) :
    c19Method (c19CxAt ops c19TablePy2 ext n k) (c19RatObj a b) "__radd__" [v]
      = c19RunFn ops c19TablePy2 ext n "Rational.__radd__" [c19RatObj a b, v] :=
  c19TablePy2_reading.method ops ext n k (by simp) (c19Resolve_rational _ _ (by simp) c19_find_rational_radd)
theorem c19p2_Method_mul (n k : Nat) (a b : Int) (v : C19V α) :
    c19Method (c19CxAt ops c19TablePy2 ext n k) (c19RatObj a b) "__mul__" [v]
      = c19RunFn ops c19TablePy2 ext n "Rational.__mul__" [c19RatObj a b, v] :=
  c19TablePy2_reading.method ops ext n k (by simp) (c19Resolve_rational _ _ (by simp) c19_find_rational_mul)
theorem c19p2_Method_rmul (n k : Nat) (a b : Int) (v : C19V α) :
    c19Method (c19CxAt ops c19TablePy2 ext n k) (c19RatObj a b) "__rmul__" [v]
      = c19RunFn ops c19TablePy2 ext n "Rational.__rmul__" [c19RatObj a b, v] :=
  c19TablePy2_reading.method ops ext n k (by simp) (c19Resolve_rational _ _ (by simp) c19_find_rational_rmul)
theorem c19p2_Neg_rat (n k : Nat) (a b : Int) :
    c19Neg (c19CxAt ops c19TablePy2 ext n k) (c19RatObj a b)
      = c19RunFn ops c19TablePy2 ext n "Rational.__neg__" [c19RatObj a b] := by
  rw [c19RatObj, c19Neg_obj]
  exact c19TablePy2_reading.method ops ext n k (by simp)
    (c19Resolve_rational _ _ (by simp) c19_find_rational_neg)

def ratRsubFuel (n1 d1 : Int) (other : RatArg) : Nat :=
  match ratNeg n1 d1 with
  | .rat n d => max (ratAddFuel n d other.fields.1 other.fields.2 + 1) 4
  | _ => 4

def ratDivFuel (n1 d1 : Int) (other : RatArg) : Nat :=
  match ratInit other.fields.2 other.fields.1 with
  | .rat n d => max (ratMulFuel n1 d1 n d + 1) 3
  | _ => 3

def ratRdivFuel (n1 d1 : Int) (other : RatArg) : Nat :=
  match ratInit d1 n1 with
  | .rat n d => max (ratMulFuel n d other.fields.1 other.fields.2 + 1) 3
  | _ => 3

end
end PV.Algo
