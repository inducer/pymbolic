import PV.Model.ForeignTable
/-
  C04 — the chain of `Mapper.map_foreign` as written in `foreignSourceLit`, run by `fRun`, IS the
  foreign routing of the dispatch model (`dispatchForeign`) applied to the kind the object has
  under the registry AT CALL TIME — for all registries and objects.
-/
namespace PV

theorem fRun_lit (live captured : Registry) (o : FObj) :
    fRun foreignSourceLit.chain live captured o = dispatchForeign (o.kind live) := by
  simp only [fRun, foreignSourceLit, List.find?, fTest, FObj.kind]
  cases o.isConst live <;> cases o.isArray <;> cases o.isList <;> cases o.isTuple <;>
    simp [dispatchForeign]

theorem any_contains_append (reg : List String) (c : String) (cs : List String) :
    cs.any (fun k => (reg ++ [c]).contains k)
      = (cs.any (fun k => reg.contains k) || cs.contains c) := by
  rw [Bool.eq_iff_iff]
  simp only [List.any_eq_true, Bool.or_eq_true, List.contains_iff_mem, List.mem_append,
    List.mem_singleton]
  constructor
  · rintro ⟨k, hk, h | h⟩
    · exact Or.inl ⟨k, hk, h⟩
    · exact Or.inr (h ▸ hk)
  · rintro (⟨k, hk, h⟩ | h)
    · exact ⟨k, hk, Or.inl h⟩
    · exact ⟨c, h, Or.inr rfl⟩

/-- an object of a registered class is a number -/
theorem isConst_register (reg : Registry) (c : String) (o : FObj) :
    o.isConst (reg.register c) = (o.isConst reg || o.classes.contains c) := by
  simp only [FObj.isConst, Registry.register]
  exact any_contains_append reg c o.classes

/-- the routes of a history under the literal chain are those of the specification
`fHistorySpec`, whatever the registry was when the module was imported -/
theorem fHistory_lit (captured : Registry) :
    ∀ (steps : List FStep) (live : Registry),
      fHistory foreignSourceLit.chain captured live steps = fHistorySpec live steps
  | [], _ => by simp [fHistory, fHistorySpec]
  | .op o :: rest, live => by
      simp only [fHistory, fHistorySpec]
      exact fHistory_lit captured rest (live.step o)
  | .call o :: rest, live => by
      simp only [fHistory, fHistorySpec, fRun_lit]
      rw [fHistory_lit captured rest live]

/-- a class registered once is gone after `unregister` -/
theorem unregister_removes (reg : Registry) (c : String) (hn : reg.Nodup) :
    (reg.unregister c).contains c = false := by
  simp only [Registry.unregister, List.contains_eq_mem, decide_eq_false_iff_not]
  intro h
  exact (hn.mem_erase_iff.1 h).1 rfl

end PV
