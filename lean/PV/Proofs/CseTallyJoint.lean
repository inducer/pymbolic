import PV.Proofs.CseTallyCount
import PV.Proofs.CseTallySched
/-
  C12 helper: the end-to-end induction.  `CSEMapper` (state: the canonical table `T`), the schedule
  of an evaluator on the mapper's OUTPUT (state: the wrapper cache `C`) and the reference walk on
  the mapper's INPUT (state: the memo `d`) are run side by side over one expression list.
  The mapper and the reference walk always skip at the same places (given that every memo hit is
  on a key to be eliminated, `c12HitsElim`, which is what the use counts guarantee); the evaluator
  skips wherever they skip, and may skip more — exactly when a newly built wrapper is structurally
  equal to a wrapper it has computed already.
-/
namespace PV

theorem Tbl.le_append (T X : Tbl) : T.le (T ++ X) := fun _ _ h => Tbl.find_append_some X h

theorem inElim_congr {elim : List CKey} (hE : ElimKeys elim) {a b : Expr} (ha : a.simple = true)
    (hb : b.simple = true) (h : c12SameKey a b = true)
    (h1 : inElim elim (normalizedKey a) = true) : inElim elim (normalizedKey b) = true := by
  simp only [inElim, List.any_eq_true] at h1 ⊢
  obtain ⟨k, hk, hka⟩ := h1
  obtain ⟨e0, hs0, rfl⟩ := hE k hk
  exact ⟨_, hk, keyEq_trans_simple hs0 ha hb hka h⟩

/-- the mapper's table `T` against the memo `d` of the reference walk -/
structure C12InvT (elim : List CKey) (T : Tbl) (d : List Expr) : Prop where
  /-- memo → table: an operation the walk has met whose key is to be eliminated has a wrapper -/
  dt : ∀ s ∈ d, inElim elim (normalizedKey s) = true → (T.find (normalizedKey s)).isSome = true
  /-- table → memo: every key of the table is the key of an operation the walk has met -/
  td : ∀ p ∈ T, ∃ s ∈ d, p.1 = normalizedKey s
  /-- the memo holds fragment expressions only -/
  df : ∀ s ∈ d, s.frag = true
  /-- every stored wrapper is prefix-less, of evaluation scope, around a tagged-fragment node -/
  tw : ∀ p ∈ T, ∃ r, p.2 = .cse r none evalScope ∧ r.tfrag = true

/-- the mapper's table `T` against the wrapper cache `C` of the evaluator's schedule -/
structure C12InvC (T : Tbl) (C : List Expr) : Prop where
  /-- table → cache: every stored wrapper has been computed -/
  tc : ∀ p ∈ T, p.2 ∈ C
  /-- cache → table: every computed wrapper is a stored one -/
  ct : ∀ w ∈ C, ∃ p ∈ T, p.2 = w
  /-- with a wrapper the cache holds the wrappers inside it -/
  cc : c12Closed C

theorem C12InvT.keys {elim : List CKey} {T : Tbl} {d : List Expr} (h : C12InvT elim T d) :
    TblKeys T := by
  intro p hp
  obtain ⟨s, hs, hk⟩ := h.td p hp
  exact ⟨s, frag_simple s (h.df s hs), hk⟩

/-- What the side-by-side run of one expression `e` establishes, from table `T`, cache `C`, memo
`d`.  There are the output `e'`, the entries `X` the mapper adds and the operations `dn` the
reference walk adds such that, conjunct by conjunct:
the mapper succeeds with `e'` and `T ++ X`; the walk ends in `d ++ dn`; `e'` is in the tagged
fragment; both invariants hold again (the cache being the one after the schedule of `e'`);
nothing the walk added is larger than `e`; every new entry holds a wrapper occurring in `e'`;
under any later table `Tf` the scheduled handler runs are a sublist of the new operations as
`Tf` rebuilds them (the evaluator skips wherever the walk skips); and they are ALL of them when
the wrappers of a later table are pairwise different (no two classes collapse). -/
def C12Concl (elim : List CKey) (e : Expr) (T : Tbl) (C d : List Expr) : Prop :=
  ∃ e' X dn, cseMap elim e T = .ok (e', T ++ X) ∧ c12Plan e d = d ++ dn ∧ e'.tfrag = true ∧
    C12InvT elim (T ++ X) (d ++ dn) ∧ C12InvC (T ++ X) (c12Sched e' C).2 ∧
    (∀ s ∈ dn, s.size ≤ e.size) ∧ (∀ p ∈ X, p.2 ∈ c12Wrappers e') ∧
    (∀ Tf, (T ++ X).le Tf → (c12Sched e' C).1.Sublist (dn.map (c12Rebuild elim Tf))) ∧
    (∀ Y, ((T ++ X ++ Y).map Prod.snd).Nodup →
      (c12Sched e' C).1 = dn.map (c12Rebuild elim (T ++ X ++ Y)))

/-- `C12Concl` for a list of expressions run one after the other -/
def C12ConclL (elim : List CKey) (cs : List Expr) (T : Tbl) (C d : List Expr) : Prop :=
  ∃ cs' X dn, cseMapL elim cs T = .ok (cs', T ++ X) ∧ c12PlanL cs d = d ++ dn ∧
    Expr.tfragL cs' = true ∧
    C12InvT elim (T ++ X) (d ++ dn) ∧ C12InvC (T ++ X) (c12SchedL cs' C).2 ∧
    (∀ s ∈ dn, s.size ≤ Expr.sizeL cs) ∧ (∀ p ∈ X, p.2 ∈ c12WrappersL cs') ∧
    (∀ Tf, (T ++ X).le Tf → (c12SchedL cs' C).1.Sublist (dn.map (c12Rebuild elim Tf))) ∧
    (∀ Y, ((T ++ X ++ Y).map Prod.snd).Nodup →
      (c12SchedL cs' C).1 = dn.map (c12Rebuild elim (T ++ X ++ Y)))

/-- the side-by-side statement for `e`: from any state in which the invariants hold and every memo
hit of the walk on `e` is on a key to be eliminated -/
def C12Goal (elim : List CKey) (e : Expr) : Prop :=
  ∀ T C d, c12HitsElim elim e d = true → C12InvT elim T d → C12InvC T C → C12Concl elim e T C d

def C12GoalL (elim : List CKey) (cs : List Expr) : Prop :=
  ∀ T C d, c12HitsElimL elim cs d = true → C12InvT elim T d → C12InvC T C →
    C12ConclL elim cs T C d

theorem c12Goal_leaf {elim : List CKey} {e : Expr} (hm : ∀ T, cseMap elim e T = .ok (e, T))
    (hp : ∀ d, c12Plan e d = d) (ht : e.tfrag = true) (hs : ∀ C, c12Sched e C = ([], C)) :
    C12Goal elim e := by
  intro T C d _ iT iC
  refine ⟨e, [], [], by simp [hm], by simp [hp], ht, by simpa using iT, by simpa [hs] using iC,
    by simp, by simp, ?_, ?_⟩
  · intro Tf _; simp [hs]
  · intro Y _; simp [hs]

theorem c12GoalL_nil (elim : List CKey) : C12GoalL elim [] := by
  intro T C d _ iT iC
  refine ⟨[], [], [], by simp [cseMapL, pure, Except.pure], by simp [c12PlanL], rfl,
    by simpa using iT, by simpa [c12SchedL] using iC, by simp, by simp, ?_, ?_⟩
  · intro Tf _; simp [c12SchedL]
  · intro Y _; simp [c12SchedL]

theorem c12GoalL_cons {elim : List CKey} {c : Expr} {cs : List Expr} (h1 : C12Goal elim c)
    (h2 : C12GoalL elim cs) : C12GoalL elim (c :: cs) := by
  intro T C d hH iT iC
  simp only [c12HitsElimL, Bool.and_eq_true] at hH
  obtain ⟨c', X1, dn1, m1, p1, t1, iT1, iC1, s1, w1, sub1, eq1⟩ := h1 T C d hH.1 iT iC
  rw [p1] at hH
  obtain ⟨cs', X2, dn2, m2, p2, t2, iT2, iC2, s2, w2, sub2, eq2⟩ :=
    h2 (T ++ X1) (c12Sched c' C).2 (d ++ dn1) hH.2 iT1 iC1
  refine ⟨c' :: cs', X1 ++ X2, dn1 ++ dn2, ?_, ?_, ?_, ?_, ?_, ?_, ?_, ?_, ?_⟩
  · simp only [cseMapL, m1, bind, Except.bind, m2, pure, Except.pure, List.append_assoc]
  · simp only [c12PlanL, p1, p2, List.append_assoc]
  · simp [Expr.tfragL, t1, t2]
  · simpa only [List.append_assoc] using iT2
  · simpa only [List.append_assoc, c12SchedL] using iC2
  · intro s hs
    simp only [Expr.sizeL]
    rcases List.mem_append.mp hs with hs | hs
    · have := s1 s hs; omega
    · have := s2 s hs; omega
  · intro p hp
    simp only [c12WrappersL]
    rcases List.mem_append.mp hp with hp | hp
    · exact List.mem_append_left _ (w1 p hp)
    · exact List.mem_append_right _ (w2 p hp)
  · intro Tf hle
    rw [← List.append_assoc] at hle
    simp only [c12SchedL, List.map_append]
    exact List.Sublist.append (sub1 Tf (Tbl.le_trans (Tbl.le_append _ _) hle)) (sub2 Tf hle)
  · intro Y hY
    simp only [c12SchedL, List.map_append]
    have e1 := eq1 (X2 ++ Y) (by simpa only [List.append_assoc] using hY)
    have e2 := eq2 Y (by simpa only [List.append_assoc] using hY)
    simp only [List.append_assoc] at e1 e2 ⊢
    rw [e1, e2]

theorem cseMapL_cons_ok {elim : List CKey} {c : Expr} {cs cs' : List Expr} {T T' : Tbl}
    (h : cseMapL elim (c :: cs) T = .ok (cs', T')) :
    ∃ c' as' T1, cs' = c' :: as' ∧ cseMap elim c T = .ok (c', T1) ∧
      cseMapL elim cs T1 = .ok (as', T') := by
  simp only [cseMapL] at h
  obtain ⟨⟨c', T1⟩, h1, h⟩ := except_bind_ok h
  obtain ⟨⟨as', T2⟩, h2, h⟩ := except_bind_ok h
  simp only [pure, Except.pure] at h
  injection h with h; injection h with e1 e2; subst e1; subst e2
  exact ⟨c', as', T1, rfl, h1, h2⟩

theorem cseMapL_nil_ok {elim : List CKey} {cs' : List Expr} {T T' : Tbl}
    (h : cseMapL elim [] T = .ok (cs', T')) : cs' = [] ∧ T' = T := by
  simp only [cseMapL, pure, Except.pure] at h
  injection h with h; injection h with e1 e2; exact ⟨e1.symm, e2.symm⟩

/-- The operation-node step.  `hhit` / `hplanhit`: what the mapper and the walk do when they skip
`e`.  `hblock`: the side-by-side run of the operands of `e` when the walk does not skip — `r` is
`e` rebuilt from its mapped operands, `X2` / `dn2` what the operands added to table and memo,
`opsK` / `C2` the handler runs and the cache of the schedule of `r` before `r` itself; its
conjuncts are those of `C12Concl` for the operands, with the strict size bound that keeps the key
of `e` out of `X2` (a simple expression with the key of `e` has the size of `e`), plus: the mapper
finishes `r` by `finishOp`, the walk appends `e`, `wrap_in_cse` wraps `r`, and any later table
rebuilds `e` to `r`. -/
theorem c12_node {elim : List CKey} (hE : ElimKeys elim) {e : Expr} {T : Tbl} {C d : List Expr}
    (hf : e.frag = true) (hop : e.isCseOp = true)
    (hH : c12Has d e = true → inElim elim (normalizedKey e) = true)
    (iT : C12InvT elim T d) (iC : C12InvC T C)
    (hhit : ∀ w, modeOf elim T e = .hit w → cseMap elim e T = .ok (w, T))
    (hplanhit : c12Has d e = true → c12Plan e d = d)
    (hblock : c12Has d e = false → ∃ r X2 dn2 opsK C2,
      ((∀ w, modeOf elim T e ≠ .hit w) →
        cseMap elim e T = .ok (finishOp (modeOf elim T e) r (T ++ X2))) ∧
      c12Plan e d = d ++ dn2 ++ [e] ∧
      c12Sched r C = (opsK ++ [r], C2) ∧
      wrapInCse r none = .cse r none evalScope ∧ r.tfrag = true ∧
      C12InvT elim (T ++ X2) (d ++ dn2) ∧ C12InvC (T ++ X2) C2 ∧
      (∀ s ∈ dn2, s.size < e.size) ∧ (∀ p ∈ X2, p.2 ∈ c12Wrappers r) ∧
      (∀ Tf, (T ++ X2).le Tf →
        c12Rebuild elim Tf e = r ∧ opsK.Sublist (dn2.map (c12Rebuild elim Tf))) ∧
      (∀ Y, ((T ++ X2 ++ Y).map Prod.snd).Nodup →
        opsK = dn2.map (c12Rebuild elim (T ++ X2 ++ Y)))) :
    C12Concl elim e T C d := by
  have hse := frag_simple e hf
  cases hh : c12Has d e with
  | true =>
    -- the mapper and the reference walk both skip; so does the evaluator
    obtain ⟨s, hsd, hks⟩ := c12Has_mem hh
    have hss := frag_simple s (iT.df s hsd)
    have hine := hH hh
    have hins : inElim elim (normalizedKey s) = true :=
      inElim_congr hE hse hss (keyEq_symm_simple hss hse hks) hine
    have hfs := iT.dt s hsd hins
    rw [Tbl.find_congr hss hse hks iT.keys] at hfs
    cases hfe : T.find (normalizedKey e) with
    | none => rw [hfe] at hfs; cases hfs
    | some w =>
      have hmode : modeOf elim T e = .hit w := by simp [modeOf, hop, hine, hfe]
      obtain ⟨k', hmem, _⟩ := Tbl.find_some hfe
      obtain ⟨r, hw, hr⟩ := iT.tw (k', w) hmem
      simp only at hw
      have hwC : w ∈ C := iC.tc (k', w) hmem
      have hsch : c12Sched w C = ([], C) := by
        subst hw; simp only [c12Sched] at hwC ⊢; simp [hwC]
      refine ⟨w, [], [], by simpa using hhit w hmode, by simpa using hplanhit hh, ?_,
        by simpa using iT, by simpa [hsch] using iC, by simp, by simp, ?_, ?_⟩
      · subst hw; simpa [Expr.tfrag] using hr
      · intro Tf _; simp [hsch]
      · intro Y _; simp [hsch]
  | false =>
    have hnh : ∀ w, modeOf elim T e ≠ .hit w := by
      intro w hm
      unfold modeOf at hm
      by_cases h1 : (e.isCseOp && inElim elim (normalizedKey e)) = true
      · simp only [h1, if_true] at hm
        cases hfe : T.find (normalizedKey e) with
        | none => simp [hfe] at hm
        | some w' =>
          obtain ⟨k', hmem, hk⟩ := Tbl.find_some hfe
          obtain ⟨s, hsd, hks⟩ := iT.td (k', w') hmem
          simp only at hks; subst hks
          have := c12Has_of_mem hsd (show c12SameKey s e = true from hk)
          rw [hh] at this; cases this
      · simp [h1] at hm
    obtain ⟨r, X2, dn2, opsK, C2, hmap, hplan, hsch, hwrap, hrt, iT2, iC2, hsz, hwr, hsub, heq⟩ :=
      hblock hh
    have hmap := hmap hnh
    by_cases hin : inElim elim (normalizedKey e) = true
    · -- first occurrence of an operation to be eliminated: a new wrapper
      have hfe : T.find (normalizedKey e) = none := by
        cases hfe : T.find (normalizedKey e) with
        | none => rfl
        | some w => exact absurd (by simp [modeOf, hop, hin, hfe]) (hnh w)
      have hmode : modeOf elim T e = .miss (normalizedKey e) := by simp [modeOf, hop, hin, hfe]
      -- the operands did not add the key (the argument of `Added.find_none`, on the memo: what the
      -- operands added is smaller than `e`, and equal keys mean equal size)
      have hf2 : (T ++ X2).find (normalizedKey e) = none := by
        cases hf2 : (T ++ X2).find (normalizedKey e) with
        | none => rfl
        | some w2 =>
          exfalso
          obtain ⟨k', hmem, hk⟩ := Tbl.find_some hf2
          obtain ⟨s, hsd, hks⟩ := iT2.td (k', w2) hmem
          simp only at hks; subst hks
          rcases List.mem_append.mp hsd with hsd | hsd
          · have := c12Has_of_mem hsd (show c12SameKey s e = true from hk)
            rw [hh] at this; cases this
          · have h1 := keyEq_size (frag_simple s (iT2.df s (List.mem_append_right _ hsd))) hse hk
            have h2 := hsz s hsd
            omega
      rw [hmode] at hmap
      simp only [finishOp, hwrap, Tbl.set_of_find_none hf2] at hmap
      have hWw : c12Wrappers (Expr.cse r none evalScope) = .cse r none evalScope :: c12Wrappers r := by
        simp [c12Wrappers]
      have iT' : C12InvT elim (T ++ (X2 ++ [(normalizedKey e, .cse r none evalScope)]))
          (d ++ (dn2 ++ [e])) := by
        rw [← List.append_assoc, ← List.append_assoc]
        refine ⟨?_, ?_, ?_, ?_⟩
        · intro s hs hi
          rcases List.mem_append.mp hs with hs | hs
          · have := iT2.dt s hs hi
            cases hq : (T ++ X2).find (normalizedKey s) with
            | none => rw [hq] at this; cases this
            | some q => rw [Tbl.find_append_some _ hq]; rfl
          · simp only [List.mem_singleton] at hs; subst hs
            rw [Tbl.find_append_none _ hf2]
            simp [Tbl.find, keyEq_refl_simple hse]
        · intro p hp
          rcases List.mem_append.mp hp with hp | hp
          · obtain ⟨s, hs, hk⟩ := iT2.td p hp
            exact ⟨s, List.mem_append_left _ hs, hk⟩
          · simp only [List.mem_singleton] at hp; subst hp
            exact ⟨e, by simp, rfl⟩
        · intro s hs
          rcases List.mem_append.mp hs with hs | hs
          · exact iT2.df s hs
          · simp only [List.mem_singleton] at hs; subst hs; exact hf
        · intro p hp
          rcases List.mem_append.mp hp with hp | hp
          · exact iT2.tw p hp
          · simp only [List.mem_singleton] at hp; subst hp
            exact ⟨r, rfl, hrt⟩
      have hszs : ∀ s ∈ dn2 ++ [e], s.size ≤ e.size := by
        intro s hs
        rcases List.mem_append.mp hs with hs | hs
        · have := hsz s hs; omega
        · simp only [List.mem_singleton] at hs; subst hs; exact Nat.le_refl _
      have hwrs : ∀ p ∈ X2 ++ [(normalizedKey e, Expr.cse r none evalScope)],
          p.2 ∈ c12Wrappers (Expr.cse r none evalScope) := by
        intro p hp
        rw [hWw]
        rcases List.mem_append.mp hp with hp | hp
        · exact List.mem_cons_of_mem _ (hwr p hp)
        · simp only [List.mem_singleton] at hp; subst hp; simp
      by_cases hWC : Expr.cse r none evalScope ∈ C
      · -- the evaluator has computed a structurally equal wrapper already: it does nothing
        have hsW : c12Sched (Expr.cse r none evalScope) C = ([], C) := by
          simp [c12Sched, hWC]
        refine ⟨.cse r none evalScope, X2 ++ [(normalizedKey e, .cse r none evalScope)],
          dn2 ++ [e], by rw [hmap, List.append_assoc], by rw [hplan, List.append_assoc],
          by simpa [Expr.tfrag] using hrt, iT', ?_, hszs, hwrs, ?_, ?_⟩
        · rw [hsW]
          refine ⟨?_, ?_, iC.cc⟩
          · intro p hp
            rcases List.mem_append.mp hp with hp | hp
            · exact iC.tc p hp
            · exact iC.cc _ hWC _ (hwrs p hp)
          · intro w hw
            obtain ⟨p, hp, hpw⟩ := iC.ct w hw
            exact ⟨p, List.mem_append_left _ hp, hpw⟩
        · intro Tf _; simp [hsW]
        · intro Y hY
          exfalso
          obtain ⟨p, hp, hpw⟩ := iC.ct _ hWC
          have : ((T ++ (X2 ++ [(normalizedKey e, Expr.cse r none evalScope)]) ++ Y).map Prod.snd)
              = T.map Prod.snd ++ (X2.map Prod.snd ++
                  (Expr.cse r none evalScope :: Y.map Prod.snd)) := by simp
          rw [this] at hY
          have hd := (List.nodup_append.mp hY).2.2
          exact hd _ (List.mem_map.mpr ⟨p, hp, hpw⟩) _
            (List.mem_append_right _ (List.mem_cons_self ..)) rfl
      · -- the evaluator computes the new wrapper: operands, then the operation
        have hsW : c12Sched (Expr.cse r none evalScope) C =
            (opsK ++ [r], Expr.cse r none evalScope :: C2) := by
          simp [c12Sched, hWC, hsch]
        have hcl := c12Sched_closed r C iC.cc
        rw [hsch] at hcl
        refine ⟨.cse r none evalScope, X2 ++ [(normalizedKey e, .cse r none evalScope)],
          dn2 ++ [e], by rw [hmap, List.append_assoc], by rw [hplan, List.append_assoc],
          by simpa [Expr.tfrag] using hrt, iT', ?_, hszs, hwrs, ?_, ?_⟩
        · rw [hsW]
          refine ⟨?_, ?_, ?_⟩
          · intro p hp
            rw [← List.append_assoc] at hp
            rcases List.mem_append.mp hp with hp | hp
            · exact List.mem_cons_of_mem _ (iC2.tc p hp)
            · simp only [List.mem_singleton] at hp; subst hp; simp
          · intro w hw
            rw [← List.append_assoc]
            rcases List.mem_cons.mp hw with rfl | hw
            · exact ⟨_, List.mem_append_right _ (List.mem_singleton.mpr rfl), rfl⟩
            · obtain ⟨p, hp, hpw⟩ := iC2.ct w hw
              exact ⟨p, List.mem_append_left _ hp, hpw⟩
          · intro w hw w' hw'
            rcases List.mem_cons.mp hw with rfl | hw
            · rw [hWw] at hw'
              rcases List.mem_cons.mp hw' with rfl | hw'
              · simp
              · exact List.mem_cons_of_mem _ (hcl.2.1 w' hw')
            · exact List.mem_cons_of_mem _ (iC2.cc w hw w' hw')
        · intro Tf hle
          rw [← List.append_assoc] at hle
          obtain ⟨hr, hs⟩ := hsub Tf (Tbl.le_trans (Tbl.le_append _ _) hle)
          rw [hsW]
          simp only [List.map_append, List.map_cons, List.map_nil, hr]
          exact List.Sublist.append hs (List.Sublist.refl _)
        · intro Y hY
          rw [hsW]
          have hY' : ((T ++ X2 ++ ([(normalizedKey e, Expr.cse r none evalScope)] ++ Y)).map
              Prod.snd).Nodup := by simpa only [List.append_assoc] using hY
          have e1 := heq _ hY'
          have hr := (hsub (T ++ X2 ++ ([(normalizedKey e, Expr.cse r none evalScope)] ++ Y))
            (Tbl.le_append _ _)).1
          simp only [List.append_assoc] at e1 hr ⊢
          simp only [List.map_append, List.map_cons, List.map_nil, hr, ← e1]
    · -- an operation that occurs once: rebuilt, not wrapped
      have hmode : modeOf elim T e = .plain := by simp [modeOf, hop, hin]
      rw [hmode] at hmap
      simp only [finishOp] at hmap
      refine ⟨r, X2, dn2 ++ [e], hmap, by rw [hplan, List.append_assoc], hrt, ?_, ?_, ?_, hwr,
        ?_, ?_⟩
      · rw [← List.append_assoc]
        refine ⟨?_, ?_, ?_, iT2.tw⟩
        · intro s hs hi
          rcases List.mem_append.mp hs with hs | hs
          · exact iT2.dt s hs hi
          · simp only [List.mem_singleton] at hs; subst hs
            rw [hi] at hin; exact absurd rfl hin
        · intro p hp
          obtain ⟨s, hs, hk⟩ := iT2.td p hp
          exact ⟨s, List.mem_append_left _ hs, hk⟩
        · intro s hs
          rcases List.mem_append.mp hs with hs | hs
          · exact iT2.df s hs
          · simp only [List.mem_singleton] at hs; subst hs; exact hf
      · rw [hsch]; exact iC2
      · intro s hs
        rcases List.mem_append.mp hs with hs | hs
        · have := hsz s hs; omega
        · simp only [List.mem_singleton] at hs; subst hs; exact Nat.le_refl _
      · intro Tf hle
        obtain ⟨hr, hs⟩ := hsub Tf hle
        rw [hsch]
        simp only [List.map_append, List.map_cons, List.map_nil, hr]
        exact List.Sublist.append hs (List.Sublist.refl _)
      · intro Y hY
        rw [hsch]
        have e1 := heq Y hY
        have hr := (hsub (T ++ X2 ++ Y) (Tbl.le_append _ _)).1
        simp only [List.map_append, List.map_cons, List.map_nil, hr, ← e1]

theorem c12Goal_nary {elim : List CKey} (hE : ElimKeys elim) {o : NaryOp} {cs : List Expr}
    (hf : (Expr.nary o cs).frag = true) (hk : C12GoalL elim cs) : C12Goal elim (.nary o cs) := by
  intro T C d hH iT iC
  have hs := frag_simple _ hf
  have hl := simple_nolist _ hs
  have he := hf
  simp only [Expr.frag, Bool.and_eq_true] at he
  have hop := isCseOp_nary he.1 cs
  simp only [c12HitsElim] at hH
  refine c12_node hE hf hop (fun hh => by simpa [hh] using hH) iT iC ?_ ?_ ?_
  · intro w hm
    simp only [cseMap, opMode_eq elim T _ hl, hm]; rfl
  · intro hh; simp [c12Plan, hh]
  · intro hh
    simp only [hh, Bool.false_eq_true, if_false] at hH
    obtain ⟨cs', X2, dn2, m, p, t, iT2, iC2, sz, w, sub, eq⟩ := hk T C d hH iT iC
    obtain ⟨cs'', T', m', _, _, ap⟩ := cseMapL_frag elim cs T he.2
    rw [m] at m'
    injection m' with m'; injection m' with e1 e2; subst e1; subst e2
    refine ⟨.nary o cs', X2, dn2, (c12SchedL cs' C).1, (c12SchedL cs' C).2, ?_, ?_, ?_, rfl, ?_,
      iT2, iC2, ?_, ?_, ?_, eq⟩
    · intro hnh
      simp only [cseMap, opMode_eq elim T _ hl]
      cases hm : modeOf elim T (.nary o cs) with
      | hit w => exact absurd hm (hnh w)
      | _ => simp [bind, Except.bind, m, pure, Except.pure]
    · simp [c12Plan, hh, p]
    · simp [c12Sched]
    · simp [Expr.tfrag, he.1, t]
    · intro s hs'
      have := sz s hs'
      simp only [Expr.size]; omega
    · intro q hq; simpa [c12Wrappers] using w q hq
    · intro Tf hle
      exact ⟨by simp only [c12Rebuild, ap Tf hle], sub Tf hle⟩

theorem c12Goal_bin {elim : List CKey} (hE : ElimKeys elim) {o : BinOp} {a b : Expr}
    (hf : (Expr.bin o a b).frag = true) (ha : C12Goal elim a) (hb : C12Goal elim b) :
    C12Goal elim (.bin o a b) := by
  intro T C d hH iT iC
  have hk : C12GoalL elim [a, b] := c12GoalL_cons ha (c12GoalL_cons hb (c12GoalL_nil elim))
  have hs := frag_simple _ hf
  have hl := simple_nolist _ hs
  have he := hf
  simp only [Expr.frag, Bool.and_eq_true] at he
  have hop := isCseOp_bin he.1.1 a b
  simp only [c12HitsElim] at hH
  refine c12_node hE hf hop (fun hh => by simpa [hh] using hH) iT iC ?_ ?_ ?_
  · intro w hm
    simp only [cseMap, opMode_eq elim T _ hl, hm]; rfl
  · intro hh; simp [c12Plan, hh]
  · intro hh
    simp only [hh, Bool.false_eq_true, if_false] at hH
    have hHk : c12HitsElimL elim [a, b] d = true := by
      simpa [c12HitsElimL] using hH
    obtain ⟨cs', X2, dn2, m, p, t, iT2, iC2, sz, w, sub, eq⟩ := hk T C d hHk iT iC
    obtain ⟨cs'', T', m', _, _, ap⟩ := cseMapL_frag elim [a, b] T (by simp [Expr.fragL, he.1.2, he.2])
    rw [m] at m'
    injection m' with m'; injection m' with e1 e2; subst e1; subst e2
    obtain ⟨a', r1, T1, rfl, ma, m1⟩ := cseMapL_cons_ok m
    obtain ⟨b', r2, T2, rfl, mb, m2⟩ := cseMapL_cons_ok m1
    obtain ⟨rfl, rfl⟩ := cseMapL_nil_ok m2
    refine ⟨.bin o a' b', X2, dn2, (c12SchedL [a', b'] C).1, (c12SchedL [a', b'] C).2, ?_, ?_, ?_,
      rfl, ?_, iT2, iC2, ?_, ?_, ?_, eq⟩
    · intro hnh
      simp only [cseMap, opMode_eq elim T _ hl]
      cases hm : modeOf elim T (.bin o a b) with
      | hit w => exact absurd hm (hnh w)
      | _ => simp [bind, Except.bind, ma, mb, pure, Except.pure]
    · simp only [c12PlanL] at p
      simp only [c12Plan, hh, Bool.false_eq_true, if_false, p]
    · simp [c12Sched, c12SchedL]
    · simpa [Expr.tfrag, Expr.tfragL, he.1.1] using t
    · intro s hs'
      have := sz s hs'
      simp only [Expr.size, Expr.sizeL] at this ⊢; omega
    · intro q hq; simpa [c12Wrappers, c12WrappersL] using w q hq
    · intro Tf hle
      have := ap Tf hle
      simp only [applyTblL, List.cons.injEq, and_true] at this
      exact ⟨by simp only [c12Rebuild, this.1, this.2], sub Tf hle⟩

theorem c12Goal_call {elim : List CKey} (hE : ElimKeys elim) {f : Expr} {as : List Expr}
    (hf : (Expr.call f as).frag = true) (hg : C12Goal elim f) (has : C12GoalL elim as) :
    C12Goal elim (.call f as) := by
  intro T C d hH iT iC
  have hk : C12GoalL elim (f :: as) := c12GoalL_cons hg has
  have hs := frag_simple _ hf
  have hl := simple_nolist _ hs
  have he := hf
  simp only [Expr.frag, Bool.and_eq_true] at he
  have hop : (Expr.call f as).isCseOp = true := rfl
  simp only [c12HitsElim] at hH
  refine c12_node hE hf hop (fun hh => by simpa [hh] using hH) iT iC ?_ ?_ ?_
  · intro w hm
    simp only [cseMap, opMode_eq elim T _ hl, hm]; rfl
  · intro hh; simp [c12Plan, hh]
  · intro hh
    simp only [hh, Bool.false_eq_true, if_false] at hH
    have hHk : c12HitsElimL elim (f :: as) d = true := by
      simpa [c12HitsElimL] using hH
    obtain ⟨cs', X2, dn2, m, p, t, iT2, iC2, sz, w, sub, eq⟩ := hk T C d hHk iT iC
    obtain ⟨cs'', T', m', _, _, ap⟩ := cseMapL_frag elim (f :: as) T (by simp [Expr.fragL, he.1, he.2])
    rw [m] at m'
    injection m' with m'; injection m' with e1 e2; subst e1; subst e2
    obtain ⟨f', as', T1, rfl, mf, m1⟩ := cseMapL_cons_ok m
    refine ⟨.call f' as', X2, dn2, (c12SchedL (f' :: as') C).1, (c12SchedL (f' :: as') C).2,
      ?_, ?_, ?_, rfl, ?_, iT2, iC2, ?_, ?_, ?_, eq⟩
    · intro hnh
      simp only [cseMap, opMode_eq elim T _ hl]
      cases hm : modeOf elim T (.call f as) with
      | hit w => exact absurd hm (hnh w)
      | _ => simp [bind, Except.bind, mf, m1, pure, Except.pure]
    · simp only [c12PlanL] at p
      simp only [c12Plan, hh, Bool.false_eq_true, if_false, p]
    · simp [c12Sched, c12SchedL]
    · simpa [Expr.tfrag, Expr.tfragL] using t
    · intro s hs'
      have := sz s hs'
      simp only [Expr.size, Expr.sizeL] at this ⊢; omega
    · intro q hq; simpa [c12Wrappers, c12WrappersL] using w q hq
    · intro Tf hle
      have := ap Tf hle
      simp only [applyTblL, List.cons.injEq] at this
      exact ⟨by simp only [c12Rebuild, this.1, this.2], sub Tf hle⟩

mutual
theorem c12Goal_all {elim : List CKey} (hE : ElimKeys elim) :
    ∀ (e : Expr), e.frag = true → C12Goal elim e
  | .const (.int n), _ =>
      c12Goal_leaf (fun _ => rfl) (fun _ => by simp [c12Plan]) rfl (fun _ => by simp [c12Sched])
  | .var x, _ =>
      c12Goal_leaf (fun _ => rfl) (fun _ => by simp [c12Plan]) rfl (fun _ => by simp [c12Sched])
  | .nary o cs, h =>
      c12Goal_nary hE h (c12GoalL_all hE cs (by
        simp only [Expr.frag, Bool.and_eq_true] at h; exact h.2))
  | .bin o a b, h =>
      c12Goal_bin hE h
        (c12Goal_all hE a (by simp only [Expr.frag, Bool.and_eq_true] at h; exact h.1.2))
        (c12Goal_all hE b (by simp only [Expr.frag, Bool.and_eq_true] at h; exact h.2))
  | .call f as, h =>
      c12Goal_call hE h
        (c12Goal_all hE f (by simp only [Expr.frag, Bool.and_eq_true] at h; exact h.1))
        (c12GoalL_all hE as (by simp only [Expr.frag, Bool.and_eq_true] at h; exact h.2))
  | .const (.bool _), h | .const (.flt ..), h | .const (.str _), h | .const .none, h
  | .un .., h | .cmp .., h | .ite .., h | .callKw .., h | .subscript .., h
  | .lookup .., h | .cse .., h | .subst .., h | .deriv .., h | .slice _, h
  | .nan, h | .wildcard, h | .dotWild _, h | .starWild _, h | .funcSym, h
  | .tuple _, h | .list _, h => by simp [Expr.frag] at h
theorem c12GoalL_all {elim : List CKey} (hE : ElimKeys elim) :
    ∀ (cs : List Expr), Expr.fragL cs = true → C12GoalL elim cs
  | [], _ => c12GoalL_nil elim
  | c :: cs, h =>
      c12GoalL_cons
        (c12Goal_all hE c (by simp only [Expr.fragL, Bool.and_eq_true] at h; exact h.1))
        (c12GoalL_all hE cs (by simp only [Expr.fragL, Bool.and_eq_true] at h; exact h.2))
end

end PV
