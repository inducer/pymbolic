import PV.Proofs.CoeffTableLit
import PV.Proofs.CoeffSound
/-
  C15, T-gen tie, part 1: the coefficient collector.

  `c15CoeffsT c15ExpTable tg e = coeffs tg e` for every expression: the table interpreter run on the
  handler bodies of `CoefficientCollector` (as read from the source) IS the hand-written `coeffs`.

  The bodies of the literal table are written a second time, in pieces (`expLeafBody`, `expSumBody`,
  `expQuotBody`, `expPowBody` here, `expProdBody`, `expGaussFn`, `expSolveFn`, … in the other parts), so
  that each loop can be named; `exp_h_*` / `exp_fn_*` tie the pieces to `c15ExpTable` by `rfl`.

  The first half is shared by all parts of the tie (this file, CoeffTableProd, CoeffTableGauss,
  CoeffTableSolve): look-up in an environment after assignments and the frame of a block (`Frame`), the
  interpreter's equations constructor by constructor, and the relation `Sim` between what the interpreter
  does and what the model returns, with the rules that follow a block statement by statement and a
  loop iteration by iteration.
-/
namespace PV.Coeff
open PV

/-! ### environments -/

theorem c15Get_set (x y : String) (v : C15Val) :
    ∀ st, c15Get y (c15Set x v st) = if x = y then some v else c15Get y st
  | [] => rfl
  | (z, w) :: rest => by
    by_cases hz : z = x
    · subst hz; by_cases hy : z = y <;> simp [c15Set, c15Get, hy]
    · by_cases hy : z = y
      · subst hy; simp [c15Set, c15Get, hz, Ne.symm hz]
      · simp [c15Set, c15Get, hz, hy, c15Get_set x y v rest]

@[simp] theorem c15Get_set_eq (x : String) (v : C15Val) (st : C15Env) :
    c15Get x (c15Set x v st) = some v := by
  rw [c15Get_set, if_pos rfl]

theorem c15Get_set_ne {x y : String} (v : C15Val) (h : x ≠ y) (st : C15Env) :
    c15Get y (c15Set x v st) = c15Get y st := by
  rw [c15Get_set, if_neg h]

/-- `st'` agrees with `st` on every variable outside `xs` -/
def Frame (xs : List String) (st st' : C15Env) : Prop := ∀ x, x ∉ xs → c15Get x st' = c15Get x st

theorem Frame.refl (xs : List String) (st : C15Env) : Frame xs st st := fun _ _ => rfl

theorem Frame.set {xs : List String} {st st' : C15Env} (h : Frame xs st st') {x : String} (v : C15Val)
    (hx : x ∈ xs) : Frame xs st (c15Set x v st') := fun y hy => by
  rw [c15Get_set, if_neg (fun e : x = y => hy (e ▸ hx)), h y hy]

theorem Frame.trans {xs : List String} {a b c : C15Env} (h1 : Frame xs a b) (h2 : Frame xs b c) :
    Frame xs a c := fun x hx => (h2 x hx).trans (h1 x hx)

theorem Frame.mono {xs ys : List String} {a b : C15Env} (h : Frame xs a b) (hs : xs ⊆ ys) :
    Frame ys a b := fun x hx => h x fun hm => hx (hs hm)

/-- the step function of a `for` statement -/
def forStep (ctx : C15Ctx) (p : C15Pat) (body : List C15S) : C15Val → C15Env → C15Out :=
  fun item st' => match c15Bind p item st' with
    | some st'' => C15S.execL ctx body st''
    | Option.none => .err .stuck

/-- one step of `{k: v for p in …}`, `[e for p in …]`, `[e for p in … if c]` -/
def dictCompStep (ctx : C15Ctx) (k v : C15E) (p : C15Pat) (st : C15Env) : Dict → C15Val → C15R Dict :=
  fun acc item => match c15Bind p item st with
    | none => throw C15Err.stuck
    | some st' => do
      let kv ← k.eval ctx st'
      let vv ← v.eval ctx st'
      match kv.toExpr?, vv.toExpr? with
      | some ke, some ve => pure (c15DictSet acc ke ve)
      | _, _ => throw C15Err.stuck

def listCompStep (ctx : C15Ctx) (e : C15E) (p : C15Pat) (st : C15Env) : C15Val → C15R C15Val :=
  fun item => match c15Bind p item st with
    | none => throw C15Err.stuck
    | some st' => e.eval ctx st'

def listCompIfStep (ctx : C15Ctx) (e : C15E) (p : C15Pat) (c : C15E) (st : C15Env) :
    List C15Val → C15Val → C15R (List C15Val) :=
  fun acc item => match c15Bind p item st with
    | none => throw C15Err.stuck
    | some st' => do
      if (← c15Truthy (← c.eval ctx st')) then pure (acc ++ [← e.eval ctx st']) else pure acc

/-! ### the interpreter's equations

`simp` unfolds the interpreter on a constructor (the attribute); the equations that proofs rewrite with
by name are stated below.  Priority `low`: a hypothesis about an evaluation, given to `simp`, is tried
before the expression is unfolded. -/

attribute [simp low] C15E.eval C15E.evalL C15S.exec C15S.execL

section equations
variable (ctx : C15Ctx) (st : C15Env)

@[simp low] theorem eval_lit (n : Int) : (C15E.lit n).eval ctx st = .ok (.int n) := rfl
@[simp low] theorem eval_var_get (x : String) : (C15E.var x).eval ctx st =
    match c15Get x st with | some v => .ok v | none => .error .stuck := rfl
@[simp low] theorem eval_bin (op : C15BinOp) (a b : C15E) : (C15E.bin op a b).eval ctx st = (do
    let x ← a.eval ctx st
    let y ← b.eval ctx st
    c15Bin st op x y) := rfl
@[simp low] theorem eval_cmp (op : C15CmpOp) (a b : C15E) : (C15E.cmp op a b).eval ctx st = (do
    let x ← a.eval ctx st
    let y ← b.eval ctx st
    pure (.bool (← c15Cmp op x y))) := rfl
@[simp low] theorem eval_and (a b : C15E) : (C15E.and_ a b).eval ctx st = (do
    let x ← a.eval ctx st
    if (← c15Truthy x) then b.eval ctx st else pure x) := rfl
@[simp low] theorem eval_not (a : C15E) : (C15E.not_ a).eval ctx st = (do
    let x ← a.eval ctx st
    pure (.bool (!(← c15Truthy x)))) := rfl
@[simp low] theorem eval_index (a i : C15E) : (C15E.index a i).eval ctx st = (do
    let av ← a.eval ctx st
    let iv ← i.eval ctx st
    match av with
    | .arr _ rows => match a, iv with
      | .var x, .int n =>
        if n < 0 then throw .stuck
        else if n.toNat < rows.length then pure (.rowRef x n.toNat) else throw .indexError
      | _, _ => throw .stuck
    | .dict d => match iv.toExpr? with
      | some k => match d.find k with
        | some c => pure (.ex c)
        | none => throw (.py .keyError)
      | none => throw .stuck
    | .list l => match iv with
      | .int n => if n < 0 then throw .stuck else match l[n.toNat]? with
        | some v => pure v
        | none => throw .indexError
      | _ => throw .stuck
    | _ => throw .stuck) := rfl
@[simp low] theorem eval_call (fn : String) (args : List C15E) : (C15E.call fn args).eval ctx st =
    (do c15Builtin ctx st fn (← C15E.evalL ctx args st)) := rfl
@[simp low] theorem eval_callStar (fn : String) (arg : C15E) : (C15E.callStar fn arg).eval ctx st = (do
    match (← arg.eval ctx st) with
    | .list l => c15Builtin ctx st fn l
    | _ => throw .stuck) := rfl
@[simp low] theorem evalL_nil : C15E.evalL ctx [] st = .ok [] := rfl
@[simp low] theorem evalL_cons (e : C15E) (es : List C15E) : C15E.evalL ctx (e :: es) st = (do
    let v ← e.eval ctx st
    let vs ← C15E.evalL ctx es st
    pure (v :: vs)) := rfl

@[simp low] theorem eval_callVar (f : String) (args : List C15E) : (C15E.callVar f args).eval ctx st =
    match c15Get f st with
    | some fv => do c15CallObj ctx fv (← C15E.evalL ctx args st)
    | none => .error .stuck := rfl
@[simp low] theorem eval_listLit (es : List C15E) : (C15E.listLit es).eval ctx st =
    (do pure (.list (← C15E.evalL ctx es st))) := rfl
@[simp low] theorem eval_tuple2 (a b : C15E) : (C15E.tuple2 a b).eval ctx st = (do
    let x ← a.eval ctx st
    let y ← b.eval ctx st
    pure (.pair x y)) := rfl
@[simp low] theorem eval_meth (a : C15E) (m : String) : (C15E.meth a m).eval ctx st = (do
    let av ← a.eval ctx st
    match m, av with
    | "copy", v => match c15Deref st v with
      | some r => pure (.row r)
      | none => throw .stuck
    | "items", .dict d => pure (.list (d.map fun kc => .pair (.ex kc.1) (.ex kc.2)))
    | "keys", .dict d => pure (.list (d.map fun kc => .ex kc.1))
    | _, _ => throw .stuck) := rfl
@[simp low] theorem eval_dictComp (k v : C15E) (p : C15Pat) (iter : C15E) :
    (C15E.dictComp k v p iter).eval ctx st = (do
      let it ← iter.eval ctx st
      match c15Items st it with
      | none => throw .stuck
      | some items => do pure (.dict (← items.foldlM (dictCompStep ctx k v p st) []))) := rfl
@[simp low] theorem eval_listComp (e : C15E) (p : C15Pat) (iter : C15E) :
    (C15E.listComp e p iter).eval ctx st = (do
      let it ← iter.eval ctx st
      match c15Items st it with
      | none => throw .stuck
      | some items => do pure (.list (← items.mapM (listCompStep ctx e p st)))) := rfl
@[simp low] theorem eval_listCompIf (e : C15E) (p : C15Pat) (iter c : C15E) :
    (C15E.listCompIf e p iter c).eval ctx st = (do
      let it ← iter.eval ctx st
      match c15Items st it with
      | none => throw .stuck
      | some items => do pure (.list (← items.foldlM (listCompIfStep ctx e p c st) []))) := rfl

@[simp low] theorem exec_assign (p : C15Pat) (e : C15E) : C15S.exec ctx (.assign p e) st =
    match e.eval ctx st with
    | .error err => .err err
    | .ok v => match c15Bind p v st with
      | some st' => .ok st'
      | none => .err .stuck := rfl
@[simp low] theorem exec_unpack1 (x : String) (e : C15E) : C15S.exec ctx (.unpack1 x e) st =
    match e.eval ctx st with
    | .error err => .err err
    | .ok (.list [v]) => .ok (c15Set x v st)
    | .ok (.list _) => .err .valueError
    | .ok _ => .err .stuck := rfl
@[simp low] theorem exec_aug (x : String) (op : C15BinOp) (e : C15E) : C15S.exec ctx (.aug x op e) st =
    c15OfR (match c15Get x st with
      | none => throw .stuck
      | some cur => do
        let v ← e.eval ctx st
        let r ← c15Bin st op cur v
        pure (c15Set x r st)) := rfl
@[simp low] theorem exec_forIn (p : C15Pat) (iter : C15E) (body : List C15S) :
    C15S.exec ctx (.forIn p iter body) st =
      match iter.eval ctx st with
      | .error err => .err err
      | .ok it => match c15Items st it with
        | none => .err .stuck
        | some items => c15For (forStep ctx p body) items st := rfl
@[simp low] theorem exec_while (c : C15E) (body : List C15S) : C15S.exec ctx (.while_ c body) st =
    c15While (c15Cond ctx c) (fun st' => C15S.execL ctx body st') ctx.wfuel st := rfl
@[simp low] theorem exec_ifThen (c : C15E) (a b : List C15S) : C15S.exec ctx (.ifThen c a b) st =
    match c15Cond ctx c st with
    | .error err => .err err
    | .ok true => C15S.execL ctx a st
    | .ok false => C15S.execL ctx b st := rfl
@[simp low] theorem exec_assert (c : C15E) : C15S.exec ctx (.assert_ c) st =
    match c15Cond ctx c st with
    | .error err => .err err
    | .ok true => .ok st
    | .ok false => .err (.py .assertion) := rfl
@[simp low] theorem exec_ret (e : C15E) : C15S.exec ctx (.ret e) st =
    match e.eval ctx st with | .error err => .err err | .ok v => .ret v := rfl

@[simp low] theorem exec_augSub2 (x : String) (i j : C15E) (op : C15BinOp) (v : C15E) :
    C15S.exec ctx (.augSub2 x i j op v) st = c15OfR (do
      let iv ← i.eval ctx st
      let jv ← j.eval ctx st
      match c15Get x st, iv.toInt?, jv.toInt? with
      | some (.arr cols rows), some n, some k =>
        if n < 0 then throw .stuck else
        match rows[n.toNat]?, c15ColIdx? cols k with
        | some r, some c =>
          let vv ← v.eval ctx st
          match vv.toInt? with
          | none => throw (.py .noClaim)
          | some w =>
            let e ← c15IntOp op (rowGet r c) w
            pure (c15Set x (.arr cols (rows.set n.toNat (r.set c e))) st)
        | _, _ => throw .indexError
      | _, _, _ => throw .stuck) := rfl
@[simp low] theorem execL_nil : C15S.execL ctx [] st = .ok st := rfl
@[simp low] theorem execL_cons (s : C15S) (rest : List C15S) : C15S.execL ctx (s :: rest) st =
    match C15S.exec ctx s st with
    | .ok st' => C15S.execL ctx rest st'
    | o => o := rfl

end equations

theorem execL_append (ctx : C15Ctx) : ∀ (pre post : List C15S) (st : C15Env),
    C15S.execL ctx (pre ++ post) st = match C15S.execL ctx pre st with
      | .ok st' => C15S.execL ctx post st'
      | o => o
  | [], post, st => rfl
  | s :: pre, post, st => by
    simp only [List.cons_append, execL_cons]
    cases C15S.exec ctx s st <;> simp only [execL_append ctx pre post]

/-! ### the interpreter against the model

The model's functions return `CR β`; the interpreter returns an outcome.  `SimO r o Q`: the outcome is
the model's exception, or `Q` relates it to the model's value; `Sim r o Q`: in the second case control
falls through with a new state that `Q` relates to the value.  A block or a loop is matched statement
by statement with `Sim.seq` / `Sim.iter`, which follow the model's `>>=`. -/

def SimO {β : Type} (r : CR β) (o : C15Out) (Q : β → C15Out → Prop) : Prop :=
  match r with
  | .ok b => Q b o
  | .error e => o = .err (.py e)

def Sim {β : Type} (r : CR β) (o : C15Out) (Q : β → C15Env → Prop) : Prop :=
  SimO r o fun b o => ∃ st', o = .ok st' ∧ Q b st'

theorem Sim.mono {β : Type} {r : CR β} {o : C15Out} {Q Q' : β → C15Env → Prop} (h : Sim r o Q)
    (hq : ∀ b st, Q b st → Q' b st) : Sim r o Q' := by
  cases r with
  | error e => exact h
  | ok b => obtain ⟨st', h1, h2⟩ := h; exact ⟨st', h1, hq b st' h2⟩

theorem Sim.map {β γ : Type} {r : CR β} {o : C15Out} {Q : β → C15Env → Prop} (f : β → γ)
    {R : γ → C15Env → Prop} (h : Sim r o Q) (hq : ∀ b st, Q b st → R (f b) st) :
    Sim (r >>= fun b => pure (f b)) o R := by
  cases r with
  | error e => exact h
  | ok b => obtain ⟨st', h1, h2⟩ := h; exact ⟨st', h1, hq b st' h2⟩

theorem Sim.with_eq {β : Type} {r : CR β} {o : C15Out} {Q : β → C15Env → Prop} (h : Sim r o Q) :
    Sim r o fun b st => r = .ok b ∧ Q b st := by
  cases r with
  | error e => exact h
  | ok b => obtain ⟨st', h1, h2⟩ := h; exact ⟨st', h1, rfl, h2⟩

/-- what falls through a statement or a block passes to the rest of the block -/
theorem Sim.bind {β γ : Type} {r : CR β} {g : β → CR γ} {o : C15Out} {k : C15Env → C15Out}
    {Q : β → C15Env → Prop} {R : γ → C15Out → Prop} (h : Sim r o Q)
    (hk : ∀ b st', Q b st' → SimO (g b) (k st') R) :
    SimO (r >>= g) (match (generalizing := false) o with | .ok st' => k st' | o => o) R := by
  cases r with
  | error e => rw [show o = .err (.py e) from h]; rfl
  | ok b => obtain ⟨st', h1, h2⟩ := h; rw [h1]; exact hk b st' h2

theorem Sim.seq {β γ : Type} {r : CR β} {g : β → CR γ} {ctx : C15Ctx} {s : C15S} {rest : List C15S}
    {st : C15Env} {Q : β → C15Env → Prop} {R : γ → C15Out → Prop} (h : Sim r (C15S.exec ctx s st) Q)
    (hk : ∀ b st', Q b st' → SimO (g b) (C15S.execL ctx rest st') R) :
    SimO (r >>= g) (C15S.execL ctx (s :: rest) st) R := by
  rw [execL_cons]; exact h.bind hk

/-- a block that matches `r`, then the rest of the body -/
theorem Sim.seqL {β γ : Type} {r : CR β} {g : β → CR γ} {ctx : C15Ctx} {pre post : List C15S}
    {st : C15Env} {Q : β → C15Env → Prop} {R : γ → C15Out → Prop} (h : Sim r (C15S.execL ctx pre st) Q)
    (hk : ∀ b st', Q b st' → SimO (g b) (C15S.execL ctx post st') R) :
    SimO (r >>= g) (C15S.execL ctx (pre ++ post) st) R := by
  rw [execL_append]; exact h.bind hk

/-- one iteration of a `for` loop, then the remaining ones -/
theorem Sim.iter {β γ : Type} {r : CR β} {g : β → CR γ} {step : C15Val → C15Env → C15Out}
    {item : C15Val} {items : List C15Val} {st : C15Env} {Q : β → C15Env → Prop}
    {R : γ → C15Out → Prop} (h : Sim r (step item st) Q)
    (hk : ∀ b st', Q b st' → SimO (g b) (c15For step items st') R) :
    SimO (r >>= g) (c15For step (item :: items) st) R := by
  cases r with
  | error e => simp only [c15For, show step item st = .err (.py e) from h]; rfl
  | ok b => obtain ⟨st', h1, h2⟩ := h; simp only [c15For, h1]; exact hk b st' h2

theorem Sim.last {β : Type} {r : CR β} {step : C15Val → C15Env → C15Out} {item : C15Val}
    {st : C15Env} {Q : β → C15Env → Prop} (h : Sim r (step item st) Q) :
    Sim r (c15For step [item] st) Q := by
  cases r with
  | error e => simp only [c15For, show step item st = .err (.py e) from h]; rfl
  | ok b => obtain ⟨st', h1, h2⟩ := h; exact ⟨st', by simp only [c15For, h1], h2⟩

theorem SimO.model_eq {β : Type} {r r' : CR β} {o : C15Out} {Q : β → C15Out → Prop} (h : SimO r o Q)
    (e : r' = r) : SimO r' o Q := e ▸ h

/-- a body that returns what the model computes -/
theorem SimO.result {β : Type} {r : CR β} {o : C15Out} {f : β → C15Val}
    (h : SimO r o fun b o => o = .ret (f b)) : c15Result o = (c15LiftCR r).map f := by
  cases r with
  | error e => rw [show o = .err (.py e) from h]; rfl
  | ok b => rw [show o = .ret (f b) from h]; rfl

/-! ### statements with a known operand -/

theorem execL_cons_ok (ctx : C15Ctx) (s : C15S) (rest : List C15S) (st st' : C15Env)
    (h : C15S.exec ctx s st = .ok st') : C15S.execL ctx (s :: rest) st = C15S.execL ctx rest st' := by
  simp only [execL_cons, h]

theorem execL_single (ctx : C15Ctx) (s : C15S) (st : C15Env) :
    C15S.execL ctx [s] st = C15S.exec ctx s st := by
  rw [execL_cons]
  cases C15S.exec ctx s st <;> rfl

theorem exec_assign_name (ctx : C15Ctx) (x : String) (e : C15E) (st : C15Env) :
    C15S.exec ctx (.assign (.name x) e) st = match e.eval ctx st with
      | .error err => .err err
      | .ok v => .ok (c15Set x v st) := by
  rw [exec_assign]
  cases e.eval ctx st <;> rfl

/-- `x = e` where `e` has the value `v`, then the rest of the block -/
theorem execL_assign (ctx : C15Ctx) (x : String) (e : C15E) (rest : List C15S) (st : C15Env) (v : C15Val)
    (h : e.eval ctx st = .ok v) :
    C15S.execL ctx (.assign (.name x) e :: rest) st = C15S.execL ctx rest (c15Set x v st) :=
  execL_cons_ok ctx _ _ _ _ (by rw [exec_assign_name, h])

/-- `if c: raise …` where the test has the value `b`, then the rest of the block -/
theorem execL_guard (ctx : C15Ctx) (c : C15E) (exc msg : String) (rest : List C15S) (st : C15Env)
    (b : Bool) (h : c15Cond ctx c st = .ok b) :
    C15S.execL ctx (.ifThen c [.raise_ exc msg] [] :: rest) st =
      if b then .err (c15ErrOf exc msg) else C15S.execL ctx rest st := by
  rw [execL_cons, exec_ifThen, h]
  cases b <;> simp [C15S.exec]

theorem eval_var (ctx : C15Ctx) (x : String) (st : C15Env) (v : C15Val) (h : c15Get x st = some v) :
    (C15E.var x).eval ctx st = .ok v := by simp [h, pure, Except.pure]

theorem eval_enumerate (ctx : C15Ctx) (st : C15Env) (x : String) (l : List C15Val)
    (h : c15Get x st = some (.list l)) :
    (C15E.call "enumerate" [.var x]).eval ctx st = .ok (.list (c15Enum 0 l)) := by
  simp [h, bind, Except.bind, pure, Except.pure, c15Builtin, c15Items]

/-- the items `D.items()` yields -/
def itemsOf (d : Dict) : List C15Val := d.map fun kc => .pair (.ex kc.1) (.ex kc.2)

/-- `for p in X:` over a list bound to `X` -/
theorem exec_forIn_list (ctx : C15Ctx) (p : C15Pat) (x : String) (body : List C15S) (st : C15Env)
    (l : List C15Val) (h : c15Get x st = some (.list l)) :
    C15S.exec ctx (.forIn p (.var x) body) st = c15For (forStep ctx p body) l st := by
  rw [exec_forIn, eval_var ctx x st _ h]; rfl

/-- `for p in enumerate(X):` -/
theorem exec_forIn_enum (ctx : C15Ctx) (p : C15Pat) (x : String) (body : List C15S) (st : C15Env)
    (l : List C15Val) (h : c15Get x st = some (.list l)) :
    C15S.exec ctx (.forIn p (.call "enumerate" [.var x]) body) st =
      c15For (forStep ctx p body) (c15Enum 0 l) st := by
  rw [exec_forIn, eval_enumerate ctx st x l h]; rfl

/-- `for p in D.items():` -/
theorem exec_forIn_items (ctx : C15Ctx) (p : C15Pat) (x : String) (body : List C15S) (st : C15Env)
    (d : Dict) (h : c15Get x st = some (.dict d)) :
    C15S.exec ctx (.forIn p (.meth (.var x) "items") body) st =
      c15For (forStep ctx p body) (itemsOf d) st := by
  rw [exec_forIn]
  simp [h, bind, Except.bind, pure, Except.pure, c15Items, itemsOf]

/-- `x = self.rec(expr.f)` -/
theorem assign_recField (ctx : C15Ctx) (x f : String) (r : Unit → CR Dict) (st : C15Env)
    (h : c15Assoc f ctx.recField = some r) :
    Sim (r ()) (C15S.exec ctx (.assign (.name x) (.recField f)) st)
      fun d st' => st' = c15Set x (.dict d) st := by
  simp only [exec_assign_name, C15E.eval, h, bind, Except.bind]
  cases r () with
  | error e => rfl
  | ok d => exact ⟨_, rfl, rfl⟩

/-- `x = [self.rec(c) for c in expr.f]` -/
theorem assign_recList (ctx : C15Ctx) (x f : String) (rs : List (Unit → CR Dict)) (st : C15Env)
    (h : c15Assoc f ctx.recList = some rs) :
    Sim (rs.mapM fun r => r ()) (C15S.exec ctx (.assign (.name x) (.recList f)) st)
      fun ds st' => st' = c15Set x (.list (ds.map .dict)) st := by
  simp only [exec_assign_name, C15E.eval, h, bind, Except.bind]
  cases rs.mapM fun r => r () with
  | error e => rfl
  | ok ds => exact ⟨_, rfl, rfl⟩

/-! ### table look-ups of the literal -/

theorem exp_handler_leaf : c15ExpTable.handlerFn "map_algebraic_leaf" = some
    { name := "map_algebraic_leaf", definedIn := "CoefficientCollector.map_algebraic_leaf",
      params := [], vararg := "",
      body := [
        .ifThen (.or_ (.is_ (.selfAttr "target_names") .pyNone)
            (.in_ (.getattrOr "name" .pyNone) (.selfAttr "target_names")))
          [.ret (.mkDict .node (.lit 1))] [.ret (.mkDict (.lit 1) .node)]] } := by rfl

theorem exp_handler_const : c15ExpTable.handlerFn "map_constant" = some
    { name := "map_constant", definedIn := "CoefficientCollector.map_constant", params := [],
      vararg := "", body := [.ret (.mkDict (.lit 1) .node)] } := by rfl

/-! ### arithmetic on stored coefficients -/

theorem c15Bin_ex_ex (st : C15Env) (op : C15BinOp) (a b : Expr) :
    c15Bin st op (.ex a) (.ex b) = (c15LiftCR (pyBin op.py a b)).map .ex := by
  simp only [c15Bin, c15Deref, C15Val.toExpr?]
  cases pyBin op.py a b <;> rfl

theorem c15ScalarOp_ex_ex (st : C15Env) (op : C15BinOp) (a b : Expr) :
    c15ScalarOp st op (.ex a) (.ex b) = c15LiftCR (pyBin op.py a b) := by
  simp only [c15ScalarOp, c15Bin_ex_ex]
  cases pyBin op.py a b <;> rfl

/-! ### `map_algebraic_leaf`, `map_constant` -/

def expLeafBody : List C15S := [
  .ifThen (.or_ (.is_ (.selfAttr "target_names") .pyNone)
      (.in_ (.getattrOr "name" .pyNone) (.selfAttr "target_names")))
    [.ret (.mkDict .node (.lit 1))] [.ret (.mkDict (.lit 1) .node)]]

theorem names_has (names : List String) (n : String) :
    c15ListHas (names.map C15Val.str) (.str n) = names.contains n := by
  unfold c15ListHas
  induction names with
  | nil => rfl
  | cons a as ih =>
    have h : (c15ValEq (.str a) (.str n)).getD false = (a == n) := rfl
    simp only [List.map_cons, List.any_cons, ih, h, List.contains_cons]
    rw [BEq.comm]

theorem names_has_none (names : List String) :
    c15ListHas (names.map C15Val.str) .none = false := by
  unfold c15ListHas
  induction names with
  | nil => rfl
  | cons a as ih =>
    have h : (c15ValEq (.str a) .none).getD false = false := rfl
    simp only [List.map_cons, List.any_cons, ih, h, Bool.or_self]

/-- the result of a handler as the model states it -/
def dictRes (r : CR Dict) : C15R C15Val := (c15LiftCR r).map .dict

/-- the target test of `map_algebraic_leaf` on the value `nm` of `getattr(expr, "name", None)` -/
def tgTest (tg : Option (List String)) (nm : Option String) : Bool :=
  match tg with
  | none => true
  | some names => match nm with
    | some n => names.contains n
    | none => false

/-- the test `target_names is None or getattr(expr, "name", None) in target_names` -/
theorem leaf_test (ctx : C15Ctx) (tg : Option (List String)) (nm : Option String)
    (hself : ctx.selfAttrs = [("target_names", c15Targets tg)])
    (hname : c15Getattr ctx "name" = some nm) :
    c15Cond ctx (.or_ (.is_ (.selfAttr "target_names") .pyNone)
      (.in_ (.getattrOr "name" .pyNone) (.selfAttr "target_names"))) [] = .ok (tgTest tg nm) := by
  cases tg with
  | none => simp [c15Cond, hself, c15Assoc, c15Targets, c15Is, c15Truthy, tgTest, bind,
      Except.bind, pure, Except.pure]
  | some names =>
    cases nm with
    | some n => simp [c15Cond, hself, hname, c15Assoc, c15Targets, c15Is, c15Truthy, c15In,
        names_has, tgTest, bind, Except.bind, pure, Except.pure]
    | none => simp [c15Cond, hself, hname, c15Assoc, c15Targets, c15Is, c15Truthy, c15In,
        names_has_none, tgTest, bind, Except.bind, pure, Except.pure]

theorem run_leaf (ctx : C15Ctx) (tg : Option (List String)) (e : Expr) (nm : Option String)
    (hnode : ctx.node = some e) (hself : ctx.selfAttrs = [("target_names", c15Targets tg)])
    (hname : c15Getattr ctx "name" = some nm) (htg : isTarget tg e = tgTest tg nm) :
    c15Result (C15S.execL ctx expLeafBody []) = dictRes (leafR tg e) := by
  simp only [expLeafBody, execL_single, exec_ifThen, leaf_test ctx tg nm hself hname, ← htg, leafR,
    leafDict]
  cases isTarget tg e <;> cases hl : e.hasList <;>
    simp [hnode, C15Val.toExpr?, hl, one, Expr.hasList, c15Result, dictRes,
      c15LiftCR, Except.map, bind, Except.bind, pure, Except.pure, throw, throwThe, MonadExceptOf.throw]

theorem run_const (ctx : C15Ctx) (e : Expr) (hnode : ctx.node = some e) :
    c15Result (C15S.execL ctx [.ret (.mkDict (.lit 1) .node)] []) = .ok (.dict [(one, e)]) := by
  simp [c15Result, C15Val.toExpr?, pure, Except.pure, bind,
    Except.bind, hnode, one, Expr.hasList]

/-! ### `map_sum` -/

def expSumInner : List C15S := [
  .ifThen (.in_ (.var "var") (.var "result"))
    [.augSub "result" (.var "var") .add (.var "stride")]
    [.setSubs ["result"] [.var "var"] [.var "stride"]]]

def expSumOuter : List C15S := [
  .forIn (.tup2 (.name "var") (.name "stride")) (.meth (.var "stride_dict") "items") expSumInner]

def expSumBody : List C15S := [
  .assign (.name "stride_dicts") (.recList "children"),
  .assign (.name "result") .emptyDict,
  .forIn (.name "stride_dict") (.var "stride_dicts") expSumOuter,
  .ret (.var "result")]

theorem addTo_found (c : Expr) : ∀ (d : Dict) (k : Expr), (d.find k).isSome = true →
    c15DictAug d k (fun c' => (c15LiftCR (pyBin .add c' c))) = c15LiftCR (Dict.addTo d k c)
  | [], k, h => by simp [Dict.find] at h
  | (k', c') :: rest, k, h => by
    by_cases hk : k'.pyEq k = true
    · simp only [c15DictAug, Dict.addTo, hk, if_true]
      cases pyBin .add c' c <;> rfl
    · simp only [Dict.find, hk] at h
      simp only [c15DictAug, Dict.addTo, hk]
      have ih := addTo_found c rest k h
      simp only [Bool.false_eq_true, if_false, ih]
      cases Dict.addTo rest k c <;> rfl

theorem addTo_absent (c : Expr) : ∀ (d : Dict) (k : Expr), d.find k = none →
    Dict.addTo d k c = .ok (c15DictSet d k c)
  | [], k, _ => rfl
  | (k', c') :: rest, k, h => by
    by_cases hk : k'.pyEq k = true
    · simp [Dict.find, hk] at h
    · simp only [Dict.find, hk] at h
      have ih := addTo_absent c rest k h
      simp [Dict.addTo, c15DictSet, hk, ih, bind, Except.bind, pure, Except.pure]

/-- `if var in result: result[var] += stride  else: result[var] = stride` is `Dict.addTo` -/
theorem sum_inner_step (ctx : C15Ctx) (st : C15Env) (r : Dict) (k c : Expr)
    (hr : c15Get "result" st = some (.dict r)) (hk : c15Get "var" st = some (.ex k))
    (hc : c15Get "stride" st = some (.ex c)) :
    Sim (Dict.addTo r k c) (C15S.execL ctx expSumInner st)
      fun r' st' => st' = c15Set "result" (.dict r') st := by
  cases hf : r.find k with
  | none =>
    rw [addTo_absent c r k hf]
    simp [Sim, SimO, expSumInner, c15Cond, c15Truthy, c15In, hr,
      hk, hc, C15Val.toExpr?, hf, pure, Except.pure, bind, Except.bind, c15OfR, c15StoreSubs]
  | some v =>
    have := addTo_found c r k (by simp [hf])
    simp [Sim, SimO, expSumInner, c15Cond, c15Truthy, c15In, hr,
      hk, hc, C15Val.toExpr?, hf, pure, Except.pure, bind, Except.bind, c15OfR, c15ScalarOp_ex_ex,
      C15BinOp.py, this]
    cases Dict.addTo r k c <;> simp [c15LiftCR]

theorem sum_inner_loop (ctx : C15Ctx) : ∀ (d : Dict) (st : C15Env) (r : Dict),
    c15Get "result" st = some (.dict r) →
    Sim (mergeInto r d)
      (c15For (forStep ctx (.tup2 (.name "var") (.name "stride")) expSumInner) (itemsOf d) st)
      fun r' st' => c15Get "result" st' = some (.dict r')
  | [], st, r, hr => ⟨st, rfl, hr⟩
  | (k, c) :: rest, st, r, hr => by
    refine Sim.iter (sum_inner_step ctx _ r k c (by simp [c15Get_set, hr]) (by simp [c15Get_set])
      (by simp)) ?_
    rintro r1 _ rfl
    exact sum_inner_loop ctx rest _ r1 (c15Get_set_eq _ _ _)

theorem sum_outer_loop (ctx : C15Ctx) : ∀ (ds : List Dict) (st : C15Env) (r : Dict),
    c15Get "result" st = some (.dict r) →
    Sim (sumDicts r ds) (c15For (forStep ctx (.name "stride_dict") expSumOuter) (ds.map .dict) st)
      fun r' st' => c15Get "result" st' = some (.dict r')
  | [], st, r, hr => ⟨st, rfl, hr⟩
  | d :: rest, st, r, hr => by
    have hstep : Sim (mergeInto r d) (forStep ctx (.name "stride_dict") expSumOuter (.dict d) st)
        fun r' st' => c15Get "result" st' = some (.dict r') := by
      simp only [forStep, c15Bind, expSumOuter, execL_single,
        exec_forIn_items ctx _ "stride_dict" _ _ d (c15Get_set_eq _ _ _)]
      exact sum_inner_loop ctx d _ r (by simp [c15Get_set, hr])
    exact Sim.iter hstep fun r1 st1 h1 => sum_outer_loop ctx rest st1 r1 h1

theorem run_sum (ctx : C15Ctx) (rs : List (Unit → CR Dict))
    (hrec : ctx.recList = [("children", rs)]) :
    c15Result (C15S.execL ctx expSumBody []) =
      dictRes (do let ds ← rs.mapM (fun r => r ()); sumDicts [] ds) := by
  refine SimO.result (Sim.seq (assign_recList ctx _ "children" rs [] (by rw [hrec]; rfl)) ?_)
  rintro ds _ rfl
  rw [execL_assign ctx "result" .emptyDict _ _ (.dict []) rfl, ← bind_pure (sumDicts [] ds)]
  refine Sim.seq (by
    rw [exec_forIn_list ctx _ "stride_dicts" _ _ (ds.map .dict) (by simp [c15Get_set])]
    exact sum_outer_loop ctx ds _ [] (c15Get_set_eq _ _ _)) ?_
  rintro r st' hr
  simp [SimO, hr, pure, Except.pure]

/-! ### `map_quotient`, `map_power` -/

/-- `len(D) > 1 or 1 not in D` -/
def expNotConst (x : String) : C15E :=
  .or_ (.cmp .gt (.call "len" [.var x]) (.lit 1)) (.notIn (.lit 1) (.var x))

theorem guard_const (ctx : C15Ctx) (st : C15Env) (x : String) (d : Dict)
    (h : c15Get x st = some (.dict d)) :
    c15Cond ctx (expNotConst x) st = .ok (constOnly d).isNone := by
  have hlen : decide ((d.length : Int) > 1) = decide (d.length > 1) := by
    by_cases hl : d.length > 1
    · have : (d.length : Int) > 1 := by omega
      simp [hl, this]
    · have : ¬ (d.length : Int) > 1 := by omega
      simp [hl, this]
  simp only [c15Cond, expNotConst, C15E.eval, evalL_cons,
    evalL_nil, h, bind, Except.bind, pure, Except.pure, c15Builtin, c15Cmp, hlen, c15Truthy, constOnly, c15In,
    C15Val.toExpr?]
  by_cases hl : d.length > 1
  · simp [hl]
  · simp [hl, one]

/-- `if len(D) > 1 or 1 not in D: raise RuntimeError("nonlinear expression")`, then the rest -/
theorem execL_nonlinear (ctx : C15Ctx) (st : C15Env) (x : String) (d : Dict) (rest : List C15S)
    (h : c15Get x st = some (.dict d)) :
    C15S.execL ctx (.ifThen (expNotConst x) [.raise_ "RuntimeError" "nonlinear expression"] [] :: rest) st =
      match constOnly d with
      | none => .err (.py .nonlinear)
      | some _ => C15S.execL ctx rest st := by
  rw [execL_guard ctx _ _ _ _ _ _ (guard_const ctx st x d h)]
  cases constOnly d <;> rfl

def expQuotBody : List C15S := [
  .importName "pymbolic.primitives" "Quotient" "Quotient",
  .assign (.name "d_num") (.recField "numerator"),
  .assign (.name "d_den") (.recField "denominator"),
  .ifThen (expNotConst "d_den") [.raise_ "RuntimeError" "nonlinear expression"] [],
  .assign (.name "val") (.index (.var "d_den") (.lit 1)),
  .mapValues "d_num" .mul (.mkNode "Quotient" [.lit 1, .var "val"]),
  .ret (.var "d_num")]

theorem mapValues_scaleRight (q : Expr) : ∀ d : Dict,
    c15MapValues (fun c => c15LiftCR (pyBin .mul c q)) d = c15LiftCR (scaleRight q d)
  | [] => rfl
  | (k, c) :: rest => by
    simp only [c15MapValues, scaleRight, mapValues_scaleRight q rest, bind, Except.bind]
    cases pyBin .mul c q with
    | error e => rfl
    | ok c' => cases scaleRight q rest <;> rfl

theorem constOnly_find {d : Dict} {val : Expr} (h : constOnly d = some val) :
    d.find (.const (.int 1)) = some val := by
  unfold constOnly at h
  by_cases hl : d.length > 1
  · simp [hl] at h
  · simpa [hl, one] using h

theorem run_quot (ctx : C15Ctx) (ra rb : Unit → CR Dict)
    (hrec : ctx.recField = [("numerator", ra), ("denominator", rb)]) :
    c15Result (C15S.execL ctx expQuotBody []) =
      dictRes (do
        let dn ← ra ()
        let dd ← rb ()
        match constOnly dd with
        | none => throw .nonlinear
        | some val => scaleRight (.bin .quot one val) dn) := by
  refine SimO.result ?_
  simp only [expQuotBody]
  rw [execL_cons_ok ctx _ _ _ _ rfl]
  refine Sim.seq (assign_recField ctx "d_num" "numerator" ra [] (by rw [hrec]; rfl)) ?_
  rintro dn _ rfl
  refine Sim.seq (assign_recField ctx "d_den" "denominator" rb _ (by rw [hrec]; rfl)) ?_
  rintro dd _ rfl
  rw [execL_nonlinear ctx _ "d_den" dd _ (c15Get_set_eq _ _ _)]
  cases hc : constOnly dd with
  | none => rfl
  | some val =>
    have e2 : (C15E.index (.var "d_den") (.lit 1)).eval ctx
        (c15Set "d_den" (.dict dd) (c15Set "d_num" (.dict dn) [])) = .ok (.ex val) := by
      simp [c15Get_set_eq, bind, Except.bind, pure, Except.pure, C15Val.toExpr?,
        constOnly_find hc]
    have hfun : (fun c => do
          let vv ← (C15E.mkNode "Quotient" [.lit 1, .var "val"]).eval ctx
            (c15Set "val" (.ex val) (c15Set "d_den" (.dict dd) (c15Set "d_num" (.dict dn) [])))
          c15ScalarOp (c15Set "val" (.ex val) (c15Set "d_den" (.dict dd) (c15Set "d_num" (.dict dn) [])))
            .mul (.ex c) vv) = fun c => c15LiftCR (pyBin .mul c (.bin .quot one val)) := by
      funext c
      simp [c15Get_set_eq, c15MkNode, C15Val.toExpr?, bind, Except.bind, pure,
        Except.pure, c15ScalarOp_ex_ex, C15BinOp.py, one]
    rw [execL_assign ctx _ _ _ _ _ e2, execL_cons, C15S.exec]
    simp only [c15Get_set, String.reduceEq, ↓reduceIte, hfun, mapValues_scaleRight]
    cases hs : scaleRight (.bin .quot one val) dn <;>
      simp [SimO, c15LiftCR, c15OfR, pure, Except.pure, bind, Except.bind]

def expPowBody : List C15S := [
  .assign (.name "d_base") (.recField "base"),
  .assign (.name "d_exponent") (.recField "exponent"),
  .ifThen (expNotConst "d_exponent") [.raise_ "RuntimeError" "nonlinear expression"] [],
  .ifThen (expNotConst "d_base") [.raise_ "RuntimeError" "nonlinear expression"] [],
  .ret (.mkDict (.lit 1) .node)]

theorem run_pow (ctx : C15Ctx) (e : Expr) (ra rb : Unit → CR Dict) (hnode : ctx.node = some e)
    (hrec : ctx.recField = [("base", ra), ("exponent", rb)]) :
    c15Result (C15S.execL ctx expPowBody []) =
      dictRes (do
        let db ← ra ()
        let de ← rb ()
        match constOnly de with
        | none => throw .nonlinear
        | some _ =>
          match constOnly db with
          | none => throw .nonlinear
          | some _ => pure [(one, e)]) := by
  refine SimO.result ?_
  simp only [expPowBody]
  refine Sim.seq (assign_recField ctx "d_base" "base" ra [] (by rw [hrec]; rfl)) ?_
  rintro db _ rfl
  refine Sim.seq (assign_recField ctx "d_exponent" "exponent" rb _ (by rw [hrec]; rfl)) ?_
  rintro de _ rfl
  rw [execL_nonlinear ctx _ "d_exponent" de _ (c15Get_set_eq _ _ _)]
  cases constOnly de with
  | none => rfl
  | some v1 =>
    rw [execL_nonlinear ctx _ "d_base" db _ (by simp [c15Get_set])]
    cases constOnly db with
    | none => rfl
    | some v2 =>
      simp [SimO, hnode, C15Val.toExpr?, Expr.hasList, one, bind,
        Except.bind, pure, Except.pure]

/-! ### no two keys of a returned dictionary are `==` -/

/-- no stored key is `==` to a later one (what a Python `dict` guarantees) -/
def DictOK (d : Dict) : Prop := d.Pairwise fun a b => a.1.pyEq b.1 = false

theorem dictOK_iff {d : Dict} : DictOK d ↔ (d.map Prod.fst).Pairwise fun a b => a.pyEq b = false := by
  rw [List.pairwise_map]; rfl

theorem dictOK_keys {d d' : Dict} (h : d'.map Prod.fst = d.map Prod.fst) (hd : DictOK d) : DictOK d' := by
  rw [dictOK_iff] at hd ⊢
  rwa [h]

/-- `Dict.addTo` keeps the keys or appends a key that is `==` to none of them -/
theorem addTo_ok {d d' : Dict} {k c : Expr} (h : d.addTo k c = .ok d') (hd : DictOK d) : DictOK d' := by
  rw [dictOK_iff] at hd ⊢
  rcases addTo_keys h with ⟨h1, -⟩ | ⟨h1, hall⟩ <;> rw [h1]
  · exact hd
  · exact List.pairwise_append.2 ⟨hd, List.pairwise_singleton _ _,
      fun a ha b hb => List.mem_singleton.1 hb ▸ hall a ha⟩

theorem mergeInto_ok {d r r' : Dict} (h : mergeInto r d = .ok r') (hr : DictOK r) : DictOK r' := by
  induction d generalizing r with
  | nil => cases h; exact hr
  | cons kc rest ih =>
    obtain ⟨r1, ha, hm⟩ := mergeInto_cons_ok.1 h
    exact ih hm (addTo_ok ha hr)

theorem sumDicts_ok {ds : List Dict} {r r' : Dict} (h : sumDicts r ds = .ok r') (hr : DictOK r) :
    DictOK r' := by
  induction ds generalizing r with
  | nil => cases h; exact hr
  | cons d ds ih =>
    obtain ⟨r1, hm, hs⟩ := sumDicts_cons_ok.1 h
    exact ih hs (mergeInto_ok hm hr)

theorem coeffs_ok (tg : Option (List String)) (e : Expr) (d : Dict) (h : coeffs tg e = .ok d) : DictOK d :=
  coeffs_dictP (Q := fun _ => True) (fun _ _ _ _ => trivial)
    (fun e _ _ => by unfold leafDict; split <;> exact List.pairwise_singleton _ _)
    (fun _ => List.pairwise_singleton _ _) (fun _ _ _ hs => sumDicts_ok hs List.Pairwise.nil)
    (fun _ _ => dictOK_keys) e d h trivial

theorem coeffsL_ok (tg : Option (List String)) : ∀ (cs : List Expr) (ds : List Dict),
    coeffsL tg cs = .ok ds → ∀ d ∈ ds, DictOK d
  | [], ds, h => by cases h; exact nofun
  | c :: cs, ds, h => by
    obtain ⟨d0, hd, r, hr, rfl⟩ := coeffsL_cons_ok.1 h
    exact List.forall_mem_cons.2 ⟨coeffs_ok tg c d0 hd, coeffsL_ok tg cs r hr⟩

end PV.Coeff
