import PV.Proofs.OpsRing
import PV.Proofs.WalkSpec
/-
  C03: `flattened_sum` / `flattened_product` keep the ORDER of the terms.

  The two loops splice the children of a nested Sum / Product in place (`queue[0:0] =
  item.children`), so what they collect is the in-order list of the terms of the argument:

    * `sumTermsL terms` / `prodFactorsL terms` say, without any queue, which terms are to be kept
      and in which order (a plain left-to-right descent into nested sums / products, zeros — and
      ones — dropped, a zero factor collapsing the product);
    * `flattenedSumLoop_terms` / `flattenedProductLoop_factors`: the loops compute exactly that;
    * `flattenedProductLoop_ring` / `flattenedSumLoop_ring`: over an arbitrary — possibly
      non-commutative — ring the left-to-right value of `done ++ queue` is an invariant of the
      loop.
-/
namespace PV
universe u

/-! ### the terms in order, without a queue -/

mutual
/-- the terms `flattened_sum` keeps of one item, in order: nothing of a zero, the kept terms of
the children of a (non-zero) `Sum`, left to right, and the item itself otherwise -/
def sumTerms : Expr → List Expr
  | .nary .sum cs => if (Expr.nary .sum cs).isZero then [] else sumTermsL cs
  | e => if e.isZero then [] else [e]
/-- … of a list of items: the concatenation, in the order of the list -/
def sumTermsL : List Expr → List Expr
  | [] => []
  | c :: cs => sumTerms c ++ sumTermsL cs
end

mutual
/-- the factors `flattened_product` keeps of one item, in order (`none`: a zero was met, the
product collapses to `0`): nothing of a one, the kept factors of the children of a (non-zero)
`Product`, left to right, and the item itself otherwise -/
def prodFactors : Expr → Option (List Expr)
  | .nary .prod cs =>
    if (Expr.nary .prod cs).isZero then none else prodFactorsL cs
  | e => if e.isZero then none else if e.isOne then some [] else some [e]
/-- … of a list of items: the concatenation, in the order of the list -/
def prodFactorsL : List Expr → Option (List Expr)
  | [] => some []
  | c :: cs => (prodFactors c).bind fun xs => (prodFactorsL cs).map fun ys => xs ++ ys
end

theorem sumTermsL_append : ∀ (as bs : List Expr),
    sumTermsL (as ++ bs) = sumTermsL as ++ sumTermsL bs
  | [], bs => by simp [sumTermsL]
  | a :: as, bs => by
      simp only [List.cons_append, sumTermsL, sumTermsL_append as bs, List.append_assoc]

theorem prodFactorsL_append : ∀ (as bs : List Expr),
    prodFactorsL (as ++ bs) =
      (prodFactorsL as).bind fun xs => (prodFactorsL bs).map fun ys => xs ++ ys
  | [], bs => by
      simp only [List.nil_append, prodFactorsL, Option.bind_some]
      cases prodFactorsL bs <;> simp
  | a :: as, bs => by
      simp only [List.cons_append, prodFactorsL, prodFactorsL_append as bs]
      cases prodFactors a with
      | none => simp
      | some xs =>
        cases prodFactorsL as with
        | none => simp
        | some ys =>
          cases prodFactorsL bs with
          | none => simp
          | some zs => simp [List.append_assoc]

theorem sumTerms_of_isZero {e : Expr} (hz : e.isZero = true) : sumTerms e = [] := by
  unfold sumTerms
  split <;> simp [hz]

theorem sumTerms_sum {cs : List Expr} (hz : ¬ (Expr.nary .sum cs).isZero = true) :
    sumTerms (.nary .sum cs) = sumTermsL cs := by
  simp [sumTerms, hz]

theorem sumTerms_other {e : Expr} (hz : ¬ e.isZero = true)
    (hs : ∀ cs, e = .nary .sum cs → False) : sumTerms e = [e] := by
  unfold sumTerms
  split
  · exact absurd rfl (hs _)
  · simp [hz]

theorem prodFactors_of_isZero {e : Expr} (hz : e.isZero = true) : prodFactors e = none := by
  unfold prodFactors
  split <;> simp [hz]

theorem prodFactors_of_isOne {e : Expr} (hz : ¬ e.isZero = true) (h1 : e.isOne = true) :
    prodFactors e = some [] := by
  unfold prodFactors
  split
  · simp [Expr.isOne] at h1
  · simp [hz, h1]

theorem prodFactors_prod {cs : List Expr} (hz : ¬ (Expr.nary .prod cs).isZero = true) :
    prodFactors (.nary .prod cs) = prodFactorsL cs := by
  simp [prodFactors, hz]

theorem prodFactors_other {e : Expr} (hz : ¬ e.isZero = true) (h1 : ¬ e.isOne = true)
    (hs : ∀ cs, e = .nary .prod cs → False) : prodFactors e = some [e] := by
  unfold prodFactors
  split
  · exact absurd rfl (hs _)
  · simp [hz, h1]

/-! ### the loops compute the in-order terms -/

/-- with enough fuel the loop of `flattened_sum` appends the in-order terms of the queue to `done` -/
theorem flattenedSumLoop_terms : ∀ (fuel : Nat) (queue done : List Expr),
    Expr.sizeL queue < fuel → flattenedSumLoop fuel queue done = done ++ sumTermsL queue
  | 0, _, _, h => by omega
  | _ + 1, [], done, _ => by simp [flattenedSumLoop, sumTermsL]
  | fuel + 1, item :: queue, done, h => by
      have hp := item.size_pos
      simp only [Expr.sizeL] at h
      simp only [flattenedSumLoop, sumTermsL]
      split
      · rename_i hz
        rw [flattenedSumLoop_terms fuel queue done (by omega), sumTerms_of_isZero hz,
          List.nil_append]
      · rename_i hz
        split
        · rename_i cs
          simp only [Expr.size] at h
          rw [flattenedSumLoop_terms fuel (cs ++ queue) done
            (by rw [Expr.sizeL_append]; omega), sumTermsL_append, sumTerms_sum hz]
        · rename_i hs
          rw [flattenedSumLoop_terms fuel queue (done ++ [item]) (by omega),
            sumTerms_other hz (fun cs h => hs cs h)]
          simp

/-- with enough fuel the loop of `flattened_product` appends the in-order factors of the queue to
`done`, or returns early (`none`) exactly when a zero is among them -/
theorem flattenedProductLoop_factors : ∀ (fuel : Nat) (queue done : List Expr),
    Expr.sizeL queue < fuel →
    flattenedProductLoop fuel queue done = (prodFactorsL queue).map fun xs => done ++ xs
  | 0, _, _, h => by omega
  | _ + 1, [], done, _ => by simp [flattenedProductLoop, prodFactorsL]
  | fuel + 1, item :: queue, done, h => by
      have hp := item.size_pos
      simp only [Expr.sizeL] at h
      simp only [flattenedProductLoop, prodFactorsL]
      split
      · rename_i hz
        simp [prodFactors_of_isZero hz]
      · rename_i hz
        split
        · rename_i h1
          rw [flattenedProductLoop_factors fuel queue done (by omega),
            prodFactors_of_isOne hz h1]
          cases prodFactorsL queue <;> simp
        · rename_i h1
          split
          · rename_i cs
            simp only [Expr.size] at h
            rw [flattenedProductLoop_factors fuel (cs ++ queue) done
              (by rw [Expr.sizeL_append]; omega), prodFactorsL_append, prodFactors_prod hz]
          · rename_i hs
            rw [flattenedProductLoop_factors fuel queue (done ++ [item]) (by omega),
              prodFactors_other hz h1 (fun cs h => hs cs h)]
            cases prodFactorsL queue <;> simp

/-- **`flattened_sum` is the in-order list of the kept terms.** -/
theorem flattenedSum_eq_terms (terms : List Expr) :
    flattenedSum terms =
      match sumTermsL terms with
      | [] => zero
      | [x] => x
      | xs => .nary .sum xs := by
  unfold flattenedSum
  rw [flattenedSumLoop_terms _ terms [] (by omega), List.nil_append]
  generalize sumTermsL terms = l
  match l with
  | [] => rfl
  | [x] => rfl
  | x :: y :: r => rfl

/-- **`flattened_product` is the in-order list of the kept factors.** -/
theorem flattenedProduct_eq_factors (terms : List Expr) :
    flattenedProduct terms =
      match prodFactorsL terms with
      | none => zero
      | some [] => one
      | some [x] => x
      | some xs => .nary .prod xs := by
  unfold flattenedProduct
  rw [flattenedProductLoop_factors _ terms [] (by omega)]
  generalize prodFactorsL terms = l
  match l with
  | none => rfl
  | some [] => rfl
  | some [x] => rfl
  | some (x :: y :: r) => rfl

/-! ### values in a non-commutative ring -/

section
variable {K : Type u} [Ring K] (ρ : String → K)

theorem fold_cons_some {f : K → K → K} {acc k : K} {c : Expr} {cs : List Expr}
    (h : evalRingFold ρ f acc (c :: cs) = some k) :
    ∃ x, evalRing ρ c = some x ∧ evalRingFold ρ f (f acc x) cs = some k := by
  simp only [evalRingFold] at h
  cases hc : evalRing ρ c with
  | none => rw [hc] at h; contradiction
  | some x => rw [hc] at h; exact ⟨x, rfl, h⟩

theorem fold_append_some {f : K → K → K} {acc k : K} {cs ds : List Expr}
    (h : evalRingFold ρ f acc (cs ++ ds) = some k) :
    ∃ r, evalRingFold ρ f acc cs = some r ∧ evalRingFold ρ f r ds = some k := by
  rw [fold_append] at h
  cases hc : evalRingFold ρ f acc cs with
  | none => rw [hc] at h; simp at h
  | some r => rw [hc] at h; exact ⟨r, rfl, by simpa using h⟩

theorem fold_append_mk {f : K → K → K} {acc r k : K} {cs ds : List Expr}
    (h1 : evalRingFold ρ f acc cs = some r) (h2 : evalRingFold ρ f r ds = some k) :
    evalRingFold ρ f acc (cs ++ ds) = some k := by
  rw [fold_append, h1]; simpa using h2

/-- outcome of the product loop: early `return 0` (then the value is 0) or the factors, whose
LEFT-TO-RIGHT product is the value -/
def RingProdOK (v : K) : Option (List Expr) → Prop
  | none => v = 0
  | some xs => evalRingFold ρ (· * ·) 1 xs = some v

/-- the left-to-right product of `done ++ queue` is an invariant of the loop of
`flattened_product`, in ANY ring -/
theorem flattenedProductLoop_ring : ∀ (fuel : Nat) (queue done : List Expr) (v : K),
    Expr.sizeL queue < fuel → evalRingFold ρ (· * ·) 1 (done ++ queue) = some v →
    RingProdOK ρ v (flattenedProductLoop fuel queue done)
  | 0, _, _, _, hf, _ => by omega
  | _ + 1, [], done, v, _, h => by
      simpa only [flattenedProductLoop, List.append_nil, RingProdOK] using h
  | fuel + 1, item :: queue, done, v, hf, h => by
      obtain ⟨d, hd, hr⟩ := fold_append_some ρ h
      obtain ⟨x, hx, hq⟩ := fold_cons_some ρ hr
      have hpos := item.size_pos
      simp only [Expr.sizeL] at hf
      simp only [flattenedProductLoop]
      split
      · rename_i hz
        have := isZero_ring ρ hz hx; subst this
        rw [mul_zero] at hq
        exact fold_mul_zero ρ queue v hq
      · split
        · rename_i h1
          have := isOne_ring ρ h1 hx; subst this
          rw [mul_one] at hq
          exact flattenedProductLoop_ring fuel queue done v (by omega) (fold_append_mk ρ hd hq)
        · split
          · rename_i cs _ _
            simp only [evalRing] at hx
            refine flattenedProductLoop_ring fuel (cs ++ queue) done v
              (by simp only [Expr.sizeL_append, Expr.size] at hf ⊢; omega) ?_
            exact fold_append_mk ρ hd (fold_append_mk ρ (prod_acc ρ d hx) hq)
          · refine flattenedProductLoop_ring fuel queue (done ++ [item]) v (by omega) ?_
            refine fold_append_mk ρ (fold_append_mk ρ hd ?_) hq
            simp only [evalRingFold, hx]

/-- the same for `flattened_sum` -/
theorem flattenedSumLoop_ring : ∀ (fuel : Nat) (queue done : List Expr) (v : K),
    Expr.sizeL queue < fuel → evalRingFold ρ (· + ·) 0 (done ++ queue) = some v →
    evalRingFold ρ (· + ·) 0 (flattenedSumLoop fuel queue done) = some v
  | 0, _, _, _, hf, _ => by omega
  | _ + 1, [], done, v, _, h => by
      simpa only [flattenedSumLoop, List.append_nil] using h
  | fuel + 1, item :: queue, done, v, hf, h => by
      obtain ⟨d, hd, hr⟩ := fold_append_some ρ h
      obtain ⟨x, hx, hq⟩ := fold_cons_some ρ hr
      have hpos := item.size_pos
      simp only [Expr.sizeL] at hf
      simp only [flattenedSumLoop]
      split
      · rename_i hz
        have := isZero_ring ρ hz hx; subst this
        rw [add_zero] at hq
        exact flattenedSumLoop_ring fuel queue done v (by omega) (fold_append_mk ρ hd hq)
      · split
        · rename_i cs _
          simp only [evalRing] at hx
          refine flattenedSumLoop_ring fuel (cs ++ queue) done v
            (by simp only [Expr.sizeL_append, Expr.size] at hf ⊢; omega) ?_
          exact fold_append_mk ρ hd (fold_append_mk ρ (sum_acc ρ d hx) hq)
        · refine flattenedSumLoop_ring fuel queue (done ++ [item]) v (by omega) ?_
          refine fold_append_mk ρ (fold_append_mk ρ hd ?_) hq
          simp only [evalRingFold, hx]

theorem evalRing_one : evalRing ρ one = some 1 := by
  simp only [one, evalRing, Int.cast_one]

/-- **`flattened_product` never reorders**: in any ring the result has the left-to-right product
of the terms as its value. -/
theorem flattenedProduct_ring {terms : List Expr} {k : K}
    (h : evalRingFold ρ (· * ·) 1 terms = some k) : evalRing ρ (flattenedProduct terms) = some k := by
  have := flattenedProductLoop_ring ρ (Expr.sizeL terms + terms.length + 1) terms [] k (by omega)
    (by simpa using h)
  simp only [flattenedProduct]
  split
  · rename_i heq; rw [heq] at this
    simp only [RingProdOK] at this; subst this; exact evalRing_zero ρ
  · rename_i heq; rw [heq] at this
    simp only [RingProdOK, evalRingFold, Option.some.injEq] at this
    subst this; exact evalRing_one ρ
  · rename_i x heq; rw [heq] at this
    simp only [RingProdOK] at this
    obtain ⟨a, ha, hb⟩ := fold_cons_some ρ this
    simp only [evalRingFold, Option.some.injEq, one_mul] at hb
    subst hb; exact ha
  · rename_i xs _ _ heq; rw [heq] at this
    simpa only [RingProdOK, evalRing] using this

/-- `flattened_sum` keeps the (left-to-right) sum of the terms, in any ring -/
theorem flattenedSum_ring {terms : List Expr} {k : K}
    (h : evalRingFold ρ (· + ·) 0 terms = some k) : evalRing ρ (flattenedSum terms) = some k := by
  have := flattenedSumLoop_ring ρ (Expr.sizeL terms + terms.length + 1) terms [] k (by omega)
    (by simpa using h)
  simp only [flattenedSum]
  split
  · rename_i heq; rw [heq] at this
    simp only [evalRingFold, Option.some.injEq] at this
    subst this; exact evalRing_zero ρ
  · rename_i x heq; rw [heq] at this
    obtain ⟨a, ha, hb⟩ := fold_cons_some ρ this
    simp only [evalRingFold, Option.some.injEq, zero_add] at hb
    subst hb; exact ha
  · simpa only [evalRing] using this

end

end PV
