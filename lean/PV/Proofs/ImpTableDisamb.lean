import PV.Proofs.ImpTableFuse
import Mathlib.Data.List.Perm.Basic
/-
  C20 (T-gen): `disambiguate_identifiers` and `disambiguate_and_fuse` as the regenerated table has
  them ARE `disambiguateG` / `disambiguateAndFuseG`.
-/
set_option linter.unusedSimpArgs false

namespace PV.Imp
open PV PV.Generated

variable {σ : Type}

/-- the returned substitution `{name: Variable(new name)}` as an interpreter value -/
def encE (m : List (String × String)) : List (String × C20Val σ) :=
  m.map fun p => (p.1, .expr (.var p.2))

theorem exprDict_encE : ∀ m : List (String × String),
    c20ExprDict (encE (σ := σ) m) = some (m.map fun p => (p.1, Expr.var p.2))
  | [] => rfl
  | (a, b) :: m => by
    have ih := exprDict_encE m
    simp only [encE, List.map_cons, c20ExprDict] at ih ⊢
    simp [ih]

theorem dictSet_fresh (k : String) (v : C20Val σ) : ∀ kvs : List (String × C20Val σ),
    k ∉ kvs.map (·.1) → c20DictSet k v kvs = kvs ++ [(k, v)]
  | [], _ => rfl
  | (a, b) :: kvs, h => by
    have hne : a ≠ k := fun e => h (by simp [e])
    have ih := dictSet_fresh k v kvs (fun hk => h (by simp [hk]))
    simp [c20DictSet, hne, ih]

/-- the generator state after the calls `unclash` makes -/
def unclashSt (G : NameGen σ) : σ → List String → σ
  | s, [] => s
  | s, c :: cs =>
    match G.call s c with
    | none => s
    | some (_, s') => unclashSt G s' cs

/-- the frame of `disambiguate_identifiers` from the loop on -/
abbrev disEnv (va vb vf vg : C20Val σ) (ia ib : List String) (vu : C20Val σ) (s : σ)
    (vv : C20Val σ) (kvs : List (String × C20Val σ)) (j1 j2 v1 v2 v3 : C20Val σ) : C20Env σ :=
  [("statements_a", va), ("statements_b", vb), ("should_disambiguate_name", vf),
   ("get_all_used_identifiers", vg), ("id_a", .strSet ia), ("id_b", .strSet ib),
   ("UniqueNameGenerator", vu), ("vng", .gen s), ("var", vv), ("subst_b", .dict kvs),
   ("clash", j1), ("unclash", j2), ("SubstitutionMapper", v1), ("make_subst_func", v2),
   ("subst_map", v3)]

/-- the loop over the clashing names: if one pass asks the generator exactly for the names that
pass the filter and records `name ↦ Variable(new name)`, the loop does what `unclash` does on
the names that pass the filter -/
theorem disamb_loop (G : NameGen σ) (filter : String → Bool) (f : C20Env σ → C20Out σ)
    (va vb vf vg : C20Val σ) (ia ib : List String) (vu vv v1 v2 v3 : C20Val σ)
    (hf : ∀ (c : String) (s : σ) (kvs : List (String × C20Val σ)) (j2 : C20Val σ),
      f (disEnv va vb vf vg ia ib vu s vv kvs (.str c) j2 v1 v2 v3) =
        if filter c then
          match G.call s c with
          | none => .err .noName
          | some (n, s') =>
            .next (disEnv va vb vf vg ia ib vu s' vv (c20DictSet c (.expr (.var n)) kvs) (.str c)
              (.str n) v1 v2 v3)
        else .next (disEnv va vb vf vg ia ib vu s vv kvs (.str c) j2 v1 v2 v3)) :
    ∀ (xs : List String) (s : σ) (m0 : List (String × String)) (j1 j2 : C20Val σ),
      xs.Nodup → (∀ x ∈ xs, x ∉ m0.map (·.1)) →
      c20ForIn f "clash" (xs.map .str) (disEnv va vb vf vg ia ib vu s vv (encE m0) j1 j2 v1 v2 v3) =
        match unclash G s (xs.filter filter) with
        | none => .err .noName
        | some m =>
          .next (disEnv va vb vf vg ia ib vu (unclashSt G s (xs.filter filter)) vv (encE (m0 ++ m))
            (c20LastD j1 (xs.map .str)) (c20LastD j2 (m.map fun p => .str p.2)) v1 v2 v3)
  | [], s, m0, j1, j2, _, _ => by simp [c20ForIn, unclash, unclashSt, c20LastD]
  | c :: xs, s, m0, j1, j2, hnd, hfresh => by
    have hnd' := (List.nodup_cons.1 hnd)
    simp only [List.map_cons, c20ForIn, disEnv, c20Set, String.reduceEq, if_false, if_true]
    rw [hf]
    by_cases hc : filter c = true
    · simp only [hc, if_true, List.filter_cons_of_pos, unclash, unclashSt]
      cases hg : G.call s c with
      | none => rfl
      | some p =>
        obtain ⟨n, s'⟩ := p
        have hk : c ∉ (encE (σ := σ) m0).map (·.1) := by
          simpa [encE, List.map_map, Function.comp_def] using hfresh c (List.mem_cons_self ..)
        have hset : c20DictSet c (.expr (.var n)) (encE (σ := σ) m0) = encE (m0 ++ [(c, n)]) := by
          rw [dictSet_fresh c _ _ hk]; simp [encE]
        simp only [hset]
        rw [disamb_loop G filter f va vb vf vg ia ib vu vv v1 v2 v3 hf xs s' (m0 ++ [(c, n)]) _ _
          hnd'.2 (by
            intro x hx
            have h1 := hfresh x (List.mem_cons_of_mem _ hx)
            have h2 : x ≠ c := fun e => hnd'.1 (e ▸ hx)
            simpa [h2] using h1)]
        cases unclash G s' (xs.filter filter) with
        | none => rfl
        | some m => simp [c20LastD]
    · have hc' : filter c = false := by simpa using hc
      simp only [hc', Bool.false_eq_true, if_false, List.filter_cons_of_neg, not_false_eq_true]
      rw [disamb_loop G filter f va vb vf vg ia ib vu vv v1 v2 v3 hf xs s m0 _ _ hnd'.2
        (fun x hx => hfresh x (List.mem_cons_of_mem _ hx))]
      cases unclash G s (xs.filter filter) with
      | none => rfl
      | some m => simp [c20LastD]

/-- `[stmt.map_expressions(subst_map) for stmt in statements_b]` -/
theorem mapElems_mapExprs (G : NameGen σ) (order) (wf m : Nat) (hm : 3 ≤ m) (cls : Option String)
    (env : C20Env σ) (f : Expr → Expr) (h : c20Get "subst_map" env = some (.exprMap f)) :
    ∀ B : List Stmt,
    c20MapElems (c20Eval (cxCur G order wf (c20Run (cfgCur G order wf) m) cls)
        (.meth (.var "stmt") "map_expressions" [.var "subst_map"] [] [])) "stmt" env
        (B.map .stmt) = .ok ((B.map (Stmt.mapExprs f)).map .stmt)
  | [] => rfl
  | b :: B => by
    simp only [List.map_cons, c20MapElems, mapElems_mapExprs G order wf m hm cls env f h B]
    c20_run [h, mapExprs_method_eq_table G order wf m hm]

/-- the order in which the model is told the clashing names were visited: `ord` applied to the
clash set, restricted to the names that pass the filter -/
def clashOrder (ord : List String → List String) (filter : String → Bool) (A B : List Stmt) :
    List String :=
  match usedIdentifiers A, usedIdentifiers B with
  | .ok a, .ok b => (ord (interS a b)).filter filter
  | _, _ => []

/-- what `should_disambiguate_name` is bound to once the first statement has run: the caller's
filter, or (`should_disambiguate_name=None`) the function `def should_disambiguate_name(name):
return True` defined in its place -/
def disPred : Option (String → Bool) → C20Val σ
  | some filter => .strPred filter
  | none => .localFn ["name"] [.ret (.lit (.bool true))]

/-- the statements of `disambiguate_identifiers` after that first one -/
def disTail : List C20Stmt := c20Fn_disambiguate_identifiers.body.drop 1

/-- the frame they start in -/
abbrev disEnv0 (A B : List Stmt) (vf : C20Val σ) : C20Env σ :=
  [("statements_a", .list (A.map .stmt)), ("statements_b", .list (B.map .stmt)),
   ("should_disambiguate_name", vf), ("get_all_used_identifiers", .unbound), ("id_a", .unbound),
   ("id_b", .unbound), ("UniqueNameGenerator", .unbound), ("vng", .unbound), ("var", .unbound),
   ("subst_b", .unbound), ("clash", .unbound), ("unclash", .unbound),
   ("SubstitutionMapper", .unbound), ("make_subst_func", .unbound), ("subst_map", .unbound)]

/-- identifier sets of both streams by `get_all_used_identifiers`, the generator seeded with their
UNION, the loop over their INTERSECTION that asks the generator for a new name for every clash that
passes the filter and records `name ↦ Variable(new name)`, the substitution mapper built from that
dict, `map_expressions` on every statement of the second stream -/
theorem disamb_tail_eq (G : NameGen σ) (ord : List String → List String)
    (hperm : ∀ xs, (ord xs).Perm xs) (wf n : Nat) (o : Option (String → Bool)) (A B : List Stmt) :
    c20Exec (cxCur G ord wf (c20Run (cfgCur G ord wf) (n + 4)) none) disTail
        (disEnv0 A B (disPred o)) =
      match disambiguateG G (o.getD fun _ => true) (clashOrder ord (o.getD fun _ => true) A B) A B with
      | .ok r => .ret (.tuple [.list (r.1.map .stmt), .dict (encE r.2)])
      | .error e => .err e := by
  simp only [disTail, c20Fn_disambiguate_identifiers, List.drop_succ_cons, List.drop_zero]
  cases hA : usedIdentifiers A with
  | error e =>
    c20_run [used_eq_table G ord wf (n + 4) (by omega), hA, C20Res.ofExcept]
    simp [disambiguateG, hA, bind, Except.bind]
  | ok ia =>
    cases hB : usedIdentifiers B with
    | error e =>
      c20_run [used_eq_table G ord wf (n + 4) (by omega), hA, hB, C20Res.ofExcept]
      simp [disambiguateG, hA, hB, bind, Except.bind]
    | ok ib =>
      c20_run [used_eq_table G ord wf (n + 4) (by omega), hA, hB, C20Res.ofExcept]
      have hnd : (ord (interS ia ib)).Nodup := by
        rw [(hperm _).nodup_iff]
        exact (usedIdentifiers_spec hA).1.filter _
      have hord : ((ord (interS ia ib)).filter (o.getD fun _ => true)).isPerm
          ((interS ia ib).filter (o.getD fun _ => true)) = true :=
        List.isPerm_iff.2 ((hperm _).filter _)
      rw [show (C20Val.dict [] : C20Val σ) = .dict (encE []) from rfl,
        disamb_loop G (o.getD fun _ => true) _ _ _ _ _ _ _ _ _ _ _ _ ?hf _ _ _ _ _ hnd (by simp)]
      case hf =>
        -- one pass: the call of `should_disambiguate_name` (of either kind), then the `if`
        intro c s kvs j2
        cases o with
        | none => rcases hg : G.call s c with _ | ⟨nm, s'⟩ <;> c20_run [disPred, Option.getD_none, hg]
        | some filter =>
          cases hc : filter c
          · c20_run [disPred, Option.getD_some, hc]
          · rcases hg : G.call s c with _ | ⟨nm, s'⟩ <;> c20_run [disPred, Option.getD_some, hc, hg]
      simp only [disambiguateG, hA, hB, clashOrder, bind, Except.bind, hord, Bool.not_true,
        Bool.false_eq_true, if_false]
      cases hu : unclash G (G.init (unionS ia ib))
          ((ord (interS ia ib)).filter (o.getD fun _ => true)) with
      | none => rfl
      | some m =>
        c20_run [exprDict_encE, disEnv]
        c20_run [c20Comp, fun env h => mapElems_mapExprs G ord wf (n + 4) (by omega) none env
          (fun e => (substM { byName := List.map (fun p => (p.1, Expr.var p.2)) m } e).1) h]
        rfl

/-- **`disambiguate_identifiers` of the current source is `disambiguateG`.**  The body read from
the working tree, run by the table interpreter, returns what the model returns, or raises what it
raises: for every generator, every filter, both streams, and every order `ord` in which a `for`
statement may visit a set (the model is given that order restricted to the names passing the
filter). -/
theorem disamb_fn_eq_table (G : NameGen σ) (ord : List String → List String)
    (hperm : ∀ xs, (ord xs).Perm xs) (wf n : Nat) (cls : Option String)
    (filter : String → Bool) (A B : List Stmt) :
    c20CallFn (cxCur G ord wf (c20Run (cfgCur G ord wf) (n + 5)) cls) c20Fn_disambiguate_identifiers
      [.list (A.map .stmt), .list (B.map .stmt), .strPred filter] [] [] =
      C20Res.ofExcept (fun r => .tuple [.list (r.1.map .stmt), .dict (encE r.2)])
        (disambiguateG G filter (clashOrder ord filter A B) A B) := by
  have ht := disamb_tail_eq G ord hperm wf n (some filter) A B
  simp only [disTail, c20Fn_disambiguate_identifiers, List.drop_succ_cons, List.drop_zero, disPred,
    Option.getD_some] at ht
  simp only [c20CallFn, c20Fn_disambiguate_identifiers]
  c20_run [ht]
  cases disambiguateG G filter (clashOrder ord filter A B) A B <;> rfl

/-- the same with the default filter (`should_disambiguate_name=None`: the function defines
`def should_disambiguate_name(name): return True` itself) -/
theorem disamb_fn_default_eq_table (G : NameGen σ) (ord : List String → List String)
    (hperm : ∀ xs, (ord xs).Perm xs) (wf n : Nat) (cls : Option String)
    (A B : List Stmt) :
    c20CallFn (cxCur G ord wf (c20Run (cfgCur G ord wf) (n + 5)) cls) c20Fn_disambiguate_identifiers
      [.list (A.map .stmt), .list (B.map .stmt)] [] [] =
      C20Res.ofExcept (fun r => .tuple [.list (r.1.map .stmt), .dict (encE r.2)])
        (disambiguateG G (fun _ => true) (clashOrder ord (fun _ => true) A B) A B) := by
  have ht := disamb_tail_eq G ord hperm wf n none A B
  simp only [disTail, c20Fn_disambiguate_identifiers, List.drop_succ_cons, List.drop_zero, disPred,
    Option.getD_none] at ht
  simp only [c20CallFn, c20Fn_disambiguate_identifiers]
  c20_run [ht]
  cases disambiguateG G (fun _ => true) (clashOrder ord (fun _ => true) A B) A B <;> rfl

/-- **`disambiguate_and_fuse` of the current source is `disambiguateAndFuseG`**: the second stream
is disambiguated first, the RESULT is fused with the first stream, and the three results are
returned in the order `(fused, subst_b, old_b_id_to_new_b_id)`. -/
theorem disfuse_fn_eq_table (G : NameGen σ) (hG : G.SeededBySet) (ord : List String → List String)
    (hperm : ∀ xs, (ord xs).Perm xs) (wf n : Nat) (cls : Option String)
    (filter : String → Bool) (A B : List Stmt) :
    c20CallFn (cxCur G ord wf (c20Run (cfgCur G ord wf) (n + 6)) cls) c20Fn_disambiguate_and_fuse
      [.list (A.map .stmt), .list (B.map .stmt), .strPred filter] [] [] =
      C20Res.ofExcept
        (fun r => .tuple [.list (r.1.map .stmt), .dict (encE r.2.1), .dict (encM r.2.2)])
        (disambiguateAndFuseG G filter (clashOrder ord filter A B) A B) := by
  simp only [c20CallFn, c20Fn_disambiguate_and_fuse]
  c20_run [disamb_fn_eq_table G ord hperm wf n]
  simp only [disambiguateAndFuseG, bind, Except.bind]
  cases hd : disambiguateG G filter (clashOrder ord filter A B) A B with
  | error e => c20_run [C20Res.ofExcept]
  | ok r =>
    obtain ⟨B', sub⟩ := r
    c20_run [C20Res.ofExcept, fuse_fn_eq_table G hG ord wf (n + 4)]
    cases hf : fuseG G A B' with
    | error e => c20_run [C20Res.ofExcept]
    | ok q =>
      obtain ⟨fused, m⟩ := q
      c20_run [C20Res.ofExcept]
      rfl

end PV.Imp
