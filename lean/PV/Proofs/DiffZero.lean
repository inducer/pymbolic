import PV.Proofs.DiffMore
/-
  C10, part 4.  The derivative with respect to a variable that does not occur is the LITERAL `0`
  (`diff_absent_zero`): the CSE handler answers `0` for a vanishing child derivative, not a
  (truthy) wrapper around it (repo commit 0a83556), so the product, quotient and power rules see
  the vanishing factor.  The one construct that keeps a tree around zeros is `If` (`If(c, 0, 0)`,
  under "discontinuous").
-/
namespace PV

mutual
/-- no `If` in a position the differentiator visits -/
def iteFree : Expr → Bool
  | .nary _ cs => iteFreeL cs
  | .bin _ a b => iteFree a && iteFree b
  | .ite _ _ _ => false
  | .call _ args => iteFreeL args
  | .cse c _ _ => iteFree c
  | _ => true
def iteFreeL : List Expr → Bool
  | [] => true
  | c :: cs => iteFree c && iteFreeL cs
end

/-! ### the smart constructors and the product on literal zeros -/

theorem flattenedSumLoop_zeros : ∀ (fuel : Nat) (q : List Expr), (∀ x ∈ q, x = zero) →
    flattenedSumLoop fuel q [] = []
  | 0, _, _ => by simp only [flattenedSumLoop]
  | _ + 1, [], _ => by simp only [flattenedSumLoop]
  | fuel + 1, item :: q, h => by
      have hi : item = zero := h item List.mem_cons_self
      subst hi
      have hz : zero.isZero = true := rfl
      simp only [flattenedSumLoop, hz, if_true]
      exact flattenedSumLoop_zeros fuel q (fun x hx => h x (List.mem_cons_of_mem _ hx))

/-- `flattened_sum` of literal zeros is the literal `0` -/
theorem flattenedSum_zeros (ds : List Expr) (h : ∀ x ∈ ds, x = zero) : flattenedSum ds = zero := by
  unfold flattenedSum
  rw [flattenedSumLoop_zeros _ ds h]

theorem flattenedProductLoop_zero : ∀ (fuel : Nat) (pre rest done : List Expr),
    Expr.sizeL pre < fuel → flattenedProductLoop fuel (pre ++ zero :: rest) done = Option.none
  | 0, _, _, _, h => by omega
  | fuel + 1, [], rest, done, _ => by
      have hz : zero.isZero = true := rfl
      simp only [List.nil_append, flattenedProductLoop, hz, if_true]
  | fuel + 1, a :: pre, rest, done, hlt => by
      have hp := Expr.size_pos a
      simp only [Expr.sizeL] at hlt
      simp only [List.cons_append, flattenedProductLoop]
      split
      · rfl
      · split
        · exact flattenedProductLoop_zero fuel pre rest done (by omega)
        · split
          · rename_i cs _ _
            rw [← List.append_assoc]
            exact flattenedProductLoop_zero fuel (cs ++ pre) rest done
              (by simp only [Expr.sizeL_append, Expr.size] at hlt ⊢; omega)
          · exact flattenedProductLoop_zero fuel pre rest _ (by omega)

/-- `flattened_product` of factors one of which is the literal `0` is the literal `0` (the factors
before it are looked at first; children of nested products among them are spliced in place, so the
zero is reached after everything that stands before it has been taken apart) -/
theorem flattenedProduct_zero (pre cs : List Expr) : flattenedProduct (pre ++ zero :: cs) = zero := by
  unfold flattenedProduct
  rw [flattenedProductLoop_zero _ pre cs [] (by simp only [Expr.sizeL_append]; omega)]

theorem mulD_zero (fm : Expr) : mulD fm zero = .ret zero := by
  unfold mulD
  have h1 : zero.isValidOperand = true := rfl
  have h2 : zero.isZero = true := rfl
  have h3 : zero.isOne = false := rfl
  simp only [h1, Bool.not_true, Bool.false_eq_true, if_false]
  split
  · simp only [zero, Expr.isZero, Expr.truthy, Const.truthy]; rfl
  · simp only [h3, h2, Bool.false_eq_true, if_false, if_true]

/-- Python `fm * 0` is the int `0` (or raises) -/
theorem pyBin_mul_zero {fm t : Expr} (h : pyBin .mul fm zero = .ok t) : t = zero := by
  by_cases hn : fm.isNode = true
  · have : pyBin .mul fm zero = Ops.bin .mul fm zero := by
      cases fm <;> first | rfl | simp [Expr.isNode] at hn
    rw [this] at h
    simp only [Ops.bin, dispatch, hn, if_true, mulD_zero, pure, Except.pure] at h
    injection h with h; exact h.symm
  · cases fm <;> simp only [Expr.isNode, not_true_eq_false] at hn
    · rename_i c
      cases c <;>
        simp [pyBin, zero, constBin, Const.toValue?, PyBinOp.onValues, Value.mul, arith,
          Value.isInexact, Value.isSeq, Value.num?, mulN, Value.toConst?, pure, Except.pure, throw,
          throwThe, MonadExceptOf.throw] at h
      all_goals (subst h; rfl)
    all_goals
      simp [pyBin, zero, Ops.bin, dispatch, Expr.isNode, throw, throwThe, MonadExceptOf.throw] at h

theorem quotRule_zero {f g d : Expr} (h : quotRule f g zero zero = .ok d) : d = zero := by
  have hz : zero.truthy = false := rfl
  simp only [quotRule, hz, Bool.not_false, Bool.and_self, if_true, pure, Except.pure] at h
  injection h with h; exact h.symm

theorem powRule_zero {f g d : Expr} (h : powRule f g zero zero = .ok d) : d = zero := by
  have hz : zero.truthy = false := rfl
  simp only [powRule, hz, Bool.not_false, Bool.and_self, if_true, pure, Except.pure] at h
  injection h with h; exact h.symm

/-- the plain power rule `g * f**(g-1) * df`, as `map_power` writes it (its third branch) -/
def plainPowRule (f g df : Expr) : OpR := do
  let g1 ← pyBin .sub g one
  let p ← pyBin .pow f g1
  let a ← pyBin .mul g p
  pyBin .mul a df

/-- `map_power` with the literal `0` as the exponent's derivative: no `log` term -/
theorem powRule_dg_zero (f g df : Expr) :
    powRule f g df zero = if df.truthy then plainPowRule f g df else pure zero := by
  have hz : zero.truthy = false := rfl
  unfold powRule plainPowRule
  cases hdf : df.truthy <;> simp [hz]

theorem cseRule_zero (p : Option String) (s : String) : cseRule zero p s = zero := rfl

/-! ### the induction -/

section
variable (cfg : Smooth) (v : Expr)

mutual
theorem diff_absent_zero : ∀ (e d : Expr), diff cfg v e = .ok d → absent v e = true →
    (cfg = .discontinuous → iteFree e = true) → d = zero
  | .const c, d, h, _, _ => diff_const_ok h
  | .var n, d, h, ha, _ => by
      rw [diff_leaf_ok (.inl ⟨n, rfl⟩) h]
      simp only [absent, Bool.not_eq_true'] at ha
      simp [ha]
  | .subscript a i, d, h, ha, _ => by
      rw [diff_leaf_ok (.inr ⟨a, i, rfl⟩) h]
      simp only [absent, Bool.not_eq_true'] at ha
      simp [ha]
  | .nary .sum cs, d, h, ha, hi => by
      obtain ⟨ds, h1, rfl⟩ := diff_sum_ok h
      exact flattenedSum_zeros ds (diffL_absent_zero cs ds h1 ha hi)
  | .nary .prod cs, d, h, ha, hi => by
      obtain ⟨ts, h1, rfl⟩ := diff_prod_ok h
      exact flattenedSum_zeros ts (diffProd_absent_zero cs [] ts h1 ha hi)
  | .bin .quot f g, d, h, ha, hi => by
      obtain ⟨df, dg, h1, h2, h⟩ := diff_quot_ok h
      simp only [absent, iteFree, Bool.and_eq_true] at ha hi
      obtain rfl := diff_absent_zero f df h1 ha.1 (fun hc => (hi hc).1)
      obtain rfl := diff_absent_zero g dg h2 ha.2 (fun hc => (hi hc).2)
      exact quotRule_zero h
  | .bin .pow f g, d, h, ha, hi => by
      obtain ⟨df, dg, h1, h2, h⟩ := diff_pow_ok h
      simp only [absent, iteFree, Bool.and_eq_true] at ha hi
      obtain rfl := diff_absent_zero f df h1 ha.1 (fun hc => (hi hc).1)
      obtain rfl := diff_absent_zero g dg h2 ha.2 (fun hc => (hi hc).2)
      exact powRule_zero h
  | .ite c t e, d, h, _, hi => by cases hi (diff_ite_ok h).1
  | .cse c p s, d, h, ha, hi => by
      obtain ⟨-, dc, h1, rfl⟩ := diff_cse_ok h
      obtain rfl := diff_absent_zero c dc h1 ha hi
      exact cseRule_zero p s
  | .call f [], d, h, _, _ => by cases h; rfl
  | .call f (p :: ps), d, h, ha, hi => by
      obtain ⟨fm, ts, -, hts, rfl⟩ := diff_call_ok h
      exact flattenedSum_zeros ts (diffCall_absent_zero fm (p :: ps) ts hts ha hi)
  | .nary .bor _, _, h, _, _ | .nary .bxor _, _, h, _, _ | .nary .band _, _, h, _, _
  | .nary .lor _, _, h, _, _ | .nary .land _, _, h, _, _ | .nary .min _, _, h, _, _
  | .nary .max _, _, h, _, _ | .bin .floordiv _ _, _, h, _, _ | .bin .rem _ _, _, h, _, _
  | .bin .lshift _ _, _, h, _, _ | .bin .rshift _ _, _, h, _, _ | .un _ _, _, h, _, _
  | .cmp _ _ _, _, h, _, _ | .callKw _ _ _ _, _, h, _, _ | .lookup _ _, _, h, _, _
  | .subst _ _ _, _, h, _, _ | .deriv _ _, _, h, _, _ | .slice _, _, h, _, _ | .nan, _, h, _, _
  | .wildcard, _, h, _, _ | .dotWild _, _, h, _, _ | .starWild _, _, h, _, _
  | .funcSym, _, h, _, _ | .tuple _, _, h, _, _ | .list _, _, h, _, _ => by cases h
termination_by structural e => e
theorem diffL_absent_zero : ∀ (cs ds : List Expr), diffL cfg v cs = .ok ds →
    absentL v cs = true → (cfg = .discontinuous → iteFreeL cs = true) → ∀ x ∈ ds, x = zero
  | [], ds, h, _, _ => by cases h; simp
  | c :: cs, ds, h, ha, hi => by
      obtain ⟨d, ds', h1, h2, rfl⟩ := diffL_cons_ok h
      simp only [absentL, iteFreeL, Bool.and_eq_true] at ha hi
      intro x hx
      rcases List.mem_cons.mp hx with rfl | hx
      · exact diff_absent_zero c x h1 ha.1 (fun hc => (hi hc).1)
      · exact diffL_absent_zero cs ds' h2 ha.2 (fun hc => (hi hc).2) x hx
termination_by structural cs => cs
theorem diffProd_absent_zero : ∀ (cs pre ts : List Expr), diffProd cfg v pre cs = .ok ts →
    absentL v cs = true → (cfg = .discontinuous → iteFreeL cs = true) → ∀ x ∈ ts, x = zero
  | [], pre, ts, h, _, _ => by cases h; simp
  | c :: cs, pre, ts, h, ha, hi => by
      obtain ⟨d, ts', h1, h2, rfl⟩ := diffProd_cons_ok h
      simp only [absentL, iteFreeL, Bool.and_eq_true] at ha hi
      intro x hx
      rcases List.mem_cons.mp hx with rfl | hx
      · rw [diff_absent_zero c d h1 ha.1 (fun hc => (hi hc).1)]
        exact flattenedProduct_zero pre cs
      · exact diffProd_absent_zero cs (pre ++ [c]) ts' h2 ha.2 (fun hc => (hi hc).2) x hx
termination_by structural cs => cs
theorem diffCall_absent_zero : ∀ (fm : Expr) (ps ts : List Expr), diffCall cfg v fm ps = .ok ts →
    absentL v ps = true → (cfg = .discontinuous → iteFreeL ps = true) → ∀ x ∈ ts, x = zero
  | fm, [], ts, h, _, _ => by cases h; simp
  | fm, p :: ps, ts, h, ha, hi => by
      obtain ⟨d, t, ts', h1, h2, h3, rfl⟩ := diffCall_cons_ok h
      simp only [absentL, iteFreeL, Bool.and_eq_true] at ha hi
      intro x hx
      rcases List.mem_cons.mp hx with rfl | hx
      · rw [diff_absent_zero p d h1 ha.1 (fun hc => (hi hc).1)] at h2
        exact pyBin_mul_zero h2
      · exact diffCall_absent_zero fm ps ts' h3 ha.2 (fun hc => (hi hc).2) x hx
termination_by structural _ ps => ps
end

end

end PV
