import PV.Proofs.RewriteTableDistLoop
import PV.Proofs.RewriteFoldNF
-- one `simp` call with the common lemma set closes several cases; not every lemma fires in each
set_option linter.unusedSimpArgs false
/-
  C11 (T-gen), part 7: `DistributeMapper` — `collect`, `map_sum`, `map_product`, `map_quotient`,
  `map_power` of the table, interpreted, are the cases of `distM`; the collector and the constant
  folder the instance holds are the table-driven classes of parts 3–5.
-/
namespace PV
open PV.Generated (c04Classes c04IdentityTable)
open PV.C11Expected
attribute [local simp] c11ExecL c11Exec c11Eval c11EvalL c11Get c11Set
  bind Except.bind pure Except.pure throw throwThe MonadExceptOf.throw

/-! ### `DistributeMapper`: the instance and its helpers -/

/-- the value of `self.collector` for a configuration of the model -/
def c11CollVal (cfg : DistCfg) : C11Val :=
  match cfg.collector with
  | some ps => .inst .termCollector ["parameters"] [.set (ps.map .expr)]
  | none => .lambdaId

/-- what `self.collector`, `self.const_folder` are and do, as hypotheses on the context -/
structure C11DistAttrs (ctx : C11Ctx) (cfg : DistCfg) (fuel : Nat) : Prop where
  coll : c11Get "collector" ctx.selfAttrs = c11CollVal cfg
  folder : c11Get "const_folder" ctx.selfAttrs = .inst .commFolder [] []
  applyFolder : ∀ e, ctx.applyInst .commFolder [] [] [.expr e] = c11LiftE (foldM true fuel e)
  applyColl : ∀ ps e, ctx.applyInst .termCollector ["parameters"] [.set (ps.map .expr)] [.expr e]
    = c11LiftE (collectM ps fuel e)

section
attribute [local simp] c11RunFn c11_DistributeMapper_collect c11RunBody c11Frame c11CollVal
  c11Apply c11LiftE distCollect c11OutToR

theorem c11_dist_collect (ctx : C11Ctx) (cfg : DistCfg) (fuel F : Nat) (ha : C11DistAttrs ctx cfg fuel)
    (e : Expr) :
    c11RunFn ctx F c11_DistributeMapper_collect [.expr e] = c11LiftE (distCollect cfg fuel e) := by
  obtain ⟨col⟩ := cfg
  cases hf : foldM true fuel e with
  | error er =>
    cases col <;>
    simp [ha.coll, ha.folder, ha.applyFolder, hf]
  | ok f =>
    cases col with
    | none =>
      simp [ha.coll, ha.folder, ha.applyFolder, hf]
    | some ps =>
      cases hc : collectM ps fuel f <;>
      simp [ha.coll, ha.folder, ha.applyFolder, hf, ha.applyColl, hc]

end

/-- `IdentityMapper.map_x(self, e)` and `self.collect`, as hypotheses on the context -/
structure C11DistCtx (ctx : C11Ctx) (collect : Expr → RwR) : Prop where
  sup : ∀ row e, ctx.sup .identityMapper row e = c11IdentRow c04IdentityTable row ctx.recur e
  collect : ∀ e, ctx.callSelf "collect" [.expr e] = c11LiftE (collect e)

theorem c11_dist_map_sum (ctx : C11Ctx) (collect : Expr → RwR) (hc : C11DistCtx ctx collect)
    (F : Nat) (cs : List Expr) :
    c11ToRw (c11RunFn ctx F c11_DistributeMapper_map_sum [.expr (.nary .sum cs)]) =
      (do let cs' ← cs.mapM ctx.recur
          collect (.nary .sum cs')) := by
  have hrow := c11_inherited ctx.recur (.nary .sum cs) "map_sum"
    (by rw [c11Dispatch_current]; rfl)
  simp only [idMap] at hrow
  cases hm : cs.mapM ctx.recur with
  | error er =>
    simp [c11RunFn, c11_DistributeMapper_map_sum, c11RunBody, c11Frame, hc.sup, hrow, hm, c11Lift,
      c11OutToR, c11ToRw]
  | ok cs' =>
    cases hcl : collect (.nary .sum cs') <;>
    simp [c11RunFn, c11_DistributeMapper_map_sum, c11RunBody, c11Frame, hc.sup, hrow, hm, c11Lift,
      c11OutToR, c11ToRw, c11Apply, c11IsInstance, isSum, c11Truthy, hc.collect, hcl, c11LiftE,
      Functor.map, Except.map]

section
attribute [local simp] c11RunFn c11_DistributeMapper_map_quotient c11RunBody c11Frame c11Attr
  Expr.c04Field Expr.c04Fields c04Assoc c11OutToR c11ToRw

theorem c11_dist_map_quotient (ctx : C11Ctx) (F : Nat) (num den : Expr) :
    c11ToRw (c11RunFn ctx F c11_DistributeMapper_map_quotient [.expr (.bin .quot num den)]) =
      (if !num.isValidOperand then throw .noClaim
       else if num.isOne then pure (.bin .quot num den)
       else do
        let den' ← ctx.recur den
        let num' ← ctx.recur num
        flatProd [.bin .quot one den', num']) := by
  cases hv : num.isValidOperand with
  | false =>
    simp [hv]
  | true =>
    cases ho : num.isOne with
    | true =>
      simp [hv, ho, c11Truthy]
    | false =>
      cases hd : ctx.recur den with
      | error er =>
        simp [hv, ho, c11Truthy, c11Apply, hd, c11Lift, Functor.map, Except.map]
      | ok den' =>
        cases hn : ctx.recur num with
        | error er =>
          simp [hv, ho, c11Truthy, c11Apply, hd, hn, c11Lift, Functor.map, Except.map, c11AsExpr,
            Expr.c04Construct, one]
        | ok num' =>
          cases hf : flatProd [.bin .quot (.const (.int 1)) den', num'] <;>
          simp [hv, ho, c11Truthy, c11Apply, hd, hn, c11Lift, Functor.map, Except.map, c11AsExpr,
            Expr.c04Construct, one, c11AsExprs, c11Items, hf]

end

/-- `self.map_product(e)`: `dist(IdentityMapper.map_product(self, e))` -/
theorem c11_dist_map_product (ctx : C11Ctx) (collect : Expr → RwR) (hc : C11DistCtx ctx collect)
    (F : Nat) (e : Expr) :
    c11RunFn ctx F c11_DistributeMapper_map_product [.expr e] =
      c11LiftE (do
        let r ← c11IdentRow c04IdentityTable "map_product" ctx.recur e
        distLoop collect F r) := by
  have hd := c11_dist_call ctx collect hc.collect F
  unfold c11DistDefs at hd
  cases hr : c11IdentRow c04IdentityTable "map_product" ctx.recur e with
  | error er =>
    simp [c11RunFn, c11_DistributeMapper_map_product, c11RunBody, c11Frame, hc.sup, hr, c11Lift,
      c11OutToR, c11LiftE]
  | ok r =>
    have hd' := hd r
    simp only [c11_DistributeMapper_map_product] at hd'
    simp [c11RunFn, c11_DistributeMapper_map_product, c11RunBody, c11Frame, hc.sup, hr, c11Lift,
      c11OutToR, c11LiftE, c11Apply, hd']
    cases distLoop collect F r <;> rfl

/-! ### `map_power` -/

theorem c11_replicate_flatten {α : Type} (x : α) : ∀ k : Nat,
    (List.replicate k [x]).flatten = List.replicate k x
  | 0 => rfl
  | k + 1 => by simp [List.replicate_succ, c11_replicate_flatten x k]

theorem c11AsExprs_replicate (k : Nat) (nb : Expr) :
    c11AsExprs (.list (List.replicate k (C11Val.expr nb))) = .ok (List.replicate k nb) := by
  have := c11AsExprs_exprs (List.replicate k nb)
  rwa [List.map_replicate] at this

/-- `flattened_product(n * (s,))` for a sum `s` is `0`, `1`, `s` or a product: never a slice, the
other node with a `children` field, on which the row `IdentityMapper.map_product` of the table would
succeed where `distM` answers `attrError` -/
theorem c11_flatProd_replicate (k : Nat) (s fp : Expr) (hs : isSum s = true)
    (h : flatProd (List.replicate k s) = .ok fp) :
    (∃ o xs, fp = .nary o xs) ∨ (∃ c, fp = .const c) := by
  unfold flatProd at h
  split at h
  · cases h
  · simp only [pure, Except.pure, Except.ok.injEq] at h
    subst h
    unfold flattenedProduct
    cases hl : flattenedProductLoop (Expr.sizeL (List.replicate k s) + (List.replicate k s).length + 1)
        (List.replicate k s) [] with
    | none => exact Or.inr ⟨_, rfl⟩
    | some xs =>
      have hsub := flattenedProductLoop_sublist _ _ _ _ (by
        intro q hq
        rw [List.eq_of_mem_replicate hq]
        obtain ⟨cs, rfl⟩ := c11_isSum_eq hs
        rfl) hl
      simp only [List.nil_append] at hsub
      match xs, hsub with
      | [], _ => exact Or.inr ⟨_, rfl⟩
      | [x], hsub =>
        have hx : x = s := List.eq_of_mem_replicate (hsub.subset (List.mem_cons_self))
        subst hx
        obtain ⟨cs, rfl⟩ := c11_isSum_eq hs
        exact Or.inl ⟨_, _, rfl⟩
      | x :: y :: r, _ => exact Or.inl ⟨_, _, rfl⟩

/-- `IdentityMapper.map_product(self, c)` on a number: `c.children` does not exist -/
theorem c11IdentRow_product_const (rec : Expr → RwR) (c : Const) :
    c11IdentRow c04IdentityTable "map_product" rec (.const c) = .error .attrError := by
  rw [c11IdentRow, c11_row_map_product]
  simp [c11IdentStepB, c11MapRecs, c11MapRec, Expr.c04Field, Expr.c04Fields, c04Assoc]

/-- the `map_power` case of `distM` with the recursive calls left open -/
def c11PowStep (rec : Expr → RwR) (mapProduct : Expr → RwR) (base ex : Expr) : RwR := do
  let newbase ← rec base
  if isProdE base && isProdE newbase then do
    let ps ← newbase.naryChildren.mapM fun c => pyPow c ex
    let fp ← flatProd ps
    rec fp
  else if positiveIntConst ex && isSum newbase then
    match ex with
    | .const c => do
        let fp ← flatProd (replicateExp newbase c)
        mapProduct fp
    | _ => throw .noClaim
  else do
    let ex' ← rec ex
    pure (.bin .pow newbase ex')

theorem c11Attr_pow_base (a b : Expr) : c11Attr (.expr (.bin .pow a b)) "base" = .ok (.expr a) := rfl
theorem c11Attr_pow_exponent (a b : Expr) :
    c11Attr (.expr (.bin .pow a b)) "exponent" = .ok (.expr b) := rfl
theorem c11Attr_children (o : NaryOp) (cs : List Expr) :
    c11Attr (.expr (.nary o cs)) "children" = .ok (.list (cs.map .expr)) := rfl
theorem c11IsInstance_prod (e : Expr) :
    c11IsInstance (.expr e) (.glob .clsProduct) = .ok (isProdE e) := rfl
theorem c11IsInstance_sum (e : Expr) : c11IsInstance (.expr e) (.glob .clsSum) = .ok (isSum e) := rfl

/-- `isinstance(ex, int) and ex > 0` is decided by the constant `ex` is, if it is one -/
theorem c11_const_or_not (ex : Expr) : (∃ c, ex = .const c) ∨
    (positiveIntConst ex = false ∧ c11IsInstance (.expr ex) (.glob .clsInt) = .ok false) := by
  cases ex <;> first | exact .inl ⟨_, rfl⟩ | exact .inr ⟨rfl, rfl⟩

theorem c11_dist_map_power (ctx₀ : C11Ctx) (collect : Expr → RwR) (hc₀ : C11DistCtx ctx₀ collect)
    (mapProduct : Expr → RwR)
    (hmp₀ : ∀ e, ctx₀.callSelf "map_product" [.expr e] = c11LiftE (mapProduct e))
    (F : Nat) (base ex : Expr) :
    c11ToRw (c11RunFn ctx₀ F c11_DistributeMapper_map_power [.expr (.bin .pow base ex)]) =
      c11PowStep ctx₀.recur mapProduct base ex := by
  unfold c11PowStep c11RunFn
  -- the table of nested functions plays no role: any context `ctx` with these hypotheses
  generalize hctx : ({ ctx₀ with callLocal := _ } : C11Ctx) = ctx
  have hc : C11DistCtx ctx collect := by rw [← hctx]; exact ⟨hc₀.sup, hc₀.collect⟩
  have hmp : ∀ e, ctx.callSelf "map_product" [.expr e] = c11LiftE (mapProduct e) := by
    rw [← hctx]; exact hmp₀
  rw [show ctx₀.recur = ctx.recur by rw [← hctx]]
  simp only [c11RunBody, c11_DistributeMapper_map_power, c11Frame, List.length_cons,
    List.length_nil, beq_self_eq_true, if_true, List.zip_cons_cons, List.zip_nil_right,
    List.map_cons, List.map_nil, List.cons_append, List.nil_append, List.append_nil]
  cases hnb : ctx.recur base with
  | error er =>
    simp [c11Attr_pow_base, c11Lift, hnb, c11OutToR, c11ToRw]
  | ok newbase =>
    rw [c11ExecL_cons_fell
      (env' := [("expr", .expr (.bin .pow base ex)), ("newbase", .expr newbase)])
      (by simp [c11Attr_pow_base, c11Lift, hnb])]
    have hid := c11IdentRow_pow ctx.recur base ex
    simp only [idMap, hnb, bind, Except.bind] at hid
    rw [c11ExecL_ifThen (v := .bool (isProdE base && isProdE newbase)) (by
      cases hb1 : isProdE base <;>
      simp [c11Attr_pow_base, c11Apply, c11IsInstance_prod, c11Truthy, hb1]) rfl]
    simp only [bind, Except.bind]
    cases hb : isProdE base && isProdE newbase with
    | true =>
      obtain ⟨ncs, rfl⟩ := c11_isProdE_eq (Bool.and_eq_true _ _ ▸ hb).2
      simp only [cond_true, List.cons_append, c11ExecL_ret, if_true, Expr.naryChildren]
      simp [c11Attr_pow_exponent, c11Attr_children, c11Items]
      rw [c11MapM_exprs _ (fun c => pyPow c ex)]
      · cases hps : ncs.mapM (fun c => pyPow c ex) with
        | error er => simp [c11OutToR, c11ToRw]
        | ok ps =>
          cases hfp : flatProd ps with
          | error er =>
            simp [c11Apply, c11AsExprs_exprs, hfp, c11Lift, c11OutToR, c11ToRw]
          | ok fp =>
            cases hr : ctx.recur fp <;>
            simp [c11Apply, c11AsExprs_exprs, hfp, hr, c11Lift, c11OutToR, c11ToRw]
      · intro c
        cases hp : pyPow c ex <;>
        simp [c11Bind, c11Push, c11Bin, hp, c11Lift, c11LiftE, c11Attr_pow_exponent]
    | false =>
      simp only [cond_false, List.nil_append, Bool.false_eq_true, if_false]
      -- `return IdentityMapper.map_power(self, expr)`, wherever it stands
      have hfall : ∀ r, c11ToRw (c11OutToR (c11ExecL ctx F
          (.ret (.superCall .identityMapper "map_power" [.var "expr"]) :: r)
          [("expr", .expr (.bin .pow base ex)), ("newbase", .expr newbase)])) =
          (match ctx.recur ex with
           | .error err => .error err
           | .ok v => pure (.bin .pow newbase v)) := by
        intro r
        rw [c11ExecL_ret]
        cases hre : ctx.recur ex <;>
        simp [hc.sup, hid, hre, c11Lift, c11OutToR, c11ToRw]
      rw [c11ExecL_ifThen (v := .bool (positiveIntConst ex)) (by
        rcases c11_const_or_not ex with ⟨c, rfl⟩ | ⟨hpi, hI⟩
        · cases c with
          | bool b =>
            cases b <;>
            simp [c11Attr_pow_exponent, c11Apply, c11IsInstance, c11Truthy, c11Cmp, c11IntOfConst,
              positiveIntConst]
          | _ =>
            simp [c11Attr_pow_exponent, c11Apply, c11IsInstance, c11Truthy, c11Cmp, c11IntOfConst,
              positiveIntConst]
        · simp [c11Attr_pow_exponent, c11Apply, hI, hpi, c11Truthy]) rfl]
      cases hpos : positiveIntConst ex with
      | false =>
        simp only [cond_false, List.cons_append, hfall, Bool.false_and, Bool.false_eq_true,
          if_false]
        cases ctx.recur ex <;> rfl
      | true =>
        simp only [cond_true, List.cons_append, List.nil_append, Bool.true_and]
        rw [c11ExecL_ifThen (v := .bool (isSum newbase)) (by
          simp [c11Apply, c11IsInstance_sum]) rfl]
        cases hs : isSum newbase with
        | false =>
          simp only [cond_false, List.cons_append, hfall, Bool.false_eq_true, if_false]
          cases ctx.recur ex <;> rfl
        | true =>
          simp only [cond_true, List.cons_append, c11ExecL_ret, if_true]
          -- a positive `int`: `n` with `0 < n`, or `True`
          rcases c11_const_or_not ex with ⟨c, rfl⟩ | ⟨hpi, _⟩
          · cases c with
            | int n =>
              cases hfp : flatProd (List.replicate n.toNat newbase) with
              | error er =>
                simp [c11Attr_pow_exponent, c11Bin, c11IntOfConst, c11Apply, c11_replicate_flatten,
                  c11AsExprs_replicate, replicateExp, hfp, c11Lift, c11OutToR, c11ToRw]
              | ok fp =>
                cases hm : mapProduct fp <;>
                simp [c11Attr_pow_exponent, c11Bin, c11IntOfConst, c11Apply, c11_replicate_flatten,
                  c11AsExprs_replicate, replicateExp, hfp, hmp, hm, c11Lift, c11LiftE, c11OutToR,
                  c11ToRw]
            | bool b =>
              cases b with
              | false => cases hpos
              | true =>
                cases hfp : flatProd [newbase] with
                | error er =>
                  simp [c11Attr_pow_exponent, c11Bin, c11IntOfConst, c11Apply, c11AsExprs,
                    c11Items, c11AsExpr, replicateExp, hfp, c11Lift, c11OutToR, c11ToRw]
                | ok fp =>
                  cases hm : mapProduct fp <;>
                  simp [c11Attr_pow_exponent, c11Bin, c11IntOfConst, c11Apply, c11AsExprs,
                    c11Items, c11AsExpr, replicateExp, hfp, hmp, hm, c11Lift, c11LiftE, c11OutToR,
                    c11ToRw]
            | _ => cases hpos
          · rw [hpi] at hpos; cases hpos

/-! ### the whole class -/

/-- `self.map_product(fp)` as the table has it -/
def c11MapProduct (rec collect : Expr → RwR) (F : Nat) (fp : Expr) : RwR := do
  let r ← c11IdentRow c04IdentityTable "map_product" rec fp
  distLoop collect F r

/-- one level of `distM` with the recursive calls left open -/
def c11DistMStep (cfg : DistCfg) (rec : Expr → RwR) (fuel : Nat) : Expr → RwR
  | .nary .sum cs => do
      let cs' ← cs.mapM rec
      distCollect cfg fuel (.nary .sum cs')
  | .nary .prod cs => do
      let cs' ← cs.mapM rec
      distLoop (distCollect cfg fuel) fuel (.nary .prod cs')
  | .bin .quot num den =>
      if !num.isValidOperand then throw .noClaim
      else if num.isOne then pure (.bin .quot num den)
      else do
        let den' ← rec den
        let num' ← rec num
        flatProd [.bin .quot one den', num']
  | .bin .pow base ex => c11PowStep rec (c11MapProduct rec (distCollect cfg fuel) fuel) base ex
  | e => idMap rec e

theorem c11_mapProduct_shape (rec collect : Expr → RwR) (F : Nat) (fp : Expr)
    (h : (∃ o xs, fp = .nary o xs) ∨ (∃ c, fp = .const c)) :
    c11MapProduct rec collect F fp =
      (match fp with
       | .nary o xs => do
          let xs' ← xs.mapM rec
          distLoop collect F (.nary o xs')
       | _ => throw .attrError) := by
  rcases h with ⟨o, xs, rfl⟩ | ⟨c, rfl⟩
  · simp only [c11MapProduct, c11IdentRow_nary rec "map_product" o xs c11_row_map_product, idMap,
      bind, Except.bind]
    cases xs.mapM rec <;> rfl
  · simp only [c11MapProduct, c11IdentRow_product_const, bind, Except.bind]
    rfl

theorem distM_succ (cfg : DistCfg) (fuel : Nat) (e : Expr) :
    distM cfg (fuel + 1) e = c11DistMStep cfg (distM cfg fuel) fuel e := by
  cases e with
  | nary o cs => cases o <;> rfl
  | bin o base ex =>
    cases o <;> try rfl
    -- the power case: `match` against `if`, and `self.map_product` on what `flattened_product` gave
    simp only [distM, c11DistMStep, c11PowStep, bind, Except.bind]
    cases hnb : distM cfg fuel base with
    | error er => rfl
    | ok newbase =>
      simp only []
      split
      · rename_i hb
        rw [hb]; rfl
      · rename_i newbase _ _ hne
        have hc : (isProdE base && isProdE newbase) = false := by
          cases hb : isProdE base
          · rfl
          · cases hn : isProdE newbase
            · rfl
            · obtain ⟨ncs, rfl⟩ := c11_isProdE_eq hn
              exact (hne ncs hb rfl).elim
        rw [hc]
        simp only [Bool.false_eq_true, if_false]
        -- `self.map_product` only sees what `flattened_product(n * (newbase,))` can return
        cases hcond : positiveIntConst ex && isSum newbase with
        | false => rfl
        | true =>
          simp only [if_true]
          cases ex with
          | const c =>
            simp only []
            cases hfp : flatProd (replicateExp newbase c) with
            | error er => rfl
            | ok fp =>
              have hrep : ∃ k, replicateExp newbase c = List.replicate k newbase := by
                cases c with
                | int n => exact ⟨n.toNat, rfl⟩
                | bool b => cases b <;> [exact ⟨0, rfl⟩; exact ⟨1, rfl⟩]
                | _ => exact ⟨0, rfl⟩
              obtain ⟨k, hk⟩ := hrep
              simp only [Bool.and_eq_true] at hcond
              simp only [c11_mapProduct_shape _ _ _ _
                (c11_flatProd_replicate k newbase fp hcond.2 (hk ▸ hfp))]
              cases fp with
              | nary o xs => simp only [bind, Except.bind]
              | _ => rfl
          | _ => rfl
  | _ => rfl

/-- the table-driven `DistributeMapper` of a configuration -/
def c11DistSelfAttrs (cfg : DistCfg) : List (String × C11Val) :=
  [("collector", c11CollVal cfg), ("const_folder", .inst .commFolder [] [])]

def c11DistT (cfg : DistCfg) : Nat → Expr → RwR :=
  c11Mapper c04Classes c04IdentityTable c11Class_distributor (c11DistSelfAttrs cfg)
    (c11LeafInst c04Classes c04IdentityTable c11Table)

theorem c11LeafInst_folder (fuel : Nat) (e : Expr) :
    c11LeafInst c04Classes c04IdentityTable c11Table fuel .commFolder [] [] [.expr e] =
      c11LiftE (foldM true fuel e) := by
  rw [← c11FoldT_eq true fuel e]
  simp only [c11LeafInst, c11FoldT, c11Table, List.zip_nil_left, if_true, bind, Except.bind, pure,
    Except.pure]
  cases c11Mapper c04Classes c04IdentityTable c11Class_commFolder [] c11NoInst fuel e <;> rfl

theorem c11LeafInst_collector (fuel : Nat) (ps : List Expr) (e : Expr) :
    c11LeafInst c04Classes c04IdentityTable c11Table fuel .termCollector ["parameters"]
      [.set (ps.map .expr)] [.expr e] = c11LiftE (collectM ps fuel e) := by
  rw [← c11CollectT_eq ps fuel e]
  simp only [c11LeafInst, c11CollectT, c11Table, List.zip_cons_cons, List.zip_nil_right, bind,
    Except.bind, pure, Except.pure]
  cases c11Mapper c04Classes c04IdentityTable c11Class_collector
    [("parameters", C11Val.set (ps.map .expr))] c11NoInst fuel e <;> rfl

structure C11IsDist (S : C11Self) (cfg : DistCfg) (fuel : Nat) : Prop where
  classes : S.classes = c04Classes
  ident : S.ident = c04IdentityTable
  cls : S.cls = c11Class_distributor
  attrs : S.selfAttrs = c11DistSelfAttrs cfg
  inst : S.applyInst = c11LeafInst c04Classes c04IdentityTable c11Table fuel

theorem c11_distributor_attrs (S : C11Self) (cfg : DistCfg) (fuel : Nat) (h : C11IsDist S cfg fuel)
    (d : Nat) : C11DistAttrs (c11CtxOf S fuel d) cfg fuel where
  coll := by show c11Get "collector" S.selfAttrs = _; rw [h.attrs]; rfl
  folder := by show c11Get "const_folder" S.selfAttrs = _; rw [h.attrs]; rfl
  applyFolder e := by show S.applyInst _ _ _ _ = _; rw [h.inst]; exact c11LeafInst_folder fuel e
  applyColl ps e := by
    show S.applyInst _ _ _ _ = _; rw [h.inst]; exact c11LeafInst_collector fuel ps e

theorem c11_distributor_ctx (S : C11Self) (cfg : DistCfg) (fuel : Nat) (h : C11IsDist S cfg fuel)
    (d : Nat) : C11DistCtx (c11CtxOf S fuel (d + 1)) (distCollect cfg fuel) where
  sup row e := by show c11IdentRow S.ident row S.recur e = _; rw [h.ident]; rfl
  collect e := by
    show c11CallSelf S fuel (d + 1) "collect" _ = _
    rw [c11CallSelf_own S fuel d _ _ "collect" "DistributeMapper" c11_DistributeMapper_collect
      (by rw [h.cls]; rfl)]
    exact c11_dist_collect _ cfg fuel fuel (c11_distributor_attrs S cfg fuel h d) e

theorem c11_distributor_step (cfg : DistCfg) (S : C11Self) (fuel : Nat) (h : C11IsDist S cfg fuel)
    (e : Expr) : c11Handle S fuel e = c11DistMStep cfg S.recur fuel e := by
  have hc := h.classes
  have hi := h.ident
  have hcls := h.cls
  have inh : ∀ n, c11HandlerOf e = .ok n → c11FindMethod n S.cls.methods = none →
      c11Handle S fuel e = idMap S.recur e := fun n hn hm =>
    c11Handle_inherited S hc hi fuel e n hn hm
  have plain : c11Overridden e = false → c11Handle S fuel e = idMap S.recur e :=
    c11Handle_plain S hc hi (by rw [hcls]; repeat constructor) fuel e
  have hctx := c11_distributor_ctx S cfg fuel h 2
  cases e with
  | nary o cs =>
    cases o with
    | sum =>
      rw [c11Handle_eq S hc hi]
      simp only [c11HandlerOf, c11Depth]
      rw [c11CallSelf_own S fuel 3 _ _ "map_sum" "DistributeMapper" c11_DistributeMapper_map_sum
        (by rw [hcls]; rfl), c11_dist_map_sum _ _ hctx]
      rfl
    | prod =>
      rw [c11Handle_eq S hc hi]
      simp only [c11HandlerOf, c11Depth]
      rw [c11CallSelf_own S fuel 3 _ _ "map_product" "DistributeMapper"
        c11_DistributeMapper_map_product (by rw [hcls]; rfl), c11_dist_map_product _ _ hctx,
        c11ToRw_liftE]
      show (do let r ← c11IdentRow c04IdentityTable "map_product" S.recur (.nary .prod cs)
               distLoop (distCollect cfg fuel) fuel r) = _
      rw [c11IdentRow_nary S.recur "map_product" .prod cs c11_row_map_product]
      simp only [idMap, c11DistMStep, bind, Except.bind]
      cases cs.mapM S.recur <;> rfl
    | _ => exact plain rfl
  | bin o a b =>
    cases o with
    | quot =>
      rw [c11Handle_eq S hc hi]
      simp only [c11HandlerOf, c11Depth]
      rw [c11CallSelf_own S fuel 3 _ _ "map_quotient" "DistributeMapper"
        c11_DistributeMapper_map_quotient (by rw [hcls]; rfl), c11_dist_map_quotient]
      rfl
    | pow =>
      rw [c11Handle_eq S hc hi]
      simp only [c11HandlerOf, c11Depth]
      rw [c11CallSelf_own S fuel 3 _ _ "map_power" "DistributeMapper"
        c11_DistributeMapper_map_power (by rw [hcls]; rfl),
        c11_dist_map_power _ _ hctx (c11MapProduct S.recur (distCollect cfg fuel) fuel)]
      · rfl
      · intro e
        show c11CallSelf S fuel 3 "map_product" _ = _
        rw [c11CallSelf_own S fuel 2 _ _ "map_product" "DistributeMapper"
          c11_DistributeMapper_map_product (by rw [hcls]; rfl),
          c11_dist_map_product _ _ (c11_distributor_ctx S cfg fuel h 1)]
        rfl
    | _ => exact plain rfl
  | cse c p s => exact inh _ rfl (by rw [hcls]; rfl)
  | _ => exact plain rfl

theorem c11DistT_eq (cfg : DistCfg) :
    ∀ (fuel : Nat) (e : Expr), c11DistT cfg fuel e = distM cfg fuel e
  | 0, _ => rfl
  | fuel + 1, e => by
    have ih : c11DistT cfg fuel = distM cfg fuel := funext (c11DistT_eq cfg fuel)
    unfold c11DistT at ih ⊢
    rw [c11Mapper, distM_succ, ← ih]
    exact c11_distributor_step cfg _ fuel ⟨rfl, rfl, rfl, rfl, rfl⟩ e
end PV
