import PV.Model.Unify
import PV.Proofs.PyEqEquiv
import PV.Proofs.WalkSpec
/-
  AC-equivalence of expression trees for C16: "equal up to reordering and regrouping of sums and
  products" as an inductive congruence `ACEq`, and the facts about the flatteners used as the
  `factory` of `map_commut_assoc`.
-/
namespace PV.Unify
open PV

/-- the two operators `map_commut_assoc` treats as commutative and associative -/
def isAC (o : NaryOp) : Prop := o = .sum ∨ o = .prod

instance (o : NaryOp) : Decidable (isAC o) := by unfold isAC; infer_instance

mutual
/-- **Equality up to reordering and regrouping of sums and products**: the least congruence that
contains Python equality (`py`), permutation of the operands of a sum / product (`perm`), merging a
nested application of the same operator into its parent (`flat`) and reading the application to a
single operand as that operand (`single`).  Nothing else is identified: no neutral elements are
dropped, other operators are not reordered, a 1-tuple index stays different from its element. -/
inductive ACEq : Expr → Expr → Prop
  | refl (a : Expr) : ACEq a a
  | py {a b : Expr} : a.pyEq b = true → ACEq a b
  | symm {a b : Expr} : ACEq a b → ACEq b a
  | trans {a b c : Expr} : ACEq a b → ACEq b c → ACEq a c
  | nary (o : NaryOp) {cs ds : List Expr} : ACEqL cs ds → ACEq (.nary o cs) (.nary o ds)
  | bin (o : BinOp) {a a' b b' : Expr} : ACEq a a' → ACEq b b' → ACEq (.bin o a b) (.bin o a' b')
  | un (o : UnOp) {a a' : Expr} : ACEq a a' → ACEq (.un o a) (.un o a')
  | cmp (o : CmpOp) {a a' b b' : Expr} : ACEq a a' → ACEq b b' → ACEq (.cmp o a b) (.cmp o a' b')
  | ite {c c' t t' e e' : Expr} : ACEq c c' → ACEq t t' → ACEq e e' →
      ACEq (.ite c t e) (.ite c' t' e')
  | call {f f' : Expr} {as as' : List Expr} : ACEq f f' → ACEqL as as' →
      ACEq (.call f as) (.call f' as')
  | subscript {a a' i i' : Expr} : ACEq a a' → ACEq i i' →
      ACEq (.subscript a i) (.subscript a' i')
  | lookup (n : String) {a a' : Expr} : ACEq a a' → ACEq (.lookup a n) (.lookup a' n)
  | tuple {cs ds : List Expr} : ACEqL cs ds → ACEq (.tuple cs) (.tuple ds)
  | callKw {f f' : Expr} {as as' : List Expr} (ns : List String) {vs vs' : List Expr} :
      ACEq f f' → ACEqL as as' → ACEqL vs vs' → ACEq (.callKw f as ns vs) (.callKw f' as' ns vs')
  | cse (p : Option String) (s : String) {a a' : Expr} : ACEq a a' → ACEq (.cse a p s) (.cse a' p s)
  | subst (vs : List String) {a a' : Expr} {xs xs' : List Expr} : ACEq a a' → ACEqL xs xs' →
      ACEq (.subst a vs xs) (.subst a' vs xs')
  | deriv (vs : List String) {a a' : Expr} : ACEq a a' → ACEq (.deriv a vs) (.deriv a' vs)
  | slice {cs ds : List Expr} : ACEqL cs ds → ACEq (.slice cs) (.slice ds)
  | list {cs ds : List Expr} : ACEqL cs ds → ACEq (.list cs) (.list ds)
  | perm {o : NaryOp} {cs ds : List Expr} : isAC o → cs.Perm ds → ACEq (.nary o cs) (.nary o ds)
  | flat {o : NaryOp} (xs ys zs : List Expr) : isAC o →
      ACEq (.nary o (xs ++ .nary o ys :: zs)) (.nary o (xs ++ ys ++ zs))
  | single {o : NaryOp} (a : Expr) : isAC o → ACEq (.nary o [a]) a
/-- operand lists related pointwise -/
inductive ACEqL : List Expr → List Expr → Prop
  | nil : ACEqL [] []
  | cons {a b : Expr} {as bs : List Expr} : ACEq a b → ACEqL as bs → ACEqL (a :: as) (b :: bs)
end

theorem ACEqL.refl : ∀ cs : List Expr, ACEqL cs cs
  | [] => .nil
  | c :: cs => .cons (.refl c) (ACEqL.refl cs)

theorem ACEqL.append : ∀ {as bs cs ds : List Expr}, ACEqL as bs → ACEqL cs ds →
    ACEqL (as ++ cs) (bs ++ ds)
  | _, _, _, _, .nil, h => h
  | _, _, _, _, .cons h t, h' => .cons h (ACEqL.append t h')

theorem ACEqL.map {α : Type} (f g : α → Expr) : ∀ (xs : List α),
    (∀ x ∈ xs, ACEq (f x) (g x)) → ACEqL (xs.map f) (xs.map g)
  | [], _ => .nil
  | x :: xs, h => .cons (h x (by simp)) (ACEqL.map f g xs (fun y hy => h y (by simp [hy])))

/-- several nested groups are merged at once -/
theorem ACEq.flatMany {o : NaryOp} (hac : isAC o) : ∀ (gs : List (List Expr)) (xs : List Expr),
    ACEq (.nary o (xs ++ gs.map (Expr.nary o))) (.nary o (xs ++ gs.flatten))
  | [], xs => by simpa using ACEq.refl _
  | g :: gs, xs => by
    have h1 : ACEq (.nary o (xs ++ Expr.nary o g :: gs.map (Expr.nary o)))
        (.nary o (xs ++ g ++ gs.map (Expr.nary o))) := ACEq.flat xs g _ hac
    have h2 := ACEq.flatMany hac gs (xs ++ g)
    simp only [List.map_cons, List.flatten_cons]
    rw [← List.append_assoc]
    exact h1.trans h2

/-! ### the flatteners only regroup when no operand is neutral -/

mutual
/-- number of queue steps one item causes in `flattened_sum` (`o = .sum`) / `flattened_product`;
it is at most the size of the item (`stepsO_le_size`), which is the fuel the model's loops are
given, so they never run out -/
def stepsO (o : NaryOp) : Expr → Nat
  | .nary o' cs => if o' = o then 1 + stepsOL o cs else 1
  | _ => 1
def stepsOL (o : NaryOp) : List Expr → Nat
  | [] => 0
  | c :: cs => stepsO o c + stepsOL o cs
end

theorem stepsOL_le_of (o : NaryOp) : ∀ (cs : List Expr), (∀ c ∈ cs, stepsO o c ≤ c.size) →
    stepsOL o cs ≤ Expr.sizeL cs
  | [], _ => by simp [stepsOL, Expr.sizeL]
  | c :: cs, h => by
    have h1 := h c (by simp)
    have h2 := stepsOL_le_of o cs (fun d hd => h d (by simp [hd]))
    simp only [stepsOL, Expr.sizeL]; omega

theorem stepsO_le_size (o : NaryOp) (e : Expr) : stepsO o e ≤ e.size := by
  induction e using Expr.induct with
  | h e ih =>
    cases e with
    | nary o' cs =>
      have := stepsOL_le_of o cs (fun c hc => ih c (by simpa [Expr.children] using hc))
      simp only [stepsO, Expr.size]; split <;> omega
    | _ => simp only [stepsO]; exact Expr.size_pos _

theorem stepsOL_le_sizeL (o : NaryOp) (cs : List Expr) : stepsOL o cs ≤ Expr.sizeL cs :=
  stepsOL_le_of o cs (fun c _ => stepsO_le_size o c)

theorem stepsOL_append (o : NaryOp) : ∀ (as bs : List Expr),
    stepsOL o (as ++ bs) = stepsOL o as + stepsOL o bs
  | [], bs => by simp [stepsOL]
  | a :: as, bs => by simp [stepsOL, stepsOL_append o as bs]; omega

theorem tgtGuardL_mem : ∀ {cs : List Expr}, tgtGuardL cs = true → ∀ c ∈ cs, tgtGuard c = true
  | [], _, c, hc => by simp at hc
  | d :: ds, h, c, hc => by
    simp only [tgtGuardL, Bool.and_eq_true] at h
    simp only [List.mem_cons] at hc
    rcases hc with rfl | hc
    · exact h.1
    · exact tgtGuardL_mem h.2 c hc

/-- what the queue of a flattener may contain: guarded items that are not neutral.  Zero is
excluded for both operators (`flattened_sum` drops it, in `flattened_product` a zero factor
collapses the product), one only for products (only `flattened_product` drops it). -/
def CleanQ (o : NaryOp) (q : List Expr) : Prop :=
  ∀ e ∈ q, e.isZero = false ∧ (o = .prod → e.isOne = false) ∧ tgtGuard e = true

theorem CleanQ.append {o : NaryOp} {p q : List Expr} (hp : CleanQ o p) (hq : CleanQ o q) :
    CleanQ o (p ++ q) := by
  intro e he
  rcases List.mem_append.1 he with h | h
  · exact hp e h
  · exact hq e h

theorem CleanQ.tail {o : NaryOp} {e : Expr} {q : List Expr} (h : CleanQ o (e :: q)) : CleanQ o q :=
  fun d hd => h d (by simp [hd])

/-- the operands of a guarded sum / product form a clean, non-empty queue -/
theorem cleanQ_of_guard {o : NaryOp} (hac : isAC o) {cs : List Expr}
    (h : tgtGuard (.nary o cs) = true) : cs ≠ [] ∧ CleanQ o cs := by
  have hac' : (o = .sum ∨ o = .prod) := hac
  simp only [tgtGuard, hac', if_true, Bool.and_eq_true, noUnitOperands, List.all_eq_true,
    Bool.not_eq_true', Bool.or_eq_true, bne_iff_ne, ne_eq, List.isEmpty_eq_false_iff] at h
  refine ⟨h.1.1, fun e he => ?_⟩
  have h1 := h.1.2 e he
  refine ⟨h1.1, fun ho => ?_, tgtGuardL_mem h.2 e he⟩
  rcases h1.2 with h2 | h2
  · exact absurd ho h2
  · exact h2

theorem sumLoop_ac : ∀ (fuel : Nat) (queue done : List Expr), CleanQ .sum queue →
    stepsOL .sum queue < fuel → (done ≠ [] ∨ queue ≠ []) →
    flattenedSumLoop fuel queue done ≠ [] ∧
      ACEq (.nary .sum (flattenedSumLoop fuel queue done)) (.nary .sum (done ++ queue))
  | 0, _, _, _, hf, _ => by omega
  | fuel + 1, [], done, _, _, hne => by
    simp only [flattenedSumLoop, List.append_nil]
    exact ⟨by simpa using hne, .refl _⟩
  | fuel + 1, item :: queue, done, hq, hf, _hne => by
    have hz : item.isZero = false := (hq item (by simp)).1
    have hg : tgtGuard item = true := (hq item (by simp)).2.2
    simp only [stepsOL] at hf
    unfold flattenedSumLoop
    simp only [hz, Bool.false_eq_true, if_false]
    split
    · rename_i cs
      have hcs := cleanQ_of_guard (Or.inl rfl) hg
      have hq' : CleanQ .sum (cs ++ queue) := hcs.2.append hq.tail
      have hf' : stepsOL .sum (cs ++ queue) < fuel := by
        rw [stepsOL_append]; simp only [stepsO, if_true] at hf; omega
      have ih := sumLoop_ac fuel (cs ++ queue) done hq' hf'
        (Or.inr (fun h => hcs.1 (List.append_eq_nil_iff.1 h).1))
      refine ⟨ih.1, ih.2.trans ?_⟩
      have h1 : ACEq (.nary .sum (done ++ Expr.nary .sum cs :: queue))
          (.nary .sum (done ++ cs ++ queue)) := ACEq.flat done cs queue (Or.inl rfl)
      rw [List.append_assoc] at h1
      exact h1.symm
    · have hf' : stepsOL .sum queue < fuel := by
        have : 1 ≤ stepsO .sum item := by
          cases item <;> simp only [stepsO] <;> (try split) <;> omega
        omega
      have ih := sumLoop_ac fuel queue (done ++ [item]) hq.tail hf' (Or.inl (by simp))
      refine ⟨ih.1, ?_⟩
      simpa using ih.2

theorem prodLoop_ac : ∀ (fuel : Nat) (queue done : List Expr), CleanQ .prod queue →
    stepsOL .prod queue < fuel → (done ≠ [] ∨ queue ≠ []) →
    ∃ res, flattenedProductLoop fuel queue done = some res ∧ res ≠ [] ∧
      ACEq (.nary .prod res) (.nary .prod (done ++ queue))
  | 0, _, _, _, hf, _ => by omega
  | fuel + 1, [], done, _, _, hne => by
    simp only [flattenedProductLoop, List.append_nil]
    exact ⟨done, rfl, by simpa using hne, .refl _⟩
  | fuel + 1, item :: queue, done, hq, hf, _hne => by
    have hz : item.isZero = false := (hq item (by simp)).1
    have ho : item.isOne = false := (hq item (by simp)).2.1 rfl
    have hg : tgtGuard item = true := (hq item (by simp)).2.2
    simp only [stepsOL] at hf
    unfold flattenedProductLoop
    simp only [hz, ho, Bool.false_eq_true, if_false]
    split
    · rename_i cs
      have hcs := cleanQ_of_guard (Or.inr rfl) hg
      have hq' : CleanQ .prod (cs ++ queue) := hcs.2.append hq.tail
      have hf' : stepsOL .prod (cs ++ queue) < fuel := by
        rw [stepsOL_append]; simp only [stepsO, if_true] at hf; omega
      obtain ⟨res, h1, h2, h3⟩ := prodLoop_ac fuel (cs ++ queue) done hq' hf'
        (Or.inr (fun h => hcs.1 (List.append_eq_nil_iff.1 h).1))
      refine ⟨res, h1, h2, h3.trans ?_⟩
      have h4 : ACEq (.nary .prod (done ++ Expr.nary .prod cs :: queue))
          (.nary .prod (done ++ cs ++ queue)) := ACEq.flat done cs queue (Or.inr rfl)
      rw [List.append_assoc] at h4
      exact h4.symm
    · have hf' : stepsOL .prod queue < fuel := by
        have : 1 ≤ stepsO .prod item := by
          cases item <;> simp only [stepsO] <;> (try split) <;> omega
        omega
      obtain ⟨res, h1, h2, h3⟩ :=
        prodLoop_ac fuel queue (done ++ [item]) hq.tail hf' (Or.inl (by simp))
      exact ⟨res, h1, h2, by simpa using h3⟩

/-- **The factory of `map_commut_assoc` only regroups** a non-empty share of guarded operands. -/
theorem factory_ac {o : NaryOp} (hac : isAC o) (items : List Expr) (hne : items ≠ [])
    (hq : CleanQ o items) : ACEq (factory o items) (.nary o items) := by
  have hfuel : ∀ o', stepsOL o' items < Expr.sizeL items + items.length + 1 := by
    intro o'; have := stepsOL_le_sizeL o' items; omega
  rcases hac with rfl | rfl
  · have h := sumLoop_ac _ items [] hq (hfuel _) (Or.inr hne)
    simp only [factory, flattenedSum]
    generalize flattenedSumLoop (Expr.sizeL items + items.length + 1) items [] = res at h
    match res, h with
    | [], h => exact absurd rfl h.1
    | [x], h => exact (ACEq.single x (Or.inl rfl)).symm.trans (by simpa using h.2)
    | x :: y :: r, h => simpa using h.2
  · obtain ⟨res, h1, h2, h3⟩ := prodLoop_ac _ items [] hq (hfuel _) (Or.inr hne)
    simp only [factory, flattenedProduct, h1]
    match res, h2, h3 with
    | [], h2, _ => exact absurd rfl h2
    | [x], _, h3 => exact (ACEq.single x (Or.inr rfl)).symm.trans (by simpa using h3)
    | x :: y :: r, _, h3 => simpa using h3

/-! ### the normal form is sound -/

theorem flattenOps_ac {o : NaryOp} (hac : isAC o) : ∀ (xs pre : List Expr),
    ACEq (.nary o (pre ++ xs)) (.nary o (pre ++ flattenOps o xs))
  | [], pre => by simp only [flattenOps]; exact .refl _
  | c :: rest, pre => by
    unfold flattenOps
    split
    · rename_i heq; simp at heq
    · rename_i o' ys rest' heq
      simp only [List.cons.injEq] at heq
      obtain ⟨rfl, rfl⟩ := heq
      split
      · rename_i ho; subst ho
        have h1 := ACEq.flat (o := o') pre ys rest hac
        have h2 := flattenOps_ac hac rest (pre ++ ys)
        simp only [List.append_assoc] at h1 h2 ⊢
        exact h1.trans h2
      · have h2 := flattenOps_ac hac rest (pre ++ [Expr.nary o' ys])
        simpa using h2
    · rename_i c' rest' _ heq
      simp only [List.cons.injEq] at heq
      obtain ⟨rfl, rfl⟩ := heq
      have h2 := flattenOps_ac hac rest (pre ++ [c])
      simpa using h2

theorem insertOp_perm (x : Expr) : ∀ ys : List Expr, (insertOp x ys).Perm (x :: ys)
  | [] => by simp [insertOp]
  | y :: ys => by
    simp only [insertOp]
    split
    · exact .refl _
    · exact ((insertOp_perm x ys).cons y).trans (List.Perm.swap x y ys)

theorem sortOps_perm : ∀ cs : List Expr, (sortOps cs).Perm cs
  | [] => by simp [sortOps]
  | c :: cs => by
    simp only [sortOps]
    exact (insertOp_perm c _).trans ((sortOps_perm cs).cons c)

theorem collapse1_ac {o : NaryOp} (hac : isAC o) (xs : List Expr) :
    ACEq (.nary o xs) (collapse1 o xs) := by
  unfold collapse1
  split
  · exact ACEq.single _ hac
  · exact .refl _

mutual
theorem acNorm_ac : ∀ e : Expr, ACEq e (acNorm e)
  | .const (.bool b) => by
      simp only [acNorm]
      refine .py ?_
      cases b <;> rfl
  | .const (.int _) => by simp only [acNorm]; exact .refl _
  | .const (.flt ..) => by simp only [acNorm]; exact .refl _
  | .const (.str _) => by simp only [acNorm]; exact .refl _
  | .const .none => by simp only [acNorm]; exact .refl _
  | .var _ => by simp only [acNorm]; exact .refl _
  | .nary o cs => by
      simp only [acNorm]
      have h1 : ACEq (.nary o cs) (.nary o (acNormL cs)) := .nary o (acNormL_ac cs)
      split
      · rename_i hac
        have h2 := flattenOps_ac (o := o) hac (acNormL cs) []
        simp only [List.nil_append] at h2
        have h3 : ACEq (.nary o (flattenOps o (acNormL cs)))
            (.nary o (sortOps (flattenOps o (acNormL cs)))) :=
          .perm hac (sortOps_perm _).symm
        exact h1.trans (h2.trans (h3.trans (collapse1_ac hac _)))
      · exact h1
  | .bin o a b => by simp only [acNorm]; exact .bin o (acNorm_ac a) (acNorm_ac b)
  | .un o a => by simp only [acNorm]; exact .un o (acNorm_ac a)
  | .cmp o a b => by simp only [acNorm]; exact .cmp o (acNorm_ac a) (acNorm_ac b)
  | .ite c t e => by simp only [acNorm]; exact .ite (acNorm_ac c) (acNorm_ac t) (acNorm_ac e)
  | .call f as => by simp only [acNorm]; exact .call (acNorm_ac f) (acNormL_ac as)
  | .subscript a i => by simp only [acNorm]; exact .subscript (acNorm_ac a) (acNorm_ac i)
  | .lookup a n => by simp only [acNorm]; exact .lookup n (acNorm_ac a)
  | .tuple cs => by simp only [acNorm]; exact .tuple (acNormL_ac cs)
  | .callKw .. => by simp only [acNorm]; exact .refl _
  | .cse .. => by simp only [acNorm]; exact .refl _
  | .subst .. => by simp only [acNorm]; exact .refl _
  | .deriv .. => by simp only [acNorm]; exact .refl _
  | .slice .. => by simp only [acNorm]; exact .refl _
  | .nan => by simp only [acNorm]; exact .refl _
  | .wildcard => by simp only [acNorm]; exact .refl _
  | .dotWild .. => by simp only [acNorm]; exact .refl _
  | .starWild .. => by simp only [acNorm]; exact .refl _
  | .funcSym => by simp only [acNorm]; exact .refl _
  | .list .. => by simp only [acNorm]; exact .refl _
theorem acNormL_ac : ∀ cs : List Expr, ACEqL cs (acNormL cs)
  | [] => by simp only [acNormL]; exact .nil
  | c :: cs => by simp only [acNormL]; exact .cons (acNorm_ac c) (acNormL_ac cs)
end

end PV.Unify
