import PV.Proofs.MatchpyBridge
/-
  C16, matchpy bridge: the conversion round trip `fromM (toM e)` returns `e` up to `BridgeEq`
  (operand order of the operators declared commutative, merging of nested applications of an
  operator declared associative, every subscript index written as a tuple).
-/
namespace PV.Matchpy
open PV

mutual
/-- does the tree contain a dot / star wildcard (they convert to matchpy wildcards, which have no
way back) — only the node types that convert are descended into -/
def hasWild : Expr → Bool
  | .dotWild _ => true
  | .starWild _ => true
  | .nary _ cs => hasWildL cs
  | .bin _ a b => hasWild a || hasWild b
  | .un _ a => hasWild a
  | .cmp _ a b => hasWild a || hasWild b
  | .ite c t e => hasWild c || hasWild t || hasWild e
  | .call f as => hasWild f || hasWildL as
  | .subscript a i => hasWild a || hasWild i
  | .tuple cs => hasWildL cs
  | _ => false
def hasWildL : List Expr → Bool
  | [] => false
  | c :: cs => hasWild c || hasWildL cs
end

/-- the n-ary operators the bridge declares commutative and associative -/
def bridgeAC (o : NaryOp) : Prop := (mopOfNary o).isSome = true

instance (o : NaryOp) : Decidable (bridgeAC o) := by unfold bridgeAC; infer_instance

mutual
/-- **what the round trip may change** (the parenthesis of the property, plus the flattening that
matchpy itself performs): the least congruence on the convertible node types containing
permutation of the operands of an operator the bridge declares commutative (`perm`), merging a
nested application of an operator it declares associative into its parent (`flat`), and writing a
non-tuple subscript index as a 1-tuple (`index`) -/
inductive BridgeEq : Expr → Expr → Prop
  | refl (a : Expr) : BridgeEq a a
  | symm {a b : Expr} : BridgeEq a b → BridgeEq b a
  | trans {a b c : Expr} : BridgeEq a b → BridgeEq b c → BridgeEq a c
  | nary (o : NaryOp) {cs ds : List Expr} : BridgeEqL cs ds → BridgeEq (.nary o cs) (.nary o ds)
  | bin (o : BinOp) {a a' b b' : Expr} : BridgeEq a a' → BridgeEq b b' →
      BridgeEq (.bin o a b) (.bin o a' b')
  | un (o : UnOp) {a a' : Expr} : BridgeEq a a' → BridgeEq (.un o a) (.un o a')
  | cmp (o : CmpOp) {a a' b b' : Expr} : BridgeEq a a' → BridgeEq b b' →
      BridgeEq (.cmp o a b) (.cmp o a' b')
  | ite {c c' t t' e e' : Expr} : BridgeEq c c' → BridgeEq t t' → BridgeEq e e' →
      BridgeEq (.ite c t e) (.ite c' t' e')
  | call {f f' : Expr} {as as' : List Expr} : BridgeEq f f' → BridgeEqL as as' →
      BridgeEq (.call f as) (.call f' as')
  | subscript {a a' i i' : Expr} : BridgeEq a a' → BridgeEq i i' →
      BridgeEq (.subscript a i) (.subscript a' i')
  | tuple {cs ds : List Expr} : BridgeEqL cs ds → BridgeEq (.tuple cs) (.tuple ds)
  | perm {o : NaryOp} {cs ds : List Expr} : bridgeAC o → cs.Perm ds →
      BridgeEq (.nary o cs) (.nary o ds)
  | flat {o : NaryOp} (xs ys zs : List Expr) : bridgeAC o →
      BridgeEq (.nary o (xs ++ .nary o ys :: zs)) (.nary o (xs ++ ys ++ zs))
  | index (a i : Expr) : (∀ cs, i ≠ .tuple cs) →
      BridgeEq (.subscript a i) (.subscript a (.tuple [i]))
/-- operand lists related pointwise -/
inductive BridgeEqL : List Expr → List Expr → Prop
  | nil : BridgeEqL [] []
  | cons {a b : Expr} {as bs : List Expr} : BridgeEq a b → BridgeEqL as bs →
      BridgeEqL (a :: as) (b :: bs)
end

theorem BridgeEqL.refl : ∀ cs : List Expr, BridgeEqL cs cs
  | [] => .nil
  | c :: cs => .cons (.refl c) (BridgeEqL.refl cs)

theorem MR.bind_ok {α β : Type} {x : MR α} {f : α → MR β} {r : β} (h : (x >>= f) = .ok r) :
    ∃ a, x = .ok a ∧ f a = .ok r := by
  cases x with
  | error e => simp [bind, Except.bind] at h
  | ok a => exact ⟨a, rfl, by simpa [bind, Except.bind] using h⟩

theorem MR.pure_ok {α : Type} {a r : α} (h : (pure a : MR α) = .ok r) : a = r := by
  simpa [pure, Except.pure] using h

/-! ### flattening on both sides -/

theorem fromML_flatten {mo : MOp} {o : NaryOp} (hn : mo.nary? = some o) :
    ∀ {ts : List MTerm} {es : List Expr}, fromML ts = .ok es →
      ∃ es2, fromML (flattenOps mo ts) = .ok es2 ∧
        ∀ pre, BridgeEq (.nary o (pre ++ es)) (.nary o (pre ++ es2))
  | [], es, h => ⟨es, by simpa [flattenOps] using h, fun _ => .refl _⟩
  | t :: ts, es, h => by
    obtain ⟨e, es', rfl, ht, hts⟩ := fromML_cons h
    obtain ⟨es2', h2, hrel⟩ := fromML_flatten hn hts
    have keep : fromML (t :: flattenOps mo ts) = .ok (e :: es2') ∧
        ∀ pre, BridgeEq (.nary o (pre ++ e :: es')) (.nary o (pre ++ e :: es2')) := by
      refine ⟨fromML_cons_ok ht h2, fun pre => ?_⟩
      have := hrel (pre ++ [e])
      simpa [List.append_assoc] using this
    cases t with
    | op o' as vn =>
      by_cases ho : o' = mo
      · subst ho
        rw [fromM_ac hn] at ht
        cases hl : fromML as with
        | error err => simp [hl, Except.map] at ht
        | ok as' =>
          simp [hl, Except.map] at ht
          subst ht
          refine ⟨as' ++ es2', ?_, fun pre => ?_⟩
          · simp only [flattenOps, beq_self_eq_true, if_true]
            exact fromML_append hl h2
          · have h1 : BridgeEq (.nary o (pre ++ .nary o as' :: es')) (.nary o (pre ++ as' ++ es')) :=
              .flat pre as' es' (by simp [bridgeAC, nary?_mopOfNary hn])
            have h3 := hrel (pre ++ as')
            exact h1.trans (by simpa [List.append_assoc] using h3)
      · refine ⟨e :: es2', ?_, keep.2⟩
        have : (o' == mo) = false := by simpa using ho
        simp only [flattenOps, this, Bool.false_eq_true, if_false]
        exact keep.1
    | scalar c vn => exact ⟨e :: es2', by simpa [flattenOps] using keep.1, keep.2⟩
    | id s vn => exact ⟨e :: es2', by simpa [flattenOps] using keep.1, keep.2⟩
    | cmpOp s vn => exact ⟨e :: es2', by simpa [flattenOps] using keep.1, keep.2⟩
    | wild k n => exact ⟨e :: es2', by simpa [flattenOps] using keep.1, keep.2⟩

/-! ### the round trip -/

theorem cmp_ofSym_sym (o : CmpOp) : CmpOp.ofSym? o.sym = some o := by cases o <;> rfl

theorem Expr.sizeL_mem {c : Expr} {cs : List Expr} (h : c ∈ cs) : c.size ≤ Expr.sizeL cs :=
  PV.Expr.size_le_sizeL h

/-- round trip of trees and of operand lists, by induction on the size -/
theorem roundtrip_aux : ∀ n : Nat,
    (∀ e : Expr, e.size ≤ n → ∀ t, toM e = .ok t → hasWild e = false →
      ∃ e', fromM t = .ok e' ∧ BridgeEq e e') ∧
    (∀ es : List Expr, Expr.sizeL es ≤ n → ∀ ts, toML es = .ok ts → hasWildL es = false →
      ∃ es', fromML ts = .ok es' ∧ BridgeEqL es es') := by
  intro n
  induction n with
  | zero =>
    refine ⟨fun e he => ?_, fun es hes ts h _ => ?_⟩
    · have := e.size_pos; omega
    · cases es with
      | nil =>
        simp [toML, pure, Except.pure] at h; subst h
        exact ⟨[], rfl, .nil⟩
      | cons c cs =>
        have := c.size; simp [Expr.sizeL] at hes
        have := c.size_pos; omega
  | succ n ih =>
    obtain ⟨ihE, ihL⟩ := ih
    have listCase : ∀ es : List Expr, Expr.sizeL es ≤ n + 1 → ∀ ts, toML es = .ok ts →
        hasWildL es = false → (∀ c ∈ es, c.size ≤ n + 1 → ∀ t, toM c = .ok t → hasWild c = false →
          ∃ e', fromM t = .ok e' ∧ BridgeEq c e') →
        ∃ es', fromML ts = .ok es' ∧ BridgeEqL es es' := by
      intro es
      induction es with
      | nil =>
        intro _ ts h _ _
        simp [toML, pure, Except.pure] at h; subst h
        exact ⟨[], rfl, .nil⟩
      | cons c cs ihcs =>
        intro hs ts h hw hel
        simp only [toML] at h
        obtain ⟨c', hc, h⟩ := MR.bind_ok h
        obtain ⟨cs', hcs, h⟩ := MR.bind_ok h
        have := MR.pure_ok h; subst this
        simp only [hasWildL, Bool.or_eq_false_iff] at hw
        simp only [Expr.sizeL] at hs
        obtain ⟨e', he', hrel⟩ := hel c (by simp) (by omega) c' hc hw.1
        obtain ⟨es', hes', hrels⟩ := ihcs (by omega) cs' hcs hw.2
          (fun d hd => hel d (by simp [hd]))
        exact ⟨e' :: es', fromML_cons_ok he' hes', .cons hrel hrels⟩
    have treeCase : ∀ e : Expr, e.size ≤ n + 1 → ∀ t, toM e = .ok t → hasWild e = false →
        ∃ e', fromM t = .ok e' ∧ BridgeEq e e' := by
      intro e he t h hw
      cases e with
      | const c =>
        cases c <;> simp [toM, pure, Except.pure, throw, throwThe, MonadExceptOf.throw] at h <;>
          subst h <;> exact ⟨_, rfl, .refl _⟩
      | var x =>
        simp [toM, pure, Except.pure] at h; subst h
        exact ⟨.var x, by rw [mk_plain (by rfl)]; rfl, .refl _⟩
      | nary o cs =>
        simp only [toM] at h
        cases hm : mopOfNary o with
        | none => simp [hm, throw, throwThe, MonadExceptOf.throw] at h
        | some mo =>
          simp only [hm] at h
          obtain ⟨ts, hts, h⟩ := MR.bind_ok h
          have := MR.pure_ok h; subst this
          simp only [hasWild] at hw
          simp only [Expr.size] at he
          obtain ⟨es, hes, hrel⟩ := ihL cs (by omega) ts hts hw
          have hac := mopOfNary_isAC hm
          have hn := mopOfNary_nary? hm
          obtain ⟨es2, hfl, hrel2⟩ := fromML_flatten hn hes
          obtain ⟨es3, hs, hp⟩ := fromML_perm (pySort_perm MTerm.lt (flattenOps mo ts)).symm hfl
          refine ⟨.nary o es3, ?_, ?_⟩
          · rw [mk_ac hac, fromM_ac hn, hs]; rfl
          · have h2 := hrel2 []
            simp only [List.nil_append] at h2
            exact ((BridgeEq.nary o hrel).trans h2).trans (.perm (by simp [bridgeAC, hm]) hp)
      | bin o a b =>
        simp only [toM] at h
        obtain ⟨a', ha, h⟩ := MR.bind_ok h
        obtain ⟨b', hb, h⟩ := MR.bind_ok h
        have := MR.pure_ok h; subst this
        simp only [hasWild, Bool.or_eq_false_iff] at hw
        simp only [Expr.size] at he
        obtain ⟨ea, hfa, hea⟩ := ihE a (by omega) a' ha hw.1
        obtain ⟨eb, hfb, heb⟩ := ihE b (by omega) b' hb hw.2
        refine ⟨.bin o ea eb, ?_, .bin o hea heb⟩
        cases o <;> rw [mk_plain (by rfl)] <;>
          simp [mopOfBin, fromM, hfa, hfb, bind, Except.bind, pure, Except.pure]
      | un o a =>
        simp only [toM] at h
        obtain ⟨a', ha, h⟩ := MR.bind_ok h
        have := MR.pure_ok h; subst this
        simp only [hasWild] at hw
        simp only [Expr.size] at he
        obtain ⟨ea, hfa, hea⟩ := ihE a (by omega) a' ha hw
        refine ⟨.un o ea, ?_, .un o hea⟩
        cases o <;> rw [mk_plain (by rfl)] <;>
          simp [mopOfUn, fromM, hfa, bind, Except.bind, pure, Except.pure]
      | cmp o a b =>
        simp only [toM] at h
        obtain ⟨a', ha, h⟩ := MR.bind_ok h
        obtain ⟨b', hb, h⟩ := MR.bind_ok h
        have := MR.pure_ok h; subst this
        simp only [hasWild, Bool.or_eq_false_iff] at hw
        simp only [Expr.size] at he
        obtain ⟨ea, hfa, hea⟩ := ihE a (by omega) a' ha hw.1
        obtain ⟨eb, hfb, heb⟩ := ihE b (by omega) b' hb hw.2
        refine ⟨.cmp o ea eb, ?_, .cmp o hea heb⟩
        rw [mk_plain (by rfl)]
        simp [fromM, hfa, hfb, cmp_ofSym_sym, bind, Except.bind, pure, Except.pure]
      | ite c x y =>
        simp only [toM] at h
        obtain ⟨c', hc, h⟩ := MR.bind_ok h
        obtain ⟨x', hx, h⟩ := MR.bind_ok h
        obtain ⟨y', hy, h⟩ := MR.bind_ok h
        have := MR.pure_ok h; subst this
        simp only [hasWild, Bool.or_eq_false_iff] at hw
        simp only [Expr.size] at he
        obtain ⟨ec, hfc, hec⟩ := ihE c (by omega) c' hc hw.1.1
        obtain ⟨ex, hfx, hex⟩ := ihE x (by omega) x' hx hw.1.2
        obtain ⟨ey, hfy, hey⟩ := ihE y (by omega) y' hy hw.2
        refine ⟨.ite ec ex ey, ?_, .ite hec hex hey⟩
        rw [mk_plain (by rfl)]
        simp [fromM, hfc, hfx, hfy, bind, Except.bind, pure, Except.pure]
      | call f as =>
        simp only [toM] at h
        obtain ⟨f', hf, h⟩ := MR.bind_ok h
        obtain ⟨as', has, h⟩ := MR.bind_ok h
        have := MR.pure_ok h; subst this
        simp only [hasWild, Bool.or_eq_false_iff] at hw
        simp only [Expr.size] at he
        obtain ⟨ef, hff, hef⟩ := ihE f (by omega) f' hf hw.1
        obtain ⟨eas, hfas, heas⟩ := ihL as (by omega) as' has hw.2
        refine ⟨.call ef eas, ?_, .call hef heas⟩
        rw [mk_plain (by rfl), mk_plain (by rfl)]
        simp [fromM, hff, hfas, bind, Except.bind, pure, Except.pure]
      | subscript a i =>
        simp only [hasWild, Bool.or_eq_false_iff] at hw
        simp only [Expr.size] at he
        by_cases hi : ∃ cs, i = .tuple cs
        · obtain ⟨cs, rfl⟩ := hi
          simp only [toM] at h
          obtain ⟨a', ha, h⟩ := MR.bind_ok h
          obtain ⟨is', his, h⟩ := MR.bind_ok h
          have := MR.pure_ok h; subst this
          simp only [Expr.size] at he
          simp only [hasWild] at hw
          obtain ⟨ea, hfa, hea⟩ := ihE a (by omega) a' ha hw.1
          obtain ⟨eis, hfis, heis⟩ := ihL cs (by omega) is' his hw.2
          refine ⟨.subscript ea (.tuple eis), ?_, .subscript hea (.tuple heis)⟩
          rw [mk_plain (by rfl), mk_plain (by rfl)]
          simp [fromM, hfa, hfis, bind, Except.bind, pure, Except.pure]
        · have hi' : ∀ cs, i ≠ .tuple cs := fun cs hc => hi ⟨cs, hc⟩
          have hto := toM_subscript_of_not_tuple (a := a) hi'
          rw [hto] at h
          obtain ⟨a', ha, h⟩ := MR.bind_ok h
          obtain ⟨i', hi2, h⟩ := MR.bind_ok h
          have := MR.pure_ok h; subst this
          obtain ⟨ea, hfa, hea⟩ := ihE a (by omega) a' ha hw.1
          obtain ⟨ei, hfi, hei⟩ := ihE i (by omega) i' hi2 hw.2
          refine ⟨.subscript ea (.tuple [ei]), ?_, ?_⟩
          · rw [mk_plain (by rfl), mk_plain (by rfl)]
            simp [fromM, fromML, hfa, hfi, bind, Except.bind, pure, Except.pure]
          · exact (BridgeEq.index a i hi').trans
              (.subscript hea (.tuple (.cons hei .nil)))
      | dotWild s => simp [hasWild] at hw
      | starWild s => simp [hasWild] at hw
      | _ => simp [toM, throw, throwThe, MonadExceptOf.throw] at h
    exact ⟨treeCase, fun es hes ts h hw =>
      listCase es hes ts h hw (fun c _ hc => treeCase c hc)⟩

end PV.Matchpy
