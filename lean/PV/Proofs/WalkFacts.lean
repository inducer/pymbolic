import PV.Proofs.WalkSpec
import PV.Proofs.WalkIdentity
/-
  C04 — consequences of the walk specification: node occurrences, pre/post order, arguments.
-/
namespace PV

theorem flatMap_congr_mem {α β : Type} {l : List α} {f g : α → List β}
    (h : ∀ a ∈ l, f a = g a) : l.flatMap f = l.flatMap g := by
  rw [List.flatMap_def, List.flatMap_def, List.map_congr_left h]

/-- number of node occurrences the walk reaches: the node and, recursively, its walk children -/
def walkCount (e : Expr) : Nat :=
  1 + ((walkChildren e).attach.map (fun ⟨c, _⟩ => walkCount c)).sum
termination_by e.size
decreasing_by exact walkChildren_size_lt ‹_›

theorem walkCount_eq (e : Expr) : walkCount e = 1 + ((walkChildren e).map walkCount).sum := by
  rw [walkCount]; simp [List.map_subtype, List.unattach_attach]

/-- the node occurrences in pre-order (node before its children) -/
def preorder (e : Expr) : List Expr :=
  e :: (walkChildren e).attach.flatMap (fun ⟨c, _⟩ => preorder c)
termination_by e.size
decreasing_by exact walkChildren_size_lt ‹_›

theorem preorder_eq (e : Expr) : preorder e = e :: (walkChildren e).flatMap preorder := by
  rw [preorder]; simp [List.flatMap_subtype, List.unattach_attach]

/-- the node occurrences in post-order (node after its children) -/
def postorder (e : Expr) : List Expr :=
  (walkChildren e).attach.flatMap (fun ⟨c, _⟩ => postorder c) ++ [e]
termination_by e.size
decreasing_by exact walkChildren_size_lt ‹_›

theorem postorder_eq (e : Expr) : postorder e = (walkChildren e).flatMap postorder ++ [e] := by
  rw [postorder]; simp [List.flatMap_subtype, List.unattach_attach]

theorem preorder_length (e : Expr) : (preorder e).length = walkCount e := by
  induction e using walkChildren_induct with
  | step e ih =>
    rw [preorder_eq, walkCount_eq, List.length_cons, List.length_flatMap,
      List.map_congr_left (g := walkCount) ih]; omega

theorem postorder_length (e : Expr) : (postorder e).length = walkCount e := by
  induction e using walkChildren_induct with
  | step e ih =>
    rw [postorder_eq, walkCount_eq, List.length_append, List.length_flatMap,
      List.map_congr_left (g := walkCount) ih]; simp; omega

/-- with a `visit` that never returns `False` the trace is visit, children, post_visit — leaves
included (they have no children) -/
theorem walkSpec_nil (args : Bool) (e : Expr) :
    walkSpec [] args e =
      ⟨false, e, args⟩ :: ((walkChildren e).flatMap (walkSpec [] args) ++ [⟨true, e, args⟩]) := by
  cases h : e.isLeafNode with
  | true => rw [walkSpec_leaf _ _ h, walkChildren_nil_of_leaf h]; rfl
  | false => rw [walkSpec_node _ _ h]; simp

theorem walkSpec_args (skip : List String) (args : Bool) (e : Expr) :
    ∀ ev ∈ walkSpec skip args e, ev.args = args := by
  induction e using walkChildren_induct with
  | step e ih =>
    intro ev hev
    cases h : e.isLeafNode with
    | true =>
      rw [walkSpec_leaf _ _ h] at hev
      simp only [List.mem_cons, List.not_mem_nil, or_false] at hev
      rcases hev with rfl | rfl <;> rfl
    | false =>
      rw [walkSpec_node _ _ h] at hev
      split at hev
      · simp only [List.mem_cons, List.not_mem_nil, or_false] at hev
        subst hev; rfl
      · simp only [List.mem_cons, List.mem_append, List.mem_flatMap, List.not_mem_nil,
          or_false] at hev
        rcases hev with rfl | ⟨c, hc, hev⟩ | rfl
        · rfl
        · exact ih c hc ev hev
        · rfl

theorem walkSpec_visit_nodes (args : Bool) (e : Expr) :
    ((walkSpec [] args e).filter (fun ev => !ev.post)).map (·.node) = preorder e := by
  induction e using walkChildren_induct with
  | step e ih =>
    rw [walkSpec_nil, preorder_eq]
    simp only [List.filter_cons, List.filter_append, List.filter_flatMap, List.map_cons,
      List.map_flatMap, Bool.not_false, Bool.not_true, if_true,
      Bool.false_eq_true, if_false, List.filter_nil, List.append_nil]
    rw [flatMap_congr_mem ih]

theorem walkSpec_post_nodes (args : Bool) (e : Expr) :
    ((walkSpec [] args e).filter (fun ev => ev.post)).map (·.node) = postorder e := by
  induction e using walkChildren_induct with
  | step e ih =>
    rw [walkSpec_nil, postorder_eq]
    simp only [List.filter_cons, List.filter_append, List.filter_flatMap, List.map_cons,
      List.map_append, List.map_flatMap, if_true,
      Bool.false_eq_true, if_false, List.filter_nil, List.map_nil]
    rw [flatMap_congr_mem ih]

/-! ### node occurrences reached = all nodes, unless a slice has `None` parts -/

theorem Expr.sizeL_eq_sum : ∀ cs : List Expr, Expr.sizeL cs = (cs.map Expr.size).sum
  | [] => rfl
  | c :: cs => by simp [Expr.sizeL, Expr.sizeL_eq_sum cs]

theorem Expr.size_eq_children (e : Expr) : e.size = 1 + (e.children.map Expr.size).sum := by
  rw [e.size_eq_sizeL_children, Expr.sizeL_eq_sum]

/-- no slice below `e` has a `None` part -/
def NoNoneParts (e : Expr) : Prop :=
  ∀ cs, Subterm (.slice cs) e → ∀ c ∈ cs, c.isNoneConst = false

theorem walkChildren_sum {e : Expr} (h : NoNoneParts e) (f : Expr → Nat) :
    ((walkChildren e).map f).sum = (e.children.map f).sum := by
  cases e with
  | bin o a b => cases o <;> simp [walkChildren, BinOp.isShift, Expr.children] <;> omega
  | slice cs =>
    have : cs.filter (fun c => !c.isNoneConst) = cs :=
      List.filter_eq_self.2 (fun c hc => by simp [h cs (.refl _) c hc])
    simp [walkChildren, Expr.children, this]
  | _ => rfl

theorem walkCount_eq_size (e : Expr) (h : NoNoneParts e) : walkCount e = e.size := by
  induction e using walkChildren_induct with
  | step e ih =>
    have ih' : ∀ c ∈ walkChildren e, walkCount c = c.size := fun c hc =>
      ih c hc (fun cs hs => h cs (hs.trans (.child (mem_children_of_mem_walkChildren hc))))
    rw [walkCount_eq, List.map_congr_left ih', walkChildren_sum h, ← Expr.size_eq_children]

/-- every element succeeds ⇒ `mapM` succeeds with the list of results -/
theorem mapM_ok_of_mem {α β : Type} {f : α → Except DepErr β} (g : α → β) :
    ∀ l : List α, (∀ a ∈ l, f a = .ok (g a)) → l.mapM f = .ok (l.map g)
  | [], _ => rfl
  | a :: l, h => by
      rw [List.mapM_cons, h a (by simp), mapM_ok_of_mem g l (fun b hb => h b (by simp [hb]))]
      rfl

def sliceHasNoNonePart : Expr → Bool
  | .slice cs => cs.all (fun c => !c.isNoneConst)
  | _ => true

theorem noNoneParts_of_check {e : Expr} (h : allSub sliceHasNoNonePart e = true) :
    NoNoneParts e := by
  intro cs ht c hc
  have := allSub_sound h _ ht
  simp only [sliceHasNoNonePart, List.all_eq_true] at this
  simpa using this c hc

/-- a tree without any string / `None` constant satisfies the walk's side condition -/
theorem walkOK_of_clean (skip : List String) (e : Expr)
    (h : ∀ t, Subterm t e → t.isRejectedConst = false) : walkOK skip e = true := by
  induction e using walkChildren_induct with
  | step e ih =>
    have hall : (walkChildren e).all (walkOK skip) = true :=
      List.all_eq_true.2 (fun c hc => ih c hc (fun t ht =>
        h t (ht.trans (.child (mem_children_of_mem_walkChildren hc)))))
    rw [walkOK_eq, h e (.refl e), hall]; simp
end PV
