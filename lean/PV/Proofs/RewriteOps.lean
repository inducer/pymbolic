import PV.Proofs.RewriteFold
/-
  C11, part 6: the overloaded operators `+`, `*`, `**` (as used inside `TermCollector` and
  `DistributeMapper`: `pyAdd`, `pyMul`, `pyPow`) build trees with the expected value in any field.
  (The corresponding lemmas of C03, `PV/Proofs/OpsRing.lean`, are about the smaller non-commutative
  fragment `evalRing`; quotients, powers and CSE wrappers are opaque operands here.)
-/
namespace PV

universe u
variable {K : Type u} [Field K] [DecidableEq K]

section
variable (ρ : String → K)

theorem evalK_sum_pair {x y : Expr} {a b : K} (hx : evalK ρ x = some a) (hy : evalK ρ y = some b) :
    evalK ρ (.nary .sum [x, y]) = some (a + b) := by
  rw [evalK_sum, evalKL_cons_mk ρ hx (evalKL_singleton ρ hy)]; simp

theorem evalK_prod_pair {x y : Expr} {a b : K} (hx : evalK ρ x = some a) (hy : evalK ρ y = some b) :
    evalK ρ (.nary .prod [x, y]) = some (a * b) := by
  rw [evalK_prod, evalKL_cons_mk ρ hx (evalKL_singleton ρ hy)]; simp

theorem evalK_sum_cons {x : Expr} {cs : List Expr} {a b : K} (hx : evalK ρ x = some a)
    (hy : evalK ρ (.nary .sum cs) = some b) : evalK ρ (.nary .sum (x :: cs)) = some (a + b) := by
  rw [evalK_sum] at hy ⊢; rw [evalKL_cons_mk ρ hx hy]; simp

theorem evalK_prod_cons {x : Expr} {cs : List Expr} {a b : K} (hx : evalK ρ x = some a)
    (hy : evalK ρ (.nary .prod cs) = some b) : evalK ρ (.nary .prod (x :: cs)) = some (a * b) := by
  rw [evalK_prod] at hy ⊢; rw [evalKL_cons_mk ρ hx hy]; simp

theorem evalK_sum_append {cs ds : List Expr} {a b : K} (hx : evalK ρ (.nary .sum cs) = some a)
    (hy : evalK ρ (.nary .sum ds) = some b) : evalK ρ (.nary .sum (cs ++ ds)) = some (a + b) := by
  rw [evalK_sum] at hx hy ⊢; rw [evalKL_append_mk ρ hx hy]; simp

theorem evalK_prod_append {cs ds : List Expr} {a b : K} (hx : evalK ρ (.nary .prod cs) = some a)
    (hy : evalK ρ (.nary .prod ds) = some b) : evalK ρ (.nary .prod (cs ++ ds)) = some (a * b) := by
  rw [evalK_prod] at hx hy ⊢; rw [evalKL_append_mk ρ hx hy]; simp

theorem evalK_sum_snoc {cs : List Expr} {y : Expr} {a b : K} (hx : evalK ρ (.nary .sum cs) = some a)
    (hy : evalK ρ y = some b) : evalK ρ (.nary .sum (cs ++ [y])) = some (a + b) := by
  rw [evalK_sum] at hx ⊢; rw [evalKL_append_mk ρ hx (evalKL_singleton ρ hy)]; simp

theorem evalK_prod_snoc {cs : List Expr} {y : Expr} {a b : K}
    (hx : evalK ρ (.nary .prod cs) = some a) (hy : evalK ρ y = some b) :
    evalK ρ (.nary .prod (cs ++ [y])) = some (a * b) := by
  rw [evalK_prod] at hx ⊢; rw [evalKL_append_mk ρ hx (evalKL_singleton ρ hy)]; simp

theorem rmulD_K {self other t : Expr} {a b : K} (h : rmulD self other = .ret t)
    (hs : evalK ρ self = some a) (ho : evalK ρ other = some b) : evalK ρ t = some (b * a) := by
  unfold rmulD at h
  split at h
  · contradiction
  · split at h
    · split at h
      · injection h with h; subst h
        rw [isZero_K ρ ‹_› ho, zero_mul]; exact evalK_zero ρ
      · split at h
        · injection h with h; subst h
          rw [isOne_K ρ ‹_› ho, one_mul]; exact hs
        · injection h with h; subst h
          exact evalK_prod_cons ρ ho hs
    · split at h
      · injection h with h; subst h
        rw [isOne_K ρ ‹_› ho, one_mul]; exact hs
      · split at h
        · injection h with h; subst h
          rw [isZero_K ρ ‹_› ho, zero_mul]; exact evalK_zero ρ
        · injection h with h; subst h
          exact evalK_prod_pair ρ ho hs

theorem mulD_K {self other t : Expr} {a b : K} (h : mulD self other = .ret t)
    (hs : evalK ρ self = some a) (ho : evalK ρ other = some b) : evalK ρ t = some (a * b) := by
  unfold mulD at h
  split at h
  · contradiction
  · split at h
    · split at h
      · injection h with h; subst h
        exact evalK_prod_append ρ hs ho
      · split at h
        · injection h with h; subst h
          rw [isZero_K ρ ‹_› ho, mul_zero]; exact evalK_zero ρ
        · split at h
          · injection h with h; subst h
            rw [isOne_K ρ ‹_› ho, mul_one]; exact hs
          · injection h with h; subst h
            exact evalK_prod_snoc ρ hs ho
    · split at h
      · injection h with h; subst h
        rw [isOne_K ρ ‹_› ho, mul_one]; exact hs
      · split at h
        · injection h with h; subst h
          rw [isZero_K ρ ‹_› ho, mul_zero]; exact evalK_zero ρ
        · injection h with h; subst h
          exact evalK_prod_pair ρ hs ho

theorem exprAdd_K {self other t : Expr} {a b : K} (h : exprAdd self other = .ret t)
    (hs : evalK ρ self = some a) (ho : evalK ρ other = some b) : evalK ρ t = some (a + b) := by
  unfold exprAdd at h
  split at h
  · contradiction
  · split at h
    · split at h
      · split at h
        · injection h with h; subst h
          exact evalK_sum_cons ρ hs ho
        · injection h with h; subst h
          exact evalK_sum_pair ρ hs ho
      · injection h with h; subst h
        rename_i hst
        simp only [Bool.not_eq_true] at hst
        rw [falsy_K ρ _ _ hst hs, zero_add]; exact ho
    · injection h with h; subst h
      rename_i hot
      simp only [Bool.not_eq_true] at hot
      rw [falsy_K ρ _ _ hot ho, add_zero]; exact hs

theorem addD_K {self other t : Expr} {a b : K} (h : addD self other = .ret t)
    (hs : evalK ρ self = some a) (ho : evalK ρ other = some b) : evalK ρ t = some (a + b) := by
  unfold addD at h
  split at h
  · split at h
    · contradiction
    · split at h
      · injection h with h; subst h
        exact evalK_sum_append ρ hs ho
      · split at h
        · injection h with h; subst h
          rename_i hot
          simp only [Bool.not_eq_true', ] at hot
          rw [falsy_K ρ _ _ hot ho, add_zero]; exact hs
        · injection h with h; subst h
          exact evalK_sum_snoc ρ hs ho
  · exact exprAdd_K ρ h hs ho

theorem raddD_K {self other t : Expr} {a b : K} (h : raddD self other = .ret t)
    (hs : evalK ρ self = some a) (ho : evalK ρ other = some b) : evalK ρ t = some (b + a) := by
  unfold raddD at h
  split at h
  · split at h
    · contradiction
    · split at h
      · injection h with h; subst h
        rename_i hot
        simp only [Bool.not_eq_true'] at hot
        rw [falsy_K ρ _ _ hot ho, zero_add]; exact hs
      · injection h with h; subst h
        exact evalK_sum_cons ρ ho hs
  · split at h
    · contradiction
    · split at h
      · split at h
        · injection h with h; subst h
          exact evalK_sum_pair ρ ho hs
        · injection h with h; subst h
          rename_i hst
          simp only [Bool.not_eq_true] at hst
          rw [falsy_K ρ _ _ hst hs, add_zero]; exact ho
      · injection h with h; subst h
        rename_i hot
        simp only [Bool.not_eq_true] at hot
        rw [falsy_K ρ _ _ hot ho, zero_add]; exact hs

theorem dispatch_K {fwd refl : Expr → Expr → Dunder} (g : K → K → K)
    (hf : ∀ {s o t : Expr} {a b : K}, fwd s o = .ret t → evalK ρ s = some a →
      evalK ρ o = some b → evalK ρ t = some (g a b))
    (hr : ∀ {s o t : Expr} {a b : K}, refl s o = .ret t → evalK ρ s = some a →
      evalK ρ o = some b → evalK ρ t = some (g b a))
    {x y t : Expr} {a b : K} (h : dispatch fwd refl x y = .ok t)
    (hx : evalK ρ x = some a) (hy : evalK ρ y = some b) : evalK ρ t = some (g a b) := by
  unfold dispatch at h
  simp only [pure, Except.pure, throw, throwThe, MonadExceptOf.throw] at h
  split at h
  · split at h
    · rename_i r hr'
      injection h with h; subst h
      exact hf hr' hx hy
    · contradiction
    · split at h
      · split at h
        · rename_i r hr'
          injection h with h; subst h
          exact hr hr' hy hx
        · contradiction
        · contradiction
      · contradiction
  · split at h
    · split at h
      · split at h
        · rename_i r hr'
          injection h with h; subst h
          exact hr hr' hy hx
        · contradiction
        · contradiction
      · contradiction
    · contradiction

theorem liftOp_ok {r : OpR} {t : Expr} (h : rwLiftOp r = .ok t) : r = .ok t := by
  cases r <;> simp only [rwLiftOp] at h
  · cases h
  · injection h with h; subst h; rfl

/-- **`a + b` has the value of the sum.** -/
theorem pyAdd_value {x y t : Expr} {a b : K} (h : pyAdd x y = .ok t)
    (hx : evalK ρ x = some a) (hy : evalK ρ y = some b) : evalK ρ t = some (a + b) := by
  unfold pyAdd at h
  split at h
  · obtain ⟨m, rfl, rfl⟩ := evalK_const ρ hx
    obtain ⟨n, rfl, rfl⟩ := evalK_const ρ hy
    simp only [constArith, Const.toValue?, Value.add_int, Value.toExpr?, pure, Except.pure] at h
    injection h with h; subst h
    simp only [evalK, Int.cast_add]
  · exact dispatch_K ρ (· + ·) (addD_K ρ) (raddD_K ρ) (liftOp_ok h) hx hy

/-- **`a * b` has the value of the product.** -/
theorem pyMul_value {x y t : Expr} {a b : K} (h : pyMul x y = .ok t)
    (hx : evalK ρ x = some a) (hy : evalK ρ y = some b) : evalK ρ t = some (a * b) := by
  unfold pyMul at h
  split at h
  · obtain ⟨m, rfl, rfl⟩ := evalK_const ρ hx
    obtain ⟨n, rfl, rfl⟩ := evalK_const ρ hy
    simp only [constArith, Const.toValue?, Value.mul_int, Value.toExpr?, pure, Except.pure] at h
    injection h with h; subst h
    simp only [evalK, Int.cast_mul]
  · exact dispatch_K ρ (· * ·) (mulD_K ρ) (rmulD_K ρ) (liftOp_ok h) hx hy

theorem int_isValidOperand (n : Int) : (Expr.const (.int n)).isValidOperand = true := rfl

theorem powD_lit_ne_notImpl (self : Expr) (n : Int) :
    powD self (.const (.int n)) ≠ .notImpl := by
  simp only [powD, int_isValidOperand, Bool.not_true, Bool.false_eq_true, if_false]
  split
  · simp
  · split <;> simp

theorem powD_K {self t : Expr} {n : Int} {a : K} (h : powD self (.const (.int n)) = .ret t)
    (hx : evalK ρ self = some a) (hdef : ¬ (n < 0 ∧ a = 0)) : evalK ρ t = some (a ^ n) := by
  simp only [powD, int_isValidOperand, Bool.not_true, Bool.false_eq_true, if_false] at h
  split at h
  · rename_i hz
    injection h with h; subst h
    simp only [Expr.isZero, Expr.truthy, Const.truthy, bne_eq_false_iff_eq,
      Bool.not_eq_eq_eq_not, Bool.not_true] at hz
    have : n = 0 := by simpa using hz
    subst this; simp [evalK_one]
  · split at h
    · rename_i h1
      injection h with h; subst h
      simp only [Expr.isOne, Const.isOne, beq_iff_eq] at h1
      subst h1; simp [hx]
    · injection h with h; subst h
      rw [evalK_pow_lit, hx]; simp only [powK, hdef, if_false]

/-- **`a ** n` for an integer literal `n` has the value `a ^ n`** (where that is defined). -/
theorem pyPow_value {x t : Expr} {n : Int} {a : K} (h : pyPow x (.const (.int n)) = .ok t)
    (hx : evalK ρ x = some a) (hdef : ¬ (n < 0 ∧ a = 0)) : evalK ρ t = some (a ^ n) := by
  unfold pyPow at h
  split at h
  · rename_i c d heq1 heq2
    injection heq2 with heq2; subst heq2
    obtain ⟨m, rfl, rfl⟩ := evalK_const ρ hx
    simp only [constArith, Const.toValue?] at h
    cases hp : Value.pow (.int m) (.int n) with
    | error e => rw [hp] at h; cases e <;> simp [throw, throwThe, MonadExceptOf.throw] at h
    | ok w =>
      rw [hp] at h
      rcases Value.pow_int m n w hp with ⟨h0, rfl⟩ | ⟨_, _, rfl⟩
      · simp only [Value.toExpr?, pure, Except.pure] at h
        injection h with h; subst h
        simp only [evalK, Int.cast_pow]
        have : n = (n.toNat : Int) := (Int.toNat_of_nonneg h0).symm
        conv_rhs => rw [this]
        rw [zpow_natCast]
      · simp [Value.toExpr?, throw, throwThe, MonadExceptOf.throw] at h
  · have h := liftOp_ok h
    simp only [Ops.bin] at h
    unfold dispatch at h
    simp only [pure, Except.pure, throw, throwThe, MonadExceptOf.throw] at h
    split at h
    · -- the base is a node: `Expression.__pow__`
      split at h
      · rename_i r hr
        injection h with h; subst h
        exact powD_K ρ hr hx hdef
      · contradiction
      · rename_i hr
        exact absurd hr (powD_lit_ne_notImpl _ _)
    · split at h
      · rename_i hn; simp [Expr.isNode] at hn
      · contradiction

end

end PV
