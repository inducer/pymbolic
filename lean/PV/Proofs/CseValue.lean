import PV.Proofs.CseRel
import PV.Proofs.CseNest
import PV.Proofs.CsePerm
/-
  C12 helper: tagging preserves the value, as an instance of the generic induction.

  `okEq x y`: the two results are the same value whenever either is a value (both may raise, then
  possibly different exceptions: a shared commuted sum can meet another failing operand first).
-/
namespace PV

def okEq {α : Type} (x y : Except Err α) : Prop := ∀ v, x = .ok v ↔ y = .ok v

theorem okEq.refl {α} (x : Except Err α) : okEq x x := fun _ => Iff.rfl
theorem okEq.symm {α} {x y : Except Err α} (h : okEq x y) : okEq y x := fun v => (h v).symm
theorem okEq.trans {α} {x y z : Except Err α} (h1 : okEq x y) (h2 : okEq y z) : okEq x z :=
  fun v => (h1 v).trans (h2 v)

theorem okEq.bind {α β} {x y : Except Err α} {f g : α → Except Err β} (h : okEq x y)
    (hf : ∀ a, okEq (f a) (g a)) : okEq (x >>= f) (y >>= g) := by
  intro v
  cases x with
  | ok a =>
    have hy : y = .ok a := (h a).mp rfl
    subst hy
    exact hf a v
  | error e =>
    cases y with
    | ok b => have := (h b).mpr rfl; cases this
    | error e' =>
      constructor <;> intro hh <;> cases hh

theorem okEq.ite {α} {c : Bool} {x x' y y' : Except Err α} (h1 : okEq x x') (h2 : okEq y y') :
    okEq (if c then x else y) (if c then x' else y') := by
  cases c <;> simpa

/-- same value whenever either expression has one (environment fixed) -/
def okEquiv (env : Env) (a b : Expr) : Prop := okEq (den env a) (den env b)

section
variable {env : Env}

theorem den_wrapInCse (r : Expr) (p : Option String) : den env (wrapInCse r p) = den env r := by
  cases r with
  | cse c q s => cases p <;> cases q <;> rfl
  | _ => rfl

theorem fold_congr (o : NaryOp) {cs cs' : List Expr} (h : RelL (okEquiv env) cs cs') :
    ∀ acc, okEq (denFold env o acc cs) (denFold env o acc cs') := by
  induction h with
  | nil => intro acc; exact okEq.refl _
  | cons h1 _ ih =>
    intro acc
    simp only [denFold]
    exact okEq.bind h1 fun v => okEq.bind (okEq.refl _) fun acc' => ih acc'

theorem reduce_congr (o : NaryOp) {cs cs' : List Expr} (h : RelL (okEquiv env) cs cs') :
    okEq (denReduce env o cs) (denReduce env o cs') := by
  cases h with
  | nil => exact okEq.refl _
  | cons h1 h2 =>
    simp only [denReduce]
    exact okEq.bind h1 fun v => fold_congr o h2 v

theorem any_congr {cs cs' : List Expr} (h : RelL (okEquiv env) cs cs') :
    okEq (denAny env cs) (denAny env cs') := by
  induction h with
  | nil => exact okEq.refl _
  | cons h1 _ ih =>
    simp only [denAny]
    exact okEq.bind h1 fun v => okEq.bind (okEq.refl _) fun t => okEq.ite (okEq.refl _) ih

theorem all_congr {cs cs' : List Expr} (h : RelL (okEquiv env) cs cs') :
    okEq (denAll env cs) (denAll env cs') := by
  induction h with
  | nil => exact okEq.refl _
  | cons h1 _ ih =>
    simp only [denAll]
    exact okEq.bind h1 fun v => okEq.bind (okEq.refl _) fun t => okEq.ite ih (okEq.refl _)

theorem minmax_congr (isMin : Bool) {cs cs' : List Expr} (h : RelL (okEquiv env) cs cs') :
    ∀ cur, okEq (denMinMax env isMin cur cs) (denMinMax env isMin cur cs') := by
  induction h with
  | nil => intro cur; exact okEq.refl _
  | cons h1 _ ih =>
    intro cur
    simp only [denMinMax]
    refine okEq.bind h1 fun v => ?_
    cases cur with
    | none => exact ih _
    | some m => exact okEq.bind (okEq.refl _) fun b => ih _

theorem list_congr {cs cs' : List Expr} (h : RelL (okEquiv env) cs cs') :
    okEq (denList env cs) (denList env cs') := by
  induction h with
  | nil => exact okEq.refl _
  | cons h1 _ ih =>
    simp only [denList]
    exact okEq.bind h1 fun v => okEq.bind ih fun vs => okEq.refl _

theorem nary_congr (o : NaryOp) {cs cs' : List Expr} (h : RelL (okEquiv env) cs cs') :
    okEquiv env (.nary o cs) (.nary o cs') := by
  unfold okEquiv
  cases o <;> simp only [den]
  · exact fold_congr _ h _
  · exact fold_congr _ h _
  · exact reduce_congr _ h
  · exact reduce_congr _ h
  · exact reduce_congr _ h
  · exact any_congr h
  · exact all_congr h
  · exact minmax_congr _ h _
  · exact minmax_congr _ h _

/-! ### keys -/

theorem normalizedKey_cases (e : Expr) :
    (∃ o cs, o.isComm = true ∧ e = .nary o cs ∧ normalizedKey e = .comm o (kidCount cs)) ∨
      normalizedKey e = .plain e := by
  cases e
  case nary o cs =>
    cases o
    · exact Or.inl ⟨.sum, cs, rfl, rfl, rfl⟩
    · exact Or.inl ⟨.prod, cs, rfl, rfl, rfl⟩
    all_goals exact Or.inr rfl
  all_goals exact Or.inr rfl

def commZero : NaryOp → Value
  | .prod => .int 1
  | _ => .int 0

theorem den_comm {o : NaryOp} (ho : o.isComm = true) (cs : List Expr) :
    den env (.nary o cs) = denFold env o (commZero o) cs := by
  cases o <;> simp only [NaryOp.isComm, Bool.false_eq_true] at ho <;> simp only [den, commZero]

/-- what equal normalised keys mean for simple expressions: identical, or a sum / product of the
same operands in another order -/
theorem keyEq_simple {a b : Expr} (ha : a.simple = true) (hb : b.simple = true)
    (h : (normalizedKey a).eq (normalizedKey b) = true) :
    a = b ∨ ∃ o cs cs', o.isComm = true ∧ a = .nary o cs ∧ b = .nary o cs' ∧ cs.Perm cs' := by
  rcases normalizedKey_cases a with ⟨o, cs, ho, rfl, ka⟩ | ka <;>
    rcases normalizedKey_cases b with ⟨o', cs', ho', rfl, kb⟩ | kb <;> rw [ka, kb] at h
  · simp only [Expr.simple] at ha hb
    obtain ⟨h1, h2⟩ := perm_of_keyEq ha hb h
    subst h1
    exact Or.inr ⟨o, cs, cs', ho, rfl, rfl, h2⟩
  · simp [CKey.eq] at h
  · simp [CKey.eq] at h
  · simp only [CKey.eq] at h
    exact Or.inl (pyEq_eq_of_simple a b ha hb h)

theorem keyEq_okEquiv {a b : Expr} (ha : a.simple = true) (hb : b.simple = true)
    (h : (normalizedKey a).eq (normalizedKey b) = true) : okEquiv env a b := by
  rcases keyEq_simple ha hb h with rfl | ⟨o, cs, cs', ho, rfl, rfl, hp⟩
  · exact okEq.refl _
  · unfold okEquiv
    rw [den_comm ho, den_comm ho]
    intro v
    exact ⟨denFold_perm env ho hp _ v, denFold_perm env ho hp.symm _ v⟩

/-! ### the instance -/

/-- value preservation as a `CseSpec`: table entries are wrappers that mean what some simple
expression with that key means -/
theorem valueSpec (env : Env) : CseSpec (okEquiv env)
    (fun k w => ∃ e0, e0.simple = true ∧ k = normalizedKey e0 ∧ okEquiv env e0 w)
    (fun e => e.simple = true) where
  dchild := fun _ h => simple_children h
  const := fun _ => okEq.refl _
  var := fun _ => okEq.refl _
  nan := okEq.refl _
  wildcard := okEq.refl _
  dotWild := fun _ => okEq.refl _
  starWild := fun _ => okEq.refl _
  funcSym := okEq.refl _
  nary := fun o _ _ h => nary_congr o h
  bin := fun o a b a' b' ha hb => by
    unfold okEquiv; simp only [den]
    exact okEq.bind ha fun x => okEq.bind hb fun y => okEq.refl _
  un := fun o a a' ha => by
    unfold okEquiv
    cases o <;> simp only [den]
    · exact okEq.bind ha fun x => okEq.refl _
    · exact okEq.bind ha fun x => okEq.refl _
  cmp := fun o a b a' b' ha hb => by
    unfold okEquiv; simp only [den]
    exact okEq.bind ha fun x => okEq.bind hb fun y => okEq.refl _
  ite := fun c t e c' t' e' hc ht he => by
    unfold okEquiv; simp only [den]
    exact okEq.bind hc fun cv => okEq.bind (okEq.refl _) fun b => okEq.ite ht he
  call := fun f as f' as' hf has => by
    unfold okEquiv; simp only [den]
    exact okEq.bind hf fun fv => okEq.bind (list_congr has) fun avs => okEq.refl _
  callKw := fun f as ns vs f' as' vs' hf has hvs => by
    unfold okEquiv; simp only [den]
    exact okEq.bind (list_congr has) fun avs => okEq.bind (list_congr hvs) fun kvs =>
      okEq.bind hf fun fv => okEq.refl _
  subscript := fun a i a' i' ha hi => by
    unfold okEquiv; simp only [den]
    exact okEq.bind ha fun x => okEq.bind hi fun y => okEq.refl _
  lookup := fun a n a' ha => by
    unfold okEquiv; simp only [den]
    exact okEq.bind ha fun x => okEq.refl _
  subst := fun c vs xs xs' _ => by unfold okEquiv; simp only [den]; exact okEq.refl _
  deriv := fun c vs c' _ => by unfold okEquiv; simp only [den]; exact okEq.refl _
  slice := fun cs cs' _ => by unfold okEquiv; simp only [den]; exact okEq.refl _
  tuple := fun cs cs' h => by
    unfold okEquiv; simp only [den]
    exact okEq.bind (list_congr h) fun vs => okEq.refl _
  list := fun cs cs' h => by
    unfold okEquiv; simp only [den]
    exact okEq.bind (list_congr h) fun vs => okEq.refl _
  cse := fun c p s r hr => by
    unfold okEquiv at hr ⊢
    rw [den_wrapInCse]; simpa only [den] using hr
  hit := fun e k w hD hP hk => by
    obtain ⟨e0, hs0, rfl, h0⟩ := hP
    exact (keyEq_okEquiv hs0 hD hk).symm.trans h0
  put := fun e r T hD _ hr hT => by
    have hw : okEquiv env e (wrapInCse r none) := by
      unfold okEquiv at hr ⊢; rw [den_wrapInCse]; exact hr
    refine ⟨hw, ?_⟩
    intro p hp
    rcases Tbl.mem_set' hp with h | ⟨h2, h | ⟨w0, hm, hk⟩⟩
    · exact hT p h
    · exact ⟨e, hD, h, h2 ▸ hw⟩
    · obtain ⟨e0, hs0, hk0, _⟩ := hT (p.1, w0) hm
      refine ⟨e0, hs0, hk0, ?_⟩
      rw [h2]
      rw [hk0] at hk
      exact (keyEq_okEquiv hs0 hD hk).trans hw

end
end PV
