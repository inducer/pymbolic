import PV.Proofs.GAMV
/-
  C18 — proofs about the model `PV/Model/GA.lean`, part 4: the unary operations and the
  operations built on the products — `norm_squared`, `inv`, `dual`, `I`, grade projections,
  `as_scalar`, `gen_blades` — over any commutative ring of coefficients.
-/
namespace PV.GA

/-! ## more bit-level facts -/

theorem pc_le_of_lt : ∀ (n k : Nat), k < 2 ^ n → pc k ≤ n := by
  intro n
  induction n with
  | zero => intro k h; have : k = 0 := by simpa using h
            subst this; simp
  | succ n ih =>
    intro k h
    rw [pc_eq]
    have := ih (k / 2) (by rw [Nat.pow_succ] at h; omega)
    omega

/-- the only bitmap below `2^n` with `n` set bits is the pseudoscalar `2^n - 1` -/
theorem eq_full_of_pc : ∀ (n k : Nat), k < 2 ^ n → pc k = n → k = 2 ^ n - 1 := by
  intro n
  induction n with
  | zero => intro k h _; have : k = 0 := by simpa using h
            subst this; simp
  | succ n ih =>
    intro k h hp
    rw [pc_eq] at hp
    have hk2 : k / 2 < 2 ^ n := by rw [Nat.pow_succ] at h; omega
    have hle := pc_le_of_lt n (k / 2) hk2
    have h1 : k % 2 = 1 := by omega
    have h2 := ih (k / 2) hk2 (by omega)
    have hpos : 0 < 2 ^ n := Nat.two_pow_pos n
    rw [Nat.pow_succ]; omega

theorem pc_full : ∀ n, pc (2 ^ n - 1) = n := by
  intro n
  induction n with
  | zero => simp
  | succ n ih =>
    have hpos : 0 < 2 ^ n := Nat.two_pow_pos n
    rw [pc_eq]
    have h1 : (2 ^ (n + 1) - 1) % 2 = 1 := by rw [Nat.pow_succ]; omega
    have h2 : (2 ^ (n + 1) - 1) / 2 = 2 ^ n - 1 := by rw [Nat.pow_succ]; omega
    rw [h1, h2, ih]; omega

/-- a grade-1 bitmap is a single basis vector -/
theorem exists_two_pow_of_pc_one : ∀ a, pc a = 1 → ∃ i, a = 2 ^ i := by
  intro a
  induction a using Nat.strongRecOn with
  | _ a ih =>
    intro h
    rw [pc_eq] at h
    rcases Nat.mod_two_eq_zero_or_one a with h1 | h1
    · have ha : a ≠ 0 := by intro e; subst e; simp at h
      obtain ⟨i, hi⟩ := ih (a / 2) (by omega) (by omega)
      exact ⟨i + 1, by rw [Nat.pow_succ]; omega⟩
    · have : pc (a / 2) = 0 := by omega
      have := (pc_eq_zero_iff _).1 this
      exact ⟨0, by omega⟩

theorem and_full_of_lt {n k : Nat} (h : k < 2 ^ n) : k &&& (2 ^ n - 1) = k := by
  rw [Nat.and_two_pow_sub_one_eq_mod, Nat.mod_eq_of_lt h]

/-- `k ⊆ f` implies `f \ k ⊆ f` -/
theorem xor_and_of_subset {k f : Nat} (h : k &&& f = k) : (k ^^^ f) &&& f = k ^^^ f := by
  apply Nat.eq_of_testBit_eq
  intro i
  have hi := congrArg (fun x => x.testBit i) h
  simp only [Nat.testBit_and] at hi
  simp only [Nat.testBit_and, Nat.testBit_xor]
  cases hk : k.testBit i <;> cases hf : f.testBit i <;> simp_all

theorem reorderSign_zero_right (a : Nat) : reorderSign a 0 = 1 := by
  rw [reorderSign_eq_sgn, reorderSignExp_zero_right]; rfl

theorem reorderSign_zero_left (a : Nat) : reorderSign 0 a = 1 := by
  rw [reorderSign_eq_sgn, reorderSignExp_zero_left]; rfl

theorem revSign_full (n : Nat) :
    revSign (2 ^ n - 1) = if n * (n - 1) / 2 % 2 = 0 then 1 else -1 := by
  unfold revSign
  simp only [bitCount_eq_popcount, pc_full]

theorem revSign_of_pc_le_one {a : Nat} (h : pc a ≤ 1) : revSign a = 1 := by
  unfold revSign
  simp only [bitCount_eq_popcount]
  have : pc a * (pc a - 1) / 2 = 0 := by
    rcases Nat.le_one_iff_eq_zero_or_eq_one.1 h with e | e <;> simp [e]
  simp [this]

section Monoid
variable {R : Type} [CommMonoid R] (g : Nat → R)

theorem prodBits_zero : prodBits g 0 = 1 := by simp [prodBits]

theorem prodFrom_full : ∀ (n i : Nat),
    prodFrom g i (2 ^ n - 1) = ((List.range n).map fun j => g (i + j)).prod := by
  intro n
  induction n with
  | zero => intro i; simp
  | succ n ih =>
    intro i
    have hpos : 0 < 2 ^ n := Nat.two_pow_pos n
    have h1 : (2 ^ (n + 1) - 1) % 2 = 1 := by rw [Nat.pow_succ]; omega
    have h2 : (2 ^ (n + 1) - 1) / 2 = 2 ^ n - 1 := by rw [Nat.pow_succ]; omega
    rw [prodFrom_eq, h1, h2, ih (i + 1), List.range_succ_eq_map, List.map_cons, List.prod_cons,
      List.map_map]
    simp only [↓reduceIte, Nat.add_zero]
    congr 2
    apply List.map_congr_left
    intro j _
    simp only [Function.comp, Nat.succ_eq_add_one]
    congr 1; omega

/-- the metric weight of the pseudoscalar is the determinant of the diagonal metric -/
theorem prodBits_full (n : Nat) : prodBits g (2 ^ n - 1) = ((List.range n).map g).prod := by
  unfold prodBits
  rw [prodFrom_full]
  simp

/-- `g(k) · g(f \ k) = g(f)` for `k ⊆ f` -/
theorem prodBits_split {k f : Nat} (h : k &&& f = k) :
    prodBits g k * prodBits g (k ^^^ f) = prodBits g f := by
  have := prodBits_cocycle g k f f
  rw [h, xor_and_of_subset h, Nat.and_self, Nat.xor_self, Nat.and_zero, prodBits_zero,
    mul_one] at this
  exact this

end Monoid

section Ring
variable {R : Type} [CommRing R]

theorem reorderSignR_zero_right (a : Nat) : (reorderSignR a 0 : R) = 1 := by
  rw [reorderSignR_eq_cast, reorderSign_zero_right]; simp

theorem reorderSignR_zero_left (a : Nat) : (reorderSignR 0 a : R) = 1 := by
  rw [reorderSignR_eq_cast, reorderSign_zero_left]; simp

theorem reorderSignR_self (a : Nat) : (reorderSignR a a : R) = ((revSign a : Int) : R) := by
  rw [reorderSignR_eq_cast, revSign_eq_reorderSign_self]

/-! ## (e) basis vectors at multivector level -/

/-- (e) `e_i * e_i = g i` as computed by `MultiVector.__mul__` (a zero metric entry gives the
    empty dict) -/
theorem basis_square_mv [DecidableEq R] (g : Nat → R) (i : Nat) :
    mvMul g [(2 ^ i, 1)] [(2 ^ i, 1)] = if g i = 0 then [] else [(0, g i)] := by
  unfold mvMul
  rw [genericProduct_blades, wGeometric_basis_self, reorderSignR_eq_cast, (basis_square_sign i).1,
    Nat.xor_self]
  simp

/-- (e) `e_i * e_j = -(e_j * e_i)` for `i ≠ j` as computed by `MultiVector.__mul__`, and the
    product is the single blade `e_i ∧ e_j` with coefficient `±1` -/
theorem basis_anticommute_mv [DecidableEq R] [Nontrivial R] (g : Nat → R) {i j : Nat}
    (h : i ≠ j) :
    mvMul g [(2 ^ i, 1)] [(2 ^ j, 1)] = [(2 ^ i ^^^ 2 ^ j, reorderSignR (2 ^ i) (2 ^ j))]
    ∧ mvMul g [(2 ^ i, 1)] [(2 ^ j, 1)] = mvNeg (mvMul g [(2 ^ j, 1)] [(2 ^ i, 1)]) := by
  unfold mvMul
  rw [genericProduct_blades, genericProduct_blades, wGeometric_basis_ne g h,
    wGeometric_basis_ne g (Ne.symm h)]
  have hs : ∀ a b : Nat, (reorderSignR a b : R) ≠ 0 := by
    intro a b h0
    have := reorderSignR_mul_self (R := R) a b
    rw [h0] at this; simp at this
  have hneg : (reorderSignR (2 ^ i) (2 ^ j) : R) = - reorderSignR (2 ^ j) (2 ^ i) := by
    simp only [reorderSignR_eq_cast, basis_anticommute_sign h, Int.cast_neg]
  simp [hs, mvNeg, Nat.xor_comm, hneg]

/-! ## `as_scalar` -/

/-- `as_scalar` of a dict whose only possible key is `0` returns its scalar coefficient -/
theorem asScalar_eq_coeff_zero {d : MVOf R} (hd : NodupKeys d) (h : ∀ k ∈ keys d, k = 0) :
    asScalar d = some (coeff d 0) := by
  match d, hd, h with
  | [], _, _ => rfl
  | [(k, v)], _, h =>
    have : k = 0 := h k (by simp)
    subst this
    simp [asScalar, coeff, dictGet]
  | (k1, v1) :: (k2, v2) :: rest, hd, h =>
    exfalso
    have e1 : k1 = 0 := h k1 (by simp)
    have e2 : k2 = 0 := h k2 (by simp)
    unfold NodupKeys at hd
    simp [e1, e2] at hd

omit [CommRing R] in
theorem asScalar_foldl_none (d : MVOf R) :
    d.foldl (fun r (p : Nat × R) => r.bind fun _ => if p.1 ≠ 0 then none else some p.2) none
      = none := by
  induction d with
  | nil => rfl
  | cons p d ih => simpa using ih

/-- `as_scalar` raises exactly when some stored key is not the scalar blade -/
theorem asScalar_eq_none_iff (d : MVOf R) : asScalar d = none ↔ ∃ k ∈ keys d, k ≠ 0 := by
  unfold asScalar
  suffices H : ∀ (r : R), d.foldl (fun r (p : Nat × R) =>
      r.bind fun _ => if p.1 ≠ 0 then none else some p.2) (some r) = none ↔ ∃ k ∈ keys d, k ≠ 0 from
    H 0
  induction d with
  | nil => intro r; simp
  | cons p d ih =>
    intro r
    obtain ⟨k, v⟩ := p
    simp only [List.foldl_cons, Option.bind_some, keys_cons, List.mem_cons, exists_eq_or_imp]
    by_cases hk : k = 0
    · subst hk; simp only [ne_eq, not_true_eq_false, ↓reduceIte, false_or]; exact ih v
    · simp only [ne_eq, hk, not_false_eq_true, ↓reduceIte, true_or, iff_true]
      exact asScalar_foldl_none d

/-! ## `scalar_product` and `norm_squared` -/

theorem wScalar_ne (g : Nat → R) {a b : Nat} (h : a ≠ b) : wScalar g a b = 0 := by
  simp [wScalar, h]

theorem wScalar_self (g : Nat → R) (a : Nat) : wScalar g a a = prodBits g a := by
  simp [wScalar, sharedMetricCoeff_eq_prodBits]

theorem wGeometric_self (g : Nat → R) (a : Nat) : wGeometric g a a = prodBits g a := by
  rw [wGeometric_eq_prodBits, Nat.and_self]

/-- the scalar product only has a scalar coefficient -/
theorem coeff_scalarProduct_ne {z : R → Bool} (hz : ZSound z) (g : Nat → R) (a b : MVOf R)
    {k : Nat} (hk : k ≠ 0) : coeff (genericProductZ z (wScalar g) a b) k = 0 := by
  rw [coeff_genericProductZ hz]
  apply lsum_eq_zero; intro s _
  apply lsum_eq_zero; intro o _
  split
  · next h =>
    have : s.1 ≠ o.1 := by
      intro e; rw [e, Nat.xor_self] at h; exact hk h.symm
    rw [wScalar_ne g this]; ring
  · rfl

/-- `scalar_product` never raises and returns the scalar coefficient of the `_ScalarProduct`
    (needs a sound and complete zero test: an unrecognised zero weight would be stored under a
    non-scalar key and make `as_scalar` raise) -/
theorem scalarProductZ_eq {z : R → Bool} (hz : ZSound z) (hc : ZComplete z) (g : Nat → R)
    (a b : MVOf R) :
    scalarProductZ z g a b = some (coeff (genericProductZ z (wScalar g) a b) 0) := by
  unfold scalarProductZ
  have hp := genericProductZ_pruned hc (wScalar g) a b
  apply asScalar_eq_coeff_zero hp.1
  intro k hk
  by_contra hne
  exact (mem_keys_iff_coeff_ne_zero hp k).1 hk (coeff_scalarProduct_ne hz g a b hne)

/-- the scalar product is the grade-0 part of the geometric product -/
theorem coeff_scalar_eq_geometric {z : R → Bool} (hz : ZSound z) (g : Nat → R) (a b : MVOf R) :
    coeff (genericProductZ z (wScalar g) a b) 0
      = coeff (genericProductZ z (wGeometric g) a b) 0 := by
  rw [coeff_genericProductZ hz, coeff_genericProductZ hz]
  apply lsum_congr; intro s _
  apply lsum_congr; intro o _
  split
  · next h =>
    have : s.1 = o.1 := (xor_eq_zero_iff _ _).1 h
    rw [this, wScalar_self, wGeometric_self]
  · rfl

/-- `rev(a) * a` has the scalar coefficient `Σ_k g(k) a_k²` (`g(k)` = product of the metric entries
    of the factors of blade `k`) -/
theorem coeff_rev_scalar_self {z : R → Bool} (hz : ZSound z) (g : Nat → R) {a : MVOf R}
    (ha : NodupKeys a) :
    coeff (genericProductZ z (wScalar g) (rev a) a) 0
      = lsum (fun p => prodBits g p.1 * p.2 * p.2) a := by
  rw [coeff_genericProductZ hz, rev_eq_signMap, signMap, lsum_map]
  apply lsum_congr; intro s hs
  simp only
  have hcs : coeff a s.1 = s.2 := coeff_of_mem ha (by cases s; exact hs)
  have := lsum_key_ind ha s.1
    (fun x => prodBits g s.1 * (((revSign s.1 : Int) : R) * ((revSign s.1 : Int) : R)) * s.2 * x)
    (by ring)
  rw [hcs, revSignR_mul_self] at this
  rw [show prodBits g s.1 * s.2 * s.2 = prodBits g s.1 * 1 * s.2 * s.2 by ring, ← this]
  apply lsum_congr; intro o _
  by_cases h : o.1 = s.1
  · have hx : s.1 ^^^ o.1 = 0 := by rw [h, Nat.xor_self]
    rw [if_pos hx, if_pos h, h, wScalar_self, reorderSignR_self]
    linear_combination (prodBits g s.1 * s.2 * o.2) * revSignR_mul_self (R := R) s.1
  · have hx : s.1 ^^^ o.1 ≠ 0 := fun e => h ((xor_eq_zero_iff _ _).1 e).symm
    rw [if_neg hx, if_neg h]

/-- `norm_squared` of any multivector: never raises, equals `Σ_k g(k) a_k²` -/
theorem normSquaredZ_eq {z : R → Bool} (hz : ZSound z) (hc : ZComplete z) (g : Nat → R)
    {a : MVOf R} (ha : NodupKeys a) :
    normSquaredZ z g a = some (lsum (fun p => prodBits g p.1 * p.2 * p.2) a) := by
  unfold normSquaredZ
  rw [scalarProductZ_eq hz hc, coeff_rev_scalar_self hz g ha]

theorem normSquaredZ_blade {z : R → Bool} (hz : ZSound z) (hc : ZComplete z) (g : Nat → R)
    (bits : Nat) (c : R) :
    normSquaredZ z g [(bits, c)] = some (sharedMetricCoeff g bits * c * c) := by
  rw [normSquaredZ_eq hz hc g (by simp [NodupKeys]), sharedMetricCoeff_eq_prodBits]
  simp [lsum]


/-! ## `inv` -/

/-- a double sum over a dict whose off-diagonal terms cancel in pairs is the sum of its diagonal
    (no division by 2: valid in every characteristic) -/
theorem lsum_antisymm (f : Nat × R → Nat × R → R) : ∀ {d : MVOf R}, NodupKeys d →
    (∀ s ∈ d, ∀ o ∈ d, s.1 ≠ o.1 → f s o + f o s = 0) →
    lsum (fun s => lsum (fun o => f s o) d) d = lsum (fun s => f s s) d := by
  intro d
  induction d with
  | nil => intro _ _; rfl
  | cons x xs ih =>
    intro hd h
    unfold NodupKeys at hd
    simp only [keys_cons, List.nodup_cons] at hd
    have ih' := ih hd.2 (fun s hs o ho => h s (List.mem_cons_of_mem _ hs) o
      (List.mem_cons_of_mem _ ho))
    have hcross : lsum (fun o => f x o + f o x) xs = 0 := by
      apply lsum_eq_zero
      intro o ho
      apply h x List.mem_cons_self o (List.mem_cons_of_mem _ ho)
      intro e
      exact hd.1 (e ▸ List.mem_map.2 ⟨o, ho, rfl⟩)
    rw [lsum_add] at hcross
    simp only [lsum]
    rw [lsum_add, ih']
    linear_combination hcross

omit [CommRing R] in
/-- all keys have grade `gr` -/
theorem getPureGrade_some {a : MVOf R} {gr : Nat} (h : getPureGrade a = some gr) (hne : a ≠ []) :
    ∀ k ∈ keys a, bitCount k = gr := by
  match a, hne with
  | (bits, c) :: rest, _ =>
    simp only [getPureGrade] at h
    split at h
    · next hall =>
      injection h with h
      intro k hk
      simp only [keys_cons, List.mem_cons] at hk
      rcases hk with hk | hk
      · rw [hk]; exact h
      · obtain ⟨v, hv⟩ := mem_keys_iff_exists.1 hk
        have := (List.all_eq_true.1 hall) (k, v) hv
        simp only [decide_eq_true_eq] at this
        rw [this]; exact h
    · cases h

/-- the square of a vector (all keys of grade 1) is the scalar `Σ g_i a_i²` -/
theorem coeff_vector_sq {z : R → Bool} (hz : ZSound z) (g : Nat → R) {a : MVOf R}
    (ha : NodupKeys a) (h1 : ∀ k ∈ keys a, pc k = 1) (k : Nat) :
    coeff (genericProductZ z (wGeometric g) a a) k
      = if k = 0 then lsum (fun p => prodBits g p.1 * p.2 * p.2) a else 0 := by
  rw [coeff_genericProductZ hz]
  rw [lsum_antisymm (fun s o => if s.1 ^^^ o.1 = k
    then wGeometric g s.1 o.1 * reorderSignR s.1 o.1 * s.2 * o.2 else 0) ha]
  · by_cases hk : k = 0
    · subst hk
      simp only [Nat.xor_self, ↓reduceIte]
      apply lsum_congr; intro s hs
      have h1s := h1 s.1 (List.mem_map.2 ⟨s, hs, rfl⟩)
      rw [wGeometric_self, reorderSignR_self, revSign_of_pc_le_one (by omega)]
      simp
    · rw [if_neg hk]
      apply lsum_eq_zero; intro s _
      rw [Nat.xor_self, if_neg (fun e => hk e.symm)]
  · intro s hs o ho hne
    obtain ⟨i, hi⟩ := exists_two_pow_of_pc_one _ (h1 s.1 (List.mem_map.2 ⟨s, hs, rfl⟩))
    obtain ⟨j, hj⟩ := exists_two_pow_of_pc_one _ (h1 o.1 (List.mem_map.2 ⟨o, ho, rfl⟩))
    have hij : i ≠ j := by intro e; apply hne; rw [hi, hj, e]
    rw [Nat.xor_comm o.1 s.1, hi, hj, wGeometric_basis_ne g hij,
      wGeometric_basis_ne g (Ne.symm hij), reorderSignR_eq_cast, reorderSignR_eq_cast,
      basis_anticommute_sign hij]
    split
    · simp only [Int.cast_neg]; ring
    · simp

variable [DecidableEq R]

theorem normSquared_eq (g : Nat → R) {a : MVOf R} (ha : NodupKeys a) :
    normSquared g a = some (lsum (fun p => prodBits g p.1 * p.2 * p.2) a) :=
  normSquaredZ_eq isZeroD_sound isZeroD_complete g ha

theorem normSquared_blade (g : Nat → R) (bits : Nat) (c : R) :
    normSquared g [(bits, c)] = some (sharedMetricCoeff g bits * c * c) :=
  normSquaredZ_blade isZeroD_sound isZeroD_complete g bits c

theorem genericProduct_pruned (w : Nat → Nat → R) (a b : MVOf R) :
    Pruned (genericProduct w a b) := genericProductZ_pruned isZeroD_complete w a b

theorem coeff_genericProduct (w : Nat → Nat → R) (a b : MVOf R) (k : Nat) :
    coeff (genericProduct w a b) k
      = lsum (fun s => lsum (fun o =>
          if s.1 ^^^ o.1 = k then w s.1 o.1 * reorderSignR s.1 o.1 * s.2 * o.2 else 0) b) a :=
  coeff_genericProductZ isZeroD_sound w a b k

/-- `MultiVector.inv` of a one-term multivector `{bits: c}`, in closed form -/
theorem inv_blade_eq (g : Nat → R) (dims bits : Nat) (c : R) :
    inv g dims [(bits, c)] =
      if sharedMetricCoeff g bits * c * c = 0 then .zeroDivision
      else .ok [(bits, ((revSign bits : Int) : R) * c)] (sharedMetricCoeff g bits * c * c) := by
  unfold inv invZ
  rw [normSquaredZ_blade isZeroD_sound isZeroD_complete]
  simp only [isZeroD, decide_eq_true_eq]
  split
  · rfl
  · congr 2
    unfold revSign
    simp only
    split <;> simp_all

omit [DecidableEq R] in
/-- the scalar `x` as a coefficient function -/
theorem coeff_scalar_blade (x : R) (k : Nat) : coeff [(0, x)] k = if k = 0 then x else 0 := by
  rw [coeff_cons]; simp [eq_comm]

/-- whenever `inv` succeeds on a blade, the result `numer / denom` is a two-sided
    inverse for the geometric product: `A * numer == denom == numer * A`, `denom ≠ 0` -/
theorem blade_inv (g : Nat → R) (dims bits : Nat) (c : R) (numer : MVOf R) (denom : R)
    (h : inv g dims [(bits, c)] = .ok numer denom) :
    denom ≠ 0 ∧ denom = sharedMetricCoeff g bits * c * c ∧
    mvMul g [(bits, c)] numer = [(0, denom)] ∧ mvMul g numer [(bits, c)] = [(0, denom)] := by
  rw [inv_blade_eq] at h
  split at h
  · cases h
  · next hne =>
    injection h with h1 h2
    subst h1 h2
    have hw : sharedMetricCoeff g bits ≠ 0 := by
      intro e; rw [e] at hne; simp at hne
    refine ⟨hne, rfl, ?_, ?_⟩
    · unfold mvMul
      rw [genericProduct_blades, wGeometric_eq_smc, Nat.and_self, Nat.xor_self, reorderSignR_self]
      have hv : sharedMetricCoeff g bits * ((revSign bits : Int) : R) * c
            * (((revSign bits : Int) : R) * c) = sharedMetricCoeff g bits * c * c := by
        linear_combination (sharedMetricCoeff g bits * c * c) * revSignR_mul_self (R := R) bits
      rw [hv]
      simp [hw, hne]
    · unfold mvMul
      rw [genericProduct_blades, wGeometric_eq_smc, Nat.and_self, Nat.xor_self, reorderSignR_self]
      have hv : sharedMetricCoeff g bits * ((revSign bits : Int) : R)
            * (((revSign bits : Int) : R) * c) * c = sharedMetricCoeff g bits * c * c := by
        linear_combination (sharedMetricCoeff g bits * c * c) * revSignR_mul_self (R := R) bits
      rw [hv]
      simp [hw, hne]

omit [CommRing R] [DecidableEq R] in
/-- among well-formed dicts with at least two items, a single grade 0, 1 or `dims` can only be
    grade 1 (there is one scalar blade and one pseudoscalar blade) -/
theorem pure_grade_multi {dims gr : Nat} {p q : Nat × R} {rest : MVOf R}
    (ha : NodupKeys (p :: q :: rest)) (hr : ∀ k ∈ keys (p :: q :: rest), k < 2 ^ dims)
    (hall : ∀ k ∈ keys (p :: q :: rest), pc k = gr) (hgr : gr = 0 ∨ gr = 1 ∨ gr = dims) :
    gr = 1 := by
  have hk12 : p.1 ≠ q.1 := by
    unfold NodupKeys at ha
    simp only [keys_cons, List.nodup_cons, List.mem_cons, not_or] at ha
    exact ha.1.1
  have hp := hall p.1 (by simp)
  have hq := hall q.1 (by simp)
  rcases hgr with e | e | e
  · exfalso; subst e
    exact hk12 (((pc_eq_zero_iff _).1 hp).trans ((pc_eq_zero_iff _).1 hq).symm)
  · exact e
  · exfalso; subst e
    have e1 := eq_full_of_pc gr p.1 (hr p.1 (by simp)) hp
    have e2 := eq_full_of_pc gr q.1 (hr q.1 (by simp)) hq
    exact hk12 (e1.trans e2.symm)

/-- the exact domain of `MultiVector.inv`, and the defining identity on it:
    whenever `inv` returns (`numer / denom`) on a well-formed dict (distinct keys, all below
    `2^dims`), `denom = norm_squared ≠ 0` and `numer * A = denom = A * numer` coefficient-wise -/
theorem inv_mul_self (g : Nat → R) (dims : Nat) {a : MVOf R} (numer : MVOf R) (denom : R)
    (ha : NodupKeys a) (hr : ∀ k ∈ keys a, k < 2 ^ dims)
    (h : inv g dims a = .ok numer denom) :
    denom ≠ 0 ∧ normSquared g a = some denom ∧ NodupKeys numer ∧
    (∀ k, coeff (mvMul g numer a) k = if k = 0 then denom else 0) ∧
    (∀ k, coeff (mvMul g a numer) k = if k = 0 then denom else 0) := by
  match a, ha, hr, h with
  | [], _, _, h =>
    unfold inv invZ at h
    cases hn : normSquaredZ isZeroD g ([] : MVOf R) <;> simp [hn] at h
  | [(bits, c)], _, _, h =>
    obtain ⟨h1, h2, h3, h4⟩ := blade_inv g dims bits c numer denom h
    have hnum : NodupKeys numer := by
      rw [inv_blade_eq] at h
      split at h
      · cases h
      · injection h with e1 e2; subst e1; simp [NodupKeys]
    refine ⟨h1, by rw [normSquared_blade, h2], hnum, fun k => ?_, fun k => ?_⟩
    · rw [h4, coeff_scalar_blade]
    · rw [h3, coeff_scalar_blade]
  | p :: q :: rest, ha, hr, h =>
    have hns := normSquared_eq g ha
    unfold inv invZ at h
    unfold normSquared at hns
    rw [hns] at h
    simp only at h
    cases hpg : getPureGrade (p :: q :: rest) with
    | none => simp [hpg] at h
    | some gr =>
      simp only [hpg] at h
      split at h
      · next hgr =>
        split at h
        · cases h
        · next hnz =>
          injection h with e1 e2
          subst e1
          have hne : denom ≠ 0 := by
            intro e; apply hnz; rw [e2, e]; simp [isZeroD]
          have hall := getPureGrade_some hpg (by simp)
          simp only [bitCount_eq_popcount] at hall
          have hgr1 : gr = 1 := pure_grade_multi ha hr hall hgr
          subst hgr1
          have hsq := coeff_vector_sq isZeroD_sound g ha hall
          refine ⟨hne, by unfold normSquared; rw [hns, e2], ha, fun k => ?_, fun k => ?_⟩
          · rw [← e2]; exact hsq k
          · rw [← e2]; exact hsq k
      · cases h

omit [CommRing R] [DecidableEq R] in
theorem getPureGrade_of_all {a : MVOf R} {gr : Nat} (hne : a ≠ [])
    (h : ∀ k ∈ keys a, bitCount k = gr) : getPureGrade a = some gr := by
  match a, hne with
  | (bits, c) :: rest, _ =>
    have hb : bitCount bits = gr := h bits (by simp)
    simp only [getPureGrade]
    rw [if_pos]
    · rw [hb]
    · rw [List.all_eq_true]
      rintro ⟨k, v⟩ hv
      simp only [decide_eq_true_eq]
      rw [hb]
      exact h k (List.mem_cons_of_mem _ (mem_keys_iff_exists.2 ⟨v, hv⟩))

/-- the exact domain of `MultiVector.inv` on well-formed dicts: it returns iff norm² is non-zero
    and the dict has exactly one item, or at least two items that are all basis VECTORS (grade 1);
    everything else raises (`ZeroDivisionError` for zero norm², `NotImplementedError` otherwise) -/
theorem inv_ok_iff (g : Nat → R) (dims : Nat) {a : MVOf R}
    (ha : NodupKeys a) (hr : ∀ k ∈ keys a, k < 2 ^ dims) :
    (∃ numer denom, inv g dims a = .ok numer denom) ↔
      (∃ q, normSquared g a = some q ∧ q ≠ 0)
      ∧ (a.length = 1 ∨ (2 ≤ a.length ∧ ∀ k ∈ keys a, bitCount k = 1)) := by
  constructor
  · rintro ⟨numer, denom, h⟩
    obtain ⟨h1, h2, _, _, _⟩ := inv_mul_self g dims numer denom ha hr h
    refine ⟨⟨denom, h2, h1⟩, ?_⟩
    match a, ha, hr, h with
    | [], _, _, h =>
      unfold inv invZ at h
      cases hn : normSquaredZ isZeroD g ([] : MVOf R) <;> simp [hn] at h
    | [_], _, _, _ => left; rfl
    | p :: q :: rest, ha, hr, h =>
      right
      refine ⟨by simp, ?_⟩
      have hns := normSquared_eq g ha
      unfold inv invZ at h
      unfold normSquared at hns
      rw [hns] at h
      simp only at h
      cases hpg : getPureGrade (p :: q :: rest) with
      | none => simp [hpg] at h
      | some gr =>
        simp only [hpg] at h
        split at h
        · next hgr =>
          have hall := getPureGrade_some hpg (by simp)
          have hall' : ∀ k ∈ keys (p :: q :: rest), pc k = gr := by
            intro k hk; rw [← bitCount_eq_popcount]; exact hall k hk
          have := pure_grade_multi ha hr hall' hgr
          subst this
          exact hall
        · cases h
  · rintro ⟨⟨q, hq, hq0⟩, hshape⟩
    match a, ha, hshape, hq with
    | [], _, hshape, _ => simp at hshape
    | [(bits, c)], _, _, hq =>
      rw [normSquared_blade] at hq
      injection hq with hq
      rw [inv_blade_eq, if_neg (by rw [hq]; exact hq0)]
      exact ⟨_, _, rfl⟩
    | p :: q' :: rest, ha, hshape, hq =>
      have hall : ∀ k ∈ keys (p :: q' :: rest), bitCount k = 1 := by
        rcases hshape with h | h
        · simp at h
        · exact h.2
      have hpg := getPureGrade_of_all (gr := 1) (by simp) hall
      unfold normSquared at hq
      unfold inv invZ
      rw [hq]
      simp only [hpg]
      have hnz : ¬ isZeroD q = true := fun hz => hq0 (isZeroD_sound _ hz)
      rw [if_pos (Or.inr (Or.inl trivial)), if_neg hnz]
      exact ⟨_, _, rfl⟩

/-! ## `dual`, the pseudoscalar -/

omit [DecidableEq R] in
/-- the product with a one-term right operand `{m: r}` -/
theorem coeff_genericProductZ_single_right {z : R → Bool} (hz : ZSound z) (w : Nat → Nat → R)
    {a : MVOf R} (ha : NodupKeys a) (m : Nat) (r : R) (k : Nat) :
    coeff (genericProductZ z w a [(m, r)]) k
      = w (k ^^^ m) m * reorderSignR (k ^^^ m) m * coeff a (k ^^^ m) * r := by
  rw [coeff_genericProductZ hz]
  have := lsum_key_ind ha (k ^^^ m)
    (fun x => w (k ^^^ m) m * reorderSignR (k ^^^ m) m * x * r) (by ring)
  rw [← this]
  apply lsum_congr; intro s _
  simp only [lsum, add_zero]
  by_cases h : s.1 = k ^^^ m
  · have hx : s.1 ^^^ m = k := by rw [h, Nat.xor_assoc, Nat.xor_self, Nat.xor_zero]
    rw [if_pos hx, if_pos h, h]
  · have hx : s.1 ^^^ m ≠ k := by
      intro e; apply h; rw [← e, Nat.xor_assoc, Nat.xor_self, Nat.xor_zero]
    rw [if_neg hx, if_neg h]

omit [DecidableEq R] in
theorem rev_pseudoscalar (dims : Nat) :
    rev (pseudoscalar dims : MVOf R)
      = [(2 ^ dims - 1, ((revSign (2 ^ dims - 1) : Int) : R) * 1)] := by
  rw [rev_eq_signMap]; rfl

omit [DecidableEq R] in
/-- the coefficients of `dual`: `A.dual()[k] = g(k') σ(k', I) rev(I) A[k']`, `k' = k ⊕ I` -/
theorem coeff_dualZ {z : R → Bool} (hz : ZSound z) (g : Nat → R) (dims : Nat) {a : MVOf R}
    (ha : NodupKeys a) (k : Nat) :
    coeff (dualZ z g dims a) k
      = wInner g (k ^^^ (2 ^ dims - 1)) (2 ^ dims - 1)
        * reorderSignR (k ^^^ (2 ^ dims - 1)) (2 ^ dims - 1)
        * coeff a (k ^^^ (2 ^ dims - 1)) * (((revSign (2 ^ dims - 1) : Int) : R) * 1) := by
  unfold dualZ
  rw [rev_pseudoscalar, coeff_genericProductZ_single_right hz _ ha]

omit [DecidableEq R] in
theorem wInner_of_subset (g : Nat → R) {k f : Nat} (h : k &&& f = k) :
    wInner g k f = prodBits g k := by
  unfold wInner
  simp only [h, true_or, ↓reduceIte, sharedMetricCoeff_eq_prodBits]

omit [DecidableEq R] in
/-- `dual(dual(A)) = (-1)^(n(n-1)/2) · det(g) · A` on every well-formed multivector
    (coefficient level, sound zero test) -/
theorem coeff_dualZ_dualZ {z : R → Bool} (hz : ZSound z) (g : Nat → R) (dims : Nat) {a : MVOf R}
    (ha : NodupKeys a) (hr : ∀ k ∈ keys a, k < 2 ^ dims) (k : Nat) :
    coeff (dualZ z g dims (dualZ z g dims a)) k
      = ((revSign (2 ^ dims - 1) : Int) : R) * prodBits g (2 ^ dims - 1) * coeff a k := by
  have hnd : NodupKeys (dualZ z g dims a) := genericProductZ_nodup _ _ _ _
  rw [coeff_dualZ hz g dims hnd, coeff_dualZ hz g dims ha, Nat.xor_assoc, Nat.xor_self,
    Nat.xor_zero]
  by_cases hk : k ∈ keys a
  · have hsub : k &&& (2 ^ dims - 1) = k := and_full_of_lt (hr k hk)
    have hsub' := xor_and_of_subset hsub
    rw [wInner_of_subset g hsub, wInner_of_subset g hsub']
    have hs : (reorderSignR (k ^^^ (2 ^ dims - 1)) (2 ^ dims - 1) : R)
        * reorderSignR k (2 ^ dims - 1) = ((revSign (2 ^ dims - 1) : Int) : R) := by
      have := sign_cocycle k (2 ^ dims - 1) (2 ^ dims - 1)
      rw [Nat.xor_self, reorderSign_zero_right, mul_one, ← revSign_eq_reorderSign_self] at this
      simp only [reorderSignR_eq_cast, ← Int.cast_mul]
      rw [mul_comm, this]
    have hg := prodBits_split g hsub
    have hr2 := revSignR_mul_self (R := R) (2 ^ dims - 1)
    linear_combination
      (((revSign (2 ^ dims - 1) : Int) : R) * ((revSign (2 ^ dims - 1) : Int) : R)
          * prodBits g (k ^^^ (2 ^ dims - 1)) * prodBits g k * coeff a k) * hs
      + (((revSign (2 ^ dims - 1) : Int) : R) * ((revSign (2 ^ dims - 1) : Int) : R)
          * ((revSign (2 ^ dims - 1) : Int) : R) * coeff a k) * hg
      + (((revSign (2 ^ dims - 1) : Int) : R) * prodBits g (2 ^ dims - 1) * coeff a k) * hr2
  · rw [coeff_eq_zero_of_not_mem hk]; ring

omit [DecidableEq R] in
/-- on well-formed multivectors `dual` (coded as the inner product `A | I.rev()`) is the
    geometric product `A * I.rev()` -/
theorem coeff_dualZ_eq_mul {z : R → Bool} (hz : ZSound z) (g : Nat → R) (dims : Nat) {a : MVOf R}
    (hr : ∀ k ∈ keys a, k < 2 ^ dims) (k : Nat) :
    coeff (dualZ z g dims a) k
      = coeff (genericProductZ z (wGeometric g) a (rev (pseudoscalar dims))) k := by
  unfold dualZ
  apply coeff_genericProductZ_congr_weight hz
  intro s hs o ho
  rw [rev_pseudoscalar] at ho
  simp only [keys_cons, keys_nil, List.mem_singleton] at ho
  subst ho
  rw [wInner_of_subset g (and_full_of_lt (hr s hs)), wGeometric_eq_prodBits,
    and_full_of_lt (hr s hs)]

/-- `I * I = (-1)^(n(n-1)/2) · det(g)` -/
theorem pseudoscalar_sq (g : Nat → R) (dims : Nat) :
    mvMul g (pseudoscalar dims) (pseudoscalar dims)
      = ofScalar (((revSign (2 ^ dims - 1) : Int) : R) * prodBits g (2 ^ dims - 1)) := by
  unfold mvMul pseudoscalar
  rw [genericProduct_blades, wGeometric_self, reorderSignR_self, Nat.xor_self]
  unfold ofScalar ofScalarZ
  by_cases h0 : prodBits g (2 ^ dims - 1) = 0
  · simp [h0, isZeroD]
  · by_cases h1 : prodBits g (2 ^ dims - 1) * ((revSign (2 ^ dims - 1) : Int) : R) = 0
    · simp [h0, h1, isZeroD, mul_comm]
    · have h1' : ¬ ((revSign (2 ^ dims - 1) : Int) : R) * prodBits g (2 ^ dims - 1) = 0 := by
        rw [mul_comm]; exact h1
      simp [h0, h1, isZeroD, mul_comm]

/-! ## grade projections, `gen_blades` -/

omit [DecidableEq R] in
/-- selecting items by a predicate on the key -/
theorem coeff_filter_keys (P : Nat → Bool) (a : MVOf R) (k : Nat) :
    coeff (a.filter fun p => P p.1) k = if P k then coeff a k else 0 := by
  induction a with
  | nil => simp
  | cons p d ih =>
    obtain ⟨k0, v0⟩ := p
    rw [List.filter_cons]
    by_cases hp : P k0 = true
    · simp only [hp, ↓reduceIte, coeff_cons, ih]
      by_cases hk : k0 = k
      · subst hk; simp [hp]
      · simp [hk]
    · simp only [hp, Bool.false_eq_true, ↓reduceIte, ih, coeff_cons]
      by_cases hk : k0 = k
      · subst hk; simp [hp]
      · simp [hk]

omit [CommRing R] [DecidableEq R] in
theorem nodupKeys_filter (P : Nat × R → Bool) {a : MVOf R} (ha : NodupKeys a) :
    NodupKeys (a.filter P) := by
  unfold NodupKeys keys at *
  exact (List.filter_sublist.map _).nodup ha

omit [CommRing R] [DecidableEq R] in
theorem project_eq_filter (a : MVOf R) (r : Nat) :
    project a r = a.filter fun p => decide (bitCount p.1 = r) := rfl

omit [DecidableEq R] in
/-- `project(r)` keeps exactly the coefficients of the grade-`r` blades -/
theorem coeff_project (a : MVOf R) (r k : Nat) :
    coeff (project a r) k = if bitCount k = r then coeff a k else 0 := by
  rw [project_eq_filter, coeff_filter_keys (fun k => decide (bitCount k = r))]
  simp

omit [DecidableEq R] in
theorem coeff_even (a : MVOf R) (k : Nat) :
    coeff (even a) k = if bitCount k % 2 = 0 then coeff a k else 0 := by
  have : even a = a.filter fun p => decide (bitCount p.1 % 2 = 0) := rfl
  rw [this, coeff_filter_keys (fun k => decide (bitCount k % 2 = 0))]
  simp

omit [DecidableEq R] in
theorem coeff_odd (a : MVOf R) (k : Nat) :
    coeff (odd a) k = if bitCount k % 2 ≠ 0 then coeff a k else 0 := by
  have : odd a = a.filter fun p => decide (bitCount p.1 % 2 ≠ 0) := rfl
  rw [this, coeff_filter_keys (fun k => decide (bitCount k % 2 ≠ 0))]
  simp

omit [CommRing R] [DecidableEq R] in
theorem project_project (a : MVOf R) (r s : Nat) :
    project (project a r) s = if r = s then project a r else [] := by
  simp only [project_eq_filter, List.filter_filter]
  split
  · next h => subst h; simp
  · next h =>
    rw [List.filter_eq_nil_iff]
    intro p _
    simp only [Bool.and_eq_true, decide_eq_true_eq, not_and]
    intro h1 h2; exact h (h2.symm.trans h1)

omit [DecidableEq R] in
/-- the grade projections sum to the identity -/
theorem lsum_coeff_project {a : MVOf R} {dims : Nat} (hr : ∀ k ∈ keys a, k < 2 ^ dims) (k : Nat) :
    lsum (fun r => coeff (project a r) k) (List.range (dims + 1)) = coeff a k := by
  simp only [coeff_project]
  by_cases hk : k ∈ keys a
  · have hb : bitCount k < dims + 1 := by
      rw [bitCount_eq_popcount]
      have := pc_le_of_lt dims k (hr k hk)
      omega
    exact lsum_range_ind (fun _ => coeff a k) (bitCount k) (dims + 1) hb
  · rw [coeff_eq_zero_of_not_mem hk]
    apply lsum_eq_zero; intro r _; simp

/-- `sum(l)` as Python evaluates it on multivectors: `((0 + l₀) + l₁) + …` -/
def mvSum (l : List (MVOf R)) : MVOf R := l.foldl mvAdd []

theorem mvSum_spec (l : List (MVOf R)) (hl : ∀ m ∈ l, NodupKeys m) :
    ∀ acc : MVOf R, NodupKeys acc →
      NodupKeys (l.foldl mvAdd acc) ∧
      ∀ k, coeff (l.foldl mvAdd acc) k = coeff acc k + lsum (fun m => coeff m k) l := by
  induction l with
  | nil => intro acc h; exact ⟨h, fun k => by simp [lsum]⟩
  | cons m l ih =>
    intro acc hacc
    have hm := hl m List.mem_cons_self
    have h1 : NodupKeys (mvAdd acc m) := mvAddZ_nodup _ hacc hm
    obtain ⟨h2, h3⟩ := ih (fun x hx => hl x (List.mem_cons_of_mem _ hx)) _ h1
    refine ⟨h2, fun k => ?_⟩
    rw [List.foldl_cons, h3 k, coeff_mvAddZ isZeroD_sound hacc hm, lsum]; ring

theorem coeff_mvSum (l : List (MVOf R)) (hl : ∀ m ∈ l, NodupKeys m) (k : Nat) :
    coeff (mvSum l) k = lsum (fun m => coeff m k) l := by
  unfold mvSum
  rw [(mvSum_spec l hl [] nodupKeys_nil).2 k]; simp

theorem mvAdd_pruned {a b : MVOf R} (ha : NodupKeys a) (hb : NodupKeys b) :
    Pruned (mvAdd a b) := mvAddZ_pruned isZeroD_complete ha hb

theorem mvSum_pruned (l : List (MVOf R)) (hl : ∀ m ∈ l, NodupKeys m) : Pruned (mvSum l) := by
  unfold mvSum
  rcases List.eq_nil_or_concat l with h | ⟨l', m, h⟩
  · subst h; exact pruned_nil
  · subst h
    rw [List.concat_eq_append, List.foldl_append]
    simp only [List.foldl_cons, List.foldl_nil]
    apply mvAdd_pruned
    · exact (mvSum_spec l' (fun x hx => hl x (by simp [hx])) [] nodupKeys_nil).1
    · exact hl m (by simp)

omit [CommRing R] [DecidableEq R] in
theorem genBladesGrade_eq (a : MVOf R) (r : Nat) : genBladesGrade a r = genBlades (project a r) :=
  rfl

omit [DecidableEq R] in
/-- the blades generated by `gen_blades` add up to the multivector -/
theorem lsum_coeff_genBlades {a : MVOf R} (ha : NodupKeys a) (k : Nat) :
    lsum (fun m => coeff m k) (genBlades a) = coeff a k := by
  have : genBlades a = a.map fun p => [(p.1, p.2)] := rfl
  rw [this, lsum_map]
  have h := lsum_key_ind ha k (fun x => x) rfl
  rw [← h]
  apply lsum_congr; intro p _
  rw [coeff_cons]; simp

end Ring

end PV.GA
