import PV.Proofs.SyntaxPrint
/-
  C07.  The parser model only ever consumes a prefix of its input: whatever a parse function
  returns as "rest" is a suffix of the token list it was given.
-/
namespace PV.Syntax
open PV

/-- a successful result leaves a suffix of `ts` -/
def Suf {α : Type} (ts : List Tok) (x : Except PErr (α × List Tok)) : Prop :=
  ∀ a r, x = .ok (a, r) → r <:+ ts

theorem Suf_ok {α : Type} {ts r : List Tok} {a : α} (h : r <:+ ts) :
    Suf ts (.ok (a, r) : Except PErr (α × List Tok)) := by
  rintro _ _ ⟨⟩; exact h

theorem Suf_error {α : Type} {ts : List Tok} {e : PErr} :
    Suf ts (.error e : Except PErr (α × List Tok)) := by
  intro a r h; cases h

theorem Suf_bind {α β : Type} {ts : List Tok} {x : Except PErr (α × List Tok)}
    {f : α × List Tok → Except PErr (β × List Tok)}
    (hf : ∀ a r, r <:+ ts → Suf ts (f (a, r))) (hx : Suf ts x) : Suf ts (x >>= f) := by
  intro b r h
  obtain ⟨⟨a, r1⟩, h1, h2⟩ := bind_eq_ok.mp h
  exact hf a r1 (hx a r1 h1) b r h2

/-- binding a result that carries no rest (e.g. `parseNeg`) -/
theorem Suf_bind' {α β : Type} {ts : List Tok} {x : Except PErr α}
    {f : α → Except PErr (β × List Tok)} (hf : ∀ a, Suf ts (f a)) : Suf ts (x >>= f) := by
  intro b r h
  obtain ⟨a, _, h2⟩ := bind_eq_ok.mp h
  exact hf a b r h2

theorem Suf_ite {α : Type} {ts : List Tok} {c : Prop} [Decidable c]
    {x y : Except PErr (α × List Tok)} (hx : Suf ts x) (hy : Suf ts y) :
    Suf ts (if c then x else y) := by
  split <;> assumption

theorem Suf_mono {α : Type} {ts ts' : List Tok} {x : Except PErr (α × List Tok)}
    (h : ts' <:+ ts) (hx : Suf ts' x) : Suf ts x :=
  fun a r hr => (hx a r hr).trans h

theorem tail_suf {ts ts' : List Tok} (h : ts' <:+ ts) : ts'.tail <:+ ts :=
  (List.tail_suffix ts').trans h

/-- the four statements for a given fuel -/
def SufAll (P : ParserPrec) (f : Nat) : Prop :=
  (∀ m ts, Suf ts (parseExpr P f m ts)) ∧
  (∀ ts, Suf ts (parsePrefix P f ts)) ∧
  (∀ m l fin ts, Suf ts (postfixLoop P f m l fin ts)) ∧
  (∀ ts a kn kv ca, Suf ts (parseArglist P f ts a kn kv ca))

variable {P : ParserPrec} {f : Nat}

/-! the induction hypothesis for a call on a suffix `r` of the input `ts` -/

theorem SufAll.expr (ih : SufAll P f) {ts r : List Tok} (h : r <:+ ts) (m : Nat) :
    Suf ts (parseExpr P f m r) := Suf_mono h (ih.1 m r)

theorem SufAll.loop (ih : SufAll P f) {ts r : List Tok} (h : r <:+ ts) (m l fin) :
    Suf ts (postfixLoop P f m l fin r) := Suf_mono h (ih.2.2.1 m l fin r)

theorem SufAll.args (ih : SufAll P f) {ts r : List Tok} (h : r <:+ ts) (a kn kv ca) :
    Suf ts (parseArglist P f r a kn kv ca) := Suf_mono h (ih.2.2.2 r a kn kv ca)

set_option hygiene false in
/-- `r <:+ ts` from the suffix facts in the context; the form with `ih` is for a `match` on the
result of a recursive call, the last one for a rest two tokens further on -/
macro "suf_side" : tactic => `(tactic| first
  | assumption
  | exact List.suffix_refl _
  | exact tail_suf (by assumption)
  | exact tail_suf (List.suffix_refl _)
  | exact ih.expr (by assumption) _ _ _ (by assumption)
  | exact (List.suffix_cons _ _).trans ((List.suffix_cons _ _).trans (by assumption)))

set_option hygiene false in
/-- one step through the body of a parse function: `x >>= f` continues with `f` on what `x` left
over; a recursive call on a suffix of the input is the induction hypothesis `ih`; a case
distinction is split; a result or an error is immediate.  The rules for the program constructs
are tried `with_reducible`, so that one that does not fit fails at once instead of unfolding the
parse functions; the last line is for a call under a `have`. -/
macro "suf_step" : tactic => `(tactic| first
  | with_reducible refine Suf_ite ?_ ?_
  | (with_reducible refine Suf_bind (fun _ _ _ => ?_) ?_; dsimp only)
  | with_reducible refine Suf_bind' (fun _ => ?_)
  | with_reducible exact ih.expr (by suf_side) _
  | with_reducible exact ih.loop (by suf_side) _ _ _
  | with_reducible exact ih.args (by suf_side) _ _ _ _
  | split
  | exact Suf_error
  | exact Suf_ok (by suf_side)
  | exact ih.loop (by suf_side) _ _ _)

theorem sufE_step (ih : SufAll P f) (m : Nat) (ts : List Tok) :
    Suf ts (parseExpr P (f + 1) m ts) :=
  Suf_bind (fun _ _ hr => ih.loop hr m _ _) (ih.2.1 ts)

theorem sufL_step (ih : SufAll P f) (m : Nat) (l : Expr) (fin : Bool)
    (ts : List Tok) : Suf ts (postfixLoop P (f + 1) m l fin ts) := by
  cases ts with
  | nil => exact Suf_ok (List.suffix_refl _)
  | cons t ts =>
    have hts : ts <:+ t :: ts := List.suffix_cons _ _
    unfold postfixLoop
    split
    all_goals repeat' suf_step

/-- `parse_prefix` consumes at least one token -/
theorem sufP_step (ih : SufAll P f) (t : Tok) (ts : List Tok) :
    Suf ts (parsePrefix P (f + 1) (t :: ts)) := by
  have hts : ts <:+ ts := List.suffix_refl _
  unfold parsePrefix
  split
  all_goals (try cases ‹_ + 1 = Nat.succ _›)
  all_goals (try cases ‹_ :: _ = _ :: _›)
  all_goals (try cases ‹_ :: _ = []›)
  all_goals repeat' suf_step

theorem sufA_step (ih : SufAll P f) (ts : List Tok) (a : List Expr)
    (kn : List String) (kv : List Expr) (ca : Bool) :
    Suf ts (parseArglist P (f + 1) ts a kn kv ca) := by
  cases ts with
  | nil => exact Suf_error
  | cons t ts =>
    have hts : ts <:+ t :: ts := List.suffix_cons _ _
    simp only [parseArglist]
    generalize hq : (if isSym "," (t :: ts) = true then (t :: ts).tail else t :: ts) = toks1
    have h1 : toks1 <:+ t :: ts := by
      rw [← hq]; split
      · exact List.tail_suffix _
      · exact List.suffix_refl _
    repeat' (first | suf_step | (subst_vars; suf_step))

theorem sufAll (P : ParserPrec) : ∀ f, SufAll P f
  | 0 => ⟨fun _ _ => Suf_error, fun _ => Suf_error, fun _ _ _ _ => Suf_error,
      fun _ _ _ _ _ => Suf_error⟩
  | f + 1 =>
    have ih := sufAll P f
    ⟨sufE_step ih, fun
      | [] => Suf_error
      | t :: ts => Suf_mono (List.suffix_cons t ts) (sufP_step ih t ts),
      sufL_step ih, sufA_step ih⟩

theorem sufP_strict (f : Nat) (t : Tok) (ts : List Tok) : Suf ts (parsePrefix P f (t :: ts)) :=
  match f with
  | 0 => Suf_error
  | f + 1 => sufP_step (sufAll P f) t ts

/-- a successful `parse_expression` consumes at least one token -/
theorem PEok_consumes {k m ts e R} (h : PEok P k m ts (e, R)) :
    R.length + 1 ≤ ts.length := by
  have h1 := h (k + 1) (by omega)
  cases ts with
  | nil => exact absurd rfl (PEok_ne_nil h)
  | cons t ts =>
    simp only [parseExpr] at h1
    obtain ⟨⟨⟨l, fin⟩, r1⟩, hp, hl⟩ := bind_eq_ok.mp h1
    have s1 : r1 <:+ ts := sufP_strict k t ts _ _ hp
    have s2 : R <:+ r1 := (sufAll P k).2.2.1 m l fin r1 e R hl
    have := (s2.trans s1).length_le
    simp only [List.length_cons]; omega

end PV.Syntax
