import PV.Proofs.SyntaxLexGood
/-
  C06.  The printed form of a lexically safe tree (`LexSafe S e`) is a `Good` piece list; hence
  the model lexer reads the rendered STRING back as the printer's token list
  (`lex_render_safe`; `PV.C06.lex_render` is its statement in the property file).  The printer table `S` is arbitrary.
-/
set_option linter.unusedSimpArgs false
namespace PV.Lexer
open PV PV.Syntax

/-! ### the lexical side conditions on a tree -/

mutual
/-- **lexical safety** of a tree for the printer table `S`: every name is lexed as one
identifier (`identOk`), every float constant prints with a `repr` spelling that reads back as the
same constant (`fltPieceOk`), integers have at most 4300 digits, n-ary nodes are non-empty,
slices have at least two parts, and the printed aggregate of an attribute look-up does not end
in an integer literal (`1.u` is lexed as a float with a letter tag) -/
def LexSafe (S : PrintPrec) : Expr → Bool
  | .const (.int n) => natOk n.natAbs
  | .const (.bool _) => true
  | .const (.flt r n d) =>
      if r.startsWith "-" then fltPieceOk (r.drop 1).toString (-n) d else fltPieceOk r n d
  | .var x => identOk x.toList
  | .nary .min _ => false
  | .nary .max _ => false
  | .nary _ cs => !cs.isEmpty && LexSafeL S cs
  | .bin _ a b => LexSafe S a && LexSafe S b
  | .un _ a => LexSafe S a
  | .cmp _ a b => LexSafe S a && LexSafe S b
  | .ite c t e => LexSafe S c && LexSafe S t && LexSafe S e
  | .call f as => LexSafe S f && LexSafeL S as
  | .callKw f as ns vs =>
      LexSafe S f && LexSafeL S as && LexSafeL S vs && ns.all (fun k => identOk k.toList)
  | .subscript a i => LexSafe S a && LexSafe S i
  | .lookup a n =>
      LexSafe S a && identOk n.toList &&
        (match strE S a S.call with
         | .ok ap => !endsInt ap
         | .error _ => true)
  | .tuple cs => LexSafeL S cs
  | .list cs => LexSafeL S cs
  | .slice cs => decide (2 ≤ cs.length) && LexSafeSlice S cs
  | _ => false
def LexSafeL (S : PrintPrec) : List Expr → Bool
  | [] => true
  | c :: cs => LexSafe S c && LexSafeL S cs
/-- parts of a slice: an omitted part (`None`) prints as nothing -/
def LexSafeSlice (S : PrintPrec) : List Expr → Bool
  | [] => true
  | .const .none :: cs => LexSafeSlice S cs
  | c :: cs => LexSafe S c && LexSafeSlice S cs
end

theorem cmp_sym_entry (o : CmpOp) : (symEntry o.sym.toList).isSome = true := by
  cases o <;> decide +kernel

theorem good_kw {k : String} (hk : identOk k.toList = true) {v : Pieces} (hv : Good v) :
    Good ((.tok (.ident k) : Piece) :: sy "=" :: v) := by
  have hgk := good_ident hk
  have hp : PreOk [(.tok (.ident k) : Piece), sy "="] := by
    refine .ofStart (by simp) ?_ fun c hc => ?_
    · obtain ⟨c, hc, hs⟩ := hgk.start
      exact ⟨c, hc, hs⟩
    · have hne : c ≠ '=' := start_ne hc (by decide)
      have h1 : nextCharN [sy "="] (some c) = some '=' := rfl
      have h2 : nextCharN [] (some c) = some c := rfl
      have h3 : pieceOk (.tok (.ident k)) (some '=') = true := by
        simp only [pieceOk, hk, Bool.true_and]; decide
      have h4 : pieceOk (sy "=") (some c) = true := by
        rw [pieceOk_sym se_assign]; simp [nextNot, hne]
      simp only [adjOkN, h1, h2, h3, h4, Bool.and_self]
  simpa using Good.pre hp hv

theorem good_kws : ∀ (ns : List String) (vp : List Pieces),
    ns.all (fun k => identOk k.toList) = true → (∀ v ∈ vp, Good v) →
    ∀ x ∈ (ns.zip vp).map (fun p => (.tok (.ident p.1) : Piece) :: sy "=" :: p.2), Good x
  | [], _, _, _, x, hx => by simp at hx
  | _ :: _, [], _, _, x, hx => by simp at hx
  | k :: ns, v :: vp, hk, hv, x, hx => by
    simp only [List.all_cons, Bool.and_eq_true] at hk
    simp only [List.zip_cons_cons, List.map_cons, List.mem_cons] at hx
    rcases hx with rfl | hx
    · exact good_kw hk.1 (hv v (List.mem_cons_self ..))
    · exact good_kws ns vp hk.2 (fun w hw => hv w (List.mem_cons_of_mem _ hw)) x hx

/-- `x op y`; that `op` is a symbol of the table is evaluated where `op` is a literal -/
theorem good_spaced {x y : Pieces} {op : String} (hx : Good x) (hy : Good y)
    (ho : (symEntry op.toList).isSome = true := by decide +kernel) :
    Good (x ++ [.sp, sy op, .sp] ++ y) :=
  hx.sep (sepOk_spaced ho) hy

theorem good_joinSpaced {op : String} {xs : List Pieces} (hne : xs ≠ []) (hx : ∀ x ∈ xs, Good x)
    (enc my : Nat) (ho : (symEntry op.toList).isSome = true := by decide +kernel) :
    Good (parenIf (joinWith [.sp, sy op, .sp] xs) enc my) :=
  good_parenIf (good_joinWith (sepOk_spaced ho) xs hne hx) enc my

theorem strL_length {S : PrintPrec} : ∀ {cs : List Expr} {enc : Nat} {xs : List Pieces},
    strL S cs enc = .ok xs → xs.length = cs.length
  | [], _, xs, h => by rw [strL_nil h]; rfl
  | c :: cs, _, xs, h => by
    obtain ⟨x, xs', _, hxs, rfl⟩ := strL_cons h
    simp [strL_length hxs]

theorem strForceL_length {S : PrintPrec} {all : Bool} : ∀ {cs : List Expr} {enc : Nat}
    {xs : List Pieces}, strForceL S all cs enc = .ok xs → xs.length = cs.length
  | [], _, xs, h => by rw [strForceL_nil h]; rfl
  | c :: cs, _, xs, h => by
    obtain ⟨x, xs', _, hxs, rfl⟩ := strForceL_cons h
    simp [strForceL_length hxs]

theorem ne_nil_of_length {α β : Type} {xs : List α} {cs : List β} (h : xs.length = cs.length)
    (hc : cs.isEmpty = false) : xs ≠ [] := by
  rintro rfl
  cases cs with
  | nil => simp at hc
  | cons _ _ => simp at h

theorem strE_subscript_inv {S : PrintPrec} {a i : Expr} {enc : Nat} {ps : Pieces}
    (hi : ∀ cs, i ≠ .tuple cs) (h : strE S (.subscript a i) enc = .ok ps) :
    ∃ ap ip, strE S a S.call = .ok ap ∧ strE S i S.none = .ok ip ∧
      ps = parenIf (ap ++ [sy "["] ++ ip ++ [sy "]"]) enc S.call := by
  have hi' : ∀ cs, i = .tuple cs → False := hi
  rw [strE] at h
  · simp only [bind_eq_ok, pure, Except.pure, Except.ok.injEq] at h
    obtain ⟨y, hy, x, hx, rfl⟩ := h
    exact ⟨x, y, hx, hy, rfl⟩
  · exact hi'

mutual
theorem strE_good (S : PrintPrec) : ∀ (e : Expr) (enc : Nat) (ps : Pieces),
    LexSafe S e = true → strE S e enc = .ok ps → Good ps
  | .const (.int n), enc, ps, hs, h => by
    simp only [LexSafe] at hs
    simp only [strE, constPieces] at h
    split at h
    · simp only [pure, Except.pure, Except.ok.injEq] at h
      have hg : Good [sy "-", .tok (.int n.natAbs)] := by
        simpa using Good.pre preOk_minus (good_nat hs)
      subst h
      split
      · exact good_parens hg
      · exact hg
    · simp only [pure, Except.pure, Except.ok.injEq] at h
      subst h
      have : n.toNat = n.natAbs := by omega
      rw [this]; exact good_nat hs
  | .const (.bool b), enc, ps, hs, h => by
    simp only [strE, constPieces, pure, Except.pure, Except.ok.injEq] at h
    subst h
    cases b
    · exact good_false
    · exact good_true
  | .const (.flt r n d), enc, ps, hs, h => by
    simp only [LexSafe] at hs
    simp only [strE, constPieces] at h
    split at h
    · cases h
    · simp only [pure, Except.pure, Except.ok.injEq] at h
      subst h
      by_cases hneg : r.startsWith "-" = true
      · simp only [hneg, if_true] at hs ⊢
        have hg : Good [sy "-", .tok (.flt (r.drop 1).toString (-n) d)] := by
          simpa using Good.pre preOk_minus (good_flt hs)
        split
        · exact good_parens hg
        · exact hg
      · simp only [hneg, Bool.false_eq_true, if_false] at hs ⊢
        split
        · exact good_parens (good_flt hs)
        · exact good_flt hs
  | .const (.str _), _, _, _, h | .const .none, _, _, _, h => by simp [strE, constPieces] at h
  | .var x, enc, ps, hs, h => by
    simp only [LexSafe] at hs
    simp only [strE, pure, Except.pure, Except.ok.injEq] at h
    subst h; exact good_ident hs
  | .call f as, enc, ps, hs, h => by
    simp only [LexSafe, Bool.and_eq_true] at hs
    simp only [strE, bind_eq_ok, pure, Except.pure, Except.ok.injEq] at h
    obtain ⟨fp, hf, ap, ha, rfl⟩ := h
    exact good_bracketed (strE_good S f _ _ hs.1 hf) sepOk_lpar sufOk_rpar sufOk_call0
      (strL_good S as _ _ hs.2 ha)
  | .callKw f as ns vs, enc, ps, hs, h => by
    simp only [LexSafe, Bool.and_eq_true] at hs
    simp only [strE, bind_eq_ok, pure, Except.pure, Except.ok.injEq] at h
    obtain ⟨ap, ha, vp, hv, fp, hf, rfl⟩ := h
    refine good_bracketed (strE_good S f _ _ hs.1.1.1 hf) sepOk_lpar sufOk_rpar sufOk_call0 ?_
    intro x hx
    rcases List.mem_append.mp hx with hx | hx
    · exact strL_good S as _ _ hs.1.1.2 ha x hx
    · exact good_kws ns vp hs.2 (strL_good S vs _ _ hs.1.2 hv) x hx
  | .subscript a i, enc, ps, hs, h => by
    simp only [LexSafe, Bool.and_eq_true] at hs
    have iha := fun ps h1 => strE_good S a S.call ps hs.1 h1
    by_cases hnt : ∀ cs, i ≠ .tuple cs
    · obtain ⟨ap, ip, ha, hi, rfl⟩ := strE_subscript_inv hnt h
      exact good_parenIf (((iha _ ha).sep sepOk_lbr (strE_good S i _ _ hs.2 hi)).suf sufOk_rbr) _ _
    · cases i with
      | tuple cs =>
        simp only [strE, bind_eq_ok, pure, Except.pure, Except.ok.injEq] at h
        obtain ⟨ip, hi, ap, ha, rfl⟩ := h
        have hsl : LexSafeL S cs = true := by simpa [LexSafe] using hs.2
        exact good_parenIf (good_bracketed (iha _ ha) sepOk_lbr sufOk_rbr sufOk_index0
          (strL_good S cs _ _ hsl hi)) _ _
      | _ => exact absurd (fun _ h => nomatch h) hnt
  | .lookup a n, enc, ps, hs, h => by
    simp only [LexSafe, Bool.and_eq_true] at hs
    simp only [strE, bind_eq_ok, pure, Except.pure, Except.ok.injEq] at h
    obtain ⟨ap, ha, rfl⟩ := h
    have hd : endsInt ap = false := by
      have := hs.2
      rw [ha] at this
      simpa using this
    exact good_parenIf (good_lookup (strE_good S a _ _ hs.1.1 ha) hd hs.1.2) _ _
  | .nary o cs, enc, ps, hs, h => by
    cases o with
    | min => simp [LexSafe] at hs
    | max => simp [LexSafe] at hs
    | prod =>
      simp only [LexSafe, Bool.and_eq_true, Bool.not_eq_true'] at hs
      simp only [strE, bind_eq_ok, pure, Except.pure, Except.ok.injEq] at h
      obtain ⟨xs, hx, rfl⟩ := h
      exact good_parenIf (good_joinWith sepOk_times xs
        (ne_nil_of_length (strForceL_length hx) hs.1) (strForceL_good S false cs _ _ hs.2 hx)) _ _
    | sum | bor | bxor | band | lor | land =>
      simp only [LexSafe, Bool.and_eq_true, Bool.not_eq_true'] at hs
      simp only [strE, bind_eq_ok, pure, Except.pure, Except.ok.injEq] at h
      obtain ⟨xs, hx, rfl⟩ := h
      exact good_joinSpaced (ne_nil_of_length (strL_length hx) hs.1) (strL_good S cs _ _ hs.2 hx)
        _ _
  | .bin o a b, enc, ps, hs, h => by
    simp only [LexSafe, Bool.and_eq_true] at hs
    have ha := fun enc ps => strE_good S a enc ps hs.1
    have hb := fun enc ps => strE_good S b enc ps hs.2
    cases o <;> simp only [strE, bind_eq_ok, pure, Except.pure, Except.ok.injEq] at h <;>
      obtain ⟨x, hx, y, hy, rfl⟩ := h
    case pow => exact good_parenIf ((ha _ _ hx).sep sepOk_pow (hb _ _ hy)) _ _
    case lshift | rshift => exact good_parenIf (good_spaced (ha _ _ hx) (hb _ _ hy)) _ _
    all_goals exact good_parenIf (good_spaced (good_forceWrap (ha _ _ hx) _ _)
      (good_forceWrap (hb _ _ hy) _ _)) _ _
  | .un o a, enc, ps, hs, h => by
    simp only [LexSafe] at hs
    cases o <;> simp only [strE, bind_eq_ok, pure, Except.pure, Except.ok.injEq] at h <;>
      obtain ⟨x, hx, rfl⟩ := h
    · exact good_parenIf (by simpa using Good.pre preOk_bnot (strE_good S a _ _ hs hx)) _ _
    · exact good_parenIf (by simpa using Good.pre preOk_not (strE_good S a _ _ hs hx)) _ _
  | .cmp o a b, enc, ps, hs, h => by
    simp only [LexSafe, Bool.and_eq_true] at hs
    simp only [strE, bind_eq_ok, pure, Except.pure, Except.ok.injEq] at h
    obtain ⟨x, hx, y, hy, rfl⟩ := h
    exact good_parenIf (good_spaced (strE_good S a _ _ hs.1 hx) (strE_good S b _ _ hs.2 hy)
      (cmp_sym_entry o)) _ _
  | .ite c t e, enc, ps, hs, h => by
    simp only [LexSafe, Bool.and_eq_true] at hs
    simp only [strE, bind_eq_ok, pure, Except.pure, Except.ok.injEq] at h
    obtain ⟨tp, ht, cp, hc, ep, he, rfl⟩ := h
    exact good_parenIf (good_spaced (good_spaced (strE_good S t _ _ hs.1.2 ht)
      (strE_good S c _ _ hs.1.1 hc)) (strE_good S e _ _ hs.2 he)) _ _
  | .tuple cs, enc, ps, hs, h => by
    simp only [LexSafe] at hs
    simp only [strE, bind_eq_ok, pure, Except.pure, Except.ok.injEq] at h
    obtain ⟨xs, hx, rfl⟩ := h
    have hg := strL_good S cs _ _ hs hx
    cases xs with
    | nil =>
      have : cs.length = 0 := by simpa using (strL_length hx).symm
      simpa [this, joinWith, parens] using good_unit
    | cons x xs =>
      have hj := good_joinWith sepOk_comma (x :: xs) (by simp) hg
      split
      · exact good_parens (hj.suf sufOk_comma)
      · exact good_parens hj
  | .list cs, enc, ps, hs, h => by
    simp only [LexSafe] at hs
    simp only [strE, bind_eq_ok, pure, Except.pure, Except.ok.injEq] at h
    obtain ⟨xs, hx, rfl⟩ := h
    exact good_seq preOk_lbr sufOk_rbr good_nil (strL_good S cs _ _ hs hx)
  | .slice cs, enc, ps, hs, h => by
    simp only [LexSafe, Bool.and_eq_true, decide_eq_true_eq] at hs
    simp only [strE, bind_eq_ok, pure, Except.pure, Except.ok.injEq] at h
    obtain ⟨xs, hx, rfl⟩ := h
    obtain ⟨hl, hg⟩ := strSliceL_good S cs _ hs.2 hx
    have hne : xs ≠ [] := by
      rintro rfl; simp at hl; omega
    exact good_parenIf ((good_slice xs hne hg).2 (by omega)) _ _
  | .cse .., _, _, hs, _ | .subst .., _, _, hs, _ | .deriv .., _, _, hs, _ | .nan, _, _, hs, _
  | .wildcard, _, _, hs, _ | .dotWild _, _, _, hs, _ | .starWild _, _, _, hs, _
  | .funcSym, _, _, hs, _ => by simp [LexSafe] at hs
theorem strL_good (S : PrintPrec) : ∀ (cs : List Expr) (enc : Nat) (xs : List Pieces),
    LexSafeL S cs = true → strL S cs enc = .ok xs → ∀ x ∈ xs, Good x
  | [], _, xs, _, h => by rw [strL_nil h]; intro x hx; cases hx
  | c :: cs, enc, xs, hs, h => by
    simp only [LexSafeL, Bool.and_eq_true] at hs
    obtain ⟨x, xs', hx, hxs, rfl⟩ := strL_cons h
    intro y hy
    rcases List.mem_cons.mp hy with rfl | hy
    · exact strE_good S c _ _ hs.1 hx
    · exact strL_good S cs _ _ hs.2 hxs y hy
theorem strForceL_good (S : PrintPrec) (all : Bool) : ∀ (cs : List Expr) (enc : Nat)
    (xs : List Pieces), LexSafeL S cs = true → strForceL S all cs enc = .ok xs → ∀ x ∈ xs, Good x
  | [], _, xs, _, h => by rw [strForceL_nil h]; intro x hx; cases hx
  | c :: cs, enc, xs, hs, h => by
    simp only [LexSafeL, Bool.and_eq_true] at hs
    obtain ⟨x, xs', hx, hxs, rfl⟩ := strForceL_cons h
    intro y hy
    rcases List.mem_cons.mp hy with rfl | hy
    · exact good_forceWrap (strE_good S c _ _ hs.1 hx) _ _
    · exact strForceL_good S all cs _ _ hs.2 hxs y hy
theorem strSliceL_good (S : PrintPrec) : ∀ (cs : List Expr) (xs : List Pieces),
    LexSafeSlice S cs = true → strSliceL S cs = .ok xs →
    xs.length = cs.length ∧ ∀ x ∈ xs, x = [] ∨ Good x
  | [], xs, _, h => by rw [strSliceL_nil h]; exact ⟨rfl, fun x hx => by cases hx⟩
  | c :: cs, xs, hs, h => by
    by_cases hc : c = .const .none
    · subst hc
      simp only [LexSafeSlice] at hs
      obtain ⟨xs', hxs, rfl⟩ := strSliceL_none h
      obtain ⟨hl, hg⟩ := strSliceL_good S cs xs' hs hxs
      refine ⟨by simp [hl], fun y hy => ?_⟩
      rcases List.mem_cons.mp hy with rfl | hy
      · exact Or.inl rfl
      · exact hg y hy
    · obtain ⟨x, xs', hx, hxs, rfl⟩ := strSliceL_cons hc h
      have hs' : LexSafe S c = true ∧ LexSafeSlice S cs = true := by
        rw [LexSafeSlice] at hs
        · simpa using hs
        · exact fun h' => hc h'
      obtain ⟨hl, hg⟩ := strSliceL_good S cs xs' hs'.2 hxs
      refine ⟨by simp [hl], fun y hy => ?_⟩
      rcases List.mem_cons.mp hy with rfl | hy
      · exact Or.inr (strE_good S c _ _ hs'.1 hx)
      · exact hg y hy
end

/-- the printed form of a lexically safe tree passes the piece-level check -/
theorem adjOk_of_lexSafe {S : PrintPrec} {e : Expr} {ps : Pieces} (hs : LexSafe S e = true)
    (h : strTop S e = .ok ps) : adjOk ps = true :=
  (strE_good S e S.none ps hs h).adj none (by decide)

/-- **the lexer reads the string form of a lexically safe tree back as the printer's tokens** -/
theorem lex_render_safe {S : PrintPrec} {e : Expr} {ps : Pieces} (hs : LexSafe S e = true)
    (h : strTop S e = .ok ps) : lex (render ps) = .ok (toks ps) :=
  lex_render_of_adjOk (adjOk_of_lexSafe hs h)

end PV.Lexer
