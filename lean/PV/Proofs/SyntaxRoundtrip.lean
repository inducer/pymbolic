import PV.Proofs.SyntaxPrint
/-
  C06.  Printing followed by parsing on the fragment `Printable P S`: the main lemma, in
  continuation-passing form:

    if the postfix loop, started with the (normal form of the) tree `t` as its left operand on the
    remaining input `R`, returns `res`, then `parse_expression` on `tokens(t) ++ R` returns `res`.

  The two side conditions are the invariants of the induction: every operator on the unparenthesised left
  spine of `t` is absorbed at the current level (`lguard > m`), and no loop that is still open
  at the right end of `t` absorbs the first token of `R`.  They are derived node by node from
  `okTriple`.  Fuel: `G k n = max (2 n + 1) (k + n)` for a printed form of `n` tokens.
-/
namespace PV.Syntax
open PV

variable {P : ParserPrec} {S : PrintPrec}

/-- fuel that suffices for a printed form of `n` tokens when the continuation needs `k` -/
def G (k n : Nat) : Nat := max (2 * n + 1) (k + n)

def lguardE (P : ParserPrec) (t : Expr) : Option Nat :=
  match kind t with | some k => k.lguard P | none => none
def rlevelE (P : ParserPrec) (t : Expr) : Option Nat :=
  match kind t with | some k => k.rlevel P | none => none

/-- the loop still open at level `rl` (if any) does not react to the head of `R` -/
def NAK (P : ParserPrec) (rl : Option Nat) (R : List Tok) : Prop :=
  match rl with | none => True | some l => ¬ absorbs P l R

/-- The main lemma for one tree `t`, printed under any enclosing precedence `enc`: whatever the
postfix loop returns when it is started with `pnf t` as its left operand on the rest `R`,
`parse_expression` returns on `tokens(t) ++ R`.  When the printer put `t` in parentheses
(`wrappedE`), the tokens are one parenthesised atom: the closing parenthesis ends every loop
inside, and the loop outside only sees an atom, so nothing about `m` or `R` is needed beyond
"the spine of `t` is absorbed at level 0"; otherwise the two invariants of the file header. -/
def Goal (P : ParserPrec) (S : PrintPrec) (t : Expr) : Prop :=
  ∀ enc ps, strE S t enc = .ok ps → ∀ m R res k,
    (if wrappedE S enc t then gtO (lguardE P t) 0
      else gtO (lguardE P t) m ∧ NAK P (rlevelE P t) R) →
    PLok P k m (pnf t) (finOf t) R res → PEok P (G k (toks ps).length) m (toks ps ++ R) res

/-- the statement for the unparenthesised token list `T0` of `t` -/
def Bare (P : ParserPrec) (t : Expr) (T0 : List Tok) : Prop :=
  ∀ m R res k, gtO (lguardE P t) m → NAK P (rlevelE P t) R →
    PLok P k m (pnf t) (finOf t) R res → PEok P (G k T0.length) m (T0 ++ R) res

/-! ### fuel: every bound below has the form `G k' n ≤ G k N`, with `k'` the fuel of the loop
that continues after an operand of `n` tokens inside a printed form of `N` tokens -/

theorem G_one (k : Nat) : max 1 k + 1 ≤ G k 1 := by simp only [G]; omega

theorem G_one_eq (n : Nat) : G 1 n = 2 * n + 1 := by simp only [G]; omega

/-- the loop first reads something that needs fuel `a`, then goes on with fuel `k` -/
theorem G_le {a k n N : Nat} (hn : n < N) (ha : a + n ≤ 2 * N) : G (max a k + 1) n ≤ G k N := by
  simp only [G]; omega

theorem G_succ_le {k n N : Nat} (hn : n < N) : G (k + 1) n ≤ G k N := by
  simp only [G]; omega

/-- a prefix form: one token (two with the closing parenthesis) around `n` tokens -/
theorem G_prefix {k n N : Nat} (h : n < N) : max (G 1 n + 1) k + 1 ≤ G k N := by
  simp only [G]; omega

theorem G_chain {k a n N : Nat} (h : a + n < N) : max (G 1 a) (G k n) + 1 ≤ G k N := by
  simp only [G]; omega

theorem G_G (k a b : Nat) : G (G k b) a ≤ G k (a + b) := by
  simp only [G]; omega

theorem NAK_rparen {rl R} : NAK P rl (.sym ")" :: R) := by
  cases rl with
  | none => trivial
  | some l => exact not_absorbs_rparen

theorem goal_of_bare {t : Expr} {T0 : List Tok} (hb : Bare P t T0)
    (hnt : ∀ cs, pnf t ≠ .tuple cs) (hfin : finOf t = false) {w : Bool} {T : List Tok}
    (hT : T = wrapT w T0) {m R res k}
    (hc : if w then gtO (lguardE P t) 0 else gtO (lguardE P t) m ∧ NAK P (rlevelE P t) R)
    (hl : PLok P k m (pnf t) (finOf t) R res) : PEok P (G k T.length) m (T ++ R) res := by
  subst hT
  cases w with
  | false => exact hb m R res k hc.1 hc.2 hl
  | true =>
    have h0 := hb 0 (.sym ")" :: R) (pnf t, .sym ")" :: R) 1 hc NAK_rparen
      (PL_stop not_absorbs_rparen)
    rw [hfin] at hl
    have h1 := PE_mk (PP_paren h0 hnt) hl
    simp only [wrapT, if_true, List.cons_append, List.append_assoc, List.nil_append]
    refine h1.mono ?_
    simp only [List.length_cons, List.length_append, List.length_nil]
    exact G_prefix (Nat.lt_succ_of_lt (Nat.lt_succ_self _))


theorem okAt_iff {pos : Pos} {c : Expr} (h : okAt P S pos c = true) :
    ∃ kc, kind c = some kc ∧ okTriple P S pos kc = true := by
  unfold okAt at h
  split at h
  · exact ⟨_, ‹_›, h⟩
  · cases h

theorem spliceNary_isNary (op : NaryOp) (l r : Expr) : ∃ ys, spliceNary op l r = .nary op ys := by
  unfold spliceNary
  split
  · split <;> exact ⟨_, rfl⟩
  · exact ⟨_, rfl⟩

theorem pnfSum_isNary : ∀ (cs : List Expr) (xs : List Expr),
    ∃ ys, pnfSum (.nary .sum xs) cs = .nary .sum ys
  | [], xs => ⟨xs, by simp [pnfSum]⟩
  | c :: cs, xs => by
    obtain ⟨ys, hys⟩ := spliceNary_isNary .sum (.nary .sum xs) (pnf c)
    simp only [pnfSum, hys]
    exact pnfSum_isNary cs ys

theorem pnfProd_cons2 (c d : Expr) (ds : List Expr) :
    pnfProd (c :: d :: ds) = spliceNary .prod (pnf c) (pnfProd (d :: ds)) := rfl

theorem pnfProd_one (c : Expr) : pnfProd [c] = pnf c := rfl

/-- the normal form of a tree of the fragment has the class of the tree -/
theorem kind_pnf {t : Expr} (hp : Printable P S t = true) : kind (pnf t) = kind t := by
  cases t with
  | nary o ds =>
    cases o with
    | sum =>
      match ds, hp with
      | c :: d :: ds', _ =>
        obtain ⟨ys, hys⟩ := spliceNary_isNary .sum (pnf c) (pnf d)
        obtain ⟨zs, hzs⟩ := pnfSum_isNary ds' ys
        show kind (pnfSum (spliceNary .sum (pnf c) (pnf d)) ds') = _
        rw [hys, hzs]; rfl
      | [], hp => cases hp
      | [_], hp => cases hp
    | prod =>
      match ds, hp with
      | c :: d :: ds', _ =>
        obtain ⟨ys, hys⟩ := spliceNary_isNary .prod (pnf c) (pnfProd (d :: ds'))
        show kind (spliceNary .prod (pnf c) (pnfProd (d :: ds'))) = _
        rw [hys]; rfl
      | [], hp => cases hp
      | [_], hp => cases hp
    | _ => rfl
  | _ => rfl

theorem pnf_ne_tuple {t : Expr} (hp : Printable P S t = true) (hk : kind t ≠ some .tuple) :
    ∀ cs, pnf t ≠ .tuple cs :=
  fun cs h => hk (by rw [← kind_pnf hp, h]; rfl)

theorem finOf_false {t : Expr} {k : Kind} (hk : kind t = some k) (h1 : k ≠ .tuple)
    (h2 : k ≠ .list) : finOf t = false := by
  cases t <;> first | rfl | (cases hk; contradiction)

theorem paren_facts {c : Expr} {kc : Kind} (hp : Printable P S c = true) (hk : kind c = some kc)
    (h1 : kc ≠ .tuple) (h2 : kc ≠ .list) : (∀ cs, pnf c ≠ .tuple cs) ∧ finOf c = false :=
  ⟨pnf_ne_tuple hp (by rw [hk]; simpa using h1), finOf_false hk h1 h2⟩

theorem forces_kind {pos : Pos} {k : Kind} (h : pos.forces k = true) : k ≠ .tuple ∧ k ≠ .list := by
  have ht : pos.forces .tuple = false ∧ pos.forces .list = false := by
    cases pos <;> first | exact ⟨rfl, rfl⟩ | (rename_i o; cases o <;> exact ⟨rfl, rfl⟩)
  constructor <;> rintro rfl
  · rw [ht.1] at h; cases h
  · rw [ht.2] at h; cases h

theorem wrapped_kind {S : PrintPrec} {enc : Nat} {k : Kind} (h : wrappedK S enc k = true) :
    k ≠ .tuple ∧ k ≠ .list := by
  constructor <;> rintro rfl <;> cases h


theorem gtO_of_geO {a : Option Nat} {x y : Nat} (h : geO a x) (hxy : x > y) : gtO a y := by
  cases a <;> simp [geO, gtO] at * <;> omega

theorem NAK_of_geO {a : Option Nat} {x : Nat} {R} (h : geO a x) (hR : ¬ absorbs P x R) :
    NAK P a R := by
  cases a with
  | none => trivial
  | some l => exact fun hab => hR (absorbs_mono (by simpa [geO] using h) hab)

/-- an operand `c` at position `pos`: its printed form (with the forced parentheses of the
position) followed by `R`, read at level `m` -/
theorem operand {c : Expr} {pos : Pos} {kc : Kind} {x : Pieces} (hg : Goal P S c)
    (hk : kind c = some kc) (hok : okTriple P S pos kc = true)
    (hp : Printable P S c = true)
    (hx : strE S c (pos.enc S) = .ok x) {m : Nat} {R : List Tok} {res k}
    (hl : pos.lge P > m) (hr : ¬ absorbs P (pos.rge P) R)
    (hcont : PLok P k m (pnf c) (finOf c) R res) :
    PEok P (G k (wrapT (pos.forces kc) (toks x)).length) m
      (wrapT (pos.forces kc) (toks x) ++ R) res := by
  have hlg : lguardE P c = kc.lguard P := by simp [lguardE, hk]
  have hrl : rlevelE P c = kc.rlevel P := by simp [rlevelE, hk]
  have hw : wrappedE S (pos.enc S) c = wrappedK S (pos.enc S) kc := by simp [wrappedE, hk]
  simp only [okTriple, parenthesised, Bool.and_eq_true] at hok
  replace hok := hok.2
  cases hf : pos.forces kc with
  | true =>
    obtain ⟨hnt, hfin⟩ := paren_facts hp hk (forces_kind hf).1 (forces_kind hf).2
    simp only [hf, Bool.true_or, if_true, decide_eq_true_eq] at hok
    have h0 : gtO (kc.lguard P) 0 := gtO_of_geO hok (by omega)
    have hb : Bare P c (toks x) := by
      intro m' R' res' k' h1 h2 h3
      refine hg _ _ hx m' R' res' k' ?_ h3
      split
      · rw [hlg]; exact h0
      · exact ⟨h1, h2⟩
    exact goal_of_bare hb hnt hfin rfl (by simpa [hlg] using h0) hcont
  | false =>
    simp only [hf, Bool.false_or] at hok
    simp only [wrapT, Bool.false_eq_true, if_false]
    refine hg _ _ hx m R res k ?_ hcont
    rw [hw, hlg, hrl]
    cases hwk : wrappedK S (pos.enc S) kc with
    | true =>
      simp only [hwk, if_true, decide_eq_true_eq] at hok
      simpa using gtO_of_geO hok (by omega)
    | false =>
      simp only [hwk, Bool.false_eq_true, if_false, Bool.and_eq_true, decide_eq_true_eq] at hok
      simp only [Bool.false_eq_true, if_false]
      exact ⟨gtO_of_geO hok.1 hl, NAK_of_geO hok.2 hr⟩

/-- an operand at a position that never forces parentheses -/
theorem operand_plain {c : Expr} {pos : Pos} {x : Pieces} (hf : ∀ k, pos.forces k = false)
    (hg : Goal P S c) (ho : okAt P S pos c = true) (hp : Printable P S c = true)
    (hx : strE S c (pos.enc S) = .ok x) {m : Nat} {R : List Tok} {res k}
    (hl : pos.lge P > m) (hr : ¬ absorbs P (pos.rge P) R)
    (hcont : PLok P k m (pnf c) (finOf c) R res) :
    PEok P (G k (toks x).length) m (toks x ++ R) res := by
  obtain ⟨kc, hk, hok⟩ := okAt_iff ho
  have h := operand hg hk hok hp hx hl hr hcont
  rw [hf kc] at h
  exact h

theorem infix_case {t : Expr} {o : Infix} {a b : Expr} (hv : infixOf t = some (o, a, b))
    (hp : Printable P S t = true) (ha : Goal P S a) (hb : Goal P S b) : Goal P S t := by
  obtain ⟨hk, hpnf, hpr, -, -⟩ := infixOf_facts (P := P) (S := S) hv
  obtain ⟨hnt, hfin⟩ := paren_facts hp hk (by cases o <;> nofun) (by cases o <;> nofun)
  rw [hpr] at hp
  simp only [Bool.and_eq_true] at hp
  obtain ⟨⟨⟨hoa, hob⟩, hpa⟩, hpb⟩ := hp
  obtain ⟨ka, hka, hoka⟩ := okAt_iff hoa
  obtain ⟨kb, hkb, hokb⟩ := okAt_iff hob
  intro enc ps hs m R res k hc hl
  obtain ⟨x, y, hx, hy, htoks⟩ := strE_infix hv hs
  rw [forcesE_kind hka, forcesE_kind hkb] at htoks
  have hlg : lguardE P t = some (o.guard P) := by simp only [lguardE, hk, infixKind_lguard]
  have hrl : rlevelE P t = some (o.rhs P) := by simp only [rlevelE, hk, infixKind_rlevel]
  refine goal_of_bare ?_ hnt hfin htoks hc hl
  intro m R res k hgm hna hl
  rw [hlg] at hgm; rw [hrl] at hna
  rw [hpnf, hfin] at hl
  have hr := operand (pos := .right o) hb hkb hokb hpb hy (m := o.rhs P) (R := R)
    (Nat.lt_succ_self _) hna (PL_stop hna)
  have hL := operand (pos := .left o) ha hka hoka hpa hx (m := m) hgm
    (not_absorbs_self (tokGuard_infix o)) (PL_infix o hgm hr hl)
  rw [List.append_assoc]
  refine hL.mono (G_le ?_ ?_) <;>
    simp only [G_one_eq, Pos.forces, List.length_append, List.length_cons] <;> omega

theorem var_case (x : String) : Goal P S (.var x) := by
  intro enc ps hs m R res k _ hl
  rw [strE_var hs]
  exact (PE_mk PP_ident hl).mono (G_one k)

theorem bool_case (b : Bool) : Goal P S (.const (.bool b)) := by
  intro enc ps hs m R res k _ hl
  rw [strE_bool hs]
  exact (PE_mk PP_bool hl).mono (G_one k)


/-- `- lit`: a sign and a one-token literal `e` that Python's negation maps to `c` -/
theorem neg_literal {t : Tok} {e c : Expr} {R : List Tok}
    (hp : PPok P 1 (t :: R) ((e, false), R)) (hneg : parseNeg e = .ok c)
    (hna : ¬ absorbs P P.unary R) {m res k} (hl : PLok P k m c false R res) :
    PEok P (G k 2) m (.sym "-" :: t :: R) res :=
  (PE_mk (PP_neg (PE_mk hp (PL_stop hna)) hneg) hl).mono (by simp only [G]; omega)

theorem int_case (n : Int) : Goal P S (.const (.int n)) := by
  intro enc ps hs m R res k hc hl
  refine goal_of_bare ?_ (by simp [pnf]) rfl (strE_int hs) hc hl
  intro m R res k _ hna hl
  by_cases hn : n < 0
  · simp only [hn, if_true]
    have hrl : rlevelE P (.const (.int n)) = some P.unary := by simp [rlevelE, kind, hn, Kind.rlevel]
    rw [hrl] at hna
    have hneg : parseNeg (.const (.int (n.natAbs : Nat))) = .ok (.const (.int n)) := by
      have : -(n.natAbs : Int) = n := by omega
      simp [parseNeg, negE, Const.neg, this, pure, Except.pure]
    exact neg_literal PP_int hneg hna hl
  · simp only [hn, if_false]
    have : ((n.toNat : Nat) : Int) = n := by omega
    have h1 := PE_mk (P := P) (PP_int (n := n.toNat) (r := R)) (by rw [this]; exact hl)
    exact h1.mono (G_one k)

theorem flt_case (r : String) (n : Int) (d : Nat) {k : Kind} (hk : fltKind r d = some k) :
    Goal P S (.const (.flt r n d)) := by
  intro enc ps hs m R res k' hc hl
  refine goal_of_bare ?_ (by simp [pnf]) rfl (strE_flt hk hs) hc hl
  intro m R res k' _ hna hl
  by_cases hneg : r.startsWith "-" = true
  · simp only [hneg, if_true]
    have hd : d ≠ 0 := by
      intro hd; simp [fltKind, hd] at hk
    have hok : negFloatOk r = true := by
      simp only [fltKind, hd, if_false, hneg, if_true] at hk
      split at hk
      · assumption
      · cases hk
    have hk' : fltKind r d = some .neg := by
      simp only [fltKind, hd, if_false, hneg, if_true, hok]
    have hrl : rlevelE P (.const (.flt r n d)) = some P.unary := by
      simp [rlevelE, kind, hk', Kind.rlevel]
    rw [hrl] at hna
    simp only [negFloatOk, Bool.and_eq_true, decide_eq_true_eq, Bool.not_eq_true'] at hok
    have hnegE : parseNeg (.const (.flt (r.drop 1).toString (-n) d)) = .ok (.const (.flt r n d)) := by
      simp only [parseNeg, negE, Const.neg, hok.2, Bool.false_eq_true, if_false, hok.1,
        Int.neg_neg, pure, Except.pure]
    exact neg_literal PP_flt hnegE hna hl
  · simp only [hneg, Bool.false_eq_true, if_false]
    exact (PE_mk PP_flt hl).mono (G_one k')

theorem un_case {o : UnOp} {a : Expr} (hp : Printable P S (.un o a) = true) (ha : Goal P S a) :
    Goal P S (.un o a) := by
  obtain ⟨hoa, hpa⟩ := Bool.and_eq_true_iff.mp hp
  intro enc ps hs m R res k hc hl
  obtain ⟨x, hx, htoks⟩ := strE_un hs
  refine goal_of_bare ?_ (fun _ h => Expr.noConfusion h) rfl htoks hc hl
  intro m R res k _ hna hl
  have h1 := operand_plain (pos := .unArg) (fun _ => rfl) ha hoa hpa hx (m := P.unary) (R := R)
    (Nat.lt_succ_self _) hna (PL_stop hna)
  exact (PE_mk (PP_un o h1) hl).mono (G_prefix (Nat.lt_succ_self _))

theorem ite_case {c t e : Expr} (hp : Printable P S (.ite c t e) = true) (hc' : Goal P S c)
    (ht : Goal P S t) (he : Goal P S e) : Goal P S (.ite c t e) := by
  have hp : (okAt P S .iteCond c && okAt P S .iteThen t && okAt P S .iteElse e
      && Printable P S c && Printable P S t && Printable P S e) = true := hp
  simp only [Bool.and_eq_true] at hp
  obtain ⟨⟨⟨⟨⟨hoc, hot⟩, hoe⟩, hpc⟩, hpt⟩, hpe⟩ := hp
  intro enc ps hs m R res k hc hl
  obtain ⟨x, y, z, hx, hy, hz, htoks⟩ := strE_ite hs
  refine goal_of_bare ?_ (fun _ h => Expr.noConfusion h) rfl htoks hc hl
  intro m R res k hgm hna hl
  have h3 := operand_plain (pos := .iteElse) (fun _ => rfl) he hoe hpe hz (m := 0) (R := R)
    (Nat.lt_succ_self _) hna (PL_stop hna)
  have h2 := operand_plain (pos := .iteCond) (fun _ => rfl) hc' hoc hpc hy (m := P.ifp)
    (R := .sym "else" :: (toks z ++ R)) (Nat.lt_succ_self _) not_absorbs_else
    (PL_stop not_absorbs_else)
  have h1 := operand_plain (pos := .iteThen) (fun _ => rfl) ht hot hpt hx (m := m) hgm
    (not_absorbs_self rfl) (PL_ite hgm h2 h3 hl)
  simp only [List.append_assoc, List.cons_append]
  refine h1.mono (G_le ?_ ?_) <;>
    simp only [G_one_eq, List.length_append, List.length_cons] <;> omega


/-! ### sums: `c₁ + c₂ + … + cₙ`, spliced from the left -/

theorem sum_chain : ∀ (cs : List Expr) (xs : List Pieces), strL S cs S.sum = .ok xs →
    (∀ c ∈ cs, Goal P S c) → PrintableAll P S (.right .plus) cs = true →
    ∀ (L : Expr) (fin : Bool) (m : Nat) (R : List Tok) res k, (cs = [] → fin = false) →
      P.plus > m → ¬ absorbs P P.plus R →
      PLok P k m (pnfSum L cs) false R res →
      PLok P (G k (chainT "+" xs).length) m L fin (chainT "+" xs ++ R) res
  | [], xs, hs, _, _, L, fin, m, R, res, k, hfin, _, _, hl => by
      rw [strL_nil hs, hfin rfl]
      exact hl.mono (by simp only [G]; omega)
  | c :: cs, xs, hs, hg, hp, L, fin, m, R, res, k, _, hm, hna, hl => by
      obtain ⟨x, xs', hx, hxs, rfl⟩ := strL_cons hs
      simp only [PrintableAll, Bool.and_eq_true] at hp
      obtain ⟨⟨hoc, hpc⟩, hpcs⟩ := hp
      have hna' : ¬ absorbs P P.plus (chainT "+" xs' ++ R) := by
        cases xs' with
        | nil => exact hna
        | cons y ys => exact not_absorbs_self rfl
      have hr := operand_plain (pos := .right .plus) (fun _ => rfl) (hg c (List.mem_cons_self ..))
        hoc hpc hx (m := P.plus) (Nat.lt_succ_self _) hna' (PL_stop hna')
      have ih := sum_chain cs xs' hxs (fun c hc => hg c (List.mem_cons_of_mem _ hc)) hpcs
        (spliceNary .sum L (pnf c)) false m R res k (fun _ => rfl) hm hna hl
      have hX := PL_infix .plus (l := L) (fin := fin) hm hr ih
      simp only [chainT, List.cons_append, List.append_assoc]
      refine hX.mono (G_chain ?_)
      simp only [List.length_append, List.length_cons]; omega

theorem sum_case {c d : Expr} {cs : List Expr}
    (hp : Printable P S (.nary .sum (c :: d :: cs)) = true)
    (hg : ∀ e ∈ c :: d :: cs, Goal P S e) : Goal P S (.nary .sum (c :: d :: cs)) := by
  have hnt := pnf_ne_tuple hp (by intro h; cases h)
  simp only [Printable, Bool.and_eq_true] at hp
  obtain ⟨⟨hoc, hpc⟩, hpcs⟩ := hp
  intro enc ps hs m R res k hc hl
  obtain ⟨xs, hxs, htoks⟩ := strE_sum hs
  obtain ⟨x, xs', hx, hxs', rfl⟩ := strL_cons hxs
  obtain ⟨y, ys, -, -, rfl⟩ := strL_cons hxs'
  rw [toks_joinWith (s := "+") rfl] at htoks
  refine goal_of_bare ?_ hnt rfl htoks hc hl
  intro m R res k hgm hna hl
  have hX := sum_chain (d :: cs) (y :: ys) hxs' (fun e he => hg e (List.mem_cons_of_mem _ he)) hpcs
    (pnf c) (finOf c) m R res k nofun hgm hna hl
  have h1 := operand_plain (pos := .left .plus) (fun _ => rfl) (hg c (List.mem_cons_self ..))
    hoc hpc hx (m := m) hgm (not_absorbs_self rfl) hX
  rw [List.append_assoc, List.length_append]
  exact h1.mono (G_G ..)

/-! ### products: `c₁*c₂*…*cₙ`, read as `c₁*(c₂*(…*cₙ))` -/

theorem toks_forceWrap_times {c : Expr} {kc : Kind} (hkc : kind c = some kc) (x : Pieces) :
    toks (forceWrap false c x) = wrapT (Infix.times.forces kc) (toks x) :=
  (toks_forceWrap false c x).trans (congrArg (wrapT · (toks x)) (forcesE_kind (o := .times) hkc))

/-- the first operand of a product and its `*`, read at level `m` with the loop going on as in
`hl`, given how the remaining operands are read as the right operand of `*` -/
theorem prod_step {c d : Expr} {ds : List Expr} {x y : Pieces} {ys : List Pieces} {R : List Tok}
    (hgc : Goal P S c) (hoc : okAt P S (.left .times) c = true) (hpc : Printable P S c = true)
    (hx : strE S c S.product = .ok x)
    (ih : PEok P (G 1 (toks y ++ chainT "*" ys).length) P.plus (toks y ++ chainT "*" ys ++ R)
      (pnfProd (d :: ds), R))
    {m k res} (hgm : P.times > m)
    (hl : PLok P k m (spliceNary .prod (pnf c) (pnfProd (d :: ds))) false R res) :
    PEok P (G k (toks (forceWrap false c x) ++ chainT "*" (y :: ys)).length) m
      (toks (forceWrap false c x) ++ chainT "*" (y :: ys) ++ R) res := by
  obtain ⟨kc, hkc, hokc⟩ := okAt_iff hoc
  have h1 := operand (pos := .left .times) hgc hkc hokc hpc hx (m := m) hgm (not_absorbs_self rfl)
    (PL_infix .times (fin := finOf c) hgm ih hl)
  rw [toks_forceWrap_times hkc]
  simp only [chainT, Pos.forces, List.append_assoc, List.cons_append] at h1 ⊢
  refine h1.mono (G_le ?_ ?_) <;>
    simp only [G_one_eq, List.length_append, List.length_cons] <;> omega

theorem prod_tail : ∀ (c : Expr) (cs : List Expr) (xs : List Pieces),
    strForceL S false (c :: cs) S.product = .ok xs →
    (∀ d ∈ c :: cs, Goal P S d) → PrintableProd P S (c :: cs) = true →
    (cs ≠ [] → P.times > P.plus) → ∀ R, ¬ absorbs P P.plus R →
    ∃ x xs', xs = x :: xs' ∧
      PEok P (G 1 (toks x ++ chainT "*" xs').length) P.plus
        (toks x ++ chainT "*" xs' ++ R) (pnfProd (c :: cs), R)
  | c, [], xs, hs, hg, hp, _, R, hna => by
      obtain ⟨x, xs', hx, hxs, rfl⟩ := strForceL_cons hs
      rw [strForceL_nil hxs]
      refine ⟨_, _, rfl, ?_⟩
      simp only [PrintableProd, Bool.and_eq_true] at hp
      obtain ⟨kc, hkc, hokc⟩ := okAt_iff hp.1
      have hr := operand (pos := .right .times) (hg c (List.mem_cons_self ..)) hkc hokc
        hp.2 hx (m := P.plus) (R := R) (Nat.lt_succ_self _) hna (PL_stop hna)
      rw [toks_forceWrap_times hkc]
      simpa only [chainT, List.append_nil, Pos.forces, pnfProd_one] using hr
  | c, d :: ds, xs, hs, hg, hp, htp, R, hna => by
      obtain ⟨x, xs', hx, hxs, rfl⟩ := strForceL_cons hs
      have hp : (okAt P S (.left .times) c && Printable P S c
          && PrintableProd P S (d :: ds)) = true := hp
      simp only [Bool.and_eq_true] at hp
      have htp' : P.times > P.plus := htp nofun
      obtain ⟨y, ys, rfl, ih⟩ := prod_tail d ds xs' hxs
        (fun e he => hg e (List.mem_cons_of_mem _ he)) hp.2 (fun _ => htp') R hna
      exact ⟨_, _, rfl, prod_step (hg c (List.mem_cons_self ..)) hp.1.1 hp.1.2 hx ih htp'
        (PL_stop hna)⟩

theorem prod_case {c d : Expr} {cs : List Expr}
    (hp : Printable P S (.nary .prod (c :: d :: cs)) = true)
    (hg : ∀ e ∈ c :: d :: cs, Goal P S e) : Goal P S (.nary .prod (c :: d :: cs)) := by
  have hnt := pnf_ne_tuple hp (by intro h; cases h)
  have hp : ((okAt P S (.left .times) c && Printable P S c && PrintableProd P S (d :: cs))
      && (cs.isEmpty || decide (P.times > P.plus))) = true := hp
  simp only [Bool.and_eq_true] at hp
  obtain ⟨⟨⟨hoc, hpc⟩, hpcs⟩, htp⟩ := hp
  intro enc ps hs m R res k hc hl
  obtain ⟨xs, hxs, htoks⟩ := strE_prod hs
  obtain ⟨x, xs', hx, hxs', rfl⟩ := strForceL_cons hxs
  rw [toks_joinWith (s := "*") rfl] at htoks
  refine goal_of_bare ?_ hnt rfl htoks hc hl
  intro m R res k hgm hna hl
  obtain ⟨y, ys, rfl, hr⟩ := prod_tail d cs xs' hxs'
    (fun e he => hg e (List.mem_cons_of_mem _ he)) hpcs
    (fun hne => by cases cs <;> simp_all) R hna
  exact prod_step (hg c (List.mem_cons_self ..)) hoc hpc hx hr hgm hl

end PV.Syntax
