import PV.Model.TravTable
import PV.Proofs.SyntaxBEq
/-
  The class of a node.  Dispatch (`c04Dispatch`) and the resolution of a handler along the MRO
  (`c04Resolve`) look at a node only through its class: constructor, operator, kind of constant.
  A statement about all nodes whose two sides depend on the class only is therefore a finite check
  over one representative per class, which the kernel evaluates when the tables are closed terms
  (`DecidableEq (Except ε α)` for such checks comes from SyntaxBEq).  Used by the "which handler
  runs for which node" theorems of every property that is tied to a regenerated class table.
-/
namespace PV

/-- the node of the same class as `e` without content.  The operator of an n-ary, binary or unary
node selects its pymbolic class (`Sum`, `Quotient`, `BitwiseNot` …) and is kept; `Comparison` is one
class with the operator as a field, so the representative fixes it. -/
def Expr.classRep : Expr → Expr
  | .const (.int _) => .const (.int 0)
  | .const (.bool _) => .const (.bool false)
  | .const (.flt ..) => .const (.flt "" 0 0)
  | .const (.str _) => .const (.str "")
  | .const .none => .const .none
  | .var _ => .var ""
  | .nary o _ => .nary o []
  | .bin o _ _ => .bin o .nan .nan
  | .un o _ => .un o .nan
  | .cmp .. => .cmp .eq .nan .nan
  | .ite .. => .ite .nan .nan .nan
  | .call .. => .call .nan []
  | .callKw .. => .callKw .nan [] [] []
  | .subscript .. => .subscript .nan .nan
  | .lookup .. => .lookup .nan ""
  | .cse .. => .cse .nan none ""
  | .subst .. => .subst .nan [] []
  | .deriv .. => .deriv .nan []
  | .slice _ => .slice []
  | .nan => .nan
  | .wildcard => .wildcard
  | .dotWild _ => .dotWild ""
  | .starWild _ => .starWild ""
  | .funcSym => .funcSym
  | .tuple _ => .tuple []
  | .list _ => .list []

/-- a list that contains every value of `Expr.classRep` (`Expr.classRep_mem`) -/
def classReps : List Expr :=
  [.const (.int 0), .const (.bool false), .const (.flt "" 0 0), .const (.str ""), .const .none,
   .var "", .nary .sum [], .nary .prod [], .nary .bor [], .nary .bxor [], .nary .band [],
   .nary .lor [], .nary .land [], .nary .min [], .nary .max [],
   .bin .quot .nan .nan, .bin .floordiv .nan .nan, .bin .rem .nan .nan, .bin .pow .nan .nan,
   .bin .lshift .nan .nan, .bin .rshift .nan .nan, .un .bnot .nan, .un .lnot .nan,
   .cmp .eq .nan .nan, .ite .nan .nan .nan, .call .nan [], .callKw .nan [] [] [],
   .subscript .nan .nan, .lookup .nan "", .cse .nan none "", .subst .nan [] [], .deriv .nan [],
   .slice [], .nan, .wildcard, .dotWild "", .starWild "", .funcSym, .tuple [], .list []]

theorem Expr.classRep_mem (e : Expr) : e.classRep ∈ classReps := by
  cases e with
  | const k => cases k <;> repeat constructor
  | nary o cs => cases o <;> repeat constructor
  | bin o a b => cases o <;> repeat constructor
  | un o a => cases o <;> repeat constructor
  | _ => repeat constructor

/-- two functions of the class of a node agree if they agree on the representatives -/
theorem Expr.eq_of_classReps {α : Type} {f g : Expr → α} (hf : ∀ e, f e = f e.classRep)
    (hg : ∀ e, g e = g e.classRep) (h : ∀ r ∈ classReps, f r = g r) (e : Expr) : f e = g e := by
  rw [hf, hg]; exact h _ e.classRep_mem

/-- a predicate of the class of a node holds everywhere if it holds on the representatives -/
theorem Expr.forall_of_classReps {P : Expr → Prop} (hP : ∀ e, P e.classRep → P e)
    (h : ∀ r ∈ classReps, P r) : ∀ e, P e :=
  fun e => hP e (h _ e.classRep_mem)

theorem c04Dispatch_classRep (classes : List C04NodeClass) (hs : List String) (e : Expr) :
    c04Dispatch classes hs e = c04Dispatch classes hs e.classRep := by
  cases e with
  | const k => cases k <;> rfl
  | _ => rfl

theorem c04Resolve_classRep (classes : List C04NodeClass) (tbl : List C04Handler) (e : Expr) :
    c04Resolve classes tbl e = c04Resolve classes tbl e.classRep := by
  rw [c04Resolve, c04Dispatch_classRep]; rfl

end PV
