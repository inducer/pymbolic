import PV.Model.CseTally
import PV.Proofs.CseErase
/-
  C12 helper: forgetting the arithmetic / handler events, the counting evaluator `evalCnt` with the
  symbolic function semantics IS the instrumented evaluator `evalTr` (same result, same `child` and
  `call` events), for every expression and every log.
-/
namespace PV

theorem c12CacheOf_erase : ∀ (t : C12Log), cacheOf (c12Erase t) = c12CacheOf t
  | [] => rfl
  | .child w v :: t => by simp [c12Erase, cacheOf, c12CacheOf, c12CacheOf_erase t]
  | .call .. :: t => by simp [c12Erase, cacheOf, c12CacheOf, c12CacheOf_erase t]
  | .arithN .. :: t => by simp [c12Erase, c12CacheOf, c12CacheOf_erase t]
  | .arithB .. :: t => by simp [c12Erase, c12CacheOf, c12CacheOf_erase t]
  | .node _ :: t => by simp [c12Erase, c12CacheOf, c12CacheOf_erase t]

/-- `m` (counting log) and `k` (log of `evalTr`) compute the same result and, after erasure, the
same log -/
def ErC {α : Type} (m : C12M α) (k : TrM α) : Prop :=
  ∀ (t : C12Log), (m t).1 = (k (c12Erase t)).1 ∧ c12Erase (m t).2 = (k (c12Erase t)).2

theorem ErC.pure {α} (a : α) : ErC (C12M.pure a) (TrM.pure a) := fun _ => ⟨rfl, rfl⟩
theorem ErC.throw {α} (e : Err) : ErC (C12M.throw e : C12M α) (TrM.throw e) := fun _ => ⟨rfl, rfl⟩
theorem ErC.lift {α} (x : Except Err α) : ErC (C12M.lift x) (TrM.lift x) := fun _ => ⟨rfl, rfl⟩

theorem ErC.bind {α β} {m : C12M α} {k : TrM α} {f : α → C12M β} {g : α → TrM β}
    (h : ErC m k) (hf : ∀ a, ErC (f a) (g a)) : ErC (m >>= f) (k >>= g) := by
  intro t
  obtain ⟨h1, h2⟩ := h t
  show (C12M.bind m f t).1 = (TrM.bind k g (c12Erase t)).1 ∧
    c12Erase (C12M.bind m f t).2 = (TrM.bind k g (c12Erase t)).2
  cases hm : m t with
  | mk r t1 =>
    cases hk : k (c12Erase t) with
    | mk r' s1 =>
      rw [hm, hk] at h1 h2
      simp only at h1 h2
      subst h1; subst h2
      cases r with
      | error e => simp only [C12M.bind, TrM.bind, hm, hk]; exact ⟨trivial, trivial⟩
      | ok a =>
        simp only [C12M.bind, TrM.bind, hm, hk]
        exact hf a t1

theorem ErC.ite {α} {c : Bool} {m1 m2 : C12M α} {k1 k2 : TrM α} (h1 : ErC m1 k1) (h2 : ErC m2 k2) :
    ErC (if c then m1 else m2) (if c then k1 else k2) := by
  cases c <;> simpa

/-- an event that `evalTr` does not record, followed by `m` -/
theorem ErC.silent {α} {u : C12M Unit} {m : C12M α} {k : TrM α}
    (hu : ∀ t, (u t).1 = .ok () ∧ c12Erase (u t).2 = c12Erase t) (h : ErC m k) :
    ErC (u >>= fun _ => m) k := by
  intro t
  obtain ⟨u1, u2⟩ := hu t
  show (C12M.bind u (fun _ => m) t).1 = _ ∧ c12Erase (C12M.bind u (fun _ => m) t).2 = _
  cases hx : u t with
  | mk r t1 =>
    rw [hx] at u1 u2
    simp only at u1 u2
    subst u1
    simp only [C12M.bind, hx]
    rw [← u2]
    exact h t1

theorem c12Done_silent (e : Expr) (t : C12Log) :
    (c12Done e t).1 = .ok () ∧ c12Erase (c12Done e t).2 = c12Erase t := by
  unfold c12Done
  by_cases h : e.isCseOp = true <;> simp [h, c12Erase]

theorem emitN_silent (o : NaryOp) (a b : Value) (t : C12Log) :
    (C12M.emit (.arithN o a b) t).1 = .ok () ∧
      c12Erase (C12M.emit (.arithN o a b) t).2 = c12Erase t := by
  simp [C12M.emit, c12Erase]

theorem emitB_silent (o : BinOp) (a b : Value) (t : C12Log) :
    (C12M.emit (.arithB o a b) t).1 = .ok () ∧
      c12Erase (C12M.emit (.arithB o a b) t).2 = c12Erase t := by
  simp [C12M.emit, c12Erase]

theorem ErC.call (fv : Value) (args : List Value) (ns : List String) (kvs : List Value) :
    ErC (c12Call c12SemApp fv args ns kvs) (callTr fv args ns kvs) := by
  intro t
  unfold c12Call callTr
  cases fv <;> exact ⟨rfl, rfl⟩

theorem ErC.cse {env : Env} {c : Expr} {p : Option String} {sc : String}
    (hc : ErC (evalCnt c12SemApp env c) (evalTr env c)) :
    ErC (evalCnt c12SemApp env (.cse c p sc)) (evalTr env (.cse c p sc)) := by
  intro t
  simp only [evalCnt, evalTr, c12CacheOf_erase]
  by_cases hl : c.hasList = true
  · simp only [hl, if_true]; exact ⟨trivial, trivial⟩
  · simp only [hl, Bool.false_eq_true, if_false]
    cases hf : findBy Expr.pyEq (.cse c p sc) (c12CacheOf t) with
    | some v => exact ⟨rfl, rfl⟩
    | none =>
      obtain ⟨h1, h2⟩ := hc t
      cases hm : evalCnt c12SemApp env c t with
      | mk r t1 =>
        cases hk : evalTr env c (c12Erase t) with
        | mk r' s1 =>
          rw [hm, hk] at h1 h2
          simp only at h1 h2
          subst h1; subst h2
          cases r with
          | error e => exact ⟨rfl, rfl⟩
          | ok v => exact ⟨rfl, rfl⟩

/-- the result of a handler followed by the silent "handler returned" event -/
theorem ErC.thenDone {m : C12M Value} {k : TrM Value} (e : Expr) (h : ErC m k) :
    ErC (m >>= fun r => c12Done e >>= fun _ => C12M.pure r) k := by
  have : k = (k >>= fun r => TrM.pure r) := by
    funext t
    show k t = TrM.bind k (fun r => TrM.pure r) t
    simp only [TrM.bind]
    cases hk : k t with
    | mk r t1 => cases r <;> rfl
  rw [this]
  exact ErC.bind h fun r => ErC.silent (c12Done_silent e) (ErC.pure r)

mutual
theorem cnt_er (env : Env) : ∀ e, ErC (evalCnt c12SemApp env e) (evalTr env e)
  | .const c => by simp only [evalCnt, evalTr]; exact ErC.lift _
  | .var x => by
      simp only [evalCnt, evalTr]
      cases env.get x with
      | none => exact ErC.throw _
      | some v => exact ErC.pure _
  | .nary .sum cs | .nary .prod cs => by
      simp only [evalCnt, evalTr]
      exact ErC.thenDone _ (cntFold_er env _ _ cs)
  | .nary .bor cs | .nary .bxor cs | .nary .band cs => by
      simp only [evalCnt, evalTr]; exact cntReduce_er env _ cs
  | .nary .lor cs => by simp only [evalCnt, evalTr]; exact cntAny_er env cs
  | .nary .land cs => by simp only [evalCnt, evalTr]; exact cntAll_er env cs
  | .nary .min cs | .nary .max cs => by
      simp only [evalCnt, evalTr]; exact cntMinMax_er env _ none cs
  | .bin o a b => by
      simp only [evalCnt, evalTr]
      exact ErC.bind (cnt_er env a) fun x => ErC.bind (cnt_er env b) fun y =>
        ErC.silent (emitB_silent o x y) (ErC.thenDone _ (ErC.lift _))
  | .un .bnot a => by
      simp only [evalCnt, evalTr]
      exact ErC.bind (cnt_er env a) fun x => ErC.lift _
  | .un .lnot a => by
      simp only [evalCnt, evalTr]
      exact ErC.bind (cnt_er env a) fun x => ErC.bind (ErC.lift _) fun t => ErC.pure _
  | .cmp o a b => by
      simp only [evalCnt, evalTr]
      exact ErC.bind (cnt_er env a) fun x => ErC.bind (cnt_er env b) fun y => ErC.lift _
  | .ite c t e => by
      simp only [evalCnt, evalTr]
      exact ErC.bind (cnt_er env c) fun cv => ErC.bind (ErC.lift _) fun tv =>
        ErC.ite (cnt_er env t) (cnt_er env e)
  | .call f as => by
      simp only [evalCnt, evalTr]
      exact ErC.bind (cnt_er env f) fun fv => ErC.bind (cntList_er env as) fun avs =>
        ErC.thenDone _ (ErC.call _ _ _ _)
  | .callKw f as ns vs => by
      simp only [evalCnt, evalTr]
      exact ErC.bind (cntList_er env as) fun avs => ErC.bind (cntList_er env vs) fun kvs =>
        ErC.bind (cnt_er env f) fun fv => ErC.call _ _ _ _
  | .subscript a i => by
      simp only [evalCnt, evalTr]
      exact ErC.bind (cnt_er env a) fun x => ErC.bind (cnt_er env i) fun y => ErC.lift _
  | .lookup a n => by
      simp only [evalCnt, evalTr]
      exact ErC.bind (cnt_er env a) fun x => ErC.lift _
  | .cse c p sc => ErC.cse (cnt_er env c)
  | .nan => by simp only [evalCnt, evalTr]; exact ErC.pure _
  | .subst .. | .deriv .. | .slice _ | .wildcard | .dotWild _ | .starWild _ | .funcSym => by
      simp only [evalCnt, evalTr]; exact ErC.throw _
  | .tuple cs | .list cs => by
      simp only [evalCnt, evalTr]
      exact ErC.bind (cntList_er env cs) fun vs => ErC.pure _
theorem cntFold_er (env : Env) (o : NaryOp) :
    ∀ (acc : Value) (cs : List Expr),
      ErC (evalCntFold c12SemApp env o acc cs) (evalTrFold env o acc cs)
  | acc, [] => by simp only [evalCntFold, evalTrFold]; exact ErC.pure _
  | acc, c :: cs => by
      simp only [evalCntFold, evalTrFold]
      exact ErC.bind (cnt_er env c) fun v => ErC.silent (emitN_silent o acc v)
        (ErC.bind (ErC.lift _) fun acc' => cntFold_er env o acc' cs)
theorem cntReduce_er (env : Env) (o : NaryOp) :
    ∀ (cs : List Expr), ErC (evalCntReduce c12SemApp env o cs) (evalTrReduce env o cs)
  | [] => by simp only [evalCntReduce, evalTrReduce]; exact ErC.throw _
  | c :: cs => by
      simp only [evalCntReduce, evalTrReduce]
      exact ErC.bind (cnt_er env c) fun v => cntFold_er env o v cs
theorem cntAny_er (env : Env) :
    ∀ (cs : List Expr), ErC (evalCntAny c12SemApp env cs) (evalTrAny env cs)
  | [] => by simp only [evalCntAny, evalTrAny]; exact ErC.pure _
  | c :: cs => by
      simp only [evalCntAny, evalTrAny]
      exact ErC.bind (cnt_er env c) fun v => ErC.bind (ErC.lift _) fun t =>
        ErC.ite (ErC.pure _) (cntAny_er env cs)
theorem cntAll_er (env : Env) :
    ∀ (cs : List Expr), ErC (evalCntAll c12SemApp env cs) (evalTrAll env cs)
  | [] => by simp only [evalCntAll, evalTrAll]; exact ErC.pure _
  | c :: cs => by
      simp only [evalCntAll, evalTrAll]
      exact ErC.bind (cnt_er env c) fun v => ErC.bind (ErC.lift _) fun t =>
        ErC.ite (cntAll_er env cs) (ErC.pure _)
theorem cntMinMax_er (env : Env) (isMin : Bool) :
    ∀ (cur : Option Value) (cs : List Expr),
      ErC (evalCntMinMax c12SemApp env isMin cur cs) (evalTrMinMax env isMin cur cs)
  | cur, [] => by
      simp only [evalCntMinMax, evalTrMinMax]
      cases cur with
      | none => exact ErC.throw _
      | some m => exact ErC.pure _
  | cur, c :: cs => by
      simp only [evalCntMinMax, evalTrMinMax]
      refine ErC.bind (cnt_er env c) fun v => ?_
      cases cur with
      | none => exact cntMinMax_er env isMin (some v) cs
      | some m => exact ErC.bind (ErC.lift _) fun better => cntMinMax_er env isMin _ cs
theorem cntList_er (env : Env) :
    ∀ (cs : List Expr), ErC (evalCntList c12SemApp env cs) (evalTrList env cs)
  | [] => by simp only [evalCntList, evalTrList]; exact ErC.pure _
  | c :: cs => by
      simp only [evalCntList, evalTrList]
      exact ErC.bind (cnt_er env c) fun v => ErC.bind (cntList_er env cs) fun vs => ErC.pure _
end

end PV
