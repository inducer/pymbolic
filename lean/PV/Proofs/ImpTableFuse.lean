import PV.Proofs.ImpTable
/-
  C20 (T-gen): `fuse_statement_streams_with_unique_ids` as the regenerated table has it IS `fuseG`.
-/
set_option linter.unusedSimpArgs false

namespace PV.Imp
open PV PV.Generated

variable {σ : Type}

/-- a `dict` of strings as an interpreter value -/
def encM (m : List (String × String)) : List (String × C20Val σ) := m.map fun p => (p.1, .str p.2)

theorem dictGet_encM (k : String) (m : List (String × String)) :
    c20DictGet k (encM (σ := σ) m) = (m.lookup k).map .str :=
  dictGet_map .str k m

theorem dictSet_encM (k v : String) : ∀ m : List (String × String),
    c20DictSet k (.str v) (encM (σ := σ) m) = encM (assocSet m k v)
  | [] => rfl
  | (a, b) :: m => by
    have ih := dictSet_encM k v m
    by_cases h : a = k
    · subst h; simp [encM, c20DictSet, assocSet]
    · simp only [encM, List.map_cons, c20DictSet, assocSet] at ih ⊢
      simp [h, ih]

/-! ### the set comprehension `{stmta.id for stmta in new_statements}` -/

theorem mapElems_ids (c : C20Ctx σ) (env : C20Env σ) : ∀ A : List Stmt,
    c20MapElems (c20Eval c (.attr (.var "stmta") "id")) "stmta" env (A.map .stmt) =
      .ok ((A.map (·.id)).map .str)
  | [] => rfl
  | a :: A => by
    c20_run [c20MapElems, mapElems_ids c env A]

theorem ids_comp (c : C20Ctx σ) (env : C20Env σ) (A : List Stmt) :
    ((c20Comp (c20Eval c (.attr (.var "stmta") "id")) "stmta" env (.list (A.map .stmt))).bind
      fun ws => c20StrSetOf dedupS ws) = .ok (.strSet (dedupS (A.map (·.id)))) := by
  simp only [c20Comp, c20Elems, mapElems_ids, C20Res.bind_ok, c20StrSetOf, strsOf_map_str]

/-! ### `frozenset(old_b_id_to_new_b_id[dep_id] for dep_id in stmtb.depends_on)` -/

/-- the looked-up ids in order (`KeyError` at the first id that is not a key) -/
def remapList (m : List (String × String)) : List String → Except ImpErr (List String)
  | [] => .ok []
  | d :: ds =>
    match m.lookup d with
    | none => .error .keyError
    | some n =>
      match remapList m ds with
      | .ok r => .ok (n :: r)
      | .error e => .error e

theorem remapDeps_eq (m : List (String × String)) : ∀ ds,
    remapDeps m ds = (remapList m ds).map c20SetOfList
  | [] => rfl
  | d :: ds => by
    simp only [remapDeps, remapList, remapDeps_eq m ds]
    cases m.lookup d with
    | none => rfl
    | some n => cases remapList m ds <;> rfl

theorem mapElems_remap (c : C20Ctx σ) (env : C20Env σ) (m : List (String × String))
    (h : c20Get "old_b_id_to_new_b_id" env = some (.dict (encM m))) : ∀ ds : List String,
    c20MapElems (c20Eval c (.index (.var "old_b_id_to_new_b_id") (.var "dep_id"))) "dep_id" env
        (ds.map .str) = C20Res.ofExcept (·.map .str) (remapList m ds)
  | [] => rfl
  | d :: ds => by
    simp only [List.map_cons, c20MapElems, mapElems_remap c env m h ds, remapList]
    c20_run [h, dictGet_encM]
    cases m.lookup d with
    | none => rfl
    | some n => cases remapList m ds <;> rfl

theorem remap_comp (c : C20Ctx σ) (env : C20Env σ) (m : List (String × String))
    (h : c20Get "old_b_id_to_new_b_id" env = some (.dict (encM m))) (ds : List String) :
    ((c20Comp (c20Eval c (.index (.var "old_b_id_to_new_b_id") (.var "dep_id"))) "dep_id" env
        (.strSet ds)).bind fun ws => c20StrSetOf c20SetOfList ws) =
      C20Res.ofExcept .strSet (remapDeps m ds) := by
  simp only [c20Comp, c20Elems, mapElems_remap c env m h ds, remapDeps_eq]
  cases remapList m ds <;>
    simp [C20Res.ofExcept, c20StrSetOf, strsOf_map_str, Except.map]

/-! ### the two loops -/

/-- the frame of `fuse_statement_streams_with_unique_ids` -/
abbrev fuseEnv (va vb vn vu : C20Val σ) (s : σ) (bu : List (C20Val σ))
    (m : List (String × String)) (j1 j2 j3 : C20Val σ) : C20Env σ :=
  [("statements_a", va), ("statements_b", vb), ("new_statements", vn),
   ("UniqueNameGenerator", vu), ("stmt_id_gen", .gen s), ("b_unique_statements", .list bu),
   ("old_b_id_to_new_b_id", .dict (encM m)), ("stmtb", j1), ("old_id", j2), ("new_id", j3)]

/-- first loop: whatever its body is, if one pass does what one step of `renameIds` does, the
loop does what `renameIds` does -/
theorem fuse_loop1 (G : NameGen σ) (f : C20Env σ → C20Out σ) (va vb vn vu : C20Val σ)
    (hf : ∀ (b : Stmt) (s : σ) (bu : List (C20Val σ)) (m : List (String × String))
        (j2 j3 : C20Val σ),
      f (fuseEnv va vb vn vu s bu m (.stmt b) j2 j3) =
        match G.call s b.id with
        | none => .err .noName
        | some (n, s') =>
          .next (fuseEnv va vb vn vu s' (bu ++ [.stmt { b with id := n }]) (assocSet m b.id n)
            (.stmt b) (.str b.id) (.str n))) :
    ∀ (bs : List Stmt) (s : σ) (bu : List (C20Val σ)) (m : List (String × String))
      (j1 j2 j3 : C20Val σ),
      c20ForIn f "stmtb" (bs.map .stmt) (fuseEnv va vb vn vu s bu m j1 j2 j3) =
        match renameIds G s bs m with
        | none => .err .noName
        | some (bs', m', s') =>
          .next (fuseEnv va vb vn vu s' (bu ++ bs'.map .stmt) m' (c20LastD j1 (bs.map .stmt))
            (c20LastD j2 (bs.map fun b => .str b.id)) (c20LastD j3 (bs'.map fun b => .str b.id)))
  | [], s, bu, m, j1, j2, j3 => by simp [c20ForIn, renameIds, c20LastD]
  | b :: bs, s, bu, m, j1, j2, j3 => by
    simp only [List.map_cons, c20ForIn, fuseEnv, c20Set, String.reduceEq, if_false, if_true]
    rw [hf, renameIds]
    cases hc : G.call s b.id with
    | none => rfl
    | some p =>
      obtain ⟨n, s'⟩ := p
      simp only [fuse_loop1 G f va vb vn vu hf bs, c20LastD]
      cases renameIds G s' bs (assocSet m b.id n) with
      | none => rfl
      | some q =>
        obtain ⟨bs', m', s''⟩ := q
        simp [c20LastD]

/-- second loop: if one pass appends the statement with its dependencies remapped, the loop does
what `remapAll` does -/
theorem fuse_loop2 (f : C20Env σ → C20Out σ) (va vb vu : C20Val σ) (s : σ)
    (bu : List (C20Val σ)) (m : List (String × String)) (j2 j3 : C20Val σ)
    (hf : ∀ (b : Stmt) (vn : List (C20Val σ)),
      f (fuseEnv va vb (.list vn) vu s bu m (.stmt b) j2 j3) =
        match remapDeps m b.dependsOn with
        | .error e => .err e
        | .ok d =>
          .next (fuseEnv va vb (.list (vn ++ [.stmt { b with dependsOn := d }])) vu s bu m
            (.stmt b) j2 j3)) :
    ∀ (bs : List Stmt) (vn : List (C20Val σ)) (j1 : C20Val σ),
      c20ForIn f "stmtb" (bs.map .stmt) (fuseEnv va vb (.list vn) vu s bu m j1 j2 j3) =
        match remapAll m bs with
        | .error e => .err e
        | .ok r =>
          .next (fuseEnv va vb (.list (vn ++ r.map .stmt)) vu s bu m
            (c20LastD j1 (bs.map .stmt)) j2 j3)
  | [], vn, j1 => by simp [c20ForIn, remapAll, c20LastD, pure, Except.pure]
  | b :: bs, vn, j1 => by
    simp only [List.map_cons, c20ForIn, fuseEnv, c20Set, String.reduceEq, if_false, if_true]
    rw [hf, remapAll]
    cases hd : remapDeps m b.dependsOn with
    | error e => rfl
    | ok d =>
      simp only [fuse_loop2 f va vb vu s bu m j2 j3 hf bs, c20LastD]
      cases remapAll m bs with
      | error e => rfl
      | ok r => simp [bind, Except.bind, pure, Except.pure]

/-! ### the function -/

/-- a generator that is seeded with a SET: it cannot tell in which order, or how often, the names
it must avoid were listed (Python passes a `set`) -/
def NameGen.SeededBySet (G : NameGen σ) : Prop := ∀ xs, G.init (dedupS xs) = G.init xs

/-- **`fuse_statement_streams_with_unique_ids` of the current source is `fuseG`.**  The body read
from the working tree — copy of the first stream, the generator seeded with the ids of the first
stream, the first loop that asks the generator for every id of the second stream in order and
records `old → new`, the SECOND loop that remaps the dependencies through the finished mapping —
run by the table interpreter, returns exactly what the model returns (statements and mapping) or
raises what the model raises, for every pair of streams and every generator seeded by a set. -/
theorem fuse_fn_eq_table (G : NameGen σ) (hG : G.SeededBySet) (order : List String → List String)
    (wf n : Nat) (cls : Option String) (A B : List Stmt) :
    c20CallFn (cxCur G order wf (c20Run (cfgCur G order wf) (n + 1)) cls) c20Fn_fuse_statement_streams_with_unique_ids
      [.list (A.map .stmt), .list (B.map .stmt)] [] [] =
      C20Res.ofExcept (fun r => .tuple [.list (r.1.map .stmt), .dict (encM r.2)]) (fuseG G A B) := by
  simp only [c20CallFn, c20Fn_fuse_statement_streams_with_unique_ids]
  c20_run [ids_comp, hG (A.map (·.id))]
  rw [show (C20Val.dict [] : C20Val σ) = .dict (encM []) from rfl, fuse_loop1 G]
  · unfold fuseG
    cases hr : renameIds G (G.init (List.map (fun x => x.id) A)) B [] with
    | none => rfl
    | some q =>
      obtain ⟨bs', m', s'⟩ := q
      c20_run []
      rw [fuse_loop2]
      · cases hm : remapAll m' bs' with
        | error e => rfl
        | ok r => c20_run [C20Res.ofExcept, bind, Except.bind, pure, Except.pure, List.map_append]
      · intro b vn
        c20_run [fun c env => remap_comp (σ := σ) c env m', fuseEnv]
        cases hd : remapDeps m' b.dependsOn <;> c20_run [C20Res.ofExcept]
  · intro b s bu m j2 j3
    cases hc : G.call s b.id with
    | none => c20_run [hc]
    | some p =>
      obtain ⟨nm, s'⟩ := p
      c20_run [hc, dictSet_encM]


end PV.Imp
