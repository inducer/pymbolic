import PV.Proofs.AlgoTablePoly
/-!
  C19 (T-gen): the mapper handlers of polynomials (`EvaluationMapper.map_polynomial`,
  `IdentityMapper.map_polynomial`) and `Rational.__init__` — the hand-written model functions are
  what the table interpreter computes on the bodies regenerated from the current source.
-/
namespace PV.Algo
open PV.Generated
variable {α : Type}

/-! ## `EvaluationMapper.map_polynomial` (Horner) -/

def c19HoPre : List C19S := [
  .assign (.pat (.name "result")) (.int 0),
  .assign (.pat (.name "rev_data")) (.slice (.attr (.var "expr") "data") .none (.int (-1))),
  .assign (.pat (.name "ev_base")) (.method (.var "self") "rec" [(.attr (.var "expr") "base")])]
def c19HoPat : C19P := .tuple [(.name "i"), (.tuple [(.name "exp"), (.name "coeff")])]
def c19HoBody : List C19S := [
  .ite (.cmp .lt (.bin .add (.var "i") (.int 1)) (.call "len" [(.var "rev_data")])) [
    .assign (.pat (.name "next_exp")) (.index (.index (.var "rev_data") (.bin .add (.var "i") (.int 1))) (.int 0))] [
    .assign (.pat (.name "next_exp")) (.int 0)],
  .assign (.pat (.name "result")) (.bin .mul (.bin .add (.var "result") (.method (.var "self") "rec" [(.var "coeff")])) (.bin .pow (.var "ev_base") (.bin .sub (.var "exp") (.var "next_exp"))))]

/-- the body of `EvaluationMapper.map_polynomial` in the current source -/
theorem c19_horner_body_current :
    c19Fn_EvaluationMapper_map_polynomial = ⟨"EvaluationMapper.map_polynomial", .method,
      ["self", "expr"], [],
      c19HoPre ++ [.for c19HoPat (.call "enumerate" [(.var "rev_data")]) c19HoBody,
        .ret (.var "result")]⟩ := by rfl

def c19HoInv (σ : C19Store α) (self : C19V α) (R : List Term) (x res : Int) : Prop :=
  c19Get "self" σ = some self ∧ c19Get "rev_data" σ = some (.tup (c19EncTerms R)) ∧
  c19Get "ev_base" σ = some (.int x) ∧ c19Get "result" σ = some (.int res)

def c19HoNext : List Term → Nat
  | [] => 0
  | (e', _) :: _ => e'

theorem c19_hornerLoopPy_cons (x res : Int) (e : Nat) (c : Int) (rest : List Term) :
    hornerLoopPy x res ((e, c) :: rest) =
      if e < c19HoNext rest then none
      else hornerLoopPy x ((res + c) * x ^ (e - c19HoNext rest)) rest := by
  cases rest with
  | nil => simp [hornerLoopPy, c19HoNext]
  | cons t r =>
    obtain ⟨e', c'⟩ := t
    rw [hornerLoopPy]
    rfl

def c19EnumItem (t : Term) (i : Nat) : C19V α := .tup [.int i, c19EncTerm t]

theorem c19_ho_step (cx : C19Cx α) (self : C19V α) (pre rest : List Term) (e : Nat) (c x res : Int)
    (hrec : ∀ c : Int, c19Method cx self "rec" [.int c] = .ok (.int c))
    (σ : C19Store α) (h : c19HoInv σ self (pre ++ (e, c) :: rest) x res)
    (hge : ¬ e < c19HoNext rest) :
    ∃ σ1 σ2, c19Bind c19HoPat (c19EnumItem (e, c) pre.length) σ = some σ1 ∧
      c19ExecL cx c19HoBody σ1 = .next σ2 ∧
      c19HoInv σ2 self (pre ++ (e, c) :: rest) x ((res + c) * x ^ (e - c19HoNext rest)) := by
  obtain ⟨h1, h2, h3, h4⟩ := h
  have hlen : (c19EncTerms (pre ++ (e, c) :: rest) : List (C19V α)).length
      = pre.length + 1 + rest.length := by
    simp [c19EncTerms]; omega
  have hcast : (pre.length : Int) + 1 = ((pre.length + 1 : Nat) : Int) := by omega
  unfold c19HoPat c19EnumItem c19EncTerm c19HoBody
  cases rest with
  | nil =>
    have hd : decide (((pre.length + 1 : Nat) : Int) < ((pre.length + 1 + 0 : Nat) : Int)) = false := by
      simp
    have hpow : ¬ ((e : Int) - 0 < 0) := by omega
    have ht : ((e : Int) - 0).toNat = e - c19HoNext [] := by simp [c19HoNext]
    refine ⟨_, _, by c19_run []; rfl, (by
      c19_run [h1, h2, h3, h4, hlen, hcast, hd, hrec, List.length_nil, hpow, ht]
      rfl), ?_⟩
    unfold c19HoInv
    c19_run [h1, h2, h3, h4]
    simp
  | cons t r =>
    obtain ⟨e', c'⟩ := t
    have hd : decide (((pre.length + 1 : Nat) : Int) < ((pre.length + 1 + (r.length + 1) : Nat) : Int))
        = true := by simp; omega
    have hidx : c19Index (c19EncTerms (pre ++ (e, c) :: (e', c') :: r) : List (C19V α))
        (((pre.length + 1 : Nat) : Int)) = .ok (.tup [.int e', .int c']) := by
      rw [c19Index_enc _ _ (by simp)]
      have : (pre ++ (e, c) :: (e', c') :: r)[pre.length + 1]'(by simp) = (e', c') := by
        simp [List.getElem_append_right]
      rw [this]
    have hge' : ¬ e < e' := by simpa [c19HoNext] using hge
    have hpow : ¬ ((e : Int) - (e' : Int) < 0) := by omega
    have ht : ((e : Int) - (e' : Int)).toNat = e - c19HoNext ((e', c') :: r) := by
      simp [c19HoNext]
    refine ⟨_, _, by c19_run []; rfl, (by
      c19_run [h1, h2, h3, h4, hlen, List.length_cons, hd, hcast, hidx, hrec, hpow, ht]
      rfl), ?_⟩
    unfold c19HoInv
    c19_run [h1, h2, h3, h4]
    simp


theorem c19_zipIdx_enum (rest : List Term) (i : Nat) :
    ((c19EncTerms rest : List (C19V α)).zipIdx i).map
        (fun (p : C19V α × Nat) => (.tup [.int p.2, p.1] : C19V α))
      = (rest.zipIdx i).map fun p => c19EnumItem p.1 p.2 := by
  induction rest generalizing i with
  | nil => rfl
  | cons t r ih =>
    simp only [c19EncTerms, List.map_cons, List.zipIdx_cons]
    simp only [c19EncTerms] at ih
    rw [ih]
    rfl

/-- the `for` loop of `map_polynomial` IS `hornerLoopPy` (whenever that one stays within the
integers) -/
theorem c19_ho_loop (cx : C19Cx α) (self : C19V α) (x : Int)
    (hrec : ∀ c : Int, c19Method cx self "rec" [.int c] = .ok (.int c)) :
    ∀ (rest pre : List Term) (res v : Int) (σ : C19Store α),
      c19HoInv σ self (pre ++ rest) x res → hornerLoopPy x res rest = some v →
      ∃ σ', c19For (c19Bind c19HoPat) (c19ExecL cx c19HoBody)
          ((rest.zipIdx pre.length).map fun p => c19EnumItem p.1 p.2) σ = .next σ' ∧
        c19Get "result" σ' = some (.int v) := by
  intro rest
  induction rest with
  | nil =>
    intro pre res v σ h hv
    simp only [hornerLoopPy, Option.some.injEq] at hv
    subst hv
    exact ⟨σ, rfl, h.2.2.2⟩
  | cons t rest ih =>
    intro pre res v σ h hv
    obtain ⟨e, c⟩ := t
    rw [c19_hornerLoopPy_cons] at hv
    by_cases hlt : e < c19HoNext rest
    · simp [hlt] at hv
    · simp only [hlt, if_false] at hv
      obtain ⟨σ1, σ2, hb, he, hinv⟩ := c19_ho_step cx self pre rest e c x res hrec σ h hlt
      have hinv' : c19HoInv σ2 self ((pre ++ [(e, c)]) ++ rest) x
          ((res + c) * x ^ (e - c19HoNext rest)) := by
        simpa using hinv
      obtain ⟨σ', hl, hres⟩ := ih (pre ++ [(e, c)]) _ v σ2 hinv' hv
      refine ⟨σ', ?_, hres⟩
      simp only [List.zipIdx_cons, List.map_cons]
      rw [c19For_cons _ _ _ _ _ _ _ hb he]
      simpa using hl

theorem c19_find_poly_data : c19FindFn c19Table "Polynomial.data" = some c19Fn_Polynomial_data :=
  c19Table_find 23 c19Fn_Polynomial_data (by rfl)
theorem c19_find_poly_base : c19FindFn c19Table "Polynomial.base" = some c19Fn_Polynomial_base :=
  c19Table_find 24 c19Fn_Polynomial_base (by rfl)

theorem c19_poly_data_run (ops : C19Ops α) (ext : String → List (C19V α) → C19R (C19V α))
    (b : C19V α) (ts : List (C19V α)) (n : Nat) :
    c19RunFn ops c19Table ext (n + 1) "Polynomial.data" [c19PolyObj b ts] = .ok (.tup ts) := by
  rw [c19RunFn_succ ops c19Table ext _ _ _ _ _ c19_find_poly_data rfl]
  simp only [c19Fn_Polynomial_data]
  c19_run [c19Attr_poly_data]
  rfl

theorem c19_poly_base_run (ops : C19Ops α) (ext : String → List (C19V α) → C19R (C19V α))
    (b : C19V α) (ts : List (C19V α)) (n : Nat) :
    c19RunFn ops c19Table ext (n + 1) "Polynomial.base" [c19PolyObj b ts] = .ok b := by
  rw [c19RunFn_succ ops c19Table ext _ _ _ _ _ c19_find_poly_base rfl]
  simp only [c19Fn_Polynomial_base]
  c19_run [c19Attr_poly_base]
  rfl

theorem c19Attr_poly_data_prop (ops : C19Ops α) (ext : String → List (C19V α) → C19R (C19V α))
    (n k : Nat) (b : C19V α) (ts : List (C19V α)) :
    c19Attr (c19CxAt ops c19Table ext n k) (c19PolyObj b ts) "data"
      = c19RunFn ops c19Table ext n "Polynomial.data" [c19PolyObj b ts] :=
  c19Attr_prop _ _ _ _ _ c19Fn_Polynomial_data
    (by simp only [c19AttrGet_cons, c19AttrGet_nil, String.reduceEq, if_false])
    (by simp only [c19CxAt_tbl, c19ClassesOf_polynomial, c19ResolveIn_cons, String.reduceAppend,
      c19_find_poly_data, Option.some_or])
    (by rfl)
theorem c19Attr_poly_base_prop (ops : C19Ops α) (ext : String → List (C19V α) → C19R (C19V α))
    (n k : Nat) (b : C19V α) (ts : List (C19V α)) :
    c19Attr (c19CxAt ops c19Table ext n k) (c19PolyObj b ts) "base"
      = c19RunFn ops c19Table ext n "Polynomial.base" [c19PolyObj b ts] :=
  c19Attr_prop _ _ _ _ _ c19Fn_Polynomial_base
    (by simp only [c19AttrGet_cons, c19AttrGet_nil, String.reduceEq, if_false])
    (by simp only [c19CxAt_tbl, c19ClassesOf_polynomial, c19ResolveIn_cons, String.reduceAppend,
      c19_find_poly_base, Option.some_or])
    (by rfl)

theorem c19Slice_reverse (vs : List (C19V α)) : c19Slice vs .none (.int (-1)) = .ok vs.reverse := by rfl

/-- an `EvaluationMapper` instance (its attributes do not matter here) -/
def c19EvalMapper (ks : List String) (vs : List (C19V α)) : C19V α := .obj "EvaluationMapper" ks vs

theorem c19Method_eval_rec (ops : C19Ops α) (ext : String → List (C19V α) → C19R (C19V α))
    (n k : Nat) (ks : List String) (vs : List (C19V α)) (a : C19V α) :
    c19Method (c19CxAt ops c19Table ext (n + 1) k) (c19EvalMapper ks vs) "rec" [a]
      = ext "EvaluationMapper.rec" [c19EvalMapper ks vs, a] := by
  have hf : c19FindFn c19Table "EvaluationMapper.rec" = none :=
    c19Table_absent _ (by simp [c19Table_names])
  have hc : c19ClassesOf c19Table (.obj "EvaluationMapper" ks vs : C19V α)
      = ["EvaluationMapper", "Mapper", "CSECachingMapperMixin", "ABC"] := by
    simp only [c19ClassesOf, c19Table, List.find?, String.reduceEq, decide_false, decide_true]
  rw [c19EvalMapper, c19Method_unresolved _ _ _ _ _ _ (by simp)
    (by simp only [c19CxAt_tbl, hc, c19ResolveIn_cons, c19ResolveIn_nil,
      String.reduceAppend, hf, c19Table_absent "Mapper.rec" (by simp [c19Table_names]),
      c19Table_absent "CSECachingMapperMixin.rec" (by simp [c19Table_names]),
      c19Table_absent "ABC.rec" (by simp [c19Table_names]), Option.none_or])]
  simp only [String.reduceAppend, c19CxAt_calls]
  exact c19RunFn_ext ops c19Table ext n _ _ hf

/-! ## `IdentityMapper.map_polynomial` -/

def c19EncSTerm (t : Nat × String) : C19V α := .tup [.int t.1, .sym t.2]
def c19EncSTerms (l : List (Nat × String)) : List (C19V α) := l.map c19EncSTerm

def c19IdentMapper (ks : List String) (vs : List (C19V α)) : C19V α := .obj "IdentityMapper" ks vs

theorem c19Method_ident_rec (ops : C19Ops α) (ext : String → List (C19V α) → C19R (C19V α))
    (n k : Nat) (ks : List String) (vs : List (C19V α)) (a b c : C19V α) :
    c19Method (c19CxAt ops c19Table ext (n + 1) k) (c19IdentMapper ks vs) "rec" [a, b, c]
      = ext "IdentityMapper.rec" [c19IdentMapper ks vs, a, b, c] := by
  have hf : c19FindFn c19Table "IdentityMapper.rec" = none :=
    c19Table_absent _ (by simp [c19Table_names])
  have hc : c19ClassesOf c19Table (.obj "IdentityMapper" ks vs : C19V α)
      = ["IdentityMapper", "Mapper"] := by
    simp only [c19ClassesOf, c19Table, List.find?, String.reduceEq, decide_false, decide_true]
  rw [c19IdentMapper, c19Method_unresolved _ _ _ _ _ _ (by simp)
    (by simp only [c19CxAt_tbl, hc, c19ResolveIn_cons, c19ResolveIn_nil,
      String.reduceAppend, hf, c19Table_absent "Mapper.rec" (by simp [c19Table_names]),
      Option.none_or])]
  simp only [String.reduceAppend, c19CxAt_calls]
  exact c19RunFn_ext ops c19Table ext n _ _ hf

theorem c19Method_poly_class (ops : C19Ops α) (ext : String → List (C19V α) → C19R (C19V α))
    (n k : Nat) (b : C19V α) (ts : List (C19V α)) (x y : C19V α) :
    c19Method (c19CxAt ops c19Table ext n k) (c19PolyObj b ts) "__class__" [x, y]
      = c19RunFn ops c19Table ext n "Polynomial.__init__"
          [.obj "Polynomial" [] [], x, y, .int 1, .none] := by
  rw [c19PolyObj, c19Method_class]
  exact c19New_resolved _ _ _ _ c19Fn_Polynomial___init__
    (by simp only [c19CxAt_tbl, c19ClassesOf_polynomial, c19ResolveIn_cons, String.reduceAppend,
      c19_find_poly_init, Option.some_or])
    (by rfl)

theorem c19AllTruthy_bools {β : Type} (l : List β) (f : β → Bool) :
    c19AllTruthy (l.map fun t => (.bool (f t) : C19V α)) = .ok (l.all f) := by
  induction l with
  | nil => rfl
  | cons t r ih =>
    simp only [List.map_cons, c19AllTruthy, c19Truthy_bool, C19R.bind_ok, List.all_cons]
    cases f t <;> simp [ih]

theorem c19Zip_map {β : Type} (l : List β) (f g : β → C19V α) :
    c19Zip (l.map f) (l.map g) = l.map fun t => (.tup [f t, g t] : C19V α) := by
  induction l with
  | nil => rfl
  | cons t r ih => simp [c19Zip, ih]

theorem c19Call_zip (cx : C19Cx α) (a b : List (C19V α)) :
    c19Call cx "zip" [.tup a, .tup b] = .ok (.tup (c19Zip a b)) := by rfl
theorem c19Call_all (cx : C19Cx α) (a : List (C19V α)) :
    c19Call cx "all" [.tup a] = (c19AllTruthy a).bind fun b => .ok (.bool b) := by rfl

/-! ## `Rational.__init__` -/

theorem c19_find_get_unit : c19FindFn c19Table "IntegerTraits.get_unit"
    = some c19Fn_IntegerTraits_get_unit :=
  c19Table_find 33 c19Fn_IntegerTraits_get_unit (by rfl)

section
variable {tbl : C19Table} (ht : C19Reading tbl) (ops : C19Ops α)
  (ext : String → List (C19V α) → C19R (C19V α))
include ht

/-- `IntegerTraits.get_unit`: the sign, `RuntimeError` for `0` -/
theorem c19_get_unit_run (i : Int) (n : Nat) :
    c19RunFn ops tbl ext (n + 1) "IntegerTraits.get_unit" [.int i]
      = if i < 0 then .ok (.int (-1)) else if i > 0 then .ok (.int 1) else .raise "RuntimeError" := by
  rw [c19RunFn_succ ops tbl ext _ _ _ _ _ (ht.find c19_find_get_unit (by rfl)) rfl]
  simp only [c19Fn_IntegerTraits_get_unit]
  c19_run [C19R.bind_ite, C19O.ofR_ite, C19O.andThen_ite, apply_ite (c19Finish _),
    decide_eq_true_eq, c19Finish_ret, c19Finish_raise, ne_eq, not_false_eq_true]

theorem C19Reading.method_get_unit (n k : Nat) (v : C19V α) :
    c19Method (c19CxAt ops tbl ext n k) (.obj "IntegerTraits" [] []) "get_unit" [v]
      = c19RunFn ops tbl ext n "IntegerTraits.get_unit" [v] :=
  ht.method ops ext n k (by simp)
    ((c19ClassesOf_integerTraits [] []).symm ▸ c19ResolveIn_head (by simp) c19_find_get_unit)
end

theorem c19Method_get_unit (ops : C19Ops α) (ext : String → List (C19V α) → C19R (C19V α))
    (n k : Nat) (v : C19V α) :
    c19Method (c19CxAt ops c19Table ext n k) (.obj "IntegerTraits" [] []) "get_unit" [v]
      = c19RunFn ops c19Table ext n "IntegerTraits.get_unit" [v] :=
  C19Reading.method_get_unit (.inl rfl) ops ext n k v

theorem c19_find_rational_init : c19FindFn c19Table "Rational.__init__"
    = some c19Fn_Rational___init__ :=
  c19Table_find 34 c19Fn_Rational___init__ (by rfl)

/-- what `Rational.__init__` leaves / raises -/
def c19EncRational : Option ((Int × Int) × (Int × Int)) → C19R (C19V α)
  | some r => .ok (.obj "Rational" ["Numerator", "Denominator"]
      [.frac r.1.1 r.1.2, .frac r.2.1 r.2.2])
  | none => .raise "RuntimeError"

/-- **`Rational.__init__` as regenerated IS `c19RationalInit`** on Python ints: numerator and
denominator divided (true division) by the sign of the denominator, `RuntimeError` for a zero
denominator, no reduction to lowest terms. -/
theorem c19_rational_init_run (ops : C19Ops α) (ext : String → List (C19V α) → C19R (C19V α))
    (num den : Int) (n : Nat) :
    c19RunFn ops c19Table ext (n + 1 + 1 + 1) "Rational.__init__"
        [.obj "Rational" [] [], .int num, .int den] = c19EncRational (c19RationalInit num den) := by
  rw [c19RunFn_succ ops c19Table ext _ _ _ _ _ c19_find_rational_init rfl]
  simp only [c19Fn_Rational___init__]
  unfold c19RationalInit c19EncRational
  c19_run [c19Call_traits, c19_traits_int_run (.inl rfl), c19Method_get_unit,
    c19_get_unit_run (.inl rfl), C19R.bind_ite, C19O.ofR_ite, C19O.andThen_ite,
    apply_ite (c19Finish _)]
  by_cases h1 : den < 0
  · simp only [h1, if_true]; rfl
  · by_cases h2 : den > 0 <;> simp only [h1, h2, if_true, if_false] <;> rfl

/-! ## class `Rational`, `EuclideanRingTraits`, `quotient`: where the functions stand -/

theorem c19_find_quotient : c19FindFn c19Table "primitives.quotient"
    = some c19Fn_primitives_quotient := c19Table_find 10 c19Fn_primitives_quotient (by rfl)
theorem c19_find_traits_gcd : c19FindFn c19Table "EuclideanRingTraits.gcd"
    = some c19Fn_EuclideanRingTraits_gcd := c19Table_find 30 c19Fn_EuclideanRingTraits_gcd (by rfl)
theorem c19_find_traits_lcm : c19FindFn c19Table "EuclideanRingTraits.lcm"
    = some c19Fn_EuclideanRingTraits_lcm := c19Table_find 31 c19Fn_EuclideanRingTraits_lcm (by rfl)
theorem c19_find_rational_neg : c19FindFn c19Table "Rational.__neg__"
    = some c19Fn_Rational___neg__ := c19Table_find 35 c19Fn_Rational___neg__ (by rfl)
theorem c19_find_rational_numerator : c19FindFn c19Table "Rational.numerator"
    = some c19Fn_Rational_numerator := c19Table_find 37 c19Fn_Rational_numerator (by rfl)
theorem c19_find_rational_denominator : c19FindFn c19Table "Rational.denominator"
    = some c19Fn_Rational_denominator := c19Table_find 38 c19Fn_Rational_denominator (by rfl)
theorem c19_find_rational_reciprocal : c19FindFn c19Table "Rational.reciprocal"
    = some c19Fn_Rational_reciprocal := c19Table_find 39 c19Fn_Rational_reciprocal (by rfl)
theorem c19_find_rational_add : c19FindFn c19Table "Rational.__add__"
    = some c19Fn_Rational___add__ := c19Table_find 40 c19Fn_Rational___add__ (by rfl)
theorem c19_find_rational_radd : c19FindFn c19Table "Rational.__radd__"
    = some c19Fn_Rational___radd__ := c19Table_find 41 c19Fn_Rational___radd__ (by rfl)
theorem c19_find_rational_sub : c19FindFn c19Table "Rational.__sub__"
    = some c19Fn_Rational___sub__ := c19Table_find 42 c19Fn_Rational___sub__ (by rfl)
theorem c19_find_rational_rsub : c19FindFn c19Table "Rational.__rsub__"
    = some c19Fn_Rational___rsub__ := c19Table_find 43 c19Fn_Rational___rsub__ (by rfl)
theorem c19_find_rational_mul : c19FindFn c19Table "Rational.__mul__"
    = some c19Fn_Rational___mul__ := c19Table_find 44 c19Fn_Rational___mul__ (by rfl)
theorem c19_find_rational_rmul : c19FindFn c19Table "Rational.__rmul__"
    = some c19Fn_Rational___rmul__ := c19Table_find 45 c19Fn_Rational___rmul__ (by rfl)
theorem c19_find_rational_div : c19FindFn c19Table "Rational.__div__"
    = some c19Fn_Rational___div__ := c19Table_find 46 c19Fn_Rational___div__ (by rfl)
theorem c19_find_rational_rdiv : c19FindFn c19Table "Rational.__rdiv__"
    = some c19Fn_Rational___rdiv__ := c19Table_find 47 c19Fn_Rational___rdiv__ (by rfl)
theorem c19_find_rational_pow : c19FindFn c19Table "Rational.__pow__"
    = some c19Fn_Rational___pow__ := c19Table_find 48 c19Fn_Rational___pow__ (by rfl)
theorem c19_find_map_quotient : c19FindFn c19Table "EvaluationMapper.map_quotient"
    = some c19Fn_EvaluationMapper_map_quotient :=
  c19Table_find 50 c19Fn_EvaluationMapper_map_quotient (by rfl)

theorem c19ClassesOf_rational (ks : List String) (vs : List (C19V α)) :
    c19ClassesOf c19Table (.obj "Rational" ks vs) = ["Rational", "Expression"] := by
  simp only [c19ClassesOf, c19Table, List.find?, String.reduceEq, decide_false, decide_true]

/-- what the class `Rational` defines itself -/
theorem c19Resolve_rational (ks : List String) (vs : List (C19V α)) {attr q : String} {f : C19Fn}
    (hq : "Rational" ++ "." ++ attr = q) (h : c19FindFn c19Table q = some f) :
    c19ResolveIn c19Table attr (c19ClassesOf c19Table (.obj "Rational" ks vs)) = some f := by
  rw [c19ClassesOf_rational]
  exact c19ResolveIn_head hq h

/-- what `IntegerTraits` inherits from `EuclideanRingTraits` -/
theorem c19Resolve_integerTraits_inherited (ks : List String) (vs : List (C19V α))
    {attr q q' : String} {f : C19Fn} (hq : "IntegerTraits" ++ "." ++ attr = q)
    (h : c19FindFn c19Table q = none) (hq' : "EuclideanRingTraits" ++ "." ++ attr = q')
    (h' : c19FindFn c19Table q' = some f) :
    c19ResolveIn c19Table attr (c19ClassesOf c19Table (.obj "IntegerTraits" ks vs)) = some f := by
  rw [c19ClassesOf_integerTraits, c19ResolveIn_cons, hq, h, Option.none_or]
  exact c19ResolveIn_head hq' h'

end PV.Algo
