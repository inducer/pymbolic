import PV.Proofs.GATable
/-
  C18 (T-gen): the `MultiVector` methods of the expected function table are the model's
  dictionary functions.
-/
-- one `variable` line serves every statement of the file, and `c18sym` is handed rules that not
-- every run needs
set_option linter.unusedSectionVars false
set_option linter.unusedVariables false
set_option linter.unusedSimpArgs false
namespace PV.GA.C18T

section
variable {R : Type} [Add R] [Mul R] [Neg R] [OfNat R 0] [OfNat R 1]


@[simp] theorem c18GetAttr_prim (rt : C18Rt R) (m a : String) :
    c18GetAttr rt (.prim m : C18Val R) a = .ok (.prim (m ++ "." ++ a)) := rfl

@[simp] theorem c18Prim_isinstance_dict_ndarray (rt : C18Rt R) (d : MVOf R) :
    c18Prim rt "isinstance" [.dict d, .prim "numpy.ndarray"] [] = .ok (.bool false) := rfl
@[simp] theorem c18Prim_isinstance_dict_dict (rt : C18Rt R) (d : MVOf R) :
    c18Prim rt "isinstance" [.dict d, .prim "dict"] [] = .ok (.bool true) := rfl
@[simp] theorem c18Prim_isinstance_nat_tuple (rt : C18Rt R) (k : Nat) :
    c18Prim rt "isinstance" [.nat k, .prim "tuple"] [] = .ok (.bool false) := rfl
@[simp] theorem c18Prim_isinstance_coef_ndarray (rt : C18Rt R) (c : R) :
    c18Prim rt "isinstance" [.coef c, .prim "numpy.ndarray"] [] = .ok (.bool false) := rfl
@[simp] theorem c18Prim_isinstance_coef_dict (rt : C18Rt R) (c : R) :
    c18Prim rt "isinstance" [.coef c, .prim "dict"] [] = .ok (.bool false) := rfl
@[simp] theorem c18Prim_isinstance_obj_mv (rt : C18Rt R) (s : Bool) (d : Option (MVOf R)) :
    c18Prim rt "isinstance" [.obj s d, .cls "MultiVector"] [] = .ok (.bool true) := rfl
@[simp] theorem c18Prim_isinstance_coef_mv (rt : C18Rt R) (c : R) :
    c18Prim rt "isinstance" [.coef c, .cls "MultiVector"] [] = .ok (.bool false) := rfl

@[simp] theorem c18CallMethod_dict_items (rt : C18Rt R) (d : MVOf R) :
    c18CallMethod rt (.dict d) "items" [] [] = .ok (.list (c18Items d)) := rfl
@[simp] theorem c18CallMethod_dict_keys (rt : C18Rt R) (d : MVOf R) :
    c18CallMethod rt (.dict d) "keys" [] [] = .ok (.list (d.map fun (k, _) => .nat k)) := rfl

@[simp] theorem c18Prim_single_valued (rt : C18Rt R) (b : Bool) (rest : List (C18Val R)) :
    c18Prim rt "pytools.single_valued" [.list (.bool b :: rest)] []
      = if rest.all (fun x => match x with | .bool c => c == b | _ => false) then .ok (.bool b)
        else .raise "ValueError" := rfl

/-! ## `MultiVector.__init__` on a bitmap dict -/

/-- the environment of `__init__` when the `data.keys()` generator runs -/
def initEnv (d : MVOf R) (iz : C18Val R) : C18Env R :=
  [("self", .obj false none), ("data", .dict d), ("space", .space), ("dimensions", .none),
   ("_is_zero", iz), ("single_valued", .prim "pytools.single_valued"),
   ("is_zero", .prim "pymbolic.primitives.is_zero"), ("new_data", .unbound),
   ("basis_indices", .unbound), ("coeff", .unbound), ("bits", .unbound), ("sign", .unbound),
   ("new_coeff", .unbound)]

/-- the generator `isinstance(k, tuple) for k in data.keys()` of `__init__` answers `False` for
every key of a bitmap dict -/
theorem init_keys_gen (rt : C18Rt R) (hM : rt.M = c18ExpectedModule) (d0 : MVOf R)
    (iz : C18Val R) :
    ∀ (d : MVOf R) (acc : List (C18Val R)),
    (d.map fun (k, _) => (C18Val.nat k : C18Val R)).foldl
      (c18GenStep (c18Cond rt) (c18EvalList rt [])
        (c18Eval rt (.call (.name "isinstance") [(.name "k"), (.name "tuple")] [] [])) ["k"]
        (initEnv d0 iz)) (.ok acc)
      = .ok (acc ++ d.map fun _ => .bool false) := by
  intro d
  induction d with
  | nil => intro acc; simp
  | cons x xs ih =>
    intro acc
    obtain ⟨k, c⟩ := x
    simp only [List.map_cons, List.foldl_cons]
    have : c18GenStep (c18Cond rt) (c18EvalList rt [])
        (c18Eval rt (.call (.name "isinstance") [(.name "k"), (.name "tuple")] [] [])) ["k"]
        (initEnv d0 iz) (.ok acc) (.nat k) = .ok (acc ++ [.bool false]) := by
      simp only [c18GenStep, initEnv, c18BindNames]
      c18sym [hM]
    rw [this, ih]
    simp

theorem all_bool_false (xs : List (Nat × R)) :
    (xs.map fun _ => (C18Val.bool false : C18Val R)).all
      (fun x => match x with | .bool c => c == false | _ => false) = true := by
  induction xs with
  | nil => rfl
  | cons x xs ih => simp [ih]

/-- `single_valued` of the answers `False` for every key: `ValueError` for no key -/
theorem c18Prim_single_valued_false (rt : C18Rt R) (xs : List (Nat × R)) :
    c18Prim rt "pytools.single_valued" [.list (xs.map fun _ => .bool false)] []
      = if xs.isEmpty then .raise "ValueError" else .ok (.bool false) := by
  cases xs with
  | nil => rfl
  | cons x xs => simp [all_bool_false]

/-- **constructing a `MultiVector` from a bitmap dict stores the dict as given** -/
theorem c18_init_dict (Γ : C18Ctx R) (fuel : Nat) (callee : C18Callee R) (d : MVOf R) :
    c18RunFn c18ExpectedModule Γ fuel callee c18X_MultiVector___init__
      [.obj false none, .dict d, .space] [] = .ok (.mv d) := by
  apply c18RunFn_of_body rfl
  have hgen := init_keys_gen (c18Rt Γ fuel callee) rfl d .unbound d []
  simp only [initEnv, List.nil_append] at hgen
  c18sym [c18X_MultiVector___init__, hgen, c18Prim_single_valued_false, C18Res.ite_bind,
    C18Out.ofRes_ite, C18Out.andThen_ite, c18Ret_ite, c18Branch_ok, c18Branch_ite]
  by_cases h : d = [] <;> simp [h]

/-- what a body that instantiates `MultiVector(dict, space)` needs of its callee -/
def C18HasInit (callee : C18Callee R) : Prop :=
  ∀ d : MVOf R, callee "MultiVector.__init__" [.obj false none, .dict d, .space] [] = .ok (.mv d)

/-- the methods of `MultiVector` the translated bodies call -/
@[simp] def c18MvMethods : List String :=
  ["as_scalar", "rev", "scalar_product", "norm_squared", "get_pure_grade", "inv", "_generic_product",
   "__init__"]

/-- the class rows of the expected module bind each of them to the function of that name -/
theorem c18MvRows : ∀ m ∈ c18MvMethods,
    c18ClassAttr c18ExpectedModule "MultiVector" m = some (.method ("MultiVector." ++ m) "plain") := by
  decide +kernel

@[simp] theorem c18CallMethod_mv (rt : C18Rt R) (hM : rt.M = c18ExpectedModule) {m : String}
    (hm : c18MvMethods.contains m = true) (s : Bool) (d : Option (MVOf R))
    (args : List (C18Val R)) (kw : List (String × C18Val R)) :
    c18CallMethod rt (.obj s d) m args kw
      = rt.callee ("MultiVector." ++ m) (.obj s d :: args) kw := by
  simp only [c18CallMethod, hM, c18MvRows m (List.contains_iff_mem.mp hm)]

@[simp] theorem c18Apply_cls_mv (rt : C18Rt R) (hM : rt.M = c18ExpectedModule)
    (args : List (C18Val R)) :
    c18Apply rt (.cls "MultiVector") args [] = rt.callee "MultiVector.__init__"
      (.obj false none :: args) [] := by
  simp only [c18Apply, hM, c18MvRows "__init__" (by decide)]
  rfl

/-! ## loops over `self.data.items()` that fill `new_data` -/

/-- keys of a dict value.  (The table proofs are core Lean only and do not import
PV/Proofs/GAMV.lean: `dkeys`, `(dkeys a).Nodup`, `gpStep`, `addStep` here are `keys`, `NodupKeys`,
`innerStep`, `GA.addStep` there.) -/
abbrev dkeys (a : MVOf R) : List Nat := a.map (·.1)

theorem dictSet_append_of_not_mem (acc : MVOf R) (k : Nat) (v : R) (h : k ∉ dkeys acc) :
    dictSet acc k v = acc ++ [(k, v)] := by
  induction acc with
  | nil => rfl
  | cons p acc ih =>
    obtain ⟨k', v'⟩ := p
    simp only [dkeys, List.map_cons, List.mem_cons, not_or] at h
    have hne : ¬ k' = k := fun e => h.1 e.symm
    simp only [dictSet, hne, if_false, List.cons_append]
    rw [ih h.2]

/-- filling a dict item by item from a list with distinct keys is `filterMap` -/
theorem foldl_dictSet_filterMap (f : Nat → R → Option R) :
    ∀ (a acc : MVOf R), (dkeys a).Nodup → (∀ k ∈ dkeys a, k ∉ dkeys acc) →
    a.foldl (fun acc (p : Nat × R) => match f p.1 p.2 with
        | some v => dictSet acc p.1 v | none => acc) acc
      = acc ++ a.filterMap (fun p => (f p.1 p.2).map fun v => (p.1, v)) := by
  intro a
  induction a with
  | nil => intro acc _ _; simp
  | cons p a ih =>
    intro acc hnd hdis
    obtain ⟨k, c⟩ := p
    simp only [dkeys, List.map_cons, List.nodup_cons] at hnd
    simp only [List.foldl_cons, List.filterMap_cons]
    cases hf : f k c with
    | none =>
      simp only [Option.map_none]
      exact ih acc hnd.2 fun k' hk' => hdis k' (List.mem_cons_of_mem _ hk')
    | some v =>
      simp only [Option.map_some]
      rw [dictSet_append_of_not_mem acc k v (hdis k (List.mem_cons_self))]
      rw [ih _ hnd.2]
      · simp
      · intro k' hk'
        simp only [dkeys, List.map_append, List.map_cons, List.map_nil, List.mem_append,
          List.mem_singleton, not_or]
        refine ⟨hdis k' (List.mem_cons_of_mem _ hk'), ?_⟩
        rintro rfl
        exact hnd.1 hk'

/-- the fold step of a `for bits, coeff in ….items()` loop that stores `f bits coeff` -/
def fillStep (f : Nat → R → Option R) (acc : MVOf R) : C18Val R → MVOf R
  | .tuple [.nat k, .coef c] => match f k c with
    | some v => dictSet acc k v
    | none => acc
  | _ => acc

theorem foldl_fillStep (f : Nat → R → Option R) (a : MVOf R) (acc : MVOf R) :
    (c18Items a).foldl (fillStep f) acc
      = a.foldl (fun acc (p : Nat × R) => match f p.1 p.2 with
        | some v => dictSet acc p.1 v | none => acc) acc := by
  induction a generalizing acc with
  | nil => rfl
  | cons p a ih =>
    obtain ⟨k, c⟩ := p
    simp only [c18Items, List.map_cons, List.foldl_cons, fillStep]
    exact ih _

theorem fill_eq (f : Nat → R → Option R) (a : MVOf R) (hnd : (dkeys a).Nodup) :
    (c18Items a).foldl (fillStep f) []
      = a.filterMap (fun p => (f p.1 p.2).map fun v => (p.1, v)) := by
  rw [foldl_fillStep, foldl_dictSet_filterMap f a [] hnd (by simp [dkeys])]
  simp

theorem mem_c18Items {a : MVOf R} {x : C18Val R} (h : x ∈ c18Items a) :
    ∃ k c, (k, c) ∈ a ∧ x = .tuple [.nat k, .coef c] := by
  simp only [c18Items, List.mem_map] at h
  obtain ⟨⟨k, c⟩, hm, rfl⟩ := h
  exact ⟨k, c, hm, rfl⟩

/-- **A `for bits, coeff in ….items()` loop that fills `new_data`.**  `E acc u` is the
environment with `new_data = acc`, whatever the remaining loop variables `u` hold; if one pass of
the body stores `f bits coeff` (or skips the item), the loop over a dict with distinct keys leaves
`new_data` as the `filterMap` of `f`. -/
theorem c18For_fill {U : Type} (E : MVOf R → U → C18Env R) {body : C18Env R → C18Out R}
    (f : Nat → R → Option R) (a : MVOf R) (hnd : (dkeys a).Nodup)
    (hstep : ∀ acc u k c, (k, c) ∈ a → ∃ u1 u2,
      c18BindNames ["bits", "coeff"] (.tuple [.nat k, .coef c]) (E acc u) = .ok (E acc u1) ∧
      body (E acc u1) = .normal (E (fillStep f acc (.tuple [.nat k, .coef c])) u2)) (u : U) :
    ∃ u', c18For (c18BindNames ["bits", "coeff"]) body (c18Items a) (E [] u)
      = .normal (E (a.filterMap fun p => (f p.1 p.2).map fun v => (p.1, v)) u') := by
  obtain ⟨u', h⟩ := c18For_env E (fillStep f) (c18Items a) (fun acc u x hx => by
    obtain ⟨k, c, hmem, rfl⟩ := mem_c18Items hx
    exact hstep acc u k c hmem) [] u
  exact ⟨u', by rw [h, fill_eq f a hnd]⟩

/-! ### `rev` -/

section Rev
variable (Γ : C18Ctx R) (fuel : Nat) (callee : C18Callee R)

def revF (k : Nat) (c : R) : Option R :=
  some (if bitCount k * (bitCount k - 1) / 2 % 2 = 0 then c else -c)

theorem rev_eq_filterMap (a : MVOf R) :
    rev a = a.filterMap (fun p => (revF p.1 p.2).map fun v => (p.1, v)) := by
  induction a with
  | nil => rfl
  | cons p a ih =>
    obtain ⟨k, c⟩ := p
    simp only [rev, List.map_cons, List.filterMap_cons, revF, Option.map_some] at ih ⊢
    rw [← ih]
    by_cases h : bitCount k * (bitCount k - 1) / 2 % 2 = 0 <;> simp [h]

/-- Python's `grade - 1` as the table computes it: the int `-1` for `grade = 0` -/
theorem grade_pred_val (rt : C18Rt R) (g : Nat) :
    (if 1 ≤ g then (C18Val.nat (g - 1) : C18Val R) else .neg (1 - g - 1)) =
      if g = 0 then .neg 0 else .nat (g - 1) := by
  by_cases h : g = 0
  · subst h; simp
  · have : 1 ≤ g := by omega
    simp [h, this]

/-- `grade*(grade-1)`: Python's `grade - 1` is `-1` for `grade = 0`, the product is a natural
number all the same -/
theorem c18BinOp_mul_pred (rt : C18Rt R) (g : Nat) :
    c18BinOp rt .mul (.nat g) (if 1 ≤ g then .nat (g - 1) else .neg 0)
      = .ok (.nat (g * (g - 1))) := by
  cases g <;> simp

theorem c18_rev (hbc : C18HasBitCount fuel callee) (hinit : C18HasInit callee) (a : MVOf R)
    (hnd : (dkeys a).Nodup) (hk : ∀ k ∈ dkeys a, k < fuel) :
    c18RunFn c18ExpectedModule Γ fuel callee c18X_MultiVector_rev [.mv a] [] = .ok (.mv (rev a)) := by
  apply c18RunFn_of_body rfl
  obtain ⟨u, hfor⟩ := c18For_fill
    (fun acc (u : C18Val R × C18Val R × C18Val R) =>
      [("self", .mv a), ("new_data", .dict acc), ("bits", u.1), ("coeff", u.2.1), ("grade", u.2.2)])
    (body := c18ExecList (c18Rt Γ fuel callee) [
        .assign [.name "grade"] false (.call (.name "bit_count") [(.name "bits")] [] []),
        .ifThen (.cmp .eq (.bin .mod (.bin .floordiv (.bin .mul (.name "grade")
            (.bin .sub (.name "grade") (.nat 1))) (.nat 2)) (.nat 2)) (.nat 0))
          [.assign [.index "new_data" (.name "bits")] false (.name "coeff")]
          [.assign [.index "new_data" (.name "bits")] false (.un .neg (.name "coeff"))]])
    revF a hnd
    (fun acc u k c hmem => ⟨(.nat k, .coef c, u.2.2), (.nat k, .coef c, .nat (bitCount k)),
      by simp [c18BindNames, c18Set], by
      c18sym [hbc k (hk k (List.mem_map.mpr ⟨(k, c), hmem, rfl⟩)), fillStep, revF,
        c18BinOp_mul_pred, c18Branch_ok, C18Out.andThen_ite]
      by_cases hg : bitCount k * (bitCount k - 1) / 2 % 2 = 0 <;> simp [hg]⟩)
    (.unbound, .unbound, .unbound)
  c18sym [c18X_MultiVector_rev, hfor, hinit _, rev_eq_filterMap]
end Rev

/-! ### `invol` -/

section Invol
variable (Γ : C18Ctx R) (fuel : Nat) (callee : C18Callee R)

def involF (k : Nat) (c : R) : Option R := some (if bitCount k % 2 = 0 then c else -c)

theorem invol_eq_filterMap (a : MVOf R) :
    invol a = a.filterMap (fun p => (involF p.1 p.2).map fun v => (p.1, v)) := by
  induction a with
  | nil => rfl
  | cons p a ih =>
    obtain ⟨k, c⟩ := p
    simp only [invol, List.map_cons, List.filterMap_cons, involF, Option.map_some] at ih ⊢
    rw [← ih]
    by_cases h : bitCount k % 2 = 0 <;> simp [h]

theorem c18_invol (hbc : C18HasBitCount fuel callee) (hinit : C18HasInit callee) (a : MVOf R)
    (hnd : (dkeys a).Nodup) (hk : ∀ k ∈ dkeys a, k < fuel) :
    c18RunFn c18ExpectedModule Γ fuel callee c18X_MultiVector_invol [.mv a] []
      = .ok (.mv (invol a)) := by
  apply c18RunFn_of_body rfl
  obtain ⟨u, hfor⟩ := c18For_fill
    (fun acc (u : C18Val R × C18Val R × C18Val R) =>
      [("self", .mv a), ("new_data", .dict acc), ("bits", u.1), ("coeff", u.2.1), ("grade", u.2.2)])
    (body := c18ExecList (c18Rt Γ fuel callee) [
        .assign [.name "grade"] false (.call (.name "bit_count") [(.name "bits")] [] []),
        .ifThen (.cmp .eq (.bin .mod (.name "grade") (.nat 2)) (.nat 0))
          [.assign [.index "new_data" (.name "bits")] false (.name "coeff")]
          [.assign [.index "new_data" (.name "bits")] false (.un .neg (.name "coeff"))]])
    involF a hnd
    (fun acc u k c hmem => ⟨(.nat k, .coef c, u.2.2), (.nat k, .coef c, .nat (bitCount k)),
      by simp [c18BindNames, c18Set], by
      c18sym [hbc k (hk k (List.mem_map.mpr ⟨(k, c), hmem, rfl⟩)), fillStep, involF, c18Branch_ok,
        C18Out.andThen_ite]
      by_cases hg : bitCount k % 2 = 0 <;> simp [hg]⟩) (.unbound, .unbound, .unbound)
  c18sym [c18X_MultiVector_invol, hfor, hinit _, invol_eq_filterMap]
end Invol

/-! ### `project`, `odd`, `even` -/

section Filters
variable (Γ : C18Ctx R) (fuel : Nat) (callee : C18Callee R)

def keepF (p : Nat → Bool) (k : Nat) (c : R) : Option R := if p k then some c else none

theorem filter_eq_filterMap (p : Nat → Bool) (a : MVOf R) :
    a.filter (fun x => p x.1) = a.filterMap (fun x => (keepF p x.1 x.2).map fun v => (x.1, v)) := by
  induction a with
  | nil => rfl
  | cons x a ih =>
    obtain ⟨k, c⟩ := x
    simp only [List.filter_cons, List.filterMap_cons, keepF]
    cases hp : p k <;> simp [ih, keepF]

theorem c18_project (hbc : C18HasBitCount fuel callee) (hinit : C18HasInit callee) (a : MVOf R)
    (r : Nat) (hnd : (dkeys a).Nodup) (hk : ∀ k ∈ dkeys a, k < fuel) :
    c18RunFn c18ExpectedModule Γ fuel callee c18X_MultiVector_project [.mv a, .nat r] []
      = .ok (.mv (project a r)) := by
  apply c18RunFn_of_body rfl
  obtain ⟨u, hfor⟩ := c18For_fill
    (fun acc (u : C18Val R × C18Val R) =>
      [("self", .mv a), ("r", .nat r), ("new_data", .dict acc), ("bits", u.1), ("coeff", u.2)])
    (body := c18ExecList (c18Rt Γ fuel callee) [
        .ifThen (.cmp .eq (.call (.name "bit_count") [(.name "bits")] [] []) (.name "r"))
          [.assign [.index "new_data" (.name "bits")] false (.name "coeff")] []])
    (keepF fun k => bitCount k = r) a hnd
    (fun acc u k c hmem => ⟨(.nat k, .coef c), (.nat k, .coef c), by simp [c18BindNames, c18Set], by
      c18sym [hbc k (hk k (List.mem_map.mpr ⟨(k, c), hmem, rfl⟩)), fillStep, keepF, c18Branch_ok,
        C18Out.andThen_ite]
      by_cases hg : bitCount k = r <;> simp [hg]⟩) (.unbound, .unbound)
  c18sym [c18X_MultiVector_project, hfor, hinit _, project]
  exact (filter_eq_filterMap _ a).symm

theorem c18_odd (hbc : C18HasBitCount fuel callee) (hinit : C18HasInit callee) (a : MVOf R)
    (hnd : (dkeys a).Nodup) (hk : ∀ k ∈ dkeys a, k < fuel) :
    c18RunFn c18ExpectedModule Γ fuel callee c18X_MultiVector_odd [.mv a] []
      = .ok (.mv (odd a)) := by
  apply c18RunFn_of_body rfl
  obtain ⟨u, hfor⟩ := c18For_fill
    (fun acc (u : C18Val R × C18Val R) =>
      [("self", .mv a), ("new_data", .dict acc), ("bits", u.1), ("coeff", u.2)])
    (body := c18ExecList (c18Rt Γ fuel callee) [
        .ifThen (.bin .mod (.call (.name "bit_count") [(.name "bits")] [] []) (.nat 2))
          [.assign [.index "new_data" (.name "bits")] false (.name "coeff")] []])
    (keepF fun k => bitCount k % 2 ≠ 0) a hnd
    (fun acc u k c hmem => ⟨(.nat k, .coef c), (.nat k, .coef c), by simp [c18BindNames, c18Set], by
      c18sym [hbc k (hk k (List.mem_map.mpr ⟨(k, c), hmem, rfl⟩)), fillStep, keepF, c18Branch_ok,
        C18Out.andThen_ite]
      by_cases hg : bitCount k % 2 = 1 <;> simp [hg]⟩) (.unbound, .unbound)
  c18sym [c18X_MultiVector_odd, hfor, hinit _, odd]
  exact (filter_eq_filterMap _ a).symm

theorem c18_even (hbc : C18HasBitCount fuel callee) (hinit : C18HasInit callee) (a : MVOf R)
    (hnd : (dkeys a).Nodup) (hk : ∀ k ∈ dkeys a, k < fuel) :
    c18RunFn c18ExpectedModule Γ fuel callee c18X_MultiVector_even [.mv a] []
      = .ok (.mv (even a)) := by
  apply c18RunFn_of_body rfl
  obtain ⟨u, hfor⟩ := c18For_fill
    (fun acc (u : C18Val R × C18Val R) =>
      [("self", .mv a), ("new_data", .dict acc), ("bits", u.1), ("coeff", u.2)])
    (body := c18ExecList (c18Rt Γ fuel callee) [
        .ifThen (.cmp .eq (.bin .mod (.call (.name "bit_count") [(.name "bits")] [] []) (.nat 2))
            (.nat 0))
          [.assign [.index "new_data" (.name "bits")] false (.name "coeff")] []])
    (keepF fun k => bitCount k % 2 = 0) a hnd
    (fun acc u k c hmem => ⟨(.nat k, .coef c), (.nat k, .coef c), by simp [c18BindNames, c18Set], by
      c18sym [hbc k (hk k (List.mem_map.mpr ⟨(k, c), hmem, rfl⟩)), fillStep, keepF, c18Branch_ok,
        C18Out.andThen_ite]
      by_cases hg : bitCount k % 2 = 0 <;> simp [hg]⟩) (.unbound, .unbound)
  c18sym [c18X_MultiVector_even, hfor, hinit _, even]
  exact (filter_eq_filterMap _ a).symm
end Filters

end
end PV.GA.C18T