import PV.Model.Imperative
import PV.Proofs.UnionPy
import Batteries.Data.List.Basic
/-
  Helper lemmas for C20: finite sets of names, the name generator, fusion of statement ids.
-/
namespace PV.Imp
open PV

/-! ### sets of names -/

theorem mem_insertS {xs : List String} {x y : String} : x ∈ insertS xs y ↔ x ∈ xs ∨ x = y := by
  unfold insertS
  split
  · constructor
    · exact Or.inl
    · rintro (h | rfl) <;> assumption
  · simp

theorem nodup_insertS {xs : List String} (y : String) (h : xs.Nodup) : (insertS xs y).Nodup := by
  unfold insertS
  split
  · exact h
  · rename_i hy
    rw [List.nodup_append]
    refine ⟨h, by simp, ?_⟩
    intro a ha b hb
    simp at hb
    subst hb
    rintro rfl
    exact hy ha

theorem mem_unionS {x : String} : ∀ {b a : List String}, x ∈ unionS a b ↔ x ∈ a ∨ x ∈ b
  | [], a => by simp [unionS]
  | y :: b, a => by
    have ih := mem_unionS (x := x) (b := b) (a := insertS a y)
    simp only [unionS, List.foldl_cons] at ih ⊢
    rw [ih, mem_insertS, List.mem_cons, or_assoc]

theorem nodup_unionS : ∀ {b a : List String}, a.Nodup → (unionS a b).Nodup
  | [], _, h => by simpa [unionS] using h
  | y :: b, a, h => by
    have := nodup_unionS (b := b) (nodup_insertS y h)
    simpa [unionS] using this

theorem mem_dedupS {x : String} {xs : List String} : x ∈ dedupS xs ↔ x ∈ xs := by
  simp [dedupS, mem_unionS]

theorem nodup_dedupS (xs : List String) : (dedupS xs).Nodup :=
  nodup_unionS List.nodup_nil

theorem mem_interS {x : String} {a b : List String} : x ∈ interS a b ↔ x ∈ a ∧ x ∈ b := by
  simp [interS, List.mem_filter]

/-! ### `Forall₂` plumbing

The file imports Batteries only, so the few facts about `List.Forall₂` it needs are proved here:
composition, conjunction, weakening (`forall2_imp`), and `forall2_true`: lists related by ANY
relation are related by one that always holds (only their lengths matter). -/

theorem forall2_comp {α β γ : Type} {R : α → β → Prop} {S : β → γ → Prop} :
    ∀ {l₁ : List α} {l₂ : List β} {l₃ : List γ}, List.Forall₂ R l₁ l₂ → List.Forall₂ S l₂ l₃ →
      List.Forall₂ (fun a c => ∃ b, R a b ∧ S b c) l₁ l₃
  | _, _, _, .nil, .nil => .nil
  | _, _, _, .cons h1 t1, .cons h2 t2 => .cons ⟨_, h1, h2⟩ (forall2_comp t1 t2)

theorem forall2_and {α β : Type} {R S : α → β → Prop} :
    ∀ {l₁ : List α} {l₂ : List β}, List.Forall₂ R l₁ l₂ → List.Forall₂ S l₁ l₂ →
      List.Forall₂ (fun a b => R a b ∧ S a b) l₁ l₂
  | _, _, .nil, .nil => .nil
  | _, _, .cons h1 t1, .cons h2 t2 => .cons ⟨h1, h2⟩ (forall2_and t1 t2)

theorem forall2_imp {α β : Type} {R S : α → β → Prop} (H : ∀ a b, R a b → S a b) :
    ∀ {l₁ : List α} {l₂ : List β}, List.Forall₂ R l₁ l₂ → List.Forall₂ S l₁ l₂
  | _, _, .nil => .nil
  | _, _, .cons h t => .cons (H _ _ h) (forall2_imp H t)

theorem forall2_true {α β : Type} {R : α → β → Prop} (T : α → β → Prop) (H : ∀ a b, T a b) :
    ∀ {l₁ : List α} {l₂ : List β}, List.Forall₂ R l₁ l₂ → List.Forall₂ T l₁ l₂
  | _, _, .nil => .nil
  | _, _, .cons _ t => .cons (H _ _) (forall2_true T H t)

theorem forall2_map_eq {α β γ : Type} {R : α → β → Prop} {f : β → γ} {g : α → γ}
    (H : ∀ a b, R a b → f b = g a) :
    ∀ {l₁ : List α} {l₂ : List β}, List.Forall₂ R l₁ l₂ → l₂.map f = l₁.map g
  | _, _, .nil => rfl
  | _, _, .cons h t => by simp [H _ _ h, forall2_map_eq H t]

/-! ### association lists -/

theorem lookup_assocSet (m : List (String × String)) (k v k' : String) :
    (assocSet m k v).lookup k' = if k' = k then some v else m.lookup k' := by
  induction m with
  | nil =>
    simp only [assocSet, List.lookup_cons, List.lookup_nil]
    by_cases h : k' = k
    · simp [h]
    · have : (k' == k) = false := by simpa using h
      simp [this, h]
  | cons p rest ih =>
    obtain ⟨k₀, v₀⟩ := p
    simp only [assocSet]
    by_cases h0 : k₀ = k
    · subst h0
      simp only [beq_self_eq_true, ↓reduceIte, List.lookup_cons]
      by_cases h : k' = k₀
      · simp [h]
      · have : (k' == k₀) = false := by simpa using h
        simp [this, h]
    · have : (k₀ == k) = false := by simpa using h0
      simp only [this, Bool.false_eq_true, ↓reduceIte, List.lookup_cons, ih]
      by_cases h : k' = k₀
      · subst h
        simp [h0]
      · have : (k' == k₀) = false := by simpa using h
        simp [this]

/-! ### the pytools generator meets the contract -/

theorem searchName_fresh (ex : List String) (base : String) :
    ∀ (fuel num c : Nat) (name : String), searchName ex base fuel num = some (c, name) → name ∉ ex
  | 0, _, _, _, h => by simp [searchName] at h
  | fuel + 1, num, c, name, h => by
    simp only [searchName] at h
    split at h
    · exact searchName_fresh ex base fuel (num + 1) c name h
    · rename_i hn
      cases h
      exact hn

theorem find_fresh (g : GenState) (base : String) (cnt : Option Nat) (c : Nat) (name : String)
    (h : g.find base cnt = some (c, name)) : name ∉ g.existing := by
  cases cnt with
  | none =>
    simp only [GenState.find] at h
    split at h
    · exact searchName_fresh _ _ _ _ _ _ h
    · rename_i hne
      cases h
      exact hne
  | some c0 => exact searchName_fresh _ _ _ _ _ _ h

theorem call_fresh (g : GenState) (b n : String) (g' : GenState) (h : g.call b = some (n, g')) :
    n ∉ g.existing ∧ g'.existing = insertS g.existing n := by
  unfold GenState.call at h
  simp only at h
  split at h
  · cases h
  · rename_i c name hfound
    cases h
    exact ⟨find_fresh _ _ _ _ _ hfound, rfl⟩

theorem pyGen_fresh : pyGen.Fresh where
  init_used := fun xs x => by simp [pyGen, mem_dedupS]
  call_fresh := fun s b n s' h => (call_fresh s b n s' h).1
  call_used := fun s b n s' h x => by
    have := (call_fresh s b n s' h).2
    simp only [pyGen] at this ⊢
    rw [this, mem_insertS]
    exact or_comm

/-! ### fusion -/

section
variable {σ : Type} {G : NameGen σ}

theorem renameIds_spec (hG : G.Fresh) :
    ∀ (B : List Stmt) (s : σ) (m : List (String × String)) (bs : List Stmt)
      (m' : List (String × String)) (s' : σ),
    renameIds G s B m = some (bs, m', s') →
    List.Forall₂ (fun b b' => b'.kind = b.kind ∧ b'.dependsOn = b.dependsOn) B bs ∧
    (∀ n ∈ bs.map (·.id), n ∉ G.used s) ∧ (bs.map (·.id)).Nodup ∧
    (∀ x, x ∈ G.used s' ↔ (x ∈ bs.map (·.id) ∨ x ∈ G.used s)) ∧
    (∀ k, k ∉ B.map (·.id) → m'.lookup k = m.lookup k) ∧
    (∀ k ∈ B.map (·.id), ∃ v ∈ bs.map (·.id), m'.lookup k = some v) ∧
    ((B.map (·.id)).Nodup → List.Forall₂ (fun b b' => m'.lookup b.id = some b'.id) B bs)
  | [], s, m, bs, m', s', h => by
    simp only [renameIds, Option.some.injEq, Prod.mk.injEq] at h
    obtain ⟨rfl, rfl, rfl⟩ := h
    simp
  | b :: rest, s, m, bs, m', s', h => by
    simp only [renameIds] at h
    split at h
    · cases h
    · rename_i n s₁ hcall
      split at h
      · cases h
      · rename_i bs₁ m₁ s₂ hrec
        simp only [Option.some.injEq, Prod.mk.injEq] at h
        obtain ⟨rfl, rfl, rfl⟩ := h
        obtain ⟨h1, h2, h3, h4, h5, h5', h6⟩ := renameIds_spec hG rest s₁ _ bs₁ m₁ s₂ hrec
        have hfresh := hG.call_fresh _ _ _ _ hcall
        have hused := hG.call_used _ _ _ _ hcall
        refine ⟨.cons ⟨rfl, rfl⟩ h1, ?_, ?_, ?_, ?_, ?_, ?_⟩
        · intro x hx
          simp only [List.map_cons, List.mem_cons] at hx
          rcases hx with rfl | hx
          · exact hfresh
          · intro hu
            exact h2 x hx ((hused x).2 (Or.inr hu))
        · simp only [List.map_cons, List.nodup_cons]
          refine ⟨?_, h3⟩
          intro hn
          exact h2 n hn ((hused n).2 (Or.inl rfl))
        · intro x
          rw [h4 x, hused x]
          simp only [List.map_cons, List.mem_cons, or_assoc, or_left_comm]
        · intro k hk
          simp only [List.map_cons, List.mem_cons, not_or] at hk
          rw [h5 k hk.2, lookup_assocSet, if_neg hk.1]
        · intro k hk
          by_cases hkr : k ∈ rest.map (·.id)
          · obtain ⟨v, hv, hl⟩ := h5' k hkr
            exact ⟨v, by simp only [List.map_cons, List.mem_cons]; exact Or.inr hv, hl⟩
          · simp only [List.map_cons, List.mem_cons] at hk
            rcases hk with rfl | hk
            · refine ⟨n, by simp, ?_⟩
              rw [h5 _ hkr, lookup_assocSet, if_pos rfl]
            · exact absurd hk hkr
        · intro hnd
          simp only [List.map_cons, List.nodup_cons] at hnd
          refine .cons ?_ (h6 hnd.2)
          rw [h5 _ hnd.1, lookup_assocSet, if_pos rfl]

theorem remapDeps_spec (m : List (String × String)) :
    ∀ (ds r : List String), remapDeps m ds = .ok r →
      r.Nodup ∧ ∀ x, x ∈ r ↔ ∃ d ∈ ds, m.lookup d = some x
  | [], r, h => by
    simp only [remapDeps, pure, Except.pure, Except.ok.injEq] at h
    subst h
    simp
  | d :: ds, r, h => by
    simp only [remapDeps] at h
    split at h
    · cases h
    · rename_i n hn
      obtain ⟨r₁, hr₁, h⟩ := except_bind_ok h
      obtain ⟨hnd, hmem⟩ := remapDeps_spec m ds r₁ hr₁
      simp only [pure, Except.pure, Except.ok.injEq] at h
      subst h
      constructor
      · split
        · exact hnd
        · rename_i hnr
          exact List.nodup_cons.2 ⟨hnr, hnd⟩
      · intro x
        have : x ∈ (if n ∈ r₁ then r₁ else n :: r₁) ↔ x = n ∨ x ∈ r₁ := by
          split
          · rename_i hnr
            constructor
            · exact Or.inr
            · rintro (rfl | h)
              · exact hnr
              · exact h
          · simp
        rw [this, hmem x]
        simp only [List.mem_cons, exists_eq_or_imp, hn, Option.some.injEq]
        exact or_congr_left eq_comm

theorem remapAll_spec (m : List (String × String)) :
    ∀ (bs bs' : List Stmt), remapAll m bs = .ok bs' →
      List.Forall₂ (fun b b' => b'.id = b.id ∧ b'.kind = b.kind ∧ b'.dependsOn.Nodup ∧
        ∀ x, x ∈ b'.dependsOn ↔ ∃ d ∈ b.dependsOn, m.lookup d = some x) bs bs'
  | [], bs', h => by
    simp only [remapAll, pure, Except.pure, Except.ok.injEq] at h
    subst h
    exact .nil
  | b :: bs, bs', h => by
    simp only [remapAll] at h
    obtain ⟨d, hd, h⟩ := except_bind_ok h
    obtain ⟨r, hr, h⟩ := except_bind_ok h
    simp only [pure, Except.pure, Except.ok.injEq] at h
    subst h
    obtain ⟨hnd, hmem⟩ := remapDeps_spec m _ _ hd
    exact .cons ⟨rfl, rfl, hnd, hmem⟩ (remapAll_spec m bs r hr)

theorem remapAll_ok (m : List (String × String)) :
    ∀ (bs : List Stmt), (∀ b ∈ bs, ∀ d ∈ b.dependsOn, (m.lookup d).isSome) →
      ∃ bs', remapAll m bs = .ok bs'
  | [], _ => ⟨[], rfl⟩
  | b :: bs, h => by
    have hd : ∀ ds : List String, (∀ d ∈ ds, (m.lookup d).isSome) → ∃ r, remapDeps m ds = .ok r := by
      intro ds
      induction ds with
      | nil => intro _; exact ⟨[], rfl⟩
      | cons d ds ih =>
        intro hds
        obtain ⟨r, hr⟩ := ih (fun d' hd' => hds d' (List.mem_cons_of_mem _ hd'))
        have := hds d (List.mem_cons_self ..)
        obtain ⟨n, hn⟩ := Option.isSome_iff_exists.1 this
        simp only [remapDeps, hn, hr]
        exact ⟨_, rfl⟩
    obtain ⟨r, hr⟩ := hd b.dependsOn (h b (List.mem_cons_self ..))
    obtain ⟨bs', hbs'⟩ := remapAll_ok m bs (fun b' hb' => h b' (List.mem_cons_of_mem _ hb'))
    simp only [remapAll, hr, hbs']
    exact ⟨_, rfl⟩

theorem remapAll_error (m : List (String × String)) :
    ∀ (bs : List Stmt) (e : ImpErr), remapAll m bs = .error e →
      e = .keyError ∧ ∃ b ∈ bs, ∃ d ∈ b.dependsOn, m.lookup d = none
  | [], e, h => by simp [remapAll, pure, Except.pure] at h
  | b :: bs, e, h => by
    have hd : ∀ ds : List String, ∀ e, remapDeps m ds = .error e →
        e = .keyError ∧ ∃ d ∈ ds, m.lookup d = none := by
      intro ds
      induction ds with
      | nil => intro e h; simp [remapDeps, pure, Except.pure] at h
      | cons d ds ih =>
        intro e h
        simp only [remapDeps] at h
        split at h
        · rename_i hn
          cases h
          exact ⟨rfl, d, List.mem_cons_self .., hn⟩
        · cases hr : remapDeps m ds with
          | error e' =>
            obtain ⟨h1, d', hd', hn'⟩ := ih e' hr
            rw [hr] at h
            cases h
            exact ⟨h1, d', List.mem_cons_of_mem _ hd', hn'⟩
          | ok r =>
            rw [hr] at h
            cases h
    simp only [remapAll] at h
    cases hr : remapDeps m b.dependsOn with
    | error e' =>
      obtain ⟨h1, d, hd1, hd2⟩ := hd _ _ hr
      rw [hr] at h
      cases h
      exact ⟨h1, b, List.mem_cons_self .., d, hd1, hd2⟩
    | ok r =>
      rw [hr] at h
      cases hr2 : remapAll m bs with
      | error e' =>
        obtain ⟨h1, b', hb', hx⟩ := remapAll_error m bs e' hr2
        rw [hr2] at h
        cases h
        exact ⟨h1, b', List.mem_cons_of_mem _ hb', hx⟩
      | ok r' =>
        rw [hr2] at h
        cases h

/-! ### fusion, assembled -/

/-- everything the fusion theorems need, in one statement -/
theorem fuse_spec (hG : G.Fresh) {A B out : List Stmt} {m : List (String × String)}
    (h : fuseG G A B = .ok (out, m)) :
    ∃ bs', out = A ++ bs' ∧ (bs'.map (·.id)).Nodup ∧ (∀ n ∈ bs'.map (·.id), n ∉ A.map (·.id)) ∧
      (∀ k, k ∉ B.map (·.id) → m.lookup k = none) ∧
      (∀ k ∈ B.map (·.id), ∃ v ∈ bs'.map (·.id), m.lookup k = some v) ∧
      List.Forall₂ (fun b b' => b'.kind = b.kind ∧
        ((B.map (·.id)).Nodup → m.lookup b.id = some b'.id) ∧ b'.dependsOn.Nodup ∧
        ∀ x, x ∈ b'.dependsOn ↔ ∃ d ∈ b.dependsOn, m.lookup d = some x) B bs' := by
  unfold fuseG at h
  split at h
  · cases h
  · rename_i bs m₁ s' hren
    obtain ⟨bs', hbs', h⟩ := except_bind_ok h
    simp only [pure, Except.pure, Except.ok.injEq, Prod.mk.injEq] at h
    obtain ⟨rfl, rfl⟩ := h
    obtain ⟨h1, h2, h3, _h4, h5, h5', h6⟩ := renameIds_spec hG B _ [] bs m₁ s' hren
    have hre := remapAll_spec m₁ bs bs' hbs'
    have hids : bs'.map (·.id) = bs.map (·.id) := forall2_map_eq (fun _ _ h => h.1) hre
    refine ⟨bs', rfl, hids ▸ h3, ?_, ?_, ?_, ?_⟩
    · intro n hn hA
      rw [hids] at hn
      exact h2 n hn ((hG.init_used _ _).2 hA)
    · intro k hk
      rw [h5 k hk]
      rfl
    · intro k hk
      rw [hids]
      exact h5' k hk
    · have h6' : List.Forall₂ (fun b b' : Stmt => (B.map (·.id)).Nodup → m₁.lookup b.id = some b'.id)
          B bs := by
        by_cases hnd : (B.map (·.id)).Nodup
        · exact forall2_imp (fun _ _ h _ => h) (h6 hnd)
        · exact forall2_true _ (fun _ _ h => absurd h hnd) h1
      refine forall2_imp ?_ (forall2_comp (forall2_and h1 h6') hre)
      rintro b b' ⟨c, ⟨⟨hk, hd⟩, hl⟩, hid, hk', hnd, hmem⟩
      refine ⟨hk'.trans hk, fun h => hid ▸ hl h, hnd, ?_⟩
      intro x
      rw [hmem x, hd]

end

end PV.Imp
