import PV.Model.Memo
/-
  Helper lemmas for C05: the caching dispatcher refines the plain one, its cache holds plain
  answers only, and no key is computed twice.  Generic in the key type, the key equality and the
  handler family.
-/
namespace PV.Memo
open PV

variable {K X R : Type}

/-! ### plain evaluation: monotone in the fuel, deterministic -/

theorem interp_mono {f g : K → Option (Ans X R)} (hfg : ∀ k a, f k = some a → g k = some a) :
    ∀ (p : Prog K X R) (a : Ans X R), interp f p = some a → interp g p = some a
  | .ret _, _, h => h
  | .fail _, _, h => h
  | .call k cont, a, h => by
      simp only [interp] at h ⊢
      split at h
      · cases h
      · next hf => rw [hfg k _ hf]; exact h
      · next hf => rw [hfg k _ hf]; exact interp_mono hfg _ a h

theorem plain_succ (S : Spec K X R) : ∀ (n : Nat) (k : K) (a : Ans X R),
    plain S n k = some a → plain S (n+1) k = some a
  | n+1, k, a, h => interp_mono (plain_succ S n) (S.h k) a h

theorem plain_mono (S : Spec K X R) {n m : Nat} (hnm : n ≤ m) (k : K) (a : Ans X R) :
    plain S n k = some a → plain S m k = some a := by
  induction hnm with
  | refl => exact id
  | step _ ih => exact fun h => plain_succ S _ k a (ih h)

theorem plain_det (S : Spec K X R) {n m : Nat} {k : K} {a a' : Ans X R}
    (h1 : plain S n k = some a) (h2 : plain S m k = some a') : a = a' := by
  have x := plain_mono S (Nat.le_max_left n m) k a h1
  have y := plain_mono S (Nat.le_max_right n m) k a' h2
  rw [x] at y; exact Option.some.inj y

/-! ### `CallsOK` -/

theorem CallsOK.mono {P Q : K → Prop} (hPQ : ∀ k, P k → Q k) {p : Prog K X R}
    (h : CallsOK P p) : CallsOK Q p := by
  induction h with
  | ret r => exact .ret r
  | fail x => exact .fail x
  | call k cont hk _ ih => exact .call k cont (hPQ k hk) ih

theorem CallsOK.and {P Q : K → Prop} {p : Prog K X R}
    (h1 : CallsOK P p) (h2 : CallsOK Q p) : CallsOK (fun k => P k ∧ Q k) p := by
  induction h1 with
  | ret r => exact .ret r
  | fail x => exact .fail x
  | call k cont hk _ ih =>
    cases h2 with
    | call _ _ hq hc => exact .call k cont ⟨hk, hq⟩ fun r => ih r (hc r)

theorem callAll_ok {P : K → Prop} : ∀ (ks : List K) (cont : List R → Prog K X R),
    (∀ k ∈ ks, P k) → (∀ rs, CallsOK P (cont rs)) → CallsOK P (callAll ks cont)
  | [], cont, _, hc => by simpa [callAll] using hc []
  | k :: ks, cont, hk, hc => by
      simp only [callAll]
      exact .call k _ (hk k (by simp)) fun r =>
        callAll_ok ks _ (fun k' hk' => hk k' (by simp [hk'])) fun rs => hc (r :: rs)

/-! ### the cache -/

theorem lookup_some {keq : K → K → Bool} {k : K} {r : R} :
    ∀ {c : List (K × R)}, lookup keq k c = some r → ∃ k', (k', r) ∈ c ∧ keq k' k = true
  | (k', r') :: rest, h => by
      simp only [lookup] at h
      split at h
      · next hk => cases h; exact ⟨k', by simp, hk⟩
      · obtain ⟨k'', hm, he⟩ := lookup_some h
        exact ⟨k'', by simp [hm], he⟩

theorem lookup_none {keq : K → K → Bool} {k : K} :
    ∀ {c : List (K × R)}, lookup keq k c = none → ∀ k' r, (k', r) ∈ c → keq k' k = false
  | (k1, r1) :: rest, h, k', r, hm => by
      simp only [lookup] at h
      split at h
      · cases h
      · next hk =>
        rcases List.mem_cons.1 hm with e | hm
        · cases e; simpa using hk
        · exact lookup_none h k' r hm

/-- The set of keys a statement is made for: closed under the dispatch requests of the handlers,
handlers cannot tell equal keys apart, and hashing never raises. -/
structure Admissible (S : Spec K X R) (U : K → Prop) : Prop where
  closed : ∀ k, U k → CallsOK U (S.h k)
  resp : ∀ k k', U k → U k' → S.keq k k' = true →
    ∀ n a, plain S n k = some a → ∃ m, plain S m k' = some a
  hashable : ∀ k, U k → S.unhashable k = none

/-- Cache invariant: every stored result is the plain answer for its key. -/
def Inv (S : Spec K X R) (U : K → Prop) (s : St K R) : Prop :=
  ∀ k r, (k, r) ∈ s.cache → U k ∧ ∃ n, plain S n k = some (.ok r)

theorem inv_empty (S : Spec K X R) (U : K → Prop) : Inv S U {} := by
  intro k r h; simp at h

/-- the caching dispatcher returns exactly the plain answer (value or error) from every state
whose cache holds plain answers, and keeps the cache that way -/
theorem callC_refines {S : Spec K X R} {U : K → Prop} (hA : Admissible S U) :
    ∀ (n : Nat) (k : K) (s : St K R) (a : Ans X R), U k → Inv S U s → plain S n k = some a →
      ∃ s', callC S n k s = some (a, s') ∧ Inv S U s'
  | n+1, k, s, a, hk, hs, h => by
      have key : ∀ (p : Prog K X R), CallsOK U p → ∀ (s : St K R) (a : Ans X R), Inv S U s →
          interp (plain S n) p = some a →
          ∃ s', interpC (callC S n) p s = some (a, s') ∧ Inv S U s' := by
        intro p hp
        induction hp with
        | ret r | fail x =>
          intro s a hs hp
          cases hp
          exact ⟨s, rfl, hs⟩
        | call k' cont hk' _ ih =>
          intro s a hs hp
          simp only [interp] at hp
          split at hp
          · cases hp
          · next e he =>
            cases hp
            obtain ⟨s1, h1, i1⟩ := callC_refines hA n k' s _ hk' hs he
            exact ⟨s1, by simp only [interpC, h1], i1⟩
          · next r he =>
            obtain ⟨s1, h1, i1⟩ := callC_refines hA n k' s _ hk' hs he
            obtain ⟨s2, h2, i2⟩ := ih r s1 a i1 hp
            exact ⟨s2, by simp only [interpC, h1, h2], i2⟩
      simp only [plain] at h
      simp only [callC]
      by_cases hc : S.cacheable k = true
      · simp only [hc, if_true, hA.hashable k hk]
        cases hl : lookup S.keq k s.cache with
        | some r =>
          obtain ⟨k', hm, he⟩ := lookup_some hl
          obtain ⟨hUk', m, hm'⟩ := hs k' r hm
          obtain ⟨m2, hm2⟩ := hA.resp k' k hUk' hk he m _ hm'
          cases plain_det S (n := n+1) (by simpa [plain] using h) hm2
          exact ⟨_, rfl, hs⟩
        | none =>
          obtain ⟨s1, h1, i1⟩ :=
            key (S.h k) (hA.closed k hk) { s with trace := (false, k) :: s.trace } a hs h
          simp only [h1]
          cases a with
          | error e => exact ⟨s1, rfl, i1⟩
          | ok r =>
            refine ⟨_, rfl, fun k2 r2 hm => ?_⟩
            rcases List.mem_cons.1 hm with e | hm
            · cases e; exact ⟨hk, n+1, by simpa [plain] using h⟩
            · exact i1 k2 r2 hm
      · simp only [hc, Bool.false_eq_true, if_false]
        exact key (S.h k) (hA.closed k hk) s a hs h

/-- histories -/
theorem runHistC_refines {S : Spec K X R} {U : K → Prop} (hA : Admissible S U) (n : Nat) :
    ∀ (ks : List K) (s : St K R), (∀ k ∈ ks, U k) → Inv S U s →
      (∀ k ∈ ks, ∃ a, plain S n k = some a) →
      (runHistC S n ks s).1 = ks.map (plain S n) ∧ Inv S U (runHistC S n ks s).2
  | [], s, _, hs, _ => ⟨rfl, hs⟩
  | k :: ks, s, hU, hs, hp => by
      obtain ⟨hUk, hUks⟩ := List.forall_mem_cons.1 hU
      obtain ⟨⟨a, ha⟩, hps⟩ := List.forall_mem_cons.1 hp
      obtain ⟨s1, h1, i1⟩ := callC_refines hA n k s a hUk hs ha
      obtain ⟨e1, e2⟩ := runHistC_refines hA n ks s1 hUks i1 hps
      simp only [runHistC, h1, List.map_cons, ha]
      exact ⟨by rw [e1], e2⟩

/-! ### at most one computation per key -/

/-- what `at_most_once` needs beyond admissibility: key equality is symmetric and transitive on
the universe, and the handlers only ask for keys that are smaller in a measure that key equality
preserves (for the stock mappers: the size of the expression) -/
structure Ordered (S : Spec K X R) (U : K → Prop) (μ : K → Nat) : Prop where
  closed : ∀ k, U k → CallsOK U (S.h k)
  symm : ∀ a b, U a → U b → S.keq a b = true → S.keq b a = true
  trans : ∀ a b c, U a → U b → U c → S.keq a b = true → S.keq b c = true → S.keq a c = true
  meas : ∀ a b, U a → U b → S.keq a b = true → μ a = μ b
  below : ∀ k, U k → CallsOK (fun k' => μ k' < μ k) (S.h k)

/-- the log lists the keys of the cache, all in the universe, pairwise different as keys -/
def LogInv (S : Spec K X R) (U : K → Prop) (s : St K R) : Prop :=
  s.log = s.cache.map (·.1) ∧ (∀ k ∈ s.log, U k) ∧
    s.log.Pairwise (fun a b => S.keq b a = false)

theorem logInv_empty (S : Spec K X R) (U : K → Prop) : LogInv S U {} := by
  refine ⟨rfl, ?_, List.Pairwise.nil⟩
  intro k h; simp at h

/-- One call keeps the log invariant and adds to the log only keys of measure at most `μ k`: the
requests of the handler lie strictly below `k`, so the key stored last differs from everything
computed beneath it (equal keys have equal measure), and from the older entries because the look-up
missed them. -/
theorem callC_log {S : Spec K X R} {U : K → Prop} {μ : K → Nat} (hO : Ordered S U μ) :
    ∀ (n : Nat) (k : K) (s s' : St K R) (a : Ans X R), U k → LogInv S U s →
      callC S n k s = some (a, s') →
      LogInv S U s' ∧ ∀ k' ∈ s'.log, k' ∈ s.log ∨ μ k' ≤ μ k
  | n+1, k, s, s', a, hk, hs, h => by
      -- a handler body whose requests lie below `N` adds only keys below `N` to the log
      have key : ∀ (N : Nat) (p : Prog K X R), CallsOK (fun k' => U k' ∧ μ k' < N) p →
          ∀ (s s' : St K R) (a : Ans X R), LogInv S U s →
          interpC (callC S n) p s = some (a, s') →
          LogInv S U s' ∧ ∀ k' ∈ s'.log, k' ∈ s.log ∨ μ k' < N := by
        intro N p hp
        induction hp with
        | ret r | fail x =>
          intro s s' a hs hp
          cases hp
          exact ⟨hs, fun k' hk' => .inl hk'⟩
        | call k' cont hk' _ ih =>
          intro s s' a hs hp
          simp only [interpC] at hp
          split at hp
          · cases hp
          · next e s1 hc =>
            cases hp
            obtain ⟨i1, b1⟩ := callC_log hO n k' s _ _ hk'.1 hs hc
            exact ⟨i1, fun k2 hk2 => (b1 k2 hk2).imp_right fun h => Nat.lt_of_le_of_lt h hk'.2⟩
          · next r s1 hc =>
            obtain ⟨i1, b1⟩ := callC_log hO n k' s _ _ hk'.1 hs hc
            obtain ⟨i2, b2⟩ := ih r s1 s' a i1 hp
            refine ⟨i2, fun k2 hk2 => (b2 k2 hk2).elim (fun h => ?_) .inr⟩
            exact (b1 k2 h).imp_right fun h' => Nat.lt_of_le_of_lt h' hk'.2
      have below := key (μ k) (S.h k) (CallsOK.and (hO.closed k hk) (hO.below k hk))
      simp only [callC] at h
      split at h
      · split at h
        · cases h
          exact ⟨hs, fun k' hk' => .inl hk'⟩
        · split at h
          · cases h
            exact ⟨hs, fun k' hk' => .inl hk'⟩
          · next hl =>
            split at h
            · cases h
            · next e s1 hi =>
              cases h
              obtain ⟨i1, b1⟩ := below { s with trace := (false, k) :: s.trace } _ _ hs hi
              exact ⟨i1, fun k' hk' => (b1 k' hk').imp_right Nat.le_of_lt⟩
            · next r s1 hi =>
              cases h
              obtain ⟨⟨e1, u1, p1⟩, b1⟩ := below { s with trace := (false, k) :: s.trace } _ _ hs hi
              refine ⟨⟨by simp [e1], ?_, List.Pairwise.cons (fun b hb => ?_) p1⟩, ?_⟩
              · intro k' hk'
                rcases List.mem_cons.1 hk' with rfl | hk'
                · exact hk
                · exact u1 k' hk'
              · rcases b1 b hb with hb' | hb'
                · -- an old key: the lookup missed it
                  have : b ∈ s.cache.map (·.1) := hs.1 ▸ hb'
                  obtain ⟨⟨b', r'⟩, hm, rfl⟩ := List.mem_map.1 this
                  exact lookup_none hl b' r' hm
                · -- a key computed below `k`: smaller measure
                  cases hq : S.keq b k with
                  | false => rfl
                  | true => have := hO.meas b k (u1 b hb) hk hq; omega
              · intro k' hk'
                rcases List.mem_cons.1 hk' with rfl | hk'
                · exact .inr (Nat.le_refl _)
                · exact (b1 k' hk').imp_right Nat.le_of_lt
      · obtain ⟨i1, b1⟩ := below s s' a hs h
        exact ⟨i1, fun k' hk' => (b1 k' hk').imp_right Nat.le_of_lt⟩

theorem runHistC_log {S : Spec K X R} {U : K → Prop} {μ : K → Nat} (hO : Ordered S U μ)
    (n : Nat) : ∀ (ks : List K) (s : St K R), (∀ k ∈ ks, U k) → LogInv S U s →
      LogInv S U (runHistC S n ks s).2
  | [], s, _, hs => hs
  | k :: ks, s, hU, hs => by
      have hU' : ∀ k' ∈ ks, U k' := fun k' hk' => hU k' (List.mem_cons_of_mem _ hk')
      simp only [runHistC]
      split
      · exact runHistC_log hO n ks s hU' hs
      · next a s1 hc =>
        exact runHistC_log hO n ks s1 hU' (callC_log hO n k s s1 a (hU k (by simp)) hs hc).1

theorem count_le_one {S : Spec K X R} {U : K → Prop} {μ : K → Nat} (hO : Ordered S U μ)
    (k : K) (hk : U k) : ∀ (l : List K), (∀ x ∈ l, U x) →
      l.Pairwise (fun a b => S.keq b a = false) → countKey S.keq k l ≤ 1
  | [], _, _ => Nat.zero_le 1
  | x :: l, hU, hp => by
      obtain ⟨hUx, hUl⟩ := List.forall_mem_cons.1 hU
      obtain ⟨hx', hp'⟩ := List.pairwise_cons.1 hp
      have ih := count_le_one hO k hk l hUl hp'
      simp only [countKey, List.filter_cons] at ih ⊢
      split
      · next hx =>
        -- nothing else in the log equals `k`
        have : l.filter (fun k' => S.keq k' k) = [] := by
          rw [List.filter_eq_nil_iff]
          intro y hy hyk
          have := hO.trans y k x (hUl y hy) hk hUx hyk (hO.symm x k hUx hk hx)
          rw [hx' y hy] at this
          exact Bool.false_ne_true this
        simp [this]
      · exact ih
/-! ### totality: enough fuel for families that descend in a measure -/

theorem interp_total {rec : K → Option (Ans X R)} {p : Prog K X R}
    (h : CallsOK (fun k => ∃ a, rec k = some a) p) : ∃ a, interp rec p = some a := by
  induction h with
  | ret r => exact ⟨_, rfl⟩
  | fail x => exact ⟨_, rfl⟩
  | call k cont hk _ ih =>
    obtain ⟨a, ha⟩ := hk
    cases a with
    | error e => exact ⟨.error e, by simp [interp, ha]⟩
    | ok r => simpa [interp, ha] using ih r

theorem plain_total {S : Spec K X R} {U : K → Prop} {μ : K → Nat}
    (hc : ∀ k, U k → CallsOK (fun k' => U k' ∧ μ k' < μ k) (S.h k)) :
    ∀ (n : Nat) (k : K), U k → μ k < n → ∃ a, plain S n k = some a
  | 0, _, _, h => by omega
  | n+1, k, hk, h => by
      simp only [plain]
      exact interp_total ((hc k hk).mono fun k' hk' => plain_total hc n k' hk'.1 (by omega))

end PV.Memo
