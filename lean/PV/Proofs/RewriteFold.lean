import PV.Proofs.RewriteNF
import PV.Properties.C02
import PV.Proofs.PyEqEquiv
/-
  C11, part 3: the constant folders.  `fold` partitions the (re-)mapped operands into constants —
  no dependencies and the evaluator returns a value — and the rest; the constants are reduced
  with Python integer arithmetic.  Tie to the value semantics: on the fragment of `evalK` the
  standard meaning `den [] e` of a closed expression, when it is an `int`, is the value `evalK`.
-/
namespace PV

universe u
variable {K : Type u} [Field K] [DecidableEq K]

section
variable (ρ : String → K)

/-! ### the fragment of `evalK` is inside the "simple" universe of C02 -/

theorem simpleL_of_forall : ∀ {cs : List Expr}, (∀ c ∈ cs, c.simple = true) → Expr.simpleL cs = true
  | [], _ => rfl
  | c :: cs, h => by
      simp only [Expr.simpleL, Bool.and_eq_true]
      exact ⟨h c (by simp), simpleL_of_forall fun d hd => h d (by simp [hd])⟩

theorem evalKL_mem {p : Bool} : ∀ {cs : List Expr} {v : K}, evalKL ρ p cs = some v →
    ∀ c ∈ cs, ∃ a, evalK ρ c = some a
  | [], _, _, c, hc => by simp at hc
  | d :: ds, v, h, c, hc => by
      obtain ⟨a, b, ha, hb, _⟩ := evalKL_cons ρ h
      simp only [List.mem_cons] at hc
      rcases hc with rfl | hc
      · exact ⟨a, ha⟩
      · exact evalKL_mem hb c hc

theorem evalK_simple : ∀ (e : Expr) (k : K), evalK ρ e = some k → e.simple = true := by
  intro e
  induction e using Expr.induct with
  | h e ih =>
    intro k hk
    cases e with
    | const c => obtain ⟨n, rfl, _⟩ := evalK_const ρ hk; rfl
    | var x => rfl
    | nary o cs =>
      simp only [Expr.simple]
      apply simpleL_of_forall
      intro c hc
      cases o <;> simp only [evalK] at hk <;> try contradiction
      all_goals
        obtain ⟨a, ha⟩ := evalKL_mem ρ hk c hc
        exact ih c (by simp [Expr.children, hc]) a ha
    | bin o a b =>
      cases o <;> simp only [evalK] at hk <;> try contradiction
      · obtain ⟨x, y, hx, hy, _, _⟩ := divK_some hk
        simp only [Expr.simple, Bool.and_eq_true]
        exact ⟨ih a (by simp [Expr.children]) x hx, ih b (by simp [Expr.children]) y hy⟩
      · obtain ⟨x, n, hx, hn, _, _⟩ := powK_some hk
        have := expInt?_some hn; subst this
        simp only [Expr.simple, Bool.and_eq_true]
        exact ⟨ih a (by simp [Expr.children]) x hx, rfl⟩
    | cse c p s =>
      simp only [evalK] at hk
      simp only [Expr.simple]
      exact ih c (by simp [Expr.children]) k hk
    | _ => simp [evalK] at hk

/-! ### Python integer arithmetic on `Value`s -/

theorem Value.add_int (a b : Int) : Value.add (.int a) (.int b) = .ok (.int (a + b)) := rfl
theorem Value.mul_int (a b : Int) : Value.mul (.int a) (.int b) = .ok (.int (a * b)) := rfl
theorem Value.add_inexact (a : Int) : Value.add (.int a) .inexact = .error .noClaim := rfl
theorem Value.mul_inexact (a : Int) : Value.mul (.int a) .inexact = .error .noClaim := rfl
theorem Value.div_inexact_left (w : Value) : Value.div .inexact w = .error .noClaim := rfl
theorem Value.div_inexact_right (a : Int) : Value.div (.int a) .inexact = .error .noClaim := rfl
theorem Value.pow_inexact_left (w : Value) : Value.pow .inexact w = .error .noClaim := rfl

theorem Value.div_int (a b : Int) (w : Value) (h : Value.div (.int a) (.int b) = .ok w) :
    w = .inexact := by
  simp only [Value.div, arith, Value.isInexact, Value.isSeq, Value.num?, divN, Bool.or_self,
    Bool.false_eq_true, if_false] at h
  split at h
  · cases h
  · simp only [pure, Except.pure] at h; injection h with h; exact h.symm

theorem Value.pow_int (a b : Int) (w : Value) (h : Value.pow (.int a) (.int b) = .ok w) :
    (0 ≤ b ∧ w = .int (a ^ b.toNat)) ∨ (b < 0 ∧ a ≠ 0 ∧ w = .inexact) := by
  simp only [Value.pow, arith, Value.isInexact, Value.isSeq, Value.num?, powN, Bool.or_self,
    Bool.false_eq_true, if_false] at h
  split at h
  · cases h
  · split at h
    · simp only [pure, Except.pure] at h; injection h with h
      exact .inl ⟨by omega, h.symm⟩
    · split at h
      · cases h
      · simp only [pure, Except.pure] at h; injection h with h
        exact .inr ⟨by omega, ‹_›, h.symm⟩

/-! ### the standard meaning of a closed expression agrees with `evalK` -/

def naryOf (p : Bool) : NaryOp := if p then .prod else .sum

theorem apply_naryOf_int (p : Bool) (a b : Int) :
    (naryOf p).apply (.int a) (.int b) = .ok (.int (if p then a * b else a + b)) := by
  cases p <;> rfl

theorem apply_naryOf_inexact (p : Bool) (a : Int) :
    (naryOf p).apply (.int a) .inexact = .error .noClaim := by
  cases p <;> rfl

mutual
/-- on the fragment the standard meaning is the integer `evalK` gives, or `.inexact` (true division
and negative powers leave the integers; `classify` then makes no claim) -/
theorem den_evalK : ∀ (e : Expr) (w : Value) (k : K), den [] e = .ok w → evalK ρ e = some k →
    (∃ n : Int, w = .int n ∧ k = (n : K)) ∨ w = .inexact
  | .const c, w, k, hd, hk => by
      obtain ⟨n, rfl, rfl⟩ := evalK_const ρ hk
      simp only [den, Const.den, pure, Except.pure] at hd
      injection hd with hd; subst hd
      exact .inl ⟨n, rfl, rfl⟩
  | .var x, w, k, hd, hk => by
      simp only [den, Env.get] at hd
      cases hd
  | .nary .sum cs, w, k, hd, hk => by
      simp only [den] at hd; rw [evalK_sum] at hk
      obtain ⟨n, hn, hk⟩ := denFold_evalK false cs 0 w k hd hk
      simp only [opK_false, Int.cast_zero, zero_add] at hk
      exact .inl ⟨n, hn, hk⟩
  | .nary .prod cs, w, k, hd, hk => by
      simp only [den] at hd; rw [evalK_prod] at hk
      obtain ⟨n, hn, hk⟩ := denFold_evalK true cs 1 w k hd hk
      simp only [opK_true, Int.cast_one, one_mul] at hk
      exact .inl ⟨n, hn, hk⟩
  | .bin .quot a b, w, k, hd, hk => by
      simp only [evalK] at hk
      obtain ⟨x, y, hx, hy, _, _⟩ := divK_some hk
      simp only [den] at hd
      obtain ⟨wa, ha, hd⟩ := bind_ok hd
      obtain ⟨wb, hb, hd⟩ := bind_ok hd
      right
      rcases den_evalK a wa x ha hx with ⟨n, rfl, _⟩ | rfl
      · rcases den_evalK b wb y hb hy with ⟨m, rfl, _⟩ | rfl
        · exact Value.div_int _ _ _ hd
        · rw [show BinOp.quot.apply = Value.div from rfl, Value.div_inexact_right] at hd; cases hd
      · rw [show BinOp.quot.apply = Value.div from rfl, Value.div_inexact_left] at hd; cases hd
  | .bin .pow a b, w, k, hd, hk => by
      simp only [evalK] at hk
      obtain ⟨x, n, hx, hn, hdef, rfl⟩ := powK_some hk
      have := expInt?_some hn; subst this
      simp only [den] at hd
      obtain ⟨wa, ha, hd⟩ := bind_ok hd
      obtain ⟨wb, hb, hd⟩ := bind_ok hd
      simp only [Const.den, pure, Except.pure] at hb
      injection hb with hb; subst hb
      rcases den_evalK a wa x ha hx with ⟨m, rfl, rfl⟩ | rfl
      · rcases Value.pow_int m n w hd with ⟨h0, rfl⟩ | ⟨_, _, rfl⟩
        · left
          refine ⟨m ^ n.toNat, rfl, ?_⟩
          have : n = (n.toNat : Int) := (Int.toNat_of_nonneg h0).symm
          rw [Int.cast_pow]
          conv_lhs => rw [this]
          exact zpow_natCast _ _
        · exact .inr rfl
      · rw [show BinOp.pow.apply = Value.pow from rfl, Value.pow_inexact_left] at hd; cases hd
  | .cse c _ _, w, k, hd, hk => by
      simp only [den] at hd; simp only [evalK] at hk
      exact den_evalK c w k hd hk
  | .nary .bor _, _, _, _, hk | .nary .bxor _, _, _, _, hk | .nary .band _, _, _, _, hk
  | .nary .lor _, _, _, _, hk | .nary .land _, _, _, _, hk | .nary .min _, _, _, _, hk
  | .nary .max _, _, _, _, hk => by simp [evalK] at hk
  | .bin .floordiv _ _, _, _, _, hk | .bin .rem _ _, _, _, _, hk | .bin .lshift _ _, _, _, _, hk
  | .bin .rshift _ _, _, _, _, hk => by simp [evalK] at hk
  | .un .., _, _, _, hk | .cmp .., _, _, _, hk | .ite .., _, _, _, hk
  | .call .., _, _, _, hk | .callKw .., _, _, _, hk | .subscript .., _, _, _, hk
  | .lookup .., _, _, _, hk | .subst .., _, _, _, hk | .deriv .., _, _, _, hk
  | .slice .., _, _, _, hk | .nan, _, _, _, hk | .wildcard, _, _, _, hk | .dotWild .., _, _, _, hk
  | .starWild .., _, _, _, hk | .funcSym, _, _, _, hk | .tuple .., _, _, _, hk
  | .list .., _, _, _, hk => by simp [evalK] at hk
theorem denFold_evalK (p : Bool) : ∀ (cs : List Expr) (a : Int) (w : Value) (k : K),
    denFold [] (naryOf p) (.int a) cs = .ok w → evalKL ρ p cs = some k →
    ∃ n : Int, w = .int n ∧ opK p (a : K) k = (n : K)
  | [], a, w, k, hd, hk => by
      simp only [denFold, pure, Except.pure] at hd
      injection hd with hd; subst hd
      simp only [evalKL, Option.some.injEq] at hk; subst hk
      exact ⟨a, rfl, opK_unit_right p _⟩
  | c :: cs, a, w, k, hd, hk => by
      obtain ⟨x, y, hx, hy, rfl⟩ := evalKL_cons ρ hk
      simp only [denFold] at hd
      obtain ⟨wc, hc, hd⟩ := bind_ok hd
      obtain ⟨acc', hacc, hd⟩ := bind_ok hd
      rcases den_evalK c wc x hc hx with ⟨m, rfl, rfl⟩ | rfl
      · rw [apply_naryOf_int] at hacc
        injection hacc with hacc; subst hacc
        obtain ⟨n, hn, hk⟩ := denFold_evalK p cs _ w y hd hy
        refine ⟨n, hn, ?_⟩
        rw [← hk, ← opK_assoc]
        cases p <;> simp
      · rw [apply_naryOf_inexact] at hacc; cases hacc
end


/-! ### `classify`: a constant operand has the value its evaluation returns -/

theorem classify_constant {child : Expr} {w : Value} {k : K}
    (h : classify child = .ok (.constant w)) (hk : evalK ρ child = some k) :
    ∃ n : Int, w = .int n ∧ k = (n : K) := by
  unfold classify at h
  obtain ⟨d, _, h⟩ := bind_ok h
  split at h
  · simp only [pure, Except.pure] at h; cases h
  · rw [C02.evalG_eq_den_simple true child (evalK_simple ρ child k hk)] at h
    cases hd : den [] child with
    | error err =>
      rw [hd] at h
      cases err <;> simp only [pure, Except.pure, throw, throwThe, MonadExceptOf.throw] at h <;>
        cases h
    | ok w' =>
      rw [hd] at h
      rcases den_evalK ρ child w' k hd hk with ⟨n, rfl, rfl⟩ | rfl
      · simp only [pure, Except.pure] at h
        injection h with h; injection h with h; subst h
        exact ⟨n, rfl, rfl⟩
      · simp only [throw, throwThe, MonadExceptOf.throw] at h; cases h

/-! ### the loop of `fold` -/

/-- value of the list of evaluated constants (all of them are `int`s on the fragment) -/
def valsK (p : Bool) : List Value → Option K
  | [] => some (unitK p)
  | .int n :: vs => (valsK p vs).map (opK p (n : K))
  | _ :: _ => none

omit [DecidableEq K] in
theorem valsK_snoc (p : Bool) (n : Int) : ∀ (vs : List Value) (c : K), valsK p vs = some c →
    valsK (K := K) p (vs ++ [.int n]) = some (opK p c (n : K))
  | [], c, h => by
      simp only [valsK, Option.some.injEq] at h; subst h
      simp [valsK, opK_unit_left, opK_unit_right]
  | v :: vs, c, h => by
      cases v <;> simp only [valsK] at h <;> try contradiction
      rename_i m
      cases hv : valsK (K := K) p vs with
      | none => rw [hv] at h; simp at h
      | some c' =>
        rw [hv] at h; simp only [Option.map_some, Option.some.injEq] at h; subst h
        simp only [List.cons_append, valsK, valsK_snoc p n vs c' hv, Option.map_some, opK_assoc]

/-- the loop of `fold` preserves value(queue) ∘ value(constants) ∘ value(nonconstants), `∘` being the
operation of the folded class -/
theorem foldLoop_value {rec : Expr → RwR}
    (hrec : ∀ c c' v, rec c = .ok c' → evalK ρ c = some v → evalK ρ c' = some v) (p : Bool) :
    ∀ (fuel : Nat) (queue : List Expr) (consts : List Value) (non : List Expr)
      (cs' : List Value) (ns' : List Expr) (q c n : K),
      foldLoop rec p fuel queue consts non = .ok (cs', ns') →
      evalKL ρ p queue = some q → valsK p consts = some c → evalKL ρ p non = some n →
      ∃ c' n', valsK p cs' = some c' ∧ evalKL ρ p ns' = some n' ∧
        opK p c' n' = opK p q (opK p c n)
  | 0, _, _, _, _, _, _, _, _, h, _, _, _ => by
      simp [foldLoop, throw, throwThe, MonadExceptOf.throw] at h
  | fuel + 1, [], consts, non, cs', ns', q, c, n, h, hq, hc, hn => by
      simp only [foldLoop, pure, Except.pure] at h
      injection h with h; injection h with h1 h2; subst h1; subst h2
      simp only [evalKL, Option.some.injEq] at hq; subst hq
      exact ⟨c, n, hc, hn, (opK_unit_left p _).symm⟩
  | fuel + 1, item :: queue, consts, non, cs', ns', q, c, n, h, hq, hc, hn => by
      obtain ⟨x, q', hx, hq', rfl⟩ := evalKL_cons ρ hq
      simp only [foldLoop] at h
      obtain ⟨child, hch, h⟩ := bind_ok h
      have hx' := hrec _ _ _ hch hx
      split at h
      · -- a Sum result: its operands are re-queued
        rw [evalK_sum] at hx'
        obtain ⟨c', n', h1, h2, h3⟩ := foldLoop_value hrec false fuel _ consts non cs' ns' _ c n h
          (evalKL_append_mk ρ hx' hq') hc hn
        exact ⟨c', n', h1, h2, h3⟩
      · rw [evalK_prod] at hx'
        obtain ⟨c', n', h1, h2, h3⟩ := foldLoop_value hrec true fuel _ consts non cs' ns' _ c n h
          (evalKL_append_mk ρ hx' hq') hc hn
        exact ⟨c', n', h1, h2, h3⟩
      · obtain ⟨cl, hcl, h⟩ := bind_ok h
        cases cl with
        | constant w =>
          obtain ⟨m, rfl, rfl⟩ := classify_constant ρ hcl hx'
          obtain ⟨c', n', h1, h2, h3⟩ := foldLoop_value hrec p fuel queue _ non cs' ns' q' _ n h
            hq' (valsK_snoc p m consts c hc) hn
          refine ⟨c', n', h1, h2, ?_⟩
          rw [h3]
          cases p <;> simp only [opK_false, opK_true] <;> ring
        | nonconstant =>
          obtain ⟨c', n', h1, h2, h3⟩ := foldLoop_value hrec p fuel queue consts _ cs' ns' q' c _ h
            hq' hc (evalKL_append_mk ρ hn (evalKL_singleton ρ hx'))
          refine ⟨c', n', h1, h2, ?_⟩
          rw [h3]
          cases p <;> simp only [opK_false, opK_true] <;> ring

omit [DecidableEq K] in
theorem reduceConsts_value (p : Bool) : ∀ (vs : List Value) (a : Int) (v : Value) (c : K),
    reduceConsts p (.int a) vs = .ok v → valsK p vs = some c →
    ∃ m : Int, v = .int m ∧ (m : K) = opK p (a : K) c
  | [], a, v, c, h, hc => by
      simp only [reduceConsts, pure, Except.pure] at h
      injection h with h; subst h
      simp only [valsK, Option.some.injEq] at hc; subst hc
      exact ⟨a, rfl, (opK_unit_right p _).symm⟩
  | w :: vs, a, v, c, h, hc => by
      cases w <;> simp only [valsK] at hc <;> try contradiction
      rename_i b
      cases hv : valsK (K := K) p vs with
      | none => rw [hv] at hc; simp at hc
      | some c' =>
        rw [hv] at hc; simp only [Option.map_some, Option.some.injEq] at hc; subst hc
        simp only [reduceConsts] at h
        obtain ⟨acc', hacc, h⟩ := bind_ok h
        have : acc' = .int (if p then a * b else a + b) := by
          cases p
          · simp only [Bool.false_eq_true, if_false] at hacc ⊢
            rw [Value.add_int] at hacc; injection hacc with hacc; exact hacc.symm
          · simp only [if_true] at hacc ⊢
            rw [Value.mul_int] at hacc; injection hacc with hacc; exact hacc.symm
        subst this
        obtain ⟨m, hm, hm'⟩ := reduceConsts_value p vs _ v c' h hv
        refine ⟨m, hm, ?_⟩
        rw [hm', ← opK_assoc]
        cases p <;> simp

theorem foldFinish_value (p : Bool) {consts : List Value} {non : List Expr} {e : Expr} {c n : K}
    (h : foldFinish p consts non = .ok e) (hc : valsK p consts = some c)
    (hn : evalKL ρ p non = some n) : evalK ρ e = some (opK p c n) := by
  have build : ∀ (items : List Expr) (e : Expr) (v : K),
      (if p then flatProd items else pure (flattenedSum items)) = Except.ok e →
      evalKL ρ p items = some v → evalK ρ e = some v := by
    intro items e v hb hv
    cases p
    · simp only [Bool.false_eq_true, if_false, pure, Except.pure] at hb
      injection hb with hb; subst hb; exact flattenedSum_value ρ hv
    · simp only [if_true] at hb; exact flatProd_value ρ hb hv
  unfold foldFinish at h
  cases consts with
  | nil =>
    simp only [valsK, Option.some.injEq] at hc; subst hc
    rw [opK_unit_left]
    exact build _ _ _ h hn
  | cons w ws =>
    cases w <;> simp only [valsK] at hc <;> try contradiction
    rename_i a
    cases hv : valsK (K := K) p ws with
    | none => rw [hv] at hc; simp at hc
    | some c' =>
      rw [hv] at hc; simp only [Option.map_some, Option.some.injEq] at hc; subst hc
      simp only at h
      cases hr : reduceConsts p (.int a) ws with
      | error err => rw [hr] at h; simp only [throw, throwThe, MonadExceptOf.throw] at h; cases h
      | ok v =>
        rw [hr] at h
        obtain ⟨m, rfl, hm⟩ := reduceConsts_value p ws a v c' hr hv
        simp only [Value.toExpr?] at h
        rw [← hm]
        exact build _ _ _ h (evalKL_cons_mk ρ (by simp only [evalK]) hn)

/-! ### the folders -/

theorem foldM_const (comm : Bool) : ∀ (fuel : Nat) (c : Const) (r : Expr),
    foldM comm fuel (.const c) = .ok r → r = .const c
  | 0, _, _, h => by simp [foldM, throw, throwThe, MonadExceptOf.throw] at h
  | fuel + 1, c, r, h => by
      cases c <;> simp only [foldM, idMap, pure, Except.pure, throw, throwThe,
        MonadExceptOf.throw] at h <;> first | contradiction | (injection h with h; exact h.symm)

/-- **Constant folding preserves the value** (plain folder `comm = false`, commutative folder
`comm = true`): wherever the input has a value, the folded expression has the same value. -/
theorem foldM_value (comm : Bool) : ∀ (fuel : Nat) (e e' : Expr) (v : K),
    foldM comm fuel e = .ok e' → evalK ρ e = some v → evalK ρ e' = some v
  | 0, _, _, _, h, _ => by simp [foldM, throw, throwThe, MonadExceptOf.throw] at h
  | fuel + 1, e, e', v, h, hv => by
      have ih := foldM_value comm fuel
      have hc := foldM_const comm fuel
      cases e with
      | nary o cs =>
        cases o with
        | sum =>
          simp only [foldM] at h
          obtain ⟨⟨consts, non⟩, hl, h⟩ := bind_ok h
          rw [evalK_sum] at hv
          obtain ⟨c', n', h1, h2, h3⟩ := foldLoop_value ρ ih false fuel cs [] [] consts non v 0 0 hl
            hv rfl rfl
          have := foldFinish_value ρ false h h1 h2
          rw [this, h3]; simp
        | prod =>
          simp only [foldM] at h
          split at h
          · obtain ⟨⟨consts, non⟩, hl, h⟩ := bind_ok h
            rw [evalK_prod] at hv
            obtain ⟨c', n', h1, h2, h3⟩ := foldLoop_value ρ ih true fuel cs [] [] consts non v 1 1 hl
              hv rfl rfl
            have := foldFinish_value ρ true h h1 h2
            rw [this, h3]; simp
          · exact idMap_value ρ hc ih h hv
        | _ => simp [evalK] at hv
      | cse c p s =>
        simp only [foldM] at h
        split at h
        · simp only [throw, throwThe, MonadExceptOf.throw] at h; cases h
        · exact idMap_value ρ hc ih h hv
      | _ =>
        simp only [foldM] at h
        exact idMap_value ρ hc ih h hv

end

end PV
