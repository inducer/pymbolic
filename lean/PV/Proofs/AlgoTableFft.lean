import PV.Proofs.AlgoTableArith
import PV.Proofs.AlgoArith
import PV.Model.SymFft
/-!
  C19 (T-gen): `fft` / `ifft` — the Cooley–Tukey recursion `c19FftAux` / `c19FftStep` of
  PV/Model/AlgoFft.lean is what the table interpreter computes on the body regenerated from the
  current source, over every carrier and for every length.  The run is done once, with a wrapper
  `wrap` applied to every block of sub-transforms (`c19FftAuxW` of PV/Model/SymFft.lean, the
  recursion the symbolic FFT instantiates); the default wrapper is the case `wrap = id`.
-/
universe u
namespace PV.Algo
open PV.Generated
variable {α : Type}

/-! ## vectors of carrier elements -/

def c19EncVec (x : List α) : C19V α := .vec (x.map .elem)

theorem c19ZipM_elem (ops : C19Ops α) (a b : List α) :
    c19ZipM (c19Scalar ops .mul) (a.map C19V.elem) (b.map C19V.elem)
      = .ok ((List.zipWith ops.mul a b).map C19V.elem) := by
  induction a generalizing b with
  | nil => simp [c19ZipM]
  | cons x xs ih =>
    cases b with
    | nil => simp [c19ZipM]
    | cons y ys => simp [c19ZipM, ih]

theorem c19ZipM_elem_add (ops : C19Ops α) (a b : List α) :
    c19ZipM (c19Scalar ops .add) (a.map C19V.elem) (b.map C19V.elem)
      = .ok ((List.zipWith ops.add a b).map C19V.elem) := by
  induction a generalizing b with
  | nil => simp [c19ZipM]
  | cons x xs ih =>
    cases b with
    | nil => simp [c19ZipM]
    | cons y ys => simp [c19ZipM, ih]

theorem c19Arith_vec_mul (ops : C19Ops α) (a b : List α) :
    c19Arith ops .mul (c19EncVec a) (c19EncVec b) = .ok (c19EncVec (c19VecMul ops.mul a b)) := by
  simp [c19Arith, c19EncVec, c19ZipM_elem, c19VecMul]

theorem c19Arith_vec_add (ops : C19Ops α) (a b : List α) :
    c19Arith ops .add (c19EncVec a) (c19EncVec b) = .ok (c19EncVec (c19VecAdd ops.add a b)) := by
  simp [c19Arith, c19EncVec, c19ZipM_elem_add, c19VecAdd]

theorem c19MapM_ok {β : Type} (f : β → C19R (C19V α)) (g : β → C19V α) (l : List β)
    (h : ∀ t ∈ l, f t = .ok (g t)) : c19MapM f l = .ok (l.map g) := by
  induction l with
  | nil => rfl
  | cons t ts ih =>
    simp only [c19MapM, h t (by simp), C19R.bind_ok, List.map_cons]
    rw [ih (fun u hu => h u (by simp [hu]))]
    rfl

theorem c19MapM_map_ok {β : Type} (f : C19V α → C19R (C19V α)) (enc : β → C19V α) (g : β → C19V α)
    (l : List β) (h : ∀ t ∈ l, f (enc t) = .ok (g t)) :
    c19MapM f (l.map enc) = .ok (l.map g) := by
  induction l with
  | nil => rfl
  | cons t ts ih =>
    simp only [List.map_cons, c19MapM, h t (by simp), C19R.bind_ok]
    rw [ih (fun u hu => h u (by simp [hu]))]
    rfl

theorem c19Arith_vec_scale (ops : C19Ops α) (a : List α) (s : α) :
    c19Arith ops .mul (c19EncVec a) (.elem s) = .ok (c19EncVec (c19VecScale ops.mul a s)) := by
  unfold c19Arith c19EncVec
  simp only []
  rw [c19MapM_ok _ (fun v => match v with | .elem e => .elem (ops.mul e s) | w => w) _ (by
    intro t ht
    obtain ⟨e, _, rfl⟩ := List.mem_map.mp ht
    rfl)]
  simp [c19VecScale, List.map_map, Function.comp_def]

theorem c19Arith_zero_add (ops : C19Ops α) (a : List α) :
    c19Arith ops .add (.int 0) (c19EncVec a)
      = .ok (c19EncVec (a.map fun v => ops.add (ops.ofInt 0) v)) := by
  unfold c19Arith c19EncVec
  simp only []
  rw [c19MapM_ok _ (fun v => match v with | .elem e => .elem (ops.add (ops.ofInt 0) e) | w => w) _ (by
    intro t ht
    obtain ⟨e, _, rfl⟩ := List.mem_map.mp ht
    rfl)]
  simp [List.map_map, Function.comp_def]

theorem c19Arith_frac_mul (ops : C19Ops α) (p q : Int) (a : List α) :
    c19Arith ops .mul (.frac p q) (c19EncVec a)
      = .ok (c19EncVec (a.map fun v => ops.mul (ops.ofFrac p q) v)) := by
  unfold c19Arith c19EncVec
  simp only []
  rw [c19MapM_ok _ (fun v => match v with | .elem e => .elem (ops.mul (ops.ofFrac p q) e) | w => w) _ (by
    intro t ht
    obtain ⟨e, _, rfl⟩ := List.mem_map.mp ht
    rfl)]
  simp [List.map_map, Function.comp_def]

/-- `sum(terms)` of vectors IS `c19PySum` (for a non-empty list of terms) -/
theorem c19SumFrom_vecs (ops : C19Ops α) (acc : List α) (ts : List (List α)) :
    c19SumFrom ops (c19EncVec acc) (ts.map c19EncVec)
      = .ok (c19EncVec (ts.foldl (c19VecAdd ops.add) acc)) := by
  induction ts generalizing acc with
  | nil => rfl
  | cons t r ih => simp [c19SumFrom, c19Arith_vec_add, ih]

theorem c19Sum_vecs (ops : C19Ops α) (t : List α) (ts : List (List α)) :
    c19SumFrom ops (.int 0) ((t :: ts).map c19EncVec)
      = .ok (c19EncVec (c19PySum ops.add (ops.ofInt 0) (t :: ts))) := by
  simp only [List.map_cons, c19SumFrom, c19Arith_zero_add, C19R.bind_ok, c19SumFrom_vecs, c19PySum]

theorem c19Concat_vecs (vs : List (List α)) :
    c19Concat (vs.map c19EncVec) = .ok ((vs.flatMap id).map C19V.elem) := by
  induction vs with
  | nil => rfl
  | cons v r ih => simp [c19Concat, c19EncVec, ih]

theorem c19Range_zero (N : Nat) :
    (c19Range 0 (N : Int) : List (C19V α)) = (List.range N).map fun (k : Nat) => .int (k : Int) := by
  simp [c19Range]

theorem c19TwVec_range (ops : C19Ops α) (s m c : Int) (l : List Nat) :
    c19TwVec ops s m c (l.map fun (k : Nat) => (.int (k : Int) : C19V α))
      = .ok (l.map fun (k : Nat) => .elem (ops.tw s m (c * (k : Int)))) := by
  induction l with
  | nil => rfl
  | cons k r ih => simp [c19TwVec, ih]

theorem c19_stride_nil_of_drop {β : Type} (x : List β) (s k : Nat) (h : x.drop s = []) :
    stride x s k = [] := by
  rw [stride]; split <;> simp_all

theorem c19_stride_cons_of_drop {β : Type} (x : List β) (s k : Nat) (a : β) (rest : List β)
    (h : x.drop s = a :: rest) : stride x s k = a :: stride rest (k - 1) k := by
  rw [stride]; split <;> simp_all

theorem c19t_stride_map {β γ : Type} (f : β → γ) (k : Nat) (x : List β) (s : Nat) :
    stride (x.map f) s k = (stride x s k).map f := by
  induction x, s using stride.induct k with
  | case1 x s h =>
    rw [c19_stride_nil_of_drop x s k h, c19_stride_nil_of_drop (x.map f) s k (by simp [← List.map_drop, h])]
    rfl
  | case2 x s a rest h ih =>
    rw [c19_stride_cons_of_drop x s k a rest h,
      c19_stride_cons_of_drop (x.map f) s k (f a) (rest.map f) (by simp [← List.map_drop, h]), ih]
    rfl


/-! ## `fft` -/

def c19FftElt1 : C19E :=
  .call "fft.wrap_intermediate_with_level" [(.var "level"), (.bin .mul (.call "algorithm.fft" [(.slice (.var "x") (.var "n1") (.var "N1")), (.var "sign"), (.var "wrap_intermediate"), .none, (.var "complex_dtype"), (.var "custom_np"), (.bin .add (.var "level") (.int 1))]) (.twiddle (.var "sign") [(.var "n1"), (.call "np.arange" [(.var "N2")])] (.bin .mul (.var "N1") (.var "N2"))))]

def c19FftElt2 : C19E :=
  .bin .mul (.var "subvec") (.call "fft.scalar_tp" [(.twiddle (.var "sign") [(.var "n1"), (.var "k1")] (.var "N1"))])

def c19FftSum : C19E :=
  .call "sum" [(.comp c19FftElt2 (.tuple [(.name "n1"), (.name "subvec")]) (.call "enumerate" [(.var "sub_ffts")]))]

def c19FftComp1 : C19E := .comp c19FftElt1 (.name "n1") (.call "range" [(.var "N1")])
def c19FftComp2 : C19E := .comp c19FftSum (.name "k1") (.call "range" [(.var "N1")])

/-- the body of `fft` (after the parameter-processing block) in the current source -/
theorem c19_fft_body_current :
    c19Fn_algorithm_fft = ⟨"algorithm.fft", .func,
      ["x", "sign", "wrap_intermediate", "wrap_intermediate_with_level", "complex_dtype",
        "custom_np", "level"], [(.int 1), .none, .none, .none, .none, (.int 0)], [
      .assign (.pat (.name "n")) (.call "len" [(.var "x")]),
      .ite (.cmp .eq (.var "n") (.int 1)) [.ret (.var "x")] [],
      .assign (.pat (.tuple [(.name "N1"), (.name "N2")])) (.call "algorithm.find_factors" [(.var "n")]),
      .assign (.pat (.name "sub_ffts")) c19FftComp1,
      .ret (.call "np.concatenate" [c19FftComp2])]⟩ :=
  rfl

theorem c19Call_fft (cx : C19Cx α) (a b c d e f g : C19V α) :
    c19Call cx "algorithm.fft" [a, b, c, d, e, f, g] = cx.calls "algorithm.fft" [a, b, c, d, e, f, g] :=
  rfl
theorem c19Call_find_factors (cx : C19Cx α) (a : C19V α) :
    c19Call cx "algorithm.find_factors" [a] = cx.calls "algorithm.find_factors" [a] := by rfl
theorem c19Call_wrap (cx : C19Cx α) (a b : C19V α) :
    c19Call cx "fft.wrap_intermediate_with_level" [a, b]
      = cx.calls "fft.wrap_intermediate_with_level" [a, b] := by rfl
theorem c19Call_scalar_tp (cx : C19Cx α) (a : C19V α) :
    c19Call cx "fft.scalar_tp" [a] = cx.calls "fft.scalar_tp" [a] := by rfl
theorem c19Call_arange (cx : C19Cx α) (b : Int) :
    c19Call cx "np.arange" [.int b] = .ok (.tup (c19Range 0 b)) := by rfl
theorem c19Call_sum (cx : C19Cx α) (vs : List (C19V α)) :
    c19Call cx "sum" [.tup vs] = c19SumFrom cx.ops (.int 0) vs := by rfl
theorem c19Call_concatenate (cx : C19Cx α) (vs : List (C19V α)) :
    c19Call cx "np.concatenate" [.tup vs] = (c19Concat vs).bind fun ws => .ok (.vec ws) := by rfl

theorem c19_find_fft : c19FindFn c19Table "algorithm.fft" = some c19Fn_algorithm_fft :=
  c19Table_find 5 c19Fn_algorithm_fft (by rfl)

theorem c19_ext_wrap_run (ops : C19Ops α) (ext : String → List (C19V α) → C19R (C19V α)) (n : Nat)
    (vs : List (C19V α)) :
    c19RunFn ops c19Table ext (n + 1) "fft.wrap_intermediate_with_level" vs
      = ext "fft.wrap_intermediate_with_level" vs :=
  c19RunFn_ext ops c19Table ext n _ _ (c19Table_absent _ (by simp [c19Table_names]))
theorem c19_ext_scalar_tp_run (ops : C19Ops α) (ext : String → List (C19V α) → C19R (C19V α))
    (n : Nat) (vs : List (C19V α)) :
    c19RunFn ops c19Table ext (n + 1) "fft.scalar_tp" vs = ext "fft.scalar_tp" vs :=
  c19RunFn_ext ops c19Table ext n _ _ (c19Table_absent _ (by simp [c19Table_names]))

/-- the store of `fft` after `N1, N2 = find_factors(n)` -/
def c19FftStore (x : List α) (sign : Int) (wi wil dt np : C19V α) (level : Int) (N1 N2 : Nat) :
    C19Store α :=
  [("x", c19EncVec x), ("sign", .int sign), ("wrap_intermediate", wi),
   ("wrap_intermediate_with_level", wil), ("complex_dtype", dt), ("custom_np", np),
   ("level", .int level), ("n", .int x.length), ("N1", .int N1), ("N2", .int N2)]

section
variable (ops : C19Ops α) (ext : String → List (C19V α) → C19R (C19V α))
  (hstp : ∀ v, ext "fft.scalar_tp" [v] = .ok v)

/-- the twiddles of the model for one value of `sign` -/
def c19Rp (sign : Int) (m k : Nat) : α := ops.tw sign (m : Int) (k : Int)

include hstp in
/-- one element of the second comprehension of `fft`: the recombination `sum(…)` for one `k1` -/
theorem c19_fft_sum (x : List α) (sign : Int) (wi wil dt np : C19V α) (level : Int)
    (N1 N2 k1 n : Nat) (S : List (List α)) (hS : S ≠ []) :
    c19EvalE (c19CxAt ops c19Table ext (n + 1) (n + 2)) c19FftSum
        (c19Set "k1" (.int k1) (c19FftStore x sign wi wil dt np level N1 N2
          ++ [("sub_ffts", .tup (S.map c19EncVec))]))
      = .ok (c19EncVec (c19PySum ops.add (ops.ofInt 0)
          (S.zipIdx.map fun (p : List α × Nat) =>
            c19VecScale ops.mul p.1 (c19Rp ops sign N1 (p.2 * k1))))) := by
  have henum : (c19Enumerate (S.map c19EncVec) : List (C19V α))
      = S.zipIdx.map fun (p : List α × Nat) => (.tup [.int (p.2 : Int), c19EncVec p.1] : C19V α) := by
    simp [c19Enumerate, List.zipIdx_map, List.map_map, Function.comp_def]
  unfold c19FftSum c19FftStore
  c19_run [henum]
  rw [c19MapM_map_ok _ _ (fun (p : List α × Nat) =>
      c19EncVec (c19VecScale ops.mul p.1 (c19Rp ops sign N1 (p.2 * k1)))) _ (by
    intro p _
    have hcast : (p.2 : Int) * ((k1 : Int) * 1) = ((p.2 * k1 : Nat) : Int) := by simp
    have hsc := c19Arith_vec_scale ops p.1 (ops.tw sign (N1 : Int) ((p.2 * k1 : Nat) : Int))
    unfold c19FftElt2
    c19_run [c19TwNum, hcast, c19Call_scalar_tp, c19_ext_scalar_tp_run, hstp]
    unfold c19EncVec at hsc ⊢
    rw [c19BinOp_vec, c19CxAt_ops, hsc]; rfl)]
  have hne : (S.zipIdx.map fun (p : List α × Nat) =>
      c19VecScale ops.mul p.1 (c19Rp ops sign N1 (p.2 * k1))) ≠ [] := by
    cases S with
    | nil => exact absurd rfl hS
    | cons a r => simp
  obtain ⟨t, ts, hts⟩ := List.exists_cons_of_ne_nil hne
  have hmm : (List.map (fun (p : List α × Nat) =>
        c19EncVec (c19VecScale ops.mul p.1 (c19Rp ops sign N1 (p.2 * k1)))) S.zipIdx)
      = (S.zipIdx.map fun (p : List α × Nat) =>
          c19VecScale ops.mul p.1 (c19Rp ops sign N1 (p.2 * k1))).map c19EncVec := by
    simp [List.map_map, Function.comp_def]
  c19_run [c19Call_sum, hmm]
  rw [hts]
  exact c19Sum_vecs ops t ts


theorem c19FftStore_get_N1 (x : List α) (sign : Int) (wi wil dt np : C19V α) (level : Int)
    (N1 N2 : Nat) :
    c19Get "N1" (c19FftStore x sign wi wil dt np level N1 N2) = some (.int N1) := by
  unfold c19FftStore; c19_run []

theorem c19FftStore_set_sub (x : List α) (sign : Int) (wi wil dt np : C19V α) (level : Int)
    (N1 N2 : Nat) (v : C19V α) :
    c19Set "sub_ffts" v (c19FftStore x sign wi wil dt np level N1 N2)
      = c19FftStore x sign wi wil dt np level N1 N2 ++ [("sub_ffts", v)] := by
  unfold c19FftStore; c19_run []

theorem c19FftStore_get_N1' (x : List α) (sign : Int) (wi wil dt np : C19V α) (level : Int)
    (N1 N2 : Nat) (v : C19V α) :
    c19Get "N1" (c19FftStore x sign wi wil dt np level N1 N2 ++ [("sub_ffts", v)])
      = some (.int N1) := by
  unfold c19FftStore; c19_run []

theorem c19_flatMap_map_id {β γ : Type} (l : List β) (f : β → List γ) :
    (l.map f).flatMap id = l.flatMap f := by
  induction l with
  | nil => rfl
  | cons a r ih => simp [ih]

/-! ### with a wrapper

`wrap_intermediate_with_level(level, v)` applies `wrap` to every block of sub-transforms; the
meaning of the external name is the hypothesis `hwrap`.  The default wrapper is `wrap = id`. -/

section
variable (wrap : List α → List α)
  (hwrap : ∀ (l : C19V α) (v : List α),
    ext "fft.wrap_intermediate_with_level" [l, .vec (v.map C19V.elem)]
      = .ok (.vec ((wrap v).map C19V.elem)))

include hwrap in
/-- one element of the first comprehension of `fft`: the sub-transform times its twiddles -/
theorem c19_fftW_elt1 (x : List α) (sign : Int) (wi wil dt np : C19V α) (level : Int)
    (N1 N2 n1 n : Nat) (hN1 : 1 ≤ N1) (sub : List α → List α)
    (hrec : c19RunFn ops c19Table ext (n + 1) "algorithm.fft"
        [c19EncVec (stride x n1 N1), .int sign, wi, .none, dt, np, .int (level + 1)]
      = .ok (c19EncVec (sub (stride x n1 N1)))) :
    c19EvalE (c19CxAt ops c19Table ext (n + 1) (n + 2)) c19FftElt1
        (c19Set "n1" (.int n1) (c19FftStore x sign wi wil dt np level N1 N2))
      = .ok (c19EncVec (wrap (c19VecMul ops.mul (sub (stride x n1 N1))
          (c19Twiddles (c19Rp ops sign) N1 N2 n1)))) := by
  have hsl : c19Slice ((x.map C19V.elem : List (C19V α))) (.int (n1 : Int)) (.int (N1 : Int))
      = .ok ((stride x n1 N1).map C19V.elem) := by
    have : (0 : Int) ≤ (n1 : Int) ∧ (1 : Int) ≤ (N1 : Int) := by omega
    simp [c19Slice, this, c19t_stride_map]
  have htw : (List.map (fun (k : Nat) => (.elem (ops.tw sign ((N1 : Int) * (N2 : Int))
        ((n1 : Int) * 1 * (k : Int))) : C19V α)) (List.range N2))
      = (c19Twiddles (c19Rp ops sign) N1 N2 n1).map C19V.elem := by
    simp [c19Twiddles, c19Rp, List.map_map, Function.comp_def]
  have hmul := c19Arith_vec_mul ops (sub (stride x n1 N1)) (c19Twiddles (c19Rp ops sign) N1 N2 n1)
  unfold c19FftElt1 c19FftStore
  unfold c19EncVec at hrec hmul ⊢
  c19_run [hsl, c19Call_fft, hrec, c19Call_arange, c19Range_zero, c19TwNum, c19TwVec_range, htw,
    hmul, c19Call_wrap, c19_ext_wrap_run, hwrap]

include hwrap hstp in
/-- **`fft` as regenerated, with a wrapper, IS the recursion `c19FftAuxW` / `c19FftStepW`**, for every length ≥ 1,
every carrier, every fuel of the model that is at least the length: `find_factors` splits, the
sub-transforms of the strided sub-vectors are multiplied elementwise by the twiddles
`tw sign (N1·N2) (n1·k2)`, and output block `k1` is the Python `sum` of the sub-results scaled by
`tw sign N1 (n1·k1)`.  (`wi wil dt np`: the parameters `wrap_intermediate`,
`wrap_intermediate_with_level`, `complex_dtype`, `custom_np` of `fft`, which the recursion only
passes on.  The statement has the shape the induction on the length needs; `c19_fftW_run` is the
form to use.) -/
theorem c19_fftW_run_aux : ∀ (L : Nat) (x : List α), x.length = L → 1 ≤ L → ∀ (fuel : Nat), L ≤ fuel →
    ∀ (sign : Int) (wi wil dt np : C19V α) (level : Int) (n : Nat), 2 * L + 3 ≤ n →
    c19RunFn ops c19Table ext (n + 1) "algorithm.fft"
        [c19EncVec x, .int sign, wi, wil, dt, np, .int level]
      = .ok (c19EncVec (c19FftAuxW ops.add ops.mul (ops.ofInt 0) (c19Rp ops sign) wrap fuel x)) := by
  intro L
  induction L using Nat.strongRecOn with
  | _ L ih =>
    intro x hL hpos fuel hfuel sign wi wil dt np level n hn
    obtain ⟨fuel, rfl⟩ : ∃ f', fuel = f' + 1 := ⟨fuel - 1, by omega⟩
    obtain ⟨n, rfl⟩ : ∃ n', n = n' + 1 := ⟨n - 1, by omega⟩
    have hlen : ((x.map C19V.elem : List (C19V α)).length : Int) = (L : Int) := by simp [hL]
    rw [c19RunFn_succ ops c19Table ext _ _ _ _ _ c19_find_fft (by rw [c19_fft_body_current]; rfl)]
    simp only [c19_fft_body_current]
    by_cases h1 : L = 1
    · subst h1
      have : c19FftAuxW ops.add ops.mul (ops.ofInt 0) (c19Rp ops sign) wrap (fuel + 1) x = x := by
        simp [c19FftAuxW, hL]
      rw [this]
      unfold c19EncVec
      c19_run [hlen]
      rfl
    · have h2 : 2 ≤ L := by omega
      obtain ⟨hN1, hN2, hN2lt⟩ := findFactors_lt L h2
      have hmul := findFactors_mul L
      have hne : ((L : Int) == 1) = false := by simp; omega
      have hff := c19_find_factors_run ops ext L n (by
        have := Nat.sqrt_le_self L; omega)
      have hpy : findFactorsPy L = some (findFactors L) := by
        unfold findFactorsPy
        have : (findFactors L).1 ≠ 0 := by omega
        simp [this]
      rw [hpy] at hff
      simp only [c19EncFactors] at hff
      have haux : c19FftAuxW ops.add ops.mul (ops.ofInt 0) (c19Rp ops sign) wrap (fuel + 1) x
          = c19FftStepW ops.add ops.mul (ops.ofInt 0) (c19Rp ops sign) wrap
              (c19FftAuxW ops.add ops.mul (ops.ofInt 0) (c19Rp ops sign) wrap fuel) x := by
        simp [c19FftAuxW, hL, h1]
      -- the first comprehension
      have hcomp1 : c19EvalE (c19CxAt ops c19Table ext (n + 1) (n + 2))
          c19FftComp1
          (c19FftStore x sign wi wil dt np level (findFactors L).1 (findFactors L).2)
          = .ok (.tup (((List.range (findFactors L).1).map fun n1 =>
              wrap (c19VecMul ops.mul
                (c19FftAuxW ops.add ops.mul (ops.ofInt 0) (c19Rp ops sign) wrap fuel
                  (stride x n1 (findFactors L).1))
                (c19Twiddles (c19Rp ops sign) (findFactors L).1 (findFactors L).2 n1))).map
              c19EncVec)) := by
        unfold c19FftComp1
        c19_run [c19FftStore_get_N1, c19Range_zero]
        rw [c19MapM_map_ok _ _ (fun n1 => c19EncVec (wrap (c19VecMul ops.mul
            (c19FftAuxW ops.add ops.mul (ops.ofInt 0) (c19Rp ops sign) wrap fuel
              (stride x n1 (findFactors L).1))
            (c19Twiddles (c19Rp ops sign) (findFactors L).1 (findFactors L).2 n1)))) _ (by
          intro n1 hn1
          have hn1' : n1 < (findFactors L).1 := List.mem_range.mp hn1
          have hsl := stride_length x (findFactors L).1 (findFactors L).2 n1 (by rw [hL, hmul]) hn1'
          have hrec := ih (findFactors L).2 hN2lt (stride x n1 (findFactors L).1) hsl hN2 fuel
            (by omega) sign wi .none dt np (level + 1) n (by omega)
          exact c19_fftW_elt1 ops ext wrap hwrap x sign wi wil dt np level _ _ n1 n (by omega) _ hrec)]
        simp [List.map_map, Function.comp_def]
      rw [haux]
      unfold c19FftStepW
      simp only [hL]
      generalize hS : ((List.range (findFactors L).1).map fun n1 =>
              wrap (c19VecMul ops.mul
                (c19FftAuxW ops.add ops.mul (ops.ofInt 0) (c19Rp ops sign) wrap fuel
                  (stride x n1 (findFactors L).1))
                (c19Twiddles (c19Rp ops sign) (findFactors L).1 (findFactors L).2 n1))) = S at hcomp1 ⊢
      have hSne : S ≠ [] := by
        rw [← hS]
        have : (findFactors L).1 ≠ 0 := by omega
        simp [this]
      have hcomp2 : c19EvalE (c19CxAt ops c19Table ext (n + 1) (n + 2))
          c19FftComp2
          (c19FftStore x sign wi wil dt np level (findFactors L).1 (findFactors L).2
            ++ [("sub_ffts", .tup (S.map c19EncVec))])
          = .ok (.tup (((List.range (findFactors L).1).map fun k1 =>
              c19PySum ops.add (ops.ofInt 0) (S.zipIdx.map fun (p : List α × Nat) =>
                c19VecScale ops.mul p.1 (c19Rp ops sign (findFactors L).1 (p.2 * k1)))).map
              c19EncVec)) := by
        unfold c19FftComp2
        c19_run [c19FftStore_get_N1', c19Range_zero]
        rw [c19MapM_map_ok _ _ (fun k1 => c19EncVec (c19PySum ops.add (ops.ofInt 0)
            (S.zipIdx.map fun (p : List α × Nat) =>
              c19VecScale ops.mul p.1 (c19Rp ops sign (findFactors L).1 (p.2 * k1))))) _ (by
          intro k1 _
          exact c19_fft_sum ops ext hstp x sign wi wil dt np level _ _ k1 n S hSne)]
        simp [List.map_map, Function.comp_def]
      have hst : ([("x", c19EncVec x), ("sign", .int sign), ("wrap_intermediate", wi),
          ("wrap_intermediate_with_level", wil), ("complex_dtype", dt), ("custom_np", np),
          ("level", .int level), ("n", .int L), ("N1", .int (findFactors L).1),
          ("N2", .int (findFactors L).2)] : C19Store α)
          = c19FftStore x sign wi wil dt np level (findFactors L).1 (findFactors L).2 := by
        unfold c19FftStore; rw [hL]
      unfold c19EncVec at hst ⊢
      c19_run [hlen, hne, c19Call_find_factors, hff, hst]
      unfold c19EncVec at hcomp1 hcomp2
      c19_run [hcomp1, c19FftStore_set_sub, hcomp2, c19Call_concatenate]
      have hcc := c19Concat_vecs ((List.range (findFactors L).1).map fun k1 =>
              c19PySum ops.add (ops.ofInt 0) (S.zipIdx.map fun (p : List α × Nat) =>
                c19VecScale ops.mul p.1 (c19Rp ops sign (findFactors L).1 (p.2 * k1))))
      unfold c19EncVec at hcc
      rw [hcc]
      c19_run [c19_flatMap_map_id]
      rfl



include hwrap hstp in
/-- **`fft` with a wrapper as regenerated IS `c19FftW`**, for every length ≥ 1 -/
theorem c19_fftW_run (x : List α) (hpos : 1 ≤ x.length) (sign : Int) (wi wil dt np : C19V α)
    (level : Int) (n : Nat) (hn : 2 * x.length + 3 ≤ n) :
    c19RunFn ops c19Table ext (n + 1) "algorithm.fft"
        [c19EncVec x, .int sign, wi, wil, dt, np, .int level]
      = .ok (c19EncVec (c19FftW ops.add ops.mul (ops.ofInt 0) (c19Rp ops sign) wrap x)) :=
  c19_fftW_run_aux ops ext hstp wrap hwrap x.length x rfl hpos x.length (Nat.le_refl _)
    sign wi wil dt np level n hn
end

theorem c19FftAuxW_id {β : Type u} (add mul : β → β → β) (zero : β) (rp : Nat → Nat → β)
    (fuel : Nat) (x : List β) :
    c19FftAuxW add mul zero rp (fun v => v) fuel x = c19FftAux add mul zero rp fuel x := by
  induction fuel generalizing x with
  | zero => rfl
  | succ fuel ih =>
    unfold c19FftAuxW c19FftAux
    split
    · rfl
    · show c19FftStep add mul zero rp _ x = _
      congr 1
      funext y
      exact ih y

variable (hwrap : ∀ l v, ext "fft.wrap_intermediate_with_level" [l, v] = .ok v)

include hwrap hstp in
/-- **`fft` as regenerated IS the recursion `c19FftAux` / `c19FftStep`**: the case `wrap = id` of
`c19_fftW_run_aux`. -/
theorem c19_fft_run_aux : ∀ (L : Nat) (x : List α), x.length = L → 1 ≤ L → ∀ (fuel : Nat), L ≤ fuel →
    ∀ (sign : Int) (wi wil dt np : C19V α) (level : Int) (n : Nat), 2 * L + 3 ≤ n →
    c19RunFn ops c19Table ext (n + 1) "algorithm.fft"
        [c19EncVec x, .int sign, wi, wil, dt, np, .int level]
      = .ok (c19EncVec (c19FftAux ops.add ops.mul (ops.ofInt 0) (c19Rp ops sign) fuel x)) := by
  intro L x hL hpos fuel hfuel sign wi wil dt np level n hn
  rw [← c19FftAuxW_id]
  exact c19_fftW_run_aux ops ext hstp (fun v => v) (fun l v => hwrap l _) L x hL hpos fuel hfuel
    sign wi wil dt np level n hn

/-- what `fft` / `ifft` answer: the vector, or `ZeroDivisionError` -/
def c19EncVecOpt : Option (List α) → C19R (C19V α)
  | some y => .ok (c19EncVec y)
  | none => .raise "ZeroDivisionError"

include hwrap hstp in
/-- **`fft` as regenerated IS `c19FftPy`** (twiddles `tw sign`): the Cooley–Tukey recursion for
every length ≥ 1, `ZeroDivisionError` (from `find_factors(0)`) for the empty vector. -/
theorem c19_fft_run (x : List α) (sign : Int) (wi wil dt np : C19V α) (level : Int) (n : Nat)
    (hn : 2 * x.length + 3 ≤ n) :
    c19RunFn ops c19Table ext (n + 1) "algorithm.fft"
        [c19EncVec x, .int sign, wi, wil, dt, np, .int level]
      = c19EncVecOpt (c19FftPy ops.add ops.mul (ops.ofInt 0) (c19Rp ops sign) x) := by
  by_cases h0 : x.length = 0
  · have hx : x = [] := List.length_eq_zero_iff.mp h0
    subst hx
    obtain ⟨n, rfl⟩ : ∃ n', n = n' + 1 := ⟨n - 1, by omega⟩
    have hpy : findFactorsPy 0 = none := (findFactorsPy_eq_none_iff 0).mpr rfl
    have hff : c19RunFn ops c19Table ext (n + 1) "algorithm.find_factors" [(.int 0 : C19V α)]
        = .raise "ZeroDivisionError" := by
      have := c19_find_factors_run ops ext 0 n (by simp; omega)
      rw [hpy] at this
      simpa [c19EncFactors] using this
    rw [c19RunFn_succ ops c19Table ext _ _ _ _ _ c19_find_fft (by rw [c19_fft_body_current]; rfl)]
    simp only [c19_fft_body_current]
    unfold c19EncVec
    have hz : (((0 : Nat) : Int)) = 0 := rfl
    c19_run [c19Call_find_factors, hff, List.map_nil, hz]
    simp [c19FftPy, hpy, c19EncVecOpt]
  · have hpy : findFactorsPy x.length ≠ none := by
      rw [Ne, findFactorsPy_eq_none_iff]; exact h0
    rw [c19_fft_run_aux ops ext hstp hwrap x.length x rfl (by omega) x.length (Nat.le_refl _)
      sign wi wil dt np level n hn]
    unfold c19FftPy c19Fft
    cases h : findFactorsPy x.length with
    | none => exact absurd h hpy
    | some _ => rfl

end

end PV.Algo
