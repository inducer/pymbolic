import PV.Model.Algo
import Mathlib.Algebra.Group.Defs
import Mathlib.Algebra.Group.Basic
import Mathlib.Algebra.Ring.Int.Defs
import Mathlib.Data.Int.GCD
import Mathlib.Tactic.Ring
import Mathlib.Tactic.Linarith

/-!
  Proofs about `PV.Model.Algo`.
-/

namespace PV.Algo

/-! ## integer_power -/

/-- Generic loop invariant: under any multiplicative map `f` into a monoid the loop computes
`f aux * f x ^ n`. -/
theorem integerPowerLoop_hom {α : Type*} {M : Type*} [Monoid M] (f : α → M) (mul : α → α → α)
    (hmul : ∀ a b, f (mul a b) = f a * f b) (aux x : α) (n : ℕ) :
    f (integerPowerLoop mul aux x n) = f aux * f x ^ n := by
  induction n using Nat.strong_induction_on generalizing aux x with
  | _ n ih =>
    rw [integerPowerLoop]
    split_ifs with h0 h1 h2
    · subst h2; simp [hmul]
    · rw [ih (n / 2) (by omega), hmul, hmul]
      have hn : n = 2 * (n / 2) + 1 := by omega
      conv_rhs => rw [hn]
      rw [← pow_two, ← pow_mul, mul_assoc, ← pow_succ']
    · rw [ih (n / 2) (by omega), hmul]
      have hn : n = 2 * (n / 2) := by omega
      conv_rhs => rw [hn]
      rw [← pow_two, ← pow_mul]
    · have : n = 0 := by omega
      subst this; simp

theorem integerPower_hom {α : Type*} {M : Type*} [Monoid M] (f : α → M) (mul : α → α → α)
    (one : α) (hmul : ∀ a b, f (mul a b) = f a * f b) (hone : f one = 1) (x : α) (n : ℕ) :
    f (integerPower mul one x n) = f x ^ n := by
  rw [integerPower, integerPowerLoop_hom f mul hmul, hone, one_mul]

theorem integerPower_eq_pow {M : Type*} [Monoid M] (x : M) (n : ℕ) :
    integerPower (· * ·) 1 x n = x ^ n :=
  integerPower_hom id (· * ·) 1 (fun _ _ => rfl) rfl x n

/-! ## extended_euclidean -/

theorem extEuclidLoop_bezout (q0 r0 q r Q0 Q1 R0 R1 : ℤ)
    (hQ : q = Q0 * q0 + Q1 * r0) (hR : r = R0 * q0 + R1 * r0) :
    (extEuclidLoop q r Q0 Q1 R0 R1).1 =
      (extEuclidLoop q r Q0 Q1 R0 R1).2.1 * q0 + (extEuclidLoop q r Q0 Q1 R0 R1).2.2 * r0 := by
  induction hn : r.natAbs using Nat.strong_induction_on generalizing q r Q0 Q1 R0 R1 with
  | _ n ih =>
    rw [extEuclidLoop]
    split_ifs with h
    · simpa using hQ
    · simp only
      apply ih _ _ r (Int.fmod q r) R0 R1 _ _ hR _ rfl
      · rw [← hn]; exact natAbs_fmod_lt q r h
      · rw [Int.fmod_def, hQ, hR]; ring

/-- The result of the loop does not depend on the coefficient accumulators. -/
theorem extEuclidLoop_fst (q r Q0 Q1 R0 R1 : ℤ) :
    (extEuclidLoop q r Q0 Q1 R0 R1).1 = (extEuclidLoop q r 1 0 0 1).1 := by
  induction hn : r.natAbs using Nat.strong_induction_on generalizing q r Q0 Q1 R0 R1 with
  | _ n ih =>
    rw [extEuclidLoop, extEuclidLoop.eq_1 q r 1 0 0 1]
    split_ifs with h
    · rfl
    · simp only
      have hlt : (Int.fmod q r).natAbs < n := by rw [← hn]; exact natAbs_fmod_lt q r h
      rw [ih _ hlt r (Int.fmod q r) _ _ _ _ rfl, ih _ hlt r (Int.fmod q r) 0 1 _ _ rfl]

theorem extEuclidLoop_dvd (q r Q0 Q1 R0 R1 : ℤ) :
    (extEuclidLoop q r Q0 Q1 R0 R1).1 ∣ q ∧ (extEuclidLoop q r Q0 Q1 R0 R1).1 ∣ r ∧
      ∀ d : ℤ, d ∣ q → d ∣ r → d ∣ (extEuclidLoop q r Q0 Q1 R0 R1).1 := by
  induction hn : r.natAbs using Nat.strong_induction_on generalizing q r Q0 Q1 R0 R1 with
  | _ n ih =>
    rw [extEuclidLoop]
    split_ifs with h
    · subst h; exact ⟨dvd_refl _, dvd_zero _, fun d hq _ => hq⟩
    · simp only
      have hlt : (Int.fmod q r).natAbs < n := by rw [← hn]; exact natAbs_fmod_lt q r h
      obtain ⟨h1, h2, h3⟩ := ih _ hlt r (Int.fmod q r) R0 R1
        (Q0 - Int.fdiv q r * R0) (Q1 - Int.fdiv q r * R1) rfl
      refine ⟨?_, h1, ?_⟩
      · have := Int.dvd_add h2 (Dvd.dvd.mul_right h1 (Int.fdiv q r))
        rwa [Int.fmod_add_mul_fdiv] at this
      · intro d hdq hdr
        apply h3 d hdr
        rw [Int.fmod_def]
        exact Int.dvd_sub hdq (Dvd.dvd.mul_right hdr _)

/-- Sign behaviour of the loop: with floor division every remainder has the sign of the
divisor, so the returned "gcd" has the sign of the initial `r` (and is `q` when `r = 0`). -/
theorem extEuclidLoop_sign (q r Q0 Q1 R0 R1 : ℤ) :
    (r = 0 → (extEuclidLoop q r Q0 Q1 R0 R1).1 = q) ∧
    (0 < r → 0 < (extEuclidLoop q r Q0 Q1 R0 R1).1) ∧
    (r < 0 → (extEuclidLoop q r Q0 Q1 R0 R1).1 < 0) := by
  induction hn : r.natAbs using Nat.strong_induction_on generalizing q r Q0 Q1 R0 R1 with
  | _ n ih =>
    rw [extEuclidLoop]
    split_ifs with h
    · subst h; simp
    · simp only
      have hlt : (Int.fmod q r).natAbs < n := by rw [← hn]; exact natAbs_fmod_lt q r h
      obtain ⟨h1, h2, h3⟩ := ih _ hlt r (Int.fmod q r) R0 R1
        (Q0 - Int.fdiv q r * R0) (Q1 - Int.fdiv q r * R1) rfl
      refine ⟨fun h0 => absurd h0 h, fun hpos => ?_, fun hneg => ?_⟩
      · have hnn := Int.fmod_nonneg_of_pos q hpos
        rcases eq_or_lt_of_le hnn with h0 | h0
        · rw [h1 h0.symm]; exact hpos
        · exact h2 h0
      · have hnn := Int.fmod_nonneg_of_pos (-q) (b := -r) (by omega)
        rw [Int.neg_fmod_neg] at hnn
        have hnp : Int.fmod q r ≤ 0 := by omega
        rcases eq_or_lt_of_le hnp with h0 | h0
        · rw [h1 h0]; exact hneg
        · exact h3 h0

theorem extEuclid_dvd (q r : ℤ) :
    (extEuclid q r).1 ∣ q ∧ (extEuclid q r).1 ∣ r ∧
      ∀ d : ℤ, d ∣ q → d ∣ r → d ∣ (extEuclid q r).1 := by
  rw [extEuclid]
  split_ifs with h
  · have h' : ¬ r.natAbs < q.natAbs := by omega
    rw [extEuclid, dif_neg h']
    simp only
    obtain ⟨h1, h2, h3⟩ := extEuclidLoop_dvd r q 1 0 0 1
    exact ⟨h2, h1, fun d hq hr => h3 d hr hq⟩
  · exact extEuclidLoop_dvd q r 1 0 0 1

theorem extEuclid_natAbs (q r : ℤ) : (extEuclid q r).1.natAbs = Int.gcd q r := by
  obtain ⟨h1, h2, h3⟩ := extEuclid_dvd q r
  apply Nat.dvd_antisymm
  · exact Int.natAbs_dvd_natAbs.mpr (Int.dvd_coe_gcd h1 h2) |> fun h => by simpa using h
  · have := h3 (Int.gcd q r) (Int.gcd_dvd_left q r) (Int.gcd_dvd_right q r)
    simpa using Int.natAbs_dvd_natAbs.mpr this

theorem gcd_natAbs (q r : ℤ) : (gcd q r).natAbs = Int.gcd q r := extEuclid_natAbs q r

theorem gcd_eq_zero_iff (q r : ℤ) : gcd q r = 0 ↔ q = 0 ∧ r = 0 := by
  rw [← Int.natAbs_eq_zero, gcd_natAbs, Int.gcd_eq_zero_iff]

theorem gcd_dvd_mul (q r : ℤ) : gcd q r ∣ ((q * r).natAbs : ℤ) := by
  rw [Int.dvd_natAbs]
  exact Dvd.dvd.mul_right (extEuclid_dvd q r).1 r

/-! ## lcm -/

theorem lcm_eq_none_iff (q r : ℤ) : lcm q r = none ↔ q = 0 ∧ r = 0 := by
  rw [← gcd_eq_zero_iff]
  unfold lcm
  simp only
  split_ifs with h <;> simp [h]

theorem lcm_mul_gcd (q r l : ℤ) (h : lcm q r = some l) :
    l * gcd q r = ((q * r).natAbs : ℤ) := by
  unfold lcm at h
  simp only at h
  split_ifs at h with h0
  simp only [Option.some.injEq] at h
  rw [← h]
  exact Int.fdiv_mul_cancel (gcd_dvd_mul q r)

theorem lcm_natAbs (q r l : ℤ) (h : lcm q r = some l) : l.natAbs = Int.lcm q r := by
  have h1 := congrArg Int.natAbs (lcm_mul_gcd q r l h)
  rw [Int.natAbs_mul, gcd_natAbs, Int.natAbs_natCast] at h1
  have h2 := Int.gcd_mul_lcm q r
  have hg : 0 < Int.gcd q r := by
    rcases Nat.eq_zero_or_pos (Int.gcd q r) with h0 | h0
    · exfalso
      have : lcm q r = none := (lcm_eq_none_iff q r).mpr (Int.gcd_eq_zero_iff.mp h0)
      rw [this] at h; cases h
    · exact h0
  apply Nat.eq_of_mul_eq_mul_left hg
  rw [h2, ← Int.natAbs_mul, ← h1, Nat.mul_comm]

/-- The sign of the computed lcm is the sign of the computed gcd. -/
theorem lcm_sign (q r l : ℤ) (h : lcm q r = some l) (hl : l ≠ 0) :
    (0 < l ↔ 0 < gcd q r) := by
  have h1 := lcm_mul_gcd q r l h
  have h2 : (0 : ℤ) ≤ ((q * r).natAbs : ℤ) := Int.natCast_nonneg _
  have hg : gcd q r ≠ 0 := by
    intro h0
    have : lcm q r = none := (lcm_eq_none_iff q r).mpr ((gcd_eq_zero_iff q r).mp h0)
    rw [this] at h; cases h
  constructor
  · intro hpos
    by_contra hng
    have : gcd q r < 0 := by omega
    have := Int.mul_neg_of_pos_of_neg hpos this
    omega
  · intro hpos
    by_contra hnl
    have : l < 0 := by omega
    have := Int.mul_neg_of_neg_of_pos this hpos
    omega

/-! ## find_factors and fft index splitting -/

theorem findFactorsLoop_spec (n n1 m : ℕ) :
    n1 ≤ findFactorsLoop n n1 m ∧
      (n % findFactorsLoop n n1 m = 0 ∨ m < findFactorsLoop n n1 m) ∧
      (∀ d, n1 ≤ d → d < findFactorsLoop n n1 m → n % d ≠ 0) := by
  fun_induction findFactorsLoop n n1 m with
  | case1 n1 h ih =>
    refine ⟨by omega, ih.2.1, fun d hd hlt => ?_⟩
    rcases Nat.eq_or_lt_of_le hd with rfl | hd'
    · exact h.1
    · exact ih.2.2 d hd' hlt
  | case2 n1 h =>
    refine ⟨le_refl _, ?_, fun d hd hlt => by omega⟩
    by_cases h0 : n % n1 = 0
    · exact Or.inl h0
    · right; by_contra hle; exact h ⟨h0, by omega⟩

theorem findFactors_fst_dvd (n : ℕ) : (findFactors n).1 ∣ n := by
  unfold findFactors
  simp only
  split_ifs with h
  · exact dvd_refl n
  · have := (findFactorsLoop_spec n 2 (Nat.sqrt n + 1)).2.1
    rcases this with h0 | h0
    · exact Nat.dvd_of_mod_eq_zero h0
    · exact absurd h0 h

/-- `N1 * N2 == n`: the two factors returned by `find_factors` multiply back to `n`. -/
theorem findFactors_mul (n : ℕ) : (findFactors n).1 * (findFactors n).2 = n := by
  have h := findFactors_fst_dvd n
  have : (findFactors n).2 = n / (findFactors n).1 := rfl
  rw [this]
  exact Nat.mul_div_cancel' h

/-- `find_factors` fails (ZeroDivisionError) exactly for `n = 0`. -/
theorem findFactorsPy_eq_none_iff (n : ℕ) : findFactorsPy n = none ↔ n = 0 := by
  unfold findFactorsPy
  constructor
  · intro h
    split_ifs at h with h0
    have := findFactors_mul n
    rw [h0, Nat.zero_mul] at this
    exact this.symm
  · rintro rfl
    decide +kernel

/-- For `n ≥ 2` the first factor is at least 2, hence the sub-FFT size `N2` is strictly smaller
than `n`: the recursion of `fft` terminates. -/
theorem findFactors_lt (n : ℕ) (hn : 2 ≤ n) :
    2 ≤ (findFactors n).1 ∧ 0 < (findFactors n).2 ∧ (findFactors n).2 < n := by
  have hmul := findFactors_mul n
  have h2 : 2 ≤ (findFactors n).1 := by
    unfold findFactors
    simp only
    split_ifs with h
    · exact hn
    · exact (findFactorsLoop_spec n 2 (Nat.sqrt n + 1)).1
  have hpos : 0 < (findFactors n).2 := by
    rcases Nat.eq_zero_or_pos (findFactors n).2 with h0 | h0
    · rw [h0] at hmul; omega
    · exact h0
  refine ⟨h2, hpos, ?_⟩
  calc (findFactors n).2 < 2 * (findFactors n).2 := by omega
    _ ≤ (findFactors n).1 * (findFactors n).2 := Nat.mul_le_mul_right _ h2
    _ = n := hmul

/-- No `d` with `2 ≤ d < N1` that was inspected by the loop divides `n`
(the first factor is the least divisor found by trial division). -/
theorem findFactors_least (n d : ℕ) (hd : 2 ≤ d) (hlt : d < (findFactors n).1)
    (hle : d ≤ Nat.sqrt n + 1) : n % d ≠ 0 := by
  have hs := findFactorsLoop_spec n 2 (Nat.sqrt n + 1)
  unfold findFactors at hlt
  simp only at hlt
  split_ifs at hlt with h
  · exact hs.2.2 d hd (by omega)
  · exact hs.2.2 d hd hlt

theorem stride_getElem? {α : Type*} (x : List α) (s k j : ℕ) (hk : 1 ≤ k) :
    (stride x s k)[j]? = x[s + k * j]? := by
  induction j generalizing x s with
  | zero =>
    rw [stride]
    split
    · rename_i h
      have : x.length ≤ s := by
        have := congrArg List.length h
        simp at this; omega
      simp [this]
    · rename_i a rest h
      have : (x.drop s)[0]? = some a := by rw [h]; rfl
      simpa using this.symm
  | succ j ih =>
    rw [stride]
    split
    · rename_i h
      have : x.length ≤ s := by
        have := congrArg List.length h
        simp at this; omega
      rw [List.getElem?_eq_none (by simp), List.getElem?_eq_none (by omega)]
    · rename_i a rest h
      rw [List.getElem?_cons_succ, ih]
      have : (x.drop s)[1 + (k - 1 + k * j)]? = rest[k - 1 + k * j]? := by
        rw [h, Nat.add_comm 1, List.getElem?_cons_succ]
      rw [← this, List.getElem?_drop]
      congr 1
      rw [Nat.mul_succ]; omega

theorem stride_lt_length {α : Type*} (x : List α) (s k j : ℕ) (hk : 1 ≤ k) :
    j < (stride x s k).length ↔ s + k * j < x.length := by
  rw [← not_le, ← not_le, ← List.getElem?_eq_none_iff, ← List.getElem?_eq_none_iff,
    stride_getElem? x s k j hk]

/-- One level of `fft`: if `len(x) = N1 * N2` then `x[n1::N1]` has length `N2`. -/
theorem stride_length {α : Type*} (x : List α) (N1 N2 n1 : ℕ) (hlen : x.length = N1 * N2)
    (hn1 : n1 < N1) : (stride x n1 N1).length = N2 := by
  have hk : 1 ≤ N1 := by omega
  apply Nat.le_antisymm
  · by_contra h
    have h' : N2 < (stride x n1 N1).length := by omega
    rw [stride_lt_length x n1 N1 N2 hk, hlen] at h'
    omega
  · by_contra h
    have h' : (stride x n1 N1).length < N2 := by omega
    have hno : ¬ ((stride x n1 N1).length < (stride x n1 N1).length) := by omega
    rw [stride_lt_length x n1 N1 _ hk, hlen] at hno
    apply hno
    calc n1 + N1 * (stride x n1 N1).length < N1 + N1 * (stride x n1 N1).length := by omega
      _ = N1 * ((stride x n1 N1).length + 1) := by rw [Nat.mul_succ]; omega
      _ ≤ N1 * N2 := Nat.mul_le_mul_left _ h'

/-- Index splitting of the Cooley–Tukey step: input index `j` is element `j / N1` of
sub-problem `j % N1`, and `(j % N1, j / N1)` ranges over `range(N1) × range(N2)`. -/
theorem fft_index_split {α : Type*} (x : List α) (N1 N2 j : ℕ) (hlen : x.length = N1 * N2)
    (hj : j < x.length) :
    j % N1 < N1 ∧ j / N1 < N2 ∧ (stride x (j % N1) N1)[j / N1]? = x[j]? := by
  have hN1 : 0 < N1 := by
    rcases Nat.eq_zero_or_pos N1 with h | h
    · rw [h, Nat.zero_mul] at hlen; omega
    · exact h
  refine ⟨Nat.mod_lt _ hN1, ?_, ?_⟩
  · apply Nat.div_lt_of_lt_mul; rw [← hlen]; exact hj
  · rw [stride_getElem? x _ _ _ hN1, Nat.mod_add_div]

end PV.Algo
