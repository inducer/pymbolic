import PV.Proofs.AlgoTable
import PV.Generated.Algo
import PV.Model.RationalOps
/-!
  C19 (T-gen): `integer_power`, `extended_euclidean`, `gcd`, `lcm`, `find_factors` — the
  hand-written loop functions of PV/Model/Algo.lean are what the table interpreter computes on the
  bodies regenerated from the current source.

  Every proof has the same three layers: (1) the regenerated function equals an expected literal
  (`…_body_current`, by `rfl`: any change of the source body breaks it); (2) one run of the loop
  body on a symbolic store (`…_body`), by rewriting with `c19_run`; (3) induction on the loop's
  termination measure (`…_loop`), unrolling one iteration with `c19While_succ_*`.
-/
namespace PV.Algo
open PV.Generated

/-! ## the regenerated table: names, classes -/

theorem c19Table_names : c19Table.fns.map (·.name) = [
    "algorithm.integer_power", "algorithm.extended_euclidean", "algorithm.gcd", "algorithm.lcm",
    "algorithm.find_factors", "algorithm.fft", "algorithm.ifft", "polynomial._sort_uniq",
    "polynomial.leading_coefficient", "traits.traits", "primitives.quotient", "Polynomial.__init__",
    "Polynomial.traits", "Polynomial.__neg__", "Polynomial.__add__", "Polynomial.__radd__",
    "Polynomial.__sub__", "Polynomial.__mul__", "Polynomial.__rmul__", "Polynomial.__pow__",
    "Polynomial.__divmod__", "Polynomial.__floordiv__", "Polynomial.__mod__", "Polynomial.data",
    "Polynomial.base", "Polynomial.unit", "Polynomial.degree", "PolynomialTraits.norm",
    "PolynomialTraits.get_unit", "EuclideanRingTraits.gcd_extended", "EuclideanRingTraits.gcd",
    "EuclideanRingTraits.lcm", "IntegerTraits.norm", "IntegerTraits.get_unit", "Rational.__init__",
    "Rational.__neg__", "Rational.__bool__", "Rational.numerator", "Rational.denominator",
    "Rational.reciprocal", "Rational.__add__", "Rational.__radd__", "Rational.__sub__",
    "Rational.__rsub__", "Rational.__mul__", "Rational.__rmul__", "Rational.__div__",
    "Rational.__rdiv__", "Rational.__pow__", "EvaluationMapper.map_polynomial",
    "EvaluationMapper.map_quotient", "IdentityMapper.map_polynomial"] := by rfl

theorem c19Table_nodup : (c19Table.fns.map (·.name)).Nodup := by
  rw [c19Table_names]
  simp only [List.nodup_cons, List.mem_cons, String.reduceEq, or_false, List.not_mem_nil,
    not_false_eq_true, List.nodup_nil, and_self]

/-- the `i`-th function of the table is found under its name -/
theorem c19Table_find (i : Nat) (f : C19Fn) (h : c19Table.fns[i]? = some f) :
    c19FindFn c19Table f.name = some f :=
  c19FindFn_getElem c19Table c19Table_nodup i f h

/-- a name that differs from every name of the table -/
theorem c19Table_absent (name : String) (h : name ∉ c19Table.fns.map (·.name)) :
    c19FindFn c19Table name = none :=
  c19FindFn_eq_none c19Table name h

section
variable {α : Type} (ks : List String) (vs : List (C19V α))

theorem c19ClassesOf_integerTraits : c19ClassesOf c19Table (.obj "IntegerTraits" ks vs)
    = ["IntegerTraits", "EuclideanRingTraits", "IntegralDomainTraits", "Traits"] := by
  simp only [c19ClassesOf, c19Table, List.find?, String.reduceEq, decide_false, decide_true]

theorem c19Resolve_integerTraits_init :
    c19ResolveIn c19Table "__init__" (c19ClassesOf c19Table (.obj "IntegerTraits" ks vs)) = none := by
  simp only [c19ClassesOf_integerTraits, c19ResolveIn_cons, c19ResolveIn_nil, String.reduceAppend,
    c19Table_absent "IntegerTraits.__init__" (by simp [c19Table_names]),
    c19Table_absent "EuclideanRingTraits.__init__" (by simp [c19Table_names]),
    c19Table_absent "IntegralDomainTraits.__init__" (by simp [c19Table_names]),
    c19Table_absent "Traits.__init__" (by simp [c19Table_names]), Option.none_or]

theorem c19_find_integer_norm :
    c19FindFn c19Table "IntegerTraits.norm" = some c19Fn_IntegerTraits_norm :=
  c19Table_find 32 c19Fn_IntegerTraits_norm (by rfl)

theorem c19Resolve_integerTraits_norm :
    c19ResolveIn c19Table "norm" (c19ClassesOf c19Table (.obj "IntegerTraits" ks vs))
      = some c19Fn_IntegerTraits_norm := by
  simp only [c19ClassesOf_integerTraits, c19ResolveIn_cons, String.reduceAppend,
    c19_find_integer_norm, Option.some_or]
end

/-! ## the two readings of `/`

`C19Table.py2` changes bodies only, and only those in which a `/` occurs: names, kinds, parameters,
classes and rules are those of the table, so every look-up is inherited.  The callees of the
`Rational` methods that contain no `/` are run once, for either reading. -/

theorem c19FindFn_py2 (tbl : C19Table) (name : String) :
    c19FindFn tbl.py2 name = (c19FindFn tbl name).map C19Fn.py2 := by
  simp only [c19FindFn, C19Table.py2]
  induction tbl.fns with
  | nil => rfl
  | cons f l ih =>
    have : f.py2.name = f.name := rfl
    simp only [List.map_cons, List.find?_cons, this]
    split <;> simp [ih]

theorem c19ResolveIn_py2 (tbl : C19Table) (attr : String) (mro : List String) :
    c19ResolveIn tbl.py2 attr mro = (c19ResolveIn tbl attr mro).map C19Fn.py2 := by
  induction mro with
  | nil => rfl
  | cons c cs ih =>
    simp only [c19ResolveIn, c19FindFn_py2, ih]
    cases c19FindFn tbl (c ++ "." ++ attr) <;> rfl

theorem c19ClassesOf_py2 {α : Type} (tbl : C19Table) (v : C19V α) :
    c19ClassesOf tbl.py2 v = c19ClassesOf tbl v := by
  cases v <;> rfl

theorem C19Table.py2_names (t : C19Table) : t.py2.fns.map (·.name) = t.fns.map (·.name) := by
  simp only [C19Table.py2, List.map_map, Function.comp_def, C19Fn.py2]

theorem C19Table.py2_params (t : C19Table) : t.py2.fns.map (·.params) = t.fns.map (·.params) := by
  simp only [C19Table.py2, List.map_map, Function.comp_def, C19Fn.py2]

/-- the regenerated table under one of the two readings of `/` -/
def C19Reading (tbl : C19Table) : Prop := tbl = c19Table ∨ tbl = c19Table.py2

section
variable {tbl : C19Table} (ht : C19Reading tbl)
include ht

/-- a function in which no `/` occurs is the same under both readings -/
theorem C19Reading.find {name : String} {f : C19Fn} (h : c19FindFn c19Table name = some f)
    (hf : f.py2 = f) : c19FindFn tbl name = some f := by
  rcases ht with rfl | rfl
  · exact h
  · rw [c19FindFn_py2, h, Option.map_some, hf]

theorem C19Reading.classesOf {α : Type} (v : C19V α) :
    c19ClassesOf tbl v = c19ClassesOf c19Table v := by
  rcases ht with rfl | rfl
  · rfl
  · exact c19ClassesOf_py2 _ v

theorem C19Reading.resolve_none {α : Type} {attr : String} {v : C19V α}
    (h : c19ResolveIn c19Table attr (c19ClassesOf c19Table v) = none) :
    c19ResolveIn tbl attr (c19ClassesOf tbl v) = none := by
  rw [ht.classesOf]
  rcases ht with rfl | rfl
  · exact h
  · rw [c19ResolveIn_py2, h, Option.map_none]

theorem C19Reading.rules : tbl.commonTraits = ["ySubX", "xSubY", "raiseNoCommonTraits"] := by
  rcases ht with rfl | rfl <;> rfl

variable {α : Type} (ops : C19Ops α) (ext : String → List (C19V α) → C19R (C19V α)) (n k : Nat)
  {c : String} {ks : List String} {vs : List (C19V α)} {f : C19Fn}

/-- method calls, constructor calls and property reads only use the name, kind and parameters of
the function they resolve to: they are the same under both readings -/
theorem C19Reading.method {name : String} {args : List (C19V α)} (hn : name ≠ "__class__")
    (h : c19ResolveIn c19Table name (c19ClassesOf c19Table (.obj c ks vs : C19V α)) = some f) :
    c19Method (c19CxAt ops tbl ext n k) (.obj c ks vs) name args
      = c19RunFn ops tbl ext n f.name (if f.kind = .static then args else .obj c ks vs :: args) := by
  rcases ht with rfl | rfl
  · exact c19Method_resolved _ _ _ _ _ _ f hn h
  · exact c19Method_resolved _ _ _ _ _ _ f.py2 hn
      (by rw [c19CxAt_tbl, c19ClassesOf_py2, c19ResolveIn_py2, h]; rfl)

theorem C19Reading.new {args ws : List (C19V α)}
    (h : c19ResolveIn c19Table "__init__" (c19ClassesOf c19Table (.obj c [] [] : C19V α)) = some f)
    (hd : c19FillDefaults (f.params.length - 1) f.defaults args = some ws) :
    c19New (c19CxAt ops tbl ext n k) c args = c19RunFn ops tbl ext n f.name (.obj c [] [] :: ws) := by
  rcases ht with rfl | rfl
  · exact c19New_resolved _ _ _ _ f h hd
  · exact c19New_resolved _ _ _ _ f.py2
      (by rw [c19CxAt_tbl, c19ClassesOf_py2, c19ResolveIn_py2, h]; rfl) hd

theorem C19Reading.isInst_obj (classes : List String) :
    c19IsInst (c19CxAt ops tbl ext n k) (.obj c ks vs) classes
      = (c19ClassesOf c19Table (.obj c ks vs : C19V α)).any fun k => classes.contains k :=
  c19IsInst_obj _ _ _ _ _ _ (ht.classesOf _)

theorem C19Reading.attr_prop {name : String} (hg : c19AttrGet name ks vs = none)
    (h : c19ResolveIn c19Table name (c19ClassesOf c19Table (.obj c ks vs : C19V α)) = some f)
    (hk : f.kind = .prop) :
    c19Attr (c19CxAt ops tbl ext n k) (.obj c ks vs) name
      = c19RunFn ops tbl ext n f.name [.obj c ks vs] := by
  rcases ht with rfl | rfl
  · exact c19Attr_prop _ _ _ _ _ f hg h hk
  · exact c19Attr_prop _ _ _ _ _ f.py2 hg
      (by rw [c19CxAt_tbl, c19ClassesOf_py2, c19ResolveIn_py2, h]; rfl) hk
end

/-! ## `integer_power` -/

def c19IpPre : List C19S := [
  .assert (.isinst (.var "n") ["int"]),
  .ite (.cmp .lt (.var "n") (.int 0)) [.raise "RuntimeError"] [],
  .assign (.pat (.name "aux")) (.var "one")]

def c19IpCond : C19E := .cmp .gt (.var "n") (.int 0)
def c19IpBody : List C19S := [
  .ite (.bin .bitand (.var "n") (.int 1)) [
    .aug "aux" .mul (.var "x"),
    .ite (.cmp .eq (.var "n") (.int 1)) [
      .ret (.var "aux")] []] [],
  .assign (.pat (.name "x")) (.bin .mul (.var "x") (.var "x")),
  .aug "n" .floordiv (.int 2)]

/-- the body of `integer_power` in the current source -/
theorem c19_integer_power_body_current :
    c19Fn_algorithm_integer_power = ⟨"algorithm.integer_power", .func, ["x", "n", "one"], [.int 1],
      c19IpPre ++ [.while c19IpCond c19IpBody, .ret (.var "aux")]⟩ := by rfl

theorem c19Scalar_bitand_one {α : Type} (ops : C19Ops α) (m : Nat) :
    c19Scalar ops .bitand (.int m) (.int 1) = .ok (.int (if m % 2 = 1 then 1 else 0)) := by
  have : (Int.toNat 1) = 1 := rfl
  simp [c19Scalar_bitand, this, Nat.and_one_is_mod]
  split <;> omega

theorem c19_fdiv_two (m : Nat) : Int.fdiv (m : Int) 2 = ((m / 2 : Nat) : Int) := by
  rw [Int.fdiv_eq_ediv_of_nonneg _ (by omega)]; omega

section
variable {α β : Type} (cx : C19Cx α) (emb : β → C19V α) (mul : β → β → β)
  (hmul : ∀ a b, c19BinOp cx .mul (emb a) (emb b) = .ok (emb (mul a b)))
include hmul

theorem c19_ip_body (o : C19V α) (a x : β) (m : Nat) :
    c19ExecL cx c19IpBody [("x", emb x), ("n", .int m), ("one", o), ("aux", emb a)]
      = if m % 2 = 1 then
          if m = 1 then .ret (emb (mul a x))
          else .next [("x", emb (mul x x)), ("n", .int (m / 2 : Nat)), ("one", o),
            ("aux", emb (mul a x))]
        else .next [("x", emb (mul x x)), ("n", .int (m / 2 : Nat)), ("one", o), ("aux", emb a)] := by
  unfold c19IpBody
  by_cases h1 : m % 2 = 1
  · by_cases h2 : m = 1
    · subst h2
      c19_run [hmul, c19Scalar_bitand_one]
      simp
    · have h3 : ((m : Int) == 1) = false := by simp; omega
      c19_run [hmul, c19Scalar_bitand_one, h1, h3, c19_fdiv_two]
      simp [h2]
  · have h3 : m % 2 = 0 := by omega
    c19_run [hmul, c19Scalar_bitand_one, h1, h3, c19_fdiv_two]

/-- the `while` loop of `integer_power` followed by `return aux` IS `integerPowerLoop` -/
theorem c19_ip_loop (o : C19V α) : ∀ (m : Nat) (a x : β) (k : Nat), m + 1 ≤ k →
    (c19While (c19Test cx c19IpCond) (c19ExecL cx c19IpBody) k
      [("x", emb x), ("n", .int m), ("one", o), ("aux", emb a)]).andThen
        (c19ExecL cx [.ret (.var "aux")])
      = .ret (emb (integerPowerLoop mul a x m)) := by
  intro m
  induction m using Nat.strongRecOn with
  | _ m ih =>
    intro a x k hk
    obtain ⟨k, rfl⟩ : ∃ k', k = k' + 1 := ⟨k - 1, by omega⟩
    have hb := c19_ip_body cx emb mul hmul o a x m
    unfold integerPowerLoop
    by_cases h0 : m = 0
    · subst h0
      rw [c19While_succ_false _ _ _ _ (by unfold c19IpCond; c19_run []; simp)]
      c19_run []
    · have ht : c19Test cx c19IpCond
          [("x", emb x), ("n", .int m), ("one", o), ("aux", emb a)] = .ok true := by
        unfold c19IpCond; c19_run []; simp; omega
      have hpos : m > 0 := by omega
      by_cases h1 : m % 2 = 1
      · by_cases h2 : m = 1
        · subst h2
          simp only [if_true] at hb
          rw [c19While_succ_ret _ _ _ _ _ ht hb]
          simp
        · simp only [h1, h2, if_true, if_false] at hb
          rw [c19While_succ_true _ _ _ _ _ ht hb]
          simp only [hpos, h1, h2, if_true, if_false]
          exact ih (m / 2) (by omega) (mul a x) (mul x x) k (by omega)
      · simp only [h1, if_false] at hb
        rw [c19While_succ_true _ _ _ _ _ ht hb]
        simp only [hpos, h1, if_true, if_false]
        exact ih (m / 2) (by omega) a (mul x x) k (by omega)
end

theorem c19IsInst_int {α : Type} (cx : C19Cx α) (i : Int) : c19IsInst cx (.int i) ["int"] = true := by rfl

theorem c19_find_integer_power :
    c19FindFn c19Table "algorithm.integer_power" = some c19Fn_algorithm_integer_power :=
  c19Table_find 0 c19Fn_algorithm_integer_power (by rfl)

/-- `integer_power(x, n, one)` for `n ≥ 0` on values of any kind whose `*` the interpreter computes
as `mul` (at this call depth): the regenerated body returns `integerPowerLoop mul one x n`. -/
theorem c19_integer_power_run {α β : Type} (ops : C19Ops α)
    (ext : String → List (C19V α) → C19R (C19V α)) (emb : β → C19V α) (mul : β → β → β) (n : Nat)
    (hmul : ∀ a b, c19BinOp (c19CxAt ops c19Table ext n (n + 1)) .mul (emb a) (emb b)
      = .ok (emb (mul a b)))
    (x one : β) (m : Nat) (hn : m ≤ n) :
    c19RunFn ops c19Table ext (n + 1) "algorithm.integer_power" [emb x, .int m, emb one]
      = .ok (emb (integerPower mul one x m)) := by
  have hloop := c19_ip_loop (c19CxAt ops c19Table ext n (n + 1)) emb mul hmul (emb one) m one x
    (n + 1) (by omega)
  have hlt : decide ((m : Int) < 0) = false := by simp
  have hpre : c19ExecL (c19CxAt ops c19Table ext n (n + 1)) c19IpPre
      [("x", emb x), ("n", .int m), ("one", emb one)]
      = .next [("x", emb x), ("n", .int m), ("one", emb one), ("aux", emb one)] := by
    unfold c19IpPre
    c19_run [c19IsInst_int, hlt]
  rw [c19RunFn_succ ops c19Table ext n _ _ _ _ c19_find_integer_power
    (by rw [c19_integer_power_body_current]; rfl)]
  simp only [c19_integer_power_body_current]
  rw [c19ExecL_append, hpre, C19O.andThen_next, c19ExecL_while, c19CxAt_fuel, hloop]
  rfl

/-- negative exponents are refused before anything is multiplied -/
theorem c19_integer_power_negative {α : Type} (ops : C19Ops α)
    (ext : String → List (C19V α) → C19R (C19V α)) (x one : C19V α) (i : Int) (hi : i < 0) (n : Nat) :
    c19RunFn ops c19Table ext (n + 1) "algorithm.integer_power" [x, .int i, one]
      = .raise "RuntimeError" := by
  have hlt : decide (i < 0) = true := by simp [hi]
  rw [c19RunFn_succ ops c19Table ext n _ _ _ _ c19_find_integer_power
    (by rw [c19_integer_power_body_current]; rfl)]
  simp only [c19_integer_power_body_current]
  rw [c19ExecL_append]
  unfold c19IpPre
  c19_run [c19IsInst_int, hlt]
  rfl

/-! ## `extended_euclidean`, `gcd`, `lcm` -/

def c19EuPre : List C19S := [
  .assign (.pat (.name "t")) (.commonTraits [(.var "q"), (.var "r")]),
  .ite (.cmp .lt (.method (.var "t") "norm" [(.var "q")]) (.method (.var "t") "norm" [(.var "r")])) [
    .assign (.pat (.tuple [(.name "p"), (.name "a"), (.name "b")])) (.call "algorithm.extended_euclidean" [(.var "r"), (.var "q")]),
    .ret (.tuple [(.var "p"), (.var "b"), (.var "a")])] [],
  .assign (.pat (.name "Q")) (.tuple [(.int 1), (.int 0)]),
  .assign (.pat (.name "R")) (.tuple [(.int 0), (.int 1)])]

def c19EuBody : List C19S := [
  .assign (.pat (.tuple [(.name "quot"), (.name "t")])) (.call "divmod" [(.var "q"), (.var "r")]),
  .assign (.pat (.name "T")) (.tuple [(.bin .sub (.index (.var "Q") (.int 0)) (.bin .mul (.var "quot") (.index (.var "R") (.int 0)))), (.bin .sub (.index (.var "Q") (.int 1)) (.bin .mul (.var "quot") (.index (.var "R") (.int 1))))]),
  .assign (.pat (.tuple [(.name "q"), (.name "r")])) (.tuple [(.var "r"), (.var "t")]),
  .assign (.pat (.tuple [(.name "Q"), (.name "R")])) (.tuple [(.var "R"), (.var "T")])]

def c19EuRet : C19S :=
  .ret (.tuple [(.var "q"), (.index (.var "Q") (.int 0)), (.index (.var "Q") (.int 1))])

/-- the body of `extended_euclidean` in the current source -/
theorem c19_extended_euclidean_body_current :
    c19Fn_algorithm_extended_euclidean = ⟨"algorithm.extended_euclidean", .func, ["q", "r"], [],
      c19EuPre ++ [.while (.var "r") c19EuBody, c19EuRet]⟩ := by rfl

section
variable {α : Type}

def c19EuStore (q r : Int) (t : C19V α) (Q0 Q1 R0 R1 : Int) (extra : C19Store α) : C19Store α :=
  [("q", .int q), ("r", .int r), ("t", t), ("Q", .tup [.int Q0, .int Q1]),
   ("R", .tup [.int R0, .int R1])] ++ extra

def c19Enc3 (p : Int × Int × Int) : C19V α := .tup [.int p.1, .int p.2.1, .int p.2.2]

theorem c19_eu_body (cx : C19Cx α) (q r : Int) (hr : r ≠ 0) (t : C19V α) (Q0 Q1 R0 R1 : Int)
    (extra : C19Store α) :
    c19ExecL cx c19EuBody (c19EuStore q r t Q0 Q1 R0 R1 extra) =
      .next (c19EuStore r (Int.fmod q r) (.int (Int.fmod q r)) R0 R1
        (Q0 - Int.fdiv q r * R0) (Q1 - Int.fdiv q r * R1)
        (c19Set "T" (.tup [.int (Q0 - Int.fdiv q r * R0), .int (Q1 - Int.fdiv q r * R1)])
          (c19Set "quot" (.int (Int.fdiv q r)) extra))) := by
  unfold c19EuBody c19EuStore
  c19_run [c19Call_divmod_ne _ _ _ hr]

/-- the `while r:` loop of `extended_euclidean` followed by its `return` IS `extEuclidLoop` -/
theorem c19_eu_loop (cx : C19Cx α) :
    ∀ (m : Nat) (q r : Int) (t : C19V α) (Q0 Q1 R0 R1 : Int) (extra : C19Store α) (k : Nat),
      r.natAbs ≤ m → m + 1 ≤ k →
      (c19While (c19Test cx (.var "r")) (c19ExecL cx c19EuBody) k
        (c19EuStore q r t Q0 Q1 R0 R1 extra)).andThen (c19ExecL cx [c19EuRet])
        = .ret (c19Enc3 (extEuclidLoop q r Q0 Q1 R0 R1)) := by
  intro m
  induction m with
  | zero =>
    intro q r t Q0 Q1 R0 R1 extra k hm hk
    obtain ⟨k, rfl⟩ : ∃ k', k = k' + 1 := ⟨k - 1, by omega⟩
    have hr : r = 0 := by omega
    subst hr
    unfold extEuclidLoop
    rw [c19While_succ_false _ _ _ _ (by unfold c19EuStore; c19_run [])]
    unfold c19EuStore c19EuRet c19Enc3
    c19_run []
    simp
  | succ m ih =>
    intro q r t Q0 Q1 R0 R1 extra k hm hk
    obtain ⟨k, rfl⟩ : ∃ k', k = k' + 1 := ⟨k - 1, by omega⟩
    unfold extEuclidLoop
    by_cases hr : r = 0
    · subst hr
      rw [c19While_succ_false _ _ _ _ (by unfold c19EuStore; c19_run [])]
      unfold c19EuStore c19EuRet c19Enc3
      c19_run []
      simp
    · have ht : c19Test cx (.var "r") (c19EuStore q r t Q0 Q1 R0 R1 extra) = .ok true := by
        unfold c19EuStore; c19_run []; simp [hr]
      have hb := c19_eu_body cx q r hr t Q0 Q1 R0 R1 extra
      have hlt := natAbs_fmod_lt q r hr
      rw [c19While_succ_true _ _ _ _ _ ht hb]
      simp only [hr, dite_false]
      exact ih r (Int.fmod q r) (.int (Int.fmod q r)) R0 R1 (Q0 - Int.fdiv q r * R0)
        (Q1 - Int.fdiv q r * R1) _ k (by omega) (by omega)

theorem c19Call_extended_euclidean (cx : C19Cx α) (a b : C19V α) :
    c19Call cx "algorithm.extended_euclidean" [a, b]
      = cx.calls "algorithm.extended_euclidean" [a, b] := by rfl

theorem c19Call_traits (cx : C19Cx α) (a : C19V α) :
    c19Call cx "traits.traits" [a] = cx.calls "traits.traits" [a] := by rfl

/-- `common_traits` of values that all have the traits `T`, when the rule chain answers `T` for
two `T`s -/
theorem c19CommonTraits_same (cx : C19Cx α) (T : C19V α) (vs : List (C19V α))
    (hv : ∀ v ∈ vs, cx.calls "traits.traits" [v] = .ok T)
    (htwo : c19TraitsTwo cx cx.tbl.commonTraits T T = .ok T) (hne : vs ≠ []) :
    c19CommonTraits cx vs = .ok T := by
  have hmap : ∀ l : List (C19V α), (∀ v ∈ l, cx.calls "traits.traits" [v] = .ok T) →
      c19MapM (fun v => cx.calls "traits.traits" [v]) l = .ok (l.map fun _ => T) := by
    intro l hl
    induction l with
    | nil => rfl
    | cons v l ih =>
      simp only [c19MapM, hl v List.mem_cons_self, C19R.bind_ok,
        ih fun w hw => hl w (List.mem_cons_of_mem _ hw), List.map_cons]
  have hfold : ∀ l : List (C19V α), c19TraitsFold cx T (l.map fun _ => T) = .ok T := by
    intro l
    induction l with
    | nil => rfl
    | cons v l ih => simp only [List.map_cons, c19TraitsFold, htwo, C19R.bind_ok, ih]
  cases vs with
  | nil => exact absurd rfl hne
  | cons v l =>
    rw [c19CommonTraits, hmap _ hv]
    exact hfold l

theorem c19_find_traits : c19FindFn c19Table "traits.traits" = some c19Fn_traits_traits :=
  c19Table_find 9 c19Fn_traits_traits (by rfl)

theorem c19_find_extended_euclidean : c19FindFn c19Table "algorithm.extended_euclidean"
    = some c19Fn_algorithm_extended_euclidean :=
  c19Table_find 1 c19Fn_algorithm_extended_euclidean (by rfl)

section
variable {tbl : C19Table} (ht : C19Reading tbl) (ops : C19Ops α)
  (ext : String → List (C19V α) → C19R (C19V α))
include ht

theorem C19Reading.method_integer_norm (n k : Nat) (v : C19V α) :
    c19Method (c19CxAt ops tbl ext n k) (.obj "IntegerTraits" [] []) "norm" [v]
      = c19RunFn ops tbl ext n "IntegerTraits.norm" [v] :=
  ht.method ops ext n k (by simp) (c19Resolve_integerTraits_norm _ _)

theorem c19_integer_norm_run (n : Nat) (i : Int) :
    c19RunFn ops tbl ext (n + 1) "IntegerTraits.norm" [.int i] = .ok (.int (i.natAbs : Int)) := by
  rw [c19RunFn_succ ops tbl ext n _ _ _ _ (ht.find c19_find_integer_norm (by rfl)) rfl]
  simp only [c19Fn_IntegerTraits_norm]
  c19_run []
  rfl

theorem C19Reading.new_integer_traits (n k : Nat) :
    c19New (c19CxAt ops tbl ext n k) "IntegerTraits" [] = .ok (.obj "IntegerTraits" [] []) :=
  c19New_plain _ _ (ht.resolve_none (c19Resolve_integerTraits_init [] []))

/-- `traits(x)` of a Python int: `x.traits()` raises `AttributeError`, the handler answers
`IntegerTraits()` -/
theorem c19_traits_int_run (i : Int) (n : Nat) :
    c19RunFn ops tbl ext (n + 1) "traits.traits" [.int i] = .ok (.obj "IntegerTraits" [] []) := by
  rw [c19RunFn_succ ops tbl ext _ _ _ _ _ (ht.find c19_find_traits (by rfl)) rfl]
  simp only [c19Fn_traits_traits]
  have h1 : c19IsInst (c19CxAt ops tbl ext n (n + 1)) (.int i) ["complex", "float"] = false := rfl
  c19_run [c19Method, h1, c19IsInst_int, ht.new_integer_traits]
  rfl

/-- `common_traits` of one or more Python ints: `traits` of each (read from the table), reduced
with the rule chain of the table — an `IntegerTraits()` is an instance of the class of the one
before -/
theorem c19CommonTraits_ints (n k : Nat) (a : Int) (l : List Int) :
    c19CommonTraits (c19CxAt ops tbl ext (n + 1) k) ((a :: l).map fun i => (.int i : C19V α))
      = .ok (.obj "IntegerTraits" [] []) := by
  refine c19CommonTraits_same _ _ _ ?_ ?_ (by simp)
  · intro v hv
    obtain ⟨i, _, rfl⟩ := List.mem_map.1 hv
    rw [c19CxAt_calls]
    exact c19_traits_int_run ht ops ext i n
  · rw [c19CxAt_tbl, ht.rules, c19TraitsTwo]
    simp only [String.reduceEq, if_true, c19CxAt_tbl, ht.classesOf, ht.isInst_obj,
      c19ClassesOf_integerTraits, List.take_succ_cons, List.take_zero, List.any_cons,
      List.contains_cons, List.contains_nil, BEq.rfl, Bool.or_false, Bool.true_or]

theorem c19CommonTraits_two (n k : Nat) (q r : Int) :
    c19CommonTraits (c19CxAt ops tbl ext (n + 1) k) [.int q, .int r]
      = .ok (.obj "IntegerTraits" [] []) :=
  c19CommonTraits_ints ht ops ext n k q [r]

theorem c19CommonTraits_four (n k : Nat) (a b c d : Int) :
    c19CommonTraits (c19CxAt ops tbl ext (n + 1) k) [.int a, .int b, .int c, .int d]
      = .ok (.obj "IntegerTraits" [] []) :=
  c19CommonTraits_ints ht ops ext n k a [b, c, d]

/-- `extended_euclidean(q, r)` when `|q| ≥ |r|`: no swap, the loop runs -/
theorem c19_extended_euclidean_noswap (q r : Int) (h : ¬ q.natAbs < r.natAbs) (n : Nat)
    (hn : r.natAbs + 2 ≤ n) :
    c19RunFn ops tbl ext (n + 1) "algorithm.extended_euclidean" [.int q, .int r]
      = .ok (c19Enc3 (extEuclidLoop q r 1 0 0 1)) := by
  obtain ⟨n, rfl⟩ : ∃ n', n = n' + 1 := ⟨n - 1, by omega⟩
  obtain ⟨n, rfl⟩ : ∃ n', n = n' + 1 := ⟨n - 1, by omega⟩
  have hlt : decide ((q.natAbs : Int) < (r.natAbs : Int)) = false := by simp; omega
  have hpre : c19ExecL (c19CxAt ops tbl ext (n + 1 + 1) (n + 1 + 1 + 1)) c19EuPre
      [("q", .int q), ("r", .int r)]
      = .next (c19EuStore q r (.obj "IntegerTraits" [] []) 1 0 0 1 []) := by
    unfold c19EuPre c19EuStore
    c19_run [c19CommonTraits_two ht, ht.method_integer_norm, c19_integer_norm_run ht, hlt]
  have hloop := c19_eu_loop (c19CxAt ops tbl ext (n + 1 + 1) (n + 1 + 1 + 1))
    r.natAbs q r (.obj "IntegerTraits" [] []) 1 0 0 1 [] (n + 1 + 1 + 1) (Nat.le_refl _) (by omega)
  rw [c19RunFn_succ ops tbl ext _ _ _ _ _ (ht.find c19_find_extended_euclidean (by rfl))
    (by rw [c19_extended_euclidean_body_current]; rfl)]
  simp only [c19_extended_euclidean_body_current]
  rw [c19ExecL_append, hpre, C19O.andThen_next, c19ExecL_while, c19CxAt_fuel, hloop]
  rfl

/-- **`extended_euclidean` as regenerated IS `extEuclid`** on Python ints (it contains no `/`:
under either reading). -/
theorem c19_extended_euclidean_run (q r : Int) (n : Nat) (hn : q.natAbs + r.natAbs + 3 ≤ n) :
    c19RunFn ops tbl ext (n + 1) "algorithm.extended_euclidean" [.int q, .int r]
      = .ok (c19Enc3 (extEuclid q r)) := by
  by_cases h : q.natAbs < r.natAbs
  · obtain ⟨n, rfl⟩ : ∃ n', n = n' + 1 := ⟨n - 1, by omega⟩
    have hrec := c19_extended_euclidean_noswap ht ops ext r q (by omega) n (by omega)
    have hlt : decide ((q.natAbs : Int) < (r.natAbs : Int)) = true := by simp; omega
    have h2 : ¬ r.natAbs < q.natAbs := by omega
    rw [extEuclid, dif_pos h, extEuclid, dif_neg h2]
    rw [c19RunFn_succ ops tbl ext _ _ _ _ _ (ht.find c19_find_extended_euclidean (by rfl))
      (by rw [c19_extended_euclidean_body_current]; rfl)]
    simp only [c19_extended_euclidean_body_current]
    rw [c19ExecL_append]
    unfold c19EuPre
    obtain ⟨n, rfl⟩ : ∃ n', n = n' + 1 := ⟨n - 1, by omega⟩
    c19_run [c19CommonTraits_two ht, ht.method_integer_norm, c19_integer_norm_run ht, hlt,
      c19Call_extended_euclidean, hrec, c19Enc3]
    rfl
  · rw [extEuclid, dif_neg h]
    exact c19_extended_euclidean_noswap ht ops ext q r h n (by omega)
end

theorem c19Method_integer_norm (ops : C19Ops α) (ext : String → List (C19V α) → C19R (C19V α))
    (n k : Nat) (v : C19V α) :
    c19Method (c19CxAt ops c19Table ext n k) (.obj "IntegerTraits" [] []) "norm" [v]
      = c19RunFn ops c19Table ext n "IntegerTraits.norm" [v] :=
  C19Reading.method_integer_norm (.inl rfl) ops ext n k v

theorem c19New_integer_traits (ops : C19Ops α) (ext : String → List (C19V α) → C19R (C19V α))
    (n k : Nat) :
    c19New (c19CxAt ops c19Table ext n k) "IntegerTraits" [] = .ok (.obj "IntegerTraits" [] []) :=
  C19Reading.new_integer_traits (.inl rfl) ops ext n k

end

/-! ## `find_factors` -/

section
variable {α : Type}

def c19FfPre : List C19S := [
  .assign (.pat (.name "n1")) (.int 2),
  .assign (.pat (.name "max_n1")) (.bin .add (.call "isqrt" [(.var "n")]) (.int 1))]
def c19FfCond : C19E :=
  .and (.cmp .ne (.bin .mod (.var "n") (.var "n1")) (.int 0)) (.cmp .le (.var "n1") (.var "max_n1"))
def c19FfBody : List C19S := [.aug "n1" .add (.int 1)]
def c19FfPost : List C19S := [
  .ite (.cmp .gt (.var "n1") (.var "max_n1")) [
    .assign (.pat (.name "n1")) (.var "n")] [],
  .assign (.pat (.name "n2")) (.bin .floordiv (.var "n") (.var "n1")),
  .ret (.tuple [(.var "n1"), (.var "n2")])]

theorem c19_find_factors_body_current :
    c19Fn_algorithm_find_factors = ⟨"algorithm.find_factors", .func, ["n"], [],
      c19FfPre ++ (.while c19FfCond c19FfBody :: c19FfPost)⟩ := by rfl

theorem c19_fmod_nat (a b : Nat) : Int.fmod (a : Int) (b : Int) = ((a % b : Nat) : Int) := by
  rw [Int.fmod_eq_emod_of_nonneg _ (by omega)]; simp

theorem c19_fdiv_nat (a b : Nat) : Int.fdiv (a : Int) (b : Int) = ((a / b : Nat) : Int) := by
  rw [Int.fdiv_eq_ediv_of_nonneg _ (by omega)]; simp

def c19FfStore (n n1 M : Nat) : C19Store α := [("n", .int n), ("n1", .int n1), ("max_n1", .int M)]

theorem c19_ff_test (cx : C19Cx α) (n n1 M : Nat) (h1 : n1 ≠ 0) :
    c19Test cx c19FfCond (c19FfStore n n1 M) = .ok (decide (n % n1 ≠ 0 ∧ n1 ≤ M)) := by
  have h1' : (n1 : Int) ≠ 0 := by omega
  unfold c19FfCond c19FfStore
  by_cases ha : n % n1 = 0
  · have : (((n % n1 : Nat) : Int) == 0) = true := by simp [ha]
    c19_run [c19Scalar_mod_ne _ _ _ h1', c19_fmod_nat, this]
    simp [ha]
  · have : (((n % n1 : Nat) : Int) == 0) = false := by simp; omega
    c19_run [c19Scalar_mod_ne _ _ _ h1', c19_fmod_nat, this]
    simp [ha]

theorem c19_ff_loop (cx : C19Cx α) (n M : Nat) : ∀ (d n1 k : Nat), n1 ≠ 0 → M + 1 - n1 ≤ d → d + 1 ≤ k →
    c19While (c19Test cx c19FfCond) (c19ExecL cx c19FfBody) k (c19FfStore n n1 M)
      = .next (c19FfStore n (findFactorsLoop n n1 M) M) := by
  intro d
  induction d with
  | zero =>
    intro n1 k h1 hd hk
    obtain ⟨k, rfl⟩ : ∃ k', k = k' + 1 := ⟨k - 1, by omega⟩
    have ht := c19_ff_test cx n n1 M h1
    have hc : ¬ (n % n1 ≠ 0 ∧ n1 ≤ M) := by omega
    unfold findFactorsLoop
    rw [if_neg hc]
    rw [c19While_succ_false _ _ _ _ (by rw [ht]; simp [hc])]
  | succ d ih =>
    intro n1 k h1 hd hk
    obtain ⟨k, rfl⟩ : ∃ k', k = k' + 1 := ⟨k - 1, by omega⟩
    have ht := c19_ff_test cx n n1 M h1
    unfold findFactorsLoop
    by_cases hc : n % n1 ≠ 0 ∧ n1 ≤ M
    · rw [if_pos hc]
      have hb : c19ExecL cx c19FfBody (c19FfStore n n1 M) = .next (c19FfStore n (n1 + 1) M) := by
        unfold c19FfBody c19FfStore
        c19_run []
        simp
      rw [c19While_succ_true _ _ _ _ _ (by rw [ht]; simp [hc]) hb]
      exact ih (n1 + 1) k (by omega) (by omega) (by omega)
    · rw [if_neg hc]
      rw [c19While_succ_false _ _ _ _ (by rw [ht]; simp [hc])]

theorem c19Call_isqrt_nat (cx : C19Cx α) (n : Nat) :
    c19Call cx "isqrt" [.int (n : Int)] = .ok (.int (Nat.sqrt n : Nat)) := by
  rw [c19Call_isqrt, if_neg (by omega)]; simp

/-- what `find_factors` answers: the pair, or `ZeroDivisionError` -/
def c19EncFactors : Option (Nat × Nat) → C19R (C19V α)
  | some p => .ok (.tup [.int p.1, .int p.2])
  | none => .raise "ZeroDivisionError"

theorem c19_ff_post (cx : C19Cx α) (n n1 M : Nat) :
    c19Finish .func (c19ExecL cx c19FfPost (c19FfStore n n1 M)) =
      c19EncFactors (if (if n1 > M then n else n1) = 0 then none
        else some ((if n1 > M then n else n1), n / (if n1 > M then n else n1))) := by
  unfold c19FfPost c19FfStore c19EncFactors
  by_cases h : n1 > M
  · have hd : decide ((n1 : Int) > (M : Int)) = true := by simp; omega
    by_cases h0 : n = 0
    · subst h0
      c19_run [hd]
      simp [h]
    · have h0' : (n : Int) ≠ 0 := by omega
      c19_run [hd, c19Scalar_floordiv_ne _ _ _ h0', c19_fdiv_nat]
      simp [h, h0]
  · have hd : decide ((n1 : Int) > (M : Int)) = false := by simp; omega
    by_cases h0 : n1 = 0
    · subst h0
      c19_run [hd]
      simp [h]
    · have h0' : (n1 : Int) ≠ 0 := by omega
      c19_run [hd, c19Scalar_floordiv_ne _ _ _ h0', c19_fdiv_nat]
      simp [h, h0]

/-- **`find_factors` as regenerated IS `findFactorsPy`** (with the exact integer square root). -/
theorem c19_find_factors_run (ops : C19Ops α) (ext : String → List (C19V α) → C19R (C19V α))
    (n d : Nat) (hd : Nat.sqrt n + 2 ≤ d) :
    c19RunFn ops c19Table ext (d + 1) "algorithm.find_factors" [.int n]
      = c19EncFactors (findFactorsPy n) := by
  have hpre : c19ExecL (c19CxAt ops c19Table ext d (d + 1)) c19FfPre [("n", .int n)]
      = .next (c19FfStore n 2 (Nat.sqrt n + 1)) := by
    unfold c19FfPre c19FfStore
    c19_run [c19Call_isqrt_nat]
    simp
  have hloop := c19_ff_loop (c19CxAt ops c19Table ext d (d + 1)) n (Nat.sqrt n + 1)
    (Nat.sqrt n + 1) 2 (d + 1) (by omega) (by omega) (by omega)
  rw [c19RunFn_succ ops c19Table ext _ "algorithm.find_factors" _ _ _
    (c19Table_find 4 c19Fn_algorithm_find_factors (by rfl))
    (by rw [c19_find_factors_body_current]; rfl)]
  simp only [c19_find_factors_body_current]
  rw [c19ExecL_append, hpre, C19O.andThen_next, c19ExecL_while, c19CxAt_fuel, hloop,
    C19O.andThen_next, c19_ff_post]
  unfold findFactorsPy findFactors
  simp only []
end

/-! ## `gcd`, `lcm` -/

theorem c19Call_gcd {α : Type} (cx : C19Cx α) (a b : C19V α) :
    c19Call cx "algorithm.gcd" [a, b] = cx.calls "algorithm.gcd" [a, b] := by rfl

/-- what `lcm` answers: the value, or `ZeroDivisionError` -/
def c19EncLcm {α : Type} : Option Int → C19R (C19V α)
  | some v => .ok (.int v)
  | none => .raise "ZeroDivisionError"

section
variable {α : Type} (ops : C19Ops α) (ext : String → List (C19V α) → C19R (C19V α))

/-- **`gcd` as regenerated IS the model's `gcd`** -/
theorem c19_gcd_run (q r : Int) (n : Nat) (hn : q.natAbs + r.natAbs + 4 ≤ n) :
    c19RunFn ops c19Table ext (n + 1) "algorithm.gcd" [.int q, .int r] = .ok (.int (gcd q r)) := by
  have hf : c19FindFn c19Table "algorithm.gcd" = some c19Fn_algorithm_gcd :=
    c19Table_find 2 c19Fn_algorithm_gcd (by rfl)
  obtain ⟨n, rfl⟩ : ∃ n', n = n' + 1 := ⟨n - 1, by omega⟩
  have he := c19_extended_euclidean_run (.inl rfl) ops ext q r n (by omega)
  rw [c19RunFn_succ ops c19Table ext _ _ _ _ _ hf rfl]
  simp only [c19Fn_algorithm_gcd]
  c19_run [c19Call_extended_euclidean, he, c19Enc3]
  rfl

end

end PV.Algo
