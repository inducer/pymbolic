import PV.Proofs.GABits
import Mathlib.Algebra.Group.Basic
import Mathlib.Algebra.Ring.Int.Defs
/-
  C18 — proofs about the model `PV/Model/GA.lean`, part 2: metric weights (commutative monoids and
  rings from Mathlib) and blade products.
-/
namespace PV.GA

/-! ## `_shared_metric_coeff` is the product of the metric entries over the set bits -/

/-- `∏ {g (i + k) | bit k of s is set}`, by binary recursion on `s` -/
def prodFrom {R : Type} [Mul R] [OfNat R 1] (g : Nat → R) : Nat → Nat → R
  | _, 0 => 1
  | i, s+1 => (if (s+1) % 2 = 1 then g i else 1) * prodFrom g (i + 1) ((s+1) / 2)
decreasing_by omega

/-- `∏ {g k | bit k of s is set}` -/
def prodBits {R : Type} [Mul R] [OfNat R 1] (g : Nat → R) (s : Nat) : R := prodFrom g 0 s

section Monoid
variable {R : Type} [CommMonoid R] (g : Nat → R)

@[simp] theorem prodFrom_zero (i : Nat) : prodFrom g i 0 = 1 := by simp [prodFrom]

theorem prodFrom_eq (i s : Nat) :
    prodFrom g i s = (if s % 2 = 1 then g i else 1) * prodFrom g (i + 1) (s / 2) := by
  cases s with
  | zero => simp
  | succ k => rw [prodFrom]

theorem smcLoop_eq : ∀ (fuel t idx : Nat) (result : R), t < 2 ^ fuel →
    smcLoop g fuel (t <<< idx) idx result = result * prodFrom g idx t := by
  intro fuel
  induction fuel with
  | zero =>
    intro t idx result ht
    have : t = 0 := by simpa using ht
    subst this; simp [smcLoop]
  | succ n ih =>
    intro t idx result ht
    rw [smcLoop]
    by_cases h0 : t = 0
    · subst h0; simp
    · have hne : t <<< idx ≠ 0 := by rw [Ne, Nat.shiftLeft_eq_zero_iff]; exact h0
      simp only [hne, ↓reduceIte]
      have hlt : t / 2 < 2 ^ n := by rw [Nat.pow_succ] at ht; omega
      rw [shl_and_one_shl, prodFrom_eq g idx t]
      rcases Nat.mod_two_eq_zero_or_one t with h2 | h2
      · have hz : ¬ ((0 : Nat) <<< idx ≠ 0) := by simp
        rw [h2]
        simp only [hz, ↓reduceIte, Nat.zero_ne_one, one_mul]
        rw [shl_eq_half_shl_succ h2]
        exact ih (t / 2) (idx + 1) result hlt
      · have hz : (1 : Nat) <<< idx ≠ 0 := by rw [Ne, Nat.shiftLeft_eq_zero_iff]; omega
        rw [h2]
        simp only [hz, ↓reduceIte, ne_eq, not_false_eq_true]
        rw [shl_xor_one_shl h2, ih (t / 2) (idx + 1) (result * g idx) hlt, mul_assoc]

/-- `_shared_metric_coeff(shared_bits, space)` is the product of `g i` over the set bits `i` of
    `shared_bits` (in particular the fuel of the model never runs out) -/
theorem sharedMetricCoeff_eq_prodBits (s : Nat) : sharedMetricCoeff g s = prodBits g s := by
  unfold sharedMetricCoeff prodBits
  have := smcLoop_eq g (s.log2 + 1) s 0 1 Nat.lt_log2_self
  simpa using this

theorem wGeometric_eq_prodBits (a b : Nat) : wGeometric g a b = prodBits g (a &&& b) := by
  unfold wGeometric
  by_cases h : a &&& b = 0
  · simp [h, prodBits]
  · simp [h, sharedMetricCoeff_eq_prodBits]

/-- metric cocycle on the clean product, at every starting index (induction on a bound `n` for
`a + b + c`: all three are halved at once) -/
theorem prodFrom_cocycle : ∀ (n i a b c : Nat), a + b + c ≤ n →
    prodFrom g i (a &&& b) * prodFrom g i ((a ^^^ b) &&& c)
      = prodFrom g i (b &&& c) * prodFrom g i (a &&& (b ^^^ c)) := by
  intro n
  induction n using Nat.strongRecOn with
  | _ n ih =>
    intro i a b c hn
    by_cases h0 : a + b + c = 0
    · have ha : a = 0 := by omega
      have hb : b = 0 := by omega
      have hc : c = 0 := by omega
      subst ha hb hc; simp
    · have ih' := ih (a / 2 + b / 2 + c / 2) (by omega) (i + 1) (a / 2) (b / 2) (c / 2)
        (Nat.le_refl _)
      rw [prodFrom_eq g i (a &&& b), prodFrom_eq g i ((a ^^^ b) &&& c),
        prodFrom_eq g i (b &&& c), prodFrom_eq g i (a &&& (b ^^^ c))]
      simp only [and_div2, xor_div2, and_mod2, xor_mod2]
      rw [mul_mul_mul_comm, ih', mul_mul_mul_comm _ (prodFrom g (i + 1) (b / 2 &&& c / 2))]
      congr 1
      rcases Nat.mod_two_eq_zero_or_one a with h1 | h1 <;>
      rcases Nat.mod_two_eq_zero_or_one b with h2 | h2 <;>
      rcases Nat.mod_two_eq_zero_or_one c with h3 | h3 <;>
      simp [h1, h2, h3]

/-- (d) metric-weight cocycle of the geometric product, clean form -/
theorem prodBits_cocycle (a b c : Nat) :
    prodBits g (a &&& b) * prodBits g ((a ^^^ b) &&& c)
      = prodBits g (b &&& c) * prodBits g (a &&& (b ^^^ c)) :=
  prodFrom_cocycle g _ 0 a b c (Nat.le_refl _)

/-- (d) metric-weight cocycle of the geometric product, for the weights as coded -/
theorem wGeometric_cocycle (a b c : Nat) :
    wGeometric g a b * wGeometric g (a ^^^ b) c
      = wGeometric g b c * wGeometric g a (b ^^^ c) := by
  simp only [wGeometric_eq_prodBits]; exact prodBits_cocycle g a b c

theorem wGeometric_comm (a b : Nat) : wGeometric g a b = wGeometric g b a := by
  simp only [wGeometric_eq_prodBits, Nat.and_comm]

theorem prodFrom_two_pow : ∀ (k i : Nat), prodFrom g i (2 ^ k) = g (i + k) := by
  intro k
  induction k with
  | zero => intro i; rw [prodFrom_eq]; simp
  | succ k ih =>
    intro i
    rw [prodFrom_eq]
    have h1 : 2 ^ (k + 1) % 2 = 0 := by rw [Nat.pow_succ]; omega
    have h2 : 2 ^ (k + 1) / 2 = 2 ^ k := by rw [Nat.pow_succ]; omega
    rw [h1, h2, ih]
    simp; congr 1; omega

/-- (e) `e_i e_i = g i`: weight part -/
theorem wGeometric_basis_self (i : Nat) : wGeometric g (2 ^ i) (2 ^ i) = g i := by
  rw [wGeometric_eq_prodBits, Nat.and_self, prodBits, prodFrom_two_pow]; simp

/-- (e) `e_i e_j` for `i ≠ j` has weight 1 -/
theorem wGeometric_basis_ne {i j : Nat} (h : i ≠ j) : wGeometric g (2 ^ i) (2 ^ j) = 1 := by
  rw [wGeometric_eq_prodBits, two_pow_and_two_pow_ne h, prodBits, prodFrom_zero]

end Monoid

/-! ## the full blade cocycle -/

section Ring
variable {R : Type} [CommRing R] (g : Nat → R)

/-- the coefficient of the blade product `e_a e_b = bladeCoeff g a b • e_(a ⊕ b)` -/
def bladeCoeff (a b : Nat) : R := wGeometric g a b * ((reorderSign a b : Int) : R)

/-- (c)+(d) associativity of the geometric product on basis blades:
    `(e_a e_b) e_c = e_a (e_b e_c)` -/
theorem blade_cocycle (a b c : Nat) :
    ((reorderSign a b : Int) : R) * ((reorderSign (a ^^^ b) c : Int) : R)
        * (wGeometric g a b * wGeometric g (a ^^^ b) c)
      = ((reorderSign b c : Int) : R) * ((reorderSign a (b ^^^ c) : Int) : R)
        * (wGeometric g b c * wGeometric g a (b ^^^ c)) := by
  rw [wGeometric_cocycle, ← Int.cast_mul, ← Int.cast_mul, sign_cocycle]

end Ring

/-- `canonical_reordering_sign` as a ring element is the cast of the integer sign -/
theorem reorderSignR_eq_cast {R : Type} [CommRing R] (a b : Nat) :
    (reorderSignR a b : R) = ((reorderSign a b : Int) : R) := by
  unfold reorderSignR reorderSign
  split <;> simp

theorem reorderSignR_int (a b : Nat) : (reorderSignR a b : Int) = reorderSign a b := rfl

theorem reorderSignR_mul_self {R : Type} [CommRing R] (a b : Nat) :
    (reorderSignR a b : R) * reorderSignR a b = 1 := by
  unfold reorderSignR
  split <;> simp

/-- `blade_cocycle` in the shape `_generic_product` multiplies (`weight * sign`), over any
    commutative ring -/
theorem blade_cocycle_R {R : Type} [CommRing R] (g : Nat → R) (a b c : Nat) :
    (wGeometric g a b * reorderSignR a b) * (wGeometric g (a ^^^ b) c * reorderSignR (a ^^^ b) c)
      = (wGeometric g b c * reorderSignR b c)
        * (wGeometric g a (b ^^^ c) * reorderSignR a (b ^^^ c)) := by
  simp only [reorderSignR_eq_cast]
  rw [mul_mul_mul_comm, wGeometric_cocycle, ← Int.cast_mul, sign_cocycle, Int.cast_mul,
    mul_mul_mul_comm]

/-- integer instance of `blade_cocycle`, in the shape `_generic_product` multiplies
    (`weight * sign`) -/
theorem blade_cocycle_int (g : Nat → Int) (a b c : Nat) :
    (wGeometric g a b * reorderSign a b) * (wGeometric g (a ^^^ b) c * reorderSign (a ^^^ b) c)
      = (wGeometric g b c * reorderSign b c) * (wGeometric g a (b ^^^ c) * reorderSign a (b ^^^ c)) := by
  rw [mul_mul_mul_comm, wGeometric_cocycle, sign_cocycle, mul_mul_mul_comm]

/-! ## (f) the other five products are grade parts of the geometric product

These hold for any coefficient type with `*`, `0`, `1` — no algebraic laws are needed. -/

section GradeParts
variable {R : Type} [Mul R] [OfNat R 0] [OfNat R 1] (g : Nat → R)

omit [OfNat R 0] in
theorem sharedMetricCoeff_zero : sharedMetricCoeff g 0 = 1 := by
  simp [sharedMetricCoeff, smcLoop]

omit [OfNat R 0] in
theorem wGeometric_eq_smc (a b : Nat) : wGeometric g a b = sharedMetricCoeff g (a &&& b) := by
  unfold wGeometric
  by_cases h : a &&& b = 0
  · simp [h, sharedMetricCoeff_zero]
  · simp [h]

theorem wOuter_eq_grade_part (a b : Nat) :
    wOuter g a b =
      if bitCount (a ^^^ b) = bitCount a + bitCount b then wGeometric g a b else 0 := by
  simp only [bitCount_eq_popcount, ← disjoint_iff_grade]
  unfold wOuter
  by_cases h : a &&& b = 0
  · simp [h, wGeometric]
  · simp [h]

theorem wLeftContraction_eq_grade_part (a b : Nat) :
    wLeftContraction g a b =
      if bitCount a ≤ bitCount b ∧ bitCount (a ^^^ b) = bitCount b - bitCount a
      then wGeometric g a b else 0 := by
  simp only [bitCount_eq_popcount, ← subset_iff_grade, wGeometric_eq_smc]
  rfl

theorem wRightContraction_eq_grade_part (a b : Nat) :
    wRightContraction g a b =
      if bitCount b ≤ bitCount a ∧ bitCount (a ^^^ b) = bitCount a - bitCount b
      then wGeometric g a b else 0 := by
  simp only [bitCount_eq_popcount, ← supset_iff_grade, wGeometric_eq_smc]
  rfl

theorem wInner_eq_grade_part (a b : Nat) :
    wInner g a b =
      if bitCount (a ^^^ b) = max (bitCount a - bitCount b) (bitCount b - bitCount a)
      then wGeometric g a b else 0 := by
  simp only [bitCount_eq_popcount, ← nested_iff_grade, wGeometric_eq_smc]
  rfl

theorem wScalar_eq_grade_part (a b : Nat) :
    wScalar g a b = if bitCount (a ^^^ b) = 0 then wGeometric g a b else 0 := by
  simp only [bitCount_eq_popcount, ← eq_iff_grade, wGeometric_eq_smc]
  unfold wScalar
  by_cases h : a = b
  · subst h; simp
  · simp [h]

end GradeParts

end PV.GA
