import PV.Proofs.CoeffTableColl
import PV.Proofs.Gauss
/-
  C15, T-gen tie, part 2: `gaussian_elimination` (pymbolic/algorithm.py) as read from the source —
  the `while` loop over columns, the pivot search `for k in range(i, m)`, the row exchange with its
  four `.copy()`s, the elimination loop with `lcm`, the two floor divisions and the row updates
  `u_fac*mat[u] - i_fac*mat[i]`, the `assert`, the gcd normalisation — run by the table interpreter
  IS `gaussElim` (PV/Model/Coeff.lean), for every integer system.
-/
namespace PV.Coeff
open PV

/-! ### the helpers `gcd`, `lcm`, `gcd_many` -/

def expGcdFn : C15Fn :=
  { name := "gcd", definedIn := "gcd", params := ["q", "r"], vararg := "",
    body := [.ret (.index (.call "extended_euclidean" [.var "q", .var "r"]) (.lit 0))] }

def expLcmFn : C15Fn :=
  { name := "lcm", definedIn := "lcm", params := ["q", "r"], vararg := "",
    body := [.ret (.bin .floordiv (.call "abs" [.bin .mul (.var "q") (.var "r")])
      (.call "gcd" [.var "q", .var "r"]))] }

def expGcdManyFn : C15Fn :=
  { name := "gcd_many", definedIn := "gcd_many", params := [], vararg := "args",
    body := [
      .ifThen (.cmp .eq (.call "len" [.var "args"]) (.lit 0)) [.ret (.lit 1)] [
        .ifThen (.cmp .eq (.call "len" [.var "args"]) (.lit 1)) [.ret (.index (.var "args") (.lit 0))] [
          .importName "functools" "reduce" "reduce",
          .ret (.reduce "gcd" (.var "args"))]]] }

theorem exp_fn_gcd : c15ExpTable.fn "gcd" = some expGcdFn := by rfl
theorem exp_fn_lcm : c15ExpTable.fn "lcm" = some expLcmFn := by rfl
theorem exp_fn_gcd_many : c15ExpTable.fn "gcd_many" = some expGcdManyFn := by rfl

theorem callFn_succ (T : C15Table) (base : C15Ctx) (fuel : Nat) (name : String) (args : List C15Val) :
    c15CallFn T base (fuel + 1) name args =
      match T.fn name with
      | Option.none => throw .stuck
      | some f =>
        match (if f.vararg = "" then c15BindParams f.params args []
          else if f.params = [] then some [(f.vararg, .list args)] else Option.none) with
        | Option.none => throw .stuck
        | some st =>
          c15Result (C15S.execL { base with callFn := c15CallFn T base fuel } f.body st) := by
  simp only [c15CallFn]
  rfl

theorem call_gcd (base : C15Ctx) (f : Nat) (q r : Int) :
    c15CallFn c15ExpTable base (f + 1) "gcd" [.int q, .int r] = .ok (.int (Algo.gcd q r)) := by
  rw [callFn_succ, exp_fn_gcd]
  have hq : c15Get "q" [("q", C15Val.int q), ("r", .int r)] = some (.int q) := rfl
  have hr : c15Get "r" [("q", C15Val.int q), ("r", .int r)] = some (.int r) := rfl
  show c15Result (C15S.execL _ expGcdFn.body [("q", .int q), ("r", .int r)]) = _
  simp only [expGcdFn, execL_single, exec_ret, eval_index, eval_call, evalL_cons, evalL_nil,
    eval_var _ _ _ _ hq, eval_var _ _ _ _ hr, eval_lit, bind, Except.bind, pure, Except.pure]
  rw [c15Builtin]
  rfl

theorem builtin_abs (ctx : C15Ctx) (st : C15Env) (n : Int) :
    c15Builtin ctx st "abs" [.int n] = .ok (.int n.natAbs) := by
  rw [c15Builtin]
  rfl

theorem builtin_gcd (ctx : C15Ctx) (st : C15Env) (args : List C15Val) :
    c15Builtin ctx st "gcd" args = ctx.callFn "gcd" args := by
  rw [c15Builtin] <;> intros <;> simp at *

theorem call_lcm (base : C15Ctx) (f : Nat) (q r : Int) :
    c15CallFn c15ExpTable base (f + 2) "lcm" [.int q, .int r] =
      match Algo.lcm q r with
      | some l => .ok (.int l)
      | none => .error .zeroDiv := by
  rw [show f + 2 = (f + 1) + 1 from rfl, callFn_succ, exp_fn_lcm]
  have hq : c15Get "q" [("q", C15Val.int q), ("r", .int r)] = some (.int q) := rfl
  have hr : c15Get "r" [("q", C15Val.int q), ("r", .int r)] = some (.int r) := rfl
  show c15Result (C15S.execL _ expLcmFn.body [("q", .int q), ("r", .int r)]) = _
  simp only [expLcmFn, execL_single, exec_ret, eval_bin, eval_call, evalL_cons, evalL_nil,
    eval_var _ _ _ _ hq, eval_var _ _ _ _ hr, bind, Except.bind, pure, Except.pure, c15Bin, c15IntOp,
    builtin_abs, builtin_gcd, call_gcd, Algo.lcm]
  by_cases h0 : Algo.gcd q r = 0
  · simp only [h0, if_true]
    rfl
  · simp only [h0, if_false]
    rfl

theorem reduce_gcd (ctx base : C15Ctx) (f : Nat) (hc : ctx.callFn = c15CallFn c15ExpTable base (f + 1)) :
    ∀ (rest : List Int) (a : Int),
      c15Reduce ctx "gcd" (.int a) (rest.map .int) = .ok (.int (rest.foldl Algo.gcd a))
  | [], a => rfl
  | b :: rest, a => by
    simp only [List.map_cons, c15Reduce, hc, call_gcd, bind, Except.bind, List.foldl_cons]
    exact reduce_gcd ctx base f hc rest (Algo.gcd a b)

theorem builtin_len_list (ctx : C15Ctx) (st : C15Env) (l : List C15Val) :
    c15Builtin ctx st "len" [.list l] = .ok (.int l.length) := by
  rw [c15Builtin]
  rfl

/-- `len(x) == k` for a list variable -/
theorem cond_len_eq (ctx : C15Ctx) (st : C15Env) (x : String) (l : List C15Val) (k : Int)
    (hx : c15Get x st = some (.list l)) :
    c15Cond ctx (.cmp .eq (.call "len" [.var x]) (.lit k)) st = .ok ((l.length : Int) == k) := by
  simp only [c15Cond, eval_cmp, eval_call, evalL_cons, evalL_nil, eval_var ctx _ _ _ hx, eval_lit, bind,
    Except.bind, pure, Except.pure, builtin_len_list, c15Cmp, c15ValEq, c15Truthy]

theorem call_gcd_many (base : C15Ctx) (f : Nat) (l : List Int) :
    c15CallFn c15ExpTable base (f + 2) "gcd_many" (l.map .int) = .ok (.int (gcdMany l)) := by
  rw [show f + 2 = (f + 1) + 1 from rfl, callFn_succ, exp_fn_gcd_many]
  match l with
  | [] => rfl
  | [a] => rfl
  | a :: b :: rest =>
    have hargs : c15Get "args" [("args", C15Val.list (.int a :: .int b :: rest.map .int))] =
        some (.list (.int a :: .int b :: rest.map .int)) := rfl
    have hr := reduce_gcd
      { base with callFn := c15CallFn c15ExpTable base (f + 1) } base f rfl (b :: rest) a
    rw [List.map_cons] at hr
    show c15Result (C15S.execL _ expGcdManyFn.body
      [("args", .list (.int a :: .int b :: rest.map .int))]) = _
    simp only [expGcdManyFn]
    -- neither `len(args) == 0` nor `len(args) == 1`
    rw [execL_single, exec_ifThen, cond_len_eq _ _ "args" _ 0 hargs,
      show (((C15Val.int a :: .int b :: rest.map C15Val.int).length : Int) == 0) = false from rfl]
    simp only []
    rw [execL_single, exec_ifThen, cond_len_eq _ _ "args" _ 1 hargs,
      show (((C15Val.int a :: .int b :: rest.map C15Val.int).length : Int) == 1) = false from rfl]
    simp only [execL_cons, C15S.exec, C15E.eval, hargs, bind, Except.bind, pure,
      Except.pure, hr]
    rfl

/-! ### the state of `gaussian_elimination` -/

/-- the variables of `gaussian_elimination` that carry the model's state: the two arrays (as the
list of augmented rows `s`), the shape and the two counters -/
structure GSt (st : C15Env) (m n w i j : Nat) (s : List ARow) : Prop where
  hmat : c15Get "mat" st = some (.arr n (s.map (·.1)))
  hrhs : c15Get "rhs" st = some (.arr w (s.map (·.2)))
  hm : c15Get "m" st = some (.int m)
  hn : c15Get "n" st = some (.int n)
  hi : c15Get "i" st = some (.int i)
  hj : c15Get "j" st = some (.int j)
  hlen : s.length = m

def gCore : List String := ["mat", "rhs", "m", "n", "i", "j"]

theorem GSt.set {st : C15Env} {m n w i j : Nat} {s : List ARow} (h : GSt st m n w i j s)
    (x : String) (v : C15Val) (hx : x ∉ gCore) : GSt (c15Set x v st) m n w i j s := by
  have hne : ∀ y ∈ gCore, x ≠ y := fun y hy he => hx (he ▸ hy)
  exact ⟨(c15Get_set_ne _ (hne _ (by decide +kernel)) _).trans h.hmat,
    (c15Get_set_ne _ (hne _ (by decide +kernel)) _).trans h.hrhs,
    (c15Get_set_ne _ (hne _ (by decide +kernel)) _).trans h.hm,
    (c15Get_set_ne _ (hne _ (by decide +kernel)) _).trans h.hn,
    (c15Get_set_ne _ (hne _ (by decide +kernel)) _).trans h.hi,
    (c15Get_set_ne _ (hne _ (by decide +kernel)) _).trans h.hj, h.hlen⟩

/-- new contents of the two arrays -/
theorem GSt.arrays {st st' : C15Env} {m n w i j : Nat} {s s' : List ARow} (h : GSt st m n w i j s)
    (hf : Frame ["mat", "rhs"] st st') (hmat : c15Get "mat" st' = some (.arr n (s'.map (·.1))))
    (hrhs : c15Get "rhs" st' = some (.arr w (s'.map (·.2)))) (hl : s'.length = m) :
    GSt st' m n w i j s' :=
  ⟨hmat, hrhs, (hf _ (by decide +kernel)).trans h.hm, (hf _ (by decide +kernel)).trans h.hn,
    (hf _ (by decide +kernel)).trans h.hi, (hf _ (by decide +kernel)).trans h.hj, hl⟩

theorem GSt.set_i {st : C15Env} {m n w i j : Nat} {s : List ARow} (h : GSt st m n w i j s)
    (i' : Nat) : GSt (c15Set "i" (.int i') st) m n w i' j s :=
  ⟨by simp [c15Get_set, h.hmat], by simp [c15Get_set, h.hrhs],
    by simp [c15Get_set, h.hm], by simp [c15Get_set, h.hn],
    c15Get_set_eq _ _ _, by simp [c15Get_set, h.hj], h.hlen⟩

theorem GSt.set_j {st : C15Env} {m n w i j : Nat} {s : List ARow} (h : GSt st m n w i j s)
    (j' : Nat) : GSt (c15Set "j" (.int j') st) m n w i j' s :=
  ⟨by simp [c15Get_set, h.hmat], by simp [c15Get_set, h.hrhs],
    by simp [c15Get_set, h.hm], by simp [c15Get_set, h.hn],
    by simp [c15Get_set, h.hi], c15Get_set_eq _ _ _, h.hlen⟩

/-- `mat[k, j]` -/
theorem eval_entry (ctx : C15Ctx) (st : C15Env) (x kx jx : String) (cols : Nat) (rows : List Row)
    (k j : Nat) (r : Row) (hx : c15Get x st = some (.arr cols rows)) (hk : c15Get kx st = some (.int k))
    (hj : c15Get jx st = some (.int j)) (hr : rows[k]? = some r) (hjc : j < cols) :
    (C15E.index2 (.var x) (.var kx) (.var jx)).eval ctx st = .ok (.int (rowGet r j)) := by
  have hc : c15ColIdx? cols (j : Int) = some j := by
    rw [c15ColIdx?, if_neg (Int.not_lt.2 (Int.natCast_nonneg j)), Int.toNat_natCast, if_pos hjc]
  simp only [C15E.eval, hx, hk, hj, bind, Except.bind, C15Val.toInt?, if_neg (Int.not_lt.2 (Int.natCast_nonneg k)), Int.toNat_natCast, hr, hc,
    pure, Except.pure]

/-- `X[k]` for an array variable and a variable that holds a row index: a view of the row -/
theorem eval_rowRef (ctx : C15Ctx) (st : C15Env) (x kx : String) (c : Nat) (rows : List Row) (k : Nat)
    (hx : c15Get x st = some (.arr c rows)) (hk : c15Get kx st = some (.int k))
    (hkl : k < rows.length) : (C15E.index (.var x) (.var kx)).eval ctx st = .ok (.rowRef x k) := by
  simp only [eval_index, eval_var ctx _ _ _ hx, eval_var ctx _ _ _ hk, bind, Except.bind,
    if_neg (Int.not_lt.2 (Int.natCast_nonneg k)), Int.toNat_natCast, if_pos hkl, pure, Except.pure]

/-! ### the pivot search -/

def expPivotBody : List C15S := [
  .ifThen (.index2 (.var "mat") (.var "k") (.var "j"))
    [.assign (.name "nonz_row") (.var "k"), .break_] []]

def optIdx : Option Nat → C15Val
  | none => .none
  | some k => .int k

/-- the rows before the start row `i` play no part in the search -/
theorem findPivot_drop (j i : Nat) (t : List ARow) (u : Nat) (hu : u ≤ i) :
    findPivot j i u t = findPivot j i i (t.drop (i - u)) := by
  induction t generalizing u with
  | nil => rw [List.drop_nil]; rfl
  | cons r t ih =>
    rcases Nat.eq_or_lt_of_le hu with rfl | hlt
    · rw [Nat.sub_self]; rfl
    · rw [findPivot, if_neg (fun h => Nat.not_le_of_lt hlt h.1), ih (u + 1) hlt,
        show i - u = (i - (u + 1)) + 1 by omega]
      rfl

/-- the loop `for k in range(a, m)` from a row `a ≥ i` on: `findPivot` on the remaining rows -/
theorem pivot_loop (ctx : C15Ctx) (m n w i j : Nat) (s : List ARow) (hj : j < n) (c a : Nat)
    (st : C15Env) (hia : i ≤ a) (ha : a + c = m) (hg : GSt st m n w i j s)
    (hn : c15Get "nonz_row" st = some .none) :
    ∃ st', c15For (forStep ctx (.name "k") expPivotBody)
        ((List.range' a c).map fun (k : Nat) => C15Val.int (k : Int)) st = .ok st' ∧
      GSt st' m n w i j s ∧ c15Get "nonz_row" st' = some (optIdx (findPivot j i a (s.drop a))) := by
  induction c generalizing a st with
  | zero =>
    rw [List.drop_eq_nil_of_le (by rw [hg.hlen, ← ha]; exact Nat.le_refl _)]
    exact ⟨st, rfl, hg, hn⟩
  | succ c ih =>
    have hal : a < s.length := by rw [hg.hlen]; omega
    have hr : s[a]? = some s[a] := List.getElem?_eq_getElem hal
    have hg1 : GSt (c15Set "k" (.int a) st) m n w i j s := hg.set "k" _ (by decide +kernel)
    have hent := eval_entry ctx (c15Set "k" (.int a) st) "mat" "k" "j" n (s.map (·.1)) a j s[a].1
      hg1.hmat (c15Get_set_eq _ _ _) hg1.hj (by rw [List.getElem?_map, hr]; rfl) hj
    have hstep : forStep ctx (.name "k") expPivotBody (.int (a : Int)) st =
        if rowGet s[a].1 j = 0 then .ok (c15Set "k" (.int a) st)
        else .brk (c15Set "nonz_row" (.int a) (c15Set "k" (.int a) st)) := by
      simp only [forStep, c15Bind, expPivotBody, execL_single, exec_ifThen, c15Cond, hent, bind,
        Except.bind, c15Truthy, pure, Except.pure]
      by_cases hz : rowGet s[a].1 j = 0
      · rw [if_pos hz, hz]
        rfl
      · rw [if_neg hz, bne_iff_ne.2 hz,
          execL_assign ctx _ _ _ _ _ (eval_var ctx _ _ _ (c15Get_set_eq _ _ _))]
        rfl
    rw [List.range'_succ, List.map_cons, c15For, hstep, List.drop_eq_getElem_cons hal, findPivot]
    by_cases hz : rowGet s[a].1 j = 0
    · -- `mat[k, j]` is zero: on to the next row
      obtain ⟨st', h1, h2, h3⟩ := ih (a + 1) (c15Set "k" (.int a) st)
        (Nat.le_succ_of_le hia) (by omega) hg1 (by rw [c15Get_set_ne _ (by simp), hn])
      rw [if_pos hz, if_neg (fun h => h.2 hz)]
      exact ⟨st', h1, h2, h3⟩
    · -- `nonz_row = k; break`
      rw [if_neg hz, if_pos ⟨hia, hz⟩]
      exact ⟨_, rfl, hg1.set _ _ (by decide +kernel), c15Get_set_eq _ _ _⟩

/-- `range(lo, hi)` on natural numbers -/
theorem builtin_range2 (ctx : C15Ctx) (st : C15Env) (lo hi : Nat) :
    c15Builtin ctx st "range" [.int lo, .int hi] =
      .ok (.list ((List.range' lo (hi - lo)).map fun (k : Nat) => C15Val.int (k : Int))) := by
  rw [c15Builtin]
  rfl

theorem builtin_range1 (ctx : C15Ctx) (st : C15Env) (hi : Nat) :
    c15Builtin ctx st "range" [.int hi] =
      .ok (.list ((List.range' 0 hi).map fun (k : Nat) => C15Val.int (k : Int))) := by
  rw [c15Builtin]
  rfl

theorem eval_range2 (ctx : C15Ctx) (st : C15Env) (a b : C15E) (lo hi : Nat)
    (ha : a.eval ctx st = .ok (.int lo)) (hb : b.eval ctx st = .ok (.int hi)) :
    (C15E.call "range" [a, b]).eval ctx st =
      .ok (.list ((List.range' lo (hi - lo)).map fun (k : Nat) => C15Val.int (k : Int))) := by
  simp only [eval_call, evalL_cons, evalL_nil, ha, hb, bind, Except.bind, pure, Except.pure,
    builtin_range2]

/-- the statements `nonz_row = None; for k in range(i, m): …` -/
theorem exec_pivot (ctx : C15Ctx) (rest : List C15S) (st : C15Env) (m n w i j : Nat) (s : List ARow)
    (hg : GSt st m n w i j s) (hi : i ≤ m) (hj : j < n) :
    ∃ st', C15S.execL ctx (.assign (.name "nonz_row") .pyNone ::
        .forIn (.name "k") (.call "range" [.var "i", .var "m"]) expPivotBody :: rest) st =
          C15S.execL ctx rest st' ∧ GSt st' m n w i j s ∧
      c15Get "nonz_row" st' = some (optIdx (findPivot j i 0 s)) := by
  have hg1 : GSt (c15Set "nonz_row" .none st) m n w i j s := hg.set _ _ (by decide +kernel)
  obtain ⟨st', h1, h2, h3⟩ := pivot_loop ctx m n w i j s hj (m - i) i _ (Nat.le_refl i)
    (Nat.add_sub_cancel' hi) hg1 (c15Get_set_eq _ _ _)
  refine ⟨st', ?_, h2, ?_⟩
  · rw [execL_assign ctx _ _ _ _ .none rfl]
    apply execL_cons_ok
    rw [exec_forIn, eval_range2 ctx _ _ _ i m (eval_var ctx _ _ _ hg1.hi) (eval_var ctx _ _ _ hg1.hm)]
    simp only [c15Items, h1]
  · rw [h3, findPivot_drop j i s 0 (Nat.zero_le i), Nat.sub_zero]

/-! ### the row exchange -/

/-- `X[i], X[nonz_row] = (X[nonz_row].copy(), X[i].copy())` -/
def expSwap (x : String) : C15S :=
  .setSubs [x, x] [.var "i", .var "nonz_row"]
    [.meth (.index (.var x) (.var "nonz_row")) "copy", .meth (.index (.var x) (.var "i")) "copy"]

/-- `X[k].copy()`: the row as it is now -/
theorem eval_copy (ctx : C15Ctx) (st : C15Env) (x kx : String) (c : Nat) (rows : List Row) (k : Nat)
    (r : Row) (hx : c15Get x st = some (.arr c rows)) (hk : c15Get kx st = some (.int k))
    (hr : rows[k]? = some r) :
    (C15E.meth (.index (.var x) (.var kx)) "copy").eval ctx st = .ok (.row r) := by
  simp only [eval_meth, eval_rowRef ctx st x kx c rows k hx hk (List.getElem?_eq_some_iff.1 hr).1,
    bind, Except.bind, c15Deref, hx, hr, pure, Except.pure]

theorem exec_swap (ctx : C15Ctx) (st : C15Env) (x : String) (c : Nat) (rows : List Row) (i k : Nat)
    (ri rk : Row) (hx : c15Get x st = some (.arr c rows)) (hi : c15Get "i" st = some (.int i))
    (hk : c15Get "nonz_row" st = some (.int k)) (hri : rows[i]? = some ri) (hrk : rows[k]? = some rk) :
    C15S.exec ctx (expSwap x) st =
      .ok (c15Set x (.arr c ((rows.set i rk).set k ri)) (c15Set x (.arr c (rows.set i rk)) st)) := by
  have hil : i < rows.length := (List.getElem?_eq_some_iff.1 hri).1
  have hkl : k < (rows.set i rk).length := by
    rw [List.length_set]
    exact (List.getElem?_eq_some_iff.1 hrk).1
  simp only [expSwap, C15S.exec, evalL_cons, evalL_nil, eval_copy ctx st x _ c rows _ _ hx hk hrk,
    eval_copy ctx st x _ c rows _ _ hx hi hri, eval_var ctx _ _ _ hi, eval_var ctx _ _ _ hk, bind,
    Except.bind, pure, Except.pure, c15StoreSubs, hx, c15Deref, c15SetRow,
    if_neg (Int.not_lt.2 (Int.natCast_nonneg _)), Int.toNat_natCast, if_pos hil, c15Get_set_eq,
    if_pos hkl, c15OfR]

theorem swapRows_map {α : Type} (f : ARow → α) (s : List ARow) (i k : Nat) (a b : ARow)
    (ha : s[i]? = some a) (hb : s[k]? = some b) :
    (swapRows s i k).map f = ((s.map f).set i (f b)).set k (f a) := by
  simp [swapRows, ha, hb, List.map_set]

theorem swapRows_length (s : List ARow) (i k : Nat) : (swapRows s i k).length = s.length := by
  unfold swapRows
  cases s[i]? <;> cases s[k]? <;> simp

/-- the two exchange statements -/
theorem exec_swaps (ctx : C15Ctx) (rest : List C15S) (st : C15Env) (m n w i j k : Nat) (s : List ARow)
    (hg : GSt st m n w i j s) (hk : c15Get "nonz_row" st = some (.int k)) (hi : i < m) (hkm : k < m) :
    ∃ st', C15S.execL ctx (expSwap "mat" :: expSwap "rhs" :: rest) st = C15S.execL ctx rest st' ∧
      GSt st' m n w i j (swapRows s i k) ∧ c15Get "nonz_row" st' = some (.int k) := by
  have hil : i < s.length := by rw [hg.hlen]; exact hi
  have hkl : k < s.length := by rw [hg.hlen]; exact hkm
  have ha : s[i]? = some s[i] := List.getElem?_eq_getElem hil
  have hb : s[k]? = some s[k] := List.getElem?_eq_getElem hkl
  have e1 := exec_swap ctx st "mat" n (s.map (·.1)) i k s[i].1 s[k].1 hg.hmat hg.hi hk
    (by rw [List.getElem?_map, ha]; rfl) (by rw [List.getElem?_map, hb]; rfl)
  rw [← swapRows_map (·.1) s i k _ _ ha hb] at e1
  rw [execL_cons_ok ctx _ _ _ _ e1]
  have e2 := exec_swap ctx (c15Set "mat" (.arr n ((swapRows s i k).map (·.1)))
      (c15Set "mat" (.arr n ((s.map (·.1)).set i s[k].1)) st)) "rhs" w (s.map (·.2)) i k s[i].2 s[k].2
    (by simp [c15Get_set, hg.hrhs])
    (by simp [c15Get_set, hg.hi])
    (by simp [c15Get_set, hk])
    (by rw [List.getElem?_map, ha]; rfl) (by rw [List.getElem?_map, hb]; rfl)
  rw [← swapRows_map (·.2) s i k _ _ ha hb] at e2
  rw [execL_cons_ok ctx _ _ _ _ e2]
  refine ⟨_, rfl, ?_, ?_⟩
  · exact hg.arrays
      (((((Frame.refl _ _).set _ (by simp)).set _ (by simp)).set _ (by simp)).set _ (by simp))
      (by simp [c15Get_set])
      (c15Get_set_eq _ _ _) ((swapRows_length s i k).trans hg.hlen)
  · simp [c15Get_set, hk]

/-! ### the elimination loop -/

/-- `X[u] = u_fac*X[u] - i_fac*X[i]` -/
def expRowUpdate (x : String) : C15S :=
  .setSubs [x] [.var "u"]
    [.bin .sub (.bin .mul (.var "u_fac") (.index (.var x) (.var "u")))
      (.bin .mul (.var "i_fac") (.index (.var x) (.var "i")))]

def expElimBody : List C15S := [
  .ifThen (.cmp .eq (.var "u") (.var "i")) [.continue_] [],
  .ifThen (.not_ (.index2 (.var "mat") (.var "u") (.var "j"))) [.continue_] [],
  .assign (.name "ell") (.call "lcm"
    [.index2 (.var "mat") (.var "u") (.var "j"), .index2 (.var "mat") (.var "i") (.var "j")]),
  .assign (.name "u_fac") (.bin .floordiv (.var "ell") (.index2 (.var "mat") (.var "u") (.var "j"))),
  .assign (.name "i_fac") (.bin .floordiv (.var "ell") (.index2 (.var "mat") (.var "i") (.var "j"))),
  expRowUpdate "mat",
  expRowUpdate "rhs",
  .assert_ (.cmp .eq (.index2 (.var "mat") (.var "u") (.var "j")) (.lit 0))]

theorem comb_eq (uf pf : Int) (a b : Row) :
    List.zipWith (· - ·) (a.map (uf * ·)) (b.map (pf * ·)) = comb uf pf a b := by
  simp [comb, List.zipWith_map]

theorem exec_rowUpdate (ctx : C15Ctx) (st : C15Env) (x : String) (c : Nat) (rows : List Row)
    (u i : Nat) (uf pf : Int) (ru ri : Row) (hx : c15Get x st = some (.arr c rows))
    (hu : c15Get "u" st = some (.int u)) (hi : c15Get "i" st = some (.int i))
    (huf : c15Get "u_fac" st = some (.int uf)) (hpf : c15Get "i_fac" st = some (.int pf))
    (hru : rows[u]? = some ru) (hri : rows[i]? = some ri) :
    C15S.exec ctx (expRowUpdate x) st = .ok (c15Set x (.arr c (rows.set u (comb uf pf ru ri))) st) := by
  have hul : u < rows.length := (List.getElem?_eq_some_iff.1 hru).1
  have hil : i < rows.length := (List.getElem?_eq_some_iff.1 hri).1
  simp only [expRowUpdate, C15S.exec, evalL_cons, evalL_nil, eval_bin, eval_var ctx _ _ _ huf,
    eval_var ctx _ _ _ hpf, eval_var ctx _ _ _ hu, eval_rowRef ctx st x "u" c rows u hx hu hul,
    eval_rowRef ctx st x "i" c rows i hx hi hil, bind, Except.bind, pure, Except.pure, c15Bin, c15Deref,
    hx, hru, hri, c15StoreSubs, c15SetRow, if_neg (Int.not_lt.2 (Int.natCast_nonneg _)),
    Int.toNat_natCast, if_pos hul, comb_eq, c15OfR]

/-- the two update statements: row `u` of the system becomes `comb uf pf r p` -/
theorem exec_rowUpdates (ctx : C15Ctx) (rest : List C15S) (st : C15Env) (m n w i j u : Nat)
    (s : List ARow) (r p : ARow) (uf pf : Int) (hg : GSt st m n w i j s)
    (hu : c15Get "u" st = some (.int u)) (huf : c15Get "u_fac" st = some (.int uf))
    (hpf : c15Get "i_fac" st = some (.int pf)) (hr : s[u]? = some r) (hp : s[i]? = some p) :
    ∃ st', C15S.execL ctx (expRowUpdate "mat" :: expRowUpdate "rhs" :: rest) st =
        C15S.execL ctx rest st' ∧
      GSt st' m n w i j (s.set u (comb uf pf r.1 p.1, comb uf pf r.2 p.2)) ∧
      c15Get "u" st' = some (.int u) := by
  have e1 := exec_rowUpdate ctx st "mat" n (s.map (·.1)) u i uf pf r.1 p.1 hg.hmat hu hg.hi huf hpf
    (by rw [List.getElem?_map, hr]; rfl) (by rw [List.getElem?_map, hp]; rfl)
  have e2 := exec_rowUpdate ctx (c15Set "mat" (.arr n ((s.map (·.1)).set u (comb uf pf r.1 p.1))) st)
    "rhs" w (s.map (·.2)) u i uf pf r.2 p.2 (by simp [c15Get_set, hg.hrhs])
    (by simp [c15Get_set, hu]) (by simp [c15Get_set, hg.hi])
    (by simp [c15Get_set, huf]) (by simp [c15Get_set, hpf])
    (by rw [List.getElem?_map, hr]; rfl) (by rw [List.getElem?_map, hp]; rfl)
  refine ⟨_, by rw [execL_cons_ok ctx _ _ _ _ e1, execL_cons_ok ctx _ _ _ _ e2], ?_, ?_⟩
  · exact hg.arrays (((Frame.refl _ _).set _ (by simp)).set _ (by simp))
      (by rw [c15Get_set_ne _ (by simp), c15Get_set_eq, List.map_set])
      (by rw [c15Get_set_eq, List.map_set]) ((List.length_set ..).trans hg.hlen)
  · simp [c15Get_set, hu]

theorem lcm_facs {a b l : Int} (hl : Algo.lcm a b = some l) :
    Int.fdiv l a * a = l ∧ Int.fdiv l b * b = l := by
  have hn := Algo.lcm_natAbs a b l hl
  have hda : a ∣ l := by
    rw [← Int.natAbs_dvd_natAbs, hn]
    exact Nat.dvd_lcm_left _ _
  have hdb : b ∣ l := by
    rw [← Int.natAbs_dvd_natAbs, hn]
    exact Nat.dvd_lcm_right _ _
  exact ⟨Int.fdiv_mul_cancel hda, Int.fdiv_mul_cancel hdb⟩

theorem rowGet_comb_zero (uf pf : Int) (a b : Row) (j : Nat)
    (h : uf * rowGet a j = pf * rowGet b j) : rowGet (comb uf pf a b) j = 0 := by
  unfold rowGet comb at *
  rw [List.getD_eq_getElem?_getD, List.getElem?_zipWith]
  rw [List.getD_eq_getElem?_getD, List.getD_eq_getElem?_getD] at h
  revert h
  cases a[j]? <;> cases b[j]? <;> intro h <;> first | rfl | exact sub_eq_zero.2 h

/-- one step of `for u in range(0, m)` on the model's state -/
def elimAt (j i : Nat) (p : ARow) (u : Nat) (s : List ARow) : List ARow :=
  if u = i then s else match s[u]? with
    | some r => s.set u (elimRow j p r)
    | none => s

theorem elimAt_length (j i : Nat) (p : ARow) (u : Nat) (s : List ARow) :
    (elimAt j i p u s).length = s.length := by
  unfold elimAt
  by_cases h : u = i
  · simp [h]
  · simp only [h, if_false]; cases s[u]? <;> simp

theorem elimAt_pivot (j i : Nat) (p : ARow) (u : Nat) (s : List ARow) (hp : s[i]? = some p) :
    (elimAt j i p u s)[i]? = some p := by
  unfold elimAt
  by_cases h : u = i
  · simp [h, hp]
  · simp only [h, if_false]
    cases hu : s[u]? with
    | none => exact hp
    | some r => simp [h, hp]

theorem builtin_lcm (ctx : C15Ctx) (st : C15Env) (args : List C15Val) :
    c15Builtin ctx st "lcm" args = ctx.callFn "lcm" args := by
  rw [c15Builtin] <;> intros <;> simp at *

theorem set_self {α : Type} (s : List α) (u : Nat) (r : α) (h : s[u]? = some r) : s.set u r = s := by
  obtain ⟨hu, rfl⟩ := List.getElem?_eq_some_iff.1 h
  exact List.set_getElem_self hu

/-- `if c: continue`, where the test has the value `b`, then the rest of the loop body -/
theorem execL_skip (ctx : C15Ctx) (c : C15E) (rest : List C15S) (st : C15Env) (b : Bool)
    (h : c15Cond ctx c st = .ok b) :
    C15S.execL ctx (.ifThen c [.continue_] [] :: rest) st =
      if b then .cont st else C15S.execL ctx rest st := by
  rw [execL_cons, exec_ifThen, h]
  cases b <;> rfl

/-- `x == y` on two int variables -/
theorem cond_eq_vars (ctx : C15Ctx) (st : C15Env) (x y : String) (a b : Int)
    (hx : c15Get x st = some (.int a)) (hy : c15Get y st = some (.int b)) :
    c15Cond ctx (.cmp .eq (.var x) (.var y)) st = .ok (a == b) := by
  simp only [c15Cond, eval_cmp, eval_var ctx _ _ _ hx, eval_var ctx _ _ _ hy, bind, Except.bind,
    c15Cmp, c15ValEq, pure, Except.pure, c15Truthy]

/-- `not e` and `e == 0` for an int-valued `e` -/
theorem cond_not_int (ctx : C15Ctx) (e : C15E) (st : C15Env) (v : Int)
    (h : e.eval ctx st = .ok (.int v)) : c15Cond ctx (.not_ e) st = .ok (decide (v = 0)) := by
  simp only [c15Cond, eval_not, h, bind, Except.bind, c15Truthy, pure, Except.pure]
  by_cases hv : v = 0 <;> simp [hv]

theorem cond_eq_zero (ctx : C15Ctx) (e : C15E) (st : C15Env) (v : Int)
    (h : e.eval ctx st = .ok (.int v)) : c15Cond ctx (.cmp .eq e (.lit 0)) st = .ok (v == 0) := by
  simp only [c15Cond, eval_cmp, h, eval_lit, bind, Except.bind, c15Cmp, c15ValEq, pure, Except.pure,
    c15Truthy]

/-- `x // e` for an int variable and a non-zero int-valued `e` -/
theorem eval_floordiv (ctx : C15Ctx) (st : C15Env) (x : String) (e : C15E) (l v : Int)
    (hx : c15Get x st = some (.int l)) (he : e.eval ctx st = .ok (.int v)) (hv : v ≠ 0) :
    (C15E.bin .floordiv (.var x) e).eval ctx st = .ok (.int (Int.fdiv l v)) := by
  simp only [eval_bin, eval_var ctx _ _ _ hx, he, bind, Except.bind, c15Bin, c15IntOp, if_neg hv, pure,
    Except.pure]

theorem elim_step (ctx base : C15Ctx) (f : Nat)
    (hcall : ctx.callFn = c15CallFn c15ExpTable base (f + 2))
    (st : C15Env) (m n w i j u : Nat) (s : List ARow) (p : ARow) (hg : GSt st m n w i j s)
    (hj : j < n) (hu : u < m) (hp : s[i]? = some p) (hpj : rowGet p.1 j ≠ 0) :
    ∃ st', (forStep ctx (.name "u") expElimBody (.int (u : Int)) st = .ok st' ∨
        forStep ctx (.name "u") expElimBody (.int (u : Int)) st = .cont st') ∧
      GSt st' m n w i j (elimAt j i p u s) := by
  have hul : u < s.length := by rw [hg.hlen]; exact hu
  obtain ⟨r, hr⟩ : ∃ r, s[u]? = some r := ⟨s[u], List.getElem?_eq_getElem hul⟩
  have hru : (s.map (·.1))[u]? = some r.1 := by rw [List.getElem?_map, hr]; rfl
  have hpi : (s.map (·.1))[i]? = some p.1 := by rw [List.getElem?_map, hp]; rfl
  have hg1 : GSt (c15Set "u" (.int u) st) m n w i j s := hg.set _ _ (by decide +kernel)
  have hu1 : c15Get "u" (c15Set "u" (.int u) st) = some (.int u) := c15Get_set_eq _ _ _
  show ∃ st', (C15S.execL ctx expElimBody (c15Set "u" (.int u) st) = .ok st' ∨
    C15S.execL ctx expElimBody (c15Set "u" (.int u) st) = .cont st') ∧ _
  unfold expElimBody
  -- `if u == i: continue`
  rw [execL_skip ctx _ _ _ _ (cond_eq_vars ctx _ "u" "i" u i hu1 hg1.hi)]
  by_cases hui : u = i
  · subst hui
    rw [if_pos (beq_self_eq_true _), elimAt, if_pos rfl]
    exact ⟨_, Or.inr rfl, hg1⟩
  have hat : elimAt j i p u s = s.set u (elimRow j p r) := by simp only [elimAt, if_neg hui, hr]
  rw [if_neg (fun h => hui (Int.ofNat_inj.1 (eq_of_beq h))), hat]
  -- `if not mat[u, j]: continue`
  have ha := eval_entry ctx _ "mat" "u" "j" n (s.map (·.1)) u j r.1 hg1.hmat hu1 hg1.hj hru hj
  rw [execL_skip ctx _ _ _ _ (cond_not_int ctx _ _ _ ha)]
  by_cases haz : rowGet r.1 j = 0
  · have her : elimRow j p r = r := by unfold elimRow; exact if_pos haz
    rw [if_pos (decide_eq_true haz), her, set_self s u r hr]
    exact ⟨_, Or.inr rfl, hg1⟩
  rw [if_neg (fun h => haz (of_decide_eq_true h))]
  obtain ⟨l, hl⟩ : ∃ l, Algo.lcm (rowGet r.1 j) (rowGet p.1 j) = some l := by
    cases h : Algo.lcm (rowGet r.1 j) (rowGet p.1 j) with
    | some l => exact ⟨l, rfl⟩
    | none => exact absurd ((Algo.lcm_eq_none_iff _ _).1 h).1 haz
  obtain ⟨hfa, hfb⟩ := lcm_facs hl
  have hrow : elimRow j p r = (comb (Int.fdiv l (rowGet r.1 j)) (Int.fdiv l (rowGet p.1 j)) r.1 p.1,
      comb (Int.fdiv l (rowGet r.1 j)) (Int.fdiv l (rowGet p.1 j)) r.2 p.2) := by
    simp only [elimRow, if_neg haz, hl, Option.getD_some]
  -- `ell = lcm(mat[u, j], mat[i, j])`
  have hb := eval_entry ctx _ "mat" "i" "j" n (s.map (·.1)) i j p.1 hg1.hmat hg1.hi hg1.hj hpi hj
  rw [execL_assign ctx "ell" _ _ _ (.int l) (by
    simp only [eval_call, evalL_cons, evalL_nil, ha, hb, bind, Except.bind, pure, Except.pure,
      builtin_lcm, hcall, call_lcm, hl])]
  -- `u_fac = ell // mat[u, j]`
  have hg2 := hg1.set "ell" (.int l) (by decide +kernel)
  have hu2 : c15Get "u" (c15Set "ell" (.int l) (c15Set "u" (.int u) st)) = some (.int u) :=
    by simp [c15Get_set, hu1]
  rw [execL_assign ctx "u_fac" _ _ _ _ (eval_floordiv ctx _ "ell" _ l _ (c15Get_set_eq _ _ _)
    (eval_entry ctx _ "mat" "u" "j" n (s.map (·.1)) u j r.1 hg2.hmat hu2 hg2.hj hru hj) haz)]
  -- `i_fac = ell // mat[i, j]`
  have hg3 := hg2.set "u_fac" (.int (Int.fdiv l (rowGet r.1 j))) (by decide +kernel)
  rw [execL_assign ctx "i_fac" _ _ _ _ (eval_floordiv ctx _ "ell" _ l _
    (by simp [c15Get_set])
    (eval_entry ctx _ "mat" "i" "j" n (s.map (·.1)) i j p.1 hg3.hmat hg3.hi hg3.hj hpi hj) hpj)]
  -- the two row updates
  have hg4 := hg3.set "i_fac" (.int (Int.fdiv l (rowGet p.1 j))) (by decide +kernel)
  obtain ⟨st6, e6, hg6, hu6⟩ := exec_rowUpdates ctx
    [.assert_ (.cmp .eq (.index2 (.var "mat") (.var "u") (.var "j")) (.lit 0))] _ m n w i j u s r p _ _
    hg4 (by simp [c15Get_set, hu2]) ((c15Get_set_ne _ (by simp) _).trans (c15Get_set_eq _ _ _))
    (c15Get_set_eq _ _ _) hr hp
  rw [e6]
  rw [← hrow] at hg6
  -- `assert mat[u, j] == 0`: the scaled entries cancel
  have hzero : rowGet (elimRow j p r).1 j = 0 := by
    rw [hrow]
    exact rowGet_comb_zero _ _ r.1 p.1 j (hfa.trans hfb.symm)
  have hent6 := eval_entry ctx st6 "mat" "u" "j" n _ u j (elimRow j p r).1 hg6.hmat hu6 hg6.hj
    (by rw [List.getElem?_map, List.getElem?_set_self hul]; rfl) hj
  refine ⟨st6, Or.inl ?_, hg6⟩
  rw [execL_single, exec_assert, cond_eq_zero ctx _ _ _ hent6, hzero]
  rfl

def elimFold (j i : Nat) (p : ARow) : List Nat → List ARow → List ARow
  | [], s => s
  | u :: us, s => elimFold j i p us (elimAt j i p u s)

theorem elim_loop (ctx base : C15Ctx) (f : Nat)
    (hcall : ctx.callFn = c15CallFn c15ExpTable base (f + 2)) (m n w i j : Nat) (p : ARow)
    (hj : j < n) (hpj : rowGet p.1 j ≠ 0) (us : List Nat) (st : C15Env) (s : List ARow)
    (hus : ∀ u ∈ us, u < m) (hg : GSt st m n w i j s) (hp : s[i]? = some p) :
    ∃ st', c15For (forStep ctx (.name "u") expElimBody) (us.map fun (u : Nat) => C15Val.int (u : Int)) st
        = .ok st' ∧ GSt st' m n w i j (elimFold j i p us s) := by
  induction us generalizing st s with
  | nil => exact ⟨st, rfl, hg⟩
  | cons u us ih =>
    obtain ⟨hu, hus⟩ := List.forall_mem_cons.1 hus
    obtain ⟨st1, h1, hg1⟩ := elim_step ctx base f hcall st m n w i j u s p hg hj hu hp hpj
    obtain ⟨st2, h2, hg2⟩ := ih st1 (elimAt j i p u s) hus hg1 (elimAt_pivot j i p u s hp)
    refine ⟨st2, ?_, hg2⟩
    rw [List.map_cons, c15For]
    rcases h1 with h1 | h1 <;> rw [h1] <;> exact h2

theorem elimFold_elimAll (j i : Nat) (p : ARow) : ∀ (post pre : List ARow),
    elimFold j i p (List.range' pre.length post.length) (pre ++ post) =
      pre ++ elimAll j i p pre.length post
  | [], pre => by simp [elimFold, elimAll]
  | r :: post, pre => by
    have ih := elimFold_elimAll j i p post (pre ++ [if pre.length = i then r else elimRow j p r])
    simp only [List.length_append, List.length_singleton, List.append_assoc, List.singleton_append] at ih
    simp only [List.length_cons, List.range'_succ, elimFold, elimAll]
    have hat : elimAt j i p pre.length (pre ++ r :: post) =
        pre ++ (if pre.length = i then r else elimRow j p r) :: post := by
      unfold elimAt
      by_cases h : pre.length = i
      · simp [h]
      · simp [h]
    rw [hat, ih]

theorem elimFold_all (j i : Nat) (p : ARow) (s : List ARow) :
    elimFold j i p (List.range' 0 s.length) s = elimAll j i p 0 s := by
  simpa using elimFold_elimAll j i p s []

/-! ### one iteration of the `while` loop -/

def expFoundBody : List C15S := [
  expSwap "mat",
  expSwap "rhs",
  .forIn (.name "u") (.call "range" [.lit 0, .var "m"]) expElimBody,
  .aug "i" .add (.lit 1)]

def expWhileBody : List C15S := [
  .assign (.name "nonz_row") .pyNone,
  .forIn (.name "k") (.call "range" [.var "i", .var "m"]) expPivotBody,
  .ifThen (.isNot (.var "nonz_row") .pyNone) expFoundBody [],
  .aug "j" .add (.lit 1)]

def expWhileCond : C15E := .and_ (.cmp .lt (.var "i") (.var "m")) (.cmp .lt (.var "j") (.var "n"))

theorem exec_aug_int (ctx : C15Ctx) (st : C15Env) (x : String) (a b : Int)
    (hx : c15Get x st = some (.int a)) :
    C15S.exec ctx (.aug x .add (.lit b)) st = .ok (c15Set x (.int (a + b)) st) := by
  simp [hx, bind, Except.bind, pure, Except.pure, c15Bin, c15IntOp, c15OfR]

/-- the state after one iteration, as `gaussLoop` computes it -/
def gaussIter (i j : Nat) (s : List ARow) : Nat × List ARow :=
  match findPivot j i 0 s with
  | some k =>
    let s1 := swapRows s i k
    match s1[i]? with
    | some p => (i + 1, elimAll j i p 0 s1)
    | none => (i, s1)
  | none => (i, s)

/-- `x is not None` for a variable that holds `None` or an index -/
theorem cond_isNot_none (ctx : C15Ctx) (st : C15Env) (x : String) (o : Option Nat)
    (h : c15Get x st = some (optIdx o)) :
    c15Cond ctx (.isNot (.var x) .pyNone) st = .ok o.isSome := by
  simp only [c15Cond, C15E.eval, h, bind, Except.bind]
  cases o <;> rfl

theorem while_body (ctx base : C15Ctx) (f : Nat)
    (hcall : ctx.callFn = c15CallFn c15ExpTable base (f + 2)) (st : C15Env) (m n w i j : Nat)
    (s : List ARow) (hg : GSt st m n w i j s) (hi : i < m) (hj : j < n) :
    ∃ st', C15S.execL ctx expWhileBody st = .ok st' ∧
      GSt st' m n w (gaussIter i j s).1 (j + 1) (gaussIter i j s).2 := by
  obtain ⟨st1, e1, hg1, hnz⟩ := exec_pivot ctx
    [.ifThen (.isNot (.var "nonz_row") .pyNone) expFoundBody [], .aug "j" .add (.lit 1)] st m n w i j s
    hg (Nat.le_of_lt hi) hj
  simp only [expWhileBody, e1]
  have hjset : ∀ (st2 : C15Env) (i' : Nat) (s' : List ARow), GSt st2 m n w i' j s' →
      C15S.execL ctx [.aug "j" .add (.lit 1)] st2 = .ok (c15Set "j" (.int ((j : Int) + 1)) st2) ∧
      GSt (c15Set "j" (.int ((j : Int) + 1)) st2) m n w i' (j + 1) s' := fun st2 i' s' h2 =>
    ⟨by rw [execL_single, exec_aug_int ctx st2 "j" j 1 h2.hj], h2.set_j (j + 1)⟩
  cases hfp : findPivot j i 0 s with
  | none =>
    rw [hfp] at hnz
    have hc : c15Cond ctx (.isNot (.var "nonz_row") .pyNone) st1 = .ok false :=
      cond_isNot_none ctx st1 _ _ hnz
    obtain ⟨h1, h2⟩ := hjset st1 i s hg1
    have hit : gaussIter i j s = (i, s) := by rw [gaussIter, hfp]
    rw [hit]
    refine ⟨_, ?_, h2⟩
    rw [execL_cons, exec_ifThen, hc]
    exact h1
  | some k =>
    rw [hfp] at hnz
    obtain ⟨_, hik, r, hr, hrj⟩ := findPivot_spec s 0 k hfp
    simp only [Nat.sub_zero] at hr
    have hkm : k < m := by rw [← hg.hlen]; exact (List.getElem?_eq_some_iff.1 hr).1
    have hc : c15Cond ctx (.isNot (.var "nonz_row") .pyNone) st1 = .ok true :=
      cond_isNot_none ctx st1 _ _ hnz
    have hil : i < s.length := by rw [hg.hlen]; exact hi
    have hp : (swapRows s i k)[i]? = some r := swapRows_get hil hr
    -- the exchange
    obtain ⟨st2, e2, hg2, hnz2⟩ := exec_swaps ctx
      [.forIn (.name "u") (.call "range" [.lit 0, .var "m"]) expElimBody, .aug "i" .add (.lit 1)]
      st1 m n w i j k s hg1 hnz hi hkm
    -- the elimination loop
    obtain ⟨st3, e3, hg3⟩ := elim_loop ctx base f hcall m n w i j r hj hrj (List.range' 0 m) st2
      (swapRows s i k) (fun u hu => by have := (List.mem_range'_1.1 hu).2; omega) hg2 hp
    have hrange : (C15E.call "range" [.lit 0, .var "m"]).eval ctx st2 =
        .ok (.list ((List.range' 0 m).map fun (k : Nat) => C15Val.int (k : Int))) :=
      eval_range2 ctx st2 (.lit 0) (.var "m") 0 m (eval_lit ctx st2 0) (eval_var ctx _ _ _ hg2.hm)
    have hfold : elimFold j i r (List.range' 0 m) (swapRows s i k) = elimAll j i r 0 (swapRows s i k) := by
      rw [← elimFold_all, swapRows_length, hg.hlen]
    rw [hfold] at hg3
    have e4 : C15S.execL ctx expFoundBody st1 =
        .ok (c15Set "i" (.int ((i : Int) + 1)) st3) := by
      simp only [expFoundBody, e2]
      rw [execL_cons_ok ctx _ _ st2 st3 (by rw [exec_forIn, hrange]; simp only [c15Items, e3])]
      rw [execL_single, exec_aug_int ctx st3 "i" i 1 hg3.hi]
    have hg4 : GSt (c15Set "i" (.int ((i : Int) + 1)) st3) m n w (i + 1) j
        (elimAll j i r 0 (swapRows s i k)) := hg3.set_i (i + 1)
    obtain ⟨h1, h2⟩ := hjset _ _ _ hg4
    have hit : gaussIter i j s = (i + 1, elimAll j i r 0 (swapRows s i k)) := by
      simp only [gaussIter, hfp, hp]
    rw [hit]
    refine ⟨_, ?_, h2⟩
    rw [execL_cons, exec_ifThen, hc]
    simp only [e4]
    exact h1

/-! ### the `while` loop -/

/-- `x < y` on two variables that hold natural numbers -/
theorem eval_lt_vars (ctx : C15Ctx) (st : C15Env) (x y : String) (a b : Nat)
    (hx : c15Get x st = some (.int a)) (hy : c15Get y st = some (.int b)) :
    (C15E.cmp .lt (.var x) (.var y)).eval ctx st = .ok (.bool (decide (a < b))) := by
  simp only [eval_cmp, eval_var ctx _ _ _ hx, eval_var ctx _ _ _ hy, bind, Except.bind, c15Cmp, pure,
    Except.pure, decide_eq_decide.2 Int.ofNat_lt]

theorem while_cond (ctx : C15Ctx) (st : C15Env) (m n w i j : Nat) (s : List ARow)
    (hg : GSt st m n w i j s) :
    c15Cond ctx expWhileCond st = .ok (decide (i < m ∧ j < n)) := by
  simp only [c15Cond, expWhileCond, eval_and, eval_lt_vars ctx st "i" "m" i m hg.hi hg.hm,
    eval_lt_vars ctx st "j" "n" j n hg.hj hg.hn, bind, Except.bind, c15Truthy, pure, Except.pure,
    Bool.decide_and]
  generalize decide (i < m) = b1
  generalize decide (j < n) = b2
  cases b1 <;> cases b2 <;> rfl

theorem gaussLoop_succ (m n fuel i j : Nat) (s : List ARow) (hlen : s.length = m) (hi : i < m)
    (hj : j < n) :
    gaussLoop m n (fuel + 1) i j s =
      gaussLoop m n fuel (gaussIter i j s).1 (j + 1) (gaussIter i j s).2 := by
  simp only [gaussLoop, hi, hj, and_self, if_true, gaussIter]
  cases hfp : findPivot j i 0 s with
  | none => rfl
  | some k =>
    have hil : i < (swapRows s i k).length := by rw [swapRows_length, hlen]; exact hi
    simp only [List.getElem?_eq_getElem hil]

theorem while_loop (ctx base : C15Ctx) (f : Nat)
    (hcall : ctx.callFn = c15CallFn c15ExpTable base (f + 2)) (m n w fuel i j : Nat) (st : C15Env)
    (s : List ARow) (hg : GSt st m n w i j s) (hf : n ≤ j + fuel) :
    ∃ st' i' j', c15While (c15Cond ctx expWhileCond) (fun st' => C15S.execL ctx expWhileBody st')
        fuel st = .ok st' ∧ GSt st' m n w i' j' (gaussLoop m n fuel i j s) := by
  have hc := while_cond ctx st m n w i j s hg
  induction fuel generalizing i j st s with
  | zero =>
    rw [decide_eq_false (fun h : i < m ∧ j < n => Nat.not_le_of_lt h.2 hf)] at hc
    exact ⟨st, i, j, by rw [c15While, hc], hg⟩
  | succ fuel ih =>
    by_cases hcond : i < m ∧ j < n
    · rw [decide_eq_true hcond] at hc
      obtain ⟨st1, e1, hg1⟩ := while_body ctx base f hcall st m n w i j s hg hcond.1 hcond.2
      obtain ⟨st2, i2, j2, e2, hg2⟩ := ih _ (j + 1) st1 _ hg1 (by omega) (while_cond ctx st1 m n w _ _ _ hg1)
      refine ⟨st2, i2, j2, ?_, ?_⟩
      · rw [c15While, hc]
        simp only [e1, e2]
      · rw [gaussLoop_succ m n fuel i j s hg.hlen hcond.1 hcond.2]; exact hg2
    · rw [decide_eq_false hcond] at hc
      refine ⟨st, i, j, by rw [c15While, hc], ?_⟩
      rw [gaussLoop, if_neg hcond]
      exact hg

/-! ### the gcd normalisation -/

/-- `[a for a in X[i] if a]` -/
def expNonzero (x : String) : C15E :=
  .listCompIf (.var "a") (.name "a") (.index (.var x) (.var "i")) (.var "a")

def expNormBody : List C15S := [
  .assign (.name "g") (.callStar "gcd_many" (.bin .add (expNonzero "mat") (expNonzero "rhs"))),
  .augSub "mat" (.var "i") .floordiv (.var "g"),
  .augSub "rhs" (.var "i") .floordiv (.var "g")]

/-- one step of the comprehension `[a for a in … if a]` on an int -/
theorem nzStep_int (ctx : C15Ctx) (st : C15Env) (acc : List C15Val) (a : Int) :
    listCompIfStep ctx (.var "a") (.name "a") (.var "a") st acc (.int a) =
      .ok (if a ≠ 0 then acc ++ [.int a] else acc) := by
  simp only [listCompIfStep, c15Bind, eval_var ctx "a" _ _ (c15Get_set_eq _ _ _), bind, Except.bind,
    pure, Except.pure, c15Truthy]
  by_cases ha : a = 0 <;> simp [ha]

theorem nonzero_fold (ctx : C15Ctx) (st : C15Env) (r : Row) (acc : List C15Val) :
    List.foldlM (listCompIfStep ctx (.var "a") (.name "a") (.var "a") st) acc (r.map C15Val.int)
      = .ok (acc ++ (r.filter (· ≠ 0)).map C15Val.int) := by
  induction r generalizing acc with
  | nil => exact congrArg Except.ok (List.append_nil acc).symm
  | cons a r ih =>
    rw [List.map_cons, List.foldlM_cons, nzStep_int]
    by_cases ha : a = 0
    · rw [if_neg (not_not.2 ha), List.filter_cons_of_neg (by simpa using ha)]
      exact ih acc
    · rw [if_pos ha, List.filter_cons_of_pos (by simpa using ha), List.map_cons]
      exact (ih (acc ++ [C15Val.int a])).trans (congrArg Except.ok (List.append_assoc _ _ _))

theorem eval_nonzero (ctx : C15Ctx) (st : C15Env) (x : String) (c : Nat) (rows : List Row) (i : Nat)
    (r : Row) (hx : c15Get x st = some (.arr c rows)) (hi : c15Get "i" st = some (.int i))
    (hr : rows[i]? = some r) :
    (expNonzero x).eval ctx st = .ok (.list ((r.filter (· ≠ 0)).map C15Val.int)) := by
  have hit : c15Items st (.rowRef x i) = some (r.map C15Val.int) := by
    simp only [c15Items, c15Deref, hx, hr, Option.map_some]
  rw [expNonzero, eval_listCompIf, eval_rowRef ctx st x "i" c rows i hx hi
    (List.getElem?_eq_some_iff.1 hr).1]
  simp only [bind, Except.bind, hit, nonzero_fold, List.nil_append, pure, Except.pure]

/-- what the last loop needs of the state -/
structure NSt (st : C15Env) (m n w : Nat) (s : List ARow) : Prop where
  hmat : c15Get "mat" st = some (.arr n (s.map (·.1)))
  hrhs : c15Get "rhs" st = some (.arr w (s.map (·.2)))
  hm : c15Get "m" st = some (.int m)
  hlen : s.length = m

theorem builtin_gcd_many (ctx : C15Ctx) (st : C15Env) (args : List C15Val) :
    c15Builtin ctx st "gcd_many" args = ctx.callFn "gcd_many" args := by
  rw [c15Builtin] <;> intros <;> simp at *

theorem exec_rowDiv (ctx : C15Ctx) (st : C15Env) (x : String) (c : Nat) (rows : List Row) (i : Nat)
    (g : Int) (r : Row) (hx : c15Get x st = some (.arr c rows)) (hi : c15Get "i" st = some (.int i))
    (hg : c15Get "g" st = some (.int g)) (hr : rows[i]? = some r) (hg0 : g ≠ 0) :
    C15S.exec ctx (.augSub x (.var "i") .floordiv (.var "g")) st =
      .ok (c15Set x (.arr c (rows.set i (r.map (Int.fdiv · g)))) st) := by
  have hil : i < rows.length := (List.getElem?_eq_some_iff.1 hr).1
  simp only [C15S.exec, eval_var ctx _ _ _ hi, eval_var ctx _ _ _ hg, hx, bind, Except.bind, pure,
    Except.pure, if_neg (Int.not_lt.2 (Int.natCast_nonneg i)), Int.toNat_natCast, if_pos hil, c15Bin,
    c15Deref, hr, if_neg hg0, c15SetRow, c15OfR]

theorem norm_step (ctx base : C15Ctx) (f : Nat)
    (hcall : ctx.callFn = c15CallFn c15ExpTable base (f + 2)) (st : C15Env) (m n w i : Nat)
    (s : List ARow) (r : ARow) (hg : NSt st m n w s) (hr : s[i]? = some r) :
    ∃ st', forStep ctx (.name "i") expNormBody (.int (i : Int)) st = .ok st' ∧
      NSt st' m n w (s.set i (normRow r)) := by
  have hr1 : (s.map (·.1))[i]? = some r.1 := by rw [List.getElem?_map, hr]; rfl
  have hr2 : (s.map (·.2))[i]? = some r.2 := by rw [List.getElem?_map, hr]; rfl
  have hi1 : c15Get "i" (c15Set "i" (.int i) st) = some (.int i) := c15Get_set_eq _ _ _
  have hmat1 : c15Get "mat" (c15Set "i" (.int i) st) = some (.arr n (s.map (·.1))) := by
    simp [c15Get_set, hg.hmat]
  have hrhs1 : c15Get "rhs" (c15Set "i" (.int i) st) = some (.arr w (s.map (·.2))) := by
    simp [c15Get_set, hg.hrhs]
  have hg0 : gcdMany (r.1.filter (· ≠ 0) ++ r.2.filter (· ≠ 0)) ≠ 0 := gcdMany_ne_zero _ fun b hb =>
    (List.mem_append.1 hb).elim (fun h => of_decide_eq_true (List.mem_filter.1 h).2)
      fun h => of_decide_eq_true (List.mem_filter.1 h).2
  show ∃ st', C15S.execL ctx expNormBody (c15Set "i" (.int i) st) = .ok st' ∧ _
  unfold expNormBody
  -- `g = gcd_many(*(non-zero entries of both rows))`
  rw [execL_assign ctx "g" _ _ _ (.int (gcdMany (r.1.filter (· ≠ 0) ++ r.2.filter (· ≠ 0)))) (by
    simp only [eval_callStar, eval_bin, eval_nonzero ctx _ "mat" n _ i r.1 hmat1 hi1 hr1,
      eval_nonzero ctx _ "rhs" w _ i r.2 hrhs1 hi1 hr2, bind, Except.bind, c15Bin, pure, Except.pure,
      builtin_gcd_many, hcall, ← List.map_append, call_gcd_many])]
  -- the two divisions
  have hi2 := (c15Get_set_ne (.int (gcdMany (r.1.filter (· ≠ 0) ++ r.2.filter (· ≠ 0))))
    (show "g" ≠ "i" by simp) _).trans hi1
  rw [execL_cons_ok ctx _ _ _ _ (exec_rowDiv ctx _ "mat" n _ i _ r.1
    (by simp [c15Get_set, hmat1]) hi2 (c15Get_set_eq _ _ _) hr1 hg0)]
  rw [execL_single, exec_rowDiv ctx _ "rhs" w _ i _ r.2
    (by simp [c15Get_set, hrhs1])
    (by simp [c15Get_set])
    (by simp [c15Get_set]) hr2 hg0]
  refine ⟨_, rfl, ?_, ?_, ?_, (List.length_set ..).trans hg.hlen⟩
  · rw [c15Get_set_ne _ (by simp), c15Get_set_eq, List.map_set]; rfl
  · rw [c15Get_set_eq, List.map_set]; rfl
  · simp [c15Get_set, hg.hm]

def normFold : List Nat → List ARow → List ARow
  | [], s => s
  | i :: is, s => normFold is (match s[i]? with | some r => s.set i (normRow r) | none => s)

theorem norm_loop (ctx base : C15Ctx) (f : Nat)
    (hcall : ctx.callFn = c15CallFn c15ExpTable base (f + 2)) (m n w : Nat) (is : List Nat)
    (st : C15Env) (s : List ARow) (his : ∀ i ∈ is, i < m) (hg : NSt st m n w s) :
    ∃ st', c15For (forStep ctx (.name "i") expNormBody) (is.map fun (i : Nat) => C15Val.int (i : Int)) st
        = .ok st' ∧ NSt st' m n w (normFold is s) := by
  induction is generalizing st s with
  | nil => exact ⟨st, rfl, hg⟩
  | cons i is ih =>
    obtain ⟨hi, his⟩ := List.forall_mem_cons.1 his
    have hil : i < s.length := hg.hlen ▸ hi
    have hr : s[i]? = some s[i] := List.getElem?_eq_getElem hil
    obtain ⟨st1, e1, hg1⟩ := norm_step ctx base f hcall st m n w i s s[i] hg hr
    obtain ⟨st2, e2, hg2⟩ := ih st1 _ his hg1
    refine ⟨st2, ?_, ?_⟩
    · rw [List.map_cons, c15For, e1]
      exact e2
    · rw [normFold, hr]
      exact hg2

theorem normFold_map : ∀ (post pre : List ARow),
    normFold (List.range' pre.length post.length) (pre ++ post) = pre ++ post.map normRow
  | [], pre => by simp [normFold]
  | r :: post, pre => by
    have ih := normFold_map post (pre ++ [normRow r])
    simp only [List.length_append, List.length_singleton, List.append_assoc, List.singleton_append] at ih
    simp only [List.length_cons, List.range'_succ, normFold, List.map_cons]
    have : (pre ++ r :: post)[pre.length]? = some r := by simp
    simp only [this, List.set_append, Nat.lt_irrefl, if_false, Nat.sub_self, List.set_cons_zero]
    exact ih

/-! ### `gaussian_elimination` -/

def expGaussBody : List C15S := [
  .assign (.tup2 (.name "m") (.name "n")) (.attr (.var "mat") "shape"),
  .assign (.name "i") (.lit 0),
  .assign (.name "j") (.lit 0),
  .while_ expWhileCond expWhileBody,
  .forIn (.name "i") (.call "range" [.var "m"]) expNormBody,
  .ret (.tuple2 (.var "mat") (.var "rhs"))]

def expGaussFn : C15Fn :=
  { name := "gaussian_elimination", definedIn := "gaussian_elimination", params := ["mat", "rhs"],
    vararg := "", body := expGaussBody }

theorem exp_fn_gauss : c15ExpTable.fn "gaussian_elimination" = some expGaussFn := by rfl

/-- **The call `gaussian_elimination(mat, rhs)` of the literal table is `gaussElim`.** -/
theorem call_gauss (base : C15Ctx) (f n w : Nat) (s : List ARow) (hw : base.wfuel = n) :
    c15CallFn c15ExpTable base (f + 3) "gaussian_elimination"
        [.arr n (s.map (·.1)), .arr w (s.map (·.2))] =
      .ok (.pair (.arr n ((gaussElim s.length n s).map (·.1)))
        (.arr w ((gaussElim s.length n s).map (·.2)))) := by
  rw [show f + 3 = (f + 2) + 1 from rfl, callFn_succ, exp_fn_gauss]
  generalize hctx : ({ base with callFn := c15CallFn c15ExpTable base (f + 2) } : C15Ctx) = ctx
  have hcall : ctx.callFn = c15CallFn c15ExpTable base (f + 2) := by subst hctx; rfl
  have hwf : ctx.wfuel = n := by subst hctx; exact hw
  simp only [expGaussFn, c15BindParams, if_true]
  -- the three assignments
  generalize hst3 : c15Set "j" (.int 0) (c15Set "i" (.int 0) (c15Set "n" (.int n)
    (c15Set "m" (.int s.length) (c15Set "rhs" (.arr w (s.map (·.2)))
      (c15Set "mat" (.arr n (s.map (·.1))) []))))) = st3
  have e1 : C15S.execL ctx expGaussBody (c15Set "rhs" (.arr w (s.map (·.2)))
      (c15Set "mat" (.arr n (s.map (·.1))) [])) = C15S.execL ctx (expGaussBody.drop 3) st3 := by
    subst hst3
    have ea : (C15E.attr (.var "mat") "shape").eval ctx (c15Set "rhs" (.arr w (s.map (·.2)))
        (c15Set "mat" (.arr n (s.map (·.1))) [])) = .ok (.pair (.int s.length) (.int n)) := by
      simp [c15Get_set, bind, Except.bind, pure, Except.pure]
    rw [expGaussBody, execL_cons_ok ctx _ _ _ _ (by rw [exec_assign, ea]; rfl),
      execL_assign ctx _ _ _ _ _ (eval_lit ctx _ 0), execL_assign ctx _ _ _ _ _ (eval_lit ctx _ 0)]
    rfl
  have hg3 : GSt st3 s.length n w 0 0 s := by
    subst hst3
    exact ⟨by simp [c15Get_set], by simp [c15Get_set], by simp [c15Get_set], by simp [c15Get_set],
      by simp [c15Get_set], by simp, rfl⟩
  rw [e1]
  obtain ⟨st4, i4, j4, e4, hg4⟩ := while_loop ctx base f hcall s.length n w n 0 0 st3 s hg3 (by omega)
  simp only [expGaussBody, List.drop]
  rw [execL_cons_ok ctx _ _ st3 st4 (by rw [exec_while, hwf]; exact e4)]
  have hn4 : NSt st4 s.length n w (gaussLoop s.length n n 0 0 s) := ⟨hg4.hmat, hg4.hrhs, hg4.hm, hg4.hlen⟩
  obtain ⟨st5, e5, hn5⟩ := norm_loop ctx base f hcall s.length n w (List.range' 0 s.length) st4 _
    (fun i hi => by have := (List.mem_range'_1.1 hi).2; omega) hn4
  have hrange : (C15E.call "range" [.var "m"]).eval ctx st4 =
      .ok (.list ((List.range' 0 s.length).map fun (k : Nat) => C15Val.int (k : Int))) := by
    simp only [eval_call, evalL_cons, evalL_nil, eval_var ctx _ _ _ hg4.hm, bind, Except.bind, pure,
      Except.pure, builtin_range1]
  rw [execL_cons_ok ctx _ _ st4 st5 (by rw [exec_forIn, hrange]; simp only [c15Items, e5])]
  have hfold : normFold (List.range' 0 s.length) (gaussLoop s.length n n 0 0 s) = gaussElim s.length n s := by
    have := normFold_map (gaussLoop s.length n n 0 0 s) []
    simp only [List.length_nil, List.nil_append, hg4.hlen] at this
    rw [this]; rfl
  rw [hfold] at hn5
  simp [hn5.hmat, hn5.hrhs, bind, Except.bind, pure, Except.pure,
    c15Result]

theorem zip_fst_snd (l : List ARow) : (l.map (·.1)).zip (l.map (·.2)) = l := by
  induction l with
  | nil => rfl
  | cons a l ih => simp [ih]

/-- **`gaussian_elimination` as the literal table has it IS `gaussElim`**, for every integer system
(`n`: the column count of `mat`; the row count is the number of rows). -/
theorem runGauss_exp (n : Nat) (s : List ARow) :
    c15RunGauss c15ExpTable n s = .ok (gaussElim s.length n s) := by
  unfold c15RunGauss
  simp only [bind, Except.bind]
  rw [show (4 : Nat) = 1 + 3 from rfl, call_gauss _ 1 n _ s rfl]
  simp [zip_fst_snd, pure, Except.pure]

end PV.Coeff
