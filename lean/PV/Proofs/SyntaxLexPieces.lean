import PV.Proofs.SyntaxLexTable
import PV.Model.Stringify
/-
  C06/C07.  One step of the lexer on the text of a printer piece, class by class (`lit_step` for
  symbols, keywords, `True`/`False` and the space; `int_step`, `float_step`, `ident_step`): under a
  condition on the piece and on the character that follows it, the first matching rule of the
  table is the rule of that piece, with exactly the piece's text.  `SyntaxLexRender.lean` collects
  the conditions into `pieceOk` and the steps into `piece_step`.
  On the way: the `imaginary` rule of the table never matches (`imagLen_zero`).
-/
set_option linter.unusedSimpArgs false
namespace PV.Lexer
open PV

/-! ### matcher facts -/

theorem olen_append (t rest : List Char) : olen (t ++ rest) (some rest) = t.length := by
  simp [olen]

theorem litM_append : ∀ (l rest : List Char), litM l (l ++ rest) = some rest
  | [], rest => by cases rest <;> rfl
  | k :: ks, rest => by simp [litM, litM_append ks rest]

theorem lenOf_int_head {c : Char} {cs : List Char} (h : isDigit c = false) :
    lenOf (plusM isDigit) (c :: cs) = 0 := by
  simp [lenOf, plusM, h, olen]

theorem lenOf_ident_head {c : Char} {cs : List Char} (h : isIdStart c = false) :
    lenOf identM (c :: cs) = 0 := by
  simp [lenOf, identM, h, olen]

theorem lenOf_ws_head {c : Char} {cs : List Char} (h : isSpace c = false) :
    lenOf wsM (c :: cs) = 0 := by
  simp [lenOf, wsM, h, olen, List.dropWhile]

theorem floatLen_head {c : Char} {cs : List Char} (h1 : isDigit c = false) (h2 : c ≠ '.') :
    floatLen (c :: cs) = 0 := by
  simp [floatLen, firstNZ, lenOf, float1M, float2M, float3M, float4M, float5M, plusM, h1, h2, olen,
    List.dropWhile]

/-- the character after a piece does not satisfy `p` (or there is none) -/
def nextNot (p : Char → Bool) : Option Char → Bool
  | none => true
  | some c => !p c

theorem dropWhile_stop {p : Char → Bool} {rest : List Char} (hn : nextNot p rest.head? = true) :
    rest.dropWhile p = rest := by
  cases rest with
  | nil => rfl
  | cons c r =>
    simp only [List.head?_cons, nextNot, Bool.not_eq_true'] at hn
    simp [List.dropWhile, hn]

theorem dropWhile_append_stop {p : Char → Bool} {xs rest : List Char}
    (hx : ∀ c ∈ xs, p c = true) (hn : nextNot p rest.head? = true) :
    (xs ++ rest).dropWhile p = rest := by
  rw [List.dropWhile_append_of_pos hx, dropWhile_stop hn]

theorem plusM_stop {p : Char → Bool} {rest : List Char} (hn : nextNot p rest.head? = true) :
    plusM p rest = none := by
  cases rest with
  | nil => rfl
  | cons c r =>
    simp only [List.head?_cons, nextNot, Bool.not_eq_true'] at hn
    simp [plusM, hn]

theorem plusM_append_stop {p : Char → Bool} {x : Char} {xs rest : List Char} (hx : p x = true)
    (hxs : ∀ c ∈ xs, p c = true) (hn : nextNot p rest.head? = true) :
    plusM p (x :: (xs ++ rest)) = some rest := by
  simp [plusM, hx, dropWhile_append_stop hxs hn]

theorem expM_stop {rest : List Char} (hn : nextNot isExpChar rest.head? = true) :
    expM rest = none := by
  cases rest with
  | nil => rfl
  | cons c r =>
    simp only [List.head?_cons, nextNot, Bool.not_eq_true'] at hn
    simp [expM, hn]

theorem nextNot_mono {p q : Char → Bool} (h : ∀ c, p c = true → q c = true) {o : Option Char}
    (hq : nextNot q o = true) : nextNot p o = true := by
  cases o with
  | none => rfl
  | some c =>
    simp only [nextNot, Bool.not_eq_true'] at hq ⊢
    cases hp : p c
    · rfl
    · rw [h c hp] at hq; cases hq

theorem lenOf_none {m : List Char → Option (List Char)} {cs : List Char} (h : m cs = none) :
    lenOf m cs = 0 := by
  simp [lenOf, h, olen]

theorem lenOf_some_append {m : List Char → Option (List Char)} {t rest : List Char}
    (h : m (t ++ rest) = some rest) : lenOf m (t ++ rest) = t.length := by
  simp [lenOf, h, olen]

theorem boundary_of_nextNot {rest : List Char} (h : nextNot isWord rest.head? = true) :
    boundary rest = true := by
  cases rest with
  | nil => rfl
  | cons c r => simpa [nextNot, boundary] using h

/-! ### the `imaginary` rule is dead -/

/-- a matcher result: `rest` is what is left of `cs` after a prefix, and does not start with a
letter -/
def EndsLetters (cs rest : List Char) : Prop :=
  rest <:+ cs ∧ nextNot isAlpha rest.head? = true

theorem dropWhile_head_not (p : Char → Bool) : ∀ (l : List Char),
    nextNot p (l.dropWhile p).head? = true
  | [] => rfl
  | c :: l => by
    by_cases h : p c = true
    · simp only [List.dropWhile_cons, h, if_true]; exact dropWhile_head_not p l
    · simp [List.dropWhile_cons, h, nextNot]

theorem plusM_suffix {p : Char → Bool} {cs r : List Char} (h : plusM p cs = some r) : r <:+ cs := by
  cases cs with
  | nil => simp [plusM] at h
  | cons c cs =>
    simp only [plusM] at h
    split at h
    · simp only [Option.some.injEq] at h; subst h
      exact (List.dropWhile_suffix p).trans (List.suffix_cons c cs)
    · cases h

theorem expM_suffix {cs r : List Char} (h : expM cs = some r) : r <:+ cs := by
  cases cs with
  | nil => simp [expM] at h
  | cons x cs =>
    simp only [expM] at h
    split at h
    · split at h
      · rename_i s cs'
        split at h
        · exact (plusM_suffix h).trans ((List.suffix_cons s cs').trans (List.suffix_cons x _))
        · exact (plusM_suffix h).trans (List.suffix_cons x _)
      · cases h
    · cases h

theorem optM_expM_suffix (cs : List Char) : optM expM cs <:+ cs := by
  unfold optM
  cases h : expM cs with
  | none => exact List.suffix_refl _
  | some r => exact expM_suffix h

theorem lettersAfter {l cs : List Char} (h : l <:+ cs) :
    EndsLetters cs (l.dropWhile isAlpha) :=
  ⟨(List.dropWhile_suffix _).trans h, dropWhile_head_not _ _⟩

theorem float1M_ends {cs r : List Char} (h : float1M cs = some r) : EndsLetters cs r := by
  unfold float1M at h
  split at h
  · rename_i r' hp
    cases h
    exact lettersAfter ((optM_expM_suffix _).trans ((List.dropWhile_suffix _).trans
      ((List.suffix_cons _ _).trans (plusM_suffix hp))))
  · cases h

theorem float2M_ends {cs r : List Char} (h : float2M cs = some r) : EndsLetters cs r := by
  unfold float2M at h
  split at h
  · cases h
  · rename_i r1 hp
    simp only at h
    split at h
    · cases h
    · rename_i r3 he
      split at h
      · cases h
        refine lettersAfter ((expM_suffix he).trans ?_)
        split
        · exact (List.dropWhile_suffix _).trans ((List.suffix_cons _ _).trans (plusM_suffix hp))
        · exact plusM_suffix hp
      · cases h

theorem float3M_ends {cs r : List Char} (h : float3M cs = some r) : EndsLetters cs r := by
  unfold float3M at h
  split at h
  · rename_i r2 hd
    have hs := hd ▸ List.dropWhile_suffix (l := cs) isDigit
    split at h
    · rename_i r' hp
      cases h
      exact lettersAfter ((optM_expM_suffix _).trans ((plusM_suffix hp).trans
        ((List.suffix_cons _ _).trans hs)))
    · cases h
  · cases h

theorem float4M_ends {cs r : List Char} (h : float4M cs = some r) : EndsLetters cs r := by
  unfold float4M at h
  split at h
  · rename_i r2 hd
    have hs := hd ▸ List.dropWhile_suffix (l := cs) isDigit
    split at h
    · rename_i r' hp
      split at h
      · rename_i r3 he
        simp only at h
        split at h
        · cases h
          exact lettersAfter ((expM_suffix he).trans ((plusM_suffix hp).trans
            ((List.suffix_cons _ _).trans hs)))
        · cases h
      · cases h
    · cases h
  · cases h

theorem float5M_ends {cs r : List Char} (h : float5M cs = some r) : EndsLetters cs r := by
  unfold float5M at h
  split at h
  · rename_i r1 hp
    cases r1 with
    | nil => cases h
    | cons c r2 =>
      simp only [plusM] at h
      split at h
      · cases h
        exact lettersAfter ((List.suffix_cons _ _).trans (plusM_suffix hp))
      · cases h
  · cases h

/-- the text after a match of length `lenOf m cs` -/
theorem drop_lenOf {m : List Char → Option (List Char)} {cs r : List Char} (h : m cs = some r)
    (hs : r <:+ cs) : cs.drop (lenOf m cs) = r := by
  obtain ⟨t, rfl⟩ := hs
  simp [lenOf, h, olen]

/-- **the `imaginary` rule never matches**: whatever the `float` rule matches is not followed by
a letter (all five forms end in a greedy letter run), so the `j` of the `imaginary` rule never
finds its letter — complex literals are lexed as floats with a letter tag. -/
theorem imagLen_zero (cs : List Char) : imagLen cs = 0 := by
  have key : ∀ (m : List Char → Option (List Char)),
      (∀ r, m cs = some r → EndsLetters cs r) → lenOf m cs ≠ 0 →
      lenOf (litM ['j']) (cs.drop (lenOf m cs)) = 0 := by
    intro m hm hne
    cases h : m cs with
    | none => simp [lenOf, h, olen] at hne
    | some r =>
      obtain ⟨hs, hl⟩ := hm r h
      rw [drop_lenOf h hs]
      cases r with
      | nil => simp [lenOf, litM, olen]
      | cons c r' =>
        simp only [List.head?_cons, nextNot, Bool.not_eq_true'] at hl
        have : c ≠ 'j' := by rintro rfl; exact absurd hl (by decide)
        simp [lenOf, litM, this, olen]
  simp only [imagLen, seqLen, imagItem, floatLen, firstNZ]
  by_cases h1 : lenOf float1M cs = 0
  · by_cases h2 : lenOf float2M cs = 0
    · by_cases h3 : lenOf float3M cs = 0
      · by_cases h4 : lenOf float4M cs = 0
        · by_cases h5 : lenOf float5M cs = 0
          · simp [h1, h2, h3, h4, h5]
          · simp [h1, h2, h3, h4, h5, key float5M (fun r => float5M_ends) h5]
        · simp [h1, h2, h3, h4, key float4M (fun r => float4M_ends) h4]
      · simp [h1, h2, h3, key float3M (fun r => float3M_ends) h3]
    · simp [h1, h2, key float2M (fun r => float2M_ends) h2]
  · simp [h1, key float1M (fun r => float1M_ends) h1]

/-! ### symbols -/

/-- the operator / keyword / punctuation tokens: text, tag, what must NOT follow -/
def symTable : List (List Char × String × (Char → Bool)) :=
  [(['=', '='], "equal", fun _ => false),
   (['!', '='], "notequal", fun _ => false),
   (['<', '<'], "leftshift", fun _ => false),
   (['>', '>'], "rightshift", fun _ => false),
   (['<', '='], "lessequal", fun _ => false),
   (['>', '='], "greaterequal", fun _ => false),
   (['<'], "less", fun c => c == '<' || c == '='),
   (['>'], "greater", fun c => c == '>' || c == '='),
   (['='], "assign", fun c => c == '='),
   (['a', 'n', 'd'], "and", isWord),
   (['o', 'r'], "or", isWord),
   (['n', 'o', 't'], "not", isWord),
   (['i', 'f'], "if", isWord),
   (['e', 'l', 's', 'e'], "else", isWord),
   (['+'], "plus", fun _ => false),
   (['-'], "minus", fun _ => false),
   (['*', '*'], "exp", fun _ => false),
   (['*'], "times", fun c => c == '*'),
   (['/', '/'], "floordiv", fun _ => false),
   (['/'], "over", fun c => c == '/'),
   (['%'], "modulo", fun _ => false),
   (['&'], "bitwiseand", fun _ => false),
   (['|'], "bitwiseor", fun _ => false),
   (['~'], "bitwisenot", fun _ => false),
   (['^'], "bitwisexor", fun _ => false),
   (['('], "openpar", fun _ => false),
   ([')'], "closepar", fun _ => false),
   (['['], "openbracket", fun _ => false),
   ([']'], "closebracket", fun _ => false),
   ([','], "comma", fun _ => false),
   (['.'], "dot", isDigit),
   ([':'], "colon", fun _ => false)]

/-! ### literal tokens

A symbol, keyword or space is lexed as itself when every rule before its own misses it.  Which
rule misses is decided on the rules as data (`rulesS`); what may follow a token (`bad`) is a
function, so its inclusions are checked on the characters up to a bound beyond which the smaller
class is empty. -/

/-- `bad` holds on every character up to `bound` on which `p` holds -/
def covers (p bad : Char → Bool) (bound : Nat) : Bool :=
  decide (∀ n ≤ bound, p (Char.ofNat n) = true → bad (Char.ofNat n) = true)

theorem covers_sound {p bad : Char → Bool} {bound : Nat} (h : covers p bad bound = true)
    (hp : ∀ c, p c = true → c.toNat ≤ bound) {o : Option Char} (hn : nextNot bad o = true) :
    nextNot p o = true :=
  nextNot_mono (fun c hc => by
    have := of_decide_eq_true h c.toNat (hp c hc)
    rw [Char.ofNat_toNat] at this
    exact this hc) hn

theorem isDigit_le {c : Char} (h : isDigit c = true) : c.toNat ≤ 57 := by
  simp only [isDigit, Bool.and_eq_true, decide_eq_true_eq] at h; exact h.2

theorem isWord_le {c : Char} (h : isWord c = true) : c.toNat ≤ 122 := by
  simp only [isWord, isAlpha, isDigit, Bool.or_eq_true, Bool.and_eq_true, decide_eq_true_eq,
    beq_iff_eq] at h
  rcases h with (h | h) | rfl
  · omega
  · omega
  · decide

theorem isSpace_le {c : Char} (h : isSpace c = true) : c.toNat ≤ 32 := by
  simp only [isSpace, Bool.or_eq_true, beq_iff_eq] at h
  rcases h with (rfl | rfl) | rfl <;> decide

/-- the literal `l` does not match at `s ++ rest` when `bad` does not hold of the head of `rest`:
the texts differ, or `s` ends inside `l` and `l` goes on with a `bad` character -/
def missLit : List Char → List Char → (Char → Bool) → Bool
  | [], _, _ => false
  | k :: _, [], bad => bad k
  | k :: ks, c :: s, bad => if c = k then missLit ks s bad else true

theorem missLit_sound {bad : Char → Bool} {rest : List Char} (hn : nextNot bad rest.head? = true) :
    ∀ (l s : List Char), missLit l s bad = true → litM l (s ++ rest) = none
  | [], _, h => by simp [missLit] at h
  | k :: ks, [], h => by
    cases rest with
    | nil => rfl
    | cons c r =>
      simp only [List.head?_cons, nextNot, Bool.not_eq_true'] at hn
      have : c ≠ k := by rintro rfl; simp [missLit, hn] at h
      simp [litM, this]
  | k :: ks, c :: s, h => by
    simp only [missLit] at h
    simp only [List.cons_append, litM]
    split
    · rename_i hc; exact missLit_sound hn ks s (by simpa [hc] using h)
    · rfl

theorem floatLen_dot {rest : List Char} (hn : nextNot isDigit rest.head? = true) :
    floatLen ('.' :: rest) = 0 := by
  have hd : isDigit '.' = false := by decide
  have h1 : plusM isDigit ('.' :: rest) = none := by simp [plusM, hd]
  simp [floatLen, firstNZ, lenOf, float1M, float2M, float3M, float4M, float5M, h1, hd, olen,
    List.dropWhile, plusM_stop hn]

/-- the rule does not match at `s ++ rest` -/
def RuleS.misses (bad : Char → Bool) : RuleS → List Char → Bool
  | _, [] => false
  | .imag, _ => true
  | .lit l, s | .kw l, s => missLit l s bad
  | .float, c :: s => !isDigit c && (c != '.' || s.isEmpty && covers isDigit bad 57)
  | .int, c :: _ => !isDigit c
  | .ident, c :: _ => !isIdStart c
  | .ws, c :: _ => !isSpace c

/-- the rule matches exactly `s` at `s ++ rest` -/
def RuleS.hits (bad : Char → Bool) : RuleS → List Char → Bool
  | .lit l, s => l == s
  | .kw l, s => l == s && covers isWord bad 122
  | .ws, s => s.all isSpace && covers isSpace bad 32
  | _, _ => false

/-- the first rule that does not miss `s` is tagged `tag` and hits -/
def litCheck (s : List Char) (tag : String) (bad : Char → Bool) : List (String × RuleS) → Bool
  | [] => false
  | (t, r) :: rs =>
    if r.misses bad s then litCheck s tag bad rs else !s.isEmpty && t == tag && r.hits bad s

theorem RuleS.misses_sound {bad : Char → Bool} {rest : List Char}
    (hn : nextNot bad rest.head? = true) {r : RuleS} {s : List Char} (h : r.misses bad s = true) :
    r.len (s ++ rest) = 0 := by
  cases s with
  | nil => cases r <;> simp [RuleS.misses] at h
  | cons c s =>
    cases r with
    | lit l => exact lenOf_none (missLit_sound hn l _ h)
    | kw l => exact lenOf_none (by unfold kwM; rw [missLit_sound hn l _ h])
    | imag => exact imagLen_zero _
    | float =>
      simp only [RuleS.misses, Bool.and_eq_true, Bool.not_eq_true', Bool.or_eq_true, bne_iff_ne,
        ne_eq, List.isEmpty_iff] at h
      rcases h.2 with hc | ⟨rfl, hcov⟩
      · exact floatLen_head h.1 hc
      · by_cases hc : c = '.'
        · subst hc; exact floatLen_dot (covers_sound hcov (fun _ => isDigit_le) hn)
        · exact floatLen_head h.1 hc
    | int => exact lenOf_int_head (by simpa [RuleS.misses] using h)
    | ident => exact lenOf_ident_head (by simpa [RuleS.misses] using h)
    | ws => exact lenOf_ws_head (by simpa [RuleS.misses] using h)

theorem RuleS.hits_sound {bad : Char → Bool} {rest : List Char}
    (hn : nextNot bad rest.head? = true) {r : RuleS} {s : List Char} (h : r.hits bad s = true) :
    r.len (s ++ rest) = s.length := by
  cases r with
  | lit l =>
    obtain rfl : l = s := by simpa [RuleS.hits] using h
    exact lenOf_some_append (litM_append l rest)
  | kw l =>
    simp only [RuleS.hits, Bool.and_eq_true, beq_iff_eq] at h
    obtain ⟨rfl, hcov⟩ := h
    refine lenOf_some_append ?_
    simp [kwM, litM_append, boundary_of_nextNot (covers_sound hcov (fun _ => isWord_le) hn)]
  | ws =>
    simp only [RuleS.hits, Bool.and_eq_true, List.all_eq_true] at h
    exact lenOf_some_append (congrArg some (dropWhile_append_stop h.1
      (covers_sound h.2 (fun _ => isSpace_le) hn)))
  | _ => simp [RuleS.hits] at h

/-- **a literal token is lexed as itself** when the rules before its own miss it -/
theorem lit_step {s : List Char} {tag : String} {bad : Char → Bool} {rest : List Char}
    (hn : nextNot bad rest.head? = true) : ∀ {rs : List (String × RuleS)},
    litCheck s tag bad rs = true →
    firstC (rs.map fun r => (r.1, r.2.len)) (s ++ rest) = some (tag, s.length)
  | [], h => by simp [litCheck] at h
  | (t, r) :: rs, h => by
    simp only [litCheck] at h
    simp only [List.map_cons, firstC]
    split at h
    · rename_i hm
      rw [if_pos (RuleS.misses_sound hn hm)]
      exact lit_step hn h
    · simp only [Bool.and_eq_true, Bool.not_eq_true', List.isEmpty_eq_false_iff, beq_iff_eq] at h
      obtain ⟨⟨hne, rfl⟩, hh⟩ := h
      have hl := RuleS.hits_sound hn hh
      rw [hl, if_neg (by simpa using hne)]

/-- the symbols, `True`, `False` and a space pass the check (one evaluation for all) -/
theorem lit_checks : (∀ e ∈ symTable, litCheck e.1 e.2.1 e.2.2 rulesS = true) ∧
    litCheck ['T', 'r', 'u', 'e'] "True" isWord rulesS = true ∧
    litCheck ['F', 'a', 'l', 's', 'e'] "False" isWord rulesS = true ∧
    litCheck [' '] "whitespace" isSpace rulesS = true := by
  decide +kernel

theorem sym_step {s : List Char} {tag : String} {bad : Char → Bool}
    (hm : (s, tag, bad) ∈ symTable) (rest : List Char) (hn : nextNot bad rest.head? = true) :
    firstC rulesC (s ++ rest) = some (tag, s.length) :=
  rulesC_eq ▸ lit_step hn (lit_checks.1 _ hm)

theorem true_step (rest : List Char) (hn : nextNot isWord rest.head? = true) :
    firstC rulesC (['T', 'r', 'u', 'e'] ++ rest) = some ("True", 4) :=
  rulesC_eq ▸ lit_step hn lit_checks.2.1

theorem false_step (rest : List Char) (hn : nextNot isWord rest.head? = true) :
    firstC rulesC (['F', 'a', 'l', 's', 'e'] ++ rest) = some ("False", 5) :=
  rulesC_eq ▸ lit_step hn lit_checks.2.2.1

theorem sp_step (rest : List Char) (hn : nextNot isSpace rest.head? = true) :
    firstC rulesC (' ' :: rest) = some ("whitespace", 1) :=
  rulesC_eq ▸ lit_step (s := [' ']) hn lit_checks.2.2.2

/-! ### integers -/

/-- a literal or keyword rule misses where the first characters are told apart by a class -/
theorem lenOf_lit_cls {p : Char → Bool} {k c : Char} {ks cs : List Char}
    (hc : p c = true) (hk : p k = false) : lenOf (litM (k :: ks)) (c :: cs) = 0 := by
  have : c ≠ k := by rintro rfl; simp [hc] at hk
  simp [lenOf, litM, this, olen]

theorem lenOf_kw_cls {p : Char → Bool} {k c : Char} {ks cs : List Char}
    (hc : p c = true) (hk : p k = false) : lenOf (kwM (k :: ks)) (c :: cs) = 0 := by
  have : c ≠ k := by rintro rfl; simp [hc] at hk
  simp [lenOf, kwM, litM, this, olen]

/-- what may follow an integer literal: no digit, no letter, no dot -/
def intStop (c : Char) : Bool := isDigit c || isAlpha c || c == '.'

theorem isExpChar_alpha {c : Char} (h : isExpChar c = true) : isAlpha c = true := by
  simp only [isExpChar, Bool.or_eq_true, beq_iff_eq] at h
  rcases h with ((rfl | rfl) | rfl) | rfl <;> decide

/-- the five float forms fail on digits followed by something that is no digit, letter or dot -/
theorem floatLen_after_digits {cs rest : List Char} (hp : plusM isDigit cs = some rest)
    (hw : cs.dropWhile isDigit = rest) (hn : nextNot intStop rest.head? = true) :
    floatLen cs = 0 := by
  have hal : nextNot isAlpha rest.head? = true :=
    nextNot_mono (fun c h => by simp [intStop, h]) hn
  have hex : nextNot isExpChar rest.head? = true :=
    nextNot_mono (fun c h => isExpChar_alpha h) hal
  have h5 : float5M cs = none := by unfold float5M; rw [hp]; exact plusM_stop hal
  have he := expM_stop hex
  cases rest with
  | nil => simp [floatLen, firstNZ, lenOf, float1M, float2M, float3M, float4M, hp, hw, h5, he, olen]
  | cons c r =>
    have hc : c ≠ '.' := by rintro rfl; simp [nextNot, intStop] at hn
    simp [floatLen, firstNZ, lenOf, float1M, float2M, float3M, float4M, hp, hw, h5, he, hc, olen]

/-- at a digit: a `float` item if the float rule matches, else an `int` item -/
theorem firstC_digit {d : Char} {cs : List Char} (hd : isDigit d = true) :
    firstC rulesC (d :: cs) =
      if floatLen (d :: cs) = 0 then some ("int", lenOf (plusM isDigit) (d :: cs))
      else some ("float", floatLen (d :: cs)) := by
  have hi : lenOf (plusM isDigit) (d :: cs) ≠ 0 := by
    have : (cs.dropWhile isDigit).length ≤ cs.length := (List.dropWhile_suffix _).length_le
    simp only [lenOf, plusM, hd, if_true, olen, List.length_cons]; omega
  simp (config := { decide := true }) only [rulesC, firstC, lenOf_lit_cls (p := isDigit) hd,
    lenOf_kw_cls (p := isDigit) hd, imagLen_zero, hi, if_true, if_false]

theorem int_step {d : Char} {ds rest : List Char} (hd : isDigit d = true)
    (hds : ∀ c ∈ ds, isDigit c = true) (hn : nextNot intStop rest.head? = true) :
    firstC rulesC (d :: ds ++ rest) = some ("int", (d :: ds).length) := by
  have hnd : nextNot isDigit rest.head? = true :=
    nextNot_mono (fun c h => by simp [intStop, h]) hn
  have hp : plusM isDigit (d :: (ds ++ rest)) = some rest := plusM_append_stop hd hds hnd
  have hw : (d :: (ds ++ rest)).dropWhile isDigit = rest := by
    simp [List.dropWhile, hd, dropWhile_append_stop hds hnd]
  have hf : floatLen (d :: (ds ++ rest)) = 0 := floatLen_after_digits hp hw hn
  have hi : lenOf (plusM isDigit) (d :: (ds ++ rest)) = ds.length + 1 := by
    have := lenOf_some_append (m := plusM isDigit) (t := d :: ds) (rest := rest) (by simpa using hp)
    simpa using this
  rw [List.cons_append, firstC_digit hd, if_pos hf, hi, List.length_cons]

/-! ### identifiers -/

theorem idStart_not_digit {c : Char} (h : isIdStart c = true) : isDigit c = false := by
  simp only [isIdStart, isAlpha, Bool.or_eq_true, beq_iff_eq, Bool.and_eq_true,
    decide_eq_true_eq] at h
  rcases h with ((rfl | rfl) | rfl) | h
  · decide
  · decide
  · decide
  · simp only [isDigit, Bool.and_eq_false_iff, decide_eq_false_iff_not]; omega

theorem idStart_ne_dot {c : Char} (h : isIdStart c = true) : c ≠ '.' := by
  rintro rfl; exact absurd h (by decide)

theorem word_idCont {c : Char} (h : isWord c = true) : isIdCont c = true := by
  simp only [isWord, Bool.or_eq_true, beq_iff_eq] at h
  simp only [isIdCont, isIdStart, Bool.or_eq_true, beq_iff_eq]
  rcases h with (h | h) | rfl
  · exact Or.inl (Or.inr h)
  · exact Or.inr h
  · exact Or.inl (Or.inl (Or.inr rfl))

/-- the keyword rule `kw\b` matches at the start of `cs` -/
def kwHit (kw cs : List Char) : Bool :=
  match litM kw cs with
  | some r => boundary r
  | none => false

/-- a name that an earlier rule of the table takes (wholly or in part) -/
def reserved (cs : List Char) : Bool :=
  kwHit ['a', 'n', 'd'] cs || kwHit ['o', 'r'] cs || kwHit ['n', 'o', 't'] cs ||
  kwHit ['i', 'f'] cs || kwHit ['e', 'l', 's', 'e'] cs ||
  kwHit ['T', 'r', 'u', 'e'] cs || kwHit ['F', 'a', 'l', 's', 'e'] cs

/-- the text is lexed as ONE identifier: it matches the identifier rule and no earlier rule -/
def identOk : List Char → Bool
  | [] => false
  | c :: r => isIdStart c && r.all isIdCont && !reserved (c :: r)

theorem litM_ext : ∀ (kw t rest : List Char), (∀ k ∈ kw, isIdCont k = true) →
    nextNot isIdCont rest.head? = true →
    litM kw (t ++ rest) = (litM kw t).map (· ++ rest)
  | [], t, rest, _, _ => by cases t <;> cases rest <;> simp [litM]
  | k :: ks, [], rest, hk, hn => by
    cases rest with
    | nil => simp [litM]
    | cons c r =>
      simp only [List.head?_cons, nextNot, Bool.not_eq_true'] at hn
      have : c ≠ k := by
        rintro rfl; rw [hk c (List.mem_cons_self ..)] at hn; cases hn
      simp [litM, this]
  | k :: ks, c :: t, rest, hk, hn => by
    simp only [List.cons_append, litM]
    split
    · exact litM_ext ks t rest (fun k' hk' => hk k' (List.mem_cons_of_mem _ hk')) hn
    · rfl

theorem boundary_ext {r rest : List Char} (hn : nextNot isIdCont rest.head? = true) :
    boundary (r ++ rest) = boundary r := by
  cases r with
  | cons c r' => rfl
  | nil =>
    cases rest with
    | nil => rfl
    | cons c r' =>
      simp only [List.head?_cons, nextNot, Bool.not_eq_true'] at hn
      simp only [List.nil_append, boundary]
      cases hw : isWord c
      · rfl
      · rw [word_idCont hw] at hn; cases hn

theorem kwM_ext {kw t rest : List Char} (hk : ∀ k ∈ kw, isIdCont k = true)
    (hn : nextNot isIdCont rest.head? = true) (hh : kwHit kw t = false) :
    kwM kw (t ++ rest) = none := by
  simp only [kwM, litM_ext kw t rest hk hn]
  simp only [kwHit] at hh
  cases hl : litM kw t with
  | none => rfl
  | some r =>
    rw [hl] at hh
    simp [boundary_ext hn, hh]

theorem ident_step {c : Char} {r rest : List Char} (hok : identOk (c :: r) = true)
    (hn : nextNot isIdCont rest.head? = true) :
    firstC rulesC (c :: r ++ rest) = some ("identifier", (c :: r).length) := by
  simp only [identOk, Bool.and_eq_true, List.all_eq_true, Bool.not_eq_true', reserved,
    Bool.or_eq_false_iff] at hok
  obtain ⟨⟨hc, hr⟩, ⟨⟨⟨⟨⟨h1, h2⟩, h3⟩, h4⟩, h5⟩, h6⟩, h7⟩ := hok
  have hf : floatLen (c :: (r ++ rest)) = 0 := floatLen_head (idStart_not_digit hc) (idStart_ne_dot hc)
  -- a keyword rule matches the whole text only where it matches the name alone (`reserved`)
  have e : ∀ {kw : List Char}, (∀ k ∈ kw, isIdCont k = true) → kwHit kw (c :: r) = false →
      lenOf (kwM kw) (c :: (r ++ rest)) = 0 := fun hk hh => lenOf_none (kwM_ext hk hn hh)
  have hi : lenOf identM (c :: (r ++ rest)) = r.length + 1 := by
    have : identM ((c :: r) ++ rest) = some rest := by
      simp [identM, hc, dropWhile_append_stop hr hn]
    simpa using lenOf_some_append this
  simp (config := { decide := true }) only [List.cons_append, rulesC, firstC,
    lenOf_lit_cls (p := isIdStart) hc, e (by decide) h1, e (by decide) h2, e (by decide) h3,
    e (by decide) h4, e (by decide) h5, e (by decide) h6, e (by decide) h7, hf, imagLen_zero, hi,
    lenOf_int_head (idStart_not_digit hc), List.length_cons, if_true]
  simp

/-! ### floats -/

/-- `e[+-]D+`, to the end -/
def expShape : List Char → Bool
  | 'e' :: s :: x :: xs => isSign s && isDigit x && xs.all isDigit
  | _ => false

/-- the spellings `repr(float)` produces for finite values: `D+.D+`, `D+.D+e±D+`, `D+e±D+` -/
def floatShape (cs : List Char) : Bool :=
  match cs.takeWhile isDigit, cs.dropWhile isDigit with
  | [], _ => false
  | _ :: _, '.' :: r =>
    match r.takeWhile isDigit, r.dropWhile isDigit with
    | [], _ => false
    | _ :: _, [] => true
    | _ :: _, r' => expShape r'
  | _ :: _, r => expShape r

theorem expShape_inv {cs : List Char} (h : expShape cs = true) :
    ∃ s x xs, cs = 'e' :: s :: x :: xs ∧ isSign s = true ∧ isDigit x = true ∧
      ∀ c ∈ xs, isDigit c = true := by
  unfold expShape at h
  split at h
  · rename_i s x xs
    simp only [Bool.and_eq_true, List.all_eq_true] at h
    exact ⟨s, x, xs, rfl, h.1.1, h.1.2, h.2⟩
  · cases h

theorem takeWhile_all (p : Char → Bool) (l : List Char) : ∀ c ∈ l.takeWhile p, p c = true :=
  List.all_eq_true.mp List.all_takeWhile

/-- a digit run followed by the rest: `l = d :: ds ++ r` -/
theorem digits_split {l : List Char} {d : Char} {ds : List Char}
    (h : l.takeWhile isDigit = d :: ds) :
    isDigit d = true ∧ (∀ c ∈ ds, isDigit c = true) ∧ l = d :: ds ++ l.dropWhile isDigit := by
  have hall := takeWhile_all isDigit l
  rw [h] at hall
  refine ⟨hall d (List.mem_cons_self ..), fun c hc => hall c (List.mem_cons_of_mem _ hc), ?_⟩
  rw [← h, List.takeWhile_append_dropWhile]

theorem floatShape_inv {cs : List Char} (h : floatShape cs = true) :
    ∃ d ds, isDigit d = true ∧ (∀ c ∈ ds, isDigit c = true) ∧
      ((∃ f fs ex, isDigit f = true ∧ (∀ c ∈ fs, isDigit c = true) ∧
          (ex = [] ∨ expShape ex = true) ∧ cs = d :: ds ++ '.' :: f :: fs ++ ex) ∨
       ∃ ex, expShape ex = true ∧ cs = d :: ds ++ ex) := by
  cases htw : cs.takeWhile isDigit with
  | nil => simp [floatShape, htw] at h
  | cons d ds =>
    obtain ⟨hd, hds, hcs⟩ := digits_split htw
    refine ⟨d, ds, hd, hds, ?_⟩
    simp only [floatShape, htw] at h
    generalize cs.dropWhile isDigit = r at hcs h
    split at h
    · cases h
    · rename_i r _
      left
      cases htw2 : r.takeWhile isDigit with
      | nil => simp [htw2] at h
      | cons f fs =>
        obtain ⟨hf, hfs, hr⟩ := digits_split htw2
        simp only [htw2] at h
        generalize r.dropWhile isDigit = ex at hr h
        refine ⟨f, fs, ex, hf, hfs, ?_, by rw [hcs, hr]; simp⟩
        split at h
        · cases h
        · exact Or.inl rfl
        · exact Or.inr h
    · exact Or.inr ⟨_, h, hcs⟩

theorem floatShape_head {cs : List Char} (h : floatShape cs = true) :
    ∃ d r, cs = d :: r ∧ isDigit d = true := by
  obtain ⟨d, ds, hd, _, ⟨_, _, _, _, _, _, rfl⟩ | ⟨_, _, rfl⟩⟩ := floatShape_inv h <;>
    exact ⟨d, _, rfl, hd⟩

theorem nextNot_word_digit {o : Option Char} (h : nextNot isWord o = true) :
    nextNot isDigit o = true := nextNot_mono (fun c hc => by simp [isWord, hc]) h
theorem nextNot_word_alpha {o : Option Char} (h : nextNot isWord o = true) :
    nextNot isAlpha o = true := nextNot_mono (fun c hc => by simp [isWord, hc]) h
theorem nextNot_word_exp {o : Option Char} (h : nextNot isWord o = true) :
    nextNot isExpChar o = true :=
  nextNot_mono (fun _ hc => isExpChar_alpha hc) (nextNot_word_alpha h)

/-- the chain, once the first or (the first failing) the second float form takes exactly `t` -/
theorem float_chain {d : Char} {t rest : List Char} (hd : isDigit d = true)
    (h : float1M (d :: (t ++ rest)) = some rest ∨
      float1M (d :: (t ++ rest)) = none ∧ float2M (d :: (t ++ rest)) = some rest) :
    firstC rulesC (d :: t ++ rest) = some ("float", (d :: t).length) := by
  have hl : ∀ {m : List Char → Option (List Char)}, m (d :: (t ++ rest)) = some rest →
      lenOf m (d :: (t ++ rest)) = t.length + 1 := fun h => lenOf_some_append (t := d :: t) h
  have hf : floatLen (d :: (t ++ rest)) = t.length + 1 := by
    rcases h with h | ⟨h1, h2⟩
    · simp [floatLen, firstNZ, hl h]
    · simp [floatLen, firstNZ, lenOf_none h1, hl h2]
  rw [List.cons_append, firstC_digit hd, hf, if_neg (Nat.succ_ne_zero _), List.length_cons]

theorem expM_shape {ex rest : List Char} (h : expShape ex = true)
    (hn : nextNot isWord rest.head? = true) : expM (ex ++ rest) = some rest := by
  obtain ⟨s, x, xs, rfl, hs, hx, hxs⟩ := expShape_inv h
  have he : isExpChar 'e' = true := by decide
  simp [expM, he, hs, plusM_append_stop hx hxs (nextNot_word_digit hn)]

theorem float_step {t rest : List Char} (hsh : floatShape t = true)
    (hn : nextNot isWord rest.head? = true) :
    firstC rulesC (t ++ rest) = some ("float", t.length) := by
  have hna := nextNot_word_alpha hn
  obtain ⟨d, ds, hd, hds, hcase⟩ := floatShape_inv hsh
  rcases hcase with ⟨f, fs, ex, hf, hfs, hex, rfl⟩ | ⟨ex, hex, rfl⟩
  · -- `D+.D+` with or without exponent: the first form
    have hp : plusM isDigit (d :: (ds ++ '.' :: (f :: fs ++ ex ++ rest)))
        = some ('.' :: (f :: fs ++ ex ++ rest)) := plusM_append_stop hd hds rfl
    have hopt : optM expM (ex ++ rest) = rest ∧ nextNot isDigit (ex ++ rest).head? = true := by
      rcases hex with rfl | hex
      · exact ⟨by simp [optM, expM_stop (nextNot_word_exp hn)], nextNot_word_digit hn⟩
      · refine ⟨by simp [optM, expM_shape hex hn], ?_⟩
        obtain ⟨s, x, xs, rfl, -⟩ := expShape_inv hex
        rfl
    have hfr : (f :: (fs ++ (ex ++ rest))).dropWhile isDigit = ex ++ rest := by
      simp [List.dropWhile, hf, dropWhile_append_stop hfs hopt.2]
    have h1 : float1M (d :: (ds ++ '.' :: f :: fs ++ ex ++ rest)) = some rest := by
      unfold float1M
      simp only [List.cons_append, List.append_assoc] at hp ⊢
      rw [hp]
      simp [hfr, hopt.1, dropWhile_stop hna]
    simpa using float_chain (t := ds ++ '.' :: f :: fs ++ ex) hd (Or.inl (by simpa using h1))
  · -- `D+e±D+`: the second form (the first wants the dot)
    obtain ⟨s, x, xs, rfl, -⟩ := expShape_inv hex
    have hp : plusM isDigit (d :: (ds ++ ('e' :: s :: x :: (xs ++ rest))))
        = some ('e' :: s :: x :: (xs ++ rest)) := plusM_append_stop hd hds rfl
    have h1 : float1M (d :: (ds ++ ('e' :: s :: x :: (xs ++ rest)))) = none := by
      unfold float1M; rw [hp]; simp
    have h2 : float2M (d :: (ds ++ ('e' :: s :: x :: (xs ++ rest)))) = some rest := by
      unfold float2M; rw [hp]
      have := expM_shape hex hn
      simp only [List.cons_append] at this
      simp [this, dropWhile_stop hna, boundary_of_nextNot hn]
    simpa using float_chain (t := ds ++ 'e' :: s :: x :: xs) hd
      (Or.inr ⟨by simpa using h1, by simpa using h2⟩)

end PV.Lexer
