import PV.Model.SymFft
import PV.Proofs.OpsSound
import PV.Proofs.AlgoFftMod
import PV.Proofs.AlgoTableFft
/-!
  PV.Proofs.SymFft — the symbolic FFT: (1) `c19FftW` with the identity wrapper is `c19Fft`;
  (2) `c19FftW` is natural in the carrier (a map that preserves `add`, `mul`, `zero`, the twiddles
  and commutes with the wrapper commutes with the transform); (3) the expression trees `symFft`
  builds evaluate (`den`) to the transform of the values of the inputs: the carrier
  `SymVal env` of expressions with an exact numeric value is closed under the overloaded `+` and
  `*` (C03: `bin_sound`) and under `CommonSubexpression`, the projection to the tree and the
  valuation into ℚ are both homomorphisms.
-/
namespace PV.Algo
open PV

/-! ### 1. the identity wrapper -/

section Id
variable {α : Type*} (add mul : α → α → α) (zero : α) (rp : ℕ → ℕ → α)

/-- **`fft` with the default wrapper** (`wrap_intermediate_with_level(level, x) = x`) is the
transform the C19 theorems speak about -/
theorem c19FftW_id (x : List α) :
    c19FftW add mul zero rp (fun v => v) x = c19Fft add mul zero rp x :=
  c19FftAuxW_id add mul zero rp x.length x
end Id

/-! ### 2. naturality -/

section Hom
variable {A : Type*} {B : Type*} (f : A → B)
  (addA mulA : A → A → A) (zeroA : A) (addB mulB : B → B → B) (zeroB : B)

theorem c19FftStepW_map (hadd : ∀ a b, f (addA a b) = addB (f a) (f b))
    (hmul : ∀ a b, f (mulA a b) = mulB (f a) (f b)) (hzero : f zeroA = zeroB)
    (rpA : ℕ → ℕ → A) (rpB : ℕ → ℕ → B) (hrp : ∀ m k, f (rpA m k) = rpB m k)
    (wrapA : List A → List A) (wrapB : List B → List B)
    (hwrap : ∀ l, (wrapA l).map f = wrapB (l.map f))
    (subA : List A → List A) (subB : List B → List B) (x : List A)
    (hsub : ∀ n1 < (findFactors x.length).1,
      (subA (stride x n1 (findFactors x.length).1)).map f =
        subB ((stride x n1 (findFactors x.length).1).map f)) :
    (c19FftStepW addA mulA zeroA rpA wrapA subA x).map f =
      c19FftStepW addB mulB zeroB rpB wrapB subB (x.map f) := by
  unfold c19FftStepW
  simp only [List.length_map]
  generalize (findFactors x.length).1 = N1 at *
  generalize (findFactors x.length).2 = N2 at *
  rw [List.map_flatMap]
  refine List.flatMap_congr fun k1 _ => ?_
  rw [c19PySum_map f addA zeroA addB zeroB hadd hzero]
  congr 1
  have hsubs : (List.range N1).map (fun n1 =>
        wrapB (c19VecMul mulB (subB (stride (x.map f) n1 N1)) (c19Twiddles rpB N1 N2 n1))) =
      ((List.range N1).map fun n1 =>
        wrapA (c19VecMul mulA (subA (stride x n1 N1)) (c19Twiddles rpA N1 N2 n1))).map
          (List.map f) := by
    rw [List.map_map]
    refine List.map_congr_left fun n1 hn1 => ?_
    have hn1 : n1 < N1 := List.mem_range.mp hn1
    simp only [Function.comp]
    rw [hwrap]
    congr 1
    unfold c19VecMul c19Twiddles
    rw [List.map_zipWith, c19_stride_map f x n1 N1 (by omega), ← hsub n1 hn1]
    simp only [hmul, ← hrp, List.zipWith_map_left, List.zipWith_map_right]
  rw [hsubs]
  simp only [List.zipIdx_map, List.map_map]
  refine List.map_congr_left fun pr _ => ?_
  simp only [Function.comp, Prod.map, id, c19VecScale, List.map_map]
  refine List.map_congr_left fun v _ => ?_
  simp only [Function.comp]
  rw [hmul, hrp]

theorem c19FftAuxW_map (hadd : ∀ a b, f (addA a b) = addB (f a) (f b))
    (hmul : ∀ a b, f (mulA a b) = mulB (f a) (f b)) (hzero : f zeroA = zeroB)
    (rpA : ℕ → ℕ → A) (rpB : ℕ → ℕ → B) (hrp : ∀ m k, f (rpA m k) = rpB m k)
    (wrapA : List A → List A) (wrapB : List B → List B)
    (hwrap : ∀ l, (wrapA l).map f = wrapB (l.map f)) (fuel : ℕ) :
    ∀ x : List A, (c19FftAuxW addA mulA zeroA rpA wrapA fuel x).map f =
      c19FftAuxW addB mulB zeroB rpB wrapB fuel (x.map f) := by
  induction fuel with
  | zero => intro x; rfl
  | succ fuel ih =>
    intro x
    unfold c19FftAuxW
    simp only [List.length_map]
    split_ifs with h1
    · rfl
    · exact c19FftStepW_map f addA mulA zeroA addB mulB zeroB hadd hmul hzero rpA rpB hrp
        wrapA wrapB hwrap _ _ x (fun n1 _ => ih _)

/-- **naturality of `fft` with a wrapper** -/
theorem c19FftW_map (hadd : ∀ a b, f (addA a b) = addB (f a) (f b))
    (hmul : ∀ a b, f (mulA a b) = mulB (f a) (f b)) (hzero : f zeroA = zeroB)
    (rpA : ℕ → ℕ → A) (rpB : ℕ → ℕ → B) (hrp : ∀ m k, f (rpA m k) = rpB m k)
    (wrapA : List A → List A) (wrapB : List B → List B)
    (hwrap : ∀ l, (wrapA l).map f = wrapB (l.map f)) (x : List A) :
    (c19FftW addA mulA zeroA rpA wrapA x).map f = c19FftW addB mulB zeroB rpB wrapB (x.map f) := by
  unfold c19FftW
  rw [List.length_map]
  exact c19FftAuxW_map f addA mulA zeroA addB mulB zeroB hadd hmul hzero rpA rpB hrp wrapA wrapB
    hwrap _ x
end Hom

/-! ### 3. expressions with an exact numeric value -/

section Sym
variable (env : Env)

/-- the expression evaluates to an exact number (int, bool or Fraction) with rational value `q` -/
def SymHas (t : Expr) (q : ℚ) : Prop := ∃ w f, den env t = .ok w ∧ w.view = some (q, f)

/-- what an object array may hold here: an expression or number with an exact value, not the
constants `True` / `False` (`True + x` trips an `assert`) -/
def SymExact (t : Expr) : Prop := t.isBoolConst = false ∧ ∃ q, SymHas env t q

/-- the rational value of an expression (0 when it has none) -/
def symValue (t : Expr) : ℚ :=
  match den env t with
  | .ok w => match w.view with
    | some (q, _) => q
    | none => 0
  | .error _ => 0

theorem symValue_of {t : Expr} {q : ℚ} (h : SymHas env t q) : symValue env t = q := by
  obtain ⟨w, f, hw, hv⟩ := h
  simp [symValue, hw, hv]

theorem SymExact.has {t : Expr} (h : SymExact env t) : SymHas env t (symValue env t) := by
  obtain ⟨_, q, hq⟩ := h
  rw [symValue_of env hq]; exact hq

/-- a constant with an exact value that is not a bool is an int -/
theorem symExact_const {c : Const} (h : SymExact env (.const c)) : ∃ n : Int, c = .int n := by
  obtain ⟨hb, q, w, f, hw, hv⟩ := h
  cases c with
  | int n => exact ⟨n, rfl⟩
  | bool b => simp [Expr.isBoolConst] at hb
  | flt r n d =>
    simp only [den, Const.den, pure, Except.pure] at hw
    cases hw; simp [Value.view] at hv
  | str s => simp [den, Const.den, throw, throwThe, MonadExceptOf.throw] at hw
  | none => simp [den, Const.den, throw, throwThe, MonadExceptOf.throw] at hw

theorem symExact_valid {t : Expr} (h : SymExact env t) : t.isArith = true := by
  obtain ⟨hb, q, w, f, hw, hv⟩ := h
  cases t <;> simp_all [Expr.isArith, Expr.isValidOperand, Expr.isNode, Expr.isConstant,
    Expr.isBoolConst]
  case const c =>
    cases c <;> simp_all [den, Const.den, pure, Except.pure, Value.view, throw, throwThe,
      MonadExceptOf.throw]
  case tuple cs =>
    simp only [den, bind, Except.bind] at hw
    cases h : denList env cs <;> simp [h, pure, Except.pure] at hw
    subst hw; simp [Value.view] at hv
  case list cs =>
    simp only [den, bind, Except.bind] at hw
    cases h : denList env cs <;> simp [h, pure, Except.pure] at hw
    subst hw; simp [Value.view] at hv

/-! #### the overloaded operators succeed on such operands -/

theorem isArith_valid {e : Expr} (h : e.isArith = true) : e.isValidOperand = true := by
  simp only [Expr.isArith, Bool.and_eq_true] at h; exact h.2

theorem addD_ret (a b : Expr) (hb : b.isArith = true) :
    ∃ r, addD a b = .ret r ∧ (r = a ∨ r = b ∨ r.isNode = true) := by
  have hv := isArith_valid hb
  unfold addD
  split
  · simp only [hv, Bool.not_true, Bool.false_eq_true, if_false]
    split
    · exact ⟨_, rfl, Or.inr (Or.inr rfl)⟩
    · split
      · exact ⟨_, rfl, Or.inl rfl⟩
      · exact ⟨_, rfl, Or.inr (Or.inr rfl)⟩
  · unfold exprAdd
    simp only [hb, Bool.not_true, Bool.false_eq_true, if_false]
    split
    · split
      · split
        · exact ⟨_, rfl, Or.inr (Or.inr rfl)⟩
        · exact ⟨_, rfl, Or.inr (Or.inr rfl)⟩
      · exact ⟨_, rfl, Or.inr (Or.inl rfl)⟩
    · exact ⟨_, rfl, Or.inl rfl⟩

theorem raddD_ret (b a : Expr) (hc : a.isConstant = true) (hn : a.isNumber = true) :
    ∃ r, raddD b a = .ret r ∧ (r = a ∨ r = b ∨ r.isNode = true) := by
  unfold raddD
  split
  · simp only [hc, Bool.not_true, Bool.false_eq_true, if_false]
    split
    · exact ⟨_, rfl, Or.inr (Or.inl rfl)⟩
    · exact ⟨_, rfl, Or.inr (Or.inr rfl)⟩
  · simp only [hn, Bool.not_true, Bool.false_eq_true, if_false]
    split
    · split
      · exact ⟨_, rfl, Or.inr (Or.inr rfl)⟩
      · exact ⟨_, rfl, Or.inl rfl⟩
    · exact ⟨_, rfl, Or.inr (Or.inl rfl)⟩

theorem mulD_ret (a b : Expr) (hb : b.isValidOperand = true) :
    ∃ r, mulD a b = .ret r ∧ (r = a ∨ r = zero ∨ r.isNode = true) := by
  unfold mulD
  simp only [hb, Bool.not_true, Bool.false_eq_true, if_false]
  split
  · split
    · exact ⟨_, rfl, Or.inr (Or.inr rfl)⟩
    · split
      · exact ⟨_, rfl, Or.inr (Or.inl rfl)⟩
      · split
        · exact ⟨_, rfl, Or.inl rfl⟩
        · exact ⟨_, rfl, Or.inr (Or.inr rfl)⟩
  · split
    · exact ⟨_, rfl, Or.inl rfl⟩
    · split
      · exact ⟨_, rfl, Or.inr (Or.inl rfl)⟩
      · exact ⟨_, rfl, Or.inr (Or.inr rfl)⟩

theorem rmulD_ret (b a : Expr) (hc : a.isConstant = true) :
    ∃ r, rmulD b a = .ret r ∧ (r = b ∨ r = zero ∨ r.isNode = true) := by
  unfold rmulD
  simp only [hc, Bool.not_true, Bool.false_eq_true, if_false]
  split
  · split
    · exact ⟨_, rfl, Or.inr (Or.inl rfl)⟩
    · split
      · exact ⟨_, rfl, Or.inl rfl⟩
      · exact ⟨_, rfl, Or.inr (Or.inr rfl)⟩
  · split
    · exact ⟨_, rfl, Or.inl rfl⟩
    · split
      · exact ⟨_, rfl, Or.inr (Or.inl rfl)⟩
      · exact ⟨_, rfl, Or.inr (Or.inr rfl)⟩

theorem isNode_not_boolConst {e : Expr} (h : e.isNode = true) : e.isBoolConst = false := by
  cases e <;> simp_all [Expr.isNode, Expr.isBoolConst]

theorem arith_node_or_number {e : Expr} (h : e.isArith = true) :
    e.isNode = true ∨ (e.isConstant = true ∧ e.isNumber = true) := by
  cases e <;> simp_all [Expr.isArith, Expr.isValidOperand, Expr.isNode, Expr.isConstant,
    Expr.isNumber, Expr.isBoolConst]
  case const c => cases c <;> simp_all

/-- `dispatch` on two arithmetic operands of which one is a node, given that the forward method
answers on a valid operand and the reflected one on a number -/
theorem dispatch_ret {fwd refl : Expr → Expr → Dunder} (a b : Expr) (P : Expr → Prop)
    (ha : a.isArith = true) (hnode : a.isNode = true ∨ b.isNode = true)
    (hf : ∃ r, fwd a b = .ret r ∧ P r)
    (hr : a.isConstant = true → a.isNumber = true → ∃ r, refl b a = .ret r ∧ P r) :
    ∃ r, dispatch fwd refl a b = .ok r ∧ P r := by
  unfold dispatch
  by_cases han : a.isNode = true
  · obtain ⟨r, hr', hp⟩ := hf
    simp only [han, if_true, hr']
    exact ⟨r, rfl, hp⟩
  · have hbn : b.isNode = true := by
      rcases hnode with h | h
      · exact absurd h han
      · exact h
    rcases arith_node_or_number ha with h | ⟨hc, hn⟩
    · exact absurd h han
    · obtain ⟨r, hr', hp⟩ := hr hc hn
      simp only [han, hbn, if_true, hc, hr']
      exact ⟨r, rfl, hp⟩

/-! #### closure under `+`, `*`, `CommonSubexpression` -/

theorem symBin_of_not_consts (o : PyBinOp) (a b : Expr)
    (h : ∀ x y, a = .const x → b = .const y → False) :
    symBin o a b = (Ops.bin o a b).toOption := by
  unfold symBin
  split
  · rename_i x y
    exact (h x y rfl rfl).elim
  · rfl

theorem const_of_isConstant {e : Expr} (he : e.isConstant = true) : ∃ x, e = .const x := by
  unfold Expr.isConstant at he
  split at he <;> first | exact ⟨_, rfl⟩ | exact absurd he (by decide)

theorem symExact_node_of_not_consts {a b : Expr} (ha : SymExact env a) (hb : SymExact env b)
    (h : ∀ x y, a = .const x → b = .const y → False) : a.isNode = true ∨ b.isNode = true := by
  rcases arith_node_or_number (symExact_valid env ha) with hna | ⟨hca, _⟩
  · exact .inl hna
  · rcases arith_node_or_number (symExact_valid env hb) with hnb | ⟨hcb, _⟩
    · exact .inr hnb
    · obtain ⟨x, hx⟩ := const_of_isConstant hca
      obtain ⟨y, hy⟩ := const_of_isConstant hcb
      exact (h x y hx hy).elim

theorem symHas_int (n : Int) : SymHas env (.const (.int n)) (n : ℚ) :=
  ⟨.int n, false, rfl, rfl⟩

/-- **`+` on two such objects**: it succeeds, the result is such an object again and its value is
the sum of the values (C03 `bin_sound` for trees, Python's own `+` for two ints) -/
theorem symBin_add_closed {a b : Expr} (ha : SymExact env a) (hb : SymExact env b) :
    ∃ t, symBin .add a b = some t ∧ SymExact env t ∧
      symValue env t = symValue env a + symValue env b := by
  by_cases hc : ∃ x y, a = .const x ∧ b = .const y
  · obtain ⟨x, y, rfl, rfl⟩ := hc
    obtain ⟨m, rfl⟩ := symExact_const env ha
    obtain ⟨n, rfl⟩ := symExact_const env hb
    refine ⟨.const (.int (m + n)), rfl, ⟨rfl, _, symHas_int env (m + n)⟩, ?_⟩
    rw [symValue_of env (symHas_int env (m + n)), symValue_of env (symHas_int env m),
      symValue_of env (symHas_int env n)]
    push_cast; ring
  · have hnc : ∀ x y, a = .const x → b = .const y → False :=
      fun x y hx hy => hc ⟨x, y, hx, hy⟩
    have hnode := symExact_node_of_not_consts env ha hb hnc
    have hA := symExact_valid env ha
    have hB := symExact_valid env hb
    obtain ⟨r, hr, hshape⟩ := dispatch_ret (fwd := addD) (refl := raddD) a b
      (fun r => r = a ∨ r = b ∨ r.isNode = true) hA hnode (addD_ret a b hB)
      (fun hcn hnum => by
        obtain ⟨r, hr, hs⟩ := raddD_ret b a hcn hnum
        exact ⟨r, hr, hs⟩)
    have hbin : Ops.bin .add a b = .ok r := hr
    obtain ⟨wa, fa, hwa, hva⟩ := ha.has
    obtain ⟨wb, fb, hwb, hvb⟩ := hb.has
    obtain ⟨v, hv, hvv⟩ := add_spec hva hvb
    obtain ⟨w, hw, href⟩ := bin_sound (env := env) hbin hwa hwb (show PyBinOp.onValues .add wa wb = .ok v from hv) rfl
    obtain ⟨fw, hwv, _⟩ := href.view_right hvv
    have hhas : SymHas env r (symValue env a + symValue env b) := ⟨w, fw, hw, hwv⟩
    refine ⟨r, by rw [symBin_of_not_consts _ _ _ hnc, hbin]; rfl, ⟨?_, _, hhas⟩,
      symValue_of env hhas⟩
    rcases hshape with rfl | rfl | hn
    · exact ha.1
    · exact hb.1
    · exact isNode_not_boolConst hn

/-- **`*` on two such objects** -/
theorem symBin_mul_closed {a b : Expr} (ha : SymExact env a) (hb : SymExact env b) :
    ∃ t, symBin .mul a b = some t ∧ SymExact env t ∧
      symValue env t = symValue env a * symValue env b := by
  by_cases hc : ∃ x y, a = .const x ∧ b = .const y
  · obtain ⟨x, y, rfl, rfl⟩ := hc
    obtain ⟨m, rfl⟩ := symExact_const env ha
    obtain ⟨n, rfl⟩ := symExact_const env hb
    refine ⟨.const (.int (m * n)), rfl, ⟨rfl, _, symHas_int env (m * n)⟩, ?_⟩
    rw [symValue_of env (symHas_int env (m * n)), symValue_of env (symHas_int env m),
      symValue_of env (symHas_int env n)]
    push_cast; ring
  · have hnc : ∀ x y, a = .const x → b = .const y → False :=
      fun x y hx hy => hc ⟨x, y, hx, hy⟩
    have hnode := symExact_node_of_not_consts env ha hb hnc
    have hA := symExact_valid env ha
    have hB := symExact_valid env hb
    obtain ⟨r, hr, hshape⟩ := dispatch_ret (fwd := mulD) (refl := rmulD) a b
      (fun r => r = a ∨ r = b ∨ r = zero ∨ r.isNode = true) hA hnode
      (by
        obtain ⟨r, hr, hs⟩ := mulD_ret a b (isArith_valid hB)
        exact ⟨r, hr, hs.imp_right .inr⟩)
      (fun hcn _ => by
        obtain ⟨r, hr, hs⟩ := rmulD_ret b a hcn
        exact ⟨r, hr, .inr hs⟩)
    have hbin : Ops.bin .mul a b = .ok r := hr
    obtain ⟨wa, fa, hwa, hva⟩ := ha.has
    obtain ⟨wb, fb, hwb, hvb⟩ := hb.has
    obtain ⟨v, hv, hvv⟩ := mul_spec hva hvb
    obtain ⟨w, hw, href⟩ := bin_sound (env := env) hbin hwa hwb (show PyBinOp.onValues .mul wa wb = .ok v from hv) rfl
    obtain ⟨fw, hwv, _⟩ := href.view_right hvv
    have hhas : SymHas env r (symValue env a * symValue env b) := ⟨w, fw, hw, hwv⟩
    refine ⟨r, by rw [symBin_of_not_consts _ _ _ hnc, hbin]; rfl, ⟨?_, _, hhas⟩,
      symValue_of env hhas⟩
    rcases hshape with rfl | rfl | rfl | hn
    · exact ha.1
    · exact hb.1
    · rfl
    · exact isNode_not_boolConst hn

/-- `CommonSubexpression(e)` evaluates like `e` (and is never a bool constant) -/
theorem symCse_closed {a : Expr} {q : ℚ} (ha : SymHas env a q) :
    SymExact env (symCse a) ∧ symValue env (symCse a) = q := by
  have h : SymHas env (symCse a) q := by
    obtain ⟨w, f, hw, hv⟩ := ha
    exact ⟨w, f, by simpa [symCse, den] using hw, hv⟩
  exact ⟨⟨rfl, q, h⟩, symValue_of env h⟩

end Sym

/-! ### 4. the trees of the symbolic FFT evaluate to the transform of the values -/

section Main
variable (env : Env)

/-- the carrier of the proof: expressions with an exact value -/
abbrev SymVal := {t : Expr // SymExact env t}

noncomputable def SymVal.add (a b : SymVal env) : SymVal env :=
  ⟨Classical.choose (symBin_add_closed env a.2 b.2),
    (Classical.choose_spec (symBin_add_closed env a.2 b.2)).2.1⟩

noncomputable def SymVal.mul (a b : SymVal env) : SymVal env :=
  ⟨Classical.choose (symBin_mul_closed env a.2 b.2),
    (Classical.choose_spec (symBin_mul_closed env a.2 b.2)).2.1⟩

def SymVal.zero : SymVal env := ⟨PV.zero, rfl, _, symHas_int env 0⟩

def SymVal.cse (a : SymVal env) : SymVal env :=
  ⟨symCse a.1, (symCse_closed env a.2.has).1⟩

def SymVal.wrap (l : List (SymVal env)) : List (SymVal env) :=
  if l.length > 1 then l.map (SymVal.cse env) else l

def SymVal.tree (a : SymVal env) : Option Expr := some a.1
def SymVal.val (a : SymVal env) : ℚ := symValue env a.1

theorem SymVal.tree_add (a b : SymVal env) :
    SymVal.tree env (SymVal.add env a b) = symOp .add (SymVal.tree env a) (SymVal.tree env b) :=
  (Classical.choose_spec (symBin_add_closed env a.2 b.2)).1.symm
theorem SymVal.tree_mul (a b : SymVal env) :
    SymVal.tree env (SymVal.mul env a b) = symOp .mul (SymVal.tree env a) (SymVal.tree env b) :=
  (Classical.choose_spec (symBin_mul_closed env a.2 b.2)).1.symm
theorem SymVal.val_add (a b : SymVal env) : SymVal.val env (SymVal.add env a b) = SymVal.val env a + SymVal.val env b :=
  (Classical.choose_spec (symBin_add_closed env a.2 b.2)).2.2
theorem SymVal.val_mul (a b : SymVal env) : SymVal.val env (SymVal.mul env a b) = SymVal.val env a * SymVal.val env b :=
  (Classical.choose_spec (symBin_mul_closed env a.2 b.2)).2.2
theorem SymVal.val_zero : SymVal.val env (SymVal.zero env) = 0 := by
  have := symValue_of env (symHas_int env 0)
  simpa [SymVal.val, SymVal.zero, PV.zero] using this
theorem SymVal.val_cse (a : SymVal env) : SymVal.val env (SymVal.cse env a) = SymVal.val env a :=
  (symCse_closed env a.2.has).2

theorem SymVal.wrap_tree (l : List (SymVal env)) :
    (SymVal.wrap env l).map (SymVal.tree env) = symWrap (l.map (SymVal.tree env)) := by
  unfold SymVal.wrap symWrap
  simp only [List.length_map]
  split_ifs
  · simp only [List.map_map]
    rfl
  · rfl

theorem SymVal.wrap_val (l : List (SymVal env)) :
    (SymVal.wrap env l).map (SymVal.val env) = l.map (SymVal.val env) := by
  unfold SymVal.wrap
  split_ifs
  · simp only [List.map_map]
    refine List.map_congr_left fun a _ => ?_
    exact SymVal.val_cse env a
  · rfl

theorem pow_mod_of_pow_eq_one {R : Type*} [Monoid R] (z : R) (n e : ℕ) (hz : z ^ n = 1) :
    z ^ (e % n) = z ^ e := by
  conv_rhs => rw [← Nat.div_add_mod e n, pow_add, pow_mul, hz, one_pow, one_mul]

/-- **The symbolic FFT evaluates to the transform of the values.**  `xs`: the input expressions
(ANY expressions: `sym_fft` wraps each in a `CommonSubexpression` first), each with an exact value
in `env`; `tw e` (`e < n`): the expression standing for the `e`-th power of the root, with exact
value `ζ^e`, `ζ^n = 1`.  Then every operator application inside `fft` succeeds, and the `k`-th
tree `fft` returns evaluates (`den`) to an exact number whose value is
`∑_j ζ^(k·j) · value(x_j)`.  (The exact values of the model are rationals, so `ζ = ±1`: the
theorem is about the trees `fft` builds and the operators succeeding, the arithmetic of the
transform for real roots is `c19Fft_eq_dft`.)  Proof: `c19FftW_map` twice on the carrier `SymVal`,
once with the projection to the tree, once with the valuation into ℚ. -/
theorem symFft_den (tw : ℕ → Expr) (xs : List Expr) (ζ : ℚ) (hlen : 2 ≤ xs.length)
    (hx : ∀ x ∈ xs, ∃ q, SymHas env x q) (hζ : ζ ^ xs.length = 1)
    (htw : ∀ e < xs.length, (tw e).isBoolConst = false ∧ SymHas env (tw e) (ζ ^ e)) :
    ∃ ts : List Expr, symFft tw xs = ts.map some ∧ ts.length = xs.length ∧
      ∀ k (hk : k < ts.length), SymHas env ts[k]
        (∑ j ∈ Finset.range xs.length, ζ ^ (k * j) * (xs.map (symValue env)).getD j 0) := by
  classical
  have hn : 0 < xs.length := by omega
  -- the inputs, wrapped, as elements of the carrier
  let xA : List (SymVal env) := xs.pmap (fun x (h : ∃ q, SymHas env x q) =>
    (⟨symCse x, (symCse_closed env (Classical.choose_spec h)).1⟩ : SymVal env)) hx
  have hxA_tree : xA.map (SymVal.tree env) = symWrap (xs.map some) := by
    unfold symWrap
    simp only [List.length_map, show xs.length > 1 from hlen, if_true, xA, List.map_pmap,
      List.map_map]
    exact List.pmap_eq_map (f := fun x => some (symCse x)) hx
  have hxA_val : xA.map (SymVal.val env) = xs.map (symValue env) := by
    simp only [xA, List.map_pmap]
    rw [← List.pmap_eq_map (f := fun x => symValue env x) hx]
    refine List.pmap_congr_left xs fun x _ h _ => ?_
    simp only [SymVal.val]
    rw [(symCse_closed env (Classical.choose_spec h)).2,
      symValue_of env (Classical.choose_spec h)]
  have hxA_len : xA.length = xs.length := by simp [xA]
  -- the twiddles as elements of the carrier
  let rpA : ℕ → ℕ → SymVal env := fun m k =>
    ⟨tw ((xs.length / m * k) % xs.length),
      (htw _ (Nat.mod_lt _ hn)).1, _, (htw _ (Nat.mod_lt _ hn)).2⟩
  let R := c19FftW (SymVal.add env) (SymVal.mul env) (SymVal.zero env) rpA (SymVal.wrap env) xA
  have htree : R.map (SymVal.tree env) = symFft tw xs := by
    have := c19FftW_map (SymVal.tree env) (SymVal.add env) (SymVal.mul env)
      (SymVal.zero env) (symOp .add) (symOp .mul) (some PV.zero)
      (SymVal.tree_add env) (SymVal.tree_mul env) rfl rpA
      (fun m k => some (tw ((xs.length / m * k) % xs.length))) (fun _ _ => rfl)
      (SymVal.wrap env) symWrap (SymVal.wrap_tree env) xA
    rw [this, hxA_tree]
    rfl
  have hval : R.map (SymVal.val env) = c19Dft ζ (xs.map (symValue env)) := by
    have := c19FftW_map (SymVal.val env) (SymVal.add env) (SymVal.mul env)
      (SymVal.zero env) (· + ·) (· * ·) 0
      (SymVal.val_add env) (SymVal.val_mul env) (SymVal.val_zero env) rpA
      (fun m k => ζ ^ (xs.length / m * k))
      (fun m k => by
        show symValue env (tw ((xs.length / m * k) % xs.length)) = _
        rw [symValue_of env (htw _ (Nat.mod_lt _ hn)).2, pow_mod_of_pow_eq_one ζ _ _ hζ])
      (SymVal.wrap env) (fun v => v) (SymVal.wrap_val env) xA
    rw [this, hxA_val, c19FftW_id]
    exact c19Fft_eq_dft ζ _ _ (by simp; omega) (by simpa using hζ)
      (fun m k _ => by simp)
  refine ⟨R.map (·.1), ?_, ?_, ?_⟩
  · rw [← htree, List.map_map]; rfl
  · have := congrArg List.length hval
    simpa using this
  · intro k hk
    have hk' : k < R.length := by simpa using hk
    have hq : SymVal.val env (R[k]) = (c19Dft ζ (xs.map (symValue env)))[k]'(by
        rw [← hval]; simpa using hk') := by
      have := List.getElem_map (SymVal.val env) (l := R) (i := k) (h := by simpa using hk')
      rw [← this]
      congr 1
    have hhas := (R[k]).2.has
    simp only [List.getElem_map]
    rw [show symValue env (R[k]).1 = SymVal.val env (R[k]) from rfl, hq] at hhas
    simpa [c19Dft] using hhas

/-- the single input: `fft` returns its argument, `wrap_intermediate` leaves arrays of length
one alone -/
theorem symFft_singleton (tw : ℕ → Expr) (x : Expr) : symFft tw [x] = [some x] := rfl

/-- `Power(z, e)` evaluates to `ζ^e` when the variable `z` holds an exact number of value `ζ`
(`e ≤ 4096`: beyond that the model of Python numbers abstains on powers) -/
theorem symTw_has (z : String) (v : Value) (ζ : ℚ) (f : Bool) (hz : env.get z = some v)
    (hv : v.view = some (ζ, f)) (e : ℕ) (he : e ≤ 4096) :
    (symTw z e).isBoolConst = false ∧ SymHas env (symTw z e) (ζ ^ e) := by
  unfold symTw
  by_cases h0 : e = 0
  · subst h0
    simp only [if_true, pow_zero]
    exact ⟨rfl, by simpa using symHas_int env 1⟩
  · simp only [h0, if_false]
    refine ⟨rfl, ?_⟩
    have hden : den env (.bin .pow (.var z) (.const (.int e))) = Value.pow v (.int e) := by
      simp [den, hz, Const.den, BinOp.apply, bind, Except.bind, pure, Except.pure]
    have hbig : e ≤ bigLimit := by simp only [bigLimit]; omega
    have hge : (e : Int) ≥ 0 := Int.natCast_nonneg e
    rcases view_cases hv with ⟨n, rfl, rfl, rfl⟩ | ⟨b, rfl, rfl, rfl⟩ | ⟨rfl, rfl⟩
    · refine ⟨.int (n ^ e), false, ?_, by simp [Value.view]⟩
      rw [hden]
      simp [Value.pow, arith, Value.isInexact, Value.isSeq, Value.num?, powN, hbig, hge, pure,
        Except.pure]
    · refine ⟨.int ((if b then 1 else 0) ^ e), false, ?_, by simp [Value.view]⟩
      rw [hden]
      simp [Value.pow, arith, Value.isInexact, Value.isSeq, Value.num?, powN, hbig, hge, pure,
        Except.pure]
    · refine ⟨.frac (ζ ^ e), true, ?_, by simp [Value.view]⟩
      rw [hden]
      simp [Value.pow, arith, Value.isInexact, Value.isSeq, Value.num?, powN, fracPowInt, hbig,
        hge, pure, Except.pure]

end Main

end PV.Algo
