import PV.Proofs.ImpFuse
import PV.Proofs.Subterm
import PV.Properties.C09
import PV.Properties.C08
/-
  Helper lemmas for C20: the independent scan of an expression (`scanVars`), what the coded
  read/written sets are in terms of it, and renaming of variables.
-/
namespace PV.Imp
open PV PV.C09

/-! ### the independent scan -/

mutual
/-- all variable names of an expression, except the function position of calls (the name of a
function is not a variable that is read) -/
def scanVars : Expr → List String
  | .var x => [x]
  | .nary _ cs => scanVarsL cs
  | .bin _ a b => scanVars a ++ scanVars b
  | .un _ a => scanVars a
  | .cmp _ a b => scanVars a ++ scanVars b
  | .ite c t e => scanVars c ++ scanVars t ++ scanVars e
  | .call _ as => scanVarsL as
  | .callKw _ as _ vs => scanVarsL as ++ scanVarsL vs
  | .subscript a i => scanVars a ++ scanVars i
  | .lookup a _ => scanVars a
  | .cse c _ _ => scanVars c
  | .subst c _ xs => scanVars c ++ scanVarsL xs
  | .deriv c _ => scanVars c
  | .slice cs => scanVarsL cs
  | .tuple cs => scanVarsL cs
  | .list cs => scanVarsL cs
  | _ => []
def scanVarsL : List Expr → List String
  | [] => []
  | c :: cs => scanVars c ++ scanVarsL cs
end

/-! the dependency mapper of a statement returns variable nodes only, and their names are exactly
the scanned ones (`VarSet r names`, from C09: every element of `r` is a variable, and `.var x ∈ r`
iff `x ∈ names`) -/
mutual
theorem deps_stmt : ∀ (e : Expr) (r : List Expr), deps stmtFlags e = .ok r → VarSet r (scanVars e)
  | .const c, r, h => by
      cases c <;> simp only [deps] at h <;> cases h <;> exact VarSet.nil
  | .var x, r, h => by cases h; exact VarSet.single x
  | .nan, r, h => by cases h; exact VarSet.nil
  | .wildcard, r, h => by cases h; exact VarSet.nil
  | .dotWild _, r, h => by cases h; exact VarSet.nil
  | .starWild _, r, h => by cases h; exact VarSet.nil
  | .funcSym, r, h => by cases h; exact VarSet.nil
  | .subst .., r, h => by cases h
  | .deriv .., r, h => by cases h
  | .bin o a b, r, h => by
      simp only [deps] at h
      obtain ⟨x, hx, h⟩ := except_bind_ok h
      obtain ⟨y, hy, h⟩ := except_bind_ok h
      cases h
      exact (deps_stmt a x hx).union (deps_stmt b y hy)
  | .cmp o a b, r, h => by
      simp only [deps] at h
      obtain ⟨x, hx, h⟩ := except_bind_ok h
      obtain ⟨y, hy, h⟩ := except_bind_ok h
      cases h
      exact (deps_stmt a x hx).union (deps_stmt b y hy)
  | .subscript a b, r, h => by
      simp only [deps, stmtFlags, Bool.false_eq_true, if_false] at h
      obtain ⟨x, hx, h⟩ := except_bind_ok h
      obtain ⟨y, hy, h⟩ := except_bind_ok h
      cases h
      exact (deps_stmt a x hx).union (deps_stmt b y hy)
  | .ite a b c, r, h => by
      simp only [deps] at h
      obtain ⟨x, hx, h⟩ := except_bind_ok h
      obtain ⟨y, hy, h⟩ := except_bind_ok h
      obtain ⟨z, hz, h⟩ := except_bind_ok h
      cases h
      exact ((deps_stmt a x hx).union (deps_stmt b y hy)).union (deps_stmt c z hz)
  | .un o a, r, h => by
      simp only [deps] at h
      exact deps_stmt a r h
  | .lookup a n, r, h => by
      simp only [deps, stmtFlags, Bool.false_eq_true, if_false] at h
      exact deps_stmt a r h
  | .cse a p s, r, h => by
      simp only [deps, stmtFlags, Bool.false_eq_true, if_false] at h
      split at h
      · cases h
      · exact deps_stmt a r h
  | .nary o cs, r, h => by
      simp only [deps] at h
      exact depsL_stmt cs r h
  | .tuple cs, r, h => by
      simp only [deps] at h
      exact depsL_stmt cs r h
  | .list cs, r, h => by
      simp only [deps] at h
      exact depsL_stmt cs r h
  | .slice cs, r, h => by
      simp only [deps] at h
      exact depsSlice_stmt cs r h
  | .call a cs, r, h => by
      simp only [deps, stmtFlags] at h
      exact depsL_stmt cs r h
  | .callKw a bs ns cs, r, h => by
      simp only [deps, stmtFlags] at h
      obtain ⟨y, hy, h⟩ := except_bind_ok h
      obtain ⟨z, hz, h⟩ := except_bind_ok h
      cases h
      exact (depsL_stmt bs y hy).union (depsL_stmt cs z hz)
theorem depsL_stmt : ∀ (cs : List Expr) (r : List Expr), depsL stmtFlags cs = .ok r →
    VarSet r (scanVarsL cs)
  | [], r, h => by cases h; exact VarSet.nil
  | c :: cs, r, h => by
      simp only [depsL] at h
      obtain ⟨x, hx, h⟩ := except_bind_ok h
      obtain ⟨y, hy, h⟩ := except_bind_ok h
      cases h
      exact (deps_stmt c x hx).union (depsL_stmt cs y hy)
theorem depsSlice_stmt : ∀ (cs : List Expr) (r : List Expr), depsSlice stmtFlags cs = .ok r →
    VarSet r (scanVarsL cs)
  | [], r, h => by cases h; exact VarSet.nil
  | c :: cs, r, h => by
      by_cases hc : c = .const .none
      · subst hc
        simp only [depsSlice] at h
        simpa [scanVarsL, scanVars] using depsSlice_stmt cs r h
      · rw [depsSlice.eq_3 _ _ _ hc] at h
        obtain ⟨x, hx, h⟩ := except_bind_ok h
        obtain ⟨y, hy, h⟩ := except_bind_ok h
        cases h
        exact (deps_stmt c x hx).union (depsSlice_stmt cs y hy)
end

theorem depNames_spec : ∀ (r : List Expr), (∀ y ∈ r, ∃ x, y = .var x) →
    ∃ ns, depNames r = .ok ns ∧ ns.Nodup ∧ ∀ x, x ∈ ns ↔ .var x ∈ r
  | [], _ => ⟨[], rfl, List.nodup_nil, by simp⟩
  | y :: r, h => by
    obtain ⟨x, rfl⟩ := h y (List.mem_cons_self ..)
    obtain ⟨ns, hns, hnd, hmem⟩ := depNames_spec r (fun y hy => h y (List.mem_cons_of_mem _ hy))
    refine ⟨if x ∈ ns then ns else x :: ns, by simp [depNames, hns, pure, Except.pure, bind,
      Except.bind], ?_, ?_⟩
    · split
      · exact hnd
      · rename_i hx
        exact List.nodup_cons.2 ⟨hx, hnd⟩
    · intro z
      simp only [List.mem_cons, Expr.var.injEq]
      split
      · rename_i hx
        rw [hmem z]
        constructor
        · exact Or.inr
        · rintro (rfl | h)
          · exact (hmem z).1 hx
          · exact h
      · simp only [List.mem_cons, hmem z]

/-- `frozenset(dep.name for dep in get_deps(e))`: exactly the scanned names -/
theorem varsOf_spec {e : Expr} {ns : List String} (h : varsOf e = .ok ns) :
    ns.Nodup ∧ ∀ x, x ∈ ns ↔ x ∈ scanVars e := by
  unfold varsOf at h
  split at h
  · cases h
  · rename_i r hr
    have hv := deps_stmt e r hr
    obtain ⟨ns', hns', hnd, hmem⟩ := depNames_spec r hv.1
    rw [hns'] at h
    cases h
    exact ⟨hnd, fun x => (hmem x).trans (hv.2 x)⟩

/-! ### specification-level read / written sets -/

/-- variables in the index of a subscripted left-hand side -/
def lhsIndexVars : Expr → List String
  | .subscript _ i => scanVars i
  | _ => []

def condVars : Option Expr → List String
  | some c => scanVars c
  | none => []

/-- the read set by an independent scan of right-hand side, condition and left-hand-side index -/
def Kind.specReads : Kind → List String
  | .nop => []
  | .assign l r c => scanVars r ++ condVars c ++ lhsIndexVars l

/-- the written variable: the assigned variable, or the aggregate of an assigned subscript -/
def Kind.specWritten : Kind → List String
  | .assign (.var n) _ _ => [n]
  | .assign (.subscript (.var n) _) _ _ => [n]
  | _ => []

/-- the left-hand side is a variable or a subscripted variable (the property's quantifier) -/
def Kind.LhsOk : Kind → Prop
  | .nop => True
  | .assign (.var _) _ _ => True
  | .assign (.subscript (.var _) _) _ _ => True
  | _ => False

/-- no variable occurs ONLY in the left-hand-side index -/
def Kind.LhsCovered : Kind → Prop
  | .nop => True
  | .assign l r c => ∀ x ∈ lhsIndexVars l, x ∈ scanVars r ++ condVars c

theorem readsAssign_spec {l r : Expr} {ns : List String} (h : readsAssign l r = .ok ns) :
    ns.Nodup ∧ ∀ x, x ∈ ns ↔ x ∈ scanVars r := by
  unfold readsAssign at h
  obtain ⟨a, ha, h⟩ := except_bind_ok h
  obtain ⟨b, hb, h⟩ := except_bind_ok h
  cases h
  obtain ⟨hnd, hmem⟩ := varsOf_spec ha
  obtain ⟨-, hmem'⟩ := varsOf_spec hb
  exact ⟨nodup_unionS hnd, fun x => by rw [mem_unionS, hmem, hmem', or_self]⟩

/-- the names `get_read_variables` actually looks at: right-hand side and condition only -/
def Kind.codedReads : Kind → List String
  | .nop => []
  | .assign _ r c => scanVars r ++ condVars c

/-- what `get_read_variables` reports: the variables of right-hand side and condition -/
theorem reads_spec {k : Kind} {ns : List String} (h : k.reads = .ok ns) :
    ns.Nodup ∧ ∀ x, x ∈ ns ↔ x ∈ k.codedReads := by
  cases k with
  | nop =>
    cases h
    simp [Kind.codedReads]
  | assign l r c =>
    cases c with
    | none =>
      obtain ⟨hnd, hmem⟩ := readsAssign_spec (l := l) h
      exact ⟨hnd, fun x => by simp [hmem, condVars, Kind.codedReads]⟩
    | some c =>
      simp only [Kind.reads] at h
      obtain ⟨a, ha, h⟩ := except_bind_ok h
      obtain ⟨b, hb, h⟩ := except_bind_ok h
      cases h
      obtain ⟨hnd, hmem⟩ := readsAssign_spec ha
      obtain ⟨-, hmem'⟩ := varsOf_spec hb
      exact ⟨nodup_unionS hnd, fun x => by simp [mem_unionS, hmem, hmem', condVars, Kind.codedReads]⟩

theorem written_spec {k : Kind} {ns : List String} (h : k.written = .ok ns) :
    k.LhsOk ∧ ns = k.specWritten := by
  unfold Kind.written at h
  split at h <;> cases h <;> simp [Kind.LhsOk, Kind.specWritten]

theorem written_ok {k : Kind} (h : k.LhsOk) : k.written = .ok k.specWritten := by
  unfold Kind.LhsOk at h
  split at h <;> simp_all [Kind.written, Kind.specWritten, pure, Except.pure]

/-! ### identifiers of a stream -/

/-- the coded identifier collection, statement by statement -/
theorem usedIdentifiers_spec : ∀ {ss : List Stmt} {ids : List String},
    usedIdentifiers ss = .ok ids →
    ids.Nodup ∧
    (∀ s ∈ ss, ∃ r w, s.kind.reads = .ok r ∧ s.kind.written = .ok w) ∧
    ∀ x, x ∈ ids ↔ ∃ s ∈ ss, ∃ r w, s.kind.reads = .ok r ∧ s.kind.written = .ok w ∧ (x ∈ r ∨ x ∈ w)
  | [], ids, h => by
    cases h
    simp
  | s :: ss, ids, h => by
    simp only [usedIdentifiers] at h
    obtain ⟨r, hr, h⟩ := except_bind_ok h
    obtain ⟨w, hw, h⟩ := except_bind_ok h
    obtain ⟨tl, htl, h⟩ := except_bind_ok h
    cases h
    obtain ⟨-, hall, hmem⟩ := usedIdentifiers_spec htl
    refine ⟨nodup_unionS (nodup_unionS (reads_spec hr).1), ?_, ?_⟩
    · intro s' hs'
      rcases List.mem_cons.1 hs' with rfl | hs'
      · exact ⟨r, w, hr, hw⟩
      · exact hall s' hs'
    · intro x
      rw [mem_unionS, mem_unionS, hmem x]
      constructor
      · rintro ((h | h) | ⟨s', hs', r', w', hr', hw', hx⟩)
        · exact ⟨s, List.mem_cons_self .., r, w, hr, hw, Or.inl h⟩
        · exact ⟨s, List.mem_cons_self .., r, w, hr, hw, Or.inr h⟩
        · exact ⟨s', List.mem_cons_of_mem _ hs', r', w', hr', hw', hx⟩
      · rintro ⟨s', hs', r', w', hr', hw', hx⟩
        rcases List.mem_cons.1 hs' with rfl | hs'
        · rw [hr] at hr'
          rw [hw] at hw'
          cases hr'
          cases hw'
          exact Or.inl hx
        · exact Or.inr ⟨s', hs', r', w', hr', hw', hx⟩

/-- identifiers of a stream by the independent scan -/
def specIdents (ss : List Stmt) : List String :=
  ss.flatMap fun s => s.kind.specReads ++ s.kind.specWritten

/-- identifiers the code sees: those of right-hand sides and conditions, and the written names -/
def visibleIdents (ss : List Stmt) : List String :=
  ss.flatMap fun s => s.kind.codedReads ++ s.kind.specWritten

theorem usedIdentifiers_visible {ss : List Stmt} {ids : List String}
    (h : usedIdentifiers ss = .ok ids) : ∀ x, x ∈ ids ↔ x ∈ visibleIdents ss := by
  obtain ⟨-, hall, hmem⟩ := usedIdentifiers_spec h
  intro x
  rw [hmem x]
  simp only [visibleIdents, List.mem_flatMap, List.mem_append]
  constructor
  · rintro ⟨s, hs, r, w, hr, hw, hx⟩
    refine ⟨s, hs, ?_⟩
    rw [← (reads_spec hr).2 x, ← (written_spec hw).2]
    exact hx
  · rintro ⟨s, hs, hx⟩
    obtain ⟨r, w, hr, hw⟩ := hall s hs
    refine ⟨s, hs, r, w, hr, hw, ?_⟩
    rw [(reads_spec hr).2 x, (written_spec hw).2]
    exact hx

theorem codedReads_sub_spec {k : Kind} {x : String} (h : x ∈ k.codedReads) : x ∈ k.specReads := by
  cases k with
  | nop => exact h
  | assign l r c =>
    simp only [Kind.specReads, Kind.codedReads, List.mem_append] at h ⊢
    exact Or.inl h

theorem specReads_sub_coded {k : Kind} (hc : k.LhsCovered) {x : String} (h : x ∈ k.specReads) :
    x ∈ k.codedReads := by
  cases k with
  | nop => exact h
  | assign l r c =>
    simp only [Kind.specReads, Kind.codedReads, List.mem_append] at h ⊢
    rcases h with h | h
    · exact h
    · simpa using hc x h

theorem visible_sub_spec {ss : List Stmt} {x : String} (h : x ∈ visibleIdents ss) :
    x ∈ specIdents ss := by
  simp only [visibleIdents, specIdents, List.mem_flatMap, List.mem_append] at h ⊢
  obtain ⟨s, hs, hx⟩ := h
  exact ⟨s, hs, hx.imp codedReads_sub_spec id⟩

theorem spec_sub_visible {ss : List Stmt} (hc : ∀ s ∈ ss, s.kind.LhsCovered) {x : String}
    (h : x ∈ specIdents ss) : x ∈ visibleIdents ss := by
  simp only [visibleIdents, specIdents, List.mem_flatMap, List.mem_append] at h ⊢
  obtain ⟨s, hs, hx⟩ := h
  exact ⟨s, hs, hx.imp (specReads_sub_coded (hc s hs)) id⟩

/-! ### renaming of variables -/

mutual
/-- rename every variable node -/
def renameVars (ρ : String → String) : Expr → Expr
  | .var x => .var (ρ x)
  | .const c => .const c
  | .nary o cs => .nary o (renameVarsL ρ cs)
  | .bin o a b => .bin o (renameVars ρ a) (renameVars ρ b)
  | .un o a => .un o (renameVars ρ a)
  | .cmp o a b => .cmp o (renameVars ρ a) (renameVars ρ b)
  | .ite c t e => .ite (renameVars ρ c) (renameVars ρ t) (renameVars ρ e)
  | .call f as => .call (renameVars ρ f) (renameVarsL ρ as)
  | .callKw f as ns vs => .callKw (renameVars ρ f) (renameVarsL ρ as) ns (renameVarsL ρ vs)
  | .subscript a i => .subscript (renameVars ρ a) (renameVars ρ i)
  | .lookup a n => .lookup (renameVars ρ a) n
  | .cse c p s => .cse (renameVars ρ c) p s
  | .subst c vs xs => .subst (renameVars ρ c) vs (renameVarsL ρ xs)
  | .deriv c vs => .deriv (renameVars ρ c) vs
  | .slice cs => .slice (renameVarsL ρ cs)
  | .tuple cs => .tuple (renameVarsL ρ cs)
  | .list cs => .list (renameVarsL ρ cs)
  | .nan => .nan
  | .wildcard => .wildcard
  | .dotWild n => .dotWild n
  | .starWild n => .starWild n
  | .funcSym => .funcSym
def renameVarsL (ρ : String → String) : List Expr → List Expr
  | [] => []
  | c :: cs => renameVars ρ c :: renameVarsL ρ cs
end

mutual
theorem scanVars_rename (ρ : String → String) : ∀ e : Expr,
    scanVars (renameVars ρ e) = (scanVars e).map ρ
  | .var x => by simp [renameVars, scanVars]
  | .const c => by simp [renameVars, scanVars]
  | .nary o cs => by simp [renameVars, scanVars, scanVarsL_rename ρ cs]
  | .bin o a b => by simp [renameVars, scanVars, scanVars_rename ρ a, scanVars_rename ρ b]
  | .un o a => by simp [renameVars, scanVars, scanVars_rename ρ a]
  | .cmp o a b => by simp [renameVars, scanVars, scanVars_rename ρ a, scanVars_rename ρ b]
  | .ite c t e => by
    simp [renameVars, scanVars, scanVars_rename ρ c, scanVars_rename ρ t, scanVars_rename ρ e]
  | .call f as => by simp [renameVars, scanVars, scanVarsL_rename ρ as]
  | .callKw f as ns vs => by
    simp [renameVars, scanVars, scanVarsL_rename ρ as, scanVarsL_rename ρ vs]
  | .subscript a i => by simp [renameVars, scanVars, scanVars_rename ρ a, scanVars_rename ρ i]
  | .lookup a n => by simp [renameVars, scanVars, scanVars_rename ρ a]
  | .cse c p s => by simp [renameVars, scanVars, scanVars_rename ρ c]
  | .subst c vs xs => by simp [renameVars, scanVars, scanVars_rename ρ c, scanVarsL_rename ρ xs]
  | .deriv c vs => by simp [renameVars, scanVars, scanVars_rename ρ c]
  | .slice cs => by simp [renameVars, scanVars, scanVarsL_rename ρ cs]
  | .tuple cs => by simp [renameVars, scanVars, scanVarsL_rename ρ cs]
  | .list cs => by simp [renameVars, scanVars, scanVarsL_rename ρ cs]
  | .nan => by simp [renameVars, scanVars]
  | .wildcard => by simp [renameVars, scanVars]
  | .dotWild n => by simp [renameVars, scanVars]
  | .starWild n => by simp [renameVars, scanVars]
  | .funcSym => by simp [renameVars, scanVars]
theorem scanVarsL_rename (ρ : String → String) : ∀ cs : List Expr,
    scanVarsL (renameVarsL ρ cs) = (scanVarsL cs).map ρ
  | [] => by simp [renameVarsL, scanVarsL]
  | c :: cs => by simp [renameVarsL, scanVarsL, scanVars_rename ρ c, scanVarsL_rename ρ cs]
end

/-! truthiness (hence `is_zero`) does not look at variable names -/

theorem renameVarsL_isEmpty (ρ : String → String) (cs : List Expr) :
    (renameVarsL ρ cs).isEmpty = cs.isEmpty := by
  cases cs <;> simp [renameVarsL]

mutual
theorem truthy_rename (ρ : String → String) : ∀ e : Expr, (renameVars ρ e).truthy = e.truthy
  | .var x => by simp [renameVars, Expr.truthy]
  | .const c => by simp [renameVars]
  | .nary o cs => by
    cases o <;> simp only [renameVars, Expr.truthy]
    · exact truthySum_rename ρ cs
    · exact truthyProd_rename ρ cs
  | .bin o a b => by
    cases o <;> simp only [renameVars, Expr.truthy] <;> exact truthy_rename ρ a
  | .un o a => by simp [renameVars, Expr.truthy]
  | .cmp o a b => by simp [renameVars, Expr.truthy]
  | .ite c t e => by simp [renameVars, Expr.truthy]
  | .call f as => by simp [renameVars, Expr.truthy]
  | .callKw f as ns vs => by simp [renameVars, Expr.truthy]
  | .subscript a i => by simp [renameVars, Expr.truthy]
  | .lookup a n => by simp [renameVars, Expr.truthy]
  | .cse c p s => by simp [renameVars, Expr.truthy]
  | .subst c vs xs => by simp [renameVars, Expr.truthy]
  | .deriv c vs => by simp [renameVars, Expr.truthy]
  | .slice cs => by simp [renameVars, Expr.truthy]
  | .tuple cs => by simp [renameVars, Expr.truthy, renameVarsL_isEmpty]
  | .list cs => by simp [renameVars, Expr.truthy, renameVarsL_isEmpty]
  | .nan => by simp [renameVars]
  | .wildcard => by simp [renameVars]
  | .dotWild n => by simp [renameVars]
  | .starWild n => by simp [renameVars]
  | .funcSym => by simp [renameVars]
theorem truthySum_rename (ρ : String → String) : ∀ cs : List Expr,
    Expr.truthySum (renameVarsL ρ cs) = Expr.truthySum cs
  | [] => by simp [renameVarsL, Expr.truthySum]
  | [c] => by simp [renameVarsL, Expr.truthySum, truthy_rename ρ c]
  | _ :: _ :: _ => by simp [renameVarsL, Expr.truthySum]
theorem truthyProd_rename (ρ : String → String) : ∀ cs : List Expr,
    Expr.truthyProd (renameVarsL ρ cs) = Expr.truthyProd cs
  | [] => by simp [renameVarsL, Expr.truthyProd]
  | c :: cs => by
    simp [renameVarsL, Expr.truthyProd, truthy_rename ρ c, truthyProd_rename ρ cs]
end

/-- the function a renaming association list denotes -/
def renamingFn (m : List (String × String)) (x : String) : String :=
  match m.lookup x with
  | some n => n
  | none => x

theorem findName_substOfRenaming (m : List (String × String)) (x : String) :
    (substOfRenaming m).findName x = (m.lookup x).map Expr.var := by
  induction m with
  | nil => simp [substOfRenaming, SubstMap.findName]
  | cons p rest ih =>
    obtain ⟨k, v⟩ := p
    simp only [substOfRenaming, SubstMap.findName, List.map_cons, List.find?_cons,
      List.lookup_cons] at ih ⊢
    by_cases h : k = x
    · subst h
      simp
    · have h1 : (k == x) = false := by simpa using h
      have h2 : (x == k) = false := by simpa using (Ne.symm h)
      simp only [h1, h2]
      exact ih

/-- no CSE wrapper around a zero child (those are collapsed by `IdentityMapper`, C08) -/
def NoCseZero (e : Expr) : Prop := ∀ c p s, Subterm (.cse c p s) e → c.isZero = false

theorem NoCseZero.child {e c : Expr} (h : NoCseZero e) (hc : c ∈ e.children) : NoCseZero c :=
  fun c' p s ht => h c' p s (ht.trans (.child hc))

section
variable (m : List (String × String))

theorem apply_var (x : String) :
    (substOfRenaming m).apply (.var x) = (m.lookup x).map Expr.var := by
  rw [C08.apply_var_of_byName (by rfl), findName_substOfRenaming]

theorem apply_nonvar (e : Expr) (h : ∀ x, e ≠ .var x) : (substOfRenaming m).apply e = none :=
  C08.apply_nonvar_of_byName (by rfl) e h

mutual
theorem substE_rename : ∀ e : Expr, NoCseZero e →
    substE (substOfRenaming m) e = renameVars (renamingFn m) e
  | .var x, _ => by
    simp only [substE, apply_var, renameVars, renamingFn]
    cases m.lookup x <;> simp
  | .const c, _ => by simp [substE, renameVars]
  | .nan, _ => by simp [substE, renameVars]
  | .wildcard, _ => by simp [substE, renameVars]
  | .dotWild _, _ => by simp [substE, renameVars]
  | .starWild _, _ => by simp [substE, renameVars]
  | .funcSym, _ => by simp [substE, renameVars]
  | .subscript a i, h => by
    simp only [substE, apply_nonvar m (.subscript a i) (by simp), renameVars]
    rw [substE_rename a (h.child (by simp [Expr.children])),
      substE_rename i (h.child (by simp [Expr.children]))]
  | .lookup a n, h => by
    simp only [substE, apply_nonvar m (.lookup a n) (by simp), renameVars]
    rw [substE_rename a (h.child (by simp [Expr.children]))]
  | .nary o cs, h => by
    simp only [substE, renameVars]
    rw [substEL_rename cs (fun c hc => h.child (by simp [Expr.children, hc]))]
  | .bin o a b, h => by
    simp only [substE, renameVars]
    rw [substE_rename a (h.child (by simp [Expr.children])),
      substE_rename b (h.child (by simp [Expr.children]))]
  | .un o a, h => by
    simp only [substE, renameVars]
    rw [substE_rename a (h.child (by simp [Expr.children]))]
  | .cmp o a b, h => by
    simp only [substE, renameVars]
    rw [substE_rename a (h.child (by simp [Expr.children])),
      substE_rename b (h.child (by simp [Expr.children]))]
  | .ite c t e, h => by
    simp only [substE, renameVars]
    rw [substE_rename c (h.child (by simp [Expr.children])),
      substE_rename t (h.child (by simp [Expr.children])),
      substE_rename e (h.child (by simp [Expr.children]))]
  | .call f as, h => by
    simp only [substE, renameVars]
    rw [substE_rename f (h.child (by simp [Expr.children])),
      substEL_rename as (fun c hc => h.child (by simp [Expr.children, hc]))]
  | .callKw f as ns vs, h => by
    simp only [substE, renameVars]
    rw [substE_rename f (h.child (by simp [Expr.children])),
      substEL_rename as (fun c hc => h.child (by simp [Expr.children, hc])),
      substEL_rename vs (fun c hc => h.child (by simp [Expr.children, hc]))]
  | .cse c p s, h => by
    have hc := substE_rename c (h.child (by simp [Expr.children]))
    have hz : (renameVars (renamingFn m) c).isZero = false := by
      simp only [Expr.isZero, truthy_rename]
      exact h c p s (.refl _)
    simp only [substE, renameVars, hc, hz, Bool.false_eq_true, if_false]
  | .subst c vs xs, h => by
    simp only [substE, renameVars]
    rw [substE_rename c (h.child (by simp [Expr.children])),
      substEL_rename xs (fun c hc => h.child (by simp [Expr.children, hc]))]
  | .deriv c vs, h => by
    simp only [substE, renameVars]
    rw [substE_rename c (h.child (by simp [Expr.children]))]
  | .slice cs, h => by
    simp only [substE, renameVars]
    rw [substEL_rename cs (fun c hc => h.child (by simp [Expr.children, hc]))]
  | .tuple cs, h => by
    simp only [substE, renameVars]
    rw [substEL_rename cs (fun c hc => h.child (by simp [Expr.children, hc]))]
  | .list cs, h => by
    simp only [substE, renameVars]
    rw [substEL_rename cs (fun c hc => h.child (by simp [Expr.children, hc]))]
theorem substEL_rename : ∀ cs : List Expr, (∀ c ∈ cs, NoCseZero c) →
    substEL (substOfRenaming m) cs = renameVarsL (renamingFn m) cs
  | [], _ => by simp [substEL, renameVarsL]
  | c :: cs, h => by
    simp only [substEL, renameVarsL]
    rw [substE_rename c (h c (List.mem_cons_self ..)),
      substEL_rename cs (fun c' hc' => h c' (List.mem_cons_of_mem _ hc'))]
end

/-- the coded substitution is plain renaming -/
theorem substM_rename (e : Expr) (h : NoCseZero e) :
    (substM (substOfRenaming m) e).1 = renameVars (renamingFn m) e := by
  rw [(substM_spec _ e).1, substE_rename m e h]

end

/-! ### the clash loop -/

theorem unclash_spec {σ : Type} {G : NameGen σ} (hG : G.Fresh) :
    ∀ (cs : List String) (s : σ) (m : List (String × String)), unclash G s cs = some m →
      m.map (·.1) = cs ∧ (m.map (·.2)).Nodup ∧ ∀ n ∈ m.map (·.2), n ∉ G.used s
  | [], s, m, h => by
    cases h
    simp
  | c :: cs, s, m, h => by
    simp only [unclash] at h
    split at h
    · cases h
    · rename_i n s' hcall
      split at h
      · cases h
      · rename_i m' hrec
        cases h
        obtain ⟨h1, h2, h3⟩ := unclash_spec hG cs s' m' hrec
        have hfresh := hG.call_fresh _ _ _ _ hcall
        have hused := hG.call_used _ _ _ _ hcall
        refine ⟨by simp [h1], ?_, ?_⟩
        · simp only [List.map_cons, List.nodup_cons]
          exact ⟨fun hn => h3 n hn ((hused n).2 (Or.inl rfl)), h2⟩
        · intro x hx
          simp only [List.map_cons, List.mem_cons] at hx
          rcases hx with rfl | hx
          · exact hfresh
          · exact fun hu => h3 x hx ((hused x).2 (Or.inr hu))

/-! ### disambiguation plumbing -/

section
variable {σ : Type} {G : NameGen σ}

/-- no CSE node with a zero child in any expression of the statement (those are collapsed to `0`
by `IdentityMapper`, the known finding `cse-zero-child-collapses` of C08; renaming is not to blame) -/
def KindNoCseZero : Kind → Prop
  | .nop => True
  | .assign l r c => NoCseZero l ∧ NoCseZero r ∧ ∀ e, c = some e → NoCseZero e

theorem disambiguate_unfold {filter : String → Bool} {order : List String} {A B B' : List Stmt}
    {m : List (String × String)} (h : disambiguateG G filter order A B = .ok (B', m)) :
    ∃ idA idB, usedIdentifiers A = .ok idA ∧ usedIdentifiers B = .ok idB ∧
      order.Perm ((interS idA idB).filter filter) ∧
      unclash G (G.init (unionS idA idB)) order = some m ∧
      B' = B.map (Stmt.mapExprs fun e => (substM (substOfRenaming m) e).1) := by
  unfold disambiguateG at h
  obtain ⟨idA, hA, h⟩ := except_bind_ok h
  obtain ⟨idB, hB, h⟩ := except_bind_ok h
  refine ⟨idA, idB, hA, hB, ?_⟩
  simp only at h
  split at h
  · cases h
  · rename_i hperm
    simp only [Bool.not_eq_eq_eq_not] at hperm
    split at h
    · cases h
    · rename_i m' hm
      simp only [pure, Except.pure, Except.ok.injEq, Prod.mk.injEq] at h
      obtain ⟨rfl, rfl⟩ := h
      exact ⟨List.isPerm_iff.1 (by simpa using hperm), hm, rfl⟩

theorem codedReads_rename (ρ : String → String) (k : Kind) :
    (k.mapExprs (renameVars ρ)).codedReads = k.codedReads.map ρ := by
  cases k with
  | nop => rfl
  | assign l r c =>
    cases c <;> simp [Kind.mapExprs, Kind.codedReads, condVars, scanVars_rename]

theorem specWritten_rename (ρ : String → String) (k : Kind) :
    (k.mapExprs (renameVars ρ)).specWritten = k.specWritten.map ρ := by
  cases k with
  | nop => rfl
  | assign l r c =>
    cases l with
    | subscript a i => cases a <;> simp [Kind.mapExprs, Kind.specWritten, renameVars]
    | _ => simp [Kind.mapExprs, Kind.specWritten, renameVars]

theorem specReads_rename (ρ : String → String) (k : Kind) :
    (k.mapExprs (renameVars ρ)).specReads = k.specReads.map ρ := by
  cases k with
  | nop => rfl
  | assign l r c =>
    have hl : lhsIndexVars (renameVars ρ l) = (lhsIndexVars l).map ρ := by
      cases l <;> simp [lhsIndexVars, renameVars, scanVars_rename]
    cases c <;> simp [Kind.mapExprs, Kind.specReads, condVars, scanVars_rename, hl]

/-- an identifier of a renamed stream is the renaming of an identifier of the stream, for either
notion of what a statement reads -/
theorem mem_idents_rename {ρ : String → String} (reads : Kind → List String)
    (hr : ∀ k, reads (k.mapExprs (renameVars ρ)) = (reads k).map ρ) {B : List Stmt} {x : String}
    (h : x ∈ (B.map (Stmt.mapExprs (renameVars ρ))).flatMap
      fun s => reads s.kind ++ s.kind.specWritten) :
    ∃ y ∈ B.flatMap (fun s => reads s.kind ++ s.kind.specWritten), x = ρ y := by
  simp only [List.mem_flatMap, List.mem_map, List.mem_append] at h ⊢
  obtain ⟨s', ⟨s, hs, rfl⟩, hx⟩ := h
  simp only [Stmt.mapExprs, hr, specWritten_rename, List.mem_map] at hx
  rcases hx with ⟨y, hy, rfl⟩ | ⟨y, hy, rfl⟩
  · exact ⟨y, ⟨s, hs, Or.inl hy⟩, rfl⟩
  · exact ⟨y, ⟨s, hs, Or.inr hy⟩, rfl⟩

theorem mem_visible_rename {ρ : String → String} {B : List Stmt} {x : String}
    (h : x ∈ visibleIdents (B.map (Stmt.mapExprs (renameVars ρ)))) :
    ∃ y ∈ visibleIdents B, x = ρ y :=
  mem_idents_rename Kind.codedReads (codedReads_rename ρ) h

theorem mem_spec_rename {ρ : String → String} {B : List Stmt} {x : String}
    (h : x ∈ specIdents (B.map (Stmt.mapExprs (renameVars ρ)))) :
    ∃ y ∈ specIdents B, x = ρ y :=
  mem_idents_rename Kind.specReads (specReads_rename ρ) h

theorem renamingFn_cases (m : List (String × String)) (y : String) :
    (y ∈ m.map (·.1) ∧ renamingFn m y ∈ m.map (·.2)) ∨ (y ∉ m.map (·.1) ∧ renamingFn m y = y) := by
  induction m with
  | nil => right; simp [renamingFn]
  | cons p rest ih =>
    obtain ⟨k, v⟩ := p
    by_cases hk : y = k
    · subst hk
      left
      simp [renamingFn]
    · have hb : (y == k) = false := by simpa using hk
      have hrec : renamingFn ((k, v) :: rest) y = renamingFn rest y := by
        simp [renamingFn, List.lookup_cons, hb]
      rw [hrec]
      rcases ih with ⟨h1, h2⟩ | ⟨h1, h2⟩
      · left
        exact ⟨by simp [h1], by simp [h2]⟩
      · right
        exact ⟨by simp [hk, h1], h2⟩

/-- every left-hand-side index variable of every statement also occurs in that statement's
right-hand side or condition -/
def AllCovered (ss : List Stmt) : Prop := ∀ s ∈ ss, s.kind.LhsCovered

theorem visible_iff_spec {ss : List Stmt} (hc : AllCovered ss) (x : String) :
    x ∈ visibleIdents ss ↔ x ∈ specIdents ss :=
  ⟨visible_sub_spec, spec_sub_visible hc⟩

end

end PV.Imp
