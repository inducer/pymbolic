import PV.Proofs.AlgoArith
import Mathlib.Data.List.Basic
import Mathlib.Data.List.Perm.Basic

/-!
  Proofs about the sparse-polynomial part of `PV.Model.Algo`.
-/

namespace PV.Algo

/-- Exponents strictly increasing: the class invariant documented for `Polynomial.Data`
("sorted in increasing order, one entry per degree"). -/
def StrictSorted (p : List Term) : Prop := p.Pairwise (fun a b => a.1 < b.1)

/-- Exponents weakly increasing. -/
def WeakSorted (p : List Term) : Prop := p.Pairwise (fun a b => a.1 ≤ b.1)

/-- No stored zero coefficient. -/
def NoZero (p : List Term) : Prop := ∀ t ∈ p, t.2 ≠ 0

instance (p : List Term) : Decidable (StrictSorted p) := by unfold StrictSorted; infer_instance
instance (p : List Term) : Decidable (WeakSorted p) := by unfold WeakSorted; infer_instance
instance (p : List Term) : Decidable (NoZero p) := by unfold NoZero; infer_instance

theorem StrictSorted.weak {p : List Term} (h : StrictSorted p) : WeakSorted p :=
  List.Pairwise.imp (fun h => Nat.le_of_lt h) h

/-! ## evalSpec basics -/

@[simp] theorem evalSpec_nil (x : ℤ) : evalSpec [] x = 0 := rfl

@[simp] theorem evalSpec_cons (e : ℕ) (c : ℤ) (rest : List Term) (x : ℤ) :
    evalSpec ((e, c) :: rest) x = c * x ^ e + evalSpec rest x := rfl

theorem evalSpec_cons' (t : Term) (rest : List Term) (x : ℤ) :
    evalSpec (t :: rest) x = t.2 * x ^ t.1 + evalSpec rest x := rfl

theorem evalSpec_append (l1 l2 : List Term) (x : ℤ) :
    evalSpec (l1 ++ l2) x = evalSpec l1 x + evalSpec l2 x := by
  induction l1 with
  | nil => simp
  | cons t l ih => obtain ⟨e, c⟩ := t; simp [ih]; ring

theorem evalSpec_reverse (l : List Term) (x : ℤ) : evalSpec l.reverse x = evalSpec l x := by
  induction l with
  | nil => rfl
  | cons t l ih => obtain ⟨e, c⟩ := t; simp [evalSpec_append, ih]; ring

/-! ## the stable sort -/

theorem insertByExp_perm (t : Term) (l : List Term) : (insertByExp t l).Perm (t :: l) := by
  induction l with
  | nil => exact List.Perm.refl _
  | cons u us ih =>
    rw [insertByExp]
    split_ifs with h
    · exact List.Perm.refl _
    · exact (List.Perm.cons u ih).trans (List.Perm.swap t u us)

theorem sortByExp_perm (l : List Term) : (sortByExp l).Perm l := by
  induction l with
  | nil => exact List.Perm.refl _
  | cons t ts ih =>
    rw [sortByExp]
    exact (insertByExp_perm t _).trans (List.Perm.cons t ih)

theorem evalSpec_insertByExp (t : Term) (l : List Term) (x : ℤ) :
    evalSpec (insertByExp t l) x = t.2 * x ^ t.1 + evalSpec l x := by
  induction l with
  | nil => rfl
  | cons u us ih =>
    rw [insertByExp]
    split_ifs with h
    · rfl
    · rw [evalSpec_cons', ih, evalSpec_cons']; ring

theorem evalSpec_sortByExp (l : List Term) (x : ℤ) : evalSpec (sortByExp l) x = evalSpec l x := by
  induction l with
  | nil => rfl
  | cons t ts ih => rw [sortByExp, evalSpec_insertByExp, ih]; rfl

theorem insertByExp_sorted (t : Term) (l : List Term) (h : WeakSorted l) :
    WeakSorted (insertByExp t l) := by
  induction l with
  | nil => simp [insertByExp, WeakSorted]
  | cons u us ih =>
    unfold WeakSorted at h ih ⊢
    rw [insertByExp]
    rw [List.pairwise_cons] at h
    split_ifs with hle
    · rw [List.pairwise_cons]
      refine ⟨?_, List.pairwise_cons.mpr h⟩
      intro y hy
      rcases List.mem_cons.mp hy with rfl | hy
      · exact hle
      · exact Nat.le_trans hle (h.1 y hy)
    · rw [List.pairwise_cons]
      refine ⟨?_, ih h.2⟩
      intro y hy
      rcases List.mem_cons.mp ((insertByExp_perm t us).mem_iff.mp hy) with rfl | hy
      · omega
      · exact h.1 y hy

theorem sortByExp_sorted (l : List Term) : WeakSorted (sortByExp l) := by
  induction l with
  | nil => simp [sortByExp, WeakSorted]
  | cons t ts ih => rw [sortByExp]; exact insertByExp_sorted t _ ih

/-- Stability: terms of equal exponent keep their relative order (together with
`sortByExp_perm` and `sortByExp_sorted` this pins down Python's stable `list.sort(key=exp)`). -/
theorem insertByExp_filter (t : Term) (l : List Term) (e : ℕ) :
    (insertByExp t l).filter (fun u => u.1 = e) = (t :: l).filter (fun u => u.1 = e) := by
  induction l with
  | nil => rfl
  | cons u us ih =>
    rw [insertByExp]
    split_ifs with h
    · rfl
    · rw [List.filter_cons, ih]
      simp only [List.filter_cons, decide_eq_true_eq]
      split_ifs <;> first | rfl | omega

theorem sortByExp_stable (l : List Term) (e : ℕ) :
    (sortByExp l).filter (fun u => u.1 = e) = l.filter (fun u => u.1 = e) := by
  induction l with
  | nil => rfl
  | cons t ts ih =>
    rw [sortByExp, insertByExp_filter, List.filter_cons, List.filter_cons, ih]

/-! ## the merge loop of the current source (`last_exp` reset after `pop()`) -/

theorem mergeFix_nil (acc : List Term) (last : Option ℕ) :
    mergeFix acc last [] = acc.reverse := by
  cases acc <;> rfl

theorem mergeFix_cons (acc : List Term) (last : Option ℕ) (e : ℕ) (c : ℤ) (rest : List Term) :
    mergeFix acc last ((e, c) :: rest) =
      if last = some e then
        match acc with
        | [] => mergeFix [(e, c)] (some e) rest
        | (_, c') :: acc' =>
          if c' + c = 0 then mergeFix acc' none rest
          else mergeFix ((e, c' + c) :: acc') last rest
      else
        mergeFix ((e, c) :: acc) (some e) rest := by
  cases acc <;> rfl

theorem mergeFix_eval (acc : List Term) (last : Option ℕ) (rest : List Term) (x : ℤ)
    (hinv : ∀ e, last = some e → ∃ c acc', acc = (e, c) :: acc') :
    evalSpec (mergeFix acc last rest) x = evalSpec acc x + evalSpec rest x := by
  induction rest generalizing acc last with
  | nil => simp [mergeFix_nil, evalSpec_reverse]
  | cons t rest ih =>
    obtain ⟨e, c⟩ := t
    rw [mergeFix_cons]
    split_ifs with hl
    · obtain ⟨c', acc', rfl⟩ := hinv e hl
      simp only
      split_ifs with h0
      · rw [ih acc' none (by simp)]
        have : c' * x ^ e + c * x ^ e = 0 := by rw [← add_mul, h0, zero_mul]
        simp only [evalSpec_cons]; linarith
      · rw [ih _ last (by intro e' he'; rw [hl] at he'; cases he'; exact ⟨_, _, rfl⟩)]
        simp only [evalSpec_cons]; ring
    · rw [ih _ (some e) (by intro e' he'; cases he'; exact ⟨_, _, rfl⟩)]
      simp only [evalSpec_cons]; ring

/-- value preservation of `_sort_uniq`. -/
theorem sortUniq_eval (l : List Term) (x : ℤ) : evalSpec (sortUniq l) x = evalSpec l x := by
  rw [sortUniq, mergeFix_eval _ _ _ _ (by simp), evalSpec_sortByExp]; simp

theorem mergeFix_sorted (acc : List Term) (last : Option ℕ) (rest : List Term)
    (hacc : acc.Pairwise (fun a b => b.1 < a.1)) (hrest : WeakSorted rest)
    (hsome : ∀ e, last = some e → (∃ c acc', acc = (e, c) :: acc') ∧ ∀ t ∈ rest, e ≤ t.1)
    (hnone : last = none → ∀ a ∈ acc, ∀ t ∈ rest, a.1 < t.1) :
    StrictSorted (mergeFix acc last rest) := by
  induction rest generalizing acc last with
  | nil =>
    rw [mergeFix_nil]; unfold StrictSorted
    rw [List.pairwise_reverse]; exact hacc
  | cons t rest ih =>
    obtain ⟨e, c⟩ := t
    unfold WeakSorted at hrest
    rw [List.pairwise_cons] at hrest
    rw [mergeFix_cons]
    split_ifs with hl
    · obtain ⟨⟨c', acc', rfl⟩, hle⟩ := hsome e hl
      simp only
      rw [List.pairwise_cons] at hacc
      split_ifs with h0
      · apply ih acc' none hacc.2 hrest.2 (by simp)
        intro _ a ha t ht
        exact Nat.lt_of_lt_of_le (hacc.1 a ha) (hrest.1 t ht)
      · have hp : ((e, c' + c) :: acc').Pairwise (fun a b => b.1 < a.1) :=
          List.pairwise_cons.mpr ⟨hacc.1, hacc.2⟩
        apply ih _ last hp hrest.2
        · intro e' he'
          rw [hl] at he'; cases he'
          exact ⟨⟨_, _, rfl⟩, fun t ht => hrest.1 t ht⟩
        · intro hn; rw [hl] at hn; cases hn
    · have hlt : ∀ a ∈ acc, a.1 < e := by
        cases hlast : last with
        | none => exact fun a ha => hnone hlast a ha (e, c) (List.mem_cons_self ..)
        | some e' =>
          obtain ⟨⟨c', acc', rfl⟩, hle⟩ := hsome e' hlast
          have h1 : e' ≤ e := hle (e, c) (List.mem_cons_self ..)
          have h2 : e' ≠ e := by intro h; apply hl; rw [hlast, h]
          rw [List.pairwise_cons] at hacc
          intro a ha
          rcases List.mem_cons.mp ha with rfl | ha
          · exact Nat.lt_of_le_of_ne h1 h2
          · exact Nat.lt_trans (hacc.1 a ha) (Nat.lt_of_le_of_ne h1 h2)
      apply ih _ (some e) (List.pairwise_cons.mpr ⟨hlt, hacc⟩) hrest.2
      · intro e' he'; cases he'
        exact ⟨⟨_, _, rfl⟩, fun t ht => hrest.1 t ht⟩
      · intro hn; cases hn

/-- `_sort_uniq` returns strictly increasing exponents. -/
theorem sortUniq_sorted (l : List Term) : StrictSorted (sortUniq l) := by
  rw [sortUniq]
  exact mergeFix_sorted [] none _ List.Pairwise.nil (sortByExp_sorted l) (by simp) (by simp)

theorem mergeFix_noZero (acc : List Term) (last : Option ℕ) (rest : List Term)
    (hacc : NoZero acc) (hrest : NoZero rest) : NoZero (mergeFix acc last rest) := by
  induction rest generalizing acc last with
  | nil =>
    rw [mergeFix_nil]; intro t ht; exact hacc t (List.mem_reverse.mp ht)
  | cons t rest ih =>
    obtain ⟨e, c⟩ := t
    have hrest' : NoZero rest := fun t ht => hrest t (List.mem_cons_of_mem _ ht)
    have hc : c ≠ 0 := hrest (e, c) (List.mem_cons_self ..)
    rw [mergeFix_cons]
    split_ifs with hl
    · cases acc with
      | nil =>
        simp only
        apply ih _ _ _ hrest'
        intro t ht; rw [List.mem_singleton] at ht; subst ht; exact hc
      | cons a acc' =>
        obtain ⟨e', c'⟩ := a
        have hacc' : NoZero acc' := fun t ht => hacc t (List.mem_cons_of_mem _ ht)
        simp only
        split_ifs with h0
        · exact ih _ _ hacc' hrest'
        · apply ih _ _ _ hrest'
          intro t ht
          rcases List.mem_cons.mp ht with rfl | ht
          · exact h0
          · exact hacc' t ht
    · apply ih _ _ _ hrest'
      intro t ht
      rcases List.mem_cons.mp ht with rfl | ht
      · exact hc
      · exact hacc t ht

/-- Zero coefficients appear in the output only if the input already contains one. -/
theorem sortUniq_noZero (l : List Term) (h : NoZero l) : NoZero (sortUniq l) := by
  rw [sortUniq]
  apply mergeFix_noZero [] none _ (by intro t ht; cases ht)
  intro t ht
  exact h t ((sortByExp_perm l).mem_iff.mp ht)

/-! ## Horner evaluation (`EvaluationMapper.map_polynomial`) -/

/-- Loop invariant of Horner's scheme on the reversed (weakly decreasing) data. -/
theorem hornerLoop_spec (x res : ℤ) (e : ℕ) (c : ℤ) (rest : List Term)
    (h : ((e, c) :: rest).Pairwise (fun a b => b.1 ≤ a.1)) :
    hornerLoop x res ((e, c) :: rest) = res * x ^ e + evalSpec ((e, c) :: rest) x := by
  induction rest generalizing res e c with
  | nil => simp [hornerLoop]; ring
  | cons t rest ih =>
    obtain ⟨e', c'⟩ := t
    rw [List.pairwise_cons] at h
    have hle : e' ≤ e := h.1 (e', c') (List.mem_cons_self ..)
    rw [hornerLoop]
    rw [ih _ e' c' h.2]
    have : x ^ e = x ^ (e - e') * x ^ e' := by rw [← pow_add]; congr 1; omega
    simp only [evalSpec_cons]
    rw [this]; ring

theorem hornerLoopPy_eq (x res : ℤ) (l : List Term)
    (h : l.Pairwise (fun a b => b.1 ≤ a.1)) :
    hornerLoopPy x res l = some (hornerLoop x res l) := by
  induction l generalizing res with
  | nil => rfl
  | cons t rest ih =>
    obtain ⟨e, c⟩ := t
    rw [List.pairwise_cons] at h
    cases rest with
    | nil => simp [hornerLoopPy, hornerLoop]
    | cons u us =>
      obtain ⟨e', c'⟩ := u
      have hle : e' ≤ e := h.1 _ (List.mem_cons_self ..)
      have := ih ((res + c) * x ^ (e - e')) h.2
      rw [hornerLoopPy, hornerLoop]
      simp only [if_neg (Nat.not_lt.mpr hle)]
      exact this

/-- Horner evaluation equals the sum-of-monomials value for exponent-sorted data
(weakly increasing is enough; in particular for strictly increasing exponents). -/
theorem evalHorner_eq_spec_of_weak (p : Poly) (x : ℤ) (h : WeakSorted p) :
    evalHorner p x = evalSpec p x := by
  unfold evalHorner
  have hr : p.reverse.Pairwise (fun a b => b.1 ≤ a.1) := by
    rw [List.pairwise_reverse]; exact h
  cases hp : p.reverse with
  | nil =>
    have : p = [] := by simpa using hp
    subst this; rfl
  | cons t rest =>
    obtain ⟨e, c⟩ := t
    rw [hp] at hr
    rw [hornerLoop_spec x 0 e c rest hr, ← hp, evalSpec_reverse]; ring

theorem evalHorner_eq_spec (p : Poly) (x : ℤ) (h : StrictSorted p) :
    evalHorner p x = evalSpec p x :=
  evalHorner_eq_spec_of_weak p x h.weak

/-- `evalHornerPy` (the model with Python's exception for a negative exponent difference) stays in
the integers on sorted data and computes the same value. -/
theorem evalHornerPy_eq_spec (p : Poly) (x : ℤ) (h : WeakSorted p) :
    evalHornerPy p x = some (evalSpec p x) := by
  unfold evalHornerPy
  rw [hornerLoopPy_eq x 0 p.reverse (by rw [List.pairwise_reverse]; exact h)]
  exact congrArg some (evalHorner_eq_spec_of_weak p x h)

/-! ## ring operations -/

theorem neg_eval (p : Poly) (x : ℤ) : evalSpec (neg p) x = - evalSpec p x := by
  induction p with
  | nil => rfl
  | cons t p ih =>
    obtain ⟨e, c⟩ := t
    simp only [neg, List.map_cons, evalSpec_cons] at ih ⊢
    rw [ih]; ring

theorem add_eval (p q : Poly) (x : ℤ) : evalSpec (add p q) x = evalSpec p x + evalSpec q x := by
  fun_induction add p q with
  | case1 q => simp
  | case2 p hp => simp
  | case3 c1 p e1 c2 q coeff hc ih =>
    simp only [evalSpec_cons, ih, coeff]; ring
  | case4 c1 p e1 c2 q coeff hc ih =>
    have h0 : c1 + c2 = 0 := by simpa [coeff] using hc
    have : c1 * x ^ e1 + c2 * x ^ e1 = 0 := by rw [← add_mul, h0, zero_mul]
    simp only [evalSpec_cons, ih]; linarith
  | case5 e1 c1 p e2 c2 q hne hgt ih =>
    simp only [evalSpec_cons] at ih ⊢; rw [ih]; ring
  | case6 e1 c1 p e2 c2 q hne hgt ih =>
    simp only [evalSpec_cons] at ih ⊢; rw [ih]; ring

theorem sub_eval (p q : Poly) (x : ℤ) : evalSpec (sub p q) x = evalSpec p x - evalSpec q x := by
  rw [sub, add_eval, neg_eval]; ring

theorem scale_eval (p : Poly) (k x : ℤ) : evalSpec (scale p k) x = evalSpec p x * k := by
  induction p with
  | nil => simp [scale]
  | cons t p ih =>
    obtain ⟨e, c⟩ := t
    simp only [scale, List.map_cons, evalSpec_cons] at ih ⊢
    rw [ih]; ring

theorem evalSpec_map_term (s : Term) (q : Poly) (x : ℤ) :
    evalSpec (q.map fun o => (s.1 + o.1, s.2 * o.2)) x = s.2 * x ^ s.1 * evalSpec q x := by
  induction q with
  | nil => simp
  | cons o q ih =>
    obtain ⟨e, c⟩ := o
    simp only [List.map_cons, evalSpec_cons, ih, pow_add]; ring

theorem mulRaw_eval (p q : Poly) (x : ℤ) :
    evalSpec (mulRaw p q) x = evalSpec p x * evalSpec q x := by
  induction p with
  | nil => simp [mulRaw]
  | cons s p ih =>
    unfold mulRaw at ih ⊢
    rw [List.flatMap_cons, evalSpec_append, ih, evalSpec_map_term, evalSpec_cons']; ring

theorem mul_eval (p q : Poly) (x : ℤ) : evalSpec (mul p q) x = evalSpec p x * evalSpec q x := by
  rw [mul, sortUniq_eval, mulRaw_eval]

theorem one_eval (x : ℤ) : evalSpec one x = 1 := by simp [one]

theorem pow_eval (p : Poly) (n : ℕ) (x : ℤ) : evalSpec (pow p n) x = evalSpec p x ^ n :=
  integerPower_hom (fun p => evalSpec p x) mul one (fun a b => mul_eval a b x) (one_eval x) p n

theorem mul_sorted (p q : Poly) : StrictSorted (mul p q) := sortUniq_sorted _

/-! ### `__add__` preserves the class invariant -/

theorem add_lower_bound (m : ℕ) (p q : Poly) (hp : ∀ t ∈ p, m < t.1) (hq : ∀ t ∈ q, m < t.1) :
    ∀ t ∈ add p q, m < t.1 := by
  fun_induction add p q with
  | case1 q => exact hq
  | case2 p _ => exact hp
  | case3 c1 p e1 c2 q coeff hc ih =>
    intro t ht
    rcases List.mem_cons.mp ht with rfl | ht
    · exact hp (e1, c1) (List.mem_cons_self ..)
    · exact ih (fun t h => hp t (List.mem_cons_of_mem _ h))
        (fun t h => hq t (List.mem_cons_of_mem _ h)) t ht
  | case4 c1 p e1 c2 q coeff hc ih =>
    exact ih (fun t h => hp t (List.mem_cons_of_mem _ h))
      (fun t h => hq t (List.mem_cons_of_mem _ h))
  | case5 e1 c1 p e2 c2 q hne hgt ih =>
    intro t ht
    rcases List.mem_cons.mp ht with rfl | ht
    · exact hq _ (List.mem_cons_self ..)
    · exact ih hp (fun t h => hq t (List.mem_cons_of_mem _ h)) t ht
  | case6 e1 c1 p e2 c2 q hne hgt ih =>
    intro t ht
    rcases List.mem_cons.mp ht with rfl | ht
    · exact hp _ (List.mem_cons_self ..)
    · exact ih (fun t h => hp t (List.mem_cons_of_mem _ h)) hq t ht

theorem add_sorted (p q : Poly) (hp : StrictSorted p) (hq : StrictSorted q) :
    StrictSorted (add p q) := by
  unfold StrictSorted at *
  fun_induction add p q with
  | case1 q => exact hq
  | case2 p _ => exact hp
  | case3 c1 p e1 c2 q coeff hc ih =>
    rw [List.pairwise_cons] at hp hq ⊢
    exact ⟨add_lower_bound e1 p q hp.1 hq.1, ih hp.2 hq.2⟩
  | case4 c1 p e1 c2 q coeff hc ih =>
    rw [List.pairwise_cons] at hp hq
    exact ih hp.2 hq.2
  | case5 e1 c1 p e2 c2 q hne hgt ih =>
    have hq' := List.pairwise_cons.mp hq
    have hp' := List.pairwise_cons.mp hp
    rw [List.pairwise_cons]
    refine ⟨add_lower_bound e2 _ q ?_ hq'.1, ih hp hq'.2⟩
    intro t ht
    rcases List.mem_cons.mp ht with rfl | ht
    · exact hgt
    · exact Nat.lt_trans hgt (hp'.1 t ht)
  | case6 e1 c1 p e2 c2 q hne hgt ih =>
    have hq' := List.pairwise_cons.mp hq
    have hp' := List.pairwise_cons.mp hp
    have hlt : e1 < e2 := by omega
    rw [List.pairwise_cons]
    refine ⟨add_lower_bound e1 p _ hp'.1 ?_, ih hp'.2 hq⟩
    intro t ht
    rcases List.mem_cons.mp ht with rfl | ht
    · exact hlt
    · exact Nat.lt_trans hlt (hq'.1 t ht)

theorem add_noZero (p q : Poly) (hp : NoZero p) (hq : NoZero q) : NoZero (add p q) := by
  unfold NoZero at *
  fun_induction add p q with
  | case1 q => exact hq
  | case2 p _ => exact hp
  | case3 c1 p e1 c2 q coeff hc ih =>
    intro t ht
    rcases List.mem_cons.mp ht with rfl | ht
    · exact hc
    · exact ih (fun t h => hp t (List.mem_cons_of_mem _ h))
        (fun t h => hq t (List.mem_cons_of_mem _ h)) t ht
  | case4 c1 p e1 c2 q coeff hc ih =>
    exact ih (fun t h => hp t (List.mem_cons_of_mem _ h))
      (fun t h => hq t (List.mem_cons_of_mem _ h))
  | case5 e1 c1 p e2 c2 q hne hgt ih =>
    intro t ht
    rcases List.mem_cons.mp ht with rfl | ht
    · exact hq _ (List.mem_cons_self ..)
    · exact ih hp (fun t h => hq t (List.mem_cons_of_mem _ h)) t ht
  | case6 e1 c1 p e2 c2 q hne hgt ih =>
    intro t ht
    rcases List.mem_cons.mp ht with rfl | ht
    · exact hp _ (List.mem_cons_self ..)
    · exact ih (fun t h => hp t (List.mem_cons_of_mem _ h)) hq t ht

theorem neg_sorted (p : Poly) (hp : StrictSorted p) : StrictSorted (neg p) := by
  unfold StrictSorted neg at *
  rw [List.pairwise_map]; exact hp

/-! ## `mergePy` / `sortUniqPy` / `mulPy` / `powPy`, the bodies before the repair of `_sort_uniq`
(repo commit c740aa9), versus the current ones: on which inputs the defect could not show -/

theorem mergePy_nil (acc : List Term) (last : Option ℕ) :
    mergePy acc last [] = some acc.reverse := by
  cases acc <;> rfl

theorem mergePy_cons (acc : List Term) (last : Option ℕ) (e : ℕ) (c : ℤ) (rest : List Term) :
    mergePy acc last ((e, c) :: rest) =
      if last = some e then
        match acc with
        | [] => none
        | (_, c') :: acc' =>
          if c' + c = 0 then mergePy acc' last rest
          else mergePy ((e, c' + c) :: acc') last rest
      else
        mergePy ((e, c) :: acc) (some e) rest := by
  cases acc <;> rfl

/-- All stored coefficients are positive. -/
def AllPos (p : List Term) : Prop := ∀ t ∈ p, 0 < t.2

instance (p : List Term) : Decidable (AllPos p) := by unfold AllPos; infer_instance

/-- (A) With positive coefficients no partial sum vanishes, `pop()` never runs, and the old
loop agrees with the current one. -/
theorem mergePy_eq_of_pos (acc : List Term) (last : Option ℕ) (rest : List Term)
    (hacc : AllPos acc) (hrest : AllPos rest) (hinv : ∀ e, last = some e → acc ≠ []) :
    mergePy acc last rest = some (mergeFix acc last rest) ∧
      AllPos (mergeFix acc last rest) := by
  induction rest generalizing acc last with
  | nil =>
    rw [mergePy_nil, mergeFix_nil]
    exact ⟨rfl, fun t ht => hacc t (List.mem_reverse.mp ht)⟩
  | cons t rest ih =>
    obtain ⟨e, c⟩ := t
    have hrest' : AllPos rest := fun t ht => hrest t (List.mem_cons_of_mem _ ht)
    have hc : 0 < c := hrest (e, c) (List.mem_cons_self ..)
    rw [mergePy_cons, mergeFix_cons]
    split_ifs with hl
    · cases acc with
      | nil => exact absurd rfl (hinv e hl)
      | cons a acc' =>
        obtain ⟨e', c'⟩ := a
        have hc' : 0 < c' := hacc (e', c') (List.mem_cons_self ..)
        have hacc' : AllPos acc' := fun t ht => hacc t (List.mem_cons_of_mem _ ht)
        have h0 : ¬ c' + c = 0 := by omega
        simp only [if_neg h0]
        apply ih _ _ _ hrest' (fun _ _ => List.cons_ne_nil _ _)
        intro t ht
        rcases List.mem_cons.mp ht with rfl | ht
        · show 0 < c' + c; omega
        · exact hacc' t ht
    · apply ih _ _ _ hrest' (fun _ _ => List.cons_ne_nil _ _)
      intro t ht
      rcases List.mem_cons.mp ht with rfl | ht
      · exact hc
      · exact hacc t ht

theorem sortUniqPy_eq_of_pos (l : List Term) (h : AllPos l) :
    sortUniqPy l = some (sortUniq l) ∧ AllPos (sortUniq l) := by
  unfold sortUniqPy sortUniq
  apply mergePy_eq_of_pos [] none _ (by intro t ht; cases ht) _ (by simp)
  intro t ht
  exact h t ((sortByExp_perm l).mem_iff.mp ht)

/-- (B) If no exponent occurs more than twice, a `pop()` is never followed by another term of
the same exponent, so the stale `last_exp` is harmless. -/
theorem mergePy_eq_of_count (acc : List Term) (lastPy lastFix : Option ℕ) (rest : List Term)
    (hrel : lastPy = lastFix ∨
      (lastFix = none ∧ ∃ e, lastPy = some e ∧ ∀ t ∈ rest, t.1 ≠ e))
    (h1 : ∀ e, lastFix = some e → acc ≠ [] ∧ rest.countP (fun t => t.1 = e) ≤ 1)
    (h2 : ∀ e, rest.countP (fun t => t.1 = e) ≤ 2) :
    mergePy acc lastPy rest = some (mergeFix acc lastFix rest) := by
  induction rest generalizing acc lastPy lastFix with
  | nil => rw [mergePy_nil, mergeFix_nil]
  | cons t rest ih =>
    obtain ⟨e, c⟩ := t
    have h2' : ∀ e', rest.countP (fun t => t.1 = e') ≤ 2 := by
      intro e'
      have := h2 e'
      rw [List.countP_cons] at this
      omega
    rw [mergePy_cons, mergeFix_cons]
    rcases hrel with rfl | ⟨hn, e0, hpy, hne⟩
    · split_ifs with hl
      · obtain ⟨hacc, hcnt⟩ := h1 e hl
        rw [List.countP_cons] at hcnt
        simp only [decide_true, if_true] at hcnt
        cases acc with
        | nil => exact absurd rfl hacc
        | cons a acc' =>
          obtain ⟨e', c'⟩ := a
          simp only
          split_ifs with h0
          · apply ih acc' lastPy none
            · right
              refine ⟨rfl, e, hl, ?_⟩
              have hz : rest.countP (fun t => decide (t.1 = e)) = 0 := by omega
              rw [List.countP_eq_zero] at hz
              intro t ht
              simpa using hz t ht
            · intro e' he'; cases he'
            · exact h2'
          · apply ih _ lastPy lastPy (Or.inl rfl)
            · intro e' he'
              rw [hl] at he'; cases he'
              exact ⟨List.cons_ne_nil _ _, by omega⟩
            · exact h2'
      · apply ih _ (some e) (some e) (Or.inl rfl)
        · intro e' he'
          cases he'
          have := h2 e
          rw [List.countP_cons] at this
          simp only [decide_true, if_true] at this
          exact ⟨List.cons_ne_nil _ _, by omega⟩
        · exact h2'
    · subst hn
      have hee : e ≠ e0 := hne (e, c) (List.mem_cons_self ..)
      have hl : ¬ lastPy = some e := by rw [hpy]; intro h; cases h; exact hee rfl
      rw [if_neg hl, if_neg (by simp)]
      apply ih _ (some e) (some e) (Or.inl rfl)
      · intro e' he'
        cases he'
        have := h2 e
        rw [List.countP_cons] at this
        simp only [decide_true, if_true] at this
        exact ⟨List.cons_ne_nil _ _, by omega⟩
      · exact h2'

theorem sortUniqPy_eq_of_count (l : List Term)
    (h : ∀ e, l.countP (fun t => t.1 = e) ≤ 2) : sortUniqPy l = some (sortUniq l) := by
  unfold sortUniqPy sortUniq
  apply mergePy_eq_of_count [] none none _ (Or.inl rfl) (by simp)
  intro e
  rw [(sortByExp_perm l).countP_eq]
  exact h e

/-! ### multiplication over the old `_sort_uniq` -/

theorem mulRaw_pos (p q : Poly) (hp : AllPos p) (hq : AllPos q) : AllPos (mulRaw p q) := by
  intro t ht
  unfold mulRaw at ht
  rw [List.mem_flatMap] at ht
  obtain ⟨s, hs, ht⟩ := ht
  rw [List.mem_map] at ht
  obtain ⟨o, ho, rfl⟩ := ht
  exact Int.mul_pos (hp s hs) (hq o ho)

/-- `Polynomial.__mul__` over the old `_sort_uniq` was correct on polynomials with positive
coefficients. -/
theorem mulPy_eq_of_pos (p q : Poly) (hp : AllPos p) (hq : AllPos q) :
    mulPy p q = some (mul p q) ∧ AllPos (mul p q) :=
  sortUniqPy_eq_of_pos _ (mulRaw_pos p q hp hq)

theorem countP_map_shift (s : Term) (q : Poly) (hq : StrictSorted q) (e : ℕ) :
    (q.map fun o => ((s.1 + o.1, s.2 * o.2) : Term)).countP (fun t => t.1 = e) ≤ 1 := by
  induction q with
  | nil => simp
  | cons o q ih =>
    unfold StrictSorted at hq ih
    rw [List.pairwise_cons] at hq
    rw [List.map_cons, List.countP_cons]
    split_ifs with h
    · have hz : (q.map fun o => ((s.1 + o.1, s.2 * o.2) : Term)).countP
          (fun t => decide (t.1 = e)) = 0 := by
        rw [List.countP_eq_zero]
        intro t ht
        rw [List.mem_map] at ht
        obtain ⟨o', ho', rfl⟩ := ht
        have := hq.1 o' ho'
        simp only [decide_eq_true_eq] at h ⊢
        omega
      omega
    · have := ih hq.2
      omega

/-- `Polynomial.__mul__` over the old `_sort_uniq` was correct when `self` has at most two terms
and `other` satisfies the class invariant (each exponent then receives at most two products). -/
theorem mulPy_eq_of_length_le_two (p q : Poly) (hp : p.length ≤ 2) (hq : StrictSorted q) :
    mulPy p q = some (mul p q) := by
  apply sortUniqPy_eq_of_count
  intro e
  match p, hp with
  | [], _ => simp [mulRaw]
  | [s], _ =>
    have := countP_map_shift s q hq e
    simp only [mulRaw, List.flatMap_cons, List.flatMap_nil, List.append_nil]
    exact Nat.le_trans this (by omega)
  | [s1, s2], _ =>
    have h1 := countP_map_shift s1 q hq e
    have h2 := countP_map_shift s2 q hq e
    simp only [mulRaw, List.flatMap_cons, List.flatMap_nil, List.append_nil, List.countP_append]
    exact Nat.add_le_add h1 h2

/-! ### `__pow__` over the old `_sort_uniq` -/

theorem integerPowerLoop_option {α : Type*} (P : α → Prop) (mul : α → α → α)
    (mulO : Option α → Option α → Option α)
    (h : ∀ a b, P a → P b → mulO (some a) (some b) = some (mul a b) ∧ P (mul a b))
    (aux x : α) (n : ℕ) (ha : P aux) (hx : P x) :
    integerPowerLoop mulO (some aux) (some x) n = some (integerPowerLoop mul aux x n) ∧
      P (integerPowerLoop mul aux x n) := by
  induction n using Nat.strong_induction_on generalizing aux x with
  | _ n ih =>
    rw [integerPowerLoop, integerPowerLoop.eq_1 mul]
    split_ifs with h0 h1 h2
    · exact h aux x ha hx
    · rw [(h aux x ha hx).1, (h x x hx hx).1]
      exact ih (n / 2) (by omega) _ _ (h aux x ha hx).2 (h x x hx hx).2
    · rw [(h x x hx hx).1]
      exact ih (n / 2) (by omega) _ _ ha (h x x hx hx).2
    · exact ⟨rfl, ha⟩

/-- `Polynomial.__pow__` over the old `_sort_uniq` was correct on polynomials with positive
coefficients (e.g. `(x+1)**n`). -/
theorem powPy_eq_of_pos (p : Poly) (n : ℕ) (hp : AllPos p) :
    powPy p n = some (pow p n) ∧ AllPos (pow p n) := by
  unfold powPy pow integerPower
  apply integerPowerLoop_option AllPos mul _ _ one p n _ hp
  · intro a b ha hb
    simpa using mulPy_eq_of_pos a b ha hb
  · intro t ht
    simp only [one, List.mem_singleton] at ht
    subst ht; decide

/-! ## `__divmod__` (integer coefficients): partial correctness -/

theorem divmodLoop_spec (other : Poly) (fuel : ℕ) (quot rem q' r' : Poly) (x : ℤ)
    (h : divmodLoop other fuel quot rem = some (q', r')) :
    evalSpec q' x * evalSpec other x + evalSpec r' x =
      evalSpec quot x * evalSpec other x + evalSpec rem x := by
  induction fuel generalizing quot rem with
  | zero => simp [divmodLoop] at h
  | succ fuel ih =>
    rw [divmodLoop] at h
    by_cases hdeg : degree rem ≥ degree other
    · rw [if_pos hdeg] at h
      by_cases hlead : Int.fmod (leadTerm rem).2 (leadTerm other).2 ≠ 0
      · rw [if_pos hlead] at h
        simp only [Option.some.injEq, Prod.mk.injEq] at h
        rw [← h.1, ← h.2]
      · rw [if_neg hlead] at h
        rw [ih _ _ h, add_eval, sub_eval, mul_eval]; ring
    · rw [if_neg hdeg] at h
      simp only [Option.some.injEq, Prod.mk.injEq] at h
      rw [← h.1, ← h.2]

/-- if `divmod(self, other)` returns `(quot, rem)` then `quot*other + rem == self`
(as values at every integer point). -/
theorem divmod_spec (p other q r : Poly) (x : ℤ) (h : divmod p other = some (q, r)) :
    evalSpec q x * evalSpec other x + evalSpec r x = evalSpec p x := by
  unfold divmod at h
  split_ifs at h with h1 h2
  rw [divmodLoop_spec other _ [] p q r x h]; simp

/-- When the loop stops, either the remainder has smaller degree than the divisor, or the
leading coefficient of the divisor does not divide that of the remainder (the early
`return quot, rem` of the non-field branch). -/
theorem divmodLoop_stop (other : Poly) (fuel : ℕ) (quot rem q' r' : Poly)
    (h : divmodLoop other fuel quot rem = some (q', r')) :
    degree r' < degree other ∨
      Int.fmod (leadTerm r').2 (leadTerm other).2 ≠ 0 := by
  induction fuel generalizing quot rem with
  | zero => simp [divmodLoop] at h
  | succ fuel ih =>
    rw [divmodLoop] at h
    by_cases hdeg : degree rem ≥ degree other
    · rw [if_pos hdeg] at h
      by_cases hlead : Int.fmod (leadTerm rem).2 (leadTerm other).2 ≠ 0
      · rw [if_pos hlead] at h
        simp only [Option.some.injEq, Prod.mk.injEq] at h
        rw [← h.2]; exact Or.inr hlead
      · rw [if_neg hlead] at h
        exact ih _ _ h
    · rw [if_neg hdeg] at h
      simp only [Option.some.injEq, Prod.mk.injEq] at h
      rw [← h.2]; left; omega

end PV.Algo
