import PV.Proofs.SyntaxDefs
import PV.Proofs.ExprSize
/-
  C06.  Inversion lemmas for the stringifier model: what `strE S t enc = .ok ps` says about the
  token list `toks ps`, per node shape of the fragment.
-/
namespace PV.Syntax
open PV

theorem bind_eq_ok {ε α β : Type} {x : Except ε α} {f : α → Except ε β} {b : β} :
    (x >>= f) = .ok b ↔ ∃ a, x = .ok a ∧ f a = .ok b := by
  cases x <;> simp [bind, Except.bind]

@[simp] theorem toks_nil : toks [] = [] := rfl
@[simp] theorem toks_sp (ps : Pieces) : toks (.sp :: ps) = toks ps := by simp [toks]
@[simp] theorem toks_tok (t : Tok) (ps : Pieces) : toks (.tok t :: ps) = t :: toks ps := by
  simp [toks]
@[simp] theorem toks_sy (s : String) (ps : Pieces) : toks (sy s :: ps) = .sym s :: toks ps := by
  simp [toks, sy]
@[simp] theorem toks_append (a b : Pieces) : toks (a ++ b) = toks a ++ toks b := by
  simp [toks]
@[simp] theorem toks_parens (a : Pieces) : toks (parens a) = .sym "(" :: toks a ++ [.sym ")"] := by
  simp [parens]

/-- token-level parentheses -/
def wrapT (b : Bool) (ts : List Tok) : List Tok := if b then .sym "(" :: ts ++ [.sym ")"] else ts

theorem toks_parenIf (a : Pieces) (enc my : Nat) :
    toks (parenIf a enc my) = wrapT (decide (enc > my)) (toks a) := by
  unfold parenIf wrapT; split <;> simp_all <;> omega

@[simp] theorem wrapT_false (ts : List Tok) : wrapT false ts = ts := rfl

def wrappedE (S : PrintPrec) (enc : Nat) (t : Expr) : Bool :=
  match kind t with
  | some k => wrappedK S enc k
  | none => false


/-- forced parentheses around an operand of `o` (`rec_with_force_parens_around`) -/
def forcesE (o : Infix) (c : Expr) : Bool :=
  match o with
  | .times => isDivision c
  | .quot | .floordiv | .rem => isMultiplicative c
  | _ => false

theorem fltKind_cases {r : String} {d : Nat} {k : Kind} (h : fltKind r d = some k) :
    k = .neg ∨ k = .sfloat ∨ k = .atom := by
  unfold fltKind at h
  repeat' split at h
  all_goals simp_all

/-- the parentheses that `parenthesize_if_needed` puts around a node of class `k` -/
theorem toks_parenIf_kind {S : PrintPrec} {t : Expr} {k : Kind} {my : Nat} {X : Pieces}
    {T : List Tok} (hk : kind t = some k) (hm : k.myPrec S = some my) (hX : toks X = T)
    (enc : Nat) : toks (parenIf X enc my) = wrapT (wrappedE S enc t) T := by
  rw [toks_parenIf, hX, wrappedE, hk]
  simp only [wrappedK, hm]

/-- the printer's two tests for forced parentheses see only the class of the node -/
theorem isDivision_isMultiplicative_kind {c : Expr} {k : Kind} (h : kind c = some k) :
    isDivision c = k.isDiv ∧ isMultiplicative c = k.isMult := by
  cases c with
  | const c =>
    cases c with
    | int n => cases h; split <;> exact ⟨rfl, rfl⟩
    | flt r n d => rcases fltKind_cases h with rfl | rfl | rfl <;> exact ⟨rfl, rfl⟩
    | bool b => cases h; exact ⟨rfl, rfl⟩
    | _ => cases h
  | nary op cs => cases op <;> cases h <;> exact ⟨rfl, rfl⟩
  | bin op a b => cases op <;> cases h <;> exact ⟨rfl, rfl⟩
  | _ => first | (cases h; exact ⟨rfl, rfl⟩) | cases h

theorem forcesE_kind {o : Infix} {c : Expr} {k : Kind} (h : kind c = some k) :
    forcesE o c = o.forces k := by
  cases o <;> first
    | rfl
    | exact (isDivision_isMultiplicative_kind h).1
    | exact (isDivision_isMultiplicative_kind h).2

theorem toks_forceWrap (all : Bool) (c : Expr) (x : Pieces) :
    toks (forceWrap all c x)
      = wrapT (if all then isMultiplicative c else isDivision c) (toks x) := by
  simp only [forceWrap, wrapT]; split <;> simp_all <;> split <;> simp_all


/-- nodes that print as `left op right` and are rebuilt by one step of the postfix loop -/
def infixOf : Expr → Option (Infix × Expr × Expr)
  | .bin o a b => some (binInfix o, a, b)
  | .cmp o a b => some (.cmp o, a, b)
  | .nary .bor [a, b] => some (.bor, a, b)
  | .nary .bxor [a, b] => some (.bxor, a, b)
  | .nary .band [a, b] => some (.band, a, b)
  | .nary .lor [a, b] => some (.lor, a, b)
  | .nary .land [a, b] => some (.land, a, b)
  | _ => none

theorem strL_nil {S enc xs} (h : strL S [] enc = .ok xs) : xs = [] := by
  simp only [strL, pure, Except.pure, Except.ok.injEq] at h; exact h.symm

theorem strL_cons {S c cs enc xs} (h : strL S (c :: cs) enc = .ok xs) :
    ∃ x xs', strE S c enc = .ok x ∧ strL S cs enc = .ok xs' ∧ xs = x :: xs' := by
  simp only [strL, bind_eq_ok, pure, Except.pure, Except.ok.injEq] at h
  obtain ⟨x, hx, xs', hxs, rfl⟩ := h
  exact ⟨x, xs', hx, hxs, rfl⟩

theorem strE_infix {S t o a b enc ps} (hv : infixOf t = some (o, a, b))
    (h : strE S t enc = .ok ps) :
    ∃ x y, strE S a (encL S o) = .ok x ∧ strE S b (encR S o) = .ok y ∧
      toks ps = wrapT (wrappedE S enc t)
        (wrapT (forcesE o a) (toks x) ++ .sym o.sym :: wrapT (forcesE o b) (toks y)) := by
  cases t with
  | bin op a' b' =>
    cases hv
    cases op <;>
      (obtain ⟨x, hx, h⟩ := bind_eq_ok.mp h
       obtain ⟨y, hy, h⟩ := bind_eq_ok.mp h
       cases h
       exact ⟨x, y, hx, hy, toks_parenIf_kind rfl rfl
         (by simp [toks_forceWrap, forcesE, binInfix, Infix.sym]) enc⟩)
  | cmp op a' b' =>
    cases hv
    obtain ⟨x, hx, h⟩ := bind_eq_ok.mp h
    obtain ⟨y, hy, h⟩ := bind_eq_ok.mp h
    cases h
    exact ⟨x, y, hx, hy, toks_parenIf_kind rfl rfl (by simp [forcesE, Infix.sym]) enc⟩
  | nary op cs =>
    cases op <;> first | cases hv | skip
    all_goals
      match cs, hv with
      | [a', b'], hv =>
        cases hv
        obtain ⟨xs, hxs, h⟩ := bind_eq_ok.mp h
        cases h
        obtain ⟨x, _, hx, hxs1, rfl⟩ := strL_cons hxs
        obtain ⟨y, _, hy, hxs2, rfl⟩ := strL_cons hxs1
        cases strL_nil hxs2
        exact ⟨x, y, hx, hy, toks_parenIf_kind rfl rfl
          (by simp [joinWith, forcesE, Infix.sym]) enc⟩
  | _ => cases hv


def infixKind : Infix → Kind
  | .plus => .nary .sum | .times => .nary .prod | .quot => .bin .quot | .floordiv => .bin .floordiv
  | .rem => .bin .rem | .pow => .bin .pow | .lshift => .bin .lshift | .rshift => .bin .rshift
  | .band => .nary .band | .bxor => .nary .bxor | .bor => .nary .bor | .land => .nary .land
  | .lor => .nary .lor | .cmp _ => .cmp

theorem infixKind_lguard (P : ParserPrec) (o : Infix) :
    (infixKind o).lguard P = some (o.guard P) := by
  cases o <;> rfl

theorem infixKind_rlevel (P : ParserPrec) (o : Infix) :
    (infixKind o).rlevel P = some (o.rhs P) := by
  cases o <;> rfl

theorem infixOf_facts {P : ParserPrec} {S : PrintPrec} {t o a b}
    (hv : infixOf t = some (o, a, b)) :
    kind t = some (infixKind o) ∧ pnf t = o.build (pnf a) (pnf b) ∧
    Printable P S t = (okAt P S (.left o) a && okAt P S (.right o) b && Printable P S a
      && Printable P S b) ∧ a.size < t.size ∧ b.size < t.size := by
  have hsz (x y : Nat) : x < 1 + x + y ∧ y < 1 + x + y := by omega
  cases t with
  | bin op a' b' => cases hv; cases op <;> exact ⟨rfl, rfl, rfl, hsz _ _⟩
  | cmp op a' b' => cases hv; exact ⟨rfl, rfl, rfl, hsz _ _⟩
  | nary op cs =>
    cases op <;> first | cases hv | skip
    all_goals
      match cs, hv with
      | [a', b'], hv =>
        cases hv
        exact ⟨rfl, rfl, rfl, by simp only [Expr.size, Expr.sizeL]; omega⟩
  | _ => cases hv

theorem strE_un {S o a enc ps} (h : strE S (.un o a) enc = .ok ps) :
    ∃ x, strE S a S.unary = .ok x ∧
      toks ps = wrapT (wrappedE S enc (.un o a)) (.sym (UnOp.symS o) :: toks x) := by
  cases o <;>
    (obtain ⟨x, hx, h⟩ := bind_eq_ok.mp h
     cases h
     exact ⟨x, hx, toks_parenIf_kind rfl rfl (by simp [UnOp.symS]) enc⟩)

theorem strE_ite {S c t e enc ps} (h : strE S (.ite c t e) enc = .ok ps) :
    ∃ x y z, strE S t S.lor = .ok x ∧ strE S c S.lor = .ok y ∧ strE S e S.lor = .ok z ∧
      toks ps = wrapT (wrappedE S enc (.ite c t e))
        (toks x ++ .sym "if" :: (toks y ++ .sym "else" :: toks z)) := by
  obtain ⟨x, hx, h⟩ := bind_eq_ok.mp h
  obtain ⟨y, hy, h⟩ := bind_eq_ok.mp h
  obtain ⟨z, hz, h⟩ := bind_eq_ok.mp h
  cases h
  exact ⟨x, y, z, hx, hy, hz, toks_parenIf_kind rfl rfl (by simp) enc⟩


theorem strE_int {S n enc ps} (h : strE S (.const (.int n)) enc = .ok ps) :
    toks ps = wrapT (wrappedE S enc (.const (.int n)))
      (if n < 0 then [.sym "-", .int n.natAbs] else [.int n.toNat]) := by
  have hw : wrappedE S enc (.const (.int n)) = wrappedK S enc (if n < 0 then .neg else .atom) := rfl
  by_cases hn : n < 0
  · cases (if_pos hn).symm.trans h
    rw [hw, if_pos hn, if_pos hn]
    exact toks_parenIf ..
  · cases (if_neg hn).symm.trans h
    rw [hw, if_neg hn, if_neg hn]
    rfl

theorem strE_flt {S r n d enc ps k} (hk : fltKind r d = some k)
    (h : strE S (.const (.flt r n d)) enc = .ok ps) :
    toks ps = wrapT (wrappedE S enc (.const (.flt r n d)))
      (if r.startsWith "-" then [.sym "-", .flt (r.drop 1).toString (-n) d] else [.flt r n d]) := by
  have hw : wrappedE S enc (.const (.flt r n d)) = wrappedK S enc k := by
    simp only [wrappedE, kind, hk]
  have hd : ¬ d = 0 := fun hd => by simp [fltKind, hd] at hk
  cases (if_neg hd).symm.trans h
  rw [hw]
  simp only [fltKind, hd, if_false] at hk
  by_cases hneg : r.startsWith "-" = true
  · rw [if_pos hneg] at hk ⊢
    split at hk <;> cases hk
    simp only [hneg, Bool.true_or, Bool.true_and, if_true, decide_eq_true_eq]
    exact toks_parenIf ..
  · rw [if_neg hneg] at hk ⊢
    split at hk <;> cases hk
    · rename_i hs
      simp only [hneg, hs, Bool.false_or, Bool.true_and, Bool.false_eq_true, if_false,
        decide_eq_true_eq]
      exact toks_parenIf ..
    · rename_i hs
      simp only [hneg, hs, Bool.false_or, Bool.false_and, Bool.false_eq_true, if_false]
      rfl
theorem strE_bool {S b enc ps} (h : strE S (.const (.bool b)) enc = .ok ps) :
    toks ps = [if b then .tTrue else .tFalse] := by
  cases h; rfl

theorem strE_var {S x enc ps} (h : strE S (.var x) enc = .ok ps) : toks ps = [.ident x] := by
  cases h; rfl


/-! ### n-ary sums and products -/

/-- `op x₁ op x₂ …` -/
def chainT (s : String) : List Pieces → List Tok
  | [] => []
  | x :: xs => .sym s :: (toks x ++ chainT s xs)

theorem toks_joinWith {sep : Pieces} {s : String} (hsep : toks sep = [.sym s]) :
    ∀ (x : Pieces) (xs : List Pieces), toks (joinWith sep (x :: xs)) = toks x ++ chainT s xs
  | x, [] => by simp [joinWith, chainT]
  | x, y :: ys => by
    simp only [joinWith, toks_append, hsep, chainT, toks_joinWith hsep y ys]
    simp

theorem strForceL_nil {S all enc xs} (h : strForceL S all [] enc = .ok xs) : xs = [] := by
  simp only [strForceL, pure, Except.pure, Except.ok.injEq] at h; exact h.symm

theorem strForceL_cons {S all c cs enc xs} (h : strForceL S all (c :: cs) enc = .ok xs) :
    ∃ x xs', strE S c enc = .ok x ∧ strForceL S all cs enc = .ok xs' ∧
      xs = forceWrap all c x :: xs' := by
  simp only [strForceL, bind_eq_ok, pure, Except.pure, Except.ok.injEq] at h
  obtain ⟨x, hx, xs', hxs, rfl⟩ := h
  exact ⟨x, xs', hx, hxs, rfl⟩

theorem strE_sum {S cs enc ps} (h : strE S (.nary .sum cs) enc = .ok ps) :
    ∃ xs, strL S cs S.sum = .ok xs ∧
      toks ps = wrapT (wrappedE S enc (.nary .sum cs)) (toks (joinWith [.sp, sy "+", .sp] xs)) := by
  obtain ⟨xs, hxs, h⟩ := bind_eq_ok.mp h
  cases h
  exact ⟨xs, hxs, toks_parenIf_kind rfl rfl rfl enc⟩

theorem strE_prod {S cs enc ps} (h : strE S (.nary .prod cs) enc = .ok ps) :
    ∃ xs, strForceL S false cs S.product = .ok xs ∧
      toks ps = wrapT (wrappedE S enc (.nary .prod cs)) (toks (joinWith [sy "*"] xs)) := by
  obtain ⟨xs, hxs, h⟩ := bind_eq_ok.mp h
  cases h
  exact ⟨xs, hxs, toks_parenIf_kind rfl rfl rfl enc⟩

/-! ### postfix forms, tuples, lists -/

/-- `x₁ , x₂ , …`; `ca`: a comma comes first -/
def seqT (ca : Bool) : List Pieces → List Tok
  | [] => []
  | x :: xs => (if ca then [.sym ","] else []) ++ toks x ++ seqT true xs

theorem toks_joinWith_comma : ∀ (xs : List Pieces),
    toks (joinWith [sy ",", .sp] xs) = seqT false xs
  | [] => by simp [joinWith, seqT]
  | [x] => by simp [joinWith, seqT]
  | x :: y :: ys => by
    have ih := toks_joinWith_comma (y :: ys)
    simp only [joinWith, toks_append, ih, seqT]
    simp

theorem seqT_true_eq_chain : ∀ (xs : List Pieces), seqT true xs = chainT "," xs
  | [] => rfl
  | x :: xs => by simp [seqT, chainT, seqT_true_eq_chain xs]

theorem seqT_append (ca : Bool) : ∀ (xs ys : List Pieces),
    seqT ca (xs ++ ys) = seqT ca xs ++ seqT (ca || !xs.isEmpty) ys
  | [], ys => by simp [seqT]
  | x :: xs, ys => by simp [seqT, seqT_append true xs ys]

theorem strE_lookup {S a n enc ps} (h : strE S (.lookup a n) enc = .ok ps) :
    ∃ x, strE S a S.call = .ok x ∧
      toks ps = wrapT (wrappedE S enc (.lookup a n)) (toks x ++ [.sym ".", .ident n]) := by
  obtain ⟨x, hx, h⟩ := bind_eq_ok.mp h
  cases h
  exact ⟨x, hx, toks_parenIf_kind rfl rfl (by simp) enc⟩

theorem strE_subscript_tuple {S a cs enc ps} (h : strE S (.subscript a (.tuple cs)) enc = .ok ps) :
    ∃ x xs, strE S a S.call = .ok x ∧ strL S cs S.none = .ok xs ∧
      toks ps = wrapT (wrappedE S enc (.subscript a (.tuple cs)))
        (toks x ++ .sym "[" :: (seqT false xs ++ [.sym "]"])) := by
  obtain ⟨xs, hxs, h⟩ := bind_eq_ok.mp h
  obtain ⟨x, hx, h⟩ := bind_eq_ok.mp h
  cases h
  exact ⟨x, xs, hx, hxs, toks_parenIf_kind rfl rfl (by simp [toks_joinWith_comma]) enc⟩

theorem strE_subscript {S a i enc ps} (hi : ∀ cs, i ≠ .tuple cs)
    (h : strE S (.subscript a i) enc = .ok ps) :
    ∃ x y, strE S a S.call = .ok x ∧ strE S i S.none = .ok y ∧
      toks ps = wrapT (wrappedE S enc (.subscript a i))
        (toks x ++ .sym "[" :: (toks y ++ [.sym "]"])) := by
  rw [strE] at h
  · obtain ⟨y, hy, h⟩ := bind_eq_ok.mp h
    obtain ⟨x, hx, h⟩ := bind_eq_ok.mp h
    cases h
    exact ⟨x, y, hx, hy, toks_parenIf_kind rfl rfl (by simp) enc⟩
  · exact fun cs h => hi cs h

theorem strE_call {S f as enc ps} (h : strE S (.call f as) enc = .ok ps) :
    ∃ x xs, strE S f S.call = .ok x ∧ strL S as S.none = .ok xs ∧
      toks ps = toks x ++ .sym "(" :: (seqT false xs ++ [.sym ")"]) := by
  obtain ⟨x, hx, h⟩ := bind_eq_ok.mp h
  obtain ⟨xs, hxs, h⟩ := bind_eq_ok.mp h
  cases h
  exact ⟨x, xs, hx, hxs, by simp [toks_joinWith_comma]⟩

/-- the pieces of the keyword arguments -/
def kwPieces (ns : List String) (vp : List Pieces) : List Pieces :=
  (ns.zip vp).map fun p => (.tok (.ident p.1) : Piece) :: sy "=" :: p.2

theorem strE_callKw {S f as ns vs enc ps} (h : strE S (.callKw f as ns vs) enc = .ok ps) :
    ∃ x xs ys, strE S f S.call = .ok x ∧ strL S as S.none = .ok xs ∧ strL S vs S.none = .ok ys ∧
      toks ps = toks x ++ .sym "(" :: (seqT false (xs ++ kwPieces ns ys) ++ [.sym ")"]) := by
  obtain ⟨xs, hxs, h⟩ := bind_eq_ok.mp h
  obtain ⟨ys, hys, h⟩ := bind_eq_ok.mp h
  obtain ⟨x, hx, h⟩ := bind_eq_ok.mp h
  cases h
  exact ⟨x, xs, ys, hx, hxs, hys, by simp [toks_joinWith_comma, kwPieces]⟩

theorem strE_tuple {S cs enc ps} (h : strE S (.tuple cs) enc = .ok ps) :
    ∃ xs, strL S cs S.none = .ok xs ∧
      toks ps = .sym "(" :: (seqT false xs ++
        ((if cs.length == 1 then [.sym ","] else []) ++ [.sym ")"])) := by
  obtain ⟨xs, hxs, h⟩ := bind_eq_ok.mp h
  cases h
  refine ⟨xs, hxs, ?_⟩
  split <;> simp [toks_joinWith_comma, *]

theorem strE_list {S cs enc ps} (h : strE S (.list cs) enc = .ok ps) :
    ∃ xs, strL S cs S.none = .ok xs ∧ toks ps = .sym "[" :: (seqT false xs ++ [.sym "]"]) := by
  obtain ⟨xs, hxs, h⟩ := bind_eq_ok.mp h
  cases h
  exact ⟨xs, hxs, by simp [toks_joinWith_comma]⟩

/-! ### slices -/

theorem strE_slice {S cs enc ps} (h : strE S (.slice cs) enc = .ok ps) :
    ∃ xs, strSliceL S cs = .ok xs ∧
      toks ps = wrapT (wrappedE S enc (.slice cs)) (toks (joinWith [sy ":"] xs)) := by
  obtain ⟨xs, hxs, h⟩ := bind_eq_ok.mp h
  cases h
  exact ⟨xs, hxs, toks_parenIf_kind rfl rfl rfl enc⟩


theorem strSliceL_nil {S xs} (h : strSliceL S [] = .ok xs) : xs = [] := by
  simp only [strSliceL, pure, Except.pure, Except.ok.injEq] at h; exact h.symm

theorem strSliceL_none {S cs xs} (h : strSliceL S (.const .none :: cs) = .ok xs) :
    ∃ xs', strSliceL S cs = .ok xs' ∧ xs = [] :: xs' := by
  simp only [strSliceL, bind_eq_ok, pure, Except.pure, Except.ok.injEq] at h
  obtain ⟨xs', hxs, rfl⟩ := h
  exact ⟨xs', hxs, rfl⟩

theorem strSliceL_cons {S c cs xs} (hc : c ≠ .const .none) (h : strSliceL S (c :: cs) = .ok xs) :
    ∃ x xs', strE S c S.none = .ok x ∧ strSliceL S cs = .ok xs' ∧ xs = x :: xs' := by
  rw [strSliceL] at h
  · simp only [bind_eq_ok, pure, Except.pure, Except.ok.injEq] at h
    obtain ⟨x, hx, xs', hxs, rfl⟩ := h
    exact ⟨x, xs', hx, hxs, rfl⟩
  · exact fun h' => hc h'

end PV.Syntax
