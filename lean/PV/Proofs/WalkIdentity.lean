import PV.Proofs.Subterm
import PV.Proofs.WalkCombine
/-
  C04 — the identity mapper on the flag-free side (`substE` with the empty substitution; `substM`
  is linked to it by `substM_spec`) and a generic decidable "every subterm satisfies p" used to
  discharge hypotheses on concrete trees.
-/
namespace PV

theorem SubstMap.empty_apply (t : Expr) : ({} : SubstMap).apply t = none := by
  simp only [SubstMap.apply, SubstMap.findExpr, SubstMap.findName, List.find?_nil]
  split <;> rfl

/-- no `CommonSubexpression` wrapper around a zero child anywhere in `e` -/
def NoZeroCseChild (e : Expr) : Prop :=
  ∀ c p s, Subterm (.cse c p s) e → c.isZero = false

theorem NoZeroCseChild.child {e c : Expr} (h : NoZeroCseChild e) (hc : c ∈ e.children) :
    NoZeroCseChild c :=
  fun c' p s ht => h c' p s (ht.trans (.child hc))

theorem substEL_same_of {σ : SubstMap} : ∀ {cs : List Expr}, (∀ c ∈ cs, substE σ c = c) →
    substEL σ cs = cs
  | [], _ => rfl
  | c :: cs, h => by
    rw [substEL, h c (by simp), substEL_same_of fun d hd => h d (List.mem_cons_of_mem _ hd)]

theorem substE_empty : ∀ e : Expr, NoZeroCseChild e → substE {} e = e := by
  intro e
  induction e using Expr.induct with | h e ih => ?_
  intro h
  have ihc : ∀ c ∈ e.children, substE {} c = c := fun c hc => ih c hc (h.child hc)
  cases e with
  | cse a p s => simp [substE, ihc a (by simp [Expr.children]), h a p s (.refl _)]
  | nary o cs | slice cs | tuple cs | list cs => simp [substE, substEL_same_of (cs := cs) ihc]
  | call f as | subst f _ as =>
    simp [substE, ihc f (by simp [Expr.children]),
      substEL_same_of (cs := as) fun c hc => ihc c (by simp [Expr.children, hc])]
  | callKw f as ns vs =>
    simp [substE, ihc f (by simp [Expr.children]),
      substEL_same_of (cs := as) fun c hc => ihc c (by simp [Expr.children, hc]),
      substEL_same_of (cs := vs) fun c hc => ihc c (by simp [Expr.children, hc])]
  | _ =>
    simp only [Expr.children, List.mem_cons, List.not_mem_nil, or_false,
      forall_eq_or_imp, forall_eq] at ihc
    simp [substE, SubstMap.empty_apply, ihc]

theorem substEL_empty : ∀ cs : List Expr, (∀ c ∈ cs, NoZeroCseChild c) → substEL {} cs = cs :=
  fun _ h => substEL_same_of fun c hc => substE_empty c (h c hc)

/-! ### a generic decidable "every subterm satisfies `p`" (to discharge the hypotheses by `decide`) -/

mutual
def allSub (p : Expr → Bool) : Expr → Bool
  | .const c => p (.const c)
  | .var x => p (.var x)
  | .nan => p .nan
  | .wildcard => p .wildcard
  | .dotWild n => p (.dotWild n)
  | .starWild n => p (.starWild n)
  | .funcSym => p .funcSym
  | .nary o cs => p (.nary o cs) && allSubL p cs
  | .bin o a b => p (.bin o a b) && (allSub p a && allSub p b)
  | .un o a => p (.un o a) && allSub p a
  | .cmp o a b => p (.cmp o a b) && (allSub p a && allSub p b)
  | .ite c t e => p (.ite c t e) && (allSub p c && allSub p t && allSub p e)
  | .call f as => p (.call f as) && (allSub p f && allSubL p as)
  | .callKw f as ns vs => p (.callKw f as ns vs) && (allSub p f && allSubL p as && allSubL p vs)
  | .subscript a i => p (.subscript a i) && (allSub p a && allSub p i)
  | .lookup a n => p (.lookup a n) && allSub p a
  | .cse c q s => p (.cse c q s) && allSub p c
  | .subst c vs xs => p (.subst c vs xs) && (allSub p c && allSubL p xs)
  | .deriv c vs => p (.deriv c vs) && allSub p c
  | .slice cs => p (.slice cs) && allSubL p cs
  | .tuple cs => p (.tuple cs) && allSubL p cs
  | .list cs => p (.list cs) && allSubL p cs
def allSubL (p : Expr → Bool) : List Expr → Bool
  | [] => true
  | c :: cs => allSub p c && allSubL p cs
end

theorem allSubL_eq (p : Expr → Bool) : ∀ cs : List Expr, allSubL p cs = cs.all (allSub p)
  | [] => rfl
  | c :: cs => by simp [allSubL, allSubL_eq p cs]

theorem allSub_eq (p : Expr → Bool) (e : Expr) :
    allSub p e = (p e && e.children.all (allSub p)) := by
  cases e <;> simp [allSub, Expr.children, allSubL_eq, Bool.and_assoc]

theorem allSub_sound {p : Expr → Bool} {e : Expr} (h : allSub p e = true) :
    ∀ t, Subterm t e → p t = true := by
  intro t ht
  have : allSub p t = true := by
    induction ht with
    | refl => exact h
    | step _ hc ih =>
      apply ih
      rw [allSub_eq, Bool.and_eq_true, List.all_eq_true] at h
      exact h.2 _ hc
  rw [allSub_eq, Bool.and_eq_true] at this
  exact this.1

def cseChildNonzero : Expr → Bool
  | .cse c _ _ => !c.isZero
  | _ => true

def notListNode : Expr → Bool
  | .list _ => false
  | _ => true

theorem noZeroCseChild_of_check {e : Expr} (h : allSub cseChildNonzero e = true) :
    NoZeroCseChild e := by
  intro c p s ht
  simpa [cseChildNonzero] using allSub_sound h _ ht

theorem noList_of_check {e : Expr} (h : allSub notListNode e = true) :
    ∀ cs, ¬ Subterm (.list cs) e := by
  intro cs ht
  simpa [notListNode] using allSub_sound h _ ht
end PV
