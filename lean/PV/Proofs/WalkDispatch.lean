import PV.Model.Dispatch
/-
  C04 — helper lemmas on the dispatch model (`dispatchExpr` = first implemented MRO entry) and on
  `camelToSnake`.
-/
namespace PV

/-- Does a mapper with handler set `hs` implement the handler named by an MRO entry?  `own`: the
entry is the object's own class (for ancestors an empty name is ignored, as coded). -/
def mroImplements (hs : List String) (own : Bool) : Option String → Bool
  | some m => (own || m != "") && hs.contains m
  | none => false

/-- the handler `Mapper.__call__` should pick: the own class's handler if implemented, else the
first ancestor (MRO order) with a non-empty implemented handler name -/
def firstImplemented (hs : List String) : List (Option String) → Option String
  | [] => none
  | own :: rest =>
    if mroImplements hs true own then own else (rest.find? (mroImplements hs false)).join

def DispatchResult.ofFirst : Option String → DispatchResult
  | some m => .handler m
  | none => .unsupported

theorem dispatchAncestors_find (hs : List String) : ∀ l : List (Option String),
    dispatchExpr.dispatchAncestors hs l = DispatchResult.ofFirst (l.find? (mroImplements hs false)).join
  | [] => rfl
  | none :: rest => by
      simp [dispatchExpr.dispatchAncestors, mroImplements, dispatchAncestors_find hs rest]
  | some m :: rest => by
      simp only [dispatchExpr.dispatchAncestors, List.find?_cons, mroImplements, Bool.false_or,
        dispatchAncestors_find hs rest]
      cases h : (m != "" && hs.contains m) <;> simp [DispatchResult.ofFirst]

theorem dispatchExpr_first (hs : List String) (mro : List (Option String)) :
    dispatchExpr hs mro = DispatchResult.ofFirst (firstImplemented hs mro) := by
  cases mro with
  | nil => rfl
  | cons own rest =>
    cases own with
    | none => simp [dispatchExpr, firstImplemented, mroImplements, dispatchAncestors_find]
    | some m =>
      simp only [dispatchExpr, firstImplemented, mroImplements, Bool.true_or, Bool.true_and,
        dispatchAncestors_find]
      cases h : hs.contains m <;> simp [DispatchResult.ofFirst]

/-- `Mapper.__call__` (`own = true`: the head of the list is the object's own class) and its
ancestor scan (`own = false`) as one function -/
def dispatchFrom (hs : List String) (own : Bool) (l : List (Option String)) : DispatchResult :=
  if own then dispatchExpr hs l else dispatchExpr.dispatchAncestors hs l

theorem dispatchFrom_cons (hs : List String) (own : Bool) (e : Option String)
    (rest : List (Option String)) :
    dispatchFrom hs own (e :: rest) =
      if mroImplements hs own e then .handler (e.getD "") else dispatchFrom hs false rest := by
  cases own <;> cases e <;>
    simp [dispatchFrom, dispatchExpr, dispatchExpr.dispatchAncestors, mroImplements]

/-- the result is `handler m` exactly when `m` sits at the first position whose entry the mapper
implements (position 0 counting as the own class iff `own`) -/
theorem dispatchFrom_handler_iff (hs : List String) (m : String) :
    ∀ (own : Bool) (l : List (Option String)),
    dispatchFrom hs own l = .handler m ↔
      ∃ i : Nat, l[i]? = some (some m) ∧ mroImplements hs (own && i == 0) (some m) = true ∧
        ∀ j : Nat, j < i → ∀ e, l[j]? = some e → mroImplements hs (own && j == 0) e = false
  | own, [] => by cases own <;> simp [dispatchFrom, dispatchExpr, dispatchExpr.dispatchAncestors]
  | own, e :: rest => by
    rw [dispatchFrom_cons]
    cases he : mroImplements hs own e with
    | true =>
      obtain ⟨a, rfl⟩ : ∃ a, e = some a := by
        cases e with
        | none => simp [mroImplements] at he
        | some a => exact ⟨a, rfl⟩
      simp only [if_true, Option.getD_some, DispatchResult.handler.injEq]
      constructor
      · rintro rfl
        exact ⟨0, rfl, by simpa using he, fun j hj => by omega⟩
      · rintro ⟨i, h1, -, h3⟩
        cases i with
        | zero => simpa using h1
        | succ i => have := h3 0 (by omega) _ rfl; simp [he] at this
    | false =>
      simp only [Bool.false_eq_true, if_false, dispatchFrom_handler_iff hs m false rest,
        Bool.false_and]
      constructor
      · rintro ⟨i, h1, h2, h3⟩
        refine ⟨i + 1, by simpa using h1, by simpa using h2, fun j hj e' he' => ?_⟩
        cases j with
        | zero => simp at he'; subst he'; simpa using he
        | succ j => simpa using h3 j (by omega) e' (by simpa using he')
      · rintro ⟨i, h1, h2, h3⟩
        cases i with
        | zero => simp at h1; subst h1; simp [he] at h2
        | succ i =>
          refine ⟨i, by simpa using h1, by simpa using h2, fun j hj e' he' => ?_⟩
          simpa using h3 (j + 1) (by omega) e' (by simpa using he')

theorem dispatchFrom_cases (hs : List String) : ∀ (own : Bool) (l : List (Option String)),
    (∃ m, dispatchFrom hs own l = .handler m) ∨ dispatchFrom hs own l = .unsupported
  | own, [] => by cases own <;> exact .inr rfl
  | own, e :: rest => by
    rw [dispatchFrom_cons]
    split
    · exact .inl ⟨_, rfl⟩
    · exact dispatchFrom_cases hs false rest

theorem mroImplements_some (hs : List String) (i : Nat) (m : String) :
    mroImplements hs (i == 0) (some m) = true ↔ m ∈ hs ∧ (i ≠ 0 → m ≠ "") := by
  by_cases hi : i = 0 <;> simp [mroImplements, hi, and_comm]

theorem dispatchExpr_handler_iff (hs : List String) (mro : List (Option String)) (m : String) :
    dispatchExpr hs mro = .handler m ↔
      ∃ i : Nat, mro[i]? = some (some m) ∧ m ∈ hs ∧ (i ≠ 0 → m ≠ "") ∧
        ∀ j : Nat, j < i → ∀ m', mro[j]? = some (some m') → ¬ (m' ∈ hs ∧ (j ≠ 0 → m' ≠ "")) := by
  have h := dispatchFrom_handler_iff hs m true mro
  simp only [dispatchFrom, if_true, Bool.true_and] at h
  rw [h]
  refine exists_congr fun i => and_congr_right fun _ => ?_
  rw [mroImplements_some, and_assoc]
  refine and_congr_right fun _ => and_congr_right fun _ =>
    ⟨fun h3 j hj m' hm' => ?_, fun h3 j hj e he => ?_⟩
  · rw [← mroImplements_some, h3 j hj _ hm']; simp
  · cases e with
    | none => rfl
    | some m' =>
      have := h3 j hj m' he
      rw [← mroImplements_some] at this
      simpa using this

theorem dispatchExpr_cases (hs : List String) (mro : List (Option String)) :
    (∃ m, dispatchExpr hs mro = .handler m ∧ m ∈ hs ∧ some m ∈ mro) ∨
      dispatchExpr hs mro = .unsupported := by
  have hc := dispatchFrom_cases hs true mro
  simp only [dispatchFrom, if_true] at hc
  rcases hc with ⟨m, hm⟩ | h
  · obtain ⟨i, h1, h2, -, -⟩ := (dispatchExpr_handler_iff hs mro m).1 hm
    exact .inl ⟨m, hm, h2, List.mem_of_getElem? h1⟩
  · exact .inr h

theorem dispatchExpr_unsupported_iff (hs : List String) (mro : List (Option String)) :
    dispatchExpr hs mro = .unsupported ↔
      ∀ (i : Nat) (m : String), mro[i]? = some (some m) → ¬ (m ∈ hs ∧ (i ≠ 0 → m ≠ "")) := by
  constructor
  · intro h i
    induction i using Nat.strongRecOn with
    | _ i ih =>
      intro m hm hi
      have : dispatchExpr hs mro = .handler m :=
        (dispatchExpr_handler_iff hs mro m).2 ⟨i, hm, hi.1, hi.2, fun j hj m' hm' => ih j hj m' hm'⟩
      rw [h] at this; cases this
  · intro h
    rcases dispatchExpr_cases hs mro with ⟨m, hm, -, -⟩ | h'
    · obtain ⟨i, h1, h2, h3, -⟩ := (dispatchExpr_handler_iff hs mro m).1 hm
      exact absurd ⟨h2, h3⟩ (h i m h1)
    · exact h'

/-! ### `camelToSnake` -/

theorem camelToSnakeAux_length_ge : ∀ (p : Option Char) (l : List Char),
    l.length ≤ (camelToSnakeAux p l).length
  | _, [] => by simp [camelToSnakeAux]
  | p, c :: rest => by
      have := camelToSnakeAux_length_ge (some c) rest
      have aux : ∀ (b : Bool) (t : List Char), rest.length ≤ t.length →
          (c :: rest).length ≤ ((if b then ['_', c] else [c]) ++ t).length := by
        intro b t h; cases b <;> simp <;> omega
      exact aux _ _ this

theorem camelToSnake_length_le (s : String) : s.length ≤ (camelToSnake s).length := by
  simp only [camelToSnake, String.length_ofList, List.length_map]
  simpa [String.length_toList] using camelToSnakeAux_length_ge none s.toList

theorem camelToSnakeAux_noUpper : ∀ (p : Option Char) (l : List Char),
    (∀ c ∈ l, isUpperAscii c = false) → camelToSnakeAux p l = l
  | _, [], _ => rfl
  | p, c :: rest, h => by
      have hc : isUpperAscii c = false := h c (by simp)
      have ih := camelToSnakeAux_noUpper (some c) rest (fun d hd => h d (by simp [hd]))
      simp only [camelToSnakeAux, hc, Bool.and_false, Bool.false_and, Bool.or_false, ih]
      cases p <;> simp

theorem camel_notUpper_of (c : Char) (h : ¬ (c.val ≥ 'A'.val ∧ c.val ≤ 'Z'.val)) :
    isUpperAscii c = false ∧ c.toLower = c := by
  constructor
  · simp only [isUpperAscii, Bool.and_eq_false_imp, decide_eq_true_eq, decide_eq_false_iff_not, Char.le_def]
    intro h1 h2; exact h ⟨h1, h2⟩
  · simp only [Char.toLower, dif_neg h]

theorem snakeChar_props (c : Char) (h : isLowerAscii c = true ∨ c = '_' ∨ c.isDigit = true) :
    isUpperAscii c = false ∧ c.toLower = c := by
  apply camel_notUpper_of
  rcases h with h | rfl | h
  · simp only [isLowerAscii, Bool.and_eq_true, decide_eq_true_eq, Char.le_def] at h
    have h1 := UInt32.le_iff_toNat_le.1 h.1
    intro h2
    have h3 := UInt32.le_iff_toNat_le.1 h2.2
    have : 'a'.val.toNat = 97 := by decide
    have : 'Z'.val.toNat = 90 := by decide
    omega
  · decide
  · simp only [Char.isDigit, Bool.and_eq_true, decide_eq_true_eq] at h
    have h1 := UInt32.le_iff_toNat_le.1 h.2
    intro h2
    have h3 := UInt32.le_iff_toNat_le.1 h2.1
    have : '9'.val.toNat = 57 := by decide
    have : 'A'.val.toNat = 65 := by decide
    omega

theorem camelToSnake_of_snake (s : String)
    (h : ∀ c ∈ s.toList, isLowerAscii c = true ∨ c = '_' ∨ c.isDigit = true) :
    camelToSnake s = s := by
  have h1 : camelToSnakeAux none s.toList = s.toList :=
    camelToSnakeAux_noUpper none _ (fun c hc => (snakeChar_props c (h c hc)).1)
  have h2 : s.toList.map Char.toLower = s.toList := by
    rw [List.map_congr_left (g := id) (fun c hc => (snakeChar_props c (h c hc)).2)]
    simp
  rw [camelToSnake, h1, h2, String.ofList_toList]
end PV
