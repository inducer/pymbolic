import PV.Proofs.WalkSpec
/-
  C04 — the combine fold (`combineL`) against an independent leaf enumeration, and when it raises.
-/
namespace PV

/-- the leaves a `CombineMapper` maps to a value: constants, variables, wildcards, function symbols -/
def Expr.isCombineLeaf : Expr → Bool
  | .const _ | .var _ | .wildcard | .dotWild _ | .starWild _ | .funcSym => true
  | _ => false

/-- node types without a `CombineMapper` handler (and the non-expression constants `map_foreign`
rejects) -/
def Expr.combineUnhandled : Expr → Bool
  | .slice _ | .subst .. | .deriv .. | .nan | .const (.str _) | .const .none => true
  | _ => false

/-- **Specification of the combine fold** (with list concatenation as `combine`): every leaf
occurrence, in field order through every child -/
def leavesOf (e : Expr) : List Expr :=
  if e.isCombineLeaf then [e]
  else e.children.attach.flatMap (fun ⟨c, _⟩ => leavesOf c)
termination_by e.size
decreasing_by exact Expr.size_lt_of_mem_children ‹_›

theorem leavesOf_eq (e : Expr) :
    leavesOf e = if e.isCombineLeaf then [e] else e.children.flatMap leavesOf := by
  rw [leavesOf]; simp [List.flatMap_subtype, List.unattach_attach]

mutual
/-- decidable: some reachable node has no combine handler -/
def combineBad : Expr → Bool
  | .const (.str _) => true
  | .const .none => true
  | .const _ => false
  | .var _ => false
  | .wildcard => false
  | .dotWild _ => false
  | .starWild _ => false
  | .funcSym => false
  | .nan => true
  | .slice _ => true
  | .subst .. => true
  | .deriv .. => true
  | .nary _ cs => combineBadL cs
  | .bin _ a b => combineBad a || combineBad b
  | .un _ a => combineBad a
  | .cmp _ a b => combineBad a || combineBad b
  | .ite c t e => combineBad c || combineBad t || combineBad e
  | .call f as => combineBad f || combineBadL as
  | .callKw f as _ vs => combineBad f || combineBadL as || combineBadL vs
  | .subscript a i => combineBad a || combineBad i
  | .lookup a _ => combineBad a
  | .cse c _ _ => combineBad c
  | .tuple cs => combineBadL cs
  | .list cs => combineBadL cs
def combineBadL : List Expr → Bool
  | [] => false
  | c :: cs => combineBad c || combineBadL cs
end

/-- outcome of the fold: the leaves, or some error when a node is unhandled -/
def CombineOutcome (bad : Bool) (leaves : List Expr) (r : Except DepErr (List Expr)) : Prop :=
  if bad then ∃ err, r = .error err ∧ (err = .unsupported ∨ err = .foreign)
  else r = .ok leaves

theorem CombineOutcome.seq {b1 b2 : Bool} {l1 l2 : List Expr} {r1 r2 : Except DepErr (List Expr)}
    (h1 : CombineOutcome b1 l1 r1) (h2 : CombineOutcome b2 l2 r2) :
    CombineOutcome (b1 || b2) (l1 ++ l2) (do pure ((← r1) ++ (← r2))) := by
  cases b1 <;> cases b2 <;> simp only [CombineOutcome, Bool.or_self, Bool.or_true, Bool.or_false,
    if_true, Bool.false_eq_true, if_false] at h1 h2 ⊢
  · subst h1 h2; rfl
  · obtain ⟨err, rfl, he⟩ := h2; subst h1; exact ⟨err, rfl, he⟩
  · obtain ⟨err, rfl, he⟩ := h1; exact ⟨err, rfl, he⟩
  · obtain ⟨err, rfl, he⟩ := h1; exact ⟨err, rfl, he⟩

theorem combineLL_append : ∀ as bs : List Expr,
    combineLL (as ++ bs) = do pure ((← combineLL as) ++ (← combineLL bs))
  | [], bs => by
    cases h : combineLL bs <;> simp [combineLL, h, bind, Except.bind, pure, Except.pure]
  | a :: as, bs => by
    simp only [List.cons_append, combineLL, combineLL_append as bs]
    cases combineL a <;> cases combineLL as <;> cases combineLL bs <;>
      simp [bind, Except.bind, pure, Except.pure]

/-- **One handler call of `combineL`, for every node class at once**: a string / `None` is
rejected, a leaf is the result, a node without handler raises, any other node concatenates the
folds of ALL its children. -/
theorem combineL_eq_children (e : Expr) :
    combineL e =
      if e.isRejectedConst then throw .foreign
      else if e.isCombineLeaf then pure [e]
      else if e.combineUnhandled then throw .unsupported
      else combineLL e.children := by
  cases e with
  | const k => cases k <;> simp [combineL, Expr.isRejectedConst, Expr.isCombineLeaf]
  | var | wildcard | dotWild | starWild | funcSym =>
    simp [combineL, Expr.isRejectedConst, Expr.isCombineLeaf]
  | nan | slice | subst | deriv | nary | tuple | list | call =>
    simp [combineL, Expr.isRejectedConst, Expr.isCombineLeaf, Expr.combineUnhandled,
      Expr.children, combineLL]
  | un o a | lookup a | cse a =>
    simp only [combineL, Expr.isRejectedConst, Expr.isCombineLeaf, Expr.combineUnhandled,
      Expr.children, combineLL]
    cases combineL a <;> simp [bind, Except.bind, pure, Except.pure]
  | bin o a b | cmp o a b | subscript a b =>
    simp only [combineL, Expr.isRejectedConst, Expr.isCombineLeaf, Expr.combineUnhandled,
      Expr.children, combineLL]
    cases combineL a <;> cases combineL b <;> simp [bind, Except.bind, pure, Except.pure]
  | ite a b c =>
    simp only [combineL, Expr.isRejectedConst, Expr.isCombineLeaf, Expr.combineUnhandled,
      Expr.children, combineLL]
    cases combineL a <;> cases combineL b <;> cases combineL c <;>
      simp [bind, Except.bind, pure, Except.pure]
  | callKw f as ns vs =>
    simp only [combineL, Expr.isRejectedConst, Expr.isCombineLeaf, Expr.combineUnhandled,
      Expr.children, combineLL, combineLL_append]
    cases combineL f <;> cases combineLL as <;> cases combineLL vs <;>
      simp [bind, Except.bind, pure, Except.pure]

theorem combineBadL_eq : ∀ cs : List Expr, combineBadL cs = cs.any combineBad
  | [] => rfl
  | c :: cs => by simp [combineBadL, combineBadL_eq cs]

theorem combineBad_eq (e : Expr) :
    combineBad e = (e.combineUnhandled || e.children.any combineBad) := by
  cases e with
  | const c => cases c <;> simp [combineBad, Expr.combineUnhandled, Expr.children]
  | _ => simp [combineBad, Expr.combineUnhandled, Expr.children, combineBadL_eq, Bool.or_assoc]

theorem combineLL_outcome : ∀ {cs : List Expr},
    (∀ c ∈ cs, CombineOutcome (combineBad c) (leavesOf c) (combineL c)) →
    CombineOutcome (cs.any combineBad) (cs.flatMap leavesOf) (combineLL cs)
  | [], _ => by rw [combineLL]; rfl
  | c :: cs, h => by
    rw [combineLL, List.any_cons, List.flatMap_cons]
    exact (h c (by simp)).seq (combineLL_outcome (fun d hd => h d (List.mem_cons_of_mem _ hd)))

theorem Expr.combineLeaf_facts (e : Expr) :
    (e.isRejectedConst = true → e.isCombineLeaf = true) ∧
    (e.isCombineLeaf = true → e.children = [] ∧ e.combineUnhandled = e.isRejectedConst) := by
  cases e with
  | const k =>
    cases k <;> simp [Expr.isRejectedConst, Expr.isCombineLeaf, Expr.combineUnhandled, Expr.children]
  | _ => simp [Expr.isRejectedConst, Expr.isCombineLeaf, Expr.combineUnhandled, Expr.children]

theorem combineL_total : ∀ e : Expr, CombineOutcome (combineBad e) (leavesOf e) (combineL e) := by
  intro e
  induction e using Expr.induct with
  | h e ih =>
    rw [combineL_eq_children, combineBad_eq, leavesOf_eq]
    have hcs := combineLL_outcome ih
    cases hl : e.isCombineLeaf
    · have hr : e.isRejectedConst = false := by
        cases hr : e.isRejectedConst
        · rfl
        · rw [e.combineLeaf_facts.1 hr] at hl; cases hl
      rw [hr]
      cases hu : e.combineUnhandled
      · exact hcs
      · exact ⟨_, rfl, .inl rfl⟩
    · obtain ⟨hc, hu⟩ := e.combineLeaf_facts.2 hl
      rw [hc, hu]
      cases e.isRejectedConst
      · rfl
      · exact ⟨_, rfl, .inr rfl⟩

theorem combineLL_total : ∀ cs : List Expr,
    CombineOutcome (combineBadL cs) (cs.flatMap leavesOf) (combineLL cs) := by
  intro cs
  rw [combineBadL_eq]; exact combineLL_outcome (fun c _ => combineL_total c)

/-- the fold fails exactly when some node of the tree has no handler -/
theorem combineBad_iff (e : Expr) :
    combineBad e = true ↔ ∃ t, Subterm t e ∧ t.combineUnhandled = true := by
  constructor
  · induction e using Expr.induct with
    | h e ih =>
      intro h
      rw [combineBad_eq, Bool.or_eq_true, List.any_eq_true] at h
      rcases h with h | ⟨c, hc, hb⟩
      · exact ⟨e, .refl e, h⟩
      · obtain ⟨t, ht, hu⟩ := ih c hc hb
        exact ⟨t, ht.trans (.child hc), hu⟩
  · rintro ⟨t, ht, hu⟩
    induction ht with
    | refl => rw [combineBad_eq, hu]; rfl
    | step _ hc ih =>
      rw [combineBad_eq, Bool.or_eq_true, List.any_eq_true]
      exact .inr ⟨_, hc, ih⟩
end PV
