import PV.Proofs.UnifyTableWF
/-
  C16 (T-gen), part 7: the context in which every callee MEANS the hand-written model
  (`c16ModelCtx`), and the proof that it satisfies the hypotheses the closed forms are stated under
  (`c16ModelCtx_ok`).  Uniqueness of `unifyE` follows in PV/Proofs/UnifyTableUnique.lean.
-/
open PV PV.Unify
namespace PV.Unify

/-- the callees that return a value, as the model has them -/
def c16ModelFn (cands : List String) : C16Callee → List C16Val → Option C16Val
  | .modfn "unify_map", [.dict a, .dict b] => some (c16OptMap (unifyMap a b))
  | .modfn "UnificationRecord", [.objs []] => some (.urec URec.empty)
  | .modfn "UnificationRecord", [.eqs [(l, r)]] => some (.urec (c16Rec1 l r))
  | .modfn "UnificationRecord", [.eqSet, .dict l, .dict r] => some (.urec ⟨l, r⟩)
  | .meth "UnificationRecord" "unify", [.urec a, .urec b] => some (.ofOptRec (a.unify b))
  | .modfn "unify_many", [v, .urec n] => v.asRecs.map fun us => C16Val.ofRecs (unifyMany us n)
  | .self "unification_record_from_equation", [.obj l, .obj r] =>
    some (.ofOptRec (c16RecFromEqG cands l r))
  | .self "treat_mismatch", [.obj _, .obj _, _] => some (.objs [])
  | _, _ => none

theorem c16ModelFn_spec (cands : List String) : C16FnSpec cands (c16ModelFn cands) where
  unify_map _ _ _ := rfl
  ctor0 := rfl
  ctor1 _ _ := rfl
  ctor3 _ _ := rfl
  unify _ _ _ := rfl
  unify_many v us n hv _ := by simp [c16ModelFn, hv]
  rec_from_eq _ _ := rfl
  treat_mismatch _ _ _ _ := rfl

/-- the variables of `map_commut_assoc` a nested function sees, read back from the environment -/
def c16ReadClo (cl : C16Env) :
    Option (NaryOp × List String × List Expr × List (List (Nat × List URec)) × List URec × List Expr) :=
  match C16Env.get "factory" cl, C16Env.get "plain_var_candidates" cl,
      C16Env.get "non_var_children" cl, C16Env.get "unification_candidates" cl,
      C16Env.get "urecs" cl, C16Env.get "other" cl with
  | some (.factory o), some (.objs pl), some (.objs nv), some tv, some uv, some (.obj oth) =>
    match pl.mapM c16VarName, tv.asTable, uv.asRecs, oth.c16Attr "children" with
    | some names, some t, some us, some (.obj (.tuple ds)) => some (o, names, nv, t, us, ds)
    | _, _, _, _ => none
  | _, _, _, _, _, _ => none

theorem mapM_varName (names : List String) : (names.map Expr.var).mapM c16VarName = some names := by
  induction names with
  | nil => rfl
  | cons x xs ih => simp [List.mapM_cons, ih]

theorem mapM_varName' (names : List String) :
    List.mapM (c16VarName ∘ Expr.var) names = some names := by
  induction names with
  | nil => rfl
  | cons x xs ih => simp [List.mapM_cons, ih]

theorem c16ReadClo_of {cl : C16Env} {cands : List String} {o : NaryOp} {names : List String}
    {nv : List Expr} {t : List (List (Nat × List URec))} {us : List URec} {ds : List Expr}
    (hc : C16Clo cl cands o names nv t us ds) : c16ReadClo cl = some (o, names, nv, t, us, ds) := by
  obtain ⟨oth, ho, hch⟩ := hc.other
  obtain ⟨uv, huv, hus⟩ := hc.urecs
  obtain ⟨tv, htv, hta⟩ := hc.table
  simp [c16ReadClo, hc.factory, hc.plain, hc.nonvar, htv, huv, ho, mapM_varName', hta, hus, hch]

/-- the generator callees, as the model has them (`recur` is `self.rec`) -/
def c16ModelGen (cands : List String) (recur : Expr → Expr → List URec → List URec) (cl : C16Env) :
    C16Callee → List C16Val → Option (List C16Val)
  | .nested q, args =>
    if q = c16N_subsets then
      match args with
      | [.idxs s, .int m] => some ((subsetsUpTo s m.toNat).map .idxs)
      | _ => none
    else if q = c16N_partitions then
      match args with
      | [.idxs s, .int k] => some ((partitions k.toNat s).map .parts)
      | _ => none
    else if q = c16N_match_plain then
      match args, c16ReadClo cl with
      | [.urec u, .idxs left], some (o, names, nv, _, us, ds) =>
        some ((matchPlain cands o names (!nv.isEmpty) ds us u left).map .urec)
      | _, _ => none
    else if q = c16N_match_children then
      match args, c16ReadClo cl with
      | [.urec u, .int i, .idxs left], some (o, names, nv, t, us, ds) =>
        some ((matchChildren cands o names (!nv.isEmpty) ds us (t.drop i.toNat) u left).map .urec)
      | _, _ => none
    else none
  | .self "map_commut_assoc", [.obj e, .obj oth, uv, .factory o] =>
    match e.c16Attr "children", uv.asRecs with
    | some (.obj (.tuple cs)), some us =>
      if oth.kind = e.kind then
        match oth.c16Attr "children" with
        | some (.obj (.tuple ds)) => some ((c16CommutF cands recur o cs ds us).map .urec)
        | _ => none
      else some []
    | _, _ => none
  | _, _ => none

theorem c16ModelGen_spec (cands : List String) (recur : Expr → Expr → List URec → List URec) :
    C16GenSpec cands (c16ModelGen cands recur) where
  subsets _ _ _ := by simp [c16ModelGen]
  partitions _ _ _ := by simp [c16ModelGen, c16N_partitions, c16N_subsets]
  match_plain cl o names nv t us ds u left hc _ := by
    simp [c16ModelGen, c16N_match_plain, c16N_partitions, c16N_subsets, c16ReadClo_of hc]
  match_children cl o names nv t us ds u i left hc _ := by
    simp [c16ModelGen, c16N_match_children, c16N_match_plain, c16N_partitions, c16N_subsets,
      c16ReadClo_of hc]

theorem c16ModelGen_ca (cands : List String) (recur : Expr → Expr → List URec → List URec) :
    C16CASpec cands recur (c16ModelGen cands recur) := by
  intro cl e oth cs ds uv us o he ho hus _ _
  by_cases hk : oth.kind = e.kind
  · simp [c16ModelGen, he, hus, hk, ho hk]
  · simp [c16ModelGen, he, hus, hk]

/-- **the model as a context**: every callee means the corresponding function of
PV/Model/Unify.lean -/
def c16ModelCtx (cands : List String) (recur : Expr → Expr → List URec → List URec)
    (closure : Option C16Env) : C16Ctx :=
  { recur := recur, fn := c16ModelFn cands, gen := c16ModelGen cands recur, closure := closure,
    selfAttrs := c16ModelAttrs cands }

theorem c16ModelCtx_ok (cands : List String) (recur : Expr → Expr → List URec → List URec)
    (closure : Option C16Env) : C16CxOk cands (c16ModelCtx cands recur closure) where
  fn := c16ModelFn_spec cands
  ca := c16ModelGen_ca cands recur
  attrs := rfl

end PV.Unify
