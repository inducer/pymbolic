import PV.Model.SubstCache
import PV.Model.Eval
import PV.Proofs.Subterm
import PV.Proofs.PyEqEquiv
import PV.Proofs.SubstCached
/-
  C08, all key kinds.  `denOv σ env e`: the meaning of `e` when every node the substitution
  mapper intercepts (a variable, subscript or look-up for which `make_subst_func` finds an entry)
  takes the value of its replacement in `env`, and nothing inside a replacement is looked at again.
  This is the reading of "evaluate the original in the updated environment" that is SYNTACTIC on
  subscripts and look-ups; `SemOK` says when it coincides with a genuine environment `env'`.
-/
namespace PV

mutual
/-- evaluation of `e` with the intercepted nodes overridden by the values of their replacements -/
def denOv (σ : SubstMap) (env : Env) : Expr → R
  | .var x => match σ.apply (.var x) with
    | some r => den env r
    | none => match env.get x with
      | some v => pure v
      | none => throw (.unknownVar x)
  | .subscript a i => match σ.apply (.subscript a i) with
    | some r => den env r
    | none => do
      let av ← denOv σ env a
      let iv ← denOv σ env i
      av.index iv
  | .lookup a n => match σ.apply (.lookup a n) with
    | some r => den env r
    | none => do (← denOv σ env a).getattr n
  | .const c => c.den
  | .nary .sum cs => denOvFold σ env .sum (.int 0) cs
  | .nary .prod cs => denOvFold σ env .prod (.int 1) cs
  | .nary .bor cs => denOvReduce σ env .bor cs
  | .nary .bxor cs => denOvReduce σ env .bxor cs
  | .nary .band cs => denOvReduce σ env .band cs
  | .nary .lor cs => denOvAny σ env cs
  | .nary .land cs => denOvAll σ env cs
  | .nary .min cs => denOvMinMax σ env true none cs
  | .nary .max cs => denOvMinMax σ env false none cs
  | .bin o a b => do
      let x ← denOv σ env a
      let y ← denOv σ env b
      o.apply x y
  | .un .bnot a => do (← denOv σ env a).invert
  | .un .lnot a => do
      let t ← (← denOv σ env a).truthy
      pure (.bool (!t))
  | .cmp o a b => do
      let x ← denOv σ env a
      let y ← denOv σ env b
      Value.cmp o x y
  | .ite c t e => do
      let cv ← denOv σ env c
      if ← cv.truthy then denOv σ env t else denOv σ env e
  | .call f as => do
      let fv ← denOv σ env f
      let avs ← denOvList σ env as
      fv.call avs [] []
  | .callKw f as ns vs => do
      let avs ← denOvList σ env as
      let kvs ← denOvList σ env vs
      let fv ← denOv σ env f
      fv.call avs ns kvs
  | .cse c _ _ => denOv σ env c
  | .subst .. => throw .unsupportedExpr
  | .deriv .. => throw .unsupportedExpr
  | .slice _ => throw .unsupportedExpr
  | .nan => pure .inexact
  | .wildcard => throw .notImplemented
  | .dotWild _ => throw .notImplemented
  | .starWild _ => throw .notImplemented
  | .funcSym => throw .notImplemented
  | .tuple cs => do pure (.tuple (← denOvList σ env cs))
  | .list cs => do pure (.list (← denOvList σ env cs))
def denOvFold (σ : SubstMap) (env : Env) (o : NaryOp) (acc : Value) : List Expr → R
  | [] => pure acc
  | c :: cs => do
      let v ← denOv σ env c
      let acc' ← o.apply acc v
      denOvFold σ env o acc' cs
def denOvReduce (σ : SubstMap) (env : Env) (o : NaryOp) : List Expr → R
  | [] => throw .typeError
  | c :: cs => do
      let v ← denOv σ env c
      denOvFold σ env o v cs
def denOvAny (σ : SubstMap) (env : Env) : List Expr → R
  | [] => pure (.bool false)
  | c :: cs => do
      let v ← denOv σ env c
      if ← v.truthy then pure (.bool true) else denOvAny σ env cs
def denOvAll (σ : SubstMap) (env : Env) : List Expr → R
  | [] => pure (.bool true)
  | c :: cs => do
      let v ← denOv σ env c
      if ← v.truthy then denOvAll σ env cs else pure (.bool false)
def denOvMinMax (σ : SubstMap) (env : Env) (isMin : Bool) (cur : Option Value) : List Expr → R
  | [] => match cur with
    | some m => pure m
    | none => throw .valueError
  | c :: cs => do
      let v ← denOv σ env c
      match cur with
      | none => denOvMinMax σ env isMin (some v) cs
      | some m =>
        let better ← Value.better isMin v m
        denOvMinMax σ env isMin (some (if better then v else m)) cs
def denOvList (σ : SubstMap) (env : Env) : List Expr → Except Err (List Value)
  | [] => pure []
  | c :: cs => do
      let v ← denOv σ env c
      let vs ← denOvList σ env cs
      pure (v :: vs)
end

/-- no CSE wrapper of `e` whose substituted child is zero (`IdentityMapper` collapses those); the
same predicate as `C08.NoZeroCse` (`C08.noZeroCse_iff`), stated here for the lemmas of this file -/
def c08NoZeroCse (σ : SubstMap) (e : Expr) : Prop :=
  ∀ c p s, Subterm (.cse c p s) e → (substM σ c).1.isZero = false

theorem c08NoZeroCse.child {σ : SubstMap} {e c : Expr} (h : c08NoZeroCse σ e)
    (hc : c ∈ e.children) : c08NoZeroCse σ c :=
  fun c' p s ht => h c' p s (ht.trans (.child hc))

/-! ### list level: `den` after mapping `f` over the elements against `denOv`, shape by shape -/

section lists
variable {σ : SubstMap} {env env' : Env} {f : Expr → Expr}

theorem denFold_map_ov (o : NaryOp) : ∀ (cs : List Expr) (acc : Value),
    (∀ c ∈ cs, den env (f c) = denOv σ env' c) →
    denFold env o acc (cs.map f) = denOvFold σ env' o acc cs
  | [], _, _ => by simp only [List.map, denFold, denOvFold]
  | c :: cs, acc, h => by
      simp only [List.map, denFold, denOvFold, h c (by simp)]
      cases denOv σ env' c with
      | error e => rfl
      | ok v =>
        simp only [bind, Except.bind]
        cases o.apply acc v with
        | error e => rfl
        | ok acc' => exact denFold_map_ov o cs acc' (fun c hc => h c (by simp [hc]))

theorem denReduce_map_ov (o : NaryOp) : ∀ (cs : List Expr),
    (∀ c ∈ cs, den env (f c) = denOv σ env' c) →
    denReduce env o (cs.map f) = denOvReduce σ env' o cs
  | [], _ => by simp only [List.map, denReduce, denOvReduce]
  | c :: cs, h => by
      simp only [List.map, denReduce, denOvReduce, h c (by simp)]
      cases denOv σ env' c with
      | error e => rfl
      | ok v => exact denFold_map_ov o cs v (fun c hc => h c (by simp [hc]))

theorem denAny_map_ov : ∀ (cs : List Expr), (∀ c ∈ cs, den env (f c) = denOv σ env' c) →
    denAny env (cs.map f) = denOvAny σ env' cs
  | [], _ => by simp only [List.map, denAny, denOvAny]
  | c :: cs, h => by
      simp only [List.map, denAny, denOvAny, h c (by simp),
        denAny_map_ov cs (fun c hc => h c (by simp [hc]))]

theorem denAll_map_ov : ∀ (cs : List Expr), (∀ c ∈ cs, den env (f c) = denOv σ env' c) →
    denAll env (cs.map f) = denOvAll σ env' cs
  | [], _ => by simp only [List.map, denAll, denOvAll]
  | c :: cs, h => by
      simp only [List.map, denAll, denOvAll, h c (by simp),
        denAll_map_ov cs (fun c hc => h c (by simp [hc]))]

theorem denMinMax_map_ov (isMin : Bool) : ∀ (cs : List Expr) (cur : Option Value),
    (∀ c ∈ cs, den env (f c) = denOv σ env' c) →
    denMinMax env isMin cur (cs.map f) = denOvMinMax σ env' isMin cur cs
  | [], cur, _ => by cases cur <;> rfl
  | c :: cs, cur, h => by
      have hcs : ∀ c ∈ cs, den env (f c) = denOv σ env' c := fun c hc => h c (by simp [hc])
      simp only [List.map, denMinMax, denOvMinMax, h c (by simp)]
      cases denOv σ env' c with
      | error e => rfl
      | ok v =>
        simp only [bind, Except.bind]
        cases cur with
        | none => exact denMinMax_map_ov isMin cs (some v) hcs
        | some m =>
          simp only
          cases Value.better isMin v m with
          | error e => rfl
          | ok b => exact denMinMax_map_ov isMin cs _ hcs

theorem denList_map_ov : ∀ (cs : List Expr), (∀ c ∈ cs, den env (f c) = denOv σ env' c) →
    denList env (cs.map f) = denOvList σ env' cs
  | [], _ => by simp only [List.map, denList, denOvList]
  | c :: cs, h => by
      simp only [List.map, denList, denOvList, h c (by simp),
        denList_map_ov cs (fun c hc => h c (by simp [hc]))]
end lists

/-! ### the substitution lemma for every key kind -/

theorem c08WithKids_children (e : Expr) : e.c08WithKids e.children = e := by
  cases e <;> simp [Expr.c08WithKids, Expr.children]

/-- one level of `den` against `denOv`: at a node that is neither a variable nor intercepted, the
node rebuilt from children `f c` means in `env₁` what the node means under the override reading,
as soon as the children do -/
theorem den_withKids_ov {σ : SubstMap} {env env₁ : Env} {f : Expr → Expr} {e : Expr}
    (hv : ∀ x, e ≠ .var x) (hi : c08Intercept σ e = none)
    (hc : ∀ c ∈ e.children, den env₁ (f c) = denOv σ env c) :
    den env₁ (e.c08WithKids (e.children.map f)) = denOv σ env e := by
  cases e with
  | var x => exact absurd rfl (hv x)
  | subscript a i =>
    simp only [c08Intercept] at hi
    simp only [Expr.c08WithKids, Expr.children, List.map, den, denOv, hi,
      hc a (by simp [Expr.children]), hc i (by simp [Expr.children])]
  | lookup a n =>
    simp only [c08Intercept] at hi
    simp only [Expr.c08WithKids, Expr.children, List.map, den, denOv, hi,
      hc a (by simp [Expr.children])]
  | nary o cs =>
    have hcs : ∀ c ∈ cs, den env₁ (f c) = denOv σ env c := hc
    cases o <;> simp only [Expr.c08WithKids, Expr.children, den, denOv]
    · exact denFold_map_ov _ _ _ hcs
    · exact denFold_map_ov _ _ _ hcs
    · exact denReduce_map_ov _ _ hcs
    · exact denReduce_map_ov _ _ hcs
    · exact denReduce_map_ov _ _ hcs
    · exact denAny_map_ov _ hcs
    · exact denAll_map_ov _ hcs
    · exact denMinMax_map_ov _ _ _ hcs
    · exact denMinMax_map_ov _ _ _ hcs
  | un o a =>
    cases o <;> simp only [Expr.c08WithKids, Expr.children, List.map, den, denOv,
      hc a (by simp [Expr.children])]
  | cse a p s | bin o a b | cmp o a b | ite a b c =>
    simp only [Expr.children, List.mem_cons, List.not_mem_nil, or_false, forall_eq_or_imp,
      forall_eq] at hc
    simp only [Expr.c08WithKids, Expr.children, List.map, den, denOv, hc]
  | call g as =>
    simp only [Expr.c08WithKids, Expr.children, List.map, den, denOv, hc g (by simp [Expr.children]),
      denList_map_ov as fun c h => hc c (by simp [Expr.children, h])]
  | callKw g as ns vs =>
    simp only [Expr.c08WithKids, Expr.children, List.map, List.map_append, den, denOv,
      hc g (by simp [Expr.children]), List.take_left', List.drop_left', List.length_map,
      denList_map_ov as fun c h => hc c (by simp [Expr.children, h]),
      denList_map_ov vs fun c h => hc c (by simp [Expr.children, h])]
  | tuple cs | list cs =>
    simp only [Expr.c08WithKids, Expr.children, den, denOv, denList_map_ov cs hc]
  | const | subst | deriv | slice | nan | wildcard | dotWild | starWild | funcSym =>
    simp only [Expr.c08WithKids, Expr.children, List.map, den, denOv]

/-- **Substitution lemma, all key kinds** (core, on `substE`). -/
theorem den_substE_ov (σ : SubstMap) (env : Env) (e : Expr) :
    c08NoZeroCse σ e → den env (substE σ e) = denOv σ env e := by
  induction e using Expr.induct with | _ e ih => ?_
  intro h
  have ihc : ∀ c ∈ e.children, den env (substE σ c) = denOv σ env c :=
    fun c hc => ih c hc (h.child hc)
  rw [substE_generic]
  cases hi : c08Intercept σ e with
  | some r =>
    unfold c08Intercept at hi
    split at hi <;> first | cases hi | simp only [denOv, hi]
  | none =>
    cases e with
    | var x =>
      simp only [c08Intercept] at hi
      simp only [c08Build, Expr.c08WithKids, den, denOv, hi]
      cases env.get x <;> rfl
    | cse a p s =>
      have hz : (substE σ a).isZero = false := by
        rw [← (substM_spec σ a).1]; exact h a p s (.refl _)
      simp only [c08Build, Expr.children, List.map, hz, Bool.false_eq_true, if_false]
      exact den_withKids_ov (e := .cse a p s) (by simp) hi ihc
    | _ => exact den_withKids_ov (f := substE σ) (fun _ h => Expr.noConfusion h) hi ihc

/-! ### when the override reading is a genuine environment -/

/-- `SemOK σ env env' e`: below `e`, down to the *atoms*, nothing is intercepted; at an atom the
override reading and the environment `env'` agree outright.  (Atoms are where one puts the
variables, the intercepted nodes, and the selections `a[k]` / `r.n` from an updated aggregate.) -/
inductive SemOK (σ : SubstMap) (env env' : Env) : Expr → Prop
  | atom {t : Expr} : denOv σ env t = den env' t → SemOK σ env env' t
  | node {e : Expr} : (∀ x, e ≠ .var x) → c08Intercept σ e = none →
      (∀ c ∈ e.children, SemOK σ env env' c) → SemOK σ env env' e

/-- **Bridge.**  On a `SemOK` tree the override reading IS evaluation in `env'`. -/
theorem denOv_eq_den_of_semOK {σ : SubstMap} {env env' : Env} {e : Expr}
    (h : SemOK σ env env' e) : denOv σ env e = den env' e := by
  induction h with
  | atom h => exact h
  | @node e hv hi _ ihc =>
    have := den_withKids_ov (f := id) hv hi fun c hc => (ihc c hc).symm
    rw [List.map_id, c08WithKids_children] at this
    exact this.symm

end PV
