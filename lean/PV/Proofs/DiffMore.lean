import PV.Proofs.DiffSound
/-
  C10, part 3.  Refusal of non-smooth / unknown functions, variables that do not occur, and the
  CSE cache of one mapper instance.
-/
namespace PV

open Real

/-! ### a variable that does not occur -/

mutual
/-- no leaf (in a position the differentiator visits) is Python-`==` to `v` -/
def absent (v : Expr) : Expr → Bool
  | .var n => !(Expr.var n).pyEq v
  | .subscript a i => !(Expr.subscript a i).pyEq v
  | .nary _ cs => absentL v cs
  | .bin _ a b => absent v a && absent v b
  | .ite _ t e => absent v t && absent v e
  | .call _ args => absentL v args
  | .cse c _ _ => absent v c
  | _ => true
def absentL (v : Expr) : List Expr → Bool
  | [] => true
  | c :: cs => absent v c && absentL v cs
end

theorem quotRule_eval_zero (ρ : Expr → ℝ) {f g df dg d : Expr} (h : quotRule f g df dg = .ok d)
    (h1 : evalR ρ df = 0) (h2 : evalR ρ dg = 0) : evalR ρ d = 0 := by
  unfold quotRule at h
  split at h
  · simp only [pure, Except.pure] at h
    cases h; simp
  · split at h
    · obtain ⟨nf, e1, h⟩ := except_bind_ok h
      obtain ⟨a, e2, h⟩ := except_bind_ok h
      obtain ⟨g2, e3, h⟩ := except_bind_ok h
      rw [pyBin_div_eval ρ h, pyBin_mul_eval ρ e2, h2]; simp
    · split at h
      · rw [pyBin_div_eval ρ h, h1]; simp
      · obtain ⟨a, e1, h⟩ := except_bind_ok h
        obtain ⟨b, e2, h⟩ := except_bind_ok h
        obtain ⟨n, e3, h⟩ := except_bind_ok h
        obtain ⟨g2, e4, h⟩ := except_bind_ok h
        rw [pyBin_div_eval ρ h, pyBin_sub_eval ρ e3, pyBin_mul_eval ρ e1, pyBin_mul_eval ρ e2,
          h1, h2]
        simp

theorem powRule_eval_zero (ρ : Expr → ℝ) {f g df dg d : Expr} (h : powRule f g df dg = .ok d)
    (h1 : evalR ρ df = 0) (h2 : evalR ρ dg = 0) : evalR ρ d = 0 := by
  unfold powRule at h
  split at h
  · simp only [pure, Except.pure] at h
    cases h; simp
  · split at h
    · obtain ⟨p, e1, h⟩ := except_bind_ok h
      obtain ⟨a, e2, h⟩ := except_bind_ok h
      rw [pyBin_mul_eval ρ h, h2]; simp
    · split at h
      · obtain ⟨g1, e1, h⟩ := except_bind_ok h
        obtain ⟨p, e2, h⟩ := except_bind_ok h
        obtain ⟨a, e3, h⟩ := except_bind_ok h
        rw [pyBin_mul_eval ρ h, h1]; simp
      · obtain ⟨p, e1, h⟩ := except_bind_ok h
        obtain ⟨a, e2, h⟩ := except_bind_ok h
        obtain ⟨l, e3, h⟩ := except_bind_ok h
        obtain ⟨g1, e4, h⟩ := except_bind_ok h
        obtain ⟨p1, e5, h⟩ := except_bind_ok h
        obtain ⟨b, e6, h⟩ := except_bind_ok h
        obtain ⟨r, e7, h⟩ := except_bind_ok h
        rw [pyBin_add_eval ρ h, pyBin_mul_eval ρ e3, pyBin_mul_eval ρ e7, h1, h2]; simp

section
variable (cfg : Smooth) (v : Expr) (ρ : Expr → ℝ)

mutual
theorem diff_absent : ∀ (e d : Expr), diff cfg v e = .ok d → absent v e = true → evalR ρ d = 0
  | .const c, d, h, _ => by rw [diff_const_ok h]; simp
  | .var n, d, h, ha => by
      rw [diff_leaf_ok (.inl ⟨n, rfl⟩) h]
      simp only [absent, Bool.not_eq_true'] at ha
      simp [ha]
  | .subscript a i, d, h, ha => by
      rw [diff_leaf_ok (.inr ⟨a, i, rfl⟩) h]
      simp only [absent, Bool.not_eq_true'] at ha
      simp [ha]
  | .nary .sum cs, d, h, ha => by
      obtain ⟨ds, h1, rfl⟩ := diff_sum_ok h
      rw [flattenedSum_eval]; exact diffL_absent cs ds h1 ha
  | .nary .prod cs, d, h, ha => by
      obtain ⟨ts, h1, rfl⟩ := diff_prod_ok h
      rw [flattenedSum_eval]; exact diffProd_absent cs [] ts h1 ha
  | .bin .quot f g, d, h, ha => by
      obtain ⟨df, dg, h1, h2, h⟩ := diff_quot_ok h
      simp only [absent, Bool.and_eq_true] at ha
      exact quotRule_eval_zero ρ h (diff_absent f df h1 ha.1) (diff_absent g dg h2 ha.2)
  | .bin .pow f g, d, h, ha => by
      obtain ⟨df, dg, h1, h2, h⟩ := diff_pow_ok h
      simp only [absent, Bool.and_eq_true] at ha
      exact powRule_eval_zero ρ h (diff_absent f df h1 ha.1) (diff_absent g dg h2 ha.2)
  | .ite c t e, d, h, ha => by
      obtain ⟨-, dt, de, h1, h2, rfl⟩ := diff_ite_ok h
      simp only [absent, Bool.and_eq_true] at ha
      simp [evalR, diff_absent t dt h1 ha.1, diff_absent e de h2 ha.2]
  | .cse c p s, d, h, ha => by
      obtain ⟨-, dc, h1, rfl⟩ := diff_cse_ok h
      rw [evalR_cseRule]
      exact diff_absent c dc h1 ha
  | .call f [], d, h, _ => by cases h; simp
  | .call f (p :: ps), d, h, ha => by
      obtain ⟨fm, ts, -, hts, rfl⟩ := diff_call_ok h
      rw [flattenedSum_eval]; exact diffCall_absent fm (p :: ps) ts hts ha
  | .nary .bor _, _, h, _ | .nary .bxor _, _, h, _ | .nary .band _, _, h, _
  | .nary .lor _, _, h, _ | .nary .land _, _, h, _ | .nary .min _, _, h, _
  | .nary .max _, _, h, _ | .bin .floordiv _ _, _, h, _ | .bin .rem _ _, _, h, _
  | .bin .lshift _ _, _, h, _ | .bin .rshift _ _, _, h, _ | .un _ _, _, h, _
  | .cmp _ _ _, _, h, _ | .callKw _ _ _ _, _, h, _ | .lookup _ _, _, h, _
  | .subst _ _ _, _, h, _ | .deriv _ _, _, h, _ | .slice _, _, h, _ | .nan, _, h, _
  | .wildcard, _, h, _ | .dotWild _, _, h, _ | .starWild _, _, h, _
  | .funcSym, _, h, _ | .tuple _, _, h, _ | .list _, _, h, _ => by cases h
termination_by structural e => e
theorem diffL_absent : ∀ (cs ds : List Expr), diffL cfg v cs = .ok ds → absentL v cs = true →
    evalSum ρ ds = 0
  | [], ds, h, _ => by cases h; rfl
  | c :: cs, ds, h, ha => by
      obtain ⟨d, ds', h1, h2, rfl⟩ := diffL_cons_ok h
      simp only [absentL, Bool.and_eq_true] at ha
      simp [evalSum, diff_absent c d h1 ha.1, diffL_absent cs ds' h2 ha.2]
termination_by structural cs => cs
theorem diffProd_absent : ∀ (cs pre ts : List Expr), diffProd cfg v pre cs = .ok ts →
    absentL v cs = true → evalSum ρ ts = 0
  | [], pre, ts, h, _ => by cases h; rfl
  | c :: cs, pre, ts, h, ha => by
      obtain ⟨d, ts', h1, h2, rfl⟩ := diffProd_cons_ok h
      simp only [absentL, Bool.and_eq_true] at ha
      simp [evalSum, flattenedProduct_eval, evalProd_append, evalProd, diff_absent c d h1 ha.1,
        diffProd_absent cs (pre ++ [c]) ts' h2 ha.2]
termination_by structural cs => cs
theorem diffCall_absent : ∀ (fm : Expr) (ps ts : List Expr), diffCall cfg v fm ps = .ok ts →
    absentL v ps = true → evalSum ρ ts = 0
  | fm, [], ts, h, _ => by cases h; rfl
  | fm, p :: ps, ts, h, ha => by
      obtain ⟨d, t, ts', h1, h2, h3, rfl⟩ := diffCall_cons_ok h
      simp only [absentL, Bool.and_eq_true] at ha
      simp [evalSum, pyBin_mul_eval ρ h2, diff_absent p d h1 ha.1,
        diffCall_absent fm ps ts' h3 ha.2]
termination_by structural _ ps => ps
end

end

/-! ### refusal -/

/-- the table refuses the call: not one of its functions (or wrong number of arguments), or a
non-smooth one that the setting does not allow -/
def callRefused (cfg : Smooth) (f : Expr) (args : List Expr) : Bool :=
  match mathFn? f, args with
  | some .fabs, [_] => decide (cfg = .none)
  | some .copysign, [_, _] => decide (cfg ≠ .discontinuous)
  | some .fabs, _ => true
  | some .copysign, _ => true
  | some _, [_] => false
  | _, _ => true

theorem funcMap_refused {cfg : Smooth} {f : Expr} {args : List Expr}
    (h : callRefused cfg f args = true) :
    funcMap cfg f args = .error .valueError ∨ funcMap cfg f args = .error .runtimeError := by
  cases hmf : mathFn? f with
  | none =>
    right
    rcases args with _ | ⟨a, _ | ⟨b, _ | ⟨c, rest⟩⟩⟩ <;>
      simp [funcMap, hmf, throw, throwThe, MonadExceptOf.throw]
  | some fn =>
    cases fn <;> rcases args with _ | ⟨a, _ | ⟨b, _ | ⟨c, rest⟩⟩⟩ <;>
      simp [callRefused, hmf] at h <;>
      simp [funcMap, hmf, h, throw, throwThe, MonadExceptOf.throw]

mutual
/-- somewhere in a position the differentiator visits there is an `If` that the setting does not
allow, or a call that the table refuses -/
def needsRefusal (cfg : Smooth) : Expr → Bool
  | .nary .sum cs => needsRefusalL cfg cs
  | .nary .prod cs => needsRefusalL cfg cs
  | .bin .quot a b => needsRefusal cfg a || needsRefusal cfg b
  | .bin .pow a b => needsRefusal cfg a || needsRefusal cfg b
  | .ite _ t e => decide (cfg ≠ .discontinuous) || needsRefusal cfg t || needsRefusal cfg e
  | .call f args => (!args.isEmpty && callRefused cfg f args) || needsRefusalL cfg args
  | .cse c _ _ => needsRefusal cfg c
  | _ => false
def needsRefusalL (cfg : Smooth) : List Expr → Bool
  | [] => false
  | c :: cs => needsRefusal cfg c || needsRefusalL cfg cs
end

section
variable (cfg : Smooth) (v : Expr)

mutual
theorem diff_refuses_aux : ∀ (e : Expr), needsRefusal cfg e = true →
    ∀ d, diff cfg v e ≠ .ok d
  | .nary .sum cs, hn, d, h => by
      obtain ⟨ds, h1, -⟩ := diff_sum_ok h
      exact diffL_refuses cs hn ds h1
  | .nary .prod cs, hn, d, h => by
      obtain ⟨ts, h1, -⟩ := diff_prod_ok h
      exact diffProd_refuses cs hn [] ts h1
  | .bin .quot a b, hn, d, h => by
      simp only [needsRefusal, Bool.or_eq_true] at hn
      obtain ⟨df, dg, h1, h2, -⟩ := diff_quot_ok h
      rcases hn with hn | hn
      · exact diff_refuses_aux a hn df h1
      · exact diff_refuses_aux b hn dg h2
  | .bin .pow a b, hn, d, h => by
      simp only [needsRefusal, Bool.or_eq_true] at hn
      obtain ⟨df, dg, h1, h2, -⟩ := diff_pow_ok h
      rcases hn with hn | hn
      · exact diff_refuses_aux a hn df h1
      · exact diff_refuses_aux b hn dg h2
  | .ite c t e, hn, d, h => by
      simp only [needsRefusal, Bool.or_eq_true, decide_eq_true_eq] at hn
      obtain ⟨hcfg, dt, de, h1, h2, -⟩ := diff_ite_ok h
      rcases hn with (hn | hn) | hn
      · exact hn hcfg
      · exact diff_refuses_aux t hn dt h1
      · exact diff_refuses_aux e hn de h2
  | .cse c p s, hn, d, h => by
      obtain ⟨-, dc, h1, -⟩ := diff_cse_ok h
      exact diff_refuses_aux c hn dc h1
  | .call f [], hn, _, _ => by
      simp [needsRefusal, needsRefusalL] at hn
  | .call f (p :: ps), hn, d, h => by
      simp only [needsRefusal, List.isEmpty_cons, Bool.not_false, Bool.true_and,
        Bool.or_eq_true] at hn
      obtain ⟨fm, ts, hfm, hts, -⟩ := diff_call_ok h
      rcases hn with hn | hn
      · rcases funcMap_refused hn with hr | hr <;> rw [hr] at hfm <;> cases hfm
      · exact diffCall_refuses (p :: ps) hn fm ts hts
  | .const _, hn, _, _ | .var _, hn, _, _ | .subscript _ _, hn, _, _
  | .nary .bor _, hn, _, _ | .nary .bxor _, hn, _, _ | .nary .band _, hn, _, _
  | .nary .lor _, hn, _, _ | .nary .land _, hn, _, _ | .nary .min _, hn, _, _
  | .nary .max _, hn, _, _ | .bin .floordiv _ _, hn, _, _ | .bin .rem _ _, hn, _, _
  | .bin .lshift _ _, hn, _, _ | .bin .rshift _ _, hn, _, _ | .un _ _, hn, _, _
  | .cmp _ _ _, hn, _, _ | .callKw _ _ _ _, hn, _, _ | .lookup _ _, hn, _, _
  | .subst _ _ _, hn, _, _ | .deriv _ _, hn, _, _ | .slice _, hn, _, _ | .nan, hn, _, _
  | .wildcard, hn, _, _ | .dotWild _, hn, _, _ | .starWild _, hn, _, _
  | .funcSym, hn, _, _ | .tuple _, hn, _, _ | .list _, hn, _, _ => by cases hn
termination_by structural e => e
theorem diffL_refuses : ∀ (cs : List Expr), needsRefusalL cfg cs = true →
    ∀ ds, diffL cfg v cs ≠ .ok ds
  | [], hn, _, _ => by cases hn
  | c :: cs, hn, ds, h => by
      simp only [needsRefusalL, Bool.or_eq_true] at hn
      obtain ⟨d, ds', h1, h2, -⟩ := diffL_cons_ok h
      rcases hn with hn | hn
      · exact diff_refuses_aux c hn d h1
      · exact diffL_refuses cs hn ds' h2
termination_by structural cs => cs
theorem diffProd_refuses : ∀ (cs : List Expr), needsRefusalL cfg cs = true →
    ∀ pre ts, diffProd cfg v pre cs ≠ .ok ts
  | [], hn, _, _, _ => by cases hn
  | c :: cs, hn, pre, ts, h => by
      simp only [needsRefusalL, Bool.or_eq_true] at hn
      obtain ⟨d, ts', h1, h2, -⟩ := diffProd_cons_ok h
      rcases hn with hn | hn
      · exact diff_refuses_aux c hn d h1
      · exact diffProd_refuses cs hn (pre ++ [c]) ts' h2
termination_by structural cs => cs
theorem diffCall_refuses : ∀ (ps : List Expr), needsRefusalL cfg ps = true →
    ∀ fm ts, diffCall cfg v fm ps ≠ .ok ts
  | [], hn, _, _, _ => by cases hn
  | p :: ps, hn, fm, ts, h => by
      simp only [needsRefusalL, Bool.or_eq_true] at hn
      obtain ⟨d, t, ts', h1, -, h3, -⟩ := diffCall_cons_ok h
      rcases hn with hn | hn
      · exact diff_refuses_aux p hn d h1
      · exact diffCall_refuses ps hn fm ts' h3
termination_by structural ps => ps
end

end

/-! ### the CSE cache -/

mutual
/-- every CSE node of `e` (in a position the differentiator visits) belongs to `S` -/
def CsesIn (S : List Expr) : Expr → Prop
  | .cse c p s => Expr.cse c p s ∈ S ∧ CsesIn S c
  | .nary _ cs => CsesInL S cs
  | .bin _ a b => CsesIn S a ∧ CsesIn S b
  | .ite _ t e => CsesIn S t ∧ CsesIn S e
  | .call _ args => CsesInL S args
  | _ => True
def CsesInL (S : List Expr) : List Expr → Prop
  | [] => True
  | c :: cs => CsesIn S c ∧ CsesInL S cs
end

/-- Python `==` identifies no two different members of `S` -/
def Coherent (S : List Expr) : Prop :=
  ∀ k ∈ S, ∀ k' ∈ S, k'.pyEq k = true → k' = k

section
variable (cfg : Smooth) (v : Expr) (S : List Expr)

/-- every cache entry is a CSE node of `S` with its (uncached) derivative -/
def CacheOk (c : DCache) : Prop :=
  ∀ k r, (k, r) ∈ c → k ∈ S ∧ diff cfg v k = .ok r

/-- the cached computation returns what the pure one returns and keeps the cache sound -/
def Agrees {α : Type} (m : DM α) (r : Except DiffErr α) : Prop :=
  ∀ c, CacheOk cfg v S c → (m c).1 = r ∧ CacheOk cfg v S (m c).2

theorem agrees_pure {α : Type} (a : α) : Agrees cfg v S (DM.pure a) (pure a) :=
  fun _ hc => ⟨rfl, hc⟩

theorem agrees_throw {α : Type} (e : DiffErr) : Agrees cfg v S (DM.throw e : DM α) (throw e) :=
  fun _ hc => ⟨rfl, hc⟩

theorem agrees_lift {α : Type} (x : Except DiffErr α) : Agrees cfg v S (DM.lift x) x :=
  fun _ hc => ⟨rfl, hc⟩

theorem agrees_bind {α β : Type} {m : DM α} {r : Except DiffErr α} {f : α → DM β}
    {g : α → Except DiffErr β} (hm : Agrees cfg v S m r)
    (hf : ∀ a, r = .ok a → Agrees cfg v S (f a) (g a)) :
    Agrees cfg v S (m >>= f) (r >>= g) := by
  intro c hc
  obtain ⟨h1, h2⟩ := hm c hc
  show (DM.bind m f c).1 = _ ∧ CacheOk cfg v S (DM.bind m f c).2
  unfold DM.bind
  rcases hmc : m c with ⟨res, c'⟩
  rw [hmc] at h1 h2
  simp only at h1 h2
  cases res with
  | error e =>
    subst h1
    exact ⟨rfl, h2⟩
  | ok a =>
    subst h1
    exact hf a rfl c' h2

theorem DCache.find_some {k r : Expr} : ∀ {c : DCache}, DCache.find k c = some r →
    ∃ k', (k', r) ∈ c ∧ k'.pyEq k = true
  | [], h => by simp [DCache.find] at h
  | (k', r') :: rest, h => by
      simp only [DCache.find] at h
      split at h
      · cases h
        exact ⟨k', List.mem_cons_self, ‹_›⟩
      · obtain ⟨k'', hm, he⟩ := DCache.find_some h
        exact ⟨k'', List.mem_cons_of_mem _ hm, he⟩

variable (hS : Coherent S)
include hS

mutual
theorem diffC_agrees : ∀ (e : Expr), CsesIn S e → Agrees cfg v S (diffC cfg v e) (diff cfg v e)
  | .const c, _ => by
      simp only [diffC, diff]
      split
      · exact agrees_pure cfg v S _
      · exact agrees_throw cfg v S _
  | .var n, _ => by simp only [diffC, diff]; exact agrees_pure cfg v S _
  | .subscript a i, _ => by
      simp only [diffC, diff]
      split
      · exact agrees_throw cfg v S _
      · exact agrees_pure cfg v S _
  | .nary .sum cs, hin => by
      simp only [diffC, diff]
      simp only [CsesIn] at hin
      exact agrees_bind cfg v S (diffCL_agrees cs hin) (fun ds _ => agrees_pure cfg v S _)
  | .nary .prod cs, hin => by
      simp only [diffC, diff]
      simp only [CsesIn] at hin
      split
      · exact agrees_throw cfg v S _
      · exact agrees_bind cfg v S (diffCProd_agrees cs hin [])
          (fun ts _ => agrees_pure cfg v S _)
  | .bin .quot f g, hin => by
      simp only [diffC, diff]
      simp only [CsesIn] at hin
      refine agrees_bind cfg v S (diffC_agrees f hin.1) (fun df hdf => ?_)
      refine agrees_bind cfg v S (diffC_agrees g hin.2) (fun dg _ => ?_)
      split
      · have := agrees_bind cfg v S (diffC_agrees f hin.1)
          (g := fun df' => liftOp (quotRule f g df' dg))
          (fun df' _ => agrees_lift cfg v S (liftOp (quotRule f g df' dg)))
        rw [hdf] at this
        exact this
      · exact agrees_lift cfg v S _
  | .bin .pow f g, hin => by
      simp only [diffC, diff]
      simp only [CsesIn] at hin
      refine agrees_bind cfg v S (diffC_agrees f hin.1) (fun df _ => ?_)
      refine agrees_bind cfg v S (diffC_agrees g hin.2) (fun dg _ => ?_)
      exact agrees_lift cfg v S _
  | .ite c t e, hin => by
      simp only [diffC, diff]
      simp only [CsesIn] at hin
      split
      · refine agrees_bind cfg v S (diffC_agrees t hin.1) (fun dt _ => ?_)
        refine agrees_bind cfg v S (diffC_agrees e hin.2) (fun de _ => ?_)
        exact agrees_pure cfg v S _
      · exact agrees_throw cfg v S _
  | .call f [], _ => by simp only [diffC, diff]; exact agrees_pure cfg v S _
  | .call f (p :: ps), hin => by
      simp only [diffC, diff]
      simp only [CsesIn] at hin
      refine agrees_bind cfg v S (agrees_lift cfg v S _) (fun fm _ => ?_)
      refine agrees_bind cfg v S (diffCCall_agrees (p :: ps) hin fm) (fun ts _ => ?_)
      exact agrees_pure cfg v S _
  | .cse c p s, hin => by
      simp only [CsesIn] at hin
      intro st hst
      simp only [diffC, diff]
      split
      · exact ⟨rfl, hst⟩
      · rename_i hl
        split
        · rename_i r hfind
          obtain ⟨k', hmem, heq⟩ := DCache.find_some hfind
          obtain ⟨hk'S, hk'⟩ := hst k' r hmem
          have : k' = .cse c p s := hS _ hin.1 _ hk'S heq
          subst this
          simp only [diff, hl] at hk'
          exact ⟨hk'.symm, hst⟩
        · obtain ⟨h1, h2⟩ := diffC_agrees c hin.2 st hst
          rcases hres : diffC cfg v c st with ⟨res, st'⟩
          rw [hres] at h1 h2
          simp only at h1 h2
          cases res with
          | error err =>
            simp only
            rw [← h1]
            exact ⟨rfl, h2⟩
          | ok d =>
            simp only
            rw [← h1]
            refine ⟨rfl, ?_⟩
            intro k r hm
            rcases List.mem_cons.mp hm with hm | hm
            · injection hm with hk hr
              subst hk; subst hr
              refine ⟨hin.1, ?_⟩
              simp only [diff, hl, ← h1]
              rfl
            · exact h2 k r hm
  | .nary .bor _, _ | .nary .bxor _, _ | .nary .band _, _
  | .nary .lor _, _ | .nary .land _, _ | .nary .min _, _
  | .nary .max _, _ | .bin .floordiv _ _, _ | .bin .rem _ _, _
  | .bin .lshift _ _, _ | .bin .rshift _ _, _ | .un _ _, _
  | .cmp _ _ _, _ | .callKw _ _ _ _, _ | .lookup _ _, _
  | .subst _ _ _, _ | .deriv _ _, _ | .slice _, _ | .nan, _
  | .wildcard, _ | .dotWild _, _ | .starWild _, _
  | .funcSym, _ | .tuple _, _ | .list _, _ => by
      simp only [diffC, diff]; exact agrees_throw cfg v S _
termination_by structural e => e
theorem diffCL_agrees : ∀ (cs : List Expr), CsesInL S cs →
    Agrees cfg v S (diffCL cfg v cs) (diffL cfg v cs)
  | [], _ => by simp only [diffCL, diffL]; exact agrees_pure cfg v S _
  | c :: cs, hin => by
      simp only [diffCL, diffL]
      simp only [CsesInL] at hin
      refine agrees_bind cfg v S (diffC_agrees c hin.1) (fun d _ => ?_)
      refine agrees_bind cfg v S (diffCL_agrees cs hin.2) (fun ds _ => ?_)
      exact agrees_pure cfg v S _
termination_by structural cs => cs
theorem diffCProd_agrees : ∀ (cs : List Expr), CsesInL S cs → ∀ pre,
    Agrees cfg v S (diffCProd cfg v pre cs) (diffProd cfg v pre cs)
  | [], _, _ => by simp only [diffCProd, diffProd]; exact agrees_pure cfg v S _
  | c :: cs, hin, pre => by
      simp only [diffCProd, diffProd]
      simp only [CsesInL] at hin
      refine agrees_bind cfg v S (diffC_agrees c hin.1) (fun d _ => ?_)
      refine agrees_bind cfg v S (diffCProd_agrees cs hin.2 (pre ++ [c])) (fun ts _ => ?_)
      exact agrees_pure cfg v S _
termination_by structural cs => cs
theorem diffCCall_agrees : ∀ (ps : List Expr), CsesInL S ps → ∀ fm,
    Agrees cfg v S (diffCCall cfg v fm ps) (diffCall cfg v fm ps)
  | [], _, _ => by simp only [diffCCall, diffCall]; exact agrees_pure cfg v S _
  | p :: ps, hin, fm => by
      simp only [diffCCall, diffCall]
      simp only [CsesInL] at hin
      refine agrees_bind cfg v S (diffC_agrees p hin.1) (fun d _ => ?_)
      refine agrees_bind cfg v S (agrees_lift cfg v S _) (fun t _ => ?_)
      refine agrees_bind cfg v S (diffCCall_agrees ps hin.2 fm) (fun ts _ => ?_)
      exact agrees_pure cfg v S _
termination_by structural ps => ps
end

end

end PV
