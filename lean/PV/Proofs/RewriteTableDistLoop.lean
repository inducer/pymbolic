import PV.Proofs.RewriteTableCollect
import PV.Proofs.RewriteTableFold
-- one `simp` call with the common lemma set closes several cases; not every lemma fires in each
set_option linter.unusedSimpArgs false
/-
  C11 (T-gen), part 6: the nested function `dist` of `DistributeMapper.map_product`, as the table
  has it and interpreted, is `distLoop`: the `for … break` loop collects `takeWhile (not a Sum)`,
  `prod.children[len(leading)]` / `[len(leading)+1:]` are head and tail of `dropWhile`, the
  comprehension multiplies `flattened_product(leading)` from the LEFT onto `dist(sumchild*rest)`,
  one unit of fuel per (recursive) call.
-/
namespace PV
open PV.Generated (c04Classes c04IdentityTable)
open PV.C11Expected
attribute [local simp] c11ExecL c11Exec c11Eval c11EvalL c11Get c11Set
  bind Except.bind pure Except.pure throw throwThe MonadExceptOf.throw

/-- a result of the tree model as a value of the table language -/
def c11LiftE : RwR → C11R C11Val
  | .ok e => .ok (.expr e)
  | .error er => .error (.py er)

theorem c11ToRw_liftE (r : RwR) : c11ToRw (c11LiftE r) = r := by cases r <;> rfl

/-! ### the nested function `dist` -/

def c11DistDefs : List C11Def := c11_DistributeMapper_map_product.defs

def c11DistEnv (p : Expr) (lead i result sum rest : C11Val) : C11Env :=
  [("prod", .expr p), ("leading", lead), ("i", i), ("result", result), ("sum", sum), ("rest", rest),
   ("dist", .closure "dist")]

/-- the body of the `for` of the nested function `dist` in RewriteTableExpected.lean; with
`c11DistTail` below it is the body of `dist` (`c11_dist_body`) -/
def c11DistLeadStmts : List C11Stmt := [
            .ifThen (.call (.glob .pyIsinstance) [(.var "i"), (.glob .clsSum)]) [
              .brk]
              [
              .append "leading" (.var "i")]]

def c11DistLeadBody (ctx : C11Ctx) (F : Nat) (item : C11Val) (env : C11Env) : C11Out :=
  match c11Bind c11Set ["i"] item env with
  | some env' => c11ExecL ctx F c11DistLeadStmts env'
  | none => .fail .stuck

theorem c11_dist_leading (ctx : C11Ctx) (F : Nat) (p : Expr) (result sum rest : C11Val) :
    ∀ (cs lead : List Expr) (iv : C11Val), ∃ iv',
      c11For (c11DistLeadBody ctx F) (cs.map .expr)
        (c11DistEnv p (.list (lead.map .expr)) iv result sum rest) =
      .fell (c11DistEnv p (.list ((lead ++ cs.takeWhile (fun c => !isSum c)).map .expr)) iv' result
        sum rest)
  | [], lead, iv => ⟨iv, by simp [c11For]⟩
  | c :: cs, lead, iv => by
    cases hs : isSum c with
    | true =>
      refine ⟨.expr c, ?_⟩
      simp [c11For, c11DistLeadBody, c11Bind, c11DistEnv, c11DistLeadStmts, c11Apply,
        c11IsInstance, hs, c11Truthy, List.takeWhile]
    | false =>
      obtain ⟨iv', h⟩ := c11_dist_leading ctx F p result sum rest cs (lead ++ [c]) (.expr c)
      refine ⟨iv', ?_⟩
      simp [c11For, c11DistLeadBody, c11Bind, c11DistEnv, c11DistLeadStmts, c11Apply,
        c11IsInstance, hs, c11Truthy, List.takeWhile] at h ⊢
      exact h

/-! list facts about `takeWhile` / `dropWhile` used for `prod.children[len(leading)]` etc. -/

theorem c11_tw_len_eq {α : Type} (p : α → Bool) : ∀ cs : List α,
    ((cs.takeWhile p).length == cs.length) = (cs.dropWhile p).isEmpty
  | [] => rfl
  | c :: cs => by
    cases h : p c <;> simp [List.takeWhile, List.dropWhile, h, c11_tw_len_eq p cs]

theorem c11_tw_index {α : Type} (p : α → Bool) : ∀ cs : List α,
    cs[(cs.takeWhile p).length]? = (cs.dropWhile p).head?
  | [] => rfl
  | c :: cs => by
    cases h : p c <;> simp [List.takeWhile, List.dropWhile, h, c11_tw_index p cs]

theorem c11_tw_drop {α : Type} (p : α → Bool) : ∀ cs : List α,
    cs.drop ((cs.takeWhile p).length + 1) = (cs.dropWhile p).tail
  | [] => rfl
  | c :: cs => by
    cases h : p c <;> simp [List.takeWhile, List.dropWhile, h, c11_tw_drop p cs]

theorem c11_dw_head_isSum : ∀ (cs : List Expr) (x : Expr) (r : List Expr),
    cs.dropWhile (fun c => !isSum c) = x :: r → isSum x = true
  | [], x, r, h => by simp at h
  | c :: cs, x, r, h => by
    cases hc : isSum c with
    | true =>
      simp only [List.dropWhile, hc, Bool.not_true, List.cons.injEq] at h
      rw [← h.1]; exact hc
    | false =>
      simp only [List.dropWhile, hc, Bool.not_false] at h
      exact c11_dw_head_isSum cs x r h


theorem c11MapM_exprs (f : C11Val → C11R C11Val) (g : Expr → RwR)
    (hf : ∀ c : Expr, f (.expr c) = c11LiftE (g c)) :
    ∀ cs : List Expr, c11MapM f (cs.map .expr) =
      (match cs.mapM g with
       | .ok ts => .ok (ts.map .expr)
       | .error er => .error (.py er))
  | [] => rfl
  | c :: cs => by
    rw [List.map_cons, c11MapM, hf, c11MapM_exprs f g hf cs, List.mapM_cons]
    cases g c with
    | error er => rfl
    | ok t => cases cs.mapM g <;> rfl

def c11DistComp : C11Tm :=
  (.comp (.bin .mul (.call (.glob .flattenedProduct) [(.var "leading")]) (.call (.var "dist") [(.bin .mul (.var "sumchild") (.var "rest"))])) ["sumchild"] (.attr (.var "sum") "children"))

def c11DistTailG (T : C11Tm) : List C11Stmt := [
          .ifThen (.cmp .eq (.call (.glob .pyLen) [(.var "leading")]) (.call (.glob .pyLen) [(.attr (.var "prod") "children")])) [
            .assign "result" (.call (.glob .flattenedProduct) [(.attr (.var "prod") "children")]),
            .ret (.var "result")]
            [
            .assign "sum" (.index (.attr (.var "prod") "children") (.call (.glob .pyLen) [(.var "leading")])),
            .assertS (.call (.glob .pyIsinstance) [(.var "sum"), (.glob .clsSum)]),
            .assign "rest" (.sliceFrom (.attr (.var "prod") "children") (.bin .add (.call (.glob .pyLen) [(.var "leading")]) (.int 1))),
            .ifThen (.var "rest") [
              .assign "rest" (.call (.var "dist") [(.call (.glob .clsProduct) [(.var "rest")])])]
              [
              .assign "rest" (.int 1)],
            .assign "result" (.selfCall "collect" [(.call (.glob .flattenedSum) [T])]),
            .ret (.var "result")]]

def c11DistTail : List C11Stmt := c11DistTailG c11DistComp

theorem c11Exec_dist_for (ctx : C11Ctx) (F : Nat) (env : C11Env) :
    c11Exec ctx F (.for ["i"] (.attr (.var "prod") "children") c11DistLeadStmts) env =
      (match c11Eval ctx env (.attr (.var "prod") "children") with
       | .error e => .fail e
       | .ok v => match c11Items v with
         | .error e => .fail e
         | .ok items => c11For (c11DistLeadBody ctx F) items env) := by
  rw [c11Exec]; rfl

/-- one summand of `dist`: `flattened_product(leading) * dist(sumchild*rest)` -/
def c11DistTerm (dist : Expr → RwR) (tw : List Expr) (rest' : Expr) (sc : Expr) : RwR := do
  let lead ← flatProd tw
  let p ← pyMul sc rest'
  let d ← dist p
  pyMul lead d

theorem c11_dist_comp (ctx : C11Ctx) (dist : Expr → RwR)
    (hdist : ∀ e, ctx.callLocal "dist" [.expr e] = c11LiftE (dist e))
    (p : Expr) (tw : List Expr) (iv result : C11Val) (scs : List Expr) (rest' : Expr) :
    c11Eval ctx (c11DistEnv p (.list (tw.map .expr)) iv result (.expr (.nary .sum scs)) (.expr rest'))
      c11DistComp =
    (match scs.mapM (c11DistTerm dist tw rest') with
     | .ok ts => .ok (.list (ts.map .expr))
     | .error er => .error (.py er)) := by
  simp [c11DistComp, c11DistEnv, c11Attr, Expr.c04Field, Expr.c04Fields, c04Assoc, c11Items]
  rw [c11MapM_exprs _ (c11DistTerm dist tw rest')]
  · cases scs.mapM (c11DistTerm dist tw rest') <;> rfl
  · intro c
    simp only [c11DistTerm, bind, Except.bind]
    cases h1 : flatProd tw with
    | error er =>
      simp [c11Bind, c11Push, c11Apply, c11AsExprs_exprs, h1, c11Lift, c11LiftE]
    | ok lead =>
      cases h2 : pyMul c rest' with
      | error er =>
        simp [c11Bind, c11Push, c11Apply, c11AsExprs_exprs, h1, c11Lift, c11LiftE, c11Bin, h2]
      | ok pp =>
        cases h3 : dist pp with
        | error er =>
          simp [c11Bind, c11Push, c11Apply, c11AsExprs_exprs, h1, c11Lift, c11LiftE, c11Bin, h2,
            hdist, h3]
        | ok dd =>
          cases h4 : pyMul lead dd <;>
          simp [c11Bind, c11Push, c11Apply, c11AsExprs_exprs, h1, c11Lift, c11LiftE, c11Bin, h2,
            hdist, h3, h4]

theorem c11EvalL_cons_nostar (ctx : C11Ctx) (env : C11Env) (T : C11Tm) (r : List C11Tm)
    (h : ∀ t, T ≠ .star t) :
    c11EvalL ctx env (T :: r) = (do
      let v ← c11Eval ctx env T
      let rs ← c11EvalL ctx env r
      pure (v :: rs)) := by
  cases T <;> first | rfl | exact absurd rfl (h _)

section
attribute [local simp] c11DistTailG c11DistEnv c11Apply c11Items c11Attr Expr.c04Field Expr.c04Fields
  c04Assoc c11Cmp c11Eq c11Eq1 c11Eq0 c11Truthy c11AsExprs_exprs c11Lift c11OutToR c11LiftE
  List.getElem?_map c11IsInstance c11Bin

/-- the part of `dist` after the `leading` loop, for any term `T` in the place of the comprehension
that evaluates as the comprehension does (`hT`): the comprehension is evaluated once, by
`c11_dist_comp`, and stays folded here.  `hns`: an argument list is evaluated item by item unless an
item is starred (`c11EvalL_cons_nostar`). -/
theorem c11_dist_tail (ctx : C11Ctx) (F : Nat) (collect : Expr → RwR)
    (hcol : ∀ e, ctx.callSelf "collect" [.expr e] = c11LiftE (collect e))
    (dist : Expr → RwR) (hdist : ∀ e, ctx.callLocal "dist" [.expr e] = c11LiftE (dist e))
    (T : C11Tm) (hns : ∀ t, T ≠ .star t) (cs : List Expr)
    (hT : ∀ (tw : List Expr) (iv result : C11Val) (scs : List Expr) (rest' : Expr),
      c11Eval ctx (c11DistEnv (.nary .prod cs) (.list (tw.map .expr)) iv result
        (.expr (.nary .sum scs)) (.expr rest')) T =
      (match scs.mapM (c11DistTerm dist tw rest') with
       | .ok ts => .ok (.list (ts.map .expr))
       | .error er => .error (.py er)))
    (iv result sum rest : C11Val) :
    c11OutToR (c11ExecL ctx F (c11DistTailG T)
      (c11DistEnv (.nary .prod cs) (.list ((cs.takeWhile (fun c => !isSum c)).map .expr)) iv result
        sum rest)) =
    c11LiftE (match cs.dropWhile (fun c => !isSum c) with
      | [] => flatProd cs
      | .nary .sum scs :: rest => do
          let rest' ← (if rest.isEmpty then pure one else dist (.nary .prod rest))
          let terms ← scs.mapM (c11DistTerm dist (cs.takeWhile (fun c => !isSum c)) rest')
          collect (flattenedSum terms)
      | _ :: _ => throw .assertion) := by
  have hlen := c11_tw_len_eq (fun c => !isSum c) cs
  have hidx := c11_tw_index (fun c => !isSum c) cs
  have hdrop := c11_tw_drop (fun c => !isSum c) cs
  cases hdw : cs.dropWhile (fun c => !isSum c) with
  | nil =>
    rw [hdw] at hlen
    simp only [List.isEmpty_nil, beq_iff_eq] at hlen
    cases hf : flatProd cs <;>
    simp [hlen, hf]
  | cons x r =>
    have hx := c11_dw_head_isSum cs x r hdw
    rw [hdw] at hlen hidx hdrop
    simp only [List.isEmpty_cons, List.head?_cons, List.tail_cons] at hlen hidx hdrop
    cases x with
    | nary o scs =>
      cases o <;> simp [isSum] at hx
      have hs : isSum (.nary .sum scs) = true := rfl
      generalize cs.takeWhile (fun c => !isSum c) = tw at *
      have hlen' : (tw.length == cs.length) = false := hlen
      cases r with
      | nil =>
        have hT' := hT tw iv result scs one
        simp only [c11DistEnv, one] at hT'
        cases hm : scs.mapM (c11DistTerm dist tw (.const (.int 1))) with
        | error er =>
          rw [hm] at hT'
          simp [hlen', hidx, hs, ← List.map_drop, hdrop, hdist, hcol,
            c11EvalL_cons_nostar _ _ T _ hns, one, hT', hm]
        | ok ts =>
          rw [hm] at hT'
          cases hc : collect (flattenedSum ts) <;>
          simp [hlen', hidx, hs, ← List.map_drop, hdrop, hdist, hcol,
            c11EvalL_cons_nostar _ _ T _ hns, one, hT', hm, hc]
      | cons y r' =>
        have hae : c11AsExprs (.list (.expr y :: r'.map .expr)) = .ok (y :: r') :=
          c11AsExprs_exprs (y :: r')
        cases hd : dist (.nary .prod (y :: r')) with
        | error er => simp [hlen', hidx, hs, ← List.map_drop, hdrop, hdist, hcol,
          c11EvalL_cons_nostar _ _ T _ hns, hd, hae]
        | ok rest' =>
          have hT' := hT tw iv result scs rest'
          simp only [c11DistEnv] at hT'
          cases hm : scs.mapM (c11DistTerm dist tw rest') with
          | error er =>
            rw [hm] at hT'
            simp [hlen', hidx, hs, ← List.map_drop, hdrop, hdist, hcol,
              c11EvalL_cons_nostar _ _ T _ hns, hd, hae, hT', hm]
          | ok ts =>
            rw [hm] at hT'
            cases hc : collect (flattenedSum ts) <;>
            simp [hlen', hidx, hs, ← List.map_drop, hdrop, hdist, hcol,
              c11EvalL_cons_nostar _ _ T _ hns, hd, hae, hT', hm, hc]
    | _ => simp [isSum] at hx

end

theorem c11_dist_body : (c11FindDef "dist" c11DistDefs) = some
    { name := "dist", params := ["prod"], locals := ["leading", "i", "result", "sum", "rest"],
      recursive := true,
      body := [.ifThen (.not (.call (.glob .pyIsinstance) [(.var "prod"), (.glob .clsProduct)])) [
                .ret (.var "prod")] [],
              .assign "leading" (.seq []),
              .for ["i"] (.attr (.var "prod") "children") c11DistLeadStmts] ++ c11DistTail } := rfl

/-- one level of `distLoop` with the recursive calls left open -/
def c11DistStep (collect dist : Expr → RwR) : Expr → RwR
  | .nary .prod cs =>
    match cs.dropWhile (fun c => !isSum c) with
    | [] => flatProd cs
    | .nary .sum scs :: rest => do
        let rest' ← (if rest.isEmpty then pure one else dist (.nary .prod rest))
        let terms ← scs.mapM (c11DistTerm dist (cs.takeWhile (fun c => !isSum c)) rest')
        collect (flattenedSum terms)
    | _ :: _ => throw .assertion
  | e => pure e

theorem distLoop_succ (collect : Expr → RwR) (n : Nat) (e : Expr) :
    distLoop collect (n + 1) e = c11DistStep collect (distLoop collect n) e := by
  cases e with
  | nary o cs =>
    cases o <;> rfl
  | _ => rfl

/-- the body of `dist`, run in a context whose `dist` is any function of the tree model -/
theorem c11_dist_run (ctx : C11Ctx) (F : Nat) (collect : Expr → RwR)
    (hcol : ∀ e, ctx.callSelf "collect" [.expr e] = c11LiftE (collect e))
    (dist : Expr → RwR) (hdist : ∀ e, ctx.callLocal "dist" [.expr e] = c11LiftE (dist e))
    (p : Expr) :
    c11RunBody ctx F ["prod"] ["leading", "i", "result", "sum", "rest"] [("dist", .closure "dist")]
      ([.ifThen (.not (.call (.glob .pyIsinstance) [(.var "prod"), (.glob .clsProduct)])) [
          .ret (.var "prod")] [],
        .assign "leading" (.seq []),
        .for ["i"] (.attr (.var "prod") "children") c11DistLeadStmts] ++ c11DistTail) [.expr p] =
    c11LiftE (c11DistStep collect dist p) := by
  have hframe : c11Frame ["prod"] ["leading", "i", "result", "sum", "rest"]
      [("dist", .closure "dist")] [.expr p] =
      some (c11DistEnv p .unbound .unbound .unbound .unbound .unbound) := rfl
  simp only [c11RunBody, hframe]
  by_cases hp : isProdE p = true
  · cases p with
    | nary o cs =>
      cases o <;> simp [isProdE] at hp
      obtain ⟨iv', hl⟩ := c11_dist_leading ctx F (.nary .prod cs) .unbound .unbound .unbound cs []
        .unbound
      simp only [List.map_nil, List.nil_append] at hl
      simp only [List.cons_append, List.nil_append, c11ExecL, c11Exec_dist_for]
      simp [c11DistEnv, c11Apply, c11IsInstance, isProdE, c11Truthy, c11Attr, Expr.c04Field,
        Expr.c04Fields, c04Assoc, c11Items]
      simp only [c11DistEnv] at hl
      rw [hl]
      have := c11_dist_tail ctx F collect hcol dist hdist c11DistComp (by intro t h; cases h) cs
        (fun tw iv result scs rest' => c11_dist_comp ctx dist hdist _ tw iv result scs rest')
        iv' .unbound .unbound .unbound
      simp only [c11DistEnv] at this
      exact this
    | _ => simp [isProdE] at hp
  · have hp' : isProdE p = false := by simpa using hp
    have : c11DistStep collect dist p = pure p := by
      cases p with
      | nary o cs => cases o <;> first | rfl | simp [isProdE] at hp'
      | _ => rfl
    rw [this]
    simp [c11DistEnv, c11Apply, c11IsInstance, hp', c11Truthy, c11OutToR, c11LiftE]

theorem c11_dist_call (ctx : C11Ctx) (collect : Expr → RwR)
    (hcol : ∀ e, ctx.callSelf "collect" [.expr e] = c11LiftE (collect e)) :
    ∀ (F : Nat) (p : Expr),
      c11CallLocal ctx c11DistDefs F "dist" [.expr p] = c11LiftE (distLoop collect F p)
  | 0, p => by
    simp only [c11CallLocal, c11_dist_body, if_true]; rfl
  | n + 1, p => by
    simp only [c11CallLocal, c11_dist_body, if_true, distLoop_succ]
    exact c11_dist_run { ctx with callLocal := c11CallLocal ctx c11DistDefs n } n collect hcol
      (distLoop collect n) (fun e => c11_dist_call ctx collect hcol n e) p
end PV
