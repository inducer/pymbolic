import PV.Model.PersistentHashTable
import PV.Proofs.WalkTable
import PV.Proofs.PickleDigest
/-
  C17 (T-gen) — the hand-written `digest` (PV/Model/Pickle.lean) against the table-driven reading
  of `PersistentHashWalkMapper` (PV/Model/PersistentHashTable.lean).

  `c17HandBody` states, per constructor of `Expr`, what `digest` was written from: the three
  overrides of the class (`map_constant`, `map_variable`, `map_comparison`) and otherwise the
  inherited `WalkMapper` handler shape (`c04WalkBody`, the shape `walk` was written from).  This
  file proves — for ALL expressions — that `digest` is the table-driven step run on these shapes
  with `visit` feeding the class name and returning `True` and `post_visit` feeding nothing, that
  the step equations have one solution, and hence that `digest` is the fuel-iterated table digest.
  That the shapes ARE the rows of the tables regenerated from the current source is
  `digest_resolve_current` in PV/Properties/C17.lean (an evaluation against lean/PV/Generated/*.lean).
-/
-- the `simp only` sets shared by the classes of one case analysis hold lemmas that fire in some
-- classes only
set_option linter.unusedSimpArgs false
namespace PV
open PV.Pickle

/-- the override rows `digest` was written from -/
def c17ConstRow : C17Handler := ⟨"map_constant", false, true, [.feed .reprSelf]⟩
def c17VarRow : C17Handler := ⟨"map_variable", false, false, [.feed (.field "name")]⟩
def c17CmpRow : C17Handler :=
  ⟨"map_comparison", true, false,
    [.recur ⟨"left", .one, false⟩, .feed (.reprField "operator"), .recur ⟨"right", .one, false⟩]⟩

/-- what runs for a node, as `digest` was written: an override, or the inherited walk handler -/
def c17HandBody : Expr → Except DepErr C17Body
  | .const (.str _) => .error .foreign
  | .const .none => .error .foreign
  | .const _ => .ok (.override c17ConstRow)
  | .var _ => .ok (.override c17VarRow)
  | .cmp _ _ _ => .ok (.override c17CmpRow)
  | e => match c04WalkBody e with
    | .ok b => .ok (.inherited b)
    | .error err => .error err

theorem c17Resolve_classRep (classes : List C04NodeClass) (walk : List C04Handler) (T : C17Table)
    (e : Expr) : c17Resolve classes walk T e = c17Resolve classes walk T e.classRep := by
  simp only [c17Resolve, ← c04Dispatch_classRep]

theorem c17HandBody_classRep (e : Expr) : c17HandBody e = c17HandBody e.classRep := by
  cases e with
  | const k => cases k <;> rfl
  | bin o a b => cases o <;> rfl
  | _ => rfl

/-- the `visit` / `post_visit` behaviour `digest` was written from -/
structure C17Table.Std (T : C17Table) : Prop where
  visit : T.visitFeeds = [.className]
  returns : T.visitReturns = true
  post : T.postVisitFeeds = []

theorem digestL_eq_c04SeqL : ∀ cs : List Expr, digestL cs = c04SeqL digest cs
  | [] => by simp [digestL, c04SeqL]
  | c :: cs => by simp [digestL, c04SeqL, digestL_eq_c04SeqL cs]

theorem c04IsNone_of_ne {c : Expr} (hn : c ≠ .const .none) : c.c04IsNone = false := by
  cases c with
  | const k => cases k <;> first | rfl | exact absurd rfl hn
  | _ => rfl

theorem digestSlice_eq_c04SeqL : ∀ cs : List Expr,
    digestSlice cs = c04SeqL digest (cs.filter (fun c => !c.c04IsNone))
  | [] => by simp [digestSlice, c04SeqL]
  | c :: cs => by
    by_cases hn : c = .const .none
    · subst hn
      simp [digestSlice, Expr.c04IsNone, digestSlice_eq_c04SeqL cs]
    · rw [digestSlice_cons_ne cs hn, digestSlice_eq_c04SeqL cs, List.filter_cons]
      simp [c04IsNone_of_ne hn, c04SeqL]

theorem c17PyReprStr_sym (o : CmpOp) : c17PyReprStr o.sym = "'" ++ o.sym ++ "'" := by
  cases o <;> decide

/-- an inherited guarded handler under the standard `visit` / `post_visit`: class name, then the
recursion sites -/
theorem c17StepB_guard {T : C17Table} (hT : T.Std) (recs : List C04Rec)
    (rec : Expr → Except DepErr (List String)) (e : Expr) (vf pf : Bool) :
    c17DigestStepB T (.ok (.inherited (.walk .guard vf recs true pf))) rec e =
      (do let inner ← c04SeqSites (fun _ c => rec c) false e recs; pure (e.kind :: inner)) := by
  simp only [c17DigestStepB, hT.visit, hT.returns, hT.post, c17Feeds, c17PieceStr]
  cases c04SeqSites (fun _ c => rec c) false e recs <;>
    simp [bind, Except.bind, pure, Except.pure]

/-- an inherited leaf handler: the class name -/
theorem c17StepB_leaf {T : C17Table} (hT : T.Std)
    (rec : Expr → Except DepErr (List String)) (e : Expr) (vf pf : Bool) :
    c17DigestStepB T (.ok (.inherited (.walk .plain vf [] true pf))) rec e = .ok [e.kind] := by
  simp [c17DigestStepB, hT.visit, hT.returns, hT.post, c17Feeds, c17PieceStr, c04SeqSites,
    bind, Except.bind, pure, Except.pure]

/-- **`digest` solves the table-driven equations**: on any node, `digest` is one handler call of
the shape `c17HandBody` gives for the node, recursing through `digest` itself. -/
theorem digest_eq_stepB {T : C17Table} (hT : T.Std) (e : Expr) :
    digest e = c17DigestStepB T (c17HandBody e) digest e := by
  cases e with
  | const k =>
    cases k <;>
      simp [c17HandBody, c17DigestStepB, c17ConstRow, c17RunSteps, c17PieceStr, digest, constRepr,
        bind, Except.bind, pure, Except.pure] <;> rfl
  | var x =>
    simp [c17HandBody, c17DigestStepB, c17VarRow, c17RunSteps, c17PieceStr, Expr.c17StrField,
      digest, bind, Except.bind, pure, Except.pure]
  | cmp o a b =>
    simp only [c17HandBody, c17DigestStepB, c17CmpRow, if_true, hT.visit, hT.returns, c17Feeds,
      c17PieceStr, Expr.kind, c17RunSteps, c04RecChildren, Expr.c04Field, Expr.c04Fields, c04Assoc,
      String.reduceBEq, ↓reduceIte, Bool.false_eq_true, c04SeqL, Expr.c17StrField, Option.map,
      c17PyReprStr_sym, digest]
    cases digest a <;> cases digest b <;> simp [bind, Except.bind, pure, Except.pure]
  | wildcard | dotWild _ | starWild _ | funcSym | nan =>
    simp [c17HandBody, c04WalkBody, c17StepB_leaf hT, digest, Expr.kind]; rfl
  | bin o a b =>
    cases o <;>
      simp only [c17HandBody, c04WalkBody, c17StepB_guard hT, digest, c04SeqSites, c04RecChildren,
        Expr.c04Field, Expr.c04Fields, c04Assoc, String.reduceBEq, ↓reduceIte, Bool.false_eq_true,
        c04SeqL, Bool.and_true, Expr.kind, BinOp.name] <;>
      cases digest a <;> cases digest b <;> simp [bind, Except.bind, pure, Except.pure]
  | nary _ cs | tuple cs | list cs =>
    simp only [c17HandBody, c04WalkBody, c17StepB_guard hT, digest, c04SeqSites, c04RecChildren,
      Expr.c04Field, Expr.c04Fields, c04Assoc, String.reduceBEq, ↓reduceIte, Bool.false_eq_true,
      Bool.and_true, digestL_eq_c04SeqL, Expr.kind]
    cases c04SeqL digest cs <;> simp [bind, Except.bind, pure, Except.pure]
  | slice cs =>
    simp only [c17HandBody, c04WalkBody, c17StepB_guard hT, digest, c04SeqSites, c04RecChildren,
      Expr.c04Field, Expr.c04Fields, c04Assoc, String.reduceBEq, ↓reduceIte, Bool.false_eq_true,
      Bool.and_true, digestSlice_eq_c04SeqL, Expr.kind]
    cases c04SeqL digest (cs.filter fun c => !c.c04IsNone) <;>
      simp [bind, Except.bind, pure, Except.pure]
  | un _ a | lookup a _ | cse a _ _ | deriv a _ =>
    simp only [c17HandBody, c04WalkBody, c17StepB_guard hT, digest, c04SeqSites, c04RecChildren,
      Expr.c04Field, Expr.c04Fields, c04Assoc, String.reduceBEq, ↓reduceIte, Bool.false_eq_true,
      c04SeqL, Bool.and_true, Expr.kind]
    cases digest a <;> simp [bind, Except.bind, pure, Except.pure]
  | subscript a b =>
    simp only [c17HandBody, c04WalkBody, c17StepB_guard hT, digest, c04SeqSites, c04RecChildren,
      Expr.c04Field, Expr.c04Fields, c04Assoc, String.reduceBEq, ↓reduceIte, Bool.false_eq_true,
      c04SeqL, Bool.and_true, Expr.kind]
    cases digest a <;> cases digest b <;> simp [bind, Except.bind, pure, Except.pure]
  | ite a b c =>
    simp only [c17HandBody, c04WalkBody, c17StepB_guard hT, digest, c04SeqSites, c04RecChildren,
      Expr.c04Field, Expr.c04Fields, c04Assoc, String.reduceBEq, ↓reduceIte, Bool.false_eq_true,
      c04SeqL, Bool.and_true, Expr.kind]
    cases digest a <;> cases digest b <;> cases digest c <;>
      simp [bind, Except.bind, pure, Except.pure]
  | call f as | subst f _ as =>
    simp only [c17HandBody, c04WalkBody, c17StepB_guard hT, digest, c04SeqSites, c04RecChildren,
      Expr.c04Field, Expr.c04Fields, c04Assoc, String.reduceBEq, ↓reduceIte, Bool.false_eq_true,
      c04SeqL, Bool.and_true, digestL_eq_c04SeqL, Expr.kind]
    cases digest f <;> cases c04SeqL digest as <;> simp [bind, Except.bind, pure, Except.pure]
  | callKw f as ns vs =>
    simp only [c17HandBody, c04WalkBody, c17StepB_guard hT, digest, c04SeqSites, c04RecChildren,
      Expr.c04Field, Expr.c04Fields, c04Assoc, String.reduceBEq, ↓reduceIte, Bool.false_eq_true,
      c04SeqL, Bool.and_true, digestL_eq_c04SeqL, Expr.kind]
    cases digest f <;> cases c04SeqL digest as <;> cases c04SeqL digest vs <;>
      simp [bind, Except.bind, pure, Except.pure]

/-! ### uniqueness and the fuel-iterated digest -/

theorem c17RunSteps_congr {f g : Expr → Except DepErr (List String)} {e : Expr}
    (h : ∀ c ∈ e.children, f c = g c) :
    ∀ steps : List C17Step, c17RunSteps f e steps = c17RunSteps g e steps
  | [] => rfl
  | .feed p :: rest => by simp only [c17RunSteps, c17RunSteps_congr h rest]
  | .recur site :: rest => by
    simp only [c17RunSteps]
    cases hr : c04RecChildren e site with
    | none => rfl
    | some cs =>
      simp only [c17RunSteps_congr h rest,
        c04SeqL_congr (fun c hc => h c (c04RecChildren_sub hr c hc))]

theorem c17DigestStepB_congr {T : C17Table} {body : Except DepErr C17Body}
    {f g : Expr → Except DepErr (List String)} {e : Expr} (h : ∀ c ∈ e.children, f c = g c) :
    c17DigestStepB T body f e = c17DigestStepB T body g e := by
  unfold c17DigestStepB
  split <;> try rfl
  · rw [c17RunSteps_congr h]
  · rw [c04SeqSites_congr (f := fun _ c => f c) (g := fun _ c => g c) (fun _ c hc => h c hc)]

/-- **The step equations have one solution**, whatever the tables are. -/
theorem c17Digest_unique (T : C17Table) (body : Expr → Except DepErr C17Body)
    (f g : Expr → Except DepErr (List String))
    (hf : ∀ e, f e = c17DigestStepB T (body e) f e)
    (hg : ∀ e, g e = c17DigestStepB T (body e) g e) : ∀ e, f e = g e := by
  intro e
  induction e using Expr.induct with
  | h e ih =>
    rw [hf, hg]
    exact c17DigestStepB_congr ih

/-- with enough fuel the iterated step is any solution of the step equations -/
theorem c17DigestFuel_eq (classes : List C04NodeClass) (walk : List C04Handler) (T : C17Table)
    (f : Expr → Except DepErr (List String))
    (hf : ∀ e, f e = c17DigestStep classes walk T f e) :
    ∀ (n : Nat) (e : Expr), e.size ≤ n → c17DigestFuel classes walk T n e = f e
  | 0, e, h => by
    have := Expr.size_pos e
    omega
  | n + 1, e, h => by
    rw [c17DigestFuel, hf e]
    exact c17DigestStepB_congr (fun c hc =>
      c17DigestFuel_eq classes walk T f hf n c
        (by have := Expr.size_lt_of_mem_children hc; omega))

end PV
