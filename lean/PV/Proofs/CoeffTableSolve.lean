import PV.Proofs.CoeffTableMain
import PV.Proofs.CoeffTableGauss
import PV.Proofs.CoeffSolve
/-
  C15, T-gen tie, part 3: `solve_affine_equations_for` (pymbolic/algorithm.py) as read from the
  source — the look-up tables, the parameter set, the matrix assembly with its three-way key test
  and the accumulating `+=`, the call of `gaussian_elimination`, the read-off of every unknown
  (`np.where`, the uniqueness and `abs(...) != 1` tests, `int(...) // div`, the `zip` loop with
  `unknown_val += …`) — run by the table interpreter IS `solveAffine` (PV/Model/Coeff.lean).
-/
namespace PV.Coeff
open PV

/-! ### duplicate-free lists, look-up tables -/

/-- no element is `==` to a later one (a Python `set` / the key list of a `dict`) -/
def DistinctE (l : List Expr) : Prop := l.Pairwise fun a b => a.pyEq b = false

theorem distinct_vars (names : List String) (h : names.Nodup) : DistinctE (names.map Expr.var) :=
  List.pairwise_map.2 (h.imp fun hne => by simp [Expr.pyEq, hne])

theorem unionPy_distinct (l acc : List Expr) (h : DistinctE (acc ++ l)) :
    unionPy acc l = acc ++ l := by
  induction l generalizing acc with
  | nil => exact (List.append_nil _).symm
  | cons x l ih =>
    have hx : insPy acc x = acc ++ [x] := if_neg fun hany => by
      obtain ⟨a, ha, hax⟩ := List.any_eq_true.1 hany
      rw [(List.pairwise_append.1 h).2.2 a ha x (.head _)] at hax
      cases hax
    rw [unionPy_cons, hx, ih _ (by simpa using h), List.append_assoc]
    rfl

theorem set_of_distinct (l : List Expr) (h : DistinctE l) : unionPy [] l = l :=
  unionPy_distinct l [] h

/-- `{x: i for i, x in enumerate(l)}` -/
def lutFrom : Nat → List Expr → Dict
  | _, [] => []
  | i, x :: xs => (x, .const (.int i)) :: lutFrom (i + 1) xs

theorem find_lutFrom (l : List Expr) (i : Nat) (k : Expr) :
    Dict.find (lutFrom i l) k = (idxOf l k).map fun j => .const (.int ((i + j : Nat) : Int)) := by
  induction l generalizing i with
  | nil => rfl
  | cons x xs ih =>
    cases hx : x.pyEq k
    · simp only [lutFrom, Dict.find, idxOf, hx, Bool.false_eq_true, if_false, ih, Option.map_map]
      congr 1
      funext j
      exact congrArg (fun n : Nat => Expr.const (.int n)) (Nat.add_right_comm i 1 j)
    · simp only [lutFrom, Dict.find, idxOf, hx, if_true]
      rfl

theorem idxOf_isSome (l : List Expr) (k : Expr) : (idxOf l k).isSome = l.any fun x => x.pyEq k := by
  induction l with
  | nil => rfl
  | cons x xs ih =>
    cases hx : x.pyEq k
    · simp only [idxOf, hx, Bool.false_eq_true, if_false, Option.isSome_map, ih, List.any_cons,
        Bool.false_or]
    · simp only [idxOf, hx, if_true, List.any_cons, Bool.true_or]
      rfl

theorem idxOf_lt (l : List Expr) (k : Expr) (j : Nat) (h : idxOf l k = some j) : j < l.length := by
  induction l generalizing j with
  | nil => cases h
  | cons x xs ih =>
    rw [idxOf] at h
    split at h
    · cases h
      exact Nat.succ_pos _
    · obtain ⟨j', hj', rfl⟩ := Option.map_eq_some_iff.1 h
      exact Nat.succ_lt_succ (ih j' hj')

/-- the look-up table comprehension `{K: idx for idx, K in enumerate(L)}`, entry by entry -/
theorem lut_fold (ctx : C15Ctx) (kn : String) (hkn : kn ≠ "idx") (st : C15Env) :
    ∀ (l : List Expr) (i : Nat) (acc : Dict), (∀ a ∈ acc, ∀ b ∈ l, a.1.pyEq b = false) → DistinctE l →
      List.foldlM (dictCompStep ctx (.var kn) (.var "idx") (.tup2 (.name "idx") (.name kn)) st) acc
        (c15Enum i (l.map C15Val.ex)) = .ok (acc ++ lutFrom i l)
  | [], i, acc, _, _ => by simp [c15Enum, lutFrom, pure, Except.pure]
  | x :: l, i, acc, hacc, hd => by
    have hd' := List.pairwise_cons.1 hd
    have hstep : dictCompStep ctx (.var kn) (.var "idx") (.tup2 (.name "idx") (.name kn)) st acc
        (.pair (.int i) (.ex x)) = .ok (acc ++ [(x, .const (.int i))]) := by
      simp only [dictCompStep, c15Bind, Option.bind, eval_var_get, c15Get_set, hkn, if_true, if_false, bind,
        Except.bind, C15Val.toExpr?, dictSet_append acc x _ (fun a ha => hacc a ha x (by simp))]
      rfl
    simp only [List.map_cons, c15Enum, List.foldlM_cons, hstep, bind, Except.bind, lutFrom]
    rw [lut_fold ctx kn hkn st l (i + 1) (acc ++ [(x, Expr.const (Const.int (i : Int)))]) (by
      intro a ha b hb
      simp only [List.mem_append, List.mem_singleton] at ha
      rcases ha with ha | rfl
      · exact hacc a ha b (by simp [hb])
      · exact hd'.1 b hb) hd'.2]
    simp

theorem eval_lut (ctx : C15Ctx) (st : C15Env) (kn src : String) (hkn : kn ≠ "idx") (l : List Expr)
    (hsrc : c15Get src st = some (.list (l.map .ex))) (hd : DistinctE l) :
    (C15E.dictComp (.var kn) (.var "idx") (.tup2 (.name "idx") (.name kn))
      (.call "enumerate" [.var src])).eval ctx st = .ok (.dict (lutFrom 0 l)) := by
  rw [eval_dictComp, eval_enumerate ctx st src _ hsrc]
  simp only [bind, Except.bind, c15Items, lut_fold ctx kn hkn st l 0 [] (by simp) hd]
  rfl

/-! ### the preamble: unknowns, the parameter set -/

theorem vars_mapM (ctx : C15Ctx) (st : C15Env) : ∀ names : List String,
    (names.map C15Val.str).mapM (listCompStep ctx (.mkNode "Variable" [.var "u"]) (.name "u") st) =
      .ok ((names.map Expr.var).map C15Val.ex)
  | [] => rfl
  | n :: ns => by
    have h1 : listCompStep ctx (.mkNode "Variable" [.var "u"]) (.name "u") st (.str n) =
        .ok (.ex (.var n)) := by
      simp [listCompStep, c15Bind, c15Get_set_eq, bind, Except.bind, pure, Except.pure, c15MkNode]
    simp only [List.map_cons, List.mapM_cons, h1, vars_mapM ctx st ns, bind, Except.bind, pure,
      Except.pure]

theorem eval_varsComp (ctx : C15Ctx) (st : C15Env) (names : List String)
    (h : c15Get "unknowns" st = some (.list (names.map .str))) :
    (C15E.listComp (.mkNode "Variable" [.var "u"]) (.name "u") (.var "unknowns")).eval ctx st =
      .ok (.list ((names.map Expr.var).map .ex)) := by
  rw [eval_listComp, eval_var ctx _ st _ h]
  simp only [bind, Except.bind, c15Items, vars_mapM]
  rfl

/-- the parameter set as the loop builds it (`parameters.update(dep_map(lhs) - unknowns_set)`, then
the same for `rhs`, equation by equation) -/
def paramSetL (U : List Expr) : List Expr → List (Expr × Expr) → CR (List Expr)
  | acc, [] => pure acc
  | acc, (l, r) :: rest => do
      let dl ← (deps compositeFlags l).mapError depErr
      let acc1 := unionPy acc (dl.filter fun e => !(U.any fun u => u.pyEq e))
      let dr ← (deps compositeFlags r).mapError depErr
      paramSetL U (unionPy acc1 (dr.filter fun e => !(U.any fun u => u.pyEq e))) rest

def expParamBody : List C15S := [
  .setUpdate "parameters" (.bin .sub (.callVar "dep_map" [.var "lhs"]) (.var "unknowns_set")),
  .setUpdate "parameters" (.bin .sub (.callVar "dep_map" [.var "rhs"]) (.var "unknowns_set"))]

def eqVal (lr : Expr × Expr) : C15Val := .pair (.ex lr.1) (.ex lr.2)

def paramVars : List String := ["lhs", "rhs", "parameters"]

/-- `parameters.update(dep_map(x) - unknowns_set)` -/
theorem exec_update (ctx : C15Ctx) (st : C15Env) (x : String) (U acc : List Expr) (e : Expr)
    (hx : c15Get x st = some (.ex e)) (hd : c15Get "dep_map" st = some (.depMapper compositeFlags))
    (hU : c15Get "unknowns_set" st = some (.eset U)) (hp : c15Get "parameters" st = some (.eset acc)) :
    Sim ((deps compositeFlags e).mapError depErr)
      (C15S.exec ctx (.setUpdate "parameters" (.bin .sub (.callVar "dep_map" [.var x])
        (.var "unknowns_set"))) st)
      fun dl st' => st' = c15Set "parameters"
        (.eset (unionPy acc (dl.filter fun e => !(U.any fun u => u.pyEq e)))) st := by
  cases hde : deps compositeFlags e <;>
    simp [Sim, SimO, hx, hd, hU, hp, bind, Except.bind, pure, Except.pure,
      c15CallObj, C15Val.toExpr?, hde, c15DepErr, c15Bin, c15OfR, Except.mapError, throw, throwThe,
      MonadExceptOf.throw]

theorem param_loop (ctx : C15Ctx) (U : List Expr) : ∀ (eqs : List (Expr × Expr)) (st : C15Env)
    (acc : List Expr), c15Get "dep_map" st = some (.depMapper compositeFlags) →
    c15Get "unknowns_set" st = some (.eset U) → c15Get "parameters" st = some (.eset acc) →
    Sim (paramSetL U acc eqs)
      (c15For (forStep ctx (.tup2 (.name "lhs") (.name "rhs")) expParamBody) (eqs.map eqVal) st)
      fun S st' => c15Get "parameters" st' = some (.eset S) ∧ Frame paramVars st st'
  | [], st, acc, _, _, hp => ⟨st, rfl, hp, Frame.refl _ _⟩
  | (l, r) :: rest, st, acc, hd, hU, hp => by
    have hstep : Sim (do
          let dl ← (deps compositeFlags l).mapError depErr
          let dr ← (deps compositeFlags r).mapError depErr
          pure (unionPy (unionPy acc (dl.filter fun e => !(U.any fun u => u.pyEq e)))
            (dr.filter fun e => !(U.any fun u => u.pyEq e))))
        (forStep ctx (.tup2 (.name "lhs") (.name "rhs")) expParamBody (eqVal (l, r)) st)
        fun acc' st' => c15Get "parameters" st' = some (.eset acc') ∧ Frame paramVars st st' := by
      refine Sim.seq (exec_update ctx _ "lhs" U acc l (by simp [c15Get_set]) (by simp [c15Get_set, hd])
        (by simp [c15Get_set, hU]) (by simp [c15Get_set, hp])) ?_
      rintro dl _ rfl
      refine Sim.seq (exec_update ctx _ "rhs" U
        (unionPy acc (dl.filter fun e => !(U.any fun u => u.pyEq e))) r (by simp [c15Get_set])
        (by simp [c15Get_set, hd])
        (by simp [c15Get_set, hU]) (by simp)) ?_
      rintro dr _ rfl
      exact ⟨_, rfl, by simp, ((((Frame.refl _ _).set _ (by simp [paramVars])).set _
        (by simp [paramVars])).set _ (by simp [paramVars])).set _ (by simp [paramVars])⟩
    refine (Sim.iter (g := fun acc' => paramSetL U acc' rest) hstep ?_).model_eq
      (by simp only [paramSetL, bind_assoc, pure_bind])
    rintro acc' st' ⟨h1, h2⟩
    refine (param_loop ctx U rest st' acc' (by rw [h2 _ (by simp [paramVars]), hd])
      (by rw [h2 _ (by simp [paramVars]), hU]) h1).mono ?_
    rintro S st'' ⟨g1, g2⟩
    exact ⟨g1, h2.trans g2⟩

/-! ### the matrix assembly -/

/-- the bindings the preamble leaves and no later statement changes -/
structure SSt (st : C15Env) (U S params : List Expr) : Prop where
  hU : c15Get "unknowns" st = some (.list (U.map .ex))
  hUs : c15Get "unknowns_set" st = some (.eset U)
  hUl : c15Get "unknown_idx_lut" st = some (.dict (lutFrom 0 U))
  hP : c15Get "parameters" st = some (.eset S)
  hPl : c15Get "parameters_list" st = some (.list (params.map .ex))
  hPlut : c15Get "parameter_idx_lut" st = some (.dict (lutFrom 0 params))
  hcc : c15Get "coeff_coll" st = some (.collector none)

def sCore : List String := ["unknowns", "unknowns_set", "unknown_idx_lut", "parameters",
  "parameters_list", "parameter_idx_lut", "coeff_coll"]

theorem SSt.frame {st st' : C15Env} {U S params : List Expr} {xs : List String}
    (h : SSt st U S params) (hf : Frame xs st st') (hd : ∀ x ∈ sCore, x ∉ xs) : SSt st' U S params :=
  ⟨(hf _ (hd _ (by simp [sCore]))).trans h.hU, (hf _ (hd _ (by simp [sCore]))).trans h.hUs,
    (hf _ (hd _ (by simp [sCore]))).trans h.hUl, (hf _ (hd _ (by simp [sCore]))).trans h.hP,
    (hf _ (hd _ (by simp [sCore]))).trans h.hPl, (hf _ (hd _ (by simp [sCore]))).trans h.hPlut,
    (hf _ (hd _ (by simp [sCore]))).trans h.hcc⟩

/-- what `assembleSide` does with one entry `(key, coeff)` of a coefficient dictionary -/
def assembleEntry (unknowns params : List Expr) (factor : Int) (row : ARow) (key coeff : Expr) :
    CR ARow :=
  match idxOf unknowns key with
  | some j => do
      let v ← intOf (← pyBin .mul (.const (.int factor)) coeff)
      pure (row.1.set j (rowGet row.1 j + v), row.2)
  | none =>
    match idxOf params key with
    | some j => do
        let v ← intOf (← pyBin .mul (.const (.int (-factor))) coeff)
        pure (row.1, row.2.set j (rowGet row.2 j + v))
    | none =>
      if key.pyEq one then do
        let v ← intOf (← pyBin .mul (.const (.int (-factor))) coeff)
        pure (row.1, row.2.set params.length (rowGet row.2 params.length + v))
      else throw .keyNotUnderstood

theorem assembleSide_cons (unknowns params : List Expr) (factor : Int) (row : ARow) (key coeff : Expr)
    (rest : Dict) :
    assembleSide unknowns params factor row ((key, coeff) :: rest) =
      (assembleEntry unknowns params factor row key coeff) >>= fun row' =>
        assembleSide unknowns params factor row' rest := by
  simp only [assembleSide, assembleEntry]
  cases idxOf unknowns key with
  | some j => simp only [bind_assoc, pure_bind]
  | none =>
    cases idxOf params key with
    | some j => simp only [bind_assoc, pure_bind]
    | none =>
      by_cases hk : key.pyEq one = true
      · simp only [hk, if_true, bind_assoc, pure_bind]
      · simp only [hk, Bool.false_eq_true, if_false]; rfl

theorem intOf_eq (t : Expr) :
    intOf t = match (C15Val.ex t).toInt? with
      | some w => .ok w
      | none => .error .noClaim := by
  cases t with
  | const c => cases c <;> rfl
  | _ => rfl

def expKeyBody : List C15S := [
  .ifThen (.in_ (.var "key") (.var "unknowns_set"))
    [.augSub2 "mat" (.var "i_eqn") (.index (.var "unknown_idx_lut") (.var "key")) .add
      (.bin .mul (.var "lhs_factor") (.var "coeff"))]
    [.ifThen (.in_ (.var "key") (.var "parameters"))
      [.augSub2 "rhs_mat" (.var "i_eqn") (.index (.var "parameter_idx_lut") (.var "key")) .add
        (.bin .mul (.neg (.var "lhs_factor")) (.var "coeff"))]
      [.ifThen (.cmp .eq (.var "key") (.lit 1))
        [.augSub2 "rhs_mat" (.var "i_eqn") (.lit (-1)) .add
          (.bin .mul (.neg (.var "lhs_factor")) (.var "coeff"))]
        [.raise_ "ValueError" "key '{}' not understood"]]]]

/-- the two arrays and the index of the current equation -/
structure ASt (st : C15Env) (n P : Nat) (rowsM rowsR : List Row) (k : Nat) : Prop where
  hmat : c15Get "mat" st = some (.arr n rowsM)
  hrhs : c15Get "rhs_mat" st = some (.arr (P + 1) rowsR)
  hi : c15Get "i_eqn" st = some (.int k)

theorem ASt.frame {st st' : C15Env} {n P k : Nat} {rowsM rowsR : List Row} {xs : List String}
    (h : ASt st n P rowsM rowsR k) (hf : Frame xs st st') (h1 : "mat" ∉ xs) (h2 : "rhs_mat" ∉ xs)
    (h3 : "i_eqn" ∉ xs) : ASt st' n P rowsM rowsR k :=
  ⟨(hf _ h1).trans h.hmat, (hf _ h2).trans h.hrhs, (hf _ h3).trans h.hi⟩

/-- `e * coeff` where `e` is an int (the factor `lhs_factor` or `-lhs_factor`) -/
theorem eval_mul_coeff (ctx : C15Ctx) (st : C15Env) (e : C15E) (F : Int) (c : Expr)
    (he : e.eval ctx st = .ok (.int F)) (hc : c15Get "coeff" st = some (.ex c)) :
    (C15E.bin .mul e (.var "coeff")).eval ctx st =
      (c15LiftCR (pyBin .mul (.const (.int F)) c)).map .ex := by
  simp only [eval_bin, he, eval_var ctx _ st _ hc, bind, Except.bind]
  exact c15Bin_scal_ex st .mul (.int F) _ c (Or.inr ⟨F, rfl, rfl⟩)

theorem colIdx_nat (cols j : Nat) (h : j < cols) : c15ColIdx? cols (j : Int) = some j := by
  have : ¬ ((j : Int) < 0) := by omega
  simp [c15ColIdx?, this, h]

theorem colIdx_last (P : Nat) : c15ColIdx? (P + 1) (-1) = some P := by
  simp [c15ColIdx?]

/-- `X[i_eqn, j] += F*coeff` on an integer array, against the model's `intOf (F*coeff)`; `mk` is what
the model does with the integer -/
theorem accum_sim {β : Type} (ctx : C15Ctx) (st : C15Env) (x : String) (j v : C15E) (cols : Nat)
    (rows : List Row) (k : Nat) (jv : C15Val) (jj : Int) (col : Nat) (r : Row) (F : Int) (c : Expr)
    (mk : Int → β) (hx : c15Get x st = some (.arr cols rows))
    (hi : c15Get "i_eqn" st = some (.int k)) (hj : j.eval ctx st = .ok jv) (hjv : jv.toInt? = some jj)
    (hcol : c15ColIdx? cols jj = some col) (hr : rows[k]? = some r)
    (hv : v.eval ctx st = (c15LiftCR (pyBin .mul (.const (.int F)) c)).map .ex) :
    Sim (do let w ← intOf (← pyBin .mul (.const (.int F)) c); pure (mk w))
      (C15S.exec ctx (.augSub2 x (.var "i_eqn") j .add v) st)
      fun b st' => ∃ w, b = mk w ∧
        st' = c15Set x (.arr cols (rows.set k (r.set col (rowGet r col + w)))) st := by
  have hnk : ¬ ((k : Int) < 0) := by omega
  have hki : (C15Val.int (k : Int)).toInt? = some (k : Int) := rfl
  simp only [exec_augSub2, eval_var ctx _ st _ hi, hj, hx, hv, bind, Except.bind, hki, hjv,
    hnk, if_false, Int.toNat_natCast, hr, hcol]
  cases pyBin .mul (.const (.int F)) c with
  | error e => rfl
  | ok t =>
    simp only [c15LiftCR, Except.map, intOf_eq]
    cases (C15Val.ex t).toInt? with
    | none => rfl
    | some w => exact ⟨_, rfl, w, rfl, rfl⟩

theorem key_step (ctx : C15Ctx) (st : C15Env) (U S params : List Expr) (n P : Nat)
    (rowsM rowsR : List Row) (k : Nat) (f : Int) (key c : Expr) (a b : Row)
    (hs : SSt st U S params) (ha : ASt st n P rowsM rowsR k)
    (hf : c15Get "lhs_factor" st = some (.int f))
    (hkey : c15Get "key" st = some (.ex key)) (hc : c15Get "coeff" st = some (.ex c))
    (hra : rowsM[k]? = some a) (hrb : rowsR[k]? = some b) (hperm : params.Perm S)
    (hn : U.length = n) (hP : params.length = P) :
    Sim (assembleEntry U params f (a, b) key c) (C15S.execL ctx expKeyBody st)
      fun row' st' => ASt st' n P (rowsM.set k row'.1) (rowsR.set k row'.2) k ∧
        Frame ["mat", "rhs_mat"] st st' := by
  have hc1 : c15Cond ctx (.in_ (.var "key") (.var "unknowns_set")) st = .ok (idxOf U key).isSome := by
    simp [c15Cond, hkey, hs.hUs, bind, Except.bind, pure, Except.pure, c15In,
      C15Val.toExpr?, c15Truthy, idxOf_isSome]
  have hc2 : c15Cond ctx (.in_ (.var "key") (.var "parameters")) st = .ok (idxOf params key).isSome := by
    simp [c15Cond, hkey, hs.hP, bind, Except.bind, pure, Except.pure, c15In,
      C15Val.toExpr?, c15Truthy, idxOf_isSome, hperm.any_eq]
  have hc3 : c15Cond ctx (.cmp .eq (.var "key") (.lit 1)) st = .ok (key.pyEq one) := by
    simp [c15Cond, hkey, bind, Except.bind, pure, Except.pure, c15Cmp, c15ValEq,
      C15Val.toExpr?, c15Truthy, one]
  have hlut : ∀ (x : String) (l : List Expr) (j : Nat), c15Get x st = some (.dict (lutFrom 0 l)) →
      idxOf l key = some j →
      (C15E.index (.var x) (.var "key")).eval ctx st = .ok (.ex (.const (.int (j : Int)))) := by
    intro x l j hx hj
    have := find_lutFrom l 0 key
    simp only [hj, Option.map_some, Nat.zero_add] at this
    simp [hx, hkey, bind, Except.bind, pure, Except.pure, C15Val.toExpr?, this]
  have hneg : (C15E.neg (.var "lhs_factor")).eval ctx st = .ok (.int (-f)) := by
    simp [hf, bind, Except.bind, pure, Except.pure]
  -- the state after `mat[i_eqn, …] += …` resp. `rhs_mat[i_eqn, …] += …`
  have hM : ∀ a', ASt (c15Set "mat" (.arr n (rowsM.set k a')) st) n P (rowsM.set k a') (rowsR.set k b) k ∧
      Frame ["mat", "rhs_mat"] st (c15Set "mat" (.arr n (rowsM.set k a')) st) := fun a' =>
    ⟨⟨by simp, by simp [c15Get_set, ha.hrhs, set_self rowsR k b hrb],
      by simp [c15Get_set, ha.hi]⟩, (Frame.refl _ _).set _ (by simp)⟩
  have hR : ∀ b', ASt (c15Set "rhs_mat" (.arr (P + 1) (rowsR.set k b')) st) n P (rowsM.set k a)
        (rowsR.set k b') k ∧
      Frame ["mat", "rhs_mat"] st (c15Set "rhs_mat" (.arr (P + 1) (rowsR.set k b')) st) := fun b' =>
    ⟨⟨by simp [c15Get_set, ha.hmat, set_self rowsM k a hra], by simp,
      by simp [c15Get_set, ha.hi]⟩, (Frame.refl _ _).set _ (by simp)⟩
  cases hu : idxOf U key with
  | some j =>
    simp only [expKeyBody, execL_single, exec_ifThen, hc1, assembleEntry, hu, Option.isSome_some]
    refine (accum_sim ctx st "mat" _ _ n rowsM k _ j j a f c _ ha.hmat ha.hi
      (hlut _ _ j hs.hUl hu) rfl (colIdx_nat n j (by rw [← hn]; exact idxOf_lt U key j hu)) hra
      (eval_mul_coeff ctx st _ f c (eval_var ctx _ st _ hf) hc)).mono ?_
    rintro _ _ ⟨w, rfl, rfl⟩
    exact hM _
  | none =>
    cases hp : idxOf params key with
    | some j =>
      simp only [expKeyBody, execL_single, exec_ifThen, hc1, hc2, assembleEntry, hu, hp, Option.isSome_some,
        Option.isSome_none]
      refine (accum_sim ctx st "rhs_mat" _ _ (P + 1) rowsR k _ j j b (-f) c _ ha.hrhs ha.hi
        (hlut _ _ j hs.hPlut hp) rfl
        (colIdx_nat (P + 1) j (by have := idxOf_lt params key j hp; omega)) hrb
        (eval_mul_coeff ctx st _ (-f) c hneg hc)).mono ?_
      rintro _ _ ⟨w, rfl, rfl⟩
      exact hR _
    | none =>
      simp only [expKeyBody, execL_single, exec_ifThen, hc1, hc2, hc3, assembleEntry, hu, hp,
        Option.isSome_none]
      by_cases hk1 : key.pyEq one = true
      · simp only [hk1, if_true, ← hP]
        refine (accum_sim ctx st "rhs_mat" _ _ (P + 1) rowsR k _ (-1) P b (-f) c _ ha.hrhs ha.hi
          (eval_lit ctx st _) rfl (colIdx_last P) hrb (eval_mul_coeff ctx st _ (-f) c hneg hc)).mono ?_
        rintro _ _ ⟨w, rfl, rfl⟩
        rw [hP]
        exact hR _
      · simp [hk1, Sim, SimO, c15ErrOf, throw, throwThe, MonadExceptOf.throw]

def sideVars : List String := ["mat", "rhs_mat", "key", "coeff"]

theorem side_loop (ctx : C15Ctx) (U S params : List Expr) (n P k : Nat) (f : Int)
    (hperm : params.Perm S) (hn : U.length = n) (hP : params.length = P) :
    ∀ (d : Dict) (st : C15Env) (rowsM rowsR : List Row) (a b : Row), SSt st U S params →
      ASt st n P rowsM rowsR k → c15Get "lhs_factor" st = some (.int f) →
      rowsM[k]? = some a → rowsR[k]? = some b →
      Sim (assembleSide U params f (a, b) d)
        (c15For (forStep ctx (.tup2 (.name "key") (.name "coeff")) expKeyBody) (itemsOf d) st)
        fun row' st' => ASt st' n P (rowsM.set k row'.1) (rowsR.set k row'.2) k ∧
          Frame sideVars st st'
  | [], st, rowsM, rowsR, a, b, hs, ha, hf, hra, hrb =>
    ⟨st, rfl, by rw [set_self rowsM k a hra, set_self rowsR k b hrb]; exact ha, Frame.refl _ _⟩
  | (key, c) :: rest, st, rowsM, rowsR, a, b, hs, ha, hf, hra, hrb => by
    have hfr1 : Frame ["key", "coeff"] st (c15Set "coeff" (.ex c) (c15Set "key" (.ex key) st)) :=
      ((Frame.refl _ _).set _ (by simp)).set _ (by simp)
    have hkM : k < rowsM.length := (List.getElem?_eq_some_iff.1 hra).1
    have hkR : k < rowsR.length := (List.getElem?_eq_some_iff.1 hrb).1
    rw [assembleSide_cons]
    refine Sim.iter (key_step ctx _ U S params n P rowsM rowsR k f key c a b
      (hs.frame hfr1 (by decide +kernel)) (ha.frame hfr1 (by simp) (by simp) (by simp))
      (by simp [c15Get_set, hf]) (by simp [c15Get_set]) (by simp) hra hrb hperm hn hP) ?_
    rintro row1 st2 ⟨ha2, hfr2⟩
    have hfr12 : Frame sideVars st st2 :=
      (hfr1.mono (by decide +kernel)).trans (hfr2.mono (by decide +kernel))
    refine (side_loop ctx U S params n P k f hperm hn hP rest st2 _ _ row1.1 row1.2
      (hs.frame hfr12 (by decide +kernel)) ha2
      ((hfr12 _ (by simp [sideVars])).trans hf)
      (by simp [hkM]) (by simp [hkR])).mono ?_
    rintro row' st3 ⟨ha3, hfr3⟩
    exact ⟨by simpa only [List.set_set] using ha3, hfr12.trans hfr3⟩

def expSideBody : List C15S := [
  .forIn (.tup2 (.name "key") (.name "coeff")) (.meth (.var "coeffs") "items") expKeyBody]

def expSidesList : C15E :=
  .listLit [.tuple2 (.lit 1) (.callVar "coeff_coll" [.var "lhs"]),
    .tuple2 (.lit (-1)) (.callVar "coeff_coll" [.var "rhs"])]

def expEqnBody : List C15S := [
  .forIn (.tup2 (.name "lhs_factor") (.name "coeffs")) expSidesList expSideBody]

def eqnVars : List String := ["mat", "rhs_mat", "key", "coeff", "lhs_factor", "coeffs"]

/-- one side of one equation: the loop over the entries of its coefficient dictionary -/
theorem side_exec (ctx : C15Ctx) (U S params : List Expr) (n P k : Nat) (f : Int)
    (hperm : params.Perm S) (hn : U.length = n) (hP : params.length = P) (d : Dict) (st : C15Env)
    (rowsM rowsR : List Row) (a b : Row) (hs : SSt st U S params) (hb : ASt st n P rowsM rowsR k)
    (hra : rowsM[k]? = some a) (hrb : rowsR[k]? = some b) :
    Sim (assembleSide U params f (a, b) d)
      (forStep ctx (.tup2 (.name "lhs_factor") (.name "coeffs")) expSideBody
        (.pair (.int f) (.dict d)) st)
      fun row' st' => ASt st' n P (rowsM.set k row'.1) (rowsR.set k row'.2) k ∧
        Frame eqnVars st st' := by
  have hfr1 : Frame ["lhs_factor", "coeffs"] st
      (c15Set "coeffs" (.dict d) (c15Set "lhs_factor" (.int f) st)) :=
    ((Frame.refl _ _).set _ (by simp)).set _ (by simp)
  have hfs : forStep ctx (.tup2 (.name "lhs_factor") (.name "coeffs")) expSideBody
      (.pair (.int f) (.dict d)) st =
      c15For (forStep ctx (.tup2 (.name "key") (.name "coeff")) expKeyBody) (itemsOf d)
        (c15Set "coeffs" (.dict d) (c15Set "lhs_factor" (.int f) st)) := by
    simp only [forStep, c15Bind, Option.bind, expSideBody, execL_single,
      exec_forIn_items ctx _ "coeffs" _ _ d (c15Get_set_eq _ _ _)]
  rw [hfs]
  refine (side_loop ctx U S params n P k f hperm hn hP d _ rowsM rowsR a b
    (hs.frame hfr1 (by decide +kernel)) (hb.frame hfr1 (by simp) (by simp) (by simp))
    (by simp [c15Get_set]) hra hrb).mono ?_
  rintro row' st2 ⟨ha2, hfr2⟩
  exact ⟨ha2, (hfr1.mono (by decide +kernel)).trans (hfr2.mono (by decide +kernel))⟩

/-- the row `assembleRow` builds, started from the current content `(a, b)` of row `k` -/
def assembleRowFrom (unknowns params : List Expr) (ab : ARow) (eq : Expr × Expr) : CR ARow := do
  let dl ← coeffs none eq.1
  let dr ← coeffs none eq.2
  let row ← assembleSide unknowns params 1 ab dl
  assembleSide unknowns params (-1) row dr

theorem eqn_exec (ctx : C15Ctx) (hcoll : ctx.collect = c15CoeffsT c15ExpTable) (U S params : List Expr)
    (n P k : Nat) (hperm : params.Perm S) (hn : U.length = n) (hP : params.length = P)
    (l r : Expr) (st : C15Env) (rowsM rowsR : List Row) (a b : Row) (hs : SSt st U S params)
    (hb : ASt st n P rowsM rowsR k) (hl : c15Get "lhs" st = some (.ex l))
    (hr : c15Get "rhs" st = some (.ex r)) (hra : rowsM[k]? = some a) (hrb : rowsR[k]? = some b) :
    Sim (assembleRowFrom U params (a, b) (l, r)) (C15S.execL ctx expEqnBody st)
      fun row' st' => ASt st' n P (rowsM.set k row'.1) (rowsR.set k row'.2) k ∧
        Frame eqnVars st st' := by
  have hcall : ∀ (x : String) (e : Expr), c15Get x st = some (.ex e) →
      (C15E.callVar "coeff_coll" [.var x]).eval ctx st = (c15LiftCR (coeffs none e)).map .dict := by
    intro x e hx
    rw [eval_callVar, hs.hcc]
    simp only [evalL_cons, evalL_nil, eval_var ctx x st _ hx, bind, Except.bind, pure,
      Except.pure, c15CallObj, C15Val.toExpr?, hcoll, coeffsT_exp]
    cases coeffs none e <;> rfl
  have hgen : expSidesList.eval ctx st = (do
      let a ← (c15LiftCR (coeffs none l)).map C15Val.dict
      let b ← (c15LiftCR (coeffs none r)).map C15Val.dict
      pure (C15Val.list [.pair (.int 1) a, .pair (.int (-1)) b])) := by
    simp only [expSidesList, eval_listLit, evalL_cons, evalL_nil, eval_tuple2, eval_lit,
      hcall "lhs" l hl, hcall "rhs" r hr, bind, Except.bind, pure, Except.pure]
    cases coeffs none l <;> cases coeffs none r <;> rfl
  simp only [expEqnBody, execL_single, exec_forIn, assembleRowFrom, hgen]
  cases hdl : coeffs none l with
  | error e => rfl
  | ok dl =>
    cases hdr : coeffs none r with
    | error e => rfl
    | ok dr =>
      have hkM : k < rowsM.length := (List.getElem?_eq_some_iff.1 hra).1
      have hkR : k < rowsR.length := (List.getElem?_eq_some_iff.1 hrb).1
      simp only [c15LiftCR, Except.map, bind, Except.bind, pure, Except.pure, c15Items]
      refine Sim.iter (side_exec ctx U S params n P k 1 hperm hn hP dl st rowsM rowsR a b hs hb hra hrb) ?_
      rintro row1 st1 ⟨hb1, hfr1⟩
      refine (Sim.last (side_exec ctx U S params n P k (-1) hperm hn hP dr st1 _ _ row1.1 row1.2
        (hs.frame hfr1 (by decide +kernel)) hb1
        (by simp [hkM]) (by simp [hkR]))).mono ?_
      rintro row2 st2 ⟨hb2, hfr2⟩
      exact ⟨by simpa only [List.set_set] using hb2, hfr1.trans hfr2⟩

def asmVars : List String :=
  ["mat", "rhs_mat", "key", "coeff", "lhs_factor", "coeffs", "i_eqn", "lhs", "rhs"]

theorem assembleRow_from (U params : List Expr) (eq : Expr × Expr) :
    assembleRow U params eq =
      assembleRowFrom U params (zeroRow U.length, zeroRow (params.length + 1)) eq := by
  simp only [assembleRow, assembleRowFrom]

theorem set_append_mid {α : Type} (pre : List α) (z : α) (zs : List α) (v : α) :
    (pre ++ z :: zs).set pre.length v = (pre ++ [v]) ++ zs := by
  simp

theorem assemble_loop (ctx : C15Ctx) (hcoll : ctx.collect = c15CoeffsT c15ExpTable)
    (U S params : List Expr) (hperm : params.Perm S) :
    ∀ (eqs : List (Expr × Expr)) (st : C15Env) (doneM doneR : List Row), SSt st U S params →
      c15Get "mat" st = some (.arr U.length (doneM ++ List.replicate eqs.length (zeroRow U.length))) →
      c15Get "rhs_mat" st = some (.arr (params.length + 1)
        (doneR ++ List.replicate eqs.length (zeroRow (params.length + 1)))) →
      doneM.length = doneR.length →
      Sim (eqs.mapM (assembleRow U params))
        (c15For (forStep ctx (.tup2 (.name "i_eqn") (.tup2 (.name "lhs") (.name "rhs"))) expEqnBody)
          (c15Enum doneM.length (eqs.map eqVal)) st)
        fun rows st' => c15Get "mat" st' = some (.arr U.length (doneM ++ rows.map (·.1))) ∧
          c15Get "rhs_mat" st' = some (.arr (params.length + 1) (doneR ++ rows.map (·.2))) ∧
          Frame asmVars st st'
  | [], st, doneM, doneR, hs, hm, hr, _ =>
    ⟨st, rfl, by simpa using hm, by simpa using hr, Frame.refl _ _⟩
  | (l, r) :: rest, st, doneM, doneR, hs, hm, hr, hlen => by
    have hfr1 : Frame ["i_eqn", "lhs", "rhs"] st (c15Set "rhs" (.ex r) (c15Set "lhs" (.ex l)
        (c15Set "i_eqn" (.int (doneM.length : Int)) st))) :=
      (((Frame.refl _ _).set _ (by simp)).set _ (by simp)).set _ (by simp)
    have hstep := eqn_exec ctx hcoll U S params U.length params.length doneM.length hperm rfl rfl l r _
      (doneM ++ zeroRow U.length :: List.replicate rest.length (zeroRow U.length))
      (doneR ++ zeroRow (params.length + 1) :: List.replicate rest.length (zeroRow (params.length + 1)))
      (zeroRow U.length) (zeroRow (params.length + 1)) (hs.frame hfr1 (by decide +kernel))
      ⟨by simpa [c15Get_set, List.replicate_succ] using hm,
        by simpa [c15Get_set, List.replicate_succ] using hr, by simp [c15Get_set]⟩
      (by simp [c15Get_set]) (by simp) (by simp) (by rw [hlen]; simp)
    rw [← assembleRow_from] at hstep
    simp only [List.mapM_cons, List.map_cons, c15Enum]
    refine Sim.iter hstep ?_
    rintro row' st2 ⟨hb2, hfr2⟩
    have hfr12 : Frame asmVars st st2 :=
      (hfr1.mono (by decide +kernel)).trans (hfr2.mono (by decide +kernel))
    have hm2 := hb2.hmat
    have hr2 := hb2.hrhs
    rw [set_append_mid] at hm2
    rw [hlen, set_append_mid] at hr2
    have ih := assemble_loop ctx hcoll U S params hperm rest st2 (doneM ++ [row'.1]) (doneR ++ [row'.2])
      (hs.frame hfr12 (by decide +kernel)) hm2 hr2 (by simp [hlen])
    simp only [List.length_append, List.length_singleton] at ih
    exact ih.map _ fun rows st3 ⟨hm3, hr3, hfr3⟩ =>
      ⟨by simpa using hm3, by simpa using hr3, hfr12.trans hfr3⟩

/-! ### reading the unknowns off the reduced system -/

/-- `np.where(mat[:, j])` yields the indices (counted from `i0`) of the rows that are non-zero in
column `j`; if there is exactly one, it is the row `solveCol` picks -/
theorem where_spec (j : Nat) (s : List ARow) (i0 : Nat) :
    ∃ ks : List Nat, c15Where i0 (s.map fun r => rowGet r.1 j) = ks.map (fun (k : Nat) => C15Val.int (k : Int)) ∧
      ks.length = (s.filter fun r => rowGet r.1 j ≠ 0).length ∧
      ∀ k, ks = [k] → i0 ≤ k ∧ ∃ r, s[k - i0]? = some r ∧ (s.filter fun r => rowGet r.1 j ≠ 0) = [r] := by
  induction s generalizing i0 with
  | nil => exact ⟨[], rfl, rfl, nofun⟩
  | cons r t ih =>
    obtain ⟨ks', h1, h2, h3⟩ := ih (i0 + 1)
    by_cases hz : rowGet r.1 j = 0
    · have hf := List.filter_cons_of_neg (p := fun r : ARow => decide (rowGet r.1 j ≠ 0)) (l := t)
        (a := r) (by simpa using hz)
      refine ⟨ks', ?_, hf ▸ h2, fun k hk => ?_⟩
      · rw [List.map_cons, c15Where, if_neg (not_not.2 hz), h1]
      · obtain ⟨hle, r', hr', hf'⟩ := h3 k hk
        refine ⟨Nat.le_of_succ_le hle, r', ?_, hf ▸ hf'⟩
        rw [show k - i0 = k - (i0 + 1) + 1 by omega, List.getElem?_cons_succ]
        exact hr'
    · have hf := List.filter_cons_of_pos (p := fun r : ARow => decide (rowGet r.1 j ≠ 0)) (l := t)
        (a := r) (by simpa using hz)
      refine ⟨i0 :: ks', ?_, ?_, fun k hk => ?_⟩
      · rw [List.map_cons, c15Where, if_pos hz, h1]
        rfl
      · rw [hf, List.length_cons, List.length_cons, h2]
      · cases hk
        rw [hf, List.length_eq_zero_iff.1 h2.symm, Nat.sub_self]
        exact ⟨Nat.le_refl _, r, rfl, rfl⟩

def expZipBody : List C15S := [
  .aug "unknown_val" .add
    (.bin .mul (.bin .floordiv (.call "int" [.var "coeff"]) (.var "div")) (.var "parameter"))]

def zipVars : List String := ["parameter", "coeff", "unknown_val"]

theorem zip_loop (ctx : C15Ctx) (d : Int) (hd : d ≠ 0) : ∀ (ps : List Expr) (row : Row) (st : C15Env)
    (v : C15Val) (acc : Expr), c15Get "unknown_val" st = some v → Scal v acc →
    c15Get "div" st = some (.int d) →
    Sim (assembleLoop acc ps (row.map (Int.fdiv · d)))
      (c15For (forStep ctx (.tup2 (.name "parameter") (.name "coeff")) expZipBody)
        (List.zipWith C15Val.pair (ps.map .ex) (row.map .int)) st)
      fun acc' st' => (∃ v', c15Get "unknown_val" st' = some v' ∧ Scal v' acc') ∧ Frame zipVars st st'
  | [], row, st, v, acc, hv, hs, hdv => ⟨st, rfl, ⟨v, hv, hs⟩, Frame.refl _ _⟩
  | p :: ps, [], st, v, acc, hv, hs, hdv => ⟨st, rfl, ⟨v, hv, hs⟩, Frame.refl _ _⟩
  | p :: ps, c :: row, st, v, acc, hv, hs, hdv => by
    have hfr1 : Frame zipVars st (c15Set "coeff" (.int c) (c15Set "parameter" (.ex p) st)) :=
      ((Frame.refl _ _).set _ (by simp [zipVars])).set _ (by simp [zipVars])
    have hrhs : (C15E.bin .mul (.bin .floordiv (.call "int" [.var "coeff"]) (.var "div"))
        (.var "parameter")).eval ctx (c15Set "coeff" (.int c) (c15Set "parameter" (.ex p) st)) =
        (c15LiftCR (pyBin .mul (.const (.int (Int.fdiv c d))) p)).map .ex := by
      have h2 : (C15E.bin .floordiv (.call "int" [.var "coeff"]) (.var "div")).eval ctx
          (c15Set "coeff" (.int c) (c15Set "parameter" (.ex p) st)) = .ok (.int (Int.fdiv c d)) := by
        simp [c15Get_set, hdv, bind, Except.bind, pure, Except.pure, c15Builtin,
          c15Bin, c15IntOp, hd]
      rw [eval_bin, h2, eval_var ctx "parameter" _ (.ex p) (by simp [c15Get_set])]
      simp only [bind, Except.bind]
      exact c15Bin_scal_ex _ .mul _ _ p (Or.inr ⟨_, rfl, rfl⟩)
    have hstep : Sim (pyBin .mul (.const (.int (Int.fdiv c d))) p >>= fun t => pyBin .add acc t)
        (forStep ctx (.tup2 (.name "parameter") (.name "coeff")) expZipBody (.pair (.ex p) (.int c)) st)
        fun acc1 st' => st' = c15Set "unknown_val" (.ex acc1)
          (c15Set "coeff" (.int c) (c15Set "parameter" (.ex p) st)) := by
      have hv1 : c15Get "unknown_val" (c15Set "coeff" (.int c) (c15Set "parameter" (.ex p) st)) = some v := by
        simp [c15Get_set, hv]
      simp only [forStep, c15Bind, Option.bind, expZipBody, execL_single, exec_aug, hv1, hrhs, bind,
        Except.bind]
      cases pyBin .mul (.const (.int (Int.fdiv c d))) p with
      | error e => rfl
      | ok t =>
        simp only [c15LiftCR, Except.map, c15Bin_scal_ex _ .add v acc t hs, C15BinOp.py]
        cases pyBin .add acc t with
        | error e => rfl
        | ok acc1 => exact ⟨_, rfl, rfl⟩
    refine (Sim.iter (g := fun acc1 => assembleLoop acc1 ps (row.map (Int.fdiv · d))) hstep ?_).model_eq
      (by simp only [List.map_cons, assembleLoop, bind_assoc])
    rintro acc1 _ rfl
    refine (zip_loop ctx d hd ps row _ (.ex acc1) acc1 (c15Get_set_eq _ _ _) (Or.inl rfl)
      (by simp [c15Get_set, hdv])).mono ?_
    rintro acc' st' ⟨h1, h2⟩
    exact ⟨h1, (hfr1.set _ (by simp [zipVars])).trans h2⟩

def expReadBody : List C15S := [
  .unpack1 "nonz_row" (.call "numpy.where" [.col (.var "mat") (.var "j")]),
  .ifThen (.cmp .ne (.call "len" [.var "nonz_row"]) (.lit 1))
    [.raise_ "RuntimeError" "cannot uniquely solve for '{}'"] [],
  .unpack1 "nonz_row" (.var "nonz_row"),
  .ifThen (.cmp .ne (.call "abs" [.index2 (.var "mat") (.var "nonz_row") (.var "j")]) (.lit 1))
    [.raise_ "RuntimeError" "division with remainder in linear solve for '{}'"] [],
  .assign (.name "div") (.index2 (.var "mat") (.var "nonz_row") (.var "j")),
  .assign (.name "unknown_val")
    (.bin .floordiv (.call "int" [.index2 (.var "rhs_mat") (.var "nonz_row") (.lit (-1))]) (.var "div")),
  .forIn (.tup2 (.name "parameter") (.name "coeff"))
    (.call "zip" [.var "parameters_list", .index (.var "rhs_mat") (.var "nonz_row")]) expZipBody,
  .setSubs ["result"] [.var "unknown"] [.var "unknown_val"]]

def readVars : List String := ["nonz_row", "div", "unknown_val", "parameter", "coeff", "result"]

theorem solveCol_notUnique (s : List ARow) (j : Nat)
    (h : (s.filter fun r => rowGet r.1 j ≠ 0).length ≠ 1) : solveCol s j = .error .notUnique := by
  unfold solveCol
  split
  · rename_i r hr; exact absurd (congrArg List.length hr) h
  · rfl

theorem getLastD_map_fdiv (l : Row) (P : Nat) (d : Int) (h : l.length = P + 1) :
    (l.map (Int.fdiv · d)).getLastD 0 = Int.fdiv (rowGet l P) d := by
  have ha : l[P]? = some l[P] := List.getElem?_eq_getElem (by omega)
  rw [List.getLastD_eq_getLast?, List.getLast?_map, List.getLast?_eq_getElem?, h, Nat.add_sub_cancel,
    ha, rowGet, List.getD_eq_getElem?_getD, ha]
  rfl

/-- `len(x) != 1` / `abs(x) != 1` on a natural number, as the interpreter computes it -/
theorem ne_one_cast (a : Nat) : (!((a : Int) == 1)) = decide (a ≠ 1) := by
  simpa using ne_cast a 1

theorem read_step (ctx : C15Ctx) (st : C15Env) (U S params : List Expr) (n P j : Nat) (s : List ARow)
    (u : Expr) (res : Dict) (hs : SSt st U S params)
    (hmat : c15Get "mat" st = some (.arr n (s.map (·.1))))
    (hrhs : c15Get "rhs_mat" st = some (.arr (P + 1) (s.map (·.2))))
    (hj : c15Get "j" st = some (.int j)) (hjn : j < n) (hu : c15Get "unknown" st = some (.ex u))
    (hres : c15Get "result" st = some (.dict res)) (hrect : ∀ r ∈ s, r.2.length = P + 1) :
    Sim (do let row ← solveCol s j; assembleVal params row) (C15S.execL ctx expReadBody st)
      fun v st' => c15Get "result" st' = some (.dict (c15DictSet res u v)) ∧ Frame readVars st st' := by
  obtain ⟨ks, hw1, hw2, hw3⟩ := where_spec j s 0
  -- `(nonz_row,) = np.where(mat[:, j])`
  have e1 : C15S.exec ctx (.unpack1 "nonz_row" (.call "numpy.where" [.col (.var "mat") (.var "j")])) st
      = .ok (c15Set "nonz_row" (.list (ks.map fun (k : Nat) => C15Val.int (k : Int))) st) := by
    have hc : (C15E.col (.var "mat") (.var "j")).eval ctx st =
        .ok (.row (s.map fun r => rowGet r.1 j)) := by
      simp [hmat, hj, bind, Except.bind, pure, Except.pure, C15Val.toInt?, colIdx_nat n j hjn,
        List.map_map, Function.comp]
    simp only [exec_unpack1, eval_call, evalL_cons, evalL_nil, hc, bind, Except.bind, pure, Except.pure,
      c15Builtin, hw1]
  have hlen : c15Cond ctx (.cmp .ne (.call "len" [.var "nonz_row"]) (.lit 1))
      (c15Set "nonz_row" (.list (ks.map fun (k : Nat) => C15Val.int (k : Int))) st) =
      .ok (decide (ks.length ≠ 1)) := by
    simp only [c15Cond, eval_cmp, eval_call, evalL_cons, evalL_nil, eval_var ctx _ _ _ (c15Get_set_eq _ _ _),
      eval_lit, bind, Except.bind, pure, Except.pure, c15Builtin, List.length_map, c15Cmp, c15ValEq,
      ne_one_cast, c15Truthy]
  simp only [expReadBody]
  rw [execL_cons_ok ctx _ _ _ _ e1, execL_guard ctx _ _ _ _ _ _ hlen]
  by_cases hl : ks.length = 1
  swap
  · -- not exactly one non-zero entry in the column
    rw [solveCol_notUnique s j (by rw [← hw2]; exact hl)]
    simp [hl, Sim, SimO, c15ErrOf, bind, Except.bind]
  obtain ⟨k, rfl⟩ : ∃ k, ks = [k] := by
    match ks, hl with
    | [k], _ => exact ⟨k, rfl⟩
  obtain ⟨_, r, hr, hfil⟩ := hw3 k rfl
  simp only [Nat.sub_zero] at hr
  have hrl : r.2.length = P + 1 := hrect r (List.mem_of_getElem? hr)
  have hnk : ¬ ((k : Int) < 0) := by omega
  have hkl : k < s.length := (List.getElem?_eq_some_iff.1 hr).1
  simp only [List.length_singleton, ne_eq, not_true_eq_false, decide_false, Bool.false_eq_true, if_false,
    List.map_cons, List.map_nil]
  -- `(nonz_row,) = nonz_row`
  rw [execL_cons_ok ctx _ _ _ (c15Set "nonz_row" (.int (k : Int)) (c15Set "nonz_row" (.list [.int (k : Int)]) st))
    (by simp only [exec_unpack1, eval_var ctx _ _ _ (c15Get_set_eq _ _ _)])]
  generalize hst2 : c15Set "nonz_row" (.int (k : Int)) (c15Set "nonz_row" (.list [.int (k : Int)]) st) = st2
  have hfr2 : Frame readVars st st2 := by
    subst hst2; exact ((Frame.refl _ _).set _ (by simp [readVars])).set _ (by simp [readVars])
  have hnz2 : c15Get "nonz_row" st2 = some (.int k) := by subst hst2; exact c15Get_set_eq _ _ _
  have hmat2 : c15Get "mat" st2 = some (.arr n (s.map (·.1))) := (hfr2 _ (by simp [readVars])).trans hmat
  have hrhs2 : c15Get "rhs_mat" st2 = some (.arr (P + 1) (s.map (·.2))) :=
    (hfr2 _ (by simp [readVars])).trans hrhs
  have hent := eval_entry ctx st2 "mat" "nonz_row" "j" n (s.map (·.1)) k j r.1 hmat2 hnz2
    ((hfr2 _ (by simp [readVars])).trans hj) (by simp [hr]) hjn
  have habs : c15Cond ctx (.cmp .ne (.call "abs" [.index2 (.var "mat") (.var "nonz_row") (.var "j")])
      (.lit 1)) st2 = .ok (decide ((rowGet r.1 j).natAbs ≠ 1)) := by
    simp only [c15Cond, eval_cmp, eval_call, evalL_cons, evalL_nil, hent, eval_lit, bind, Except.bind,
      pure, Except.pure, c15Builtin, c15Cmp, c15ValEq, ne_one_cast, c15Truthy]
  have hsc : solveCol s j = if (rowGet r.1 j).natAbs ≠ 1 then .error .remainder
      else .ok (r.2.map (Int.fdiv · (rowGet r.1 j))) := by
    unfold solveCol
    rw [hfil]
    by_cases hd1 : (rowGet r.1 j).natAbs = 1 <;> simp [hd1, throw, throwThe, MonadExceptOf.throw, pure,
      Except.pure]
  rw [execL_guard ctx _ _ _ _ _ _ habs, hsc]
  by_cases hd1 : (rowGet r.1 j).natAbs = 1
  swap
  · simp [hd1, Sim, SimO, c15ErrOf, bind, Except.bind]
  have hd0 : rowGet r.1 j ≠ 0 := by intro h0; rw [h0] at hd1; simp at hd1
  simp only [hd1, ne_eq, not_true_eq_false, decide_false, Bool.false_eq_true, if_false, bind, Except.bind]
  -- `div = mat[nonz_row, j]`, `unknown_val = int(rhs_mat[nonz_row, -1]) // div`
  rw [execL_assign ctx _ _ _ _ _ hent]
  have huv : (C15E.bin .floordiv (.call "int" [.index2 (.var "rhs_mat") (.var "nonz_row")
      (.lit (-1))]) (.var "div")).eval ctx (c15Set "div" (.int (rowGet r.1 j)) st2) =
      .ok (.int (Int.fdiv (rowGet r.2 P) (rowGet r.1 j))) := by
    simp [c15Get_set, hrhs2, hnz2, bind, Except.bind, pure, Except.pure,
      C15Val.toInt?, hnk, hr, colIdx_last, c15Builtin, c15Bin, c15IntOp, hd0]
  rw [execL_assign ctx _ _ _ _ _ huv]
  generalize hst4 : c15Set "unknown_val" (.int (Int.fdiv (rowGet r.2 P) (rowGet r.1 j)))
    (c15Set "div" (.int (rowGet r.1 j)) st2) = st4
  have hfr4 : Frame readVars st st4 := by
    subst hst4; exact (hfr2.set _ (by simp [readVars])).set _ (by simp [readVars])
  have hrhs4 : c15Get "rhs_mat" st4 = some (.arr (P + 1) (s.map (·.2))) :=
    (hfr4 _ (by simp [readVars])).trans hrhs
  -- the `zip` loop
  have hzip : (C15E.call "zip" [.var "parameters_list", .index (.var "rhs_mat") (.var "nonz_row")]).eval
      ctx st4 = .ok (.list (List.zipWith C15Val.pair (params.map .ex) (r.2.map .int))) := by
    have hnz4 : c15Get "nonz_row" st4 = some (.int k) := by subst hst4; simp [c15Get_set, hnz2]
    have hidx : (C15E.index (.var "rhs_mat") (.var "nonz_row")).eval ctx st4 =
        .ok (.rowRef "rhs_mat" k) := by
      simp [hrhs4, hnz4, bind, Except.bind, pure, Except.pure, hnk, hkl]
    have hdr : c15Deref st4 (.rowRef "rhs_mat" k) = some r.2 := by simp [c15Deref, hrhs4, hr]
    simp only [eval_call, evalL_cons, evalL_nil,
      eval_var ctx _ st4 _ ((hfr4 _ (by simp [readVars])).trans hs.hPl), hidx, bind, Except.bind,
      pure, Except.pure, c15Builtin, c15Items, hdr, Option.map_some]
  have hzl := zip_loop ctx (rowGet r.1 j) hd0 params r.2 st4 _
    (.const (.int (Int.fdiv (rowGet r.2 P) (rowGet r.1 j))))
    (by subst hst4; exact c15Get_set_eq _ _ _) (Or.inr ⟨_, rfl, rfl⟩)
    (by subst hst4; simp [c15Get_set])
  simp only [assembleVal, getLastD_map_fdiv r.2 P _ hrl]
  rw [← bind_pure (assembleLoop _ params _)]
  refine Sim.seq (Q := fun acc' st' => (∃ v', c15Get "unknown_val" st' = some v' ∧ Scal v' acc') ∧
    Frame zipVars st4 st') (by rw [exec_forIn, hzip]; exact hzl) ?_
  rintro v st5 ⟨⟨v5, hv5, hsc5⟩, hfr5⟩
  have hfr45 : Frame readVars st st5 := hfr4.trans (hfr5.mono (by decide +kernel))
  refine ⟨c15Set "result" (.dict (c15DictSet res u v)) st5, ?_, c15Get_set_eq _ _ _,
    hfr45.set _ (by simp [readVars])⟩
  have hu5 : c15Get "unknown" st5 = some (.ex u) := (hfr45 _ (by simp [readVars])).trans hu
  have hres5 : c15Get "result" st5 = some (.dict res) := by
    rw [hfr5 _ (by simp [zipVars])]
    subst hst4 hst2
    simp [c15Get_set, hres]
  have hue : (C15Val.ex u).toExpr? = some u := rfl
  simp [hv5, hu5,
    bind, Except.bind, pure, Except.pure, c15StoreSubs, hres5, hue, scal_toExpr hsc5, c15OfR]

def loopVars : List String :=
  ["nonz_row", "div", "unknown_val", "parameter", "coeff", "result", "j", "unknown"]

theorem read_loop (ctx : C15Ctx) (U S params : List Expr) (n P : Nat) (s : List ARow)
    (hrect : ∀ r ∈ s, r.2.length = P + 1) :
    ∀ (us : List Expr) (j0 : Nat) (st : C15Env) (res : Dict), SSt st U S params →
      c15Get "mat" st = some (.arr n (s.map (·.1))) →
      c15Get "rhs_mat" st = some (.arr (P + 1) (s.map (·.2))) →
      c15Get "result" st = some (.dict res) → j0 + us.length ≤ n →
      (∀ a ∈ res, ∀ b ∈ us, a.1.pyEq b = false) → DistinctE us →
      Sim (solveRows params s (List.range' j0 us.length))
        (c15For (forStep ctx (.tup2 (.name "j") (.name "unknown")) expReadBody)
          (c15Enum j0 (us.map .ex)) st)
        fun vals st' => c15Get "result" st' = some (.dict (res ++ us.zip vals))
  | [], j0, st, res, hs, hm, hr, hres, _, _, _ => ⟨st, rfl, by simpa using hres⟩
  | u :: us, j0, st, res, hs, hm, hr, hres, hle, hdis, hd => by
    have hd' := List.pairwise_cons.1 hd
    have hfr1 : Frame ["j", "unknown"] st (c15Set "unknown" (.ex u) (c15Set "j" (.int (j0 : Int)) st)) :=
      ((Frame.refl _ _).set _ (by simp)).set _ (by simp)
    have hstep : Sim (do let row ← solveCol s j0; assembleVal params row)
        (forStep ctx (.tup2 (.name "j") (.name "unknown")) expReadBody (.pair (.int (j0 : Int)) (.ex u)) st)
        fun v st' => c15Get "result" st' = some (.dict (c15DictSet res u v)) ∧
          Frame readVars (c15Set "unknown" (.ex u) (c15Set "j" (.int (j0 : Int)) st)) st' :=
      read_step ctx _ U S params n P j0 s u res (hs.frame hfr1 (by decide +kernel))
        ((hfr1 _ (by simp)).trans hm) ((hfr1 _ (by simp)).trans hr) (by simp [c15Get_set])
        (by simp at hle; omega) (by simp) ((hfr1 _ (by simp)).trans hres) hrect
    refine (Sim.iter (g := fun v => solveRows params s (List.range' (j0 + 1) us.length) >>=
        fun vs => pure (v :: vs)) hstep ?_).model_eq
      (by simp only [List.length_cons, List.range'_succ, solveRows, bind_assoc])
    rintro v st2 ⟨hres2, hfr2⟩
    rw [dictSet_append res u v (fun a ha => hdis a ha u (by simp))] at hres2
    have hfr : Frame loopVars st st2 :=
      (hfr1.mono (by decide +kernel)).trans (hfr2.mono (by decide +kernel))
    refine (read_loop ctx U S params n P s hrect us (j0 + 1) st2 (res ++ [(u, v)])
      (hs.frame hfr (by decide +kernel)) ((hfr _ (by simp [loopVars])).trans hm)
      ((hfr _ (by simp [loopVars])).trans hr) hres2 (by simp at hle; omega)
      (by
        intro a ha b hb
        simp only [List.mem_append, List.mem_singleton] at ha
        rcases ha with ha | rfl
        · exact hdis a ha b (by simp [hb])
        · exact hd'.1 b hb) hd'.2).map _ ?_
    intro vals st3 hres3
    simpa using hres3

/-! ### `solve_affine_equations_for` -/

def expSolveBody : List C15S := [
  .importName "numpy" "" "np",
  .importName "pymbolic.mapper.dependency" "DependencyMapper" "DependencyMapper",
  .assign (.name "dep_map") (.construct "DependencyMapper" ["composite_leaves"] [.boolLit true]),
  .importName "pymbolic" "var" "var",
  .assign (.name "unknowns") (.listComp (.mkNode "Variable" [.var "u"]) (.name "u") (.var "unknowns")),
  .assign (.name "unknowns_set") (.call "set" [.var "unknowns"]),
  .assign (.name "unknown_idx_lut") (.dictComp (.var "tgt_name") (.var "idx")
    (.tup2 (.name "idx") (.name "tgt_name")) (.call "enumerate" [.var "unknowns"])),
  .assign (.name "parameters") (.call "set" []),
  .forIn (.tup2 (.name "lhs") (.name "rhs")) (.var "equations") expParamBody,
  .assign (.name "parameters_list") (.call "list" [.var "parameters"]),
  .assign (.name "parameter_idx_lut") (.dictComp (.var "var_name") (.var "idx")
    (.tup2 (.name "idx") (.name "var_name")) (.call "enumerate" [.var "parameters_list"])),
  .importName "pymbolic.mapper.coefficient" "CoefficientCollector" "CoefficientCollector",
  .assign (.name "coeff_coll") (.construct "CoefficientCollector" [] []),
  .assign (.name "mat") (.call "numpy.zeros"
    [.call "len" [.var "equations"], .call "len" [.var "unknowns_set"]]),
  .assign (.name "rhs_mat") (.call "numpy.zeros"
    [.call "len" [.var "equations"], .bin .add (.call "len" [.var "parameters"]) (.lit 1)]),
  .forIn (.tup2 (.name "i_eqn") (.tup2 (.name "lhs") (.name "rhs"))) (.call "enumerate" [.var "equations"])
    expEqnBody,
  .assign (.tup2 (.name "mat") (.name "rhs_mat"))
    (.call "gaussian_elimination" [.var "mat", .var "rhs_mat"]),
  .assign (.name "result") .emptyDict,
  .forIn (.tup2 (.name "j") (.name "unknown")) (.call "enumerate" [.var "unknowns"]) expReadBody,
  .deadIf,
  .ret (.var "result")]

def expSolveFn : C15Fn :=
  { name := "solve_affine_equations_for", definedIn := "solve_affine_equations_for",
    params := ["unknowns", "equations"], vararg := "", body := expSolveBody }

theorem exp_fn_solve : c15ExpTable.fn "solve_affine_equations_for" = some expSolveFn := by rfl

theorem exprsOf_map : ∀ l : List Expr, c15ExprsOf (l.map C15Val.ex) = some l
  | [] => rfl
  | x :: xs => by simp [c15ExprsOf, exprsOf_map xs]

theorem builtin_gauss (ctx : C15Ctx) (st : C15Env) (args : List C15Val) :
    c15Builtin ctx st "gaussian_elimination" args = ctx.callFn "gaussian_elimination" args := by
  rw [c15Builtin] <;> intros <;> simp at *

/-- the parameter set and the order in which `list(parameters)` enumerates it -/
def paramOrder (order : List Expr → Option (List Expr)) (U : List Expr) (eqs : List (Expr × Expr)) :
    CR (List Expr × List Expr) := do
  let S ← paramSetL U [] eqs
  match order S with
  | none => throw .noClaim
  | some params => pure (S, params)

theorem paramOrder_ok {order : List Expr → Option (List Expr)} {U : List Expr}
    {eqs : List (Expr × Expr)} {S params : List Expr} (h : paramOrder order U eqs = .ok (S, params)) :
    paramSetL U [] eqs = .ok S ∧ order S = some params := by
  obtain ⟨S', hps, h⟩ := bind_ok.1 h
  cases hor : order S' with
  | none => rw [hor] at h; cases h
  | some p => rw [hor] at h; cases h; exact ⟨hps, hor⟩

/-- the preamble (statements 1–15): the look-up tables, the parameter set, the two zero arrays -/
theorem solve_preamble (ctx : C15Ctx) (hinit : ctx.init = c15ExpInit) (names : List String)
    (eqs : List (Expr × Expr)) (hn : names.Nodup)
    (hord : ∀ S params, paramSetL (names.map Expr.var) [] eqs = .ok S → ctx.order S = some params →
      DistinctE params ∧ params.length = S.length) :
    Sim (paramOrder ctx.order (names.map Expr.var) eqs)
      (C15S.execL ctx (expSolveBody.take 15)
        (c15Set "equations" (.list (eqs.map eqVal)) (c15Set "unknowns" (.list (names.map .str)) [])))
      fun Sp st' => SSt st' (names.map Expr.var) Sp.1 Sp.2 ∧
        c15Get "equations" st' = some (.list (eqs.map eqVal)) ∧
        c15Get "mat" st' = some (.arr names.length (List.replicate eqs.length (zeroRow names.length))) ∧
        c15Get "rhs_mat" st' = some (.arr (Sp.2.length + 1)
          (List.replicate eqs.length (zeroRow (Sp.2.length + 1)))) := by
  have hU : DistinctE (names.map Expr.var) := distinct_vars names hn
  -- statements 1–8
  generalize hst0 : (c15Set "equations" (.list (eqs.map eqVal))
    (c15Set "unknowns" (.list (names.map .str)) [])) = st0
  have e3 : (C15E.construct "DependencyMapper" ["composite_leaves"] [.boolLit true]).eval ctx st0 =
      .ok (.depMapper compositeFlags) := by
    simp [bind, Except.bind, pure, Except.pure, c15Construct]
  have e5 := eval_varsComp ctx (c15Set "dep_map" (.depMapper compositeFlags) st0) names
    (by subst hst0; simp [c15Get, c15Set])
  generalize hst5 : c15Set "unknowns" (.list ((names.map Expr.var).map .ex))
    (c15Set "dep_map" (.depMapper compositeFlags) st0) = st5 at e5
  have h5u : c15Get "unknowns" st5 = some (.list ((names.map Expr.var).map .ex)) := by
    subst hst5; exact c15Get_set_eq _ _ _
  have e6 : (C15E.call "set" [.var "unknowns"]).eval ctx st5 = .ok (.eset (names.map Expr.var)) := by
    simp only [eval_call, evalL_cons, evalL_nil, eval_var ctx _ st5 _ h5u, bind, Except.bind, pure,
      Except.pure, c15Builtin, exprsOf_map, set_of_distinct _ hU]
  have e7 := eval_lut ctx (c15Set "unknowns_set" (.eset (names.map Expr.var)) st5) "tgt_name" "unknowns"
    (by simp) (names.map Expr.var) (by simp [c15Get_set, h5u]) hU
  generalize hst8 : c15Set "parameters" (.eset []) (c15Set "unknown_idx_lut"
    (.dict (lutFrom 0 (names.map Expr.var))) (c15Set "unknowns_set" (.eset (names.map Expr.var)) st5)) = st8
  have h8 : c15Get "dep_map" st8 = some (.depMapper compositeFlags) ∧
      c15Get "unknowns_set" st8 = some (.eset (names.map Expr.var)) ∧
      c15Get "parameters" st8 = some (.eset []) ∧
      c15Get "unknowns" st8 = some (.list ((names.map Expr.var).map .ex)) ∧
      c15Get "unknown_idx_lut" st8 = some (.dict (lutFrom 0 (names.map Expr.var))) ∧
      c15Get "equations" st8 = some (.list (eqs.map eqVal)) := by
    subst hst8 hst5 hst0
    simp [c15Get, c15Set]
  obtain ⟨h8dep, h8us, h8p, h8u, h8l, h8eq⟩ := h8
  simp only [expSolveBody, List.take]
  rw [execL_cons_ok ctx _ _ st0 st0 rfl, execL_cons_ok ctx _ _ st0 st0 rfl, execL_assign ctx _ _ _ _ _ e3,
    execL_cons_ok ctx _ _ _ _ rfl, execL_assign ctx _ _ _ _ _ e5, hst5, execL_assign ctx _ _ _ _ _ e6,
    execL_assign ctx _ _ _ _ _ e7,
    execL_assign ctx _ _ _ _ (.eset []) (by simp [bind, Except.bind, c15Builtin, pure,
      Except.pure]), hst8]
  -- the parameter loop, `parameters_list = list(parameters)`
  refine Sim.seq (Sim.with_eq (by
    rw [exec_forIn_list ctx _ "equations" _ _ _ h8eq]
    exact param_loop ctx (names.map Expr.var) eqs st8 [] h8dep h8us h8p)) ?_
  rintro S st9 ⟨hS, hP9, hfr9⟩
  have e10 : (C15E.call "list" [.var "parameters"]).eval ctx st9 =
      match ctx.order S with
      | some l => .ok (.list (l.map .ex))
      | none => .error (.py .noClaim) := by
    simp only [eval_call, evalL_cons, evalL_nil, eval_var ctx _ st9 _ hP9, bind, Except.bind, pure,
      Except.pure, c15Builtin]
    cases ctx.order S <;> rfl
  rw [execL_cons, exec_assign_name, e10]
  cases hor : ctx.order S with
  | none => rfl
  | some params =>
    obtain ⟨hdp, hlen⟩ := hord S params hS hor
    simp only
    -- statements 11–15
    have e11 := eval_lut ctx (c15Set "parameters_list" (.list (params.map .ex)) st9) "var_name"
      "parameters_list" (by simp) params (c15Get_set_eq _ _ _) hdp
    rw [execL_assign ctx _ _ _ _ _ e11, execL_cons_ok ctx _ _ _ _ rfl,
      execL_assign ctx _ _ _ _ (.collector none) (by
        simp [bind, Except.bind, pure, Except.pure, c15Construct, hinit, c15ExpInit])]
    generalize hst13 : c15Set "coeff_coll" (.collector none) (c15Set "parameter_idx_lut"
      (.dict (lutFrom 0 params)) (c15Set "parameters_list" (.list (params.map .ex)) st9)) = st13
    have hfr13 : Frame ["lhs", "rhs", "parameters", "parameters_list", "parameter_idx_lut", "coeff_coll"]
        st8 st13 := by
      subst hst13
      exact (((hfr9.mono (by decide +kernel)).set _ (by simp)).set _ (by simp)).set _ (by simp)
    have h13P : c15Get "parameters" st13 = some (.eset S) := by subst hst13; simp [c15Get_set, hP9]
    have h13eq : c15Get "equations" st13 = some (.list (eqs.map eqVal)) :=
      (hfr13 _ (by simp)).trans h8eq
    have h13us : c15Get "unknowns_set" st13 = some (.eset (names.map Expr.var)) :=
      (hfr13 _ (by simp)).trans h8us
    have e14 : (C15E.call "numpy.zeros" [.call "len" [.var "equations"],
        .call "len" [.var "unknowns_set"]]).eval ctx st13 =
        .ok (.arr names.length (List.replicate eqs.length (zeroRow names.length))) := by
      simp [h13eq, h13us,
        bind, Except.bind, pure, Except.pure, c15Builtin, zeroRow]
    have e15 : (C15E.call "numpy.zeros" [.call "len" [.var "equations"],
        .bin .add (.call "len" [.var "parameters"]) (.lit 1)]).eval ctx
        (c15Set "mat" (.arr names.length (List.replicate eqs.length (zeroRow names.length))) st13) =
        .ok (.arr (params.length + 1) (List.replicate eqs.length (zeroRow (params.length + 1)))) := by
      simp [c15Get_set, h13eq, h13P, bind, Except.bind, pure, Except.pure,
        c15Builtin, zeroRow, c15Bin, c15IntOp, hlen]
    rw [execL_assign ctx _ _ _ _ _ e14, execL_assign ctx _ _ _ _ _ e15]
    refine ⟨_, rfl, ⟨?_, ?_, ?_, ?_, ?_, ?_, ?_⟩, ?_, ?_, ?_⟩
    · simp [c15Get_set, hfr13 _ (by simp : "unknowns" ∉ _), h8u]
    · simp [c15Get_set, h13us]
    · simp [c15Get_set, hfr13 _ (by simp : "unknown_idx_lut" ∉ _), h8l]
    · simp [c15Get_set, h13P]
    · subst hst13; simp [c15Get_set]
    · subst hst13; simp [c15Get_set]
    · subst hst13; simp [c15Get_set]
    · simp [c15Get_set, h13eq]
    · simp [c15Get_set]
    · simp

theorem eraseDups_nodup (l : List String) (h : l.Nodup) : l.eraseDups = l := by
  induction l with
  | nil => rfl
  | cons a as ih =>
    obtain ⟨ha, h'⟩ := List.nodup_cons.1 h
    rw [List.eraseDups_cons, List.filter_eq_self.2 fun b hb => by
      simpa using fun he : b = a => ha (he ▸ hb), ih h']

theorem rows_rect (U params : List Expr) (eqs : List (Expr × Expr)) (rows : List ARow)
    (h : eqs.mapM (assembleRow U params) = .ok rows) : Rect U.length (params.length + 1) rows := by
  intro r hr
  obtain ⟨eq, _, heq⟩ := mapM_mem eqs rows h r hr
  exact assembleRow_length heq

/-- the model's run: the parameter set, its enumeration, `solveAffine` -/
def solveModel (order : List Expr → Option (List Expr)) (names : List String)
    (eqs : List (Expr × Expr)) : CR Dict :=
  paramOrder order (names.map Expr.var) eqs >>= fun Sp => solveAffine names eqs Sp.2

/-- **The call `solve_affine_equations_for(unknowns, equations)` of the literal table is
`solveAffine`** on the enumeration `base.order` gives of the parameter set the loop builds. -/
theorem call_solve (base : C15Ctx) (f : Nat) (names : List String) (eqs : List (Expr × Expr))
    (hn : names.Nodup) (hw : base.wfuel = names.length)
    (hcoll : base.collect = c15CoeffsT c15ExpTable) (hinit : base.init = c15ExpInit)
    (hord : ∀ S params, paramSetL (names.map Expr.var) [] eqs = .ok S → base.order S = some params →
      DistinctE params ∧ params.Perm S) :
    c15CallFn c15ExpTable base (f + 4) "solve_affine_equations_for"
        [.list (names.map .str), .list (eqs.map eqVal)] =
      (c15LiftCR (solveModel base.order names eqs)).map .dict := by
  rw [show f + 4 = (f + 3) + 1 from rfl, callFn_succ, exp_fn_solve]
  generalize hctx : ({ base with callFn := c15CallFn c15ExpTable base (f + 3) } : C15Ctx) = ctx
  have hcall : ctx.callFn = c15CallFn c15ExpTable base (f + 3) := by subst hctx; rfl
  have hcoll' : ctx.collect = c15CoeffsT c15ExpTable := by subst hctx; exact hcoll
  have hinit' : ctx.init = c15ExpInit := by subst hctx; exact hinit
  have hor : ctx.order = base.order := by subst hctx; rfl
  have hU : DistinctE (names.map Expr.var) := distinct_vars names hn
  have hUl : (names.map Expr.var).length = names.length := by simp
  have hnd : (names.eraseDups.length != names.length) = false := by
    rw [eraseDups_nodup names hn]; simp
  have hbody : SimO (solveModel base.order names eqs)
      (C15S.execL ctx (expSolveBody.take 15 ++ expSolveBody.drop 15)
        (c15Set "equations" (.list (eqs.map eqVal)) (c15Set "unknowns" (.list (names.map .str)) [])))
      fun d o => o = .ret (.dict d) := by
    refine Sim.seqL (hor ▸ solve_preamble ctx hinit' names eqs hn
      (fun S params hS h => ⟨(hord S params hS (hor ▸ h)).1,
        (hord S params hS (hor ▸ h)).2.length_eq⟩)).with_eq ?_
    rintro ⟨S, params⟩ st15 ⟨hSp, hs15, heq15, hm15, hr15⟩
    have hperm : params.Perm S := (hord S params (paramOrder_ok hSp).1 (paramOrder_ok hSp).2).2
    simp only [solveAffine, hnd, Bool.false_eq_true, if_false, expSolveBody, List.drop]
      at hs15 hm15 hr15 ⊢
    -- the matrix assembly
    refine Sim.seq (Sim.with_eq (by
      rw [exec_forIn_enum ctx _ "equations" _ _ _ heq15]
      exact assemble_loop ctx hcoll' (names.map Expr.var) S params hperm eqs st15 [] [] hs15
        (by simpa [hUl] using hm15) (by simpa using hr15) rfl)) ?_
    rintro rows st16 ⟨hrows, hm16, hr16, hfr16⟩
    simp only [List.nil_append, hUl] at hm16 hr16
    rw [List.range_eq_range', hUl]
    -- the elimination
    have hrect : ∀ r ∈ gaussElim eqs.length names.length rows, r.2.length = params.length + 1 :=
      fun r hr => ((gaussElim_spec (x := fun _ => 0) (p := fun _ => 0) eqs.length names.length rows
        (rows_rect (names.map Expr.var) params eqs rows hrows)).2 r hr).2
    have hgauss : (C15E.call "gaussian_elimination" [.var "mat", .var "rhs_mat"]).eval ctx st16 =
        .ok (.pair (.arr names.length ((gaussElim eqs.length names.length rows).map (·.1)))
          (.arr (params.length + 1) ((gaussElim eqs.length names.length rows).map (·.2)))) := by
      simp only [eval_call, evalL_cons, evalL_nil, eval_var ctx _ st16 _ hm16,
        eval_var ctx _ st16 _ hr16, bind, Except.bind, pure, Except.pure, builtin_gauss, hcall]
      rw [call_gauss base f names.length (params.length + 1) rows hw, (mapM_forall₂ eqs rows hrows).length_eq.symm]
    generalize gaussElim eqs.length names.length rows = G at hrect hgauss ⊢
    rw [execL_cons_ok ctx _ _ st16 (c15Set "rhs_mat" (.arr (params.length + 1) (G.map (·.2)))
        (c15Set "mat" (.arr names.length (G.map (·.1))) st16))
      (by simp only [exec_assign, hgauss, c15Bind, Option.bind]),
      execL_assign ctx "result" .emptyDict _ _ (.dict []) rfl]
    -- the read-off
    have hfr18 : Frame ["mat", "rhs_mat", "result"] st16 (c15Set "result" (.dict [])
        (c15Set "rhs_mat" (.arr (params.length + 1) (G.map (·.2)))
          (c15Set "mat" (.arr names.length (G.map (·.1))) st16))) :=
      (((Frame.refl _ _).set _ (by simp)).set _ (by simp)).set _ (by simp)
    have hs18 := (hs15.frame hfr16 (by decide +kernel)).frame hfr18 (by decide +kernel)
    have hread := read_loop ctx (names.map Expr.var) S params names.length params.length G hrect
      (names.map Expr.var) 0 _ [] hs18 (by simp [c15Get_set]) (by simp [c15Get_set])
      (by simp) (by simp) (by simp) hU
    simp only [List.length_map] at hread
    refine Sim.seq (by rw [exec_forIn_enum ctx _ "unknowns" _ _ _ hs18.hU]; exact hread) ?_
    rintro vals st19 hres19
    simp [SimO, hres19, pure, Except.pure]
  rw [List.take_append_drop] at hbody
  simp only [expSolveFn, c15BindParams, if_true]
  exact hbody.result

theorem insPy_distinct {acc : List Expr} (x : Expr) (h : DistinctE acc) : DistinctE (insPy acc x) := by
  unfold insPy
  split
  · exact h
  · rename_i hany
    exact List.pairwise_append.2 ⟨h, List.pairwise_singleton _ _, fun a ha b hb =>
      List.mem_singleton.1 hb ▸ Bool.eq_false_iff.2 fun hax => hany (List.any_eq_true.2 ⟨a, ha, hax⟩)⟩

theorem unionPy_forward (l : List Expr) : ∀ acc : List Expr, DistinctE acc → DistinctE (unionPy acc l) := by
  induction l with
  | nil => exact fun _ h => h
  | cons x l ih => exact fun acc h => ih _ (insPy_distinct x h)

/-- the parameter set the loop builds has no two `==` elements (in its own order) -/
theorem paramSetL_distinct (U : List Expr) : ∀ (eqs : List (Expr × Expr)) (acc S : List Expr),
    DistinctE acc → paramSetL U acc eqs = .ok S → DistinctE S
  | [], acc, S, h, hS => by cases hS; exact h
  | (l, r) :: rest, acc, S, h, hS => by
    obtain ⟨dl, -, hS⟩ := bind_ok.1 hS
    obtain ⟨dr, -, hS⟩ := bind_ok.1 hS
    exact paramSetL_distinct U rest _ S (unionPy_forward _ _ (unionPy_forward _ _ h)) hS

/-- `solve_affine_equations_for` as the literal table has it is the model's run, whenever the
enumeration of the parameter set is a permutation of it without `==`-duplicates -/
theorem runSolve_model (order : List Expr → Option (List Expr)) (names : List String)
    (eqs : List (Expr × Expr)) (hn : names.Nodup)
    (hord : ∀ S params, paramSetL (names.map Expr.var) [] eqs = .ok S → order S = some params →
      DistinctE params ∧ params.Perm S) :
    c15RunSolve c15ExpTable order names eqs = c15LiftCR (solveModel order names eqs) := by
  have hmap : (eqs.map fun lr => C15Val.pair (.ex lr.1) (.ex lr.2)) = eqs.map eqVal := rfl
  unfold c15RunSolve
  rw [hmap, show (5 : Nat) = 1 + 4 from rfl,
    call_solve (c15AlgoCtx c15ExpTable order names.length) 1 names eqs hn rfl rfl rfl hord]
  show (do let v ← (c15LiftCR (solveModel order names eqs)).map C15Val.dict; _) = _
  cases solveModel order names eqs <;> rfl

/-- **`solve_affine_equations_for` as the literal table has it IS `solveAffine`.**  `order`: the
enumeration order of the parameter set (the one thing the program text does not determine). -/
theorem runSolve_exp (order : List Expr → Option (List Expr)) (names : List String)
    (eqs : List (Expr × Expr)) (hn : names.Nodup) :
    match paramSetL (names.map Expr.var) [] eqs with
    | .error e => c15RunSolve c15ExpTable order names eqs = .error (.py e)
    | .ok S => match order S with
      | none => c15RunSolve c15ExpTable order names eqs = .error (.py .noClaim)
      | some params => DistinctE params → params.Perm S →
        c15RunSolve c15ExpTable order names eqs = c15LiftCR (solveAffine names eqs params) := by
  have h := runSolve_model order names eqs hn
  cases hps : paramSetL (names.map Expr.var) [] eqs with
  | error e =>
    rw [h (fun S p hS => by rw [hps] at hS; cases hS)]
    simp only [solveModel, paramOrder, hps]
    rfl
  | ok S =>
    dsimp only
    cases hor : order S with
    | none =>
      rw [h (fun S' p hS ho => by rw [hps] at hS; cases hS; rw [hor] at ho; cases ho)]
      simp only [solveModel, paramOrder, hps, bind, Except.bind, hor]
      rfl
    | some params =>
      intro hd hp
      rw [h (fun S' p hS ho => by rw [hps] at hS; cases hS; rw [hor] at ho; cases ho; exact ⟨hd, hp⟩)]
      simp only [solveModel, paramOrder, hps, bind, Except.bind, hor]
      rfl

end PV.Coeff
