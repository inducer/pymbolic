import PV.Model.Compile
/-
  C13 — two's-complement bitwise operators on `Int` are associative (via the bit function), and
  Python's `| ^ &` on ints and bools (`bitop`) as a total, associative operation on the carrier
  `IB` (an int or a bool).
-/
namespace PV

def Int.bit' : Int → Nat → Bool
  | .ofNat m, k => m.testBit k
  | .negSucc m, k => !m.testBit k

theorem bit'_lor' (a b : Int) (k : Nat) : Int.bit' (Int.lor' a b) k = (Int.bit' a k || Int.bit' b k) := by
  cases a <;> cases b <;>
    simp only [Int.lor', Int.bit', Nat.testBit_or, Nat.testBit_and, Nat.testBit_xor] <;>
    (rename_i m n; cases m.testBit k <;> cases n.testBit k <;> rfl)

theorem bit'_land' (a b : Int) (k : Nat) : Int.bit' (Int.land' a b) k = (Int.bit' a k && Int.bit' b k) := by
  cases a <;> cases b <;>
    simp only [Int.land', Int.bit', Nat.testBit_or, Nat.testBit_and, Nat.testBit_xor] <;>
    (rename_i m n; cases m.testBit k <;> cases n.testBit k <;> rfl)

theorem bit'_xor' (a b : Int) (k : Nat) : Int.bit' (Int.xor' a b) k = (Int.bit' a k != Int.bit' b k) := by
  cases a <;> cases b <;>
    simp only [Int.xor', Int.bit', Nat.testBit_xor] <;>
    (rename_i m n; cases m.testBit k <;> cases n.testBit k <;> rfl)

/-- a non-negative and a negative number differ at every bit beyond both magnitudes -/
theorem bit'_ofNat_ne_negSucc (m n : Nat) :
    Int.bit' (.ofNat m) (m + n) ≠ Int.bit' (.negSucc n) (m + n) := by
  have h1 : m.testBit (m + n) = false :=
    Nat.testBit_lt_two_pow (Nat.lt_of_lt_of_le Nat.lt_two_pow_self (Nat.pow_le_pow_right (by omega) (by omega)))
  have h2 : n.testBit (m + n) = false :=
    Nat.testBit_lt_two_pow (Nat.lt_of_lt_of_le Nat.lt_two_pow_self (Nat.pow_le_pow_right (by omega) (by omega)))
  simp [Int.bit', h1, h2]

theorem bit'_ext {a b : Int} (h : ∀ k, Int.bit' a k = Int.bit' b k) : a = b := by
  match a, b, h with
  | .ofNat m, .ofNat n, h => exact congrArg _ (Nat.eq_of_testBit_eq h)
  | .ofNat m, .negSucc n, h => exact absurd (h _) (bit'_ofNat_ne_negSucc m n)
  | .negSucc m, .ofNat n, h => exact absurd (h _).symm (bit'_ofNat_ne_negSucc n m)
  | .negSucc m, .negSucc n, h =>
    have : m = n := Nat.eq_of_testBit_eq fun k => by
      have := h k
      simp only [Int.bit'] at this
      cases hm : m.testBit k <;> cases hn : n.testBit k <;> simp_all
    rw [this]

theorem lor'_assoc (a b c : Int) : Int.lor' (Int.lor' a b) c = Int.lor' a (Int.lor' b c) :=
  bit'_ext fun k => by simp only [bit'_lor', Bool.or_assoc]
theorem land'_assoc (a b c : Int) : Int.land' (Int.land' a b) c = Int.land' a (Int.land' b c) :=
  bit'_ext fun k => by simp only [bit'_land', Bool.and_assoc]
theorem xor'_assoc (a b c : Int) : Int.xor' (Int.xor' a b) c = Int.xor' a (Int.xor' b c) :=
  bit'_ext fun k => by
    simp only [bit'_xor']
    cases Int.bit' a k <;> cases Int.bit' b k <;> cases Int.bit' c k <;> rfl

/-! ### ints and bools under the bitwise operators -/

inductive IB where
  | i (n : Int)
  | b (v : Bool)

def IB.toInt : IB → Int
  | .i n => n
  | .b v => if v then 1 else 0

def IB.toValue : IB → Value
  | .i n => .int n
  | .b v => .bool v

def Value.ib? : Value → Option IB
  | .int n => some (.i n)
  | .bool v => some (.b v)
  | _ => Option.none

theorem IB.ib_toValue (x : IB) : x.toValue.ib? = some x := by cases x <;> rfl

theorem ib_roundtrip {v : Value} {x : IB} (h : v.ib? = some x) : x.toValue = v := by
  cases v <;> simp [Value.ib?] at h <;> subst h <;> rfl

/-- `bitop` on the carrier -/
def ibOp (fi : Int → Int → Int) (fb : Bool → Bool → Bool) : IB → IB → IB
  | .b x, .b y => .b (fb x y)
  | x, y => .i (fi x.toInt y.toInt)

theorem bitop_ib (fi : Int → Int → Int) (fb : Bool → Bool → Bool) {a b : Value} {x y : IB}
    (ha : a.ib? = some x) (hb : b.ib? = some y) :
    bitop fi fb a b = .ok (ibOp fi fb x y).toValue := by
  cases a <;> simp [Value.ib?] at ha <;> cases b <;> simp [Value.ib?] at hb <;> subst ha <;>
    subst hb <;> rfl

theorem ibOp_assoc {fi : Int → Int → Int} {fb : Bool → Bool → Bool}
    (hfi : ∀ a b c, fi (fi a b) c = fi a (fi b c))
    (hfb : ∀ a b c, fb (fb a b) c = fb a (fb b c))
    (hom : ∀ x y : Bool, (IB.b (fb x y)).toInt = fi (IB.b x).toInt (IB.b y).toInt)
    (x y z : IB) : ibOp fi fb (ibOp fi fb x y) z = ibOp fi fb x (ibOp fi fb y z) := by
  have hom' : ∀ x y : Bool, (if fb x y = true then (1 : Int) else 0)
      = fi (if x = true then 1 else 0) (if y = true then 1 else 0) :=
    fun x y => by simpa [IB.toInt] using hom x y
  cases x <;> cases y <;> cases z <;> simp only [ibOp, IB.toInt, hom', hfi, hfb]

theorem lor'_hom (x y : Bool) :
    (IB.b (x || y)).toInt = Int.lor' (IB.b x).toInt (IB.b y).toInt := by
  cases x <;> cases y <;> decide

theorem land'_hom (x y : Bool) :
    (IB.b (x && y)).toInt = Int.land' (IB.b x).toInt (IB.b y).toInt := by
  cases x <;> cases y <;> decide

theorem xor'_hom (x y : Bool) :
    (IB.b (x != y)).toInt = Int.xor' (IB.b x).toInt (IB.b y).toInt := by
  cases x <;> cases y <;> decide

theorem bor_ib {a b : Value} {x y : IB} (ha : a.ib? = some x) (hb : b.ib? = some y) :
    NaryOp.apply .bor a b = .ok (ibOp Int.lor' (· || ·) x y).toValue := bitop_ib _ _ ha hb
theorem band_ib {a b : Value} {x y : IB} (ha : a.ib? = some x) (hb : b.ib? = some y) :
    NaryOp.apply .band a b = .ok (ibOp Int.land' (· && ·) x y).toValue := bitop_ib _ _ ha hb
theorem bxor_ib {a b : Value} {x y : IB} (ha : a.ib? = some x) (hb : b.ib? = some y) :
    NaryOp.apply .bxor a b = .ok (ibOp Int.xor' (fun x y => x != y) x y).toValue :=
  bitop_ib _ _ ha hb

theorem ibOr_assoc (x y z : IB) : ibOp Int.lor' (· || ·) (ibOp Int.lor' (· || ·) x y) z
    = ibOp Int.lor' (· || ·) x (ibOp Int.lor' (· || ·) y z) :=
  ibOp_assoc lor'_assoc (fun a b c => Bool.or_assoc a b c) lor'_hom x y z
theorem ibAnd_assoc (x y z : IB) : ibOp Int.land' (· && ·) (ibOp Int.land' (· && ·) x y) z
    = ibOp Int.land' (· && ·) x (ibOp Int.land' (· && ·) y z) :=
  ibOp_assoc land'_assoc (fun a b c => Bool.and_assoc a b c) land'_hom x y z
theorem ibXor_assoc (x y z : IB) :
    ibOp Int.xor' (fun x y => x != y) (ibOp Int.xor' (fun x y => x != y) x y) z
    = ibOp Int.xor' (fun x y => x != y) x (ibOp Int.xor' (fun x y => x != y) y z) :=
  ibOp_assoc xor'_assoc (fun a b c => by cases a <;> cases b <;> cases c <;> rfl) xor'_hom x y z

end PV
