import PV.Model.Compile
import PV.Proofs.CompileBits
import PV.Proofs.OpsSound
import PV.Proofs.UnionPy
import PV.Proofs.Simple
import PV.Proofs.CompiledOrder
/-
  C13 — helper lemmas: the parameterised stringifier is the C06 stringifier; the sort of names as
  the stable sort by key; `foldBin` and the value of right-nested operator chains against the
  evaluator's left folds (`fold_eq_rightNest`); the round trip through a right-nested chain
  (`nestExpr`, `flattenNestInto`); a dependency set has no two `==`-equal members (`PyNodup`,
  `deps_pyNodup`) and the names of its variables (`varNames`); the memo table of the exporter as
  a simulation (`SimA`).
-/
namespace PV

theorem except_bind_ok_iff {ε α β : Type} {x : Except ε α} {f : α → Except ε β} {r : β} :
    (x >>= f) = .ok r ↔ ∃ a, x = .ok a ∧ f a = .ok r :=
  ⟨except_bind_ok, fun ⟨a, ha, h⟩ => by rw [ha]; exact h⟩

theorem except_pure_ok_iff {ε α : Type} {a b : α} : (pure a : Except ε α) = .ok b ↔ a = b := by
  simp only [pure, Except.pure, Except.ok.injEq]

/-! ### `strG` with the stringifier's own constant printer is `strE` -/

/-- the subscript case of `strG_eq_strE` for an index that is not a tuple (the counterpart for the
two readings of `strG` is `PV.C13.strG_bare_subscript_nt`) -/
theorem strG_eq_strE_subscript_nt (S : PrintPrec) {a i : Expr} (enc : Nat)
    (hi : ∀ cs, i ≠ .tuple cs)
    (ha : strG S (constPieces S) false a S.call = strE S a S.call)
    (hx : strG S (constPieces S) false i S.none = strE S i S.none) :
    strG S (constPieces S) false (.subscript a i) enc = strE S (.subscript a i) enc := by
  rw [strG, strE, ha, hx] <;> exact hi

mutual
theorem strG_eq_strE (S : PrintPrec) : ∀ (e : Expr) (enc : Nat),
    strG S (constPieces S) false e enc = strE S e enc
  | .const _, _ | .var _, _ | .wildcard, _ | .nan, _ | .funcSym, _ | .dotWild _, _
  | .starWild _, _ | .subst .., _ | .deriv .., _ => by simp only [strG, strE]
  | .call f as, _ => by
      simp only [strG, strE, strG_eq_strE S f, strGL_eq_strL S as]
  | .callKw f as ns vs, _ => by
      simp only [strG, strE, strG_eq_strE S f, strGL_eq_strL S as, strGL_eq_strL S vs]
  | .subscript a i, enc => by
      have ha := strG_eq_strE S a S.call
      have hi := strG_eq_strE S i S.none
      -- a tuple index is printed without its parentheses, from its elements
      cases i with
      | tuple cs => simp only [strG, strE, ha, strGL_eq_strL S cs]
      | _ => exact strG_eq_strE_subscript_nt S enc (by intro cs h; cases h) ha hi
  | .lookup a n, enc => by simp only [strG, strE, strG_eq_strE S a]
  | .nary o cs, enc => by
      cases o <;> simp only [strG, strE, strGL_eq_strL S cs, strGForceL_eq S false cs]
  | .bin o a b, enc => by
      cases o <;>
        simp only [strG, strE, strG_eq_strE S a, strG_eq_strE S b, forceWrapG, Bool.false_eq_true,
          if_false]
  | .un o a, enc => by cases o <;> simp only [strG, strE, strG_eq_strE S a]
  | .cmp o a b, enc => by simp only [strG, strE, strG_eq_strE S a, strG_eq_strE S b]
  | .ite c t e, enc => by
      simp only [strG, strE, strG_eq_strE S c, strG_eq_strE S t, strG_eq_strE S e]
  | .tuple cs, _ => by simp only [strG, strE, strGL_eq_strL S cs]
  | .list cs, _ => by simp only [strG, strE, strGL_eq_strL S cs]
  | .slice cs, enc => by simp only [strG, strE, strGSliceL_eq S cs]
  | .cse c _ _, _ => by
      simp only [strG, strE, strG_eq_strE S c, Bool.false_eq_true, if_false]
theorem strGL_eq_strL (S : PrintPrec) : ∀ (cs : List Expr) (enc : Nat),
    strGL S (constPieces S) false cs enc = strL S cs enc
  | [], _ => by simp only [strGL, strL]
  | c :: cs, enc => by simp only [strGL, strL, strG_eq_strE S c, strGL_eq_strL S cs]
theorem strGForceL_eq (S : PrintPrec) (all : Bool) : ∀ (cs : List Expr) (enc : Nat),
    strGForceL S (constPieces S) false all cs enc = strForceL S all cs enc
  | [], _ => by simp only [strGForceL, strForceL]
  | c :: cs, enc => by
      simp only [strGForceL, strForceL, strG_eq_strE S c, strGForceL_eq S all cs, forceWrapG,
        Bool.false_eq_true, if_false]
theorem strGSliceL_eq (S : PrintPrec) : ∀ (cs : List Expr),
    strGSliceL S (constPieces S) false cs = strSliceL S cs
  | [] => by simp only [strGSliceL, strSliceL]
  | c :: cs => by
      -- `None` as a part of a slice prints as nothing
      by_cases hc : c = .const .none
      · subst hc
        simp only [strGSliceL, strSliceL, strGSliceL_eq S cs]
      · rw [strGSliceL, strSliceL, strG_eq_strE S c, strGSliceL_eq S cs] <;> exact hc
end

/-! ### insertion sort of strings: the stable sort by key, with the name itself as the key -/

theorem sortStrings_perm (l : List String) : (sortStrings l).Perm l :=
  sortByKey_id l ▸ sortByKey_perm id l

/-- ascending (non-strict) string order -/
def StrSorted (l : List String) : Prop := l.Pairwise (· ≤ ·)

/-- (`StrSorted` is `KeySorted id`, by unfolding) -/
theorem sortStrings_sorted (l : List String) : StrSorted (sortStrings l) :=
  sortByKey_id l ▸ sortByKey_sorted id l

/-- the result of the sort does not depend on the order in which the set was iterated -/
theorem sortStrings_perm_eq {l₁ l₂ : List String} (hp : l₁.Perm l₂) :
    sortStrings l₁ = sortStrings l₂ := by
  rw [← sortByKey_id, ← sortByKey_id]
  exact sortByKey_perm_eq id (fun _ _ _ _ h => h) hp

theorem sortStrings_strict {l : List String} (hn : l.Nodup) : (sortStrings l).Pairwise (· < ·) := by
  have hs := sortStrings_sorted l
  have hn' : (sortStrings l).Nodup := (sortStrings_perm l).nodup_iff.mpr hn
  unfold StrSorted at hs
  have hboth := hs.and hn'
  refine hboth.imp ?_
  intro a b h
  rcases h with ⟨hle, hne⟩
  apply String.not_le.mp
  intro hba
  exact hne (String.le_antisymm hle hba)

theorem mem_sortStrings {l : List String} {x : String} : x ∈ sortStrings l ↔ x ∈ l :=
  (sortStrings_perm l).mem_iff

/-! ### exact numbers: the `Num` of a value, total addition and multiplication on `Num` -/

def Num.toValue : Num → Value
  | .i n => .int n
  | .q r => .frac r

theorem Num.toValue_num (x : Num) : x.toValue.num? = some x := by cases x <;> rfl

def Value.isBoolV : Value → Bool
  | .bool _ => true
  | _ => false

theorem value_eq_toValue {v : Value} {x : Num} (h : v.num? = some x) (hb : v.isBoolV = false) :
    v = x.toValue := by
  cases v <;> simp [Value.num?, Value.isBoolV] at h hb <;> subst h <;> rfl

def addNum : Num → Num → Num
  | .i a, .i b => .i (a + b)
  | x, y => .q (x.toRat + y.toRat)

def mulNum : Num → Num → Num
  | .i a, .i b => .i (a * b)
  | x, y => .q (x.toRat * y.toRat)

theorem addN_eq (x y : Num) : addN x y = .ok (addNum x y).toValue := by
  cases x <;> cases y <;> rfl

theorem mulN_eq (x y : Num) : mulN x y = .ok (mulNum x y).toValue := by
  cases x <;> cases y <;> rfl

theorem addNum_assoc (x y z : Num) : addNum (addNum x y) z = addNum x (addNum y z) := by
  cases x <;> cases y <;> cases z <;>
    simp [addNum, Num.toRat, Rat.add_assoc, Int.add_assoc]

theorem mulNum_assoc (x y z : Num) : mulNum (mulNum x y) z = mulNum x (mulNum y z) := by
  cases x <;> cases y <;> cases z <;>
    simp [mulNum, Num.toRat, Rat.mul_assoc, Int.mul_assoc]

theorem addNum_zero (x : Num) : addNum (.i 0) x = x := by
  cases x <;> simp [addNum, Num.toRat]

theorem mulNum_one (x : Num) : mulNum (.i 1) x = x := by
  cases x <;> simp [mulNum, Num.toRat]

theorem add_num {a b : Value} {x y : Num} (ha : a.num? = some x) (hb : b.num? = some y) :
    Value.add a b = .ok (addNum x y).toValue := by
  rw [Value.add, arith_num ha hb, addN_eq]

theorem mul_num {a b : Value} {x y : Num} (ha : a.num? = some x) (hb : b.num? = some y) :
    Value.mul a b = .ok (mulNum x y).toValue := by
  rw [Value.mul, arith_num ha hb, mulN_eq]

/-! ### left fold (the evaluator) against right nesting (the AST)

Generic over a carrier `κ` of "good" operand values: `toV` embeds it into `Value`, `ofV` recognises
its members.  Instances: exact numbers (`Num`) for `+ *`, ints-and-bools (`IB`) for `| ^ &`. -/

/-- `x₁ ∘ (x₂ ∘ (… ∘ xₙ))` -/
def nestK {κ : Type} (f : κ → κ → κ) : κ → List κ → κ
  | x, [] => x
  | x, y :: ys => f x (nestK f y ys)

theorem foldl_assoc_shift {κ : Type} {f : κ → κ → κ} (hassoc : ∀ a b c, f (f a b) c = f a (f b c)) :
    ∀ (ys : List κ) (a x : κ), ys.foldl f (f a x) = f a (ys.foldl f x)
  | [], _, _ => rfl
  | y :: ys, a, x => by
      simp only [List.foldl]
      rw [hassoc, foldl_assoc_shift hassoc ys a (f x y)]

theorem foldl_eq_nest {κ : Type} {f : κ → κ → κ} (hassoc : ∀ a b c, f (f a b) c = f a (f b c)) :
    ∀ (ys : List κ) (x : κ), ys.foldl f x = nestK f x ys
  | [], _ => rfl
  | y :: ys, x => by
      simp only [List.foldl, nestK]
      rw [foldl_assoc_shift hassoc ys x y, foldl_eq_nest hassoc ys y]

/-- the value of `v₁ op (v₂ op (… op vₙ))`, all operands already computed -/
def rightNest (op : Value → Value → R) : List Value → R
  | [] => throw .noClaim
  | [v] => pure v
  | v :: w :: rest => do
      let r ← rightNest op (w :: rest)
      op v r

/-- `ofV v = some x` pointwise -/
def RepsOf {κ : Type} (ofV : Value → Option κ) : List Value → List κ → Prop
  | [], [] => True
  | v :: vs, x :: xs => ofV v = some x ∧ RepsOf ofV vs xs
  | _, _ => False

theorem rightNest_rep {κ : Type} {toV : κ → Value} {ofV : Value → Option κ}
    {op : Value → Value → R} {f : κ → κ → κ} (hback : ∀ x, ofV (toV x) = some x)
    (hop : ∀ {a b : Value} {x y : κ}, ofV a = some x → ofV b = some y →
      op a b = .ok (toV (f x y))) :
    ∀ (v : Value) (vs : List Value) (x : κ) (xs : List κ), ofV v = some x → RepsOf ofV vs xs →
      vs ≠ [] → rightNest op (v :: vs) = .ok (toV (nestK f x xs))
  | v, [w], x, [y], hv, hws, _ => by
      have hw : ofV w = some y := hws.1
      simp only [rightNest, nestK, bind, Except.bind, pure, Except.pure]
      exact hop hv hw
  | v, w :: w' :: rest, x, y :: y' :: ys, hv, hws, _ => by
      have ih := rightNest_rep hback hop w (w' :: rest) y (y' :: ys) hws.1 hws.2 (by simp)
      rw [rightNest, ih]
      simp only [nestK, bind, Except.bind]
      exact hop hv (hback _)
  | _, [], _, _, _, _, h => absurd rfl h
  | _, [_], _, [], _, h, _ => by simp [RepsOf] at h
  | _, [_], _, _ :: _ :: _, _, h, _ => by simp [RepsOf] at h
  | _, _ :: _ :: _, _, [], _, h, _ => by simp [RepsOf] at h
  | _, _ :: _ :: _, _, [_], _, h, _ => by simp [RepsOf] at h

/-- every operand that evaluates has a property -/
def OperandsOk (env : Env) (P : Value → Prop) : List Expr → Prop
  | [] => True
  | c :: cs => (∀ v, den env c = .ok v → P v) ∧ OperandsOk env P cs

def Value.isExactNum (v : Value) : Prop := ∃ x, v.num? = some x

/-- the evaluator's eager left fold: with good operands only the operands can fail, in order -/
theorem denFold_good {κ : Type} {toV : κ → Value} {ofV : Value → Option κ} {env : Env}
    {o : NaryOp} {f : κ → κ → κ} (hback : ∀ x, ofV (toV x) = some x)
    (hop : ∀ {a b : Value} {x y : κ}, ofV a = some x → ofV b = some y →
      o.apply a b = .ok (toV (f x y))) :
    ∀ (cs : List Expr) (a : κ), OperandsOk env (fun v => ∃ x, ofV v = some x) cs →
      match denList env cs with
      | .error e => denFold env o (toV a) cs = .error e
      | .ok vs => ∃ ns, RepsOf ofV vs ns ∧ denFold env o (toV a) cs = .ok (toV (ns.foldl f a))
  | [], a, _ => by
      simp only [denList, pure, Except.pure]
      exact ⟨[], trivial, by simp [denFold, pure, Except.pure]⟩
  | c :: cs, a, hok => by
      cases hc : den env c with
      | error e => simp only [denList, denFold, hc, bind, Except.bind]
      | ok v =>
        obtain ⟨x, hx⟩ := hok.1 v hc
        have happ := hop (hback a) hx
        have ih := denFold_good hback hop cs (f a x) hok.2
        cases hl : denList env cs with
        | error e =>
          rw [hl] at ih
          simp only [denList, denFold, hc, hl, happ, bind, Except.bind]
          exact ih
        | ok vs =>
          rw [hl] at ih
          obtain ⟨ns, hns, hfold⟩ := ih
          simp only [denList, denFold, hc, hl, happ, bind, Except.bind, pure, Except.pure]
          exact ⟨x :: ns, ⟨hx, hns⟩, by simpa [List.foldl] using hfold⟩

/-- the AST's right-nested chain: all operands are computed (in order) before any operator runs -/
theorem denAst_foldBin (env : Env) (op : PyBin) :
    ∀ (x : PyAst) (xs : List PyAst) (a : PyAst), foldBin op (x :: xs) = .ok a →
      denAst env a = (denAstL env (x :: xs) >>= rightNest op.apply)
  | x, [], a, h => by
      simp only [foldBin, pure, Except.pure, Except.ok.injEq] at h
      subst h
      simp only [denAstL, bind, Except.bind, pure, Except.pure]
      cases denAst env x <;> rfl
  | x, y :: rest, a, h => by
      simp only [foldBin] at h
      obtain ⟨r, hr, ha⟩ := except_bind_ok h
      simp only [pure, Except.pure, Except.ok.injEq] at ha
      subst ha
      have ih := denAst_foldBin env op y rest r hr
      simp only [denAst, ih]
      simp only [denAstL, bind, Except.bind, pure, Except.pure]
      cases denAst env x with
      | error e => rfl
      | ok v =>
        cases denAst env y with
        | error e => rfl
        | ok w =>
          cases denAstL env rest with
          | error e => rfl
          | ok ws => simp only [rightNest, bind, Except.bind]

/-! ### pointwise agreement of mapped operands, list evaluation -/

/-- `denAst env xᵢ = den env cᵢ` pointwise -/
def RelL (env : Env) : List PyAst → List Expr → Prop
  | [], [] => True
  | x :: xs, c :: cs => denAst env x = den env c ∧ RelL env xs cs
  | _, _ => False

theorem relL_denList {env : Env} : ∀ (xs : List PyAst) (cs : List Expr), RelL env xs cs →
    denAstL env xs = denList env cs
  | [], [], _ => by simp [denAstL, denList]
  | x :: xs, c :: cs, h => by
      simp only [denAstL, denList, h.1, relL_denList xs cs h.2]
  | [], _ :: _, h => by simp [RelL] at h
  | _ :: _, [], h => by simp [RelL] at h

theorem denList_cons_ok {env : Env} {c : Expr} {cs : List Expr} {vs : List Value}
    (h : denList env (c :: cs) = .ok vs) :
    ∃ v vs', vs = v :: vs' ∧ den env c = .ok v ∧ denList env cs = .ok vs' := by
  simp only [denList] at h
  obtain ⟨v, hv, h⟩ := except_bind_ok h
  obtain ⟨vs', hvs, h⟩ := except_bind_ok h
  simp only [pure, Except.pure, Except.ok.injEq] at h
  exact ⟨v, vs', h.symm, hv, hvs⟩

theorem denList_nil_ok {env : Env} : ∀ {cs : List Expr}, denList env cs = .ok [] → cs = []
  | [], _ => rfl
  | c :: cs, h => by
      obtain ⟨v, vs', hvs, _, _⟩ := denList_cons_ok h
      cases hvs

theorem OperandsOk.mono {env : Env} {P Q : Value → Prop} (hPQ : ∀ v, P v → Q v) :
    ∀ {cs : List Expr}, OperandsOk env P cs → OperandsOk env Q cs
  | [], _ => trivial
  | _ :: _, h => ⟨fun v hv => hPQ v (h.1 v hv), OperandsOk.mono hPQ h.2⟩

theorem OperandsOk.head_of_mem {env : Env} {P : Value → Prop} :
    ∀ {cs : List Expr}, OperandsOk env P cs → ∀ c ∈ cs, ∀ v, den env c = .ok v → P v
  | [], _, c, hc, _, _ => by simp at hc
  | d :: ds, h, c, hc, v, hv => by
      rcases List.mem_cons.mp hc with rfl | hc
      · exact h.1 v hv
      · exact OperandsOk.head_of_mem h.2 c hc v hv

/-- The common core of the two fold theorems: after a first operand `v` that stands for `n`, the
AST's right-nested chain over the remaining operands is the evaluator's left fold from `n`
(`hrt`: with no further operand the chain is `v` itself, so `v` must be the value `n` stands for). -/
theorem fold_eq_rightNest {κ : Type} {toV : κ → Value} {ofV : Value → Option κ} {env : Env}
    {o : NaryOp} {f : κ → κ → κ} (hback : ∀ x, ofV (toV x) = some x)
    (hop : ∀ {a b : Value} {x y : κ}, ofV a = some x → ofV b = some y →
      o.apply a b = .ok (toV (f x y)))
    (hassoc : ∀ a b c, f (f a b) c = f a (f b c)) {cs : List Expr} {v : Value} {n : κ}
    (hv : ofV v = some n) (hrt : cs = [] → toV n = v)
    (hok : OperandsOk env (fun v => ∃ x, ofV v = some x) cs) :
    (denList env cs >>= fun ws => rightNest o.apply (v :: ws)) = denFold env o (toV n) cs := by
  have hg := denFold_good hback hop cs n hok
  cases hl : denList env cs with
  | error e =>
    rw [hl] at hg
    simp only [bind, Except.bind, hg]
  | ok ws =>
    rw [hl] at hg
    obtain ⟨ns, hns, hden⟩ := hg
    rw [hden]
    simp only [bind, Except.bind]
    cases ws with
    | nil =>
      cases ns with
      | cons _ _ => simp [RepsOf] at hns
      | nil => simp only [rightNest, pure, Except.pure, List.foldl, hrt (denList_nil_ok hl)]
    | cons w ws' =>
      rw [rightNest_rep hback hop v (w :: ws') n ns hv hns (by simp), foldl_eq_nest hassoc]

/-- operand of a sum / product with `n` operands: an exact number; not a `bool` when it is the
only operand (`0 + True` is `1`, the one-operand AST is the operand itself) -/
def ArithOperand (n : Nat) (v : Value) : Prop := v.isExactNum ∧ (n = 1 → v.isBoolV = false)

/-- sums and products: the evaluator's left fold from the unit equals the right-nested chain -/
theorem nary_fold_value {env : Env} {o : NaryOp} {op : PyBin} {f : Num → Num → Num} {u : Num}
    (hsame : op.apply = o.apply)
    (hop : ∀ {a b : Value} {x y : Num}, a.num? = some x → b.num? = some y →
      o.apply a b = .ok (f x y).toValue)
    (hassoc : ∀ a b c, f (f a b) c = f a (f b c)) (hunit : ∀ x, f u x = x)
    {xs : List PyAst} {cs : List Expr} {a : PyAst}
    (hrel : RelL env xs cs) (hfold : foldBin op xs = .ok a)
    (hgood : OperandsOk env (ArithOperand cs.length) cs) :
    denAst env a = denFold env o u.toValue cs := by
  cases xs with
  | nil => simp [foldBin, throw, throwThe, MonadExceptOf.throw] at hfold
  | cons x xs' =>
    cases cs with
    | nil => simp [RelL] at hrel
    | cons c cs' =>
      rw [denAst_foldBin env op x xs' a hfold, relL_denList _ _ hrel, hsame]
      simp only [denFold, denList]
      cases hc : den env c with
      | error e => simp only [bind, Except.bind]
      | ok v =>
        obtain ⟨⟨n, hn⟩, hnb⟩ := hgood.1 v hc
        have hcore := fold_eq_rightNest (toV := Num.toValue) (cs := cs') Num.toValue_num hop hassoc hn
          (fun h => (value_eq_toValue hn (hnb (by simp [h]))).symm)
          (OperandsOk.mono (fun v hv => hv.1) hgood.2)
        simp only [bind, Except.bind, hop (Num.toValue_num u) hn, hunit, ← hcore]
        cases denList env cs' <;> rfl

/-- operand of a bitwise chain: an int or a bool -/
def BitOperand (v : Value) : Prop := ∃ x, v.ib? = some x

/-- `| ^ &` chains of any length: `reduce(op, operands)` equals the right-nested chain on ints and
bools (associativity of the two's-complement operators, `bool` results kept for all-bool chains) -/
theorem reduce_fold_value {env : Env} {o : NaryOp} {op : PyBin} {f : IB → IB → IB}
    (hsame : op.apply = o.apply)
    (hop : ∀ {a b : Value} {x y : IB}, a.ib? = some x → b.ib? = some y →
      o.apply a b = .ok (f x y).toValue)
    (hassoc : ∀ a b c, f (f a b) c = f a (f b c))
    {xs : List PyAst} {cs : List Expr} {a : PyAst}
    (hrel : RelL env xs cs) (hfold : foldBin op xs = .ok a)
    (hgood : OperandsOk env BitOperand cs) :
    denAst env a = denReduce env o cs := by
  cases xs with
  | nil => simp [foldBin, throw, throwThe, MonadExceptOf.throw] at hfold
  | cons x xs' =>
    cases cs with
    | nil => simp [RelL] at hrel
    | cons c cs' =>
      rw [denAst_foldBin env op x xs' a hfold, relL_denList _ _ hrel, hsame]
      simp only [denReduce, denList]
      cases hc : den env c with
      | error e => simp only [bind, Except.bind]
      | ok v =>
        obtain ⟨n, hn⟩ := hgood.1 v hc
        have hcore := fold_eq_rightNest (toV := IB.toValue) (cs := cs') IB.ib_toValue hop hassoc hn
          (fun _ => ib_roundtrip hn) hgood.2
        rw [ib_roundtrip hn] at hcore
        simp only [bind, Except.bind, ← hcore]
        cases denList env cs' <;> rfl

def BoolOperand (v : Value) : Prop := ∃ b, v = .bool b

/-- `or` / `and` on boolean operands: the operand CPython returns is the evaluator's bool -/
theorem boolop_value {env : Env} (isOr : Bool) :
    ∀ (xs : List PyAst) (cs : List Expr), RelL env xs cs → xs ≠ [] →
      OperandsOk env BoolOperand cs →
      denBoolOp env isOr xs = (if isOr then denAny env cs else denAll env cs)
  | [x], [c], hrel, _, hgood => by
      simp only [denBoolOp, hrel.1]
      cases hc : den env c with
      | error e => cases isOr <;> simp [denAny, denAll, hc, bind, Except.bind]
      | ok v =>
        obtain ⟨b, rfl⟩ := hgood.1 v hc
        cases isOr <;> cases b <;>
          simp [denAny, denAll, hc, bind, Except.bind, Value.truthy, pure, Except.pure]
  | x :: y :: rest, c :: d :: cs', hrel, _, hgood => by
      have ih := boolop_value isOr (y :: rest) (d :: cs') hrel.2 (by simp) hgood.2
      simp only [denBoolOp, hrel.1]
      cases hc : den env c with
      | error e => cases isOr <;> simp [denAny, denAll, hc, bind, Except.bind]
      | ok v =>
        obtain ⟨b, rfl⟩ := hgood.1 v hc
        rw [ih]
        cases isOr <;> cases b <;>
          simp [denAny, denAll, hc, bind, Except.bind, Value.truthy, pure, Except.pure]
  | [], _, _, h, _ => absurd rfl h
  | [_], [], h, _, _ => by simp [RelL] at h
  | [_], _ :: _ :: _, h, _, _ => by simp [RelL] at h
  | _ :: _ :: _, [], h, _, _ => by simp [RelL] at h
  | _ :: _ :: _, [_], h, _, _ => by simp [RelL] at h

theorem pyBin_apply (o : BinOp) : o.pyBin.apply = o.apply := by cases o <;> rfl

/-! ### AST → expression of a right-nested chain, and flattening it again -/

/-- `x₁ ∘ (x₂ ∘ (… ∘ xₙ))` as binary nodes of the n-ary class `o` -/
def nestExpr (o : NaryOp) : List Expr → Expr
  | [] => .nary o []
  | [x] => x
  | x :: y :: rest => .nary o [x, nestExpr o (y :: rest)]

theorem fromAst_foldBin {op : PyBin} {o : NaryOp}
    (hc : op.construct = some fun x y => .nary o [x, y]) :
    ∀ (xs : List PyAst) (es : List Expr) (a : PyAst), xs ≠ [] → fromAstL xs = .ok es →
      foldBin op xs = .ok a → fromAst a = .ok (nestExpr o es)
  | [], _, _, h, _, _ => absurd rfl h
  | [x], es, a, _, hes, ha => by
      simp only [foldBin, pure, Except.pure, Except.ok.injEq] at ha
      subst ha
      simp only [fromAstL] at hes
      obtain ⟨e, he, hes⟩ := except_bind_ok hes
      simp only [bind, Except.bind, pure, Except.pure, Except.ok.injEq] at hes
      subst hes
      simpa [nestExpr] using he
  | x :: y :: rest, es, a, _, hes, ha => by
      simp only [foldBin] at ha
      obtain ⟨r, hr, ha⟩ := except_bind_ok ha
      simp only [pure, Except.pure, Except.ok.injEq] at ha
      subst ha
      rw [fromAstL] at hes
      obtain ⟨e, he, hes⟩ := except_bind_ok hes
      obtain ⟨es', hes', hes⟩ := except_bind_ok hes
      simp only [pure, Except.pure, Except.ok.injEq] at hes
      subst hes
      have ih := fromAst_foldBin hc (y :: rest) es' r (by simp) hes' hr
      have hne : ∃ e' es'', es' = e' :: es'' := by
        rw [fromAstL] at hes'
        obtain ⟨e', _, h2⟩ := except_bind_ok hes'
        obtain ⟨es'', _, h2⟩ := except_bind_ok h2
        simp only [pure, Except.pure, Except.ok.injEq] at h2
        exact ⟨e', es'', h2.symm⟩
      obtain ⟨e', es'', rfl⟩ := hne
      simp only [fromAst, hc, he, ih, bind, Except.bind, pure, Except.pure, nestExpr]

/-- what one child contributes to the flattened children of an `o` node -/
def spliceOf (o : NaryOp) (c : Expr) : List Expr :=
  match flattenNest c with
  | .nary o' ds => if o' == o then ds else [.nary o' ds]
  | c' => [c']

theorem flattenNestInto_cons (o : NaryOp) (c : Expr) (cs : List Expr) :
    flattenNestInto o (c :: cs) = spliceOf o c ++ flattenNestInto o cs := by
  rw [flattenNestInto, spliceOf]
  split <;> rename_i h <;> simp only [h]
  · split <;> simp
  · rfl

theorem flattenNestInto_congr (o : NaryOp) : ∀ (es cs : List Expr),
    flattenNestL es = flattenNestL cs → flattenNestInto o es = flattenNestInto o cs
  | [], [], _ => rfl
  | e :: es, c :: cs, h => by
      simp only [flattenNestL, List.cons.injEq] at h
      rw [flattenNestInto_cons, flattenNestInto_cons, flattenNestInto_congr o es cs h.2]
      simp only [spliceOf, h.1]
  | [], _ :: _, h => by simp [flattenNestL] at h
  | _ :: _, [], h => by simp [flattenNestL] at h

theorem flattenNestInto_nil (o : NaryOp) : flattenNestInto o [] = [] := by
  simp [flattenNestInto]

theorem flattenNest_pair (o : NaryOp) (ho : o.isAssoc = true) (x N y : Expr) (rest : List Expr)
    (hN : spliceOf o N = flattenNestInto o (y :: rest)) :
    flattenNest (.nary o [x, N]) = .nary o (flattenNestInto o (x :: y :: rest)) := by
  rw [flattenNest]
  simp only [ho, if_true]
  rw [flattenNestInto_cons o x [N], flattenNestInto_cons o N [], flattenNestInto_nil,
    List.append_nil, hN, flattenNestInto_cons o x (y :: rest)]

theorem spliceOf_nestExpr (o : NaryOp) (ho : o.isAssoc = true) : ∀ (es : List Expr), es ≠ [] →
    spliceOf o (nestExpr o es) = flattenNestInto o es
  | [], h => absurd rfl h
  | [x], _ => by
      rw [flattenNestInto_cons, flattenNestInto_nil, List.append_nil]
      rfl
  | x :: y :: rest, _ => by
      have ih := spliceOf_nestExpr o ho (y :: rest) (by simp)
      have h1 := flattenNest_pair o ho x (nestExpr o (y :: rest)) y rest ih
      show spliceOf o (.nary o [x, nestExpr o (y :: rest)]) = _
      simp only [spliceOf, h1, beq_self_eq_true, if_true]

theorem flattenNest_nestExpr (o : NaryOp) (ho : o.isAssoc = true) (x y : Expr)
    (rest : List Expr) :
    flattenNest (nestExpr o (x :: y :: rest)) = .nary o (flattenNestInto o (x :: y :: rest)) :=
  flattenNest_pair o ho x (nestExpr o (y :: rest)) y rest
    (spliceOf_nestExpr o ho (y :: rest) (by simp))

theorem pyBin_construct (o : BinOp) : o.pyBin.construct = some (Expr.bin o) := by
  cases o <;> rfl

/-! ### a dependency set has no two `==`-equal members -/

/-- no earlier member is Python-equal to a later one -/
def PyNodup (r : List Expr) : Prop := r.Pairwise fun y x => y.pyEq x = false

theorem PyNodup.insPy {a : List Expr} (h : PyNodup a) (x : Expr) : PyNodup (PV.insPy a x) := by
  unfold PV.insPy
  split
  · exact h
  · rename_i hany
    unfold PyNodup
    rw [List.pairwise_append]
    refine ⟨h, List.pairwise_singleton _ _, ?_⟩
    intro y hy z hz
    simp only [List.mem_singleton] at hz
    subst hz
    cases hyz : y.pyEq z with
    | false => rfl
    | true => exact absurd (List.any_eq_true.mpr ⟨y, hy, hyz⟩) hany

theorem PyNodup.unionPy : ∀ (b : List Expr) {a : List Expr}, PyNodup a → PyNodup (PV.unionPy a b)
  | [], _, h => h
  | x :: b, a, h => by rw [unionPy_cons]; exact PyNodup.unionPy b (h.insPy x)

theorem PyNodup.nil : PyNodup [] := List.Pairwise.nil
theorem PyNodup.single (e : Expr) : PyNodup [e] := List.pairwise_singleton _ _

theorem PyNodup.depSingle {e : Expr} {r : List Expr} (h : depSingle e = .ok r) : PyNodup r := by
  unfold PV.depSingle at h
  split at h
  · cases h
  · cases h; exact PyNodup.single e

mutual
theorem deps_pyNodup (fl : DepFlags) : ∀ (e : Expr) (r : List Expr), deps fl e = .ok r → PyNodup r
  | .const c, r, h => by
      cases c <;> simp only [deps] at h <;> cases h <;> exact PyNodup.nil
  | .var x, r, h => by cases h; exact PyNodup.single _
  | .call f as, r, h => by
      simp only [deps] at h
      split at h
      · exact depsL_pyNodup fl as r h
      · exact PyNodup.depSingle h
      · obtain ⟨a, ha, h⟩ := except_bind_ok h
        obtain ⟨b, _, h⟩ := except_bind_ok h
        cases h
        exact PyNodup.unionPy b (deps_pyNodup fl f a ha)
  | .callKw f as ns vs, r, h => by
      simp only [deps] at h
      split at h
      · obtain ⟨a, ha, h⟩ := except_bind_ok h
        obtain ⟨b, _, h⟩ := except_bind_ok h
        cases h
        exact PyNodup.unionPy b (depsL_pyNodup fl as a ha)
      · exact PyNodup.depSingle h
      · obtain ⟨a, ha, h⟩ := except_bind_ok h
        obtain ⟨b, _, h⟩ := except_bind_ok h
        obtain ⟨c, _, h⟩ := except_bind_ok h
        cases h
        exact PyNodup.unionPy c (PyNodup.unionPy b (deps_pyNodup fl f a ha))
  | .lookup a n, r, h => by
      simp only [deps] at h
      split at h
      · exact PyNodup.depSingle h
      · exact deps_pyNodup fl a r h
  | .subscript a i, r, h => by
      simp only [deps] at h
      split at h
      · exact PyNodup.depSingle h
      · obtain ⟨x, hx, h⟩ := except_bind_ok h
        obtain ⟨y, _, h⟩ := except_bind_ok h
        cases h
        exact PyNodup.unionPy y (deps_pyNodup fl a x hx)
  | .cse c p s, r, h => by
      simp only [deps] at h
      split at h
      · cases h
      · split at h
        · cases h; exact PyNodup.single _
        · exact deps_pyNodup fl c r h
  | .nary _ cs, r, h | .tuple cs, r, h | .list cs, r, h => by
      simp only [deps] at h
      exact depsL_pyNodup fl cs r h
  | .bin _ a b, r, h | .cmp _ a b, r, h => by
      simp only [deps] at h
      obtain ⟨x, hx, h⟩ := except_bind_ok h
      obtain ⟨y, _, h⟩ := except_bind_ok h
      cases h
      exact PyNodup.unionPy y (deps_pyNodup fl a x hx)
  | .un _ a, r, h => by
      simp only [deps] at h
      exact deps_pyNodup fl a r h
  | .ite c t e, r, h => by
      simp only [deps] at h
      obtain ⟨x, hx, h⟩ := except_bind_ok h
      obtain ⟨y, _, h⟩ := except_bind_ok h
      obtain ⟨z, _, h⟩ := except_bind_ok h
      cases h
      exact PyNodup.unionPy z (PyNodup.unionPy y (deps_pyNodup fl c x hx))
  | .slice cs, r, h => by
      simp only [deps] at h
      exact depsSlice_pyNodup fl cs r h
  | .nan, r, h | .wildcard, r, h | .dotWild _, r, h | .starWild _, r, h | .funcSym, r, h => by
      cases h; exact PyNodup.nil
  | .subst .., r, h | .deriv .., r, h => by
      simp [deps, throw, throwThe, MonadExceptOf.throw] at h
theorem depsL_pyNodup (fl : DepFlags) : ∀ (cs : List Expr) (r : List Expr),
    depsL fl cs = .ok r → PyNodup r
  | [], r, h => by cases h; exact PyNodup.nil
  | c :: cs, r, h => by
      simp only [depsL] at h
      obtain ⟨x, hx, h⟩ := except_bind_ok h
      obtain ⟨y, _, h⟩ := except_bind_ok h
      cases h
      exact PyNodup.unionPy y (deps_pyNodup fl c x hx)
theorem depsSlice_pyNodup (fl : DepFlags) : ∀ (cs : List Expr) (r : List Expr),
    depsSlice fl cs = .ok r → PyNodup r
  | [], r, h => by cases h; exact PyNodup.nil
  | c :: cs, r, h => by
      by_cases hc : c = .const .none
      · subst hc
        simp only [depsSlice] at h
        exact depsSlice_pyNodup fl cs r h
      · rw [depsSlice.eq_3 _ _ _ hc] at h
        obtain ⟨x, hx, h⟩ := except_bind_ok h
        obtain ⟨y, _, h⟩ := except_bind_ok h
        cases h
        exact PyNodup.unionPy y (deps_pyNodup fl c x hx)
end

/-! ### the names of a set of variable nodes -/

theorem mem_varNames {x : String} : ∀ {used : List Expr}, x ∈ varNames used ↔ .var x ∈ used
  | [] => by simp [varNames]
  | c :: rest => by
      cases c <;> simp [varNames, mem_varNames (used := rest)]

def varName? : Expr → Option String
  | .var x => some x
  | _ => none

theorem varNames_eq_filterMap : ∀ used : List Expr, varNames used = used.filterMap varName?
  | [] => rfl
  | c :: rest => by
      rw [List.filterMap_cons, ← varNames_eq_filterMap rest]
      cases c <;> rfl

theorem varNames_perm {u u' : List Expr} (h : u.Perm u') : (varNames u).Perm (varNames u') := by
  rw [varNames_eq_filterMap, varNames_eq_filterMap]
  exact h.filterMap _

theorem varNames_nodup : ∀ {used : List Expr}, PyNodup used → (varNames used).Nodup
  | [], _ => by simp [varNames]
  | c :: rest, h => by
      have hc := List.pairwise_cons.mp h
      have ih := varNames_nodup (used := rest) hc.2
      cases c with
      | var x =>
        simp only [varNames, List.nodup_cons]
        refine ⟨?_, ih⟩
        intro hx
        have := hc.1 (.var x) (mem_varNames.mp hx)
        simp [Expr.pyEq] at this
      | _ => simpa [varNames] using ih

/-! ### the memo table of `PymbolicToASTMapper` is transparent on a coherent universe -/

/-- memo invariant: every stored node is the AST of its key -/
def AstInv (U : Expr → Prop) (s : AstCache) : Prop :=
  ∀ k v, (k, v) ∈ s → U k ∧ toAst k = .ok v

theorem astCache_find_some {e : Expr} {v : PyAst} : ∀ {s : AstCache}, AstCache.find e s = some v →
    ∃ k, (k, v) ∈ s ∧ Expr.keyEq k e = true
  | [], h => by simp [AstCache.find] at h
  | (k', v') :: rest, h => by
      simp only [AstCache.find] at h
      by_cases hk : Expr.keyEq k' e = true
      · simp [hk] at h; subst h; exact ⟨k', by simp, hk⟩
      · simp [hk] at h
        obtain ⟨k, hm, he⟩ := astCache_find_some (s := rest) h
        exact ⟨k, by simp [hm], he⟩

/-- `m` (with the memo table) computes `d` (without) from every state satisfying the invariant and
re-establishes it -/
def SimA (U : Expr → Prop) {α : Type} (m : AstM α) (d : Except AErr α) : Prop :=
  ∀ s, AstInv U s →
    match m s with
    | .ok (a, s') => d = .ok a ∧ AstInv U s'
    | .error e => d = .error e

section
variable {U : Expr → Prop}

theorem SimA.pure {α} (a : α) : SimA U (AstM.pure a) (.ok a) := fun _ h => ⟨rfl, h⟩

theorem SimA.throw {α} (e : AErr) : SimA U (AstM.throw e : AstM α) (.error e) := fun _ _ => rfl

theorem SimA.lift {α} (x : Except AErr α) : SimA U (AstM.lift x) x := by
  intro s h
  cases x with
  | ok a => exact ⟨rfl, h⟩
  | error e => rfl

theorem SimA.bind {α β} {m : AstM α} {d : Except AErr α} {f : α → AstM β}
    {g : α → Except AErr β} (hm : SimA U m d) (hf : ∀ a, SimA U (f a) (g a)) :
    SimA U (m >>= f) (d >>= g) := by
  intro s hs
  have h1 := hm s hs
  show match AstM.bind m f s with
    | .ok (a, s') => (d >>= g) = .ok a ∧ AstInv U s'
    | .error e => (d >>= g) = .error e
  unfold AstM.bind
  cases hms : m s with
  | error e =>
    rw [hms] at h1
    simp only [h1]; rfl
  | ok p =>
    obtain ⟨a, s1⟩ := p
    rw [hms] at h1
    obtain ⟨hd, i1⟩ := h1
    have h2 := hf a s1 i1
    simp only [hd]
    exact h2

/-- the memoising dispatch wrapper is transparent -/
theorem SimA.memo (hU : Universe U) {e : Expr} {k : AstM PyAst} (he : U e)
    (hk : SimA U k (toAst e)) : SimA U (withAstCache e k) (toAst e) := by
  intro s hs
  unfold withAstCache
  simp only [hU.nolist e he, Bool.false_eq_true, if_false]
  cases hf : AstCache.find e s with
  | some v =>
    obtain ⟨k', hmem, heq⟩ := astCache_find_some hf
    obtain ⟨hUk, hv⟩ := hs k' v hmem
    have : k' = e := hU.coherent k' e hUk he (keyEq_pyEq heq)
    subst this
    exact ⟨hv, hs⟩
  | none =>
    have h1 := hk s hs
    cases hks : k s with
    | error err => rw [hks] at h1; exact h1
    | ok p =>
      obtain ⟨r, s1⟩ := p
      rw [hks] at h1
      obtain ⟨hr, i1⟩ := h1
      refine ⟨hr, ?_⟩
      intro k' v' hm
      simp only [List.mem_cons, Prod.mk.injEq] at hm
      rcases hm with ⟨rfl, rfl⟩ | hm
      · exact ⟨he, hr⟩
      · exact i1 k' v' hm

theorem SimA.mapIdx {α} {f : Nat → AstM α} {g : Nat → Except AErr α}
    (h : ∀ i, SimA U (f i) (g i)) : ∀ is : List Nat, SimA U (mapIdxM f is) (mapIdxE g is)
  | [] => SimA.pure _
  | i :: is => by
      simp only [mapIdxM, mapIdxE]
      exact SimA.bind (h i) fun x => SimA.bind (SimA.mapIdx h is) fun xs => SimA.pure _

end

end PV
