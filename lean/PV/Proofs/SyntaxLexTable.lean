import PV.Model.Lexer
/-
  C06/C07.  The lexer model with the table unfolded: `firstMatch table table` is a fixed chain of
  matchers (`firstC rulesC`).  The rules are also kept as data (`rulesS`); that the table resolves
  to them, and is a table the model covers, is the one fact that is evaluated (`table_resolved`).
-/
namespace PV.Lexer
open PV

/-- match length of a matcher -/
def olen (cs : List Char) (o : Option (List Char)) : Nat :=
  match o with
  | some r => cs.length - r.length
  | none => 0

def lenOf (m : List Char → Option (List Char)) (cs : List Char) : Nat := olen cs (m cs)

theorem reLen_of {src : String} {r : Re} (h : reOf src = some r) (cs : List Char) :
    reLen src cs = lenOf r.run cs := by
  simp only [reLen, h, lenOf, olen]
  cases r.run cs <;> rfl

def firstNZ : List Nat → Nat
  | [] => 0
  | n :: ns => if n = 0 then firstNZ ns else n

/-- the `float` rule: first of the five forms with a non-zero match -/
def floatLen (cs : List Char) : Nat :=
  firstNZ [lenOf float1M cs, lenOf float2M cs, lenOf float3M cs, lenOf float4M cs, lenOf float5M cs]

/-- items of the `imaginary` rule, resolved -/
def imagItem : Item → List Char → Nat
  | .ref _, cs => floatLen cs
  | .re _, cs => lenOf (litM ['j']) cs

/-- the `imaginary` rule: the `float` rule, then `j` -/
def imagLen (cs : List Char) : Nat :=
  (seqLen imagItem [.ref "float", .re "j"] cs).getD 0

abbrev RuleC := String × (List Char → Nat)

def firstC : List RuleC → List Char → Option (String × Nat)
  | [], _ => none
  | (tag, m) :: rs, cs => if m cs = 0 then firstC rs cs else some (tag, m cs)

def rulesC : List RuleC :=
  [("equal", lenOf (litM ['=', '='])),
   ("notequal", lenOf (litM ['!', '='])),
   ("equal", lenOf (litM ['=', '='])),
   ("leftshift", lenOf (litM ['<', '<'])),
   ("rightshift", lenOf (litM ['>', '>'])),
   ("lessequal", lenOf (litM ['<', '='])),
   ("greaterequal", lenOf (litM ['>', '='])),
   ("less", lenOf (litM ['<'])),
   ("greater", lenOf (litM ['>'])),
   ("assign", lenOf (litM ['='])),
   ("and", lenOf (kwM ['a', 'n', 'd'])),
   ("or", lenOf (kwM ['o', 'r'])),
   ("not", lenOf (kwM ['n', 'o', 't'])),
   ("if", lenOf (kwM ['i', 'f'])),
   ("else", lenOf (kwM ['e', 'l', 's', 'e'])),
   ("imaginary", imagLen),
   ("float", floatLen),
   ("int", lenOf (plusM isDigit)),
   ("plus", lenOf (litM ['+'])),
   ("minus", lenOf (litM ['-'])),
   ("exp", lenOf (litM ['*', '*'])),
   ("times", lenOf (litM ['*'])),
   ("floordiv", lenOf (litM ['/', '/'])),
   ("over", lenOf (litM ['/'])),
   ("modulo", lenOf (litM ['%'])),
   ("bitwiseand", lenOf (litM ['&'])),
   ("bitwiseor", lenOf (litM ['|'])),
   ("bitwisenot", lenOf (litM ['~'])),
   ("bitwisexor", lenOf (litM ['^'])),
   ("openpar", lenOf (litM ['('])),
   ("closepar", lenOf (litM [')'])),
   ("openbracket", lenOf (litM ['['])),
   ("closebracket", lenOf (litM [']'])),
   ("True", lenOf (kwM ['T', 'r', 'u', 'e'])),
   ("False", lenOf (kwM ['F', 'a', 'l', 's', 'e'])),
   ("identifier", lenOf identM),
   ("whitespace", lenOf wsM),
   ("comma", lenOf (litM [','])),
   ("dot", lenOf (litM ['.'])),
   ("colon", lenOf (litM [':']))]

/-- the rules of the table with their sources resolved, as data -/
inductive RuleS where
  | lit (l : List Char) | kw (l : List Char) | imag | float | int | ident | ws
  deriving DecidableEq

def RuleS.len : RuleS → List Char → Nat
  | .lit l => lenOf (litM l)
  | .kw l => lenOf (kwM l)
  | .imag => imagLen
  | .float => floatLen
  | .int => lenOf (plusM isDigit)
  | .ident => lenOf identM
  | .ws => lenOf wsM

def rulesS : List (String × RuleS) :=
  [("equal", .lit ['=', '=']), ("notequal", .lit ['!', '=']), ("equal", .lit ['=', '=']),
   ("leftshift", .lit ['<', '<']), ("rightshift", .lit ['>', '>']),
   ("lessequal", .lit ['<', '=']), ("greaterequal", .lit ['>', '=']), ("less", .lit ['<']),
   ("greater", .lit ['>']), ("assign", .lit ['=']), ("and", .kw ['a', 'n', 'd']),
   ("or", .kw ['o', 'r']), ("not", .kw ['n', 'o', 't']), ("if", .kw ['i', 'f']),
   ("else", .kw ['e', 'l', 's', 'e']), ("imaginary", .imag), ("float", .float), ("int", .int),
   ("plus", .lit ['+']), ("minus", .lit ['-']), ("exp", .lit ['*', '*']), ("times", .lit ['*']),
   ("floordiv", .lit ['/', '/']), ("over", .lit ['/']), ("modulo", .lit ['%']),
   ("bitwiseand", .lit ['&']), ("bitwiseor", .lit ['|']), ("bitwisenot", .lit ['~']),
   ("bitwisexor", .lit ['^']), ("openpar", .lit ['(']), ("closepar", .lit [')']),
   ("openbracket", .lit ['[']), ("closebracket", .lit [']']), ("True", .kw ['T', 'r', 'u', 'e']),
   ("False", .kw ['F', 'a', 'l', 's', 'e']), ("identifier", .ident), ("whitespace", .ws),
   ("comma", .lit [',']), ("dot", .lit ['.']), ("colon", .lit [':'])]

theorem rulesC_eq : rulesC = rulesS.map fun r => (r.1, r.2.len) := rfl

def RuleS.ofRe : Re → Option RuleS
  | .lit l => some (.lit l)
  | .kw l => some (.kw l)
  | .int => some .int
  | .ident => some .ident
  | .ws => some .ws
  | _ => none

def itemRe : Item → Option Re
  | .re src => reOf src
  | .ref _ => none

def floatRes : List Re := [.float1, .float2, .float3, .float4, .float5]

/-- the items are the five float forms, in order -/
abbrev floatItems (is : List Item) : Prop := is.map itemRe = floatRes.map some

/-- a rule body of one of the shapes of `Parser.lex_table`: a single matcher, the float
alternatives, or a reference to the float alternatives followed by `j` -/
def resolveS (tbl : LexTable) : Body → Option RuleS
  | .one (.re src) => (reOf src).bind RuleS.ofRe
  | .alt is => if floatItems is then some .float else none
  | .seq [.ref tag, .re src] =>
    match dictGet tbl tag with
    | some (.alt is) => if floatItems is ∧ reOf src = some (.lit ['j']) then some .imag else none
    | _ => none
  | _ => none

theorem altLen_of_res {m : Item → List Char → Nat} (hm : ∀ src cs, m (.re src) cs = reLen src cs)
    (cs : List Char) : ∀ {is : List Item} {res : List Re}, is.map itemRe = res.map some →
    altLen m is cs = firstNZ (res.map fun r => lenOf r.run cs)
  | [], [], _ => rfl
  | .re src :: is, r :: res, h => by
    simp only [List.map_cons, List.cons.injEq, itemRe] at h
    simp only [altLen, hm, reLen_of h.1, List.map_cons, firstNZ, altLen_of_res hm cs h.2]
  | .ref _ :: _, _ :: _, h => by simp [itemRe] at h
  | [], _ :: _, h => by simp at h
  | _ :: _, [], h => by simp at h

theorem resolveS_len {tbl : LexTable} {b : Body} {r : RuleS} (h : resolveS tbl b = some r)
    (cs : List Char) : ruleLen tbl b cs = r.len cs := by
  unfold resolveS at h
  split at h
  · rename_i src
    cases hre : reOf src with
    | none => simp [hre] at h
    | some re =>
      rw [hre] at h
      have := reLen_of hre cs
      cases re <;> simp only [Option.bind_some, RuleS.ofRe, Option.some.injEq, reduceCtorEq] at h <;>
        subst h <;> exact this
  · rename_i is
    split at h
    · rename_i hf
      cases h
      exact altLen_of_res (fun _ _ => rfl) cs hf
    · cases h
  · rename_i tag src
    split at h
    · rename_i is hd
      split at h
      · rename_i hf
        cases h
        have h1 : ∀ cs, itemLen tbl (.ref tag) cs = floatLen cs := fun cs => by
          simp only [itemLen, hd, bodyLen]; exact altLen_of_res (fun _ _ => rfl) cs hf.1
        have h2 : ∀ cs, itemLen tbl (.re src) cs = lenOf (litM ['j']) cs := reLen_of hf.2
        simp only [ruleLen, bodyLen, seqLen, h1, h2, RuleS.len, imagLen, imagItem]
        rfl
      · cases h
    · cases h
  · cases h

theorem firstMatch_resolved {tbl : LexTable} (cs : List Char) : ∀ {rules : LexTable}
    {rs : List (String × RuleS)},
    (rules.map fun r => (r.1, resolveS tbl r.2)) = rs.map (fun r => (r.1, some r.2)) →
    firstMatch tbl rules cs = firstC (rs.map fun r => (r.1, r.2.len)) cs
  | [], [], _ => rfl
  | (t, b) :: rules, (t', r) :: rs, h => by
    simp only [List.map_cons, List.cons.injEq, Prod.mk.injEq] at h
    simp only [firstMatch, List.map_cons, firstC, resolveS_len h.1.2, h.1.1,
      firstMatch_resolved cs h.2]
  | [], _ :: _, h => by simp at h
  | _ :: _, [], h => by simp at h

/-- every rule of `Parser.lex_table` has one of the three shapes, with these matchers, and the
table is one the model covers (one evaluation of the sources for both) -/
theorem table_resolved :
    ((table.map fun r => (r.1, resolveS table r.2)) = rulesS.map fun r => (r.1, some r.2)) ∧
    tableOk table = true := by
  decide +kernel

theorem firstMatch_table (cs : List Char) : firstMatch table table cs = firstC rulesC cs :=
  rulesC_eq ▸ firstMatch_resolved cs table_resolved.1

theorem tableOk_table : tableOk table = true := table_resolved.2

end PV.Lexer
