import PV.Proofs.MatchpyRoundtrip
/-
  C16, matchpy bridge: which trees convert (`convertible`), and which come back EXACTLY
  (`bridgeNormal`).
-/
namespace PV.Matchpy
open PV

/-! ### `MTerm.beq` reflects equality (the converse, `MTerm.beq_refl`, is in MatchpyWf.lean) -/

mutual
theorem MTerm.beq_eq : ∀ (a b : MTerm), MTerm.beq a b = true → a = b
  | .scalar c v, .scalar c' v', h => by
    simp only [MTerm.beq, Bool.and_eq_true, beq_iff_eq] at h; rw [h.1, h.2]
  | .id s v, .id s' v', h => by
    simp only [MTerm.beq, Bool.and_eq_true, beq_iff_eq] at h; rw [h.1, h.2]
  | .cmpOp s v, .cmpOp s' v', h => by
    simp only [MTerm.beq, Bool.and_eq_true, beq_iff_eq] at h; rw [h.1, h.2]
  | .wild k n, .wild k' n', h => by
    simp only [MTerm.beq, Bool.and_eq_true, beq_iff_eq] at h; rw [h.1, h.2]
  | .op o as v, .op o' as' v', h => by
    simp only [MTerm.beq, Bool.and_eq_true, beq_iff_eq] at h
    rw [h.1.1, MTerm.beqL_eq as as' h.1.2, h.2]
  | .scalar .., .id .., h | .scalar .., .cmpOp .., h | .scalar .., .op .., h
  | .scalar .., .wild .., h | .id .., .scalar .., h | .id .., .cmpOp .., h | .id .., .op .., h
  | .id .., .wild .., h | .cmpOp .., .scalar .., h | .cmpOp .., .id .., h | .cmpOp .., .op .., h
  | .cmpOp .., .wild .., h | .op .., .scalar .., h | .op .., .id .., h | .op .., .cmpOp .., h
  | .op .., .wild .., h | .wild .., .scalar .., h | .wild .., .id .., h | .wild .., .cmpOp .., h
  | .wild .., .op .., h => by simp [MTerm.beq] at h
theorem MTerm.beqL_eq : ∀ (as bs : List MTerm), MTerm.beqL as bs = true → as = bs
  | [], [], _ => rfl
  | a :: as, b :: bs, h => by
    simp only [MTerm.beqL, Bool.and_eq_true] at h
    rw [MTerm.beq_eq a b h.1, MTerm.beqL_eq as bs h.2]
  | [], _ :: _, h => by simp [MTerm.beqL] at h
  | _ :: _, [], h => by simp [MTerm.beqL] at h
end

/-! ### which trees convert -/

mutual
/-- the trees `ToMatchpyExpressionMapper` accepts: numbers, variables, the seven n-ary operators
other than `Min` / `Max`, the six binary and two unary operators, comparisons, conditionals, calls,
subscripts (index: a tuple of convertible trees, or one convertible tree), dot / star wildcards -/
def convertible : Expr → Bool
  | .const (.int _) => true
  | .const (.bool _) => true
  | .const (.flt ..) => true
  | .var _ => true
  | .nary o cs => (mopOfNary o).isSome && convertibleL cs
  | .bin _ a b => convertible a && convertible b
  | .un _ a => convertible a
  | .cmp _ a b => convertible a && convertible b
  | .ite c t e => convertible c && convertible t && convertible e
  | .call f as => convertible f && convertibleL as
  | .subscript a (.tuple cs) => convertible a && convertibleL cs
  | .subscript a i => convertible a && convertible i
  | .dotWild _ => true
  | .starWild _ => true
  | _ => false
def convertibleL : List Expr → Bool
  | [] => true
  | c :: cs => convertible c && convertibleL cs
end

def MR.isOk {α : Type} : MR α → Bool
  | .ok _ => true
  | .error _ => false

theorem MR.isOk_bind {α β : Type} (x : MR α) (f : α → MR β) :
    MR.isOk (x >>= f) = match x with
      | .ok a => MR.isOk (f a)
      | .error _ => false := by
  cases x <;> rfl

theorem MR.isOk_pure {α : Type} (a : α) : MR.isOk (pure a : MR α) = true := rfl

theorem MR.isOk_throw {α : Type} (e : MErr) : MR.isOk (throw e : MR α) = false := rfl

theorem MR.isOk_iff {α : Type} (x : MR α) : MR.isOk x = true ↔ ∃ a, x = .ok a := by
  cases x <;> simp [MR.isOk]

/-- `toM` succeeds exactly on the convertible trees -/
theorem toM_isOk_aux : ∀ n : Nat,
    (∀ e : Expr, e.size ≤ n → MR.isOk (toM e) = convertible e) ∧
    (∀ es : List Expr, Expr.sizeL es ≤ n → MR.isOk (toML es) = convertibleL es) := by
  intro n
  induction n with
  | zero =>
    refine ⟨fun e he => ?_, fun es hes => ?_⟩
    · have := e.size_pos; omega
    · cases es with
      | nil => rfl
      | cons c cs =>
        simp [Expr.sizeL] at hes
        have := c.size_pos; omega
  | succ n ih =>
    obtain ⟨ihE, ihL⟩ := ih
    have treeCase : ∀ e : Expr, e.size ≤ n + 1 → MR.isOk (toM e) = convertible e := by
      intro e he
      cases e with
      | const c => cases c <;> rfl
      | var x => rfl
      | nary o cs =>
        simp only [Expr.size] at he
        have := ihL cs (by omega)
        simp only [toM, convertible]
        cases hm : mopOfNary o with
        | none => rfl
        | some mo =>
          simp only [MR.isOk_bind, Option.isSome_some, Bool.true_and, ← this]
          cases toML cs <;> rfl
      | bin o a b =>
        simp only [Expr.size] at he
        have h1 := ihE a (by omega); have h2 := ihE b (by omega)
        simp only [toM, convertible, MR.isOk_bind, ← h1, ← h2]
        cases toM a <;> cases toM b <;> rfl
      | un o a =>
        simp only [Expr.size] at he
        have h1 := ihE a (by omega)
        simp only [toM, convertible, MR.isOk_bind, ← h1]
        cases toM a <;> rfl
      | cmp o a b =>
        simp only [Expr.size] at he
        have h1 := ihE a (by omega); have h2 := ihE b (by omega)
        simp only [toM, convertible, MR.isOk_bind, ← h1, ← h2]
        cases toM a <;> cases toM b <;> rfl
      | ite c x y =>
        simp only [Expr.size] at he
        have h1 := ihE c (by omega); have h2 := ihE x (by omega); have h3 := ihE y (by omega)
        simp only [toM, convertible, MR.isOk_bind, ← h1, ← h2, ← h3]
        cases toM c <;> cases toM x <;> cases toM y <;> rfl
      | call f as =>
        simp only [Expr.size] at he
        have h1 := ihE f (by omega); have h2 := ihL as (by omega)
        simp only [toM, convertible, MR.isOk_bind, ← h1, ← h2]
        cases toM f <;> cases toML as <;> rfl
      | subscript a i =>
        simp only [Expr.size] at he
        have h1 := ihE a (by omega)
        by_cases hi : ∃ cs, i = .tuple cs
        · obtain ⟨cs, rfl⟩ := hi
          simp only [Expr.size] at he
          have h2 := ihL cs (by omega)
          simp only [toM, convertible, MR.isOk_bind, ← h1, ← h2]
          cases toM a <;> cases toML cs <;> rfl
        · have hi' : ∀ cs, i ≠ .tuple cs := fun cs hc => hi ⟨cs, hc⟩
          have hto := toM_subscript_of_not_tuple (a := a) hi'
          have hco : convertible (.subscript a i) = (convertible a && convertible i) := by
            cases i <;> first | rfl | (exact absurd rfl (hi' _))
          have h2 := ihE i (by omega)
          rw [hto, hco]
          simp only [MR.isOk_bind, ← h1, ← h2]
          cases toM a <;> cases toM i <;> rfl
      | _ => rfl
    refine ⟨treeCase, fun es => ?_⟩
    induction es with
    | nil => intro _; rfl
    | cons c cs ihcs =>
      intro hs
      simp only [Expr.sizeL] at hs
      have h1 := treeCase c (by omega)
      have h2 := ihcs (by omega)
      simp only [toML, convertibleL, MR.isOk_bind, ← h1, ← h2]
      cases toM c <;> cases toML cs <;> rfl

/-- **which trees convert**: `ToMatchpyExpressionMapper` returns a term exactly for the trees that
satisfy the syntactic predicate `convertible` (every other node type is refused) -/
theorem toM_ok_iff (e : Expr) : (∃ t, toM e = .ok t) ↔ convertible e = true := by
  rw [← MR.isOk_iff, (toM_isOk_aux e.size).1 e (Nat.le_refl _)]

/-! ### which trees come back exactly -/

def isNaryOf (o : NaryOp) : Expr → Bool
  | .nary o' _ => o' == o
  | _ => false

/-- the operand terms are in the order `list.sort()` leaves them in -/
def sortedOps (cs : List Expr) : Bool :=
  match toML cs with
  | .ok ts => MTerm.beqL (pySort MTerm.lt ts) ts
  | .error _ => false

mutual
/-- the trees the round trip returns unchanged: convertible, without wildcards, no operator
declared associative applied directly to an application of itself, the operands of every operator
declared commutative already in `list.sort()` order, every subscript index a tuple -/
def bridgeNormal : Expr → Bool
  | .const (.int _) => true
  | .const (.bool _) => true
  | .const (.flt ..) => true
  | .var _ => true
  | .nary o cs =>
      (mopOfNary o).isSome && bridgeNormalL cs && cs.all (fun c => !isNaryOf o c) && sortedOps cs
  | .bin _ a b => bridgeNormal a && bridgeNormal b
  | .un _ a => bridgeNormal a
  | .cmp _ a b => bridgeNormal a && bridgeNormal b
  | .ite c t e => bridgeNormal c && bridgeNormal t && bridgeNormal e
  | .call f as => bridgeNormal f && bridgeNormalL as
  | .subscript a (.tuple cs) => bridgeNormal a && bridgeNormalL cs
  | _ => false
def bridgeNormalL : List Expr → Bool
  | [] => true
  | c :: cs => bridgeNormal c && bridgeNormalL cs
end

theorem flattenOps_id {mo : MOp} {o : NaryOp} (hn : mo.nary? = some o) :
    ∀ {ts : List MTerm} {cs : List Expr}, fromML ts = .ok cs →
      (∀ c ∈ cs, isNaryOf o c = false) → flattenOps mo ts = ts
  | [], _, _, _ => rfl
  | t :: ts, cs, h, hno => by
    obtain ⟨e, es', rfl, ht, hts⟩ := fromML_cons h
    have ih := flattenOps_id hn hts (fun c hc => hno c (by simp [hc]))
    cases t with
    | op o' as vn =>
      by_cases ho : o' = mo
      · subst ho
        rw [fromM_ac hn] at ht
        cases hl : fromML as with
        | error err => simp [hl, Except.map] at ht
        | ok as' =>
          simp [hl, Except.map] at ht
          have := hno e (by simp)
          rw [← ht] at this
          simp [isNaryOf] at this
      · have : (o' == mo) = false := by simpa using ho
        simp only [flattenOps, this, Bool.false_eq_true, if_false, ih]
    | scalar c vn => simp [flattenOps, ih]
    | id s vn => simp [flattenOps, ih]
    | cmpOp s vn => simp [flattenOps, ih]
    | wild k n => simp [flattenOps, ih]

theorem roundtrip_exact_aux : ∀ n : Nat,
    (∀ e : Expr, e.size ≤ n → bridgeNormal e = true → ∃ t, toM e = .ok t ∧ fromM t = .ok e) ∧
    (∀ es : List Expr, Expr.sizeL es ≤ n → bridgeNormalL es = true →
      ∃ ts, toML es = .ok ts ∧ fromML ts = .ok es) := by
  intro n
  induction n with
  | zero =>
    refine ⟨fun e he => ?_, fun es hes _ => ?_⟩
    · have := e.size_pos; omega
    · cases es with
      | nil => exact ⟨[], rfl, rfl⟩
      | cons c cs =>
        simp [Expr.sizeL] at hes
        have := c.size_pos; omega
  | succ n ih =>
    obtain ⟨ihE, ihL⟩ := ih
    have treeCase : ∀ e : Expr, e.size ≤ n + 1 → bridgeNormal e = true →
        ∃ t, toM e = .ok t ∧ fromM t = .ok e := by
      intro e he hn
      cases e with
      | const c =>
        cases c <;> simp [bridgeNormal] at hn <;> exact ⟨_, rfl, rfl⟩
      | var x => exact ⟨_, rfl, by rw [mk_plain (by rfl)]; rfl⟩
      | nary o cs =>
        simp only [bridgeNormal, Bool.and_eq_true] at hn
        obtain ⟨⟨⟨hm, hl⟩, hno⟩, hs⟩ := hn
        simp only [Expr.size] at he
        obtain ⟨ts, hts, hfs⟩ := ihL cs (by omega) hl
        cases hm' : mopOfNary o with
        | none => simp [hm'] at hm
        | some mo =>
          have hac := mopOfNary_isAC hm'
          have hnn := mopOfNary_nary? hm'
          have hfl : flattenOps mo ts = ts := flattenOps_id hnn hfs (fun c hc => by
            have := List.all_eq_true.1 hno c hc
            simpa using this)
          have hso : pySort MTerm.lt ts = ts := by
            simp only [sortedOps, hts] at hs
            exact MTerm.beqL_eq _ _ hs
          refine ⟨mk mo ts, by simp [toM, hm', hts, bind, Except.bind, pure, Except.pure], ?_⟩
          rw [mk_ac hac, hfl, hso, fromM_ac hnn, hfs]; rfl
      | bin o a b =>
        simp only [bridgeNormal, Bool.and_eq_true] at hn
        simp only [Expr.size] at he
        obtain ⟨a', ha, hfa⟩ := ihE a (by omega) hn.1
        obtain ⟨b', hb, hfb⟩ := ihE b (by omega) hn.2
        refine ⟨mk (mopOfBin o) [a', b'],
          by simp [toM, ha, hb, bind, Except.bind, pure, Except.pure], ?_⟩
        cases o <;> rw [mk_plain (by rfl)] <;>
          simp [mopOfBin, fromM, hfa, hfb, bind, Except.bind, pure, Except.pure]
      | un o a =>
        simp only [bridgeNormal] at hn
        simp only [Expr.size] at he
        obtain ⟨a', ha, hfa⟩ := ihE a (by omega) hn
        refine ⟨mk (mopOfUn o) [a'], by simp [toM, ha, bind, Except.bind, pure, Except.pure], ?_⟩
        cases o <;> rw [mk_plain (by rfl)] <;>
          simp [mopOfUn, fromM, hfa, bind, Except.bind, pure, Except.pure]
      | cmp o a b =>
        simp only [bridgeNormal, Bool.and_eq_true] at hn
        simp only [Expr.size] at he
        obtain ⟨a', ha, hfa⟩ := ihE a (by omega) hn.1
        obtain ⟨b', hb, hfb⟩ := ihE b (by omega) hn.2
        refine ⟨mk .comparison [a', .cmpOp o.sym none, b'],
          by simp [toM, ha, hb, bind, Except.bind, pure, Except.pure], ?_⟩
        rw [mk_plain (by rfl)]
        simp [fromM, hfa, hfb, cmp_ofSym_sym, bind, Except.bind, pure, Except.pure]
      | ite c x y =>
        simp only [bridgeNormal, Bool.and_eq_true] at hn
        simp only [Expr.size] at he
        obtain ⟨c', hc, hfc⟩ := ihE c (by omega) hn.1.1
        obtain ⟨x', hx, hfx⟩ := ihE x (by omega) hn.1.2
        obtain ⟨y', hy, hfy⟩ := ihE y (by omega) hn.2
        refine ⟨mk .ite [c', x', y'],
          by simp [toM, hc, hx, hy, bind, Except.bind, pure, Except.pure], ?_⟩
        rw [mk_plain (by rfl)]
        simp [fromM, hfc, hfx, hfy, bind, Except.bind, pure, Except.pure]
      | call f as =>
        simp only [bridgeNormal, Bool.and_eq_true] at hn
        simp only [Expr.size] at he
        obtain ⟨f', hf, hff⟩ := ihE f (by omega) hn.1
        obtain ⟨as', has, hfas⟩ := ihL as (by omega) hn.2
        refine ⟨mk .call [f', mk .tupleOp as'],
          by simp [toM, hf, has, bind, Except.bind, pure, Except.pure], ?_⟩
        rw [mk_plain (by rfl), mk_plain (by rfl)]
        simp [fromM, hff, hfas, bind, Except.bind, pure, Except.pure]
      | subscript a i =>
        cases i with
        | tuple cs =>
          simp only [bridgeNormal, Bool.and_eq_true] at hn
          simp only [Expr.size] at he
          obtain ⟨a', ha, hfa⟩ := ihE a (by omega) hn.1
          obtain ⟨is', his, hfis⟩ := ihL cs (by omega) hn.2
          refine ⟨mk .subscript [a', mk .tupleOp is'],
            by simp [toM, ha, his, bind, Except.bind, pure, Except.pure], ?_⟩
          rw [mk_plain (by rfl), mk_plain (by rfl)]
          simp [fromM, hfa, hfis, bind, Except.bind, pure, Except.pure]
        | _ => simp [bridgeNormal] at hn
      | _ => simp [bridgeNormal] at hn
    refine ⟨treeCase, fun es => ?_⟩
    induction es with
    | nil => intro _ _; exact ⟨[], rfl, rfl⟩
    | cons c cs ihcs =>
      intro hs hn
      simp only [Expr.sizeL] at hs
      simp only [bridgeNormalL, Bool.and_eq_true] at hn
      obtain ⟨c', hc, hfc⟩ := treeCase c (by omega) hn.1
      obtain ⟨cs', hcs, hfcs⟩ := ihcs (by omega) hn.2
      exact ⟨c' :: cs', by simp [toML, hc, hcs, bind, Except.bind, pure, Except.pure],
        fromML_cons_ok hfc hfcs⟩

end PV.Matchpy
