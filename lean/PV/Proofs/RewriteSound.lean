import PV.Model.Rewrite
import Mathlib.Algebra.Field.Defs
import Mathlib.Algebra.Field.Basic
import Mathlib.Algebra.GroupWithZero.Basic
import Mathlib.Data.Int.Cast.Lemmas
import Mathlib.Tactic.Ring
import PV.Proofs.ExprSize
-- one `simp` call with the common lemma set closes several cases; not every lemma fires in each
set_option linter.unusedSimpArgs false
/-
  C11, part 1: value semantics `evalK` over an arbitrary field, and soundness of the smart
  constructors `flattenedSum` / `flattenedProduct`, of the inherited `IdentityMapper` handlers
  (`idMap`) and of `flattenM`.
-/
namespace PV

universe u
variable {K : Type u} [Field K]

/-- `a + b` or `a * b` -/
def opK (isProd : Bool) (a b : K) : K := if isProd then a * b else a + b
/-- `0` or `1` -/
def unitK (isProd : Bool) : K := if isProd then 1 else 0

theorem opK_comm (p : Bool) (a b : K) : opK p a b = opK p b a := by
  cases p <;> simp [opK, mul_comm, add_comm]

theorem opK_assoc (p : Bool) (a b c : K) : opK p (opK p a b) c = opK p a (opK p b c) := by
  cases p <;> simp [opK, mul_assoc, add_assoc]

theorem opK_unit_left (p : Bool) (a : K) : opK p (unitK p) a = a := by
  cases p <;> simp [opK, unitK]

theorem opK_unit_right (p : Bool) (a : K) : opK p a (unitK p) = a := by
  cases p <;> simp [opK, unitK]

@[simp] theorem opK_false (a b : K) : opK false a b = a + b := rfl
@[simp] theorem opK_true (a b : K) : opK true a b = a * b := rfl
@[simp] theorem unitK_false : (unitK false : K) = 0 := rfl
@[simp] theorem unitK_true : (unitK true : K) = 1 := rfl

variable [DecidableEq K]

def divK : Option K → Option K → Option K
  | some x, some y => if y = 0 then none else some (x / y)
  | _, _ => none

/-- the exponent of a power, when it is an integer literal -/
def expInt? : Expr → Option Int
  | .const (.int n) => some n
  | _ => none

def powK : Option K → Option Int → Option K
  | some x, some n => if n < 0 ∧ x = 0 then none else some (x ^ n)
  | _, _ => none

mutual
/-- Value of an expression of the polynomial / rational fragment in a field: integer constants,
variables, sums, products, quotients (undefined when the denominator is 0), powers with an
integer-literal exponent (`zpow`; undefined for `0 ** negative`), CSE wrappers (transparent).
`none` everywhere else. -/
def evalK (ρ : String → K) : Expr → Option K
  | .const c => match c with
    | .int n => some (n : K)
    | _ => none
  | .var x => some (ρ x)
  | .nary o cs => match o with
    | .sum => evalKL ρ false cs
    | .prod => evalKL ρ true cs
    | _ => none
  | .bin o a b => match o with
    | .quot => divK (evalK ρ a) (evalK ρ b)
    | .pow => powK (evalK ρ a) (expInt? b)
    | _ => none
  | .cse c _ _ => evalK ρ c
  | _ => none
/-- sum (`isProd = false`) or product (`isProd = true`) of the values of a list -/
def evalKL (ρ : String → K) (isProd : Bool) : List Expr → Option K
  | [] => some (unitK isProd)
  | c :: cs => match evalK ρ c, evalKL ρ isProd cs with
    | some a, some b => some (opK isProd a b)
    | _, _ => none
end

section
variable (ρ : String → K)

theorem evalKL_cons {p : Bool} {c : Expr} {cs : List Expr} {v : K}
    (h : evalKL ρ p (c :: cs) = some v) :
    ∃ a b, evalK ρ c = some a ∧ evalKL ρ p cs = some b ∧ v = opK p a b := by
  simp only [evalKL] at h
  cases ha : evalK ρ c with
  | none => rw [ha] at h; simp at h
  | some a =>
    cases hb : evalKL ρ p cs with
    | none => rw [ha, hb] at h; simp at h
    | some b =>
      rw [ha, hb] at h; simp only [Option.some.injEq] at h
      exact ⟨a, b, rfl, rfl, h.symm⟩

theorem evalKL_cons_mk {p : Bool} {c : Expr} {cs : List Expr} {a b : K}
    (ha : evalK ρ c = some a) (hb : evalKL ρ p cs = some b) :
    evalKL ρ p (c :: cs) = some (opK p a b) := by
  simp only [evalKL, ha, hb]

theorem evalKL_append {p : Bool} : ∀ {as bs : List Expr} {v : K},
    evalKL ρ p (as ++ bs) = some v →
    ∃ a b, evalKL ρ p as = some a ∧ evalKL ρ p bs = some b ∧ v = opK p a b
  | [], bs, v, h => ⟨unitK p, v, rfl, h, (opK_unit_left p v).symm⟩
  | c :: as, bs, v, h => by
      rw [List.cons_append] at h
      obtain ⟨x, y, hx, hy, rfl⟩ := evalKL_cons ρ h
      obtain ⟨a, b, ha, hb, rfl⟩ := evalKL_append hy
      exact ⟨opK p x a, b, evalKL_cons_mk ρ hx ha, hb, (opK_assoc p x a b).symm⟩

theorem evalKL_append_mk {p : Bool} : ∀ {as bs : List Expr} {a b : K},
    evalKL ρ p as = some a → evalKL ρ p bs = some b →
    evalKL ρ p (as ++ bs) = some (opK p a b)
  | [], bs, a, b, ha, hb => by
      simp only [evalKL, Option.some.injEq] at ha
      subst ha; rw [opK_unit_left]; exact hb
  | c :: as, bs, a, b, ha, hb => by
      obtain ⟨x, y, hx, hy, rfl⟩ := evalKL_cons ρ ha
      rw [List.cons_append, opK_assoc]
      exact evalKL_cons_mk ρ hx (evalKL_append_mk hy hb)

theorem evalKL_singleton {p : Bool} {c : Expr} {a : K} (h : evalK ρ c = some a) :
    evalKL ρ p [c] = some a := by
  simp only [evalKL, h, opK_unit_right]

theorem evalK_sum (cs : List Expr) : evalK ρ (.nary .sum cs) = evalKL ρ false cs := by
  simp only [evalK]

theorem evalK_prod (cs : List Expr) : evalK ρ (.nary .prod cs) = evalKL ρ true cs := by
  simp only [evalK]

theorem evalK_zero : evalK ρ zero = some (0 : K) := by
  simp only [zero, evalK, Int.cast_zero]

theorem evalK_one : evalK ρ one = some (1 : K) := by
  simp only [one, evalK, Int.cast_one]

theorem evalK_const {c : Const} {k : K} (h : evalK ρ (.const c) = some k) :
    ∃ n : Int, c = .int n ∧ k = (n : K) := by
  cases c <;> simp only [evalK] at h <;> try contradiction
  · injection h with h; exact ⟨_, rfl, h.symm⟩

/-! ### falsy expressions have value 0, `isOne` expressions value 1 -/

theorem evalKL_prod_zero_left : ∀ (cs : List Expr) (k : K) (c : Expr),
    evalK ρ c = some 0 → evalKL ρ true (c :: cs) = some k → k = 0 := by
  intro cs k c hc h
  obtain ⟨a, b, ha, _, rfl⟩ := evalKL_cons ρ h
  rw [hc] at ha; injection ha with ha; subst ha
  simp [opK]

mutual
theorem falsy_K : ∀ (e : Expr) (k : K), e.truthy = false → evalK ρ e = some k → k = 0
  | .const c, k, ht, he => by
      obtain ⟨n, rfl, rfl⟩ := evalK_const ρ he
      simp only [Expr.truthy, Const.truthy, bne_eq_false_iff_eq] at ht
      subst ht; exact Int.cast_zero
  | .nary .sum cs, k, ht, he => by
      simp only [Expr.truthy] at ht; rw [evalK_sum] at he
      exact falsySum_K cs k ht he
  | .nary .prod cs, k, ht, he => by
      simp only [Expr.truthy] at ht; rw [evalK_prod] at he
      exact falsyProd_K cs k ht he
  | .bin .quot a b, k, ht, he => by
      simp only [Expr.truthy] at ht
      simp only [evalK] at he
      cases ha : evalK ρ a with
      | none => rw [ha] at he; simp [divK] at he
      | some x =>
        cases hb : evalK ρ b with
        | none => rw [ha, hb] at he; simp [divK] at he
        | some y =>
          rw [ha, hb] at he
          simp only [divK] at he
          split at he
          · contradiction
          · injection he with he
            have := falsy_K a x ht ha
            subst this; subst he; simp
  | .var _, _, ht, _ => by simp [Expr.truthy] at ht
  | .bin .pow _ _, _, ht, _ => by simp [Expr.truthy] at ht
  | .cse .., _, ht, _ => by simp [Expr.truthy] at ht
  | .nary .bor _, _, _, he | .nary .bxor _, _, _, he | .nary .band _, _, _, he
  | .nary .lor _, _, _, he | .nary .land _, _, _, he | .nary .min _, _, _, he
  | .nary .max _, _, _, he => by simp [evalK] at he
  | .bin .floordiv _ _, _, _, he | .bin .rem _ _, _, _, he | .bin .lshift _ _, _, _, he
  | .bin .rshift _ _, _, _, he => by simp [evalK] at he
  | .un .., _, _, he | .cmp .., _, _, he | .ite .., _, _, he
  | .call .., _, _, he | .callKw .., _, _, he | .subscript .., _, _, he | .lookup .., _, _, he
  | .subst .., _, _, he | .deriv .., _, _, he | .slice .., _, _, he
  | .nan, _, _, he | .wildcard, _, _, he | .dotWild .., _, _, he | .starWild .., _, _, he
  | .funcSym, _, _, he | .tuple .., _, _, he | .list .., _, _, he => by simp [evalK] at he
theorem falsySum_K : ∀ (cs : List Expr) (k : K), Expr.truthySum cs = false →
    evalKL ρ false cs = some k → k = 0
  | [], _, ht, _ => by simp [Expr.truthySum] at ht
  | [c], k, ht, he => by
      simp only [Expr.truthySum] at ht
      obtain ⟨a, b, ha, hb, rfl⟩ := evalKL_cons ρ he
      simp only [evalKL, Option.some.injEq] at hb
      subst hb
      rw [falsy_K c a ht ha]; simp [opK, unitK]
  | _ :: _ :: _, _, ht, _ => by simp [Expr.truthySum] at ht
theorem falsyProd_K : ∀ (cs : List Expr) (k : K), Expr.truthyProd cs = false →
    evalKL ρ true cs = some k → k = 0
  | [], _, ht, _ => by simp [Expr.truthyProd] at ht
  | c :: cs, k, ht, he => by
      simp only [Expr.truthyProd, Bool.and_eq_false_iff] at ht
      obtain ⟨a, b, ha, hb, rfl⟩ := evalKL_cons ρ he
      rcases ht with ht | ht
      · rw [falsy_K c a ht ha]; simp [opK]
      · rw [falsyProd_K cs b ht hb]; simp [opK]
end

theorem isZero_K {e : Expr} {k : K} (hz : e.isZero = true) (he : evalK ρ e = some k) : k = 0 := by
  simp only [Expr.isZero, Bool.not_eq_true'] at hz
  exact falsy_K ρ e k hz he

theorem isOne_K {e : Expr} {k : K} (h1 : e.isOne = true) (he : evalK ρ e = some k) : k = 1 := by
  cases e <;> simp only [Expr.isOne] at h1 <;> try contradiction
  obtain ⟨n, rfl, rfl⟩ := evalK_const ρ he
  simp only [Const.isOne, beq_iff_eq] at h1
  subst h1; exact Int.cast_one

/-! ### the queue loops of `flattened_sum` / `flattened_product` -/

/-- the value of `done ++ queue` is an invariant of the loop (given enough fuel) -/
theorem flattenedSumLoop_value : ∀ (fuel : Nat) (queue done : List Expr) (v : K),
    Expr.sizeL queue < fuel → evalKL ρ false (done ++ queue) = some v →
    evalKL ρ false (flattenedSumLoop fuel queue done) = some v
  | 0, _, _, _, hf, _ => by omega
  | fuel + 1, [], done, v, _, h => by
      simpa only [flattenedSumLoop, List.append_nil] using h
  | fuel + 1, item :: queue, done, v, hf, h => by
      obtain ⟨d, r, hd, hr, rfl⟩ := evalKL_append ρ h
      obtain ⟨x, q, hx, hq, rfl⟩ := evalKL_cons ρ hr
      simp only [Expr.sizeL] at hf
      have hpos := Expr.size_pos item
      simp only [flattenedSumLoop]
      split
      · -- zero item dropped
        rename_i hz
        have := isZero_K ρ hz hx; subst this
        apply flattenedSumLoop_value fuel queue done _ (by omega)
        rw [evalKL_append_mk ρ hd hq]; simp [opK]
      · split
        · -- a sum: children are spliced in place (front of the queue)
          rw [evalK_sum] at hx
          apply flattenedSumLoop_value fuel _ done _
            (by simp only [Expr.sizeL_append, Expr.size] at hf ⊢; omega)
          rw [evalKL_append_mk ρ hd (evalKL_append_mk ρ hx hq)]
        · apply flattenedSumLoop_value fuel queue (done ++ [item]) _ (by omega)
          rw [evalKL_append_mk ρ (evalKL_append_mk ρ hd (evalKL_singleton ρ hx)) hq]
          simp only [opK_false, opK_true, Option.some.injEq]; ring

/-- **`flattened_sum` preserves the value**: if the terms sum to `v`, so does the result. -/
theorem flattenedSum_value {terms : List Expr} {v : K} (h : evalKL ρ false terms = some v) :
    evalK ρ (flattenedSum terms) = some v := by
  have := flattenedSumLoop_value ρ (Expr.sizeL terms + terms.length + 1) terms [] v (by omega)
    (by simpa using h)
  simp only [flattenedSum]
  split
  · rename_i heq; rw [heq] at this
    simp only [evalKL, unitK, Option.some.injEq] at this
    rw [evalK_zero]; simp at this; rw [this]
  · rename_i x heq; rw [heq] at this
    obtain ⟨a, b, ha, hb, rfl⟩ := evalKL_cons ρ this
    simp only [evalKL, Option.some.injEq] at hb; subst hb
    rw [ha, opK_unit_right]
  · rename_i xs _ _ heq
    rw [evalK_sum]; exact this

/-- outcome of the product loop: early `return 0` (then the value is 0) or the factors -/
def ProdLoopOK (v : K) : Option (List Expr) → Prop
  | none => v = 0
  | some xs => evalKL ρ true xs = some v

theorem flattenedProductLoop_value : ∀ (fuel : Nat) (queue done : List Expr) (v : K),
    Expr.sizeL queue < fuel → evalKL ρ true (done ++ queue) = some v →
    ProdLoopOK ρ v (flattenedProductLoop fuel queue done)
  | 0, _, _, _, hf, _ => by omega
  | fuel + 1, [], done, v, _, h => by
      simpa only [flattenedProductLoop, List.append_nil, ProdLoopOK] using h
  | fuel + 1, item :: queue, done, v, hf, h => by
      obtain ⟨d, r, hd, hr, rfl⟩ := evalKL_append ρ h
      obtain ⟨x, q, hx, hq, rfl⟩ := evalKL_cons ρ hr
      simp only [Expr.sizeL] at hf
      have hpos := Expr.size_pos item
      simp only [flattenedProductLoop]
      split
      · rename_i hz
        have := isZero_K ρ hz hx; subst this
        simp [ProdLoopOK]
      · split
        · rename_i h1
          have := isOne_K ρ h1 hx; subst this
          apply flattenedProductLoop_value fuel queue done _ (by omega)
          rw [evalKL_append_mk ρ hd hq]; simp [opK]
        · split
          · rw [evalK_prod] at hx
            apply flattenedProductLoop_value fuel _ done _
              (by simp only [Expr.sizeL_append, Expr.size] at hf ⊢; omega)
            rw [evalKL_append_mk ρ hd (evalKL_append_mk ρ hx hq)]
          · apply flattenedProductLoop_value fuel queue (done ++ [item]) _ (by omega)
            rw [evalKL_append_mk ρ (evalKL_append_mk ρ hd (evalKL_singleton ρ hx)) hq]
            simp only [opK_false, opK_true, Option.some.injEq]; ring

/-- **`flattened_product` preserves the value.** -/
theorem flattenedProduct_value {terms : List Expr} {v : K} (h : evalKL ρ true terms = some v) :
    evalK ρ (flattenedProduct terms) = some v := by
  have := flattenedProductLoop_value ρ (Expr.sizeL terms + terms.length + 1) terms [] v (by omega)
    (by simpa using h)
  simp only [flattenedProduct]
  split
  · rename_i heq; rw [heq] at this
    simp only [ProdLoopOK] at this; subst this; exact evalK_zero ρ
  · rename_i heq; rw [heq] at this
    simp only [ProdLoopOK, evalKL, unitK, Option.some.injEq] at this
    rw [evalK_one]; simp at this; rw [this]
  · rename_i x heq; rw [heq] at this
    simp only [ProdLoopOK] at this
    obtain ⟨a, b, ha, hb, rfl⟩ := evalKL_cons ρ this
    simp only [evalKL, Option.some.injEq] at hb; subst hb
    rw [ha, opK_unit_right]
  · rename_i xs _ _ heq
    rw [heq] at this
    rw [evalK_prod]; exact this

theorem flatProd_value {items : List Expr} {e : Expr} {v : K} (h : flatProd items = .ok e)
    (hv : evalKL ρ true items = some v) : evalK ρ e = some v := by
  simp only [flatProd] at h
  split at h
  · contradiction
  · injection h with h; subst h; exact flattenedProduct_value ρ hv

end

end PV

namespace PV

universe u
variable {K : Type u} [Field K] [DecidableEq K]

/-! ### `Except` plumbing -/

theorem bind_ok {ε α β : Type} {x : Except ε α} {f : α → Except ε β} {r : β}
    (h : x >>= f = .ok r) : ∃ a, x = .ok a ∧ f a = .ok r := by
  cases x with
  | error e => simp [bind, Except.bind] at h
  | ok a => exact ⟨a, rfl, h⟩

theorem mapM_ok' {ε α β : Type} {f : α → Except ε β} : ∀ {cs : List α} {cs' : List β},
    cs.mapM f = .ok cs' → List.Forall₂ (fun c c' => f c = .ok c') cs cs'
  | [], cs', h => by
      simp only [List.mapM_nil, pure, Except.pure] at h
      injection h with h; subst h; exact .nil
  | c :: cs, cs', h => by
      rw [List.mapM_cons] at h
      obtain ⟨b, hb, h⟩ := bind_ok h
      obtain ⟨bs, hbs, h⟩ := bind_ok h
      simp only [pure, Except.pure] at h
      injection h with h; subst h
      exact .cons hb (mapM_ok' hbs)

theorem mapM_ok {ε : Type} {f : Expr → Except ε Expr} {cs cs' : List Expr}
    (h : cs.mapM f = .ok cs') : List.Forall₂ (fun c c' => f c = .ok c') cs cs' :=
  mapM_ok' h

section
variable (ρ : String → K)

theorem divK_some {a b : Option K} {v : K} (h : divK a b = some v) :
    ∃ x y, a = some x ∧ b = some y ∧ y ≠ 0 ∧ v = x / y := by
  cases a <;> cases b <;> simp only [divK] at h <;> try contradiction
  split at h
  · contradiction
  · injection h with h; exact ⟨_, _, rfl, rfl, ‹_›, h.symm⟩

theorem divK_mk {x y : K} (hy : y ≠ 0) : divK (some x) (some y) = some (x / y) := by
  simp [divK, hy]

theorem powK_some {a : Option K} {n? : Option Int} {v : K} (h : powK a n? = some v) :
    ∃ x n, a = some x ∧ n? = some n ∧ ¬ (n < 0 ∧ x = 0) ∧ v = x ^ n := by
  cases a <;> cases n? <;> simp only [powK] at h <;> try contradiction
  split at h
  · contradiction
  · injection h with h; exact ⟨_, _, rfl, rfl, ‹_›, h.symm⟩

theorem expInt?_some {b : Expr} {n : Int} (h : expInt? b = some n) : b = .const (.int n) := by
  cases b <;> simp only [expInt?] at h <;> try contradiction
  rename_i c
  cases c <;> simp only [expInt?] at h <;> try contradiction
  injection h with h; subst h; rfl

theorem evalK_pow_lit (a : Expr) (n : Int) :
    evalK ρ (.bin .pow a (.const (.int n))) = powK (evalK ρ a) (some n) := by
  simp only [evalK, expInt?]

/-- a list mapped element-wise by a value-preserving function keeps its sum / product -/
theorem evalKL_forall₂ {f : Expr → RwR} (p : Bool)
    (hrec : ∀ c c' v, f c = .ok c' → evalK ρ c = some v → evalK ρ c' = some v) :
    ∀ {cs cs' : List Expr} {v : K}, List.Forall₂ (fun c c' => f c = .ok c') cs cs' →
      evalKL ρ p cs = some v → evalKL ρ p cs' = some v
  | _, _, _, .nil, h => h
  | _, _, _, .cons hc hcs, h => by
      obtain ⟨a, b, ha, hb, rfl⟩ := evalKL_cons ρ h
      exact evalKL_cons_mk ρ (hrec _ _ _ hc ha) (evalKL_forall₂ p hrec hcs hb)

/-- **The inherited `IdentityMapper` handlers preserve the value** when `rec` does (and returns
constants unchanged). -/
theorem idMap_value {rec : Expr → RwR}
    (hconst : ∀ c r, rec (.const c) = .ok r → r = .const c)
    (hrec : ∀ c c' v, rec c = .ok c' → evalK ρ c = some v → evalK ρ c' = some v)
    {e e' : Expr} {v : K} (h : idMap rec e = .ok e') (hv : evalK ρ e = some v) :
    evalK ρ e' = some v := by
  cases e with
  | const c =>
    obtain ⟨n, rfl, rfl⟩ := evalK_const ρ hv
    simp only [idMap, pure, Except.pure] at h
    injection h with h; subst h; exact hv
  | var x =>
    simp only [idMap, pure, Except.pure] at h
    injection h with h; subst h; exact hv
  | nary o cs =>
    simp only [idMap] at h
    obtain ⟨cs', hcs, h⟩ := bind_ok h
    simp only [pure, Except.pure] at h
    injection h with h; subst h
    cases o <;> simp only [evalK] at hv ⊢ <;> try contradiction
    · exact evalKL_forall₂ ρ false hrec (mapM_ok hcs) hv
    · exact evalKL_forall₂ ρ true hrec (mapM_ok hcs) hv
  | bin o a b =>
    simp only [idMap] at h
    obtain ⟨a', ha, h⟩ := bind_ok h
    obtain ⟨b', hb, h⟩ := bind_ok h
    simp only [pure, Except.pure] at h
    injection h with h; subst h
    cases o <;> simp only [evalK] at hv ⊢ <;> try contradiction
    · obtain ⟨x, y, hx, hy, hy0, rfl⟩ := divK_some hv
      rw [hrec _ _ _ ha hx, hrec _ _ _ hb hy]; exact divK_mk hy0
    · obtain ⟨x, n, hx, hn, hdef, rfl⟩ := powK_some hv
      have := expInt?_some hn; subst this
      have := hconst _ _ hb; subst this
      rw [hrec _ _ _ ha hx, hn]
      simp only [powK, hdef, if_false]
  | cse c p s =>
    simp only [idMap] at h
    obtain ⟨c', hc, h⟩ := bind_ok h
    simp only [evalK] at hv
    have hc' := hrec _ _ _ hc hv
    split at h
    · rename_i hz
      simp only [pure, Except.pure] at h
      injection h with h; subst h
      rw [isZero_K ρ hz hc']; exact evalK_zero ρ
    · simp only [pure, Except.pure] at h
      injection h with h; subst h
      simpa only [evalK] using hc'
  | _ => simp [evalK] at hv

/-! ### FlattenMapper -/

theorem flattenM_const : ∀ (fuel : Nat) (c : Const) (r : Expr),
    flattenM fuel (.const c) = .ok r → r = .const c
  | 0, _, _, h => by simp [flattenM, throw, throwThe, MonadExceptOf.throw] at h
  | fuel + 1, c, r, h => by
      cases c <;> simp only [flattenM, idMap, pure, Except.pure, throw, throwThe,
        MonadExceptOf.throw] at h <;> first | contradiction | (injection h with h; exact h.symm)

/-- **`flatten` preserves the value**: wherever the input has a value (in any field, under any
assignment), the flattened expression has the same value. -/
theorem flattenM_value : ∀ (fuel : Nat) (e e' : Expr) (v : K),
    flattenM fuel e = .ok e' → evalK ρ e = some v → evalK ρ e' = some v
  | 0, _, _, _, h, _ => by simp [flattenM, throw, throwThe, MonadExceptOf.throw] at h
  | fuel + 1, e, e', v, h, hv => by
      have ih := flattenM_value fuel
      have hc := flattenM_const fuel
      cases e with
      | nary o cs =>
        cases o with
        | sum =>
          simp only [flattenM] at h
          obtain ⟨cs', hcs, h⟩ := bind_ok h
          simp only [pure, Except.pure] at h
          injection h with h; subst h
          rw [evalK_sum] at hv
          exact flattenedSum_value ρ (evalKL_forall₂ ρ false ih (mapM_ok hcs) hv)
        | prod =>
          simp only [flattenM] at h
          obtain ⟨cs', hcs, h⟩ := bind_ok h
          rw [evalK_prod] at hv
          exact flatProd_value ρ h (evalKL_forall₂ ρ true ih (mapM_ok hcs) hv)
        | _ => simp [evalK] at hv
      | _ =>
        simp only [flattenM] at h
        exact idMap_value ρ hc ih h hv

end

end PV
