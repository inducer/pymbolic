import PV.Model.Compile
import PV.Model.Eval
/-
  C13.  `CompileMapper.map_common_subexpression` prints a wrapper as its child at the enclosing
  precedence, and its `rec_with_force_parens_around` looks through wrappers before the type test.
  `strG … true` (the direct mirror of these two overrides) on a tree = `strG … false` (the base
  class's recursion) on the tree with every wrapper erased (`stripCse`), except in the two places
  where the base class still looks at the node TYPE of a child: the index of a subscript (a tuple
  index prints without its parentheses, a wrapper around a tuple prints `a[(b, c)]` — the same
  Python value) and the parts of a slice (`None` prints as nothing, a wrapper around `None` is a
  foreign object — no value either way) — `cseShapeOk` excludes these two shapes.  A wrapper means its
  child: `den_stripCse`.
-/
namespace PV.C13
open PV

def isCse : Expr → Bool
  | .cse .. => true
  | _ => false
def isTupleE : Expr → Bool
  | .tuple _ => true
  | _ => false
def isNoneE : Expr → Bool
  | .const .none => true
  | _ => false

mutual
/-- no wrapper (chain) stands directly around a tuple in index position or around `None` as a
part of a slice -/
def cseShapeOk : Expr → Bool
  | .cse c _ _ => cseShapeOk c
  | .nary _ cs => cseShapeOkL cs
  | .bin _ a b => cseShapeOk a && cseShapeOk b
  | .un _ a => cseShapeOk a
  | .cmp _ a b => cseShapeOk a && cseShapeOk b
  | .ite c t e => cseShapeOk c && cseShapeOk t && cseShapeOk e
  | .call f as => cseShapeOk f && cseShapeOkL as
  | .callKw f as _ vs => cseShapeOk f && cseShapeOkL as && cseShapeOkL vs
  | .subscript a i => cseShapeOk a && cseShapeOk i && !(isCse i && isTupleE (stripCse i))
  | .lookup a _ => cseShapeOk a
  | .slice cs => cseShapeOkSlice cs
  | .tuple cs => cseShapeOkL cs
  | .list cs => cseShapeOkL cs
  | _ => true
def cseShapeOkL : List Expr → Bool
  | [] => true
  | c :: cs => cseShapeOk c && cseShapeOkL cs
def cseShapeOkSlice : List Expr → Bool
  | [] => true
  | c :: cs => cseShapeOk c && !(isCse c && isNoneE (stripCse c)) && cseShapeOkSlice cs
end

variable (S : PrintPrec) (cf : Const → Nat → Except SErr Pieces)

theorem strG_subscript_nt (bare : Bool) (a i : Expr) (enc : Nat) (hi : ∀ cs, i ≠ .tuple cs) :
    strG S cf bare (.subscript a i) enc = (do
      let ip ← strG S cf bare i S.none
      let ap ← strG S cf bare a S.call
      pure (parenIf (ap ++ [sy "["] ++ ip ++ [sy "]"]) enc S.call)) := by
  rw [strG]
  intro cs h; exact hi cs h

theorem strGSliceL_cons_nn (bare : Bool) (c : Expr) (cs : List Expr) (hc : c ≠ .const .none) :
    strGSliceL S cf bare (c :: cs) = (do
      let x ← strG S cf bare c S.none
      let xs ← strGSliceL S cf bare cs
      pure (x :: xs)) := by
  rw [strGSliceL]
  intro h; exact hc h

omit S cf in
theorem peel_strip_mult : ∀ c : Expr, isMultiplicative (stripCse c) = isMultiplicative (peelCse c) ∧
    isDivision (stripCse c) = isDivision (peelCse c)
  | .cse c _ _ => by simp only [stripCse, peelCse]; exact peel_strip_mult c
  | .nary o cs => by cases o <;> exact ⟨rfl, rfl⟩
  | .bin o a b => by cases o <;> exact ⟨rfl, rfl⟩
  | .const _ | .var _ | .un _ _ | .cmp _ _ _ | .ite _ _ _ | .call _ _ | .callKw _ _ _ _
  | .subscript _ _ | .lookup _ _ | .subst _ _ _ | .deriv _ _ | .slice _ | .nan | .wildcard
  | .dotWild _ | .starWild _ | .funcSym | .tuple _ | .list _ => ⟨rfl, rfl⟩

omit S cf in
/-- the forced parentheses of `CompileMapper` are those of the base class on the wrapper-free
operand -/
theorem forceWrapG_strip (all : Bool) (c : Expr) (x : Pieces) :
    forceWrapG true all c x = forceWrapG false all (stripCse c) x := by
  simp only [forceWrapG, if_true, Bool.false_eq_true, if_false, forceWrap, (peel_strip_mult c).1,
    (peel_strip_mult c).2]

omit S cf in
/-- where the wrappers around an index are not around a tuple, the wrapper-free index is a tuple
only if the index is -/
theorem stripCse_ne_tuple {i : Expr} (hi : ∀ cs, i ≠ .tuple cs)
    (h : (isCse i && isTupleE (stripCse i)) = false) : ∀ cs, stripCse i ≠ .tuple cs := by
  intro cs hs
  cases i with
  | cse => rw [hs] at h; cases h
  | tuple xs => exact hi xs rfl
  | _ => simp only [stripCse] at hs <;> cases hs

omit S cf in
theorem stripCse_ne_none {c : Expr} (hc : c ≠ .const .none)
    (h : (isCse c && isNoneE (stripCse c)) = false) : stripCse c ≠ .const .none := by
  intro hs
  cases c with
  | cse => rw [hs] at h; cases h
  | const k => exact hc hs
  | _ => simp only [stripCse] at hs <;> cases hs

omit S cf in
theorem stripCseL_length : ∀ cs : List Expr, (stripCseL cs).length = cs.length
  | [] => by simp [stripCseL]
  | c :: cs => by simp [stripCseL, stripCseL_length cs]

/-- a subscript whose index is not a tuple, from the two operands -/
theorem strG_bare_subscript_nt {a i : Expr} (enc : Nat) (hi : ∀ cs, i ≠ .tuple cs)
    (h : (isCse i && isTupleE (stripCse i)) = false)
    (ha : strG S cf true a S.call = strG S cf false (stripCse a) S.call)
    (hx : strG S cf true i S.none = strG S cf false (stripCse i) S.none) :
    strG S cf true (.subscript a i) enc = strG S cf false (stripCse (.subscript a i)) enc := by
  rw [show stripCse (.subscript a i) = .subscript (stripCse a) (stripCse i) by simp only [stripCse],
    strG_subscript_nt S cf true a i enc hi,
    strG_subscript_nt S cf false _ _ enc (stripCse_ne_tuple hi h), ha, hx]

mutual
/-- **`CompileMapper` prints a tree as the base class prints the tree without its wrappers** -/
theorem strG_bare_eq : ∀ (e : Expr) (enc : Nat), cseShapeOk e = true →
    strG S cf true e enc = strG S cf false (stripCse e) enc
  | .const _, _, _ | .var _, _, _ | .wildcard, _, _ | .nan, _, _ | .funcSym, _, _
  | .dotWild _, _, _ | .starWild _, _, _ | .subst .., _, _ | .deriv .., _, _ => by
      simp only [strG, stripCse]
  | .cse c p s, enc, h => by
      simp only [cseShapeOk] at h
      simp only [strG, stripCse, if_true, strG_bare_eq c enc h]
  | .call f as, _, h => by
      simp only [cseShapeOk, Bool.and_eq_true] at h
      simp only [strG, stripCse, strG_bare_eq f _ h.1, strGL_bare_eq as _ h.2]
  | .callKw f as ns vs, _, h => by
      simp only [cseShapeOk, Bool.and_eq_true] at h
      simp only [strG, stripCse, strG_bare_eq f _ h.1.1, strGL_bare_eq as _ h.1.2,
        strGL_bare_eq vs _ h.2]
  | .subscript a i, enc, h => by
      rw [cseShapeOk] at h
      simp only [Bool.and_eq_true, Bool.not_eq_true'] at h
      have ha := strG_bare_eq a S.call h.1.1
      have hi := strG_bare_eq i S.none h.1.2
      -- a tuple index is printed without its parentheses, from its elements
      cases i with
      | tuple cs =>
        simp only [cseShapeOk] at h
        simp only [strG, stripCse, ha, strGL_bare_eq cs _ h.1.2]
      | _ => exact strG_bare_subscript_nt S cf enc (by intro cs hh; cases hh) h.2 ha hi
  | .lookup a n, enc, h => by
      simp only [cseShapeOk] at h
      simp only [strG, stripCse, strG_bare_eq a _ h]
  | .nary o cs, enc, h => by
      simp only [cseShapeOk] at h
      cases o <;>
        simp only [strG, stripCse, strGL_bare_eq cs _ h, strGForceL_bare_eq false cs _ h]
  | .bin o a b, enc, h => by
      simp only [cseShapeOk, Bool.and_eq_true] at h
      cases o <;>
        simp only [strG, stripCse, strG_bare_eq a _ h.1, strG_bare_eq b _ h.2, forceWrapG_strip]
  | .un o a, enc, h => by
      simp only [cseShapeOk] at h
      cases o <;> simp only [strG, stripCse, strG_bare_eq a _ h]
  | .cmp o a b, enc, h => by
      simp only [cseShapeOk, Bool.and_eq_true] at h
      simp only [strG, stripCse, strG_bare_eq a _ h.1, strG_bare_eq b _ h.2]
  | .ite c t e, enc, h => by
      simp only [cseShapeOk, Bool.and_eq_true] at h
      simp only [strG, stripCse, strG_bare_eq t _ h.1.2, strG_bare_eq c _ h.1.1,
        strG_bare_eq e _ h.2]
  | .tuple cs, _, h => by
      simp only [cseShapeOk] at h
      simp only [strG, stripCse, strGL_bare_eq cs _ h, stripCseL_length]
  | .list cs, _, h => by
      simp only [cseShapeOk] at h
      simp only [strG, stripCse, strGL_bare_eq cs _ h]
  | .slice cs, enc, h => by
      simp only [cseShapeOk] at h
      simp only [strG, stripCse, strGSliceL_bare_eq cs h]
theorem strGL_bare_eq : ∀ (cs : List Expr) (enc : Nat), cseShapeOkL cs = true →
    strGL S cf true cs enc = strGL S cf false (stripCseL cs) enc
  | [], _, _ => by simp only [strGL, stripCseL]
  | c :: cs, enc, h => by
      simp only [cseShapeOkL, Bool.and_eq_true] at h
      simp only [strGL, stripCseL, strG_bare_eq c _ h.1, strGL_bare_eq cs _ h.2]
theorem strGForceL_bare_eq (all : Bool) : ∀ (cs : List Expr) (enc : Nat), cseShapeOkL cs = true →
    strGForceL S cf true all cs enc = strGForceL S cf false all (stripCseL cs) enc
  | [], _, _ => by simp only [strGForceL, stripCseL]
  | c :: cs, enc, h => by
      simp only [cseShapeOkL, Bool.and_eq_true] at h
      simp only [strGForceL, stripCseL, strG_bare_eq c _ h.1, strGForceL_bare_eq all cs _ h.2,
        forceWrapG_strip]
theorem strGSliceL_bare_eq : ∀ (cs : List Expr), cseShapeOkSlice cs = true →
    strGSliceL S cf true cs = strGSliceL S cf false (stripCseL cs)
  | [], _ => by simp only [strGSliceL, stripCseL]
  | c :: cs, h => by
      rw [cseShapeOkSlice] at h
      simp only [Bool.and_eq_true, Bool.not_eq_true'] at h
      -- `None` as a part of a slice prints as nothing
      by_cases hc : c = .const .none
      · subst hc
        simp only [strGSliceL, stripCseL, stripCse, strGSliceL_bare_eq cs h.2]
      · rw [show stripCseL (c :: cs) = stripCse c :: stripCseL cs by simp only [stripCseL],
          strGSliceL_cons_nn S cf true c cs hc,
          strGSliceL_cons_nn S cf false _ _ (stripCse_ne_none hc h.1.2),
          strG_bare_eq c _ h.1.1, strGSliceL_bare_eq cs h.2]
end

/-! ### a wrapper means its child -/

mutual
/-- **erasing the wrappers does not change the value** (nor the error) -/
theorem den_stripCse (env : Env) : ∀ e : Expr, den env (stripCse e) = den env e
  | .cse c _ _ => by simp only [stripCse, den, den_stripCse env c]
  | .const _ | .var _ | .subst .. | .deriv .. | .nan | .wildcard | .dotWild _ | .starWild _
  | .funcSym => by simp only [stripCse]
  | .nary o cs => by
      cases o <;>
        simp only [stripCse, den, denFold_stripCse env _ _ cs, denReduce_stripCse env _ cs,
          denAny_stripCse env cs, denAll_stripCse env cs, denMinMax_stripCse env _ _ cs]
  | .bin o a b => by simp only [stripCse, den, den_stripCse env a, den_stripCse env b]
  | .un o a => by cases o <;> simp only [stripCse, den, den_stripCse env a]
  | .cmp o a b => by simp only [stripCse, den, den_stripCse env a, den_stripCse env b]
  | .ite c t e => by
      simp only [stripCse, den, den_stripCse env c, den_stripCse env t, den_stripCse env e]
  | .call f as => by simp only [stripCse, den, den_stripCse env f, denList_stripCse env as]
  | .callKw f as ns vs => by
      simp only [stripCse, den, den_stripCse env f, denList_stripCse env as,
        denList_stripCse env vs]
  | .subscript a i => by simp only [stripCse, den, den_stripCse env a, den_stripCse env i]
  | .lookup a n => by simp only [stripCse, den, den_stripCse env a]
  | .slice cs => by simp only [stripCse, den]
  | .tuple cs => by simp only [stripCse, den, denList_stripCse env cs]
  | .list cs => by simp only [stripCse, den, denList_stripCse env cs]
theorem denFold_stripCse (env : Env) (o : NaryOp) : ∀ (acc : Value) (cs : List Expr),
    denFold env o acc (stripCseL cs) = denFold env o acc cs
  | _, [] => by simp only [stripCseL]
  | acc, c :: cs => by
      simp only [stripCseL, denFold, den_stripCse env c]
      congr 1; funext v; congr 1; funext acc'; exact denFold_stripCse env o acc' cs
theorem denReduce_stripCse (env : Env) (o : NaryOp) : ∀ (cs : List Expr),
    denReduce env o (stripCseL cs) = denReduce env o cs
  | [] => by simp only [stripCseL]
  | c :: cs => by
      simp only [stripCseL, denReduce, den_stripCse env c]
      congr 1; funext v; exact denFold_stripCse env o v cs
theorem denAny_stripCse (env : Env) : ∀ (cs : List Expr),
    denAny env (stripCseL cs) = denAny env cs
  | [] => by simp only [stripCseL]
  | c :: cs => by simp only [stripCseL, denAny, den_stripCse env c, denAny_stripCse env cs]
theorem denAll_stripCse (env : Env) : ∀ (cs : List Expr),
    denAll env (stripCseL cs) = denAll env cs
  | [] => by simp only [stripCseL]
  | c :: cs => by simp only [stripCseL, denAll, den_stripCse env c, denAll_stripCse env cs]
theorem denMinMax_stripCse (env : Env) (isMin : Bool) : ∀ (cur : Option Value) (cs : List Expr),
    denMinMax env isMin cur (stripCseL cs) = denMinMax env isMin cur cs
  | _, [] => by simp only [stripCseL]
  | cur, c :: cs => by
      simp only [stripCseL, denMinMax, den_stripCse env c]
      congr 1; funext v
      cases cur with
      | none => exact denMinMax_stripCse env isMin (some v) cs
      | some m =>
        simp only []
        congr 1; funext better; exact denMinMax_stripCse env isMin _ cs
theorem denList_stripCse (env : Env) : ∀ (cs : List Expr),
    denList env (stripCseL cs) = denList env cs
  | [] => by simp only [stripCseL]
  | c :: cs => by simp only [stripCseL, denList, den_stripCse env c, denList_stripCse env cs]
end

end PV.C13
