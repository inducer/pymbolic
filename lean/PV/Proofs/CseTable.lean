import PV.Model.CseTable
import PV.Proofs.WalkTable
/-
  C12 (T-gen) — the hand-written common-subexpression models against the table-driven reading of
  the source (PV/Model/CseTable.lean).

  `c12KeyHand`, `c12CountHand`, `c12MapHand`, `c12TagAllHand`, `c12CtorHand`, `c12WrapHand`,
  `c12MakeHand`, `c12HistHand`, `c12TagHand` are the tables the models of PV/Model/Cse.lean and
  PV/Model/CseTagger.lean implement; `c12CountBody`, `c12MapBody`, `c12HistBody`,
  `c12TagBody` state, per constructor of `Expr`, the handler body that runs.  This file proves —
  for ALL expressions, dictionaries, tables of canonical wrappers, prefixes and scopes, by case
  analysis on the constructor — that the models are exactly the table interpreters run on these
  tables, and the only functions that are.  That the tables ARE what extract/cse.py regenerates
  from the current source is the `…_current` family in PV/Properties/C12Table.lean.
-/
namespace PV

/-! ### the class of a node -/

theorem Expr.kind_classRep (e : Expr) : e.kind = e.classRep.kind := by
  cases e with
  | const k => cases k <;> rfl
  | _ => rfl

/-- the class tests of pymbolic/cse.py as constructor patterns -/
theorem Expr.kind_tests (e : Expr) :
    (e.kind == "Product" || e.kind == "Sum") =
      (match e with
       | .nary .sum _ | .nary .prod _ => true
       | _ => false) ∧
    (e.kind == "Subscript" || e.kind == "Variable") =
      (match e with
       | .var _ | .subscript .. => true
       | _ => false) ∧
    (e.kind == "CommonSubexpression") =
      (match e with
       | .cse .. => true
       | _ => false) := by
  revert e
  apply Expr.forall_of_classReps
  · intro e h
    rw [e.kind_classRep]
    cases e with
    | const k => cases k <;> exact h
    | nary o cs => cases o <;> exact h
    | _ => exact h
  · decide +kernel

theorem c12CResolve_classRep (classes : List C04NodeClass) (walk : List C04Handler)
    (T : C12CountTable) (e : Expr) :
    c12CResolve classes walk T e = c12CResolve classes walk T e.classRep := by
  unfold c12CResolve; rw [c04Dispatch_classRep classes _ e]

theorem c12MResolve_classRep (classes : List C04NodeClass) (ident : List C04Handler)
    (T : C12MapTable) (e : Expr) :
    c12MResolve classes ident T e = c12MResolve classes ident T e.classRep := by
  unfold c12MResolve; rw [c04Dispatch_classRep classes _ e]

theorem c12IdentOwn_classRep (classes : List C04NodeClass) (ident : List C04Handler) (e : Expr) :
    c12IdentOwn classes ident e = c12IdentOwn classes ident e.classRep := by
  cases e with
  | const k => cases k <;> rfl
  | _ => rfl

/-! ### the tables the models implement -/

def c12KeyHand : C12KeyTable :=
  { commClasses := ["Product", "Sum"], field := "children", start := 0, step := 1,
    withType := true, items := true, elseExpr := true }

def c12CtorHand : C12CtorTable :=
  { fields := ["child", "prefix", "scope"], scopeDefault := "pymbolic_eval",
    noneScopeBecomes := some "pymbolic_eval" }

def c12WrapHand : C12WTree :=
  .ite (.isInst ["Subscript", "Variable"]) .same
    (.ite (.isInst ["CommonSubexpression"])
      (.ite (.argNone "prefix") .same
        (.ite (.and (.fieldNone "prefix") (.exact "CommonSubexpression"))
          (.mk (.field "child") (.arg "prefix") .omitted) .same))
      (.mk .self (.arg "prefix") .omitted))

def c12MakeHand : C12WTree :=
  .ite (.and (.isInst ["CommonSubexpression"])
      (.or (.argNone "scope") (.or (.argEq "scope" "pymbolic_eval") (.fieldEqArg "scope" "scope"))))
    .same
    (.ite .isMultiVector .componentwise
      (.ite .isObjArray .componentwise
        (.ite .isConstant .same (.mk .self (.arg "prefix") (.arg "scope")))))

/-! ### `NormalizedKeyGetter` -/

theorem c12KidAddT_hand (c : Expr) : ∀ acc, c12KidAddT 0 1 c acc = kidCountAdd c acc
  | [] => rfl
  | (k, n) :: rest => by simp [c12KidAddT, kidCountAdd, c12KidAddT_hand c rest]

theorem c12KidFromT_hand : ∀ cs acc, c12KidFromT 0 1 acc cs = kidCountFrom acc cs
  | [], _ => rfl
  | c :: cs, acc => by simp [c12KidFromT, kidCountFrom, c12KidAddT_hand, c12KidFromT_hand cs]

/-- **`normalizedKey` is the key the table describes**, for every node. -/
theorem normalizedKey_eq_table (e : Expr) : c12KeyT c12KeyHand e = some (normalizedKey e) := by
  simp only [c12KeyT, c12KeyHand, List.contains_cons, List.contains_nil, Bool.or_false,
    e.kind_tests.1]
  cases e with
  | nary o cs =>
    cases o <;> simp [normalizedKey, Expr.c04Field, Expr.c04Fields, c04Assoc, c12KidFromT_hand,
      kidCount]
  | _ => rfl

/-! ### the wrapping helpers -/

/-- **`wrapInCse` is the decision tree of `wrap_in_cse`**, for every node and prefix. -/
theorem wrapInCse_eq_table (e : Expr) (p : Option String) :
    c12WTreeT c12CtorHand e [("prefix", p)] c12WrapHand = some (wrapInCse e p) := by
  -- the tree is run symbolically first: no string is left to compare once the node is known
  simp only [c12WrapHand, c12WTreeT, c12CondT, List.contains_cons, List.contains_nil,
    Bool.or_false, e.kind_tests.2.1, e.kind_tests.2.2, c12WArgT, c04Assoc, c12MkCse, c12CtorHand,
    beq_self_eq_true, ↓reduceIte, Option.map_some]
  cases e with
  | cse c q s => cases p <;> cases q <;> rfl
  | _ => rfl

/-- **`makeCse` is the decision tree of `make_common_subexpression`** on scalar fields. -/
theorem makeCse_eq_table (e : Expr) (p sc : Option String) :
    c12WTreeT c12CtorHand e [("prefix", p), ("scope", sc)] c12MakeHand = some (makeCse e p sc) := by
  simp only [c12MakeHand, c12WTreeT, c12CondT, List.contains_cons, List.contains_nil,
    Bool.or_false, e.kind_tests.2.2, c12WArgT, c04Assoc, c12MkCse, c12CtorHand, beq_self_eq_true,
    ↓reduceIte, Option.map_some, String.reduceBEq, Bool.false_eq_true]
  cases e with
  | const k => cases k <;> cases sc <;> rfl
  | cse c q s =>
    cases sc with
    | none => rfl
    | some t =>
      simp only [makeCse, evalScope, Expr.c12StrField, Expr.isConstant, Option.isNone_some,
        Option.getD_some, Bool.false_or, Bool.false_eq_true, ↓reduceIte]
      rw [BEq.comm (a := some s)]
      cases (some t == some "pymbolic_eval") <;> cases (some t == some s) <;> rfl
  | _ => cases sc <;> rfl

/-! ### `UseCountMapper` -/

def c12VisitHand : C12Prog := .getKey (.ifIn (.incr 1 (.ret false)) (.assign 1 (.ret true)))

def c12CseProgHand : C12Prog :=
  .getKey (.ifIn (.incr 1 .done) (.recur ⟨"child", .one, false⟩ (.assign 1 .done)))

def c12CountHand : C12CountTable :=
  { cls := "UseCountMapper", base := "WalkMapper", dictAttr := "subexpr_counts",
    keyAttr := some "get_key", visit := c12VisitHand,
    overrides := [("map_common_subexpression", c12CseProgHand)] }

/-- the key getter the model uses, as the interpreters take it -/
def c12KeyH : Expr → Option CKey := fun e => some (normalizedKey e)

/-- the handler body `useCount` implements, per node: the override for wrappers, the
`WalkMapper` row (`c04WalkBody`, tied to the source by C04) otherwise -/
def c12CountBody : Expr → Except DepErr C12CBody
  | .cse _ _ _ => .ok (.override c12CseProgHand)
  | e => match c04WalkBody e with
    | .ok b => .ok (.inherited b)
    | .error err => .error err

theorem c12CountBody_classRep (e : Expr) : c12CountBody e = c12CountBody e.classRep := by
  cases e with
  | const k => cases k <;> rfl
  | bin o a b => cases o <;> rfl
  | _ => rfl

theorem c12Lift_ok {α : Type} (a : α) : c12Lift (.ok a : Except CseErr α) = .ok a := rfl
theorem c12Lift_pure {α : Type} (a : α) : c12Lift (pure a : Except CseErr α) = .ok a := rfl
theorem c12Lift_error {α : Type} (e : CseErr) :
    c12Lift (.error e : Except CseErr α) = .error (c12Err e) := rfl
theorem c12Lift_throw {α : Type} (e : CseErr) :
    c12Lift (throw e : Except CseErr α) = .error (c12Err e) := rfl

theorem c12Lift_bind {α β : Type} (x : Except CseErr α) (f : α → Except CseErr β) :
    c12Lift (x >>= f) = c12Lift x >>= fun a => c12Lift (f a) := by
  cases x <;> rfl

theorem c12_ok_bind {ε α β : Type} (a : α) (f : α → Except ε β) : (Except.ok a >>= f) = f a := rfl
theorem c12_error_bind {ε α β : Type} (e : ε) (f : α → Except ε β) :
    ((Except.error e : Except ε α) >>= f) = Except.error e := rfl

theorem c12CountSeqL_cons (rec : Expr → Counts → Except DepErr Counts) (x : Expr) (xs : List Expr)
    (c : Counts) : c12CountSeqL rec (x :: xs) c = rec x c >>= fun c1 => c12CountSeqL rec xs c1 := by
  simp only [c12CountSeqL]; cases rec x c <;> rfl

theorem c12CountSeqL_nil (rec : Expr → Counts → Except DepErr Counts) (c : Counts) :
    c12CountSeqL rec [] c = pure c := rfl

theorem c12CountSites_cons (rec : Expr → Counts → Except DepErr Counts) (e : Expr) (r : C04Rec)
    (rs : List C04Rec) (c : Counts) :
    c12CountSites rec e (r :: rs) c =
      (match c04RecChildren e r with
       | none => .error .unsupported
       | some cs => c12CountSeqL rec cs c >>= fun c1 => c12CountSites rec e rs c1) := by
  simp only [c12CountSites]
  cases c04RecChildren e r with
  | none => rfl
  | some cs => simp only []; cases c12CountSeqL rec cs c <;> rfl

theorem c12CountSites_nil (rec : Expr → Counts → Except DepErr Counts) (e : Expr) (c : Counts) :
    c12CountSites rec e [] c = pure c := rfl

theorem c12CountSeqL_append (rec : Expr → Counts → Except DepErr Counts) :
    ∀ (xs ys : List Expr) (c : Counts),
      c12CountSeqL rec (xs ++ ys) c = c12CountSeqL rec xs c >>= fun c1 => c12CountSeqL rec ys c1
  | [], ys, c => rfl
  | x :: xs, ys, c => by
    simp only [List.cons_append, c12CountSeqL_cons, c12CountSeqL_append rec xs ys, bind_assoc]

/-- the recursion sites of a row walk the operands they yield, in order -/
theorem c12CountSites_eq_seqL (rec : Expr → Counts → Except DepErr Counts) (e : Expr) :
    ∀ (recs : List C04Rec) (cs : List Expr) (c : Counts), c04RecsChildren e recs = some cs →
      c12CountSites rec e recs c = c12CountSeqL rec cs c
  | [], cs, c, h => by cases h; rfl
  | r :: rs, cs, c, h => by
    rw [c12CountSites_cons]
    rw [c04RecsChildren, List.map_cons] at h
    cases hr : c04RecChildren e r with
    | none => rw [hr] at h; cases h
    | some cs1 =>
      cases hrs : c04OptSeq (rs.map (c04RecChildren e)) with
      | none => rw [hr, c04OptSeq, hrs] at h; cases h
      | some css =>
        rw [hr, c04OptSeq, hrs] at h
        cases h
        have ih := fun c1 => c12CountSites_eq_seqL rec e rs css.flatten c1
          (by rw [c04RecsChildren, hrs]; rfl)
        simp only [List.flatten_cons, c12CountSeqL_append, ih]

theorem c12IncrBy_one (k : CKey) : ∀ c : Counts, c12IncrBy k 1 c = c.incr k
  | [] => rfl
  | (k', m) :: rest => by simp [c12IncrBy, Counts.incr, c12IncrBy_one k rest]

theorem Counts.set_of_find_none (k : CKey) (n : Nat) :
    ∀ c : Counts, c.find k = none → c.set k n = c ++ [(k, n)]
  | [], _ => rfl
  | (k', m) :: rest, h => by
    simp only [Counts.find] at h
    by_cases hk : k'.eq k = true
    · simp [hk] at h
    · simp only [hk, Bool.false_eq_true, ↓reduceIte] at h
      simp [Counts.set, hk, Counts.set_of_find_none k n rest h]

/-- `UseCountMapper.visit` as a program is `ucVisit` -/
theorem c12RunProg_visit (rec : Expr → Counts → Except DepErr Counts) (e : Expr) (c : Counts) :
    c12RunProg c12KeyH rec e c12VisitHand none c =
      (match c12Lift (ucVisit e c) with
       | .ok (go, c1) => .ok (some go, c1)
       | .error err => .error err) := by
  simp only [c12VisitHand, c12RunProg, c12KeyH, ucVisit]
  by_cases hl : e.hasList = true
  · cases normalizedKey e <;> simp [hl, c12Lift_throw, c12Err]
  · cases hk : normalizedKey e <;>
      simp only [hl, Bool.false_eq_true, ↓reduceIte] <;>
      (cases hf : c.find _ with
        | none => simp [c12Lift_pure, Counts.set_of_find_none _ _ _ hf]
        | some v => simp [c12Lift_pure, c12IncrBy_one])

/-- `useCount`, read in the table world -/
def c12UC : Expr → Counts → Except DepErr Counts := fun x s => c12Lift (useCount x s)

theorem useCountL_eq_seqL : ∀ (cs : List Expr) (c : Counts),
    c12CountSeqL c12UC cs c = c12Lift (useCountL cs c)
  | [], c => rfl
  | x :: xs, c => by
    simp only [c12CountSeqL_cons, useCountL, c12Lift_bind, useCountL_eq_seqL xs]; rfl

theorem useCountSlice_cons (x : Expr) (xs : List Expr) (c : Counts) :
    useCountSlice (x :: xs) c =
      if x.c04IsNone then useCountSlice xs c
      else (do let c1 ← useCount x c; useCountSlice xs c1) := by
  cases x with
  | const k => cases k <;> rfl
  | _ => rfl

theorem useCountSlice_eq_seqL : ∀ (cs : List Expr) (c : Counts),
    c12CountSeqL c12UC (cs.filter (fun x => !x.c04IsNone)) c = c12Lift (useCountSlice cs c)
  | [], c => rfl
  | x :: xs, c => by
    rw [useCountSlice_cons, List.filter_cons]
    cases x.c04IsNone <;>
      simp only [Bool.not_true, Bool.not_false, Bool.false_eq_true, ↓reduceIte, c12CountSeqL_cons,
        c12Lift_bind, useCountSlice_eq_seqL xs] <;> rfl

/-- a guarded `WalkMapper` row under `UseCountMapper.visit` -/
theorem c12CountStepB_guard (vf pf post : Bool) (recs : List C04Rec)
    (rec : Expr → Counts → Except DepErr Counts) (e : Expr) (c : Counts) :
    c12CountStepB c12KeyH c12VisitHand (.ok (.inherited (.walk .guard vf recs post pf))) rec e c =
      c12Lift (ucVisit e c) >>= fun p => if p.1 then c12CountSites rec e recs p.2 else pure p.2 := by
  simp only [c12CountStepB, c12RunProg_visit]
  cases h : c12Lift (ucVisit e c) with
  | error err => rfl
  | ok p => obtain ⟨go, c1⟩ := p; cases go <;> simp [c12_ok_bind] <;> rfl

/-- a leaf row: `visit` (its answer ignored), no children -/
theorem c12CountStepB_leaf (vf pf post : Bool)
    (rec : Expr → Counts → Except DepErr Counts) (e : Expr) (c : Counts) :
    c12CountStepB c12KeyH c12VisitHand (.ok (.inherited (.walk .plain vf [] post pf))) rec e c =
      c12Lift (ucLeaf e c) := by
  simp only [c12CountStepB, c12RunProg_visit, ucLeaf, c12Lift_bind, c12CountSites]
  cases h : ucVisit e c with
  | error err => rfl
  | ok p => obtain ⟨go, c1⟩ := p; rfl

/-- the operands of a node are walked in `walkChildren` order after `visit` said so -/
theorem useCount_children (e : Expr) (c : Counts) (hn : e.isLeafNode = false)
    (hc : ∀ a p s, e ≠ .cse a p s) :
    c12Lift (useCount e c) =
      c12Lift (ucVisit e c) >>= fun p =>
        if p.1 then c12CountSeqL c12UC (walkChildren e) p.2 else pure p.2 := by
  cases e with
  | cse a p s => exact absurd rfl (hc a p s)
  | const _ | var _ | wildcard | dotWild _ | starWild _ | funcSym | nan => cases hn
  | bin o a b =>
    cases o <;> (
      simp only [useCount, c12Lift_bind]; congr 1; funext p; obtain ⟨go, c1⟩ := p
      cases go <;> simp only [↓reduceIte, Bool.false_eq_true, c12Lift_pure, c12Lift_bind,
        walkChildren, BinOp.isShift, c12CountSeqL_cons, c12CountSeqL_nil, bind_pure] <;> rfl)
  | slice cs =>
    simp only [useCount, c12Lift_bind]; congr 1; funext p; obtain ⟨go, c1⟩ := p
    cases go <;> simp only [↓reduceIte, Bool.false_eq_true, c12Lift_pure, walkChildren,
      ← Expr.c04IsNone_eq, useCountSlice_eq_seqL] <;> rfl
  | _ =>
    simp only [useCount, c12Lift_bind]; congr 1; funext p; obtain ⟨go, c1⟩ := p
    cases go <;> simp only [↓reduceIte, Bool.false_eq_true, c12Lift_pure, c12Lift_bind,
      walkChildren, Expr.children, c12CountSeqL_cons, c12CountSeqL_nil, c12CountSeqL_append,
      useCountL_eq_seqL, bind_pure] <;> rfl

/-- a guarded `WalkMapper` row under `UseCountMapper.visit`, on a node whose row it is -/
theorem useCount_guard (e : Expr) (c : Counts) (vf pf post : Bool) (recs : List C04Rec)
    (hb : c04WalkBody e = .ok (.walk .guard vf recs post pf)) (hn : e.isLeafNode = false)
    (hc : ∀ a p s, e ≠ .cse a p s) :
    c12Lift (useCount e c) =
      c12CountStepB c12KeyH c12VisitHand (.ok (.inherited (.walk .guard vf recs post pf))) c12UC
        e c := by
  rw [c12CountStepB_guard, useCount_children e c hn hc]
  congr 1; funext p
  rw [← c12CountSites_eq_seqL c12UC e _ _ p.2 (walkChildren_eq_recs e), hb]; rfl

/-- **`useCount` solves the table-driven equations**: a call of `useCount` on any node and
dictionary is one handler call of the body `c12CountBody` gives for the node (the class's
override, else the `WalkMapper` row under the class's `visit`), recursing through `useCount`. -/
theorem useCount_eq_stepB (e : Expr) (c : Counts) :
    c12Lift (useCount e c) = c12CountStepB c12KeyH c12VisitHand (c12CountBody e) c12UC e c := by
  cases e with
  | const k =>
    cases k <;> simp only [c12CountBody, c04WalkBody, c12CountStepB_leaf, useCount] <;> rfl
  | var _ | wildcard | dotWild _ | starWild _ | funcSym | nan =>
    simp only [c12CountBody, c04WalkBody, c12CountStepB_leaf, useCount]
  | bin o a b => cases o <;> exact useCount_guard _ c _ _ _ _ rfl rfl (fun _ _ _ h => nomatch h)
  | cse a p s =>
    simp only [c12CountBody, c12CountStepB, c12CseProgHand, c12RunProg, c12KeyH, normalizedKey,
      useCount, Expr.hasList, c04RecChildren, Expr.c04Field, Expr.c04Fields, c04Assoc,
      String.reduceBEq, ↓reduceIte, c12CountSeqL]
    by_cases hl : a.hasList = true
    · simp [hl, c12Lift_throw, c12Err]
    · simp only [hl, Bool.false_eq_true, ↓reduceIte]
      cases hf : c.find (.plain (.cse a p s)) with
      | some v => simp [c12Lift_pure, c12IncrBy_one]
      | none =>
        simp only [c12UC, c12Lift_bind]
        cases useCount a c with
        | error err => rfl
        | ok c1 => simp [c12_ok_bind, c12Lift_ok, c12Lift_pure]
  | _ => exact useCount_guard _ c _ _ _ _ rfl rfl (fun _ _ _ h => nomatch h)

/-! #### the counting equations have one solution -/

theorem c12CountSeqL_congr {f g : Expr → Counts → Except DepErr Counts} :
    ∀ {cs : List Expr} (c : Counts), (∀ x ∈ cs, ∀ s, f x s = g x s) →
      c12CountSeqL f cs c = c12CountSeqL g cs c
  | [], _, _ => rfl
  | x :: xs, c, h => by
    simp only [c12CountSeqL, h x (by simp)]
    cases g x c with
    | error err => rfl
    | ok c1 => exact c12CountSeqL_congr c1 (fun y hy => h y (List.mem_cons_of_mem _ hy))

theorem c12CountSites_congr {f g : Expr → Counts → Except DepErr Counts} {e : Expr}
    (h : ∀ x ∈ e.children, ∀ s, f x s = g x s) :
    ∀ (recs : List C04Rec) (c : Counts), c12CountSites f e recs c = c12CountSites g e recs c
  | [], _ => rfl
  | r :: rs, c => by
    simp only [c12CountSites]
    cases hr : c04RecChildren e r with
    | none => rfl
    | some cs =>
      simp only [c12CountSeqL_congr c (fun x hx => h x (c04RecChildren_sub hr x hx))]
      cases c12CountSeqL g cs c with
      | error err => rfl
      | ok c1 => exact c12CountSites_congr h rs c1

theorem c12RunProg_congr {key : Expr → Option CKey} {f g : Expr → Counts → Except DepErr Counts}
    {e : Expr} (h : ∀ x ∈ e.children, ∀ s, f x s = g x s) :
    ∀ (p : C12Prog) (ky : Option CKey) (c : Counts),
      c12RunProg key f e p ky c = c12RunProg key g e p ky c := by
  intro p
  induction p with
  | done | ret b => intro ky c; rfl
  | getKey k ih =>
    intro ky c
    simp only [c12RunProg]
    split <;> simp only [ih]
  | keyIsExpr k ih => intro ky c; simp only [c12RunProg, ih]
  | ifIn t f' iht ihf =>
    intro ky c
    cases ky with
    | none => rfl
    | some k => simp only [c12RunProg, iht, ihf]
  | incr n k ih | assign n k ih | getPlus d n k ih =>
    intro ky c
    cases ky with
    | none => rfl
    | some k' => simp only [c12RunProg, ih]
  | recur site k ih =>
    intro ky c
    simp only [c12RunProg]
    cases hr : c04RecChildren e site with
    | none => rfl
    | some cs =>
      simp only [c12CountSeqL_congr c (fun x hx => h x (c04RecChildren_sub hr x hx)), ih]

theorem c12CountStepB_congr {key : Expr → Option CKey} {visit : C12Prog}
    {body : Except DepErr C12CBody} {f g : Expr → Counts → Except DepErr Counts} {e : Expr}
    (h : ∀ x ∈ e.children, ∀ s, f x s = g x s) (c : Counts) :
    c12CountStepB key visit body f e c = c12CountStepB key visit body g e c := by
  unfold c12CountStepB
  split
  · rfl
  · simp only [c12RunProg_congr h]
  · split <;> simp only [c12RunProg_congr h, c12CountSites_congr h]
  · rfl

/-- **The table-driven counting equations have one solution.**  Whatever the key getter, the
`visit` program and the handler bodies are: two functions that both run one handler call per node
and recurse through themselves agree on every tree and dictionary. -/
theorem c12Count_unique (key : Expr → Option CKey) (visit : C12Prog)
    (body : Expr → Except DepErr C12CBody) (f g : Expr → Counts → Except DepErr Counts)
    (hf : ∀ e c, f e c = c12CountStepB key visit (body e) f e c)
    (hg : ∀ e c, g e c = c12CountStepB key visit (body e) g e c) : ∀ e c, f e c = g e c := by
  intro e
  induction e using Expr.induct with
  | h e ih =>
    intro c
    rw [hf, hg]
    exact c12CountStepB_congr ih c

/-- a step function iterated `n` times from `bot` (the callers start from the function that fails
everywhere) -/
def c12Iter {α β : Type} (step : (Expr → α → β) → Expr → α → β) (bot : Expr → α → β) :
    Nat → Expr → α → β
  | 0 => bot
  | n + 1 => step (c12Iter step bot n)

/-- a solution of `f = step f`, where `step` consults its argument on direct children only, is
what `size` iterations of `step` compute -/
theorem c12Iter_eq {α β : Type} (step : (Expr → α → β) → Expr → α → β) (bot : Expr → α → β)
    (congr : ∀ (f g : Expr → α → β) (e : Expr), (∀ x ∈ e.children, ∀ s, f x s = g x s) →
      ∀ s, step f e s = step g e s)
    (f : Expr → α → β) (hf : ∀ e s, f e s = step f e s) :
    ∀ (n : Nat) (e : Expr), e.size ≤ n → ∀ s, c12Iter step bot n e s = f e s
  | 0, e, h => by have := Expr.size_pos e; omega
  | n + 1, e, h => by
    intro s
    rw [hf]
    exact congr _ _ e (fun x hx s' => c12Iter_eq step bot congr f hf n x
      (by have := Expr.size_lt_of_mem_children hx; omega) s') s

theorem c12CountFuel_eq_iter (classes : List C04NodeClass) (walk : List C04Handler)
    (K : C12KeyTable) (T : C12CountTable) : ∀ n,
    c12CountFuel classes walk K T n =
      c12Iter (c12CountStep classes walk K T) (fun _ _ => .error .unsupported) n
  | 0 => by funext e c; rfl
  | n + 1 => by
    funext e c
    simp only [c12CountFuel, c12Iter, c12CountFuel_eq_iter classes walk K T n]

/-- a solution of the one-step equations of the tables IS the table-driven walk `c12CountT` -/
theorem c12CountT_eq (classes : List C04NodeClass) (walk : List C04Handler) (K : C12KeyTable)
    (T : C12CountTable) (f : Expr → Counts → Except DepErr Counts)
    (hf : ∀ e c, f e c = c12CountStep classes walk K T f e c) (e : Expr) (c : Counts) :
    c12CountT classes walk K T e c = f e c := by
  unfold c12CountT
  rw [c12CountFuel_eq_iter]
  exact c12Iter_eq (c12CountStep classes walk K T) _
    (fun f g e h s => by unfold c12CountStep; exact c12CountStepB_congr h s) f hf e.size e
    (Nat.le_refl _) c

/-! ### `CSEWalkMapper` (pymbolic/mapper/cse_tagger.py) -/

def c12HistVisitHand : C12Prog := .keyIsExpr (.getPlus 0 1 (.ret true))

def c12HistHand : C12CountTable :=
  { cls := "CSEWalkMapper", base := "WalkMapper", dictAttr := "subexpr_histogram",
    keyAttr := none, visit := c12HistVisitHand, overrides := [] }

/-- the handler body `c12HistWalk` implements: always the `WalkMapper` row -/
def c12HistBody (e : Expr) : Except DepErr C12CBody :=
  match c04WalkBody e with
  | .ok b => .ok (.inherited b)
  | .error err => .error err

theorem c12HistBody_classRep (e : Expr) : c12HistBody e = c12HistBody e.classRep := by
  cases e with
  | const k => cases k <;> rfl
  | bin o a b => cases o <;> rfl
  | _ => rfl

def c12HW : Expr → Counts → Except DepErr Counts := fun x s => c12Lift (c12HistWalk x s)

theorem c12RunProg_histVisit (key : Expr → Option CKey)
    (rec : Expr → Counts → Except DepErr Counts) (e : Expr) (c : Counts) :
    c12RunProg key rec e c12HistVisitHand none c =
      (match c12Lift (c12HistVisit e c) with
       | .ok c1 => .ok (some true, c1)
       | .error err => .error err) := by
  simp only [c12HistVisitHand, c12RunProg, c12HistVisit]
  by_cases hl : e.hasList = true
  · simp [hl, c12Lift_throw, c12Err]
  · simp [hl, c12Lift_pure]

theorem c12HistStepB_guard (key : Expr → Option CKey) (vf pf post : Bool) (recs : List C04Rec)
    (rec : Expr → Counts → Except DepErr Counts) (e : Expr) (c : Counts) :
    c12CountStepB key c12HistVisitHand (.ok (.inherited (.walk .guard vf recs post pf))) rec e c =
      c12Lift (c12HistVisit e c) >>= fun c1 => c12CountSites rec e recs c1 := by
  simp only [c12CountStepB, c12RunProg_histVisit]
  cases h : c12Lift (c12HistVisit e c) with
  | error err => rfl
  | ok c1 => simp [c12_ok_bind]

theorem c12HistStepB_leaf (key : Expr → Option CKey) (vf pf post : Bool)
    (rec : Expr → Counts → Except DepErr Counts) (e : Expr) (c : Counts) :
    c12CountStepB key c12HistVisitHand (.ok (.inherited (.walk .plain vf [] post pf))) rec e c =
      c12Lift (c12HistVisit e c) := by
  simp only [c12CountStepB, c12RunProg_histVisit, c12CountSites]
  cases h : c12Lift (c12HistVisit e c) <;> rfl

theorem c12HistWalkL_eq_seqL : ∀ (cs : List Expr) (c : Counts),
    c12CountSeqL c12HW cs c = c12Lift (c12HistWalkL cs c)
  | [], c => rfl
  | x :: xs, c => by
    simp only [c12CountSeqL_cons, c12HistWalkL, c12Lift_bind, c12HistWalkL_eq_seqL xs]; rfl

theorem c12HistWalkSlice_cons (x : Expr) (xs : List Expr) (c : Counts) :
    c12HistWalkSlice (x :: xs) c =
      if x.c04IsNone then c12HistWalkSlice xs c
      else (do let c1 ← c12HistWalk x c; c12HistWalkSlice xs c1) := by
  cases x with
  | const k => cases k <;> rfl
  | _ => rfl

theorem c12HistWalkSlice_eq_seqL : ∀ (cs : List Expr) (c : Counts),
    c12CountSeqL c12HW (cs.filter (fun x => !x.c04IsNone)) c = c12Lift (c12HistWalkSlice cs c)
  | [], c => rfl
  | x :: xs, c => by
    rw [c12HistWalkSlice_cons, List.filter_cons]
    cases x.c04IsNone <;>
      simp only [Bool.not_true, Bool.not_false, Bool.false_eq_true, ↓reduceIte, c12CountSeqL_cons,
        c12Lift_bind, c12HistWalkSlice_eq_seqL xs] <;> rfl

theorem histWalk_children (e : Expr) (c : Counts) (hn : e.isLeafNode = false) :
    c12Lift (c12HistWalk e c) =
      c12Lift (c12HistVisit e c) >>= fun c1 => c12CountSeqL c12HW (walkChildren e) c1 := by
  cases e with
  | const _ | var _ | wildcard | dotWild _ | starWild _ | funcSym | nan => cases hn
  | bin o a b =>
    cases o <;> simp only [c12HistWalk, c12Lift_bind, walkChildren, BinOp.isShift,
      Bool.false_eq_true, ↓reduceIte, c12CountSeqL_cons, c12CountSeqL_nil, bind_pure] <;> rfl
  | slice cs =>
    simp only [c12HistWalk, c12Lift_bind, walkChildren, ← Expr.c04IsNone_eq,
      c12HistWalkSlice_eq_seqL]
  | _ =>
    simp only [c12HistWalk, c12Lift_bind, walkChildren, Expr.children, c12CountSeqL_cons,
      c12CountSeqL_nil, c12CountSeqL_append, c12HistWalkL_eq_seqL, bind_pure] <;> rfl

theorem histWalk_guard (key : Expr → Option CKey) (e : Expr) (c : Counts) (vf pf post : Bool)
    (recs : List C04Rec) (hb : c04WalkBody e = .ok (.walk .guard vf recs post pf))
    (hn : e.isLeafNode = false) :
    c12Lift (c12HistWalk e c) =
      c12CountStepB key c12HistVisitHand (.ok (.inherited (.walk .guard vf recs post pf))) c12HW
        e c := by
  rw [c12HistStepB_guard, histWalk_children e c hn]
  congr 1; funext c1
  rw [← c12CountSites_eq_seqL c12HW e _ _ c1 (walkChildren_eq_recs e), hb]; rfl

/-- **`c12HistWalk` solves the table-driven equations** of `CSEWalkMapper`. -/
theorem histWalk_eq_stepB (key : Expr → Option CKey) (e : Expr) (c : Counts) :
    c12Lift (c12HistWalk e c) = c12CountStepB key c12HistVisitHand (c12HistBody e) c12HW e c := by
  cases e with
  | const k =>
    cases k <;> simp only [c12HistBody, c04WalkBody, c12HistStepB_leaf, c12HistWalk] <;> rfl
  | var _ | wildcard | dotWild _ | starWild _ | funcSym | nan =>
    simp only [c12HistBody, c04WalkBody, c12HistStepB_leaf, c12HistWalk]
  | bin o a b => cases o <;> exact histWalk_guard key _ c _ _ _ _ rfl rfl
  | _ => exact histWalk_guard key _ c _ _ _ _ rfl rfl

/-! ### rebuilding mappers: one `IdentityMapper` row, the table of wrappers threaded through -/

/-- the node rebuilt from its mapped children, children taken in `IdentityMapper` order (what
every inherited handler of `CSEMapper` / `CSETagMapper` does, wrappers apart) -/
def c12CoreD (rec : C12Rec) : Expr → Tbl → Except DepErr (Expr × Tbl)
  | .nary o cs, T => c12MapSeqM rec cs T >>= fun p => pure (.nary o p.1, p.2)
  | .bin o a b, T => rec a T >>= fun p => rec b p.2 >>= fun q => pure (.bin o p.1 q.1, q.2)
  | .un o a, T => rec a T >>= fun p => pure (.un o p.1, p.2)
  | .cmp o a b, T => rec a T >>= fun p => rec b p.2 >>= fun q => pure (.cmp o p.1 q.1, q.2)
  | .ite c t e, T =>
      rec c T >>= fun p => rec t p.2 >>= fun q => rec e q.2 >>= fun r => pure (.ite p.1 q.1 r.1, r.2)
  | .call f as, T => rec f T >>= fun p => c12MapSeqM rec as p.2 >>= fun q => pure (.call p.1 q.1, q.2)
  | .callKw f as ns vs, T =>
      rec f T >>= fun p => c12MapSeqM rec as p.2 >>= fun q => c12MapSeqM rec vs q.2 >>= fun r =>
        pure (.callKw p.1 q.1 ns r.1, r.2)
  | .subscript a i, T => rec a T >>= fun p => rec i p.2 >>= fun q => pure (.subscript p.1 q.1, q.2)
  | .lookup a n, T => rec a T >>= fun p => pure (.lookup p.1 n, p.2)
  | .cse c pf s, T =>
      rec c T >>= fun p => if p.1.isZero then pure (zero, p.2) else pure (.cse p.1 pf s, p.2)
  | .subst c vs xs, T =>
      rec c T >>= fun p => c12MapSeqM rec xs p.2 >>= fun q => pure (.subst p.1 vs q.1, q.2)
  | .deriv c vs, T => rec c T >>= fun p => pure (.deriv p.1 vs, p.2)
  | .slice cs, T => c12MapSeqNotNoneM rec cs T >>= fun p => pure (.slice p.1, p.2)
  | .tuple cs, T => c12MapSeqM rec cs T >>= fun p => pure (.tuple p.1, p.2)
  | .list cs, T => c12MapSeqM rec cs T >>= fun p => pure (.list p.1, p.2)
  | e, T => pure (e, T)

/-! #### the interpreter of a row, as a chain of binds -/

theorem c12MapRecsM_nil (rec : C12Rec) (e : Expr) (T : Tbl) :
    c12MapRecsM rec e [] T = pure ([], T) := rfl

theorem c12MapRecsM_cons (rec : C12Rec) (e : Expr) (r : C04Rec) (rs : List C04Rec) (T : Tbl) :
    c12MapRecsM rec e (r :: rs) T =
      c12MapRecM rec e r T >>= fun p => c12MapRecsM rec e rs p.2 >>= fun q =>
        pure ((r.field, p.1, true) :: q.1, q.2) := by
  simp only [c12MapRecsM]
  cases c12MapRecM rec e r T with
  | error err => rfl
  | ok p =>
    obtain ⟨v, T1⟩ := p
    show (match c12MapRecsM rec e rs T1 with
      | Except.error err => Except.error err
      | Except.ok (vs, T2) => Except.ok ((r.field, v, true) :: vs, T2)) = _
    cases h : c12MapRecsM rec e rs T1 <;> simp only [bind, Except.bind, h] <;> rfl

theorem c12MapRecM_eq (rec : C12Rec) (e : Expr) (r : C04Rec) (T : Tbl) :
    c12MapRecM rec e r T =
      match e.c04Field r.field, r.iter with
      | some (.one c), .one => rec c T >>= fun p => pure (.one p.1, p.2)
      | some (.many cs), .each => c12MapSeqM rec cs T >>= fun p => pure (.many p.1, p.2)
      | some (.many cs), .eachNotNone =>
          c12MapSeqNotNoneM rec cs T >>= fun p => pure (.many p.1, p.2)
      | some (.dict vs), .eachValue => c12MapSeqM rec vs T >>= fun p => pure (.dict p.1, p.2)
      | _, _ => .error .unsupported := by
  unfold c12MapRecM
  cases e.c04Field r.field with
  | none => rfl
  | some v =>
    cases v <;> cases r.iter <;> try rfl
    all_goals dsimp only
    · rename_i c; cases rec c T <;> rfl
    · rename_i cs; cases c12MapSeqM rec cs T <;> rfl
    · rename_i cs; cases c12MapSeqNotNoneM rec cs T <;> rfl
    · rename_i vs; cases c12MapSeqM rec vs T <;> rfl

theorem c12RebuildM_rebuild (rec : C12Rec) (e : Expr) (recs : List C04Rec) (st : Bool)
    (ck : List String) (zc : Bool) (ctor : C04Ctor) (T : Tbl) :
    c12RebuildM rec e (.rebuild recs st ck zc ctor) T =
      c12MapRecsM rec e recs T >>= fun p =>
        if (zc && (match p.1 with
          | [(_, .one c', _)] => c'.isZero
          | _ => false)) = true then pure (zero, p.2)
        else match c04Rebuild e p.1 ctor with
          | some r => pure (r, p.2)
          | none => .error .unsupported := by
  simp only [c12RebuildM]
  cases c12MapRecsM rec e recs T <;> rfl

/-- **one inherited `IdentityMapper` row**, run with the table threaded through, rebuilds the
node from its mapped children in field order (a wrapper whose mapped child is zero collapses) -/
theorem c12RebuildM_ident (rec : C12Rec) (e : Expr) (b : C04Body) (T : Tbl)
    (h : c04IdentBody e = .ok b) : c12RebuildM rec e b T = c12CoreD rec e T := by
  cases e with
  | const k => cases k <;> cases h <;> rfl
  | bin o a b =>
    cases o <;> cases h <;>
      simp only [c12RebuildM_rebuild, c12MapRecsM_cons, c12MapRecsM_nil, c12MapRecM_eq,
        Expr.c04Field, Expr.c04Fields, c04Assoc, String.reduceBEq, ↓reduceIte, Bool.false_eq_true,
        c12CoreD, bind_assoc, pure_bind] <;> rfl
  | _ =>
    cases h <;>
      simp only [c12RebuildM_rebuild, c12MapRecsM_cons, c12MapRecsM_nil, c12MapRecM_eq,
        Expr.c04Field, Expr.c04Fields, c04Assoc, String.reduceBEq, ↓reduceIte, Bool.false_eq_true,
        c12CoreD, bind_assoc, pure_bind] <;> rfl

/-! ### `CSEMapper` -/

def c12KeyedHand : C12MBody := .keyed .getCse (.expr .identity)

def c12CseBodyHand : C12MBody :=
  .ifExact "CommonSubexpression" (.expr (.wrapCse (.recField "child") true))
    (.expr (.ctorSame (.unwrapExact (.recField "child") "CommonSubexpression") ["prefix"] true))

def c12SubstRowHand : C04Body :=
  .rebuild [⟨"values", .each, false⟩] false [] false
    (.sameClass [.copied "child", .copied "variables", .rebuilt "values"] false)

def c12GetCseHand : C12GetCse :=
  { keyDefaults := true, lookupFirst := true, fresh := .wrapCse .identity false, stores := true }

def c12MapHand : C12MapTable :=
  { cls := "CSEMapper", base := "IdentityMapper", keyAttr := some "get_key",
    elimAttr := some "to_eliminate", tableAttr := some "canonical_subexprs", histAttr := none,
    getCse := some c12GetCseHand,
    rows := [
      ⟨"map_call", "map_sum", c12KeyedHand⟩,
      ⟨"map_common_subexpression", "map_common_subexpression", c12CseBodyHand⟩,
      ⟨"map_floor_div", "map_sum", c12KeyedHand⟩,
      ⟨"map_power", "map_sum", c12KeyedHand⟩,
      ⟨"map_product", "map_sum", c12KeyedHand⟩,
      ⟨"map_quotient", "map_sum", c12KeyedHand⟩,
      ⟨"map_remainder", "map_sum", c12KeyedHand⟩,
      ⟨"map_substitution", "map_substitution", .rebuild c12SubstRowHand⟩,
      ⟨"map_sum", "map_sum", c12KeyedHand⟩] }

/-- the handler body `cseMap` implements, per node -/
def c12MapBody (e : Expr) : Except DepErr C12MBodyR :=
  match e with
  | .cse _ _ _ => .ok (.own c12CseBodyHand)
  | .subst _ _ _ => .ok (.own (.rebuild c12SubstRowHand))
  | e =>
    if e.isCseOp then .ok (.own c12KeyedHand)
    else match c04IdentBody e with
      | .ok b => .ok (.inherited b)
      | .error err => .error err

theorem c12MapBody_classRep (e : Expr) : c12MapBody e = c12MapBody e.classRep := by
  cases e with
  | const k => cases k <;> rfl
  | nary o cs => cases o <;> rfl
  | bin o a b => cases o <;> rfl
  | _ => rfl

/-- `getattr(IdentityMapper, expr.mapper_method)` per node: the `IdentityMapper` row of the node's
own class; constants and containers have no `mapper_method` -/
def c12IdentOwnHand : Expr → Except DepErr C04Body
  | .const _ => .error .unsupported
  | .tuple _ => .error .unsupported
  | .list _ => .error .unsupported
  | e => c04IdentBody e

theorem c12IdentOwnHand_classRep (e : Expr) : c12IdentOwnHand e = c12IdentOwnHand e.classRep := by
  cases e with
  | const k => cases k <;> rfl
  | bin o a b => cases o <;> rfl
  | _ => rfl

/-- what the handlers of `CSEMapper` / `CSETagMapper` consult, as the models have it -/
def c12EnvHand (rec : C12Rec) (g : Option C12GetCse) : C12MEnv :=
  { keyOf := c12KeyH, wrap := fun r p => some (wrapInCse r p),
    mkCse := fun x => some (.cse x none evalScope), identOf := c12IdentOwnHand, getCse := g,
    recur := rec }

/-- `cseMap`, read in the table world -/
def c12CM (elim : List CKey) : C12Rec := fun x t => c12Lift (cseMap elim x t)

theorem c12CM_apply (elim : List CKey) (x : Expr) (T : Tbl) :
    c12CM elim x T = c12Lift (cseMap elim x T) := rfl

theorem c12MapSeqM_cons (rec : C12Rec) (c : Expr) (cs : List Expr) (T : Tbl) :
    c12MapSeqM rec (c :: cs) T =
      rec c T >>= fun p => c12MapSeqM rec cs p.2 >>= fun q => pure (p.1 :: q.1, q.2) := by
  simp only [c12MapSeqM]
  cases rec c T with
  | error err => rfl
  | ok p =>
    obtain ⟨c', T1⟩ := p
    cases h : c12MapSeqM rec cs T1 <;> simp only [bind, Except.bind, h] <;> rfl

theorem c12MapSeqNotNoneM_cons (rec : C12Rec) (c : Expr) (cs : List Expr) (T : Tbl) :
    c12MapSeqNotNoneM rec (c :: cs) T =
      if c.c04IsNone then c12MapSeqNotNoneM rec cs T >>= fun q => pure (c :: q.1, q.2)
      else rec c T >>= fun p => c12MapSeqNotNoneM rec cs p.2 >>= fun q => pure (p.1 :: q.1, q.2) := by
  simp only [c12MapSeqNotNoneM]
  split
  · cases c12MapSeqNotNoneM rec cs T <;> rfl
  · cases rec c T with
    | error err => rfl
    | ok p =>
      obtain ⟨c', T1⟩ := p
      cases h : c12MapSeqNotNoneM rec cs T1 <;> simp only [bind, Except.bind, h] <;> rfl

theorem cseMapL_eq_seqM (elim : List CKey) : ∀ (cs : List Expr) (T : Tbl),
    c12MapSeqM (c12CM elim) cs T = c12Lift (cseMapL elim cs T)
  | [], T => rfl
  | x :: xs, T => by
    simp only [c12MapSeqM_cons, c12CM_apply, cseMapL_eq_seqM elim xs, cseMapL, c12Lift_bind]; rfl

theorem cseMapSlice_cons (elim : List CKey) (x : Expr) (xs : List Expr) (T : Tbl) :
    cseMapSlice elim (x :: xs) T =
      if x.c04IsNone then (do let (cs', T1) ← cseMapSlice elim xs T; pure (x :: cs', T1))
      else (do
        let (c', T1) ← cseMap elim x T
        let (cs', T2) ← cseMapSlice elim xs T1
        pure (c' :: cs', T2)) := by
  cases x with
  | const k => cases k <;> rfl
  | _ => rfl

theorem cseMapSlice_eq_seqM (elim : List CKey) : ∀ (cs : List Expr) (T : Tbl),
    c12MapSeqNotNoneM (c12CM elim) cs T = c12Lift (cseMapSlice elim cs T)
  | [], T => rfl
  | x :: xs, T => by
    rw [cseMapSlice_cons, c12MapSeqNotNoneM_cons]
    cases x.c04IsNone <;>
      simp only [Bool.false_eq_true, ↓reduceIte, c12CM_apply, cseMapSlice_eq_seqM elim xs,
        c12Lift_bind] <;> rfl

/-- on a node whose handler `CSEMapper` inherits unchanged (for the operators among them `map_sum`
is not bound: `opMode` answers `plain`), `cseMap` rebuilds the node from its mapped children -/
theorem cseMap_inherited (elim : List CKey) (e : Expr) (T : Tbl) (b : C04Body)
    (hm : c12MapBody e = .ok (.inherited b)) :
    c12Lift (cseMap elim e T) = c12CoreD (c12CM elim) e T := by
  cases e with
  | const k => cases k <;> cases hm <;> rfl
  | nary o cs =>
    cases o <;> cases hm <;>
      simp only [cseMap, opMode, Expr.isCseOp, Bool.false_eq_true, ↓reduceIte, c12Lift_bind,
        c12Lift_pure, c12CoreD, cseMapL_eq_seqM, pure_bind] <;> rfl
  | bin o a b =>
    cases o <;> cases hm <;>
      simp only [cseMap, opMode, Expr.isCseOp, Bool.false_eq_true, ↓reduceIte, c12Lift_bind,
        c12Lift_pure, c12CoreD, c12CM_apply, pure_bind] <;> rfl
  | cse _ _ _ | subst _ _ _ | call _ _ => cases hm
  | _ =>
    first
    | rfl
    | (simp only [cseMap, c12Lift_bind, c12CoreD, c12CM_apply, cseMapL_eq_seqM,
        cseMapSlice_eq_seqM]; rfl)

/-- on sums, products, quotients, powers, calls: what `map_sum` decides first (`opMode`), then
the same rebuild, then `get_cse`'s bookkeeping (`finishOp`) -/
theorem cseMap_op (elim : List CKey) (e : Expr) (T : Tbl) (hop : e.isCseOp = true) :
    c12Lift (cseMap elim e T) =
      c12Lift (opMode elim T e) >>= fun m =>
        match m with
        | .hit w => pure (w, T)
        | m => c12CoreD (c12CM elim) e T >>= fun p => pure (finishOp m p.1 p.2) := by
  cases e with
  | nary o cs | bin o a b | call f as =>
    simp only [cseMap, c12Lift_bind]; congr 1; funext m
    cases m <;> simp only [c12Lift_bind, c12Lift_pure, c12CoreD, c12CM_apply, cseMapL_eq_seqM,
      bind_assoc, pure_bind] <;> rfl
  | _ => cases hop

theorem c12_isCseOp_ident (e : Expr) (hop : e.isCseOp = true) :
    ∃ b, c12IdentOwnHand e = .ok b ∧ c04IdentBody e = .ok b := by
  cases e <;> simp only [Expr.isCseOp, Bool.false_eq_true] at hop
  case nary o cs => exact ⟨_, rfl, rfl⟩
  case bin o a b => cases o <;> simp only [Bool.false_eq_true] at hop <;> exact ⟨_, rfl, rfl⟩
  case call f as => exact ⟨_, rfl, rfl⟩

/-- the handler `map_sum` (bound to seven node classes) with `get_cse`: what `opMode` decides,
the inherited rebuild, `finishOp` -/
theorem c12MapStepB_keyed (rec : C12Rec) (elim : List CKey) (hist : Counts) (e : Expr) (T : Tbl)
    (hop : e.isCseOp = true) :
    c12MapStepB (c12EnvHand rec (some c12GetCseHand)) elim hist (.ok (.own c12KeyedHand)) e T =
      c12Lift (opMode elim T e) >>= fun m =>
        match m with
        | .hit w => pure (w, T)
        | m => c12CoreD rec e T >>= fun p => pure (finishOp m p.1 p.2) := by
  obtain ⟨b, hb, hi⟩ := c12_isCseOp_ident e hop
  simp only [c12MapStepB, c12KeyedHand, c12EnvHand, c12KeyH, c12RetM, c12GetCseHand, c12EvalM, hb,
    ↓reduceIte, c12RebuildM_ident rec e b _ hi, opMode, hop]
  by_cases hl : e.hasList = true
  · simp only [hl, ↓reduceIte]; rfl
  · simp only [hl, Bool.false_eq_true, ↓reduceIte]
    by_cases he : inElim elim (normalizedKey e) = true
    · simp only [he, ↓reduceIte]
      cases hf : T.find (normalizedKey e) with
      | some w => rfl
      | none => cases c12CoreD rec e T <;> rfl
    · simp only [he, Bool.false_eq_true, ↓reduceIte]
      cases c12CoreD rec e T <;> rfl

/-- `cseMap` on a node whose handler is `CSEMapper.map_sum` -/
theorem cseMap_keyed (elim : List CKey) (hist : Counts) (e : Expr) (T : Tbl)
    (hop : e.isCseOp = true) :
    c12Lift (cseMap elim e T) =
      c12MapStepB (c12EnvHand (c12CM elim) (some c12GetCseHand)) elim hist
        (.ok (.own c12KeyedHand)) e T := by
  rw [c12MapStepB_keyed _ elim hist e T hop, cseMap_op elim e T hop]

/-- **`cseMap` solves the table-driven equations**: a call of `cseMap` on any node, with any set
`to_eliminate` and any table of canonical wrappers, is one handler call of the body `c12MapBody`
gives for the node — `map_sum` with `get_cse`, the wrapper handler, `map_substitution`, else the
inherited `IdentityMapper` row — recursing through `cseMap`. -/
theorem cseMap_eq_stepB (elim : List CKey) (hist : Counts) (e : Expr) (T : Tbl) :
    c12Lift (cseMap elim e T) =
      c12MapStepB (c12EnvHand (c12CM elim) (some c12GetCseHand)) elim hist (c12MapBody e) e T := by
  have inh : ∀ b, c12MapBody e = .ok (.inherited b) → c04IdentBody e = .ok b →
      c12Lift (cseMap elim e T) =
        c12MapStepB (c12EnvHand (c12CM elim) (some c12GetCseHand)) elim hist (c12MapBody e) e T :=
    fun b hm hi => by
      rw [hm, cseMap_inherited elim e T b hm]; exact (c12RebuildM_ident _ e b T hi).symm
  cases e with
  | const k => cases k <;> rfl
  | nary o cs =>
    cases o
    case sum | prod => exact cseMap_keyed elim hist _ T rfl
    all_goals exact inh _ rfl rfl
  | bin o a b =>
    cases o
    case lshift | rshift => exact inh _ rfl rfl
    all_goals exact cseMap_keyed elim hist _ T rfl
  | call f as => exact cseMap_keyed elim hist _ T rfl
  | cse a p s =>
    simp only [cseMap, c12MapBody, c12MapStepB, c12CseBodyHand, Expr.kind, beq_self_eq_true,
      ↓reduceIte, c12RetM, c12EvalM, Expr.c04Field, Expr.c04Fields, c04Assoc, c12EnvHand,
      c12CM_apply, Expr.c12StrField, bind, Except.bind]
    cases cseMap elim a T <;> rfl
  | subst a vs xs =>
    simp only [cseMap, c12MapBody, c12MapStepB, c12SubstRowHand, c12RebuildM, c12MapRecsM,
      c12MapRecM, Expr.c04Field, Expr.c04Fields, c04Assoc, String.reduceBEq, ↓reduceIte,
      Bool.false_eq_true, c12EnvHand, cseMapL_eq_seqM, bind, Except.bind]
    cases cseMapL elim xs T <;> rfl
  | _ => exact inh _ rfl rfl

/-! #### the rebuilding equations have one solution -/

theorem c12MapSeqM_congr {f g : C12Rec} : ∀ {cs : List Expr} (T : Tbl),
    (∀ x ∈ cs, ∀ t, f x t = g x t) → c12MapSeqM f cs T = c12MapSeqM g cs T
  | [], _, _ => rfl
  | x :: xs, T, h => by
    simp only [c12MapSeqM, h x (by simp)]
    cases g x T with
    | error err => rfl
    | ok p =>
      obtain ⟨x', T1⟩ := p
      simp only [c12MapSeqM_congr T1 (fun y hy => h y (List.mem_cons_of_mem _ hy))]

theorem c12MapSeqNotNoneM_congr {f g : C12Rec} : ∀ {cs : List Expr} (T : Tbl),
    (∀ x ∈ cs, ∀ t, f x t = g x t) → c12MapSeqNotNoneM f cs T = c12MapSeqNotNoneM g cs T
  | [], _, _ => rfl
  | x :: xs, T, h => by
    have ih := fun T1 => c12MapSeqNotNoneM_congr (f := f) (g := g) (cs := xs) T1
      (fun y hy => h y (List.mem_cons_of_mem _ hy))
    simp only [c12MapSeqNotNoneM, h x (by simp), ih]

theorem c12MapRecM_congr {f g : C12Rec} {e : Expr} (h : ∀ x ∈ e.children, ∀ t, f x t = g x t)
    (r : C04Rec) (T : Tbl) : c12MapRecM f e r T = c12MapRecM g e r T := by
  unfold c12MapRecM
  cases hf : e.c04Field r.field with
  | none => rfl
  | some v =>
    have hsub := c04Field_exprs_sub hf
    cases v with
    | one c =>
      have : ∀ t, f c t = g c t := h c (hsub c (by simp [C04Val.exprs]))
      cases r.iter <;> simp [this]
    | many cs =>
      have h1 := c12MapSeqM_congr (f := f) (g := g) (cs := cs) T
        (fun c hc => h c (hsub c (by simpa [C04Val.exprs] using hc)))
      have h2 := c12MapSeqNotNoneM_congr (f := f) (g := g) (cs := cs) T
        (fun c hc => h c (hsub c (by simpa [C04Val.exprs] using hc)))
      cases r.iter <;> simp [h1, h2]
    | dict vs =>
      have h1 := c12MapSeqM_congr (f := f) (g := g) (cs := vs) T
        (fun c hc => h c (hsub c (by simpa [C04Val.exprs] using hc)))
      cases r.iter <;> simp [h1]
    | data => cases r.iter <;> rfl

theorem c12MapRecsM_congr {f g : C12Rec} {e : Expr} (h : ∀ x ∈ e.children, ∀ t, f x t = g x t) :
    ∀ (recs : List C04Rec) (T : Tbl), c12MapRecsM f e recs T = c12MapRecsM g e recs T
  | [], _ => rfl
  | r :: rs, T => by
    simp only [c12MapRecsM, c12MapRecM_congr h r T]
    cases c12MapRecM g e r T with
    | error err => rfl
    | ok p => obtain ⟨v, T1⟩ := p; simp only [c12MapRecsM_congr h rs T1]

theorem c12RebuildM_congr {f g : C12Rec} {e : Expr} (h : ∀ x ∈ e.children, ∀ t, f x t = g x t)
    (b : C04Body) (T : Tbl) : c12RebuildM f e b T = c12RebuildM g e b T := by
  unfold c12RebuildM
  split <;> try rfl
  rw [c12MapRecsM_congr h]

/-- the environment with another `rec` -/
def C12MEnv.withRec (env : C12MEnv) (r : C12Rec) : C12MEnv := { env with recur := r }

theorem c12EvalM_congr (env : C12MEnv) {f g : C12Rec} {e : Expr}
    (h : ∀ x ∈ e.children, ∀ t, f x t = g x t) :
    ∀ (a : C12MExpr) (T : Tbl), c12EvalM (env.withRec f) e a T = c12EvalM (env.withRec g) e a T := by
  intro a
  induction a with
  | identity =>
    intro T
    simp only [c12EvalM, C12MEnv.withRec]
    cases env.identOf e with
    | error err => rfl
    | ok b => exact c12RebuildM_congr h b T
  | wrapCse a wp ih => intro T; simp only [c12EvalM, ih]; rfl
  | recField fl =>
    intro T
    simp only [c12EvalM, C12MEnv.withRec]
    cases hf : e.c04Field fl with
    | none => rfl
    | some v =>
      cases v with
      | one c => exact h c (c04Field_exprs_sub hf c (by simp [C04Val.exprs])) T
      | _ => rfl
  | unwrapExact a cls ih => intro T; simp only [c12EvalM, ih]
  | ctorSame a cp ex ih => intro T; simp only [c12EvalM, ih]
  | newCse => intro T; rfl

theorem c12RetM_congr (env : C12MEnv) {f g : C12Rec} {e : Expr}
    (h : ∀ x ∈ e.children, ∀ t, f x t = g x t) (ky : Option CKey) (r : C12MRet) (T : Tbl) :
    c12RetM (env.withRec f) e ky r T = c12RetM (env.withRec g) e ky r T := by
  cases r with
  | expr a => exact c12EvalM_congr env h a T
  | getCse =>
    simp only [c12RetM, c12EvalM_congr env h]
    rfl

theorem c12MapStepB_congr (env : C12MEnv) {elim : List CKey} {hist : Counts}
    {body : Except DepErr C12MBodyR} {f g : C12Rec} {e : Expr}
    (h : ∀ x ∈ e.children, ∀ t, f x t = g x t) (T : Tbl) :
    c12MapStepB (env.withRec f) elim hist body e T =
      c12MapStepB (env.withRec g) elim hist body e T := by
  unfold c12MapStepB
  split
  · rfl
  · simp only [c12RetM_congr env h]; rfl
  · simp only [c12RetM_congr env h]
  · simp only [c12RetM_congr env h]
  · exact c12RebuildM_congr h _ T
  · exact c12RebuildM_congr h _ T

/-- **The table-driven rebuilding equations have one solution.** -/
theorem c12Map_unique (env : C12MEnv) (elim : List CKey) (hist : Counts)
    (body : Expr → Except DepErr C12MBodyR) (f g : C12Rec)
    (hf : ∀ e T, f e T = c12MapStepB (env.withRec f) elim hist (body e) e T)
    (hg : ∀ e T, g e T = c12MapStepB (env.withRec g) elim hist (body e) e T) :
    ∀ e T, f e T = g e T := by
  intro e
  induction e using Expr.induct with
  | h e ih =>
    intro T
    rw [hf, hg]
    exact c12MapStepB_congr env ih T

theorem c12MapFuel_eq_iter (classes : List C04NodeClass) (ident : List C04Handler)
    (K : C12KeyTable) (C : C12CtorTable) (W : C12WTree) (Tb : C12MapTable) (elim : List CKey)
    (hist : Counts) : ∀ n,
    c12MapFuel classes ident K C W Tb elim hist n =
      c12Iter (fun rec => c12MapStep classes ident K C W Tb elim hist rec)
        (fun _ _ => .error .unsupported) n
  | 0 => by funext e c; rfl
  | n + 1 => by
    funext e c
    simp only [c12MapFuel, c12Iter, c12MapFuel_eq_iter classes ident K C W Tb elim hist n]

/-- a solution of the one-step equations of the tables IS the table-driven mapper `c12MapT` -/
theorem c12MapT_eq (classes : List C04NodeClass) (ident : List C04Handler) (K : C12KeyTable)
    (C : C12CtorTable) (W : C12WTree) (Tb : C12MapTable) (elim : List CKey) (hist : Counts)
    (f : C12Rec) (hf : ∀ e T, f e T = c12MapStep classes ident K C W Tb elim hist f e T)
    (e : Expr) (T : Tbl) : c12MapT classes ident K C W Tb elim hist e T = f e T := by
  unfold c12MapT
  rw [c12MapFuel_eq_iter]
  exact c12Iter_eq (fun rec => c12MapStep classes ident K C W Tb elim hist rec) _
    (fun f g e h s => by
      unfold c12MapStep
      exact c12MapStepB_congr
        { keyOf := c12KeyT K, wrap := fun r p => c12WTreeT C r [("prefix", p)] W,
          mkCse := fun x => c12MkCse C x none none, identOf := c12IdentOwn classes ident,
          getCse := Tb.getCse, recur := f } h s)
    f hf e.size e (Nat.le_refl _) T

/-! ### `CSETagMapper` (pymbolic/mapper/cse_tagger.py) -/

def c12HistoHand : C12MBody := .histo 0 ⟨.gt, 1⟩ (.expr .newCse) (.expr .identity)

def c12TagHand : C12MapTable :=
  { cls := "CSETagMapper", base := "IdentityMapper", keyAttr := none, elimAttr := none,
    tableAttr := none, histAttr := some "subexpr_histogram", getCse := none,
    rows := [
      ⟨"map_bitwise_and", "map_call", c12HistoHand⟩, ⟨"map_bitwise_not", "map_call", c12HistoHand⟩,
      ⟨"map_bitwise_or", "map_call", c12HistoHand⟩, ⟨"map_bitwise_xor", "map_call", c12HistoHand⟩,
      ⟨"map_call", "map_call", c12HistoHand⟩, ⟨"map_comparison", "map_call", c12HistoHand⟩,
      ⟨"map_floor_div", "map_call", c12HistoHand⟩, ⟨"map_if", "map_call", c12HistoHand⟩,
      ⟨"map_if_positive", "map_call", c12HistoHand⟩, ⟨"map_left_shift", "map_call", c12HistoHand⟩,
      ⟨"map_logical_and", "map_call", c12HistoHand⟩, ⟨"map_logical_not", "map_call", c12HistoHand⟩,
      ⟨"map_logical_or", "map_call", c12HistoHand⟩, ⟨"map_polynomial", "map_call", c12HistoHand⟩,
      ⟨"map_power", "map_call", c12HistoHand⟩, ⟨"map_product", "map_call", c12HistoHand⟩,
      ⟨"map_quotient", "map_call", c12HistoHand⟩, ⟨"map_remainder", "map_call", c12HistoHand⟩,
      ⟨"map_right_shift", "map_call", c12HistoHand⟩, ⟨"map_sum", "map_call", c12HistoHand⟩] }

/-- the handler body `c12HistTag` implements, per node -/
def c12TagBody (e : Expr) : Except DepErr C12MBodyR :=
  if e.isTagOp then .ok (.own c12HistoHand)
  else match c04IdentBody e with
    | .ok b => .ok (.inherited b)
    | .error err => .error err

theorem c12TagBody_classRep (e : Expr) : c12TagBody e = c12TagBody e.classRep := by
  cases e with
  | const k => cases k <;> rfl
  | nary o cs => cases o <;> rfl
  | bin o a b => cases o <;> rfl
  | un o a => cases o <;> rfl
  | _ => rfl

/-- `c12HistTag`, read in the table world (the mapper has no table of wrappers: `T` is handed on) -/
def c12HT (hist : Counts) : C12Rec := fun x T =>
  match c12Lift (c12HistTag hist x) with
  | .ok r => .ok (r, T)
  | .error err => .error err

theorem c12HT_apply (hist : Counts) (x : Expr) (T : Tbl) :
    c12HT hist x T = (match c12Lift (c12HistTag hist x) with
      | .ok r => .ok (r, T)
      | .error err => .error err) := rfl

theorem c12HT_eq_bind (hist : Counts) (x : Expr) (T : Tbl) :
    c12HT hist x T = c12Lift (c12HistTag hist x) >>= fun r => pure (r, T) := by
  rw [c12HT_apply]; cases c12Lift (c12HistTag hist x) <;> rfl

theorem histTagL_eq_seqM (hist : Counts) : ∀ (cs : List Expr) (T : Tbl),
    c12MapSeqM (c12HT hist) cs T = c12Lift (c12HistTagL hist cs) >>= fun r => pure (r, T)
  | [], T => rfl
  | x :: xs, T => by
    simp only [c12MapSeqM_cons, c12HT_eq_bind, histTagL_eq_seqM hist xs, c12HistTagL, c12Lift_bind,
      c12Lift_pure, bind_assoc, pure_bind, c12_ok_bind]

theorem c12HistTagSlice_cons (hist : Counts) (x : Expr) (xs : List Expr) :
    c12HistTagSlice hist (x :: xs) =
      if x.c04IsNone then (do let cs' ← c12HistTagSlice hist xs; pure (x :: cs'))
      else (do
        let c' ← c12HistTag hist x
        let cs' ← c12HistTagSlice hist xs
        pure (c' :: cs')) := by
  cases x with
  | const k => cases k <;> rfl
  | _ => rfl

theorem histTagSlice_eq_seqM (hist : Counts) : ∀ (cs : List Expr) (T : Tbl),
    c12MapSeqNotNoneM (c12HT hist) cs T =
      c12Lift (c12HistTagSlice hist cs) >>= fun r => pure (r, T)
  | [], T => rfl
  | x :: xs, T => by
    rw [c12HistTagSlice_cons, c12MapSeqNotNoneM_cons]
    cases x.c04IsNone <;>
      simp only [Bool.false_eq_true, ↓reduceIte, c12HT_eq_bind, histTagSlice_eq_seqM hist xs,
        c12Lift_bind, c12Lift_pure, bind_assoc, pure_bind, c12_ok_bind]

/-- on a node whose handler `CSETagMapper` inherits unchanged, `c12HistTag` rebuilds the node from
its mapped children (a wrapper whose mapped child is zero collapses) -/
theorem histTag_inherited (hist : Counts) (e : Expr) (T : Tbl) (b : C04Body)
    (hm : c12TagBody e = .ok (.inherited b)) : c12HT hist e T = c12CoreD (c12HT hist) e T := by
  cases e with
  | const k => cases k <;> cases hm <;> rfl
  | nary o cs =>
    cases o <;> cases hm <;>
      simp only [c12HT_eq_bind, c12HistTag, c12TagMode, Expr.isTagOp, Bool.false_eq_true,
        ↓reduceIte, c12Lift_bind, c12Lift_pure, c12CoreD, histTagL_eq_seqM, bind_assoc, pure_bind, c12_ok_bind]
  | cse a p s =>
    simp only [c12HT_eq_bind, c12HistTag, c12Lift_bind, c12CoreD, bind_assoc, pure_bind]
    congr 1; funext c'
    cases c'.isZero <;> rfl
  | bin _ _ _ | un _ _ | cmp _ _ _ | ite _ _ _ | call _ _ => cases hm
  | _ =>
    first
    | rfl
    | simp only [c12HT_eq_bind, c12HistTag, c12Lift_bind, c12Lift_pure, c12CoreD, histTagL_eq_seqM,
        histTagSlice_eq_seqM, bind_assoc, pure_bind, c12_ok_bind]

/-- on the twenty classes `map_call` is bound to: the histogram test (`c12TagMode`), then the same
rebuild -/
theorem histTag_op (hist : Counts) (e : Expr) (T : Tbl) (hop : e.isTagOp = true) :
    c12HT hist e T =
      c12Lift (c12TagMode hist e) >>= fun m =>
        match m with
        | some w => pure (w, T)
        | none => c12CoreD (c12HT hist) e T := by
  cases e with
  | nary o cs | bin o a b | un o a | cmp o a b | ite a b d | call f as =>
    simp only [c12HT_eq_bind, c12HistTag, c12Lift_bind, bind_assoc]; congr 1; funext m
    cases m <;> simp only [c12Lift_bind, c12Lift_pure, c12CoreD, c12HT_eq_bind, histTagL_eq_seqM,
      bind_assoc, pure_bind, c12_ok_bind]
  | _ => cases hop

theorem c12_isTagOp_ident (e : Expr) (hop : e.isTagOp = true) :
    ∃ b, c12IdentOwnHand e = .ok b ∧ c04IdentBody e = .ok b := by
  cases e <;> simp only [Expr.isTagOp, Bool.false_eq_true] at hop
  case nary o cs => exact ⟨_, rfl, rfl⟩
  case bin o a b => cases o <;> exact ⟨_, rfl, rfl⟩
  case un o a => exact ⟨_, rfl, rfl⟩
  case cmp o a b => exact ⟨_, rfl, rfl⟩
  case ite a b c => exact ⟨_, rfl, rfl⟩
  case call f as => exact ⟨_, rfl, rfl⟩

/-- the handler `map_call` of `CSETagMapper` (bound to twenty node classes): the histogram test,
else the inherited rebuild -/
theorem c12MapStepB_histo (rec : C12Rec) (elim : List CKey) (hist : Counts) (e : Expr) (T : Tbl)
    (hop : e.isTagOp = true) :
    c12MapStepB (c12EnvHand rec none) elim hist (.ok (.own c12HistoHand)) e T =
      c12Lift (c12TagMode hist e) >>= fun m =>
        match m with
        | some w => pure (w, T)
        | none => c12CoreD rec e T := by
  obtain ⟨b, hb, hi⟩ := c12_isTagOp_ident e hop
  simp only [c12MapStepB, c12HistoHand, c12EnvHand, c12RetM, c12EvalM, hb, C12Thr.holds,
    c12RebuildM_ident rec e b _ hi, c12TagMode, hop, ↓reduceIte]
  by_cases hl : e.hasList = true
  · simp only [hl, ↓reduceIte]; rfl
  · simp only [hl, Bool.false_eq_true, ↓reduceIte]
    by_cases hc : decide ((hist.find (.plain e)).getD 0 > 1) = true
    · simp only [hc, ↓reduceIte]; rfl
    · simp only [hc, Bool.false_eq_true, ↓reduceIte]; rfl

theorem histTag_keyed (elim : List CKey) (hist : Counts) (e : Expr) (T : Tbl)
    (hop : e.isTagOp = true) :
    c12HT hist e T =
      c12MapStepB (c12EnvHand (c12HT hist) none) elim hist (.ok (.own c12HistoHand)) e T := by
  rw [c12MapStepB_histo _ elim hist e T hop, histTag_op hist e T hop]

/-- **`c12HistTag` solves the table-driven equations** of `CSETagMapper`: for every histogram, a
call on any node is one handler call of the body `c12TagBody` gives for the node — `map_call` with
the histogram test for the twenty aliased classes, else the inherited `IdentityMapper` row (the
wrapper row with its `is_zero` collapse included) — recursing through `c12HistTag`. -/
theorem histTag_eq_stepB (elim : List CKey) (hist : Counts) (e : Expr) (T : Tbl) :
    c12HT hist e T =
      c12MapStepB (c12EnvHand (c12HT hist) none) elim hist (c12TagBody e) e T := by
  have inh : ∀ b, c12TagBody e = .ok (.inherited b) → c04IdentBody e = .ok b →
      c12HT hist e T =
        c12MapStepB (c12EnvHand (c12HT hist) none) elim hist (c12TagBody e) e T :=
    fun b hm hi => by
      rw [hm, histTag_inherited hist e T b hm]; exact (c12RebuildM_ident _ e b T hi).symm
  cases e with
  | const k => cases k <;> rfl
  | nary o cs =>
    cases o
    case min | max => exact inh _ rfl rfl
    all_goals exact histTag_keyed elim hist _ T rfl
  | bin o a b => cases o <;> exact histTag_keyed elim hist _ T rfl
  | un o a => exact histTag_keyed elim hist _ T rfl
  | cmp o a b => exact histTag_keyed elim hist _ T rfl
  | ite a b d => exact histTag_keyed elim hist _ T rfl
  | call f as => exact histTag_keyed elim hist _ T rfl
  | _ => exact inh _ rfl rfl

/-! ### `tag_common_subexpressions` -/

def c12TagAllHand : C12TagAllTable :=
  { threshold := ⟨.gt, 1⟩, keyGetter := "NormalizedKeyGetter", counter := "UseCountMapper",
    mapper := "CSEMapper", oneCounter := true, oneMapper := true, sharedKeyGetter := true,
    rejectsExpression := true }

theorem c12ElimT_hand (cnt : Counts) : c12ElimT c12TagAllHand cnt = elimKeys cnt := by
  simp [c12ElimT, elimKeys, c12TagAllHand, C12Thr.holds]

/-- **`tagAll` is `tag_common_subexpressions` as the table describes it**, run with the two
hand-written mappers: one counting walk over the whole list, the keys counted more than once, one
rebuilding mapper (one table of canonical wrappers) over the whole list. -/
theorem tagAll_eq_table (es : List Expr) :
    c12Lift (tagAll es) = c12TagAllT c12TagAllHand c12UC c12CM es := by
  simp only [c12TagAllT, c12TagAllHand, Bool.and_self, ↓reduceIte, useCountL_eq_seqL, tagAll,
    c12MapAllM, bind, Except.bind]
  cases h : useCountL es [] with
  | error err => rfl
  | ok cnt =>
    simp only [c12Lift_ok]
    have := c12ElimT_hand cnt
    simp only [c12TagAllHand] at this
    rw [this, cseMapL_eq_seqM]
    cases cseMapL (elimKeys cnt) es [] with
    | error err => rfl
    | ok p => rfl

end PV
