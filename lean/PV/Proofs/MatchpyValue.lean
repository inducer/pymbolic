import PV.Proofs.UnifySem
import PV.Proofs.MatchpyExact
/-
  C16, matchpy bridge: the flags the operation classes declare are sound for the arithmetic
  meaning `evalC` (values in a field of characteristic 0), and everything the round trip may change
  (`BridgeEq`) preserves that meaning.
-/
namespace PV.Matchpy
open PV PV.Unify

-- the field `K` with `[CharZero K]` is declared once for the file; not every lemma needs all of it
set_option linter.unusedSectionVars false

universe u
variable {K : Type u} [Field K] [CharZero K] (ρ : String → K)

/-- an operator the bridge declares commutative / associative is a sum or a product, or has no
arithmetic meaning under `evalC` (logical / bitwise operators: undefined on every operand list) -/
theorem bridgeAC_cases {o : NaryOp} (h : bridgeAC o) :
    isAC o ∨ ∀ cs, evalC ρ (.nary o cs) = none := by
  cases o <;> simp [bridgeAC, mopOfNary, isAC] at h ⊢ <;> intro cs <;> simp [evalC]

theorem evalC_bridge_perm {o : NaryOp} (h : bridgeAC o) {cs ds : List Expr} (hp : cs.Perm ds) :
    evalC ρ (.nary o cs) = evalC ρ (.nary o ds) := by
  rcases bridgeAC_cases ρ h with hac | hnone
  · exact evalC_perm ρ hac hp
  · rw [hnone, hnone]

theorem evalC_bridge_flat {o : NaryOp} (h : bridgeAC o) (xs ys zs : List Expr) :
    evalC ρ (.nary o (xs ++ .nary o ys :: zs)) = evalC ρ (.nary o (xs ++ ys ++ zs)) := by
  rcases bridgeAC_cases ρ h with hac | hnone
  · exact evalC_flat ρ hac xs ys zs
  · rw [hnone, hnone]

mutual
/-- **the round trip preserves the value**: `BridgeEq`-related trees have the same `evalC` value
(both undefined, or both defined and equal) under every assignment -/
theorem BridgeEq.evalC_eq : ∀ {a b : Expr}, BridgeEq a b → evalC ρ a = evalC ρ b
  | _, _, .refl _ => rfl
  | _, _, .symm h => (BridgeEq.evalC_eq h).symm
  | _, _, .trans h1 h2 => (BridgeEq.evalC_eq h1).trans (BridgeEq.evalC_eq h2)
  | _, _, .nary o h => by
      have := BridgeEqL.evalCL_eq h
      cases o <;> simp only [evalC, this]
  | _, _, .bin o h1 h2 => by
      have e1 := BridgeEq.evalC_eq h1
      have e2 := BridgeEq.evalC_eq h2
      cases o <;> simp only [evalC, e1, e2]
  | _, _, .un _ _ => by simp only [evalC]
  | _, _, .cmp _ _ _ => by simp only [evalC]
  | _, _, .ite _ _ _ => by simp only [evalC]
  | _, _, .call _ _ => by simp only [evalC]
  | _, _, .subscript _ _ => by simp only [evalC]
  | _, _, .tuple _ => by simp only [evalC]
  | _, _, .perm hac h => evalC_bridge_perm ρ hac h
  | _, _, .flat xs ys zs hac => evalC_bridge_flat ρ hac xs ys zs
  | _, _, .index _ _ _ => by simp only [evalC]
theorem BridgeEqL.evalCL_eq : ∀ {as bs : List Expr}, BridgeEqL as bs → evalCL ρ as = evalCL ρ bs
  | _, _, .nil => rfl
  | _, _, .cons h t => by simp only [evalCL, BridgeEq.evalC_eq h, BridgeEqL.evalCL_eq t]
end

/-- what matchpy's constructor does with the declared flags (flatten, sort) keeps the value: the
image of `cls(*operands)` has the value of the n-ary node over the images of the operands -/
theorem mk_value {mo : MOp} {o : NaryOp} (hn : mo.nary? = some o) {ts : List MTerm}
    {es : List Expr} (hes : fromML ts = .ok es) :
    ∃ e', fromM (mk mo ts) = .ok e' ∧ BridgeEq (.nary o es) e' := by
  have hac : mo.isAC = true := by simp [MOp.isAC, hn]
  obtain ⟨es2, hfl, hrel2⟩ := fromML_flatten hn hes
  obtain ⟨es3, hs, hp⟩ := fromML_perm (pySort_perm MTerm.lt (flattenOps mo ts)).symm hfl
  refine ⟨.nary o es3, by rw [mk_ac hac, fromM_ac hn, hs]; rfl, ?_⟩
  have h2 := hrel2 []
  simp only [List.nil_append] at h2
  exact h2.trans (.perm (by simp [bridgeAC, nary?_mopOfNary hn]) hp)

end PV.Matchpy
