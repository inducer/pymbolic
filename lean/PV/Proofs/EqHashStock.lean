import PV.Proofs.EqHash
import PV.Generated.Classes
import PV.Proofs.NodeClass
/-
  C01 — the stock node classes against the class table regenerated from the working tree: the
  object of every stock tree (`ofExpr`, lean/PV/Model/Pickle.lean) is an instance of the table's
  classes with one value per dataclass field (`conforms`), so the generic theorems about `eqGen` /
  `hashGen` apply to all stock trees.  Breaks — at a named obligation — when a stock class gains,
  loses or renames a field, or stops being a decorated class.
-/
namespace PV.EqHash
open PV PV.Pickle

/-- class `c` of the current table is decorated (dataclass path) and has `n` fields -/
def stockOk (c : String) (n : Nat) : Bool :=
  match Generated.classes.template? c with
  | some (tpl, lp) => !lp && tpl.fields.length == n
  | none => false

theorem conforms_inst {c : String} {n : Nat} {fs : List Obj} {h : Option Nat}
    (hc : stockOk c n = true) (hn : fs.length = n)
    (hfs : conformsL Generated.classes fs = true) :
    conforms Generated.classes (.inst c .dataclass fs h) = true := by
  unfold stockOk at hc
  simp only [conforms, hfs, Bool.and_true]
  cases ht : Generated.classes.template? c with
  | none => simp [ht] at hc
  | some p =>
    obtain ⟨tpl, lp⟩ := p
    simp only [ht, Bool.and_eq_true, Bool.not_eq_true', beq_iff_eq] at hc
    simp only [hc.1, Bool.false_eq_true, if_false, beq_self_eq_true, Bool.true_and, beq_iff_eq]
    rw [hn, hc.2]

/-- the class of a stock node is decorated and has as many fields as the node's object -/
def stockNode (e : Expr) : Bool :=
  match ofExpr e with
  | .inst c _ fs _ => stockOk c fs.length
  | _ => true

/-- the class table of the current tree: (1) the side condition `Ok` of the C01 theorems
(`C01.ok_current`), (2) the classes of the stock nodes (`stockNode_ok`).  They stand in one
declaration because the kernel decodes a string literal of the table once per declaration. -/
theorem classes_current :
    ClassTable.Ok Generated.classes = true ∧ ∀ r ∈ classReps, stockNode r = true := by
  decide +kernel

theorem stockNode_ok : ∀ e : Expr, stockNode e = true := by
  refine Expr.forall_of_classReps (fun e h => ?_) classes_current.2
  cases e with
  | const k => cases k <;> exact h
  | cse c p s => cases p <;> exact h
  | _ => exact h

theorem conformsL_strAtoms : ∀ vs : List String,
    conformsL Generated.classes (vs.map strAtom) = true
  | [] => rfl
  | _ :: vs => by simp [conformsL, conforms, strAtom, conformsL_strAtoms vs]

mutual
/-- **every stock tree is an object over the current class table** -/
theorem ofExpr_conforms : ∀ e : Expr, conforms Generated.classes (ofExpr e) = true
  | .const _ => rfl
  | .var x => conforms_inst (stockNode_ok (.var x)) rfl rfl
  | .nary o cs =>
      conforms_inst (stockNode_ok (.nary o cs)) rfl
        (by simp [conformsL, conforms, ofExprL_conforms cs])
  | .bin o a b =>
      conforms_inst (stockNode_ok (.bin o a b)) rfl
        (by simp [conformsL, ofExpr_conforms a, ofExpr_conforms b])
  | .un o a => conforms_inst (stockNode_ok (.un o a)) rfl (by simp [conformsL, ofExpr_conforms a])
  | .cmp o a b =>
      conforms_inst (stockNode_ok (.cmp o a b)) rfl
        (by simp [conformsL, conforms, strAtom, ofExpr_conforms a, ofExpr_conforms b])
  | .ite c t e =>
      conforms_inst (stockNode_ok (.ite c t e)) rfl
        (by simp [conformsL, ofExpr_conforms c, ofExpr_conforms t, ofExpr_conforms e])
  | .call f as =>
      conforms_inst (stockNode_ok (.call f as)) rfl
        (by simp [conformsL, conforms, ofExpr_conforms f, ofExprL_conforms as])
  | .callKw f as ns vs =>
      conforms_inst (stockNode_ok (.callKw f as ns vs)) rfl
        (by simp [conformsL, conforms, ofExpr_conforms f, ofExprL_conforms as, ofExprL_conforms vs])
  | .subscript a i =>
      conforms_inst (stockNode_ok (.subscript a i)) rfl
        (by simp [conformsL, ofExpr_conforms a, ofExpr_conforms i])
  | .lookup a n =>
      conforms_inst (stockNode_ok (.lookup a n)) rfl
        (by simp [conformsL, conforms, strAtom, ofExpr_conforms a])
  | .cse c p s =>
      conforms_inst (stockNode_ok (.cse c p s)) rfl
        (by cases p <;> simp [conformsL, conforms, strAtom, ofExpr_conforms c])
  | .subst c vs xs =>
      conforms_inst (stockNode_ok (.subst c vs xs)) rfl
        (by simp [conformsL, conforms, ofExpr_conforms c, ofExprL_conforms xs, conformsL_strAtoms vs])
  | .deriv c vs =>
      conforms_inst (stockNode_ok (.deriv c vs)) rfl
        (by simp [conformsL, conforms, ofExpr_conforms c, conformsL_strAtoms vs])
  | .slice cs =>
      conforms_inst (stockNode_ok (.slice cs)) rfl
        (by simp [conformsL, conforms, ofExprL_conforms cs])
  | .nan => conforms_inst (stockNode_ok .nan) rfl rfl
  | .wildcard => conforms_inst (stockNode_ok .wildcard) rfl rfl
  | .dotWild n => conforms_inst (stockNode_ok (.dotWild n)) rfl rfl
  | .starWild n => conforms_inst (stockNode_ok (.starWild n)) rfl rfl
  | .funcSym => conforms_inst (stockNode_ok .funcSym) rfl rfl
  | .tuple cs => by simp [ofExpr, conforms, ofExprL_conforms cs]
  | .list cs => by simp [ofExpr, conforms, ofExprL_conforms cs]
theorem ofExprL_conforms : ∀ es : List Expr, conformsL Generated.classes (ofExprL es) = true
  | [] => rfl
  | e :: es => by simp [ofExprL, conformsL, ofExpr_conforms e, ofExprL_conforms es]
end

end PV.EqHash
