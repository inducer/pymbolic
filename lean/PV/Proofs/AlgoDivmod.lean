import PV.Proofs.AlgoPoly

/-!
  Fuel sufficiency for `PV.Algo.divmod`: on data satisfying the class invariant the
  `while rem.degree >= other.degree` loop strictly decreases `rem.degree`, so the supplied fuel
  is never exhausted.
-/

namespace PV.Algo

theorem add_nil_left (q : Poly) : add [] q = q := by rw [add]

theorem add_nil_right (p : Poly) : add p [] = p := by
  cases p with
  | nil => rw [add]
  | cons t p => rw [add]; simp

theorem add_cons_cons (e1 : ℕ) (c1 : ℤ) (p : Poly) (e2 : ℕ) (c2 : ℤ) (q : Poly) :
    add ((e1, c1) :: p) ((e2, c2) :: q) =
      if e1 = e2 then
        if c1 + c2 ≠ 0 then (e1, c1 + c2) :: add p q else add p q
      else if e1 > e2 then (e2, c2) :: add ((e1, c1) :: p) q
      else (e1, c1) :: add p ((e2, c2) :: q) := by
  rw [add]

theorem add_upper_bound (m : ℕ) (p q : Poly) (hp : ∀ t ∈ p, t.1 < m) (hq : ∀ t ∈ q, t.1 < m) :
    ∀ t ∈ add p q, t.1 < m := by
  fun_induction add p q with
  | case1 q => exact hq
  | case2 p _ => exact hp
  | case3 c1 p e1 c2 q coeff hc ih =>
    intro t ht
    rcases List.mem_cons.mp ht with rfl | ht
    · exact hp (e1, c1) (List.mem_cons_self ..)
    · exact ih (fun t h => hp t (List.mem_cons_of_mem _ h))
        (fun t h => hq t (List.mem_cons_of_mem _ h)) t ht
  | case4 c1 p e1 c2 q coeff hc ih =>
    exact ih (fun t h => hp t (List.mem_cons_of_mem _ h))
      (fun t h => hq t (List.mem_cons_of_mem _ h))
  | case5 e1 c1 p e2 c2 q hne hgt ih =>
    intro t ht
    rcases List.mem_cons.mp ht with rfl | ht
    · exact hq _ (List.mem_cons_self ..)
    · exact ih hp (fun t h => hq t (List.mem_cons_of_mem _ h)) t ht
  | case6 e1 c1 p e2 c2 q hne hgt ih =>
    intro t ht
    rcases List.mem_cons.mp ht with rfl | ht
    · exact hp _ (List.mem_cons_self ..)
    · exact ih (fun t h => hp t (List.mem_cons_of_mem _ h)) hq t ht

/-- Top terms of equal exponent are combined last. -/
theorem add_single_append (d : ℕ) (a b : ℤ) (q : Poly) (hq : ∀ t ∈ q, t.1 < d) :
    add [(d, a)] (q ++ [(d, b)]) = q ++ (if a + b ≠ 0 then [(d, a + b)] else []) := by
  induction q with
  | nil =>
    rw [List.nil_append, add_cons_cons, if_pos rfl, add_nil_left]
    split_ifs <;> rfl
  | cons u q ih =>
    obtain ⟨e2, c2⟩ := u
    have h2 : e2 < d := hq (e2, c2) (List.mem_cons_self ..)
    rw [List.cons_append, add_cons_cons, if_neg (by omega), if_pos (by omega),
      ih (fun t h => hq t (List.mem_cons_of_mem _ h))]
    rfl

theorem add_append_single (d : ℕ) (a b : ℤ) (p : Poly) (hp : ∀ t ∈ p, t.1 < d) :
    add (p ++ [(d, a)]) [(d, b)] = p ++ (if a + b ≠ 0 then [(d, a + b)] else []) := by
  induction p with
  | nil =>
    rw [List.nil_append, add_cons_cons, if_pos rfl, add_nil_left]
    split_ifs <;> rfl
  | cons u p ih =>
    obtain ⟨e1, c1⟩ := u
    have h1 : e1 < d := hp (e1, c1) (List.mem_cons_self ..)
    rw [List.cons_append, add_cons_cons, if_neg (by omega), if_neg (by omega),
      ih (fun t h => hp t (List.mem_cons_of_mem _ h))]
    rfl

theorem add_append_top (p q : Poly) (d : ℕ) (a b : ℤ)
    (hp : ∀ t ∈ p, t.1 < d) (hq : ∀ t ∈ q, t.1 < d) :
    add (p ++ [(d, a)]) (q ++ [(d, b)]) =
      add p q ++ (if a + b ≠ 0 then [(d, a + b)] else []) := by
  fun_induction add p q with
  | case1 q => rw [List.nil_append]; exact add_single_append d a b q hq
  | case2 p _ => rw [List.nil_append]; exact add_append_single d a b p hp
  | case3 c1 p e1 c2 q coeff hc ih =>
    rw [List.cons_append, List.cons_append, add_cons_cons, if_pos rfl, if_pos hc,
      ih (fun t h => hp t (List.mem_cons_of_mem _ h)) (fun t h => hq t (List.mem_cons_of_mem _ h))]
    rfl
  | case4 c1 p e1 c2 q coeff hc ih =>
    rw [List.cons_append, List.cons_append, add_cons_cons, if_pos rfl, if_neg hc,
      ih (fun t h => hp t (List.mem_cons_of_mem _ h)) (fun t h => hq t (List.mem_cons_of_mem _ h))]
  | case5 e1 c1 p e2 c2 q hne hgt ih =>
    rw [List.cons_append, List.cons_append, add_cons_cons, if_neg hne, if_pos hgt,
      ← List.cons_append, ih hp (fun t h => hq t (List.mem_cons_of_mem _ h))]
    rfl
  | case6 e1 c1 p e2 c2 q hne hgt ih =>
    rw [List.cons_append, List.cons_append, add_cons_cons, if_neg hne, if_neg hgt,
      ← List.cons_append (a := (e2, c2)),
      ih (fun t h => hp t (List.mem_cons_of_mem _ h)) hq]
    rfl

/-! ### `_sort_uniq` is the identity on well-formed data -/

theorem insertByExp_of_le (t : Term) (l : List Term) (h : ∀ u ∈ l, t.1 ≤ u.1) :
    insertByExp t l = t :: l := by
  cases l with
  | nil => rfl
  | cons u us => rw [insertByExp, if_pos (h u (List.mem_cons_self ..))]

theorem sortByExp_of_sorted (l : List Term) (h : WeakSorted l) : sortByExp l = l := by
  induction l with
  | nil => rfl
  | cons t ts ih =>
    unfold WeakSorted at h ih
    rw [List.pairwise_cons] at h
    rw [sortByExp, ih h.2, insertByExp_of_le t ts h.1]

theorem mergeFix_of_sorted (acc : List Term) (last : Option ℕ) (rest : List Term)
    (h : StrictSorted rest) (hl : ∀ e, last = some e → ∀ t ∈ rest, e < t.1) :
    mergeFix acc last rest = acc.reverse ++ rest := by
  induction rest generalizing acc last with
  | nil => rw [mergeFix_nil, List.append_nil]
  | cons t rest ih =>
    obtain ⟨e, c⟩ := t
    unfold StrictSorted at h ih
    rw [List.pairwise_cons] at h
    have hne : ¬ last = some e := by
      intro hh
      have := hl e hh (e, c) (List.mem_cons_self ..)
      simp at this
    rw [mergeFix_cons, if_neg hne, ih _ _ h.2]
    · simp
    · intro e' he' t ht; cases he'; exact h.1 t ht

theorem sortUniq_of_sorted (l : List Term) (h : StrictSorted l) : sortUniq l = l := by
  rw [sortUniq, sortByExp_of_sorted l h.weak, mergeFix_of_sorted [] none l h (by simp)]
  rfl

theorem mul_single (dd : ℕ) (cf : ℤ) (other : Poly) (h : StrictSorted other) :
    mul [(dd, cf)] other = other.map fun o => (dd + o.1, cf * o.2) := by
  have : mulRaw [(dd, cf)] other = other.map fun o => (dd + o.1, cf * o.2) := by
    simp [mulRaw]
  rw [mul, this]
  apply sortUniq_of_sorted
  unfold StrictSorted at *
  rw [List.pairwise_map]
  exact List.Pairwise.imp (fun h => by simpa using h) h

/-! ### the degree of the remainder decreases -/

theorem degree_append_single (p : Poly) (t : Term) : degree (p ++ [t]) = (t.1 : ℤ) := by
  unfold degree; rw [List.getLast?_concat]

theorem leadTerm_append_single (p : Poly) (t : Term) : leadTerm (p ++ [t]) = t := by
  unfold leadTerm; rw [List.getLast?_concat]; rfl

theorem degree_ge_neg_one (p : Poly) : -1 ≤ degree p := by
  unfold degree
  cases p.getLast? with
  | none => simp
  | some t => simp only; omega

theorem degree_lt_of_bound (p : Poly) (d : ℕ) (h : ∀ t ∈ p, t.1 < d) : degree p < (d : ℤ) := by
  unfold degree
  cases hp : p.getLast? with
  | none => simp only; omega
  | some t =>
    have := h t (List.mem_of_getLast? hp)
    simp only; omega

theorem exists_of_degree_nonneg (p : Poly) (h : 0 ≤ degree p) :
    ∃ p' t, p = p' ++ [t] := by
  unfold degree at h
  cases hp : p.getLast? with
  | none => rw [hp] at h; simp at h
  | some t =>
    obtain ⟨ys, hys⟩ := List.getLast?_eq_some_iff.mp hp
    exact ⟨ys, t, hys⟩

theorem strictSorted_append_single (p : Poly) (t : Term) :
    StrictSorted (p ++ [t]) ↔ StrictSorted p ∧ ∀ u ∈ p, u.1 < t.1 := by
  unfold StrictSorted
  rw [List.pairwise_append]
  simp

/-- One iteration of the division loop keeps the remainder well formed and strictly
decreases its degree. -/
theorem divmod_step (rem other : Poly) (hrem : StrictSorted rem) (hother : StrictSorted other)
    (ho : 0 ≤ degree other) (hdeg : degree rem ≥ degree other)
    (hlead : Int.fmod (leadTerm rem).2 (leadTerm other).2 = 0) :
    let thisFac : Poly := [((leadTerm rem).1 - (leadTerm other).1,
      Int.fdiv (leadTerm rem).2 (leadTerm other).2)]
    StrictSorted (sub rem (mul thisFac other)) ∧
      degree (sub rem (mul thisFac other)) < degree rem := by
  obtain ⟨o', ⟨eo, lc⟩, rfl⟩ := exists_of_degree_nonneg other ho
  obtain ⟨r', ⟨d, rc⟩, rfl⟩ := exists_of_degree_nonneg rem (by omega)
  simp only [degree_append_single, leadTerm_append_single] at *
  have hle : eo ≤ d := by omega
  obtain ⟨hr's, hr'b⟩ := (strictSorted_append_single r' (d, rc)).mp hrem
  obtain ⟨ho's, ho'b⟩ := (strictSorted_append_single o' (eo, lc)).mp hother
  have hmul : Int.fdiv rc lc * lc = rc := Int.fdiv_mul_cancel_of_fmod_eq_zero hlead
  rw [mul_single _ _ _ hother, sub, neg, List.map_append, List.map_append]
  simp only [List.map_cons, List.map_nil]
  have hd : d - eo + eo = d := by omega
  rw [hd, hmul]
  set o'' : Poly := List.map (fun t => (t.1, -t.2))
    (List.map (fun o => (d - eo + o.1, Int.fdiv rc lc * o.2)) o') with ho''
  have ho''b : ∀ t ∈ o'', t.1 < d := by
    intro t ht
    rw [ho'', List.mem_map] at ht
    obtain ⟨u, hu, rfl⟩ := ht
    rw [List.mem_map] at hu
    obtain ⟨v, hv, rfl⟩ := hu
    have := ho'b v hv
    simp only at this ⊢
    omega
  have ho''s : StrictSorted o'' := by
    rw [ho'']
    unfold StrictSorted at *
    rw [List.pairwise_map, List.pairwise_map]
    exact List.Pairwise.imp (fun h => by simpa using h) ho's
  rw [add_append_top r' o'' d rc (-rc) hr'b ho''b]
  have hz : ¬ (rc + -rc ≠ 0) := by simp
  rw [if_neg hz, List.append_nil]
  exact ⟨add_sorted r' o'' hr's ho''s,
    degree_lt_of_bound _ d (add_upper_bound d r' o'' hr'b ho''b)⟩

/-- Fuel sufficiency for the division loop. -/
theorem divmodLoop_isSome (other : Poly) (hother : StrictSorted other) (ho : 0 ≤ degree other)
    (fuel : ℕ) (quot rem : Poly) (hrem : StrictSorted rem)
    (hfuel : degree rem + 2 ≤ (fuel : ℤ)) :
    (divmodLoop other fuel quot rem).isSome := by
  induction fuel generalizing quot rem with
  | zero => have := degree_ge_neg_one rem; omega
  | succ fuel ih =>
    rw [divmodLoop]
    by_cases hdeg : degree rem ≥ degree other
    · rw [if_pos hdeg]
      by_cases hlead : Int.fmod (leadTerm rem).2 (leadTerm other).2 ≠ 0
      · rw [if_pos hlead]; rfl
      · rw [if_neg hlead]
        have hlead' : Int.fmod (leadTerm rem).2 (leadTerm other).2 = 0 := by
          by_contra h; exact hlead h
        obtain ⟨h1, h2⟩ := divmod_step rem other hrem hother ho hdeg hlead'
        apply ih _ _ h1
        push_cast at hfuel
        omega
    · rw [if_neg hdeg]; rfl

end PV.Algo
