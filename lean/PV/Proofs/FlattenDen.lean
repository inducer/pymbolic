import PV.Model.Eval
import PV.Model.Stringify
import PV.Proofs.SyntaxFlatten
/-
  C06, the VALUE half.  "Once nested sums and products are flattened" does not change the
  meaning: `den env (flattenAssoc e) = den env e` for every environment — the same value when the
  evaluation succeeds, and the same error (the same exception class, or the same abstention
  `.noClaim`) when it does not.

  Why it holds although `+`/`*` on Python values are partial: `sum(gen)` / `product(gen)` start
  from `0` / `1`, so the running accumulator is an `int` or a `Fraction` (never a `bool`, never a
  non-number) from the first step on.  For such an accumulator
  * `acc + v` fails exactly when `0 + v` fails, with the same error (the error of `arith` only
    depends on the non-numeric operand), and succeeds with an `int`/`Fraction`;
  * `+` is associative, `acc + 0 = acc` (as VALUES: no `bool`/`int` change), likewise `*`, `1`;
  * the leaves are evaluated in the same order before and after flattening.
-/
namespace PV.FlattenDen
open PV PV.Syntax

/-- the values a running sum/product can have after its start: `int` or `Fraction` -/
def NB : Value → Prop
  | .int _ => True
  | .frac _ => True
  | _ => False

/-- what the fold of `o` from the start value `u` needs: closed on `NB`, associative including
the failure behaviour of the last operand, `u` a right unit. -/
structure Good (o : NaryOp) (u : Value) : Prop where
  unitNB : NB u
  unit : ∀ {a}, NB a → o.apply a u = .ok a
  closed : ∀ {a b}, NB a → NB b → ∃ ab, NB ab ∧ o.apply a b = .ok ab
  right : ∀ {b v w}, NB b → o.apply b v = .ok w → NB w
  assoc : ∀ {a b}, NB a → NB b → ∀ v,
    (o.apply b v >>= o.apply a) = (o.apply a b >>= fun ab => o.apply ab v)

/-- `arith f` is `Good` from the start value `k` when `f` is `gi` on two ints and `gq` on the rational
values otherwise, `gq` extends `gi`, both are associative and `k` is a right unit.  By cases: an
accumulator is an `int` or a `Fraction`, and for the last operand of `assoc` every kind of value
has to be looked at, since the error of `arith` depends on it. -/
theorem good_arith {o : NaryOp} {f : Num → Num → R} {gi : Int → Int → Int} {gq : Rat → Rat → Rat}
    {k : Int} (ho : o.apply = arith f)
    (hf : ∀ x y, f x y = match x, y with
      | .i a, .i b => pure (.int (gi a b))
      | x, y => pure (.frac (gq x.toRat y.toRat)))
    (cast : ∀ a b : Int, ((gi a b : Int) : Rat) = gq a b)
    (assocI : ∀ a b c, gi (gi a b) c = gi a (gi b c))
    (assocQ : ∀ a b c, gq (gq a b) c = gq a (gq b c))
    (unitI : ∀ a, gi a k = a) (unitQ : ∀ a, gq a k = a) : Good o (.int k) where
  unitNB := trivial
  unit := by
    intro a ha
    cases a <;> simp only [NB] at ha <;>
      simp [ho, hf, arith, Value.isInexact, Value.isSeq, Value.num?, pure, Except.pure, Num.toRat,
        unitI, unitQ]
  closed := by
    intro a b ha hb
    cases a <;> simp only [NB] at ha <;> cases b <;> simp only [NB] at hb <;>
      simp [ho, hf, arith, Value.isInexact, Value.isSeq, Value.num?, pure, Except.pure, NB]
  right := by
    intro b v w hb h
    cases b <;> simp only [NB] at hb <;> cases v <;>
      simp [ho, hf, arith, Value.isInexact, Value.isSeq, Value.num?, pure, Except.pure, throw,
        throwThe, MonadExceptOf.throw] at h <;> subst h <;> trivial
  assoc := by
    intro a b ha hb v
    cases a <;> simp only [NB] at ha <;> cases b <;> simp only [NB] at hb <;> cases v <;>
      simp [ho, hf, arith, Value.isInexact, Value.isSeq, Value.num?, pure, Except.pure, throw,
        throwThe, MonadExceptOf.throw, bind, Except.bind, Num.toRat, cast, assocI, assocQ]

theorem good_sum : Good .sum (.int 0) :=
  good_arith (f := addN) (gi := (· + ·)) (gq := (· + ·)) rfl (fun _ _ => rfl) Rat.intCast_add
    Int.add_assoc Rat.add_assoc Int.add_zero Rat.add_zero

theorem good_prod : Good .prod (.int 1) :=
  good_arith (f := mulN) (gi := (· * ·)) (gq := (· * ·)) rfl (fun _ _ => rfl) Rat.intCast_mul
    Int.mul_assoc Rat.mul_assoc Int.mul_one Rat.mul_one

/-! ### folds -/

theorem denFold_append (env : Env) (o : NaryOp) : ∀ (xs ys : List Expr) (a : Value),
    denFold env o a (xs ++ ys) = (denFold env o a xs >>= fun a' => denFold env o a' ys)
  | [], ys, a => by simp [denFold, pure, Except.pure, bind, Except.bind]
  | x :: xs, ys, a => by
    simp only [List.cons_append, denFold, bind, Except.bind]
    cases den env x with
    | error err => rfl
    | ok v =>
      dsimp only
      cases o.apply a v with
      | error err => rfl
      | ok a' => exact denFold_append env o xs ys a'

/-- a fold started at an `int`/`Fraction` ends at one -/
theorem denFold_nb (env : Env) {o : NaryOp} {u : Value} (G : Good o u) :
    ∀ (ds : List Expr) (a w : Value), NB a → denFold env o a ds = .ok w → NB w
  | [], a, w, ha, h => by
    simp only [denFold, pure, Except.pure, Except.ok.injEq] at h
    exact h ▸ ha
  | d :: ds, a, w, ha, h => by
    simp only [denFold, bind, Except.bind] at h
    cases hd : den env d with
    | error err => simp [hd] at h
    | ok v =>
      simp only [hd] at h
      cases hv : o.apply a v with
      | error err => simp [hv] at h
      | ok a' =>
        simp only [hv] at h
        exact denFold_nb env G ds a' w (G.right ha hv) h

/-- **the accumulator can be moved out of a fold**: folding `ds` from `b` and then combining
with `a` on the left is folding `ds` from `a ∘ b` — including which error comes first. -/
theorem denFold_shift (env : Env) {o : NaryOp} {u : Value} (G : Good o u) :
    ∀ (ds : List Expr) (a b : Value), NB a → NB b →
      (denFold env o b ds >>= o.apply a) = (o.apply a b >>= fun ab => denFold env o ab ds)
  | [], a, b, ha, hb => by
    obtain ⟨ab, _, hab⟩ := G.closed ha hb
    simp [denFold, pure, Except.pure, bind, Except.bind, hab]
  | d :: ds, a, b, ha, hb => by
    obtain ⟨ab, habNB, hab⟩ := G.closed ha hb
    have hassoc := G.assoc ha hb
    simp only [hab, bind, Except.bind] at hassoc ⊢
    simp only [denFold, bind, Except.bind]
    cases den env d with
    | error err => rfl
    | ok v =>
      have hv := hassoc v
      cases hbv : o.apply b v with
      | error err =>
        simp only [hbv] at hv ⊢
        rw [← hv]
      | ok b' =>
        simp only [hbv] at hv ⊢
        have ih := denFold_shift env G ds a b' ha (G.right hb hbv)
        simp only [bind, Except.bind] at ih
        rw [ih, hv]

/-- folding from an `int`/`Fraction` accumulator = folding from the start value, then combining -/
theorem denFold_from_unit (env : Env) {o : NaryOp} {u : Value} (G : Good o u) (ds : List Expr)
    {a : Value} (ha : NB a) :
    denFold env o a ds = (denFold env o u ds >>= o.apply a) := by
  rw [denFold_shift env G ds a u ha G.unitNB, G.unit ha]
  rfl


/-- one (already flattened) operand `y` of an `o` node, spliced: its operands are folded in
place — which is evaluating `y` and combining -/
theorem denFold_flatOne (env : Env) {o : NaryOp} {u : Value} (G : Good o u)
    (hden : ∀ ds, den env (.nary o ds) = denFold env o u ds) (y : Expr) {a : Value} (ha : NB a) :
    denFold env o a (flatOne o y) = (den env y >>= o.apply a) := by
  have single : denFold env o a [y] = (den env y >>= o.apply a) := by
    simp only [denFold, bind, Except.bind]
    cases den env y with
    | error err => rfl
    | ok v =>
      dsimp only
      cases o.apply a v <;> rfl
  unfold flatOne
  split
  · rename_i o' ds
    split
    · rename_i h
      have : o' = o := by simpa using h
      subst this
      rw [hden ds]
      exact denFold_from_unit env G ds ha
    · exact single
  · exact single

/-! ### the main statement -/

mutual
/-- **flattening nested sums and products does not change the denotation**: same value, or the
same error -/
theorem den_flattenAssoc (env : Env) : ∀ (e : Expr), den env (flattenAssoc e) = den env e
  | .const _ => by simp only [flattenAssoc]
  | .var _ => by simp only [flattenAssoc]
  | .nary .sum cs => by
    simp only [flattenAssoc, den]
    exact denFold_flattenInto env good_sum (fun _ => by simp only [den]) cs (.int 0) trivial
  | .nary .prod cs => by
    simp only [flattenAssoc, den]
    exact denFold_flattenInto env good_prod (fun _ => by simp only [den]) cs (.int 1) trivial
  | .nary .bor cs => by simp only [flattenAssoc, den, denReduce_flattenL env .bor cs]
  | .nary .bxor cs => by simp only [flattenAssoc, den, denReduce_flattenL env .bxor cs]
  | .nary .band cs => by simp only [flattenAssoc, den, denReduce_flattenL env .band cs]
  | .nary .lor cs => by simp only [flattenAssoc, den, denAny_flattenL env cs]
  | .nary .land cs => by simp only [flattenAssoc, den, denAll_flattenL env cs]
  | .nary .min cs => by simp only [flattenAssoc, den, denMinMax_flattenL env true cs none]
  | .nary .max cs => by simp only [flattenAssoc, den, denMinMax_flattenL env false cs none]
  | .bin o a b => by simp only [flattenAssoc, den, den_flattenAssoc env a, den_flattenAssoc env b]
  | .un .bnot a => by simp only [flattenAssoc, den, den_flattenAssoc env a]
  | .un .lnot a => by simp only [flattenAssoc, den, den_flattenAssoc env a]
  | .cmp o a b => by simp only [flattenAssoc, den, den_flattenAssoc env a, den_flattenAssoc env b]
  | .ite c t e => by
    simp only [flattenAssoc, den, den_flattenAssoc env c, den_flattenAssoc env t,
      den_flattenAssoc env e]
  | .call f as => by simp only [flattenAssoc, den, den_flattenAssoc env f, denList_flattenL env as]
  | .callKw f as ns vs => by
    simp only [flattenAssoc, den, den_flattenAssoc env f, denList_flattenL env as,
      denList_flattenL env vs]
  | .subscript a i => by
    simp only [flattenAssoc, den, den_flattenAssoc env a, den_flattenAssoc env i]
  | .lookup a n => by simp only [flattenAssoc, den, den_flattenAssoc env a]
  | .cse _ _ _ => by simp only [flattenAssoc]
  | .subst _ _ _ => by simp only [flattenAssoc]
  | .deriv _ _ => by simp only [flattenAssoc]
  | .slice cs => by simp only [flattenAssoc, den]
  | .nan => by simp only [flattenAssoc]
  | .wildcard => by simp only [flattenAssoc]
  | .dotWild _ => by simp only [flattenAssoc]
  | .starWild _ => by simp only [flattenAssoc]
  | .funcSym => by simp only [flattenAssoc]
  | .tuple cs => by simp only [flattenAssoc, den, denList_flattenL env cs]
  | .list cs => by simp only [flattenAssoc, den, denList_flattenL env cs]
/-- the operands of a sum / product with nested sums / products spliced in place, folded from an
`int`/`Fraction` accumulator -/
theorem denFold_flattenInto (env : Env) {o : NaryOp} {u : Value} (G : Good o u)
    (hden : ∀ ds, den env (.nary o ds) = denFold env o u ds) :
    ∀ (cs : List Expr) (a : Value), NB a →
      denFold env o a (flattenInto o cs) = denFold env o a cs
  | [], a, _ => by simp only [flattenInto]
  | c :: cs, a, ha => by
    rw [flattenInto_cons, denFold_append, denFold_flatOne env G hden _ ha, den_flattenAssoc env c]
    simp only [denFold, bind, Except.bind]
    cases den env c with
    | error err => rfl
    | ok v =>
      dsimp only
      cases hv : o.apply a v with
      | error err => rfl
      | ok a' => exact denFold_flattenInto env G hden cs a' (G.right ha hv)
theorem denFold_flattenL (env : Env) (o : NaryOp) : ∀ (cs : List Expr) (a : Value),
    denFold env o a (flattenAssocL cs) = denFold env o a cs
  | [], a => by simp only [flattenAssocL]
  | c :: cs, a => by
    simp only [flattenAssocL, denFold, den_flattenAssoc env c, bind, Except.bind]
    cases den env c with
    | error err => rfl
    | ok v =>
      dsimp only
      cases o.apply a v with
      | error err => rfl
      | ok a' => exact denFold_flattenL env o cs a'
theorem denReduce_flattenL (env : Env) (o : NaryOp) : ∀ (cs : List Expr),
    denReduce env o (flattenAssocL cs) = denReduce env o cs
  | [] => by simp only [flattenAssocL]
  | c :: cs => by
    simp only [flattenAssocL, denReduce, den_flattenAssoc env c, bind, Except.bind]
    cases den env c with
    | error err => rfl
    | ok v => exact denFold_flattenL env o cs v
theorem denAny_flattenL (env : Env) : ∀ (cs : List Expr),
    denAny env (flattenAssocL cs) = denAny env cs
  | [] => by simp only [flattenAssocL]
  | c :: cs => by
    simp only [flattenAssocL, denAny, den_flattenAssoc env c, denAny_flattenL env cs]
theorem denAll_flattenL (env : Env) : ∀ (cs : List Expr),
    denAll env (flattenAssocL cs) = denAll env cs
  | [] => by simp only [flattenAssocL]
  | c :: cs => by
    simp only [flattenAssocL, denAll, den_flattenAssoc env c, denAll_flattenL env cs]
theorem denMinMax_flattenL (env : Env) (isMin : Bool) : ∀ (cs : List Expr) (cur : Option Value),
    denMinMax env isMin cur (flattenAssocL cs) = denMinMax env isMin cur cs
  | [], cur => by simp only [flattenAssocL]
  | c :: cs, cur => by
    simp only [flattenAssocL, denMinMax, den_flattenAssoc env c, bind, Except.bind]
    cases den env c with
    | error err => rfl
    | ok v =>
      dsimp only
      cases cur with
      | none => exact denMinMax_flattenL env isMin cs (some v)
      | some m =>
        dsimp only
        cases Value.better isMin v m with
        | error err => rfl
        | ok b => exact denMinMax_flattenL env isMin cs _
theorem denList_flattenL (env : Env) : ∀ (cs : List Expr),
    denList env (flattenAssocL cs) = denList env cs
  | [] => by simp only [flattenAssocL]
  | c :: cs => by
    simp only [flattenAssocL, denList, den_flattenAssoc env c, denList_flattenL env cs]
end

/-- success on either side gives the same value on the other -/
theorem den_flattenAssoc_ok (env : Env) (e : Expr) (v : Value) :
    den env (flattenAssoc e) = .ok v ↔ den env e = .ok v := by
  rw [den_flattenAssoc]

/-- failure on either side is failure on the other (with the same error, by `den_flattenAssoc`) -/
theorem den_flattenAssoc_error (env : Env) (e : Expr) :
    (∃ err, den env (flattenAssoc e) = .error err) ↔ (∃ err, den env e = .error err) := by
  rw [den_flattenAssoc]

/-- **two trees that are the same once nested sums and products are flattened have the same
denotation in every environment** -/
theorem den_eq_of_flatten_eq {e e' : Expr} (h : flattenAssoc e' = flattenAssoc e) (env : Env) :
    den env e' = den env e := by
  rw [← den_flattenAssoc env e', h, den_flattenAssoc]

end PV.FlattenDen
