import PV.Model.CompiledOrder
/-
  C17 and C13 — helper lemmas: the stable sort by a key is a permutation, is sorted by key, and is
  determined by the SET of its elements when the key is injective on them; with the identity key
  it is the sort of names of `compile` (`insertByKey_id`, `sortByKey_id`), whose facts in
  PV/Proofs/Compile.lean are instances.
-/
namespace PV

theorem insertByKey_id (x : String) : ∀ l : List String, insertByKey id x l = insertSorted x l
  | [] => rfl
  | y :: ys => by simp only [insertByKey, insertSorted, id, insertByKey_id x ys]

theorem sortByKey_id : ∀ l : List String, sortByKey id l = sortStrings l
  | [] => rfl
  | x :: xs => by simp only [sortByKey, sortStrings, sortByKey_id xs, insertByKey_id]

theorem insertByKey_perm (key : String → String) (x : String) :
    ∀ l : List String, (insertByKey key x l).Perm (x :: l)
  | [] => by simp [insertByKey]
  | y :: ys => by
      unfold insertByKey
      split
      · exact List.Perm.refl _
      · exact ((insertByKey_perm key x ys).cons y).trans (List.Perm.swap x y ys)

theorem sortByKey_perm (key : String → String) : ∀ l : List String, (sortByKey key l).Perm l
  | [] => by simp [sortByKey]
  | x :: xs => by
      unfold sortByKey
      exact (insertByKey_perm key x _).trans ((sortByKey_perm key xs).cons x)

/-- ascending (non-strict) by key -/
def KeySorted (key : String → String) (l : List String) : Prop :=
  l.Pairwise (fun a b => key a ≤ key b)

theorem insertByKey_sorted (key : String → String) (x : String) :
    ∀ l : List String, KeySorted key l → KeySorted key (insertByKey key x l)
  | [], _ => by simp [insertByKey, KeySorted]
  | y :: ys, h => by
      unfold insertByKey
      have hy := List.pairwise_cons.mp h
      split
      · rename_i hxy
        refine List.pairwise_cons.mpr ⟨?_, h⟩
        intro z hz
        rcases List.mem_cons.mp hz with rfl | hz
        · exact hxy
        · exact String.le_trans hxy (hy.1 z hz)
      · rename_i hxy
        have hyx : key y ≤ key x := by
          cases String.le_total (key x) (key y) with
          | inl h' => exact absurd h' hxy
          | inr h' => exact h'
        refine List.pairwise_cons.mpr ⟨?_, insertByKey_sorted key x ys hy.2⟩
        intro z hz
        have := (insertByKey_perm key x ys).mem_iff.mp hz
        rcases List.mem_cons.mp this with rfl | hz
        · exact hyx
        · exact hy.1 z hz

theorem sortByKey_sorted (key : String → String) : ∀ l : List String, KeySorted key (sortByKey key l)
  | [] => by simp [sortByKey, KeySorted]
  | x :: xs => by
      unfold sortByKey
      exact insertByKey_sorted key x _ (sortByKey_sorted key xs)

/-- two key-sorted lists with the same elements are the same list, provided the key tells the
elements apart -/
theorem keySorted_perm_eq (key : String → String) :
    ∀ l₁ l₂ : List String, (∀ a ∈ l₁, ∀ b ∈ l₁, key a = key b → a = b) →
      KeySorted key l₁ → KeySorted key l₂ → l₁.Perm l₂ → l₁ = l₂
  | [], l₂, _, _, _, hp => by simpa using hp.symm.eq_nil
  | a :: l₁, [], _, _, _, hp => by simpa using hp.eq_nil
  | a :: l₁, b :: l₂, hinj, h₁, h₂, hp => by
      have ha := List.pairwise_cons.mp h₁
      have hb := List.pairwise_cons.mp h₂
      have hab : a = b := by
        have ha2 : a ∈ b :: l₂ := hp.mem_iff.mp (List.mem_cons_self ..)
        have hb1 : b ∈ a :: l₁ := hp.mem_iff.mpr (List.mem_cons_self ..)
        rcases List.mem_cons.mp ha2 with h | h
        · exact h
        · rcases List.mem_cons.mp hb1 with h' | h'
          · exact h'.symm
          · exact hinj a (List.mem_cons_self ..) b hb1
              (String.le_antisymm (ha.1 b h') (hb.1 a h))
      subst hab
      have hinj' : ∀ x ∈ l₁, ∀ y ∈ l₁, key x = key y → x = y := fun x hx y hy =>
        hinj x (List.mem_cons_of_mem _ hx) y (List.mem_cons_of_mem _ hy)
      rw [keySorted_perm_eq key l₁ l₂ hinj' ha.2 hb.2 (List.Perm.cons_inv hp)]

/-- the stable sort by an injective key does not depend on the order in which the set was
iterated -/
theorem sortByKey_perm_eq (key : String → String) {l₁ l₂ : List String}
    (hinj : ∀ a ∈ l₁, ∀ b ∈ l₁, key a = key b → a = b) (hp : l₁.Perm l₂) :
    sortByKey key l₁ = sortByKey key l₂ := by
  refine keySorted_perm_eq key _ _ ?_ (sortByKey_sorted key l₁) (sortByKey_sorted key l₂)
    ((sortByKey_perm key l₁).trans (hp.trans (sortByKey_perm key l₂).symm))
  intro a ha b hb
  exact hinj a ((sortByKey_perm key l₁).mem_iff.mp ha) b ((sortByKey_perm key l₁).mem_iff.mp hb)

end PV
