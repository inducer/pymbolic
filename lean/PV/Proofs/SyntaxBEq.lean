import PV.Model.Parser
/-
  `Expr.beq` (the Boolean structural equality of the model) is equality: used to turn kernel
  evaluations of the parser / stringifier models on concrete inputs into propositional equations.
-/
namespace PV.Syntax
open PV

mutual
theorem beq_refl' : ∀ a : Expr, Expr.beq a a = true
  | .const _ | .var _ | .nan | .wildcard | .dotWild _ | .starWild _ | .funcSym => by
      simp [Expr.beq]
  | .nary _ cs => by simp [Expr.beq, beqL_refl' cs]
  | .bin _ a b => by simp [Expr.beq, beq_refl' a, beq_refl' b]
  | .un _ a => by simp [Expr.beq, beq_refl' a]
  | .cmp _ a b => by simp [Expr.beq, beq_refl' a, beq_refl' b]
  | .ite c t e => by simp [Expr.beq, beq_refl' c, beq_refl' t, beq_refl' e]
  | .call f as => by simp [Expr.beq, beq_refl' f, beqL_refl' as]
  | .callKw f as _ vs => by simp [Expr.beq, beq_refl' f, beqL_refl' as, beqL_refl' vs]
  | .subscript a i => by simp [Expr.beq, beq_refl' a, beq_refl' i]
  | .lookup a _ => by simp [Expr.beq, beq_refl' a]
  | .cse c _ _ => by simp [Expr.beq, beq_refl' c]
  | .subst c _ xs => by simp [Expr.beq, beq_refl' c, beqL_refl' xs]
  | .deriv c _ => by simp [Expr.beq, beq_refl' c]
  | .slice cs => by simp [Expr.beq, beqL_refl' cs]
  | .tuple cs => by simp [Expr.beq, beqL_refl' cs]
  | .list cs => by simp [Expr.beq, beqL_refl' cs]
theorem beqL_refl' : ∀ as : List Expr, Expr.beqL as as = true
  | [] => by simp [Expr.beqL]
  | a :: as => by simp [Expr.beqL, beq_refl' a, beqL_refl' as]
end

/-- Both directions of the recursion of `Expr.beq` at once, along its own case analysis: one case
per pair of equal constructors, and one for all the pairs on which `beq` is `false`. -/
theorem beq_sound_both :
    (∀ a b : Expr, Expr.beq a b = true → a = b) ∧
    (∀ as bs : List Expr, Expr.beqL as bs = true → as = bs) := by
  apply Expr.beq.mutual_induct (motive_1 := fun a b => Expr.beq a b = true → a = b)
    (motive_2 := fun as bs => Expr.beqL as bs = true → as = bs)
  case case1 => intro a b h; rw [eq_of_beq (α := Const) h]
  case case2 => intro a b h; rw [eq_of_beq (α := String) h]
  case case3 =>
    intro o cs o' cs' ih h
    simp only [Expr.beq, Bool.and_eq_true, beq_iff_eq] at h
    rw [h.1, ih h.2]
  case case4 =>
    intro o a b o' a' b' iha ihb h
    simp only [Expr.beq, Bool.and_eq_true, beq_iff_eq] at h
    rw [h.1.1, iha h.1.2, ihb h.2]
  case case5 =>
    intro o a o' a' ih h
    simp only [Expr.beq, Bool.and_eq_true, beq_iff_eq] at h
    rw [h.1, ih h.2]
  case case6 =>
    intro o a b o' a' b' iha ihb h
    simp only [Expr.beq, Bool.and_eq_true, beq_iff_eq] at h
    rw [h.1.1, iha h.1.2, ihb h.2]
  case case7 =>
    intro c t e c' t' e' ihc iht ihe h
    simp only [Expr.beq, Bool.and_eq_true] at h
    rw [ihc h.1.1, iht h.1.2, ihe h.2]
  case case8 =>
    intro f as f' as' ihf ihas h
    simp only [Expr.beq, Bool.and_eq_true] at h
    rw [ihf h.1, ihas h.2]
  case case9 =>
    intro f as ns vs f' as' ns' vs' ihf ihas ihvs h
    simp only [Expr.beq, Bool.and_eq_true, beq_iff_eq] at h
    rw [ihf h.1.1.1, ihas h.1.1.2, h.1.2, ihvs h.2]
  case case10 =>
    intro a i a' i' iha ihi h
    simp only [Expr.beq, Bool.and_eq_true] at h
    rw [iha h.1, ihi h.2]
  case case11 =>
    intro a n a' n' ih h
    simp only [Expr.beq, Bool.and_eq_true, beq_iff_eq] at h
    rw [ih h.1, h.2]
  case case12 =>
    intro c p s c' p' s' ih h
    simp only [Expr.beq, Bool.and_eq_true, beq_iff_eq] at h
    rw [ih h.1.1, h.1.2, h.2]
  case case13 =>
    intro c vs xs c' vs' xs' ihc ihxs h
    simp only [Expr.beq, Bool.and_eq_true, beq_iff_eq] at h
    rw [ihc h.1.1, h.1.2, ihxs h.2]
  case case14 =>
    intro c vs c' vs' ih h
    simp only [Expr.beq, Bool.and_eq_true, beq_iff_eq] at h
    rw [ih h.1, h.2]
  case case15 => intro cs cs' ih h; rw [ih h]
  case case16 => intro _; rfl
  case case17 => intro _; rfl
  case case18 => intro a b h; rw [eq_of_beq (α := String) h]
  case case19 => intro a b h; rw [eq_of_beq (α := String) h]
  case case20 => intro _; rfl
  case case21 => intro cs cs' ih h; rw [ih h]
  case case22 => intro cs cs' ih h; rw [ih h]
  case case23 =>
    intro t x
    intros
    rename_i h
    rw [Expr.beq.eq_23] at h
    · cases h
    all_goals assumption
  case case24 => intro _; rfl
  case case25 =>
    intro a as b bs iha ihas h
    simp only [Expr.beqL, Bool.and_eq_true] at h
    rw [iha h.1, ihas h.2]
  case case26 =>
    intro as bs
    intros
    rename_i h
    rw [Expr.beqL.eq_3] at h
    · cases h
    all_goals assumption

theorem beq_sound : ∀ a b : Expr, Expr.beq a b = true → a = b := beq_sound_both.1

theorem beqL_sound : ∀ as bs : List Expr, Expr.beqL as bs = true → as = bs := beq_sound_both.2

theorem beq_iff (a b : Expr) : (a == b) = true ↔ a = b :=
  ⟨beq_sound a b, fun h => h ▸ beq_refl' a⟩

instance : DecidableEq Expr := fun a b =>
  if h : (a == b) = true then isTrue ((beq_iff a b).mp h)
  else isFalse (fun he => h ((beq_iff a b).mpr he))

instance exceptDecEq {ε α : Type} [DecidableEq ε] [DecidableEq α] : DecidableEq (Except ε α)
  | .ok a, .ok b => if h : a = b then isTrue (by rw [h]) else isFalse (by simpa using h)
  | .error a, .error b => if h : a = b then isTrue (by rw [h]) else isFalse (by simpa using h)
  | .ok _, .error _ => isFalse (by simp)
  | .error _, .ok _ => isFalse (by simp)

end PV.Syntax

namespace PV.C08

/-- `Expr.beq` is lawful: lets the `List` functions over `BEq Expr` be read with `=` (C08, C12) -/
instance : LawfulBEq Expr where
  eq_of_beq := fun h => (PV.Syntax.beq_iff _ _).mp h
  rfl := (PV.Syntax.beq_iff _ _).mpr rfl

end PV.C08
