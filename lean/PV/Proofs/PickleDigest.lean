import PV.Model.Pickle
/-
  C17, persistent-hash digest: structurally equal trees have the same digest stream.
-/
namespace PV.Pickle
open PV

/-- two constants print the same `repr` class-wise: same Python type, and for floats the same
`repr` (`0.0` and `-0.0`, or `1`, `1.0` and `True`, are `==` but print differently) -/
def sameRepr : Const → Const → Bool
  | .int _, .int _ => true
  | .bool _, .bool _ => true
  | .flt r _ _, .flt r' _ _ => r == r'
  | .str _, .str _ => true
  | .none, .none => true
  | _, _ => false

mutual
/-- same constructors; constants at corresponding positions have the same type (floats: the same
`repr`); keyword arguments at corresponding calls were inserted in the same order -/
def sameShape : Expr → Expr → Bool
  | .const c, .const d => sameRepr c d
  | .var _, .var _ => true
  | .nary _ cs, .nary _ cs' => sameShapeL cs cs'
  | .bin _ a b, .bin _ a' b' => sameShape a a' && sameShape b b'
  | .un _ a, .un _ a' => sameShape a a'
  | .cmp _ a b, .cmp _ a' b' => sameShape a a' && sameShape b b'
  | .ite c t e, .ite c' t' e' => sameShape c c' && sameShape t t' && sameShape e e'
  | .call f as, .call f' as' => sameShape f f' && sameShapeL as as'
  | .callKw f as ns vs, .callKw f' as' ns' vs' =>
      sameShape f f' && sameShapeL as as' && ns == ns' && sameShapeL vs vs'
  | .subscript a i, .subscript a' i' => sameShape a a' && sameShape i i'
  | .lookup a _, .lookup a' _ => sameShape a a'
  | .cse c _ _, .cse c' _ _ => sameShape c c'
  | .subst c _ xs, .subst c' _ xs' => sameShape c c' && sameShapeL xs xs'
  | .deriv c _, .deriv c' _ => sameShape c c'
  | .slice cs, .slice cs' => sameShapeL cs cs'
  | .nan, .nan => true
  | .wildcard, .wildcard => true
  | .dotWild _, .dotWild _ => true
  | .starWild _, .starWild _ => true
  | .funcSym, .funcSym => true
  | .tuple cs, .tuple cs' => sameShapeL cs cs'
  | .list cs, .list cs' => sameShapeL cs cs'
  | _, _ => false
def sameShapeL : List Expr → List Expr → Bool
  | [], [] => true
  | a :: as, b :: bs => sameShape a b && sameShapeL as bs
  | _, _ => false
end

theorem constRepr_eq {c d : Const} (h : c.pyEq d = true) (hs : sameRepr c d = true) :
    constRepr c = constRepr d := by
  cases c <;> cases d <;> simp only [sameRepr, Bool.false_eq_true, beq_iff_eq] at hs <;>
    simp only [constRepr]
  case int.int n m =>
    simp only [Const.pyEq, Const.numVal?, beq_iff_eq] at h
    have : n = m := by omega
    rw [this]
  case bool.bool a b =>
    cases a <;> cases b <;> simp_all [Const.pyEq, Const.numVal?]
  case flt.flt => rw [hs]

/-- only `None` is `==` to `None`, on either side -/
theorem const_none_of_pyEq {d : Const}
    (h : Const.none.pyEq d = true ∨ d.pyEq Const.none = true) : d = .none := by
  cases d with
  | none => rfl
  | flt r n dd => by_cases hd : dd = 0 <;> simp [Const.pyEq, Const.numVal?, hd] at h
  | _ => simp [Const.pyEq, Const.numVal?] at h

theorem pyEq_none_left {b : Expr} (h : (Expr.const .none).pyEq b = true) : b = .const .none := by
  cases b <;> simp only [Expr.pyEq, Bool.false_eq_true] at h
  rw [const_none_of_pyEq (.inl h)]

theorem pyEq_none_right {a : Expr} (h : a.pyEq (.const .none) = true) : a = .const .none := by
  cases a <;> simp only [Expr.pyEq, Bool.false_eq_true] at h
  rw [const_none_of_pyEq (.inr h)]

theorem digestSlice_cons_ne {c : Expr} (cs : List Expr) (h : c ≠ .const .none) :
    digestSlice (c :: cs) = (do let x ← digest c; let y ← digestSlice cs; pure (x ++ y)) := by
  cases c with
  | const d => cases d <;> first | (exact absurd rfl h) | simp only [digestSlice]
  | _ => simp only [digestSlice]

/-! same keyword names in the same order: the mapping comparison is positional -/

theorem pyEqKw_skip {n : String} {w : Expr} : ∀ (ns : List String) (vs : List Expr)
    (ms : List String) (ws : List Expr), n ∉ ns →
    Expr.pyEqKw ns vs (n :: ms) (w :: ws) = Expr.pyEqKw ns vs ms ws
  | [], _, _, _, _ | _ :: _, [], _, _, _ => by simp [Expr.pyEqKw]
  | m :: ns, v :: vs, ms, ws, h => by
    simp only [List.mem_cons, not_or] at h
    have : ¬ n = m := h.1
    simp only [Expr.pyEqKw, assocLookupE, this, if_false, pyEqKw_skip ns vs ms ws h.2]

theorem pyEqKw_same_names : ∀ (ns : List String) (vs ws : List Expr), ns.Nodup →
    ns.length = vs.length → ns.length = ws.length →
    Expr.pyEqKw ns vs ns ws = true → Expr.pyEqL vs ws = true
  | [], [], [], _, _, _, _ => rfl
  | [], _ :: _, _, _, h, _, _ => by simp at h
  | [], [], _ :: _, _, _, h, _ => by simp at h
  | _ :: _, [], _, _, h, _, _ | _ :: _, _ :: _, [], _, _, h, _ => by simp at h
  | n :: ns, v :: vs, w :: ws, hn, h1, h2, h => by
    simp only [List.nodup_cons] at hn
    simp only [List.length_cons, Nat.add_right_cancel_iff] at h1 h2
    simp only [Expr.pyEqKw, assocLookupE, if_true, Bool.and_eq_true,
      pyEqKw_skip ns vs ns ws hn.1] at h
    simp only [Expr.pyEqL, Bool.and_eq_true]
    exact ⟨h.1, pyEqKw_same_names ns vs ws hn.2 h1 h2 h.2⟩

/-- By induction along the recursion of `sameShape`; the cases are numbered in the order of its
alternatives: `case1` constants, `case4` binary operators (the shifts feed their operands in the
other order), `case9` `CallWithKwargs`, `case23` two trees of different classes, `case24-26` lists
(for which both list digests are carried).  Every other class unfolds one level and rewrites with
the induction hypotheses. -/
theorem digest_ok : ∀ a b : Expr, a.wf = true → b.wf = true → a.pyEq b = true →
    sameShape a b = true → digest a = digest b := by
  apply sameShape.induct
    (motive_2 := fun as bs => Expr.wfL as = true → Expr.wfL bs = true →
      Expr.pyEqL as bs = true → sameShapeL as bs = true →
      digestL as = digestL bs ∧ digestSlice as = digestSlice bs)
  case case1 => exact fun c d _ _ h hs => by simp only [digest, constRepr_eq h hs]
  case case4 =>
    intro o x y o' x' y' ihx ihy ha hb h hs
    simp only [Expr.pyEq, Expr.wf, sameShape, Bool.and_eq_true, beq_iff_eq] at ha hb h hs
    obtain ⟨⟨rfl, h1⟩, h2⟩ := h
    have e1 := ihx ha.1 hb.1 h1 hs.1
    have e2 := ihy ha.2 hb.2 h2 hs.2
    cases o <;> simp only [digest, e1, e2]
  case case9 =>
    intro f as ns vs f' as' ns' vs' ihf ihas ihvs ha hb h hs
    simp only [Expr.pyEq, Expr.wf, sameShape, Bool.and_eq_true, beq_iff_eq, decide_eq_true_eq]
      at ha hb h hs
    obtain ⟨⟨⟨h1, h2⟩, -⟩, h4⟩ := h
    obtain ⟨⟨⟨s1, s2⟩, rfl⟩, s4⟩ := hs
    obtain ⟨⟨⟨⟨a1, a2⟩, a3⟩, a4⟩, a5⟩ := ha
    obtain ⟨⟨⟨⟨b1, b2⟩, -⟩, b4⟩, b5⟩ := hb
    simp only [digest, ihf a1 b1 h1 s1, (ihas a2 b2 h2 s2).1,
      (ihvs a5 b5 (pyEqKw_same_names ns vs vs' a3 a4 b4 h4) s4).1]
  case case23 | case26 =>
    intros
    simp only [sameShape, sameShapeL, Bool.false_eq_true, *] at *
  case case25 =>
    intro a as b bs iha ihas ha hb h hs
    simp only [Expr.pyEqL, Expr.wfL, sameShapeL, Bool.and_eq_true] at ha hb h hs
    have e := iha ha.1 hb.1 h.1 hs.1
    obtain ⟨eL, eS⟩ := ihas ha.2 hb.2 h.2 hs.2
    refine ⟨by simp only [digestL, e, eL], ?_⟩
    by_cases hn : a = .const .none
    · subst hn
      have := pyEq_none_left h.1
      subst this
      simp only [digestSlice, eS]
    · have hn' : b ≠ .const .none := by
        rintro rfl
        exact hn (pyEq_none_right h.1)
      rw [digestSlice_cons_ne as hn, digestSlice_cons_ne bs hn', e, eS]
  all_goals
    intros
    rename_i ha hb h hs
    dsimp only [Expr.pyEq, Expr.pyEqL, Expr.wf, Expr.wfL, sameShape, sameShapeL, digest]
      at ha hb h hs ⊢
    first | done | grind

end PV.Pickle
