import PV.Model.TravTable
import PV.Proofs.WalkSpec
import PV.Proofs.WalkCombine
import PV.Proofs.Subterm
import PV.Proofs.NodeClass
/-
  C04 (T-gen) — the hand-written traversal models against the table-driven reading of the handlers
  (PV/Model/TravTable.lean).

  `c04WalkBody`, `c04CombineBody`, `c04IdentBody` state, per constructor of `Expr`, the handler
  shape the hand-written models `walk`, `combineL`, `substM` follow.  This file proves
  — for ALL expressions — that the models are exactly the table-driven step functions run on these
  shapes (and the only functions that are): `walk` and `combineL` through their generic
  handler-call equations (`walk_eq_children`, `combineL_eq_children`) and the fact that recursion
  sites which forward the extra arguments run over the children they yield
  (`c04SeqSites_eq_seqL`), `substM` class by class.  That the shapes ARE the rows of the
  regenerated table of the current source is the `…_resolve_current` family in
  PV/Properties/C04.lean: dispatch looks only at the class of a node (`Expr.classRep`, PV/Proofs/NodeClass.lean), so that
  family is one evaluation over `classReps` against lean/PV/Generated/Traversal.lean.
-/
-- one `simp` set serves several constructor cases at once; not every case uses every lemma
set_option linter.unusedSimpArgs false
namespace PV

/-! ### fields and children -/

/-- `Expr.children` is the expression content of the dataclass fields, in field order -/
theorem Expr.children_eq_c04Fields (e : Expr) :
    e.children = e.c04Fields.flatMap (fun p => p.2.exprs) := by
  cases e <;> try (simp [Expr.children, Expr.c04Fields, C04Val.exprs]; done)
  case bin o a b => cases o <;> simp [Expr.children, Expr.c04Fields, C04Val.exprs]

theorem c04Assoc_mem {α : Type} {f : String} {v : α} :
    ∀ {l : List (String × α)}, c04Assoc f l = some v → (f, v) ∈ l
  | [], h => by simp [c04Assoc] at h
  | (k, w) :: rest, h => by
    simp only [c04Assoc] at h
    split at h
    · rename_i hk
      have : k = f := by simpa using hk
      cases h; simp [this]
    · exact List.mem_cons_of_mem _ (c04Assoc_mem h)

/-- whatever a recursion site yields are direct children of the node -/
theorem c04RecChildren_sub {e : Expr} {r : C04Rec} {cs : List Expr}
    (h : c04RecChildren e r = some cs) : ∀ c ∈ cs, c ∈ e.children := by
  intro c hc
  rw [Expr.children_eq_c04Fields, List.mem_flatMap]
  unfold c04RecChildren Expr.c04Field at h
  split at h <;> simp only [Option.some.injEq, reduceCtorEq] at h
  all_goals subst h
  all_goals rename_i hf _
  · exact ⟨_, c04Assoc_mem hf, by simpa [C04Val.exprs] using hc⟩
  · exact ⟨_, c04Assoc_mem hf, by simpa [C04Val.exprs] using hc⟩
  · exact ⟨_, c04Assoc_mem hf, by simpa [C04Val.exprs] using (List.mem_filter.1 hc).1⟩
  · exact ⟨_, c04Assoc_mem hf, by simpa [C04Val.exprs] using hc⟩

/-! ### sequencing -/

theorem c04SeqL_congr {β : Type} {f g : Expr → Except DepErr (List β)} :
    ∀ {cs : List Expr}, (∀ c ∈ cs, f c = g c) → c04SeqL f cs = c04SeqL g cs
  | [], _ => rfl
  | c :: cs, h => by
    have ih : c04SeqL f cs = c04SeqL g cs :=
      c04SeqL_congr (fun d hd => h d (List.mem_cons_of_mem _ hd))
    simp only [c04SeqL, h c (by simp), ih]

theorem c04SeqSites_congr {β : Type} {f g : Bool → Expr → Except DepErr (List β)} {args : Bool}
    {e : Expr} (h : ∀ a, ∀ c ∈ e.children, f a c = g a c) :
    ∀ recs : List C04Rec, c04SeqSites f args e recs = c04SeqSites g args e recs
  | [] => rfl
  | r :: rs => by
    simp only [c04SeqSites]
    cases hr : c04RecChildren e r with
    | none => rfl
    | some cs =>
      simp only [c04SeqSites_congr h rs,
        c04SeqL_congr (fun c hc => h (args && r.fwd) c (c04RecChildren_sub hr c hc))]

theorem c04SeqL_append {β : Type} (f : Expr → Except DepErr (List β)) : ∀ as bs : List Expr,
    c04SeqL f (as ++ bs) = do
      let x ← c04SeqL f as
      let y ← c04SeqL f bs
      pure (x ++ y)
  | [], bs => by
    cases h : c04SeqL f bs <;> simp [c04SeqL, h, bind, Except.bind, pure, Except.pure]
  | a :: as, bs => by
    simp only [List.cons_append, c04SeqL, c04SeqL_append f as bs]
    cases f a <;> cases c04SeqL f as <;> cases c04SeqL f bs <;>
      simp [bind, Except.bind, pure, Except.pure]

/-- recursion sites that all forward the extra arguments run `rec` over the children they yield,
in order -/
theorem c04SeqSites_eq_seqL {β : Type} {rec : Bool → Expr → Except DepErr (List β)} {args : Bool}
    {e : Expr} : ∀ {recs : List C04Rec} {cs : List Expr}, recs.all (·.fwd) = true →
      c04RecsChildren e recs = some cs → c04SeqSites rec args e recs = c04SeqL (rec args) cs
  | [], cs, _, h => by
    cases h; rfl
  | r :: rs, cs, hf, h => by
    rw [List.all_cons, Bool.and_eq_true] at hf
    rw [c04RecsChildren, List.map_cons] at h
    cases hr : c04RecChildren e r with
    | none => simp [hr, c04OptSeq] at h
    | some c1 =>
      cases hrs : c04OptSeq (rs.map (c04RecChildren e)) with
      | none => simp [hr, hrs, c04OptSeq] at h
      | some c2 =>
        simp only [hr, hrs, c04OptSeq, Option.map_some, Option.some.injEq, List.flatten_cons] at h
        subst h
        rw [c04SeqSites, hr, c04SeqL_append, hf.1, Bool.and_true,
          c04SeqSites_eq_seqL hf.2 (by rw [c04RecsChildren, hrs]; rfl)]

theorem walkL_eq_c04SeqL (skip : List String) (args : Bool) : ∀ cs : List Expr,
    walkL skip args cs = c04SeqL (walk skip args) cs
  | [] => by simp [walkL, c04SeqL]
  | c :: cs => by simp [walkL, c04SeqL, walkL_eq_c04SeqL skip args cs]

/-- the table side's and the specification side's test for the Python object `None` coincide -/
theorem Expr.c04IsNone_eq (c : Expr) : c.c04IsNone = c.isNoneConst := by
  cases c with
  | const k => cases k <;> rfl
  | _ => rfl

/-! ### the walk mapper -/

/-- the `WalkMapper` handler shapes as literal rows, per node: what `walk` follows, and what the
current source has (`C04.walk_resolve_current`, against the regenerated table) -/
def c04WalkBody : Expr → Except DepErr C04Body
  | .const (.str _) => .error .foreign
  | .const .none => .error .foreign
  | .const _ => .ok (.walk .plain true [] true true)
  | .var _ => .ok (.walk .plain true [] true true)
  | .wildcard => .ok (.walk .plain true [] true true)
  | .dotWild _ => .ok (.walk .plain true [] true true)
  | .starWild _ => .ok (.walk .plain true [] true true)
  | .funcSym => .ok (.walk .plain true [] true true)
  | .nan => .ok (.walk .plain true [] true true)
  | .nary _ _ => .ok (.walk .guard true [⟨"children", .each, true⟩] true true)
  | .bin .pow _ _ => .ok (.walk .guard true [⟨"base", .one, true⟩, ⟨"exponent", .one, true⟩] true true)
  | .bin .lshift _ _ => .ok (.walk .guard true [⟨"shift", .one, true⟩, ⟨"shiftee", .one, true⟩] true true)
  | .bin .rshift _ _ => .ok (.walk .guard true [⟨"shift", .one, true⟩, ⟨"shiftee", .one, true⟩] true true)
  | .bin _ _ _ => .ok (.walk .guard true [⟨"numerator", .one, true⟩, ⟨"denominator", .one, true⟩] true true)
  | .un _ _ => .ok (.walk .guard true [⟨"child", .one, true⟩] true true)
  | .cmp _ _ _ => .ok (.walk .guard true [⟨"left", .one, true⟩, ⟨"right", .one, true⟩] true true)
  | .ite _ _ _ => .ok (.walk .guard true
      [⟨"condition", .one, true⟩, ⟨"then", .one, true⟩, ⟨"else_", .one, true⟩] true true)
  | .call _ _ => .ok (.walk .guard true [⟨"function", .one, true⟩, ⟨"parameters", .each, true⟩] true true)
  | .callKw _ _ _ _ => .ok (.walk .guard true
      [⟨"function", .one, true⟩, ⟨"parameters", .each, true⟩, ⟨"kw_parameters", .eachValue, true⟩]
      true true)
  | .subscript _ _ => .ok (.walk .guard true [⟨"aggregate", .one, true⟩, ⟨"index", .one, true⟩] true true)
  | .lookup _ _ => .ok (.walk .guard true [⟨"aggregate", .one, true⟩] true true)
  | .cse _ _ _ => .ok (.walk .guard true [⟨"child", .one, true⟩] true true)
  | .subst _ _ _ => .ok (.walk .guard true [⟨"child", .one, true⟩, ⟨"values", .each, true⟩] true true)
  | .deriv _ _ => .ok (.walk .guard true [⟨"child", .one, true⟩] true true)
  | .slice _ => .ok (.walk .guard true [⟨"children", .eachNotNone, true⟩] true true)
  | .tuple _ => .ok (.walk .guard true [⟨"", .each, true⟩] true true)
  | .list _ => .ok (.walk .guard true [⟨"", .each, true⟩] true true)

theorem c04WalkBody_classRep (e : Expr) : c04WalkBody e = c04WalkBody e.classRep := by
  cases e with
  | const k => cases k <;> rfl
  | bin o a b => cases o <;> rfl
  | _ => rfl

/-- recursion sites of a resolved body (none when dispatch fails) -/
def c04BodyRecs : Except DepErr C04Body → List C04Rec
  | .ok b => b.recs
  | .error _ => []

/-- `walkChildren` is what the recursion sites of the walk handler shapes yield, in order -/
theorem walkChildren_eq_recs (e : Expr) :
    c04RecsChildren e (c04BodyRecs (c04WalkBody e)) = some (walkChildren e) := by
  cases e with
  | const k => cases k <;> rfl
  | bin o a b =>
    cases o <;> simp [c04WalkBody, c04BodyRecs, C04Body.recs, c04RecsChildren, c04RecChildren,
      Expr.c04Field, Expr.c04Fields, c04Assoc, c04OptSeq, walkChildren, BinOp.isShift]
  | slice cs =>
    simp [c04WalkBody, c04BodyRecs, C04Body.recs, c04RecsChildren, c04RecChildren,
      Expr.c04Field, Expr.c04Fields, c04Assoc, c04OptSeq, walkChildren, Expr.c04IsNone_eq]
  | _ =>
    simp [c04WalkBody, c04BodyRecs, C04Body.recs, c04RecsChildren, c04RecChildren,
      Expr.c04Field, Expr.c04Fields, c04Assoc, c04OptSeq, walkChildren, Expr.children]

/-- a guarded handler with full forwarding is `wrapWalk` around its recursion sites -/
theorem c04WalkStepB_guard (recs : List C04Rec) (rec : Bool → Expr → Except DepErr (List Event))
    (skip : List String) (args : Bool) (e : Expr) :
    c04WalkStepB (.ok (.walk .guard true recs true true)) rec skip args e =
      wrapWalk skip args e (c04SeqSites rec args e recs) := by
  simp only [c04WalkStepB, wrapWalk, Bool.and_true, beq_self_eq_true, Bool.true_and, if_true]
  split
  · rfl
  · cases c04SeqSites rec args e recs <;> simp [bind, Except.bind, pure, Except.pure]

/-- a leaf handler: visit, post_visit -/
theorem c04WalkStepB_leaf (rec : Bool → Expr → Except DepErr (List Event))
    (skip : List String) (args : Bool) (e : Expr) :
    c04WalkStepB (.ok (.walk .plain true [] true true)) rec skip args e = leafWalk args e := by
  simp [c04WalkStepB, leafWalk, c04SeqSites, bind, Except.bind, pure, Except.pure]

/-- one handler call of the shape `c04WalkBody` gives, for every node class at once -/
theorem c04WalkStepB_body (rec : Bool → Expr → Except DepErr (List Event)) (skip : List String)
    (args : Bool) (e : Expr) :
    c04WalkStepB (c04WalkBody e) rec skip args e =
      if e.isRejectedConst then .error .foreign
      else if e.isLeafNode then leafWalk args e
      else wrapWalk skip args e (c04SeqSites rec args e (c04BodyRecs (c04WalkBody e))) := by
  cases e with
  | const k => cases k <;> first | rfl | exact c04WalkStepB_leaf ..
  | var | wildcard | dotWild | starWild | funcSym | nan => exact c04WalkStepB_leaf ..
  | bin o a b => cases o <;> exact c04WalkStepB_guard ..
  | _ => exact c04WalkStepB_guard ..

theorem c04WalkBody_fwd (e : Expr) : (c04BodyRecs (c04WalkBody e)).all (·.fwd) = true := by
  cases e with
  | const k => cases k <;> rfl
  | bin o a b => cases o <;> rfl
  | _ => rfl

/-- **`walk` solves the table-driven equations**: a call of `walk` on any node is one handler call
of the shape `c04WalkBody` gives for the node, recursing through `walk` itself. -/
theorem walk_eq_stepB (skip : List String) (args : Bool) (e : Expr) :
    walk skip args e = c04WalkStepB (c04WalkBody e) (walk skip) skip args e := by
  rw [walk_eq_children, c04WalkStepB_body,
    c04SeqSites_eq_seqL (c04WalkBody_fwd e) (walkChildren_eq_recs e), walkL_eq_c04SeqL]
  rfl

theorem c04WalkStepB_congr {body : Except DepErr C04Body}
    {f g : Bool → Expr → Except DepErr (List Event)} {skip : List String} {args : Bool} {e : Expr}
    (h : ∀ a, ∀ c ∈ e.children, f a c = g a c) :
    c04WalkStepB body f skip args e = c04WalkStepB body g skip args e := by
  unfold c04WalkStepB
  split <;> try rfl
  rw [c04SeqSites_congr h]

/-- **The table-driven equations have one solution.**  Whatever the handler shapes `body` are: two
functions that both run one handler call per node and recurse through themselves agree on every
tree (recursion only ever reaches direct children). -/
theorem c04Walk_unique (body : Expr → Except DepErr C04Body) (skip : List String)
    (f g : Bool → Expr → Except DepErr (List Event))
    (hf : ∀ a e, f a e = c04WalkStepB (body e) f skip a e)
    (hg : ∀ a e, g a e = c04WalkStepB (body e) g skip a e) : ∀ e a, f a e = g a e := by
  intro e
  induction e using Expr.induct with
  | h e ih =>
    intro a
    rw [hf, hg]
    exact c04WalkStepB_congr (fun a c hc => ih c hc a)

/-! ### the combine mapper -/

/-- the `CombineMapper` handler shapes as literal rows, per node (what `combineL` follows;
`C04.combine_resolve_current` checks them against the regenerated table); leaves (`[expr]`) are
the handlers a `Collector`-like subclass defines -/
def c04CombineBody : Expr → Except DepErr C04Body
  | .const (.str _) => .error .foreign
  | .const .none => .error .foreign
  | .const _ => .ok .same
  | .var _ => .ok .same
  | .wildcard => .ok .same
  | .dotWild _ => .ok .same
  | .starWild _ => .ok .same
  | .funcSym => .ok .same
  | .nan => .ok .raises                      -- `Mapper.map_nan` → `map_algebraic_leaf` raises
  | .slice _ => .error .unsupported          -- no handler at all
  | .subst _ _ _ => .error .unsupported
  | .deriv _ _ => .error .unsupported
  | .nary _ _ => .ok (.fold true [⟨"children", .each, true⟩])
  | .bin .pow _ _ => .ok (.fold true [⟨"base", .one, true⟩, ⟨"exponent", .one, true⟩])
  | .bin .lshift _ _ => .ok (.fold true [⟨"shiftee", .one, true⟩, ⟨"shift", .one, true⟩])
  | .bin .rshift _ _ => .ok (.fold true [⟨"shiftee", .one, true⟩, ⟨"shift", .one, true⟩])
  | .bin _ _ _ => .ok (.fold true [⟨"numerator", .one, true⟩, ⟨"denominator", .one, true⟩])
  | .un _ _ => .ok (.fold false [⟨"child", .one, true⟩])
  | .cmp _ _ _ => .ok (.fold true [⟨"left", .one, true⟩, ⟨"right", .one, true⟩])
  | .ite _ _ _ => .ok (.fold true
      [⟨"condition", .one, true⟩, ⟨"then", .one, true⟩, ⟨"else_", .one, true⟩])
  | .call _ _ => .ok (.fold true [⟨"function", .one, true⟩, ⟨"parameters", .each, true⟩])
  | .callKw _ _ _ _ => .ok (.fold true
      [⟨"function", .one, true⟩, ⟨"parameters", .each, true⟩, ⟨"kw_parameters", .eachValue, true⟩])
  | .subscript _ _ => .ok (.fold true [⟨"aggregate", .one, true⟩, ⟨"index", .one, true⟩])
  | .lookup _ _ => .ok (.fold false [⟨"aggregate", .one, true⟩])
  | .cse _ _ _ => .ok (.fold false [⟨"child", .one, true⟩])
  | .tuple _ => .ok (.fold true [⟨"", .each, true⟩])
  | .list _ => .ok (.fold true [⟨"", .each, true⟩])

theorem c04CombineBody_classRep (e : Expr) : c04CombineBody e = c04CombineBody e.classRep := by
  cases e with
  | const k => cases k <;> rfl
  | bin o a b => cases o <;> rfl
  | _ => rfl

theorem combineLL_eq_c04SeqL : ∀ cs : List Expr, combineLL cs = c04SeqL combineL cs
  | [] => by simp [combineLL, c04SeqL]
  | c :: cs => by simp [combineLL, c04SeqL, combineLL_eq_c04SeqL cs]

/-- every inner node with a combine handler folds ALL its direct children, in field order -/
theorem combineChildren_eq_recs (e : Expr) (hl : e.isCombineLeaf = false)
    (hu : e.combineUnhandled = false) :
    c04RecsChildren e (c04BodyRecs (c04CombineBody e)) = some e.children := by
  cases e with
  | const k => cases hl
  | var | wildcard | dotWild | starWild | funcSym => cases hl
  | nan | slice | subst | deriv => cases hu
  | bin o a b =>
    cases o <;> simp [c04CombineBody, c04BodyRecs, C04Body.recs, c04RecsChildren,
      c04RecChildren, Expr.c04Field, Expr.c04Fields, c04Assoc, c04OptSeq, Expr.children]
  | _ =>
    simp [c04CombineBody, c04BodyRecs, C04Body.recs, c04RecsChildren,
      c04RecChildren, Expr.c04Field, Expr.c04Fields, c04Assoc, c04OptSeq, Expr.children]

/-- one handler call of the shape `c04CombineBody` gives, for every node class at once -/
theorem c04CombineStepB_body (rec : Expr → Except DepErr (List Expr)) (e : Expr) :
    c04CombineStepB (c04CombineBody e) rec e =
      if e.isRejectedConst then .error .foreign
      else if e.isCombineLeaf then pure [e]
      else if e.combineUnhandled then .error .unsupported
      else c04SeqSites (fun _ c => rec c) true e (c04BodyRecs (c04CombineBody e)) := by
  cases e with
  | const k => cases k <;> rfl
  | bin o a b => cases o <;> rfl
  | _ => rfl

theorem c04CombineBody_fwd (e : Expr) : (c04BodyRecs (c04CombineBody e)).all (·.fwd) = true := by
  cases e with
  | const k => cases k <;> rfl
  | bin o a b => cases o <;> rfl
  | _ => rfl

/-- **`combineL` solves the table-driven equations.** -/
theorem combineL_eq_stepB (e : Expr) :
    combineL e = c04CombineStepB (c04CombineBody e) combineL e := by
  rw [combineL_eq_children, c04CombineStepB_body]
  cases hl : e.isCombineLeaf
  · cases hu : e.combineUnhandled
    · rw [c04SeqSites_eq_seqL (c04CombineBody_fwd e) (combineChildren_eq_recs e hl hu),
        combineLL_eq_c04SeqL]
      rfl
    · rfl
  · rfl

theorem c04CombineStepB_congr {body : Except DepErr C04Body}
    {f g : Expr → Except DepErr (List Expr)} {e : Expr} (h : ∀ c ∈ e.children, f c = g c) :
    c04CombineStepB body f e = c04CombineStepB body g e := by
  unfold c04CombineStepB
  split <;> try rfl
  exact c04SeqSites_congr (fun _ c hc => h c hc) _

theorem c04Combine_unique (body : Expr → Except DepErr C04Body)
    (f g : Expr → Except DepErr (List Expr))
    (hf : ∀ e, f e = c04CombineStepB (body e) f e)
    (hg : ∀ e, g e = c04CombineStepB (body e) g e) : ∀ e, f e = g e := by
  intro e
  induction e using Expr.induct with
  | h e ih =>
    rw [hf, hg]
    exact c04CombineStepB_congr ih

/-! ### the identity mapper (under `SubstitutionMapper`) -/

/-- the `IdentityMapper` handler shapes as literal rows, per node (what `substM` follows;
`C04.identity_resolve_current` checks them against the regenerated table) -/
def c04IdentBody : Expr → Except DepErr C04Body
  | .const (.str _) => .error .foreign
  | .const .none => .error .foreign
  | .const _ => .ok .same
  | .var _ => .ok .same
  | .wildcard => .ok .same
  | .dotWild _ => .ok .same
  | .starWild _ => .ok .same
  | .funcSym => .ok .same
  | .nan => .ok .same
  | .nary _ _ => .ok (.rebuild [⟨"children", .each, true⟩] true ["children"] false
      (.sameClass [.rebuilt "children"] false))
  | .bin .pow _ _ => .ok (.rebuild [⟨"base", .one, true⟩, ⟨"exponent", .one, true⟩] true
      ["base", "exponent"] false (.sameClass [.rebuilt "base", .rebuilt "exponent"] false))
  | .bin .lshift _ _ => .ok (.rebuild [⟨"shiftee", .one, true⟩, ⟨"shift", .one, true⟩] true
      ["shiftee", "shift"] false (.sameClass [.rebuilt "shiftee", .rebuilt "shift"] false))
  | .bin .rshift _ _ => .ok (.rebuild [⟨"shiftee", .one, true⟩, ⟨"shift", .one, true⟩] true
      ["shiftee", "shift"] false (.sameClass [.rebuilt "shiftee", .rebuilt "shift"] false))
  | .bin _ _ _ => .ok (.rebuild [⟨"numerator", .one, true⟩, ⟨"denominator", .one, true⟩] true
      ["numerator", "denominator"] false
      (.sameClass [.rebuilt "numerator", .rebuilt "denominator"] false))
  | .un _ _ => .ok (.rebuild [⟨"child", .one, true⟩] true ["child"] false
      (.sameClass [.rebuilt "child"] false))
  | .cmp _ _ _ => .ok (.rebuild [⟨"left", .one, true⟩, ⟨"right", .one, true⟩] true
      ["left", "right"] false (.sameClass [.rebuilt "left", .copied "operator", .rebuilt "right"] false))
  | .ite _ _ _ => .ok (.rebuild
      [⟨"condition", .one, true⟩, ⟨"then", .one, true⟩, ⟨"else_", .one, true⟩] true
      ["condition", "then", "else_"] false
      (.sameClass [.rebuilt "condition", .rebuilt "then", .rebuilt "else_"] false))
  | .call _ _ => .ok (.rebuild [⟨"function", .one, true⟩, ⟨"parameters", .each, true⟩] true
      ["function", "parameters"] false (.sameClass [.rebuilt "function", .rebuilt "parameters"] false))
  | .callKw _ _ _ _ => .ok (.rebuild
      [⟨"function", .one, true⟩, ⟨"parameters", .each, true⟩, ⟨"kw_parameters", .eachValue, true⟩]
      true ["function", "parameters", "kw_parameters"] false
      (.sameClass [.rebuilt "function", .rebuilt "parameters", .rebuilt "kw_parameters"] false))
  | .subscript _ _ => .ok (.rebuild [⟨"aggregate", .one, true⟩, ⟨"index", .one, true⟩] true
      ["aggregate", "index"] false (.sameClass [.rebuilt "aggregate", .rebuilt "index"] false))
  | .lookup _ _ => .ok (.rebuild [⟨"aggregate", .one, true⟩] true ["aggregate"] false
      (.sameClass [.rebuilt "aggregate", .copied "name"] false))
  | .cse _ _ _ => .ok (.rebuild [⟨"child", .one, true⟩] true ["child"] true
      (.sameClass [.rebuilt "child", .copied "prefix", .copied "scope"] true))
  | .subst _ _ _ => .ok (.rebuild [⟨"child", .one, true⟩, ⟨"values", .each, true⟩] true
      ["child", "values"] false
      (.sameClass [.rebuilt "child", .copied "variables", .rebuilt "values"] false))
  | .deriv _ _ => .ok (.rebuild [⟨"child", .one, true⟩] true ["child"] false
      (.sameClass [.rebuilt "child", .copied "variables"] false))
  | .slice _ => .ok (.rebuild [⟨"children", .eachNotNone, true⟩] true ["children"] false
      (.sameClass [.rebuilt "children"] false))
  | .tuple _ => .ok (.rebuild [⟨"", .each, true⟩] true [""] false .pyTuple)
  | .list _ => .ok (.rebuild [⟨"", .each, true⟩] false [] false .pyList)

theorem c04IdentBody_classRep (e : Expr) : c04IdentBody e = c04IdentBody e.classRep := by
  cases e with
  | const k => cases k <;> rfl
  | bin o a b => cases o <;> rfl
  | _ => rfl

/-- `SubstitutionMapper` overrides the handlers of variables, subscripts and look-ups: the
substitution function is asked first.  (The same function as `c08Intercept` of
PV/Model/SubstCache.lean, which C08 uses.) -/
def c04SubstHook (σ : SubstMap) : Expr → Option Expr
  | .var x => σ.apply (.var x)
  | .subscript a i => σ.apply (.subscript a i)
  | .lookup a n => σ.apply (.lookup a n)
  | _ => none

theorem substL_eq_c04MapSeq (σ : SubstMap) : ∀ cs : List Expr,
    substL σ cs = c04MapSeq (substM σ) cs
  | [] => rfl
  | c :: cs => by simp [substL, c04MapSeq, substL_eq_c04MapSeq σ cs]

theorem substL_eq_c04MapSeq_notNone (σ : SubstMap) : ∀ cs : List Expr,
    substL σ cs = c04MapSeq (fun c => if c.c04IsNone then (c, false) else substM σ c) cs
  | [] => rfl
  | c :: cs => by
    have hc : (if c.c04IsNone then (c, false) else substM σ c) = substM σ c := by
      cases c with
      | const k => cases k <;> simp [Expr.c04IsNone, substM]
      | _ => simp [Expr.c04IsNone]
    simp [substL, c04MapSeq, hc, ← substL_eq_c04MapSeq_notNone σ cs]

/-- the children the identity mapper maps: all direct children (for a slice: `None` parts stay) -/
theorem identChildren_eq_recs (e : Expr) :
    c04RecsChildren e (c04BodyRecs (c04IdentBody e)) =
      some (match e with
        | .slice cs => cs.filter (fun c => !c.c04IsNone)
        | e => e.children) := by
  cases e with
  | const k => cases k <;> rfl
  | bin o a b =>
    cases o <;> simp [c04IdentBody, c04BodyRecs, C04Body.recs, c04RecsChildren, c04RecChildren,
      Expr.c04Field, Expr.c04Fields, c04Assoc, c04OptSeq, Expr.children]
  | _ =>
    simp [c04IdentBody, c04BodyRecs, C04Body.recs, c04RecsChildren, c04RecChildren,
      Expr.c04Field, Expr.c04Fields, c04Assoc, c04OptSeq, Expr.children]

/-- when the substitution function answers, its answer is the result (a new object) -/
theorem substM_hook {σ : SubstMap} {e r : Expr} (h : c04SubstHook σ e = some r) :
    substM σ e = (r, true) := by
  unfold c04SubstHook at h
  split at h <;> first | cases h | simp [substM, h]

section
attribute [local simp] c04IdentBody c04IdentStepB c04MapRecs c04MapRec Expr.c04Field Expr.c04Fields
  c04Assoc c04Rebuild c04OptSeq c04ArgVal Expr.c04Construct

/-- **`substM` solves the table-driven equations** wherever the substitution function does not
answer (always, for the plain identity mapper): one `IdentityMapper` handler call of the shape
`c04IdentBody`, recursing through `substM` — children mapped in table order, the node returned
unchanged iff every field the test names is unchanged, otherwise rebuilt with the constructor
arguments in table order. -/
theorem substM_eq_stepB (σ : SubstMap) (e : Expr) (hr : e.isRejectedConst = false)
    (hh : c04SubstHook σ e = none) :
    c04IdentStepB (c04IdentBody e) (substM σ) e = some (.ok (substM σ e)) := by
  -- per class: the field look-ups of the step are evaluated once, then the flags are split
  cases e with
  | const k => cases k <;> simp_all [substM, Expr.isRejectedConst]
  | var x => simp only [c04SubstHook] at hh; simp [substM, hh]
  | wildcard | dotWild | starWild | funcSym | nan => simp [substM]
  | un o a | deriv a vs =>
    simp [substM]
    rcases substM σ a with ⟨a', ca⟩
    cases ca <;> rfl
  | lookup a n =>
    simp only [c04SubstHook] at hh
    simp [substM, hh]
    rcases substM σ a with ⟨a', ca⟩
    cases ca <;> rfl
  | cse a p s =>
    simp [substM]
    rcases substM σ a with ⟨a', ca⟩
    cases hz : a'.isZero <;> cases ca <;> simp [hz]
  | bin o a b =>
    cases o <;> simp [substM] <;>
      rcases substM σ a with ⟨a', ca⟩ <;> rcases substM σ b with ⟨b', cb⟩ <;>
      cases ca <;> cases cb <;> rfl
  | cmp o a b =>
    simp [substM]
    rcases substM σ a with ⟨a', ca⟩; rcases substM σ b with ⟨b', cb⟩
    cases ca <;> cases cb <;> rfl
  | subscript a b =>
    simp only [c04SubstHook] at hh
    simp [substM, hh]
    rcases substM σ a with ⟨a', ca⟩; rcases substM σ b with ⟨b', cb⟩
    cases ca <;> cases cb <;> rfl
  | ite a b c =>
    simp [substM]
    rcases substM σ a with ⟨a', ca⟩; rcases substM σ b with ⟨b', cb⟩
    rcases substM σ c with ⟨c', cc⟩
    cases ca <;> cases cb <;> cases cc <;> rfl
  | nary o cs | tuple cs =>
    simp [substM, substL_eq_c04MapSeq]
    rcases c04MapSeq (substM σ) cs with ⟨cs', ch⟩
    cases ch <;> rfl
  | list cs => simp [substM, substL_eq_c04MapSeq]
  | slice cs =>
    simp [substM, substL_eq_c04MapSeq_notNone σ cs]
    rcases c04MapSeq (fun c => if c.c04IsNone then (c, false) else substM σ c) cs with ⟨cs', ch⟩
    cases ch <;> rfl
  | call f as | subst f vs as =>
    simp [substM, substL_eq_c04MapSeq]
    rcases substM σ f with ⟨f', cf⟩; rcases c04MapSeq (substM σ) as with ⟨as', ca⟩
    cases cf <;> cases ca <;> rfl
  | callKw f as ns vs =>
    simp [substM, substL_eq_c04MapSeq]
    rcases substM σ f with ⟨f', cf⟩; rcases c04MapSeq (substM σ) as with ⟨as', ca⟩
    rcases c04MapSeq (substM σ) vs with ⟨vs', cv⟩
    cases cf <;> cases ca <;> cases cv <;> rfl
end

theorem c04MapSeq_congr {f g : Expr → Expr × Bool} :
    ∀ {cs : List Expr}, (∀ c ∈ cs, f c = g c) → c04MapSeq f cs = c04MapSeq g cs
  | [], _ => rfl
  | c :: cs, h => by
    have ih : c04MapSeq f cs = c04MapSeq g cs :=
      c04MapSeq_congr (fun d hd => h d (List.mem_cons_of_mem _ hd))
    simp only [c04MapSeq, h c (by simp), ih]

theorem c04Field_exprs_sub {e : Expr} {fld : String} {v : C04Val}
    (h : e.c04Field fld = some v) : ∀ c ∈ v.exprs, c ∈ e.children := by
  intro c hc
  rw [Expr.children_eq_c04Fields, List.mem_flatMap]
  exact ⟨_, c04Assoc_mem h, hc⟩

theorem c04MapRec_congr {f g : Expr → Expr × Bool} {e : Expr}
    (h : ∀ c ∈ e.children, f c = g c) (r : C04Rec) : c04MapRec f e r = c04MapRec g e r := by
  unfold c04MapRec
  split
  · rename_i c hf _
    rw [h c (c04Field_exprs_sub hf c (by simp [C04Val.exprs]))]
  · rename_i cs hf _
    rw [c04MapSeq_congr (cs := cs) fun c hc => h c (c04Field_exprs_sub hf c hc)]
  · rename_i cs hf _
    rw [c04MapSeq_congr (cs := cs) (g := fun c => if c.c04IsNone then (c, false) else g c)
      fun c hc => by rw [h c (c04Field_exprs_sub hf c hc)]]
  · rename_i vs hf _
    rw [c04MapSeq_congr (cs := vs) fun c hc => h c (c04Field_exprs_sub hf c hc)]
  · rfl

theorem c04MapRecs_congr {f g : Expr → Expr × Bool} {e : Expr}
    (h : ∀ c ∈ e.children, f c = g c) :
    ∀ recs : List C04Rec, c04MapRecs f e recs = c04MapRecs g e recs
  | [] => rfl
  | r :: rs => by simp only [c04MapRecs, c04MapRec_congr h r, c04MapRecs_congr h rs]

theorem c04IdentStepB_congr {body : Except DepErr C04Body} {f g : Expr → Expr × Bool} {e : Expr}
    (h : ∀ c ∈ e.children, f c = g c) : c04IdentStepB body f e = c04IdentStepB body g e := by
  unfold c04IdentStepB
  split <;> try rfl
  rw [c04MapRecs_congr h]

/-- no subterm of `e` (the `None` parts of slices included) is a string / `None` constant -/
def c04NoRejected (e : Expr) : Prop := ∀ t, Subterm t e → t.isRejectedConst = false

/-- **The identity equations have one solution** on trees free of rejected constants: any `f` that
on every such node is one table-driven `IdentityMapper` handler call recursing through `f`
coincides with any other such `g`. -/
theorem c04Ident_unique (body : Expr → Except DepErr C04Body) (f g : Expr → Expr × Bool)
    (hf : ∀ e, e.isRejectedConst = false → c04IdentStepB (body e) f e = some (.ok (f e)))
    (hg : ∀ e, e.isRejectedConst = false → c04IdentStepB (body e) g e = some (.ok (g e))) :
    ∀ e, c04NoRejected e → f e = g e := by
  intro e
  induction e using Expr.induct with
  | h e ih =>
    intro hn
    have h1 := hf e (hn e (.refl e))
    have h2 := hg e (hn e (.refl e))
    rw [c04IdentStepB_congr (g := g)
      (fun c hc => ih c hc (fun t ht => hn t (ht.trans (.child hc))))] at h1
    rw [h1] at h2
    simpa using h2

/-! ### whole-table checks

Boolean checks over a whole handler table, rows of node kinds outside the model included.  Nothing
is proved about them here: `Properties/C04.lean` evaluates them on the regenerated tables. -/

/-- a `WalkMapper` row: `visit` first and `post_visit` last, both with the extra arguments; every
recursive call forwards them; only childless handlers may ignore the answer of `visit` -/
def c04WalkRowOk : C04Body → Bool
  | .walk v vf recs post pf =>
      vf && post && pf && recs.all (·.fwd) && (v == .guard || (v == .plain && recs.isEmpty))
  | _ => true

/-- a `CombineMapper` row: every recursive call forwards the extra arguments -/
def c04FoldRowOk : C04Body → Bool
  | .fold _ recs => recs.all (·.fwd)
  | _ => true

def c04RebuiltField : C04Arg → Option String
  | .rebuilt f => some f
  | .copied _ => none

def C04Arg.field : C04Arg → String
  | .rebuilt f => f
  | .copied f => f

/-- an `IdentityMapper` row: every recursive call forwards the extra arguments; the "same object"
test (when there is one) compares exactly the mapped fields; the constructor receives exactly the
mapped fields, in the order they were mapped -/
def c04RebuildRowOk : C04Body → Bool
  | .rebuild recs sameTest checked _ ctor =>
      recs.all (·.fwd) && (!sameTest || checked == recs.map (·.field)) &&
      (match ctor with
        | .sameClass args _ => args.filterMap c04RebuiltField == recs.map (·.field)
        | _ => true)
  | _ => true

/-- for every node class whose own handler rebuilds with `type(expr)(…)`: the positional arguments
are the class's dataclass fields, in declaration order -/
def c04CtorOrderOk (classes : List C04NodeClass) (tbl : List C04Handler) : Bool :=
  classes.all fun c =>
    match c.mro.head? with
    | some (some m) =>
      match c04BodyOf tbl 4 m with
      | some (.rebuild _ _ _ _ (.sameClass args _)) => args.map C04Arg.field == c.fields
      | _ => true
    | _ => true

/-- node kinds whose `SubstitutionMapper` handler asks the substitution function first -/
def Expr.c04Hooked : Expr → Bool
  | .var _ | .subscript _ _ | .lookup _ _ => true
  | _ => false

theorem c04SubstHook_none_of_not_hooked (σ : SubstMap) {e : Expr} (h : e.c04Hooked = false) :
    c04SubstHook σ e = none := by
  cases e <;> simp_all [Expr.c04Hooked, c04SubstHook]

/-- the hook table is sound against the identity table: a hooked handler falls back to
`IdentityMapper`'s handler of the same name, or returns `expr` where that handler does too -/
def c04HooksOk (hooks : List (String × String)) (ident : List C04Handler) : Bool :=
  hooks.all fun h =>
    h.2 == "IdentityMapper." ++ h.1 ||
      (h.2 == "expr" && (match c04BodyOf ident 4 h.1 with | some .same => true | _ => false))

/-- the handler name a mapper with the handlers of `tbl` dispatches `e` to (if any) -/
def c04HandlerName (classes : List C04NodeClass) (tbl : List C04Handler) (e : Expr) :
    Option String :=
  match c04Dispatch classes (tbl.map (·.name)) e with
  | .handler n => some n
  | .foreign n => some n
  | _ => none

/-- is a node an instance of an expression class (not a foreign object / container)? -/
def Expr.c04IsNode : Expr → Bool
  | .const _ | .tuple _ | .list _ => false
  | _ => true

/-- does the way a recursion site enumerates children fit what the field is declared to hold? -/
def c04IterFits : C04Iter → String → Bool
  | .one, "one" => true
  | .each, "many" => true
  | .eachNotNone, "many" => true
  | .eachValue, "dict" => true
  | _, _ => false

/-- **Every expression-bearing field, once.**  For every node class of the current primitives
whose own handler in `tbl` recurses at all (walk / fold / rebuild rows): the fields recursed into
are exactly the fields DECLARED to hold expressions, each exactly once, each enumerated the way
its declared type demands (in any order). -/
def c04FieldsOnceOk (classes : List C04NodeClass) (tbl : List C04Handler) : Bool :=
  classes.all fun c =>
    match c.mro.head? with
    | some (some m) =>
      match c04BodyOf tbl 4 m with
      | some (.walk _ _ recs _ _) => ok c recs
      | some (.fold _ recs) => ok c recs
      | some (.rebuild recs _ _ _ _) => ok c recs
      | _ => true
    | _ => true
where
  ok (c : C04NodeClass) (recs : List C04Rec) : Bool :=
    let declared := (c.fields.zip c.kinds).filter (fun p => p.2 != "data")
    let visited := recs.map (·.field)
    visited.length == declared.length &&
      declared.all (fun p => visited.contains p.1) &&
      recs.all (fun r => declared.any (fun p => p.1 == r.field && c04IterFits r.iter p.2))

end PV
