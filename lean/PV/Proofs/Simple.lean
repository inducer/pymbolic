import PV.Proofs.EvalSim
import PV.Proofs.PyEqEquiv
/-
  A large, syntactically defined universe: expressions without bool/float constants, keyword
  calls and Python lists.  On it Python `==` is structural identity.
-/
namespace PV

def Const.simple : Const → Bool
  | .int _ | .str _ | .none => true
  | _ => false

mutual
def Expr.simple : Expr → Bool
  | .const c => c.simple
  | .nary _ cs => Expr.simpleL cs
  | .bin _ a b => a.simple && b.simple
  | .un _ a => a.simple
  | .cmp _ a b => a.simple && b.simple
  | .ite c t e => c.simple && t.simple && e.simple
  | .call f as => f.simple && Expr.simpleL as
  | .callKw .. => false
  | .subscript a i => a.simple && i.simple
  | .lookup a _ => a.simple
  | .cse c _ _ => c.simple
  | .subst c _ xs => c.simple && Expr.simpleL xs
  | .deriv c _ => c.simple
  | .slice cs => Expr.simpleL cs
  | .tuple cs => Expr.simpleL cs
  | .list _ => false
  | _ => true
def Expr.simpleL : List Expr → Bool
  | [] => true
  | c :: cs => c.simple && Expr.simpleL cs
end

theorem simpleL_mem : ∀ {cs : List Expr}, Expr.simpleL cs = true → ∀ c ∈ cs, c.simple = true
  | [], _, c, hc => by simp at hc
  | d :: ds, h, c, hc => by
    simp only [Expr.simpleL, Bool.and_eq_true] at h
    simp only [List.mem_cons] at hc
    rcases hc with rfl | hc
    · exact h.1
    · exact simpleL_mem h.2 c hc

theorem simple_children {e : Expr} (h : e.simple = true) : ∀ c ∈ e.children, c.simple = true := by
  intro c hc
  cases e <;> simp only [Expr.children, List.mem_cons, List.mem_append, List.not_mem_nil,
    or_false] at hc <;> simp only [Expr.simple, Bool.and_eq_true] at h
  all_goals first
    | exact simpleL_mem h c hc
    | (rcases hc with rfl | rfl | rfl <;> simp_all)
    | (rcases hc with rfl | rfl <;> simp_all)
    | (rcases hc with rfl | hc
       · exact h.1
       · exact simpleL_mem h.2 c hc)
    | (subst hc; simp_all)
    | simp at h
    | simp at hc

mutual
theorem simple_nolist : ∀ (e : Expr), e.simple = true → e.hasList = false
  | .const _, _ | .var _, _ | .nan, _ | .wildcard, _ | .dotWild _, _ | .starWild _, _
  | .funcSym, _ => by simp [Expr.hasList]
  | .nary _ cs, h | .slice cs, h | .tuple cs, h => by
      simp only [Expr.simple] at h; simp [Expr.hasList, simpleL_nolist cs h]
  | .bin _ a b, h | .cmp _ a b, h | .subscript a b, h => by
      simp only [Expr.simple, Bool.and_eq_true] at h
      simp [Expr.hasList, simple_nolist a h.1, simple_nolist b h.2]
  | .un _ a, h | .lookup a _, h | .cse a _ _, h | .deriv a _, h => by
      simp only [Expr.simple] at h; simp [Expr.hasList, simple_nolist a h]
  | .ite c t e, h => by
      simp only [Expr.simple, Bool.and_eq_true] at h
      simp [Expr.hasList, simple_nolist c h.1.1, simple_nolist t h.1.2, simple_nolist e h.2]
  | .call f as, h | .subst f _ as, h => by
      simp only [Expr.simple, Bool.and_eq_true] at h
      simp [Expr.hasList, simple_nolist f h.1, simpleL_nolist as h.2]
  | .callKw .., h | .list _, h => by simp [Expr.simple] at h
theorem simpleL_nolist : ∀ (cs : List Expr), Expr.simpleL cs = true → Expr.hasListL cs = false
  | [], _ => by simp [Expr.hasListL]
  | c :: cs, h => by
      simp only [Expr.simpleL, Bool.and_eq_true] at h
      simp [Expr.hasListL, simple_nolist c h.1, simpleL_nolist cs h.2]
end

theorem Const.pyEq_eq_of_simple {a b : Const} (ha : a.simple = true) (hb : b.simple = true)
    (h : a.pyEq b = true) : a = b := by
  cases a <;> cases b <;> simp_all [Const.simple, Const.pyEq, Const.numVal?]

/-- lists: from the statement for their elements -/
theorem pyEqL_eq_of : ∀ (as bs : List Expr),
    (∀ a ∈ as, ∀ b, a.simple = true → b.simple = true → a.pyEq b = true → a = b) →
    Expr.simpleL as = true → Expr.simpleL bs = true → Expr.pyEqL as bs = true → as = bs
  | [], [], _, _, _, _ => rfl
  | [], _ :: _, _, _, _, h => by simp [Expr.pyEqL] at h
  | _ :: _, [], _, _, _, h => by simp [Expr.pyEqL] at h
  | a :: as, b :: bs, ih, ha, hb, h => by
    simp only [Expr.pyEqL, Expr.simpleL, Bool.and_eq_true] at h ha hb
    rw [ih a List.mem_cons_self b ha.1 hb.1 h.1,
      pyEqL_eq_of as bs (fun c hc => ih c (List.mem_cons_of_mem _ hc)) ha.2 hb.2 h.2]

theorem pyEq_eq_of_simple : ∀ (a b : Expr), a.simple = true → b.simple = true →
    a.pyEq b = true → a = b := by
  intro a
  induction a using Expr.induct with
  | _ a ih =>
    intro b ha hb h
    cases PyEqNode.of_pyEq h <;>
      simp only [Expr.simple, Expr.children, Bool.and_eq_true, List.forall_mem_cons,
        Bool.false_eq_true] at ih ha hb
    case const hc => rw [Const.pyEq_eq_of_simple ha hb hc]
    case nary hl | slice hl | tuple hl => rw [pyEqL_eq_of _ _ ih ha hb hl]
    case bin h1 h2 | cmp h1 h2 | subscript h1 h2 =>
      rw [ih.1 _ ha.1 hb.1 h1, ih.2.1 _ ha.2 hb.2 h2]
    case un h1 | lookup h1 | cse h1 | deriv h1 => rw [ih.1 _ ha hb h1]
    case ite h1 h2 h3 =>
      rw [ih.1 _ ha.1.1 hb.1.1 h1, ih.2.1 _ ha.1.2 hb.1.2 h2, ih.2.2.1 _ ha.2 hb.2 h3]
    case call h1 hl | subst h1 hl => rw [ih.1 _ ha.1 hb.1 h1, pyEqL_eq_of _ _ ih.2 ha.2 hb.2 hl]
    all_goals rfl

theorem pyEqL_eq_of_simple : ∀ (as bs : List Expr), Expr.simpleL as = true →
    Expr.simpleL bs = true → Expr.pyEqL as bs = true → as = bs :=
  fun as bs => pyEqL_eq_of as bs (fun a _ => pyEq_eq_of_simple a)

theorem universe_simple : Universe (fun e => e.simple = true) where
  closed := fun _ h => simple_children h
  coherent := fun a b ha hb h => pyEq_eq_of_simple a b ha hb h
  nolist := fun e h => simple_nolist e h

end PV
