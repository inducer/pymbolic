import PV.Model.ParserTableRef
/-
  C07, T-gen.  The table interpreter of `PV/Model/ParserTable.lean`, run on the table the
  hand-written parser model is tied to (`c07ModelTable`, `PV/Model/ParserTableRef.lean`), IS the
  hand-written parser `PV/Model/Parser.lean` — for all token lists, levels, loop states and fuel.

  This file: the loop of `parse_expression` around `parse_postfix`.  Which row a token selects is a
  closed computation on the table, done once for all symbols (`c07PostRows_find`); the rows of the form
  `left_exp = C(left_exp, self.parse_expression(pstate, L))` (the binary operators but `-`, the
  comparisons) are instances of one lemma about such a row (`c07LoopT_infix`), the other rows are
  run statement by statement (`c07_body`) down to the terms, which are evaluated.
  `ParserTableMain.lean`: `parse_prefix`, `parse_arglist`, the induction on the fuel,
  `Parser.__call__`.
-/
-- `c07_body` and `c07_eval` pass fixed simp sets, of which a single call uses only a part
set_option linter.unusedSimpArgs false
namespace PV

/-- the four functions agree at fuel `f` -/
def c07Agree (P : ParserPrec) (f : Nat) : Prop :=
  (∀ m ts, c07ExprT c07ModelTable P f m ts = parseExpr P f m ts) ∧
  (∀ ts, c07PrefixT c07ModelTable P f ts = parsePrefix P f ts) ∧
  (∀ m l fin ts, c07LoopT c07ModelTable P f m l fin ts = postfixLoop P f m l fin ts) ∧
  (∀ ts a kn kv ca, c07ArglistT c07ModelTable P f ts a kn kv ca = parseArglist P f ts a kn kv ca)

@[simp] theorem c07M_comp : c07ModelTable.compTable = c07ModelComp := rfl
@[simp] theorem c07M_join : c07ModelTable.joinToSlice = c07ModelJoin := rfl
@[simp] theorem c07M_terminals : c07ModelTable.terminals = c07ModelTerminals := rfl
@[simp] theorem c07M_prefixes : c07ModelTable.prefixes = c07ModelPrefixes := rfl
@[simp] theorem c07M_postfixes : c07ModelTable.postfixes = c07ModelPostfixes := rfl
@[simp] theorem c07M_exprDefault : c07ModelTable.exprDefault = 0 := rfl
@[simp] theorem c07M_exprExit : c07ModelTable.exprExit = c07ModelExit := rfl
@[simp] theorem c07M_arglist : c07ModelTable.arglist = c07ModelArglist := rfl

variable {P : ParserPrec} {f : Nat}

/-- what a body of the model's table calls at fuel `f + 1`, once the recursive calls at fuel `f`
are known to be the hand-written parser -/
def c07R (P : ParserPrec) (f : Nat) (disp : Option Tok) : C07Run :=
  { T := c07ModelTable, P := P, disp := disp, pe := parseExpr P f,
    al := fun ts => parseArglist P f ts [] [] [] false }

theorem c07R_of_agree (ih : c07Agree P f) (disp : Option Tok) :
    ({ T := c07ModelTable, P := P, disp := disp, pe := fun m ts => c07ExprT c07ModelTable P f m ts,
       al := fun ts => c07ArglistT c07ModelTable P f ts [] [] [] false } : C07Run) = c07R P f disp := by
  simp only [ih.1, ih.2.2.2]; rfl

/-! ### terms and conditions that look at `left_exp` -/

/-- evaluate the terms and conditions of a body on given values of the locals; the facts in
brackets say what `isinstance`, `_join_to_slice` and unary minus give on the values at hand -/
macro "c07_eval" "[" hs:Lean.Parser.Tactic.simpLemma,* "]" : tactic => `(tactic|
  simp [C07Run.tm, C07Run.cx, c07R, c07EvalTm, c07EvalCond, c07Get, c07AsExpr, c07AsTuple, c07AsIter,
    c07Build, c07NaryOf, c07BinOf, c07Left, bind, Except.bind, pure, Except.pure, Except.map, throw,
    throwThe, MonadExceptOf.throw, $hs,*])

/-- `isinstance(e, C)` is false when `e` is not built by the constructor(s) `C` stands for -/
theorem c07IsInst_false {e : Expr} (fin : Bool) (c : C07Cls)
    (h : match c with
      | .Sum => ¬∃ cs, e = .nary .sum cs
      | .Product => ¬∃ cs, e = .nary .prod cs
      | .Slice => ¬∃ cs, e = .slice cs
      | .tuple | .FinalizedTuple => ¬∃ cs, e = .tuple cs
      | .list | .FinalizedList => ¬∃ cs, e = .list cs
      | .FinalizedContainer => (¬∃ cs, e = .tuple cs) ∧ ¬∃ cs, e = .list cs
      | _ => True) :
    c07IsInst (.expr e fin) c = false := by
  unfold c07IsInst
  split <;> first | rfl | simp_all

/-- the tail of `parse_expression` (`FinalizedTuple` → `tuple`) does not change the tree -/
theorem c07Exit_model (l : Expr) (fin : Bool) : c07Exit c07ModelTable l fin = pure l := by
  by_cases h : ∃ cs, l = .tuple cs
  · obtain ⟨cs, rfl⟩ := h
    cases fin <;> rfl
  · rw [c07Exit, c07M_exprExit, c07ModelExit]
    c07_eval [c07IsInst_false fin .FinalizedTuple h]

/-- the extracted body of `_join_to_slice` is `joinToSlice` -/
theorem c07Jts_model (cx : C07Ctx) (a b : Expr) (fa fb : Bool) :
    c07Jts c07ModelJoin cx (.expr a fa) (.expr b fb) = .ok (.expr (joinToSlice a b) false) := by
  unfold c07Jts c07ModelJoin joinToSlice
  by_cases h : ∃ cs, b = .slice cs
  · obtain ⟨cs, rfl⟩ := h
    have hi : c07IsInst (.expr (.slice cs) fb) .Slice = true := rfl
    c07_eval [hi]
  · split
    · exact absurd ⟨_, rfl⟩ h
    · c07_eval [c07IsInst_false fb .Slice h]

theorem spliceNary_eq (op : NaryOp) (left r : Expr) :
    spliceNary op left r = match left with
      | .nary o cs => if o = op then .nary op (cs ++ [r]) else .nary op [left, r]
      | _ => .nary op [left, r] := by
  unfold spliceNary
  split <;> simp_all

theorem spliceNary_ne {op : NaryOp} {l : Expr} (h : ¬∃ cs, l = .nary op cs) (r : Expr) :
    spliceNary op l r = .nary op [l, r] := by
  rw [spliceNary_eq]
  split
  · next o cs => exact if_neg fun ho => h ⟨cs, by rw [ho]⟩
  · rfl

/-- `C(*left_exp.children, right_exp) if isinstance(left_exp, C) else C(left_exp, right_exp)`
for `C` = `Sum`, `Product` is `spliceNary` -/
theorem c07Tm_splice {c : C07Cls} {op : NaryOp} (hc : c = .Sum ∧ op = .sum ∨ c = .Product ∧ op = .prod)
    (R : C07Run) (l : Expr) (fin : Bool) (r : Expr) (ts : List Tok) :
    R.tm { toks := ts, env := [("right_exp", .expr r false), ("left_exp", .expr l fin)], did := false }
      (.cond (.isInst "left_exp" [c])
        (.mk1 c (.tcons true (.attr (.var "left_exp") "children") (.tcons false (.var "right_exp") .tnil)))
        (.mk1 c (.tcons false (.var "left_exp") (.tcons false (.var "right_exp") .tnil)))) =
      .ok (.expr (spliceNary op l r) false) := by
  by_cases h : ∃ cs, l = .nary op cs
  · obtain ⟨cs, rfl⟩ := h
    rcases hc with ⟨rfl, rfl⟩ | ⟨rfl, rfl⟩ <;> rfl
  · rcases hc with ⟨rfl, rfl⟩ | ⟨rfl, rfl⟩
    · c07_eval [c07IsInst_false fin .Sum h, spliceNary_ne h r]
    · c07_eval [c07IsInst_false fin .Product h, spliceNary_ne h r]

/-- the same for `-`: `Sum((*left_exp.children, -right_exp))` / `Sum((left_exp, -right_exp))` -/
theorem c07Tm_minus (R : C07Run) (l : Expr) (fin : Bool) (r : Expr) (ts : List Tok) :
    R.tm { toks := ts, env := [("right_exp", .expr r false), ("left_exp", .expr l fin)], did := false }
      (.cond (.isInst "left_exp" [.Sum])
        (.mk1 .Sum (.tcat (.attr (.var "left_exp") "children") (.tcons false (.neg (.var "right_exp")) .tnil)))
        (.mk1 .Sum (.tcons false (.var "left_exp") (.tcons false (.neg (.var "right_exp")) .tnil)))) =
      (parseNeg r).map fun n => .expr (spliceNary .sum l n) false := by
  by_cases h : ∃ cs, l = .nary .sum cs
  · obtain ⟨cs, rfl⟩ := h
    have hi : c07IsInst (.expr (.nary .sum cs) fin) .Sum = true := rfl
    cases hn : parseNeg r <;> c07_eval [hi, hn] <;> rfl
  · cases hn : parseNeg r <;> c07_eval [c07IsInst_false fin .Sum h, hn]
    exact (spliceNary_ne h _).symm

/-! ### conditions and statements that test a literal token -/

theorem c07_isSym_cons (s : String) (t : Tok) (r : List Tok) : isSym s (t :: r) = isSym s [t] := by
  cases t <;> rfl

theorem c07_symMatch (s : String) (tok : Tok) :
    C07Tok.matches (.sym s) tok = isSym s [tok] := by
  cases tok <;> simp [C07Tok.matches, isSym]
  exact BEq.comm

/-- `pstate.is_next(_t)` for a literal token -/
theorem c07_isNext_sym (env : C07Env) (toks : List Tok) (n s : String) :
    c07EvalCond env toks (.isNext ⟨n, .sym s⟩) = pure (isSym s toks) := by
  cases toks with
  | nil => rfl
  | cons t r => rw [c07_isSym_cons, ← c07_symMatch]; rfl

/-- `pstate.is_at_end() or pstate.next_tag() is _t` for a literal token -/
theorem c07_endOrNext_sym (env : C07Env) (toks : List Tok) (n s : String) :
    c07EvalCond env toks (.or (.atEnd 0) (.nextTagIs 0 ⟨n, .sym s⟩)) =
      pure (toks.isEmpty || isSym s toks) := by
  cases toks with
  | nil => rfl
  | cons t r => rw [c07_isSym_cons, ← c07_symMatch]; rfl

section body
variable (R : C07Run) (st : C07St) (cs : List C07Cmd)

/-- `pstate.expect(_t)` for a literal token -/
theorem c07Run_expect_sym (n s : String) :
    c07RunBody R (.s (.expect ⟨n, .sym s⟩) :: cs) st =
      if isSym s st.toks then c07RunBody R cs st else throw .parse := by
  obtain ⟨toks, env, did⟩ := st
  cases toks with
  | nil => rfl
  | cons t r =>
    rw [c07_isSym_cons, ← c07_symMatch]
    cases h : C07Tok.matches (.sym s) t <;>
      simp only [c07RunBody, c07ExecCmd, c07ExecStmt, C07Tag.matches, h, Bool.false_eq_true, if_true,
        if_false] <;> rfl

/-- `pstate.expect_not_end()` -/
theorem c07Run_expectNotEnd :
    c07RunBody R (.s .expectNotEnd :: cs) st =
      if st.toks.isEmpty then throw .parse else c07RunBody R cs st := by
  cases h : st.toks.isEmpty <;>
    simp only [c07RunBody, c07ExecCmd, c07ExecStmt, h, Bool.false_eq_true, if_true, if_false] <;> rfl

/-- `v = left_exp` -/
theorem c07Tm_var_head (x : String) (v : C07Val) (ts : List Tok) (env : C07Env) (d : Bool) :
    R.tm { toks := ts, env := (x, v) :: env, did := d } (.var x) = pure v := by
  simp [C07Run.tm, c07EvalTm, c07Get]

end body

theorem c07_ite_bind {α β : Type} (c : Prop) [Decidable c] (a b : Except PErr α)
    (k : α → Except PErr β) : (if c then a else b) >>= k = if c then a >>= k else b >>= k := by
  split <;> rfl

theorem c07_throw_bind {α β : Type} (e : PErr) (k : α → Except PErr β) :
    (throw e : Except PErr α) >>= k = throw e := rfl

/-- run a body statement by statement; the recursive calls and the terms are left standing -/
macro "c07_body" : tactic => `(tactic|
  simp only [c07RunBody, c07ExecCmd, c07ExecStmts, ↓c07Run_expect_sym, ↓c07Run_expectNotEnd,
    c07ExecStmt, ↓c07_isNext_sym, ↓c07_endOrNext_sym, c07R, C07Lvl.get, C07Prec.get, c07M_exprDefault,
    bind_assoc, pure_bind, c07_ite_bind, c07_throw_bind, c07Tm_var_head, c07Set, List.tail_cons])

/-! ### the loop: which row a token selects -/

/-- the `if … elif …` chain of `parse_postfix`: of the rows whose tag test holds, the first whose
guard holds -/
theorem c07FindPost_eq_find? (comp : List (C07Tag × String)) (P : ParserPrec) (m : Nat) (tok : Tok)
    (rows : List C07PostRow) :
    c07FindPost comp P m tok rows =
      (rows.filter (·.test.holds comp tok)).find? (·.guardOk P m) := by
  induction rows with
  | nil => rfl
  | cons r rs ih =>
    cases h : r.test.holds comp tok <;> simp [c07FindPost, List.find?_cons, h, ih]
    cases r.guardOk P m <;> rfl

/-- a closed fact about the rows of the model's table (which rows' tag tests hold for given tokens,
which tags occur): string comparisons only, left to the kernel -/
macro "c07_find" : tactic => `(tactic| decide +kernel)

set_option hygiene false in
/-- a binary operator row: `left_exp = C(left_exp, self.parse_expression(pstate, L))` -/
macro "c07_binrow" row:ident tok:term:max lvl:term : tactic => `(tactic| (
  obtain ⟨ihE, ihP, ihL, ihA⟩ := ih
  simp only [postfixLoop, c07LoopT]
  by_cases hg : C07PostRow.guardOk $row P m = true
  · have hfind : c07FindPost c07ModelTable.compTable P m (.sym $tok) c07ModelTable.postfixes = some $row := by
      simp [C07PostRow.guardOk, C07Prec.get, $row:ident] at hg; c07_find; omega
    rw [hfind]
    simp [C07PostRow.guardOk, C07Prec.get, $row:ident] at hg
    simp only [$row:ident]
    cases hp : parseExpr P f $lvl rest with
    | error e => c07_body
    | ok v => obtain ⟨r, rest'⟩ := v; c07_body
  · have hfind : c07FindPost c07ModelTable.compTable P m (.sym $tok) c07ModelTable.postfixes = none := by
      simp [C07PostRow.guardOk, C07Prec.get, $row:ident] at hg; c07_find; omega
    rw [hfind]
    simp [C07PostRow.guardOk, C07Prec.get, $row:ident] at hg
    c07_body
    intro h; omega))

set_option hygiene false in
/-- a row that first passes its guard: reduce both sides to the body of the row -/
macro "c07_guard" row:ident tok:term:max : tactic => `(tactic| (
  obtain ⟨ihE, ihP, ihL, ihA⟩ := ih
  simp only [postfixLoop, c07LoopT]
  by_cases hg : C07PostRow.guardOk $row P m = true
  case neg =>
    have hfind : c07FindPost c07ModelTable.compTable P m (.sym $tok) c07ModelTable.postfixes
        = none := by
      simp [C07PostRow.guardOk, C07Prec.get, $row:ident] at hg; c07_find; omega
    rw [hfind]
    simp [C07PostRow.guardOk, C07Prec.get, $row:ident] at hg
    c07_body
    intro h; omega
  have hfind : c07FindPost c07ModelTable.compTable P m (.sym $tok) c07ModelTable.postfixes
      = some $row := by
    simp [C07PostRow.guardOk, C07Prec.get, $row:ident] at hg; c07_find; omega
  rw [hfind]
  simp [C07PostRow.guardOk, C07Prec.get, $row:ident] at hg
  simp only [$row:ident]))

/-- `row` is the one row whose tag test holds for `tok` -/
abbrev c07Selects (tok : Tok) (row : C07PostRow) : Prop :=
  c07ModelPostfixes.filter (·.test.holds c07ModelComp tok) = [row]

/-- the interpreter's loop and the hand-written one agree on the token lists that start with `tok` -/
def c07LoopOk (P : ParserPrec) (f : Nat) (tok : Tok) : Prop :=
  ∀ m l fin rest, c07LoopT c07ModelTable P (f+1) m l fin (tok :: rest) =
    postfixLoop P (f+1) m l fin (tok :: rest)

/-- no row's tag test holds: the loop ends -/
theorem c07LoopT_none {tok : Tok}
    (hrow : c07ModelPostfixes.filter (·.test.holds c07ModelComp tok) = [])
    (m : Nat) (l : Expr) (fin : Bool) (rest : List Tok) :
    c07LoopT c07ModelTable P (f+1) m l fin (tok :: rest) = pure (l, tok :: rest) := by
  rw [c07LoopT]
  show (match c07FindPost c07ModelComp P m tok c07ModelPostfixes with | none => _ | some row => _) = _
  rw [c07FindPost_eq_find?, hrow, c07Exit_model]
  rfl

/-- exactly one row's tag test holds for the token; `g` is the row's guard as the hand-written
parser states it (`P.call > m`, …), so that the right-hand side has the shape of the branch of
`postfixLoop`: a caller unfolds that branch by `show _ = ite g _ _` and goes on under the guard -/
theorem c07LoopT_row (ih : c07Agree P f) {tok : Tok} {row : C07PostRow} (hrow : c07Selects tok row)
    {m : Nat} (g : Prop) [Decidable g] (l : Expr) (fin : Bool) (rest : List Tok)
    (hg : row.guardOk P m = decide g := by rfl) :
    c07LoopT c07ModelTable P (f+1) m l fin (tok :: rest) =
      if g then do
        let st ← c07RunBody (c07R P f (some tok)) row.body
          { toks := tok :: rest, env := [("left_exp", .expr l fin)], did := false }
        let (l', fin') ← c07Left st.env
        if st.did then postfixLoop P f m l' fin' st.toks else pure (l', st.toks)
      else pure (l, tok :: rest) := by
  rw [c07LoopT]
  simp only [c07R_of_agree ih, ih.2.2.1, c07Exit_model]
  show (match c07FindPost c07ModelComp P m tok c07ModelPostfixes with | none => _ | some row => _) = _
  rw [c07FindPost_eq_find?, hrow, List.find?_cons, hg]
  by_cases h : g <;> simp only [h, decide_true, decide_false, if_true, if_false] <;> rfl

/-- a row `left_exp = C(left_exp, self.parse_expression(pstate, L))`: `tm` is the constructor
call, `build` the node it makes of the two operands.  The hypotheses are closed facts about the
row, found by evaluation. -/
theorem c07LoopT_infix (ih : c07Agree P f) {tok : Tok} {row : C07PostRow} (hrow : c07Selects tok row)
    (build : Expr → Expr → Expr) {x : String} {lvl : C07Prec} {tm : C07Tm}
    (hstrict : row.strict = true := by rfl)
    (hbody : row.body =
      [.s .advance, .s (.parse x (.prec lvl)), .s (.assign "left_exp" tm), .s .setDid] := by rfl)
    (htm : ∀ l fin r ts, (c07R P f (some tok)).tm
        { toks := ts, env := [(x, .expr r false), ("left_exp", .expr l fin)], did := false } tm =
      .ok (.expr (build l r) false) := by intros; rfl)
    (m : Nat) (l : Expr) (fin : Bool) (rest : List Tok) :
    c07LoopT c07ModelTable P (f+1) m l fin (tok :: rest) =
      if row.prec.get P > m then do
        let (r, rest') ← parseExpr P f (lvl.get P) rest
        postfixLoop P f m (build l r) false rest'
      else pure (l, tok :: rest) := by
  rw [c07LoopT_row ih hrow (row.prec.get P > m) l fin rest (by rw [C07PostRow.guardOk, hstrict]; rfl),
    hbody]
  simp only [c07RunBody, c07ExecCmd, c07ExecStmt, bind_assoc, pure_bind, c07Set, List.tail_cons, htm]
  rfl

/-! ### the rows that are not of that form

After `c07_body` the two sides have the same control structure (guard, end of input, the recursive
calls, `expect`); `congr` goes down it and closes the leaves by evaluation of the terms. -/

theorem c07L_minus (ih : c07Agree P f) (h : c07Selects (.sym "-") c07Post_minus) :
    c07LoopOk P f (.sym "-") := by
  intro m l fin rest
  rw [c07LoopT_row ih h (P.plus > m)]
  show _ = ite (P.plus > m) _ _
  simp only [c07Post_minus]
  c07_body
  simp only [c07Tm_minus]
  congr 2
  funext p
  cases parseNeg p.1 <;> rfl

theorem c07L_openpar (ih : c07Agree P f) (h : c07Selects (.sym "(") c07Post_openpar) :
    c07LoopOk P f (.sym "(") := by
  intro m l fin rest
  rw [c07LoopT_row ih h (P.call > m)]
  show _ = ite (P.call > m) _ _
  simp only [c07Post_openpar]
  c07_body
  congr 2
  funext ⟨⟨args, kn, kv⟩, rest'⟩
  cases kn <;> rfl

theorem c07L_openbracket (ih : c07Agree P f) (h : c07Selects (.sym "[") c07Post_openbracket) :
    c07LoopOk P f (.sym "[") := by
  intro m l fin rest
  rw [c07LoopT_row ih h (P.call > m)]
  show _ = ite (P.call > m) _ _
  simp only [c07Post_openbracket]
  c07_body
  congr 4

theorem c07L_if (ih : c07Agree P f) (h : c07Selects (.sym "if") c07Post_if) :
    c07LoopOk P f (.sym "if") := by
  intro m l fin rest
  rw [c07LoopT_row ih h (P.ifp > m)]
  show _ = ite (P.ifp > m) _ _
  simp only [c07Post_if]
  c07_body
  congr 6

theorem c07L_dot (ih : c07Agree P f) (h : c07Selects (.sym ".") c07Post_dot) :
    c07LoopOk P f (.sym ".") := by
  intro m l fin rest
  rw [c07LoopT_row ih h (P.call > m)]
  show _ = ite (P.call > m) _ _
  congr 1
  cases rest with
  | nil => rfl
  | cons t r => cases t <;> rfl

theorem c07L_colon (ih : c07Agree P f) (h : c07Selects (.sym ":") c07Post_colon) :
    c07LoopOk P f (.sym ":") := by
  intro m l fin rest
  rw [c07LoopT_row ih h (P.slice ≥ m)]
  show _ = ite (P.slice ≥ m) _ _
  congr 1
  split
  · rfl
  · next hl =>
    have hi := c07IsInst_false fin .Slice (fun ⟨cs, he⟩ => hl cs he)
    simp only [c07Post_colon]
    c07_body
    cases parseExpr P f P.slice rest with
    | ok p => c07_eval [hi, c07Jts_model]
    | error e => cases e <;> c07_eval [hi]

theorem c07L_comma (ih : c07Agree P f) (h : c07Selects (.sym ",") c07Post_comma) :
    c07LoopOk P f (.sym ",") := by
  intro m l fin rest
  rw [c07LoopT_row ih h (P.comma > m)]
  show _ = ite (P.comma > m) _ _
  simp only [c07Post_comma]
  c07_body
  congr 1
  by_cases ht : ∃ cs, l = .tuple cs
  · obtain ⟨cs, rfl⟩ := ht
    cases fin <;> congr 2 <;> funext p <;> rfl
  by_cases hl : ∃ cs, l = .list cs
  · obtain ⟨cs, rfl⟩ := hl
    congr 2
  c07_eval [c07IsInst_false fin .tuple ht, c07IsInst_false fin .list hl,
    c07IsInst_false fin .FinalizedContainer ⟨ht, hl⟩]
  congr 1
  · split
    · next h => split at h <;> first | exact absurd ⟨_, rfl⟩ ht | cases h
    · rfl
  · cases parseExpr P f P.comma rest with
    | error e => rfl
    | ok v =>
      simp only []
      split
      · next h => split at h <;> first | exact absurd ⟨_, rfl⟩ ht | cases h
      · rfl

/-! ### the other tokens, and one more unit of fuel -/

/-- a token that is no operator or punctuation mark ends the loop -/
theorem c07L_nonsym {tok : Tok} (h : ∀ s, tok ≠ .sym s) : c07LoopOk P f tok := by
  intro m l fin rest
  cases tok with
  | sym s => exact absurd rfl (h s)
  | _ => exact c07LoopT_none rfl m l fin rest

/-- the symbols `parse_postfix` knows with the rows they select, in the order of its branches -/
def c07PostRows : List (String × C07PostRow) :=
  [("(", c07Post_openpar), ("[", c07Post_openbracket), ("if", c07Post_if), (".", c07Post_dot),
   ("+", c07Post_plus), ("-", c07Post_minus), ("*", c07Post_times), ("//", c07Post_floordiv),
   ("/", c07Post_over), ("%", c07Post_modulo), ("**", c07Post_exp), ("and", c07Post_and),
   ("or", c07Post_or), ("|", c07Post_bitwiseor), ("^", c07Post_bitwisexor), ("&", c07Post_bitwiseand),
   (">>", c07Post_rightshift), ("<<", c07Post_leftshift), (">", c07Post_comp), (">=", c07Post_comp),
   ("<", c07Post_comp), ("<=", c07Post_comp), ("==", c07Post_comp), ("!=", c07Post_comp),
   (":", c07Post_colon), (",", c07Post_comma)]

/-- each of the 26 symbols passes the tag test of its row and of no other of the 21 rows.  Closed and
decidable (string comparisons, equality of rows); all symbols in one statement, so that the kernel
reads the table once -/
theorem c07PostRows_find : ∀ p ∈ c07PostRows, c07Selects (.sym p.1) p.2 := by
  c07_find

def c07PostSyms : List String := c07PostRows.map (·.1)

/-- the tags a test of `parse_postfix` accepts -/
def C07Test.toks (comp : List (C07Tag × String)) : C07Test → List C07Tok
  | .is t => [t.tok]
  | .inComp => comp.map (·.1.tok)

theorem C07Tok.matches_sym {k : C07Tok} {s : String} (h : k.matches (.sym s) = true) : k = .sym s := by
  cases k <;> first | cases h | exact congrArg C07Tok.sym (eq_of_beq h)

theorem C07Test.holds_sym {comp : List (C07Tag × String)} {t : C07Test} {s : String}
    (h : t.holds comp (.sym s) = true) : C07Tok.sym s ∈ t.toks comp := by
  cases t with
  | is t => exact List.mem_singleton.mpr (C07Tok.matches_sym h).symm
  | inComp =>
    simp only [C07Test.holds, c07CompOf, Option.isSome_map, List.find?_isSome] at h
    obtain ⟨r, hr, hm⟩ := h
    exact List.mem_map.mpr ⟨r, hr, C07Tok.matches_sym hm⟩

/-- any other symbol ends the loop.  On the hand-written side this is the catch-all branch of
`postfixLoop`: its equation carries one side condition `s = "…" → False` per literal branch before
it (closed at the end from `hs`), and `CmpOp.ofSym?` must fail on `s` (`hcmp`, the same way). -/
theorem c07L_othersym {s : String} (h : s ∉ c07PostSyms) : c07LoopOk P f (.sym s) := by
  intro m l fin rest
  have hs : ∀ t ∈ c07PostSyms, ¬s = t := fun t ht he => h (he ▸ ht)
  simp only [c07PostSyms, c07PostRows, List.map, List.forall_mem_cons, List.not_mem_nil, false_implies,
    implies_true, and_true] at hs
  have hcmp : CmpOp.ofSym? s = none := by
    unfold CmpOp.ofSym?
    split <;> first | rfl | simp only [not_true_eq_false, false_and, and_false] at hs
  have hrow : c07ModelPostfixes.filter (·.test.holds c07ModelComp (.sym s)) = [] := by
    refine List.filter_eq_nil_iff.mpr fun r hr hh => h ?_
    have hk : C07Tok.sym s ∈ c07ModelPostfixes.flatMap (·.test.toks c07ModelComp) :=
      List.mem_flatMap.mpr ⟨r, hr, C07Test.holds_sym hh⟩
    rw [show c07ModelPostfixes.flatMap (·.test.toks c07ModelComp) = c07PostSyms.map .sym from by
      c07_find] at hk
    obtain ⟨t, ht, he⟩ := List.mem_map.mp hk
    exact C07Tok.sym.inj he ▸ ht
  rw [c07LoopT_none hrow, postfixLoop, hcmp]
  all_goals simp only [hs, false_implies]

/-- the branches of `parse_postfix`, one by one -/
theorem c07L_syms (ih : c07Agree P f) :
    ∀ p ∈ c07PostRows, c07Selects (.sym p.1) p.2 → c07LoopOk P f (.sym p.1) := by
  simp only [c07PostRows, List.forall_mem_cons, List.not_mem_nil, false_implies, implies_true, and_true]
  and_intros
  · exact c07L_openpar ih
  · exact c07L_openbracket ih
  · exact c07L_if ih
  · exact c07L_dot ih
  · intro h; exact c07LoopT_infix ih h (spliceNary .sum)
      (htm := c07Tm_splice (.inl ⟨rfl, rfl⟩) _)
  · exact c07L_minus ih
  · intro h; exact c07LoopT_infix ih h (spliceNary .prod)
      (htm := c07Tm_splice (.inr ⟨rfl, rfl⟩) _)
  · intro h; exact c07LoopT_infix ih h (.bin .floordiv)
  · intro h; exact c07LoopT_infix ih h (.bin .quot)
  · intro h; exact c07LoopT_infix ih h (.bin .rem)
  · intro h; exact c07LoopT_infix ih h (.bin .pow)
  · intro h; exact c07LoopT_infix ih h (fun l r => .nary .land [l, r])
  · intro h; exact c07LoopT_infix ih h (fun l r => .nary .lor [l, r])
  · intro h; exact c07LoopT_infix ih h (fun l r => .nary .bor [l, r])
  · intro h; exact c07LoopT_infix ih h (fun l r => .nary .bxor [l, r])
  · intro h; exact c07LoopT_infix ih h (fun l r => .nary .band [l, r])
  · intro h; exact c07LoopT_infix ih h (.bin .rshift)
  · intro h; exact c07LoopT_infix ih h (.bin .lshift)
  · intro h; exact c07LoopT_infix ih h (.cmp .gt)
  · intro h; exact c07LoopT_infix ih h (.cmp .ge)
  · intro h; exact c07LoopT_infix ih h (.cmp .lt)
  · intro h; exact c07LoopT_infix ih h (.cmp .le)
  · intro h; exact c07LoopT_infix ih h (.cmp .eq)
  · intro h; exact c07LoopT_infix ih h (.cmp .ne)
  · exact c07L_colon ih
  · exact c07L_comma ih

/-- one more unit of fuel for the loop around `parse_postfix` -/
theorem c07L_step (ih : c07Agree P f) (tok : Tok) : c07LoopOk P f tok := by
  cases tok with
  | sym s =>
    by_cases hs : s ∈ c07PostSyms
    · obtain ⟨p, hp, rfl⟩ := List.mem_map.mp hs
      exact c07L_syms ih p hp (c07PostRows_find p hp)
    · exact c07L_othersym hs
  | _ => exact c07L_nonsym (by intro s h; cases h)

end PV
