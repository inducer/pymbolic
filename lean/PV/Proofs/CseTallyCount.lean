import PV.Model.CseTally
import PV.Proofs.CseShare
/-
  C12 helper: what `UseCountMapper` counts.  The walk of `useCount` and the memoising reference walk
  `c12Plan` skip at exactly the same places, and every place where they skip (an operation whose
  key has been seen before) ends up with a count of at least two, i.e. in `to_eliminate`.
-/
namespace PV

/-! ### the count table -/

/-- counts only grow -/
def Counts.le (c c' : Counts) : Prop :=
  ∀ k n, c.find k = some n → ∃ m, n ≤ m ∧ c'.find k = some m

theorem Counts.le_refl (c : Counts) : c.le c := fun _ n h => ⟨n, Nat.le_refl n, h⟩
theorem Counts.le_trans {a b c : Counts} (h1 : a.le b) (h2 : b.le c) : a.le c := by
  intro k n h
  obtain ⟨m, hm, h'⟩ := h1 k n h
  obtain ⟨m', hm', h''⟩ := h2 k m h'
  exact ⟨m', Nat.le_trans hm hm', h''⟩

theorem Counts.le_incr (k0 : CKey) : ∀ (c : Counts), c.le (c.incr k0)
  | [] => fun _ _ h => by simp [Counts.find] at h
  | (k', n') :: rest => by
    intro k n h
    simp only [Counts.incr]
    by_cases h0 : k'.eq k0 = true
    · simp only [h0, if_true, Counts.find] at h ⊢
      by_cases hk : k'.eq k = true
      · simp only [hk, if_true] at h ⊢
        injection h with h; subst h
        exact ⟨n' + 1, Nat.le_succ _, rfl⟩
      · simp only [hk, Bool.false_eq_true, if_false] at h ⊢
        exact ⟨n, Nat.le_refl n, h⟩
    · simp only [h0, Bool.false_eq_true, if_false, Counts.find] at h ⊢
      by_cases hk : k'.eq k = true
      · simp only [hk, if_true] at h ⊢
        exact ⟨n, Nat.le_refl n, h⟩
      · simp only [hk, Bool.false_eq_true, if_false] at h ⊢
        exact Counts.le_incr k0 rest k n h

theorem Counts.find_incr_self (k0 : CKey) : ∀ (c : Counts) (n : Nat), c.find k0 = some n →
    (c.incr k0).find k0 = some (n + 1)
  | [], _, h => by simp [Counts.find] at h
  | (k', n') :: rest, n, h => by
    simp only [Counts.find, Counts.incr] at h ⊢
    by_cases h0 : k'.eq k0 = true
    · simp only [h0, if_true] at h ⊢
      injection h with h; subst h
      simp [Counts.find, h0]
    · simp only [h0, Bool.false_eq_true, if_false] at h ⊢
      simp only [Counts.find, h0, Bool.false_eq_true, if_false]
      exact Counts.find_incr_self k0 rest n h

theorem Counts.find_incr_isSome (k0 k : CKey) : ∀ (c : Counts),
    ((c.incr k0).find k).isSome = (c.find k).isSome
  | [] => rfl
  | (k', n') :: rest => by
    simp only [Counts.incr]
    by_cases h0 : k'.eq k0 = true
    · simp only [h0, if_true, Counts.find]
      by_cases hk : k'.eq k = true <;> simp [hk]
    · simp only [h0, Bool.false_eq_true, if_false, Counts.find]
      by_cases hk : k'.eq k = true
      · simp [hk]
      · simp only [hk, Bool.false_eq_true, if_false]
        exact Counts.find_incr_isSome k0 k rest

theorem Counts.find_append (k0 : CKey) (n0 : Nat) (k : CKey) : ∀ (c : Counts),
    (c ++ [(k0, n0)]).find k =
      match c.find k with
      | some n => some n
      | none => if k0.eq k then some n0 else none
  | [] => by simp [Counts.find]
  | (k', n') :: rest => by
    simp only [List.cons_append, Counts.find]
    by_cases hk : k'.eq k = true
    · simp [hk]
    · simp only [hk, Bool.false_eq_true, if_false]
      exact Counts.find_append k0 n0 k rest

theorem Counts.le_append (k0 : CKey) (n0 : Nat) (c : Counts) : c.le (c ++ [(k0, n0)]) := by
  intro k n h
  refine ⟨n, Nat.le_refl n, ?_⟩
  rw [Counts.find_append, h]

theorem Counts.find_some_mem {k : CKey} {n : Nat} : ∀ {c : Counts}, c.find k = some n →
    ∃ k', (k', n) ∈ c ∧ k'.eq k = true
  | [], h => by simp [Counts.find] at h
  | (k0, n0) :: rest, h => by
    simp only [Counts.find] at h
    by_cases hk : k0.eq k = true
    · simp only [hk, if_true] at h
      injection h with h; subst h
      exact ⟨k0, by simp, hk⟩
    · simp only [hk, Bool.false_eq_true, if_false] at h
      obtain ⟨k', hm, he⟩ := Counts.find_some_mem h
      exact ⟨k', by simp [hm], he⟩

/-- a key counted at least twice is in `to_eliminate` -/
theorem inElim_of_find {cf : Counts} {k : CKey} {m : Nat} (h : cf.find k = some m) (hm : 2 ≤ m) :
    inElim (elimKeys cf) k = true := by
  obtain ⟨k', hmem, hk⟩ := Counts.find_some_mem h
  simp only [inElim, elimKeys, List.any_eq_true, List.mem_map, List.mem_filter, decide_eq_true_eq]
  exact ⟨k', ⟨(k', m), ⟨hmem, by show 1 < m; omega⟩, rfl⟩, hk⟩

/-- what every entry of a count table satisfies: counted at least once, under the key of a
simple expression -/
def CntOk (p : CKey × Nat) : Prop := 1 ≤ p.2 ∧ ∃ e0 : Expr, e0.simple = true ∧ p.1 = normalizedKey e0

theorem Counts.pos_incr (k0 : CKey) : ∀ (c : Counts), (∀ p ∈ c, CntOk p) →
    ∀ p ∈ c.incr k0, CntOk p
  | [], _ => fun _ hp => by simp [Counts.incr] at hp
  | (k', n') :: rest, h => by
    intro p hp
    simp only [Counts.incr] at hp
    have hr : ∀ p ∈ rest, CntOk p := fun p hp => h p (by simp [hp])
    by_cases h0 : k'.eq k0 = true
    · simp only [h0, if_true, List.mem_cons] at hp
      rcases hp with rfl | hp
      · have := h (k', n') (by simp)
        exact ⟨by simp, this.2⟩
      · exact hr p hp
    · simp only [h0, Bool.false_eq_true, if_false, List.mem_cons] at hp
      rcases hp with rfl | hp
      · exact h _ (by simp)
      · exact Counts.pos_incr k0 rest hr p hp

/-- the keys to eliminate are keys of simple expressions -/
def ElimKeys (elim : List CKey) : Prop :=
  ∀ k ∈ elim, ∃ e0 : Expr, e0.simple = true ∧ k = normalizedKey e0

theorem elimKeys_ok {cnt : Counts} (h : ∀ p ∈ cnt, CntOk p) : ElimKeys (elimKeys cnt) := by
  intro k hk
  simp only [elimKeys, List.mem_map, List.mem_filter] at hk
  obtain ⟨p, ⟨hp, _⟩, rfl⟩ := hk
  exact (h p hp).2

/-! ### memo membership -/

theorem c12Has_append (d : List Expr) (e x : Expr) :
    c12Has (d ++ [e]) x = (c12Has d x || c12SameKey e x) := by
  simp [c12Has, List.any_append]

theorem c12Has_cons (e : Expr) (P : List Expr) (x : Expr) :
    c12Has (e :: P) x = (c12SameKey e x || c12Has P x) := by
  simp [c12Has]

theorem c12Has_append_list (d d' : List Expr) (x : Expr) :
    c12Has (d ++ d') x = (c12Has d x || c12Has d' x) := by
  simp [c12Has, List.any_append]

theorem c12Has_mem {d : List Expr} {x : Expr} (h : c12Has d x = true) :
    ∃ s ∈ d, c12SameKey s x = true := by
  simpa [c12Has, List.any_eq_true] using h

theorem c12Has_of_mem {d : List Expr} {x s : Expr} (hs : s ∈ d) (h : c12SameKey s x = true) :
    c12Has d x = true := by
  simp only [c12Has, List.any_eq_true]; exact ⟨s, hs, h⟩

/-- an operation that is strictly smaller than every member of `P` has no key in `P` -/
theorem c12Has_false_of_size {P : List Expr} {e : Expr} (he : e.simple = true)
    (hP : ∀ p ∈ P, p.simple = true) (hs : ∀ p ∈ P, e.size < p.size) : c12Has P e = false := by
  cases h : c12Has P e with
  | false => rfl
  | true =>
    obtain ⟨s, hm, hk⟩ := c12Has_mem h
    have := keyEq_size (hP s hm) he hk
    have := hs s hm
    omega

/-- the key of a variable or constant is never the key of an operation -/
theorem leafKey_ne_op {l x : Expr} (hl : (∃ n, l = .var n) ∨ (∃ c, l = .const c))
    (hx : x.isCseOp = true) : (normalizedKey l).eq (normalizedKey x) = false := by
  rcases hl with ⟨n, rfl⟩ | ⟨c, rfl⟩ <;> cases x with
  | var _ | const _ => cases hx
  | nary o cs => cases o <;> rfl
  | _ => rfl

/-! ### the places where the reference walk skips -/

/-- the tagged operands of an operation node (the node rebuilt by `IdentityMapper`); what the
reference plan is compared with in the end-to-end induction (CseTallyJoint.lean) -/
def c12Rebuild (elim : List CKey) (T : Tbl) : Expr → Expr
  | .nary o cs => .nary o (applyTblL elim T cs)
  | .bin o a b => .bin o (applyTbl elim T a) (applyTbl elim T b)
  | .call f as => .call (applyTbl elim T f) (applyTblL elim T as)
  | e => e

mutual
/-- every memo hit of the reference walk is on a key of `elim` -/
def c12HitsElim (elim : List CKey) : Expr → List Expr → Bool
  | .nary o cs, d =>
      if c12Has d (.nary o cs) then inElim elim (normalizedKey (.nary o cs))
      else c12HitsElimL elim cs d
  | .bin o a b, d =>
      if c12Has d (.bin o a b) then inElim elim (normalizedKey (.bin o a b))
      else c12HitsElim elim a d && c12HitsElim elim b (c12Plan a d)
  | .call f as, d =>
      if c12Has d (.call f as) then inElim elim (normalizedKey (.call f as))
      else c12HitsElim elim f d && c12HitsElimL elim as (c12Plan f d)
  | _, _ => true
def c12HitsElimL (elim : List CKey) : List Expr → List Expr → Bool
  | [], _ => true
  | c :: cs, d => c12HitsElim elim c d && c12HitsElimL elim cs (c12Plan c d)
end

/-- invariant tying the count table to the memo `d` of the reference walk; `P` are the operations
in progress (counted already, not yet in the memo).  Where it is used every member of `P` is
larger than the node being walked, so none of them has its key (`c12Has_false_of_size`). -/
def UInv (cnt : Counts) (d P : List Expr) : Prop :=
  (∀ p ∈ cnt, CntOk p) ∧
  ∀ x, x.frag = true → x.isCseOp = true →
    (cnt.find (normalizedKey x)).isSome = (c12Has d x || c12Has P x)

theorem ucLeaf_plan {l : Expr} (hl : (∃ n, l = .var n) ∨ (∃ n, l = .const (.int n)))
    (cnt : Counts) (d P : List Expr) (hI : UInv cnt d P) :
    ∃ cnt', ucLeaf l cnt = .ok cnt' ∧ UInv cnt' d P ∧ cnt.le cnt' := by
  have hnl : l.hasList = false := by
    rcases hl with ⟨n, rfl⟩ | ⟨n, rfl⟩ <;> simp [Expr.hasList]
  simp only [ucLeaf, ucVisit, hnl, Bool.false_eq_true, if_false]
  cases hf : cnt.find (normalizedKey l) with
  | some n =>
    refine ⟨cnt.incr (normalizedKey l), rfl, ⟨Counts.pos_incr _ _ hI.1, ?_⟩, Counts.le_incr _ _⟩
    intro x hx ho
    rw [Counts.find_incr_isSome]
    exact hI.2 x hx ho
  | none =>
    refine ⟨cnt ++ [(normalizedKey l, 1)], rfl, ⟨?_, ?_⟩, Counts.le_append _ _ _⟩
    · intro p hp
      rcases List.mem_append.mp hp with hp | hp
      · exact hI.1 p hp
      · simp only [List.mem_singleton] at hp; subst hp
        refine ⟨by simp, l, ?_, rfl⟩
        rcases hl with ⟨n, rfl⟩ | ⟨n, rfl⟩ <;> simp [Expr.simple, Const.simple]
    · intro x hx ho
      rw [Counts.find_append, leafKey_ne_op (hl.imp_right fun ⟨n, h⟩ => ⟨_, h⟩) ho]
      have := hI.2 x hx ho
      cases hfx : cnt.find (normalizedKey x) with
      | some m => rw [hfx] at this; simpa using this
      | none => rw [hfx] at this; simpa using this

/-- the step shared by the three operation classes: what `visit` does at `e` -/
theorem ucVisit_op {e : Expr} (he : e.frag = true) (ho : e.isCseOp = true)
    (cnt : Counts) (d P : List Expr) (hI : UInv cnt d P)
    (hP : ∀ p ∈ P, p.simple = true) (hs : ∀ p ∈ P, e.size < p.size) :
    (c12Has d e = true ∧ ∃ n, 1 ≤ n ∧ cnt.find (normalizedKey e) = some n ∧
        ucVisit e cnt = .ok (false, cnt.incr (normalizedKey e)) ∧
        UInv (cnt.incr (normalizedKey e)) d P) ∨
    (c12Has d e = false ∧ ucVisit e cnt = .ok (true, cnt ++ [(normalizedKey e, 1)]) ∧
        UInv (cnt ++ [(normalizedKey e, 1)]) d (e :: P)) := by
  have hsimp := frag_simple e he
  have hnl := simple_nolist e hsimp
  have hPe := c12Has_false_of_size hsimp hP hs
  have hk := hI.2 e he ho
  rw [hPe, Bool.or_false] at hk
  simp only [ucVisit, hnl, Bool.false_eq_true, if_false]
  cases hf : cnt.find (normalizedKey e) with
  | some n =>
    rw [hf] at hk
    refine Or.inl ⟨by simpa using hk.symm, n, ?_, rfl, rfl, Counts.pos_incr _ _ hI.1, ?_⟩
    · obtain ⟨k', hm, _⟩ := Counts.find_some_mem hf
      exact (hI.1 _ hm).1
    · intro x hx hox
      rw [Counts.find_incr_isSome]
      exact hI.2 x hx hox
  | none =>
    rw [hf] at hk
    refine Or.inr ⟨by simpa using hk.symm, rfl, ?_, ?_⟩
    · intro p hp
      rcases List.mem_append.mp hp with hp | hp
      · exact hI.1 p hp
      · simp only [List.mem_singleton] at hp; subst hp
        exact ⟨by simp, e, hsimp, rfl⟩
    · intro x hx hox
      rw [Counts.find_append, c12Has_cons]
      have := hI.2 x hx hox
      simp only [c12SameKey]
      cases hfx : cnt.find (normalizedKey x) with
      | some m =>
        rw [hfx] at this
        revert this
        cases c12Has d x <;> cases c12Has P x <;>
          cases (normalizedKey e).eq (normalizedKey x) <;> simp
      | none =>
        rw [hfx] at this
        revert this
        cases c12Has d x <;> cases c12Has P x <;>
          cases (normalizedKey e).eq (normalizedKey x) <;> simp

/-- after the operands: the operation leaves the in-progress list and enters the memo -/
theorem UInv.finish {cnt : Counts} {d P : List Expr} {e : Expr} (h : UInv cnt d (e :: P)) :
    UInv cnt (d ++ [e]) P := by
  refine ⟨h.1, ?_⟩
  intro x hx ho
  rw [h.2 x hx ho, c12Has_append, c12Has_cons]
  cases c12Has d x <;> cases c12SameKey e x <;> cases c12Has P x <;> rfl

theorem hitsElim_of_repeat {e : Expr} {cnt : Counts} {n : Nat} (hn : 1 ≤ n)
    (hf : cnt.find (normalizedKey e) = some n) (cf : Counts)
    (hle : (cnt.incr (normalizedKey e)).le cf) : inElim (elimKeys cf) (normalizedKey e) = true := by
  obtain ⟨m, hm, hfm⟩ := hle _ _ (Counts.find_incr_self _ _ _ hf)
  exact inElim_of_find hfm (by omega)

/-- an operand is smaller than its node and than everything the node is smaller than -/
theorem size_lt_cons {n : Nat} {e : Expr} {P : List Expr} (h : n < e.size)
    (hs : ∀ p ∈ P, e.size < p.size) : ∀ p ∈ e :: P, n < p.size :=
  List.forall_mem_cons.2 ⟨h, fun p hp => Nat.lt_trans h (hs p hp)⟩

mutual
theorem useCount_plan : ∀ (e : Expr) (cnt : Counts) (d P : List Expr), e.frag = true →
    UInv cnt d P → (∀ p ∈ P, p.simple = true) → (∀ p ∈ P, e.size < p.size) →
    ∃ cnt', useCount e cnt = .ok cnt' ∧ UInv cnt' (c12Plan e d) P ∧ cnt.le cnt' ∧
      ∀ cf, cnt'.le cf → c12HitsElim (elimKeys cf) e d = true
  | .const (.int n), cnt, d, P, _, hI, _, _ => by
      obtain ⟨cnt', h1, h2, h3⟩ := ucLeaf_plan (l := .const (.int n)) (Or.inr ⟨n, rfl⟩) cnt d P hI
      refine ⟨cnt', ?_, ?_, h3, fun _ _ => by simp only [c12HitsElim]⟩
      · simp only [useCount]; exact h1
      · simp only [c12Plan]; exact h2
  | .var x, cnt, d, P, _, hI, _, _ => by
      obtain ⟨cnt', h1, h2, h3⟩ := ucLeaf_plan (l := .var x) (Or.inl ⟨x, rfl⟩) cnt d P hI
      refine ⟨cnt', ?_, ?_, h3, fun _ _ => by simp only [c12HitsElim]⟩
      · simp only [useCount]; exact h1
      · simp only [c12Plan]; exact h2
  | .nary o cs, cnt, d, P, he, hI, hP, hs => by
      have hfr := he
      simp only [Expr.frag, Bool.and_eq_true] at he
      have hop := isCseOp_nary he.1 cs
      rcases ucVisit_op hfr hop cnt d P hI hP hs with ⟨hh, n, hn, hf, hv, hI'⟩ | ⟨hh, hv, hI'⟩
      · refine ⟨cnt.incr (normalizedKey (.nary o cs)), by simp [useCount, hv, bind, Except.bind, pure, Except.pure], ?_,
          Counts.le_incr _ _, ?_⟩
        · simpa [c12Plan, hh] using hI'
        · intro cf hle
          simp only [c12HitsElim, hh, if_true]
          exact hitsElim_of_repeat hn hf cf hle
      · obtain ⟨cnt2, h1, h2, h3, h4⟩ := useCountL_plan cs _ d (.nary o cs :: P) he.2 hI'
          (List.forall_mem_cons.2 ⟨frag_simple _ hfr, hP⟩)
          (size_lt_cons (by simp only [Expr.size]; omega) hs)
        refine ⟨cnt2, by simp [useCount, hv, bind, Except.bind, h1], ?_,
          Counts.le_trans (Counts.le_append _ _ _) h3, ?_⟩
        · simp only [c12Plan, hh, Bool.false_eq_true, if_false]
          exact h2.finish
        · intro cf hle
          simp only [c12HitsElim, hh, Bool.false_eq_true, if_false]
          exact h4 cf hle
  | .bin o a b, cnt, d, P, he, hI, hP, hs => by
      have hfr := he
      simp only [Expr.frag, Bool.and_eq_true] at he
      have hdp := he.1.1
      have hop := isCseOp_bin hdp a b
      rcases ucVisit_op hfr hop cnt d P hI hP hs with ⟨hh, n, hn, hf, hv, hI'⟩ | ⟨hh, hv, hI'⟩
      · refine ⟨cnt.incr (normalizedKey (.bin o a b)), ?_, ?_, Counts.le_incr _ _, ?_⟩
        · cases o <;> cases hdp <;> (simp only [useCount, hv]; rfl)
        · simpa [c12Plan, hh] using hI'
        · intro cf hle
          simp only [c12HitsElim, hh, if_true]
          exact hitsElim_of_repeat hn hf cf hle
      · have hP' : ∀ p ∈ Expr.bin o a b :: P, p.simple = true :=
          List.forall_mem_cons.2 ⟨frag_simple _ hfr, hP⟩
        obtain ⟨cnt2, h1, h2, h3, h4⟩ := useCount_plan a _ d (.bin o a b :: P) he.1.2 hI' hP'
          (size_lt_cons (by simp only [Expr.size]; omega) hs)
        obtain ⟨cnt3, g1, g2, g3, g4⟩ := useCount_plan b cnt2 (c12Plan a d) (.bin o a b :: P) he.2
          h2 hP'
          (size_lt_cons (by simp only [Expr.size]; omega) hs)
        refine ⟨cnt3, ?_, ?_, Counts.le_trans (Counts.le_append _ _ _) (Counts.le_trans h3 g3), ?_⟩
        · cases o <;> cases hdp <;> simp only [useCount, hv, bind, Except.bind, if_true, h1, g1]
        · simp only [c12Plan, hh, Bool.false_eq_true, if_false]
          exact g2.finish
        · intro cf hle
          simp only [c12HitsElim, hh, Bool.false_eq_true, if_false, Bool.and_eq_true]
          exact ⟨h4 cf (Counts.le_trans g3 hle), g4 cf hle⟩
  | .call f as, cnt, d, P, he, hI, hP, hs => by
      have hfr := he
      simp only [Expr.frag, Bool.and_eq_true] at he
      have hop : (Expr.call f as).isCseOp = true := rfl
      rcases ucVisit_op hfr hop cnt d P hI hP hs with ⟨hh, n, hn, hf, hv, hI'⟩ | ⟨hh, hv, hI'⟩
      · refine ⟨cnt.incr (normalizedKey (.call f as)), by simp [useCount, hv, bind, Except.bind, pure, Except.pure], ?_,
          Counts.le_incr _ _, ?_⟩
        · simpa [c12Plan, hh] using hI'
        · intro cf hle
          simp only [c12HitsElim, hh, if_true]
          exact hitsElim_of_repeat hn hf cf hle
      · have hP' : ∀ p ∈ Expr.call f as :: P, p.simple = true :=
          List.forall_mem_cons.2 ⟨frag_simple _ hfr, hP⟩
        obtain ⟨cnt2, h1, h2, h3, h4⟩ := useCount_plan f _ d (.call f as :: P) he.1 hI' hP'
          (size_lt_cons (by simp only [Expr.size]; omega) hs)
        obtain ⟨cnt3, g1, g2, g3, g4⟩ := useCountL_plan as cnt2 (c12Plan f d) (.call f as :: P) he.2
          h2 hP'
          (size_lt_cons (by simp only [Expr.size]; omega) hs)
        refine ⟨cnt3, by simp [useCount, hv, bind, Except.bind, h1, g1], ?_,
          Counts.le_trans (Counts.le_append _ _ _) (Counts.le_trans h3 g3), ?_⟩
        · simp only [c12Plan, hh, Bool.false_eq_true, if_false]
          exact g2.finish
        · intro cf hle
          simp only [c12HitsElim, hh, Bool.false_eq_true, if_false, Bool.and_eq_true]
          exact ⟨h4 cf (Counts.le_trans g3 hle), g4 cf hle⟩
  | .const (.bool _), _, _, _, h, _, _, _ | .const (.flt ..), _, _, _, h, _, _, _
  | .const (.str _), _, _, _, h, _, _, _ | .const .none, _, _, _, h, _, _, _
  | .un .., _, _, _, h, _, _, _ | .cmp .., _, _, _, h, _, _, _ | .ite .., _, _, _, h, _, _, _
  | .callKw .., _, _, _, h, _, _, _ | .subscript .., _, _, _, h, _, _, _
  | .lookup .., _, _, _, h, _, _, _ | .cse .., _, _, _, h, _, _, _ | .subst .., _, _, _, h, _, _, _
  | .deriv .., _, _, _, h, _, _, _ | .slice _, _, _, _, h, _, _, _ | .nan, _, _, _, h, _, _, _
  | .wildcard, _, _, _, h, _, _, _ | .dotWild _, _, _, _, h, _, _, _
  | .starWild _, _, _, _, h, _, _, _ | .funcSym, _, _, _, h, _, _, _
  | .tuple _, _, _, _, h, _, _, _ | .list _, _, _, _, h, _, _, _ => by simp [Expr.frag] at h
theorem useCountL_plan : ∀ (cs : List Expr) (cnt : Counts) (d P : List Expr),
    Expr.fragL cs = true → UInv cnt d P → (∀ p ∈ P, p.simple = true) →
    (∀ p ∈ P, Expr.sizeL cs < p.size) →
    ∃ cnt', useCountL cs cnt = .ok cnt' ∧ UInv cnt' (c12PlanL cs d) P ∧ cnt.le cnt' ∧
      ∀ cf, cnt'.le cf → c12HitsElimL (elimKeys cf) cs d = true
  | [], cnt, d, P, _, hI, _, _ =>
      ⟨cnt, rfl, by simpa [c12PlanL] using hI, Counts.le_refl _, fun _ _ => by simp [c12HitsElimL]⟩
  | c :: cs, cnt, d, P, he, hI, hP, hs => by
      simp only [Expr.fragL, Bool.and_eq_true] at he
      obtain ⟨cnt1, h1, h2, h3, h4⟩ := useCount_plan c cnt d P he.1 hI hP
        (by intro p hp; have := hs p hp; simp only [Expr.sizeL] at this; omega)
      obtain ⟨cnt2, g1, g2, g3, g4⟩ := useCountL_plan cs cnt1 (c12Plan c d) P he.2 h2 hP
        (by intro p hp; have := hs p hp; simp only [Expr.sizeL] at this; omega)
      refine ⟨cnt2, by simp [useCountL, bind, Except.bind, h1, g1], by simpa [c12PlanL] using g2,
        Counts.le_trans h3 g3, ?_⟩
      intro cf hle
      simp only [c12HitsElimL, Bool.and_eq_true]
      exact ⟨h4 cf (Counts.le_trans g3 hle), g4 cf hle⟩
end

/-- **what the use counts mean**: counting a fragment list never fails, and with the final table
every memo hit of the reference walk is on a key counted more than once -/
theorem useCountL_hitsElim (es : List Expr) (hf : Expr.fragL es = true) :
    ∃ cnt, useCountL es [] = .ok cnt ∧ c12HitsElimL (elimKeys cnt) es [] = true ∧
      ElimKeys (elimKeys cnt) := by
  obtain ⟨cnt, h1, h2, _, h4⟩ := useCountL_plan es [] [] [] hf
    ⟨by intro p hp; simp at hp, by intro x _ _; simp [Counts.find, c12Has]⟩
    (by intro p hp; simp at hp) (by intro p hp; simp at hp)
  exact ⟨cnt, h1, h4 cnt (Counts.le_refl _), elimKeys_ok h2.1⟩

end PV
