import PV.Proofs.GATableSym
import PV.Proofs.GABits
/-
  C18 (T-gen): the table interpreter of PV/Model/GATable.lean run on the expected function table
  (PV/Proofs/GATableExpected.lean) IS the hand-written model of PV/Model/GA.lean — function by
  function, for all inputs.  Here: the bit-twiddling helpers and the blade-product weights.

  Every theorem is about ONE function body run by `c18RunFn` with an arbitrary callee resolver
  `callee`; what the body needs of the functions it calls is a hypothesis (`C18Has…`), discharged
  bottom-up in PV/Proofs/GATableLink.lean for the resolver `c18CallIn … (tail of the list)`.
-/
-- one `variable` line serves every statement of the file, and `c18sym` is handed rules that not
-- every run needs
set_option linter.unusedSectionVars false
set_option linter.unusedVariables false
set_option linter.unusedSimpArgs false
namespace PV.GA.C18T

section
variable {R : Type} [Add R] [Mul R] [Neg R] [OfNat R 0] [OfNat R 1]

/-- abbreviation: the run-time record of a function of the expected module -/
abbrev c18Rt (Γ : C18Ctx R) (fuel : Nat) (callee : C18Callee R) : C18Rt R :=
  { M := c18ExpectedModule, Γ := Γ, fuel := fuel, callee := callee }

/-! ## global names of the expected module -/

section Globals
attribute [local simp] c18Global c18ExpectedModule c18ClassOf c18ExpectedClasses c18AssocStr
  c18Builtins

@[simp] theorem c18Global_bit_count :
    (c18Global c18ExpectedModule "bit_count" : C18Res (C18Val R)) = .ok (.fn "bit_count") := by simp
@[simp] theorem c18Global_crs :
    (c18Global c18ExpectedModule "canonical_reordering_sign" : C18Res (C18Val R))
      = .ok (.fn "canonical_reordering_sign") := by simp
@[simp] theorem c18Global_smc :
    (c18Global c18ExpectedModule "_shared_metric_coeff" : C18Res (C18Val R))
      = .ok (.fn "_shared_metric_coeff") := by simp
@[simp] theorem c18Global_int :
    (c18Global c18ExpectedModule "int" : C18Res (C18Val R)) = .ok (.prim "int") := by simp
@[simp] theorem c18Global_len :
    (c18Global c18ExpectedModule "len" : C18Res (C18Val R)) = .ok (.prim "len") := by simp
@[simp] theorem c18Global_isinstance :
    (c18Global c18ExpectedModule "isinstance" : C18Res (C18Val R)) = .ok (.prim "isinstance") := by simp
@[simp] theorem c18Global_np :
    (c18Global c18ExpectedModule "np" : C18Res (C18Val R)) = .ok (.prim "numpy") := by simp
@[simp] theorem c18Global_dict :
    (c18Global c18ExpectedModule "dict" : C18Res (C18Val R)) = .ok (.prim "dict") := by simp
@[simp] theorem c18Global_tuple :
    (c18Global c18ExpectedModule "tuple" : C18Res (C18Val R)) = .ok (.prim "tuple") := by simp
@[simp] theorem c18Global_MultiVector :
    (c18Global c18ExpectedModule "MultiVector" : C18Res (C18Val R)) = .ok (.cls "MultiVector") := by simp
@[simp] theorem c18Global_NotImplemented :
    (c18Global c18ExpectedModule "NotImplemented" : C18Res (C18Val R)) = .ok .notImplemented := by simp
@[simp] theorem c18Global_cast :
    (c18Global c18ExpectedModule "_cast_or_ni" : C18Res (C18Val R)) = .ok (.fn "_cast_or_ni") := by simp
@[simp] theorem c18Global_hash :
    (c18Global c18ExpectedModule "hash" : C18Res (C18Val R)) = .ok (.prim "hash") := by simp
@[simp] theorem c18Global__GeometricProduct :
    (c18Global c18ExpectedModule "_GeometricProduct" : C18Res (C18Val R))
      = .ok (.cls "_GeometricProduct") := by simp
@[simp] theorem c18Global__OuterProduct :
    (c18Global c18ExpectedModule "_OuterProduct" : C18Res (C18Val R))
      = .ok (.cls "_OuterProduct") := by simp
@[simp] theorem c18Global__InnerProduct :
    (c18Global c18ExpectedModule "_InnerProduct" : C18Res (C18Val R))
      = .ok (.cls "_InnerProduct") := by simp
@[simp] theorem c18Global__LeftContractionProduct :
    (c18Global c18ExpectedModule "_LeftContractionProduct" : C18Res (C18Val R))
      = .ok (.cls "_LeftContractionProduct") := by simp
@[simp] theorem c18Global__RightContractionProduct :
    (c18Global c18ExpectedModule "_RightContractionProduct" : C18Res (C18Val R))
      = .ok (.cls "_RightContractionProduct") := by simp
@[simp] theorem c18Global__ScalarProduct :
    (c18Global c18ExpectedModule "_ScalarProduct" : C18Res (C18Val R))
      = .ok (.cls "_ScalarProduct") := by simp
@[simp] theorem c18Global_bool :
    (c18Global c18ExpectedModule "bool" : C18Res (C18Val R)) = .ok (.prim "bool") := by simp
@[simp] theorem c18Global_set :
    (c18Global c18ExpectedModule "set" : C18Res (C18Val R)) = .ok (.prim "set") := by simp

end Globals

/-! ## `bit_count` -/

theorem bit_count_loop (rt : C18Rt R) : ∀ (k i c : Nat), i < k →
    c18While (c18CondOf rt (.name "i"))
      (c18ExecList rt [
          .aug (.name "i") .band (.bin .sub (.name "i") (.nat 1)),
          .aug (.name "count") .add (.nat 1)])
      k [("i", .nat i), ("count", .nat c)]
      = .normal [("i", .nat 0), ("count", .nat (bitCountLoop i c))] := by
  intro k
  induction k with
  | zero => intro i c h; omega
  | succ k ih =>
    intro i c h
    unfold bitCountLoop
    by_cases hi : i = 0
    · subst hi
      rw [c18While_exit (env1 := [("i", .nat 0), ("count", .nat c)]) (by c18sym)]
      rfl
    · have h2 : i &&& (i - 1) < k := by
        have : i &&& (i - 1) ≤ i - 1 := Nat.and_le_right
        omega
      rw [c18While_iter (env1 := [("i", .nat i), ("count", .nat c)])
        (env2 := [("i", .nat (i &&& (i - 1))), ("count", .nat (c + 1))])
        (by c18sym [hi]) (by c18sym [show 1 ≤ i by omega])]
      simp only [hi, dite_false]
      exact ih _ _ h2

/-- **`bit_count` of the table is `bitCount`** -/
theorem c18_bit_count (Γ : C18Ctx R) (fuel : Nat) (callee : C18Callee R) (n : Nat) (h : n < fuel) :
    c18RunFn c18ExpectedModule Γ fuel callee c18X_bit_count [.nat n] [] = .ok (.nat (bitCount n)) := by
  apply c18RunFn_of_body rfl
  c18sym [c18X_bit_count]
  rw [bit_count_loop _ fuel n 0 h]
  c18sym [bitCount]

/-- what a body that calls `bit_count` needs of its callee -/
def C18HasBitCount (fuel : Nat) (callee : C18Callee R) : Prop :=
  ∀ n, n < fuel → callee "bit_count" [.nat n] [] = .ok (.nat (bitCount n))

/-! ## `canonical_reordering_sign` -/

theorem reorder_loop (Γ : C18Ctx R) (fuel : Nat) (callee : C18Callee R)
    (hbc : C18HasBitCount fuel callee) (b : Nat) : ∀ (k a s : Nat), a < k → a < fuel →
    c18While (c18CondOf (c18Rt Γ fuel callee) (.name "a_bits"))
      (c18ExecList (c18Rt Γ fuel callee) [
          .assign [.name "s"] false (.bin .add (.name "s")
            (.call (.name "bit_count") [(.bin .band (.name "a_bits") (.name "b_bits"))] [] [])),
          .assign [.name "a_bits"] false (.bin .shr (.name "a_bits") (.nat 1))])
      k [("a_bits", .nat a), ("b_bits", .nat b), ("s", .nat s)]
      = .normal [("a_bits", .nat 0), ("b_bits", .nat b), ("s", .nat (reorderLoop a b s))] := by
  intro k
  induction k with
  | zero => intro a s h; omega
  | succ k ih =>
    intro a s h hf
    unfold reorderLoop
    by_cases ha : a = 0
    · subst ha
      rw [c18While_exit (env1 := [("a_bits", .nat 0), ("b_bits", .nat b), ("s", .nat s)])
        (by c18sym)]
      rfl
    · have h2 : a >>> 1 < k := by
        rw [Nat.shiftRight_eq_div_pow]; omega
      have h3 : a >>> 1 < fuel := by
        rw [Nat.shiftRight_eq_div_pow]; omega
      have h4 : a &&& b < fuel := by
        have : a &&& b ≤ a := Nat.and_le_left
        omega
      rw [c18While_iter (env1 := [("a_bits", .nat a), ("b_bits", .nat b), ("s", .nat s)])
        (env2 := [("a_bits", .nat (a >>> 1)), ("b_bits", .nat b),
          ("s", .nat (s + bitCount (a &&& b)))])
        (by c18sym [ha]) (by c18sym [c18Apply, hbc _ h4])]
      simp only [ha, dite_false]
      exact ih _ _ h2 h3

/-- the value `canonical_reordering_sign` returns: the Python int `reorderSign a b` -/
theorem c18_crs (Γ : C18Ctx R) (fuel : Nat) (callee : C18Callee R)
    (hbc : C18HasBitCount fuel callee) (a b : Nat) (h : a < fuel) :
    c18RunFn c18ExpectedModule Γ fuel callee c18X_canonical_reordering_sign [.nat a, .nat b] []
      = .ok (.ofInt (reorderSign a b)) := by
  have h1 : a >>> 1 < fuel := by
    rw [Nat.shiftRight_eq_div_pow]; omega
  apply c18RunFn_of_body rfl
  c18sym [c18X_canonical_reordering_sign]
  rw [reorder_loop Γ fuel callee hbc b fuel (a >>> 1) 0 h1 h1]
  c18sym [reorderSign, reorderSignExp]
  rcases Nat.mod_two_eq_zero_or_one (reorderLoop (a >>> 1) b 0) with hs | hs <;> c18sym [hs]

/-- what a body that calls `canonical_reordering_sign` needs of its callee -/
def C18HasCrs (fuel : Nat) (callee : C18Callee R) : Prop :=
  ∀ a b, a < fuel →
    callee "canonical_reordering_sign" [.nat a, .nat b] [] = .ok (.ofInt (reorderSign a b))

/-! ## `_shared_metric_coeff` -/

/-- an int or coefficient value as a coefficient -/
def c18ValR : C18Val R → R
  | .nat n => c18OfNat n
  | .neg n => -(c18OfNat (n + 1))
  | .coef c => c
  | _ => 0

/-- the environment of the loop of `_shared_metric_coeff` -/
def smcEnv (sh idx : Nat) (rv bv : C18Val R) : C18Env R :=
  [("shared_bits", .nat sh), ("space", .space), ("result", rv), ("basis_idx", .nat idx),
   ("bit", bv)]

def smcBody : List C18Stmt := [
  .assign [.name "bit"] false (.bin .shl (.nat 1) (.name "basis_idx")),
  .ifThen (.bin .band (.name "shared_bits") (.name "bit"))
    [
      .assign [.name "result"] false (.bin .mul (.name "result") (.index (.attr (.name "space") "metric_matrix") [(.name "basis_idx"), (.name "basis_idx")])),
      .aug (.name "shared_bits") .bxor (.name "bit")
    ]
    [],
  .aug (.name "basis_idx") .add (.nat 1)]

theorem smc_body (rt : C18Rt R) (sh idx : Nat) (rv bv : C18Val R)
    (hrv : rv = .nat 1 ∨ ∃ r, rv = .coef r) :
    c18ExecList rt smcBody (smcEnv sh idx rv bv) =
      .normal (if sh &&& (1 <<< idx) ≠ 0
        then smcEnv (sh ^^^ (1 <<< idx)) (idx + 1) (.coef (c18ValR rv * rt.Γ.g idx))
          (.nat (1 <<< idx))
        else smcEnv sh (idx + 1) rv (.nat (1 <<< idx))) := by
  have hu : rv ≠ .unbound := by rcases hrv with rfl | ⟨r, rfl⟩ <;> simp
  have hmul : c18BinOp rt .mul rv (.coef (rt.Γ.g idx)) = .ok (.coef (c18ValR rv * rt.Γ.g idx)) := by
    rcases hrv with rfl | ⟨r, rfl⟩ <;> simp [c18ValR]
  c18sym [smcBody, smcEnv, hu, hmul, c18Branch_ok, C18Out.andThen_ite]
  split <;> simp_all

theorem smc_loop (rt : C18Rt R) : ∀ (f t idx : Nat) (rv bv : C18Val R),
    t < 2 ^ f → (rv = .nat 1 ∨ ∃ r, rv = .coef r) → ∀ k, f < k →
    ∃ env', c18While (c18CondOf rt (.name "shared_bits")) (c18ExecList rt smcBody) k
        (smcEnv (t <<< idx) idx rv bv) = .normal env' ∧
      c18Get "result" env' = some (if t = 0 then rv
        else .coef (smcLoop rt.Γ.g f (t <<< idx) idx (c18ValR rv))) := by
  intro f
  induction f with
  | zero =>
    intro t idx rv bv ht _ k hk
    have : t = 0 := by simpa using ht
    subst this
    obtain ⟨k, rfl⟩ : ∃ k', k = k' + 1 := ⟨k - 1, by omega⟩
    refine ⟨smcEnv 0 idx rv bv, ?_, by simp [smcEnv, c18Get]⟩
    rw [c18While_exit (env1 := smcEnv 0 idx rv bv) (by c18sym [smcEnv])]
  | succ n ih =>
    intro t idx rv bv ht hrv k hk
    obtain ⟨k, rfl⟩ : ∃ k', k = k' + 1 := ⟨k - 1, by omega⟩
    by_cases h0 : t = 0
    · subst h0
      refine ⟨smcEnv 0 idx rv bv, ?_, by simp [smcEnv, c18Get]⟩
      rw [c18While_exit (env1 := smcEnv 0 idx rv bv) (by c18sym [smcEnv])]
    · have hne : t <<< idx ≠ 0 := by rw [Ne, Nat.shiftLeft_eq_zero_iff]; exact h0
      have hlt : t / 2 < 2 ^ n := by rw [Nat.pow_succ] at ht; omega
      have hstep := smc_body rt (t <<< idx) idx rv bv hrv
      rw [c18While_iter (env1 := smcEnv (t <<< idx) idx rv bv) (by c18sym [smcEnv, hne]) hstep]
      simp only [h0, if_false]
      rw [smcLoop]
      simp only [hne, if_false]
      rcases Nat.mod_two_eq_zero_or_one t with h2 | h2
      · have hz : (t <<< idx &&& 1 <<< idx) = 0 := by rw [shl_and_one_shl, h2]; simp
        have ht2 : t / 2 ≠ 0 := by omega
        simp only [hz, ne_eq, not_true_eq_false, if_false]
        rw [shl_eq_half_shl_succ h2]
        obtain ⟨env', h1, h2'⟩ := ih (t / 2) (idx + 1) rv (.nat (1 <<< idx)) hlt hrv k (by omega)
        exact ⟨env', h1, by simpa [ht2] using h2'⟩
      · have hz : (t <<< idx &&& 1 <<< idx) ≠ 0 := by
          rw [shl_and_one_shl, h2, Ne, Nat.shiftLeft_eq_zero_iff]; omega
        simp only [hz, ne_eq, not_false_eq_true, if_true]
        rw [shl_xor_one_shl h2]
        obtain ⟨env', h1, h2'⟩ := ih (t / 2) (idx + 1) (.coef (c18ValR rv * rt.Γ.g idx))
          (.nat (1 <<< idx)) hlt (Or.inr ⟨_, rfl⟩) k (by omega)
        refine ⟨env', h1, ?_⟩
        rw [h2']
        by_cases ht2 : t / 2 = 0
        · simp [ht2, c18ValR]
          -- no bit is left: the model's loop stops at its next test, whatever fuel `n` it has
          cases n <;> simp [smcLoop]
        · simp [ht2, c18ValR]

/-- the value `_shared_metric_coeff` returns: the int `1` for the empty bitmap, a coefficient
otherwise -/
def c18SmcVal (g : Nat → R) (sh : Nat) : C18Val R :=
  if sh = 0 then .nat 1 else .coef (sharedMetricCoeff g sh)

theorem c18ValR_smcVal (g : Nat → R) (sh : Nat) : c18ValR (c18SmcVal g sh) = sharedMetricCoeff g sh := by
  unfold c18SmcVal
  by_cases h : sh = 0
  · subst h; simp [c18ValR, sharedMetricCoeff, smcLoop]
  · simp [h, c18ValR]

/-- **`_shared_metric_coeff` of the table is `sharedMetricCoeff`** -/
theorem c18_smc (Γ : C18Ctx R) (fuel : Nat) (callee : C18Callee R) (sh : Nat) (h : sh < fuel)
    (h2 : 2 ≤ fuel) :
    c18RunFn c18ExpectedModule Γ fuel callee c18X__shared_metric_coeff [.nat sh, .space] []
      = .ok (c18SmcVal Γ.g sh) := by
  have hf : sh.log2 + 1 < fuel := by
    by_cases h0 : sh = 0
    · subst h0; simp; omega
    · have := Nat.log2_lt h0 |>.mpr (Nat.lt_two_pow_self)
      omega
  obtain ⟨env', h1, h3⟩ := smc_loop (c18Rt Γ fuel callee) (sh.log2 + 1) sh 0 (.nat 1) .unbound
    Nat.lt_log2_self (Or.inl rfl) fuel hf
  simp only [Nat.shiftLeft_zero, smcEnv] at h1 h3
  apply c18RunFn_of_body rfl
  c18sym [c18X__shared_metric_coeff]
  simp only [smcBody] at h1
  rw [h1]
  c18sym [h3, c18SmcVal, sharedMetricCoeff, c18ValR]
  by_cases h0 : sh = 0 <;> simp [h0]

/-- what a body that calls `_shared_metric_coeff` needs of its callee -/
def C18HasSmc (Γ : C18Ctx R) (fuel : Nat) (callee : C18Callee R) : Prop :=
  ∀ sh, sh < fuel →
    callee "_shared_metric_coeff" [.nat sh, .space] [] = .ok (c18SmcVal Γ.g sh)

/-! ## the blade-product weights -/

section Weights
variable (Γ : C18Ctx R) (fuel : Nat) (callee : C18Callee R)

/-- `_OuterProduct.generic_blade_product_weight` (also bound to `orthogonal_…` by the class body) -/
theorem c18_wOuter (a b : Nat) :
    c18RunFn c18ExpectedModule Γ fuel callee c18X__OuterProduct_generic_blade_product_weight
      [.nat a, .nat b, .space] [] = .ok (.nat (if a &&& b ≠ 0 then 0 else 1)) := by
  apply c18RunFn_of_body rfl
  c18sym [c18X__OuterProduct_generic_blade_product_weight]

theorem c18_wGeometric (hs : C18HasSmc Γ fuel callee) (a b : Nat) (ha : a < fuel) :
    c18RunFn c18ExpectedModule Γ fuel callee c18X__GeometricProduct_orthogonal_blade_product_weight
      [.nat a, .nat b, .space] []
      = .ok (if a &&& b ≠ 0 then c18SmcVal Γ.g (a &&& b) else .nat 1) := by
  have hlt : a &&& b < fuel := Nat.lt_of_le_of_lt Nat.and_le_left ha
  apply c18RunFn_of_body rfl
  c18sym [c18X__GeometricProduct_orthogonal_blade_product_weight, hs _ hlt, c18Branch_ok,
    C18Out.andThen_ite, c18Ret_ite]
  split <;> rfl

theorem c18_wInner (hs : C18HasSmc Γ fuel callee) (a b : Nat) (ha : a < fuel) :
    c18RunFn c18ExpectedModule Γ fuel callee c18X__InnerProduct_orthogonal_blade_product_weight
      [.nat a, .nat b, .space] []
      = .ok (if a &&& b = a ∨ a &&& b = b then c18SmcVal Γ.g (a &&& b) else .nat 0) := by
  have hlt : a &&& b < fuel := Nat.lt_of_le_of_lt Nat.and_le_left ha
  apply c18RunFn_of_body rfl
  c18sym [c18X__InnerProduct_orthogonal_blade_product_weight, hs _ hlt, c18Branch_ok, c18Branch_ite,
    C18Res.ite_bind, C18Out.andThen_ite, c18Ret_ite]
  by_cases h1 : a &&& b = a <;> by_cases h2 : a &&& b = b <;> simp_all

theorem c18_wLeft (hs : C18HasSmc Γ fuel callee) (a b : Nat) (ha : a < fuel) :
    c18RunFn c18ExpectedModule Γ fuel callee
      c18X__LeftContractionProduct_orthogonal_blade_product_weight [.nat a, .nat b, .space] []
      = .ok (if a &&& b = a then c18SmcVal Γ.g (a &&& b) else .nat 0) := by
  have hlt : a &&& b < fuel := Nat.lt_of_le_of_lt Nat.and_le_left ha
  apply c18RunFn_of_body rfl
  c18sym [c18X__LeftContractionProduct_orthogonal_blade_product_weight, hs _ hlt, c18Branch_ok,
    C18Out.andThen_ite, c18Ret_ite]
  split <;> rfl

theorem c18_wRight (hs : C18HasSmc Γ fuel callee) (a b : Nat) (ha : a < fuel) :
    c18RunFn c18ExpectedModule Γ fuel callee
      c18X__RightContractionProduct_orthogonal_blade_product_weight [.nat a, .nat b, .space] []
      = .ok (if a &&& b = b then c18SmcVal Γ.g (a &&& b) else .nat 0) := by
  have hlt : a &&& b < fuel := Nat.lt_of_le_of_lt Nat.and_le_left ha
  apply c18RunFn_of_body rfl
  c18sym [c18X__RightContractionProduct_orthogonal_blade_product_weight, hs _ hlt, c18Branch_ok,
    C18Out.andThen_ite, c18Ret_ite]
  split <;> rfl

theorem c18_wScalar (hs : C18HasSmc Γ fuel callee) (a b : Nat) (ha : a < fuel) :
    c18RunFn c18ExpectedModule Γ fuel callee c18X__ScalarProduct_orthogonal_blade_product_weight
      [.nat a, .nat b, .space] []
      = .ok (if a = b then c18SmcVal Γ.g a else .nat 0) := by
  apply c18RunFn_of_body rfl
  c18sym [c18X__ScalarProduct_orthogonal_blade_product_weight, hs _ ha, c18Branch_ok,
    C18Out.andThen_ite, c18Ret_ite]
  split <;> rfl

/-- the five `generic_blade_product_weight`s of the products other than the outer one (spaces
with a non-diagonal metric) raise -/
theorem c18_wGeneric_raises (a b : Nat) :
    c18RunFn c18ExpectedModule Γ fuel callee c18X__GeometricProduct_generic_blade_product_weight
        [.nat a, .nat b, .space] [] = .raise "NotImplementedError" ∧
    c18RunFn c18ExpectedModule Γ fuel callee c18X__InnerProduct_generic_blade_product_weight
        [.nat a, .nat b, .space] [] = .raise "NotImplementedError" ∧
    c18RunFn c18ExpectedModule Γ fuel callee
        c18X__LeftContractionProduct_generic_blade_product_weight
        [.nat a, .nat b, .space] [] = .raise "NotImplementedError" ∧
    c18RunFn c18ExpectedModule Γ fuel callee
        c18X__RightContractionProduct_generic_blade_product_weight
        [.nat a, .nat b, .space] [] = .raise "NotImplementedError" ∧
    c18RunFn c18ExpectedModule Γ fuel callee c18X__ScalarProduct_generic_blade_product_weight
        [.nat a, .nat b, .space] [] = .raise "NotImplementedError" := by
  refine ⟨?_, ?_, ?_, ?_, ?_⟩ <;> exact c18RunFn_of_body rfl rfl

/-! ### the values are the model's weights -/

variable (g : Nat → R)

theorem c18ValR_wOuter (a b : Nat) :
    c18ValR (.nat (if a &&& b ≠ 0 then 0 else 1) : C18Val R) = wOuter g a b := by
  unfold wOuter; by_cases h : a &&& b = 0 <;> simp [h, c18ValR]

theorem c18ValR_wGeometric (a b : Nat) :
    c18ValR (if a &&& b ≠ 0 then c18SmcVal g (a &&& b) else .nat 1) = wGeometric g a b := by
  unfold wGeometric; by_cases h : a &&& b = 0 <;> simp [h, c18ValR_smcVal] <;> rfl

theorem c18ValR_wInner (a b : Nat) :
    c18ValR (if a &&& b = a ∨ a &&& b = b then c18SmcVal g (a &&& b) else .nat 0)
      = wInner g a b := by
  unfold wInner; by_cases h : a &&& b = a ∨ a &&& b = b <;> simp [h, c18ValR_smcVal] <;> rfl

theorem c18ValR_wLeft (a b : Nat) :
    c18ValR (if a &&& b = a then c18SmcVal g (a &&& b) else .nat 0)
      = wLeftContraction g a b := by
  unfold wLeftContraction; by_cases h : a &&& b = a <;> simp [h, c18ValR_smcVal] <;> rfl

theorem c18ValR_wRight (a b : Nat) :
    c18ValR (if a &&& b = b then c18SmcVal g (a &&& b) else .nat 0)
      = wRightContraction g a b := by
  unfold wRightContraction; by_cases h : a &&& b = b <;> simp [h, c18ValR_smcVal] <;> rfl

theorem c18ValR_wScalar (a b : Nat) :
    c18ValR (if a = b then c18SmcVal g a else .nat 0) = wScalar g a b := by
  unfold wScalar; by_cases h : a = b <;> simp [h, c18ValR_smcVal] <;> rfl

end Weights

end
end PV.GA.C18T
