import PV.Proofs.RewriteOps
import Mathlib.Tactic.FieldSimp
/-
  C11, part 7: `DistributeMapper`.  One `dist` step (the inner function of `map_product`)
  preserves the value whenever `collect` does; `map_quotient`, `map_power` (as repaired) and the
  whole mapper follow.
-/
namespace PV

universe u
variable {K : Type u} [Field K] [DecidableEq K]

/-- `f` preserves values -/
def Preserves (ρ : String → K) (f : Expr → RwR) : Prop :=
  ∀ e e' v, f e = .ok e' → evalK ρ e = some v → evalK ρ e' = some v

section
variable (ρ : String → K)

/-- the summands built by one `dist` step: `lead * dist(sc * rest')` for every operand `sc` -/
theorem dist_terms_value {f : Expr → RwR} {L R : K}
    (hf : ∀ sc t s, f sc = .ok t → evalK ρ sc = some s → evalK ρ t = some (L * (s * R))) :
    ∀ {scs terms : List Expr} {S : K}, List.Forall₂ (fun sc t => f sc = .ok t) scs terms →
      evalKL ρ false scs = some S → evalKL ρ false terms = some (L * (S * R))
  | _, _, _, .nil, h => by
      simp only [evalKL, unitK_false, Option.some.injEq] at h ⊢; subst h; ring
  | _, _, _, .cons hc hcs, h => by
      obtain ⟨a, b, ha, hb, rfl⟩ := evalKL_cons ρ h
      rw [evalKL_cons_mk ρ (hf _ _ _ hc ha) (dist_terms_value hf hcs hb)]
      simp only [opK_false, Option.some.injEq]; ring

/-- **One `dist` step preserves the value** (for any value-preserving `collect`). -/
theorem distLoop_value {collect : Expr → RwR} (hcol : Preserves ρ collect) :
    ∀ fuel, Preserves ρ (distLoop collect fuel)
  | 0, _, _, _, h, _ => by simp [distLoop, throw, throwThe, MonadExceptOf.throw] at h
  | fuel + 1, e, e', v, h, hv => by
      have ih := distLoop_value hcol fuel
      cases e with
      | nary o cs =>
        cases o with
        | prod =>
          simp only [distLoop] at h
          rw [evalK_prod] at hv
          have hsplit := List.takeWhile_append_dropWhile (p := fun c => !isSum c) (l := cs)
          split at h
          · exact flatProd_value ρ h hv
          · rename_i scs rest hdrop
            rw [hdrop] at hsplit
            rw [← hsplit] at hv
            obtain ⟨L, SR, hL, hSR, rfl⟩ := evalKL_append ρ hv
            obtain ⟨S, R, hS, hR, rfl⟩ := evalKL_cons ρ hSR
            rw [evalK_sum] at hS
            obtain ⟨rest', hrest, h⟩ := bind_ok h
            have hrest' : evalK ρ rest' = some R := by
              split at hrest
              · rename_i hemp
                simp only [pure, Except.pure] at hrest
                injection hrest with hrest; subst hrest
                simp only [List.isEmpty_iff] at hemp; subst hemp
                simp only [evalKL, Option.some.injEq] at hR; subst hR
                exact evalK_one ρ
              · exact ih _ _ _ hrest (by rw [evalK_prod]; exact hR)
            obtain ⟨terms, hterms, h⟩ := bind_ok h
            have := dist_terms_value ρ (L := L) (R := R) (f := fun sc => do
                let lead ← flatProd (cs.takeWhile (fun c => !isSum c))
                let p ← pyMul sc rest'
                let d ← distLoop collect fuel p
                pyMul lead d) (by
              intro sc t s hsc hs
              obtain ⟨lead, hlead, hsc⟩ := bind_ok hsc
              have hlead' := flatProd_value ρ hlead hL
              obtain ⟨p, hp, hsc⟩ := bind_ok hsc
              obtain ⟨d, hd, hsc⟩ := bind_ok hsc
              exact pyMul_value ρ hsc hlead' (ih _ _ _ hd (pyMul_value ρ hp hs hrest')))
              (mapM_ok hterms) hS
            simp only [opK_true]
            exact hcol _ _ _ h (flattenedSum_value ρ this)
          · simp [throw, throwThe, MonadExceptOf.throw] at h
        | _ =>
          simp only [distLoop, pure, Except.pure] at h
          injection h with h; subst h; exact hv
      | _ =>
        simp only [distLoop, pure, Except.pure] at h
        injection h with h; subst h; exact hv

/-! ### `collect` = constant folding followed by term collection -/

theorem distCollect_value {cfg : DistCfg} (fuel : Nat)
    (hcoll : ∀ params, cfg.collector = some params → Preserves ρ (collectM params fuel)) :
    Preserves ρ (distCollect cfg fuel) := by
  intro e e' v h hv
  unfold distCollect at h
  obtain ⟨f, hf, h⟩ := bind_ok h
  have hf' := foldM_value ρ true fuel _ _ _ hf hv
  split at h
  · rename_i params hp
    exact hcoll params hp _ _ _ h hf'
  · simp only [pure, Except.pure] at h
    injection h with h; subst h; exact hf'

/-! ### `map_power` -/

theorem evalKL_replicate {e : Expr} {x : K} (he : evalK ρ e = some x) : ∀ k : Nat,
    evalKL ρ true (List.replicate k e) = some (x ^ k)
  | 0 => by simp [evalKL]
  | k + 1 => by
      rw [List.replicate_succ, evalKL_cons_mk ρ he (evalKL_replicate he k)]
      simp only [opK_true, Option.some.injEq]; ring

/-- `flattened_product([child ** n for child in newbase.children])` -/
theorem pow_factors_value {n : Int} :
    ∀ {ncs ps : List Expr} {x : K},
      List.Forall₂ (fun c t => pyPow c (.const (.int n)) = .ok t) ncs ps →
      evalKL ρ true ncs = some x → ¬ (n < 0 ∧ x = 0) → evalKL ρ true ps = some (x ^ n)
  | _, _, _, .nil, h, _ => by
      simp only [evalKL, unitK_true, Option.some.injEq] at h ⊢; subst h; simp
  | _, _, _, .cons hc hcs, h, hdef => by
      obtain ⟨a, b, ha, hb, rfl⟩ := evalKL_cons ρ h
      simp only [opK_true] at hdef ⊢
      have ha' : ¬ (n < 0 ∧ a = 0) := fun hh => hdef ⟨hh.1, by rw [hh.2, zero_mul]⟩
      have hb' : ¬ (n < 0 ∧ b = 0) := fun hh => hdef ⟨hh.1, by rw [hh.2, mul_zero]⟩
      rw [evalKL_cons_mk ρ (pyPow_value ρ hc ha ha') (pow_factors_value hcs hb hb')]
      simp only [opK_true, mul_zpow]

theorem distM_const (cfg : DistCfg) : ∀ (fuel : Nat) (c : Const) (r : Expr),
    distM cfg fuel (.const c) = .ok r → r = .const c
  | 0, _, _, h => by simp [distM, throw, throwThe, MonadExceptOf.throw] at h
  | fuel + 1, c, r, h => by
      cases c <;> simp only [distM, idMap, pure, Except.pure, throw, throwThe,
        MonadExceptOf.throw] at h <;> first | contradiction | (injection h with h; exact h.symm)

theorem nary_forall₂_value {f : Expr → RwR} (hf : Preserves ρ f) {o : NaryOp}
    {xs xs' : List Expr} {v : K} (h : List.Forall₂ (fun c c' => f c = .ok c') xs xs')
    (hv : evalK ρ (.nary o xs) = some v) : evalK ρ (.nary o xs') = some v := by
  cases o <;> simp only [evalK] at hv ⊢ <;> try contradiction
  · exact evalKL_forall₂ ρ false hf h hv
  · exact evalKL_forall₂ ρ true hf h hv

/-- **`expand` / `distribute` preserve the value**, given that the term collector in use does
(`collector = none`, i.e. `distribute(e, commutative=False)`: no assumption at all). -/
theorem distM_value_of_collect (cfg : DistCfg)
    (hcoll : ∀ fuel params, cfg.collector = some params → Preserves ρ (collectM params fuel)) :
    ∀ fuel, Preserves ρ (distM cfg fuel)
  | 0, _, _, _, h, _ => by simp [distM, throw, throwThe, MonadExceptOf.throw] at h
  | fuel + 1, e, e', v, h, hv => by
      have ih := distM_value_of_collect cfg hcoll fuel
      have hc := distM_const cfg fuel
      have hcol := distCollect_value ρ (cfg := cfg) fuel (hcoll fuel)
      cases e with
      | nary o cs =>
        cases o with
        | sum =>
          simp only [distM] at h
          obtain ⟨cs', hcs, h⟩ := bind_ok h
          exact hcol _ _ _ h (nary_forall₂_value ρ ih (mapM_ok hcs) hv)
        | prod =>
          simp only [distM] at h
          obtain ⟨cs', hcs, h⟩ := bind_ok h
          exact distLoop_value ρ hcol fuel _ _ _ h (nary_forall₂_value ρ ih (mapM_ok hcs) hv)
        | _ => simp [evalK] at hv
      | bin o a b =>
        cases o with
        | quot =>
          simp only [distM] at h
          simp only [evalK] at hv
          obtain ⟨x, y, hx, hy, hy0, rfl⟩ := divK_some hv
          split at h
          · simp [throw, throwThe, MonadExceptOf.throw] at h
          · split at h
            · simp only [pure, Except.pure] at h
              injection h with h; subst h
              simp only [evalK, hx, hy]; exact divK_mk hy0
            · obtain ⟨den', hden, h⟩ := bind_ok h
              obtain ⟨num', hnum, h⟩ := bind_ok h
              have h1 : evalK ρ (.bin .quot one den') = some (1 / y) := by
                simp only [evalK, evalK_one ρ, ih _ _ _ hden hy]
                exact divK_mk hy0
              have := flatProd_value ρ h
                (evalKL_cons_mk ρ h1 (evalKL_singleton ρ (ih _ _ _ hnum hx)))
              rw [this]; simp only [opK_true, Option.some.injEq]
              field_simp
        | pow =>
          simp only [evalK] at hv
          obtain ⟨x, n, hx, hn, hdef, rfl⟩ := powK_some hv
          have := expInt?_some hn; subst this
          simp only [distM] at h
          obtain ⟨newbase, hnb, h⟩ := bind_ok h
          have hx' := ih _ _ _ hnb hx
          split at h
          · -- a product base that stays a product: the exponent goes to every factor
            rename_i ncs _
            obtain ⟨ps, hps, h⟩ := bind_ok h
            obtain ⟨fp, hfp, h⟩ := bind_ok h
            rw [evalK_prod] at hx'
            exact ih _ _ _ h (flatProd_value ρ hfp (pow_factors_value ρ (mapM_ok hps) hx' hdef))
          · split at h
            · rename_i hcond
              simp only [Bool.and_eq_true] at hcond
              have hpos : 0 < n := by
                have := hcond.1
                simp only [positiveIntConst, decide_eq_true_eq] at this; exact this
              obtain ⟨fp, hfp, h⟩ := bind_ok h
              have hfp' : evalK ρ fp = some (x ^ n) := by
                have := flatProd_value ρ hfp (evalKL_replicate ρ hx' n.toNat)
                rw [this]
                have hn' : n = (n.toNat : Int) := (Int.toNat_of_nonneg (by omega)).symm
                conv_rhs => rw [hn']
                rw [zpow_natCast]
              split at h
              · obtain ⟨xs', hxs, h⟩ := bind_ok h
                exact distLoop_value ρ hcol fuel _ _ _ h
                  (nary_forall₂_value ρ ih (mapM_ok hxs) hfp')
              · simp [throw, throwThe, MonadExceptOf.throw] at h
            · obtain ⟨ex', hex, h⟩ := bind_ok h
              have := hc _ _ hex; subst this
              simp only [pure, Except.pure] at h
              injection h with h; subst h
              rw [evalK_pow_lit, hx']; simp only [powK, hdef, if_false]
        | _ => simp [evalK] at hv
      | _ =>
        simp only [distM] at h
        exact idMap_value ρ hc ih h hv

/-- `distribute(e, commutative=False)` preserves the value — no assumption. -/
theorem distM_value_nocomm : ∀ fuel, Preserves ρ (distM { collector := none } fuel) :=
  distM_value_of_collect ρ { collector := none } (fun _ _ h => by cases h)

end

end PV
