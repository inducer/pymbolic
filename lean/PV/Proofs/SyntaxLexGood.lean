import PV.Proofs.SyntaxLexRender
import PV.Proofs.SyntaxPrint
/-
  C06.  Adjacency algebra for printed forms.  `Good ps`: a non-empty piece list that is lexed
  piece by piece whatever the printer puts after it (`followers`) and that starts with a
  character that may follow a space, `*`, `=`, an opening bracket … (`startChar`).  Good forms
  are closed under the separators, prefixes and suffixes the stringifier uses.
-/
set_option linter.unusedSimpArgs false
namespace PV.Lexer
open PV

/-! ### adjacency algebra -/

theorem nextCharN_append {x : List Piece} (y : List Piece) (nx : Option Char) :
    nextCharN (x ++ y) nx = nextCharN x (nextCharN y nx) := by
  cases x <;> rfl

theorem adjOkN_append : ∀ (x y : List Piece) (nx : Option Char),
    adjOkN (x ++ y) nx = (adjOkN x (nextCharN y nx) && adjOkN y nx)
  | [], y, nx => by simp [adjOkN]
  | p :: x, y, nx => by
    simp only [List.cons_append, adjOkN, adjOkN_append x y nx, nextCharN_append, Bool.and_assoc]

/-- what the printer puts after a complete sub-form -/
def followers : List (Option Char) :=
  [none, some ' ', some ')', some ']', some ',', some ':', some '*', some '(', some '[']

/-- first characters of printed forms -/
def startChar (c : Char) : Bool :=
  isIdStart c || isDigit c || c == '(' || c == '[' || c == '~' || c == '-' || c == ':'

/-- a printed (sub-)form: non-empty, lexed piece by piece whatever follower comes after it, and
starting with a character that can follow a space, `*`, `=` … -/
structure Good (ps : List Piece) : Prop where
  ne : ps ≠ []
  adj : ∀ nx ∈ followers, adjOkN ps nx = true
  start : ∃ c, nextCharN ps none = some c ∧ startChar c = true

theorem nextCharN_of_ne {ps : List Piece} (h : ps ≠ []) (a b : Option Char) :
    nextCharN ps a = nextCharN ps b := by
  cases ps with
  | nil => exact absurd rfl h
  | cons _ _ => rfl

/-- the start character of a printed form -/
def afterStart (o : Option Char) : Prop := ∃ c, o = some c ∧ startChar c = true

/-- a stretch of pieces: non-empty, starting in `L`, lexed piece by piece when followed by `R` -/
structure Seg (L R : Option Char → Prop) (ps : List Piece) : Prop where
  ne : ps ≠ []
  first : L (nextCharN ps none)
  adj : ∀ nx, R nx → adjOkN ps nx = true

theorem Seg.ofStart {L : Option Char → Prop} {ps : List Piece} (ne : ps ≠ [])
    (first : L (nextCharN ps none)) (adj : ∀ c, startChar c = true → adjOkN ps (some c) = true) :
    Seg L afterStart ps :=
  ⟨ne, first, fun _ h => by obtain ⟨c, rfl, hc⟩ := h; exact adj c hc⟩

theorem Seg.append {L M R : Option Char → Prop} {x y : List Piece} (hx : Seg L M x)
    (hy : Seg M R y) : Seg L R (x ++ y) := by
  refine ⟨by simp [hx.ne], ?_, fun nx hnx => ?_⟩
  · rw [nextCharN_append, nextCharN_of_ne hx.ne _ none]; exact hx.first
  · rw [adjOkN_append, nextCharN_of_ne hy.ne nx none, hx.adj _ hy.first, hy.adj nx hnx]; rfl

theorem Good.seg {ps : List Piece} (h : Good ps) : Seg afterStart (· ∈ followers) ps :=
  ⟨h.ne, h.start, h.adj⟩

theorem Seg.good {ps : List Piece} (h : Seg afterStart (· ∈ followers) ps) : Good ps :=
  ⟨h.ne, h.adj, h.first⟩

/-- a separator: starts with a follower character, may be followed by any start character -/
abbrev SepOk := Seg (· ∈ followers) afterStart
/-- a prefix: starts like a form, may be followed by any start character -/
abbrev PreOk := Seg afterStart afterStart
/-- a suffix: starts with a follower character, may be followed by any follower -/
abbrev SufOk := Seg (· ∈ followers) (· ∈ followers)

theorem Good.sep {x sep y : List Piece} (hx : Good x) (hs : SepOk sep) (hy : Good y) :
    Good (x ++ sep ++ y) := ((hx.seg.append hs).append hy.seg).good

theorem Good.pre {pre y : List Piece} (hp : PreOk pre) (hy : Good y) : Good (pre ++ y) :=
  (hp.append hy.seg).good

theorem Good.suf {x suf : List Piece} (hx : Good x) (hs : SufOk suf) : Good (x ++ suf) :=
  (hx.seg.append hs).good

/-! ### instances: the fixed pieces of the printer -/

theorem start_ne {c k : Char} (h : startChar c = true) (hk : startChar k = false) : c ≠ k := by
  rintro rfl; simp [h] at hk

theorem start_not_space {c : Char} (h : startChar c = true) : isSpace c = false := by
  simp [isSpace, start_ne h (show startChar ' ' = false by decide),
    start_ne h (show startChar '\n' = false by decide),
    start_ne h (show startChar '\t' = false by decide)]

theorem pieceOk_sym {s : String} {e : List Char × String × (Char → Bool)}
    (h : symEntry s.toList = some e) (nx : Option Char) :
    pieceOk (sy s) nx = nextNot e.2.2 nx := by
  simp [pieceOk, sy, h]

theorem nextNot_false (nx : Option Char) : nextNot (fun _ => false) nx = true := by
  cases nx <;> rfl

theorem symTable_space : ∀ e ∈ symTable, e.2.2 ' ' = false := by decide +kernel

theorem symTable_head : ∀ e ∈ symTable,
    (match e.1 with | c :: _ => !isSpace c | [] => false) = true := by decide +kernel

/-- `x op y` with spaces around the operator -/
theorem sepOk_spaced {op : String} (h : (symEntry op.toList).isSome = true) :
    SepOk [.sp, sy op, .sp] := by
  obtain ⟨e, he⟩ := Option.isSome_iff_exists.mp h
  obtain ⟨hm, h1⟩ := symEntry_some he
  have hsp := symTable_space e hm
  have hhd := symTable_head e hm
  rw [h1] at hhd
  refine .ofStart (by simp) (by simp [nextCharN, pieceChars, followers]) fun c hc => ?_
  have h2 : pieceOk (sy op) (some ' ') = true := by
    rw [pieceOk_sym he]; simp [nextNot, hsp]
  cases hop : op.toList with
  | nil => rw [hop] at hhd; cases hhd
  | cons k ks =>
    rw [hop] at hhd
    simp only [Bool.not_eq_true'] at hhd
    have h1' : pieceOk .sp (some k) = true := by simp [pieceOk, nextNot, hhd]
    have h3 : pieceOk .sp (some c) = true := by simp [pieceOk, nextNot, start_not_space hc]
    have hn : nextCharN [sy op, Piece.sp] (some c) = some k := by
      simp [nextCharN, pieceChars, sy, Tok.text, hop]
    have hn2 : nextCharN [Piece.sp] (some c) = some ' ' := rfl
    have hn3 : nextCharN [] (some c) = some c := rfl
    simp only [adjOkN, hn, hn2, hn3, h1', h2, h3, Bool.and_self]

/-- a search that succeeds at index `i` returns the entry at `i`; the searches below are
stated by index and evaluated by the kernel, because the elaborator does not get through the
character comparisons of a direct `rfl` -/
theorem find?_of_findIdx? {α : Type} {p : α → Bool} : ∀ {l : List α} {i : Nat},
    l.findIdx? p = some i → l.find? p = l[i]?
  | [], _, h => by simp at h
  | a :: l, i, h => by
    simp only [List.findIdx?_cons] at h
    simp only [List.find?_cons]
    split at h
    · cases h; simp [*]
    · rename_i hp
      obtain ⟨j, hj, rfl⟩ := Option.map_eq_some_iff.mp h
      simp [hp, find?_of_findIdx? hj]

/-! the look-ups of the symbols the printer emits; `i` is the position of the symbol in `symTable`
(the kernel checks it: a wrong position does not typecheck) -/

theorem se_lpar : symEntry "(".toList = some (['('], "openpar", fun _ => false) :=
  find?_of_findIdx? (i := 25) (by decide +kernel)
theorem se_rpar : symEntry ")".toList = some ([')'], "closepar", fun _ => false) :=
  find?_of_findIdx? (i := 26) (by decide +kernel)
theorem se_lbr : symEntry "[".toList = some (['['], "openbracket", fun _ => false) :=
  find?_of_findIdx? (i := 27) (by decide +kernel)
theorem se_rbr : symEntry "]".toList = some ([']'], "closebracket", fun _ => false) :=
  find?_of_findIdx? (i := 28) (by decide +kernel)
theorem se_comma : symEntry ",".toList = some ([','], "comma", fun _ => false) :=
  find?_of_findIdx? (i := 29) (by decide +kernel)
theorem se_colon : symEntry ":".toList = some ([':'], "colon", fun _ => false) :=
  find?_of_findIdx? (i := 31) (by decide +kernel)
theorem se_times : symEntry "*".toList = some (['*'], "times", fun c => c == '*') :=
  find?_of_findIdx? (i := 17) (by decide +kernel)
theorem se_pow : symEntry "**".toList = some (['*', '*'], "exp", fun _ => false) :=
  find?_of_findIdx? (i := 16) (by decide +kernel)
theorem se_bnot : symEntry "~".toList = some (['~'], "bitwisenot", fun _ => false) :=
  find?_of_findIdx? (i := 23) (by decide +kernel)
theorem se_minus : symEntry "-".toList = some (['-'], "minus", fun _ => false) :=
  find?_of_findIdx? (i := 15) (by decide +kernel)
theorem se_not : symEntry "not".toList = some (['n', 'o', 't'], "not", isWord) :=
  find?_of_findIdx? (i := 11) (by decide +kernel)
theorem se_dot : symEntry ".".toList = some (['.'], "dot", isDigit) :=
  find?_of_findIdx? (i := 30) (by decide +kernel)
theorem se_assign : symEntry "=".toList = some (['='], "assign", fun c => c == '=') :=
  find?_of_findIdx? (i := 8) (by decide +kernel)

/-- symbols that are lexed as themselves whatever follows -/
theorem pieceOk_free {s : String} {txt : List Char} {tag : String}
    (h : symEntry s.toList = some (txt, tag, fun _ => false)) (nx : Option Char) :
    pieceOk (sy s) nx = true := by
  rw [pieceOk_sym h]; exact nextNot_false nx

theorem nc_sy (s : String) (rest : List Piece) (nx : Option Char) :
    nextCharN (sy s :: rest) nx = s.toList.head? := rfl

theorem sepOk_times : SepOk [sy "*"] := by
  refine .ofStart (by simp) (by decide) fun c hc => ?_
  have : c ≠ '*' := start_ne hc (by decide)
  simp [adjOkN, nextCharN, pieceOk_sym se_times, nextNot, this]

theorem sepOk_pow : SepOk [sy "**"] :=
  ⟨by simp, by decide, fun _ _ => by simp [adjOkN, pieceOk_free se_pow]⟩

theorem sepOk_colon : SepOk [sy ":"] :=
  ⟨by simp, by decide, fun _ _ => by simp [adjOkN, pieceOk_free se_colon]⟩

theorem sepOk_lpar : SepOk [sy "("] :=
  ⟨by simp, by decide, fun _ _ => by simp [adjOkN, pieceOk_free se_lpar]⟩

theorem sepOk_lbr : SepOk [sy "["] :=
  ⟨by simp, by decide, fun _ _ => by simp [adjOkN, pieceOk_free se_lbr]⟩

theorem sepOk_comma : SepOk [sy ",", .sp] := by
  refine .ofStart (by simp) (by decide) fun c hc => ?_
  have h3 : pieceOk .sp (some c) = true := by simp [pieceOk, nextNot, start_not_space hc]
  have hn : nextCharN [Piece.sp] (some c) = some ' ' := rfl
  have hn3 : nextCharN [] (some c) = some c := rfl
  simp only [adjOkN, hn, hn3, pieceOk_free se_comma, h3, Bool.and_self]

theorem preOk_bnot : PreOk [sy "~"] :=
  ⟨by simp, ⟨'~', rfl, by decide⟩, fun _ _ => by simp [adjOkN, pieceOk_free se_bnot]⟩

theorem preOk_minus : PreOk [sy "-"] :=
  ⟨by simp, ⟨'-', rfl, by decide⟩, fun _ _ => by simp [adjOkN, pieceOk_free se_minus]⟩

theorem preOk_lpar : PreOk [sy "("] :=
  ⟨by simp, ⟨'(', rfl, by decide⟩, fun _ _ => by simp [adjOkN, pieceOk_free se_lpar]⟩

theorem preOk_lbr : PreOk [sy "["] :=
  ⟨by simp, ⟨'[', rfl, by decide⟩, fun _ _ => by simp [adjOkN, pieceOk_free se_lbr]⟩

theorem preOk_colon : PreOk [sy ":"] :=
  ⟨by simp, ⟨':', rfl, by decide⟩, fun _ _ => by simp [adjOkN, pieceOk_free se_colon]⟩

theorem preOk_not : PreOk [sy "not", .sp] := by
  refine .ofStart (by simp) ⟨'n', rfl, by decide⟩ fun c hc => ?_
  have h1 : pieceOk (sy "not") (some ' ') = true := by
    rw [pieceOk_sym se_not]; decide
  have h3 : pieceOk .sp (some c) = true := by simp [pieceOk, nextNot, start_not_space hc]
  have hn : nextCharN [Piece.sp] (some c) = some ' ' := rfl
  have hn3 : nextCharN [] (some c) = some c := rfl
  simp only [adjOkN, hn, hn3, h1, h3, Bool.and_self]

theorem sufOk_of_free {suf : List Piece} (hne : suf ≠ []) (hf : nextCharN suf none ∈ followers)
    (h : ∀ nx, adjOkN suf nx = true) : SufOk suf :=
  ⟨hne, hf, fun nx _ => h nx⟩

theorem sufOk_rpar : SufOk [sy ")"] :=
  sufOk_of_free (by simp) (by decide) fun nx => by simp [adjOkN, pieceOk_free se_rpar]

theorem sufOk_rbr : SufOk [sy "]"] :=
  sufOk_of_free (by simp) (by decide) fun nx => by simp [adjOkN, pieceOk_free se_rbr]

theorem sufOk_comma : SufOk [sy ","] :=
  sufOk_of_free (by simp) (by decide) fun nx => by simp [adjOkN, pieceOk_free se_comma]

theorem sufOk_colon : SufOk [sy ":"] :=
  sufOk_of_free (by simp) (by decide) fun nx => by simp [adjOkN, pieceOk_free se_colon]

theorem sufOk_call0 : SufOk [sy "(", sy ")"] :=
  sufOk_of_free (by simp) (by decide) fun nx => by
    simp [adjOkN, pieceOk_free se_lpar, pieceOk_free se_rpar]

theorem sufOk_index0 : SufOk [sy "[", sy "]"] :=
  sufOk_of_free (by simp) (by decide) fun nx => by
    simp [adjOkN, pieceOk_free se_lbr, pieceOk_free se_rbr]

/-! ### atoms -/

theorem followers_idCont : ∀ nx ∈ followers, nextNot isIdCont nx = true := by decide +kernel
theorem followers_intStop : ∀ nx ∈ followers, nextNot intStop nx = true := by decide +kernel
theorem followers_word : ∀ nx ∈ followers, nextNot isWord nx = true := by decide +kernel

theorem idStart_start {c : Char} (h : isIdStart c = true) : startChar c = true := by
  simp [startChar, h]
theorem digit_start {c : Char} (h : isDigit c = true) : startChar c = true := by
  simp [startChar, h]

theorem good_ident {x : String} (h : identOk x.toList = true) : Good [.tok (.ident x)] := by
  refine ⟨by simp, fun nx hnx => ?_, ?_⟩
  · simp [adjOkN, pieceOk, h, nextCharN, followers_idCont nx hnx]
  · cases hx : x.toList with
    | nil => rw [hx] at h; simp [identOk] at h
    | cons c r =>
      rw [hx] at h
      simp only [identOk, Bool.and_eq_true] at h
      exact ⟨c, by simp [nextCharN, pieceChars, Tok.text, hx], idStart_start h.1.1⟩

theorem toDigits_head (n : Nat) : ∃ d ds, Nat.toDigits 10 n = d :: ds ∧ isDigit d = true := by
  cases h : Nat.toDigits 10 n with
  | nil => exact absurd h Nat.toDigits_ne_nil
  | cons d ds =>
    refine ⟨d, ds, rfl, charIsDigit (Nat.isDigit_of_mem_toDigits (b := 10) (n := n)
      (by decide) (by decide) ?_)⟩
    rw [h]; exact List.mem_cons_self ..

/-- `int(text)` accepts at most 4300 digits -/
def natOk (n : Nat) : Bool := decide ((Nat.toDigits 10 n).length ≤ 4300)

theorem good_nat {n : Nat} (h : natOk n = true) : Good [.tok (.int n)] := by
  refine ⟨by simp, fun nx hnx => ?_, ?_⟩
  · simp only [natOk] at h
    simp [adjOkN, pieceOk, h, nextCharN, followers_intStop nx hnx]
  · obtain ⟨d, ds, hd, hdig⟩ := toDigits_head n
    exact ⟨d, by simp [nextCharN, pieceChars, Tok.text, hd], digit_start hdig⟩

/-- a float piece: its text has a `repr` shape and is read back as the piece's own token -/
def fltPieceOk (r : String) (n : Int) (d : Nat) : Bool := floatShape r.toList && floatTokIs r n d

theorem good_flt {r : String} {n : Int} {d : Nat} (h : fltPieceOk r n d = true) :
    Good [.tok (.flt r n d)] := by
  simp only [fltPieceOk, Bool.and_eq_true] at h
  refine ⟨by simp, fun nx hnx => ?_, ?_⟩
  · simp [adjOkN, pieceOk, h.1, h.2, nextCharN, followers_word nx hnx]
  · obtain ⟨c, _, hr, hc⟩ := floatShape_head h.1
    exact ⟨c, by simp [nextCharN, pieceChars, Tok.text, hr], digit_start hc⟩

theorem good_true : Good [.tok .tTrue] :=
  ⟨by simp, fun nx hnx => by simp [adjOkN, pieceOk, nextCharN, followers_word nx hnx],
    ⟨'T', rfl, by decide⟩⟩

theorem good_false : Good [.tok .tFalse] :=
  ⟨by simp, fun nx hnx => by simp [adjOkN, pieceOk, nextCharN, followers_word nx hnx],
    ⟨'F', rfl, by decide⟩⟩

theorem good_unit : Good [sy "(", sy ")"] :=
  ⟨by simp, fun nx _ => by simp [adjOkN, pieceOk_free se_lpar, pieceOk_free se_rpar],
    ⟨'(', rfl, by decide⟩⟩

theorem good_nil : Good [sy "[", sy "]"] :=
  ⟨by simp, fun nx _ => by simp [adjOkN, pieceOk_free se_lbr, pieceOk_free se_rbr],
    ⟨'[', rfl, by decide⟩⟩

theorem good_colon : Good [sy ":"] :=
  ⟨by simp, fun nx _ => by simp [adjOkN, pieceOk_free se_colon], ⟨':', rfl, by decide⟩⟩

/-! ### compound forms -/

theorem good_parens {x : Pieces} (h : Good x) : Good (parens x) := by
  have := (Good.pre preOk_lpar h).suf sufOk_rpar
  simpa [parens] using this

theorem good_parenIf {x : Pieces} (h : Good x) (enc my : Nat) : Good (parenIf x enc my) := by
  unfold parenIf; split
  · exact good_parens h
  · exact h

theorem good_forceWrap {x : Pieces} (h : Good x) (all : Bool) (e : Expr) :
    Good (forceWrap all e x) := by
  unfold forceWrap
  by_cases hc : (if all then isMultiplicative e else isDivision e) = true
  · rw [if_pos hc]; exact good_parens h
  · rw [if_neg hc]; exact h

theorem good_joinWith {sep : Pieces} (hs : SepOk sep) : ∀ (xs : List Pieces), xs ≠ [] →
    (∀ x ∈ xs, Good x) → Good (joinWith sep xs)
  | [], h, _ => absurd rfl h
  | [x], _, hx => by simpa [joinWith] using hx x (List.mem_cons_self ..)
  | x :: y :: ys, _, hx => by
    have ih := good_joinWith hs (y :: ys) (by simp) (fun z hz => hx z (List.mem_cons_of_mem _ hz))
    simpa [joinWith] using (hx x (List.mem_cons_self ..)).sep hs ih

/-- `f(a, b)` / `v[i, j]`: opening bracket, comma separated forms, closing bracket -/
theorem good_bracketed {fp : Pieces} (hf : Good fp) {o c : String} (ho : SepOk [sy o])
    (hc : SufOk [sy c]) (h0 : SufOk [sy o, sy c]) {ap : List Pieces} (ha : ∀ a ∈ ap, Good a) :
    Good (fp ++ [sy o] ++ joinWith [sy ",", .sp] ap ++ [sy c]) := by
  cases ap with
  | nil => simpa [joinWith] using hf.suf h0
  | cons a as => exact (hf.sep ho (good_joinWith sepOk_comma (a :: as) (by simp) ha)).suf hc

theorem good_seq {o c : String} (ho : PreOk [sy o]) (hc : SufOk [sy c]) (h0 : Good [sy o, sy c])
    {ap : List Pieces} (ha : ∀ a ∈ ap, Good a) :
    Good (sy o :: joinWith [sy ",", .sp] ap ++ [sy c]) := by
  cases ap with
  | nil => simpa [joinWith] using h0
  | cons a as =>
    have := (Good.pre ho (good_joinWith sepOk_comma (a :: as) (by simp) ha)).suf hc
    simpa using this

theorem good_slice : ∀ (parts : List Pieces), parts ≠ [] → (∀ p ∈ parts, p = [] ∨ Good p) →
    (joinWith [sy ":"] parts = [] ∨ Good (joinWith [sy ":"] parts)) ∧
      (2 ≤ parts.length → Good (joinWith [sy ":"] parts))
  | [], h, _ => absurd rfl h
  | [x], _, hx => by
    refine ⟨by simpa [joinWith] using hx x (List.mem_cons_self ..), fun h => ?_⟩
    simp at h
  | x :: y :: ys, _, hx => by
    have ih := (good_slice (y :: ys) (by simp) (fun z hz => hx z (List.mem_cons_of_mem _ hz))).1
    have hg : Good (joinWith [sy ":"] (x :: y :: ys)) := by
      simp only [joinWith]
      rcases hx x (List.mem_cons_self ..) with rfl | hgx
      · rcases ih with h0 | hg
        · rw [h0]; simpa using good_colon
        · simpa using Good.pre preOk_colon hg
      · rcases ih with h0 | hg
        · rw [h0]; simpa using hgx.suf sufOk_colon
        · exact hgx.sep sepOk_colon hg
    exact ⟨Or.inr hg, fun _ => hg⟩

/-! ### the dot of an attribute look-up -/

def endsInt : List Piece → Bool
  | [] => false
  | [.tok (.int _)] => true
  | [_] => false
  | _ :: p :: ps => endsInt (p :: ps)

theorem symTable_dot : ∀ e ∈ symTable, e.2.2 '.' = false := by decide +kernel

theorem pieceOk_dot {p : Piece} (h : pieceOk p (some ' ') = true) (hi : ∀ n, p ≠ .tok (.int n)) :
    pieceOk p (some '.') = true := by
  cases p with
  | sp => simp [pieceOk, nextNot] at h; exact absurd h (by decide)
  | tok t =>
    cases t with
    | int n => exact absurd rfl (hi n)
    | flt r n d =>
      simp only [pieceOk, Bool.and_eq_true] at h ⊢
      exact ⟨h.1, by decide⟩
    | imag s => simp [pieceOk] at h
    | ident s =>
      simp only [pieceOk, Bool.and_eq_true] at h ⊢
      exact ⟨h.1, by decide⟩
    | tTrue => simp only [pieceOk]; decide
    | tFalse => simp only [pieceOk]; decide
    | sym s =>
      simp only [pieceOk] at h ⊢
      cases he : symEntry s.toList with
      | none => rw [he] at h; cases h
      | some e =>
        simp only [nextNot, symTable_dot e (symEntry_some he).1, Bool.not_false]

theorem adj_dot : ∀ (ps : List Piece), adjOkN ps (some ' ') = true → endsInt ps = false →
    adjOkN ps (some '.') = true
  | [], _, _ => rfl
  | [p], h, he => by
    simp only [adjOkN, nextCharN, Bool.and_true] at h ⊢
    refine pieceOk_dot h (fun n hn => ?_)
    subst hn; simp [endsInt] at he
  | p :: q :: ps, h, he => by
    simp only [adjOkN, Bool.and_eq_true] at h ⊢
    have ih := adj_dot (q :: ps) (by simpa [adjOkN] using h.2) (by simpa [endsInt] using he)
    simp only [adjOkN, Bool.and_eq_true] at ih
    exact ⟨by simpa [nextCharN] using h.1, ih⟩

theorem good_lookup {ap : Pieces} (hx : Good ap) (hd : endsInt ap = false) {n : String}
    (hn : identOk n.toList = true) : Good (ap ++ [sy ".", .tok (.ident n)]) := by
  have hdot : adjOkN ap (some '.') = true := adj_dot ap (hx.adj _ (by decide)) hd
  have hgn := good_ident hn
  obtain ⟨c, hc, _⟩ := hgn.start
  have hcs : isDigit c = false := by
    cases hx' : n.toList with
    | nil => rw [hx'] at hn; simp [identOk] at hn
    | cons c' r =>
      rw [hx'] at hn
      simp only [identOk, Bool.and_eq_true] at hn
      simp [nextCharN, pieceChars, Tok.text, hx'] at hc
      subst hc
      exact idStart_not_digit hn.1.1
  refine ⟨by simp [hx.ne], fun nx hnx => ?_, ?_⟩
  · rw [adjOkN_append]
    have h1 : nextCharN [sy ".", Piece.tok (Tok.ident n)] nx = some '.' := rfl
    have h2 : adjOkN [sy ".", Piece.tok (Tok.ident n)] nx = true := by
      have hn1 : nextCharN [Piece.tok (Tok.ident n)] nx = some c := by
        rw [nextCharN_of_ne (by simp) nx none]; exact hc
      have := hgn.adj nx hnx
      simp only [adjOkN, hn1, pieceOk_sym se_dot, nextNot, hcs, Bool.not_false, Bool.true_and] at this ⊢
      exact this
    rw [h1, hdot, h2]; rfl
  · obtain ⟨d, hd', hds⟩ := hx.start
    refine ⟨d, ?_, hds⟩
    rw [nextCharN_append, nextCharN_of_ne hx.ne _ none]; exact hd'

end PV.Lexer
