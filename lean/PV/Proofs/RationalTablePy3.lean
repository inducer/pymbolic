import PV.Proofs.RationalTablePy2
/-!
  C19 (T-gen): `Rational` arithmetic and `primitives.quotient` as Python 3 runs them — the table
  regenerated from the current source, `/` being TRUE division.

  `Rational.__init__` leaves two floats in the object.  `traits(float)` is `FieldTraits()`, a class
  with no `lcm`, `gcd`, `get_unit`: the interpreter sends such a method call to the environment
  `ext` under the name `FieldTraits.<method>`; Python raises `AttributeError` (hypotheses `hlcm`,
  `hgcd`, `hunit`).  Every arithmetic method of a `Rational` with float fields ends there
  (PV/Properties/C19Rational.lean runs them on these lemmas).
-/
namespace PV.Algo
open PV.Generated
variable {α : Type}

/-- a `Rational` object whose fields are floats (`a/b`, `c/e`): what the constructor leaves under
Python 3 -/
def c19RatObjF (a b c e : Int) : C19V α :=
  .obj "Rational" ["Numerator", "Denominator"] [.frac a b, .frac c e]

/-- the other operand: a plain int or a `Rational` with float fields -/
inductive RatArgF where
  | int (i : Int)
  | rat (a b c e : Int)

def c19EncRatArgF : RatArgF → C19V α
  | .int i => .int i
  | .rat a b c e => c19RatObjF a b c e

/-- results on the wire (Python 3: only exceptions and plain ints occur) -/
def c19EncRatRes3 : RatRes → C19R (C19V α)
  | .int i => .ok (.int i)
  | .rat n d => .ok (.obj "Rational" ["Numerator", "Denominator"] [.int n, .int d])
  | .raise k => .raise k

section
variable (ops : C19Ops α) (ext : String → List (C19V α) → C19R (C19V α))

theorem c19ClassesOf_fieldTraits (ks : List String) (vs : List (C19V α)) :
    c19ClassesOf c19Table (.obj "FieldTraits" ks vs)
      = ["FieldTraits", "IntegralDomainTraits", "Traits"] := by
  simp only [c19ClassesOf, c19Table, List.find?, String.reduceEq, decide_false, decide_true]

/-- an attribute none of `FieldTraits`, `IntegralDomainTraits`, `Traits` defines -/
theorem c19Resolve_fieldTraits_none (attr : String)
    (a1 : "FieldTraits" ++ "." ++ attr ∉ c19Table.fns.map (·.name))
    (a2 : "IntegralDomainTraits" ++ "." ++ attr ∉ c19Table.fns.map (·.name))
    (a3 : "Traits" ++ "." ++ attr ∉ c19Table.fns.map (·.name)) :
    c19ResolveIn c19Table attr (c19ClassesOf c19Table (.obj "FieldTraits" [] [] : C19V α))
      = none := by
  rw [c19ClassesOf_fieldTraits, c19ResolveIn_cons, c19ResolveIn_cons, c19ResolveIn_cons,
    c19ResolveIn_nil, c19Table_absent _ a1, c19Table_absent _ a2, c19Table_absent _ a3]
  rfl

theorem c19p3_traits_frac_run (a b : Int) (n : Nat) :
    c19RunFn ops c19Table ext (n + 1) "traits.traits" [.frac a b]
      = .ok (.obj "FieldTraits" [] []) := by
  rw [c19RunFn_succ ops c19Table ext _ _ _ _ _ c19_find_traits rfl]
  simp only [c19Fn_traits_traits]
  have h1 : c19IsInst (c19CxAt ops c19Table ext n (n + 1)) (.frac a b) ["complex", "float"] = true := rfl
  have h2 : c19New (c19CxAt ops c19Table ext n (n + 1)) "FieldTraits" []
      = .ok (.obj "FieldTraits" [] []) :=
    c19New_plain _ _ (c19Resolve_fieldTraits_none "__init__" (by simp [c19Table_names])
      (by simp [c19Table_names]) (by simp [c19Table_names]))
  c19_run [c19Method, h1, h2]
  rfl

/-- `common_traits` of floats is `FieldTraits()` -/
theorem c19p3_commonTraits_fracs (n k : Nat) (a : Int × Int) (l : List (Int × Int)) :
    c19CommonTraits (c19CxAt ops c19Table ext (n + 1) k)
        ((a :: l).map fun p => (.frac p.1 p.2 : C19V α))
      = .ok (.obj "FieldTraits" [] []) := by
  refine c19CommonTraits_same _ _ _ ?_ ?_ (by simp)
  · intro v hv
    obtain ⟨p, _, rfl⟩ := List.mem_map.1 hv
    rw [c19CxAt_calls]
    exact c19p3_traits_frac_run ops ext p.1 p.2 n
  · have ht : C19Reading c19Table := .inl rfl
    rw [c19CxAt_tbl, ht.rules, c19TraitsTwo]
    simp only [String.reduceEq, if_true, c19CxAt_tbl, ht.isInst_obj, c19ClassesOf_fieldTraits,
      List.take_succ_cons, List.take_zero, List.any_cons, List.contains_cons, List.contains_nil,
      BEq.rfl, Bool.or_false, Bool.true_or]

theorem c19p3_commonTraits_two (n k : Nat) (a b c e : Int) :
    c19CommonTraits (c19CxAt ops c19Table ext (n + 1) k) [.frac a b, .frac c e]
      = .ok (.obj "FieldTraits" [] []) :=
  c19p3_commonTraits_fracs ops ext n k (a, b) [(c, e)]

theorem c19p3_commonTraits_four (n k : Nat) (a b c e a' b' c' e' : Int) :
    c19CommonTraits (c19CxAt ops c19Table ext (n + 1) k)
        [.frac a b, .frac c e, .frac a' b', .frac c' e']
      = .ok (.obj "FieldTraits" [] []) :=
  c19p3_commonTraits_fracs ops ext n k (a, b) [(c, e), (a', b'), (c', e')]

/-- a method `FieldTraits` does not have goes to the environment -/
theorem c19p3_Method_field (n k : Nat) (name q : String) (vs : List (C19V α))
    (hn : name ≠ "__class__") (hq : "FieldTraits" ++ "." ++ name = q)
    (hf : c19FindFn c19Table q = none)
    (hr : c19ResolveIn c19Table name (c19ClassesOf c19Table (.obj "FieldTraits" [] [] : C19V α))
      = none) :
    c19Method (c19CxAt ops c19Table ext (n + 1) k) (.obj "FieldTraits" [] []) name vs
      = ext q (.obj "FieldTraits" [] [] :: vs) := by
  rw [c19Method_unresolved (c19CxAt ops c19Table ext (n + 1) k) _ _ _ _ _ hn hr, hq]
  exact c19RunFn_ext ops c19Table ext n _ _ hf

theorem c19p3_Method_get_unit (n k : Nat) (vs : List (C19V α)) :
    c19Method (c19CxAt ops c19Table ext (n + 1) k) (.obj "FieldTraits" [] []) "get_unit" vs
      = ext "FieldTraits.get_unit" (.obj "FieldTraits" [] [] :: vs) :=
  c19p3_Method_field ops ext n k _ _ vs (by simp) (by simp)
    (c19Table_absent _ (by simp [c19Table_names]))
    (c19Resolve_fieldTraits_none _ (by simp [c19Table_names]) (by simp [c19Table_names])
      (by simp [c19Table_names]))
theorem c19p3_Method_lcm (n k : Nat) (vs : List (C19V α)) :
    c19Method (c19CxAt ops c19Table ext (n + 1) k) (.obj "FieldTraits" [] []) "lcm" vs
      = ext "FieldTraits.lcm" (.obj "FieldTraits" [] [] :: vs) :=
  c19p3_Method_field ops ext n k _ _ vs (by simp) (by simp)
    (c19Table_absent _ (by simp [c19Table_names]))
    (c19Resolve_fieldTraits_none _ (by simp [c19Table_names]) (by simp [c19Table_names])
      (by simp [c19Table_names]))
theorem c19p3_Method_gcd (n k : Nat) (vs : List (C19V α)) :
    c19Method (c19CxAt ops c19Table ext (n + 1) k) (.obj "FieldTraits" [] []) "gcd" vs
      = ext "FieldTraits.gcd" (.obj "FieldTraits" [] [] :: vs) :=
  c19p3_Method_field ops ext n k _ _ vs (by simp) (by simp)
    (c19Table_absent _ (by simp [c19Table_names]))
    (c19Resolve_fieldTraits_none _ (by simp [c19Table_names]) (by simp [c19Table_names])
      (by simp [c19Table_names]))

variable (hlcm : ∀ vs, ext "FieldTraits.lcm" vs = .raise "AttributeError")
  (hgcd : ∀ vs, ext "FieldTraits.gcd" vs = .raise "AttributeError")
  (hunit : ∀ vs, ext "FieldTraits.get_unit" vs = .raise "AttributeError")

include hunit in
/-- `Rational(x, <float>)`: `traits(denominator).get_unit` does not exist -/
theorem c19p3_rational_init_float (x : C19V α) (c e : Int) (n : Nat) :
    c19RunFn ops c19Table ext (n + 1 + 1) "Rational.__init__"
        [.obj "Rational" [] [], x, .frac c e] = .raise "AttributeError" := by
  rw [c19RunFn_succ ops c19Table ext _ _ _ _ _ c19_find_rational_init rfl]
  simp only [c19Fn_Rational___init__]
  c19_run [c19Call_traits, c19p3_traits_frac_run, c19p3_Method_get_unit, hunit]
  rfl

theorem c19p3_New_rational (n k : Nat) (a b : C19V α) :
    c19New (c19CxAt ops c19Table ext n k) "Rational" [a, b]
      = c19RunFn ops c19Table ext n "Rational.__init__" [.obj "Rational" [] [], a, b] :=
  C19Reading.new_rational ops ext (.inl rfl) n k a b

theorem c19p3_IsInst_int_rational (n k : Nat) (i : Int) :
    c19IsInst (c19CxAt ops c19Table ext n k) (.int i) ["Rational"] = false := by rfl
theorem c19p3_IsInst_rat_rational (n k : Nat) (a b c e : Int) :
    c19IsInst (c19CxAt ops c19Table ext n k) (c19RatObjF a b c e) ["Rational"] = true :=
  C19Reading.isInst_rational ops ext (.inl rfl) n k _ _
theorem c19p3_Attr_num (cx : C19Cx α) (a b c e : Int) :
    c19Attr cx (c19RatObjF a b c e) "Numerator" = .ok (.frac a b) := by rfl
theorem c19p3_Attr_den (cx : C19Cx α) (a b c e : Int) :
    c19Attr cx (c19RatObjF a b c e) "Denominator" = .ok (.frac c e) := by rfl

/-- the fields `Rational(other)` gets for a plain int, resp. the fields of a `Rational` operand -/
def RatArgF.fields : RatArgF → (Int × Int) × (Int × Int)
  | .int i => ((i, 1), (1, 1))
  | .rat a b c e => ((a, b), (c, e))

/-- an int operand becomes `Rational(i, 1)` (two floats), a `Rational` operand is taken as it
is -/
theorem c19p3_coerce (n k : Nat) (other : RatArgF) :
    c19IsInst (c19CxAt ops c19Table ext (n + 1 + 1 + 1) k) (c19EncRatArgF other) ["Rational"] = true
        ∧ (c19RatObjF other.fields.1.1 other.fields.1.2 other.fields.2.1 other.fields.2.2 : C19V α)
          = c19EncRatArgF other ∨
      c19IsInst (c19CxAt ops c19Table ext (n + 1 + 1 + 1) k) (c19EncRatArgF other) ["Rational"] = false
        ∧ c19New (c19CxAt ops c19Table ext (n + 1 + 1 + 1) k) "Rational"
            [c19EncRatArgF other, .int 1]
          = .ok (c19RatObjF other.fields.1.1 other.fields.1.2 other.fields.2.1 other.fields.2.2) := by
  cases other with
  | int i =>
    have h1 : c19RationalInit i 1 = some ((i, 1), (1, 1)) := by simp [c19RationalInit]
    exact .inr ⟨c19p3_IsInst_int_rational ops ext _ _ i, by
      rw [c19EncRatArgF, c19p3_New_rational, c19_rational_init_run, h1]; rfl⟩
  | rat a b c e => exact .inl ⟨c19p3_IsInst_rat_rational ops ext _ _ a b c e, rfl⟩

/-- a method whose body is the frame around a `try` body that raises `AttributeError` -/
theorem c19p3_frame_run (name fb : String) (tryB : List C19S) (M : Nat) (a b c e : Int)
    (other : RatArgF)
    (hf : c19FindFn c19Table name = some ⟨name, .method, ["self", "other"], [],
      c19RatFrame tryB fb⟩)
    (ht : c19ExecL (c19CxAt ops c19Table ext (M + 1 + 1 + 1) (M + 1 + 1 + 1 + 1)) tryB
        [("self", c19RatObjF a b c e), ("other", c19EncRatArgF other),
          ("newother", c19RatObjF other.fields.1.1 other.fields.1.2 other.fields.2.1
            other.fields.2.2), ("_handler", .int 0)]
      = .raise "AttributeError") :
    c19RunFn ops c19Table ext (M + 1 + 1 + 1 + 1) name [c19RatObjF a b c e, c19EncRatArgF other]
      = .raise "AttributeError" := by
  rw [c19RunFn_succ ops c19Table ext _ _ _ _ _ hf rfl]
  simp only []
  rw [c19_frame_run _ _ _ _ tryB fb _ (c19_coerce_run _ _ _ _ (c19p3_coerce ops ext M _ other)) ht
    (by simp) (by simp) (by simp)]
  rfl

/-- the body of `Rational.__add__` in the current source -/
theorem c19p3_rational_add_body_current :
    c19Fn_Rational___add__ = ⟨"Rational.__add__", .method, ["self", "other"], [],
      c19RatFrame c19RatAddSrc "Expression.__add__"⟩ := by rfl

/-- `__radd__ = __add__`: the same body under the other name -/
theorem c19p3_rational_radd_body_current :
    c19Fn_Rational___radd__ = { c19Fn_Rational___add__ with name := "Rational.__radd__" } := by rfl

/-- the body of `Rational.__mul__` in the current source -/
theorem c19p3_rational_mul_body_current :
    c19Fn_Rational___mul__ = ⟨"Rational.__mul__", .method, ["self", "other"], [],
      c19RatFrame c19RatMulSrc "Expression.__mul__"⟩ := by rfl

theorem c19p3_rational_rmul_body_current :
    c19Fn_Rational___rmul__ = { c19Fn_Rational___mul__ with name := "Rational.__rmul__" } := by rfl

include hlcm in
/-- the `try` body of `__add__` on float fields: `FieldTraits` has no `lcm` -/
theorem c19p3_add_try_run (N k : Nat) (a b c e a' b' c' e' : Int) (O : C19V α) :
    c19ExecL (c19CxAt ops c19Table ext (N + 1) k) c19RatAddSrc
        [("self", c19RatObjF a b c e), ("other", O), ("newother", c19RatObjF a' b' c' e'),
          ("_handler", .int 0)] = .raise "AttributeError" := by
  unfold c19RatAddSrc
  c19_run [c19p3_Attr_num, c19p3_Attr_den, c19p3_commonTraits_two, c19p3_Method_lcm, hlcm]

include hgcd in
/-- the `try` body of `__mul__` on float fields: `FieldTraits` has no `gcd` -/
theorem c19p3_mul_try_run (N k : Nat) (a b c e a' b' c' e' : Int) (O : C19V α) :
    c19ExecL (c19CxAt ops c19Table ext (N + 1) k) c19RatMulSrc
        [("self", c19RatObjF a b c e), ("other", O), ("newother", c19RatObjF a' b' c' e'),
          ("_handler", .int 0)] = .raise "AttributeError" := by
  unfold c19RatMulSrc
  c19_run [c19p3_Attr_num, c19p3_Attr_den, c19p3_commonTraits_four, c19p3_Method_gcd, hgcd]

include hlcm in
/-- **Python 3: `Rational.__add__` on float fields raises `AttributeError`** — whatever the
operand, a plain int or another `Rational` -/
theorem c19p3_rational_add_run (a b c e : Int) (other : RatArgF) (M : Nat) :
    c19RunFn ops c19Table ext (M + 1 + 1 + 1 + 1) "Rational.__add__"
        [c19RatObjF a b c e, c19EncRatArgF other] = .raise "AttributeError" :=
  c19p3_frame_run ops ext "Rational.__add__" "Expression.__add__" _ M a b c e other
    (by rw [c19_find_rational_add, c19p3_rational_add_body_current])
    (c19p3_add_try_run ops ext hlcm _ _ a b c e _ _ _ _ _)

theorem c19Neg_frac (cx : C19Cx α) (a b : Int) : c19Neg cx (.frac a b) = .ok (.frac (-a) b) := by rfl

include hunit in
/-- **Python 3: `-Rational(…)` raises `AttributeError`**: `Rational(-float, float)` asks
`FieldTraits()` for `get_unit` -/
theorem c19p3_rational_neg_run (a b c e : Int) (M : Nat) :
    c19RunFn ops c19Table ext (M + 1 + 1 + 1) "Rational.__neg__" [c19RatObjF a b c e]
      = .raise "AttributeError" := by
  rw [c19RunFn_succ ops c19Table ext _ _ _ _ _ c19_find_rational_neg rfl]
  simp only [c19Fn_Rational___neg__]
  c19_run [c19p3_Attr_num, c19p3_Attr_den, c19Neg_frac, c19p3_New_rational,
    c19p3_rational_init_float ops ext hunit]
  rfl

theorem c19Arith_frac_int (o : C19Ops α) (op : C19Bin) (a b k : Int) :
    c19Arith o op (.frac a b) (.int k) = c19Scalar o op (.frac a b) (.int k) := by rfl
theorem c19Scalar_pow_frac (o : C19Ops α) (a b k : Int) :
    c19Scalar o .pow (.frac a b) (.int k) =
      if 0 ≤ k then .ok (.frac (a ^ k.toNat) (b ^ k.toNat))
      else if a = 0 then .raise "ZeroDivisionError"
      else .ok (.frac (b ^ (-k).toNat) (a ^ (-k).toNat)) := by rfl

theorem c19p3_Method_add (n k : Nat) (a b c e : Int) (v : C19V α) :
    c19Method (c19CxAt ops c19Table ext n k) (c19RatObjF a b c e) "__add__" [v]
      = c19RunFn ops c19Table ext n "Rational.__add__" [c19RatObjF a b c e, v] :=
  C19Reading.method (.inl rfl) ops ext n k (by simp)
    (c19Resolve_rational _ _ (by simp) c19_find_rational_add)
theorem c19p3_Neg_rat (n k : Nat) (a b c e : Int) :
    c19Neg (c19CxAt ops c19Table ext n k) (c19RatObjF a b c e)
      = c19RunFn ops c19Table ext n "Rational.__neg__" [c19RatObjF a b c e] := by
  rw [c19RatObjF, c19Neg_obj]
  exact C19Reading.method (.inl rfl) ops ext n k (by simp)
    (c19Resolve_rational _ _ (by simp) c19_find_rational_neg)

def c19RatCoerceSelf3 : List C19S := [
  .ite (.not (.isinst (.var "other") ["Rational"])) [
    .assign (.pat (.name "other")) (.new "Rational" [(.var "other"), (.int 1)])] []]

theorem c19p3_rational_div_body_current :
    c19Fn_Rational___div__ = ⟨"Rational.__div__", .method, ["self", "other"], [],
      c19RatCoerceSelf3 ++ [
      .ret (.method (.var "self") "__mul__" [(.new "Rational" [(.attr (.var "other") "Denominator"), (.attr (.var "other") "Numerator")])])]⟩ := by rfl

theorem c19p3_rational_rdiv_body_current :
    c19Fn_Rational___rdiv__ = ⟨"Rational.__rdiv__", .method, ["self", "other"], [],
      c19RatCoerceSelf3 ++ [
      .ret (.method (.new "Rational" [(.attr (.var "self") "Denominator"), (.attr (.var "self") "Numerator")]) "__rmul__" [(.var "other")])]⟩ := by rfl

/-! ## `primitives.quotient` on two ints (Python 3) -/

/-- what `quotient(num, den)` returns on two Python ints: the numerator when `den - 1` is zero,
else what `Rational.__init__` leaves (two floats), `RuntimeError` for a zero denominator -/
def c19EncQuotientInt (num den : Int) : C19R (C19V α) :=
  if den - 1 = 0 then .ok (.int num) else c19EncRational (c19RationalInit num den)

theorem c19p3_IsInst_traits_euclid (n k : Nat) :
    c19IsInst (c19CxAt ops c19Table ext n k) (.obj "IntegerTraits" [] [])
      ["EuclideanRingTraits"] = true :=
  C19Reading.isInst_traits_euclid ops ext (.inl rfl) n k

/-! ## evaluation: `EvaluationMapper.map_quotient` (also the handler of a `Rational`) -/

theorem c19p3_Attr_numerator_prop (n k : Nat) (a b c e : Int) :
    c19Attr (c19CxAt ops c19Table ext n k) (c19RatObjF a b c e) "numerator"
      = c19RunFn ops c19Table ext n "Rational.numerator" [c19RatObjF a b c e] :=
  C19Reading.attr_prop (.inl rfl) ops ext n k
    (by simp only [c19AttrGet_cons, c19AttrGet_nil, String.reduceEq, if_false])
    (c19Resolve_rational _ _ (by simp) c19_find_rational_numerator) (by rfl)
theorem c19p3_Attr_denominator_prop (n k : Nat) (a b c e : Int) :
    c19Attr (c19CxAt ops c19Table ext n k) (c19RatObjF a b c e) "denominator"
      = c19RunFn ops c19Table ext n "Rational.denominator" [c19RatObjF a b c e] :=
  C19Reading.attr_prop (.inl rfl) ops ext n k
    (by simp only [c19AttrGet_cons, c19AttrGet_nil, String.reduceEq, if_false])
    (c19Resolve_rational _ _ (by simp) c19_find_rational_denominator) (by rfl)

theorem c19p3_numerator_run (a b c e : Int) (n : Nat) :
    c19RunFn ops c19Table ext (n + 1) "Rational.numerator" [c19RatObjF a b c e]
      = .ok (.frac a b) := by
  rw [c19RunFn_succ ops c19Table ext _ _ _ _ _ c19_find_rational_numerator rfl]
  simp only [c19Fn_Rational_numerator]
  c19_run [c19p3_Attr_num]
  rfl

theorem c19p3_denominator_run (a b c e : Int) (n : Nat) :
    c19RunFn ops c19Table ext (n + 1) "Rational.denominator" [c19RatObjF a b c e]
      = .ok (.frac c e) := by
  rw [c19RunFn_succ ops c19Table ext _ _ _ _ _ c19_find_rational_denominator rfl]
  simp only [c19Fn_Rational_denominator]
  c19_run [c19p3_Attr_den]
  rfl

theorem c19Arith_frac_frac (o : C19Ops α) (op : C19Bin) (a b c e : Int) :
    c19Arith o op (.frac a b) (.frac c e) = c19Scalar o op (.frac a b) (.frac c e) := by rfl
theorem c19Scalar_truediv_frac (o : C19Ops α) (a b c e : Int) :
    c19Scalar o .truediv (.frac a b) (.frac c e) =
      if c = 0 then .raise "ZeroDivisionError" else .ok (.frac (a * e) (b * c)) := by rfl

/-- **evaluating a `Rational` with float fields `a/b`, `c/e`** (`Mapper.map_rational` delegates to
`map_quotient`): `self.rec` of a number is the number, the result is the float
`(a/b) / (c/e)` -/
theorem c19p3_map_quotient_rational_run (ks : List String) (vs : List (C19V α)) (a b c e : Int)
    (hc : c ≠ 0)
    (hrec : ∀ p q : Int, ext "EvaluationMapper.rec" [c19EvalMapper ks vs, .frac p q] = .ok (.frac p q))
    (n : Nat) :
    c19RunFn ops c19Table ext (n + 1 + 1) "EvaluationMapper.map_quotient"
        [c19EvalMapper ks vs, c19RatObjF a b c e] = .ok (.frac (a * e) (b * c)) := by
  rw [c19RunFn_succ ops c19Table ext _ _ _ _ _ c19_find_map_quotient rfl]
  simp only [c19Fn_EvaluationMapper_map_quotient]
  c19_run [c19p3_Attr_numerator_prop, c19p3_numerator_run, c19p3_Attr_denominator_prop,
    c19p3_denominator_run, c19Method_eval_rec, hrec, c19Arith_frac_frac, c19Scalar_truediv_frac, hc]
  rfl

/-- a `Quotient` node over two Python ints -/
def c19QuotientObj (a b : Int) : C19V α :=
  .obj "Quotient" ["numerator", "denominator"] [.int a, .int b]

/-- **evaluating the `Quotient` node of two ints**: Python's `a / b` -/
theorem c19p3_map_quotient_node_run (ks : List String) (vs : List (C19V α)) (a b : Int)
    (hrec : ∀ p : Int, ext "EvaluationMapper.rec" [c19EvalMapper ks vs, .int p] = .ok (.int p))
    (n : Nat) :
    c19RunFn ops c19Table ext (n + 1 + 1) "EvaluationMapper.map_quotient"
        [c19EvalMapper ks vs, c19QuotientObj a b]
      = if b = 0 then .raise "ZeroDivisionError" else .ok (.frac a b) := by
  rw [c19RunFn_succ ops c19Table ext _ _ _ _ _ c19_find_map_quotient rfl]
  simp only [c19Fn_EvaluationMapper_map_quotient]
  have h1 : ∀ cx : C19Cx α, c19Attr cx (c19QuotientObj a b) "numerator" = .ok (.int a) := fun _ => rfl
  have h2 : ∀ cx : C19Cx α, c19Attr cx (c19QuotientObj a b) "denominator" = .ok (.int b) := fun _ => rfl
  c19_run [h1, h2, c19Method_eval_rec, hrec]
  split <;> rfl

end
end PV.Algo
