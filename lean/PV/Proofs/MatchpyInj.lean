import PV.Proofs.MatchpyRepl
import PV.Proofs.MatchpyExact
/-
  C16, matchpy bridge: on well-formed terms without variable names (what `toM` and matchpy's own
  rebuilding produce from a converted subject) `fromM` reflects equality: two terms are `==` exactly
  when their images are `==`.  Hence the keys of a captured `Multiset` (pairwise different terms)
  have pairwise different images, and the hypothesis of the multiplicity law holds.
-/
namespace PV.Matchpy
open PV

mutual
/-- the term a tree is embedded as (no flattening, no sorting; a tuple becomes a `TupleOp`) -/
def toRaw : Expr → MTerm
  | .const c => .scalar c none
  | .var x => .op .variable [.id x none] none
  | .nary o cs =>
      match mopOfNary o with
      | some mo => .op mo (toRawL cs) none
      | none => .wild .dot none
  | .bin o a b => .op (mopOfBin o) [toRaw a, toRaw b] none
  | .un o a => .op (mopOfUn o) [toRaw a] none
  | .cmp o a b => .op .comparison [toRaw a, .cmpOp o.sym none, toRaw b] none
  | .ite c t e => .op .ite [toRaw c, toRaw t, toRaw e] none
  | .call f as => .op .call [toRaw f, .op .tupleOp (toRawL as) none] none
  | .subscript a i => .op .subscript [toRaw a, toRaw i] none
  | .tuple cs => .op .tupleOp (toRawL cs) none
  | _ => .wild .dot none
def toRawL : List Expr → List MTerm
  | [] => []
  | c :: cs => toRaw c :: toRawL cs
end

mutual
/-- the trees that are images of terms -/
def frag : Expr → Bool
  | .const _ => true
  | .var _ => true
  | .nary o cs => (mopOfNary o).isSome && fragL cs
  | .bin _ a b => frag a && frag b
  | .un _ a => frag a
  | .cmp _ a b => frag a && frag b
  | .ite c t e => frag c && frag t && frag e
  | .call f as => frag f && fragL as
  | .subscript a i => frag a && frag i
  | .tuple cs => fragL cs
  | _ => false
def fragL : List Expr → Bool
  | [] => true
  | c :: cs => frag c && fragL cs
end

theorem cmp_sym_inj (o o' : CmpOp) : (o.sym == o'.sym) = (o == o') := by
  cases o <;> cases o' <;> decide

theorem eq_op_ne {o o' : MOp} (h : o ≠ o') (as as' : List MTerm) (v v' : Option String) :
    MTerm.eq (.op o as v) (.op o' as' v') = false := by
  have : (o == o') = false := by simpa using h
  simp [MTerm.eq, this]

/-- `==` of the embedded terms is `==` of the trees -/
theorem eq_toRaw_aux : ∀ n : Nat,
    (∀ a : Expr, a.size ≤ n → ∀ b, frag a = true → frag b = true →
      MTerm.eq (toRaw a) (toRaw b) = a.pyEq b) ∧
    (∀ as : List Expr, Expr.sizeL as ≤ n → ∀ bs, fragL as = true → fragL bs = true →
      MTerm.eqL (toRawL as) (toRawL bs) = Expr.pyEqL as bs) := by
  intro n
  induction n with
  | zero =>
    refine ⟨fun a ha => ?_, fun as has bs _ _ => ?_⟩
    · have := a.size_pos; omega
    · cases as with
      | nil => cases bs <;> simp [toRawL, MTerm.eqL, Expr.pyEqL]
      | cons c cs =>
        simp [Expr.sizeL] at has
        have := c.size_pos; omega
  | succ n ih =>
    obtain ⟨ihE, ihL⟩ := ih
    have treeCase : ∀ a : Expr, a.size ≤ n + 1 → ∀ b, frag a = true → frag b = true →
        MTerm.eq (toRaw a) (toRaw b) = a.pyEq b := by
      intro a ha b fa fb
      cases a with
      | const c =>
        cases b <;> try rfl
        case const c' => simp [toRaw, MTerm.eq, Expr.pyEq]
        case nary o' cs' => cases o' <;> rfl
      | var x =>
        cases b <;> try rfl
        case var x' => simp [toRaw, MTerm.eq, MTerm.eqL, Expr.pyEq]
        case nary o' cs' => cases o' <;> rfl
        case bin o' x' y' => cases o' <;> rfl
        case un o' x' => cases o' <;> rfl
      | nary o cs =>
        simp only [frag, Bool.and_eq_true] at fa
        obtain ⟨mo, hm⟩ := Option.isSome_iff_exists.1 fa.1
        have hn := mopOfNary_nary? hm
        simp only [Expr.size] at ha
        cases b <;> simp [frag] at fb
        case const c => simp [toRaw, hm, MTerm.eq, Expr.pyEq]
        case var x =>
          have : mo ≠ .variable := by intro h; subst h; simp [MOp.nary?] at hn
          simp [toRaw, hm, Expr.pyEq]; exact eq_op_ne this _ _ _ _
        case nary o' cs' =>
          obtain ⟨mo', hm'⟩ := Option.isSome_iff_exists.1 fb.1
          have hn' := mopOfNary_nary? hm'
          have hl := ihL cs (by omega) cs' fa.2 fb.2
          have hoo : (mo == mo') = (o == o') := by
            by_cases h : o = o'
            · subst h; rw [hm] at hm'; cases hm'; simp
            · have : mo ≠ mo' := by
                intro hh; subst hh; rw [hn] at hn'; cases hn'; exact h rfl
              have h1 : (mo == mo') = false := by simpa using this
              have h2 : (o == o') = false := by simpa using h
              rw [h1, h2]
          simp [toRaw, hm, hm', MTerm.eq, Expr.pyEq, hl, hoo]
        case bin o' a' b' =>
          have : mo ≠ mopOfBin o' := by
            intro h; subst h; cases o' <;> simp [mopOfBin, MOp.nary?] at hn
          simp [toRaw, hm, Expr.pyEq]; exact eq_op_ne this _ _ _ _
        case un o' a' =>
          have : mo ≠ mopOfUn o' := by
            intro h; subst h; cases o' <;> simp [mopOfUn, MOp.nary?] at hn
          simp [toRaw, hm, Expr.pyEq]; exact eq_op_ne this _ _ _ _
        case cmp o' a' b' =>
          have : mo ≠ .comparison := by intro h; subst h; simp [MOp.nary?] at hn
          simp [toRaw, hm, Expr.pyEq]; exact eq_op_ne this _ _ _ _
        case ite c' t' e' =>
          have : mo ≠ .ite := by intro h; subst h; simp [MOp.nary?] at hn
          simp [toRaw, hm, Expr.pyEq]; exact eq_op_ne this _ _ _ _
        case call f' as' =>
          have : mo ≠ .call := by intro h; subst h; simp [MOp.nary?] at hn
          simp [toRaw, hm, Expr.pyEq]; exact eq_op_ne this _ _ _ _
        case subscript a' i' =>
          have : mo ≠ .subscript := by intro h; subst h; simp [MOp.nary?] at hn
          simp [toRaw, hm, Expr.pyEq]; exact eq_op_ne this _ _ _ _
        case tuple cs' =>
          have : mo ≠ .tupleOp := by intro h; subst h; simp [MOp.nary?] at hn
          simp [toRaw, hm, Expr.pyEq]; exact eq_op_ne this _ _ _ _
      | bin o x y =>
        simp only [frag, Bool.and_eq_true] at fa
        simp only [Expr.size] at ha
        cases b <;> try rfl
        case var x' => cases o <;> rfl
        case nary o' cs' =>
          simp only [frag, Bool.and_eq_true] at fb
          obtain ⟨mo', hm'⟩ := Option.isSome_iff_exists.1 fb.1
          have hn' := mopOfNary_nary? hm'
          have : mopOfBin o ≠ mo' := by
            intro h; subst h; cases o <;> simp [mopOfBin, MOp.nary?] at hn'
          simp [toRaw, hm', Expr.pyEq]; exact eq_op_ne this _ _ _ _
        case bin o' x' y' =>
          simp only [frag, Bool.and_eq_true] at fb
          have h1 := ihE x (by omega) x' fa.1 fb.1
          have h2 := ihE y (by omega) y' fa.2 fb.2
          have hoo : (mopOfBin o == mopOfBin o') = (o == o') := by
            cases o <;> cases o' <;> decide
          simp [toRaw, MTerm.eq, MTerm.eqL, Expr.pyEq, h1, h2, hoo, Bool.and_assoc]
        case un o' a' => cases o <;> cases o' <;> rfl
        case cmp o' a' b' => cases o <;> rfl
        case ite c' t' e' => cases o <;> rfl
        case call f' as' => cases o <;> rfl
        case subscript a' i' => cases o <;> rfl
        case tuple cs' => cases o <;> rfl
      | un o x =>
        simp only [frag] at fa
        simp only [Expr.size] at ha
        cases b <;> try rfl
        case var x' => cases o <;> rfl
        case nary o' cs' =>
          simp only [frag, Bool.and_eq_true] at fb
          obtain ⟨mo', hm'⟩ := Option.isSome_iff_exists.1 fb.1
          have hn' := mopOfNary_nary? hm'
          have : mopOfUn o ≠ mo' := by
            intro h; subst h; cases o <;> simp [mopOfUn, MOp.nary?] at hn'
          simp [toRaw, hm', Expr.pyEq]; exact eq_op_ne this _ _ _ _
        case bin o' x' y' => cases o <;> cases o' <;> rfl
        case un o' x' =>
          simp only [frag, Bool.and_eq_true] at fb
          have h1 := ihE x (by omega) x' fa fb
          have hoo : (mopOfUn o == mopOfUn o') = (o == o') := by
            cases o <;> cases o' <;> decide
          simp [toRaw, MTerm.eq, MTerm.eqL, Expr.pyEq, h1, hoo]
        case cmp o' a' b' => cases o <;> rfl
        case ite c' t' e' => cases o <;> rfl
        case call f' as' => cases o <;> rfl
        case subscript a' i' => cases o <;> rfl
        case tuple cs' => cases o <;> rfl
      | cmp o x y =>
        simp only [frag, Bool.and_eq_true] at fa
        simp only [Expr.size] at ha
        cases b <;> try rfl
        case nary o' cs' => cases o' <;> rfl
        case bin o' x' y' => cases o' <;> rfl
        case un o' x' => cases o' <;> rfl
        case cmp o' x' y' =>
          simp only [frag, Bool.and_eq_true] at fb
          have h1 := ihE x (by omega) x' fa.1 fb.1
          have h2 := ihE y (by omega) y' fa.2 fb.2
          have hs := cmp_sym_inj o o'
          simp only [toRaw, MTerm.eq, MTerm.eqL, Expr.pyEq, h1, h2, hs, beq_self_eq_true,
            Bool.true_and, Bool.and_true]
          cases (o == o') <;> cases x.pyEq x' <;> cases y.pyEq y' <;> rfl
      | ite c x y =>
        simp only [frag, Bool.and_eq_true] at fa
        simp only [Expr.size] at ha
        cases b <;> try rfl
        case nary o' cs' => cases o' <;> rfl
        case bin o' x' y' => cases o' <;> rfl
        case un o' x' => cases o' <;> rfl
        case ite c' x' y' =>
          simp only [frag, Bool.and_eq_true] at fb
          have h0 := ihE c (by omega) c' fa.1.1 fb.1.1
          have h1 := ihE x (by omega) x' fa.1.2 fb.1.2
          have h2 := ihE y (by omega) y' fa.2 fb.2
          simp [toRaw, MTerm.eq, MTerm.eqL, Expr.pyEq, h0, h1, h2, Bool.and_assoc]
      | call f as =>
        simp only [frag, Bool.and_eq_true] at fa
        simp only [Expr.size] at ha
        cases b <;> try rfl
        case nary o' cs' => cases o' <;> rfl
        case bin o' x' y' => cases o' <;> rfl
        case un o' x' => cases o' <;> rfl
        case call f' as' =>
          simp only [frag, Bool.and_eq_true] at fb
          have h0 := ihE f (by omega) f' fa.1 fb.1
          have h1 := ihL as (by omega) as' fa.2 fb.2
          simp [toRaw, MTerm.eq, MTerm.eqL, Expr.pyEq, h0, h1]
      | subscript x i =>
        simp only [frag, Bool.and_eq_true] at fa
        simp only [Expr.size] at ha
        cases b <;> try rfl
        case nary o' cs' => cases o' <;> rfl
        case bin o' x' y' => cases o' <;> rfl
        case un o' x' => cases o' <;> rfl
        case subscript x' i' =>
          simp only [frag, Bool.and_eq_true] at fb
          have h0 := ihE x (by omega) x' fa.1 fb.1
          have h1 := ihE i (by omega) i' fa.2 fb.2
          simp [toRaw, MTerm.eq, MTerm.eqL, Expr.pyEq, h0, h1]
      | tuple cs =>
        simp only [frag] at fa
        simp only [Expr.size] at ha
        cases b <;> try rfl
        case nary o' cs' => cases o' <;> rfl
        case bin o' x' y' => cases o' <;> rfl
        case un o' x' => cases o' <;> rfl
        case tuple cs' =>
          simp only [frag, Bool.and_eq_true] at fb
          have h1 := ihL cs (by omega) cs' fa fb
          simp [toRaw, MTerm.eq, Expr.pyEq, h1]
      | _ => simp [frag] at fa
    refine ⟨treeCase, fun as => ?_⟩
    induction as with
    | nil => intro _ bs _ _; cases bs <;> simp [toRawL, MTerm.eqL, Expr.pyEqL]
    | cons c cs ihcs =>
      intro hs bs fa fb
      cases bs with
      | nil => simp [toRawL, MTerm.eqL, Expr.pyEqL]
      | cons d ds =>
        simp only [Expr.sizeL] at hs
        simp only [fragL, Bool.and_eq_true] at fa fb
        have h1 := treeCase c (by omega) d fa.1 fb.1
        have h2 := ihcs (by omega) ds fa.2 fb.2
        simp [toRawL, MTerm.eqL, Expr.pyEqL, h1, h2]

theorem eq_toRaw {a b : Expr} (fa : frag a = true) (fb : frag b = true) :
    MTerm.eq (toRaw a) (toRaw b) = a.pyEq b :=
  (eq_toRaw_aux a.size).1 a (Nat.le_refl _) b fa fb

/-- **well-formed, name-free terms** (decidable): the term converts back, and it is the plain
embedding of its own image — every operation has the operand shape the bridge gives it and no
node carries a `variable_name`.  Terms of a converted subject are of this kind. -/
def MTerm.wf (t : MTerm) : Bool :=
  match fromM t with
  | .ok e => frag e && MTerm.beq (toRaw e) t
  | .error _ => false

theorem MTerm.wf_spec {t : MTerm} (h : t.wf = true) :
    ∃ e, fromM t = .ok e ∧ frag e = true ∧ toRaw e = t := by
  unfold MTerm.wf at h
  cases hf : fromM t with
  | error err => simp [hf] at h
  | ok e =>
    simp only [hf, Bool.and_eq_true] at h
    exact ⟨e, rfl, h.1, MTerm.beq_eq _ _ h.2⟩

/-- no earlier term is `==` to a later one (the keys of a `Multiset`) -/
def pairwiseNeM : List MTerm → Bool
  | [] => true
  | t :: ts => ts.all (fun u => !t.eq u) && pairwiseNeM ts

theorem fromML_mem : ∀ {ts : List MTerm} {es : List Expr}, fromML ts = .ok es →
    ∀ y ∈ es, ∃ u ∈ ts, fromM u = .ok y
  | [], es, h, y, hy => by
    simp [fromML, pure, Except.pure] at h; subst h; cases hy
  | t :: ts, es, h, y, hy => by
    obtain ⟨e, es', rfl, ht, hts⟩ := fromML_cons h
    rcases List.mem_cons.1 hy with rfl | hy'
    · exact ⟨t, by simp, ht⟩
    · obtain ⟨u, hu, hfu⟩ := fromML_mem hts y hy'
      exact ⟨u, by simp [hu], hfu⟩

/-- pairwise different well-formed terms have pairwise different images -/
theorem wf_images_distinct : ∀ (ts : List MTerm) (es : List Expr),
    (∀ t ∈ ts, t.wf = true) → fromML ts = .ok es → pairwiseNeM ts = true → pairwiseNe es = true
  | [], es, _, h, _ => by
    simp [fromML, pure, Except.pure] at h; subst h; rfl
  | t :: ts, es, hwf, h, hd => by
    obtain ⟨e, es', rfl, ht, hts⟩ := fromML_cons h
    simp only [pairwiseNeM, Bool.and_eq_true, List.all_eq_true] at hd
    simp only [pairwiseNe, Bool.and_eq_true, List.all_eq_true]
    refine ⟨fun y hy => ?_, wf_images_distinct ts es' (fun u hu => hwf u (by simp [hu])) hts hd.2⟩
    obtain ⟨u, hu, hfu⟩ := fromML_mem hts y hy
    obtain ⟨e0, he0, fe0, re0⟩ := MTerm.wf_spec (hwf t (by simp))
    obtain ⟨y0, hy0, fy0, ry0⟩ := MTerm.wf_spec (hwf u (by simp [hu]))
    rw [ht] at he0; cases he0
    rw [hfu] at hy0; cases hy0
    have hne := hd.1 u hu
    rw [← re0, ← ry0, eq_toRaw fe0 fy0] at hne
    exact hne

end PV.Matchpy
