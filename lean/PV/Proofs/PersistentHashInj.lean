import PV.Proofs.PersistentHashTable
import PV.Model.PersistentHashSep
import Std.Data.String.ToInt
/-
  C17, persistent-hash digest: what the feed sequence determines.

  The feed of `PersistentHashWalkMapper` is a PREORDER listing of the tree: a node with a handler
  of its own starts with its class name, a variable is its bare name, a constant its bare `repr`;
  nothing marks where a child list ends, and the pieces are concatenated by the hash object.  So
  the digest can only be injective where

    (1) the token a node starts with tells which node it is — variable names and float reprs do
        not look like class names or like other constants (`c17TokClass`);
    (2) the number of children is determined by the class (`ar`: a rank discipline shared by the
        two trees) — the stock node classes `Sum`, `Product`, `Call`, … are variadic;
    (3) the fields that are never fed are disregarded (`c17Erase`: look-up names, CSE prefix and
        scope, substitution / derivative variable names, keyword names, wildcard names, `None`
        slice parts, the exact value behind a float `repr`);
    (4) the pieces are self-delimiting when concatenated (`C17PrefixFree`).

  Main results: `c17_digest_inj` (under (1)(2): equal chunk sequences ⇒ equal trees modulo (3)),
  `digest_c17Erase` (the converse, unconditional), `c17_flat_inj` (4).  Each hypothesis is
  necessary: the collision witnesses are in PV/Properties/C17.lean.
-/
-- the `simp only` sets shared by the classes of one case analysis hold lemmas that fire in some
-- classes only
set_option linter.unusedSimpArgs false
namespace PV.Pickle
open PV

theorem c17EraseL_eq_map : ∀ cs : List Expr, c17EraseL cs = cs.map c17Erase
  | [] => rfl
  | c :: cs => by simp [c17EraseL, c17EraseL_eq_map cs]

theorem c17EraseSlice_eq : ∀ cs : List Expr,
    c17EraseSlice cs = c17EraseL (cs.filter (fun c => !c.c04IsNone))
  | [] => rfl
  | c :: cs => by
    by_cases hn : c = .const .none
    · subst hn
      simp [c17EraseSlice, Expr.c04IsNone, c17EraseSlice_eq cs]
    · have h1 := c04IsNone_of_ne hn
      have h2 : c17EraseSlice (c :: cs) = c17Erase c :: c17EraseSlice cs := by
        cases c with
        | const k => cases k <;> first | (exact absurd rfl hn) | simp only [c17EraseSlice]
        | _ => simp only [c17EraseSlice]
      rw [h2, c17EraseSlice_eq cs, List.filter_cons]
      simp [h1, c17EraseL]

theorem digestSlice_eq_digestL (cs : List Expr) :
    digestSlice cs = digestL (cs.filter (fun c => !c.c04IsNone)) := by
  rw [digestSlice_eq_c04SeqL, digestL_eq_c04SeqL]

theorem c17SepL_iff {ar : String → Nat} : ∀ {cs : List Expr},
    c17SepL ar cs = true ↔ ∀ c ∈ cs, c17Sep ar c = true
  | [] => by simp [c17SepL]
  | d :: ds => by
    simp only [c17SepL, Bool.and_eq_true, List.forall_mem_cons, c17SepL_iff (cs := ds)]

/-! ### `repr` of an `int` -/

theorem c17_int_repr (n : Int) :
    (toString n).toList ≠ [] ∧ (toString n).toList.all c17NumCh = true := by
  have e : toString n = Int.repr n := rfl
  rw [e]
  cases n with
  | ofNat m =>
    have : (Int.ofNat m).repr = String.ofList (Nat.toDigits 10 m) := rfl
    rw [this, String.toList_ofList]
    refine ⟨Nat.toDigits_ne_nil, ?_⟩
    rw [List.all_eq_true]
    intro c hc
    simp [c17NumCh, Nat.isDigit_of_mem_toDigits (by omega) (by omega) hc]
  | negSucc m =>
    have : (Int.negSucc m).repr = "-" ++ String.ofList (Nat.toDigits 10 (m + 1)) := rfl
    rw [this, String.toList_append, String.toList_ofList]
    refine ⟨by simp, ?_⟩
    rw [List.all_eq_true]
    intro c hc
    rw [List.mem_append] at hc
    rcases hc with hc | hc
    · have : c = '-' := by simpa using hc
      subst this; decide
    · rw [String.toList_ofList] at hc
      simp [c17NumCh, Nat.isDigit_of_mem_toDigits (by omega) (by omega) hc]

/-- the `repr` of an `int` reads as an `int` constant (`c17Tag (.const (.int n)) = (1, 1)`) -/
theorem c17TokClass_int (n : Int) : c17TokClass (toString n) = (1, 1) := by
  obtain ⟨h1, h2⟩ := c17_int_repr n
  have h3 : (toString n).toList.isEmpty = false := by
    cases h : (toString n).toList with
    | nil => exact absurd h h1
    | cons _ _ => rfl
  have h4 : (!(toString n).toList.isEmpty && (toString n).toList.all c17NumCh) = true := by
    rw [h2, h3]; rfl
  simp only [c17TokClass, h4, if_true]

theorem c17_int_repr_inj {n m : Int} (h : toString n = toString m) : n = m :=
  Int.repr_injective h

/-! ### the first token of a digest -/

theorem c17_bind_ok {α β : Type} {x : Except DepErr α} {f : α → Except DepErr β} {b : β} :
    (x >>= f) = .ok b ↔ ∃ a, x = .ok a ∧ f a = .ok b := by
  cases x <;> simp [bind, Except.bind]

theorem c17_pure_ok {α : Type} {a b : α} : (pure a : Except DepErr α) = .ok b ↔ a = b := by
  simp [pure, Except.pure]

/-- the class name of a node other than a constant or a variable reads as that class (a fact about
the finitely many class names: checked on the representatives) -/
theorem c17TokClass_kind (e : Expr) (h : 2 ≤ e.ctorIdx) : c17TokClass e.kind = c17Tag e := by
  have key : ∀ e : Expr, e.ctorIdx ≤ 1 ∨ c17TokClass e.kind = c17Tag e :=
    Expr.forall_of_classReps (fun e h => by
      cases e with
      | const k => cases k <;> exact h
      | _ => exact h) (by decide +kernel)
  exact (key e).resolve_left (by omega)

theorem c17TokClass_nary (o : NaryOp) : c17TokClass o.name = (10, o.c17Idx) :=
  c17TokClass_kind (.nary o []) (Nat.le_refl 2)

theorem c17TokClass_bin (o : BinOp) : c17TokClass o.name = (11, o.c17Idx) :=
  c17TokClass_kind (.bin o .nan .nan) (Nat.le_of_ble_eq_true rfl)

theorem c17TokClass_un (o : UnOp) : c17TokClass o.name = (12, o.c17Idx) :=
  c17TokClass_kind (.un o .nan) (Nat.le_of_ble_eq_true rfl)

/-- the feed of a node other than a constant or a variable starts with its class name -/
theorem digest_head_kind {a : Expr} {la : List String} (h : 2 ≤ a.ctorIdx)
    (hd : digest a = .ok la) : ∃ t, la = a.kind :: t := by
  cases a with
  | const _ | var _ => simp [Expr.ctorIdx] at h
  | wildcard | dotWild _ | starWild _ | funcSym | nan =>
    simp only [digest, c17_pure_ok] at hd
    exact ⟨_, hd.symm⟩
  | nary _ _ | un _ _ | lookup _ _ | cse _ _ _ | deriv _ _ | slice _ | tuple _ | list _ =>
    simp only [digest, c17_bind_ok, c17_pure_ok] at hd
    obtain ⟨_, _, rfl⟩ := hd
    exact ⟨_, rfl⟩
  | bin o _ _ =>
    cases o <;> simp only [digest, c17_bind_ok, c17_pure_ok] at hd <;>
      obtain ⟨_, _, _, _, rfl⟩ := hd <;> exact ⟨_, rfl⟩
  | cmp _ _ _ | call _ _ | subscript _ _ | subst _ _ _ =>
    simp only [digest, c17_bind_ok, c17_pure_ok] at hd
    obtain ⟨_, _, _, _, rfl⟩ := hd
    exact ⟨_, rfl⟩
  | ite _ _ _ | callKw _ _ _ _ =>
    simp only [digest, c17_bind_ok, c17_pure_ok] at hd
    obtain ⟨_, _, _, _, _, _, rfl⟩ := hd
    exact ⟨_, rfl⟩

/-- a successful digest starts with a token that reads as the root node -/
theorem c17_head (ar : String → Nat) (a : Expr) (la : List String) (hs : c17Sep ar a = true)
    (hd : digest a = .ok la) : ∃ h t, la = h :: t ∧ c17TokClass h = c17Tag a := by
  by_cases hn : 2 ≤ a.ctorIdx
  · obtain ⟨t, rfl⟩ := digest_head_kind hn hd
    exact ⟨_, _, rfl, c17TokClass_kind a hn⟩
  cases a with
  | const c =>
    cases c with
    | int n =>
      simp only [digest, constRepr, c17_pure_ok] at hd
      exact ⟨_, _, hd.symm, c17TokClass_int n⟩
    | bool b =>
      simp only [digest, constRepr, c17_pure_ok] at hd
      refine ⟨_, _, hd.symm, ?_⟩
      cases b <;> decide
    | flt r n d =>
      simp only [digest, constRepr, c17_pure_ok] at hd
      simp only [c17Sep, beq_iff_eq] at hs
      exact ⟨_, _, hd.symm, hs⟩
    | str s => simp [digest, constRepr, throw, throwThe, MonadExceptOf.throw] at hd
    | none => simp [digest, constRepr, throw, throwThe, MonadExceptOf.throw] at hd
  | var x =>
    simp only [digest, c17_pure_ok] at hd
    simp only [c17Sep, beq_iff_eq] at hs
    exact ⟨_, _, hd.symm, hs⟩
  | _ => exact absurd (Nat.le_of_ble_eq_true rfl) hn

/-! ### prefix decoding -/

/-- the induction predicate: a separable tree is decoded from any feed it is a prefix of -/
def C17Inj (ar : String → Nat) (a : Expr) : Prop :=
  ∀ (b : Expr) (la lb ra rb : List String), c17Sep ar a = true → c17Sep ar b = true →
    digest a = .ok la → digest b = .ok lb → la ++ ra = lb ++ rb →
    c17Erase a = c17Erase b ∧ ra = rb

theorem c17InjL (ar : String → Nat) : ∀ (as bs : List Expr) (la lb ra rb : List String),
    (∀ a ∈ as, C17Inj ar a) → as.length = bs.length →
    (∀ a ∈ as, c17Sep ar a = true) → (∀ b ∈ bs, c17Sep ar b = true) →
    digestL as = .ok la → digestL bs = .ok lb → la ++ ra = lb ++ rb →
    c17EraseL as = c17EraseL bs ∧ ra = rb
  | [], [], la, lb, ra, rb, _, _, _, _, da, db, h => by
    simp only [digestL, c17_pure_ok] at da db
    subst da db
    exact ⟨rfl, by simpa using h⟩
  | [], _ :: _, _, _, _, _, _, hl, _, _, _, _, _ => by simp at hl
  | _ :: _, [], _, _, _, _, _, hl, _, _, _, _, _ => by simp at hl
  | a :: as, b :: bs, la, lb, ra, rb, ih, hl, sa, sb, da, db, h => by
    simp only [digestL, c17_bind_ok, c17_pure_ok] at da db
    obtain ⟨x, hx, y, hy, rfl⟩ := da
    obtain ⟨x', hx', y', hy', rfl⟩ := db
    simp only [List.forall_mem_cons] at ih sa sb
    simp only [List.length_cons, Nat.add_right_cancel_iff] at hl
    rw [List.append_assoc, List.append_assoc] at h
    obtain ⟨e1, h1⟩ := ih.1 b x x' (y ++ ra) (y' ++ rb) sa.1 sb.1 hx hx' h
    obtain ⟨e2, h2⟩ := c17InjL ar as bs y y' ra rb ih.2 hl sa.2 sb.2 hy hy' h1
    exact ⟨by simp only [c17EraseL, e1, e2], h2⟩

theorem NaryOp.c17Idx_inj {o o' : NaryOp} (h : o.c17Idx = o'.c17Idx) : o = o' := by
  cases o <;> cases o' <;> simp [NaryOp.c17Idx] at h <;> rfl

theorem BinOp.c17Idx_inj {o o' : BinOp} (h : o.c17Idx = o'.c17Idx) : o = o' := by
  cases o <;> cases o' <;> simp [BinOp.c17Idx] at h <;> rfl

theorem UnOp.c17Idx_inj {o o' : UnOp} (h : o.c17Idx = o'.c17Idx) : o = o' := by
  cases o <;> cases o' <;> simp [UnOp.c17Idx] at h <;> rfl

theorem CmpOp.sym_inj {o o' : CmpOp} (h : o.sym = o'.sym) : o = o' := by
  cases o <;> cases o' <;> first | rfl | (revert h; decide)

theorem c17_quote_inj {s t : String} (h : "'" ++ s ++ "'" = "'" ++ t ++ "'") : s = t := by
  have := congrArg String.toList h
  simp only [String.toList_append, List.append_assoc] at this
  apply String.ext
  have h2 := List.append_cancel_left this
  exact List.append_cancel_right h2

theorem c17_tail {h h' : String} {l l' r r' : List String}
    (e : (h :: l) ++ r = (h' :: l') ++ r') : l ++ r = l' ++ r' := by
  simp only [List.cons_append, List.cons.injEq] at e
  exact e.2

/-- the first component of the tag is the constructor: `c17Tag` numbers variables 0, constants 1
and the node classes 10, 11, … in the order of the constructors of `Expr`, which `ctorIdx` numbers
1, 0, 2, 3, … -/
theorem ctorIdx_eq_of_c17Tag {a b : Expr} (h : c17Tag a = c17Tag b) : a.ctorIdx = b.ctorIdx := by
  have key : ∀ e : Expr, e.ctorIdx = if (c17Tag e).1 ≤ 1 then 1 - (c17Tag e).1 else (c17Tag e).1 - 8 := by
    intro e; cases e <;> rfl
  rw [key a, key b, h]

/-- **Prefix decoding of separable trees.** -/
theorem c17_inj_main (ar : String → Nat) (a : Expr) : C17Inj ar a := by
  induction a using Expr.induct with | _ a ih => ?_
  intro b la lb ra rb sa sb da db hcat
  obtain ⟨ha, ta, ea, ca⟩ := c17_head ar a la sa da
  obtain ⟨hb, tb, eb, cb⟩ := c17_head ar b lb sb db
  have hh : ha = hb := by
    rw [ea, eb] at hcat
    exact (List.cons.inj hcat).1
  have htag : c17Tag a = c17Tag b := by rw [← ca, ← cb, hh]
  clear ea eb ca cb hh
  have hi : Nat.beq a.ctorIdx b.ctorIdx = true := by rw [ctorIdx_eq_of_c17Tag htag]; exact Nat.beq_refl _
  cases a <;> cases b <;> first | exact Bool.noConfusion hi | skip
  all_goals
    simp only [c17Tag, Prod.mk.injEq, Nat.reduceEqDiff, false_and, and_false, and_true,
      true_and] at htag
    simp only [Expr.children, List.forall_mem_cons, List.not_mem_nil, false_imp_iff, implies_true,
      and_true, List.mem_append] at ih
  case const.const c d =>
    cases c <;> cases d <;> simp only [Const.c17Idx, Nat.reduceEqDiff] at htag
    case int.int n m =>
      simp only [digest, constRepr, c17_pure_ok] at da db
      subst da db
      have := c17_int_repr_inj (List.cons.inj hcat).1
      subst this
      exact ⟨rfl, by simpa using hcat⟩
    case bool.bool x y =>
      simp only [digest, constRepr, c17_pure_ok] at da db
      subst da db
      have hxy : x = y := by
        have := (List.cons.inj hcat).1
        cases x <;> cases y <;> first | rfl | (revert this; decide)
      subst hxy
      exact ⟨rfl, by simpa using hcat⟩
    case flt.flt r n d r' n' d' =>
      simp only [digest, constRepr, c17_pure_ok] at da db
      subst da db
      have := (List.cons.inj hcat).1
      subst this
      exact ⟨rfl, by simpa using hcat⟩
    case str.str => simp [digest, constRepr, throw, throwThe, MonadExceptOf.throw] at da
    case none.none => simp [digest, constRepr, throw, throwThe, MonadExceptOf.throw] at da
  case var.var x y =>
    simp only [digest, c17_pure_ok] at da db
    subst da db
    have := (List.cons.inj hcat).1
    subst this
    exact ⟨rfl, by simpa using hcat⟩
  case wildcard.wildcard | dotWild.dotWild | starWild.starWild | funcSym.funcSym | nan.nan =>
    simp only [digest, c17_pure_ok] at da db
    subst da db
    exact ⟨rfl, by simpa using hcat⟩
  case nary.nary o cs o' cs' =>
    have := NaryOp.c17Idx_inj htag
    subst this
    simp only [c17Sep, Bool.and_eq_true, beq_iff_eq, c17SepL_iff] at sa sb
    simp only [digest, c17_bind_ok, c17_pure_ok] at da db
    obtain ⟨x, hx, rfl⟩ := da
    obtain ⟨x', hx', rfl⟩ := db
    have h := c17_tail hcat
    obtain ⟨e, hr⟩ := c17InjL ar cs cs' x x' ra rb ih (by rw [sa.1, sb.1]) sa.2 sb.2 hx hx' h
    exact ⟨by simp only [c17Erase, e], hr⟩
  case tuple.tuple cs cs' | list.list cs cs' =>
    simp only [c17Sep, Bool.and_eq_true, beq_iff_eq, c17SepL_iff] at sa sb
    simp only [digest, c17_bind_ok, c17_pure_ok] at da db
    obtain ⟨x, hx, rfl⟩ := da
    obtain ⟨x', hx', rfl⟩ := db
    have h := c17_tail hcat
    obtain ⟨e, hr⟩ := c17InjL ar cs cs' x x' ra rb ih (by rw [sa.1, sb.1]) sa.2 sb.2 hx hx' h
    exact ⟨by simp only [c17Erase, e], hr⟩
  case slice.slice cs cs' =>
    simp only [c17Sep, Bool.and_eq_true, beq_iff_eq, c17SepL_iff] at sa sb
    simp only [digest, c17_bind_ok, c17_pure_ok, digestSlice_eq_digestL] at da db
    obtain ⟨x, hx, rfl⟩ := da
    obtain ⟨x', hx', rfl⟩ := db
    have h := c17_tail hcat
    obtain ⟨e, hr⟩ := c17InjL ar _ _ x x' ra rb
      (fun c hc => ih c (List.mem_filter.1 hc).1) (by rw [sa.1, sb.1])
      (fun c hc => sa.2 c (List.mem_filter.1 hc).1) (fun c hc => sb.2 c (List.mem_filter.1 hc).1)
      hx hx' h
    exact ⟨by simp only [c17Erase, c17EraseSlice_eq, e], hr⟩
  case bin.bin o x y o' x' y' =>
    have := BinOp.c17Idx_inj htag
    subst this
    simp only [c17Sep, Bool.and_eq_true] at sa sb
    cases o <;> simp only [digest, c17_bind_ok, c17_pure_ok] at da db <;>
      obtain ⟨p, hp, q, hq, rfl⟩ := da <;> obtain ⟨p', hp', q', hq', rfl⟩ := db <;>
      have h := c17_tail hcat <;>
      rw [List.append_assoc, List.append_assoc] at h
    case lshift | rshift =>
      obtain ⟨e1, h1⟩ := ih.2 y' p p' _ _ sa.2 sb.2 hp hp' h
      obtain ⟨e2, h2⟩ := ih.1 x' q q' _ _ sa.1 sb.1 hq hq' h1
      exact ⟨by simp only [c17Erase, e1, e2], h2⟩
    all_goals
      obtain ⟨e1, h1⟩ := ih.1 x' p p' _ _ sa.1 sb.1 hp hp' h
      obtain ⟨e2, h2⟩ := ih.2 y' q q' _ _ sa.2 sb.2 hq hq' h1
      exact ⟨by simp only [c17Erase, e1, e2], h2⟩
  case un.un o x o' x' =>
    have := UnOp.c17Idx_inj htag
    subst this
    simp only [c17Sep] at sa sb
    simp only [digest, c17_bind_ok, c17_pure_ok] at da db
    obtain ⟨p, hp, rfl⟩ := da
    obtain ⟨p', hp', rfl⟩ := db
    have h := c17_tail hcat
    obtain ⟨e1, h1⟩ := ih x' p p' _ _ sa sb hp hp' h
    exact ⟨by simp only [c17Erase, e1], h1⟩
  case lookup.lookup x _ x' _ | cse.cse x _ _ x' _ _ | deriv.deriv x _ x' _ =>
    simp only [c17Sep] at sa sb
    simp only [digest, c17_bind_ok, c17_pure_ok] at da db
    obtain ⟨p, hp, rfl⟩ := da
    obtain ⟨p', hp', rfl⟩ := db
    have h := c17_tail hcat
    obtain ⟨e1, h1⟩ := ih x' p p' _ _ sa sb hp hp' h
    exact ⟨by simp only [c17Erase, e1], h1⟩
  case subscript.subscript x y x' y' =>
    simp only [c17Sep, Bool.and_eq_true] at sa sb
    simp only [digest, c17_bind_ok, c17_pure_ok] at da db
    obtain ⟨p, hp, q, hq, rfl⟩ := da
    obtain ⟨p', hp', q', hq', rfl⟩ := db
    have h := c17_tail hcat
    rw [List.append_assoc, List.append_assoc] at h
    obtain ⟨e1, h1⟩ := ih.1 x' p p' _ _ sa.1 sb.1 hp hp' h
    obtain ⟨e2, h2⟩ := ih.2 y' q q' _ _ sa.2 sb.2 hq hq' h1
    exact ⟨by simp only [c17Erase, e1, e2], h2⟩
  case cmp.cmp o x y o' x' y' =>
    simp only [c17Sep, Bool.and_eq_true] at sa sb
    simp only [digest, c17_bind_ok, c17_pure_ok] at da db
    obtain ⟨p, hp, q, hq, rfl⟩ := da
    obtain ⟨p', hp', q', hq', rfl⟩ := db
    have h := c17_tail hcat
    rw [List.append_assoc, List.append_assoc] at h
    obtain ⟨e1, h1⟩ := ih.1 x' p p' _ _ sa.1 sb.1 hp hp' h
    have ho : o = o' := CmpOp.sym_inj (c17_quote_inj (List.cons.inj h1).1)
    subst ho
    obtain ⟨e2, h2⟩ := ih.2 y' q q' _ _ sa.2 sb.2 hq hq' (c17_tail h1)
    exact ⟨by simp only [c17Erase, e1, e2], h2⟩
  case ite.ite c t e c' t' e' =>
    simp only [c17Sep, Bool.and_eq_true] at sa sb
    simp only [digest, c17_bind_ok, c17_pure_ok] at da db
    obtain ⟨p, hp, q, hq, r, hr, rfl⟩ := da
    obtain ⟨p', hp', q', hq', r', hr', rfl⟩ := db
    have h := c17_tail hcat
    rw [List.append_assoc, List.append_assoc, List.append_assoc, List.append_assoc] at h
    obtain ⟨e1, h1⟩ := ih.1 c' p p' _ _ sa.1.1 sb.1.1 hp hp' h
    obtain ⟨e2, h2⟩ := ih.2.1 t' q q' _ _ sa.1.2 sb.1.2 hq hq' h1
    obtain ⟨e3, h3⟩ := ih.2.2 e' r r' _ _ sa.2 sb.2 hr hr' h2
    exact ⟨by simp only [c17Erase, e1, e2, e3], h3⟩
  case call.call f as f' as' | subst.subst f _ as f' _ as' =>
    simp only [c17Sep, Bool.and_eq_true, beq_iff_eq, c17SepL_iff] at sa sb
    simp only [digest, c17_bind_ok, c17_pure_ok] at da db
    obtain ⟨p, hp, q, hq, rfl⟩ := da
    obtain ⟨p', hp', q', hq', rfl⟩ := db
    have h := c17_tail hcat
    rw [List.append_assoc, List.append_assoc] at h
    obtain ⟨e1, h1⟩ := ih.1 f' p p' _ _ sa.1.1 sb.1.1 hp hp' h
    obtain ⟨e2, h2⟩ := c17InjL ar as as' q q' ra rb ih.2 (by rw [sa.1.2, sb.1.2]) sa.2 sb.2
      hq hq' h1
    exact ⟨by simp only [c17Erase, e1, e2], h2⟩
  case callKw.callKw f as ns vs f' as' ns' vs' =>
    simp only [c17Sep, Bool.and_eq_true, beq_iff_eq, c17SepL_iff] at sa sb
    simp only [digest, c17_bind_ok, c17_pure_ok] at da db
    obtain ⟨p, hp, q, hq, r, hr, rfl⟩ := da
    obtain ⟨p', hp', q', hq', r', hr', rfl⟩ := db
    have h := c17_tail hcat
    rw [List.append_assoc, List.append_assoc, List.append_assoc, List.append_assoc] at h
    obtain ⟨⟨⟨⟨s1, s2⟩, s3⟩, s4⟩, s5⟩ := sa
    obtain ⟨⟨⟨⟨t1, t2⟩, t3⟩, t4⟩, t5⟩ := sb
    obtain ⟨e1, h1⟩ := ih.1 f' p p' _ _ s1 t1 hp hp' h
    obtain ⟨e2, h2⟩ := c17InjL ar as as' q q' _ _ (fun c hc => ih.2 c (Or.inl hc))
      (by rw [s2, t2]) s3 t3 hq hq' h1
    obtain ⟨e3, h3⟩ := c17InjL ar vs vs' r r' ra rb (fun c hc => ih.2 c (Or.inr hc))
      (by rw [s4, t4]) s5 t5 hr hr' h2
    exact ⟨by simp only [c17Erase, e1, e2, e3], h3⟩

/-- **Injectivity of the chunk sequence on separable trees**, up to what is never fed. -/
theorem c17_digest_inj (ar : String → Nat) (a b : Expr) (l : List String)
    (sa : c17Sep ar a = true) (sb : c17Sep ar b = true) (da : digest a = .ok l)
    (db : digest b = .ok l) : c17Erase a = c17Erase b :=
  (c17_inj_main ar a b l l [] [] sa sb da db rfl).1

/-! ### the converse: the digest does not see what `c17Erase` removes -/

theorem digestL_congr_map : ∀ (cs : List Expr), (∀ c ∈ cs, digest (c17Erase c) = digest c) →
    digestL (c17EraseL cs) = digestL cs
  | [], _ => rfl
  | c :: cs, h => by
    simp only [List.forall_mem_cons] at h
    simp only [c17EraseL, digestL, h.1, digestL_congr_map cs h.2]

/-- the digest of a tree is the digest of its erasure -/
theorem digest_c17Erase (a : Expr) : digest (c17Erase a) = digest a := by
  induction a using Expr.induct with | _ a ih => ?_
  cases a <;>
    simp only [Expr.children, List.forall_mem_cons, List.not_mem_nil, false_imp_iff, implies_true,
      and_true, List.mem_append] at ih
  case const c => cases c <;> simp [c17Erase, digest, constRepr]
  case bin o x y => cases o <;> simp only [c17Erase, digest, ih.1, ih.2]
  case nary o cs => simp only [c17Erase, digest, digestL_congr_map cs ih]
  case tuple cs => simp only [c17Erase, digest, digestL_congr_map cs ih]
  case list cs => simp only [c17Erase, digest, digestL_congr_map cs ih]
  case slice cs =>
    simp only [c17Erase, digest, digestSlice_eq_digestL, c17EraseSlice_eq]
    have hf : ∀ l : List Expr, (∀ c ∈ l, c.c04IsNone = false) →
        (c17EraseL l).filter (fun c => !c.c04IsNone) = c17EraseL l := by
      intro l hl
      induction l with
      | nil => rfl
      | cons c cs ihl =>
        simp only [List.forall_mem_cons] at hl
        have : (c17Erase c).c04IsNone = false := by
          have := hl.1
          cases c with
          | const k => cases k <;> first | rfl | (simp [Expr.c04IsNone] at this)
          | _ => rfl
        simp [c17EraseL, List.filter_cons, this, ihl hl.2]
    rw [hf _ (fun c hc => by simpa using (List.mem_filter.1 hc).2),
      digestL_congr_map _ (fun c hc => ih c (List.mem_filter.1 hc).1)]
  case call f as => simp only [c17Erase, digest, ih.1, digestL_congr_map as ih.2]
  case subst f vs as => simp only [c17Erase, digest, ih.1, digestL_congr_map as ih.2]
  case callKw f as ns vs =>
    simp only [c17Erase, digest, ih.1, digestL_congr_map as (fun c hc => ih.2 c (Or.inl hc)),
      digestL_congr_map vs (fun c hc => ih.2 c (Or.inr hc))]
  case ite c t e => simp only [c17Erase, digest, ih.1, ih.2.1, ih.2.2]
  all_goals first
    | (simp only [c17Erase, digest, ih.1, ih.2]; done)
    | (simp only [c17Erase, digest, ih]; done)
    | (simp only [c17Erase, digest]; done)

theorem digest_of_c17Erase_eq {a b : Expr} (h : c17Erase a = c17Erase b) :
    digest a = digest b := by
  rw [← digest_c17Erase a, ← digest_c17Erase b, h]

/-! ### concatenation of the pieces -/

theorem c17_enc_ne_nil {enc : String → List Char} (hp : C17PrefixFree enc) (t : String) :
    enc t ≠ [] := by
  intro h0
  have h := (hp t (t ++ "x") (enc (t ++ "x")) [] (by simp [h0])).1
  have := congrArg (fun s => s.toList.length) h
  simp [String.toList_append] at this

theorem c17_flat_inj {enc : String → List Char} (hp : C17PrefixFree enc) :
    ∀ (l₁ l₂ : List String), c17Flat enc l₁ = c17Flat enc l₂ → l₁ = l₂
  | [], [], _ => rfl
  | [], t :: l₂, h => by
    simp only [c17Flat, List.flatMap_nil, List.flatMap_cons] at h
    exact absurd (List.append_eq_nil_iff.1 h.symm).1 (c17_enc_ne_nil hp t)
  | s :: l₁, [], h => by
    simp only [c17Flat, List.flatMap_nil, List.flatMap_cons] at h
    exact absurd (List.append_eq_nil_iff.1 h).1 (c17_enc_ne_nil hp s)
  | s :: l₁, t :: l₂, h => by
    simp only [c17Flat, List.flatMap_cons] at h
    obtain ⟨rfl, h'⟩ := hp s t _ _ h
    rw [c17_flat_inj hp l₁ l₂ h']

end PV.Pickle
