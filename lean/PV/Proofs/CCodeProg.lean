import PV.Model.CCodeProg
import PV.Proofs.CCodeInv
import PV.Proofs.CCodeValue
import PV.Proofs.CseEval
/-
  C14, program level: helper lemmas for `PV/Properties/C14Prog.lean`.

  1. `progE` is `ccodeE` with one more output (`progE_proj`): same text, same names, same state.
  2. The fragment `cFragCse`; the wrapper-free tree `erase M e` (`M` = any extension of the
     resulting `cse_to_name`) lies in `cFrag`, so `value_core` applies to it.
  3. On `cFragCse` plan and assembly do not look inside wrappers: the printed structure of a tree
     is the printed structure of `erase M e`.
  4. `TExt`: `cse_to_name` only grows.
  5. `sim`: the meaning of `erase M e` in the environment extended by the assignments is the
     meaning of `strip e` in the original environment (as C numbers), when every outermost wrapper
     is bound to the value of its child.
  6. `ProgInv` (`PI` with its extended environment hidden): the invariant of histories, kept by
     every call (`progE_good`).
  7. `den_strip`: the evaluator does not see wrappers.
  8. Histories: `emitsP` keeps the invariant and projects to `emits`.
-/
namespace PV.C14
open PV

/-! ### 1. `progE` projects to `ccodeE` -/

def proj : POut → COut := fun o => (o.1, o.2.1, o.2.2.2)

def ProjOK (f : PPrinter) (g : Printer) : Prop :=
  ∀ st e enc, (f st e enc).map proj = g st e enc

theorem printAllP_proj (f : PPrinter) (g : Printer) (h : ProjOK f g) :
    ∀ pl st, (printAllP f st pl).map (fun o => (o.1, o.2.1, o.2.2.2)) = printAll g st pl := by
  intro pl
  induction pl with
  | nil => intro st; rfl
  | cons x rest ih =>
    intro st
    obtain ⟨e, enc⟩ := x
    simp only [printAllP, printAll, bind, Except.bind]
    rw [← h st e enc]
    cases h1 : f st e enc with
    | error err => rfl
    | ok w =>
      obtain ⟨d, r, a, st1⟩ := w
      simp only [Except.map, proj]
      rw [← ih st1]
      cases h2 : printAllP f st1 rest with
      | error err => rfl
      | ok w2 => rfl

theorem progGeneric_proj (S : PrintPrec) (f : PPrinter) (g : Printer) (h : ProjOK f g) :
    ∀ st e enc, (progGeneric S f st e enc).map proj = ccodeGeneric S g st e enc := by
  intro st e enc
  simp only [progGeneric, ccodeGeneric, bind, Except.bind]
  cases hp : plan S e enc with
  | error err => rfl
  | ok pl =>
    simp only []
    rw [← printAllP_proj f g h pl st]
    cases h2 : printAllP f st pl with
    | error err => rfl
    | ok w =>
      obtain ⟨ds, r, a, st1⟩ := w
      simp only [Except.map]
      cases h3 : assemble S st.reverse e enc ds with
      | error err => rfl
      | ok d => rfl

theorem progCse_proj (S : PrintPrec) (f : PPrinter) (g : Printer) (h : ProjOK f g) :
    ∀ st c p, (progCse S f st c p).map proj = ccodeCse S g st c p := by
  intro st c p
  unfold progCse ccodeCse
  cases hl : c.hasList with
  | true => rfl
  | false =>
    simp only [Bool.false_eq_true, if_false]
    cases hk : st.toName.find? (fun kv => kv.1.eq (.expr c)) with
    | some kv => rfl
    | none =>
      simp only []
      rw [← h st c S.none]
      cases h1 : f st c S.none with
      | error err => rfl
      | ok w =>
        obtain ⟨d, r, a, st1⟩ := w
        simp only [Except.map, proj]
        cases hf : freshName st1 p with
        | none => rfl
        | some n =>
          simp only []
          cases hg : st1.toName.find? (fun kv => kv.1.eq (.expr c)) with
          | some kv => rfl
          | none => rfl

theorem progE_proj (S : PrintPrec) : ∀ fuel, ProjOK (progE S fuel) (ccodeE S fuel) := by
  intro fuel
  induction fuel with
  | zero => intro st e enc; rfl
  | succ n ih =>
    intro st e enc
    cases e with
    | cse c p sc =>
      simp only [progE, ccodeE]
      exact progCse_proj S _ _ ih st c p
    | _ =>
      simp only [progE, ccodeE]
      exact progGeneric_proj S _ _ ih st _ enc

/-- **the program-level mapper is the mapper**: same printed structure, same names, same state -/
theorem emitProg_ccode (S : PrintPrec) (st : CSt) (e : Expr) :
    (emitProg S st e).map proj = ccode S st e := progE_proj S _ st e _

/-! ### 2. the fragment `cFragCse` -/

theorem eraseL_eq_map (M : List (CCKey × String)) : ∀ cs, eraseL M cs = cs.map (erase M)
  | [] => rfl
  | c :: cs => by simp [eraseL, eraseL_eq_map M cs]

theorem stripL_eq_map : ∀ cs, stripL cs = cs.map strip
  | [] => rfl
  | c :: cs => by simp [stripL, stripL_eq_map cs]

theorem cseAllL_eq_all (deep : Bool) (P : Expr → Bool) :
    ∀ cs, cseAllL deep P cs = cs.all (cseAll deep P)
  | [] => rfl
  | c :: cs => by simp [cseAllL, cseAllL_eq_all deep P cs]

theorem cFragCseL_iff : ∀ cs, cFragCseL cs = true ↔ ∀ x ∈ cs, cFragCse x = true
  | [] => by simp [cFragCseL]
  | c :: cs => by simp [cFragCseL, cFragCseL_iff cs]

theorem cFragCseP_iff : ∀ cs, cFragCseP cs = true ↔ ∀ x ∈ cs, cFragCse x = true ∧ isRem x = false
  | [] => by simp [cFragCseP]
  | c :: cs => by simp [cFragCseP, cFragCseP_iff cs, and_assoc]

/-- case analysis / induction over the fragment -/
theorem cFragCse_induct {P : Expr → Prop}
    (hconst : ∀ n, P (.const (.int n)))
    (hvar : ∀ x, P (.var x))
    (hcse : ∀ c p s, cFragCse c = true → P c → P (.cse c p s))
    (hsum : ∀ c cs, negShape c = false → (∀ x ∈ c :: cs, cFragCse x = true ∧ P x) →
      P (.nary .sum (c :: cs)))
    (hprod : ∀ c1 c2 cs, (∀ x ∈ c1 :: c2 :: cs, cFragCse x = true ∧ isRem x = false ∧ P x) →
      P (.nary .prod (c1 :: c2 :: cs)))
    (hnary : ∀ op, (op = .band ∨ op = .bxor ∨ op = .bor ∨ op = .land ∨ op = .lor) →
      ∀ c1 c2 cs, (∀ x ∈ c1 :: c2 :: cs, cFragCse x = true ∧ P x) → P (.nary op (c1 :: c2 :: cs)))
    (hmm : ∀ op, (op = .min ∨ op = .max) → ∀ a b, cFragCse a = true → cFragCse b = true →
      P a → P b → P (.nary op [a, b]))
    (hbin : ∀ op, (op = .floordiv ∨ op = .lshift ∨ op = .rshift) → ∀ a b, cFragCse a = true →
      cFragCse b = true → P a → P b → P (.bin op a b))
    (hrem : ∀ a b, cFragCse a = true → cFragCse b = true → isPow b = false → P a → P b →
      P (.bin .rem a b))
    (hpow : ∀ x, P (.bin .pow (.var x) (.const (.int 2))))
    (hun : ∀ op a, cFragCse a = true → P a → P (.un op a))
    (hcmp : ∀ op a b, cFragCse a = true → cFragCse b = true → isBitwise a = false →
      isBitwise b = false → P a → P b → P (.cmp op a b))
    (hite : ∀ c t e, cFragCse c = true → cFragCse t = true → cFragCse e = true →
      P c → P t → P e → P (.ite c t e)) :
    ∀ e, cFragCse e = true → P e := by
  intro e
  induction e using Expr.induct with
  | h e ih =>
    intro h
    cases e with
    | const c => cases c <;> simp [cFragCse] at h; exact hconst _
    | var x => exact hvar x
    | cse c p s =>
      simp only [cFragCse] at h
      exact hcse c p s h (ih c (by simp [Expr.children]) h)
    | nary op cs =>
      have ihc : ∀ c ∈ cs, cFragCse c = true → P c :=
        fun c hc => ih c (by simp [Expr.children, hc])
      have two : ∀ op, (op = .band ∨ op = .bxor ∨ op = .bor ∨ op = .land ∨ op = .lor) →
          ∀ c1 c2 cs', (∀ c ∈ c1 :: c2 :: cs', cFragCse c = true → P c) →
          cFragCseL (c1 :: c2 :: cs') = true → P (.nary op (c1 :: c2 :: cs')) := by
        intro op hop c1 c2 cs' ihc hl
        rw [cFragCseL_iff] at hl
        exact hnary op hop c1 c2 cs' (fun x hx => ⟨hl x hx, ihc x hx (hl x hx)⟩)
      cases op with
      | sum =>
        match cs, h, ihc with
        | [], h, _ => simp [cFragCse] at h
        | c :: cs', h, ihc =>
          simp only [cFragCse, Bool.and_eq_true, Bool.not_eq_true'] at h
          have hl : cFragCseL (c :: cs') = true := by simp [cFragCseL, h.1.1, h.2]
          rw [cFragCseL_iff] at hl
          exact hsum c cs' h.1.2 (fun x hx => ⟨hl x hx, ihc x hx (hl x hx)⟩)
      | prod =>
        match cs, h, ihc with
        | [], h, _ => simp [cFragCse] at h
        | [_], h, _ => simp [cFragCse] at h
        | c1 :: c2 :: cs', h, ihc =>
          simp only [cFragCse, Bool.and_eq_true, Bool.not_eq_true'] at h
          have hl : cFragCseP (c1 :: c2 :: cs') = true := by
            simp only [cFragCseP, Bool.and_eq_true, Bool.not_eq_true'] at h ⊢
            exact ⟨h.1, h.2⟩
          rw [cFragCseP_iff] at hl
          exact hprod c1 c2 cs' (fun x hx => ⟨(hl x hx).1, (hl x hx).2, ihc x hx (hl x hx).1⟩)
      | band | bxor | bor | land | lor =>
        match cs, h, ihc with
        | [], h, _ => cases h
        | [_], h, _ => cases h
        | c1 :: c2 :: cs', h, ihc =>
          exact two _ (by simp) c1 c2 cs' ihc (by
            simp only [cFragCse, cFragCseL, Bool.and_eq_true] at h ⊢; exact h)
      | min | max =>
        match cs, h, ihc with
        | [a, b], h, ihc =>
          simp only [cFragCse, Bool.and_eq_true] at h
          exact hmm _ (by simp) a b h.1 h.2 (ihc a (by simp) h.1) (ihc b (by simp) h.2)
        | [], h, _ => cases h
        | [_], h, _ => cases h
        | _ :: _ :: _ :: _, h, _ => cases h
    | bin op a b =>
      have iha := ih a (by simp [Expr.children])
      have ihb := ih b (by simp [Expr.children])
      cases op with
      | floordiv | lshift | rshift =>
        simp only [cFragCse, Bool.and_eq_true] at h
        exact hbin _ (by simp) a b h.1 h.2 (iha h.1) (ihb h.2)
      | rem =>
        simp only [cFragCse, Bool.and_eq_true, Bool.not_eq_true'] at h
        exact hrem a b h.1.1 h.1.2 h.2 (iha h.1.1) (ihb h.1.2)
      | pow =>
        cases a with
        | var x =>
          cases b with
          | const c =>
            cases c with
            | int k =>
              simp only [cFragCse, beq_iff_eq] at h
              subst h
              exact hpow x
            | _ => cases h
          | _ => cases h
        | _ => cases h
      | _ => simp [cFragCse] at h
    | un op a =>
      simp only [cFragCse] at h
      exact hun op a h (ih a (by simp [Expr.children]) h)
    | cmp op a b =>
      simp only [cFragCse, Bool.and_eq_true, Bool.not_eq_true'] at h
      exact hcmp op a b h.1.1.1 h.1.1.2 h.1.2 h.2 (ih a (by simp [Expr.children]) h.1.1.1)
        (ih b (by simp [Expr.children]) h.1.1.2)
    | ite c t e =>
      simp only [cFragCse, Bool.and_eq_true] at h
      exact hite c t e h.1.1 h.1.2 h.2 (ih c (by simp [Expr.children]) h.1.1)
        (ih t (by simp [Expr.children]) h.1.2) (ih e (by simp [Expr.children]) h.2)
    | _ => simp [cFragCse] at h

theorem cFragML_iff (m : Bool) : ∀ cs, cFragML m cs = true ↔ ∀ x ∈ cs, cFragM m x = true
  | [] => by simp [cFragML]
  | c :: cs => by simp [cFragML, cFragML_iff m cs]

theorem cFragMP_iff (m : Bool) :
    ∀ cs, cFragMP m cs = true ↔ ∀ x ∈ cs, cFragM m x = true ∧ isRem x = false
  | [] => by simp [cFragMP]
  | c :: cs => by simp [cFragMP, cFragMP_iff m cs, and_assoc]

theorem simpleL_iff : ∀ cs, Expr.simpleL cs = true ↔ ∀ x ∈ cs, x.simple = true
  | [] => by simp [Expr.simpleL]
  | c :: cs => by simp [Expr.simpleL, simpleL_iff cs]

/-- on the fragment Python `==` is structural identity -/
theorem cFragCse_simple : ∀ e, cFragCse e = true → e.simple = true := by
  apply cFragCse_induct
  · intro n; rfl
  · intro x; rfl
  · intro c p s _ ih; simpa [Expr.simple] using ih
  · intro c cs _ h
    simp only [Expr.simple, simpleL_iff]
    exact fun x hx => (h x hx).2
  · intro c1 c2 cs h
    simp only [Expr.simple, simpleL_iff]
    exact fun x hx => (h x hx).2.2
  · intro op _ c1 c2 cs h
    simp only [Expr.simple, simpleL_iff]
    exact fun x hx => (h x hx).2
  · intro op _ a b _ _ ha hb
    simp [Expr.simple, Expr.simpleL, ha, hb]
  · intro op _ a b _ _ ha hb
    simp [Expr.simple, ha, hb]
  · intro a b _ _ _ ha hb
    simp [Expr.simple, ha, hb]
  · intro x; rfl
  · intro op a _ ha; simpa [Expr.simple] using ha
  · intro op a b _ _ _ _ ha hb
    simp [Expr.simple, ha, hb]
  · intro c t e _ _ _ hc ht he
    simp [Expr.simple, hc, ht, he]

/-! #### the head of a tree survives `erase` (a wrapper becomes a variable) -/

theorem isRem_erase (M : List (CCKey × String)) (e : Expr) : isRem (erase M e) = isRem e := by
  cases e with
  | bin op a b => cases op <;> rfl
  | _ => rfl

theorem isPow_erase (M : List (CCKey × String)) (e : Expr) : isPow (erase M e) = isPow e := by
  cases e with
  | bin op a b => cases op <;> rfl
  | _ => rfl

theorem isBitwise_erase (M : List (CCKey × String)) (e : Expr) :
    isBitwise (erase M e) = isBitwise e := by
  cases e with
  | nary op cs => cases op <;> rfl
  | _ => rfl

theorem isMultiplicative_erase (M : List (CCKey × String)) (e : Expr) :
    isMultiplicative (erase M e) = isMultiplicative e := by
  cases e with
  | nary op cs => cases op <;> rfl
  | bin op a b => cases op <;> rfl
  | _ => rfl

theorem negShape_erase (M : List (CCKey × String)) (e : Expr) :
    negShape (erase M e) = negShape e := by
  cases e with
  | nary op cs =>
    cases op <;> try rfl
    cases cs with
    | nil => rfl
    | cons c0 rest =>
      cases c0 with
      | const c => cases c <;> rfl
      | _ => rfl
  | _ => rfl

/-- the printed tree lies in the wrapper-free fragment `cFrag` -/
theorem erase_frag (M : List (CCKey × String)) :
    ∀ e, cFragCse e = true → cFragM true (erase M e) = true := by
  apply cFragCse_induct
  · intro n; rfl
  · intro x; rfl
  · intro c p s _ _; rfl
  · intro c cs hn h
    simp only [erase, eraseL, cFragM, Bool.and_eq_true, Bool.not_eq_true', negShape_erase, hn,
      cFragML_iff, eraseL_eq_map, List.mem_map]
    refine ⟨⟨(h c (by simp)).2, trivial⟩, ?_⟩
    rintro x ⟨y, hy, rfl⟩
    exact (h y (by simp [hy])).2
  · intro c1 c2 cs h
    simp only [erase, eraseL, cFragM, Bool.and_eq_true, Bool.not_eq_true', isRem_erase]
    refine ⟨⟨(h c1 (by simp)).2.2, (h c1 (by simp)).2.1⟩, ?_⟩
    have := (cFragMP_iff true (eraseL M (c2 :: cs))).mpr (by
      simp only [eraseL_eq_map, List.mem_map]
      rintro x ⟨y, hy, rfl⟩
      exact ⟨(h y (by simp [hy])).2.2, by rw [isRem_erase]; exact (h y (by simp [hy])).2.1⟩)
    simpa [eraseL] using this
  · intro op hop c1 c2 cs h
    have hl := (cFragML_iff true (eraseL M (c2 :: cs))).mpr (by
      simp only [eraseL_eq_map, List.mem_map]
      rintro x ⟨y, hy, rfl⟩
      exact (h y (by simp [hy])).2)
    have h1 := (h c1 (by simp)).2
    simp only [eraseL] at hl
    rcases hop with rfl | rfl | rfl | rfl | rfl <;> simp [erase, eraseL, cFragM, h1, hl]
  · intro op hop a b _ _ ha hb
    rcases hop with rfl | rfl <;> simp [erase, eraseL, cFragM, ha, hb]
  · intro op hop a b _ _ ha hb
    rcases hop with rfl | rfl | rfl <;> simp [erase, cFragM, ha, hb]
  · intro a b _ _ hp ha hb
    simp [erase, cFragM, ha, hb, isPow_erase, hp]
  · intro x; rfl
  · intro op a _ ha; simp [erase, cFragM, ha]
  · intro op a b _ _ h1 h2 ha hb
    simp [erase, cFragM, ha, hb, isBitwise_erase, h1, h2]
  · intro c t e _ _ _ hc ht he
    simp [erase, cFragM, hc, ht, he]

/-! ### 3. the handlers on the fragment: plan and assembly do not look inside wrappers -/

def isCseB : Expr → Bool
  | .cse .. => true
  | _ => false

theorem cFragCse_head (e : Expr) (h : cFragCse e = true) :
    (∃ n, e = .const (.int n)) ∨ e.isNode = true := by
  cases e with
  | const c => cases c <;> simp [cFragCse] at h; exact Or.inl ⟨_, rfl⟩
  | tuple cs => simp [cFragCse] at h
  | list cs => simp [cFragCse] at h
  | _ => exact Or.inr rfl

theorem plusOneIsZero_fragCse (c0 : Expr) (h : cFragCse c0 = true) :
    plusOneIsZero c0 = .ok (isNegOneE c0) := by
  rcases cFragCse_head c0 h with ⟨n, rfl⟩ | hn
  · simp only [plusOneIsZero, isNegOneE, pure, Except.pure]
    have : (n + 1 == 0) = (n == -1) := by
      rw [Bool.eq_iff_iff]
      simp only [beq_iff_eq]
      omega
    rw [this]
  · rw [plusOneIsZero_node c0 hn]
    cases c0 <;> simp [Expr.isNode] at hn <;> rfl

/-- `get_neg_product` on the fragment with wrappers: exactly the products `-1 * …` -/
theorem negProd_fragCse (ch : Expr) (h : cFragCse ch = true) :
    negProd ch = .ok (if negShape ch then some (negBody ch) else none) := by
  cases ch with
  | nary op cs =>
    cases op with
    | prod =>
      match cs, h with
      | c0 :: c1 :: rest, h =>
        simp only [cFragCse, Bool.and_eq_true] at h
        have h0 := plusOneIsZero_fragCse c0 h.1.1
        simp only [negProd, h0]
        cases c0 with
        | const c =>
          cases c with
          | int n =>
            by_cases hn : n = -1
            · subst hn
              cases rest <;> simp [isNegOneE, negShape, negBody, pure, Except.pure]
            · have hf : (n == -1) = false := by simp [hn]
              simp [isNegOneE, negShape, hf, pure, Except.pure]
          | _ => simp [isNegOneE, negShape, pure, Except.pure]
        | _ => simp [isNegOneE, negShape, pure, Except.pure]
    | _ => simp [negProd, negShape, pure, Except.pure]
  | _ => simp [negProd, negShape, pure, Except.pure]

theorem negBody_erase (M : List (CCKey × String)) (ch : Expr) (hn : negShape ch = true) :
    negBody (erase M ch) = erase M (negBody ch) := by
  obtain ⟨rest, rfl⟩ := negShape_elim hn
  rcases rest with _ | ⟨b, _ | ⟨c, r⟩⟩ <;> rfl

theorem negBody_fragCse (ch : Expr) (h : cFragCse ch = true) (hn : negShape ch = true) :
    cFragCse (negBody ch) = true := by
  obtain ⟨rest, rfl⟩ := negShape_elim hn
  rcases rest with _ | ⟨c1, _ | ⟨c2, r⟩⟩
  · cases h
  · simp only [cFragCse, cFragCseP, Bool.and_eq_true] at h
    exact h.2.1.1
  · simp only [cFragCse, cFragCseP, Bool.and_eq_true] at h
    simp only [negBody, cFragCse, cFragCseP, Bool.and_eq_true]
    exact h.2

theorem negBody_cseAll (deep : Bool) (P : Expr → Bool) (ch : Expr) (hn : negShape ch = true) :
    cseAll deep P (negBody ch) = cseAll deep P ch := by
  obtain ⟨rest, rfl⟩ := negShape_elim hn
  rcases rest with _ | ⟨b, _ | ⟨c, r⟩⟩ <;> simp [cseAll, cseAllL, negBody]

theorem sumPlan_fragCse (S : PrintPrec) : ∀ cs : List Expr, (∀ x ∈ cs, cFragCse x = true) →
    sumPlan S cs = .ok (sumItems S cs)
  | [], _ => rfl
  | c :: cs, h => by
      simp only [sumPlan, negProd_fragCse c (h c (by simp)),
        sumPlan_fragCse S cs (fun x hx => h x (by simp [hx])), sumItems, List.map_cons]
      cases negShape c <;> simp [bind, Except.bind, pure, Except.pure]

theorem sumItems_erase (S : PrintPrec) (M : List (CCKey × String)) : ∀ cs : List Expr,
    sumItems S (eraseL M cs) = (sumItems S cs).map (fun it => (erase M it.1, it.2))
  | [] => rfl
  | c :: cs => by
      have ih := sumItems_erase S M cs
      simp only [sumItems, eraseL, List.map_cons, negShape_erase] at ih ⊢
      rw [ih]
      cases hn : negShape c with
      | true => simp [negBody_erase M c hn]
      | false => simp

theorem sumSplit_erase (M : List (CCKey × String)) : ∀ (cs : List Expr) (ds : List Doc),
    (∀ x ∈ cs, cFragCse x = true) → sumSplit (eraseL M cs) ds = sumSplit cs ds
  | [], _, _ => by simp [eraseL, sumSplit]
  | _ :: _, [], _ => by simp [eraseL, sumSplit]
  | c :: cs, d :: ds, h => by
      have ih := sumSplit_erase M cs ds (fun x hx => h x (by simp [hx]))
      have h1 := negProd_fragCse c (h c (by simp))
      have h2 := negProd_frag true (erase M c) (erase_frag M c (h c (by simp)))
      rw [negShape_erase] at h2
      simp only [eraseL, sumSplit, ih, h1, h2]
      cases negShape c <;> simp

theorem eraseL_items (M : List (CCKey × String)) (k : Nat) (l : List Expr) :
    (eraseL M l).map (·, k) = (l.map (·, k)).map (fun it => (erase M it.1, it.2)) := by
  simp only [eraseL_eq_map, List.map_map, Function.comp_def]

/-- what the handler of a tree of the fragment (not a wrapper) asks for: the same calls for the
tree and for the printed tree, on subtrees of the fragment that together contain every wrapper -/
theorem plan_fragCse (S : PrintPrec) (M : List (CCKey × String)) :
    ∀ e, cFragCse e = true → isCseB e = false → ∀ enc, ∃ pl, plan S e enc = .ok pl ∧
      plan S (erase M e) enc = .ok (pl.map (fun it => (erase M it.1, it.2))) ∧
      (∀ it ∈ pl, cFragCse it.1 = true) ∧
      (∀ deep P, cseAll deep P e = pl.all (fun it => cseAll deep P it.1)) := by
  apply cFragCse_induct
  · intro n _ enc
    exact ⟨[], rfl, rfl, by simp, by simp only [cseAll, List.all_cons, List.all_nil, Bool.and_true, implies_true]⟩
  · intro x _ enc
    exact ⟨[], rfl, rfl, by simp, by simp only [cseAll, List.all_cons, List.all_nil, Bool.and_true, implies_true]⟩
  · intro c p s _ _ hc
    simp [isCseB] at hc
  · intro c cs _ h _ enc
    have hf : ∀ x ∈ c :: cs, cFragCse x = true := fun x hx => (h x hx).1
    refine ⟨sumItems S (c :: cs), by simp only [plan]; exact sumPlan_fragCse S _ hf, ?_, ?_, ?_⟩
    · have he := erase_frag M _ (show cFragCse (.nary .sum (c :: cs)) = true by
        simp only [cFragCse, Bool.and_eq_true, Bool.not_eq_true', cFragCseL_iff]
        exact ⟨⟨hf c (by simp), by assumption⟩, fun x hx => hf x (by simp [hx])⟩)
      simp only [erase, eraseL, cFragM, Bool.and_eq_true] at he
      have hL : cFragML true (eraseL M (c :: cs)) = true := by
        simp only [eraseL, cFragML, Bool.and_eq_true]; exact ⟨he.1.1, he.2⟩
      simp only [erase, plan]
      rw [sumPlan_frag S true _ hL, sumItems_erase]
    · intro it hit
      simp only [sumItems, List.mem_map] at hit
      obtain ⟨ch, hch, rfl⟩ := hit
      cases hn : negShape ch with
      | true => simpa [hn] using negBody_fragCse ch (hf ch hch) hn
      | false => simpa [hn] using hf ch hch
    · intro deep P
      simp only [cseAll, cseAllL_eq_all, sumItems, List.all_map]
      congr 1
      funext ch
      simp only [Function.comp]
      cases hn : negShape ch with
      | true => simp [negBody_cseAll deep P ch hn]
      | false => simp
  · intro c1 c2 cs h _ enc
    refine ⟨(c1 :: c2 :: cs).map (·, S.product), rfl, ?_, ?_, ?_⟩
    · exact congrArg Except.ok (eraseL_items M _ _)
    · intro it hit
      simp only [List.mem_map] at hit
      obtain ⟨x, hx, rfl⟩ := hit
      exact (h x hx).1
    · intro deep P
      simp only [cseAll, cseAllL_eq_all, List.all_map, Function.comp_def]
  · intro op hop c1 c2 cs h _ enc
    have key : ∀ k : Nat, (∀ it ∈ (c1 :: c2 :: cs).map (·, k), cFragCse it.1 = true) ∧
        (∀ deep P, cseAll deep P (.nary op (c1 :: c2 :: cs)) =
          ((c1 :: c2 :: cs).map (·, k)).all (fun it => cseAll deep P it.1)) := by
      intro k
      refine ⟨?_, ?_⟩
      · intro it hit
        simp only [List.mem_map] at hit
        obtain ⟨x, hx, rfl⟩ := hit
        exact (h x hx).1
      · intro deep P
        simp only [cseAll, cseAllL_eq_all, List.all_map, Function.comp_def]
    rcases hop with rfl | rfl | rfl | rfl | rfl
    · exact ⟨_, rfl, congrArg Except.ok (eraseL_items M _ _), (key S.band).1, (key S.band).2⟩
    · exact ⟨_, rfl, congrArg Except.ok (eraseL_items M _ _), (key S.bxor).1, (key S.bxor).2⟩
    · exact ⟨_, rfl, congrArg Except.ok (eraseL_items M _ _), (key S.bor).1, (key S.bor).2⟩
    · exact ⟨_, rfl, congrArg Except.ok (eraseL_items M _ _), (key S.land).1, (key S.land).2⟩
    · exact ⟨_, rfl, congrArg Except.ok (eraseL_items M _ _), (key S.lor).1, (key S.lor).2⟩
  · intro op hop a b ha hb _ _ _ enc
    rcases hop with rfl | rfl
    · exact ⟨[(a, S.none), (b, S.none)], rfl, rfl, by simp [ha, hb],
        by simp only [cseAll, cseAllL, List.all_cons, List.all_nil, Bool.and_true, implies_true]⟩
    · exact ⟨[(a, S.none), (b, S.none)], rfl, rfl, by simp [ha, hb],
        by simp only [cseAll, cseAllL, List.all_cons, List.all_nil, Bool.and_true, implies_true]⟩
  · intro op hop a b ha hb _ _ _ enc
    rcases hop with rfl | rfl | rfl
    · exact ⟨[(a, S.product), (b, S.power)], rfl, rfl, by simp [ha, hb],
        by simp only [cseAll, List.all_cons, List.all_nil, Bool.and_true, implies_true]⟩
    · exact ⟨[(a, S.shift + 1), (b, S.shift + 1)], rfl, rfl, by simp [ha, hb],
        by simp only [cseAll, List.all_cons, List.all_nil, Bool.and_true, implies_true]⟩
    · exact ⟨[(a, S.shift + 1), (b, S.shift + 1)], rfl, rfl, by simp [ha, hb],
        by simp only [cseAll, List.all_cons, List.all_nil, Bool.and_true, implies_true]⟩
  · intro a b ha hb _ _ _ _ enc
    exact ⟨[(a, S.product), (b, S.product)], rfl, rfl, by simp [ha, hb],
      by simp only [cseAll, List.all_cons, List.all_nil, Bool.and_true, implies_true]⟩
  · intro x _ enc
    obtain ⟨r, hr, rfl⟩ := powPlan_var_two x
    refine ⟨[(.nary .prod [.var x, .var x], enc)], ?_, ?_, ?_, ?_⟩
    · simp [plan, hr, bind, Except.bind, pure, Except.pure]
    · simp [erase, eraseL, plan, hr, bind, Except.bind, pure, Except.pure]
    · simp [cFragCse, cFragCseP, isRem]
    · intro deep P; simp [cseAll, cseAllL]
  · intro op a ha _ _ enc
    exact ⟨[(a, S.unary)], rfl, rfl, by simp [ha], by simp only [cseAll, List.all_cons, List.all_nil, Bool.and_true, implies_true]⟩
  · intro op a b ha hb _ _ _ _ _ enc
    exact ⟨[(a, S.comparison + 1), (b, S.comparison + 1)], rfl, rfl,
      by simp [ha, hb], by simp only [cseAll, List.all_cons, List.all_nil, Bool.and_true, implies_true]⟩
  · intro c t e hc ht he _ _ _ _ enc
    exact ⟨[(c, S.none), (t, S.none), (e, S.none)], rfl, rfl,
      by simp [hc, ht, he], by simp only [cseAll, List.all_cons, List.all_nil, Bool.and_true, Bool.and_assoc, implies_true]⟩

/-- the handler puts the strings together in the same way for the tree and the printed tree -/
theorem assemble_erase (S : PrintPrec) (M : List (CCKey × String)) (rev : Bool) :
    ∀ e, cFragCse e = true → isCseB e = false → ∀ enc ds,
      assemble S rev (erase M e) enc ds = assemble S rev e enc ds := by
  apply cFragCse_induct
  · intro n _ enc ds; rfl
  · intro x _ enc ds; rfl
  · intro c p s _ _ hc
    simp [isCseB] at hc
  · intro c cs _ h _ enc ds
    simp only [erase, assemble]
    rw [sumSplit_erase M (c :: cs) ds (fun x hx => (h x hx).1)]
  · intro c1 c2 cs h _ enc ds; rfl
  · intro op hop c1 c2 cs h _ enc ds
    rcases hop with rfl | rfl | rfl | rfl | rfl <;> rfl
  · intro op hop a b _ _ _ _ _ enc ds
    rcases hop with rfl | rfl <;>
      rcases ds with _ | ⟨d1, _ | ⟨d2, _ | ⟨d3, ds⟩⟩⟩ <;> rfl
  · intro op hop a b _ _ _ _ _ enc ds
    rcases hop with rfl | rfl | rfl <;>
      rcases ds with _ | ⟨d1, _ | ⟨d2, _ | ⟨d3, ds⟩⟩⟩ <;> rfl
  · intro a b _ _ _ _ _ _ enc ds
    rcases ds with _ | ⟨d1, _ | ⟨d2, _ | ⟨d3, ds⟩⟩⟩ <;>
      simp only [erase, assemble, forceWrapD, isMultiplicative_erase]
  · intro x _ enc ds
    simp only [erase]
  · intro op a _ _ _ enc ds
    cases op <;> rcases ds with _ | ⟨d1, _ | ⟨d2, ds⟩⟩ <;> rfl
  · intro op a b _ _ _ _ _ _ _ enc ds
    rcases ds with _ | ⟨d1, _ | ⟨d2, _ | ⟨d3, ds⟩⟩⟩ <;> rfl
  · intro c t e _ _ _ _ _ _ _ enc ds
    rcases ds with _ | ⟨d1, _ | ⟨d2, _ | ⟨d3, _ | ⟨d4, ds⟩⟩⟩⟩ <;> rfl

/-! ### 4. `cse_to_name` only grows -/

/-- `M` extends `A` at the end (a dictionary to which new keys were added) -/
def TExt (A M : List (CCKey × String)) : Prop := ∃ t, M = A ++ t

theorem TExt.refl (A : List (CCKey × String)) : TExt A A := ⟨[], by simp⟩

theorem TExt.trans {A B C : List (CCKey × String)} (h1 : TExt A B) (h2 : TExt B C) : TExt A C := by
  obtain ⟨t1, rfl⟩ := h1
  obtain ⟨t2, rfl⟩ := h2
  exact ⟨t1 ++ t2, by simp⟩

theorem lookupName_ext {A M : List (CCKey × String)} {c : Expr} {n : String}
    (h : lookupName A c = some n) (hx : TExt A M) : lookupName M c = some n := by
  obtain ⟨t, rfl⟩ := hx
  unfold lookupName at h ⊢
  cases hf : A.find? (fun kv => kv.1.eq (.expr c)) with
  | none => simp [hf] at h
  | some kv =>
    rw [hf] at h
    simp only [List.find?_append, hf, Option.some_or]
    exact h

theorem lookupName_snoc {A : List (CCKey × String)} {c : Expr} (n : String)
    (h : A.find? (fun kv => kv.1.eq (.expr c)) = none) (hc : c.pyEq c = true) :
    lookupName (A ++ [(.expr c, n)]) c = some n := by
  unfold lookupName
  rw [List.find?_append, h]
  simp [CCKey.eq, hc]

/-! ### 5. the meaning of the printed tree in the extended environment -/

/-- the wrapper child `c` has a value, a name, and the name is bound to the value (as a C number) -/
def bnd (env envX : Env) (M : List (CCKey × String)) (c : Expr) : Bool :=
  match denV env (strip c), lookupName M c with
  | some w, some nm => envInt envX nm == some w.toInt
  | _, _ => false

/-- one tree means in `envX` (after printing) what the other means in `env` (as C numbers) -/
def SimAt (env envX : Env) (M : List (CCKey × String)) (e : Expr) : Prop :=
  ∀ w, denV env (strip e) = some w → ∃ w', denV envX (erase M e) = some w' ∧ w'.toInt = w.toInt

theorem bitV_defined (op : NaryOp) (hop : op = .band ∨ op = .bxor ∨ op = .bor) (x y : CVal)
    (hx : 0 ≤ x.toInt) (hy : 0 ≤ y.toInt) : ∃ r, bitV op x y = some r := by
  rcases hop with rfl | rfl | rfl <;> cases x <;> cases y <;> simp_all [bitV]

theorem bitV_congr (op : NaryOp) (hop : op = .band ∨ op = .bxor ∨ op = .bor) (x y x' y' r : CVal)
    (hx : x'.toInt = x.toInt) (hy : y'.toInt = y.toInt) (h : bitV op x y = some r) :
    ∃ r', bitV op x' y' = some r' ∧ r'.toInt = r.toInt := by
  obtain ⟨h1, h2, h3⟩ := bitV_toInt op x y r h
  obtain ⟨r', hr'⟩ := bitV_defined op hop x' y' (by omega) (by omega)
  obtain ⟨_, _, h3'⟩ := bitV_toInt op x' y' r' hr'
  exact ⟨r', hr', by rw [h3', h3, hx, hy]⟩

variable (env envX : Env) (M : List (CCKey × String))

theorem simL : ∀ cs : List Expr, (∀ x ∈ cs, SimAt env envX M x) →
    ∀ vs, denVL env (stripL cs) = some vs →
      ∃ vs', denVL envX (eraseL M cs) = some vs' ∧ vs'.map CVal.toInt = vs.map CVal.toInt
  | [], _, vs, h => by
      simp only [stripL, denVL, Option.some.injEq] at h
      subst h
      exact ⟨[], rfl, rfl⟩
  | c :: cs, hs, vs, h => by
      simp only [stripL, denVL] at h
      cases hc : denV env (strip c) with
      | none => simp [hc] at h
      | some v =>
        cases hl : denVL env (stripL cs) with
        | none => simp [hc, hl] at h
        | some vs0 =>
          simp only [hc, hl, Option.some.injEq] at h
          subst h
          obtain ⟨v', hv', hvt⟩ := hs c (by simp) v hc
          obtain ⟨vs', hvs', hvst⟩ := simL cs (fun x hx => hs x (by simp [hx])) vs0 hl
          exact ⟨v' :: vs', by simp [eraseL, denVL, hv', hvs'], by simp [hvt, hvst]⟩

theorem simBit (op : NaryOp) (hop : op = .band ∨ op = .bxor ∨ op = .bor) :
    ∀ (cs : List Expr) (acc acc' : CVal), acc'.toInt = acc.toInt → (∀ x ∈ cs, SimAt env envX M x) →
    ∀ w, denVBit env op acc (stripL cs) = some w →
      ∃ w', denVBit envX op acc' (eraseL M cs) = some w' ∧ w'.toInt = w.toInt
  | [], acc, acc', ha, _, w, h => by
      simp only [stripL, denVBit, Option.some.injEq] at h
      subst h
      exact ⟨acc', rfl, ha⟩
  | c :: cs, acc, acc', ha, hs, w, h => by
      simp only [stripL, denVBit] at h
      cases hc : denV env (strip c) with
      | none => simp [hc] at h
      | some v =>
        simp only [hc] at h
        cases hb : bitV op acc v with
        | none => simp [hb] at h
        | some a2 =>
          simp only [hb] at h
          obtain ⟨v', hv', hvt⟩ := hs c (by simp) v hc
          obtain ⟨a2', ha2', ha2t⟩ := bitV_congr op hop acc v acc' v' a2 ha hvt hb
          obtain ⟨w', hw', hwt⟩ := simBit op hop cs a2 a2' ha2t (fun x hx => hs x (by simp [hx])) w h
          exact ⟨w', by simp [eraseL, denVBit, hv', ha2', hw'], hwt⟩

theorem simAll : ∀ cs : List Expr, (∀ x ∈ cs, SimAt env envX M x) →
    ∀ w, denVAll env (stripL cs) = some w →
      ∃ w', denVAll envX (eraseL M cs) = some w' ∧ w'.toInt = w.toInt
  | [], _, w, h => by
      simp only [stripL, denVAll, Option.some.injEq] at h
      subst h
      exact ⟨_, rfl, rfl⟩
  | c :: cs, hs, w, h => by
      simp only [stripL, denVAll] at h
      cases hc : denV env (strip c) with
      | none => simp [hc] at h
      | some v =>
        simp only [hc] at h
        obtain ⟨v', hv', hvt⟩ := hs c (by simp) v hc
        by_cases hz : v.toInt = 0
        · simp only [hz, if_true, Option.some.injEq] at h
          subst h
          exact ⟨.b false, by simp [eraseL, denVAll, hv', hvt, hz], rfl⟩
        · simp only [hz, if_false] at h
          obtain ⟨w', hw', hwt⟩ := simAll cs (fun x hx => hs x (by simp [hx])) w h
          exact ⟨w', by simp [eraseL, denVAll, hv', hvt, hz, hw'], hwt⟩

theorem simAny : ∀ cs : List Expr, (∀ x ∈ cs, SimAt env envX M x) →
    ∀ w, denVAny env (stripL cs) = some w →
      ∃ w', denVAny envX (eraseL M cs) = some w' ∧ w'.toInt = w.toInt
  | [], _, w, h => by
      simp only [stripL, denVAny, Option.some.injEq] at h
      subst h
      exact ⟨_, rfl, rfl⟩
  | c :: cs, hs, w, h => by
      simp only [stripL, denVAny] at h
      cases hc : denV env (strip c) with
      | none => simp [hc] at h
      | some v =>
        simp only [hc] at h
        obtain ⟨v', hv', hvt⟩ := hs c (by simp) v hc
        by_cases hz : v.toInt = 0
        · simp only [hz, if_true] at h
          obtain ⟨w', hw', hwt⟩ := simAny cs (fun x hx => hs x (by simp [hx])) w h
          exact ⟨w', by simp [eraseL, denVAny, hv', hvt, hz, hw'], hwt⟩
        · simp only [hz, if_false, Option.some.injEq] at h
          subst h
          exact ⟨.b true, by simp [eraseL, denVAny, hv', hvt, hz], rfl⟩

/-- two operands, a result that depends on their numbers only -/
theorem sim2 {a b : Expr} (ha : SimAt env envX M a) (hb : SimAt env envX M b)
    {x y : CVal} (hx : denV env (strip a) = some x) (hy : denV env (strip b) = some y) :
    ∃ x' y', denV envX (erase M a) = some x' ∧ denV envX (erase M b) = some y' ∧
      x'.toInt = x.toInt ∧ y'.toInt = y.toInt := by
  obtain ⟨x', h1, h2⟩ := ha x hx
  obtain ⟨y', h3, h4⟩ := hb y hy
  exact ⟨x', y', h1, h3, h2, h4⟩

/-- **the printed tree means, in the environment extended by the assignments, what the tree
means**: if every outermost wrapper of `e` is bound to the value of its child (`bnd`) and the
extended environment agrees with the original one where that is defined -/
theorem sim (hext : ∀ x k, envInt env x = some k → envInt envX x = some k) :
    ∀ e, cFragCse e = true → cseAll false (bnd env envX M) e = true → SimAt env envX M e := by
  apply cFragCse_induct
  · intro n _ w h
    exact ⟨w, by simpa [strip, erase, denV] using h, rfl⟩
  · intro x _ w h
    simp only [strip, denV] at h
    cases hx : envInt env x with
    | none => simp [hx] at h
    | some k =>
      simp only [hx, Option.map_some, Option.some.injEq] at h
      subst h
      exact ⟨.i k, by simp [erase, denV, hext x k hx], rfl⟩
  · intro c p s _ _ hb w h
    simp only [cseAll, Bool.not_false, Bool.true_or, Bool.and_true, bnd] at hb
    simp only [strip] at h
    rw [h] at hb
    cases hl : lookupName M c with
    | none => simp [hl] at hb
    | some nm =>
      simp only [hl, beq_iff_eq] at hb
      exact ⟨.i w.toInt, by simp [erase, hl, denV, hb], rfl⟩
  · intro c cs _ h hb w hw
    simp only [cseAll, cseAllL_eq_all, List.all_eq_true] at hb
    have hs : ∀ x ∈ c :: cs, SimAt env envX M x := fun x hx => (h x hx).2 (hb x hx)
    have hw' : denV env (.nary .sum (stripL (c :: cs))) = some w := by simpa [strip, stripL] using hw
    simp only [denV] at hw'
    cases hl : denVL env (stripL (c :: cs)) with
    | none => simp [hl] at hw'
    | some vs =>
      simp only [hl, Option.map_some, Option.some.injEq] at hw'
      subst hw'
      obtain ⟨vs', h1, h2⟩ := simL env envX M (c :: cs) hs vs hl
      refine ⟨.i (sumL (vs'.map CVal.toInt)), ?_, by simp [h2]⟩
      have : erase M (.nary .sum (c :: cs)) = .nary .sum (eraseL M (c :: cs)) := by simp [erase]
      rw [this]
      simp only [denV, h1, Option.map_some]
  · intro c1 c2 cs h hb w hw
    simp only [cseAll, cseAllL_eq_all, List.all_eq_true] at hb
    have hs : ∀ x ∈ c1 :: c2 :: cs, SimAt env envX M x := fun x hx => (h x hx).2.2 (hb x hx)
    have hw' : denV env (.nary .prod (stripL (c1 :: c2 :: cs))) = some w := by
      simpa [strip, stripL] using hw
    simp only [denV] at hw'
    cases hl : denVL env (stripL (c1 :: c2 :: cs)) with
    | none => simp [hl] at hw'
    | some vs =>
      simp only [hl, Option.map_some, Option.some.injEq] at hw'
      subst hw'
      obtain ⟨vs', h1, h2⟩ := simL env envX M (c1 :: c2 :: cs) hs vs hl
      refine ⟨.i (prodL (vs'.map CVal.toInt)), ?_, by simp [h2]⟩
      have : erase M (.nary .prod (c1 :: c2 :: cs)) = .nary .prod (eraseL M (c1 :: c2 :: cs)) := by
        simp [erase]
      rw [this]
      simp only [denV, h1, Option.map_some]
  · intro op hop c1 c2 cs h hb w hw
    simp only [cseAll, cseAllL_eq_all, List.all_eq_true] at hb
    have hs : ∀ x ∈ c1 :: c2 :: cs, SimAt env envX M x := fun x hx => (h x hx).2 (hb x hx)
    rcases hop with rfl | rfl | rfl | rfl | rfl
    · simp only [strip, stripL, denV] at hw
      cases hc : denV env (strip c1) with
      | none => simp [hc] at hw
      | some v =>
        simp only [hc] at hw
        obtain ⟨v', hv', hvt⟩ := hs c1 (by simp) v hc
        obtain ⟨w', hw', hwt⟩ := simBit env envX M .band (by simp) (c2 :: cs) v v' hvt
          (fun x hx => hs x (by simp [hx])) w (by simpa [stripL] using hw)
        exact ⟨w', by simpa [erase, eraseL, denV, hv'] using hw', hwt⟩
    · simp only [strip, stripL, denV] at hw
      cases hc : denV env (strip c1) with
      | none => simp [hc] at hw
      | some v =>
        simp only [hc] at hw
        obtain ⟨v', hv', hvt⟩ := hs c1 (by simp) v hc
        obtain ⟨w', hw', hwt⟩ := simBit env envX M .bxor (by simp) (c2 :: cs) v v' hvt
          (fun x hx => hs x (by simp [hx])) w (by simpa [stripL] using hw)
        exact ⟨w', by simpa [erase, eraseL, denV, hv'] using hw', hwt⟩
    · simp only [strip, stripL, denV] at hw
      cases hc : denV env (strip c1) with
      | none => simp [hc] at hw
      | some v =>
        simp only [hc] at hw
        obtain ⟨v', hv', hvt⟩ := hs c1 (by simp) v hc
        obtain ⟨w', hw', hwt⟩ := simBit env envX M .bor (by simp) (c2 :: cs) v v' hvt
          (fun x hx => hs x (by simp [hx])) w (by simpa [stripL] using hw)
        exact ⟨w', by simpa [erase, eraseL, denV, hv'] using hw', hwt⟩
    · have hw' : denVAll env (stripL (c1 :: c2 :: cs)) = some w := by
        simpa [strip, stripL, denV] using hw
      obtain ⟨w', h1, h2⟩ := simAll env envX M (c1 :: c2 :: cs) hs w hw'
      exact ⟨w', by simpa [erase, eraseL, denV] using h1, h2⟩
    · have hw' : denVAny env (stripL (c1 :: c2 :: cs)) = some w := by
        simpa [strip, stripL, denV] using hw
      obtain ⟨w', h1, h2⟩ := simAny env envX M (c1 :: c2 :: cs) hs w hw'
      exact ⟨w', by simpa [erase, eraseL, denV] using h1, h2⟩
  · intro op hop a b _ _ ha hb hbn w hw
    have hbn' : cseAll false (bnd env envX M) a = true ∧ cseAll false (bnd env envX M) b = true := by
      simpa [cseAll, cseAllL] using hbn
    rcases hop with rfl | rfl
    · simp only [strip, stripL, denV] at hw
      cases hx : denV env (strip a) with
      | none => simp [hx] at hw
      | some x =>
        cases hy : denV env (strip b) with
        | none => simp [hx, hy] at hw
        | some y =>
          simp only [hx, hy, Option.some.injEq] at hw
          obtain ⟨x', y', h1, h2, h3, h4⟩ := sim2 env envX M (ha hbn'.1) (hb hbn'.2) hx hy
          refine ⟨if y'.toInt < x'.toInt then y' else x', by simp [erase, eraseL, denV, h1, h2], ?_⟩
          subst hw
          rw [h3, h4]
          split <;> assumption
    · simp only [strip, stripL, denV] at hw
      cases hx : denV env (strip a) with
      | none => simp [hx] at hw
      | some x =>
        cases hy : denV env (strip b) with
        | none => simp [hx, hy] at hw
        | some y =>
          simp only [hx, hy, Option.some.injEq] at hw
          obtain ⟨x', y', h1, h2, h3, h4⟩ := sim2 env envX M (ha hbn'.1) (hb hbn'.2) hx hy
          refine ⟨if x'.toInt < y'.toInt then y' else x', by simp [erase, eraseL, denV, h1, h2], ?_⟩
          subst hw
          rw [h3, h4]
          split <;> assumption
  · intro op hop a b _ _ ha hb hbn w hw
    have hbn' : cseAll false (bnd env envX M) a = true ∧ cseAll false (bnd env envX M) b = true := by
      simpa [cseAll] using hbn
    rcases hop with rfl | rfl | rfl <;>
    · simp only [strip, denV] at hw
      cases hx : denV env (strip a) with
      | none => simp [hx] at hw
      | some x =>
        cases hy : denV env (strip b) with
        | none => simp [hx, hy] at hw
        | some y =>
          simp only [hx, hy] at hw
          obtain ⟨x', y', h1, h2, h3, h4⟩ := sim2 env envX M (ha hbn'.1) (hb hbn'.2) hx hy
          split at hw
          · rename_i hg
            simp only [Option.some.injEq] at hw
            subst hw
            exact ⟨_, by simp only [erase, denV, h1, h2, h3, h4, hg, and_self, if_true], rfl⟩
          · cases hw
  · intro a b _ _ _ ha hb hbn w hw
    have hbn' : cseAll false (bnd env envX M) a = true ∧ cseAll false (bnd env envX M) b = true := by
      simpa [cseAll] using hbn
    simp only [strip, denV] at hw
    cases hx : denV env (strip a) with
    | none => simp [hx] at hw
    | some x =>
      cases hy : denV env (strip b) with
      | none => simp [hx, hy] at hw
      | some y =>
        simp only [hx, hy] at hw
        obtain ⟨x', y', h1, h2, h3, h4⟩ := sim2 env envX M (ha hbn'.1) (hb hbn'.2) hx hy
        split at hw
        · rename_i hg
          simp only [Option.some.injEq] at hw
          subst hw
          exact ⟨_, by simp only [erase, denV, h1, h2, h3, h4, hg, and_self, if_true], rfl⟩
        · cases hw
  · intro x _ w hw
    simp only [strip, denV] at hw
    cases hx : envInt env x with
    | none => simp [hx] at hw
    | some k =>
      simp only [hx, if_true, Option.map_some, Option.some.injEq] at hw
      subst hw
      exact ⟨_, by simp [erase, denV, hext x k hx], rfl⟩
  · intro op a _ ha hbn w hw
    have hbn' : cseAll false (bnd env envX M) a = true := by simpa [cseAll] using hbn
    cases op with
    | bnot =>
      simp only [strip, denV] at hw
      cases hx : denV env (strip a) with
      | none => simp [hx] at hw
      | some x =>
        simp only [hx, Option.map_some, Option.some.injEq] at hw
        obtain ⟨x', h1, h2⟩ := ha hbn' x hx
        subst hw
        exact ⟨.i (-x'.toInt - 1), by simp only [erase, denV, h1, Option.map_some], by simp [h2]⟩
    | lnot =>
      simp only [strip, denV] at hw
      cases hx : denV env (strip a) with
      | none => simp [hx] at hw
      | some x =>
        simp only [hx, Option.map_some, Option.some.injEq] at hw
        obtain ⟨x', h1, h2⟩ := ha hbn' x hx
        subst hw
        exact ⟨.b (x'.toInt == 0), by simp only [erase, denV, h1, Option.map_some], by rw [h2]⟩
  · intro op a b _ _ _ _ ha hb hbn w hw
    have hbn' : cseAll false (bnd env envX M) a = true ∧ cseAll false (bnd env envX M) b = true := by
      simpa [cseAll] using hbn
    simp only [strip, denV] at hw
    cases hx : denV env (strip a) with
    | none => simp [hx] at hw
    | some x =>
      cases hy : denV env (strip b) with
      | none => simp [hx, hy] at hw
      | some y =>
        simp only [hx, hy, Option.some.injEq] at hw
        obtain ⟨x', y', h1, h2, h3, h4⟩ := sim2 env envX M (ha hbn'.1) (hb hbn'.2) hx hy
        subst hw
        exact ⟨.b (c14CmpInt op x'.toInt y'.toInt), by simp only [erase, denV, h1, h2],
          by rw [h3, h4]⟩
  · intro c t e _ _ _ hc ht he hbn w hw
    have hbn' : (cseAll false (bnd env envX M) c = true ∧ cseAll false (bnd env envX M) t = true) ∧
        cseAll false (bnd env envX M) e = true := by
      simpa [cseAll] using hbn
    simp only [strip, denV] at hw
    cases hx : denV env (strip c) with
    | none => simp [hx] at hw
    | some x =>
      simp only [hx] at hw
      obtain ⟨x', h1, h2⟩ := hc hbn'.1.1 x hx
      by_cases hz : x.toInt = 0
      · simp only [hz, if_true] at hw
        obtain ⟨w', h3, h4⟩ := he hbn'.2 w hw
        exact ⟨w', by simp [erase, denV, h1, h2, hz, h3], h4⟩
      · simp only [hz, if_false] at hw
        obtain ⟨w', h3, h4⟩ := ht hbn'.1.2 w hw
        exact ⟨w', by simp [erase, denV, h1, h2, hz, h3], h4⟩

/-! ### 6. the invariant of histories -/

theorem cseAll_mono_frag (deep : Bool) (P Q : Expr → Bool)
    (h : ∀ c, cFragCse c = true → P c = true → Q c = true) :
    ∀ e, cFragCse e = true → cseAll deep P e = true → cseAll deep Q e = true := by
  apply cFragCse_induct
  · intro n _; rfl
  · intro x _; rfl
  · intro c p s hc ih hp
    simp only [cseAll, Bool.and_eq_true, Bool.or_eq_true, Bool.not_eq_true'] at hp ⊢
    exact ⟨h c hc hp.1, hp.2.imp id ih⟩
  · intro c cs _ hh hp
    simp only [cseAll, cseAllL_eq_all, List.all_eq_true] at hp ⊢
    exact fun x hx => (hh x hx).2 (hp x hx)
  · intro c1 c2 cs hh hp
    simp only [cseAll, cseAllL_eq_all, List.all_eq_true] at hp ⊢
    exact fun x hx => (hh x hx).2.2 (hp x hx)
  · intro op _ c1 c2 cs hh hp
    simp only [cseAll, cseAllL_eq_all, List.all_eq_true] at hp ⊢
    exact fun x hx => (hh x hx).2 (hp x hx)
  · intro op _ a b _ _ ha hb hp
    simp only [cseAll, cseAllL, Bool.and_eq_true, Bool.and_true] at hp ⊢
    exact ⟨ha hp.1, hb hp.2⟩
  · intro op _ a b _ _ ha hb hp
    simp only [cseAll, Bool.and_eq_true] at hp ⊢
    exact ⟨ha hp.1, hb hp.2⟩
  · intro a b _ _ _ ha hb hp
    simp only [cseAll, Bool.and_eq_true] at hp ⊢
    exact ⟨ha hp.1, hb hp.2⟩
  · intro x _; rfl
  · intro op a _ ha hp
    simp only [cseAll] at hp ⊢
    exact ha hp
  · intro op a b _ _ _ _ ha hb hp
    simp only [cseAll, Bool.and_eq_true] at hp ⊢
    exact ⟨ha hp.1, hb hp.2⟩
  · intro c t e _ _ _ hc ht he hp
    simp only [cseAll, Bool.and_eq_true] at hp ⊢
    exact ⟨⟨hc hp.1.1, ht hp.1.2⟩, he hp.2⟩

/-- every outermost wrapper child of `e` is a key of the dictionary -/
def closedIn (M : List (CCKey × String)) (e : Expr) : Bool :=
  cseAll false (fun c => (lookupName M c).isSome) e

theorem closedIn_ext {A M : List (CCKey × String)} (hx : TExt A M) (e : Expr)
    (hf : cFragCse e = true) (h : closedIn A e = true) : closedIn M e = true := by
  refine cseAll_mono_frag false _ _ ?_ e hf h
  intro c _ hc
  cases hl : lookupName A c with
  | none => simp [hl] at hc
  | some n => simp [lookupName_ext hl hx]

theorem runAssigns_append (env : Env) : ∀ (as bs : Assigns),
    runAssigns env (as ++ bs) = (runAssigns env as).bind (fun e => runAssigns e bs)
  | [], bs => by simp [runAssigns]
  | (n, d) :: as, bs => by
      simp only [List.cons_append, runAssigns]
      cases env.get n with
      | some _ => rfl
      | none =>
        cases denC env d with
        | none => rfl
        | some v => exact runAssigns_append _ as bs

theorem envInt_of_get {env : Env} {x : String} {k : Int} (h : env.get x = some (.int k)) :
    envInt env x = some k := by simp [envInt, h]

theorem get_cons (n : String) (v : Value) (env : Env) (x : String) :
    Env.get ((n, v) :: env) x = if n = x then some v else env.get x := rfl

/-- what is known between two calls: the accumulated assignments run (every name is new), leave the
variables of the original environment alone, and bind the name of every key of `cse_to_name` to the
value of that subexpression; the names are all in `cse_names` -/
structure PI (env0 : Env) (st : CSt) (as : Assigns) (envX : Env) : Prop where
  run : runAssigns env0 as = some envX
  ext : ∀ x v, env0.get x = some v → envX.get x = some v
  dom : ∀ x, envX.get x ≠ none → env0.get x ≠ none ∨ ∃ kv ∈ st.toName, kv.2 = x
  keys : ∀ kv ∈ st.toName, ∃ c w, kv.1 = .expr c ∧ cFragCse c = true ∧
    denV env0 (strip c) = some w ∧ envInt envX kv.2 = some w.toInt
  taken : ∀ kv ∈ st.toName, nameTaken st.names kv.2 = true

/-- `PI` for some environment the assignments run to -/
def ProgInv (env0 : Env) (st : CSt) (as : Assigns) : Prop := ∃ envX, PI env0 st as envX

theorem progInv_init (env0 : Env) (reverse : Bool) (pfx : String) :
    ProgInv env0 { reverse, pfx } [] :=
  ⟨env0, ⟨rfl, fun _ _ h => h, fun _ h => Or.inl h, by simp, by simp⟩⟩

theorem PI.hext {env0 : Env} {st : CSt} {as : Assigns} {envX : Env} (pi : PI env0 st as envX) :
    ∀ x k, envInt env0 x = some k → envInt envX x = some k :=
  fun x k h => envInt_of_get (pi.ext x _ (envInt_get h))

/-- the keys of `cse_to_name` are bound -/
theorem PI.bnd {env0 : Env} {st : CSt} {as : Assigns} {envX : Env} (pi : PI env0 st as envX)
    (e : Expr) (hf : cFragCse e = true) (hc : closedIn st.toName e = true) :
    cseAll false (bnd env0 envX st.toName) e = true := by
  refine cseAll_mono_frag false _ _ ?_ e hf hc
  intro c hfc hl
  cases hfind : st.toName.find? (fun kv => kv.1.eq (.expr c)) with
  | none => simp [lookupName, hfind] at hl
  | some kv =>
    have hmem := List.mem_of_find?_eq_some hfind
    have heq := List.find?_some hfind
    obtain ⟨c2, w, hk, hf2, hv, hb⟩ := pi.keys kv hmem
    rw [hk] at heq
    simp only [CCKey.eq] at heq
    have : c2 = c := (pyEq_iff_eq_simple (cFragCse_simple c2 hf2) (cFragCse_simple c hfc)).mp heq
    subst this
    simp [C14.bnd, hv, lookupName, hfind, hb]

variable (S : PrintPrec) (hA : PrecA S) (hB : PrecB S)

/-- **the value of a printed structure under the invariant**: if the text of `d` is what the
mapper prints for the wrapper-free tree `erase M e`, the C value of `d` after the assignments is
the value of `e` -/
theorem doc_value (hA : PrecA S) (hB : PrecB S) {env0 : Env} {st : CSt} {as : Assigns} {envX : Env}
    (pi : PI env0 st as envX) (fuel : Nat) (e : Expr) (enc : Nat) (d : Doc)
    (hf : cFragCse e = true) (hc : closedIn st.toName e = true)
    (hd : ccodeE S fuel st (erase st.toName e) enc = .ok (d, [], st))
    (w : CVal) (hw : denV env0 (strip e) = some w) : denC envX d = some w.toInt := by
  obtain ⟨hs, hval⟩ := value_core envX S true hA (fun _ => hB) fuel st (erase st.toName e) enc d []
    st (erase_frag st.toName e hf) hd
  obtain ⟨w', h1, h2⟩ := sim env0 envX st.toName pi.hext e hf (pi.bnd e hf hc) w hw
  rw [denC_eq_denT envX d hs.wf, hval w' h1, h2]

/-- what one call of the printer guarantees -/
def GoodP (env0 : Env) (f : PPrinter) (g : Printer) : Prop :=
  ∀ st e enc d r as st' as0, cFragCse e = true → cseTotal env0 e = true →
    f st e enc = .ok (d, r, as, st') → ProgInv env0 st as0 → (∀ a ∈ as, env0.get a.1 = none) →
    ProgInv env0 st' (as0 ++ as) ∧ TExt st.toName st'.toName ∧ st'.reverse = st.reverse ∧
    closedIn st'.toName e = true ∧
    (∀ M, TExt st'.toName M → ∀ st0 : CSt, st0.reverse = st.reverse →
      g st0 (erase M e) enc = .ok (d, [], st0))

theorem printAllP_good (env0 : Env) (f : PPrinter) (g : Printer) (hg : GoodP env0 f g) :
    ∀ pl st ds r as st' as0, (∀ it ∈ pl, cFragCse it.1 = true ∧ cseTotal env0 it.1 = true) →
      printAllP f st pl = .ok (ds, r, as, st') → ProgInv env0 st as0 →
      (∀ a ∈ as, env0.get a.1 = none) →
      ProgInv env0 st' (as0 ++ as) ∧ TExt st.toName st'.toName ∧ st'.reverse = st.reverse ∧
      (∀ it ∈ pl, closedIn st'.toName it.1 = true) ∧
      (∀ M, TExt st'.toName M → ∀ st0 : CSt, st0.reverse = st.reverse →
        printAll g st0 (pl.map (fun it => (erase M it.1, it.2))) = .ok (ds, [], st0)) := by
  intro pl
  induction pl with
  | nil =>
    intro st ds r as st' as0 _ h hi _
    simp only [printAllP, pure, Except.pure, Except.ok.injEq, Prod.mk.injEq] at h
    obtain ⟨rfl, rfl, rfl, rfl⟩ := h
    exact ⟨by simpa using hi, TExt.refl _, rfl, by simp, fun M _ st0 _ => rfl⟩
  | cons x rest ih =>
    intro st ds r as st' as0 hfr h hi hdis
    obtain ⟨e, enc⟩ := x
    simp only [printAllP, bind, Except.bind] at h
    cases h1 : f st e enc with
    | error err => simp [h1] at h
    | ok w =>
      obtain ⟨d1, r1, a1, st1⟩ := w
      simp only [h1] at h
      cases h2 : printAllP f st1 rest with
      | error err => simp [h2] at h
      | ok w2 =>
        obtain ⟨ds2, r2, a2, st2⟩ := w2
        simp only [h2, pure, Except.pure, Except.ok.injEq, Prod.mk.injEq] at h
        obtain ⟨rfl, rfl, rfl, rfl⟩ := h
        have hfe := hfr (e, enc) (by simp)
        obtain ⟨i1, x1, v1, c1, A1⟩ := hg st e enc d1 r1 a1 st1 as0 hfe.1 hfe.2 h1 hi
          (fun a ha => hdis a (by simp [ha]))
        obtain ⟨i2, x2, v2, c2, A2⟩ := ih st1 ds2 r2 a2 st2 (as0 ++ a1)
          (fun it hit => hfr it (by simp [hit])) h2 i1 (fun a ha => hdis a (by simp [ha]))
        refine ⟨by simpa [List.append_assoc] using i2, x1.trans x2, v2.trans v1, ?_, ?_⟩
        · intro it hit
          simp only [List.mem_cons] at hit
          rcases hit with rfl | hit
          · exact closedIn_ext x2 _ hfe.1 c1
          · exact c2 it hit
        · intro M hM st0 hr
          have e1 := A1 M (x2.trans hM) st0 hr
          have e2 := A2 M hM st0 (hr.trans v1.symm)
          simp only [List.map_cons, printAll, bind, Except.bind, e1, e2]
          rfl

theorem isCseB_erase (M : List (CCKey × String)) (e : Expr) : isCseB (erase M e) = false := by
  cases e <;> simp [erase, isCseB]

theorem ccodeE_succ (fuel : Nat) (st : CSt) (e : Expr) (enc : Nat) (h : isCseB e = false) :
    ccodeE S (fuel + 1) st e enc = ccodeGeneric S (ccodeE S fuel) st e enc := by
  cases e <;> simp [isCseB] at h <;> simp [ccodeE]

theorem progE_succ (fuel : Nat) (st : CSt) (e : Expr) (enc : Nat) (h : isCseB e = false) :
    progE S (fuel + 1) st e enc = progGeneric S (progE S fuel) st e enc := by
  cases e <;> simp [isCseB] at h <;> simp [progE]

theorem progGeneric_ok {f : PPrinter} {st : CSt} {e : Expr} {enc : Nat} {d : Doc}
    {refs : List String} {as : Assigns} {st' : CSt}
    (h : progGeneric S f st e enc = .ok (d, refs, as, st')) :
    ∃ pl ds, plan S e enc = .ok pl ∧ printAllP f st pl = .ok (ds, refs, as, st') ∧
      assemble S st.reverse e enc ds = .ok d := by
  simp only [progGeneric, bind, Except.bind] at h
  cases hp : plan S e enc with
  | error err => simp [hp] at h
  | ok pl =>
    simp only [hp] at h
    cases h2 : printAllP f st pl with
    | error err => simp [h2] at h
    | ok w =>
      obtain ⟨ds, r, a, st2⟩ := w
      simp only [h2] at h
      cases h3 : assemble S st.reverse e enc ds with
      | error err => simp [h3] at h
      | ok dd =>
        simp only [h3, pure, Except.pure, Except.ok.injEq, Prod.mk.injEq] at h
        obtain ⟨rfl, rfl, rfl, rfl⟩ := h
        exact ⟨pl, ds, rfl, h2, h3⟩

/-- every handler except `map_common_subexpression` -/
theorem generic_good (env0 : Env) (n : Nat) (ih : GoodP env0 (progE S n) (ccodeE S n))
    (st : CSt) (e : Expr) (enc : Nat) (d : Doc) (r : List String) (as : Assigns) (st' : CSt)
    (as0 : Assigns) (hf : cFragCse e = true) (ht : cseTotal env0 e = true) (hn : isCseB e = false)
    (h : progE S (n + 1) st e enc = .ok (d, r, as, st')) (hi : ProgInv env0 st as0)
    (hdis : ∀ a ∈ as, env0.get a.1 = none) :
    ProgInv env0 st' (as0 ++ as) ∧ TExt st.toName st'.toName ∧ st'.reverse = st.reverse ∧
    closedIn st'.toName e = true ∧
    (∀ M, TExt st'.toName M → ∀ st0 : CSt, st0.reverse = st.reverse →
      ccodeE S (n + 1) st0 (erase M e) enc = .ok (d, [], st0)) := by
  rw [progE_succ S n st e enc hn] at h
  obtain ⟨pl, ds, hp, hpa, has⟩ := progGeneric_ok S h
  obtain ⟨pl', hp', _, hfr, hall⟩ := plan_fragCse S [] e hf hn enc
  rw [hp] at hp'
  simp only [Except.ok.injEq] at hp'
  subst hp'
  have htot : ∀ it ∈ pl, cseTotal env0 it.1 = true := by
    have := hall true (fun c => (denVCse env0 c).isSome)
    simp only [cseTotal] at ht ⊢
    rw [this, List.all_eq_true] at ht
    exact ht
  obtain ⟨i2, x2, v2, c2, A2⟩ := printAllP_good env0 _ _ ih pl st ds r as st' as0
    (fun it hit => ⟨hfr it hit, htot it hit⟩) hpa hi hdis
  refine ⟨i2, x2, v2, ?_, ?_⟩
  · simp only [closedIn]
    rw [hall false, List.all_eq_true]
    exact c2
  · intro M hM st0 hr
    obtain ⟨pl2, hp2, hpe, _, _⟩ := plan_fragCse S M e hf hn enc
    rw [hp] at hp2
    simp only [Except.ok.injEq] at hp2
    subst hp2
    rw [ccodeE_succ S n st0 _ enc (isCseB_erase M e)]
    simp only [ccodeGeneric, bind, Except.bind, hpe, A2 M hM st0 hr, hr,
      assemble_erase S M st.reverse e hf hn enc ds, has]
    rfl

theorem nameTaken_append (l : List CCKey) (n x : String) :
    nameTaken (l ++ [.text n]) x = (nameTaken l x || n == x) := by
  simp [nameTaken, List.any_append]

theorem ccodeE_var (fuel : Nat) (st0 : CSt) (x : String) (enc : Nat) :
    ccodeE S (fuel + 1) st0 (.var x) enc = .ok (.var x, [], st0) := by
  simp [ccodeE, ccodeGeneric, plan, printAll, assemble, bind, Except.bind, pure, Except.pure]

/-- `map_common_subexpression` -/
theorem cse_good (hA : PrecA S) (hB : PrecB S) (env0 : Env) (n : Nat)
    (ih : GoodP env0 (progE S n) (ccodeE S n))
    (st : CSt) (c : Expr) (p : Option String) (sc : String) (enc : Nat) (d : Doc) (r : List String)
    (as : Assigns) (st' : CSt) (as0 : Assigns) (hf : cFragCse (.cse c p sc) = true)
    (ht : cseTotal env0 (.cse c p sc) = true)
    (h : progE S (n + 1) st (.cse c p sc) enc = .ok (d, r, as, st')) (hi : ProgInv env0 st as0)
    (hdis : ∀ a ∈ as, env0.get a.1 = none) :
    ProgInv env0 st' (as0 ++ as) ∧ TExt st.toName st'.toName ∧ st'.reverse = st.reverse ∧
    closedIn st'.toName (.cse c p sc) = true ∧
    (∀ M, TExt st'.toName M → ∀ st0 : CSt, st0.reverse = st.reverse →
      ccodeE S (n + 1) st0 (erase M (.cse c p sc)) enc = .ok (d, [], st0)) := by
  simp only [cFragCse] at hf
  have hself : c.pyEq c = true := pyEq_self_simple c (cFragCse_simple c hf)
  simp only [cseTotal, cseAll, Bool.not_true, Bool.false_or, Bool.and_eq_true] at ht
  obtain ⟨hdef, htc⟩ := ht
  simp only [progE] at h
  unfold progCse at h
  cases hl : c.hasList with
  | true => simp [hl, throw, throwThe, MonadExceptOf.throw] at h
  | false =>
    simp only [hl, Bool.false_eq_true, if_false] at h
    cases hk : st.toName.find? (fun kv => kv.1.eq (.expr c)) with
    | some kv =>
      simp only [hk, pure, Except.pure, Except.ok.injEq, Prod.mk.injEq] at h
      obtain ⟨rfl, rfl, rfl, rfl⟩ := h
      have hlk : lookupName st.toName c = some kv.2 := by simp [lookupName, hk]
      refine ⟨by simpa using hi, TExt.refl _, rfl, by simp [closedIn, cseAll, hlk], ?_⟩
      intro M hM st0 _
      simp only [erase, lookupName_ext hlk hM, Option.getD_some]
      exact ccodeE_var S n st0 kv.2 enc
    | none =>
      simp only [hk] at h
      cases h1 : progE S n st c S.none with
      | error err => simp [h1, throw, throwThe, MonadExceptOf.throw] at h
      | ok w1 =>
        obtain ⟨d1, r1, as1, st1⟩ := w1
        simp only [h1] at h
        cases hfn : freshName st1 p with
        | none => simp [hfn, throw, throwThe, MonadExceptOf.throw] at h
        | some nm =>
          simp only [hfn] at h
          cases hk1 : st1.toName.find? (fun kv => kv.1.eq (.expr c)) with
          | some kv => simp [hk1, throw, throwThe, MonadExceptOf.throw] at h
          | none =>
            simp only [hk1, pure, Except.pure, Except.ok.injEq, Prod.mk.injEq] at h
            obtain ⟨rfl, rfl, rfl, rfl⟩ := h
            have hd1 : ∀ a ∈ as1, env0.get a.1 = none := fun a ha => hdis a (by simp [ha])
            have hdn : env0.get nm = none := hdis (nm, d1) (by simp)
            obtain ⟨⟨envX1, pi1⟩, x1, v1, c1, A1⟩ := ih st c S.none d1 r1 as1 st1 as0 hf
              (by simpa [cseTotal] using htc) h1 hi hd1
            -- the value of the new right-hand side
            cases hw0 : denV env0 (strip c) with
            | none => simp [denVCse, hw0] at hdef
            | some w0 =>
              have hval : denC envX1 d1 = some w0.toInt :=
                doc_value S hA hB pi1 n c S.none d1 hf c1 (A1 _ (TExt.refl _) st1 v1) w0 hw0
              have hfree : nameTaken st1.names nm = false := firstFree_not_taken _ _ _ _ _ hfn
              have hne : ∀ kv ∈ st1.toName, kv.2 ≠ nm := by
                intro kv hkv heq
                have := pi1.taken kv hkv
                rw [heq, hfree] at this
                cases this
              have hnone : envX1.get nm = none := by
                cases hg : envX1.get nm with
                | none => rfl
                | some v =>
                  exfalso
                  rcases pi1.dom nm (by simp [hg]) with h0 | ⟨kv, hkv, heq⟩
                  · exact h0 hdn
                  · exact hne kv hkv heq
              refine ⟨⟨(nm, .int w0.toInt) :: envX1, ?_⟩, ?_, v1, ?_, ?_⟩
              · constructor
                · rw [← List.append_assoc, runAssigns_append, pi1.run]
                  simp [runAssigns, hnone, hval]
                · intro x v hx
                  have : nm ≠ x := by rintro rfl; rw [hdn] at hx; cases hx
                  rw [get_cons, if_neg this]
                  exact pi1.ext x v hx
                · intro x hx
                  rw [get_cons] at hx
                  by_cases hnx : nm = x
                  · exact Or.inr ⟨(.expr c, nm), by simp, hnx⟩
                  · rw [if_neg hnx] at hx
                    rcases pi1.dom x hx with h0 | ⟨kv, hkv, heq⟩
                    · exact Or.inl h0
                    · exact Or.inr ⟨kv, by simp [hkv], heq⟩
                · intro kv hkv
                  simp only [List.mem_append, List.mem_singleton] at hkv
                  rcases hkv with hkv | rfl
                  · obtain ⟨c2, w2, e1, e2, e3, e4⟩ := pi1.keys kv hkv
                    refine ⟨c2, w2, e1, e2, e3, ?_⟩
                    have : nm ≠ kv.2 := fun hh => hne kv hkv hh.symm
                    simpa [envInt, get_cons, this] using e4
                  · exact ⟨c, w0, rfl, hf, hw0, by simp [envInt, get_cons]⟩
                · intro kv hkv
                  simp only [List.mem_append, List.mem_singleton] at hkv
                  rw [nameTaken_append]
                  rcases hkv with hkv | rfl
                  · simp [pi1.taken kv hkv]
                  · simp
              · exact x1.trans ⟨[(.expr c, nm)], rfl⟩
              · simp [closedIn, cseAll, lookupName_snoc nm hk1 hself]
              · intro M hM st0 _
                have hlk := lookupName_ext (lookupName_snoc nm hk1 hself) hM
                simp only [erase, hlk, Option.getD_some]
                exact ccodeE_var S n st0 nm enc

/-- **every call keeps the invariant and prints the wrapper-free tree**, for every recursion
budget -/
theorem progE_good (hA : PrecA S) (hB : PrecB S) (env0 : Env) :
    ∀ fuel, GoodP env0 (progE S fuel) (ccodeE S fuel) := by
  intro fuel
  induction fuel with
  | zero =>
    intro st e enc d r as st' as0 _ _ h
    simp [progE, throw, throwThe, MonadExceptOf.throw] at h
  | succ n ih =>
    intro st e enc d r as st' as0 hf ht h hi hdis
    cases hc : isCseB e with
    | false => exact generic_good S env0 n ih st e enc d r as st' as0 hf ht hc h hi hdis
    | true =>
      cases e <;> simp [isCseB] at hc
      exact cse_good S hA hB env0 n ih st _ _ _ enc d r as st' as0 hf ht h hi hdis

/-! ### 7. the evaluator does not see wrappers -/

section strip
variable (env : Env)

theorem denFold_strip (o : NaryOp) : ∀ (cs : List Expr) (acc : Value),
    (∀ c ∈ cs, den env (strip c) = den env c) → denFold env o acc (stripL cs) = denFold env o acc cs
  | [], _, _ => rfl
  | c :: cs, acc, h => by
      simp only [stripL, denFold, h c (by simp), bind, Except.bind]
      cases den env c with
      | error e => rfl
      | ok v =>
        simp only []
        cases o.apply acc v with
        | error e => rfl
        | ok a => exact denFold_strip o cs a (fun x hx => h x (by simp [hx]))

theorem denReduce_strip (o : NaryOp) : ∀ (cs : List Expr),
    (∀ c ∈ cs, den env (strip c) = den env c) → denReduce env o (stripL cs) = denReduce env o cs
  | [], _ => rfl
  | c :: cs, h => by
      simp only [stripL, denReduce, h c (by simp), bind, Except.bind]
      cases den env c with
      | error e => rfl
      | ok v => exact denFold_strip env o cs v (fun x hx => h x (by simp [hx]))

theorem denAny_strip : ∀ (cs : List Expr),
    (∀ c ∈ cs, den env (strip c) = den env c) → denAny env (stripL cs) = denAny env cs
  | [], _ => rfl
  | c :: cs, h => by
      simp only [stripL, denAny, h c (by simp), denAny_strip cs (fun x hx => h x (by simp [hx]))]

theorem denAll_strip : ∀ (cs : List Expr),
    (∀ c ∈ cs, den env (strip c) = den env c) → denAll env (stripL cs) = denAll env cs
  | [], _ => rfl
  | c :: cs, h => by
      simp only [stripL, denAll, h c (by simp), denAll_strip cs (fun x hx => h x (by simp [hx]))]

theorem denMinMax_strip (isMin : Bool) : ∀ (cs : List Expr) (cur : Option Value),
    (∀ c ∈ cs, den env (strip c) = den env c) →
      denMinMax env isMin cur (stripL cs) = denMinMax env isMin cur cs
  | [], _, _ => rfl
  | c :: cs, cur, h => by
      simp only [stripL, denMinMax, h c (by simp), bind, Except.bind]
      cases den env c with
      | error e => rfl
      | ok v =>
        simp only []
        cases cur with
        | none => exact denMinMax_strip isMin cs _ (fun x hx => h x (by simp [hx]))
        | some m =>
          simp only []
          cases Value.better isMin v m with
          | error e => rfl
          | ok b => exact denMinMax_strip isMin cs _ (fun x hx => h x (by simp [hx]))

/-- **the evaluator gives a wrapper the value of its child**: `den` of a tree is `den` of the tree
without its wrappers -/
theorem den_strip : ∀ e : Expr, den env (strip e) = den env e := by
  intro e
  induction e using Expr.induct with
  | h e ih =>
    cases e with
    | cse c p s =>
      simp only [strip, den]
      exact ih c (by simp [Expr.children])
    | nary op cs =>
      have ihc : ∀ c ∈ cs, den env (strip c) = den env c :=
        fun c hc => ih c (by simp [Expr.children, hc])
      cases op <;> simp only [strip, den]
      · exact denFold_strip env _ cs _ ihc
      · exact denFold_strip env _ cs _ ihc
      · exact denReduce_strip env _ cs ihc
      · exact denReduce_strip env _ cs ihc
      · exact denReduce_strip env _ cs ihc
      · exact denAny_strip env cs ihc
      · exact denAll_strip env cs ihc
      · exact denMinMax_strip env _ cs _ ihc
      · exact denMinMax_strip env _ cs _ ihc
    | bin op a b =>
      simp only [strip, den, ih a (by simp [Expr.children]), ih b (by simp [Expr.children])]
    | un op a =>
      cases op <;> simp only [strip, den, ih a (by simp [Expr.children])]
    | cmp op a b =>
      simp only [strip, den, ih a (by simp [Expr.children]), ih b (by simp [Expr.children])]
    | ite c t e =>
      simp only [strip, den, ih c (by simp [Expr.children]), ih t (by simp [Expr.children]),
        ih e (by simp [Expr.children])]
    | _ => simp only [strip]

end strip

/-! ### 8. histories -/

/-- what stays known about an expression printed earlier: its text is the text of the wrapper-free
tree `erase M e` for every later dictionary `M` -/
def Printed (M0 : List (CCKey × String)) (rev : Bool) (e : Expr) (d : Doc) : Prop :=
  cFragCse e = true ∧ closedIn M0 e = true ∧
    ∀ M, TExt M0 M → ∀ st0 : CSt, st0.reverse = rev →
      ccodeE S (2 * e.size + 4) st0 (erase M e) S.none = .ok (d, [], st0)

theorem Printed.mono {A B : List (CCKey × String)} {rev : Bool} {e : Expr} {d : Doc}
    (h : Printed S A rev e d) (hx : TExt A B) : Printed S B rev e d :=
  ⟨h.1, closedIn_ext hx e h.1 h.2.1, fun M hM st0 hr => h.2.2 M (hx.trans hM) st0 hr⟩

theorem emitsP_good (hA : PrecA S) (hB : PrecB S) (env0 : Env) :
    ∀ es st ds as st' as0, (∀ e ∈ es, cFragCse e = true ∧ cseTotal env0 e = true) →
      emitsP S st es = .ok (ds, as, st') → ProgInv env0 st as0 →
      (∀ a ∈ as, env0.get a.1 = none) →
      ProgInv env0 st' (as0 ++ as) ∧ TExt st.toName st'.toName ∧ st'.reverse = st.reverse ∧
      ds.length = es.length ∧ ∀ p ∈ es.zip ds, Printed S st'.toName st.reverse p.1 p.2 := by
  intro es
  induction es with
  | nil =>
    intro st ds as st' as0 _ h hi _
    simp only [emitsP, pure, Except.pure, Except.ok.injEq, Prod.mk.injEq] at h
    obtain ⟨rfl, rfl, rfl⟩ := h
    exact ⟨by simpa using hi, TExt.refl _, rfl, rfl, by simp⟩
  | cons e rest ih =>
    intro st ds as st' as0 hfr h hi hdis
    simp only [emitsP, bind, Except.bind] at h
    cases h1 : emitProg S st e with
    | error err => simp [h1] at h
    | ok w =>
      obtain ⟨d1, r1, a1, st1⟩ := w
      simp only [h1] at h
      cases h2 : emitsP S st1 rest with
      | error err => simp [h2] at h
      | ok w2 =>
        obtain ⟨ds2, a2, st2⟩ := w2
        simp only [h2, pure, Except.pure, Except.ok.injEq, Prod.mk.injEq] at h
        obtain ⟨rfl, rfl, rfl⟩ := h
        have hfe := hfr e (by simp)
        obtain ⟨i1, x1, v1, c1, A1⟩ := progE_good S hA hB env0 _ st e _ d1 r1 a1 st1 as0 hfe.1 hfe.2
          h1 hi (fun a ha => hdis a (by simp [ha]))
        obtain ⟨i2, x2, v2, hl, P2⟩ := ih st1 ds2 a2 st2 (as0 ++ a1)
          (fun x hx => hfr x (by simp [hx])) h2 i1 (fun a ha => hdis a (by simp [ha]))
        refine ⟨by simpa [List.append_assoc] using i2, x1.trans x2, v2.trans v1, by simp [hl], ?_⟩
        intro p hp
        simp only [List.zip_cons_cons, List.mem_cons] at hp
        rcases hp with rfl | hp
        · exact Printed.mono S ⟨hfe.1, c1, A1⟩ x2
        · rw [← v1]; exact P2 p hp

/-- the value of an expression printed earlier, under the assignments accumulated since -/
theorem printed_value (hA : PrecA S) (hB : PrecB S) {env0 : Env} {st : CSt} {as : Assigns}
    (hi : ProgInv env0 st as) {e : Expr} {d : Doc} (hp : Printed S st.toName st.reverse e d)
    (w : CVal) (hw : denVCse env0 e = some w) :
    runProg env0 { assigns := as, expr := d } = some w.toInt ∧ den env0 e = .ok w.toValue := by
  obtain ⟨envX, pi⟩ := hi
  refine ⟨?_, ?_⟩
  · simp only [runProg, pi.run]
    exact doc_value S hA hB pi _ e S.none d hp.1 hp.2.1 (hp.2.2 _ (TExt.refl _) st rfl) w hw
  · rw [← den_strip]
    exact denV_sound env0 (strip e) w hw

/-! #### the assignments are `cse_name_list` -/

def entryPair (e : CEntry) : String × CCKey := (e.name, e.val)

def assignPair (a : String × Doc) : String × CCKey := (a.1, .text a.2.render)

def ListGood (f : PPrinter) : Prop :=
  ∀ st e enc d r as st', f st e enc = .ok (d, r, as, st') →
    st'.nameList.map entryPair = st.nameList.map entryPair ++ as.map assignPair

theorem printAllP_list (f : PPrinter) (hf : ListGood f) :
    ∀ pl st ds r as st', printAllP f st pl = .ok (ds, r, as, st') →
      st'.nameList.map entryPair = st.nameList.map entryPair ++ as.map assignPair := by
  intro pl
  induction pl with
  | nil =>
    intro st ds r as st' h
    simp only [printAllP, pure, Except.pure, Except.ok.injEq, Prod.mk.injEq] at h
    obtain ⟨_, _, rfl, rfl⟩ := h
    simp
  | cons x rest ih =>
    intro st ds r as st' h
    obtain ⟨e, enc⟩ := x
    simp only [printAllP, bind, Except.bind] at h
    cases h1 : f st e enc with
    | error err => simp [h1] at h
    | ok w =>
      obtain ⟨d1, r1, a1, st1⟩ := w
      simp only [h1] at h
      cases h2 : printAllP f st1 rest with
      | error err => simp [h2] at h
      | ok w2 =>
        obtain ⟨ds2, r2, a2, st2⟩ := w2
        simp only [h2, pure, Except.pure, Except.ok.injEq, Prod.mk.injEq] at h
        obtain ⟨_, _, rfl, rfl⟩ := h
        rw [ih st1 ds2 r2 a2 st2 h2, hf st e enc d1 r1 a1 st1 h1]
        simp

theorem progE_list : ∀ fuel, ListGood (progE S fuel) := by
  intro fuel
  induction fuel with
  | zero =>
    intro st e enc d r as st' h
    simp [progE, throw, throwThe, MonadExceptOf.throw] at h
  | succ n ih =>
    intro st e enc d r as st' h
    cases hc : isCseB e with
    | false =>
      rw [progE_succ S n st e enc hc] at h
      obtain ⟨pl, ds, _, hpa, _⟩ := progGeneric_ok S h
      exact printAllP_list _ ih pl st ds r as st' hpa
    | true =>
      cases e <;> simp [isCseB] at hc
      rename_i c p sc
      simp only [progE] at h
      unfold progCse at h
      cases hl : c.hasList with
      | true => simp [hl, throw, throwThe, MonadExceptOf.throw] at h
      | false =>
        simp only [hl, Bool.false_eq_true, if_false] at h
        cases hk : st.toName.find? (fun kv => kv.1.eq (.expr c)) with
        | some kv =>
          simp only [hk, pure, Except.pure, Except.ok.injEq, Prod.mk.injEq] at h
          obtain ⟨_, _, rfl, rfl⟩ := h
          simp
        | none =>
          simp only [hk] at h
          cases h1 : progE S n st c S.none with
          | error err => simp [h1, throw, throwThe, MonadExceptOf.throw] at h
          | ok w1 =>
            obtain ⟨d1, r1, as1, st1⟩ := w1
            simp only [h1] at h
            cases hfn : freshName st1 p with
            | none => simp [hfn, throw, throwThe, MonadExceptOf.throw] at h
            | some nm =>
              simp only [hfn] at h
              cases hk1 : st1.toName.find? (fun kv => kv.1.eq (.expr c)) with
              | some kv => simp [hk1, throw, throwThe, MonadExceptOf.throw] at h
              | none =>
                simp only [hk1, pure, Except.pure, Except.ok.injEq, Prod.mk.injEq] at h
                obtain ⟨_, _, rfl, rfl⟩ := h
                simp [ih st c S.none d1 r1 as1 st1 h1, entryPair, assignPair]

theorem emitsP_list : ∀ es st ds as st', emitsP S st es = .ok (ds, as, st') →
    st'.nameList.map entryPair = st.nameList.map entryPair ++ as.map assignPair := by
  intro es
  induction es with
  | nil =>
    intro st ds as st' h
    simp only [emitsP, pure, Except.pure, Except.ok.injEq, Prod.mk.injEq] at h
    obtain ⟨_, rfl, rfl⟩ := h
    simp
  | cons e rest ih =>
    intro st ds as st' h
    simp only [emitsP, bind, Except.bind] at h
    cases h1 : emitProg S st e with
    | error err => simp [h1] at h
    | ok w =>
      obtain ⟨d1, r1, a1, st1⟩ := w
      simp only [h1] at h
      cases h2 : emitsP S st1 rest with
      | error err => simp [h2] at h
      | ok w2 =>
        obtain ⟨ds2, a2, st2⟩ := w2
        simp only [h2, pure, Except.pure, Except.ok.injEq, Prod.mk.injEq] at h
        obtain ⟨_, rfl, rfl⟩ := h
        rw [ih st1 ds2 a2 st2 h2, progE_list S _ st e _ d1 r1 a1 st1 h1]
        simp

theorem emitsP_length : ∀ es st ds as st', emitsP S st es = .ok (ds, as, st') →
    ds.length = es.length := by
  intro es
  induction es with
  | nil =>
    intro st ds as st' h
    simp only [emitsP, pure, Except.pure, Except.ok.injEq, Prod.mk.injEq] at h
    obtain ⟨rfl, _, _⟩ := h
    rfl
  | cons e rest ih =>
    intro st ds as st' h
    simp only [emitsP, bind, Except.bind] at h
    cases h1 : emitProg S st e with
    | error err => simp [h1] at h
    | ok w =>
      obtain ⟨d1, r1, a1, st1⟩ := w
      simp only [h1] at h
      cases h2 : emitsP S st1 rest with
      | error err => simp [h2] at h
      | ok w2 =>
        obtain ⟨ds2, a2, st2⟩ := w2
        simp only [h2, pure, Except.pure, Except.ok.injEq, Prod.mk.injEq] at h
        obtain ⟨rfl, _, _⟩ := h
        simp [ih st1 ds2 a2 st2 h2]

/-- `emitsP` is `emits`: same texts, same final state -/
theorem emitsP_emits : ∀ es st,
    (emitsP S st es).map (fun o => (o.1.map Doc.render, o.2.2)) =
      (emits S st es).map (fun o => (o.1.map (·.1), o.2)) := by
  intro es
  induction es with
  | nil => intro st; rfl
  | cons e rest ih =>
    intro st
    simp only [emitsP, emits, bind, Except.bind]
    rw [← emitProg_ccode S st e]
    cases h1 : emitProg S st e with
    | error err => rfl
    | ok w =>
      obtain ⟨d1, r1, a1, st1⟩ := w
      simp only [Except.map, proj]
      have := ih st1
      cases h2 : emitsP S st1 rest with
      | error err =>
        rw [h2] at this
        cases h3 : emits S st1 rest with
        | error err2 =>
          rw [h3] at this
          simp only [Except.map, Except.error.injEq] at this
          subst this
          rfl
        | ok w3 => rw [h3] at this; cases this
      | ok w2 =>
        rw [h2] at this
        cases h3 : emits S st1 rest with
        | error err2 => rw [h3] at this; cases this
        | ok w3 =>
          rw [h3] at this
          simp only [Except.map, Except.ok.injEq, Prod.mk.injEq] at this
          simp [pure, Except.pure, this.1, this.2]

end PV.C14
