import PV.Model.Coeff
import PV.Proofs.CoeffSound
import PV.Proofs.CoeffFree
/-
  C15 helper lemmas: the collector ACCEPTS every expression of the syntactic affine class
  (`affClass`).
-/
namespace PV.Coeff
open PV

/-- an operand on which the overloaded `+`/`*` never raise: an int constant or an expression node -/
def Good (e : Expr) : Bool :=
  match e with
  | .const (.int _) => true
  | e => e.isNode

theorem good_valid {e : Expr} (h : Good e = true) :
    e.isValidOperand = true ∧ e.isArith = true ∧ (e.isNode = false → e.isConstant = true ∧ e.isNumber = true) := by
  cases e with
  | const c =>
    cases c with
    | int => exact ⟨rfl, rfl, fun _ => ⟨rfl, rfl⟩⟩
    | _ => cases h
  | tuple | list => cases h
  | _ => exact ⟨rfl, rfl, nofun⟩

theorem good_node {e : Expr} (h : e.isNode = true) : Good e = true := by
  cases e with
  | const | tuple | list => cases h
  | _ => rfl

theorem good_zero : Good zero = true := rfl
theorem good_one : Good one = true := rfl

theorem addD_total {self other : Expr} (hs : Good self = true) (ho : Good other = true) :
    ∃ r, addD self other = .ret r ∧ Good r = true := by
  obtain ⟨hv, ha, -⟩ := good_valid ho
  rcases addD_cases (self := self) (other := other) rfl with
    ⟨-, h⟩ | h | h | ⟨cs, ds, rfl, rfl, h⟩ | ⟨cs, rfl, h⟩ | ⟨ds, rfl, h⟩ | h
  · rw [hv, ha] at h
    cases h <;> contradiction
  · exact ⟨_, h, hs⟩
  · exact ⟨_, h, ho⟩
  all_goals exact ⟨_, h, rfl⟩

theorem raddD_total {self other : Expr} (hs : Good self = true) (ho : Good other = true)
    (hn : other.isNode = false) : ∃ r, raddD self other = .ret r ∧ Good r = true := by
  obtain ⟨hc1, hc2⟩ := (good_valid ho).2.2 hn
  rcases raddD_cases (self := self) (other := other) rfl with
    ⟨-, h⟩ | ⟨-, h⟩ | h | h | ⟨cs, rfl, h⟩ | h
  · rw [hc1] at h; cases h
  · rw [hc2] at h; cases h
  · exact ⟨_, h, hs⟩
  · exact ⟨_, h, ho⟩
  all_goals exact ⟨_, h, rfl⟩

theorem mulD_total {self other : Expr} (hs : Good self = true) (ho : Good other = true) :
    ∃ r, mulD self other = .ret r ∧ Good r = true := by
  rcases mulD_cases (self := self) (other := other) rfl with
    ⟨-, h⟩ | h | h | ⟨cs, ds, rfl, rfl, h⟩ | ⟨cs, rfl, h⟩ | h
  · rw [(good_valid ho).1] at h; cases h
  · exact ⟨_, h, hs⟩
  all_goals exact ⟨_, h, rfl⟩

theorem rmulD_total {self other : Expr} (hs : Good self = true) (ho : Good other = true)
    (hn : other.isNode = false) : ∃ r, rmulD self other = .ret r ∧ Good r = true := by
  rcases rmulD_cases (self := self) (other := other) rfl with ⟨-, h⟩ | h | h | ⟨cs, rfl, h⟩ | h
  · rw [((good_valid ho).2.2 hn).1] at h; cases h
  · exact ⟨_, h, hs⟩
  all_goals exact ⟨_, h, rfl⟩

theorem dispatch_total {fwd refl : Expr → Expr → Dunder} {a b : Expr}
    (hf : a.isNode = true → ∃ r, fwd a b = .ret r ∧ Good r = true)
    (hr : a.isNode = false → ∃ r, refl b a = .ret r ∧ Good r = true)
    (ha : Good a = true) (hb : b.isNode = true ∨ a.isNode = true) :
    ∃ t, dispatch fwd refl a b = .ok t ∧ Good t = true := by
  unfold dispatch
  cases hn : a.isNode
  · obtain ⟨r, h1, h2⟩ := hr hn
    simp only [Bool.false_eq_true, if_false, hb.resolve_right (hn ▸ Bool.false_ne_true), if_true,
      ((good_valid ha).2.2 hn).1, h1]
    exact ⟨r, rfl, h2⟩
  · obtain ⟨r, h1, h2⟩ := hf hn
    simp only [if_true, h1]
    exact ⟨r, rfl, h2⟩

/-- `a <op> b` on two good operands, for an operator whose two methods never raise on them -/
theorem pyBin_total {o : PyBinOp} {fwd refl : Expr → Expr → Dunder}
    (hbin : Ops.bin o = dispatch fwd refl)
    (hc : ∀ x y : Int, ∃ t, liftOp (constBin o (.int x) (.int y)) = .ok t ∧ Good t = true)
    (hf : ∀ {s x}, Good s = true → Good x = true → ∃ r, fwd s x = .ret r ∧ Good r = true)
    (hr : ∀ {s x}, Good s = true → Good x = true → x.isNode = false →
      ∃ r, refl s x = .ret r ∧ Good r = true)
    {a b : Expr} (ha : Good a = true) (hb : Good b = true) :
    ∃ t, pyBin o a b = .ok t ∧ Good t = true := by
  unfold pyBin
  split
  · rename_i x y
    cases x with
    | int x =>
      cases y with
      | int y => exact hc x y
      | _ => cases hb
    | _ => cases ha
  · rename_i hnc
    have hnode : b.isNode = true ∨ a.isNode = true := by
      cases a with
      | const x =>
        cases b with
        | const y => exact (hnc x y rfl rfl).elim
        | tuple | list => cases hb
        | _ => exact Or.inl rfl
      | tuple | list => cases ha
      | _ => exact Or.inr rfl
    obtain ⟨t, h1, h2⟩ := dispatch_total (fun _ => hf ha hb) (fun hn => hr hb ha hn) ha hnode
    exact ⟨t, by rw [hbin, h1]; rfl, h2⟩

theorem pyAdd_total {a b : Expr} (ha : Good a = true) (hb : Good b = true) :
    ∃ t, pyBin .add a b = .ok t ∧ Good t = true :=
  pyBin_total rfl (fun _ _ => ⟨_, rfl, rfl⟩) addD_total raddD_total ha hb

theorem pyMul_total {a b : Expr} (ha : Good a = true) (hb : Good b = true) :
    ∃ t, pyBin .mul a b = .ok t ∧ Good t = true :=
  pyBin_total rfl (fun _ _ => ⟨_, rfl, rfl⟩) mulD_total rmulD_total ha hb

theorem pyAdd_good {a b t : Expr} (h : pyBin .add a b = .ok t) (ha : Good a = true)
    (hb : Good b = true) : Good t = true :=
  let ⟨_, h1, h2⟩ := pyAdd_total ha hb
  Except.ok.inj (h.symm.trans h1) ▸ h2

theorem pyMul_good {a b t : Expr} (h : pyBin .mul a b = .ok t) (ha : Good a = true)
    (hb : Good b = true) : Good t = true :=
  let ⟨_, h1, h2⟩ := pyMul_total ha hb
  Except.ok.inj (h.symm.trans h1) ▸ h2

/-! ### dictionaries -/

abbrev GoodD (d : Dict) : Prop := CoefP (fun c => Good c = true) d

/-- the dictionary `{1: c}` -/
def SingleOne (d : Dict) : Prop := ∃ c, d = [(one, c)] ∧ Good c = true

theorem SingleOne.good {d : Dict} (h : SingleOne d) : GoodD d := by
  obtain ⟨c, rfl, hc⟩ := h
  exact coefP_single.2 hc

theorem SingleOne.noVar {d : Dict} (h : SingleOne d) : hasVarKey d = false := by
  obtain ⟨c, rfl, _⟩ := h
  rw [hasVarKey, List.any_cons, one_pyEq_one]
  rfl

theorem addTo_total {d : Dict} {k c : Expr} (hd : GoodD d) (hc : Good c = true) :
    ∃ d', d.addTo k c = .ok d' ∧ GoodD d' := by
  suffices h : ∃ d', d.addTo k c = .ok d' from
    h.imp fun _ h => ⟨h, addTo_coefP pyAdd_good h hd hc⟩
  induction d with
  | nil => exact ⟨_, rfl⟩
  | cons kc rest ih =>
    obtain ⟨hc', hrest⟩ := coefP_cons.1 hd
    cases heq : kc.1.pyEq k
    · obtain ⟨r, hr⟩ := ih hrest
      exact ⟨_, addTo_cons_ok.2 (Or.inr ⟨heq, r, hr, rfl⟩)⟩
    · obtain ⟨s, hs, -⟩ := pyAdd_total hc' hc
      exact ⟨_, addTo_cons_ok.2 (Or.inl ⟨heq, s, hs, rfl⟩)⟩

theorem mergeInto_total {d result : Dict} (hr : GoodD result) (hd : GoodD d) :
    ∃ d', mergeInto result d = .ok d' ∧ GoodD d' := by
  induction d generalizing result with
  | nil => exact ⟨result, rfl, hr⟩
  | cons kc rest ih =>
    obtain ⟨r, h1, h2⟩ := addTo_total (k := kc.1) hr (coefP_cons.1 hd).1
    obtain ⟨d', h3, h4⟩ := ih h2 (coefP_cons.1 hd).2
    exact ⟨d', mergeInto_cons_ok.2 ⟨r, h1, h3⟩, h4⟩

theorem sumDicts_total {ds : List Dict} {result : Dict} (hr : GoodD result)
    (hd : ∀ d ∈ ds, GoodD d) : ∃ d', sumDicts result ds = .ok d' ∧ GoodD d' := by
  induction ds generalizing result with
  | nil => exact ⟨result, rfl, hr⟩
  | cons d ds ih =>
    obtain ⟨r, h1, h2⟩ := mergeInto_total hr (hd d List.mem_cons_self)
    obtain ⟨d', h3, h4⟩ := ih h2 fun d' hd' => hd d' (List.mem_cons_of_mem _ hd')
    exact ⟨d', sumDicts_cons_ok.2 ⟨r, h1, h3⟩, h4⟩

/-- merging `{1: c}` into `{}` or `{1: c₀}` gives `{1: c'}` -/
theorem mergeInto_single {result d : Dict} (hr : result = [] ∨ SingleOne result) (hd : SingleOne d) :
    ∃ d', mergeInto result d = .ok d' ∧ SingleOne d' := by
  obtain ⟨c, rfl, hc⟩ := hd
  rcases hr with rfl | ⟨c0, rfl, hc0⟩
  · exact ⟨[(one, c)], rfl, c, rfl, hc⟩
  · obtain ⟨s, hs, hsg⟩ := pyAdd_total hc0 hc
    exact ⟨[(one, s)], mergeInto_cons_ok.2 ⟨_, addTo_cons_ok.2 (Or.inl ⟨one_pyEq_one, s, hs, rfl⟩), rfl⟩,
      s, rfl, hsg⟩

theorem sumDicts_single {ds : List Dict} {result : Dict}
    (hr : (result = [] ∧ ds ≠ []) ∨ SingleOne result) (hd : ∀ d ∈ ds, SingleOne d) :
    ∃ d', sumDicts result ds = .ok d' ∧ SingleOne d' := by
  induction ds generalizing result with
  | nil =>
    rcases hr with ⟨_, h⟩ | h
    · exact absurd rfl h
    · exact ⟨result, rfl, h⟩
  | cons d ds ih =>
    obtain ⟨r, h1, h2⟩ := mergeInto_single (hr.imp And.left id) (hd d List.mem_cons_self)
    obtain ⟨d', h3, h4⟩ := ih (Or.inr h2) fun d' hd' => hd d' (List.mem_cons_of_mem _ hd')
    exact ⟨d', sumDicts_cons_ok.2 ⟨r, h1, h3⟩, h4⟩

theorem splitVars_total {ds : List Dict} (h : (ds.filter hasVarKey).length ≤ 1) :
    ∃ v os, splitVars ds = .ok (v, os) := by
  cases hf : ds.filter hasVarKey with
  | nil => exact ⟨none, _, splitVars_ok.2 ⟨hf, rfl⟩⟩
  | cons d l =>
    cases l with
    | nil => exact ⟨some d, _, splitVars_ok.2 ⟨hf, rfl⟩⟩
    | cons =>
      rw [hf] at h
      exact absurd (Nat.le_of_succ_le_succ h) (Nat.not_succ_le_zero _)

theorem otherCoeffs_total {os : List Dict} {acc : Expr} (ha : Good acc = true)
    (hd : ∀ d ∈ os, SingleOne d) : ∃ other, otherCoeffs acc os = .ok other ∧ Good other = true := by
  induction os generalizing acc with
  | nil => exact ⟨acc, rfl, ha⟩
  | cons d os ih =>
    obtain ⟨c, rfl, hc⟩ := hd d List.mem_cons_self
    obtain ⟨acc', h1, h2⟩ := pyMul_total ha hc
    obtain ⟨other, h3, h4⟩ := ih h2 fun d' hd' => hd d' (List.mem_cons_of_mem _ hd')
    refine ⟨other, otherCoeffs_cons_ok.2 ⟨rfl, c, ?_, acc', h1, h3⟩, h4⟩
    rw [Dict.find, one_pyEq_one]
    rfl

theorem scaled_total {f : Expr → CR Expr} (hf : ∀ {c}, Good c = true → ∃ c', f c = .ok c')
    {d : Dict} (hd : GoodD d) : ∃ d', Scaled f d d' := by
  induction d with
  | nil => exact ⟨[], .nil⟩
  | cons kc rest ih =>
    obtain ⟨c', h1⟩ := hf (coefP_cons.1 hd).1
    obtain ⟨r, h2⟩ := ih (coefP_cons.1 hd).2
    exact ⟨(kc.1, c') :: r, .cons ⟨rfl, h1⟩ h2⟩

theorem Scaled.single {f : Expr → CR Expr} {k c : Expr} {d' : Dict} (h : Scaled f [(k, c)] d') :
    ∃ c', d' = [(k, c')] := by
  obtain ⟨c', -, r, hr, rfl⟩ := scaled_cons.1 h
  cases hr
  exact ⟨c', rfl⟩

/-! ### the syntactic affine class -/

mutual
/-- sums (non-empty) of affine terms, products with at most one factor that contains a target in
arithmetic position, quotients by a target-free denominator, target-free powers, int constants
and algebraic leaves — over an arbitrary target set -/
def affClass (tg : Option (List String)) : Expr → Bool
  | .const (.int _) => true
  | .nary .sum cs => !cs.isEmpty && affClassL tg cs
  | .nary .prod cs => affClassL tg cs && decide ((cs.filter (armT tg)).length ≤ 1)
  | .bin .quot a b => affClass tg a && affClass tg b && !armT tg b
  | .bin .pow a b => affClass tg a && affClass tg b && !armT tg a && !armT tg b
  | e => e.isAlgLeaf && !(isTarget tg e && e.hasList)
def affClassL (tg : Option (List String)) : List Expr → Bool
  | [] => true
  | c :: cs => affClass tg c && affClassL tg cs
end

variable {tg : Option (List String)}

theorem affClassL_mem {cs : List Expr} (h : affClassL tg cs = true) :
    ∀ c ∈ cs, affClass tg c = true := by
  induction cs with
  | nil => nofun
  | cons c cs ih =>
    rw [affClassL, Bool.and_eq_true] at h
    exact List.forall_mem_cons.2 ⟨h.1, ih h.2⟩

/-- what the collector returns on the affine class -/
def AccOK (tg : Option (List String)) (e : Expr) : Prop :=
  ∃ d, coeffs tg e = .ok d ∧ GoodD d ∧ (armT tg e = false → SingleOne d)

theorem coeffsL_of_forall₂ {cs : List Expr} {ds : List Dict}
    (h : List.Forall₂ (fun c d => coeffs tg c = .ok d) cs ds) : coeffsL tg cs = .ok ds := by
  induction h with
  | nil => rfl
  | cons hx _ ih => exact coeffsL_cons_ok.2 ⟨_, hx, _, ih, rfl⟩

theorem coeffsL_total {cs : List Expr} (h : ∀ c ∈ cs, AccOK tg c) :
    ∃ ds, List.Forall₂ (fun c d => coeffs tg c = .ok d ∧ GoodD d ∧
      (armT tg c = false → SingleOne d)) cs ds := by
  induction cs with
  | nil => exact ⟨[], .nil⟩
  | cons c cs ih =>
    obtain ⟨d, hd⟩ := h c List.mem_cons_self
    obtain ⟨ds, hds⟩ := ih fun c' hc' => h c' (List.mem_cons_of_mem _ hc')
    exact ⟨d :: ds, .cons hd hds⟩

theorem armTL_filter : ∀ (cs : List Expr), armTL tg cs = false ↔ (cs.filter (armT tg)).length = 0 :=
  fun cs => by
    rw [armTL_eq_any, List.length_eq_zero_iff, List.filter_eq_nil_iff, List.any_eq_false]

theorem constOnly_one (c : Expr) : constOnly [(one, c)] = some c := rfl

theorem leaf_acc {e : Expr} (h : e.isAlgLeaf = true)
    (hl : (isTarget tg e && e.hasList) = false) : AccOK tg e := by
  have hg := good_node (leaf_node h)
  refine ⟨leafDict tg e, ?_, ?_, ?_⟩
  · rw [coeffs_leaf h, leafR, hl]
    rfl
  · unfold leafDict
    split
    · exact coefP_single.2 good_one
    · exact coefP_single.2 hg
  · intro ha
    rw [armT_leaf h] at ha
    rw [leafDict, ha]
    exact ⟨e, rfl, hg⟩

/-- **completeness on the affine class**: the collector returns a dictionary -/
theorem coeffs_accepts (tg : Option (List String)) (e : Expr) :
    affClass tg e = true → AccOK tg e := by
  induction e using Expr.induct with
  | h e ih =>
    intro haff
    -- the children of a Sum / Product of the class
    have hL : ∀ {cs}, (∀ c ∈ cs, c ∈ e.children) → affClassL tg cs = true →
        ∃ ds, List.Forall₂ (fun c d => coeffs tg c = .ok d ∧ GoodD d ∧
          (armT tg c = false → SingleOne d)) cs ds :=
      fun hsub hcl => coeffsL_total fun c hc => ih c (hsub c hc) (affClassL_mem hcl c hc)
    unfold affClass at haff
    split at haff
    · exact ⟨_, rfl, SingleOne.good ⟨_, rfl, rfl⟩, fun _ => ⟨_, rfl, rfl⟩⟩
    · rename_i cs
      rw [Bool.and_eq_true, Bool.not_eq_true'] at haff
      obtain ⟨ds, hR⟩ := hL (fun _ h => h) haff.2
      have hds := coeffsL_of_forall₂ (hR.imp fun _ _ h => h.1)
      obtain ⟨d, hd, hg⟩ := sumDicts_total (result := []) nofun fun d hd =>
        let ⟨_, _, h⟩ := forall₂_mem_right hR d hd
        h.2.1
      refine ⟨d, bind_ok.2 ⟨ds, hds, hd⟩, hg, fun ha => ?_⟩
      have hne : ds ≠ [] := by
        rintro rfl
        cases hR
        cases haff.1
      obtain ⟨d', hd', hs⟩ := sumDicts_single (Or.inl ⟨rfl, hne⟩) fun d hd =>
        let ⟨c, hc, h⟩ := forall₂_mem_right hR d hd
        h.2.2 (armTL_mem ha c hc)
      cases hd.symm.trans hd'
      exact hs
    · rename_i cs
      rw [Bool.and_eq_true, decide_eq_true_eq] at haff
      obtain ⟨ds, hR⟩ := hL (fun _ h => h) haff.1
      have hds := coeffsL_of_forall₂ (hR.imp fun _ _ h => h.1)
      -- a child dictionary with a variable key comes from a child with an arithmetic target
      have hcount : (ds.filter hasVarKey).length ≤ (cs.filter (armT tg)).length :=
        forall₂_filter_le (List.Forall₂.flip (hR.imp fun c d h hv => by
          cases ha : armT tg c
          · rw [(h.2.2 ha).noVar] at hv; cases hv
          · rfl))
      obtain ⟨v, os, hsp⟩ := splitVars_total (Nat.le_trans hcount haff.2)
      obtain ⟨hv, rfl⟩ := splitVars_ok.1 hsp
      obtain ⟨other, ho, hog⟩ := otherCoeffs_total (os := ds.filter fun d => !hasVarKey d)
        good_one fun d hd => by
        obtain ⟨hd, hnv⟩ := List.mem_filter.1 hd
        obtain ⟨c, _, h⟩ := forall₂_mem_right hR d hd
        cases ha : armT tg c
        · exact h.2.2 ha
        · rw [leafKey_hasVarKey ((coeffs_keys tg c d h.1).2 ha)] at hnv; cases hnv
      cases v with
      | none =>
        exact ⟨[(one, other)], bind_ok.2 ⟨ds, hds, bind_ok.2 ⟨_, hsp, bind_ok.2 ⟨other, ho, rfl⟩⟩⟩,
          SingleOne.good ⟨_, rfl, hog⟩, fun _ => ⟨_, rfl, hog⟩⟩
      | some dv =>
        have hdv : dv ∈ ds.filter hasVarKey := hv ▸ List.mem_singleton_self dv
        obtain ⟨hdv, hvk⟩ := List.mem_filter.1 hdv
        obtain ⟨c, hc, h⟩ := forall₂_mem_right hR dv hdv
        obtain ⟨d, hd⟩ := scaled_total (f := pyBin .mul other)
          (fun hc => (pyMul_total hog hc).imp fun _ h => h.1) h.2.1
        refine ⟨d, bind_ok.2 ⟨ds, hds, bind_ok.2 ⟨_, hsp, bind_ok.2 ⟨other, ho, scaleLeft_ok.2 hd⟩⟩⟩,
          hd.coefP (fun hm hc => pyMul_good hm hog hc) h.2.1, fun ha => ?_⟩
        -- no arithmetic target at all, but `dv` has a variable key
        rw [(h.2.2 (armTL_mem ha c hc)).noVar] at hvk
        cases hvk
    · rename_i a b
      simp only [Bool.and_eq_true, Bool.not_eq_true'] at haff
      obtain ⟨⟨ha, hb⟩, hnb⟩ := haff
      obtain ⟨dn, hdn, hgn, hsn⟩ := ih a (.head _) ha
      obtain ⟨dd, hdd, -, hsd⟩ := ih b (.tail _ (.head _)) hb
      obtain ⟨val, rfl, hval⟩ := hsd hnb
      have hq : Good (.bin .quot one val) = true := rfl
      obtain ⟨d, hd⟩ := scaled_total (f := fun c => pyBin .mul c (.bin .quot one val))
        (fun hc => (pyMul_total hc hq).imp fun _ h => h.1) hgn
      have hg := hd.coefP (fun hm hc => pyMul_good hm hc hq) hgn
      refine ⟨d, bind_ok.2 ⟨dn, hdn, bind_ok.2 ⟨_, hdd, ?_⟩⟩, hg, fun harm => ?_⟩
      · rw [constOnly_one]
        exact scaleRight_ok.2 hd
      · rw [armT, Bool.or_eq_false_iff] at harm
        obtain ⟨c, rfl, -⟩ := hsn harm.1
        obtain ⟨c', rfl⟩ := hd.single
        exact ⟨c', rfl, hg _ (.head _)⟩
    · rename_i a b
      simp only [Bool.and_eq_true, Bool.not_eq_true'] at haff
      obtain ⟨⟨⟨ha, hb⟩, hna⟩, hnb⟩ := haff
      obtain ⟨db, hdb, -, hsb⟩ := ih a (.head _) ha
      obtain ⟨de, hde, -, hse⟩ := ih b (.tail _ (.head _)) hb
      obtain ⟨vb, rfl, -⟩ := hsb hna
      obtain ⟨ve, rfl, -⟩ := hse hnb
      refine ⟨[(one, .bin .pow a b)], bind_ok.2 ⟨_, hdb, bind_ok.2 ⟨_, hde, ?_⟩⟩,
        SingleOne.good ⟨_, rfl, rfl⟩, fun _ => ⟨_, rfl, rfl⟩⟩
      rw [constOnly_one, constOnly_one]
      rfl
    · rw [Bool.and_eq_true, Bool.not_eq_true'] at haff
      exact leaf_acc haff.1 haff.2

end PV.Coeff
