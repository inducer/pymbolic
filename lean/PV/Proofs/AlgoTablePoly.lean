import PV.Proofs.AlgoTableArith
/-!
  C19 (T-gen): `_sort_uniq` and the `Polynomial` methods — the hand-written list functions of
  PV/Model/Algo.lean (`sortUniq`, `neg`, `add`, `sub`, `mulRaw`, `mul`, `pow`, `divmodLoop`, …) are
  what the table interpreter computes on the bodies regenerated from the current source.
-/
namespace PV.Algo
open PV.Generated
variable {α : Type}

def c19EncTerm (t : Term) : C19V α := .tup [.int t.1, .int t.2]
def c19EncTerms (l : List Term) : List (C19V α) := l.map c19EncTerm
def c19EncLast : Option Nat → C19V α
  | none => .none
  | some e => .int e

def c19SuPat : C19P := .tuple [(.name "exp"), (.name "coeff")]
def c19SuBody : List C19S := [
  .ite (.cmp .eq (.var "last_exp") (.var "exp")) [
    .assign (.pat (.name "newcoeff")) (.bin .add (.index (.index (.var "uniq_result") (.int (-1))) (.int 1)) (.var "coeff")),
    .ite (.not (.var "newcoeff")) [
      .pop "uniq_result",
      .assign (.pat (.name "last_exp")) .none] [
      .assign (.index "uniq_result" (.int (-1))) (.tuple [(.var "last_exp"), (.var "newcoeff")])]] [
    .append "uniq_result" (.tuple [(.var "exp"), (.var "coeff")]),
    .assign (.pat (.name "last_exp")) (.var "exp")]]

theorem c19_sort_uniq_body_current :
    c19Fn_polynomial__sort_uniq = ⟨"polynomial._sort_uniq", .func, ["data"], [], [
      .sortByFirst "data",
      .assign (.pat (.name "uniq_result")) (.tuple []),
      .assign (.pat (.name "last_exp")) .none,
      .for c19SuPat (.var "data") c19SuBody,
      .ret (.var "uniq_result")]⟩ := by rfl

/-- the store of the loop: the three names the body reads and updates, then whatever the loop
targets and `newcoeff` have left behind -/
def c19SuStore (d : C19V α) (us : List (C19V α)) (last : C19V α) (tail : C19Store α) : C19Store α :=
  [("data", d), ("uniq_result", .tup us), ("last_exp", last)] ++ tail

/-- one iteration: bind the loop target, run the body -/
def c19SuIter (cx : C19Cx α) (t : Term) (σ : C19Store α) : Option (C19O α) :=
  (c19Bind c19SuPat (c19EncTerm t) σ).bind (fun σ' => some (c19ExecL cx c19SuBody σ'))

/-- appending branch -/
theorem c19_su_body_append (cx : C19Cx α) (d : C19V α) (us : List (C19V α)) (last : Option Nat)
    (e : Nat) (c : Int) (hl : last ≠ some e) (tail : C19Store α) :
    ∃ tail', c19SuIter cx (e, c) (c19SuStore d us (c19EncLast last) tail) =
      some (.next (c19SuStore d (us ++ [c19EncTerm (e, c)]) (.int e) tail')) := by
  refine ⟨c19Set "coeff" (.int c) (c19Set "exp" (.int e) tail), ?_⟩
  unfold c19SuIter c19SuPat c19SuBody c19SuStore c19EncTerm
  rcases last with _ | e'
  · simp only [c19EncLast]; c19_run []
  · have hne : ((e' : Int) == (e : Int)) = false := by
      simp; intro h; exact hl (by rw [Int.ofNat_inj.mp h])
    simp only [c19EncLast]; c19_run [hne]

/-- merging branch, the sum is not zero -/
theorem c19_su_body_merge (cx : C19Cx α) (d : C19V α) (us : List (C19V α)) (e' : Nat) (c' : Int)
    (e : Nat) (c : Int) (hz : c' + c ≠ 0) (tail : C19Store α) :
    ∃ tail', c19SuIter cx (e, c) (c19SuStore d (us ++ [c19EncTerm (e', c')]) (.int e) tail) =
      some (.next (c19SuStore d (us ++ [c19EncTerm (e, c' + c)]) (.int e) tail')) := by
  refine ⟨c19Set "newcoeff" (.int (c' + c)) (c19Set "coeff" (.int c) (c19Set "exp" (.int e) tail)),
    ?_⟩
  unfold c19SuIter c19SuPat c19SuBody c19SuStore c19EncTerm
  have hb : ((c' + c) != 0) = true := by simp [hz]
  have hn : c19NormIndex (us ++ [(.tup [.int e', .int c'] : C19V α)]).length (-1) = some us.length := by
    simp [c19NormIndex]
  have hs : (us ++ [(.tup [.int e', .int c'] : C19V α)]).set us.length (.tup [.int e, .int (c' + c)])
      = us ++ [.tup [.int e, .int (c' + c)]] := by simp
  c19_run [beq_self_eq_true, c19Index_last, hb, hn, hs]

/-- merging branch, the sum is zero: the entry is popped and `last_exp` reset -/
theorem c19_su_body_pop (cx : C19Cx α) (d : C19V α) (us : List (C19V α)) (e' : Nat) (c' : Int)
    (e : Nat) (c : Int) (hz : c' + c = 0) (tail : C19Store α) :
    ∃ tail', c19SuIter cx (e, c) (c19SuStore d (us ++ [c19EncTerm (e', c')]) (.int e) tail) =
      some (.next (c19SuStore d us .none tail')) := by
  refine ⟨c19Set "newcoeff" (.int (c' + c)) (c19Set "coeff" (.int c) (c19Set "exp" (.int e) tail)),
    ?_⟩
  unfold c19SuIter c19SuPat c19SuBody c19SuStore c19EncTerm
  have hb : ((c' + c) != 0) = false := by simp [hz]
  have he : (us ++ [(.tup [.int e', .int c'] : C19V α)]).isEmpty = false := by simp
  c19_run [beq_self_eq_true, c19Index_last, hb, he, List.dropLast_concat]

theorem c19For_cons_next (bind : C19V α → C19Store α → Option (C19Store α))
    (body : C19Store α → C19O α) (v : C19V α) (vs : List (C19V α)) (σ σ'' : C19Store α)
    (h : (bind v σ).bind (fun σ' => some (body σ')) = some (.next σ'')) :
    c19For bind body (v :: vs) σ = c19For bind body vs σ'' := by
  cases hb : bind v σ with
  | none => rw [hb] at h; simp at h
  | some σ' =>
    rw [hb] at h
    simp only [Option.bind_some, Option.some.injEq] at h
    simp [c19For, hb, h]

theorem c19EncTerms_cons (t : Term) (l : List Term) :
    (c19EncTerms (t :: l) : List (C19V α)) = c19EncTerm t :: c19EncTerms l := by rfl

theorem c19EncTerms_reverse_cons (t : Term) (acc : List Term) :
    (c19EncTerms (t :: acc).reverse : List (C19V α)) = c19EncTerms acc.reverse ++ [c19EncTerm t] := by
  simp [c19EncTerms]

/-- the `for` loop of `_sort_uniq` IS `mergeFix` (the merge loop WITH the reset of `last_exp`
after `pop()`) -/
theorem c19_su_loop (cx : C19Cx α) (d : C19V α) : ∀ (rest acc : List Term) (last : Option Nat)
    (tail : C19Store α), (last.isSome → acc ≠ []) →
    ∃ σ', c19For (c19Bind c19SuPat) (c19ExecL cx c19SuBody) (c19EncTerms rest)
        (c19SuStore d (c19EncTerms acc.reverse) (c19EncLast last) tail) = .next σ' ∧
      c19Get "uniq_result" σ' = some (.tup (c19EncTerms (mergeFix acc last rest))) := by
  intro rest
  induction rest with
  | nil =>
    intro acc last tail _
    refine ⟨_, rfl, ?_⟩
    simp [c19SuStore, c19Get, mergeFix]
  | cons t rest ih =>
    intro acc last tail hinv
    obtain ⟨e, c⟩ := t
    rw [c19EncTerms_cons]
    by_cases hl : last = some e
    · subst hl
      match acc, hinv with
      | [], hinv => exact absurd rfl (hinv rfl)
      | (e', c') :: acc', _ =>
        rw [c19EncTerms_reverse_cons]
        by_cases hz : c' + c = 0
        · obtain ⟨tail', hb⟩ := c19_su_body_pop cx d (c19EncTerms acc'.reverse) e' c' e c hz tail
          obtain ⟨σ', h1, h2⟩ := ih acc' none tail' (by simp)
          refine ⟨σ', ?_, ?_⟩
          · show c19For _ _ _ (c19SuStore d _ (.int e) tail) = _
            rw [c19For_cons_next _ _ _ _ _ _ hb]
            exact h1
          · rw [h2]; simp [mergeFix, hz, c19EncTerms]
        · obtain ⟨tail', hb⟩ := c19_su_body_merge cx d (c19EncTerms acc'.reverse) e' c' e c hz tail
          obtain ⟨σ', h1, h2⟩ := ih ((e, c' + c) :: acc') (some e) tail' (by simp)
          refine ⟨σ', ?_, ?_⟩
          · show c19For _ _ _ (c19SuStore d _ (.int e) tail) = _
            rw [c19For_cons_next _ _ _ _ _ _ hb]
            rw [c19EncTerms_reverse_cons] at h1
            exact h1
          · rw [h2]; simp [mergeFix, hz, c19EncTerms]
    · obtain ⟨tail', hb⟩ := c19_su_body_append cx d (c19EncTerms acc.reverse) last e c hl tail
      obtain ⟨σ', h1, h2⟩ := ih ((e, c) :: acc) (some e) tail' (by simp)
      refine ⟨σ', ?_, ?_⟩
      · rw [c19For_cons_next _ _ _ _ _ _ hb]
        rw [c19EncTerms_reverse_cons] at h1
        exact h1
      · rw [h2]; simp [mergeFix, hl, c19EncTerms]

/-! ### `data.sort(key=sortkey)` -/

theorem c19InsertByKey_enc (t : Term) (r : List Term) :
    c19InsertByKey (t.1 : Int) (c19EncTerm t : C19V α)
        (r.map fun u => ((u.1 : Int), (c19EncTerm u : C19V α)))
      = (insertByExp t r).map fun u => ((u.1 : Int), (c19EncTerm u : C19V α)) := by
  induction r with
  | nil => rfl
  | cons u us ih =>
    simp only [List.map_cons, c19InsertByKey, insertByExp]
    by_cases h : t.1 ≤ u.1
    · have : (t.1 : Int) ≤ (u.1 : Int) := by omega
      simp [h, this]
    · have : ¬ (t.1 : Int) ≤ (u.1 : Int) := by omega
      simp [h, this, ih]

theorem c19SortByKey_enc (l : List Term) :
    c19SortByKey (c19EncTerms l : List (C19V α))
      = some ((sortByExp l).map fun u => ((u.1 : Int), (c19EncTerm u : C19V α))) := by
  induction l with
  | nil => rfl
  | cons t ts ih =>
    have hk : c19KeyOf (c19EncTerm t : C19V α) = some (t.1 : Int) := rfl
    simp only [c19EncTerms, List.map_cons, c19SortByKey, hk]
    simp only [c19EncTerms] at ih
    rw [ih]
    simp only [sortByExp]
    rw [c19InsertByKey_enc]

/-- **`_sort_uniq` as regenerated IS `sortUniq`** (stable sort by exponent, then the merge loop
that resets `last_exp` after a `pop()`). -/
theorem c19_sort_uniq_run (ops : C19Ops α) (ext : String → List (C19V α) → C19R (C19V α))
    (l : List Term) (n : Nat) :
    c19RunFn ops c19Table ext (n + 1) "polynomial._sort_uniq" [.tup (c19EncTerms l)]
      = .ok (.tup (c19EncTerms (sortUniq l))) := by
  rw [c19RunFn_succ ops c19Table ext _ "polynomial._sort_uniq" _ _ _
    (c19Table_find 7 c19Fn_polynomial__sort_uniq (by rfl))
    (by rw [c19_sort_uniq_body_current]; rfl)]
  simp only [c19_sort_uniq_body_current]
  obtain ⟨σ', h1, h2⟩ := c19_su_loop (c19CxAt ops c19Table ext n (n + 1))
    (.tup (c19EncTerms (sortByExp l))) (sortByExp l) [] none [] (by simp)
  have hmap : (List.map (fun x : Int × C19V α => x.2)
      (List.map (fun u : Term => ((u.1 : Int), (c19EncTerm u : C19V α))) (sortByExp l)))
      = c19EncTerms (sortByExp l) := by
    simp [c19EncTerms, List.map_map, Function.comp_def]
  simp only [c19SuStore, c19EncLast, c19EncTerms, List.reverse_nil, List.map_nil,
    List.append_nil] at h1
  c19_run [c19SortByKey_enc, hmap]
  simp only [c19EncTerms]
  rw [h1]
  c19_run [h2]
  rfl

/-! ## `Polynomial` objects -/

def c19Lmo : C19V α := .obj "LexicalMonomialOrder" [] []

/-- `Polynomial(base, data)` with the default unit and ordering, as `__init__` leaves it -/
def c19PolyObj (b : C19V α) (ts : List (C19V α)) : C19V α :=
  .obj "Polynomial" ["Base", "Unit", "VarLess", "Data"] [b, .int 1, c19Lmo, .tup ts]

def c19EncPoly (b : String) (p : Poly) : C19V α := c19PolyObj (.sym b) (c19EncTerms p)

theorem c19ClassesOf_polynomial (ks : List String) (vs : List (C19V α)) :
    c19ClassesOf c19Table (.obj "Polynomial" ks vs) = ["Polynomial", "Expression"] := by
  simp only [c19ClassesOf, c19Table, List.find?, decide_true]

theorem c19_find_poly_init :
    c19FindFn c19Table "Polynomial.__init__" = some c19Fn_Polynomial___init__ :=
  c19Table_find 11 c19Fn_Polynomial___init__ (by rfl)
theorem c19_find_poly_neg :
    c19FindFn c19Table "Polynomial.__neg__" = some c19Fn_Polynomial___neg__ :=
  c19Table_find 13 c19Fn_Polynomial___neg__ (by rfl)
theorem c19_find_poly_add :
    c19FindFn c19Table "Polynomial.__add__" = some c19Fn_Polynomial___add__ :=
  c19Table_find 14 c19Fn_Polynomial___add__ (by rfl)
theorem c19_find_poly_sub :
    c19FindFn c19Table "Polynomial.__sub__" = some c19Fn_Polynomial___sub__ :=
  c19Table_find 16 c19Fn_Polynomial___sub__ (by rfl)
theorem c19_find_poly_mul :
    c19FindFn c19Table "Polynomial.__mul__" = some c19Fn_Polynomial___mul__ :=
  c19Table_find 17 c19Fn_Polynomial___mul__ (by rfl)
theorem c19_find_poly_degree :
    c19FindFn c19Table "Polynomial.degree" = some c19Fn_Polynomial_degree :=
  c19Table_find 26 c19Fn_Polynomial_degree (by rfl)
theorem c19_find_poly_divmod :
    c19FindFn c19Table "Polynomial.__divmod__" = some c19Fn_Polynomial___divmod__ :=
  c19Table_find 20 c19Fn_Polynomial___divmod__ (by rfl)

theorem c19New_lmo (ops : C19Ops α) (ext : String → List (C19V α) → C19R (C19V α)) (n k : Nat) :
    c19New (c19CxAt ops c19Table ext n k) "LexicalMonomialOrder" [] = .ok c19Lmo := by
  have hc : c19ClassesOf c19Table (.obj "LexicalMonomialOrder" [] [] : C19V α)
      = ["LexicalMonomialOrder"] := by
    simp only [c19ClassesOf, c19Table, List.find?, String.reduceEq, decide_false, decide_true]
  refine c19New_plain _ _ ?_
  simp only [c19CxAt_tbl, hc, c19ResolveIn_cons, c19ResolveIn_nil, String.reduceAppend,
    c19Table_absent "LexicalMonomialOrder.__init__" (by simp [c19Table_names]), Option.none_or]

theorem c19_poly_init_run (ops : C19Ops α) (ext : String → List (C19V α) → C19R (C19V α))
    (b : C19V α) (ts : List (C19V α)) (n : Nat) :
    c19RunFn ops c19Table ext (n + 1) "Polynomial.__init__"
      [.obj "Polynomial" [] [], b, .tup ts, .int 1, .none] = .ok (c19PolyObj b ts) := by
  rw [c19RunFn_succ ops c19Table ext _ _ _ _ _ c19_find_poly_init rfl]
  simp only [c19Fn_Polynomial___init__]
  c19_run [c19New_lmo]
  rfl

theorem c19New_polynomial (ops : C19Ops α) (ext : String → List (C19V α) → C19R (C19V α))
    (n k : Nat) (b d u v : C19V α) :
    c19New (c19CxAt ops c19Table ext n k) "Polynomial" [b, d, u, v]
      = c19RunFn ops c19Table ext n "Polynomial.__init__" [.obj "Polynomial" [] [], b, d, u, v] :=
  c19New_resolved _ _ _ _ c19Fn_Polynomial___init__
    (by simp only [c19CxAt_tbl, c19ClassesOf_polynomial, c19ResolveIn_cons, String.reduceAppend,
      c19_find_poly_init, Option.some_or])
    (by rfl)

theorem c19Attr_poly_base (cx : C19Cx α) (b : C19V α) (ts : List (C19V α)) :
    c19Attr cx (c19PolyObj b ts) "Base" = .ok b := by rfl
theorem c19Attr_poly_data (cx : C19Cx α) (b : C19V α) (ts : List (C19V α)) :
    c19Attr cx (c19PolyObj b ts) "Data" = .ok (.tup ts) := by rfl
theorem c19Attr_poly_unit (cx : C19Cx α) (b : C19V α) (ts : List (C19V α)) :
    c19Attr cx (c19PolyObj b ts) "Unit" = .ok (.int 1) := by rfl
theorem c19IsInst_poly (ops : C19Ops α) (ext : String → List (C19V α) → C19R (C19V α))
    (n k : Nat) (b : C19V α) (ts : List (C19V α)) :
    c19IsInst (c19CxAt ops c19Table ext n k) (c19PolyObj b ts) ["Polynomial"] = true := by
  rw [c19PolyObj, c19IsInst_obj _ _ _ _ _ _ (c19ClassesOf_polynomial _ _)]
  simp
theorem c19TruthyM_poly (ops : C19Ops α) (ext : String → List (C19V α) → C19R (C19V α))
    (n k : Nat) (b : C19V α) (ts : List (C19V α)) :
    c19TruthyM (c19CxAt ops c19Table ext n k) (c19PolyObj b ts) = .ok true := by
  refine c19TruthyM_plain _ _ _ _ ?_
  simp only [c19CxAt_tbl, c19ClassesOf_polynomial, c19ResolveIn_cons, c19ResolveIn_nil,
    String.reduceAppend, c19Table_absent "Polynomial.__bool__" (by simp [c19Table_names]),
    c19Table_absent "Expression.__bool__" (by simp [c19Table_names]), Option.none_or]


theorem c19MapM_enc {β : Type} (f : C19V α → C19R (C19V α)) (enc : β → C19V α) (g : β → C19V α)
    (p : List β) (h : ∀ t ∈ p, f (enc t) = .ok (g t)) :
    c19MapM f (p.map enc) = .ok (p.map g) := by
  induction p with
  | nil => rfl
  | cons t ts ih =>
    simp only [List.map_cons, c19MapM, h t List.mem_cons_self, C19R.bind_ok,
      ih fun u hu => h u (List.mem_cons_of_mem _ hu)]

/-! ### `__neg__` -/

theorem c19EncTerms_neg (p : Poly) :
    (p.map fun t => (c19EncTerm (t.1, -t.2) : C19V α)) = c19EncTerms (neg p) := by
  simp [c19EncTerms, neg, List.map_map, Function.comp_def]

/-- **`Polynomial.__neg__` as regenerated IS `neg`** -/
theorem c19_poly_neg_run (ops : C19Ops α) (ext : String → List (C19V α) → C19R (C19V α))
    (b : C19V α) (p : Poly) (n : Nat) :
    c19RunFn ops c19Table ext (n + 1 + 1) "Polynomial.__neg__" [c19PolyObj b (c19EncTerms p)]
      = .ok (c19PolyObj b (c19EncTerms (neg p))) := by
  rw [c19RunFn_succ ops c19Table ext _ _ _ _ _ c19_find_poly_neg rfl]
  simp only [c19Fn_Polynomial___neg__]
  c19_run [c19Attr_poly_base, c19Attr_poly_data]
  simp only [c19EncTerms]
  rw [c19MapM_enc _ c19EncTerm (fun t => c19EncTerm (t.1, -t.2)) p
    (by intro t _; unfold c19EncTerm; c19_run [])]
  c19_run [c19New_polynomial, c19EncTerms_neg, c19_poly_init_run]
  rfl


/-! ### `__add__` -/

def c19AddPre : List C19S := [
  .ite (.not (.var "other")) [
    .ret (.var "self")] [],
  .ite (.not (.isinst (.var "other") ["Polynomial"])) [
    .assign (.pat (.name "other")) (.new "Polynomial" [(.attr (.var "self") "Base"), (.tuple [(.tuple [(.int 0), (.var "other")])]), (.int 1), .none])] [],
  .ite (.cmp .ne (.attr (.var "other") "Base") (.attr (.var "self") "Base")) [
    .assert (.cmp .eq (.attr (.var "self") "VarLess") (.attr (.var "other") "VarLess")),
    .ite (.method (.attr (.var "self") "VarLess") "__call__" [(.attr (.var "self") "Base"), (.attr (.var "other") "Base")]) [
      .assign (.pat (.name "other")) (.new "Polynomial" [(.attr (.var "self") "Base"), (.tuple [(.tuple [(.int 0), (.var "other")])]), (.int 1), .none])] [
      .ret (.method (.var "other") "__add__" [(.var "self")])]] [],
  .assign (.pat (.name "i_self")) (.int 0),
  .assign (.pat (.name "i_other")) (.int 0),
  .assign (.pat (.name "result")) (.tuple [])]

def c19AddC1 : C19E :=
  .and (.cmp .lt (.var "i_self") (.call "len" [(.attr (.var "self") "Data")])) (.cmp .lt (.var "i_other") (.call "len" [(.attr (.var "other") "Data")]))
def c19AddB1 : List C19S := [
  .assign (.pat (.name "exp_self")) (.index (.index (.attr (.var "self") "Data") (.var "i_self")) (.int 0)),
  .assign (.pat (.name "exp_other")) (.index (.index (.attr (.var "other") "Data") (.var "i_other")) (.int 0)),
  .ite (.cmp .eq (.var "exp_self") (.var "exp_other")) [
    .assign (.pat (.name "coeff")) (.bin .add (.index (.index (.attr (.var "self") "Data") (.var "i_self")) (.int 1)) (.index (.index (.attr (.var "other") "Data") (.var "i_other")) (.int 1))),
    .ite (.var "coeff") [
      .append "result" (.tuple [(.var "exp_self"), (.var "coeff")])] [],
    .aug "i_self" .add (.int 1),
    .aug "i_other" .add (.int 1)] [
    .ite (.cmp .gt (.var "exp_self") (.var "exp_other")) [
      .append "result" (.tuple [(.var "exp_other"), (.index (.index (.attr (.var "other") "Data") (.var "i_other")) (.int 1))]),
      .aug "i_other" .add (.int 1)] [
      .ite (.cmp .lt (.var "exp_self") (.var "exp_other")) [
        .append "result" (.tuple [(.var "exp_self"), (.index (.index (.attr (.var "self") "Data") (.var "i_self")) (.int 1))]),
        .aug "i_self" .add (.int 1)] []]]]
def c19AddC2 : C19E := .cmp .lt (.var "i_self") (.call "len" [(.attr (.var "self") "Data")])
def c19AddB2 : List C19S := [
  .assign (.pat (.name "exp_self")) (.index (.index (.attr (.var "self") "Data") (.var "i_self")) (.int 0)),
  .append "result" (.tuple [(.var "exp_self"), (.index (.index (.attr (.var "self") "Data") (.var "i_self")) (.int 1))]),
  .aug "i_self" .add (.int 1)]
def c19AddC3 : C19E := .cmp .lt (.var "i_other") (.call "len" [(.attr (.var "other") "Data")])
def c19AddB3 : List C19S := [
  .assign (.pat (.name "exp_other")) (.index (.index (.attr (.var "other") "Data") (.var "i_other")) (.int 0)),
  .append "result" (.tuple [(.var "exp_other"), (.index (.index (.attr (.var "other") "Data") (.var "i_other")) (.int 1))]),
  .aug "i_other" .add (.int 1)]
def c19AddRet : C19S :=
  .ret (.new "Polynomial" [(.attr (.var "self") "Base"), (.call "tuple" [(.var "result")]), (.int 1), .none])

/-- the body of `Polynomial.__add__` in the current source -/
theorem c19_poly_add_body_current :
    c19Fn_Polynomial___add__ = ⟨"Polynomial.__add__", .method, ["self", "other"], [],
      c19AddPre ++ [.while c19AddC1 c19AddB1, .while c19AddC2 c19AddB2, .while c19AddC3 c19AddB3,
        c19AddRet]⟩ := by rfl

/-- what the loops of `__add__` keep in the store: the operands, the two indices, the result list -/
def c19AddInv (σ : C19Store α) (b : C19V α) (p q : Poly) (i j : Nat) (acc : List Term) : Prop :=
  c19Get "self" σ = some (c19PolyObj b (c19EncTerms p)) ∧
  c19Get "other" σ = some (c19PolyObj b (c19EncTerms q)) ∧
  c19Get "i_self" σ = some (.int i) ∧ c19Get "i_other" σ = some (.int j) ∧
  c19Get "result" σ = some (.tup (c19EncTerms acc))

theorem c19Index_enc (p : List Term) (i : Nat) (h : i < p.length) :
    c19Index (c19EncTerms p : List (C19V α)) (i : Int) = .ok (.tup [.int p[i].1, .int p[i].2]) := by
  rw [c19Index_nat _ _ (by simpa [c19EncTerms] using h)]
  simp [c19EncTerms, c19EncTerm]

theorem c19EncTerms_length (p : List Term) : (c19EncTerms p : List (C19V α)).length = p.length := by
  simp [c19EncTerms]

theorem c19EncTerms_append (p q : List Term) :
    (c19EncTerms (p ++ q) : List (C19V α)) = c19EncTerms p ++ c19EncTerms q := by
  simp [c19EncTerms]

theorem c19_add_test1 (cx : C19Cx α) (σ : C19Store α) (b : C19V α) (p q : Poly) (i j : Nat)
    (acc : List Term) (h : c19AddInv σ b p q i j acc) :
    c19Test cx c19AddC1 σ = .ok (decide (i < p.length ∧ j < q.length)) := by
  obtain ⟨h1, h2, h3, h4, h5⟩ := h
  unfold c19AddC1
  by_cases hi : i < p.length
  · have hd : decide ((i : Int) < (p.length : Int)) = true := by simp; omega
    c19_run [h1, h2, h3, h4, c19Attr_poly_data, c19EncTerms_length, hd]
    simp [hi]
  · have hd : decide ((i : Int) < (p.length : Int)) = false := by simp; omega
    c19_run [h1, h2, h3, h4, c19Attr_poly_data, c19EncTerms_length, hd]
    simp [hi]

theorem c19_add_body1_eq (cx : C19Cx α) (σ : C19Store α) (b : C19V α) (p q : Poly) (i j : Nat)
    (acc : List Term) (h : c19AddInv σ b p q i j acc) (hi : i < p.length) (hj : j < q.length)
    (he : p[i].1 = q[j].1) (hz : p[i].2 + q[j].2 ≠ 0) :
    ∃ σ', c19ExecL cx c19AddB1 σ = .next σ' ∧
      c19AddInv σ' b p q (i + 1) (j + 1) (acc ++ [(p[i].1, p[i].2 + q[j].2)]) := by
  obtain ⟨h1, h2, h3, h4, h5⟩ := h
  unfold c19AddB1
  have hbe : ((p[i].1 : Int) == (q[j].1 : Int)) = true := by simp [he]
  have hb : (p[i].2 + q[j].2 != 0) = true := by simp [hz]
  refine ⟨_, by c19_run [h1, h2, h3, h4, h5, c19Attr_poly_data, c19Index_enc _ _ hi,
    c19Index_enc _ _ hj, hbe, hb]; rfl, ?_⟩
  unfold c19AddInv
  c19_run [h1, h2, h3, h4, h5, c19EncTerms_append]
  simp [c19EncTerms, c19EncTerm]

theorem c19_add_body1_cancel (cx : C19Cx α) (σ : C19Store α) (b : C19V α) (p q : Poly) (i j : Nat)
    (acc : List Term) (h : c19AddInv σ b p q i j acc) (hi : i < p.length) (hj : j < q.length)
    (he : p[i].1 = q[j].1) (hz : p[i].2 + q[j].2 = 0) :
    ∃ σ', c19ExecL cx c19AddB1 σ = .next σ' ∧ c19AddInv σ' b p q (i + 1) (j + 1) acc := by
  obtain ⟨h1, h2, h3, h4, h5⟩ := h
  unfold c19AddB1
  have hbe : ((p[i].1 : Int) == (q[j].1 : Int)) = true := by simp [he]
  have hb : (p[i].2 + q[j].2 != 0) = false := by simp [hz]
  refine ⟨_, by c19_run [h1, h2, h3, h4, h5, c19Attr_poly_data, c19Index_enc _ _ hi,
    c19Index_enc _ _ hj, hbe, hb]; rfl, ?_⟩
  unfold c19AddInv
  c19_run [h1, h2, h3, h4, h5]
  simp

theorem c19_add_body1_gt (cx : C19Cx α) (σ : C19Store α) (b : C19V α) (p q : Poly) (i j : Nat)
    (acc : List Term) (h : c19AddInv σ b p q i j acc) (hi : i < p.length) (hj : j < q.length)
    (he : p[i].1 > q[j].1) :
    ∃ σ', c19ExecL cx c19AddB1 σ = .next σ' ∧ c19AddInv σ' b p q i (j + 1) (acc ++ [q[j]]) := by
  obtain ⟨h1, h2, h3, h4, h5⟩ := h
  unfold c19AddB1
  have hbe : ((p[i].1 : Int) == (q[j].1 : Int)) = false := by simp; omega
  have hgt : decide ((p[i].1 : Int) > (q[j].1 : Int)) = true := by simp; omega
  refine ⟨_, by c19_run [h1, h2, h3, h4, h5, c19Attr_poly_data, c19Index_enc _ _ hi,
    c19Index_enc _ _ hj, hbe, hgt]; rfl, ?_⟩
  unfold c19AddInv
  c19_run [h1, h2, h3, h4, h5, c19EncTerms_append]
  simp [c19EncTerms, c19EncTerm]

theorem c19_add_body1_lt (cx : C19Cx α) (σ : C19Store α) (b : C19V α) (p q : Poly) (i j : Nat)
    (acc : List Term) (h : c19AddInv σ b p q i j acc) (hi : i < p.length) (hj : j < q.length)
    (he : p[i].1 < q[j].1) :
    ∃ σ', c19ExecL cx c19AddB1 σ = .next σ' ∧ c19AddInv σ' b p q (i + 1) j (acc ++ [p[i]]) := by
  obtain ⟨h1, h2, h3, h4, h5⟩ := h
  unfold c19AddB1
  have hbe : ((p[i].1 : Int) == (q[j].1 : Int)) = false := by simp; omega
  have hgt : decide ((p[i].1 : Int) > (q[j].1 : Int)) = false := by simp; omega
  have hlt : decide ((p[i].1 : Int) < (q[j].1 : Int)) = true := by simp; omega
  refine ⟨_, by c19_run [h1, h2, h3, h4, h5, c19Attr_poly_data, c19Index_enc _ _ hi,
    c19Index_enc _ _ hj, hbe, hgt, hlt]; rfl, ?_⟩
  unfold c19AddInv
  c19_run [h1, h2, h3, h4, h5, c19EncTerms_append]
  simp [c19EncTerms, c19EncTerm]


theorem c19_add_nil_right (p : Poly) : add p [] = p := by
  cases p <;> simp [add]

/-- the first `while` loop of `__add__` (the merge) -/
theorem c19_add_loop1 (cx : C19Cx α) (b : C19V α) (p q : Poly) (σ : C19Store α) (i j : Nat)
    (acc : List Term) (k : Nat) (hk : (p.length - i) + (q.length - j) + 1 ≤ k)
    (hinv : c19AddInv σ b p q i j acc) :
    ∃ σ' i' j' acc', c19While (c19Test cx c19AddC1) (c19ExecL cx c19AddB1) k σ = .next σ' ∧
      c19AddInv σ' b p q i' j' acc' ∧ ¬ (i' < p.length ∧ j' < q.length) ∧
      acc' ++ add (p.drop i') (q.drop j') = acc ++ add (p.drop i) (q.drop j) := by
  let I : Nat × Nat × List Term → C19Store α → Prop := fun s σ =>
    c19AddInv σ b p q s.1 s.2.1 s.2.2 ∧
      s.2.2 ++ add (p.drop s.1) (q.drop s.2.1) = acc ++ add (p.drop i) (q.drop j)
  have hbody : ∀ s σ, I s σ → decide (s.1 < p.length ∧ s.2.1 < q.length) = true →
      ∃ s' σ', c19ExecL cx c19AddB1 σ = .next σ' ∧ I s' σ' ∧
        (p.length - s'.1) + (q.length - s'.2.1) < (p.length - s.1) + (q.length - s.2.1) := by
    rintro ⟨i₁, j₁, r⟩ σ ⟨hinv, he⟩ hc
    obtain ⟨hi, hj⟩ : i₁ < p.length ∧ j₁ < q.length := by simpa using hc
    have hdp : p.drop i₁ = (p[i₁].1, p[i₁].2) :: p.drop (i₁ + 1) := List.drop_eq_getElem_cons hi
    have hdq : q.drop j₁ = (q[j₁].1, q[j₁].2) :: q.drop (j₁ + 1) := List.drop_eq_getElem_cons hj
    simp only [I] at he ⊢
    rw [← he, hdp, hdq]
    rcases Nat.lt_trichotomy p[i₁].1 q[j₁].1 with hlt | heq | hgt
    · obtain ⟨σ1, hb, hinv1⟩ := c19_add_body1_lt cx σ b p q i₁ j₁ r hinv hi hj hlt
      have h1 : ¬ p[i₁].1 = q[j₁].1 := by omega
      have h2 : ¬ p[i₁].1 > q[j₁].1 := by omega
      refine ⟨(i₁ + 1, j₁, _), σ1, hb, ⟨hinv1, ?_⟩, by simp only; omega⟩
      rw [hdq]; simp [add, h1, h2]
    · by_cases hz : p[i₁].2 + q[j₁].2 = 0
      · obtain ⟨σ1, hb, hinv1⟩ := c19_add_body1_cancel cx σ b p q i₁ j₁ r hinv hi hj heq hz
        exact ⟨(i₁ + 1, j₁ + 1, _), σ1, hb, ⟨hinv1, by simp [add, heq, hz]⟩, by simp only; omega⟩
      · obtain ⟨σ1, hb, hinv1⟩ := c19_add_body1_eq cx σ b p q i₁ j₁ r hinv hi hj heq hz
        exact ⟨(i₁ + 1, j₁ + 1, _), σ1, hb, ⟨hinv1, by simp [add, heq, hz]⟩, by simp only; omega⟩
    · obtain ⟨σ1, hb, hinv1⟩ := c19_add_body1_gt cx σ b p q i₁ j₁ r hinv hi hj hgt
      have h1 : ¬ p[i₁].1 = q[j₁].1 := by omega
      refine ⟨(i₁, j₁ + 1, _), σ1, hb, ⟨hinv1, ?_⟩, by simp only; omega⟩
      rw [hdp]; simp [add, h1, hgt]
  obtain ⟨⟨i', j', acc'⟩, σ', hw, ⟨hI, he⟩, hc⟩ := c19While_inv _ _ I _ _
    (fun s σ h => c19_add_test1 cx σ b p q _ _ _ h.1) hbody (i, j, acc) σ k ⟨hinv, rfl⟩ hk
  exact ⟨σ', i', j', acc', hw, hI, by simpa using hc, he⟩

theorem c19_add_test2 (cx : C19Cx α) (σ : C19Store α) (b : C19V α) (p q : Poly) (i j : Nat)
    (acc : List Term) (h : c19AddInv σ b p q i j acc) :
    c19Test cx c19AddC2 σ = .ok (decide (i < p.length)) := by
  obtain ⟨h1, h2, h3, h4, h5⟩ := h
  unfold c19AddC2
  c19_run [h1, h3, c19Attr_poly_data, c19EncTerms_length]
  simp

theorem c19_add_test3 (cx : C19Cx α) (σ : C19Store α) (b : C19V α) (p q : Poly) (i j : Nat)
    (acc : List Term) (h : c19AddInv σ b p q i j acc) :
    c19Test cx c19AddC3 σ = .ok (decide (j < q.length)) := by
  obtain ⟨h1, h2, h3, h4, h5⟩ := h
  unfold c19AddC3
  c19_run [h2, h4, c19Attr_poly_data, c19EncTerms_length]
  simp

theorem c19_add_body2 (cx : C19Cx α) (σ : C19Store α) (b : C19V α) (p q : Poly) (i j : Nat)
    (acc : List Term) (h : c19AddInv σ b p q i j acc) (hi : i < p.length) :
    ∃ σ', c19ExecL cx c19AddB2 σ = .next σ' ∧ c19AddInv σ' b p q (i + 1) j (acc ++ [p[i]]) := by
  obtain ⟨h1, h2, h3, h4, h5⟩ := h
  unfold c19AddB2
  refine ⟨_, by c19_run [h1, h2, h3, h4, h5, c19Attr_poly_data, c19Index_enc _ _ hi]; rfl, ?_⟩
  unfold c19AddInv
  c19_run [h1, h2, h3, h4, h5, c19EncTerms_append]
  simp [c19EncTerms, c19EncTerm]

theorem c19_add_body3 (cx : C19Cx α) (σ : C19Store α) (b : C19V α) (p q : Poly) (i j : Nat)
    (acc : List Term) (h : c19AddInv σ b p q i j acc) (hj : j < q.length) :
    ∃ σ', c19ExecL cx c19AddB3 σ = .next σ' ∧ c19AddInv σ' b p q i (j + 1) (acc ++ [q[j]]) := by
  obtain ⟨h1, h2, h3, h4, h5⟩ := h
  unfold c19AddB3
  refine ⟨_, by c19_run [h1, h2, h3, h4, h5, c19Attr_poly_data, c19Index_enc _ _ hj]; rfl, ?_⟩
  unfold c19AddInv
  c19_run [h1, h2, h3, h4, h5, c19EncTerms_append]
  simp [c19EncTerms, c19EncTerm]

/-- the second `while` loop of `__add__` (the rest of `self`) -/
theorem c19_add_loop2 (cx : C19Cx α) (b : C19V α) (p q : Poly) (σ : C19Store α) (i j : Nat)
    (acc : List Term) (k : Nat) (hk : p.length - i + 1 ≤ k) (hinv : c19AddInv σ b p q i j acc) :
    ∃ σ' i', c19While (c19Test cx c19AddC2) (c19ExecL cx c19AddB2) k σ = .next σ' ∧
      c19AddInv σ' b p q i' j (acc ++ p.drop i) := by
  let I : Nat × List Term → C19Store α → Prop := fun s σ =>
    c19AddInv σ b p q s.1 j s.2 ∧ s.2 ++ p.drop s.1 = acc ++ p.drop i
  obtain ⟨⟨i', acc'⟩, σ', hw, ⟨hI, he⟩, hc⟩ := c19While_inv _ _ I
    (fun s => decide (s.1 < p.length)) (fun s => p.length - s.1)
    (fun s σ h => c19_add_test2 cx σ b p q _ j _ h.1)
    (by
      rintro ⟨i₁, r⟩ σ ⟨hinv, he⟩ hc
      have hi : i₁ < p.length := by simpa using hc
      obtain ⟨σ1, hb, hinv1⟩ := c19_add_body2 cx σ b p q i₁ j r hinv hi
      refine ⟨(i₁ + 1, _), σ1, hb, ⟨hinv1, ?_⟩, by simp only; omega⟩
      simp only at he ⊢
      rw [← he, List.drop_eq_getElem_cons hi]
      simp)
    (i, acc) σ k ⟨hinv, rfl⟩ hk
  have hnil : p.drop i' = [] := List.drop_eq_nil_of_le (by simpa using hc)
  simp only [hnil, List.append_nil] at he
  exact ⟨σ', i', hw, he ▸ hI⟩

/-- the third `while` loop of `__add__` (the rest of `other`) -/
theorem c19_add_loop3 (cx : C19Cx α) (b : C19V α) (p q : Poly) (σ : C19Store α) (i j : Nat)
    (acc : List Term) (k : Nat) (hk : q.length - j + 1 ≤ k) (hinv : c19AddInv σ b p q i j acc) :
    ∃ σ' j', c19While (c19Test cx c19AddC3) (c19ExecL cx c19AddB3) k σ = .next σ' ∧
      c19AddInv σ' b p q i j' (acc ++ q.drop j) := by
  let I : Nat × List Term → C19Store α → Prop := fun s σ =>
    c19AddInv σ b p q i s.1 s.2 ∧ s.2 ++ q.drop s.1 = acc ++ q.drop j
  obtain ⟨⟨j', acc'⟩, σ', hw, ⟨hI, he⟩, hc⟩ := c19While_inv _ _ I
    (fun s => decide (s.1 < q.length)) (fun s => q.length - s.1)
    (fun s σ h => c19_add_test3 cx σ b p q i _ _ h.1)
    (by
      rintro ⟨j₁, r⟩ σ ⟨hinv, he⟩ hc
      have hj : j₁ < q.length := by simpa using hc
      obtain ⟨σ1, hb, hinv1⟩ := c19_add_body3 cx σ b p q i j₁ r hinv hj
      refine ⟨(j₁ + 1, _), σ1, hb, ⟨hinv1, ?_⟩, by simp only; omega⟩
      simp only at he ⊢
      rw [← he, List.drop_eq_getElem_cons hj]
      simp)
    (j, acc) σ k ⟨hinv, rfl⟩ hk
  have hnil : q.drop j' = [] := List.drop_eq_nil_of_le (by simpa using hc)
  simp only [hnil, List.append_nil] at he
  exact ⟨σ', j', hw, he ▸ hI⟩

theorem c19_add_nil_left (q : Poly) : add [] q = q := by
  cases q <;> simp [add]

/-- **`Polynomial.__add__` as regenerated IS `add`** (same base, both operands polynomials): the
three `while` loops merge the two exponent-sorted lists, dropping a term whose summed coefficient
is zero, and the result is handed to the constructor. -/
theorem c19_poly_add_run (ops : C19Ops α) (ext : String → List (C19V α) → C19R (C19V α))
    (b : String) (p q : Poly) (n : Nat) (hn : p.length + q.length + 1 ≤ n) :
    c19RunFn ops c19Table ext (n + 1) "Polynomial.__add__" [c19EncPoly b p, c19EncPoly b q]
      = .ok (c19EncPoly b (add p q)) := by
  obtain ⟨n, rfl⟩ : ∃ n', n = n' + 1 := ⟨n - 1, by omega⟩
  have hpre : c19ExecL (c19CxAt ops c19Table ext (n + 1) (n + 1 + 1)) c19AddPre [("self", c19EncPoly b p), ("other", c19EncPoly b q)]
      = .next [("self", c19EncPoly b p), ("other", c19EncPoly b q), ("i_self", .int 0),
          ("i_other", .int 0), ("result", .tup [])] := by
    unfold c19AddPre c19EncPoly
    c19_run [c19TruthyM_poly, c19IsInst_poly, c19Attr_poly_base, beq_self_eq_true]
  have hinv0 : c19AddInv ([("self", c19EncPoly b p), ("other", c19EncPoly b q), ("i_self", .int 0),
      ("i_other", .int 0), ("result", .tup [])] : C19Store α) (.sym b) p q 0 0 [] := by
    unfold c19AddInv c19EncPoly
    c19_run []
    simp [c19EncTerms]
  obtain ⟨σ1, i1, j1, acc1, hl1, hinv1, hstop, heq1⟩ :=
    c19_add_loop1 (c19CxAt ops c19Table ext (n + 1) (n + 1 + 1)) (.sym b) p q _ 0 0 [] (n + 1 + 1)
      (by omega) hinv0
  obtain ⟨σ2, i2, hl2, hinv2⟩ :=
    c19_add_loop2 (c19CxAt ops c19Table ext (n + 1) (n + 1 + 1)) (.sym b) p q σ1 i1 j1 acc1
      (n + 1 + 1) (by omega) hinv1
  obtain ⟨σ3, j3, hl3, hinv3⟩ :=
    c19_add_loop3 (c19CxAt ops c19Table ext (n + 1) (n + 1 + 1)) (.sym b) p q σ2 i2 j1 _
      (n + 1 + 1) (by omega) hinv2
  have hres : acc1 ++ p.drop i1 ++ q.drop j1 = add p q := by
    have h0 : acc1 ++ add (p.drop i1) (q.drop j1) = add p q := by simpa using heq1
    rw [← h0, List.append_assoc]
    congr 1
    by_cases hi : i1 < p.length
    · have : q.drop j1 = [] := List.drop_eq_nil_of_le (by omega)
      rw [this, c19_add_nil_right, List.append_nil]
    · have : p.drop i1 = [] := List.drop_eq_nil_of_le (by omega)
      rw [this, c19_add_nil_left, List.nil_append]
  rw [c19RunFn_succ ops c19Table ext _ _ _ _ _ c19_find_poly_add
    (by rw [c19_poly_add_body_current]; rfl)]
  simp only [c19_poly_add_body_current]
  rw [c19ExecL_append, hpre, C19O.andThen_next, c19ExecL_while, c19CxAt_fuel, hl1,
    C19O.andThen_next, c19ExecL_while, c19CxAt_fuel, hl2, C19O.andThen_next, c19ExecL_while,
    c19CxAt_fuel, hl3, C19O.andThen_next]
  obtain ⟨g1, g2, g3, g4, g5⟩ := hinv3
  unfold c19AddRet
  c19_run [g1, g5, c19Attr_poly_base, c19New_polynomial, c19_poly_init_run, hres]
  rfl


/-! ### `__sub__` -/

theorem c19BinOp_poly_add (ops : C19Ops α) (ext : String → List (C19V α) → C19R (C19V α))
    (n k : Nat) (b : C19V α) (ts : List (C19V α)) (v : C19V α) :
    c19BinOp (c19CxAt ops c19Table ext n k) .add (c19PolyObj b ts) v
      = c19RunFn ops c19Table ext n "Polynomial.__add__" [c19PolyObj b ts, v] := by
  rw [c19PolyObj, c19BinOp_obj]
  exact c19Method_resolved _ _ _ _ _ _ c19Fn_Polynomial___add__ (by simp [c19Dunder])
    (by simp only [c19CxAt_tbl, c19ClassesOf_polynomial, c19ResolveIn_cons, c19Dunder,
      String.reduceAppend, c19_find_poly_add, Option.some_or])
theorem c19BinOp_poly_sub (ops : C19Ops α) (ext : String → List (C19V α) → C19R (C19V α))
    (n k : Nat) (b : C19V α) (ts : List (C19V α)) (v : C19V α) :
    c19BinOp (c19CxAt ops c19Table ext n k) .sub (c19PolyObj b ts) v
      = c19RunFn ops c19Table ext n "Polynomial.__sub__" [c19PolyObj b ts, v] := by
  rw [c19PolyObj, c19BinOp_obj]
  exact c19Method_resolved _ _ _ _ _ _ c19Fn_Polynomial___sub__ (by simp [c19Dunder])
    (by simp only [c19CxAt_tbl, c19ClassesOf_polynomial, c19ResolveIn_cons, c19Dunder,
      String.reduceAppend, c19_find_poly_sub, Option.some_or])
theorem c19BinOp_poly_mul (ops : C19Ops α) (ext : String → List (C19V α) → C19R (C19V α))
    (n k : Nat) (b : C19V α) (ts : List (C19V α)) (v : C19V α) :
    c19BinOp (c19CxAt ops c19Table ext n k) .mul (c19PolyObj b ts) v
      = c19RunFn ops c19Table ext n "Polynomial.__mul__" [c19PolyObj b ts, v] := by
  rw [c19PolyObj, c19BinOp_obj]
  exact c19Method_resolved _ _ _ _ _ _ c19Fn_Polynomial___mul__ (by simp [c19Dunder])
    (by simp only [c19CxAt_tbl, c19ClassesOf_polynomial, c19ResolveIn_cons, c19Dunder,
      String.reduceAppend, c19_find_poly_mul, Option.some_or])
theorem c19Neg_poly (ops : C19Ops α) (ext : String → List (C19V α) → C19R (C19V α))
    (n k : Nat) (b : C19V α) (ts : List (C19V α)) :
    c19Neg (c19CxAt ops c19Table ext n k) (c19PolyObj b ts)
      = c19RunFn ops c19Table ext n "Polynomial.__neg__" [c19PolyObj b ts] := by
  rw [c19PolyObj, c19Neg_obj]
  exact c19Method_resolved _ _ _ _ _ _ c19Fn_Polynomial___neg__ (by simp)
    (by simp only [c19CxAt_tbl, c19ClassesOf_polynomial, c19ResolveIn_cons, String.reduceAppend,
      c19_find_poly_neg, Option.some_or])

theorem c19_neg_length (q : Poly) : (neg q).length = q.length := by simp [neg]

/-- **`Polynomial.__sub__` as regenerated IS `sub`** (`self + (-other)`) -/
theorem c19_poly_sub_run (ops : C19Ops α) (ext : String → List (C19V α) → C19R (C19V α))
    (b : String) (p q : Poly) (n : Nat) (hn : p.length + q.length + 2 ≤ n) :
    c19RunFn ops c19Table ext (n + 1) "Polynomial.__sub__" [c19EncPoly b p, c19EncPoly b q]
      = .ok (c19EncPoly b (sub p q)) := by
  obtain ⟨n, rfl⟩ : ∃ n', n = n' + 1 := ⟨n - 1, by omega⟩
  obtain ⟨n, rfl⟩ : ∃ n', n = n' + 1 := ⟨n - 1, by omega⟩
  have hneg := c19_poly_neg_run ops ext (.sym b) q n
  have hadd := c19_poly_add_run ops ext b p (neg q) (n + 1) (by rw [c19_neg_length]; omega)
  rw [c19RunFn_succ ops c19Table ext _ _ _ _ _ c19_find_poly_sub rfl]
  simp only [c19Fn_Polynomial___sub__]
  unfold c19EncPoly at *
  c19_run [c19Neg_poly, hneg, c19BinOp_poly_add, hadd]
  rfl

/-! ### `__mul__` -/

def c19MulPre : List C19S := [
  .ite (.not (.isinst (.var "other") ["Polynomial"])) [
    .ite (.cmp .eq (.var "other") (.attr (.var "self") "Base")) [
      .assign (.pat (.name "other")) (.new "Polynomial" [(.attr (.var "self") "Base"), .none, (.int 1), .none])] [
      .ret (.new "Polynomial" [(.attr (.var "self") "Base"), (.comp (.tuple [(.var "exp"), (.bin .mul (.var "coeff") (.var "other"))]) (.tuple [(.name "exp"), (.name "coeff")]) (.attr (.var "self") "Data")), (.int 1), .none])]] [],
  .ite (.cmp .ne (.attr (.var "other") "Base") (.attr (.var "self") "Base")) [
    .assert (.cmp .eq (.attr (.var "self") "VarLess") (.attr (.var "other") "VarLess")),
    .ite (.method (.attr (.var "self") "VarLess") "__call__" [(.attr (.var "self") "Base"), (.attr (.var "other") "Base")]) [
      .ret (.new "Polynomial" [(.attr (.var "self") "Base"), (.comp (.tuple [(.var "exp"), (.bin .mul (.var "coeff") (.var "other"))]) (.tuple [(.name "exp"), (.name "coeff")]) (.attr (.var "self") "Data")), (.int 1), .none])] [
      .ret (.method (.var "other") "__mul__" [(.var "self")])]] [],
  .assign (.pat (.name "result")) (.tuple [])]

def c19MulP1 : C19P := .tuple [(.name "s_exp"), (.name "s_coeff")]
def c19MulP2 : C19P := .tuple [(.name "o_exp"), (.name "o_coeff")]
def c19MulB2 : List C19S := [
  .append "result" (.tuple [(.bin .add (.var "s_exp") (.var "o_exp")), (.bin .mul (.var "s_coeff") (.var "o_coeff"))])]
def c19MulB1 : List C19S := [.for c19MulP2 (.attr (.var "other") "Data") c19MulB2]
def c19MulRet : C19S :=
  .ret (.new "Polynomial" [(.attr (.var "self") "Base"), (.call "tuple" [(.call "polynomial._sort_uniq" [(.var "result")])]), (.int 1), .none])

/-- the body of `Polynomial.__mul__` in the current source -/
theorem c19_poly_mul_body_current :
    c19Fn_Polynomial___mul__ = ⟨"Polynomial.__mul__", .method, ["self", "other"], [],
      c19MulPre ++ [.for c19MulP1 (.attr (.var "self") "Data") c19MulB1, c19MulRet]⟩ := by rfl

def c19MulInvO (σ : C19Store α) (b : C19V α) (p q : Poly) (acc : List Term) : Prop :=
  c19Get "self" σ = some (c19PolyObj b (c19EncTerms p)) ∧
  c19Get "other" σ = some (c19PolyObj b (c19EncTerms q)) ∧
  c19Get "result" σ = some (.tup (c19EncTerms acc))

def c19MulInvI (σ : C19Store α) (b : C19V α) (p q : Poly) (e : Nat) (c : Int) (acc : List Term) :
    Prop :=
  c19MulInvO σ b p q acc ∧ c19Get "s_exp" σ = some (.int e) ∧ c19Get "s_coeff" σ = some (.int c)

theorem c19For_cons (bind : C19V α → C19Store α → Option (C19Store α))
    (body : C19Store α → C19O α) (v : C19V α) (vs : List (C19V α)) (σ σ1 σ2 : C19Store α)
    (hb : bind v σ = some σ1) (he : body σ1 = .next σ2) :
    c19For bind body (v :: vs) σ = c19For bind body vs σ2 := by
  simp [c19For, hb, he]

/-- the inner `for` loop of `__mul__`: the products of one term of `self` with all of `other` -/
theorem c19_mul_inner (cx : C19Cx α) (b : C19V α) (p q : Poly) (e : Nat) (c : Int) :
    ∀ (rest : List Term) (σ : C19Store α) (acc : List Term), c19MulInvI σ b p q e c acc →
    ∃ σ', c19For (c19Bind c19MulP2) (c19ExecL cx c19MulB2) (c19EncTerms rest) σ = .next σ' ∧
      c19MulInvI σ' b p q e c (acc ++ rest.map fun o => (e + o.1, c * o.2)) := by
  intro rest
  induction rest with
  | nil => intro σ acc h; exact ⟨σ, rfl, by simpa using h⟩
  | cons o rest ih =>
    intro σ acc h
    obtain ⟨⟨h1, h2, h3⟩, h4, h5⟩ := h
    have hb : c19Bind c19MulP2 (c19EncTerm o) σ
        = some (c19Set "o_coeff" (.int o.2) (c19Set "o_exp" (.int o.1) σ)) := by
      unfold c19MulP2 c19EncTerm; c19_run []
    have he : c19ExecL cx c19MulB2 (c19Set "o_coeff" (.int o.2) (c19Set "o_exp" (.int o.1) σ))
        = .next (c19Set "result" (.tup (c19EncTerms acc ++ [.tup [.int (e + o.1), .int (c * o.2)]]))
            (c19Set "o_coeff" (.int o.2) (c19Set "o_exp" (.int o.1) σ))) := by
      unfold c19MulB2; c19_run [h3, h4, h5]
    obtain ⟨σ', hl, hinv⟩ := ih
      (c19Set "result" (.tup (c19EncTerms acc ++ [.tup [.int (e + o.1), .int (c * o.2)]]))
            (c19Set "o_coeff" (.int o.2) (c19Set "o_exp" (.int o.1) σ)))
      (acc ++ [(e + o.1, c * o.2)]) (by
      unfold c19MulInvI c19MulInvO
      c19_run [h1, h2, h3, h4, h5, c19EncTerms_append]
      simp [c19EncTerms, c19EncTerm])
    refine ⟨σ', ?_, ?_⟩
    · rw [c19EncTerms_cons, c19For_cons _ _ _ _ _ _ _ hb he]; exact hl
    · simpa using hinv

theorem c19_mul_outer (cx : C19Cx α) (b : C19V α) (p q : Poly) :
    ∀ (rest : List Term) (σ : C19Store α) (acc : List Term), c19MulInvO σ b p q acc →
    ∃ σ', c19For (c19Bind c19MulP1) (c19ExecL cx c19MulB1) (c19EncTerms rest) σ = .next σ' ∧
      c19MulInvO σ' b p q (acc ++ mulRaw rest q) := by
  intro rest
  induction rest with
  | nil => intro σ acc h; exact ⟨σ, rfl, by simpa [mulRaw] using h⟩
  | cons s rest ih =>
    intro σ acc h
    obtain ⟨h1, h2, h3⟩ := h
    have hb : c19Bind c19MulP1 (c19EncTerm s) σ
        = some (c19Set "s_coeff" (.int s.2) (c19Set "s_exp" (.int s.1) σ)) := by
      unfold c19MulP1 c19EncTerm; c19_run []
    obtain ⟨σ1, hl1, ⟨hO, _, _⟩⟩ := c19_mul_inner cx b p q s.1 s.2 q
      (c19Set "s_coeff" (.int s.2) (c19Set "s_exp" (.int s.1) σ)) acc (by
        unfold c19MulInvI c19MulInvO
        c19_run [h1, h2, h3]
        simp)
    have he : c19ExecL cx c19MulB1 (c19Set "s_coeff" (.int s.2) (c19Set "s_exp" (.int s.1) σ))
        = .next σ1 := by
      unfold c19MulB1
      rw [c19ExecL_for cx _ _ _ _ _ (c19EncTerms q) (by c19_run [h2, c19Attr_poly_data]), hl1]
      rfl
    obtain ⟨σ', hl, hinv⟩ := ih σ1 _ hO
    refine ⟨σ', ?_, ?_⟩
    · rw [c19EncTerms_cons, c19For_cons _ _ _ _ _ _ _ hb he]; exact hl
    · simpa [mulRaw, List.flatMap_cons] using hinv

theorem c19Call_sort_uniq (cx : C19Cx α) (a : C19V α) :
    c19Call cx "polynomial._sort_uniq" [a] = cx.calls "polynomial._sort_uniq" [a] := by rfl

/-- **`Polynomial.__mul__` as regenerated IS `mul`** (same base, both operands polynomials): the
double loop builds all products in the order of `mulRaw`, `_sort_uniq` merges them. -/
theorem c19_poly_mul_run (ops : C19Ops α) (ext : String → List (C19V α) → C19R (C19V α))
    (b : String) (p q : Poly) (n : Nat) :
    c19RunFn ops c19Table ext (n + 1 + 1) "Polynomial.__mul__" [c19EncPoly b p, c19EncPoly b q]
      = .ok (c19EncPoly b (mul p q)) := by
  have hpre : c19ExecL (c19CxAt ops c19Table ext (n + 1) (n + 1 + 1)) c19MulPre
      [("self", c19EncPoly b p), ("other", c19EncPoly b q)]
      = .next [("self", c19EncPoly b p), ("other", c19EncPoly b q), ("result", .tup [])] := by
    unfold c19MulPre c19EncPoly
    c19_run [c19IsInst_poly, c19Attr_poly_base, beq_self_eq_true]
  obtain ⟨σ1, hl, g1, g2, g3⟩ := c19_mul_outer (c19CxAt ops c19Table ext (n + 1) (n + 1 + 1))
    (.sym b) p q p [("self", c19EncPoly b p), ("other", c19EncPoly b q), ("result", .tup [])] [] (by
      unfold c19MulInvO c19EncPoly
      c19_run []
      simp [c19EncTerms])
  rw [c19RunFn_succ ops c19Table ext _ _ _ _ _ c19_find_poly_mul
    (by rw [c19_poly_mul_body_current]; rfl)]
  simp only [c19_poly_mul_body_current]
  rw [c19ExecL_append, hpre, C19O.andThen_next,
    c19ExecL_for _ _ _ _ _ _ (c19EncTerms p) (by unfold c19EncPoly; c19_run [c19Attr_poly_data]),
    hl, C19O.andThen_next]
  unfold c19MulRet
  c19_run [g1, g3, c19Attr_poly_base, c19Call_sort_uniq, c19_sort_uniq_run, c19New_polynomial,
    c19_poly_init_run]
  rfl


/-! ### `__pow__` -/

theorem c19Call_integer_power (cx : C19Cx α) (a b c : C19V α) :
    c19Call cx "algorithm.integer_power" [a, b, c] = cx.calls "algorithm.integer_power" [a, b, c] := by rfl

/-! ### `degree`, `traits` -/

theorem c19_leadTerm_concat (l : List Term) (t : Term) : leadTerm (l ++ [t]) = t := by
  simp [leadTerm]

theorem c19_degree_concat (l : List Term) (t : Term) : degree (l ++ [t]) = (t.1 : Int) := by
  simp [degree]

theorem c19_concat_of_ne_nil (p : List Term) (hp : p ≠ []) : ∃ l t, p = l ++ [t] :=
  ⟨p.dropLast, p.getLast hp, (List.dropLast_concat_getLast hp).symm⟩

theorem c19Index_enc_last (p : List Term) (hp : p ≠ []) :
    c19Index (c19EncTerms p : List (C19V α)) (-1)
      = .ok (.tup [.int (leadTerm p).1, .int (leadTerm p).2]) := by
  obtain ⟨l, t, rfl⟩ := c19_concat_of_ne_nil p hp
  rw [c19EncTerms_append, c19_leadTerm_concat]
  exact c19Index_last _ _

theorem c19_degree_of_ne_nil (p : List Term) (hp : p ≠ []) : degree p = ((leadTerm p).1 : Int) := by
  obtain ⟨l, t, rfl⟩ := c19_concat_of_ne_nil p hp
  rw [c19_degree_concat, c19_leadTerm_concat]

/-- the property `degree`: last exponent, `-1` through the `except IndexError` -/
theorem c19_poly_degree_run (ops : C19Ops α) (ext : String → List (C19V α) → C19R (C19V α))
    (b : C19V α) (p : Poly) (n : Nat) :
    c19RunFn ops c19Table ext (n + 1) "Polynomial.degree" [c19PolyObj b (c19EncTerms p)]
      = .ok (.int (degree p)) := by
  rw [c19RunFn_succ ops c19Table ext _ _ _ _ _ c19_find_poly_degree rfl]
  simp only [c19Fn_Polynomial_degree]
  by_cases hp : p = []
  · subst hp
    have : (c19EncTerms [] : List (C19V α)) = [] := rfl
    c19_run [c19Attr_poly_data, this, c19Index_nil]
    rfl
  · c19_run [c19Attr_poly_data, c19Index_enc_last p hp, c19_degree_of_ne_nil p hp]
    rfl

theorem c19Attr_poly_degree (ops : C19Ops α) (ext : String → List (C19V α) → C19R (C19V α))
    (n k : Nat) (b : C19V α) (ts : List (C19V α)) :
    c19Attr (c19CxAt ops c19Table ext n k) (c19PolyObj b ts) "degree"
      = c19RunFn ops c19Table ext n "Polynomial.degree" [c19PolyObj b ts] :=
  c19Attr_prop _ _ _ _ _ c19Fn_Polynomial_degree
    (by simp only [c19AttrGet_cons, c19AttrGet_nil, String.reduceEq, if_false])
    (by simp only [c19CxAt_tbl, c19ClassesOf_polynomial, c19ResolveIn_cons, String.reduceAppend,
      c19_find_poly_degree, Option.some_or])
    (by rfl)

/-! ### `__divmod__` -/

def c19DmMixed : List C19S := [
  .ite (.not (.isinst (.var "other") ["Polynomial"])) [
    .assign (.pat (.name "dm_list")) (.comp (.tuple [(.var "exp"), (.call "divmod" [(.var "coeff"), (.var "other")])]) (.tuple [(.name "exp"), (.name "coeff")]) (.attr (.var "self") "Data")),
    .ret (.tuple [(.new "Polynomial" [(.attr (.var "self") "Base"), (.comp (.tuple [(.var "exp"), (.var "quot")]) (.tuple [(.name "exp"), (.tuple [(.name "quot"), (.name "_")])]) (.var "dm_list")), (.int 1), .none]), (.new "Polynomial" [(.attr (.var "self") "Base"), (.comp (.tuple [(.var "exp"), (.var "rem")]) (.tuple [(.name "exp"), (.tuple [(.name "_"), (.name "rem")])]) (.var "dm_list")), (.int 1), .none])])] [],
  .ite (.cmp .ne (.attr (.var "other") "Base") (.attr (.var "self") "Base")) [
    .assert (.cmp .eq (.attr (.var "self") "VarLess") (.attr (.var "other") "VarLess")),
    .ite (.method (.attr (.var "self") "VarLess") "__call__" [(.attr (.var "self") "Base"), (.attr (.var "other") "Base")]) [
      .assign (.pat (.name "dm_list")) (.comp (.tuple [(.var "exp"), (.call "divmod" [(.var "coeff"), (.var "other")])]) (.tuple [(.name "exp"), (.name "coeff")]) (.attr (.var "self") "Data")),
      .ret (.tuple [(.new "Polynomial" [(.attr (.var "self") "Base"), (.comp (.tuple [(.var "exp"), (.var "quot")]) (.tuple [(.name "exp"), (.tuple [(.name "quot"), (.name "_")])]) (.var "dm_list")), (.int 1), .none]), (.new "Polynomial" [(.attr (.var "self") "Base"), (.comp (.tuple [(.var "exp"), (.var "rem")]) (.tuple [(.name "exp"), (.tuple [(.name "_"), (.name "rem")])]) (.var "dm_list")), (.int 1), .none])])] [
      .assign (.pat (.name "other_unit")) (.new "Polynomial" [(.attr (.var "other") "Base"), (.tuple [(.tuple [(.int 0), (.attr (.var "other") "unit")])]), (.attr (.var "self") "VarLess"), .none]),
      .assign (.pat (.tuple [(.name "quot"), (.name "rem")])) (.call "divmod" [(.var "other_unit"), (.var "other")]),
      .ret (.tuple [(.bin .mul (.var "quot") (.var "self")), (.bin .mul (.var "rem") (.var "self"))])]] []]

def c19DmPre : List C19S := [
  .ite (.cmp .eq (.attr (.var "other") "degree") (.int (-1))) [
    .raise "ZeroDivisionError"] [],
  .assign (.pat (.name "quot")) (.new "Polynomial" [(.attr (.var "self") "Base"), (.tuple []), (.int 1), .none]),
  .assign (.pat (.name "rem")) (.var "self"),
  .assign (.pat (.name "other_lead_coeff")) (.index (.index (.attr (.var "other") "Data") (.int (-1))) (.int 1)),
  .assign (.pat (.name "other_lead_exp")) (.index (.index (.attr (.var "other") "Data") (.int (-1))) (.int 0)),
  .assign (.pat (.name "coeffs_are_field")) (.isinst (.call "traits.traits" [(.attr (.var "self") "Unit")]) ["FieldTraits"])]

def c19DmCond : C19E := .cmp .ge (.attr (.var "rem") "degree") (.attr (.var "other") "degree")

def c19DmBody : List C19S := [
  .ite (.var "coeffs_are_field") [
    .assign (.pat (.name "coeff_factor")) (.call "primitives.quotient" [(.index (.index (.attr (.var "rem") "Data") (.int (-1))) (.int 1)), (.var "other_lead_coeff")])] [
    .assign (.pat (.tuple [(.name "coeff_factor"), (.name "lead_rem")])) (.call "divmod" [(.index (.index (.attr (.var "rem") "Data") (.int (-1))) (.int 1)), (.var "other_lead_coeff")]),
    .ite (.var "lead_rem") [
      .ret (.tuple [(.var "quot"), (.var "rem")])] []],
  .assign (.pat (.name "deg_diff")) (.bin .sub (.index (.index (.attr (.var "rem") "Data") (.int (-1))) (.int 0)) (.var "other_lead_exp")),
  .assign (.pat (.name "this_fac")) (.new "Polynomial" [(.attr (.var "self") "Base"), (.tuple [(.tuple [(.var "deg_diff"), (.var "coeff_factor")])]), (.int 1), .none]),
  .aug "quot" .add (.var "this_fac"),
  .aug "rem" .sub (.bin .mul (.var "this_fac") (.var "other"))]

def c19DmRet : C19S := .ret (.tuple [(.var "quot"), (.var "rem")])

/-- the body of `Polynomial.__divmod__` in the current source -/
theorem c19_poly_divmod_body_current :
    c19Fn_Polynomial___divmod__ = ⟨"Polynomial.__divmod__", .method, ["self", "other"], [],
      c19DmMixed ++ (c19DmPre ++ [.while c19DmCond c19DmBody, c19DmRet])⟩ := by rfl

/-- what the loop of `__divmod__` keeps in the store -/
def c19DmInv (σ : C19Store α) (b : String) (p other quot rem : Poly) : Prop :=
  c19Get "self" σ = some (c19EncPoly b p) ∧ c19Get "other" σ = some (c19EncPoly b other) ∧
  c19Get "quot" σ = some (c19EncPoly b quot) ∧ c19Get "rem" σ = some (c19EncPoly b rem) ∧
  c19Get "other_lead_coeff" σ = some (.int (leadTerm other).2) ∧
  c19Get "other_lead_exp" σ = some (.int (leadTerm other).1) ∧
  c19Get "coeffs_are_field" σ = some (.bool false)

section
variable (ops : C19Ops α) (ext : String → List (C19V α) → C19R (C19V α))

theorem c19_dm_test (b : String) (p other quot rem : Poly) (σ : C19Store α) (n kf : Nat)
    (h : c19DmInv σ b p other quot rem) :
    c19Test (c19CxAt ops c19Table ext (n + 1) kf) c19DmCond σ
      = .ok (decide (degree rem ≥ degree other)) := by
  obtain ⟨h1, h2, h3, h4, h5, h6, h7⟩ := h
  unfold c19DmCond
  unfold c19EncPoly at *
  c19_run [h2, h4, c19Attr_poly_degree, c19_poly_degree_run]

theorem c19_dm_body_stop (b : String) (p other quot rem : Poly) (σ : C19Store α) (n kf : Nat)
    (h : c19DmInv σ b p other quot rem) (hrem : rem ≠ [])
    (hlc : (leadTerm other).2 ≠ 0)
    (hlr : Int.fmod (leadTerm rem).2 (leadTerm other).2 ≠ 0) :
    c19ExecL (c19CxAt ops c19Table ext n kf) c19DmBody σ
      = .ret (.tup [c19EncPoly b quot, c19EncPoly b rem]) := by
  obtain ⟨h1, h2, h3, h4, h5, h6, h7⟩ := h
  unfold c19DmBody
  have hb : (Int.fmod (leadTerm rem).2 (leadTerm other).2 != 0) = true := by simp [hlr]
  unfold c19EncPoly at *
  c19_run [h1, h2, h3, h4, h5, h6, h7, c19Attr_poly_data, c19Index_enc_last rem hrem,
    c19Call_divmod_ne _ _ _ hlc, hb]

theorem c19_dm_body_zero (b : String) (p other quot rem : Poly) (σ : C19Store α) (n kf : Nat)
    (h : c19DmInv σ b p other quot rem) (hrem : rem ≠ [])
    (hlc : (leadTerm other).2 = 0) :
    c19ExecL (c19CxAt ops c19Table ext n kf) c19DmBody σ = .raise "ZeroDivisionError" := by
  obtain ⟨h1, h2, h3, h4, h5, h6, h7⟩ := h
  unfold c19DmBody
  rw [hlc] at h5
  unfold c19EncPoly at *
  c19_run [h1, h2, h3, h4, h5, h6, h7, c19Attr_poly_data, c19Index_enc_last rem hrem,
    c19Call_divmod_zero]


/-- the factor one iteration of the division loop subtracts -/
def c19DmFac (other rem : Poly) : Poly :=
  [((leadTerm rem).1 - (leadTerm other).1, Int.fdiv (leadTerm rem).2 (leadTerm other).2)]

theorem c19_dm_body_step (b : String) (p other quot rem : Poly) (σ : C19Store α) (n kf : Nat)
    (h : c19DmInv σ b p other quot rem) (hrem : rem ≠ []) (hother : other ≠ [])
    (hge : degree rem ≥ degree other) (hlc : (leadTerm other).2 ≠ 0)
    (hlr : Int.fmod (leadTerm rem).2 (leadTerm other).2 = 0)
    (hn : quot.length + rem.length + (mul (c19DmFac other rem) other).length + 3 ≤ n) :
    ∃ σ', c19ExecL (c19CxAt ops c19Table ext (n + 1 + 1) kf) c19DmBody σ = .next σ' ∧
      c19DmInv σ' b p other (add quot (c19DmFac other rem))
        (sub rem (mul (c19DmFac other rem) other)) := by
  obtain ⟨h1, h2, h3, h4, h5, h6, h7⟩ := h
  have hb : (Int.fmod (leadTerm rem).2 (leadTerm other).2 != 0) = false := by simp [hlr]
  have hdd : ((leadTerm rem).1 : Int) - ((leadTerm other).1 : Int)
      = (((leadTerm rem).1 - (leadTerm other).1 : Nat) : Int) := by
    rw [c19_degree_of_ne_nil rem hrem, c19_degree_of_ne_nil other hother] at hge
    omega
  have hfac : (c19PolyObj (.sym b) [.tup [.int (((leadTerm rem).1 - (leadTerm other).1 : Nat) : Int),
      .int (Int.fdiv (leadTerm rem).2 (leadTerm other).2)]] : C19V α)
      = c19PolyObj (.sym b) (c19EncTerms (c19DmFac other rem)) := by rfl
  have hadd := c19_poly_add_run ops ext b quot (c19DmFac other rem) (n + 1)
    (by simp [c19DmFac]; omega)
  have hmul := c19_poly_mul_run ops ext b (c19DmFac other rem) other n
  have hsub := c19_poly_sub_run ops ext b rem (mul (c19DmFac other rem) other) (n + 1) (by omega)
  unfold c19DmBody
  unfold c19EncPoly at *
  refine ⟨_, (by
    c19_run [h1, h2, h3, h4, h5, h6, h7, c19Attr_poly_data, c19Attr_poly_base,
      c19Index_enc_last rem hrem, c19Call_divmod_ne _ _ _ hlc, hb, hdd, c19New_polynomial,
      c19_poly_init_run, hfac, c19BinOp_poly_add, hadd, c19BinOp_poly_mul, hmul, c19BinOp_poly_sub,
      hsub]
    rfl), ?_⟩
  unfold c19DmInv c19EncPoly
  c19_run [h1, h2, h3, h4, h5, h6, h7]
  simp


theorem c19_dm_ret (cx : C19Cx α) (b : String) (p other quot rem : Poly) (σ : C19Store α)
    (h : c19DmInv σ b p other quot rem) :
    c19ExecL cx [c19DmRet] σ = .ret (.tup [c19EncPoly b quot, c19EncPoly b rem]) := by
  obtain ⟨h1, h2, h3, h4, h5, h6, h7⟩ := h
  unfold c19DmRet
  c19_run [h3, h4]

theorem c19_degree_nil : degree ([] : Poly) = -1 := by rfl

theorem c19_degree_nonneg (p : Poly) (hp : p ≠ []) : 0 ≤ degree p := by
  rw [c19_degree_of_ne_nil p hp]; omega

/-- the `while rem.degree >= other.degree:` loop of `__divmod__` followed by its `return` IS
`divmodLoop` (whenever the model's fuel suffices) -/
theorem c19_dm_loop (b : String) (p other : Poly) (hother : other ≠ [])
    (hlc : (leadTerm other).2 ≠ 0) :
    ∀ (F : Nat) (quot rem : Poly) (r : Poly × Poly), divmodLoop other F quot rem = some r →
    ∃ N, ∀ n, N ≤ n → ∀ (kf k : Nat), F ≤ k → ∀ σ : C19Store α, c19DmInv σ b p other quot rem →
      (c19While (c19Test (c19CxAt ops c19Table ext n kf) c19DmCond)
        (c19ExecL (c19CxAt ops c19Table ext n kf) c19DmBody) k σ).andThen
          (c19ExecL (c19CxAt ops c19Table ext n kf) [c19DmRet])
        = .ret (.tup [c19EncPoly b r.1, c19EncPoly b r.2]) := by
  intro F
  induction F with
  | zero => intro quot rem r h; simp [divmodLoop] at h
  | succ F ih =>
    intro quot rem r h
    unfold divmodLoop at h
    by_cases hge : degree rem ≥ degree other
    · have hrem : rem ≠ [] := by
        intro hr; subst hr
        have := c19_degree_nonneg other hother
        rw [c19_degree_nil] at hge; omega
      simp only [hge, if_true] at h
      by_cases hlr : Int.fmod (leadTerm rem).2 (leadTerm other).2 ≠ 0
      · simp only [hlr, if_true, ne_eq, not_false_eq_true, Option.some.injEq] at h
        subst h
        refine ⟨1, fun n hn kf k hk σ hinv => ?_⟩
        obtain ⟨n, rfl⟩ : ∃ n', n = n' + 1 := ⟨n - 1, by omega⟩
        obtain ⟨k, rfl⟩ : ∃ k', k = k' + 1 := ⟨k - 1, by omega⟩
        rw [c19While_succ_ret _ _ _ _ _
          (by rw [c19_dm_test ops ext b p other quot rem σ n kf hinv]; simp [hge])
          (c19_dm_body_stop ops ext b p other quot rem σ (n + 1) kf hinv hrem hlc hlr)]
        rfl
      · have hlr' : Int.fmod (leadTerm rem).2 (leadTerm other).2 = 0 := by
          simpa using hlr
        simp only [hlr', ne_eq, not_true_eq_false, if_false] at h
        obtain ⟨N, hN⟩ := ih _ _ r h
        refine ⟨max N (quot.length + rem.length + (mul (c19DmFac other rem) other).length + 5),
          fun n hn kf k hk σ hinv => ?_⟩
        obtain ⟨n, rfl⟩ : ∃ n', n = n' + 1 + 1 := ⟨n - 2, by omega⟩
        obtain ⟨k, rfl⟩ : ∃ k', k = k' + 1 := ⟨k - 1, by omega⟩
        obtain ⟨σ', hb, hinv'⟩ := c19_dm_body_step ops ext b p other quot rem σ n kf hinv hrem hother
          hge hlc hlr' (by omega)
        rw [c19While_succ_true _ _ _ _ _
          (by rw [c19_dm_test ops ext b p other quot rem σ (n + 1) kf hinv]; simp [hge]) hb]
        exact hN (n + 1 + 1) (by omega) kf k (by omega) σ' hinv'
    · simp only [hge, if_false, Option.some.injEq] at h
      subst h
      refine ⟨1, fun n hn kf k hk σ hinv => ?_⟩
      obtain ⟨n, rfl⟩ : ∃ n', n = n' + 1 := ⟨n - 1, by omega⟩
      obtain ⟨k, rfl⟩ : ∃ k', k = k' + 1 := ⟨k - 1, by omega⟩
      rw [c19While_succ_false _ _ _ _
        (by rw [c19_dm_test ops ext b p other quot rem σ n kf hinv]; simp [hge])]
      rw [C19O.andThen_next]
      exact c19_dm_ret _ b p other quot rem σ hinv


theorem c19_dm_mixed (b : String) (p other : Poly) (n kf : Nat) :
    c19ExecL (c19CxAt ops c19Table ext n kf) c19DmMixed
        [("self", c19EncPoly b p), ("other", c19EncPoly b other)]
      = .next [("self", c19EncPoly b p), ("other", c19EncPoly b other)] := by
  unfold c19DmMixed c19EncPoly
  c19_run [c19IsInst_poly, c19Attr_poly_base, beq_self_eq_true]

def c19DmStore (b : String) (p other : Poly) : C19Store α :=
  [("self", c19EncPoly b p), ("other", c19EncPoly b other), ("quot", c19EncPoly b []),
   ("rem", c19EncPoly b p), ("other_lead_coeff", .int (leadTerm other).2),
   ("other_lead_exp", .int (leadTerm other).1), ("coeffs_are_field", .bool false)]

theorem c19_dm_pre (b : String) (p other : Poly) (hother : other ≠ []) (n kf : Nat) :
    c19ExecL (c19CxAt ops c19Table ext (n + 1 + 1) kf) c19DmPre
        [("self", c19EncPoly b p), ("other", c19EncPoly b other)]
      = .next (c19DmStore b p other) := by
  have hd : (degree other == -1) = false := by
    have := c19_degree_nonneg other hother
    simp; omega
  have hf : c19IsInst (c19CxAt ops c19Table ext (n + 1 + 1) kf) (.obj "IntegerTraits" [] [])
      ["FieldTraits"] = false := by
    rw [c19IsInst_obj _ _ _ _ _ _ (c19ClassesOf_integerTraits _ _)]
    simp
  unfold c19DmPre c19DmStore c19EncPoly
  c19_run [c19Attr_poly_degree, c19_poly_degree_run, hd, c19Attr_poly_base, c19New_polynomial,
    c19_poly_init_run, c19Attr_poly_data, c19Index_enc_last other hother, c19Attr_poly_unit,
    c19Call_traits, c19_traits_int_run (.inl rfl), hf]
  rfl

theorem c19_dm_pre_zero (b : String) (p : Poly) (n kf : Nat) :
    c19ExecL (c19CxAt ops c19Table ext (n + 1) kf) c19DmPre
        [("self", c19EncPoly b p), ("other", c19EncPoly b [])]
      = .raise "ZeroDivisionError" := by
  unfold c19DmPre c19EncPoly
  c19_run [c19Attr_poly_degree, c19_poly_degree_run, c19_degree_nil]

theorem c19_dm_inv0 (b : String) (p other : Poly) :
    c19DmInv (c19DmStore b p other : C19Store α) b p other [] p := by
  exact ⟨rfl, rfl, rfl, rfl, rfl, rfl, rfl⟩

/-- what `__divmod__` answers -/
def c19EncDivmod (b : String) : Option (Poly × Poly) → C19R (C19V α)
  | some r => .ok (.tup [c19EncPoly b r.1, c19EncPoly b r.2])
  | none => .raise "ZeroDivisionError"

end


end PV.Algo
