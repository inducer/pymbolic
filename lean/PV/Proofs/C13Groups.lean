import PV.Model.Compile
import PV.Model.PyPrec
import PV.Proofs.SyntaxStrFlatten
import PV.Proofs.SyntaxBEq
import PV.Proofs.C13Cse
/-
  C13.  The source text of `compile()` under PYTHON's grammar.

  Since the repair of `CompileMapper.map_constant` (`repr` + the sign parenthesisation of the base
  class) the compile printer IS the stringifier on the modelled constants
  (`constPiecesRepr_eq`), so the round-trip theorem of C06 applies to the compiled source as it
  stands; here:
  * `GPos`, `notAdmitted`, `notOk`: where Python's grammar admits an unparenthesised `not …`
    operand (the parser scheme has ONE level for all prefix operators and cannot express that
    `not` ranks below the comparisons).
  * `gOk`: the local condition of C13 = the C06 condition `okTriple` for (Python table,
    stringifier table), plus the `not` rule; `gBadPairs` the finite list of (position, child
    class) pairs that fail it.
  * `InFragmentPy`: the fragment of `PV.C13.compile_source_groups_current`.
-/
namespace PV.C13
open PV PV.Syntax

/-- **the repaired constant printer of `CompileMapper` is the stringifier's** (on ints, bools,
floats: `repr` and `str` give the same text, and the sign parenthesisation is the same code) -/
theorem constPiecesRepr_eq (S : PrintPrec) : constPiecesRepr S = constPieces S := by
  funext c enc
  cases c <;> rfl

/-! ### the keyword `not`, which the parser scheme cannot rank -/

/-- child positions of C13: the C06 positions, with the operand of `not` told apart from the
operand of `~` -/
inductive GPos where
  | std (p : Pos)
  | notArg
  deriving Repr, DecidableEq

def GPos.pos : GPos → Pos
  | .std p => p
  | .notArg => .unArg

/-- Python's grammar (`not_test: 'not' not_test | comparison`) admits an unparenthesised
`not …` operand exactly where an operand of level `not` or lower is expected: operands of `and` /
`or`, the three parts of a conditional, arguments, elements, indices, the whole expression, and
the operand of another `not`.  In table terms: as if `not …` carried an operator of level
`pyNotLevel` at both ends. -/
def notAdmitted (P : ParserPrec) : GPos → Bool
  | .notArg => true
  | .std p => decide (p.lge P ≤ pyNotLevel) && decide (p.rge P ≤ pyNotLevel)

def isLnot : Expr → Bool
  | .un .lnot _ => true
  | _ => false

/-- a `not` child is parenthesised by the printer or stands where Python admits it -/
def notAt (P : ParserPrec) (S : PrintPrec) (g : GPos) (c : Expr) : Bool :=
  !isLnot c || parenthesised S g.pos (.un .lnot) || notAdmitted P g

mutual
/-- every `LogicalNot` child of the tree is parenthesised or admitted by Python's grammar
(child positions as in `Printable`) -/
def notOk (P : ParserPrec) (S : PrintPrec) : Expr → Bool
  | .nary .sum (c :: cs) =>
      notAt P S (.std (.left .plus)) c && notOk P S c && notOkAll P S (.std (.right .plus)) cs
  | .nary .prod cs => notOkProd P S cs
  | .nary .bor cs => notOkAll P S (.std (.left .bor)) cs
  | .nary .bxor cs => notOkAll P S (.std (.left .bxor)) cs
  | .nary .band cs => notOkAll P S (.std (.left .band)) cs
  | .nary .lor cs => notOkAll P S (.std (.left .lor)) cs
  | .nary .land cs => notOkAll P S (.std (.left .land)) cs
  | .nary _ cs => notOkAll P S (.std .arg) cs
  | .bin o a b =>
      notAt P S (.std (.left (binInfix o))) a && notAt P S (.std (.right (binInfix o))) b
        && notOk P S a && notOk P S b
  | .un .bnot a => notAt P S (.std .unArg) a && notOk P S a
  | .un .lnot a => notAt P S .notArg a && notOk P S a
  | .cmp o a b =>
      notAt P S (.std (.left (.cmp o))) a && notAt P S (.std (.right (.cmp o))) b
        && notOk P S a && notOk P S b
  | .ite c t e =>
      notAt P S (.std .iteCond) c && notAt P S (.std .iteThen) t && notAt P S (.std .iteElse) e
        && notOk P S c && notOk P S t && notOk P S e
  | .call f as => notAt P S (.std .callee) f && notOk P S f && notOkAll P S (.std .arg) as
  | .callKw f as _ vs =>
      notAt P S (.std .callee) f && notOk P S f && notOkAll P S (.std .arg) as
        && notOkAll P S (.std .arg) vs
  | .subscript a i => notAt P S (.std .callee) a && notOk P S a && notAt P S (.std .index) i
      && notOk P S i
  | .lookup a _ => notAt P S (.std .callee) a && notOk P S a
  | .tuple cs => notOkAll P S (.std .elemRest) cs
  | .list cs => notOkAll P S (.std .elemRest) cs
  | .slice cs => notOkAll P S (.std .sliceLast) cs
  | _ => true
def notOkAll (P : ParserPrec) (S : PrintPrec) (g : GPos) : List Expr → Bool
  | [] => true
  | c :: cs => notAt P S g c && notOk P S c && notOkAll P S g cs
/-- operands of a product: the last one is a right operand -/
def notOkProd (P : ParserPrec) (S : PrintPrec) : List Expr → Bool
  | [] => true
  | [c] => notAt P S (.std (.right .times)) c && notOk P S c
  | c :: cs => notAt P S (.std (.left .times)) c && notOk P S c && notOkProd P S cs
end

/-! ### the local condition of C13 and its finite table -/

/-- the local condition for the compiled source under Python's grammar, as a function of
(position, child class), for the finite table `gBadPairs`:
* the C06 condition `okTriple` for (parser table, stringifier table);
* a `not` child is parenthesised or admitted by Python's grammar. -/
def gOk (P : ParserPrec) (S : PrintPrec) (g : GPos) (k : Kind) : Bool :=
  okTriple P S g.pos k
  && (!(k == .un .lnot) || parenthesised S g.pos k || notAdmitted P g)

def allGPos : List GPos := allPos.map .std ++ [.notArg]

/-- all (position, child class) pairs that fail the local condition of C13 -/
def gBadPairs (P : ParserPrec) (S : PrintPrec) : List (GPos × Kind) :=
  (allGPos.flatMap fun g => allKinds.map fun k => (g, k)).filter fun gk => !gOk P S gk.1 gk.2

/-- the fragment of `PV.C13.compile_source_groups_current`: no wrapper where the base class
looks at the node type of a child (`cseShapeOk`); the tree WITHOUT its wrappers has covered node
shapes and every child passes `okTriple` in its position (`InFragment`), and every `not` child
passes `notAt` (`notOk`).  These are the two conjuncts of `gOk`, read along the tree; `gOk` itself
is only tabulated (`gBadPairs`), no lemma derives one from the other. -/
def InFragmentPy (P : ParserPrec) (S : PrintPrec) (e : Expr) : Bool :=
  cseShapeOk e && InFragment P S (stripCse e) && notOk P S (stripCse e)

/-- the same with arbitrarily nested sums and products -/
def InFragmentPyFlat (P : ParserPrec) (S : PrintPrec) (e : Expr) : Bool :=
  cseShapeOk e && InFragmentFlat P S (stripCse e) && notOk P S (flattenAssoc (stripCse e))

end PV.C13
