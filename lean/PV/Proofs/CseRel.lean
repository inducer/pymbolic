import PV.Model.Cse
import PV.Proofs.UnionPy
/-
  C12 helper: one generic induction over `cseMap`.

  `CseSpec R P D` lists what a relation `R` between an input tree and its tagged tree has to
  satisfy (a congruence rule per node class, the two wrapping rules, and the rules for reading and
  writing the canonical table whose entries satisfy `P`); `D` is the condition on the inputs
  (closed under operands: `dchild`) under which the table rules `hit` / `put` hold — `simple` for
  the value theorem, `noNest` for nesting; `cseMap_rel` then shows that every run of the mapper on
  an input satisfying `D` relates input and output and keeps the table invariant.  The value theorem and the
  no-wrapper-around-wrapper theorem of C12 are instances.
-/
namespace PV

/-- pointwise lifting of a relation to operand lists -/
inductive RelL (R : Expr → Expr → Prop) : List Expr → List Expr → Prop
  | nil : RelL R [] []
  | cons {a a' : Expr} {as as' : List Expr} : R a a' → RelL R as as' → RelL R (a :: as) (a' :: as')

/-- table invariant: every entry satisfies `P` -/
def TblAll (P : CKey → Expr → Prop) (T : Tbl) : Prop := ∀ p ∈ T, P p.1 p.2

structure CseSpec (R : Expr → Expr → Prop) (P : CKey → Expr → Prop) (D : Expr → Prop) : Prop where
  dchild : ∀ e, D e → ∀ c ∈ e.children, D c
  const : ∀ c, R (.const c) (.const c)
  var : ∀ x, R (.var x) (.var x)
  nan : R .nan .nan
  wildcard : R .wildcard .wildcard
  dotWild : ∀ n, R (.dotWild n) (.dotWild n)
  starWild : ∀ n, R (.starWild n) (.starWild n)
  funcSym : R .funcSym .funcSym
  nary : ∀ o cs cs', RelL R cs cs' → R (.nary o cs) (.nary o cs')
  bin : ∀ o a b a' b', R a a' → R b b' → R (.bin o a b) (.bin o a' b')
  un : ∀ o a a', R a a' → R (.un o a) (.un o a')
  cmp : ∀ o a b a' b', R a a' → R b b' → R (.cmp o a b) (.cmp o a' b')
  ite : ∀ c t e c' t' e', R c c' → R t t' → R e e' → R (.ite c t e) (.ite c' t' e')
  call : ∀ f as f' as', R f f' → RelL R as as' → R (.call f as) (.call f' as')
  callKw : ∀ f as ns vs f' as' vs', R f f' → RelL R as as' → RelL R vs vs' →
    R (.callKw f as ns vs) (.callKw f' as' ns vs')
  subscript : ∀ a i a' i', R a a' → R i i' → R (.subscript a i) (.subscript a' i')
  lookup : ∀ a n a', R a a' → R (.lookup a n) (.lookup a' n)
  subst : ∀ c vs xs xs', RelL R xs xs' → R (.subst c vs xs) (.subst c vs xs')
  deriv : ∀ c vs c', R c c' → R (.deriv c vs) (.deriv c' vs)
  slice : ∀ cs cs', RelL R cs cs' → R (.slice cs) (.slice cs')
  tuple : ∀ cs cs', RelL R cs cs' → R (.tuple cs) (.tuple cs')
  list : ∀ cs cs', RelL R cs cs' → R (.list cs) (.list cs')
  /-- an existing wrapper: its child was mapped to `r`, the result is `wrap_in_cse(r, prefix)` -/
  cse : ∀ c p s r, R c r → R (.cse c p s) (wrapInCse r p)
  /-- reading the table -/
  hit : ∀ e k w, D e → P k w → k.eq (normalizedKey e) = true → R e w
  /-- writing the table (`canonical_subexprs[key] = wrap_in_cse(rebuilt)`), and returning it -/
  put : ∀ e r T, D e → e.isCseOp = true → R e r → TblAll P T →
    R e (wrapInCse r none) ∧ TblAll P (T.set (normalizedKey e) (wrapInCse r none))

theorem Tbl.find_some {k : CKey} {w : Expr} : ∀ {T : Tbl}, T.find k = some w →
    ∃ k', (k', w) ∈ T ∧ k'.eq k = true
  | [], h => by simp [Tbl.find] at h
  | (k0, w0) :: rest, h => by
    simp only [Tbl.find] at h
    by_cases hk : k0.eq k = true
    · simp [hk] at h; subst h; exact ⟨k0, by simp, hk⟩
    · simp [hk] at h
      obtain ⟨k', hm, he⟩ := Tbl.find_some h
      exact ⟨k', by simp [hm], he⟩

/-- what `opMode` can answer -/
theorem opMode_cases {elim : List CKey} {T : Tbl} {e : Expr} {m : OpMode}
    (h : opMode elim T e = .ok m) :
    m = .plain ∨ (∃ w k', m = .hit w ∧ (k', w) ∈ T ∧ k'.eq (normalizedKey e) = true) ∨
      (m = .miss (normalizedKey e) ∧ e.isCseOp = true ∧ T.find (normalizedKey e) = none) := by
  unfold opMode at h
  by_cases h1 : e.isCseOp = true
  · simp only [h1, if_true] at h
    by_cases h2 : e.hasList = true
    · simp [h2] at h
    · simp only [h2, Bool.false_eq_true, if_false] at h
      by_cases h3 : inElim elim (normalizedKey e) = true
      · simp only [h3, if_true] at h
        cases hf : T.find (normalizedKey e) with
        | none =>
          simp only [hf] at h
          injection h with h; subst h
          exact Or.inr (Or.inr ⟨rfl, h1, rfl⟩)
        | some w =>
          simp only [hf] at h
          injection h with h; subst h
          obtain ⟨k', hm, he⟩ := Tbl.find_some hf
          exact Or.inr (Or.inl ⟨w, k', rfl, hm, he⟩)
      · simp only [h3, Bool.false_eq_true, if_false] at h
        injection h with h; subst h; exact Or.inl rfl
  · simp only [h1, Bool.false_eq_true, if_false] at h
    injection h with h; subst h; exact Or.inl rfl

section
variable {R : Expr → Expr → Prop} {P : CKey → Expr → Prop} {D : Expr → Prop}

/-- the common tail of `map_sum`: given the mode and the rebuilt node -/
theorem finishOp_rel (S : CseSpec R P D) {elim : List CKey} {T0 T1 : Tbl} {e r : Expr} {m : OpMode}
    (hm : opMode elim T0 e = .ok m) (hnh : ∀ w, m ≠ .hit w) (hD : D e) (hr : R e r)
    (hT : TblAll P T1) :
    R e (finishOp m r T1).1 ∧ TblAll P (finishOp m r T1).2 := by
  rcases opMode_cases hm with rfl | ⟨w, _, rfl, _, _⟩ | ⟨rfl, hop, _⟩
  · exact ⟨hr, hT⟩
  · exact absurd rfl (hnh w)
  · simp only [finishOp]
    exact S.put e r T1 hD hop hr hT

theorem hit_rel (S : CseSpec R P D) {elim : List CKey} {T : Tbl} {e w : Expr}
    (hm : opMode elim T e = .ok (.hit w)) (hD : D e) (hT : TblAll P T) : R e w := by
  rcases opMode_cases hm with h | ⟨w', k', h, hmem, hk⟩ | ⟨h, _, _⟩
  · cases h
  · injection h with h; subst h
    exact S.hit e k' w hD (hT (k', w) hmem) hk
  · cases h

/-- a leaf is returned as it is, the table untouched -/
theorem leaf_rel {x e' : Expr} {T T' : Tbl} (hr : R x x) (hT : TblAll P T)
    (h : (pure (x, T) : Except CseErr (Expr × Tbl)) = .ok (e', T')) : R x e' ∧ TblAll P T' := by
  injection h with h; injection h with h1 h2; subst h1; subst h2; exact ⟨hr, hT⟩

mutual
theorem cseMap_rel (S : CseSpec R P D) (elim : List CKey) :
    ∀ (e : Expr) (T : Tbl) (e' : Expr) (T' : Tbl), D e → TblAll P T →
      cseMap elim e T = .ok (e', T') → R e e' ∧ TblAll P T'
  | .const (.str _), _, _, _, _, _, h => by simp [cseMap] at h
  | .const .none, _, _, _, _, _, h => by simp [cseMap] at h
  | .const (.int n), T, e', T', _, hT, h => leaf_rel (S.const _) hT h
  | .const (.bool n), T, e', T', _, hT, h => leaf_rel (S.const _) hT h
  | .const (.flt a b c), T, e', T', _, hT, h => leaf_rel (S.const _) hT h
  | .var x, T, e', T', _, hT, h => leaf_rel (S.var _) hT h
  | .nan, T, e', T', _, hT, h => leaf_rel S.nan hT h
  | .wildcard, T, e', T', _, hT, h => leaf_rel S.wildcard hT h
  | .dotWild n, T, e', T', _, hT, h => leaf_rel (S.dotWild _) hT h
  | .starWild n, T, e', T', _, hT, h => leaf_rel (S.starWild _) hT h
  | .funcSym, T, e', T', _, hT, h => leaf_rel S.funcSym hT h
  | .nary o cs, T, e', T', hD, hT, h => by
      simp only [cseMap] at h
      obtain ⟨m, hm, h⟩ := except_bind_ok h
      have hcs : ∀ c ∈ cs, D c := fun c hc => S.dchild _ hD c (by simp [Expr.children, hc])
      cases m with
      | hit w =>
        cases h
        exact ⟨hit_rel S hm hD hT, hT⟩
      | _ =>
        obtain ⟨⟨cs', T1⟩, h1, h⟩ := except_bind_ok h
        simp only [pure, Except.pure] at h
        injection h with h
        obtain ⟨r1, t1⟩ := cseMapL_rel S elim cs T cs' T1 hcs hT h1
        have := finishOp_rel S hm (by intro w hw; cases hw) hD (S.nary o cs cs' r1) t1
        rw [h] at this; exact this
  | .bin o a b, T, e', T', hD, hT, h => by
      simp only [cseMap] at h
      obtain ⟨m, hm, h⟩ := except_bind_ok h
      have ha : D a := S.dchild _ hD a (by simp [Expr.children])
      have hb : D b := S.dchild _ hD b (by simp [Expr.children])
      cases m with
      | hit w =>
        cases h
        exact ⟨hit_rel S hm hD hT, hT⟩
      | _ =>
        obtain ⟨⟨a', T1⟩, h1, h⟩ := except_bind_ok h
        obtain ⟨⟨b', T2⟩, h2, h⟩ := except_bind_ok h
        simp only [pure, Except.pure] at h
        injection h with h
        obtain ⟨r1, t1⟩ := cseMap_rel S elim a T a' T1 ha hT h1
        obtain ⟨r2, t2⟩ := cseMap_rel S elim b T1 b' T2 hb t1 h2
        have := finishOp_rel S hm (by intro w hw; cases hw) hD (S.bin o a b a' b' r1 r2) t2
        rw [h] at this; exact this
  | .call f as, T, e', T', hD, hT, h => by
      simp only [cseMap] at h
      obtain ⟨m, hm, h⟩ := except_bind_ok h
      have hf : D f := S.dchild _ hD f (by simp [Expr.children])
      have has : ∀ c ∈ as, D c := fun c hc => S.dchild _ hD c (by simp [Expr.children, hc])
      cases m with
      | hit w =>
        cases h
        exact ⟨hit_rel S hm hD hT, hT⟩
      | _ =>
        obtain ⟨⟨f', T1⟩, h1, h⟩ := except_bind_ok h
        obtain ⟨⟨as', T2⟩, h2, h⟩ := except_bind_ok h
        simp only [pure, Except.pure] at h
        injection h with h
        obtain ⟨r1, t1⟩ := cseMap_rel S elim f T f' T1 hf hT h1
        obtain ⟨r2, t2⟩ := cseMapL_rel S elim as T1 as' T2 has t1 h2
        have := finishOp_rel S hm (by intro w hw; cases hw) hD (S.call f as f' as' r1 r2) t2
        rw [h] at this; exact this
  | .un o a, T, e', T', hD, hT, h => by
      simp only [cseMap] at h
      have ha : D a := S.dchild _ hD a (by simp [Expr.children])
      obtain ⟨⟨a', T1⟩, h1, h⟩ := except_bind_ok h
      cases h
      obtain ⟨r1, t1⟩ := cseMap_rel S elim a T a' T1 ha hT h1
      exact ⟨S.un o a a' r1, t1⟩
  | .cmp o a b, T, e', T', hD, hT, h => by
      simp only [cseMap] at h
      have ha : D a := S.dchild _ hD a (by simp [Expr.children])
      have hb : D b := S.dchild _ hD b (by simp [Expr.children])
      obtain ⟨⟨a', T1⟩, h1, h⟩ := except_bind_ok h
      obtain ⟨⟨b', T2⟩, h2, h⟩ := except_bind_ok h
      cases h
      obtain ⟨r1, t1⟩ := cseMap_rel S elim a T a' T1 ha hT h1
      obtain ⟨r2, t2⟩ := cseMap_rel S elim b T1 b' T2 hb t1 h2
      exact ⟨S.cmp o a b a' b' r1 r2, t2⟩
  | .ite c t e, T, e', T', hD, hT, h => by
      simp only [cseMap] at h
      have hc : D c := S.dchild _ hD c (by simp [Expr.children])
      have ht : D t := S.dchild _ hD t (by simp [Expr.children])
      have he : D e := S.dchild _ hD e (by simp [Expr.children])
      obtain ⟨⟨c', T1⟩, h1, h⟩ := except_bind_ok h
      obtain ⟨⟨t', T2⟩, h2, h⟩ := except_bind_ok h
      obtain ⟨⟨e2, T3⟩, h3, h⟩ := except_bind_ok h
      cases h
      obtain ⟨r1, t1⟩ := cseMap_rel S elim c T c' T1 hc hT h1
      obtain ⟨r2, t2⟩ := cseMap_rel S elim t T1 t' T2 ht t1 h2
      obtain ⟨r3, t3⟩ := cseMap_rel S elim e T2 _ T3 he t2 h3
      exact ⟨S.ite c t e c' t' _ r1 r2 r3, t3⟩
  | .callKw f as ns vs, T, e', T', hD, hT, h => by
      simp only [cseMap] at h
      have hf : D f := S.dchild _ hD f (by simp [Expr.children])
      have has : ∀ c ∈ as, D c := fun c hc => S.dchild _ hD c (by simp [Expr.children, hc])
      have hvs : ∀ c ∈ vs, D c := fun c hc => S.dchild _ hD c (by simp [Expr.children, hc])
      obtain ⟨⟨f', T1⟩, h1, h⟩ := except_bind_ok h
      obtain ⟨⟨as', T2⟩, h2, h⟩ := except_bind_ok h
      obtain ⟨⟨vs', T3⟩, h3, h⟩ := except_bind_ok h
      cases h
      obtain ⟨r1, t1⟩ := cseMap_rel S elim f T f' T1 hf hT h1
      obtain ⟨r2, t2⟩ := cseMapL_rel S elim as T1 as' T2 has t1 h2
      obtain ⟨r3, t3⟩ := cseMapL_rel S elim vs T2 vs' T3 hvs t2 h3
      exact ⟨S.callKw f as ns vs f' as' vs' r1 r2 r3, t3⟩
  | .subscript a b, T, e', T', hD, hT, h => by
      simp only [cseMap] at h
      have ha : D a := S.dchild _ hD a (by simp [Expr.children])
      have hb : D b := S.dchild _ hD b (by simp [Expr.children])
      obtain ⟨⟨a', T1⟩, h1, h⟩ := except_bind_ok h
      obtain ⟨⟨b', T2⟩, h2, h⟩ := except_bind_ok h
      cases h
      obtain ⟨r1, t1⟩ := cseMap_rel S elim a T a' T1 ha hT h1
      obtain ⟨r2, t2⟩ := cseMap_rel S elim b T1 b' T2 hb t1 h2
      exact ⟨S.subscript a b a' b' r1 r2, t2⟩
  | .lookup a n, T, e', T', hD, hT, h => by
      simp only [cseMap] at h
      have ha : D a := S.dchild _ hD a (by simp [Expr.children])
      obtain ⟨⟨a', T1⟩, h1, h⟩ := except_bind_ok h
      cases h
      obtain ⟨r1, t1⟩ := cseMap_rel S elim a T a' T1 ha hT h1
      exact ⟨S.lookup a n a' r1, t1⟩
  | .cse c p s, T, e', T', hD, hT, h => by
      simp only [cseMap] at h
      have hc : D c := S.dchild _ hD c (by simp [Expr.children])
      obtain ⟨⟨r, T1⟩, h1, h⟩ := except_bind_ok h
      cases h
      obtain ⟨r1, t1⟩ := cseMap_rel S elim c T r T1 hc hT h1
      exact ⟨S.cse c p s r r1, t1⟩
  | .subst c vs xs, T, e', T', hD, hT, h => by
      simp only [cseMap] at h
      have hxs : ∀ x ∈ xs, D x := fun x hx => S.dchild _ hD x (by simp [Expr.children, hx])
      obtain ⟨⟨xs', T1⟩, h1, h⟩ := except_bind_ok h
      cases h
      obtain ⟨r1, t1⟩ := cseMapL_rel S elim xs T xs' T1 hxs hT h1
      exact ⟨S.subst c vs xs xs' r1, t1⟩
  | .deriv c vs, T, e', T', hD, hT, h => by
      simp only [cseMap] at h
      have hc : D c := S.dchild _ hD c (by simp [Expr.children])
      obtain ⟨⟨c', T1⟩, h1, h⟩ := except_bind_ok h
      cases h
      obtain ⟨r1, t1⟩ := cseMap_rel S elim c T c' T1 hc hT h1
      exact ⟨S.deriv c vs c' r1, t1⟩
  | .slice cs, T, e', T', hD, hT, h => by
      simp only [cseMap] at h
      have hcs : ∀ c ∈ cs, D c := fun c hc => S.dchild _ hD c (by simp [Expr.children, hc])
      obtain ⟨⟨cs', T1⟩, h1, h⟩ := except_bind_ok h
      cases h
      obtain ⟨r1, t1⟩ := cseMapSlice_rel S elim cs T cs' T1 hcs hT h1
      exact ⟨S.slice cs cs' r1, t1⟩
  | .tuple cs, T, e', T', hD, hT, h => by
      simp only [cseMap] at h
      have hcs : ∀ c ∈ cs, D c := fun c hc => S.dchild _ hD c (by simp [Expr.children, hc])
      obtain ⟨⟨cs', T1⟩, h1, h⟩ := except_bind_ok h
      cases h
      obtain ⟨r1, t1⟩ := cseMapL_rel S elim cs T cs' T1 hcs hT h1
      exact ⟨S.tuple cs cs' r1, t1⟩
  | .list cs, T, e', T', hD, hT, h => by
      simp only [cseMap] at h
      have hcs : ∀ c ∈ cs, D c := fun c hc => S.dchild _ hD c (by simp [Expr.children, hc])
      obtain ⟨⟨cs', T1⟩, h1, h⟩ := except_bind_ok h
      cases h
      obtain ⟨r1, t1⟩ := cseMapL_rel S elim cs T cs' T1 hcs hT h1
      exact ⟨S.list cs cs' r1, t1⟩
theorem cseMapL_rel (S : CseSpec R P D) (elim : List CKey) :
    ∀ (cs : List Expr) (T : Tbl) (cs' : List Expr) (T' : Tbl), (∀ c ∈ cs, D c) → TblAll P T →
      cseMapL elim cs T = .ok (cs', T') → RelL R cs cs' ∧ TblAll P T'
  | [], T, cs', T', _, hT, h => by
      simp only [cseMapL, pure, Except.pure] at h
      injection h with h; injection h with e1 e2; subst e1; subst e2
      exact ⟨RelL.nil, hT⟩
  | c :: cs, T, cs', T', hD, hT, h => by
      simp only [cseMapL] at h
      obtain ⟨⟨c', T1⟩, h1, h⟩ := except_bind_ok h
      obtain ⟨⟨cs2, T2⟩, h2, h⟩ := except_bind_ok h
      cases h
      obtain ⟨r1, t1⟩ := cseMap_rel S elim c T c' T1 (hD c (by simp)) hT h1
      obtain ⟨r2, t2⟩ := cseMapL_rel S elim cs T1 cs2 T2 (fun x hx => hD x (by simp [hx])) t1 h2
      exact ⟨RelL.cons r1 r2, t2⟩
theorem cseMapSlice_rel (S : CseSpec R P D) (elim : List CKey) :
    ∀ (cs : List Expr) (T : Tbl) (cs' : List Expr) (T' : Tbl), (∀ c ∈ cs, D c) → TblAll P T →
      cseMapSlice elim cs T = .ok (cs', T') → RelL R cs cs' ∧ TblAll P T'
  | [], T, cs', T', _, hT, h => by
      simp only [cseMapSlice, pure, Except.pure] at h
      injection h with h; injection h with e1 e2; subst e1; subst e2
      exact ⟨RelL.nil, hT⟩
  | c :: cs, T, cs', T', hD, hT, h => by
      by_cases hn : c = .const .none
      · subst hn
        simp only [cseMapSlice] at h
        obtain ⟨⟨cs2, T2⟩, h2, h⟩ := except_bind_ok h
        simp only [pure, Except.pure] at h
        injection h with h; injection h with e1 e2; subst e1; subst e2
        obtain ⟨r2, t2⟩ := cseMapSlice_rel S elim cs T cs2 T2 (fun x hx => hD x (by simp [hx])) hT h2
        exact ⟨RelL.cons (S.const _) r2, t2⟩
      · rw [cseMapSlice.eq_3 _ _ _ _ (by intro h'; exact hn h')] at h
        obtain ⟨⟨c', T1⟩, h1, h⟩ := except_bind_ok h
        obtain ⟨⟨cs2, T2⟩, h2, h⟩ := except_bind_ok h
        simp only [pure, Except.pure] at h
        injection h with h; injection h with e1 e2; subst e1; subst e2
        obtain ⟨r1, t1⟩ := cseMap_rel S elim c T c' T1 (hD c (by simp)) hT h1
        obtain ⟨r2, t2⟩ := cseMapSlice_rel S elim cs T1 cs2 T2 (fun x hx => hD x (by simp [hx])) t1 h2
        exact ⟨RelL.cons r1 r2, t2⟩
end

end
end PV
