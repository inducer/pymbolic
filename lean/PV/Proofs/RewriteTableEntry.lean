import PV.Proofs.RewriteTableDist
import PV.Proofs.RewriteTableFlat
/-
  C11 (T-gen), part 8: the entry points.  `distribute(expr, parameters=None, commutative=True)` and
  `flatten(expr)` of the table, interpreted — defaults filled in, `TermCollector(parameters)` /
  `lambda x: x`, `DistributeMapper.__init__` with ITS defaults (`TermCollector()`,
  `CommutativeConstantFoldingMapper()`) run from the table — build exactly the instance the model's
  configuration `DistCfg` stands for; with parts 2–7 the public functions are `distM` / `flattenM`.
-/
namespace PV
open PV.Generated (c04Classes c04IdentityTable)
open PV.C11Expected
attribute [local simp] c11ExecL c11Exec c11Eval c11EvalL c11Get c11Set c11Apply c11Truthy c11Lift
  bind Except.bind pure Except.pure throw throwThe MonadExceptOf.throw

/-- the positional arguments of a call `distribute(e[, parameters[, commutative]])` -/
def c11DistributeArgs (e : Expr) (po : Option (List Expr)) (co : Option Bool) : List C11Val :=
  match po, co with
  | none, none => [.expr e]
  | some ps, none => [.expr e, .set (ps.map .expr)]
  | none, some c => [.expr e, .none, .bool c]
  | some ps, some c => [.expr e, .set (ps.map .expr), .bool c]

/-- the configuration of the model such a call stands for -/
def c11DistributeCfg (po : Option (List Expr)) (co : Option Bool) : DistCfg :=
  { collector := if co.getD true then some (po.getD []) else none }

theorem c11Table_flatten : c11Table.flatten = c11Class_flatten := rfl
theorem c11Table_commFolder : c11Table.commFolder = c11Class_commFolder := rfl
theorem c11Table_collector : c11Table.collector = c11Class_collector := rfl
theorem c11Table_distributor : c11Table.distributor = c11Class_distributor := rfl
theorem c11Table_plainFolder : c11Table.plainFolder = c11Class_plainFolder := rfl
theorem c11Table_entries : c11Table.entries = [c11_entry_flatten, c11_entry_distribute] := rfl

/- `c11Construct T 3` (in `c11Entry`, `c11RunClass`): three levels of constructor calls are enough,
`distribute` → `DistributeMapper(…)` → its defaults `TermCollector()` /
`CommutativeConstantFoldingMapper()`; each level runs with one less.  Constructors and entry points
run with fuel `0` (`c11ExecL ctx 0`): they have no `while` and no recursive nested function, the
mapper run gets its fuel through `applyInst`. -/
theorem c11Construct_commFolder (d : Nat) :
    c11Construct c11Table (d + 1) .commFolder [] = .ok (.inst .commFolder [] []) := rfl

theorem c11Construct_flatten (d : Nat) :
    c11Construct c11Table (d + 1) .flattenMapper [] = .ok (.inst .flattenMapper [] []) := rfl

theorem c11Construct_collector (d : Nat) (l : List C11Val) :
    c11Construct c11Table (d + 1) .termCollector [.set l] =
      .ok (.inst .termCollector ["parameters"] [.set l]) := rfl

theorem c11Construct_collector0 (d : Nat) :
    c11Construct c11Table (d + 1) .termCollector [] =
      .ok (.inst .termCollector ["parameters"] [.set []]) := rfl


theorem c11Construct_distributor (cv : C11Val)
    (h : (∃ a b, cv = .inst .termCollector a b) ∨ cv = .lambdaId) :
    c11Construct c11Table 3 .distributeMapper [cv] =
      .ok (.inst .distributeMapper ["collector", "const_folder"] [cv,
        .inst .commFolder [] []]) := by
  have hc : c11Construct c11Table 2 .commFolder [] = .ok (.inst .commFolder [] []) :=
    c11Construct_commFolder 1
  have hstep : c11Construct c11Table 3 .distributeMapper [cv] =
      (let ctx : C11Ctx :=
         { recur := fun _ => throw .noClaim, selfAttrs := [],
           callSelf := fun _ _ => throw .stuck, callLocal := fun _ _ => throw .stuck,
           sup := fun _ _ _ => throw .noClaim, applyInst := fun _ _ _ _ => throw .stuck,
           construct := c11Construct c11Table 2 }
       match c11ExecL ctx 0 c11_DistributeMapper___init__.body
          [("collector", cv), ("const_folder", .none)] with
       | .fell env' =>
         pure (.inst .distributeMapper ["collector", "const_folder"]
           [c11Get "self.collector" env', c11Get "self.const_folder" env'])
       | .ret .none => throw .stuck
       | .fail e => throw e
       | _ => throw .stuck) := rfl
  rw [hstep]
  rcases h with ⟨a, b, rfl⟩ | rfl <;>
  simp [c11_DistributeMapper___init__, c11Cmp, hc]

/-- the context an entry point runs in -/
def c11EntryCtx (run : C11Glob → List String → List C11Val → List C11Val → C11R C11Val) : C11Ctx :=
  { recur := fun _ => throw .noClaim, selfAttrs := [],
    callSelf := fun _ _ => throw .stuck, callLocal := fun _ _ => throw .stuck,
    sup := fun _ _ _ => throw .noClaim, applyInst := run,
    construct := c11Construct c11Table 3 }

theorem c11Entry_distribute_step (run : C11Glob → List String → List C11Val → List C11Val → C11R C11Val)
    (e : Expr) (pv cv : C11Val) (args : List C11Val)
    (h : c11FillDefaults ["expr", "parameters", "commutative"]
      [("parameters", .pyNone), ("commutative", (.pyBool true))] args = some [.expr e, pv, cv]) :
    c11Entry c11Table "distribute" args run =
      c11OutToR (c11ExecL { c11EntryCtx run with callLocal := c11CallLocal (c11EntryCtx run) [] 0 } 0
        c11_entry_distribute.body
        [("expr", .expr e), ("parameters", pv), ("commutative", cv)]) := by
  simp only [c11Entry, c11Table_entries, List.find?, c11_entry_flatten, c11_entry_distribute,
    String.reduceBEq, h, c11RunFn, c11RunBody, c11Frame]
  rfl

theorem c11_entry_distribute_eq (e : Expr) (po : Option (List Expr)) (co : Option Bool)
    (run : C11Glob → List String → List C11Val → List C11Val → C11R C11Val) :
    c11Entry c11Table "distribute" (c11DistributeArgs e po co) run =
      run .distributeMapper ["collector", "const_folder"]
        [c11CollVal (c11DistributeCfg po co), .inst .commFolder [] []] [.expr e] := by
  have h1 : ∀ l, c11Construct c11Table 3 .termCollector [.set l] =
      .ok (.inst .termCollector ["parameters"] [.set l]) := c11Construct_collector 2
  have h2 := fun a b => c11Construct_distributor (.inst .termCollector a b) (.inl ⟨a, b, rfl⟩)
  have h3 := c11Construct_distributor .lambdaId (.inr rfl)
  -- whatever was passed, the defaults are filled in and the body runs on three bound parameters
  cases po <;> cases co with
  | none =>
    rw [c11Entry_distribute_step run e _ _ _ rfl]
    simp [c11_entry_distribute, c11Cmp, c11EntryCtx, h1, h2, c11CollVal, c11DistributeCfg]
    generalize run _ _ _ _ = r; cases r <;> rfl
  | some c =>
    rw [c11Entry_distribute_step run e _ _ _ rfl]
    cases c <;>
      simp [c11_entry_distribute, c11Cmp, c11EntryCtx, h1, h2, h3, c11CollVal, c11DistributeCfg] <;>
      (generalize run _ _ _ _ = r; cases r <;> rfl)

theorem c11_entry_flatten_eq (e : Expr)
    (run : C11Glob → List String → List C11Val → List C11Val → C11R C11Val) :
    c11Entry c11Table "flatten" [.expr e] run = run .flattenMapper [] [] [.expr e] := by
  have h1 : c11Construct c11Table 3 .flattenMapper [] = .ok (.inst .flattenMapper [] []) :=
    c11Construct_flatten 2
  have hstep : c11Entry c11Table "flatten" [.expr e] run =
      c11OutToR (c11ExecL { c11EntryCtx run with callLocal := c11CallLocal (c11EntryCtx run) [] 0 } 0
        c11_entry_flatten.body [("expr", .expr e)]) := rfl
  rw [hstep]
  simp [c11_entry_flatten, c11EntryCtx, h1]
  generalize run _ _ _ _ = r; cases r <;> rfl

/-- **`pymbolic.expand(e, …)` / `pymbolic.distribute(e, …)` of the table, run end to end**, is
`distM` with the configuration the arguments and defaults stand for. -/
theorem c11RunPublic_distribute (name : String) (hn : name = "expand" ∨ name = "distribute")
    (e : Expr) (po : Option (List Expr)) (co : Option Bool) (fuel : Nat) :
    c11RunPublic c04Classes c04IdentityTable c11Table name (c11DistributeArgs e po co) fuel =
      distM (c11DistributeCfg po co) fuel e := by
  have hp : c11Public c11Table name = some "distribute" := by
    rcases hn with rfl | rfl <;> rfl
  rw [c11RunPublic, hp]
  simp only [c11_entry_distribute_eq]
  rw [← c11DistT_eq]
  simp only [c11Inst, c11DistT, c11Table_distributor, c11DistSelfAttrs, List.zip_cons_cons,
    List.zip_nil_right, bind, Except.bind, pure, Except.pure]
  cases c11Mapper c04Classes c04IdentityTable c11Class_distributor
    [("collector", c11CollVal (c11DistributeCfg po co)), ("const_folder",
      C11Val.inst .commFolder [] [])]
    (c11LeafInst c04Classes c04IdentityTable c11Table) fuel e <;> rfl

theorem c11RunPublic_flatten (e : Expr) (fuel : Nat) :
    c11RunPublic c04Classes c04IdentityTable c11Table "flatten" [.expr e] fuel = flattenM fuel e := by
  have hp : c11Public c11Table "flatten" = some "flatten" := rfl
  rw [c11RunPublic, hp]
  simp only [c11_entry_flatten_eq]
  rw [← c11FlattenT_eq]
  simp only [c11Inst, c11LeafInst, c11FlattenT, c11Table_flatten, List.zip_nil_left, bind,
    Except.bind,
    pure, Except.pure]
  cases c11Mapper c04Classes c04IdentityTable c11Class_flatten [] c11NoInst fuel e <;> rfl

/-! ### the classes instantiated directly -/

theorem c11Construct_plainFolder (d : Nat) :
    c11Construct c11Table (d + 1) .plainFolder [] = .ok (.inst .plainFolder [] []) := by
  simp [c11Construct, c11ClassOf, c11Table, c11FindMethod, c11Class_plainFolder]

theorem c11RunClass_flatten (e : Expr) (fuel : Nat) :
    c11RunClass c04Classes c04IdentityTable c11Table .flattenMapper [] e fuel = flattenM fuel e := by
  rw [c11RunClass, c11Construct_flatten 2, ← c11FlattenT_eq]
  simp only [c11Inst, c11LeafInst, c11FlattenT, c11Table_flatten, List.zip_nil_left, bind,
    Except.bind,
    pure, Except.pure]
  cases c11Mapper c04Classes c04IdentityTable c11Class_flatten [] c11NoInst fuel e <;> rfl

theorem c11RunClass_folder (comm : Bool) (e : Expr) (fuel : Nat) :
    c11RunClass c04Classes c04IdentityTable c11Table (if comm then .commFolder else .plainFolder) [] e
      fuel = foldM comm fuel e := by
  rw [← c11FoldT_eq]
  cases comm
  · simp only [Bool.false_eq_true, if_false, c11RunClass, c11Construct_plainFolder 2, c11Inst,
      c11LeafInst, c11FoldT, List.zip_nil_left, bind, Except.bind, pure, Except.pure,
      c11Table_plainFolder]
    cases c11Mapper c04Classes c04IdentityTable c11Class_plainFolder [] c11NoInst fuel e <;> rfl
  · simp only [if_true, c11RunClass, c11Construct_commFolder 2, c11Inst,
      c11LeafInst, c11FoldT, List.zip_nil_left, bind, Except.bind, pure, Except.pure,
      c11Table_commFolder]
    cases c11Mapper c04Classes c04IdentityTable c11Class_commFolder [] c11NoInst fuel e <;> rfl

theorem c11RunClass_collector (ps : List Expr) (e : Expr) (fuel : Nat) :
    c11RunClass c04Classes c04IdentityTable c11Table .termCollector [.set (ps.map .expr)] e fuel =
      collectM ps fuel e := by
  rw [c11RunClass, c11Construct_collector 2, ← c11CollectT_eq]
  simp only [c11Inst, c11LeafInst, c11CollectT, c11Table_collector, List.zip_cons_cons,
    List.zip_nil_right, bind, Except.bind, pure, Except.pure]
  cases c11Mapper c04Classes c04IdentityTable c11Class_collector
    [("parameters", C11Val.set (ps.map .expr))] c11NoInst fuel e <;> rfl

end PV
