import PV.Proofs.DiffTable
import PV.Generated.Diff
/-
  C10, T-gen: the table regenerated from the source of `pymbolic/mapper/differentiator.py`
  (`PV.Generated.c10DiffTable`), interpreted, gives exactly the hand-written rules of
  `PV/Model/Diff.lean`.  Re-checked whenever the regenerated table changes: an edited derivative
  (`cos ↦ sin`), a lost minus sign in the quotient rule, a changed gate or a swapped child makes one
  of these proofs fail.
-/
namespace PV

open Generated

theorem MathFn.eq_name_of_ofName? {n : String} {fn : MathFn} (h : MathFn.ofName? n = some fn) :
    n = fn.name := by
  unfold MathFn.ofName? at h
  split at h <;> cases h <;> rfl

/-- no entry is for `f`: the `else` of the chain -/
theorem c10FuncMapT_else {m : String} {err : DiffErr} {cfg : Smooth} {f : Expr} {pars : List Expr} :
    ∀ {fns : List C10FnEntry}, (∀ e ∈ fns, c10IsMathF m f e.name = false) →
      c10FuncMapT m err cfg f pars fns = throw err
  | [], _ => rfl
  | e :: rest, h => by
    rw [c10FuncMapT, h e List.mem_cons_self, Bool.false_and, if_neg Bool.false_ne_true]
    exact c10FuncMapT_else fun e he => h e (List.mem_cons_of_mem _ he)

theorem mathFn?_eq_some {f : Expr} {fn : MathFn} (h : mathFn? f = some fn) : f = mathf fn := by
  unfold mathFn? at h
  split at h
  · split at h
    · rw [mathf, ← MathFn.eq_name_of_ofName? h]; simp_all
    · cases h
  · cases h

theorem c10_funcMap_current (cfg : Smooth) (f : Expr) (pars : List Expr) :
    c10FuncMapT c10DiffTable.fnModule c10DiffTable.fnElse cfg f pars c10DiffTable.fns
      = funcMap cfg f pars := by
  cases hf : mathFn? f with
  | none =>
    -- every name of the table is a name of `MathFn`, so no entry is for `f`
    -- (`"math"` is `c10DiffTable.fnModule`, by evaluation)
    have hnames : ∀ e ∈ c10DiffTable.fns, (MathFn.ofName? e.name).isSome = true := by decide +kernel
    have helse : ∀ e ∈ c10DiffTable.fns, c10IsMathF "math" f e.name = false := by
      intro e he
      have hn := hnames e he
      unfold mathFn? at hf
      unfold c10IsMathF
      split
      · rename_i m n
        by_cases hm : m = "math"
        · by_cases hne : n = e.name
          · simp [hm, hne] at hf; simp [hf] at hn
          · simp [hne]
        · simp [hm]
      · rfl
    unfold funcMap
    simp only [hf]
    exact c10FuncMapT_else helse
  | some fn =>
    rw [mathFn?_eq_some hf]
    -- the chain and `funcMap` on `math.<name>`, by evaluation, one length of `pars` at a time;
    -- only the gated entries look at `cfg`
    cases fn with
    | fabs | copysign =>
      cases cfg <;> match pars with
      | [] | [p] | [p, q] | p :: q :: r :: rest => rfl
    | _ =>
      match pars with
      | [] | [p] | [p, q] | p :: q :: r :: rest => rfl

theorem c10_quot_current (f g df dg : Expr) :
    c10RuleEval c10DiffTable.quot f g df dg = liftOp (quotRule f g df dg) := by
  unfold quotRule
  cases hdf : df.truthy <;> cases hdg : dg.truthy <;>
    simp [c10RuleEval, c10BranchEval, c10DiffTable, c10TmEval, C10Env.slot, hdf, hdg, liftOp_bind,
      liftOp_pure, two, zero, one] <;> rfl

theorem c10_pow_current (f g df dg : Expr) :
    c10RuleEval c10DiffTable.pow f g df dg = liftOp (powRule f g df dg) := by
  unfold powRule
  cases hdf : df.truthy <;> cases hdg : dg.truthy <;>
    simp [c10RuleEval, c10BranchEval, c10DiffTable, c10TmEval, C10Env.slot, hdf, hdg, liftOp_bind,
      liftOp_pure, two, zero, one, logCall] <;> rfl

/-- **the regenerated table denotes the hand-written rules** -/
theorem c10_rules_current : c10RulesOf c10DiffTable = c10ModelRules := by
  have h1 : (c10RulesOf c10DiffTable).fm = c10ModelRules.fm := by
    funext cfg f pars; exact c10_funcMap_current cfg f pars
  have h2 : (c10RulesOf c10DiffTable).quot = c10ModelRules.quot := by
    funext f g df dg; exact c10_quot_current f g df dg
  have h3 : (c10RulesOf c10DiffTable).pow = c10ModelRules.pow := by
    funext f g df dg; exact c10_pow_current f g df dg
  have h4 : (c10RulesOf c10DiffTable).ifErr = c10ModelRules.ifErr := by
    funext cfg; cases cfg <;> rfl
  have h8 : (c10RulesOf c10DiffTable).cseZero = c10ModelRules.cseZero := rfl
  have h5 : (c10RulesOf c10DiffTable).constD = c10ModelRules.constD := rfl
  have h6 : (c10RulesOf c10DiffTable).varHit = c10ModelRules.varHit := rfl
  have h7 : (c10RulesOf c10DiffTable).varMiss = c10ModelRules.varMiss := rfl
  cases hR : c10RulesOf c10DiffTable
  cases hM : c10ModelRules
  rw [hR, hM] at h1 h2 h3 h4 h5 h6 h7 h8
  simp only at h1 h2 h3 h4 h5 h6 h7 h8
  subst h1 h2 h3 h4 h5 h6 h7 h8
  rfl

/-- the table-driven differentiator IS the hand-written one -/
theorem c10DiffT_current (cfg : Smooth) (v e : Expr) :
    c10DiffT c10DiffTable cfg v e = diff cfg v e := by
  unfold c10DiffT
  rw [c10_rules_current]
  exact diffG_model cfg v e

end PV
