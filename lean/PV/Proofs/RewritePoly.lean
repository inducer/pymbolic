import PV.Proofs.RewriteSound
/-
  C11, part 5: the polynomial normal form `polyNorm` is sound: an expression of the polynomial
  fragment has, in every field and under every assignment, the value of its normal form.  Hence
  two expressions with the same normal form are equal in every environment — this is what makes
  `polyNorm` a verified per-instance checker of the outputs of the real `expand` / `flatten` /
  folders (translation validation).
-/
namespace PV

universe u
variable {K : Type u} [Field K]

def evalMono (ρ : String → K) : Mono → K
  | [] => 1
  | (x, n) :: m => ρ x ^ n * evalMono ρ m

def evalPoly (ρ : String → K) : Poly → K
  | [] => 0
  | (m, c) :: p => (c : K) * evalMono ρ m + evalPoly ρ p

section
variable (ρ : String → K)

theorem evalMono_insertVar (x : String) (n : Nat) : ∀ b : Mono,
    evalMono ρ (Mono.insertVar x n b) = ρ x ^ n * evalMono ρ b
  | [] => by simp [Mono.insertVar, evalMono]
  | (y, m) :: b => by
      simp only [Mono.insertVar]
      split
      · rename_i h; subst h; simp only [evalMono, pow_add]; ring
      · split
        · simp only [evalMono]
        · simp only [evalMono, evalMono_insertVar x n b]; ring

theorem evalMono_mul : ∀ a b : Mono, evalMono ρ (Mono.mul a b) = evalMono ρ a * evalMono ρ b
  | [], b => by simp [Mono.mul, evalMono]
  | (x, n) :: a, b => by
      simp only [Mono.mul, evalMono_insertVar, evalMono_mul a b, evalMono]; ring

theorem evalPoly_insert (m : Mono) (c : Int) : ∀ p : Poly,
    evalPoly ρ (Poly.insert m c p) = (c : K) * evalMono ρ m + evalPoly ρ p
  | [] => by
      simp only [Poly.insert]
      split
      · rename_i h; simp only [beq_iff_eq] at h; subst h; simp [evalPoly]
      · simp [evalPoly]
  | (m', c') :: rest => by
      simp only [Poly.insert]
      split
      · rename_i hm
        simp only [beq_iff_eq] at hm; subst hm
        split
        · rename_i h0
          simp only [beq_iff_eq] at h0
          have : ((c + c' : Int) : K) = 0 := by rw [h0]; simp
          simp only [evalPoly]
          have h2 : (c : K) = -(c' : K) := by
            have := this; push_cast at this; exact eq_neg_of_add_eq_zero_left this
          rw [h2]; ring
        · simp only [evalPoly]; push_cast; ring
      · split
        · split
          · rename_i h0; simp only [beq_iff_eq] at h0; subst h0; simp [evalPoly]
          · simp [evalPoly]
        · simp only [evalPoly, evalPoly_insert m c rest]; ring

theorem evalPoly_add : ∀ p q : Poly, evalPoly ρ (Poly.add p q) = evalPoly ρ p + evalPoly ρ q := by
  intro p
  induction p with
  | nil => intro q; simp [Poly.add, evalPoly]
  | cons t p ih =>
    intro q
    have := ih (Poly.insert t.1 t.2 q)
    simp only [Poly.add, List.foldl_cons] at this ⊢
    rw [this, evalPoly_insert]
    obtain ⟨m, c⟩ := t
    simp only [evalPoly]; ring

theorem evalPoly_mulTerm_aux (m : Mono) (c : Int) : ∀ (q acc : Poly),
    evalPoly ρ (q.foldl (fun acc t => Poly.insert (Mono.mul m t.1) (c * t.2) acc) acc)
      = evalPoly ρ acc + (c : K) * evalMono ρ m * evalPoly ρ q := by
  intro q
  induction q with
  | nil => intro acc; simp [evalPoly]
  | cons t q ih =>
    intro acc
    obtain ⟨m', c'⟩ := t
    simp only [List.foldl_cons, ih, evalPoly_insert, evalMono_mul, evalPoly]
    push_cast; ring

theorem evalPoly_mulTerm (m : Mono) (c : Int) (q : Poly) :
    evalPoly ρ (Poly.mulTerm m c q) = (c : K) * evalMono ρ m * evalPoly ρ q := by
  simp [Poly.mulTerm, evalPoly_mulTerm_aux, evalPoly]

theorem evalPoly_mul_aux (q : Poly) : ∀ (p acc : Poly),
    evalPoly ρ (p.foldl (fun acc t => Poly.add (Poly.mulTerm t.1 t.2 q) acc) acc)
      = evalPoly ρ acc + evalPoly ρ p * evalPoly ρ q := by
  intro p
  induction p with
  | nil => intro acc; simp [evalPoly]
  | cons t p ih =>
    intro acc
    obtain ⟨m, c⟩ := t
    simp only [List.foldl_cons, ih, evalPoly_add, evalPoly_mulTerm, evalPoly]
    ring

theorem evalPoly_mul (p q : Poly) : evalPoly ρ (Poly.mul p q) = evalPoly ρ p * evalPoly ρ q := by
  simp [Poly.mul, evalPoly_mul_aux, evalPoly]

theorem evalPoly_one : evalPoly ρ Poly.one = 1 := by simp [Poly.one, evalPoly, evalMono]

theorem evalPoly_pow (p : Poly) : ∀ n : Nat, evalPoly ρ (Poly.pow p n) = evalPoly ρ p ^ n
  | 0 => by simp [Poly.pow, evalPoly_one]
  | n + 1 => by simp [Poly.pow, evalPoly_mul, evalPoly_pow p n, pow_succ, mul_comm]

theorem evalPoly_const (n : Int) : evalPoly ρ (Poly.const n) = (n : K) := by
  simp only [Poly.const]
  split
  · rename_i h; simp only [beq_iff_eq] at h; subst h; simp [evalPoly]
  · simp [evalPoly, evalMono]

variable [DecidableEq K]

mutual
/-- the value of an expression of the polynomial fragment is the value of its normal form -/
theorem polyNorm_eval : ∀ (e : Expr) (p : Poly), polyNorm e = some p →
    evalK ρ e = some (evalPoly ρ p)
  | .const (.int n), p, h => by
      simp only [polyNorm, Option.some.injEq] at h; subst h
      simp only [evalK, evalPoly_const]
  | .var x, p, h => by
      simp only [polyNorm, Option.some.injEq] at h; subst h
      simp [evalK, evalPoly, evalMono]
  | .nary .sum cs, p, h => by
      simp only [polyNorm] at h; rw [evalK_sum]; exact polyNormSum_eval cs p h
  | .nary .prod cs, p, h => by
      simp only [polyNorm] at h; rw [evalK_prod]; exact polyNormProd_eval cs p h
  | .bin .pow a (.const (.int n)), p, h => by
      simp only [polyNorm] at h
      split at h
      · contradiction
      · rename_i hn
        cases ha : polyNorm a with
        | none => rw [ha] at h; simp at h
        | some q =>
          rw [ha] at h; simp only [Option.some.injEq] at h; subst h
          rw [evalK_pow_lit, polyNorm_eval a q ha]
          have h0 : ¬ (n < 0 ∧ evalPoly ρ q = 0) := fun h => hn h.1
          simp only [powK, h0, if_false, evalPoly_pow]
          have : n = (n.toNat : Int) := (Int.toNat_of_nonneg (by omega)).symm
          conv_lhs => rw [this]
          rw [zpow_natCast]
  | .cse c _ _, p, h => by
      simp only [polyNorm] at h
      simp only [evalK]; exact polyNorm_eval c p h
  | .const (.bool _), _, h | .const (.flt ..), _, h | .const (.str _), _, h
  | .const .none, _, h => by simp [polyNorm] at h
  | .nary .bor _, _, h | .nary .bxor _, _, h | .nary .band _, _, h
  | .nary .lor _, _, h | .nary .land _, _, h | .nary .min _, _, h
  | .nary .max _, _, h => by simp [polyNorm] at h
  | .bin .quot _ _, _, h | .bin .floordiv _ _, _, h | .bin .rem _ _, _, h
  | .bin .lshift _ _, _, h | .bin .rshift _ _, _, h => by simp [polyNorm] at h
  | .bin .pow _ (.var _), _, h | .bin .pow _ (.nary ..), _, h | .bin .pow _ (.bin ..), _, h
  | .bin .pow _ (.un ..), _, h | .bin .pow _ (.cmp ..), _, h | .bin .pow _ (.ite ..), _, h
  | .bin .pow _ (.call ..), _, h | .bin .pow _ (.callKw ..), _, h
  | .bin .pow _ (.subscript ..), _, h | .bin .pow _ (.lookup ..), _, h
  | .bin .pow _ (.cse ..), _, h | .bin .pow _ (.subst ..), _, h | .bin .pow _ (.deriv ..), _, h
  | .bin .pow _ (.slice ..), _, h | .bin .pow _ .nan, _, h | .bin .pow _ .wildcard, _, h
  | .bin .pow _ (.dotWild ..), _, h | .bin .pow _ (.starWild ..), _, h
  | .bin .pow _ .funcSym, _, h | .bin .pow _ (.tuple ..), _, h | .bin .pow _ (.list ..), _, h
  | .bin .pow _ (.const (.bool _)), _, h | .bin .pow _ (.const (.flt ..)), _, h
  | .bin .pow _ (.const (.str _)), _, h | .bin .pow _ (.const .none), _, h => by
      simp [polyNorm] at h
  | .un .., _, h | .cmp .., _, h | .ite .., _, h | .call .., _, h | .callKw .., _, h
  | .subscript .., _, h | .lookup .., _, h | .subst .., _, h | .deriv .., _, h | .slice .., _, h
  | .nan, _, h | .wildcard, _, h | .dotWild .., _, h | .starWild .., _, h | .funcSym, _, h
  | .tuple .., _, h | .list .., _, h => by simp [polyNorm] at h
theorem polyNormSum_eval : ∀ (cs : List Expr) (p : Poly), polyNormSum cs = some p →
    evalKL ρ false cs = some (evalPoly ρ p)
  | [], p, h => by
      simp only [polyNormSum, Option.some.injEq] at h; subst h; simp [evalKL, evalPoly]
  | c :: cs, p, h => by
      simp only [polyNormSum] at h
      cases hc : polyNorm c with
      | none => rw [hc] at h; simp at h
      | some q =>
        cases hcs : polyNormSum cs with
        | none => rw [hc, hcs] at h; simp at h
        | some r =>
          rw [hc, hcs] at h; simp only [Option.some.injEq] at h; subst h
          rw [evalKL_cons_mk ρ (polyNorm_eval c q hc) (polyNormSum_eval cs r hcs), evalPoly_add]
          simp
theorem polyNormProd_eval : ∀ (cs : List Expr) (p : Poly), polyNormProd cs = some p →
    evalKL ρ true cs = some (evalPoly ρ p)
  | [], p, h => by
      simp only [polyNormProd, Option.some.injEq] at h; subst h; simp [evalKL, evalPoly_one]
  | c :: cs, p, h => by
      simp only [polyNormProd] at h
      cases hc : polyNorm c with
      | none => rw [hc] at h; simp at h
      | some q =>
        cases hcs : polyNormProd cs with
        | none => rw [hc, hcs] at h; simp at h
        | some r =>
          rw [hc, hcs] at h; simp only [Option.some.injEq] at h; subst h
          rw [evalKL_cons_mk ρ (polyNorm_eval c q hc) (polyNormProd_eval cs r hcs), evalPoly_mul]
          simp
end

end

end PV
