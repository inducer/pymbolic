import PV.Proofs.AlgoFft
import Mathlib.Data.ZMod.Basic
import Mathlib.RingTheory.RootsOfUnity.PrimitiveRoots

/-!
  PV.Proofs.AlgoFftMod — (1) the model of `fft` is natural in the carrier (a map that preserves
  `add`, `mul`, `zero` and the twiddles commutes with it); (2) hence the instance the driver runs
  (naturals with `% p` arithmetic) is the image of the `ZMod p` instance of the ring theorem,
  so the driver's answers ARE the DFT modulo `p`; (3) in an integral domain primitive roots are
  principal.
-/

namespace PV.Algo

open Finset

/-! ### naturality of the model -/

section Hom

variable {A : Type*} {B : Type*} (f : A → B)
  (addA mulA : A → A → A) (zeroA : A) (addB mulB : B → B → B) (zeroB : B)

theorem c19_integerPowerLoop_map (hmul : ∀ a b, f (mulA a b) = mulB (f a) (f b))
    (aux x : A) (n : ℕ) :
    f (integerPowerLoop mulA aux x n) = integerPowerLoop mulB (f aux) (f x) n := by
  induction n using Nat.strong_induction_on generalizing aux x with
  | _ n ih =>
    conv_lhs => rw [integerPowerLoop]
    conv_rhs => rw [integerPowerLoop]
    split_ifs with h0 h1 h2
    · exact hmul _ _
    · rw [ih (n / 2) (by omega), hmul, hmul]
    · rw [ih (n / 2) (by omega), hmul]
    · rfl

theorem c19_stride_map (x : List A) (s k : ℕ) (hk : 1 ≤ k) :
    stride (x.map f) s k = (stride x s k).map f := by
  apply List.ext_getElem?
  intro j
  rw [stride_getElem? _ s k j hk, List.getElem?_map, List.getElem?_map,
    stride_getElem? _ s k j hk]

theorem c19VecAdd_map (hadd : ∀ a b, f (addA a b) = addB (f a) (f b)) (a b : List A) :
    (c19VecAdd addA a b).map f = c19VecAdd addB (a.map f) (b.map f) := by
  unfold c19VecAdd
  rw [List.map_zipWith, List.zipWith_map]
  congr 1
  funext a b
  exact hadd a b

theorem c19PySum_map (hadd : ∀ a b, f (addA a b) = addB (f a) (f b)) (hzero : f zeroA = zeroB)
    (ts : List (List A)) :
    (c19PySum addA zeroA ts).map f = c19PySum addB zeroB (ts.map (List.map f)) := by
  cases ts with
  | nil => rfl
  | cons t ts =>
    simp only [c19PySum, List.map_cons]
    have hfold : ∀ (ts : List (List A)) (acc : List A),
        (ts.foldl (c19VecAdd addA) acc).map f =
          (ts.map (List.map f)).foldl (c19VecAdd addB) (acc.map f) := by
      intro ts
      induction ts with
      | nil => intro acc; rfl
      | cons u us ih =>
        intro acc
        simp only [List.foldl_cons, List.map_cons]
        rw [ih, c19VecAdd_map f addA addB hadd]
    rw [hfold]
    congr 1
    simp only [List.map_map]
    refine List.map_congr_left fun v _ => ?_
    simp only [Function.comp]
    rw [hadd, hzero]

theorem c19FftStep_map (hadd : ∀ a b, f (addA a b) = addB (f a) (f b))
    (hmul : ∀ a b, f (mulA a b) = mulB (f a) (f b)) (hzero : f zeroA = zeroB)
    (rpA : ℕ → ℕ → A) (rpB : ℕ → ℕ → B) (hrp : ∀ m k, f (rpA m k) = rpB m k)
    (subA : List A → List A) (subB : List B → List B) (x : List A)
    (hsub : ∀ n1 < (findFactors x.length).1,
      (subA (stride x n1 (findFactors x.length).1)).map f =
        subB ((stride x n1 (findFactors x.length).1).map f)) :
    (c19FftStep addA mulA zeroA rpA subA x).map f =
      c19FftStep addB mulB zeroB rpB subB (x.map f) := by
  unfold c19FftStep
  simp only [List.length_map]
  generalize (findFactors x.length).1 = N1 at *
  generalize (findFactors x.length).2 = N2 at *
  rw [List.map_flatMap]
  refine List.flatMap_congr fun k1 _ => ?_
  rw [c19PySum_map f addA zeroA addB zeroB hadd hzero]
  congr 1
  -- the sub-transform lists correspond
  have hsubs : (List.range N1).map (fun n1 =>
        c19VecMul mulB (subB (stride (x.map f) n1 N1)) (c19Twiddles rpB N1 N2 n1)) =
      ((List.range N1).map fun n1 =>
        c19VecMul mulA (subA (stride x n1 N1)) (c19Twiddles rpA N1 N2 n1)).map (List.map f) := by
    rw [List.map_map]
    refine List.map_congr_left fun n1 hn1 => ?_
    have hn1 : n1 < N1 := List.mem_range.mp hn1
    simp only [Function.comp]
    unfold c19VecMul c19Twiddles
    rw [List.map_zipWith, c19_stride_map f x n1 N1 (by omega), ← hsub n1 hn1]
    simp only [hmul, ← hrp, List.zipWith_map_left, List.zipWith_map_right]
  rw [hsubs]
  simp only [List.zipIdx_map, List.map_map]
  refine List.map_congr_left fun pr _ => ?_
  simp only [Function.comp, Prod.map, id, c19VecScale, List.map_map]
  refine List.map_congr_left fun v _ => ?_
  simp only [Function.comp]
  rw [hmul, hrp]

/-- Naturality of the whole recursion. -/
theorem c19FftAux_map (hadd : ∀ a b, f (addA a b) = addB (f a) (f b))
    (hmul : ∀ a b, f (mulA a b) = mulB (f a) (f b)) (hzero : f zeroA = zeroB)
    (rpA : ℕ → ℕ → A) (rpB : ℕ → ℕ → B) (hrp : ∀ m k, f (rpA m k) = rpB m k) (fuel : ℕ) :
    ∀ x : List A, (c19FftAux addA mulA zeroA rpA fuel x).map f =
      c19FftAux addB mulB zeroB rpB fuel (x.map f) := by
  induction fuel with
  | zero => intro x; rfl
  | succ fuel ih =>
    intro x
    unfold c19FftAux
    simp only [List.length_map]
    split_ifs with h1
    · rfl
    · exact c19FftStep_map f addA mulA zeroA addB mulB zeroB hadd hmul hzero rpA rpB hrp _ _ x
        (fun n1 _ => ih _)

theorem c19Fft_map (hadd : ∀ a b, f (addA a b) = addB (f a) (f b))
    (hmul : ∀ a b, f (mulA a b) = mulB (f a) (f b)) (hzero : f zeroA = zeroB)
    (rpA : ℕ → ℕ → A) (rpB : ℕ → ℕ → B) (hrp : ∀ m k, f (rpA m k) = rpB m k) (x : List A) :
    (c19Fft addA mulA zeroA rpA x).map f = c19Fft addB mulB zeroB rpB (x.map f) := by
  unfold c19Fft
  rw [List.length_map]
  exact c19FftAux_map f addA mulA zeroA addB mulB zeroB hadd hmul hzero rpA rpB hrp _ x

end Hom

/-! ### the driver's instance: naturals with `% p` arithmetic = image of `ZMod p` under `val` -/

section Mod

variable (p : ℕ) [NeZero p]

omit [NeZero p] in
theorem c19RpMod_eq_val (n z m k : ℕ) :
    c19RpMod p n z m k = ((z : ZMod p) ^ (n / m * k)).val := by
  unfold c19RpMod integerPower
  rw [← integerPower_eq_pow, integerPower,
    c19_integerPowerLoop_map (ZMod.val (n := p)) (· * ·) (c19MulMod p)
      (fun a b => ZMod.val_mul a b)]
  congr 1
  · rw [ZMod.val_one_eq_one_mod]
  · rw [ZMod.val_natCast]

/-- The transform the driver computes over `Z_p` is the `val`-image of the ring-generic model
instantiated at `ZMod p`. -/
theorem c19FftMod_eq_val (z : ℕ) (x : List ℕ) (rp : ℕ → ℕ → ZMod p)
    (hrp : ∀ m k, rp m k = (z : ZMod p) ^ (x.length / m * k)) :
    c19Fft (c19AddMod p) (c19MulMod p) 0 (c19RpMod p x.length z) (x.map (· % p)) =
      (c19Fft (· + ·) (· * ·) (0 : ZMod p) rp (x.map (Nat.cast))).map ZMod.val := by
  rw [c19Fft_map (ZMod.val (n := p)) (· + ·) (· * ·) 0 (c19AddMod p) (c19MulMod p) 0
    (fun a b => ZMod.val_add a b) (fun a b => ZMod.val_mul a b) ZMod.val_zero rp
    (c19RpMod p x.length z) (fun m k => by rw [c19RpMod_eq_val, hrp])]
  congr 1
  rw [List.map_map]
  refine List.map_congr_left fun a _ => ?_
  simp only [Function.comp, ZMod.val_natCast]

/-- DFT modulo `p` written with naturals only. -/
def c19DftMod (p z : ℕ) (x : List ℕ) : List ℕ :=
  (List.range x.length).map fun k => (∑ j ∈ range x.length, z ^ (k * j) * x.getD j 0) % p

omit [NeZero p] in
theorem c19DftMod_eq_val (z : ℕ) (x : List ℕ) :
    c19DftMod p z x = (c19Dft (z : ZMod p) (x.map Nat.cast)).map ZMod.val := by
  unfold c19DftMod c19Dft
  rw [List.map_map, List.length_map]
  refine List.map_congr_left fun k _ => ?_
  simp only [Function.comp]
  rw [← ZMod.val_natCast p]
  congr 1
  push_cast
  refine Finset.sum_congr rfl fun j _ => ?_
  congr 1
  rw [List.getD_eq_getElem?_getD, List.getD_eq_getElem?_getD, List.getElem?_map]
  cases x[j]? <;> simp

/-- What the compiled driver answers to `(c19-fft p z (x…))` is exactly the DFT modulo `p`,
for every modulus `p ≥ 1`, every `z` with `z^n ≡ 1 (mod p)` and every vector of length `n ≥ 1`. -/
theorem c19FftMod_eq_dftMod (z : ℕ) (x : List ℕ) (hpos : 1 ≤ x.length)
    (hz : z ^ x.length % p = 1 % p) :
    c19FftMod p z x = some (c19DftMod p z x) := by
  have hzz : (z : ZMod p) ^ x.length = 1 := by
    have := (ZMod.natCast_eq_natCast_iff' (z ^ x.length) 1 p).mpr hz
    simpa using this
  unfold c19FftMod c19FftPy
  rw [List.length_map]
  have hne : findFactorsPy x.length ≠ none := by
    rw [Ne, findFactorsPy_eq_none_iff]; omega
  cases hff : findFactorsPy x.length with
  | none => exact absurd hff hne
  | some v =>
    simp only []
    rw [c19FftMod_eq_val p z x (fun m k => (z : ZMod p) ^ (x.length / m * k)) (fun _ _ => rfl),
      c19Fft_eq_dft (z : ZMod p) _ (x.map Nat.cast) (by simpa using hpos) (by simpa using hzz)
        (by intro m k _; simp),
      c19DftMod_eq_val]

end Mod

/-! ### primitive roots in integral domains are principal -/

theorem c19Principal_of_isPrimitiveRoot {R : Type*} [CommRing R] [IsDomain R] {z : R} {n : ℕ}
    (h : IsPrimitiveRoot z n) : c19Principal z n := by
  intro d hd0 hdn
  have hne : z ^ d ≠ 1 := h.pow_ne_one_of_pos_of_lt hd0.ne' hdn
  have hg : (1 - z ^ d) * ∑ k ∈ range n, (z ^ d) ^ k = 1 - (z ^ d) ^ n := mul_neg_geom_sum _ _
  rw [← pow_mul, mul_comm d n, pow_mul, h.pow_eq_one, one_pow, sub_self] at hg
  have h0 := (mul_eq_zero.mp hg).resolve_left (sub_ne_zero_of_ne hne.symm)
  rw [← h0]
  exact Finset.sum_congr rfl fun k _ => by rw [← pow_mul, mul_comm]

end PV.Algo
