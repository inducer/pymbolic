import PV.Proofs.RewriteTableBase
-- one `simp` call with the common lemma set closes several cases; not every lemma fires in each
set_option linter.unusedSimpArgs false
/-
  C11 (T-gen), part 2: `FlattenMapper` — the two handler bodies of the table, interpreted, are the
  two equations of `flattenM`; every other node goes through the inherited C04 row.
-/
namespace PV
open PV.Generated (c04Classes c04IdentityTable)
open PV.C11Expected

theorem c11_flat_map_sum (ctx : C11Ctx) (fuel : Nat) (cs : List Expr) :
    c11ToRw (c11RunFn ctx fuel c11_FlattenMapper_map_sum [.expr (.nary .sum cs)])
      = (do pure (flattenedSum (← cs.mapM ctx.recur))) := by
  simp [c11RunFn, c11_FlattenMapper_map_sum, c11RunBody, c11Frame, c11ExecL, c11Exec, c11Eval,
    c11EvalL, c11Get, c11Attr, Expr.c04Field, Expr.c04Fields, c04Assoc, c11Items, c11MapM_map,
    c11Bind, c11Push, c11MapM_lift]
  cases h : cs.mapM ctx.recur with
  | error e => simp [c11Apply, c11OutToR, c11ToRw, bind, Except.bind, throw, throwThe,
      MonadExceptOf.throw, Functor.map, Except.map]
  | ok rs => simp [c11Apply, c11OutToR, c11ToRw, bind, Except.bind, c11AsExprs_exprs, pure,
      Except.pure, Functor.map, Except.map]

theorem c11_flat_map_product (ctx : C11Ctx) (fuel : Nat) (cs : List Expr) :
    c11ToRw (c11RunFn ctx fuel c11_FlattenMapper_map_product [.expr (.nary .prod cs)])
      = (do flatProd (← cs.mapM ctx.recur)) := by
  simp [c11RunFn, c11_FlattenMapper_map_product, c11RunBody, c11Frame, c11ExecL, c11Exec, c11Eval,
    c11EvalL, c11Get, c11Attr, Expr.c04Field, Expr.c04Fields, c04Assoc, c11Items, c11MapM_map,
    c11Bind, c11Push, c11MapM_lift]
  cases h : cs.mapM ctx.recur with
  | error e => simp [c11Apply, c11OutToR, c11ToRw, bind, Except.bind, throw, throwThe,
      MonadExceptOf.throw, Functor.map, Except.map]
  | ok rs =>
    cases h2 : flatProd rs <;>
    simp [c11Apply, c11OutToR, c11ToRw, bind, Except.bind, c11AsExprs_exprs, pure,
      Except.pure, Functor.map, Except.map, h2, c11Lift, throw, throwThe, MonadExceptOf.throw]

/-- the table-driven `FlattenMapper` -/
def c11FlattenT : Nat → Expr → RwR :=
  c11Mapper c04Classes c04IdentityTable c11Class_flatten [] c11NoInst

theorem c11FlattenT_eq : ∀ (fuel : Nat) (e : Expr), c11FlattenT fuel e = flattenM fuel e
  | 0, _ => rfl
  | fuel + 1, e => by
    have ih : c11FlattenT fuel = flattenM fuel := funext (c11FlattenT_eq fuel)
    unfold c11FlattenT at ih ⊢
    rw [c11Mapper]
    generalize hS : (⟨c04Classes, c04IdentityTable, c11Class_flatten, [],
      c11Mapper c04Classes c04IdentityTable c11Class_flatten [] c11NoInst fuel,
      c11NoInst fuel⟩ : C11Self) = S
    have hr : S.recur = flattenM fuel := by rw [← hS]; exact ih
    have hcls : S.cls = c11Class_flatten := by rw [← hS]
    have hc : S.classes = c04Classes := by rw [← hS]
    have hi : S.ident = c04IdentityTable := by rw [← hS]
    have inh : ∀ n, c11HandlerOf e = .ok n → c11FindMethod n S.cls.methods = none →
        c11Handle S fuel e = idMap (flattenM fuel) e := fun n hn hm => by
      rw [c11Handle_inherited S hc hi fuel e n hn hm, hr]
    have plain : c11Overridden e = false → c11Handle S fuel e = idMap (flattenM fuel) e :=
      fun he => by rw [c11Handle_plain S hc hi (by rw [hcls]; repeat constructor) fuel e he, hr]
    cases e with
    | nary o cs =>
      cases o with
      | sum =>
        rw [c11Handle_eq S hc hi]
        simp only [c11HandlerOf, c11Depth]
        rw [c11CallSelf_own S fuel 3 "map_sum" _ "map_sum" "FlattenMapper" c11_FlattenMapper_map_sum
          (by rw [hcls]; rfl), c11_flat_map_sum]
        simp only [c11CtxOf, hr, flattenM]
      | prod =>
        rw [c11Handle_eq S hc hi]
        simp only [c11HandlerOf, c11Depth]
        rw [c11CallSelf_own S fuel 3 "map_product" _ "map_product" "FlattenMapper"
          c11_FlattenMapper_map_product (by rw [hcls]; rfl), c11_flat_map_product]
        simp only [c11CtxOf, hr, flattenM]
      | _ => (rw [plain rfl]; rfl)
    | const k => rw [plain rfl]; cases k <;> rfl
    | bin o a b =>
      cases o with
      | quot => (rw [inh _ rfl (by rw [hcls]; rfl)]; rfl)
      | pow => (rw [inh _ rfl (by rw [hcls]; rfl)]; rfl)
      | _ => (rw [plain rfl]; rfl)
    | cse c p s => (rw [inh _ rfl (by rw [hcls]; rfl)]; rfl)
    | _ => (rw [plain rfl]; rfl)

end PV
