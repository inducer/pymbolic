import PV.Model.Cse
/-
  C12 helper: forgetting the event log, the instrumented evaluator `evalTr` IS the plain evaluator
  `evalG false` of C02 (same result, same CSE cache), for every expression and every state.
-/
namespace PV

theorem withMemo_false (e : Expr) (k : EvM Value) : withMemo false e k = k := by
  funext s; simp [withMemo]

/-- `m` (on logs) and `k` (on evaluator states) compute the same result and the same cache -/
def Er {α : Type} (m : TrM α) (k : EvM α) : Prop :=
  ∀ (t : Log) (mem : List (Expr × Value)),
    (m t).1 = (k ⟨cacheOf t, mem⟩).1 ∧ (k ⟨cacheOf t, mem⟩).2 = ⟨cacheOf (m t).2, mem⟩

theorem Er.pure {α} (a : α) : Er (TrM.pure a) (EvM.pure a) := fun _ _ => ⟨rfl, rfl⟩
theorem Er.throw {α} (e : Err) : Er (TrM.throw e : TrM α) (EvM.throw e) := fun _ _ => ⟨rfl, rfl⟩
theorem Er.lift {α} (x : Except Err α) : Er (TrM.lift x) (EvM.lift x) := fun _ _ => ⟨rfl, rfl⟩

theorem Er.bind {α β} {m : TrM α} {k : EvM α} {f : α → TrM β} {g : α → EvM β}
    (h : Er m k) (hf : ∀ a, Er (f a) (g a)) : Er (m >>= f) (k >>= g) := by
  intro t mem
  obtain ⟨h1, h2⟩ := h t mem
  show (TrM.bind m f t).1 = (EvM.bind k g ⟨cacheOf t, mem⟩).1 ∧
    (EvM.bind k g ⟨cacheOf t, mem⟩).2 = ⟨cacheOf (TrM.bind m f t).2, mem⟩
  cases hm : m t with
  | mk r t1 =>
    cases hk : k ⟨cacheOf t, mem⟩ with
    | mk r' s1 =>
      rw [hm, hk] at h1 h2
      simp only at h1 h2
      subst h1; subst h2
      cases r with
      | error e => simp only [TrM.bind, EvM.bind, hm, hk]; exact ⟨trivial, trivial⟩
      | ok a =>
        simp only [TrM.bind, EvM.bind, hm, hk]
        exact hf a t1 mem

theorem Er.ite {α} {c : Bool} {m1 m2 : TrM α} {k1 k2 : EvM α} (h1 : Er m1 k1) (h2 : Er m2 k2) :
    Er (if c then m1 else m2) (if c then k1 else k2) := by
  cases c <;> simpa

theorem Er.call (fv : Value) (args : List Value) (ns : List String) (kvs : List Value) :
    Er (callTr fv args ns kvs) (EvM.lift (fv.call args ns kvs)) := by
  intro t mem
  unfold callTr
  cases fv <;> exact ⟨rfl, rfl⟩

theorem Er.cse {env : Env} {c : Expr} {p : Option String} {sc : String}
    (hc : Er (evalTr env c) (evalNode false env c)) :
    Er (evalTr env (.cse c p sc)) (evalNode false env (.cse c p sc)) := by
  intro t mem
  simp only [evalTr, evalNode, withMemo_false]
  by_cases hl : c.hasList = true
  · simp only [hl, if_true]; exact ⟨trivial, trivial⟩
  · simp only [hl, Bool.false_eq_true, if_false]
    cases hf : findBy Expr.pyEq (.cse c p sc) (cacheOf t) with
    | some v => exact ⟨rfl, rfl⟩
    | none =>
      obtain ⟨h1, h2⟩ := hc t mem
      cases hm : evalTr env c t with
      | mk r t1 =>
        cases hk : evalNode false env c ⟨cacheOf t, mem⟩ with
        | mk r' s1 =>
          rw [hm, hk] at h1 h2
          simp only at h1 h2
          subst h1; subst h2
          cases r with
          | error e => exact ⟨rfl, rfl⟩
          | ok v => exact ⟨rfl, rfl⟩

mutual
theorem node_er (env : Env) : ∀ e, Er (evalTr env e) (evalNode false env e)
  | .const c => by simp only [evalTr, evalNode]; exact Er.lift _
  | .var x => by
      simp only [evalTr, evalNode]
      cases env.get x with
      | none => exact Er.throw _
      | some v => exact Er.pure _
  | .nary .sum cs | .nary .prod cs => by simp only [evalTr, evalNode]; exact fold_er env _ _ cs
  | .nary .bor cs | .nary .bxor cs | .nary .band cs => by
      simp only [evalTr, evalNode]; exact reduce_er env _ cs
  | .nary .lor cs => by simp only [evalTr, evalNode]; exact any_er env cs
  | .nary .land cs => by simp only [evalTr, evalNode]; exact all_er env cs
  | .nary .min cs | .nary .max cs => by simp only [evalTr, evalNode]; exact minmax_er env _ none cs
  | .bin o a b => by
      simp only [evalTr, evalNode, withMemo_false]
      exact Er.bind (node_er env a) fun x => Er.bind (node_er env b) fun y => Er.lift _
  | .un .bnot a => by
      simp only [evalTr, evalNode, withMemo_false]
      exact Er.bind (node_er env a) fun x => Er.lift _
  | .un .lnot a => by
      simp only [evalTr, evalNode, withMemo_false]
      exact Er.bind (node_er env a) fun x => Er.bind (Er.lift _) fun t => Er.pure _
  | .cmp o a b => by
      simp only [evalTr, evalNode, withMemo_false]
      exact Er.bind (node_er env a) fun x => Er.bind (node_er env b) fun y => Er.lift _
  | .ite c t e => by
      simp only [evalTr, evalNode, withMemo_false]
      exact Er.bind (node_er env c) fun cv => Er.bind (Er.lift _) fun tv =>
        Er.ite (node_er env t) (node_er env e)
  | .call f as => by
      simp only [evalTr, evalNode, withMemo_false]
      exact Er.bind (node_er env f) fun fv => Er.bind (list_er env as) fun avs => Er.call _ _ _ _
  | .callKw f as ns vs => by
      simp only [evalTr, evalNode, withMemo_false]
      exact Er.bind (list_er env as) fun avs => Er.bind (list_er env vs) fun kvs =>
        Er.bind (node_er env f) fun fv => Er.call _ _ _ _
  | .subscript a i => by
      simp only [evalTr, evalNode, withMemo_false]
      exact Er.bind (node_er env a) fun x => Er.bind (node_er env i) fun y => Er.lift _
  | .lookup a n => by
      simp only [evalTr, evalNode, withMemo_false]
      exact Er.bind (node_er env a) fun x => Er.lift _
  | .cse c p sc => Er.cse (node_er env c)
  | .nan => by simp only [evalTr, evalNode]; exact Er.pure _
  | .subst .. | .deriv .. | .slice _ | .wildcard | .dotWild _ | .starWild _ | .funcSym => by
      simp only [evalTr, evalNode]; exact Er.throw _
  | .tuple cs | .list cs => by
      simp only [evalTr, evalNode]
      exact Er.bind (list_er env cs) fun vs => Er.pure _
theorem fold_er (env : Env) (o : NaryOp) :
    ∀ (acc : Value) (cs : List Expr), Er (evalTrFold env o acc cs) (evalFold false env o acc cs)
  | acc, [] => by simp only [evalTrFold, evalFold]; exact Er.pure _
  | acc, c :: cs => by
      simp only [evalTrFold, evalFold, withMemo_false]
      exact Er.bind (node_er env c) fun v => Er.bind (Er.lift _) fun acc' => fold_er env o acc' cs
theorem reduce_er (env : Env) (o : NaryOp) :
    ∀ (cs : List Expr), Er (evalTrReduce env o cs) (evalReduce false env o cs)
  | [] => by simp only [evalTrReduce, evalReduce]; exact Er.throw _
  | c :: cs => by
      simp only [evalTrReduce, evalReduce, withMemo_false]
      exact Er.bind (node_er env c) fun v => fold_er env o v cs
theorem any_er (env : Env) : ∀ (cs : List Expr), Er (evalTrAny env cs) (evalAny false env cs)
  | [] => by simp only [evalTrAny, evalAny]; exact Er.pure _
  | c :: cs => by
      simp only [evalTrAny, evalAny, withMemo_false]
      exact Er.bind (node_er env c) fun v => Er.bind (Er.lift _) fun t =>
        Er.ite (Er.pure _) (any_er env cs)
theorem all_er (env : Env) : ∀ (cs : List Expr), Er (evalTrAll env cs) (evalAll false env cs)
  | [] => by simp only [evalTrAll, evalAll]; exact Er.pure _
  | c :: cs => by
      simp only [evalTrAll, evalAll, withMemo_false]
      exact Er.bind (node_er env c) fun v => Er.bind (Er.lift _) fun t =>
        Er.ite (all_er env cs) (Er.pure _)
theorem minmax_er (env : Env) (isMin : Bool) :
    ∀ (cur : Option Value) (cs : List Expr),
      Er (evalTrMinMax env isMin cur cs) (evalMinMax false env isMin cur cs)
  | cur, [] => by
      simp only [evalTrMinMax, evalMinMax]
      cases cur with
      | none => exact Er.throw _
      | some m => exact Er.pure _
  | cur, c :: cs => by
      simp only [evalTrMinMax, evalMinMax, withMemo_false]
      refine Er.bind (node_er env c) fun v => ?_
      cases cur with
      | none => exact minmax_er env isMin (some v) cs
      | some m => exact Er.bind (Er.lift _) fun better => minmax_er env isMin _ cs
theorem list_er (env : Env) : ∀ (cs : List Expr), Er (evalTrList env cs) (evalList false env cs)
  | [] => by simp only [evalTrList, evalList]; exact Er.pure _
  | c :: cs => by
      simp only [evalTrList, evalList, withMemo_false]
      exact Er.bind (node_er env c) fun v => Er.bind (list_er env cs) fun vs => Er.pure _
end

/-- the results of a history on the instrumented evaluator are those of C02's `runHist` -/
theorem runTr_eq_runHist (env : Env) : ∀ (es : List Expr) (t : Log) (mem : List (Expr × Value)),
    (runTr env es t).1 = runHist false env es ⟨cacheOf t, mem⟩
  | [], _, _ => rfl
  | e :: es, t, mem => by
    obtain ⟨h1, h2⟩ := node_er env e t mem
    simp only [runTr, runHist, evalG, withMemo_false]
    cases hm : evalTr env e t with
    | mk r t1 =>
      cases hk : evalNode false env e ⟨cacheOf t, mem⟩ with
      | mk r' s1 =>
        rw [hm, hk] at h1 h2
        simp only at h1 h2
        subst h1; subst h2
        simp only
        rw [← runTr_eq_runHist env es t1 mem]

end PV
