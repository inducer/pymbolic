import PV.Model.Coeff
import PV.Proofs.AlgoArith
import Mathlib.Tactic.Ring
import Mathlib.Data.Rat.Defs
import Mathlib.Data.Rat.Cast.Defs
import Mathlib.Algebra.Order.Field.Rat
/-
  C15 helper lemmas: the row operations of `gaussian_elimination` (as modelled by `gaussElim`)
  preserve the rational solution set, and the values read off by `solveCol` satisfy the reduced
  rows when these have the single-entry shape.
-/
namespace PV.Coeff
open PV

/-- `Σ_k r[k] * x (i + k)` -/
def dotFrom (x : Nat → ℚ) : Nat → Row → ℚ
  | _, [] => 0
  | i, a :: as => (a : ℚ) * x i + dotFrom x (i + 1) as

def dot (x : Nat → ℚ) (r : Row) : ℚ := dotFrom x 0 r

/-- residual of an augmented row `(a | b)` at unknown values `x` and parameter values `p`:
`a·x - b·p` -/
def res (x p : Nat → ℚ) (r : ARow) : ℚ := dot x r.1 - dot p r.2

def Holds (x p : Nat → ℚ) (r : ARow) : Prop := res x p r = 0

def AllHold (x p : Nat → ℚ) (s : List ARow) : Prop := ∀ r ∈ s, Holds x p r

/-- every row has `n` matrix entries and `w` right-hand entries -/
def Rect (n w : Nat) (s : List ARow) : Prop := ∀ r ∈ s, r.1.length = n ∧ r.2.length = w

variable {x p : Nat → ℚ}

theorem allHold_cons {r : ARow} {s : List ARow} :
    AllHold x p (r :: s) ↔ Holds x p r ∧ AllHold x p s :=
  List.forall_mem_cons

theorem rect_cons {n w : Nat} {r : ARow} {s : List ARow} :
    Rect n w (r :: s) ↔ (r.1.length = n ∧ r.2.length = w) ∧ Rect n w s :=
  List.forall_mem_cons

theorem comb_cons (uf pf a b : Int) (as bs : Row) :
    comb uf pf (a :: as) (b :: bs) = (uf * a - pf * b) :: comb uf pf as bs := rfl

theorem dotFrom_comb (uf pf : Int) (a b : Row) (i : Nat) (h : a.length = b.length) :
    dotFrom x i (comb uf pf a b) = uf * dotFrom x i a - pf * dotFrom x i b := by
  induction a generalizing b i with
  | nil =>
    cases b with
    | nil =>
      rw [dotFrom, mul_zero, mul_zero, sub_zero]
      rfl
    | cons => nomatch h
  | cons a as ih =>
    cases b with
    | nil => nomatch h
    | cons b bs =>
      rw [comb_cons, dotFrom, dotFrom, dotFrom, ih bs (i + 1) (Nat.succ.inj h), Int.cast_sub,
        Int.cast_mul, Int.cast_mul]
      ring

theorem length_comb (uf pf : Int) (a b : Row) (h : a.length = b.length) :
    (comb uf pf a b).length = a.length := by
  rw [comb, List.length_zipWith, ← h, Nat.min_self]

theorem dotFrom_zeros (r : Row) (i : Nat) (h : ∀ a ∈ r, a = 0) : dotFrom x i r = 0 := by
  induction r generalizing i with
  | nil => rfl
  | cons a as ih =>
    obtain ⟨ha, has⟩ := List.forall_mem_cons.1 h
    rw [dotFrom, ha, Int.cast_zero, zero_mul, zero_add, ih (i + 1) has]

theorem rowGet_cons_zero (a : Int) (as : Row) : rowGet (a :: as) 0 = a := rfl
theorem rowGet_cons_succ (a : Int) (as : Row) (j : Nat) : rowGet (a :: as) (j + 1) = rowGet as j :=
  rfl

theorem rowGet_of_getElem? {r : Row} {j : Nat} {a : Int} (h : r[j]? = some a) : rowGet r j = a := by
  rw [rowGet, List.getD_eq_getElem?_getD, h, Option.getD_some]

theorem rowGet_ne_mem {r : Row} {j : Nat} (h : rowGet r j ≠ 0) : rowGet r j ∈ r := by
  cases hj : r[j]? with
  | none => rw [rowGet, List.getD_eq_getElem?_getD, hj] at h; exact absurd rfl h
  | some a => rw [rowGet_of_getElem? hj]; exact List.mem_of_getElem? hj

/-- a row with at most one non-zero entry, at column `j` -/
theorem dotFrom_single (r : Row) (i j : Nat) (hl : (r.filter (· ≠ 0)).length ≤ 1)
    (hj : rowGet r j ≠ 0) : dotFrom x i r = (rowGet r j : ℚ) * x (i + j) := by
  induction r generalizing i j with
  | nil => exact absurd rfl hj
  | cons a as ih =>
    by_cases ha : a = 0
    · subst ha
      cases j with
      | zero => exact absurd rfl hj
      | succ j =>
        rw [dotFrom, Int.cast_zero, zero_mul, zero_add, rowGet_cons_succ, ih (i + 1) j hl hj,
          Nat.add_right_comm, Nat.add_assoc]
    · -- `a` is the non-zero entry: the rest of the row is zero
      rw [List.filter_cons_of_pos (p := fun b => decide (b ≠ 0)) (decide_eq_true ha)] at hl
      have hnil := List.filter_eq_nil_iff.1
        (List.length_eq_zero_iff.1 (Nat.le_zero.1 (Nat.le_of_succ_le_succ hl)))
      have hz : ∀ b ∈ as, b = 0 := fun b hb => of_not_not fun hb0 => hnil b hb (decide_eq_true hb0)
      cases j with
      | zero => rw [dotFrom, dotFrom_zeros as _ hz, add_zero, rowGet_cons_zero, Nat.add_zero]
      | succ j => exact absurd (hz _ (rowGet_ne_mem hj)) hj

theorem dotFrom_map_fdiv (g : Int) (r : Row) (i : Nat) (h : ∀ a ∈ r, g ∣ a) :
    (g : ℚ) * dotFrom x i (r.map (Int.fdiv · g)) = dotFrom x i r := by
  induction r generalizing i with
  | nil => exact mul_zero _
  | cons a as ih =>
    obtain ⟨ha, has⟩ := List.forall_mem_cons.1 h
    rw [List.map_cons, dotFrom, dotFrom, mul_add, ih (i + 1) has, ← mul_assoc, mul_comm (g : ℚ),
      ← Int.cast_mul, Int.fdiv_mul_cancel ha]

/-! ### one elimination step -/

theorem lcm_fac_ne_zero {a b : Int} (ha : a ≠ 0) (hb : b ≠ 0) :
    Int.fdiv ((Algo.lcm a b).getD 0) a ≠ 0 := by
  cases hl : Algo.lcm a b with
  | none => exact absurd ((Algo.lcm_eq_none_iff a b).1 hl).1 ha
  | some l =>
    have hn := Algo.lcm_natAbs a b l hl
    have hdvd : a ∣ l := by
      rw [← Int.natAbs_dvd_natAbs, hn]
      exact Nat.dvd_lcm_left _ _
    intro h0
    have hl0 := Int.fdiv_mul_cancel hdvd
    rw [Option.getD_some] at h0
    rw [h0, zero_mul] at hl0
    rw [← hl0, Int.natAbs_zero] at hn
    exact Int.lcm_ne_zero ha hb hn.symm

theorem res_comb (uf pf : Int) {r q : ARow} (h1 : r.1.length = q.1.length)
    (h2 : r.2.length = q.2.length) :
    res x p (comb uf pf r.1 q.1, comb uf pf r.2 q.2) = uf * res x p r - pf * res x p q := by
  simp only [res, dot, dotFrom_comb _ _ _ _ _ h1, dotFrom_comb _ _ _ _ _ h2]
  ring

theorem holds_elimRow {j : Nat} {piv r : ARow} (hp : Holds x p piv) (hpj : rowGet piv.1 j ≠ 0)
    (h1 : r.1.length = piv.1.length) (h2 : r.2.length = piv.2.length) :
    Holds x p (elimRow j piv r) ↔ Holds x p r := by
  simp only [elimRow]
  split
  · rfl
  · -- `u·res r - v·res piv = 0 ↔ res r = 0`, as `res piv = 0` and `u ≠ 0`
    rename_i ha
    rw [Holds, res_comb _ _ h1 h2, show res x p piv = 0 from hp, mul_zero, sub_zero, mul_eq_zero,
      or_iff_right (Int.cast_ne_zero.2 (lcm_fac_ne_zero ha hpj))]
    rfl

theorem length_elimRow {j n w : Nat} {piv r : ARow} (hn : piv.1.length = n) (hw : piv.2.length = w)
    (h1 : r.1.length = n) (h2 : r.2.length = w) :
    (elimRow j piv r).1.length = n ∧ (elimRow j piv r).2.length = w := by
  simp only [elimRow]
  split
  · exact ⟨h1, h2⟩
  · exact ⟨(length_comb _ _ _ _ (h1.trans hn.symm)).trans h1,
      (length_comb _ _ _ _ (h2.trans hw.symm)).trans h2⟩

theorem elimAll_holds {j i n w : Nat} {piv : ARow} (hp : Holds x p piv) (hpj : rowGet piv.1 j ≠ 0)
    (hn : piv.1.length = n) (hw : piv.2.length = w) (s : List ARow) (u : Nat) (h : Rect n w s) :
    AllHold x p (elimAll j i piv u s) ↔ AllHold x p s := by
  induction s generalizing u with
  | nil => rfl
  | cons r rs ih =>
    obtain ⟨hr, hrs⟩ := rect_cons.1 h
    rw [elimAll, allHold_cons, allHold_cons, ih (u + 1) hrs]
    split
    · rfl
    · rw [holds_elimRow hp hpj (hr.1.trans hn.symm) (hr.2.trans hw.symm)]

theorem elimAll_rect {j i n w : Nat} {piv : ARow} (hn : piv.1.length = n) (hw : piv.2.length = w)
    (s : List ARow) (u : Nat) (h : Rect n w s) : Rect n w (elimAll j i piv u s) := by
  induction s generalizing u with
  | nil => exact h
  | cons r rs ih =>
    obtain ⟨hr, hrs⟩ := rect_cons.1 h
    rw [elimAll]
    refine rect_cons.2 ⟨?_, ih (u + 1) hrs⟩
    split
    · exact hr
    · exact length_elimRow hn hw hr.1 hr.2

/-- the pivot row (row `i`; `u` is the index of the head of the list) stays in place -/
theorem elimAll_mem_pivot {j i : Nat} {piv : ARow} (s : List ARow) (u k : Nat) (hu : u + k = i)
    (h : s[k]? = some piv) : piv ∈ elimAll j i piv u s := by
  induction s generalizing u k with
  | nil => nomatch h
  | cons r rs ih =>
    rw [elimAll]
    cases k with
    | zero =>
      rw [if_pos (show u = i from hu), Option.some.inj h]
      exact List.mem_cons_self
    | succ k =>
      exact List.mem_cons_of_mem _ (ih (u + 1) k ((Nat.add_right_comm u 1 k).trans hu) h)

/-- one round of elimination with the pivot row `b` at position `i` -/
theorem elimAll_spec {j i n w : Nat} {b : ARow} {s : List ARow} (h : Rect n w s)
    (hb : s[i]? = some b) (hbj : rowGet b.1 j ≠ 0) :
    (AllHold x p (elimAll j i b 0 s) ↔ AllHold x p s) ∧ Rect n w (elimAll j i b 0 s) := by
  obtain ⟨hn, hw⟩ := h b (List.mem_of_getElem? hb)
  refine ⟨⟨fun hh => ?_, fun hh => ?_⟩, elimAll_rect hn hw s 0 h⟩
  · exact (elimAll_holds (hh b (elimAll_mem_pivot s 0 i (Nat.zero_add i) hb)) hbj hn hw s 0 h).1 hh
  · exact (elimAll_holds (hh b (List.mem_of_getElem? hb)) hbj hn hw s 0 h).2 hh

/-! ### swapping two rows -/

theorem swapRows_mem {s : List ARow} {i k : Nat} {r : ARow} :
    r ∈ swapRows s i k ↔ r ∈ s := by
  unfold swapRows
  split
  · rename_i a b ha hb
    have hai : i < s.length := (List.getElem?_eq_some_iff.1 ha).1
    constructor
    · intro h
      rcases List.mem_or_eq_of_mem_set h with h | rfl
      · rcases List.mem_or_eq_of_mem_set h with h | rfl
        · exact h
        · exact List.mem_of_getElem? hb
      · exact List.mem_of_getElem? ha
    · intro h
      obtain ⟨m, hm⟩ := List.mem_iff_getElem?.1 h
      rw [List.mem_iff_getElem?]
      by_cases hmi : m = i
      · refine ⟨k, ?_⟩
        have hbk : k < (s.set i b).length := by
          rw [List.length_set]
          exact (List.getElem?_eq_some_iff.1 hb).1
        rw [List.getElem?_set_self hbk, ← ha, ← hmi, hm]
      · by_cases hmk : m = k
        · refine ⟨i, ?_⟩
          rw [List.getElem?_set_ne (fun h => hmi (hmk.trans h)), List.getElem?_set_self hai, ← hb,
            ← hmk, hm]
        · refine ⟨m, ?_⟩
          rw [List.getElem?_set_ne (Ne.symm hmk), List.getElem?_set_ne (Ne.symm hmi), hm]
  · rfl

theorem allHold_swapRows {s : List ARow} {i k : Nat} :
    AllHold x p (swapRows s i k) ↔ AllHold x p s :=
  forall_congr' fun _ => imp_congr_left swapRows_mem

theorem swapRows_get {s : List ARow} {i k : Nat} {b : ARow} (hi : i < s.length)
    (hb : s[k]? = some b) : (swapRows s i k)[i]? = some b := by
  unfold swapRows
  rw [List.getElem?_eq_getElem hi, hb]
  by_cases hik : k = i
  · subst hik
    rw [List.getElem?_set_self (by rw [List.length_set]; exact hi), ← List.getElem?_eq_getElem hi,
      hb]
  · rw [List.getElem?_set_ne hik, List.getElem?_set_self hi]

/-! ### the pivot search -/

/-- `u` is the index of the head of `s` (as in `findPivot`): the pivot `k` is the row `s[k - u]` -/
theorem findPivot_spec {j i : Nat} (s : List ARow) (u k : Nat) (h : findPivot j i u s = some k) :
    u ≤ k ∧ i ≤ k ∧ ∃ r, s[k - u]? = some r ∧ rowGet r.1 j ≠ 0 := by
  induction s generalizing u with
  | nil => nomatch h
  | cons r rs ih =>
    rw [findPivot] at h
    split at h
    · rename_i hc
      cases h
      exact ⟨Nat.le_refl _, hc.1, r, by rw [Nat.sub_self]; rfl, hc.2⟩
    · obtain ⟨h1, h2, r', hr', hj⟩ := ih (u + 1) h
      refine ⟨Nat.le_of_succ_le h1, h2, r', ?_, hj⟩
      rw [← Nat.succ_pred_eq_of_pos (Nat.sub_pos_of_lt h1)]
      exact hr'

/-! ### the whole loop -/

theorem gaussLoop_spec (m n : Nat) {n' w : Nat} (fuel i j : Nat) (s : List ARow) (h : Rect n' w s) :
    (AllHold x p (gaussLoop m n fuel i j s) ↔ AllHold x p s) ∧
      Rect n' w (gaussLoop m n fuel i j s) := by
  induction fuel generalizing i j s with
  | zero => exact ⟨Iff.rfl, h⟩
  | succ fuel ih =>
    simp only [gaussLoop]
    split
    · split
      · rename_i k hk
        obtain ⟨_, hik, b, hb, hbj⟩ := findPivot_spec s 0 k hk
        have hget : (swapRows s i k)[i]? = some b :=
          swapRows_get (Nat.lt_of_le_of_lt hik (List.getElem?_eq_some_iff.1 hb).1) hb
        rw [hget]
        obtain ⟨e1, e2⟩ := elimAll_spec (x := x) (p := p) (j := j)
          (fun r hr => h r (swapRows_mem.1 hr)) hget hbj
        obtain ⟨ih1, ih2⟩ := ih (i + 1) (j + 1) _ e2
        exact ⟨ih1.trans (e1.trans allHold_swapRows), ih2⟩
      · exact ih i (j + 1) s h
    · exact ⟨Iff.rfl, h⟩

/-! ### gcd normalisation -/

theorem foldl_gcd_dvd (l : List Int) (a : Int) :
    (l.foldl Algo.gcd a ∣ a) ∧ ∀ b ∈ l, l.foldl Algo.gcd a ∣ b := by
  induction l generalizing a with
  | nil => exact ⟨dvd_refl a, fun _ hb => nomatch hb⟩
  | cons c l ih =>
    obtain ⟨h1, h2⟩ := ih (Algo.gcd a c)
    obtain ⟨ha, hc, _⟩ := Algo.extEuclid_dvd a c
    exact ⟨h1.trans ha, List.forall_mem_cons.2 ⟨h1.trans hc, h2⟩⟩

theorem foldl_gcd_ne_zero : ∀ (l : List Int) (a : Int), a ≠ 0 → l.foldl Algo.gcd a ≠ 0
  | [], _, h => h
  | c :: l, a, h => foldl_gcd_ne_zero l _ fun h0 => h ((Algo.gcd_eq_zero_iff a c).1 h0).1

theorem gcdMany_dvd : ∀ (l : List Int), ∀ b ∈ l, gcdMany l ∣ b
  | [] => fun _ hb => nomatch hb
  | a :: l => List.forall_mem_cons.2 (foldl_gcd_dvd l a)

theorem gcdMany_ne_zero (l : List Int) (h : ∀ b ∈ l, b ≠ 0) : gcdMany l ≠ 0 := by
  cases l with
  | nil => exact one_ne_zero
  | cons a l => exact foldl_gcd_ne_zero l a (h a List.mem_cons_self)

theorem holds_normRow (r : ARow) : Holds x p (normRow r) ↔ Holds x p r := by
  unfold normRow
  rw [← List.filter_append]
  generalize hg : gcdMany ((r.1 ++ r.2).filter (· ≠ 0)) = g
  -- `g` is non-zero and divides every entry, so `g · res (row / g) = res row`
  have hg0 : (g : ℚ) ≠ 0 := Int.cast_ne_zero.2 (hg ▸ gcdMany_ne_zero _ fun b hb =>
    of_decide_eq_true (List.mem_filter.1 hb).2)
  have hdvd : ∀ a ∈ r.1 ++ r.2, g ∣ a := fun a ha => by
    by_cases ha0 : a = 0
    · exact ha0 ▸ dvd_zero g
    · exact hg ▸ gcdMany_dvd _ a (List.mem_filter.2 ⟨ha, decide_eq_true ha0⟩)
  have h1 := dotFrom_map_fdiv (x := x) g r.1 0 fun a ha => hdvd a (List.mem_append_left _ ha)
  have h2 := dotFrom_map_fdiv (x := p) g r.2 0 fun a ha => hdvd a (List.mem_append_right _ ha)
  unfold Holds res dot
  rw [← h1, ← h2, ← mul_sub, mul_eq_zero, or_iff_right hg0]

theorem gaussElim_spec (m n : Nat) {n' w : Nat} (s : List ARow) (h : Rect n' w s) :
    (AllHold x p (gaussElim m n s) ↔ AllHold x p s) ∧ Rect n' w (gaussElim m n s) := by
  obtain ⟨h1, h2⟩ := gaussLoop_spec (x := x) (p := p) m n n 0 0 s h
  refine ⟨Iff.trans ?_ h1, ?_⟩
  · exact List.forall_mem_map.trans (forall₂_congr fun r _ => holds_normRow r)
  · refine List.forall_mem_map.2 fun r hr => ?_
    rw [normRow, List.length_map, List.length_map]
    exact h2 r hr

/-! ### reading off the solution -/

theorem unit_dvd {d : Int} (h : d.natAbs = 1) (a : Int) : d ∣ a :=
  Int.natAbs_dvd_natAbs.1 (h ▸ Nat.one_dvd _)

/-- the reduced row has at most one non-zero matrix entry, and a zero matrix part comes with a
zero right-hand side -/
def rowOK (r : ARow) : Bool :=
  decide ((r.1.filter (· ≠ 0)).length ≤ 1) && (!(r.1.all (· == 0)) || r.2.all (· == 0))

/-- decidable description of the reduced systems on which reading off one value per column is
sound: "every pivot row has a single unknown entry and zero rows have zero right-hand side" -/
def reducedOK (s : List ARow) : Bool := s.all rowOK

/-- if `solveCol` accepts column `j`, exactly one row `r` has a non-zero entry there and that entry
is `±1`; the value is the right-hand side of `r` divided by it -/
theorem solveCol_ok {s : List ARow} {j : Nat} {v : Row} (h : solveCol s j = .ok v) :
    ∃ r, s.filter (fun r => rowGet r.1 j ≠ 0) = [r] ∧ (rowGet r.1 j).natAbs = 1 ∧
      v = r.2.map (Int.fdiv · (rowGet r.1 j)) := by
  unfold solveCol at h
  split at h
  · rename_i r hf
    simp only at h
    split at h
    · nomatch h
    · rename_i hd
      exact ⟨r, hf, of_not_not hd, (Except.ok.inj h).symm⟩
  · nomatch h

theorem solveCol_holds {s : List ARow} {vals : List Row} {n : Nat} (p : Nat → ℚ)
    (hvals : ∀ j, j < n → ∃ v, vals[j]? = some v ∧ solveCol s j = .ok v)
    (hred : reducedOK s = true) (hn : ∀ r ∈ s, r.1.length = n) :
    AllHold (fun j => dot p (vals.getD j [])) p s := by
  intro r hr
  have hok := List.all_eq_true.1 hred r hr
  rw [rowOK, Bool.and_eq_true, decide_eq_true_eq] at hok
  obtain ⟨hone, hzero⟩ := hok
  by_cases hz : ∀ a ∈ r.1, a = 0
  · -- a zero row has a zero right-hand side
    rw [List.all_eq_true.2 fun a ha => beq_iff_eq.2 (hz a ha), Bool.not_true, Bool.false_or,
      List.all_eq_true] at hzero
    unfold Holds res dot
    rw [dotFrom_zeros _ _ hz, dotFrom_zeros _ _ fun a ha => eq_of_beq (hzero a ha), sub_zero]
  · -- the one non-zero entry, at column `j`, is the pivot `±1` that `solveCol` divided by
    obtain ⟨a, hz⟩ := not_forall.1 hz
    obtain ⟨ha, ha0⟩ := Classical.not_imp.1 hz
    obtain ⟨j, hj⟩ := List.mem_iff_getElem?.1 ha
    have hne : rowGet r.1 j ≠ 0 := by rw [rowGet_of_getElem? hj]; exact ha0
    obtain ⟨v, hv1, hv2⟩ := hvals j (hn r hr ▸ (List.getElem?_eq_some_iff.1 hj).1)
    obtain ⟨r', hf, hd1, rfl⟩ := solveCol_ok hv2
    have hmem : r ∈ s.filter (fun r => rowGet r.1 j ≠ 0) :=
      List.mem_filter.2 ⟨hr, decide_eq_true hne⟩
    rw [hf, List.mem_singleton] at hmem
    subst hmem
    unfold Holds res dot
    rw [dotFrom_single r.1 0 j hone hne, Nat.zero_add, List.getD_eq_getElem?_getD, hv1,
      Option.getD_some, dotFrom_map_fdiv _ r.2 0 fun b _ => unit_dvd hd1 b, sub_self]

end PV.Coeff
