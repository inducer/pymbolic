import PV.Proofs.GATableAdd
/-
  C18 (T-gen): linking.  `c18Call M Γ fuel q` looks `q` up in the function list and runs
  it with the TAIL of the list as its callee resolver.  Here the per-function theorems (stated for
  an arbitrary resolver that satisfies the `C18Has…` hypotheses) are instantiated bottom-up with
  those tails, which discharges every hypothesis: what remains are statements about
  `c18Call c18ExpectedModule`.
-/
-- one `variable` line serves every statement of the file, and `c18sym` is handed rules that not
-- every run needs
set_option linter.unusedSectionVars false
set_option linter.unusedVariables false
set_option linter.unusedSimpArgs false
namespace PV.GA.C18T

section
variable {R : Type} [Add R] [Mul R] [Neg R] [OfNat R 0] [OfNat R 1]

/-! ## look-up in a function list -/

theorem c18CallIn_skip (M : C18Module) (Γ : C18Ctx R) (fuel : Nat) (q : String) :
    ∀ (pre rest : List C18Fn), (∀ f ∈ pre, f.qual ≠ q) →
    c18CallIn M Γ fuel (pre ++ rest) q = c18CallIn M Γ fuel rest q := by
  intro pre
  induction pre with
  | nil => intro rest _; rfl
  | cons f pre ih =>
    intro rest h
    funext args kw
    have hf : ¬ f.qual = q := h f (List.mem_cons_self)
    simp only [List.cons_append, c18CallIn, hf, if_false]
    rw [ih rest fun g hg => h g (List.mem_cons_of_mem _ hg)]

/-- the resolver a function at position `n` of the expected list runs with is
`c18Tail Γ fuel (n + 1)` -/
def c18Tail (Γ : C18Ctx R) (fuel : Nat) (n : Nat) : C18Callee R :=
  c18CallIn c18ExpectedModule Γ fuel (c18ExpectedFns.drop n)

/-- a call of the function at position `idx` (the first of that name) from any tail that still
contains it runs it with the tail behind it -/
theorem c18Tail_call (Γ : C18Ctx R) (fuel : Nat) (q : String) (idx : Nat) (f : C18Fn)
    (hf : c18ExpectedFns[idx]? = some f) (hq : f.qual = q)
    (hfirst : ∀ g ∈ c18ExpectedFns.take idx, g.qual ≠ q) (n : Nat) (hn : n ≤ idx) :
    c18Tail Γ fuel n q = c18RunFn c18ExpectedModule Γ fuel (c18Tail Γ fuel (idx + 1)) f := by
  unfold c18Tail
  have hsplit : c18ExpectedFns.drop n
      = (c18ExpectedFns.drop n).take (idx - n) ++ f :: c18ExpectedFns.drop (idx + 1) := by
    have h1 : (c18ExpectedFns.drop n).drop (idx - n) = c18ExpectedFns.drop idx := by
      rw [List.drop_drop]; congr 1; omega
    have h2 : c18ExpectedFns.drop idx = f :: c18ExpectedFns.drop (idx + 1) := by
      have hlt : idx < c18ExpectedFns.length := by
        rcases Nat.lt_or_ge idx c18ExpectedFns.length with h | h
        · exact h
        · rw [List.getElem?_eq_none h] at hf; cases hf
      rw [List.drop_eq_getElem_cons hlt]
      rw [List.getElem?_eq_getElem hlt] at hf
      cases hf; rfl
    rw [← h2, ← h1, List.take_append_drop]
  rw [hsplit, c18CallIn_skip]
  · funext args kw
    simp only [c18CallIn, hq, if_true]
  · intro g hg
    apply hfirst
    have : (c18ExpectedFns.drop n).take (idx - n) = (c18ExpectedFns.take idx).drop n := by
      rw [List.drop_take]
    rw [this] at hg
    exact List.mem_of_mem_drop hg

theorem c18Call_eq_tail (Γ : C18Ctx R) (fuel : Nat) :
    c18Call c18ExpectedModule Γ fuel = c18Tail Γ fuel 0 := rfl

/-- names of the expected function list, in order -/
theorem c18ExpectedFns_quals :
    c18ExpectedFns.map (·.qual) = c18ExpectedModule.fnNames := rfl

/-- no function name occurs twice -/
theorem c18ExpectedFns_nodup : c18ExpectedModule.fnNames.Nodup := by simp [c18ExpectedModule]

theorem not_mem_take_of_nodup {α : Type} {l : List α} (h : l.Nodup) {i : Nat} {a : α}
    (hi : l[i]? = some a) : a ∉ l.take i := by
  induction l generalizing i with
  | nil => simp
  | cons b l ih =>
    cases i with
    | zero => simp
    | succ i =>
      have hb := List.nodup_cons.mp h
      simp only [List.getElem?_cons_succ] at hi
      simp only [List.take_succ_cons, List.mem_cons, not_or]
      exact ⟨fun e => hb.1 (e ▸ List.mem_of_getElem? hi), ih hb.2 hi⟩

/-- `c18Tail_call` for the expected list: names are unique, so the function at position `idx`
is the first of its name.  The numerals given for `idx` below, in GATableRefl and in
Properties/C18Table are positions in `c18ExpectedFns` (callers first, `bit_count` at 53); the
`rfl` given for `hf` checks each of them against the list, so a list with a function inserted
makes the proofs fail instead of linking another function. -/
theorem c18Tail_run (Γ : C18Ctx R) (fuel : Nat) (idx : Nat) {f : C18Fn}
    (hf : c18ExpectedFns[idx]? = some f) {n : Nat} (hn : n ≤ idx) (args : List (C18Val R))
    (kw : List (String × C18Val R)) :
    c18Tail Γ fuel n f.qual args kw
      = c18RunFn c18ExpectedModule Γ fuel (c18Tail Γ fuel (idx + 1)) f args kw := by
  rw [c18Tail_call Γ fuel f.qual idx f hf rfl (fun g hg e => ?_) n hn]
  have hi : (c18ExpectedFns.map (·.qual))[idx]? = some f.qual := by
    rw [List.getElem?_map, hf, Option.map_some]
  refine not_mem_take_of_nodup (c18ExpectedFns_quals ▸ c18ExpectedFns_nodup) hi ?_
  rw [← List.map_take, ← e]
  exact List.mem_map_of_mem hg

section Specs
variable {Γ : C18Ctx R} {fuel : Nat}

theorem tail_bit_count (n : Nat) (hn : n ≤ 53) :
    C18HasBitCount fuel (c18Tail Γ fuel n) := by
  intro k hk
  refine (c18Tail_run Γ fuel 53 rfl hn _ _).trans ?_
  exact c18_bit_count Γ fuel _ k hk

theorem tail_crs (n : Nat) (hn : n ≤ 52) : C18HasCrs fuel (c18Tail Γ fuel n) := by
  intro a b ha
  refine (c18Tail_run Γ fuel 52 rfl hn _ _).trans ?_
  exact c18_crs Γ fuel _ (tail_bit_count 53 (by omega)) a b ha

theorem tail_smc (h2 : 2 ≤ fuel) (n : Nat) (hn : n ≤ 51) : C18HasSmc Γ fuel (c18Tail Γ fuel n) := by
  intro sh hsh
  refine (c18Tail_run Γ fuel 51 rfl hn _ _).trans ?_
  exact c18_smc Γ fuel _ sh hsh h2

theorem isW_smcVal (g : Nat → R) (sh : Nat) : IsW (c18SmcVal g sh) := by
  unfold c18SmcVal IsW
  by_cases h : sh = 0 <;> simp [h]

/-- the weight values the six `orthogonal_blade_product_weight`s return -/
def wvOuter (a b : Nat) : C18Val R := .nat (if a &&& b ≠ 0 then 0 else 1)
def wvGeometric (g : Nat → R) (a b : Nat) : C18Val R :=
  if a &&& b ≠ 0 then c18SmcVal g (a &&& b) else .nat 1
def wvInner (g : Nat → R) (a b : Nat) : C18Val R :=
  if a &&& b = a ∨ a &&& b = b then c18SmcVal g (a &&& b) else .nat 0
def wvLeft (g : Nat → R) (a b : Nat) : C18Val R :=
  if a &&& b = a then c18SmcVal g (a &&& b) else .nat 0
def wvRight (g : Nat → R) (a b : Nat) : C18Val R :=
  if a &&& b = b then c18SmcVal g (a &&& b) else .nat 0
def wvScalar (g : Nat → R) (a b : Nat) : C18Val R := if a = b then c18SmcVal g a else .nat 0

theorem tail_wOuter (n : Nat) (hn : n ≤ 40) :
    C18HasW fuel (c18Tail Γ fuel n) "_OuterProduct.generic_blade_product_weight" wvOuter := by
  intro a b ha
  refine ⟨(c18Tail_run Γ fuel 40 rfl hn _ _).trans (c18_wOuter Γ fuel _ a b), ?_⟩
  unfold wvOuter IsW
  by_cases h : a &&& b = 0 <;> simp [h]

theorem tail_wGeometric (h2 : 2 ≤ fuel) (n : Nat) (hn : n ≤ 42) :
    C18HasW fuel (c18Tail Γ fuel n) "_GeometricProduct.orthogonal_blade_product_weight"
      (wvGeometric Γ.g) := by
  intro a b ha
  refine ⟨(c18Tail_run Γ fuel 42 rfl hn _ _).trans (c18_wGeometric Γ fuel _ (tail_smc h2 43 (by
    omega)) a b ha), ?_⟩
  unfold wvGeometric
  by_cases h : a &&& b = 0
  · simp [h, IsW]
  · simp only [ne_eq, h, not_false_eq_true, if_true]; exact isW_smcVal _ _

theorem tail_wInner (h2 : 2 ≤ fuel) (n : Nat) (hn : n ≤ 44) :
    C18HasW fuel (c18Tail Γ fuel n) "_InnerProduct.orthogonal_blade_product_weight"
      (wvInner Γ.g) := by
  intro a b ha
  refine ⟨(c18Tail_run Γ fuel 44 rfl hn _ _).trans (c18_wInner Γ fuel _ (tail_smc h2 45 (by omega))
    a b ha), ?_⟩
  unfold wvInner
  by_cases h : a &&& b = a ∨ a &&& b = b
  · simp only [h, if_true]; exact isW_smcVal _ _
  · simp [h, IsW]

theorem tail_wLeft (h2 : 2 ≤ fuel) (n : Nat) (hn : n ≤ 46) :
    C18HasW fuel (c18Tail Γ fuel n) "_LeftContractionProduct.orthogonal_blade_product_weight"
      (wvLeft Γ.g) := by
  intro a b ha
  refine ⟨(c18Tail_run Γ fuel 46 rfl hn _ _).trans (c18_wLeft Γ fuel _ (tail_smc h2 47 (by omega))
    a b ha), ?_⟩
  unfold wvLeft
  by_cases h : a &&& b = a
  · simp only [h, if_true]; exact isW_smcVal _ _
  · simp [h, IsW]

theorem tail_wRight (h2 : 2 ≤ fuel) (n : Nat) (hn : n ≤ 48) :
    C18HasW fuel (c18Tail Γ fuel n) "_RightContractionProduct.orthogonal_blade_product_weight"
      (wvRight Γ.g) := by
  intro a b ha
  refine ⟨(c18Tail_run Γ fuel 48 rfl hn _ _).trans (c18_wRight Γ fuel _ (tail_smc h2 49 (by omega))
    a b ha), ?_⟩
  unfold wvRight
  by_cases h : a &&& b = b
  · simp only [h, if_true]; exact isW_smcVal _ _
  · simp [h, IsW]

theorem tail_wScalar (h2 : 2 ≤ fuel) (n : Nat) (hn : n ≤ 50) :
    C18HasW fuel (c18Tail Γ fuel n) "_ScalarProduct.orthogonal_blade_product_weight"
      (wvScalar Γ.g) := by
  intro a b ha
  refine ⟨(c18Tail_run Γ fuel 50 rfl hn _ _).trans (c18_wScalar Γ fuel _ (tail_smc h2 51 (by
    omega)) a b ha), ?_⟩
  unfold wvScalar
  by_cases h : a = b
  · simp only [h, if_true]; exact isW_smcVal _ _
  · simp [h, IsW]

theorem tail_init (n : Nat) (hn : n ≤ 37) : C18HasInit (c18Tail Γ fuel n) := by
  intro d
  refine (c18Tail_run Γ fuel 37 rfl hn _ _).trans ?_
  exact c18_init_dict Γ fuel _ d

/-- a dict value the table functions are run on: distinct keys (a Python dict), every bitmap
below the loop bound -/
def C18Dict (fuel : Nat) (a : MVOf R) : Prop := (dkeys a).Nodup ∧ ∀ k ∈ dkeys a, k < fuel

theorem tail_rev (n : Nat) (hn : n ≤ 24) (a : MVOf R) (ha : C18Dict fuel a) :
    c18Tail Γ fuel n "MultiVector.rev" [.mv a] [] = .ok (.mv (rev a)) := by
  refine (c18Tail_run Γ fuel 24 rfl hn _ _).trans ?_
  exact c18_rev Γ fuel _ (tail_bit_count 25 (by omega)) (tail_init 25 (by omega)) a
    ha.1 ha.2

theorem tail_invol (n : Nat) (hn : n ≤ 25) (a : MVOf R) (ha : C18Dict fuel a) :
    c18Tail Γ fuel n "MultiVector.invol" [.mv a] [] = .ok (.mv (invol a)) := by
  refine (c18Tail_run Γ fuel 25 rfl hn _ _).trans ?_
  exact c18_invol Γ fuel _ (tail_bit_count 26 (by omega)) (tail_init 26 (by omega))
    a ha.1 ha.2

theorem tail_project (n : Nat) (hn : n ≤ 31) (a : MVOf R) (r : Nat) (ha : C18Dict fuel a) :
    c18Tail Γ fuel n "MultiVector.project" [.mv a, .nat r] [] = .ok (.mv (project a r)) := by
  refine (c18Tail_run Γ fuel 31 rfl hn _ _).trans ?_
  exact c18_project Γ fuel _ (tail_bit_count 32 (by omega))
    (tail_init 32 (by omega)) a r ha.1 ha.2

theorem tail_odd (n : Nat) (hn : n ≤ 34) (a : MVOf R) (ha : C18Dict fuel a) :
    c18Tail Γ fuel n "MultiVector.odd" [.mv a] [] = .ok (.mv (odd a)) := by
  refine (c18Tail_run Γ fuel 34 rfl hn _ _).trans ?_
  exact c18_odd Γ fuel _ (tail_bit_count 35 (by omega)) (tail_init 35 (by omega))
    a ha.1 ha.2

theorem tail_even (n : Nat) (hn : n ≤ 35) (a : MVOf R) (ha : C18Dict fuel a) :
    c18Tail Γ fuel n "MultiVector.even" [.mv a] [] = .ok (.mv (even a)) := by
  refine (c18Tail_run Γ fuel 35 rfl hn _ _).trans ?_
  exact c18_even Γ fuel _ (tail_bit_count 36 (by omega)) (tail_init 36 (by omega))
    a ha.1 ha.2

/-- the hypotheses under which the products are the model's: the ring law Python's int
arithmetic uses, a zero test that recognises the int `0`, a diagonal metric, room for the loops -/
structure C18Ok (Γ : C18Ctx R) (fuel : Nat) : Prop where
  one_mul : ∀ r : R, 1 * r = r
  z0 : Γ.z 0 = true
  orth : Γ.orth = true
  fuel2 : 2 ≤ fuel

/-- `_generic_product` called with a product class whose `orthogonal_blade_product_weight`
resolves to `q`, a function returning the values `wv`, which as coefficients are the weight `w` -/
theorem tail_gp (ok : C18Ok Γ fuel) (cn q : String) (wv : Nat → Nat → C18Val R) (w : Nat → Nat → R)
    (hq : C18WeightOf cn "orthogonal_blade_product_weight" q)
    (hw : C18HasW fuel (c18Tail Γ fuel 24) q wv) (e : ∀ a b, c18ValR (wv a b) = w a b)
    (n : Nat) (hn : n ≤ 23) (x y : MVOf R) (hk : ∀ k ∈ dkeys x, k < fuel) :
    c18Tail Γ fuel n "MultiVector._generic_product" [.mv x, .mv y, .cls cn] []
      = .ok (.mv (genericProductZ Γ.z w x y)) := by
  rw [← funext fun a => funext (e a)]
  refine (c18Tail_run Γ fuel 23 rfl hn _ _).trans ?_
  exact c18_generic_product Γ fuel _ q wv ok.one_mul ok.z0 ok.orth cn hq hw
    (tail_crs 24 (by omega)) (tail_init 24 (by omega)) x y hk

/-! ### scalars, casts, the product dunders -/

theorem tail_init_scalar (n : Nat) (hn : n ≤ 37) : C18HasInitScalar Γ (c18Tail Γ fuel n) := by
  intro c
  refine (c18Tail_run Γ fuel 37 rfl hn _ _).trans ?_
  exact c18_init_scalar Γ fuel _ c

theorem tail_cast (n : Nat) (hn : n ≤ 36) : C18HasCast Γ (c18Tail Γ fuel n) := by
  intro v y hv
  refine (c18Tail_run Γ fuel 36 rfl hn _ _).trans ?_
  cases v <;> simp [c18CastOf] at hv
  · subst hv; exact c18_cast_scalar Γ fuel _ (tail_init_scalar 37 (by omega)) _
  · rename_i s d
    cases s <;> cases d <;> simp [c18CastOf] at hv
    subst hv; exact c18_cast_mv Γ fuel _ _

theorem tail_gp_geometric (ok : C18Ok Γ fuel) (n : Nat) (hn : n ≤ 23) (x y : MVOf R)
    (hk : ∀ k ∈ dkeys x, k < fuel) :
    c18Tail Γ fuel n "MultiVector._generic_product" [.mv x, .mv y, .cls "_GeometricProduct"] []
      = .ok (.mv (genericProductZ Γ.z (wGeometric Γ.g) x y)) :=
  tail_gp ok _ _ _ _ (by rfl) (tail_wGeometric ok.fuel2 24 (by omega))
    (c18ValR_wGeometric Γ.g) n hn x y hk

theorem tail_gp_outer (ok : C18Ok Γ fuel) (n : Nat) (hn : n ≤ 23) (x y : MVOf R)
    (hk : ∀ k ∈ dkeys x, k < fuel) :
    c18Tail Γ fuel n "MultiVector._generic_product" [.mv x, .mv y, .cls "_OuterProduct"] []
      = .ok (.mv (genericProductZ Γ.z (wOuter Γ.g) x y)) :=
  tail_gp ok _ _ _ _ (by rfl) (tail_wOuter 24 (by omega))
    (c18ValR_wOuter Γ.g) n hn x y hk

theorem tail_gp_inner (ok : C18Ok Γ fuel) (n : Nat) (hn : n ≤ 23) (x y : MVOf R)
    (hk : ∀ k ∈ dkeys x, k < fuel) :
    c18Tail Γ fuel n "MultiVector._generic_product" [.mv x, .mv y, .cls "_InnerProduct"] []
      = .ok (.mv (genericProductZ Γ.z (wInner Γ.g) x y)) :=
  tail_gp ok _ _ _ _ (by rfl) (tail_wInner ok.fuel2 24 (by omega))
    (c18ValR_wInner Γ.g) n hn x y hk

theorem tail_gp_left (ok : C18Ok Γ fuel) (n : Nat) (hn : n ≤ 23) (x y : MVOf R)
    (hk : ∀ k ∈ dkeys x, k < fuel) :
    c18Tail Γ fuel n "MultiVector._generic_product" [.mv x, .mv y, .cls "_LeftContractionProduct"] []
      = .ok (.mv (genericProductZ Γ.z (wLeftContraction Γ.g) x y)) :=
  tail_gp ok _ _ _ _ (by rfl) (tail_wLeft ok.fuel2 24 (by omega))
    (c18ValR_wLeft Γ.g) n hn x y hk

theorem tail_gp_right (ok : C18Ok Γ fuel) (n : Nat) (hn : n ≤ 23) (x y : MVOf R)
    (hk : ∀ k ∈ dkeys x, k < fuel) :
    c18Tail Γ fuel n "MultiVector._generic_product" [.mv x, .mv y, .cls "_RightContractionProduct"] []
      = .ok (.mv (genericProductZ Γ.z (wRightContraction Γ.g) x y)) :=
  tail_gp ok _ _ _ _ (by rfl) (tail_wRight ok.fuel2 24 (by omega))
    (c18ValR_wRight Γ.g) n hn x y hk

theorem tail_gp_scalar (ok : C18Ok Γ fuel) (n : Nat) (hn : n ≤ 23) (x y : MVOf R)
    (hk : ∀ k ∈ dkeys x, k < fuel) :
    c18Tail Γ fuel n "MultiVector._generic_product" [.mv x, .mv y, .cls "_ScalarProduct"] []
      = .ok (.mv (genericProductZ Γ.z (wScalar Γ.g) x y)) :=
  tail_gp ok _ _ _ _ (by rfl) (tail_wScalar ok.fuel2 24 (by omega))
    (c18ValR_wScalar Γ.g) n hn x y hk

/-- `x * v`, `x ^ v`, `x | v`, `x << v`, `x >> v` (the dunder methods) -/
theorem tail_mul (ok : C18Ok Γ fuel) (n : Nat) (hn : n ≤ 13) (x : MVOf R) (v : C18Val R)
    (y : MVOf R) (hv : c18CastOf Γ.z v = some y) (hk : ∀ k ∈ dkeys x, k < fuel) :
    c18Tail Γ fuel n "MultiVector.__mul__" [.mv x, v] []
      = .ok (.mv (genericProductZ Γ.z (wGeometric Γ.g) x y)) := by
  refine (c18Tail_run Γ fuel 13 rfl hn _ _).trans ?_
  rw [c18_dunder Γ fuel _ (tail_cast 14 (by omega)) _ "_GeometricProduct"
    (Or.inl ⟨rfl, rfl⟩) x v y hv]
  exact tail_gp_geometric ok 14 (by omega) x y hk

theorem tail_xor (ok : C18Ok Γ fuel) (n : Nat) (hn : n ≤ 15) (x : MVOf R) (v : C18Val R)
    (y : MVOf R) (hv : c18CastOf Γ.z v = some y) (hk : ∀ k ∈ dkeys x, k < fuel) :
    c18Tail Γ fuel n "MultiVector.__xor__" [.mv x, v] []
      = .ok (.mv (genericProductZ Γ.z (wOuter Γ.g) x y)) := by
  refine (c18Tail_run Γ fuel 15 rfl hn _ _).trans ?_
  rw [c18_dunder Γ fuel _ (tail_cast 16 (by omega)) _ "_OuterProduct"
    (Or.inr (Or.inl ⟨rfl, rfl⟩)) x v y hv]
  exact tail_gp_outer ok 16 (by omega) x y hk

theorem tail_or (ok : C18Ok Γ fuel) (n : Nat) (hn : n ≤ 17) (x : MVOf R) (v : C18Val R)
    (y : MVOf R) (hv : c18CastOf Γ.z v = some y) (hk : ∀ k ∈ dkeys x, k < fuel) :
    c18Tail Γ fuel n "MultiVector.__or__" [.mv x, v] []
      = .ok (.mv (genericProductZ Γ.z (wInner Γ.g) x y)) := by
  refine (c18Tail_run Γ fuel 17 rfl hn _ _).trans ?_
  rw [c18_dunder Γ fuel _ (tail_cast 18 (by omega)) _ "_InnerProduct"
    (Or.inr (Or.inr (Or.inl ⟨rfl, rfl⟩))) x v y hv]
  exact tail_gp_inner ok 18 (by omega) x y hk

theorem tail_lshift (ok : C18Ok Γ fuel) (n : Nat) (hn : n ≤ 19) (x : MVOf R) (v : C18Val R)
    (y : MVOf R) (hv : c18CastOf Γ.z v = some y) (hk : ∀ k ∈ dkeys x, k < fuel) :
    c18Tail Γ fuel n "MultiVector.__lshift__" [.mv x, v] []
      = .ok (.mv (genericProductZ Γ.z (wLeftContraction Γ.g) x y)) := by
  refine (c18Tail_run Γ fuel 19 rfl hn _ _).trans ?_
  rw [c18_dunder Γ fuel _ (tail_cast 20 (by omega)) _ "_LeftContractionProduct"
    (Or.inr (Or.inr (Or.inr (Or.inl ⟨rfl, rfl⟩)))) x v y hv]
  exact tail_gp_left ok 20 (by omega) x y hk

theorem tail_rshift (ok : C18Ok Γ fuel) (n : Nat) (hn : n ≤ 21) (x : MVOf R) (v : C18Val R)
    (y : MVOf R) (hv : c18CastOf Γ.z v = some y) (hk : ∀ k ∈ dkeys x, k < fuel) :
    c18Tail Γ fuel n "MultiVector.__rshift__" [.mv x, v] []
      = .ok (.mv (genericProductZ Γ.z (wRightContraction Γ.g) x y)) := by
  refine (c18Tail_run Γ fuel 21 rfl hn _ _).trans ?_
  rw [c18_dunder Γ fuel _ (tail_cast 22 (by omega)) _ "_RightContractionProduct"
    (Or.inr (Or.inr (Or.inr (Or.inr ⟨rfl, rfl⟩)))) x v y hv]
  exact tail_gp_right ok 22 (by omega) x y hk

/-! ### `as_scalar`, `scalar_product`, `norm_squared`, `inv` and the small ones -/

/-- a scalar result as a value: Python's int `0` for the empty product, a coefficient otherwise;
`none` (no scalar) is `ValueError` -/
def c18ScalarRes (p : MVOf R) : C18Res (C18Val R) :=
  match asScalarVal p (.nat 0) with
  | none => .raise "ValueError"
  | some v => .ok v

theorem tail_as_scalar (n : Nat) (hn : n ≤ 33) (p : MVOf R) :
    c18Tail Γ fuel n "MultiVector.as_scalar" [.mv p] [] = c18ScalarRes p := by
  refine (c18Tail_run Γ fuel 33 rfl hn _ _).trans ?_
  exact c18_as_scalar Γ fuel _ p

theorem tail_scalar_product (ok : C18Ok Γ fuel) (n : Nat) (hn : n ≤ 7) (x : MVOf R)
    (v : C18Val R) (y : MVOf R) (hv : c18CastOf Γ.z v = some y) (hk : ∀ k ∈ dkeys x, k < fuel) :
    c18Tail Γ fuel n "MultiVector.scalar_product" [.mv x, v] []
      = c18ScalarRes (genericProductZ Γ.z (wScalar Γ.g) x y) := by
  refine (c18Tail_run Γ fuel 7 rfl hn _ _).trans ?_
  rw [c18_scalar_product Γ fuel _ (tail_cast 8 (by omega)) x v y _ hv
    (tail_gp_scalar ok 8 (by omega) x y hk)]
  exact tail_as_scalar 8 (by omega) _

theorem dkeys_rev (a : MVOf R) : dkeys (rev a) = dkeys a := by
  simp only [dkeys, rev, List.map_map]
  apply List.map_congr_left
  intro p _
  obtain ⟨k, c⟩ := p
  simp only [Function.comp]
  by_cases h : bitCount k * (bitCount k - 1) / 2 % 2 = 0 <;> simp [h]

theorem tail_norm_squared (ok : C18Ok Γ fuel) (n : Nat) (hn : n ≤ 6) (a : MVOf R)
    (ha : C18Dict fuel a) :
    c18Tail Γ fuel n "MultiVector.norm_squared" [.mv a] []
      = c18ScalarRes (genericProductZ Γ.z (wScalar Γ.g) (rev a) a) := by
  refine (c18Tail_run Γ fuel 6 rfl hn _ _).trans ?_
  rw [c18_norm_squared Γ fuel _ a (tail_rev 7 (by omega) a ha)]
  exact tail_scalar_product ok 7 (by omega) (rev a) (.mv a) a rfl
    (by rw [dkeys_rev]; exact ha.2)

theorem tail_I (n : Nat) (hn : n ≤ 26) (a : MVOf R) :
    c18Tail Γ fuel n "MultiVector.I" [.mv a] [] = .ok (.mv (pseudoscalar Γ.dims)) := by
  refine (c18Tail_run Γ fuel 26 rfl hn _ _).trans ?_
  exact c18_I Γ fuel _ (tail_init 27 (by omega)) a

theorem tail_get_pure_grade (n : Nat) (hn : n ≤ 32) (a : MVOf R) (hk : ∀ k ∈ dkeys a, k < fuel) :
    c18Tail Γ fuel n "MultiVector.get_pure_grade" [.mv a] []
      = .ok (pgResVal (getPureGrade a)) := by
  refine (c18Tail_run Γ fuel 32 rfl hn _ _).trans ?_
  exact c18_get_pure_grade Γ fuel _ (tail_bit_count 33 (by omega)) a hk

theorem tail_bool (n : Nat) (hn : n ≤ 30) (a : MVOf R) :
    c18Tail Γ fuel n "MultiVector.__bool__" [.mv a] [] = .ok (.bool (mvBool a)) := by
  refine (c18Tail_run Γ fuel 30 rfl hn _ _).trans ?_
  exact c18_bool Γ fuel _ a

theorem tail_hash (n : Nat) (hn : n ≤ 27) (a : MVOf R) :
    c18Tail Γ fuel n "MultiVector.__hash__" [.mv a] []
      = .ok (.hash (a.foldl (fun r (p : Nat × R) => r ^^^ (Γ.hb p.1 ^^^ Γ.hc p.2)) Γ.hspace)) := by
  refine (c18Tail_run Γ fuel 27 rfl hn _ _).trans ?_
  exact c18_hash Γ fuel _ a

theorem tail_eq (n : Nat) (hn : n ≤ 29) (x : MVOf R) (v : C18Val R) (y : MVOf R)
    (hv : c18CastOf Γ.z v = some y) :
    c18Tail Γ fuel n "MultiVector.__eq__" [.mv x, v] []
      = .ok (.bool (x.length == y.length && x.all fun (p : Nat × R) =>
          match dictGet y p.1 with | some w => Γ.ceq p.2 w | none => false)) := by
  refine (c18Tail_run Γ fuel 29 rfl hn _ _).trans ?_
  exact c18_eq Γ fuel _ (tail_cast 30 (by omega)) x v y hv

theorem tail_neg (n : Nat) (hn : n ≤ 12) (a : MVOf R) (hnd : (dkeys a).Nodup) :
    c18Tail Γ fuel n "MultiVector.__neg__" [.mv a] [] = .ok (.mv (mvNeg a)) := by
  refine (c18Tail_run Γ fuel 12 rfl hn _ _).trans ?_
  exact c18_neg Γ fuel _ (tail_init 13 (by omega)) a hnd

/-- the exceptions of `InvResult` as Python exceptions, the inverse divided with `Γ.div` -/
def c18InvOf (Γ : C18Ctx R) : InvResult R → C18Res (C18Val R)
  | .zeroDivision => .raise "ZeroDivisionError"
  | .notImplemented => .raise "NotImplementedError"
  | .valueError => .raise "ValueError"
  | .ok numer denom => .ok (.mv (numer.map fun (p : Nat × R) => (p.1, Γ.div p.2 denom)))

theorem invRes_eq_invZ (a : MVOf R) (n : R) (h : normSquaredZ Γ.z Γ.g a = some n) :
    invRes Γ a n = c18InvOf Γ (invZ Γ.z Γ.g Γ.dims a) := by
  unfold invZ
  rw [h]
  match a with
  | [] => rfl
  | [(k, c)] =>
    simp only [invRes]
    cases hz : Γ.z n <;> simp [c18InvOf]
  | p :: q :: rest =>
    simp only [invRes]
    cases hp : getPureGrade (p :: q :: rest) with
    | none => rfl
    | some gr =>
      by_cases hgr : gr = 0 ∨ gr = 1 ∨ gr = Γ.dims
      · cases hz : Γ.z n <;> simp [hgr, hz, c18InvOf]
      · simp [hgr, c18InvOf]

/-- **`inv` from any tail**: the model's `invZ`, exceptions as Python exceptions -/
theorem tail_inv (ok : C18Ok Γ fuel) (n : Nat) (hn : n ≤ 5) (a : MVOf R) (ha : C18Dict fuel a) :
    c18Tail Γ fuel n "MultiVector.inv" [.mv a] [] = c18InvOf Γ (invZ Γ.z Γ.g Γ.dims a) := by
  refine (c18Tail_run Γ fuel 5 rfl hn _ _).trans ?_
  have hns := tail_norm_squared ok 6 (by omega) a ha
  have hmodel := asScalarVal_model (genericProductZ Γ.z (wScalar Γ.g) (rev a) a)
  have hnsz : normSquaredZ Γ.z Γ.g a = asScalar (genericProductZ Γ.z (wScalar Γ.g) (rev a) a) := rfl
  unfold c18ScalarRes at hns
  cases hv : asScalarVal (genericProductZ Γ.z (wScalar Γ.g) (rev a) a) (.nat 0 : C18Val R) with
  | none =>
    rw [hv] at hns hmodel
    have hnone : normSquaredZ Γ.z Γ.g a = none := by rw [hnsz, ← hmodel]; rfl
    unfold invZ
    rw [hnone]
    apply c18RunFn_of_body rfl
    c18sym [c18X_MultiVector_inv, hns]
    rfl
  | some nv =>
    rw [hv] at hns hmodel
    have hsome : normSquaredZ Γ.z Γ.g a = some (c18ValR nv) := by rw [hnsz, ← hmodel]; rfl
    rw [← invRes_eq_invZ a _ hsome]
    have hkind : nv = .coef (c18ValR nv) ∨ (nv = .nat 0 ∧ c18ValR nv = 0) := by
      rcases asScalarVal_kind _ _ (Or.inl rfl) nv hv with rfl | ⟨r, rfl⟩
      · right; exact ⟨rfl, rfl⟩
      · left; rfl
    exact c18_inv Γ fuel _ ok.z0 (tail_bit_count 6 (by omega))
      (tail_init 6 (by omega)) a ha.1 ha.2 nv (c18ValR nv) hkind hns
      (tail_get_pure_grade 6 (by omega) a ha.2)

/-- **`dual` from any tail** is the model's `dualZ` -/
theorem tail_dual (ok : C18Ok Γ fuel) (n : Nat) (hn : n ≤ 4) (a : MVOf R)
    (ha : C18Dict fuel a) (hdims : 2 ^ Γ.dims ≤ fuel) :
    c18Tail Γ fuel n "MultiVector.dual" [.mv a] [] = .ok (.mv (dualZ Γ.z Γ.g Γ.dims a)) := by
  refine (c18Tail_run Γ fuel 4 rfl hn _ _).trans ?_
  have hI : C18Dict fuel (pseudoscalar Γ.dims : MVOf R) := by
    constructor
    · simp [dkeys, pseudoscalar]
    · intro k hk
      simp only [dkeys, pseudoscalar, List.map_cons, List.map_nil, List.mem_singleton] at hk
      have : 1 ≤ 2 ^ Γ.dims := Nat.one_le_two_pow
      omega
  exact c18_dual Γ fuel _ a _ _ _ (tail_I 5 (by omega) a)
    (tail_rev 5 (by omega) _ hI)
    (tail_or ok 5 (by omega) a (.mv (rev (pseudoscalar Γ.dims))) _ rfl ha.2)

/-! ### `__add__`, `__sub__`, `__truediv__` -/

theorem tail_add (n : Nat) (hn : n ≤ 11) (x y : MVOf R) (hx : (dkeys x).Nodup)
    (hy : (dkeys y).Nodup) :
    c18Tail Γ fuel n "MultiVector.__add__" [.mv x, .mv y] [] = .ok (.mv (mvAddZ Γ.z x y)) := by
  refine (c18Tail_run Γ fuel 11 rfl hn _ _).trans ?_
  exact c18_add Γ fuel _ (tail_cast 12 (by omega)) (tail_init 12 (by omega)) x y hx hy

theorem dkeys_mvNeg (a : MVOf R) : dkeys (mvNeg a) = dkeys a := by
  simp only [dkeys, mvNeg, List.map_map]
  apply List.map_congr_left
  intro p _
  rfl

theorem tail_sub (n : Nat) (hn : n ≤ 9) (x y : MVOf R) (hx : (dkeys x).Nodup)
    (hy : (dkeys y).Nodup) :
    c18Tail Γ fuel n "MultiVector.__sub__" [.mv x, .mv y] [] = .ok (.mv (mvSubZ Γ.z x y)) := by
  refine (c18Tail_run Γ fuel 9 rfl hn _ _).trans ?_
  exact c18_sub Γ fuel _ x y _ _ (tail_neg 10 (by omega) y hy)
    (tail_add 10 (by omega) x (mvNeg y) hx (by rw [dkeys_mvNeg]; exact hy))

/-- what `self / other` returns, given the model's answer for `other.inv()` -/
def c18TrueDivOf (Γ : C18Ctx R) (x : MVOf R) : InvResult R → C18Res (C18Val R)
  | .ok numer denom =>
    .ok (.mv (genericProductZ Γ.z (wGeometric Γ.g) x
      (numer.map fun (p : Nat × R) => (p.1, Γ.div p.2 denom))))
  | e => c18InvOf Γ e

theorem tail_truediv (ok : C18Ok Γ fuel) (n : Nat) (hn : n ≤ 1) (x y : MVOf R)
    (hx : ∀ k ∈ dkeys x, k < fuel) (hy : C18Dict fuel y) :
    c18Tail Γ fuel n "MultiVector.__truediv__" [.mv x, .mv y] []
      = c18TrueDivOf Γ x (invZ Γ.z Γ.g Γ.dims y) := by
  refine (c18Tail_run Γ fuel 1 rfl hn _ _).trans ?_
  have hdiv := c18_truediv Γ fuel (c18Tail Γ fuel 2) (tail_cast 2 (by omega)) x (.mv y) y rfl
  have hinv := tail_inv ok 2 (by omega) y hy
  cases hr : invZ Γ.z Γ.g Γ.dims y with
  | ok numer denom =>
    rw [hr] at hinv
    exact hdiv.1 _ _ hinv (tail_mul ok 2 (by omega) x (.mv _) _ rfl hx)
  | zeroDivision => rw [hr] at hinv; exact hdiv.2 _ hinv
  | notImplemented => rw [hr] at hinv; exact hdiv.2 _ hinv
  | valueError => rw [hr] at hinv; exact hdiv.2 _ hinv

end Specs

end
end PV.GA.C18T
