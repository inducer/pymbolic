/-
  PV/Proofs/OptCollect.lean — lemmas about the method gathering of the mapper optimizer
  (`PV/Model/OptCollect.lean`) used by `PV/Properties/C05Collect.lean`.
-/
import PV.Model.OptCollect

namespace PV.OptCollect

/-! ### the dictionary -/

theorem getD_setD_same {α : Type} (d : List (String × α)) (k : String) (v : α) :
    getD (setD d k v) k = some v := by
  induction d with
  | nil => simp [setD, getD]
  | cons p r ih => by_cases h : p.1 = k <;> simp [setD, getD, h, ih]

theorem getD_setD_other {α : Type} (d : List (String × α)) (k k' : String) (v : α) (hk : k' ≠ k) :
    getD (setD d k v) k' = getD d k' := by
  induction d with
  | nil => simp [setD, getD, hk.symm]
  | cons p r ih =>
    by_cases h : p.1 = k
    · simp [setD, getD, h, hk.symm]
    · by_cases h2 : p.1 = k' <;> simp [setD, getD, h, h2, hk, ih]

theorem getD_eq_none {α : Type} (d : List (String × α)) (k : String) (h : ∀ p ∈ d, p.1 ≠ k) :
    getD d k = none := by
  induction d with
  | nil => rfl
  | cons p r ih => simp_all [getD]

/-! ### the loop over `dir(cls)` -/

/-- gathered rows whose names differ from `k` leave the entry of `k` alone -/
theorem collect_other {α : Type} (dir : List (DirRow α)) (d : List (String × α)) (k : String)
    (h : ∀ r ∈ dir, r.taken = true → r.name ≠ k) : getD (collect d dir) k = getD d k := by
  induction dir generalizing d with
  | nil => rfl
  | cons x xs ih =>
    show getD (collect (if x.taken then setD d x.name x.body else d) xs) k = getD d k
    rw [ih _ fun r hr => h r (List.mem_cons_of_mem _ hr)]
    split
    · next ht => exact getD_setD_other d x.name k x.body (h x (List.mem_cons_self ..) ht).symm
    · rfl

/-- **Every gathered name ends up bound to the body Python resolved for it**, whatever the class
defines itself and whatever was collected before it. -/
theorem collect_get {α : Type} (dir : List (DirRow α)) (own : List (String × α))
    (hd : dir.Pairwise (fun a b => a.name ≠ b.name)) (r : DirRow α) (hr : r ∈ dir)
    (ht : r.taken = true) : getD (collect own dir) r.name = some r.body := by
  induction dir generalizing own with
  | nil => cases hr
  | cons x xs ih =>
    rw [List.pairwise_cons] at hd
    show getD (collect (if x.taken then setD own x.name x.body else own) xs) r.name = some r.body
    rcases List.mem_cons.mp hr with e | hm
    · subst e
      rw [collect_other xs _ r.name (fun q hq _ e => hd.1 q hq e.symm)]
      simp [ht, getD_setD_same]
    · exact ih _ hd.2 hm

/-! ### the definitions of the flattened class -/

/-- the rows the loop gathers, as definitions, in the order of `dir(cls)`.  Python sorts `dir` by
name and `optimize_mapper` emits the definitions sorted by name, so this is the list the flattened
class body is compared with. -/
def takenDefs {α : Type} (dir : List (DirRow α)) : List (String × α) :=
  (dir.filter (·.taken)).map fun r => (r.name, r.body)

theorem getD_takenDefs {α : Type} (dir : List (DirRow α))
    (hd : dir.Pairwise (fun a b => a.name ≠ b.name)) (r : DirRow α) (hr : r ∈ dir)
    (ht : r.taken = true) : getD (takenDefs dir) r.name = some r.body := by
  induction dir with
  | nil => cases hr
  | cons x xs ih =>
    rw [List.pairwise_cons] at hd
    rcases List.mem_cons.mp hr with rfl | hm
    · simp [takenDefs, ht, getD]
    · have := ih hd.2 hm
      have := hd.1 r hm
      by_cases hxt : x.taken = true <;> simp_all [takenDefs, getD]

/-- **The gathered rows, in the order of `dir`, answer every name like the loop's dictionary** —
when the names of `dir` are distinct and every definition of the class itself is a gathered row
(Python lists every attribute of a class in `dir`). -/
theorem getD_takenDefs_eq_collect {α : Type} (own : List (String × α)) (dir : List (DirRow α))
    (hd : dir.Pairwise (fun a b => a.name ≠ b.name))
    (ho : ∀ p ∈ own, ∃ r ∈ dir, r.taken = true ∧ r.name = p.1) (k : String) :
    getD (takenDefs dir) k = getD (collect own dir) k := by
  by_cases h : ∃ r ∈ dir, r.taken = true ∧ r.name = k
  · obtain ⟨r, hr, ht, rfl⟩ := h
    rw [getD_takenDefs dir hd r hr ht, collect_get dir own hd r hr ht]
  · have h' : ∀ r ∈ dir, r.taken = true → r.name ≠ k := fun r hr ht e => h ⟨r, hr, ht, e⟩
    rw [collect_other dir own k h', getD_eq_none own, getD_eq_none]
    · simp only [takenDefs, List.mem_map, List.mem_filter]
      rintro _ ⟨r, ⟨hr, ht⟩, rfl⟩
      exact h' r hr ht
    · intro p hp e
      obtain ⟨r, hr, ht, hn⟩ := ho p hp
      exact h' r hr ht (hn.trans e)

/-! ### the class-level assignments of the body -/

theorem flatNamespace_keeps {α : Type} (dir : List (DirRow α)) (aliases : List (String × String))
    (ns : List (String × α)) (ha : AliasesAgree dir aliases)
    (hi : ∀ r ∈ dir, r.taken = true → getD ns r.name = some r.body) :
    ∀ r ∈ dir, r.taken = true → getD (flatNamespace ns aliases) r.name = some r.body := by
  induction aliases generalizing ns with
  | nil => exact hi
  | cons ab rest ih =>
    refine ih _ (fun x hx => ha x (List.mem_cons_of_mem _ hx)) fun r hr ht => ?_
    dsimp only
    split
    · next v hv =>
      by_cases hn : r.name = ab.1
      · obtain ⟨q, hq, hqt, hqn, hqb⟩ := ha ab (List.mem_cons_self ..) r hr ht hn
        have := hi q hq hqt
        rw [hqn, hv] at this
        rw [hn, getD_setD_same, Option.some.inj this, hqb]
      · rw [getD_setD_other _ _ _ _ hn]; exact hi r hr ht
    · exact hi r hr ht

/-! ### one class as read from the live optimizer -/

theorem pairwise_of_distinctNames {α : Type} :
    ∀ dir : List (DirRow α), distinctNames dir = true → dir.Pairwise (fun a b => a.name ≠ b.name)
  | [], _ => .nil
  | r :: rs, h => by
    simp only [distinctNames, Bool.and_eq_true, List.all_eq_true, bne_iff_ne] at h
    exact List.pairwise_cons.2 ⟨fun q hq e => h.1 q hq e.symm, pairwise_of_distinctNames rs h.2⟩

theorem aliasesAgree_of_aliasesAgreeB (dir : List (DirRow Nat)) (aliases : List (String × String))
    (h : aliasesAgreeB dir aliases = true) : AliasesAgree dir aliases := by
  intro ab hab r hr ht hn
  have := List.all_eq_true.1 (List.all_eq_true.1 h ab hab) r hr
  simpa [ht, hn, and_assoc] using this

/-- What is evaluated on a row: the emitted definitions are the gathered rows of `dir(cls)` in
order (`takenDefs`), the class's own definitions are among the gathered rows, the class-level
assignments are carried over, `dir` lists every name once and the assignments agree with it. -/
def ClassRow.checked (c : ClassRow) : Bool :=
  decide (c.flatDefs = takenDefs c.dir)
    && c.own.all (fun p => c.dir.any fun r => r.taken && r.name == p.1)
    && decide (c.flatAliases = c.aliases) && distinctNames c.dir && aliasesAgreeB c.dir c.aliases

/-- a checked row has the emitted definitions answer like the loop's dictionary, and the flattened
class resolve every gathered name as the class as written does -/
theorem ClassRow.of_checked (c : ClassRow) (h : c.checked = true) :
    (agreeD c.flatDefs (collect c.own c.dir) && decide (c.flatAliases = c.aliases)
      && distinctNames c.dir && aliasesAgreeB c.dir c.aliases) = true
    ∧ resolvesB (flatNamespace c.flatDefs c.flatAliases) c.dir = true := by
  simp only [ClassRow.checked, Bool.and_eq_true, decide_eq_true_eq, List.all_eq_true,
    List.any_eq_true, beq_iff_eq] at h
  obtain ⟨⟨⟨⟨hf, ho⟩, hal⟩, hd⟩, ha⟩ := h
  have hp := pairwise_of_distinctNames _ hd
  have hk := getD_takenDefs_eq_collect c.own c.dir hp
    fun p hp => (ho p hp).imp fun r hr => ⟨hr.1, hr.2.1, hr.2.2⟩
  have hr := flatNamespace_keeps c.dir c.aliases _ (aliasesAgree_of_aliasesAgreeB _ _ ha)
    (getD_takenDefs c.dir hp)
  constructor
  · simp [agreeD, hf, hk, hal, hd, ha]
  · simp only [resolvesB, List.all_eq_true, Bool.or_eq_true, Bool.not_eq_true', beq_iff_eq, hf, hal]
    intro r hr'
    cases ht : r.taken
    · exact .inl rfl
    · exact .inr (hr r hr' ht)

end PV.OptCollect
