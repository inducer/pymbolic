import PV.Proofs.SyntaxParse
import PV.Proofs.SyntaxBEq
/-
  C07.  How the parser model groups two consecutive binary operators, and a prefix operator
  followed by a binary operator, as a function of the precedence table.
-/
namespace PV.Syntax
open PV

variable {P : ParserPrec}

/-- the binary operator tokens of the postfix loop: the `Infix` ones and the binary minus -/
inductive BinTok where
  | op (o : Infix)
  | minus
  deriving Repr, DecidableEq

def BinTok.sym : BinTok → String
  | .op o => o.sym
  | .minus => "-"

def BinTok.guard (P : ParserPrec) : BinTok → Nat
  | .op o => o.guard P
  | .minus => P.plus

def BinTok.rhs (P : ParserPrec) : BinTok → Nat
  | .op o => o.rhs P
  | .minus => P.plus

/-- the node built from the two operands (`a - b` negates `b` with Python's unary minus) -/
def BinTok.build : BinTok → Expr → Expr → Except PErr Expr
  | .op o, l, r => pure (o.build l r)
  | .minus, l, r => do
      let n ← parseNeg r
      pure (spliceNary .sum l n)

theorem PL_minus {k1 k2 m ts l fin r n r1 res} (hg : P.plus > m)
    (hr : PEok P k1 P.plus ts (r, r1)) (hn : parseNeg r = .ok n)
    (hl : PLok P k2 m (spliceNary .sum l n) false r1 res) :
    PLok P (max k1 k2 + 1) m l fin (.sym "-" :: ts) res :=
  fuel_succ fun j hj =>
    (if_pos hg).trans (bind_ok (hr j (by omega)) (bind_ok hn (hl j (by omega))))

theorem PL_bintok (o : BinTok) {k1 k2 m ts l fin r e r1 res} (hg : o.guard P > m)
    (hr : PEok P k1 (o.rhs P) ts (r, r1)) (hb : o.build l r = .ok e)
    (hl : PLok P k2 m e false r1 res) :
    PLok P (max k1 k2 + 1) m l fin (.sym o.sym :: ts) res := by
  cases o with
  | op o =>
    simp only [BinTok.build, pure, Except.pure, Except.ok.injEq] at hb
    subst hb
    exact PL_infix o hg hr hl
  | minus =>
    simp only [BinTok.build, bind, Except.bind] at hb
    split at hb
    · cases hb
    · rename_i n hn
      simp only [pure, Except.pure, Except.ok.injEq] at hb
      subst hb
      exact PL_minus hg hr hn hl

theorem absorbs_bintok (o : BinTok) {m : Nat} {r} :
    absorbs P m (.sym o.sym :: r) ↔ o.guard P > m := by
  cases o with
  | op o => exact absorbs_infix o
  | minus => exact absorbs_sym rfl


/-- Python's `-e` for a node `e` (`__neg__` = `-1*self`, spliced into a product) -/
def negNode (e : Expr) : Expr :=
  match e with
  | .nary .prod cs => .nary .prod (negOne :: cs)
  | e => .nary .prod [negOne, e]

theorem parseNeg_node {e : Expr} (h : e.isNode = true) : parseNeg e = .ok (negNode e) := by
  cases e <;> first | rfl | (rename_i o _; cases o <;> rfl) | cases h

theorem negNode_isNode (e : Expr) : (negNode e).isNode = true := by
  unfold negNode; split <;> rfl

theorem spliceNary_isNode (op : NaryOp) (l r : Expr) : (spliceNary op l r).isNode = true := by
  unfold spliceNary; split
  · split <;> rfl
  · rfl

theorem build_isNode (o : BinTok) {l r : Expr} (hr : r.isNode = true) :
    ∃ e, o.build l r = .ok e ∧ e.isNode = true := by
  cases o with
  | op o =>
    refine ⟨_, rfl, ?_⟩
    cases o <;> first | exact spliceNary_isNode _ _ _ | rfl
  | minus =>
    refine ⟨spliceNary .sum l (negNode r), ?_, spliceNary_isNode _ _ _⟩
    simp [BinTok.build, parseNeg_node hr, bind, Except.bind, pure, Except.pure]

/-- **Grouping of two binary operators.**  `a o1 b o2 c` is read as `a o1 (b o2 c)` when the
guard of `o2` exceeds the level at which the right operand of `o1` is parsed, and as
`(a o1 b) o2 c` otherwise. -/
theorem grouping (hpos : ∀ o : BinTok, o.guard P > 0) (o1 o2 : BinTok) (a b c : String) :
    parseTop P 0 [.ident a, .sym o1.sym, .ident b, .sym o2.sym, .ident c] =
      if o2.guard P > o1.rhs P then o2.build (.var b) (.var c) >>= o1.build (.var a)
      else o1.build (.var a) (.var b) >>= fun l => o2.build l (.var c) := by
  by_cases h : o2.guard P > o1.rhs P
  · obtain ⟨e2, he2, hn2⟩ := build_isNode o2 (l := .var b) (r := .var c) rfl
    obtain ⟨e1, he1, -⟩ := build_isNode o1 (l := .var a) (r := e2) hn2
    have inner : PEok P _ (o1.rhs P) [.ident b, .sym o2.sym, .ident c] (e2, []) :=
      PE_mk PP_ident (PL_bintok o2 h (PE_mk PP_ident (PL_stop not_absorbs_nil)) he2
        (PL_stop not_absorbs_nil))
    have outer : PEok P _ 0 [.ident a, .sym o1.sym, .ident b, .sym o2.sym, .ident c] (e1, []) :=
      PE_mk PP_ident (PL_bintok o1 (hpos o1) inner he1 (PL_stop not_absorbs_nil))
    have := outer 18 (by decide)
    simp [parseTop, this, h, he1, he2, bind, Except.bind, pure, Except.pure]
  · obtain ⟨e1, he1, hn1⟩ := build_isNode o1 (l := .var a) (r := .var b) rfl
    obtain ⟨e2, he2, -⟩ := build_isNode o2 (l := e1) (r := .var c) rfl
    have inner : PEok P _ (o1.rhs P) [.ident b, .sym o2.sym, .ident c]
        (.var b, [.sym o2.sym, .ident c]) :=
      PE_mk PP_ident (PL_stop (by rw [absorbs_bintok]; exact h))
    have outer : PEok P _ 0 [.ident a, .sym o1.sym, .ident b, .sym o2.sym, .ident c] (e2, []) :=
      PE_mk PP_ident (PL_bintok o1 (hpos o1) inner he1
        (PL_bintok o2 (hpos o2) (PE_mk PP_ident (PL_stop not_absorbs_nil)) he2
          (PL_stop not_absorbs_nil)))
    have := outer 18 (by decide)
    simp [parseTop, this, h, he1, he2, bind, Except.bind, pure, Except.pure]


/-! ### a prefix operator followed by a binary operator -/

inductive PreTok where
  | neg | bnot | lnot
  deriving Repr, DecidableEq

def PreTok.sym : PreTok → String
  | .neg => "-" | .bnot => "~" | .lnot => "not"

def PreTok.build : PreTok → Expr → Except PErr Expr
  | .neg, e => parseNeg e
  | .bnot, e => pure (.un .bnot e)
  | .lnot, e => pure (.un .lnot e)

theorem PP_pretok (p : PreTok) {k ts e n r} (h : PEok P k P.unary ts (e, r))
    (hb : p.build e = .ok n) : PPok P (k + 1) (.sym p.sym :: ts) ((n, false), r) := by
  cases p with
  | neg => exact PP_neg h hb
  | bnot =>
    simp only [PreTok.build, pure, Except.pure, Except.ok.injEq] at hb; subst hb; exact PP_un .bnot h
  | lnot =>
    simp only [PreTok.build, pure, Except.pure, Except.ok.injEq] at hb; subst hb; exact PP_un .lnot h

theorem prebuild_isNode (p : PreTok) {e : Expr} (he : e.isNode = true) :
    ∃ n, p.build e = .ok n ∧ n.isNode = true := by
  cases p with
  | neg => exact ⟨_, parseNeg_node he, negNode_isNode e⟩
  | bnot => exact ⟨_, rfl, rfl⟩
  | lnot => exact ⟨_, rfl, rfl⟩

/-- **Grouping of a prefix and a binary operator.**  `p a o b` is read as `p (a o b)` when the
guard of `o` exceeds the level `unary` at which the operand of a prefix operator is parsed, and
as `(p a) o b` otherwise. -/
theorem prefix_grouping (hpos : ∀ o : BinTok, o.guard P > 0) (p : PreTok) (o : BinTok)
    (a b : String) :
    parseTop P 0 [.sym p.sym, .ident a, .sym o.sym, .ident b] =
      if o.guard P > P.unary then o.build (.var a) (.var b) >>= p.build
      else p.build (.var a) >>= fun l => o.build l (.var b) := by
  by_cases h : o.guard P > P.unary
  · obtain ⟨e2, he2, hn2⟩ := build_isNode o (l := .var a) (r := .var b) rfl
    obtain ⟨e1, he1, -⟩ := prebuild_isNode p hn2
    have inner : PEok P _ P.unary [.ident a, .sym o.sym, .ident b] (e2, []) :=
      PE_mk PP_ident (PL_bintok o h (PE_mk PP_ident (PL_stop not_absorbs_nil)) he2
        (PL_stop not_absorbs_nil))
    have outer : PEok P _ 0 [.sym p.sym, .ident a, .sym o.sym, .ident b] (e1, []) :=
      PE_mk (PP_pretok p inner he1) (PL_stop not_absorbs_nil)
    have := outer 16 (by decide)
    simp [parseTop, this, h, he1, he2, bind, Except.bind, pure, Except.pure]
  · obtain ⟨e1, he1, hn1⟩ := prebuild_isNode p (e := .var a) rfl
    obtain ⟨e2, he2, -⟩ := build_isNode o (l := e1) (r := .var b) rfl
    have inner : PEok P _ P.unary [.ident a, .sym o.sym, .ident b]
        (.var a, [.sym o.sym, .ident b]) :=
      PE_mk PP_ident (PL_stop (by rw [absorbs_bintok]; exact h))
    have outer : PEok P _ 0 [.sym p.sym, .ident a, .sym o.sym, .ident b] (e2, []) :=
      PE_mk (PP_pretok p inner he1)
        (PL_bintok o (hpos o) (PE_mk PP_ident (PL_stop not_absorbs_nil)) he2
          (PL_stop not_absorbs_nil))
    have := outer 16 (by decide)
    simp [parseTop, this, h, he1, he2, bind, Except.bind, pure, Except.pure]

end PV.Syntax
