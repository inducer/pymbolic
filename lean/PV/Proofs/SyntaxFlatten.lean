import PV.Proofs.SyntaxMain
/-
  C06.  The parser's normal form `pnf e` of a tree of the fragment and the tree itself are equal
  "once nested sums and products are flattened".
-/
namespace PV.Syntax
open PV

/-- contribution of one (already flattened) child to the operand list of an `op` node -/
def flatOne (op : NaryOp) (y : Expr) : List Expr :=
  match y with
  | .nary o ds => if o == op then ds else [.nary o ds]
  | y => [y]

theorem flattenInto_cons (op : NaryOp) (c : Expr) (cs : List Expr) :
    flattenInto op (c :: cs) = flatOne op (flattenAssoc c) ++ flattenInto op cs := by
  simp only [flattenInto, flatOne]
  split <;> simp_all
  split <;> simp

theorem flattenInto_nil (op : NaryOp) : flattenInto op [] = [] := by simp [flattenInto]

theorem flattenInto_append (op : NaryOp) : ∀ (xs ys : List Expr),
    flattenInto op (xs ++ ys) = flattenInto op xs ++ flattenInto op ys
  | [], ys => by simp [flattenInto_nil]
  | x :: xs, ys => by
    simp only [List.cons_append, flattenInto_cons, flattenInto_append op xs ys, List.append_assoc]

theorem flattenAssoc_sum (cs : List Expr) :
    flattenAssoc (.nary .sum cs) = .nary .sum (flattenInto .sum cs) := by simp [flattenAssoc]
theorem flattenAssoc_prod (cs : List Expr) :
    flattenAssoc (.nary .prod cs) = .nary .prod (flattenInto .prod cs) := by simp [flattenAssoc]

theorem flattenAssoc_splice (op : NaryOp) (hop : op = .sum ∨ op = .prod) (l r : Expr) :
    flattenAssoc (spliceNary op l r)
      = .nary op (flatOne op (flattenAssoc l) ++ flatOne op (flattenAssoc r)) := by
  unfold spliceNary
  rcases hop with rfl | rfl
  all_goals
    split
    · split
      · rename_i o cs h
        cases o <;> simp at h
        simp [flattenAssoc, flattenInto_append, flattenInto_cons, flattenInto_nil, flatOne]
      · simp [flattenAssoc, flattenInto_cons, flattenInto_nil]
    · simp [flattenAssoc, flattenInto_cons, flattenInto_nil]

theorem flatOne_self (op : NaryOp) (A : List Expr) : flatOne op (.nary op A) = A := by
  simp [flatOne]

theorem flatten_pnfSum : ∀ (cs : List Expr) (acc : Expr) (A : List Expr),
    (∀ c ∈ cs, flattenAssoc (pnf c) = flattenAssoc c) → flattenAssoc acc = .nary .sum A →
    flattenAssoc (pnfSum acc cs) = .nary .sum (A ++ flattenInto .sum cs)
  | [], acc, A, _, h => by simp [pnfSum, h, flattenInto_nil]
  | c :: cs, acc, A, hc, h => by
    simp only [pnfSum]
    rw [flatten_pnfSum cs _ (A ++ flatOne .sum (flattenAssoc c))
      (fun d hd => hc d (List.mem_cons_of_mem _ hd))
      (by rw [flattenAssoc_splice .sum (Or.inl rfl), h, hc c (List.mem_cons_self ..),
            flatOne_self])]
    simp [flattenInto_cons]

theorem flatten_pnfProd : ∀ (c : Expr) (cs : List Expr),
    (∀ d ∈ c :: cs, flattenAssoc (pnf d) = flattenAssoc d) →
    flatOne .prod (flattenAssoc (pnfProd (c :: cs))) = flattenInto .prod (c :: cs)
  | c, [], h => by
    simp [pnfProd_one, h c (List.mem_cons_self ..), flattenInto_cons, flattenInto_nil]
  | c, d :: ds, h => by
    rw [pnfProd_cons2, flattenAssoc_splice .prod (Or.inr rfl), flatOne_self,
      h c (List.mem_cons_self ..),
      flatten_pnfProd d ds (fun e he => h e (List.mem_cons_of_mem _ he))]
    simp only [flattenInto_cons]

/-- sums, products and the two-operand nodes of the fragment have at least two operands -/
theorem printable_nary {P : ParserPrec} {S : PrintPrec} {o : NaryOp} {cs : List Expr}
    (hp : Printable P S (.nary o cs) = true) : ∃ c d cs', cs = c :: d :: cs' := by
  match cs with
  | [] | [_] => cases o <;> simp [Printable] at hp
  | c :: d :: cs' => exact ⟨c, d, cs', rfl⟩

/-- every direct child of a tree of the fragment is in the fragment -/
theorem printable_children {P : ParserPrec} {S : PrintPrec} {e : Expr}
    (hp : Printable P S e = true) (hns : ∀ cs, e ≠ .slice cs) :
    ∀ c ∈ e.children, Printable P S c = true := by
  cases e with
  | slice cs => exact absurd rfl (hns cs)
  | nary o cs =>
    obtain ⟨c, d, cs', rfl⟩ := printable_nary hp
    cases o with
    | sum =>
      simp only [Printable, Bool.and_eq_true] at hp
      exact List.forall_mem_cons.mpr ⟨hp.1.2, printableAll_mem hp.2⟩
    | prod =>
      simp only [Printable, Bool.and_eq_true] at hp
      exact printableProd_mem hp.1
    | bor | bxor | band | lor | land | min | max =>
      cases cs' with
      | cons => simp only [Printable, Bool.false_eq_true] at hp
      | nil =>
        simp only [Printable, naryInfix, Bool.and_eq_true, Bool.false_eq_true] at hp <;>
          simp only [Expr.children, List.forall_mem_cons, List.not_mem_nil, false_implies,
            implies_true, and_self, hp]
  | bin | cmp | un | ite | lookup =>
    simp only [Printable, Bool.and_eq_true] at hp
    simp only [Expr.children, List.forall_mem_cons, List.not_mem_nil, false_implies, implies_true,
      and_self, hp]
  | const | var => exact fun _ h => nomatch h
  | subscript a i =>
    by_cases hi : ∃ cs, i = .tuple cs
    · obtain ⟨cs, rfl⟩ := hi
      match cs, hp with
      | c :: d :: cs', hp =>
        have hp' := hp
        simp only [Printable, Bool.and_eq_true] at hp'
        simp only [Expr.children, List.forall_mem_cons, List.not_mem_nil, false_implies,
          implies_true, Printable, Bool.and_eq_true, hp', and_self]
      | [], hp => simp [Printable] at hp
      | [_], hp => simp [Printable] at hp
    · rw [printable_subscript fun cs h => hi ⟨cs, h⟩] at hp
      simp only [Bool.and_eq_true] at hp
      simp only [Expr.children, List.forall_mem_cons, List.not_mem_nil, false_implies, implies_true,
        and_self, hp]
  | call f as =>
    simp only [Printable, Bool.and_eq_true] at hp
    exact List.forall_mem_cons.mpr ⟨hp.1.2, printableAll_mem hp.2⟩
  | callKw f as ns vs =>
    simp only [Printable, Bool.and_eq_true] at hp
    exact List.forall_mem_cons.mpr ⟨hp.1.1.1.1.1.2, List.forall_mem_append.mpr
      ⟨printableAll_mem hp.1.1.1.1.2, printableAll_mem hp.1.1.1.2⟩⟩
  | tuple cs =>
    match cs, hp with
    | [], _ => simp [Expr.children]
    | c :: cs', hp =>
      simp only [Printable, Bool.and_eq_true] at hp
      exact List.forall_mem_cons.mpr ⟨hp.1.1.2, printableAll_mem hp.1.2⟩
  | list cs =>
    match cs, hp with
    | [], _ => simp [Expr.children]
    | [c], hp => simp only [Printable, Bool.and_eq_true] at hp; simp [Expr.children, hp]
    | c :: d :: cs', hp =>
      simp only [Printable, Bool.and_eq_true] at hp
      exact List.forall_mem_cons.mpr ⟨hp.1.1.2, printableAll_mem hp.1.2⟩
  | _ => simp only [Printable, Bool.false_eq_true] at hp

/-- the same for every node: a part of a slice may be omitted (`None`) -/
theorem printable_children' {P : ParserPrec} {S : PrintPrec} {e : Expr}
    (hp : Printable P S e = true) :
    ∀ c ∈ e.children, c = .const .none ∨ Printable P S c = true := by
  intro c hc
  by_cases hs : ∃ cs, e = .slice cs
  · obtain ⟨cs, rfl⟩ := hs
    by_cases hn : c = .const .none
    · exact Or.inl hn
    · refine Or.inr ?_
      simp only [Expr.children] at hc
      match cs, hp, hc with
      | c0 :: d :: cs', hp, hc =>
        simp only [Printable] at hp
        exact printableSlice_mem hp c hc hn
      | [], hp, _ => simp [Printable] at hp
      | [_], hp, _ => simp [Printable] at hp
  · exact Or.inr (printable_children hp (fun cs h => hs ⟨cs, h⟩) c hc)

theorem flattenL_pnfL : ∀ (cs : List Expr), (∀ c ∈ cs, flattenAssoc (pnf c) = flattenAssoc c) →
    flattenAssocL (pnfL cs) = flattenAssocL cs
  | [], _ => by simp [pnfL]
  | c :: cs, h => by
    simp only [pnfL, flattenAssocL, h c (List.mem_cons_self ..),
      flattenL_pnfL cs (fun d hd => h d (List.mem_cons_of_mem _ hd))]

/-- the parser's normal form differs from the tree only by the nesting of sums and products -/
theorem flatten_pnf {P : ParserPrec} {S : PrintPrec} {e : Expr} (hp : Printable P S e = true) :
    flattenAssoc (pnf e) = flattenAssoc e := by
  induction e using Expr.induct with | _ e ih => ?_
  have hch : ∀ c ∈ e.children, flattenAssoc (pnf c) = flattenAssoc c := fun c hc =>
    (printable_children' hp c hc).elim (fun h => h ▸ rfl) (ih c hc)
  cases e with
  | nary o cs =>
    simp only [Expr.children] at hch
    cases o with
    | sum =>
      match cs, hp, hch with
      | c :: d :: cs', hp, hch =>
        simp only [pnf, pnfSum]
        rw [flatten_pnfSum cs' _ (flatOne .sum (flattenAssoc c) ++ flatOne .sum (flattenAssoc d))
          (fun e he => hch e (by simp [he]))
          (by rw [flattenAssoc_splice .sum (Or.inl rfl), hch c (by simp), hch d (by simp)])]
        simp [flattenAssoc_sum, flattenInto_cons]
      | [], hp, _ => simp [Printable] at hp
      | [_], hp, _ => simp [Printable] at hp
    | prod =>
      match cs, hp, hch with
      | c :: d :: cs', hp, hch =>
        simp only [pnf, pnfProd_cons2]
        rw [flattenAssoc_splice .prod (Or.inr rfl), hch c (by simp),
          flatten_pnfProd d cs' (fun e he => hch e (List.mem_cons_of_mem _ he)),
          flattenAssoc_prod]
        simp only [flattenInto_cons]
      | [], hp, _ => simp [Printable] at hp
      | [_], hp, _ => simp [Printable] at hp
    | bor | bxor | band | lor | land | min | max =>
      simp only [pnf, flattenAssoc, flattenL_pnfL cs hch]
  | call f as =>
    simp only [Expr.children, List.forall_mem_cons] at hch
    simp only [pnf, flattenAssoc, hch.1, flattenL_pnfL as hch.2]
  | callKw f as ns vs =>
    simp only [Expr.children, List.forall_mem_cons, List.forall_mem_append] at hch
    simp only [pnf, flattenAssoc, hch.1, flattenL_pnfL as hch.2.1, flattenL_pnfL vs hch.2.2]
  | tuple cs | list cs | slice cs => simp only [pnf, flattenAssoc, flattenL_pnfL cs hch]
  | bin | cmp | un | ite | lookup | subscript =>
    simp only [Expr.children, List.forall_mem_cons] at hch
    simp only [pnf, flattenAssoc, hch]
  | _ => rfl

end PV.Syntax
