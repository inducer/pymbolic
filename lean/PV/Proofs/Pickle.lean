import PV.Model.Pickle
/-
  Object graphs (`Obj`), for C17 (lean/PV/Properties/C17.lean) and C01: slots, pickling, the cached
  hash and its coherence invariant, `==` on objects (well-formedness, reflexivity, symmetry, equal
  hashes), and the histories of operations against their slot-free reference semantics.
-/
namespace PV.Pickle
open PV

/-! ### erase / noCache / pickle / unpickle -/

theorem erase_noCache (o : Obj) : o.erase.noCache = true := by
  induction o using Obj.rec (motive_2 := fun xs => Obj.noCacheL (Obj.eraseL xs) = true) <;>
    simp_all [Obj.erase, Obj.eraseL, Obj.noCache, Obj.noCacheL]

theorem eraseL_noCacheL : ∀ xs : List Obj, Obj.noCacheL (Obj.eraseL xs) = true
  | [] => rfl
  | x :: xs => by simp [Obj.eraseL, Obj.noCacheL, erase_noCache x, eraseL_noCacheL xs]

theorem noCache_erase (o : Obj) : o.noCache = true → o.erase = o := by
  induction o using Obj.rec (motive_2 := fun xs => Obj.noCacheL xs = true → Obj.eraseL xs = xs) <;>
    simp_all [Obj.erase, Obj.eraseL, Obj.noCache, Obj.noCacheL]

theorem noCacheL_eraseL : ∀ xs : List Obj, Obj.noCacheL xs = true → Obj.eraseL xs = xs
  | [], _ => rfl
  | x :: xs, h => by
      simp only [Obj.noCacheL, Bool.and_eq_true] at h
      simp only [Obj.eraseL, noCache_erase x h.1, noCacheL_eraseL xs h.2]

theorem erase_erase (o : Obj) : o.erase.erase = o.erase := noCache_erase _ (erase_noCache o)

theorem pickle_erase (o : Obj) : o.erase.pickle = o.pickle := by
  induction o using Obj.rec
    (motive_2 := fun xs => Obj.pickleL (Obj.eraseL xs) = Obj.pickleL xs) <;>
    simp_all [Obj.erase, Obj.eraseL, Obj.pickle, Obj.pickleL]

theorem pickleL_eraseL : ∀ xs : List Obj, Obj.pickleL (Obj.eraseL xs) = Obj.pickleL xs
  | [] => rfl
  | x :: xs => by simp only [Obj.eraseL, Obj.pickleL, pickle_erase x, pickleL_eraseL xs]

theorem unpickle_pickle (o : Obj) : o.pickle.unpickle = o.erase := by
  induction o using Obj.rec
    (motive_2 := fun xs => Pk.unpickleL (Obj.pickleL xs) = Obj.eraseL xs) <;>
    simp_all [Obj.pickle, Obj.pickleL, Pk.unpickle, Pk.unpickleL, Obj.erase, Obj.eraseL]

theorem unpickleL_pickleL : ∀ xs : List Obj, Pk.unpickleL (Obj.pickleL xs) = Obj.eraseL xs
  | [] => rfl
  | x :: xs => by
      simp only [Obj.pickleL, Pk.unpickleL, Obj.eraseL, unpickle_pickle x, unpickleL_pickleL xs]

mutual
theorem unpickle_noCache : ∀ p : Pk, p.unpickle.noCache = true
  | .atom _ => rfl
  | .tuple xs | .list xs | .dict _ xs => by
      simp only [Pk.unpickle, Obj.noCache, unpickleL_noCacheL xs]
  | .obj _ _ (.tuple xs) | .obj _ _ (.dict _ xs) => by
      simp [Pk.unpickle, Obj.noCache, unpickleL_noCacheL xs]
  | .obj _ _ (.atom _) | .obj _ _ (.list _) | .obj _ _ (.obj ..) => by
      simp [Pk.unpickle, Obj.noCache, Obj.noCacheL]
theorem unpickleL_noCacheL : ∀ xs : List Pk, Obj.noCacheL (Pk.unpickleL xs) = true
  | [] => rfl
  | x :: xs => by simp [Pk.unpickleL, Obj.noCacheL, unpickle_noCache x, unpickleL_noCacheL xs]
end

/-! ### hash ignores the slots; cache-free objects are coherent in every process -/

theorem hash_erase (P : HashParams) (o : Obj) : o.erase.hash P = o.hash P := by
  induction o using Obj.rec
    (motive_2 := fun xs => Obj.hashL P (Obj.eraseL xs) = Obj.hashL P xs) <;>
    simp_all [Obj.erase, Obj.eraseL, Obj.hash, Obj.hashL]

theorem hashL_eraseL (P : HashParams) : ∀ xs : List Obj, Obj.hashL P (Obj.eraseL xs) = Obj.hashL P xs
  | [] => rfl
  | x :: xs => by simp only [Obj.eraseL, Obj.hashL, hash_erase P x, hashL_eraseL P xs]

theorem hash_congr (P : HashParams) {a b : Obj} (h : a.erase = b.erase) : a.hash P = b.hash P := by
  rw [← hash_erase P a, ← hash_erase P b, h]

theorem noCache_coherent (P : HashParams) (o : Obj) : o.noCache = true → o.coherent P := by
  induction o using Obj.rec
    (motive_2 := fun xs => Obj.noCacheL xs = true → Obj.coherentL P xs) <;>
    simp_all [Obj.noCache, Obj.noCacheL, Obj.coherent, Obj.coherentL]

theorem noCacheL_coherentL (P : HashParams) :
    ∀ xs : List Obj, Obj.noCacheL xs = true → Obj.coherentL P xs
  | [], _ => trivial
  | x :: xs, h => by
      simp only [Obj.noCacheL, Bool.and_eq_true] at h
      exact ⟨noCache_coherent P x h.1, noCacheL_coherentL P xs h.2⟩

/-! ### the cached hash under the coherence invariant -/

mutual
theorem hashC_spec (P : HashParams) : ∀ o : Obj, o.coherent P →
    (o.hashC P).1 = o.hash P ∧ (o.hashC P).2.coherent P ∧ (o.hashC P).2.erase = o.erase
  | .atom _, _ => ⟨rfl, trivial, rfl⟩
  | .tuple xs, h | .list xs, h | .dict _ xs, h => by
      simp only [Obj.coherent] at h
      obtain ⟨h1, h2, h3⟩ := hashCL_spec P xs h
      refine ⟨?_, ?_, ?_⟩
      · simp only [Obj.hashC, Obj.hash, h1]
      · simpa only [Obj.hashC, Obj.coherent] using h2
      · simp only [Obj.hashC, Obj.erase, h3]
  | .inst c k fs (some v), h => by
      have h' := h
      simp only [Obj.coherent] at h'
      exact ⟨by simpa only [Obj.hashC, Obj.hash] using h'.1 v rfl,
        by simpa only [Obj.hashC] using h, by simp only [Obj.hashC]⟩
  | .inst c k fs none, h => by
      simp only [Obj.coherent] at h
      obtain ⟨h1, h2, h3⟩ := hashCL_spec P fs h.2
      have h4 : Obj.hashL P (Obj.hashCL P fs).2 = Obj.hashL P fs := by
        rw [← hashL_eraseL P (Obj.hashCL P fs).2, h3, hashL_eraseL]
      refine ⟨?_, ?_, ?_⟩
      · simp only [Obj.hashC, Obj.hash, h1]
      · simp only [Obj.hashC, Obj.coherent, h1, h4]
        exact ⟨fun v hv => by simpa using hv.symm, h2⟩
      · simp only [Obj.hashC, Obj.erase, h3]
theorem hashCL_spec (P : HashParams) : ∀ xs : List Obj, Obj.coherentL P xs →
    (Obj.hashCL P xs).1 = Obj.hashL P xs ∧ Obj.coherentL P (Obj.hashCL P xs).2 ∧
      Obj.eraseL (Obj.hashCL P xs).2 = Obj.eraseL xs
  | [], _ => ⟨rfl, trivial, rfl⟩
  | x :: xs, h => by
      simp only [Obj.coherentL] at h
      obtain ⟨a1, a2, a3⟩ := hashC_spec P x h.1
      obtain ⟨b1, b2, b3⟩ := hashCL_spec P xs h.2
      refine ⟨?_, ?_, ?_⟩
      · simp only [Obj.hashCL, Obj.hashL, a1, b1]
      · simp only [Obj.hashCL, Obj.coherentL]; exact ⟨a2, b2⟩
      · simp only [Obj.hashCL, Obj.eraseL, a3, b3]
end

/-! ### `==` on objects: well-formedness, reflexivity, slots are irrelevant, equal ⇒ equal hash -/

mutual
/-- no float nan, keyword names duplicate-free and parallel to the values -/
def Obj.wf : Obj → Bool
  | .atom c => c.wf
  | .tuple xs => Obj.wfL xs
  | .list xs => Obj.wfL xs
  | .dict ks vs => decide ks.Nodup && ks.length == vs.length && Obj.wfL vs
  | .inst _ _ fs _ => Obj.wfL fs
def Obj.wfL : List Obj → Bool
  | [] => true
  | x :: xs => x.wf && Obj.wfL xs
end

theorem Obj.wfL_iff : ∀ {xs : List Obj}, Obj.wfL xs = true ↔ ∀ x ∈ xs, x.wf = true
  | [] => by simp [Obj.wfL]
  | y :: ys => by
    simp only [Obj.wfL, Bool.and_eq_true, List.forall_mem_cons, Obj.wfL_iff (xs := ys)]

def Obj.children : Obj → List Obj
  | .atom _ => []
  | .tuple xs => xs
  | .list xs => xs
  | .dict _ vs => vs
  | .inst _ _ fs _ => fs

mutual
theorem Obj.ind_aux {Pr : Obj → Prop} (h : ∀ o, (∀ c ∈ o.children, Pr c) → Pr o) : ∀ o, Pr o
  | .atom _ => h _ (by simp [Obj.children])
  | .tuple xs => h _ (by simpa [Obj.children] using Obj.ind_auxL h xs)
  | .list xs => h _ (by simpa [Obj.children] using Obj.ind_auxL h xs)
  | .dict _ vs => h _ (by simpa [Obj.children] using Obj.ind_auxL h vs)
  | .inst _ _ fs _ => h _ (by simpa [Obj.children] using Obj.ind_auxL h fs)
theorem Obj.ind_auxL {Pr : Obj → Prop} (h : ∀ o, (∀ c ∈ o.children, Pr c) → Pr o) :
    ∀ (xs : List Obj), ∀ c ∈ xs, Pr c
  | [] => by simp
  | x :: xs => by simpa using ⟨Obj.ind_aux h x, Obj.ind_auxL h xs⟩
end

theorem Obj.induct {Pr : Obj → Prop} (h : ∀ o, (∀ c ∈ o.children, Pr c) → Pr o) (o : Obj) : Pr o :=
  Obj.ind_aux h o

theorem hashL_eq_map (P : HashParams) : ∀ xs : List Obj, Obj.hashL P xs = xs.map (Obj.hash P)
  | [] => rfl
  | x :: xs => by simp [Obj.hashL, hashL_eq_map P xs]

theorem eraseL_eq_map : ∀ xs : List Obj, Obj.eraseL xs = xs.map Obj.erase
  | [] => rfl
  | x :: xs => by simp [Obj.eraseL, eraseL_eq_map xs]

theorem lookupO_mem {k : String} : ∀ {ms : List String} {ws : List Obj} {w : Obj},
    assocLookupO k ms ws = some w → (k, w) ∈ ms.zip ws
  | [], _, _, h | _ :: _, [], _, h => by simp [assocLookupO] at h
  | m :: ms, w' :: ws, w, h => by
    simp only [assocLookupO] at h
    simp only [List.zip_cons_cons, List.mem_cons, Prod.mk.injEq]
    split at h
    · rename_i hm
      simp only [Option.some.injEq] at h
      exact Or.inl ⟨hm.symm, h.symm⟩
    · exact Or.inr (lookupO_mem h)

theorem lookupO_of_mem {k : String} : ∀ {ms : List String} {ws : List Obj} {w : Obj},
    ms.Nodup → (k, w) ∈ ms.zip ws → assocLookupO k ms ws = some w
  | [], _, _, _, h | _ :: _, [], _, _, h => by simp at h
  | m :: ms, w' :: ws, w, hn, h => by
    simp only [List.zip_cons_cons, List.mem_cons, Prod.mk.injEq] at h
    simp only [List.nodup_cons] at hn
    simp only [assocLookupO]
    rcases h with ⟨rfl, rfl⟩ | h
    · simp
    · have hk := (List.of_mem_zip h).1
      have : m ≠ k := by rintro rfl; exact hn.1 hk
      simp only [this, if_false]
      exact lookupO_of_mem hn.2 h

theorem pyEqKwO_iff_lookup : ∀ (ns : List String) (vs : List Obj) (ms : List String) (ws : List Obj),
    Obj.pyEqKw ns vs ms ws = true ↔
      ∀ n v, (n, v) ∈ ns.zip vs → ∃ w, assocLookupO n ms ws = some w ∧ v.pyEq w = true
  | [], _, _, _ | _ :: _, [], _, _ => by simp [Obj.pyEqKw]
  | n :: ns, v :: vs, ms, ws => by
    simp only [Obj.pyEqKw, Bool.and_eq_true, List.zip_cons_cons, List.mem_cons, Prod.mk.injEq,
      pyEqKwO_iff_lookup ns vs ms ws]
    constructor
    · rintro ⟨h1, h2⟩ n' v' (⟨rfl, rfl⟩ | h)
      · split at h1
        · exact ⟨_, by assumption, h1⟩
        · simp at h1
      · exact h2 n' v' h
    · intro h
      refine ⟨?_, fun n' v' h' => h n' v' (Or.inr h')⟩
      obtain ⟨w, hw, hr⟩ := h n v (Or.inl ⟨rfl, rfl⟩)
      simp only [hw, hr]

theorem pyEqKwO_iff {ns : List String} {vs : List Obj} {ms : List String} {ws : List Obj}
    (hms : ms.Nodup) :
    Obj.pyEqKw ns vs ms ws = true ↔
      ∀ n v, (n, v) ∈ ns.zip vs → ∃ w, (n, w) ∈ ms.zip ws ∧ v.pyEq w = true := by
  rw [pyEqKwO_iff_lookup]
  constructor
  · intro h n v hm
    obtain ⟨w, hw, hr⟩ := h n v hm
    exact ⟨w, lookupO_mem hw, hr⟩
  · intro h n v hm
    obtain ⟨w, hw, hr⟩ := h n v hm
    exact ⟨w, lookupO_of_mem hms hw, hr⟩

theorem pyEqLO_refl_of : ∀ (cs : List Obj), (∀ c ∈ cs, c.pyEq c = true) → Obj.pyEqL cs cs = true
  | [], _ => by simp [Obj.pyEqL]
  | c :: cs, h => by
    simp only [List.forall_mem_cons] at h
    simp only [Obj.pyEqL, Bool.and_eq_true]
    exact ⟨h.1, pyEqLO_refl_of cs h.2⟩

theorem Obj.pyEq_refl (o : Obj) : o.wf = true → o.pyEq o = true := by
  induction o using Obj.induct with | _ o ih => ?_
  intro h
  cases o <;> simp only [Obj.children] at ih <;>
    simp only [Obj.wf, Bool.and_eq_true, Obj.wfL_iff, decide_eq_true_eq, beq_iff_eq] at h <;>
    simp only [Obj.pyEq, Bool.and_eq_true, beq_self_eq_true, true_and, and_true]
  case atom c => exact Const.pyEq_refl c h
  case dict ks vs =>
    rw [pyEqKwO_iff h.1.1]
    intro n v hm
    exact ⟨v, hm, ih v (List.of_mem_zip hm).2 (h.2 v (List.of_mem_zip hm).2)⟩
  all_goals exact pyEqLO_refl_of _ fun c hc => ih c hc (h c hc)

theorem hashLO_eq_of (P : HashParams) : ∀ (as bs : List Obj),
    (∀ a ∈ as, ∀ b ∈ bs, a.pyEq b = true → a.hash P = b.hash P) →
    Obj.pyEqL as bs = true → Obj.hashL P as = Obj.hashL P bs
  | [], [], _, _ => rfl
  | [], _ :: _, _, h | _ :: _, [], _, h => by simp [Obj.pyEqL] at h
  | a :: as, b :: bs, ih, h => by
    simp only [Obj.pyEqL, Bool.and_eq_true] at h
    simp only [Obj.hashL]
    rw [ih a List.mem_cons_self b List.mem_cons_self h.1, hashLO_eq_of P as bs ?_ h.2]
    intro a' ha' b' hb'
    exact ih a' (List.mem_cons_of_mem _ ha') b' (List.mem_cons_of_mem _ hb')

theorem kwHash_eq (P : HashParams) (ks : List String) (vs : List Obj) :
    (ks.map P.str).zip (Obj.hashL P vs) = (ks.zip vs).map (fun p => (P.str p.1, p.2.hash P)) := by
  rw [hashL_eq_map, List.zip_map]
  rfl

theorem hashKwO_perm_of (P : HashParams) {ns ms : List String} {vs ws : List Obj}
    (hn : ns.Nodup) (hm : ms.Nodup)
    (hl1 : ns.length = vs.length) (hl2 : ms.length = ws.length) (hl : ns.length = ms.length)
    (ih : ∀ v ∈ vs, ∀ w ∈ ws, v.pyEq w = true → v.hash P = w.hash P)
    (h : Obj.pyEqKw ns vs ms ws = true) :
    ((ns.map P.str).zip (Obj.hashL P vs)).Perm ((ms.map P.str).zip (Obj.hashL P ws)) := by
  rw [pyEqKwO_iff hm] at h
  rw [kwHash_eq, kwHash_eq]
  apply assoc_match_perm (fun n v => (P.str n, Obj.hash P v)) (fun n v => (P.str n, Obj.hash P v))
    (ns.zip vs) (ms.zip ws)
    (by rw [List.map_fst_zip (by omega)]; exact hn) (by rw [List.map_fst_zip (by omega)]; exact hm)
    (by simp only [List.length_zip]; omega)
  intro n v hnv
  obtain ⟨w, hw, hr⟩ := h n v hnv
  exact ⟨w, hw, by rw [ih v (List.of_mem_zip hnv).2 w (List.of_mem_zip hw).2 hr]⟩

/-- the structural hash respects `==` (for every process whose number hash is value-based and
whose mapping hash is order-independent) -/
theorem Obj.eq_hash' {P : HashParams} (hP : P.Ok) (a : Obj) :
    a.wf = true → ∀ b : Obj, b.wf = true → a.pyEq b = true → a.hash P = b.hash P := by
  induction a using Obj.induct with | _ a ih => ?_
  intro ha b hb h
  cases a <;> cases b <;>
    simp only [Obj.pyEq, Bool.false_eq_true, Bool.and_eq_true, beq_iff_eq] at h <;>
    simp only [Obj.children] at ih <;>
    simp only [Obj.wf, Bool.and_eq_true, Obj.wfL_iff, decide_eq_true_eq, beq_iff_eq] at ha hb <;>
    simp only [Obj.hash]
  case atom.atom c d => exact Const.eq_hash hP _ _ h
  case tuple.tuple xs ys | list.list xs ys =>
    rw [hashLO_eq_of P xs ys (fun a haa b hbb => ih a haa (ha a haa) b (hb b hbb)) h]
  case dict.dict ks vs ms ws =>
    exact hP.mapping_perm _ _ (hashKwO_perm_of P ha.1.1 hb.1.1 ha.1.2 hb.1.2 h.1
      (fun v hv w hw => ih v hv (ha.2 v hv) w (hb.2 w hw)) h.2)
  case inst.inst c k fs _ c' k' fs' _ =>
    obtain ⟨⟨rfl, rfl⟩, h3⟩ := h
    rw [hashLO_eq_of P fs fs' (fun a haa b hbb => ih a haa (ha a haa) b (hb b hbb)) h3]

theorem Obj.eq_hash {P : HashParams} (hP : P.Ok) (a b : Obj) (ha : a.wf = true) (hb : b.wf = true)
    (h : a.pyEq b = true) : a.hash P = b.hash P := Obj.eq_hash' hP a ha b hb h

/-! ### `==` on well-formed objects is symmetric -/

theorem pyEqLO_symm_of : ∀ (as bs : List Obj),
    (∀ a ∈ as, ∀ b ∈ bs, a.pyEq b = true → b.pyEq a = true) →
    Obj.pyEqL as bs = true → Obj.pyEqL bs as = true
  | [], [], _, _ => by simp [Obj.pyEqL]
  | [], _ :: _, _, h | _ :: _, [], _, h => by simp [Obj.pyEqL] at h
  | a :: as, b :: bs, ih, h => by
    simp only [Obj.pyEqL, Bool.and_eq_true] at h ⊢
    refine ⟨ih a List.mem_cons_self b List.mem_cons_self h.1, pyEqLO_symm_of as bs ?_ h.2⟩
    intro a' ha' b' hb'
    exact ih a' (List.mem_cons_of_mem _ ha') b' (List.mem_cons_of_mem _ hb')

theorem pyEqKwO_symm_of {ns ms : List String} {vs ws : List Obj} (hn : ns.Nodup) (hm : ms.Nodup)
    (hl1 : ns.length = vs.length) (hl2 : ms.length = ws.length) (hl : ns.length = ms.length)
    (ih : ∀ v ∈ vs, ∀ w ∈ ws, v.pyEq w = true → w.pyEq v = true)
    (h : Obj.pyEqKw ns vs ms ws = true) : Obj.pyEqKw ms ws ns vs = true := by
  rw [pyEqKwO_iff hm] at h
  rw [pyEqKwO_iff hn]
  intro m w hmw
  have := assoc_match_symm (fun v w => Obj.pyEq v w = true) (ns.zip vs) (ms.zip ws)
    (by rw [List.map_fst_zip (by omega)]; exact hn) (by rw [List.map_fst_zip (by omega)]; exact hm)
    (by simp only [List.length_zip]; omega) h m w hmw
  obtain ⟨v, hv, hr⟩ := this
  exact ⟨v, hv, ih v (List.of_mem_zip hv).2 w (List.of_mem_zip hmw).2 hr⟩

theorem Obj.pyEq_symm' (a : Obj) :
    a.wf = true → ∀ b : Obj, b.wf = true → a.pyEq b = true → b.pyEq a = true := by
  induction a using Obj.induct with | _ a ih => ?_
  intro ha b hb h
  cases a <;> cases b <;>
    simp only [Obj.pyEq, Bool.false_eq_true, Bool.and_eq_true, beq_iff_eq] at h <;>
    simp only [Obj.children] at ih <;>
    simp only [Obj.wf, Bool.and_eq_true, Obj.wfL_iff, decide_eq_true_eq, beq_iff_eq] at ha hb <;>
    simp only [Obj.pyEq, Bool.and_eq_true, beq_iff_eq]
  case atom.atom c d => exact Const.pyEq_symm _ _ h
  case tuple.tuple xs ys | list.list xs ys =>
    exact pyEqLO_symm_of xs ys (fun a haa b hbb => ih a haa (ha a haa) b (hb b hbb)) h
  case dict.dict ks vs ms ws =>
    exact ⟨h.1.symm, pyEqKwO_symm_of ha.1.1 hb.1.1 ha.1.2 hb.1.2 h.1
      (fun v hv w hw => ih v hv (ha.2 v hv) w (hb.2 w hw)) h.2⟩
  case inst.inst c k fs _ c' k' fs' _ =>
    exact ⟨⟨h.1.1.symm, h.1.2.symm⟩,
      pyEqLO_symm_of fs fs' (fun a haa b hbb => ih a haa (ha a haa) b (hb b hbb)) h.2⟩

theorem Obj.pyEq_symm (a b : Obj) (ha : a.wf = true) (hb : b.wf = true) (h : a.pyEq b = true) :
    b.pyEq a = true := Obj.pyEq_symm' a ha b hb h

/-! ### slots are irrelevant to `==` and to well-formedness -/

theorem lookupO_erase (k : String) : ∀ (ms : List String) (ws : List Obj),
    assocLookupO k ms (Obj.eraseL ws) = (assocLookupO k ms ws).map Obj.erase
  | [], _ => by simp [assocLookupO]
  | _ :: _, [] => by simp [assocLookupO, Obj.eraseL]
  | m :: ms, w :: ws => by
    simp only [assocLookupO, Obj.eraseL]
    split
    · simp
    · exact lookupO_erase k ms ws

mutual
theorem pyEq_erase_left : ∀ a b : Obj, a.erase.pyEq b = a.pyEq b
  | .tuple xs, .tuple ys | .list xs, .list ys | .inst _ _ xs _, .inst _ _ ys _ => by
      simp only [Obj.erase, Obj.pyEq, pyEqL_erase_left xs ys]
  | .dict ks vs, .dict ms ws => by simp only [Obj.erase, Obj.pyEq, pyEqKw_erase_left ks vs ms ws]
  | .atom _, _
  | .tuple _, .atom _ | .tuple _, .list _ | .tuple _, .dict .. | .tuple _, .inst ..
  | .list _, .atom _ | .list _, .tuple _ | .list _, .dict .. | .list _, .inst ..
  | .dict .., .atom _ | .dict .., .tuple _ | .dict .., .list _ | .dict .., .inst ..
  | .inst .., .atom _ | .inst .., .tuple _ | .inst .., .list _ | .inst .., .dict .. => rfl
theorem pyEqL_erase_left : ∀ as bs : List Obj, Obj.pyEqL (Obj.eraseL as) bs = Obj.pyEqL as bs
  | [], [] | [], _ :: _ | _ :: _, [] => rfl
  | a :: as, b :: bs => by
    simp only [Obj.eraseL, Obj.pyEqL, pyEq_erase_left a b, pyEqL_erase_left as bs]
theorem pyEqKw_erase_left : ∀ (ns : List String) (vs : List Obj) (ms : List String) (ws : List Obj),
    Obj.pyEqKw ns (Obj.eraseL vs) ms ws = Obj.pyEqKw ns vs ms ws
  | [], _, _, _ => by simp [Obj.pyEqKw]
  | _ :: _, [], _, _ => by simp [Obj.pyEqKw, Obj.eraseL]
  | n :: ns, v :: vs, ms, ws => by
    simp only [Obj.eraseL, Obj.pyEqKw, pyEqKw_erase_left ns vs ms ws]
    cases assocLookupO n ms ws with
    | none => rfl
    | some w => simp only [pyEq_erase_left v w]
end

mutual
theorem pyEq_erase_right : ∀ a b : Obj, a.pyEq b.erase = a.pyEq b
  | .tuple xs, .tuple ys | .list xs, .list ys | .inst _ _ xs _, .inst _ _ ys _ => by
      simp only [Obj.erase, Obj.pyEq, pyEqL_erase_right xs ys]
  | .dict ks vs, .dict ms ws => by simp only [Obj.erase, Obj.pyEq, pyEqKw_erase_right ks vs ms ws]
  | .atom _, .atom _ | .atom _, .tuple _ | .atom _, .list _ | .atom _, .dict .. | .atom _, .inst ..
  | .tuple _, .atom _ | .tuple _, .list _ | .tuple _, .dict .. | .tuple _, .inst ..
  | .list _, .atom _ | .list _, .tuple _ | .list _, .dict .. | .list _, .inst ..
  | .dict .., .atom _ | .dict .., .tuple _ | .dict .., .list _ | .dict .., .inst ..
  | .inst .., .atom _ | .inst .., .tuple _ | .inst .., .list _ | .inst .., .dict .. => rfl
theorem pyEqL_erase_right : ∀ as bs : List Obj, Obj.pyEqL as (Obj.eraseL bs) = Obj.pyEqL as bs
  | [], [] | [], _ :: _ | _ :: _, [] => rfl
  | a :: as, b :: bs => by
    simp only [Obj.eraseL, Obj.pyEqL, pyEq_erase_right a b, pyEqL_erase_right as bs]
theorem pyEqKw_erase_right : ∀ (ns : List String) (vs : List Obj) (ms : List String) (ws : List Obj),
    Obj.pyEqKw ns vs ms (Obj.eraseL ws) = Obj.pyEqKw ns vs ms ws
  | [], _, _, _ | _ :: _, [], _, _ => by simp [Obj.pyEqKw]
  | n :: ns, v :: vs, ms, ws => by
    simp only [Obj.pyEqKw, pyEqKw_erase_right ns vs ms ws, lookupO_erase]
    cases assocLookupO n ms ws with
    | none => rfl
    | some w => simp only [Option.map_some, pyEq_erase_right v w]
end

theorem pyEq_congr {a a' b b' : Obj} (ha : a.erase = a'.erase) (hb : b.erase = b'.erase) :
    a.pyEq b = a'.pyEq b' := by
  rw [← pyEq_erase_left a, ← pyEq_erase_right _ b, ha, hb, pyEq_erase_left, pyEq_erase_right]

theorem eraseL_length : ∀ xs : List Obj, (Obj.eraseL xs).length = xs.length
  | [] => rfl
  | _ :: xs => by simp [Obj.eraseL, eraseL_length xs]

theorem wf_erase (o : Obj) : o.erase.wf = o.wf := by
  induction o using Obj.rec (motive_2 := fun xs => Obj.wfL (Obj.eraseL xs) = Obj.wfL xs) <;>
    simp_all [Obj.erase, Obj.eraseL, Obj.wf, Obj.wfL, eraseL_length]

theorem wfL_eraseL : ∀ xs : List Obj, Obj.wfL (Obj.eraseL xs) = Obj.wfL xs
  | [] => rfl
  | x :: xs => by simp only [Obj.eraseL, Obj.wfL, wf_erase x, wfL_eraseL xs]

theorem wf_congr {a b : Obj} (h : a.erase = b.erase) : a.wf = b.wf := by
  rw [← wf_erase a, ← wf_erase b, h]

/-! ### `==` and `in` as coded, under the coherence invariant -/

theorem pyEq_false_of_hash_ne {P : HashParams} (hP : P.Ok) {a b : Obj} (wa : a.wf = true)
    (wb : b.wf = true) (h : a.hash P ≠ b.hash P) : a.pyEq b = false := by
  cases hab : a.pyEq b with
  | false => rfl
  | true => exact absurd (Obj.eq_hash hP a b wa wb hab) h

/-- what the theorems about `eqC` / `memberC` state: the answer is the field-wise `==`, both
objects stay coherent and keep their fields -/
structure CmpSpec (P : HashParams) (a b : Obj) (r : Bool × Obj × Obj) (ans : Bool) : Prop where
  ans : r.1 = ans
  coh1 : r.2.1.coherent P
  coh2 : r.2.2.coherent P
  er1 : r.2.1.erase = a.erase
  er2 : r.2.2.erase = b.erase

theorem eqC_spec {P : HashParams} (hP : P.Ok) (a b : Obj) (ha : a.coherent P) (hb : b.coherent P)
    (wa : a.wf = true) (wb : b.wf = true) : CmpSpec P a b (eqC P a b) (a.pyEq b) := by
  obtain ⟨a1, a2, a3⟩ := hashC_spec P a ha
  obtain ⟨b1, b2, b3⟩ := hashC_spec P b hb
  have key : CmpSpec P a b
      (if ((a.hashC P).1 != (b.hashC P).1) = true then (false, (a.hashC P).2, (b.hashC P).2)
       else (a.pyEq b, (a.hashC P).2, (b.hashC P).2)) (a.pyEq b) := by
    rw [a1, b1]
    by_cases hh : a.hash P = b.hash P
    · simp only [hh, bne_self_eq_false, Bool.false_eq_true, if_false]
      exact ⟨rfl, a2, b2, a3, b3⟩
    · have : (a.hash P != b.hash P) = true := by simpa using hh
      simp only [this, if_true]
      exact ⟨(pyEq_false_of_hash_ne hP wa wb hh).symm, a2, b2, a3, b3⟩
  cases a with
  | inst c k fs h =>
    by_cases hleg : k = .legacy
    · subst hleg; simpa only [eqC] using key
    cases b with
    | inst c' k' fs' h' =>
      by_cases hc : c = c' ∧ k = k'
      · obtain ⟨rfl, rfl⟩ := hc
        cases k <;> first
          | exact absurd rfl hleg
          | simpa only [eqC, bne_self_eq_false, Bool.or_self, Bool.false_eq_true, if_false, Obj.pyEq,
              beq_self_eq_true, Bool.true_and] using key
      · have h1 : (c != c' || k != k') = true := by
          simp only [Bool.or_eq_true, bne_iff_ne, ne_eq]
          by_cases h1 : c = c'
          · exact Or.inr fun h2 => hc ⟨h1, h2⟩
          · exact Or.inl h1
        have h2 : (Obj.inst c k fs h).pyEq (.inst c' k' fs' h') = false := by
          simp only [Obj.pyEq, Bool.and_eq_false_imp, Bool.and_eq_true, beq_iff_eq]
          intro ⟨x, y⟩; exact absurd ⟨x, y⟩ hc
        cases k <;> first
          | exact absurd rfl hleg
          | (simp only [eqC, h1, if_true, h2]; exact ⟨rfl, ha, hb, rfl, rfl⟩)
    | _ => cases k <;> first | exact absurd rfl hleg | exact ⟨rfl, ha, hb, rfl, rfl⟩
  | _ => exact ⟨rfl, ha, hb, rfl, rfl⟩

theorem memberC_spec {P : HashParams} (hP : P.Ok) (x y : Obj) (hx : x.coherent P)
    (hy : y.coherent P) (wx : x.wf = true) (wy : y.wf = true) :
    CmpSpec P x y (memberC P x y) (y.pyEq x) := by
  obtain ⟨x1, x2, x3⟩ := hashC_spec P x hx
  obtain ⟨y1, y2, y3⟩ := hashC_spec P y hy
  unfold memberC
  simp only [x1, y1]
  by_cases hh : x.hash P = y.hash P
  · simp only [hh, bne_self_eq_false, Bool.false_eq_true, if_false]
    have e := eqC_spec hP (y.hashC P).2 (x.hashC P).2 y2 x2
      (by rw [wf_congr y3]; exact wy) (by rw [wf_congr x3]; exact wx)
    exact ⟨by rw [e.ans]; exact pyEq_congr y3 x3, e.coh2, e.coh1, e.er2.trans x3, e.er1.trans y3⟩
  · have : (x.hash P != y.hash P) = true := by simpa using hh
    simp only [this, if_true]
    exact ⟨(pyEq_false_of_hash_ne hP wy wx (fun h => hh h.symm)).symm, x2, y2, x3, y3⟩

/-! ### re-compilation hashes the variables: still coherent, same fields -/

mutual
theorem hashVars_spec (P : HashParams) : ∀ o : Obj, o.coherent P →
    (o.hashVars P).coherent P ∧ (o.hashVars P).erase = o.erase
  | .atom _, _ => ⟨trivial, rfl⟩
  | .tuple xs, h | .list xs, h | .dict _ xs, h => by
      simp only [Obj.coherent] at h
      obtain ⟨h1, h2⟩ := hashVarsL_spec P xs h
      exact ⟨by simpa only [Obj.hashVars, Obj.coherent] using h1,
        by simp only [Obj.hashVars, Obj.erase, h2]⟩
  | .inst c k fs v, h => by
      by_cases hc : (c == "Variable") = true
      · obtain ⟨_, h2, h3⟩ := hashC_spec P _ h
        simp only [Obj.hashVars, hc, if_true]
        exact ⟨h2, h3⟩
      · have h' := h
        simp only [Obj.coherent] at h'
        obtain ⟨h1, h2⟩ := hashVarsL_spec P fs h'.2
        have h4 : Obj.hashL P (Obj.hashVarsL P fs) = Obj.hashL P fs := by
          rw [← hashL_eraseL P (Obj.hashVarsL P fs), h2, hashL_eraseL]
        simp only [Obj.hashVars, hc, Bool.false_eq_true, if_false]
        exact ⟨by simp only [Obj.coherent, h4]; exact ⟨h'.1, h1⟩, by simp only [Obj.erase, h2]⟩
theorem hashVarsL_spec (P : HashParams) : ∀ xs : List Obj, Obj.coherentL P xs →
    Obj.coherentL P (Obj.hashVarsL P xs) ∧ Obj.eraseL (Obj.hashVarsL P xs) = Obj.eraseL xs
  | [], _ => ⟨trivial, rfl⟩
  | x :: xs, h => by
      simp only [Obj.coherentL] at h
      obtain ⟨a1, a2⟩ := hashVars_spec P x h.1
      obtain ⟨b1, b2⟩ := hashVarsL_spec P xs h.2
      exact ⟨by simp only [Obj.hashVarsL, Obj.coherentL]; exact ⟨a1, b1⟩,
        by simp only [Obj.hashVarsL, Obj.eraseL, a2, b2]⟩
end

/-! ### Histories: the slot-free reference semantics and the simulation -/

/-- an output without the slot report -/
def Out.core : Out → Out
  | .hash f _ => .hash f []
  | .eq r _ _ => .eq r [] []
  | .member r _ _ => .member r [] []
  | o => o

/-- Reference semantics of an operation: no process, no slots.  `hash` returns the hash a freshly
built object has (reported as `fresh = true`), `==` and `in` are field-wise `==`. -/
def stepRef (w : World) : Op → World × Out
  | .hash i =>
    match w.pool[i]? with
    | some _ => (w, .hash true [])
    | none => (w, .bad)
  | .eq i j =>
    match w.pool[i]?, w.pool[j]? with
    | some a, some b => (w, .eq (if i = j then true else a.pyEq b) [] [])
    | _, _ => (w, .bad)
  | .member i j =>
    match w.pool[i]?, w.pool[j]? with
    | some x, some y => (w, .member (if i = j then true else y.pyEq x) [] [])
    | _, _ => (w, .bad)
  | .pickle i _ =>
    match w.pool[i]? with
    | some o => ({ w with blobs := w.blobs ++ [o.pickle] }, .pickled)
    | none => (w, .bad)
  | .unpickle k =>
    match w.blobs[k]? with
    | some p => ({ w with pool := w.pool ++ [p.unpickle] }, .unpickled p.unpickle)
    | none => (w, .bad)

def runRef : World → List Op → World × List Out
  | w, [] => (w, [])
  | w, op :: ops =>
    let r := stepRef w op
    let rs := runRef r.1 ops
    (rs.1, r.2 :: rs.2)

/-- producer then consumer, without processes -/
def crossRef (src : List Obj) (ops₁ ops₂ : List Op) : List Out × List Out :=
  let r₁ := runRef ⟨Obj.eraseL src, []⟩ ops₁
  let r₂ := runRef ⟨Obj.eraseL src, r₁.1.blobs⟩ ops₂
  (r₁.2, r₂.2)

def World.erased (w : World) : World := ⟨Obj.eraseL w.pool, w.blobs⟩
def World.coherent (P : HashParams) (w : World) : Prop := ∀ o ∈ w.pool, o.coherent P
def World.wf (w : World) : Prop :=
  (∀ o ∈ w.pool, o.wf = true) ∧ (∀ p ∈ w.blobs, p.unpickle.wf = true)

theorem eraseL_getElem? (l : List Obj) (i : Nat) : (Obj.eraseL l)[i]? = (l[i]?).map Obj.erase := by
  rw [eraseL_eq_map]; simp

theorem set_same {α : Type} : ∀ (l : List α) (i : Nat) (a : α), l[i]? = some a → l.set i a = l
  | [], _, _, h => by simp at h
  | x :: xs, 0, a, h => by simp at h; simp [h]
  | x :: xs, i + 1, a, h => by
    simp only [List.getElem?_cons_succ] at h
    simp [set_same xs i a h]

theorem eraseL_set_same (l : List Obj) (i : Nat) (a a' : Obj) (h : l[i]? = some a)
    (he : a'.erase = a.erase) : Obj.eraseL (l.set i a') = Obj.eraseL l := by
  rw [eraseL_eq_map, eraseL_eq_map, List.map_set, he]
  exact set_same _ _ _ (by simp [h])

theorem mem_set_imp {α : Type} {l : List α} {i : Nat} {a b : α} (h : b ∈ l.set i a) :
    b ∈ l ∨ b = a := List.mem_or_eq_of_mem_set h

theorem eraseL_append (l₁ l₂ : List Obj) :
    Obj.eraseL (l₁ ++ l₂) = Obj.eraseL l₁ ++ Obj.eraseL l₂ := by
  simp [eraseL_eq_map]

/-- replacing `pool[i]` by a coherent object with the same fields keeps the pool coherent and
well-formed, and its fields -/
theorem pool_set {P : HashParams} {l : List Obj} (hc : ∀ o ∈ l, o.coherent P)
    (hw : ∀ o ∈ l, o.wf = true) {i : Nat} {a a' : Obj} (hi : l[i]? = some a) (ca : a'.coherent P)
    (he : a'.erase = a.erase) :
    (∀ x ∈ l.set i a', x.coherent P) ∧ (∀ x ∈ l.set i a', x.wf = true) ∧
      Obj.eraseL (l.set i a') = Obj.eraseL l := by
  refine ⟨fun x hx => ?_, fun x hx => ?_, eraseL_set_same _ _ _ _ hi he⟩
  · rcases mem_set_imp hx with hx | rfl
    · exact hc x hx
    · exact ca
  · rcases mem_set_imp hx with hx | rfl
    · exact hw x hx
    · rw [wf_congr he]; exact hw a (List.mem_of_getElem? hi)

/-- appending a coherent, well-formed object -/
theorem pool_snoc {P : HashParams} {l : List Obj} (hc : ∀ o ∈ l, o.coherent P)
    (hw : ∀ o ∈ l, o.wf = true) {o : Obj} (co : o.coherent P) (wo : o.wf = true) :
    (∀ x ∈ l ++ [o], x.coherent P) ∧ (∀ x ∈ l ++ [o], x.wf = true) := by
  constructor <;> intro x hx <;> rcases List.mem_append.1 hx with hx | hx
  · exact hc x hx
  · exact List.mem_singleton.1 hx ▸ co
  · exact hw x hx
  · exact List.mem_singleton.1 hx ▸ wo

/-- one operation: the real step (slots, process `P`) refines the reference step -/
theorem step_sim {P : HashParams} (hP : P.Ok) (w : World) (hc : w.coherent P) (hw : w.wf)
    (op : Op) :
    (step P w op).1.coherent P ∧ (step P w op).1.wf ∧
      (step P w op).1.erased = (stepRef w.erased op).1 ∧
      (step P w op).2.core = (stepRef w.erased op).2 := by
  cases op with
  | hash i =>
    simp only [step, stepRef, World.erased, eraseL_getElem?]
    cases hi : w.pool[i]? with
    | none => exact ⟨hc, hw, rfl, rfl⟩
    | some o =>
      have ho := List.mem_of_getElem? hi
      obtain ⟨h1, h2, h3⟩ := hashC_spec P o (hc o ho)
      obtain ⟨c', w', e'⟩ := pool_set hc hw.1 hi h2 h3
      exact ⟨c', ⟨w', hw.2⟩, by simp only [Option.map_some, e'], by simp [Out.core, h1]⟩
  | eq i j =>
    simp only [step, stepRef, World.erased, eraseL_getElem?]
    cases hi : w.pool[i]? with
    | none => exact ⟨hc, hw, rfl, rfl⟩
    | some a =>
      cases hj : w.pool[j]? with
      | none => exact ⟨hc, hw, rfl, rfl⟩
      | some b =>
        simp only [Option.map_some]
        by_cases hij : i = j
        · simp only [hij, if_true]
          refine ⟨hc, hw, ?_, ?_⟩ <;> first | trivial | rfl | simp [Out.core]
        · have hma := List.mem_of_getElem? hi
          have hmb := List.mem_of_getElem? hj
          have e := eqC_spec hP a b (hc a hma) (hc b hmb) (hw.1 a hma) (hw.1 b hmb)
          simp only [hij, if_false]
          have hj' : (w.pool.set i (eqC P a b).2.1)[j]? = some b := by
            rw [List.getElem?_set_ne hij]; exact hj
          obtain ⟨c1, w1, e1⟩ := pool_set hc hw.1 hi e.coh1 e.er1
          obtain ⟨c2, w2, e2⟩ := pool_set c1 w1 hj' e.coh2 e.er2
          refine ⟨c2, ⟨w2, hw.2⟩, by simp only [e2, e1], ?_⟩
          simp only [Out.core, e.ans]
          rw [pyEq_congr (erase_erase a) (erase_erase b)]
  | member i j =>
    simp only [step, stepRef, World.erased, eraseL_getElem?]
    cases hi : w.pool[i]? with
    | none => exact ⟨hc, hw, rfl, rfl⟩
    | some x =>
      cases hj : w.pool[j]? with
      | none => exact ⟨hc, hw, rfl, rfl⟩
      | some y =>
        simp only [Option.map_some]
        have hmx := List.mem_of_getElem? hi
        have hmy := List.mem_of_getElem? hj
        by_cases hij : i = j
        · simp only [hij, if_true]
          obtain ⟨h1, h2, h3⟩ := hashC_spec P y (hc y hmy)
          obtain ⟨c', w', e'⟩ := pool_set hc hw.1 hj h2 h3
          exact ⟨c', ⟨w', hw.2⟩, by simp only [e'], rfl⟩
        · have e := memberC_spec hP x y (hc x hmx) (hc y hmy) (hw.1 x hmx) (hw.1 y hmy)
          simp only [hij, if_false]
          have hj' : (w.pool.set i (memberC P x y).2.1)[j]? = some y := by
            rw [List.getElem?_set_ne hij]; exact hj
          obtain ⟨c1, w1, e1⟩ := pool_set hc hw.1 hi e.coh1 e.er1
          obtain ⟨c2, w2, e2⟩ := pool_set c1 w1 hj' e.coh2 e.er2
          refine ⟨c2, ⟨w2, hw.2⟩, by simp only [e2, e1], ?_⟩
          simp only [Out.core, e.ans]
          rw [pyEq_congr (erase_erase y) (erase_erase x)]
  | pickle i pr =>
    simp only [step, stepRef, World.erased, eraseL_getElem?]
    cases hi : w.pool[i]? with
    | none => exact ⟨hc, hw, rfl, rfl⟩
    | some o =>
      have ho := List.mem_of_getElem? hi
      refine ⟨hc, ⟨hw.1, ?_⟩, ?_, rfl⟩
      · intro p hp
        rcases List.mem_append.1 hp with hp | hp
        · exact hw.2 p hp
        · simp only [List.mem_singleton] at hp
          subst hp
          rw [unpickle_pickle, wf_erase]; exact hw.1 o ho
      · simp only [Option.map_some, pickle_erase]
  | unpickle k =>
    simp only [step, stepRef, World.erased]
    cases hk : w.blobs[k]? with
    | none => exact ⟨hc, hw, rfl, rfl⟩
    | some p =>
      have hp := List.mem_of_getElem? hk
      obtain ⟨c', w'⟩ := pool_snoc hc hw.1 (noCache_coherent P _ (unpickle_noCache p)) (hw.2 p hp)
      exact ⟨c', ⟨w', hw.2⟩,
        by simp only [eraseL_append, Obj.eraseL, noCache_erase _ (unpickle_noCache p)], rfl⟩

theorem run_sim {P : HashParams} (hP : P.Ok) : ∀ (ops : List Op) (w : World), w.coherent P → w.wf →
    (run P w ops).1.coherent P ∧ (run P w ops).1.wf ∧
      (run P w ops).1.erased = (runRef w.erased ops).1 ∧
      (run P w ops).2.map Out.core = (runRef w.erased ops).2
  | [], w, hc, hw => ⟨hc, hw, rfl, rfl⟩
  | op :: ops, w, hc, hw => by
    obtain ⟨s1, s2, s3, s4⟩ := step_sim hP w hc hw op
    obtain ⟨r1, r2, r3, r4⟩ := run_sim hP ops (step P w op).1 s1 s2
    simp only [run, runRef, List.map_cons]
    rw [s3] at r3 r4
    exact ⟨r1, r2, r3, by rw [s4, r4]⟩

/-- the slot-free reference run reports every `hash` as the fresh hash -/
def Out.hashFresh : Out → Bool
  | .hash f _ => f
  | _ => true

theorem stepRef_fresh (w : World) (op : Op) : Out.hashFresh (stepRef w op).2 = true := by
  cases op <;> simp only [stepRef] <;> repeat' split
  all_goals rfl

theorem runRef_fresh : ∀ (ops : List Op) (w : World), ∀ o ∈ (runRef w ops).2, Out.hashFresh o = true
  | [], _, o, h => by simp [runRef] at h
  | op :: ops, w, o, h => by
    simp only [runRef, List.mem_cons] at h
    rcases h with rfl | h
    · exact stepRef_fresh w op
    · exact runRef_fresh ops _ o h

theorem core_fresh (o : Out) : Out.hashFresh o.core = Out.hashFresh o := by
  cases o <;> rfl

theorem eraseL_mem {src : List Obj} {o : Obj} (h : o ∈ Obj.eraseL src) : ∃ s ∈ src, o = s.erase := by
  rw [eraseL_eq_map] at h
  obtain ⟨s, hs, rfl⟩ := List.mem_map.1 h
  exact ⟨s, hs, rfl⟩

/-! ### the stock node classes as objects -/

theorem ofExprL_eq_map : ∀ xs : List Expr, ofExprL xs = xs.map ofExpr
  | [] => rfl
  | x :: xs => by simp [ofExprL, ofExprL_eq_map xs]

theorem noCacheL_strAtoms : ∀ vs : List String, Obj.noCacheL (vs.map strAtom) = true
  | [] => rfl
  | _ :: vs => by simp [Obj.noCacheL, Obj.noCache, strAtom, noCacheL_strAtoms vs]

/-- an expression built from source has no slot set -/
theorem ofExpr_noCache (e : Expr) : (ofExpr e).noCache = true := by
  induction e using Expr.rec (motive_2 := fun es => Obj.noCacheL (ofExprL es) = true) with
  | cse c p s ih => cases p <;> simp_all [ofExpr, Obj.noCache, Obj.noCacheL, strAtom]
  | _ => simp_all [ofExpr, ofExprL, Obj.noCache, Obj.noCacheL, strAtom, noCacheL_strAtoms]

theorem ofExprL_noCacheL : ∀ es : List Expr, Obj.noCacheL (ofExprL es) = true
  | [] => rfl
  | e :: es => by simp [ofExprL, Obj.noCacheL, ofExpr_noCache e, ofExprL_noCacheL es]

theorem wfL_strAtoms : ∀ vs : List String, Obj.wfL (vs.map strAtom) = true
  | [] => rfl
  | _ :: vs => by simp [Obj.wfL, Obj.wf, strAtom, Const.wf, wfL_strAtoms vs]

theorem ofExprL_length (es : List Expr) : (ofExprL es).length = es.length := by
  simp [ofExprL_eq_map]

/-- well-formed expressions are well-formed objects -/
theorem ofExpr_wf (e : Expr) : e.wf = true → (ofExpr e).wf = true := by
  induction e using Expr.rec
    (motive_2 := fun es => Expr.wfL es = true → Obj.wfL (ofExprL es) = true) with
  | cse c p s ih => cases p <;> simp_all [ofExpr, Expr.wf, Obj.wf, Obj.wfL, strAtom, Const.wf]
  | cons e es ihe ihes =>
    rename_i h
    simp only [Expr.wfL, Bool.and_eq_true] at h
    simp only [ofExprL, Obj.wfL, ihe h.1, ihes h.2, Bool.and_self]
  | _ =>
    simp only [ofExpr, ofExprL, Expr.wf, Obj.wf, Obj.wfL, strAtom, Const.wf, wfL_strAtoms,
      ofExprL_length, Bool.and_eq_true, Bool.and_true, decide_eq_true_eq, beq_iff_eq, imp_self]
    try grind

theorem ofExprL_wfL : ∀ es : List Expr, Expr.wfL es = true → Obj.wfL (ofExprL es) = true
  | [], _ => rfl
  | e :: es, h => by
      simp only [Expr.wfL, Bool.and_eq_true] at h
      simp [ofExprL, Obj.wfL, ofExpr_wf e h.1, ofExprL_wfL es h.2]

theorem strAtom_pyEq (s t : String) : (strAtom s).pyEq (strAtom t) = (s == t) := by
  simp [strAtom, Obj.pyEq, Const.pyEq, Const.numVal?]

theorem strAtoms_pyEqL : ∀ vs : List String, Obj.pyEqL (vs.map strAtom) (vs.map strAtom) = true
  | [] => rfl
  | v :: vs => by simp [Obj.pyEqL, strAtom_pyEq, strAtoms_pyEqL vs]

theorem lookupO_ofExpr (k : String) : ∀ (ms : List String) (ws : List Expr),
    assocLookupO k ms (ofExprL ws) = (assocLookupE k ms ws).map ofExpr
  | [], _ => by simp [assocLookupO, assocLookupE]
  | _ :: _, [] => by simp [assocLookupO, assocLookupE, ofExprL]
  | m :: ms, w :: ws => by
    simp only [assocLookupO, assocLookupE, ofExprL]
    split
    · simp
    · exact lookupO_ofExpr k ms ws

/-- `==` expressions are `==` objects: the object-level theorems apply to every pair of stock
expressions that the generated `__eq__` (C01) identifies.  By induction along the recursion of
`Expr.pyEq`; the cases are numbered in the order of its alternatives (PV/Model/PyEq.lean):
`case12-14` the classes with string data beside the children (`CommonSubexpression`,
`Substitution`, `Derivative`), `case16` `NaN`, `case23` different classes, `case24/25` keyword
mappings, `case26-28` lists.  Every other class unfolds one level of `==` on both sides; the
conjuncts are the induction hypotheses. -/
theorem ofExpr_pyEq : ∀ a b : Expr, a.pyEq b = true → (ofExpr a).pyEq (ofExpr b) = true := by
  apply Expr.pyEq.induct
    (motive_2 := fun ns vs ms ws => Expr.pyEqKw ns vs ms ws = true →
      Obj.pyEqKw ns (ofExprL vs) ms (ofExprL ws) = true)
    (motive_3 := fun as bs => Expr.pyEqL as bs = true →
      Obj.pyEqL (ofExprL as) (ofExprL bs) = true)
  case case12 =>
    intro x p s x' p' s' ih h
    simp only [Expr.pyEq, Bool.and_eq_true, beq_iff_eq] at h
    obtain ⟨⟨h1, rfl⟩, rfl⟩ := h
    cases p <;> simp [ofExpr, Obj.pyEq, Obj.pyEqL, strAtom_pyEq, ih h1, Const.pyEq, Const.numVal?]
  case case13 =>
    intro x vs xs x' vs' xs' ihx ihxs h
    simp only [Expr.pyEq, Bool.and_eq_true, beq_iff_eq] at h
    obtain ⟨⟨h1, rfl⟩, h3⟩ := h
    simp [ofExpr, Obj.pyEq, Obj.pyEqL, ihx h1, ihxs h3, strAtoms_pyEqL]
  case case14 =>
    intro x vs x' vs' ih h
    simp only [Expr.pyEq, Bool.and_eq_true, beq_iff_eq] at h
    obtain ⟨h1, rfl⟩ := h
    simp [ofExpr, Obj.pyEq, Obj.pyEqL, ih h1, strAtoms_pyEqL]
  case case16 => exact fun _ => rfl
  case case23 | case28 =>
    intros
    simp only [Expr.pyEq, Expr.pyEqL, Bool.false_eq_true, *] at *
  case case24 =>
    intro n ns v vs ms ws ihv ih h
    simp only [Expr.pyEqKw, Bool.and_eq_true] at h
    simp only [ofExprL, Obj.pyEqKw, Bool.and_eq_true, lookupO_ofExpr]
    refine ⟨?_, ih h.2⟩
    cases hl : assocLookupE n ms ws with
    | none => simp [hl] at h
    | some w => simpa [hl] using ihv w (by simpa [hl] using h.1)
  case case25 =>
    intro vs ns ms ws hne _
    cases ns <;> cases vs <;> first | rfl | exact (hne _ _ _ _ rfl rfl).elim
  all_goals
    intros
    rename_i h
    simp only [Expr.pyEq, Expr.pyEqL, Bool.and_eq_true, beq_iff_eq] at h
    simp only [ofExpr, ofExprL, Obj.pyEq, Obj.pyEqL, Bool.and_eq_true, beq_self_eq_true, true_and,
      and_true, strAtom_pyEq, beq_iff_eq]
    first | done | grind

/-! ### the driver's hash parameters are an instance of `HashParams.Ok`, for every seed -/

theorem ediv_of_cross {a a' : Int} {d d' : Nat} (hd : d ≠ 0) (hd' : d' ≠ 0)
    (h : a * (d' : Int) = a' * (d : Int)) : a / (d : Int) = a' / (d' : Int) := by
  have p : (0 : Int) < d := by omega
  have p' : (0 : Int) < d' := by omega
  calc a / (d : Int) = (d' * a) / (d' * d) := (Int.mul_ediv_mul_of_pos a d p').symm
    _ = (d * a') / (d * d') := by rw [Int.mul_comm (d' : Int) a, h, Int.mul_comm a', Int.mul_comm (d' : Int)]
    _ = a' / (d' : Int) := Int.mul_ediv_mul_of_pos a' d' p

theorem toyParams_ok (seed : Nat) : (toyParams seed).Ok := by
  constructor
  · intro n d n' d' hd hd' h
    have h2 : (n * 1000003) * (d' : Int) = (n' * 1000003) * (d : Int) := by
      rw [Int.mul_right_comm, h, Int.mul_right_comm]
    show toyNum n d = toyNum n' d'
    simp only [toyNum, ediv_of_cross hd hd' h, ediv_of_cross hd hd' h2]
  · intro l l' hp
    show (l.map _).sum % toyM = (l'.map _).sum % toyM
    rw [(hp.map _).sum_nat]

end PV.Pickle
