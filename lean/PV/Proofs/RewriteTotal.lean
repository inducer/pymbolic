import PV.Proofs.RewriteNF
/-
  C11, part 9: `flatten` does not fail on the rational fragment (and stays inside it), given fuel
  beyond the size of the input.
-/
namespace PV

mutual
/-- the polynomial / rational fragment, syntactically: integer constants, variables, sums,
products, quotients, powers with an integer-literal exponent, CSE wrappers -/
def Expr.isRat : Expr → Bool
  | .const (.int _) => true
  | .var _ => true
  | .nary .sum cs => Expr.isRatL cs
  | .nary .prod cs => Expr.isRatL cs
  | .bin .quot a b => a.isRat && b.isRat
  | .bin .pow a (.const (.int _)) => a.isRat
  | .cse c _ _ => c.isRat
  | _ => false
def Expr.isRatL : List Expr → Bool
  | [] => true
  | c :: cs => c.isRat && Expr.isRatL cs
end

theorem isRatL_append : ∀ (as bs : List Expr),
    Expr.isRatL (as ++ bs) = (Expr.isRatL as && Expr.isRatL bs)
  | [], bs => by simp [Expr.isRatL]
  | a :: as, bs => by simp [Expr.isRatL, isRatL_append as bs, Bool.and_assoc]

mutual
theorem isRat_seqItem : ∀ e : Expr, e.isRat = true → seqItem e = false
  | .nary .prod cs, h => by
      simp only [Expr.isRat] at h; simp only [seqItem]; exact isRatL_seqItemL cs h
  | .tuple _, h | .list _, h => by simp [Expr.isRat] at h
  | .const _, _ | .var _, _ | .nary .sum _, _ | .nary .bor _, _ | .nary .bxor _, _
  | .nary .band _, _ | .nary .lor _, _ | .nary .land _, _ | .nary .min _, _ | .nary .max _, _
  | .bin .., _ | .un .., _ | .cmp .., _ | .ite .., _ | .call .., _ | .callKw .., _
  | .subscript .., _ | .lookup .., _ | .cse .., _ | .subst .., _ | .deriv .., _ | .slice .., _
  | .nan, _ | .wildcard, _ | .dotWild .., _ | .starWild .., _ | .funcSym, _ => by
      simp [seqItem]
theorem isRatL_seqItemL : ∀ cs : List Expr, Expr.isRatL cs = true → seqItemL cs = false
  | [], _ => rfl
  | c :: cs, h => by
      simp only [Expr.isRatL, Bool.and_eq_true] at h
      simp [seqItemL, isRat_seqItem c h.1, isRatL_seqItemL cs h.2]
end

theorem flattenedSumLoop_isRat : ∀ (fuel : Nat) (queue done : List Expr),
    Expr.isRatL queue = true → Expr.isRatL done = true →
    Expr.isRatL (flattenedSumLoop fuel queue done) = true
  | 0, _, _, _, hd => by simpa only [flattenedSumLoop] using hd
  | _ + 1, [], _, _, hd => by simpa only [flattenedSumLoop] using hd
  | fuel + 1, item :: queue, done, hq, hd => by
      simp only [Expr.isRatL, Bool.and_eq_true] at hq
      simp only [flattenedSumLoop]
      split
      · exact flattenedSumLoop_isRat fuel queue done hq.2 hd
      · split
        · apply flattenedSumLoop_isRat fuel _ done _ hd
          have := hq.1
          simp only [Expr.isRat] at this
          rw [isRatL_append, hq.2, this]; rfl
        · apply flattenedSumLoop_isRat fuel queue _ hq.2
          rw [isRatL_append, hd]; simp [Expr.isRatL, hq.1]

theorem flattenedSum_isRat {terms : List Expr} (h : Expr.isRatL terms = true) :
    (flattenedSum terms).isRat = true := by
  have := flattenedSumLoop_isRat (Expr.sizeL terms + terms.length + 1) terms [] h rfl
  simp only [flattenedSum]
  generalize flattenedSumLoop (Expr.sizeL terms + terms.length + 1) terms [] = L at this ⊢
  rcases L with _ | ⟨x, _ | ⟨y, ys⟩⟩
  · rfl
  · simpa [Expr.isRatL] using this
  · simpa only [Expr.isRat] using this

theorem flattenedProductLoop_isRat : ∀ (fuel : Nat) (queue done : List Expr),
    Expr.isRatL queue = true → Expr.isRatL done = true →
    ∀ xs, flattenedProductLoop fuel queue done = some xs → Expr.isRatL xs = true
  | 0, _, _, _, hd, xs, h => by
      simp only [flattenedProductLoop, Option.some.injEq] at h; subst h; exact hd
  | _ + 1, [], _, _, hd, xs, h => by
      simp only [flattenedProductLoop, Option.some.injEq] at h; subst h; exact hd
  | fuel + 1, item :: queue, done, hq, hd, xs, h => by
      simp only [Expr.isRatL, Bool.and_eq_true] at hq
      simp only [flattenedProductLoop] at h
      split at h
      · contradiction
      · split at h
        · exact flattenedProductLoop_isRat fuel queue done hq.2 hd xs h
        · split at h
          · refine flattenedProductLoop_isRat fuel _ done ?_ hd xs h
            have := hq.1
            simp only [Expr.isRat] at this
            rw [isRatL_append, hq.2, this]; rfl
          · refine flattenedProductLoop_isRat fuel queue _ hq.2 ?_ xs h
            rw [isRatL_append, hd]; simp [Expr.isRatL, hq.1]

theorem flattenedProduct_isRat {terms : List Expr} (h : Expr.isRatL terms = true) :
    (flattenedProduct terms).isRat = true := by
  have := flattenedProductLoop_isRat (Expr.sizeL terms + terms.length + 1) terms [] h rfl
  simp only [flattenedProduct]
  generalize flattenedProductLoop (Expr.sizeL terms + terms.length + 1) terms [] = L at this ⊢
  rcases L with _ | _ | ⟨x, _ | ⟨y, ys⟩⟩
  · rfl
  · rfl
  · simpa [Expr.isRatL] using this _ rfl
  · simpa only [Expr.isRat] using this _ rfl

/-- mapping a total, fragment-preserving function over a list of fragment expressions -/
theorem mapM_total {f : Expr → RwR} : ∀ (cs : List Expr),
    (∀ c ∈ cs, ∃ c', f c = .ok c' ∧ c'.isRat = true) →
    ∃ cs', cs.mapM f = .ok cs' ∧ Expr.isRatL cs' = true
  | [], _ => ⟨[], rfl, rfl⟩
  | c :: cs, h => by
      obtain ⟨c', hc, hr⟩ := h c (by simp)
      obtain ⟨cs', hcs, hrs⟩ := mapM_total cs fun d hd => h d (by simp [hd])
      refine ⟨c' :: cs', ?_, by simp [Expr.isRatL, hr, hrs]⟩
      rw [List.mapM_cons, hc, hcs]; rfl

theorem isRatL_mem : ∀ {cs : List Expr}, Expr.isRatL cs = true → ∀ c ∈ cs, c.isRat = true
  | d :: ds, h, c, hc => by
      simp only [Expr.isRatL, Bool.and_eq_true] at h
      simp only [List.mem_cons] at hc
      rcases hc with rfl | hc
      · exact h.1
      · exact isRatL_mem h.2 c hc

/-- **`flatten` does not fail on the rational fragment** and its result is again in the
fragment, for every amount of fuel beyond the size of the input. -/
theorem flattenM_total : ∀ (fuel : Nat) (e : Expr), e.isRat = true → e.size < fuel →
    ∃ e', flattenM fuel e = .ok e' ∧ e'.isRat = true
  | 0, _, _, hf => by omega
  | fuel + 1, e, he, hf => by
      have ih := flattenM_total fuel
      have kids : ∀ cs : List Expr, Expr.isRatL cs = true → Expr.sizeL cs < fuel →
          ∃ cs', cs.mapM (flattenM fuel) = .ok cs' ∧ Expr.isRatL cs' = true := by
        intro cs hcs hsz
        exact mapM_total cs fun c hc =>
          ih c (isRatL_mem hcs c hc) (by have := Expr.size_le_sizeL hc; omega)
      match e, he, hf with
      | .const (.int n), _, _ => exact ⟨_, rfl, rfl⟩
      | .var v, _, _ => exact ⟨_, rfl, rfl⟩
      | .nary .sum cs, he, hf =>
        simp only [Expr.isRat] at he
        simp only [Expr.size] at hf
        obtain ⟨cs', hcs, hr⟩ := kids cs he (by omega)
        refine ⟨flattenedSum cs', ?_, flattenedSum_isRat hr⟩
        simp only [flattenM, hcs]; rfl
      | .nary .prod cs, he, hf =>
        simp only [Expr.isRat] at he
        simp only [Expr.size] at hf
        obtain ⟨cs', hcs, hr⟩ := kids cs he (by omega)
        refine ⟨flattenedProduct cs', ?_, flattenedProduct_isRat hr⟩
        have hs := isRatL_seqItemL cs' hr
        simp only [flattenM, hcs, flatProd, bind, Except.bind, hs, Bool.false_eq_true, if_false]
        rfl
      | .bin .quot a b, he, hf =>
        simp only [Expr.isRat, Bool.and_eq_true] at he
        simp only [Expr.size] at hf
        obtain ⟨a', ha, hra⟩ := ih a he.1 (by omega)
        obtain ⟨b', hb, hrb⟩ := ih b he.2 (by omega)
        refine ⟨.bin .quot a' b', ?_, by simp [Expr.isRat, hra, hrb]⟩
        simp only [flattenM, idMap, ha, hb]; rfl
      | .bin .pow a (.const (.int n)), he, hf =>
        simp only [Expr.isRat] at he
        simp only [Expr.size] at hf
        obtain ⟨a', ha, hra⟩ := ih a he (by omega)
        have hb : flattenM fuel (.const (.int n)) = .ok (.const (.int n)) := by
          cases fuel with
          | zero => omega
          | succ k => rfl
        refine ⟨.bin .pow a' (.const (.int n)), ?_, by simp [Expr.isRat, hra]⟩
        simp only [flattenM, idMap, ha, hb]; rfl
      | .cse c p s, he, hf =>
        simp only [Expr.isRat] at he
        simp only [Expr.size] at hf
        obtain ⟨c', hc, hrc⟩ := ih c he (by omega)
        by_cases hz : c'.isZero = true
        · refine ⟨zero, ?_, rfl⟩
          simp only [flattenM, idMap, hc, bind, Except.bind, hz, if_true]; rfl
        · refine ⟨.cse c' p s, ?_, by simp [Expr.isRat, hrc]⟩
          simp only [flattenM, idMap, hc, bind, Except.bind, hz]; rfl

end PV
