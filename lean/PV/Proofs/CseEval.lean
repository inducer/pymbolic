import PV.Model.Cse
import PV.Proofs.Simple
import PV.Proofs.PyEqEquiv
/-
  C12 helper: the instrumented evaluator `evalTr` never computes the child of a wrapper that is
  already in its cache, so the wrappers of the `child` events of a log are pairwise distinct.
-/
namespace PV

mutual
theorem simple_wf : ∀ (e : Expr), e.simple = true → e.wf = true
  | .const c, h => by cases c <;> simp_all [Expr.simple, Const.simple, Expr.wf, Const.wf]
  | .var _, _ | .nan, _ | .wildcard, _ | .dotWild _, _ | .starWild _, _ | .funcSym, _ => by
      simp [Expr.wf]
  | .nary _ cs, h | .slice cs, h | .tuple cs, h => by
      simp only [Expr.simple] at h; simp only [Expr.wf]; exact simpleL_wf cs h
  | .bin _ a b, h | .cmp _ a b, h | .subscript a b, h => by
      simp only [Expr.simple, Bool.and_eq_true] at h
      simp [Expr.wf, simple_wf a h.1, simple_wf b h.2]
  | .un _ a, h | .lookup a _, h | .cse a _ _, h | .deriv a _, h => by
      simp only [Expr.simple] at h; simp [Expr.wf, simple_wf a h]
  | .ite c t e, h => by
      simp only [Expr.simple, Bool.and_eq_true] at h
      simp [Expr.wf, simple_wf c h.1.1, simple_wf t h.1.2, simple_wf e h.2]
  | .call f as, h | .subst f _ as, h => by
      simp only [Expr.simple, Bool.and_eq_true] at h
      simp [Expr.wf, simple_wf f h.1, simpleL_wf as h.2]
  | .callKw .., h | .list _, h => by simp [Expr.simple] at h
theorem simpleL_wf : ∀ (cs : List Expr), Expr.simpleL cs = true → Expr.wfL cs = true
  | [], _ => rfl
  | c :: cs, h => by
      simp only [Expr.simpleL, Bool.and_eq_true] at h
      simp [Expr.wfL, simple_wf c h.1, simpleL_wf cs h.2]
end

theorem pyEq_self_simple (e : Expr) (h : e.simple = true) : e.pyEq e = true :=
  pyEq_refl e (simple_wf e h)

theorem pyEq_iff_eq_simple {a b : Expr} (ha : a.simple = true) (hb : b.simple = true) :
    a.pyEq b = true ↔ a = b :=
  ⟨pyEq_eq_of_simple a b ha hb, fun h => h ▸ pyEq_self_simple a ha⟩

/-! ### the cache read off a log -/

theorem cacheOf_append : ∀ (a b : Log), cacheOf (a ++ b) = cacheOf a ++ cacheOf b
  | [], _ => rfl
  | .child w v :: a, b => by simp [cacheOf, cacheOf_append a b]
  | .call .. :: a, b => by simp [cacheOf, cacheOf_append a b]

theorem mem_cacheOf : ∀ {t : Log} {w : Expr} {v : Value}, (w, v) ∈ cacheOf t ↔ EvEvent.child w v ∈ t
  | [], _, _ => by simp [cacheOf]
  | .child w' v' :: t, w, v => by
      simp only [cacheOf, List.mem_cons, mem_cacheOf (t := t), Prod.mk.injEq, EvEvent.child.injEq]
  | .call .. :: t, w, v => by
      simp only [cacheOf, List.mem_cons, mem_cacheOf (t := t)]
      constructor
      · intro h; exact Or.inr h
      · intro h; rcases h with h | h
        · cases h
        · exact h

/-- the wrappers whose child has been computed, newest first -/
def computed (t : Log) : List Expr := (cacheOf t).map Prod.fst

theorem computed_append (a b : Log) : computed (a ++ b) = computed a ++ computed b := by
  simp [computed, cacheOf_append]

theorem mem_computed {t : Log} {w : Expr} : w ∈ computed t ↔ ∃ v, EvEvent.child w v ∈ t := by
  simp only [computed, List.mem_map, Prod.exists, exists_and_right, exists_eq_right]
  constructor
  · rintro ⟨v, h⟩; exact ⟨v, mem_cacheOf.mp h⟩
  · rintro ⟨v, h⟩; exact ⟨v, mem_cacheOf.mpr h⟩

theorem findBy_none {eq : Expr → Expr → Bool} {k : Expr} : ∀ {l : List (Expr × Value)},
    findBy eq k l = none → ∀ p ∈ l, eq p.1 k = false
  | [], _, p, hp => by simp at hp
  | (k', v) :: rest, h, p, hp => by
    simp only [findBy] at h
    by_cases hk : eq k' k = true
    · simp [hk] at h
    · simp only [hk, Bool.false_eq_true, if_false] at h
      simp only [List.mem_cons] at hp
      rcases hp with rfl | hp
      · simpa using hk
      · exact findBy_none h p hp

/-- invariant of a log: the computed wrappers are pairwise different simple expressions -/
def GoodLog (t : Log) : Prop := (computed t).Nodup ∧ ∀ w ∈ computed t, w.simple = true

/-- `m` only extends the log, keeps the invariant, and computes only wrappers of size ≤ `B`.
The bound keeps a wrapper out of what the evaluation of its own child computes (`Tr.cse`): the
child is smaller than the wrapper. -/
def Tr (B : Nat) {α : Type} (m : TrM α) : Prop :=
  ∀ t, GoodLog t → ∃ new, (m t).2 = new ++ t ∧ GoodLog (new ++ t) ∧ ∀ w ∈ computed new, w.size ≤ B

theorem Tr.pure {B : Nat} {α} (a : α) : Tr B (TrM.pure a) :=
  fun t h => ⟨[], rfl, h, by simp [computed, cacheOf]⟩

theorem Tr.throw {B : Nat} {α} (e : Err) : Tr B (TrM.throw e : TrM α) :=
  fun t h => ⟨[], rfl, h, by simp [computed, cacheOf]⟩

theorem Tr.lift {B : Nat} {α} (x : Except Err α) : Tr B (TrM.lift x) :=
  fun t h => ⟨[], rfl, h, by simp [computed, cacheOf]⟩

theorem Tr.mono {B B' : Nat} {α} {m : TrM α} (hB : B ≤ B') (h : Tr B m) : Tr B' m := by
  intro t ht
  obtain ⟨new, h1, h2, h3⟩ := h t ht
  exact ⟨new, h1, h2, fun w hw => Nat.le_trans (h3 w hw) hB⟩

theorem Tr.bind {B : Nat} {α β} {m : TrM α} {f : α → TrM β} (hm : Tr B m) (hf : ∀ a, Tr B (f a)) :
    Tr B (m >>= f) := by
  intro t ht
  obtain ⟨n1, h1, g1, s1⟩ := hm t ht
  show ∃ new, (TrM.bind m f t).2 = new ++ t ∧ _
  cases hr : m t with
  | mk r t1 =>
    rw [hr] at h1; simp only at h1; subst h1
    cases r with
    | error e =>
      refine ⟨n1, ?_, g1, s1⟩
      simp only [TrM.bind, hr]
    | ok a =>
      obtain ⟨n2, h2, g2, s2⟩ := hf a (n1 ++ t) g1
      refine ⟨n2 ++ n1, ?_, ?_, ?_⟩
      · simp only [TrM.bind, hr, h2, List.append_assoc]
      · simpa [List.append_assoc] using g2
      · intro w hw
        rw [computed_append] at hw
        rcases List.mem_append.mp hw with hw | hw
        · exact s2 w hw
        · exact s1 w hw

theorem Tr.ite {B : Nat} {α} {c : Bool} {m1 m2 : TrM α} (h1 : Tr B m1) (h2 : Tr B m2) :
    Tr B (if c then m1 else m2) := by
  cases c <;> simpa

theorem Tr.call {B : Nat} (fv : Value) (args : List Value) (ns : List String) (kvs : List Value) :
    Tr B (callTr fv args ns kvs) := by
  intro t ht
  unfold callTr
  cases fv
  case func name =>
    refine ⟨[.call name args ns kvs], rfl, ?_, by simp [computed, cacheOf]⟩
    simpa [GoodLog, computed, cacheOf] using ht
  all_goals exact ⟨[], rfl, ht, by simp [computed, cacheOf]⟩

/-- the wrapper case: a cached wrapper is not recomputed; a computed one is new -/
theorem Tr.cse {env : Env} {c : Expr} {p : Option String} {sc : String}
    (hs : (Expr.cse c p sc).simple = true) (hc : Tr c.size (evalTr env c)) :
    Tr (Expr.cse c p sc).size (evalTr env (.cse c p sc)) := by
  intro t ht
  have hl : c.hasList = false := by
    have := simple_nolist _ hs; simpa [Expr.hasList] using this
  simp only [evalTr, hl, Bool.false_eq_true, if_false]
  cases hf : findBy Expr.pyEq (.cse c p sc) (cacheOf t) with
  | some v => exact ⟨[], rfl, ht, by simp [computed, cacheOf]⟩
  | none =>
    obtain ⟨n1, h1, g1, s1⟩ := hc t ht
    have hsz : ∀ w ∈ computed n1, w.size ≤ (Expr.cse c p sc).size := fun w hw =>
      Nat.le_trans (s1 w hw) (by simp only [Expr.size]; omega)
    cases hr : evalTr env c t with
    | mk r t1 =>
      rw [hr] at h1; simp only at h1; subst h1
      cases r with
      | error e => exact ⟨n1, rfl, g1, hsz⟩
      | ok v =>
        refine ⟨.child (.cse c p sc) v :: n1, rfl, ?_, ?_⟩
        · have hnew : Expr.cse c p sc ∉ computed (n1 ++ t) := by
            rw [computed_append]
            intro hmem
            rcases List.mem_append.mp hmem with hmem | hmem
            · have := s1 _ hmem
              simp only [Expr.size] at this; omega
            · simp only [computed, List.mem_map] at hmem
              obtain ⟨q, hq, hq1⟩ := hmem
              have := findBy_none hf q hq
              rw [hq1, pyEq_self_simple _ hs] at this
              cases this
          constructor
          · show (computed (EvEvent.child (Expr.cse c p sc) v :: (n1 ++ t))).Nodup
            simp only [computed, cacheOf, List.map_cons, List.nodup_cons]
            exact ⟨hnew, g1.1⟩
          · intro w hw
            simp only [List.cons_append, computed, cacheOf, List.map_cons, List.mem_cons] at hw
            rcases hw with rfl | hw
            · exact hs
            · exact g1.2 w hw
        · intro w hw
          simp only [computed, cacheOf, List.map_cons, List.mem_cons] at hw
          rcases hw with rfl | hw
          · exact Nat.le_refl _
          · exact hsz w hw

mutual
theorem evalTr_tr (env : Env) : ∀ e, e.simple = true → Tr e.size (evalTr env e)
  | .const c, _ => by simp only [evalTr]; exact Tr.lift _
  | .var x, _ => by
      simp only [evalTr]
      cases env.get x with
      | none => exact Tr.throw _
      | some v => exact Tr.pure _
  | .nary .sum cs, h | .nary .prod cs, h => by
      simp only [evalTr]
      exact Tr.mono (by simp only [Expr.size]; omega) (fold_tr env _ _ cs h)
  | .nary .bor cs, h | .nary .bxor cs, h | .nary .band cs, h => by
      simp only [evalTr]
      exact Tr.mono (by simp only [Expr.size]; omega) (reduce_tr env _ cs h)
  | .nary .lor cs, h => by
      simp only [evalTr]
      exact Tr.mono (by simp only [Expr.size]; omega) (any_tr env cs h)
  | .nary .land cs, h => by
      simp only [evalTr]
      exact Tr.mono (by simp only [Expr.size]; omega) (all_tr env cs h)
  | .nary .min cs, h | .nary .max cs, h => by
      simp only [evalTr]
      exact Tr.mono (by simp only [Expr.size]; omega) (minmax_tr env _ none cs h)
  | .bin o a b, h => by
      simp only [Expr.simple, Bool.and_eq_true] at h
      simp only [evalTr]
      exact Tr.bind (Tr.mono (by simp only [Expr.size]; omega) (evalTr_tr env a h.1)) fun x =>
        Tr.bind (Tr.mono (by simp only [Expr.size]; omega) (evalTr_tr env b h.2)) fun y => Tr.lift _
  | .un .bnot a, h => by
      simp only [Expr.simple] at h
      simp only [evalTr]
      exact Tr.bind (Tr.mono (by simp only [Expr.size]; omega) (evalTr_tr env a h)) fun x => Tr.lift _
  | .un .lnot a, h => by
      simp only [Expr.simple] at h
      simp only [evalTr]
      exact Tr.bind (Tr.mono (by simp only [Expr.size]; omega) (evalTr_tr env a h)) fun x =>
        Tr.bind (Tr.lift _) fun t => Tr.pure _
  | .cmp o a b, h => by
      simp only [Expr.simple, Bool.and_eq_true] at h
      simp only [evalTr]
      exact Tr.bind (Tr.mono (by simp only [Expr.size]; omega) (evalTr_tr env a h.1)) fun x =>
        Tr.bind (Tr.mono (by simp only [Expr.size]; omega) (evalTr_tr env b h.2)) fun y => Tr.lift _
  | .ite c t e, h => by
      simp only [Expr.simple, Bool.and_eq_true] at h
      simp only [evalTr]
      exact Tr.bind (Tr.mono (by simp only [Expr.size]; omega) (evalTr_tr env c h.1.1)) fun cv =>
        Tr.bind (Tr.lift _) fun tv =>
          Tr.ite (Tr.mono (by simp only [Expr.size]; omega) (evalTr_tr env t h.1.2))
            (Tr.mono (by simp only [Expr.size]; omega) (evalTr_tr env e h.2))
  | .call f as, h => by
      simp only [Expr.simple, Bool.and_eq_true] at h
      simp only [evalTr]
      exact Tr.bind (Tr.mono (by simp only [Expr.size]; omega) (evalTr_tr env f h.1)) fun fv =>
        Tr.bind (Tr.mono (by simp only [Expr.size]; omega) (list_tr env as h.2)) fun avs =>
          Tr.call _ _ _ _
  | .callKw .., h => by simp [Expr.simple] at h
  | .subscript a i, h => by
      simp only [Expr.simple, Bool.and_eq_true] at h
      simp only [evalTr]
      exact Tr.bind (Tr.mono (by simp only [Expr.size]; omega) (evalTr_tr env a h.1)) fun x =>
        Tr.bind (Tr.mono (by simp only [Expr.size]; omega) (evalTr_tr env i h.2)) fun y => Tr.lift _
  | .lookup a n, h => by
      simp only [Expr.simple] at h
      simp only [evalTr]
      exact Tr.bind (Tr.mono (by simp only [Expr.size]; omega) (evalTr_tr env a h)) fun x => Tr.lift _
  | .cse c p sc, h => by
      have hc : c.simple = true := by simpa [Expr.simple] using h
      exact Tr.cse h (evalTr_tr env c hc)
  | .nan, _ => by simp only [evalTr]; exact Tr.pure _
  | .subst .., _ | .deriv .., _ | .slice _, _ | .wildcard, _ | .dotWild _, _ | .starWild _, _
  | .funcSym, _ => by simp only [evalTr]; exact Tr.throw _
  | .tuple cs, h => by
      simp only [Expr.simple] at h
      simp only [evalTr]
      exact Tr.bind (Tr.mono (by simp only [Expr.size]; omega) (list_tr env cs h)) fun vs => Tr.pure _
  | .list cs, h => by simp [Expr.simple] at h
theorem fold_tr (env : Env) (o : NaryOp) :
    ∀ (acc : Value) (cs : List Expr), Expr.simpleL cs = true →
      Tr (Expr.sizeL cs) (evalTrFold env o acc cs)
  | acc, [], _ => by simp only [evalTrFold]; exact Tr.pure _
  | acc, c :: cs, h => by
      simp only [Expr.simpleL, Bool.and_eq_true] at h
      simp only [evalTrFold]
      exact Tr.bind (Tr.mono (by simp only [Expr.sizeL]; omega) (evalTr_tr env c h.1)) fun v =>
        Tr.bind (Tr.lift _) fun acc' =>
          Tr.mono (by simp only [Expr.sizeL]; omega) (fold_tr env o acc' cs h.2)
theorem reduce_tr (env : Env) (o : NaryOp) :
    ∀ (cs : List Expr), Expr.simpleL cs = true → Tr (Expr.sizeL cs) (evalTrReduce env o cs)
  | [], _ => by simp only [evalTrReduce]; exact Tr.throw _
  | c :: cs, h => by
      simp only [Expr.simpleL, Bool.and_eq_true] at h
      simp only [evalTrReduce]
      exact Tr.bind (Tr.mono (by simp only [Expr.sizeL]; omega) (evalTr_tr env c h.1)) fun v =>
        Tr.mono (by simp only [Expr.sizeL]; omega) (fold_tr env o v cs h.2)
theorem any_tr (env : Env) :
    ∀ (cs : List Expr), Expr.simpleL cs = true → Tr (Expr.sizeL cs) (evalTrAny env cs)
  | [], _ => by simp only [evalTrAny]; exact Tr.pure _
  | c :: cs, h => by
      simp only [Expr.simpleL, Bool.and_eq_true] at h
      simp only [evalTrAny]
      exact Tr.bind (Tr.mono (by simp only [Expr.sizeL]; omega) (evalTr_tr env c h.1)) fun v =>
        Tr.bind (Tr.lift _) fun t =>
          Tr.ite (Tr.pure _) (Tr.mono (by simp only [Expr.sizeL]; omega) (any_tr env cs h.2))
theorem all_tr (env : Env) :
    ∀ (cs : List Expr), Expr.simpleL cs = true → Tr (Expr.sizeL cs) (evalTrAll env cs)
  | [], _ => by simp only [evalTrAll]; exact Tr.pure _
  | c :: cs, h => by
      simp only [Expr.simpleL, Bool.and_eq_true] at h
      simp only [evalTrAll]
      exact Tr.bind (Tr.mono (by simp only [Expr.sizeL]; omega) (evalTr_tr env c h.1)) fun v =>
        Tr.bind (Tr.lift _) fun t =>
          Tr.ite (Tr.mono (by simp only [Expr.sizeL]; omega) (all_tr env cs h.2)) (Tr.pure _)
theorem minmax_tr (env : Env) (isMin : Bool) :
    ∀ (cur : Option Value) (cs : List Expr), Expr.simpleL cs = true →
      Tr (Expr.sizeL cs) (evalTrMinMax env isMin cur cs)
  | cur, [], _ => by
      simp only [evalTrMinMax]
      cases cur with
      | none => exact Tr.throw _
      | some m => exact Tr.pure _
  | cur, c :: cs, h => by
      simp only [Expr.simpleL, Bool.and_eq_true] at h
      simp only [evalTrMinMax]
      refine Tr.bind (Tr.mono (by simp only [Expr.sizeL]; omega) (evalTr_tr env c h.1)) fun v => ?_
      cases cur with
      | none => exact Tr.mono (by simp only [Expr.sizeL]; omega) (minmax_tr env isMin (some v) cs h.2)
      | some m =>
        exact Tr.bind (Tr.lift _) fun better =>
          Tr.mono (by simp only [Expr.sizeL]; omega) (minmax_tr env isMin _ cs h.2)
theorem list_tr (env : Env) :
    ∀ (cs : List Expr), Expr.simpleL cs = true → Tr (Expr.sizeL cs) (evalTrList env cs)
  | [], _ => by simp only [evalTrList]; exact Tr.pure _
  | c :: cs, h => by
      simp only [Expr.simpleL, Bool.and_eq_true] at h
      simp only [evalTrList]
      exact Tr.bind (Tr.mono (by simp only [Expr.sizeL]; omega) (evalTr_tr env c h.1)) fun v =>
        Tr.bind (Tr.mono (by simp only [Expr.sizeL]; omega) (list_tr env cs h.2)) fun vs => Tr.pure _
end

theorem goodLog_nil : GoodLog [] := by simp [GoodLog, computed, cacheOf]

/-- any history of evaluations on one evaluator keeps the invariant -/
theorem runTr_good (env : Env) : ∀ (es : List Expr) (t : Log), (∀ e ∈ es, e.simple = true) →
    GoodLog t → GoodLog (runTr env es t).2
  | [], t, _, ht => by simpa [runTr] using ht
  | e :: es, t, h, ht => by
    obtain ⟨new, h1, g1, _⟩ := evalTr_tr env e (h e (by simp)) t ht
    simp only [runTr]
    cases hr : evalTr env e t with
    | mk r t1 =>
      rw [hr] at h1; simp only at h1; subst h1
      simp only
      cases hr2 : runTr env es (new ++ t) with
      | mk rs t2 =>
        have := runTr_good env es (new ++ t) (fun x hx => h x (by simp [hx])) g1
        rw [hr2] at this
        exact this

end PV
