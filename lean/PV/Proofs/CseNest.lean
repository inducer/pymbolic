import PV.Proofs.CseRel
/-
  C12 helper: "no wrapper directly around a wrapper" as an instance of the generic induction.
-/
namespace PV

def Expr.isCse : Expr → Bool
  | .cse .. => true
  | _ => false

mutual
/-- nowhere in the tree is a wrapper the direct child of a wrapper -/
def Expr.noNest : Expr → Bool
  | .cse c _ _ => !c.isCse && c.noNest
  | .nary _ cs => Expr.noNestL cs
  | .bin _ a b => a.noNest && b.noNest
  | .un _ a => a.noNest
  | .cmp _ a b => a.noNest && b.noNest
  | .ite c t e => c.noNest && t.noNest && e.noNest
  | .call f as => f.noNest && Expr.noNestL as
  | .callKw f as _ vs => f.noNest && Expr.noNestL as && Expr.noNestL vs
  | .subscript a i => a.noNest && i.noNest
  | .lookup a _ => a.noNest
  | .subst c _ xs => c.noNest && Expr.noNestL xs
  | .deriv c _ => c.noNest
  | .slice cs => Expr.noNestL cs
  | .tuple cs => Expr.noNestL cs
  | .list cs => Expr.noNestL cs
  | _ => true
def Expr.noNestL : List Expr → Bool
  | [] => true
  | c :: cs => c.noNest && Expr.noNestL cs
end

theorem noNestL_mem : ∀ {cs : List Expr}, Expr.noNestL cs = true → ∀ c ∈ cs, c.noNest = true
  | [], _, c, hc => by simp at hc
  | d :: ds, h, c, hc => by
    simp only [Expr.noNestL, Bool.and_eq_true] at h
    simp only [List.mem_cons] at hc
    rcases hc with rfl | hc
    · exact h.1
    · exact noNestL_mem h.2 c hc

theorem noNestL_of_mem : ∀ {cs : List Expr}, (∀ c ∈ cs, c.noNest = true) → Expr.noNestL cs = true
  | [], _ => rfl
  | d :: ds, h => by
    simp only [Expr.noNestL, Bool.and_eq_true]
    exact ⟨h d (by simp), noNestL_of_mem fun c hc => h c (by simp [hc])⟩

theorem noNestL_append : ∀ (xs ys : List Expr),
    Expr.noNestL (xs ++ ys) = (Expr.noNestL xs && Expr.noNestL ys)
  | [], ys => rfl
  | x :: xs, ys => by
    simp only [List.cons_append, Expr.noNestL, noNestL_append xs ys, Bool.and_assoc]

/-- `noNest` of a node is the conjunction over its operands (for a wrapper: and its child is no
wrapper) -/
theorem noNest_children {e : Expr} (h : e.noNest = true) : ∀ c ∈ e.children, c.noNest = true := by
  refine noNestL_mem ?_
  cases e <;> first
    | exact h
    | rfl
    | (simp only [Expr.noNest, Bool.and_eq_true] at h
       simp only [Expr.children, Expr.noNestL, noNestL_append, Bool.and_true, Bool.and_eq_true]
       first | exact h | exact h.2 | exact ⟨h.1.1, h.1.2, h.2⟩)

theorem wrapInCse_noNest (r : Expr) (p : Option String) (h : r.noNest = true) :
    (wrapInCse r p).noNest = true := by
  cases r with
  | cse c q s => cases p <;> cases q <;> exact h
  | _ => exact h

/-- `wrap_in_cse` never builds a wrapper directly around a wrapper -/
theorem wrapInCse_top (r : Expr) (p : Option String) :
    ∀ c q s, wrapInCse r p = .cse c q s → c.isCse = true → ∃ q' s', r = .cse c q' s' := by
  intro c q s h hc
  cases r with
  | var _ | subscript _ _ => cases h
  | cse c0 q0 s0 => cases p <;> cases q0 <;> (cases h; exact ⟨_, _, rfl⟩)
  | _ => cases h; cases hc

/-- an entry of `Tbl.set k w T` is an entry of `T`, or holds `w` under `k` or under the key (equal to
`k`) of the entry it overwrites -/
theorem Tbl.mem_set' {k : CKey} {w : Expr} : ∀ {T : Tbl} {p : CKey × Expr}, p ∈ Tbl.set k w T →
    p ∈ T ∨ (p.2 = w ∧ (p.1 = k ∨ ∃ w0, (p.1, w0) ∈ T ∧ p.1.eq k = true))
  | [], p, h => by simp [Tbl.set] at h; right; rw [h]; exact ⟨rfl, Or.inl rfl⟩
  | (k0, w0) :: rest, p, h => by
    simp only [Tbl.set] at h
    by_cases hk : k0.eq k = true
    · simp only [hk, if_true, List.mem_cons] at h
      rcases h with rfl | h
      · right; exact ⟨rfl, Or.inr ⟨w0, by simp, hk⟩⟩
      · left; simp [h]
    · simp only [hk, Bool.false_eq_true, if_false, List.mem_cons] at h
      rcases h with rfl | h
      · left; simp
      · rcases Tbl.mem_set' h with h | ⟨h1, h2 | ⟨w1, hm, he⟩⟩
        · left; simp [h]
        · right; exact ⟨h1, Or.inl h2⟩
        · right; exact ⟨h1, Or.inr ⟨w1, by simp [hm], he⟩⟩

theorem Tbl.mem_set {k : CKey} {w : Expr} {T : Tbl} {p : CKey × Expr} (h : p ∈ Tbl.set k w T) :
    p.2 = w ∨ p ∈ T :=
  (Tbl.mem_set' h).symm.imp_left And.left

theorem relL_noNest {cs cs' : List Expr}
    (h : RelL (fun e e' => e.noNest = true → e'.noNest = true) cs cs') :
    Expr.noNestL cs = true → Expr.noNestL cs' = true := by
  induction h with
  | nil => intro _; rfl
  | cons h1 _ ih =>
    intro hh
    simp only [Expr.noNestL, Bool.and_eq_true] at hh ⊢
    exact ⟨h1 hh.1, ih hh.2⟩

theorem relL_mem {R : Expr → Expr → Prop} {cs cs' : List Expr} (h : RelL R cs cs') :
    ∀ c' ∈ cs', ∃ c ∈ cs, R c c' := by
  induction h with
  | nil => intro c' hc; simp at hc
  | cons h1 _ ih =>
    intro c' hc
    simp only [List.mem_cons] at hc
    rcases hc with rfl | hc
    · exact ⟨_, by simp, h1⟩
    · obtain ⟨c, hm, hr⟩ := ih c' hc
      exact ⟨c, by simp [hm], hr⟩

theorem relL_length {R : Expr → Expr → Prop} {cs cs' : List Expr} (h : RelL R cs cs') :
    cs.length = cs'.length := by
  induction h with
  | nil => rfl
  | cons _ _ ih => simp [ih]

theorem relL_get {R : Expr → Expr → Prop} {cs cs' : List Expr} (h : RelL R cs cs') :
    ∀ (i : Nat) (h1 : i < cs.length) (h2 : i < cs'.length), R cs[i] cs'[i] := by
  induction h with
  | nil => intro i h1; simp at h1
  | cons hr _ ih =>
    intro i h1 h2
    cases i with
    | zero => simpa using hr
    | succ j => simpa using ih j (by simpa using h1) (by simpa using h2)

theorem noNestSpec : CseSpec (fun e e' => e.noNest = true → e'.noNest = true)
    (fun _ w => w.noNest = true) (fun e => e.noNest = true) where
  dchild := fun _ h => noNest_children h
  const := fun _ h => h
  var := fun _ h => h
  nan := fun h => h
  wildcard := fun h => h
  dotWild := fun _ h => h
  starWild := fun _ h => h
  funcSym := fun h => h
  nary := fun o cs cs' h hh => by
    simp only [Expr.noNest] at hh ⊢; exact relL_noNest h hh
  bin := fun o a b a' b' ha hb hh => by
    simp only [Expr.noNest, Bool.and_eq_true] at hh ⊢; exact ⟨ha hh.1, hb hh.2⟩
  un := fun o a a' ha hh => by simp only [Expr.noNest] at hh ⊢; exact ha hh
  cmp := fun o a b a' b' ha hb hh => by
    simp only [Expr.noNest, Bool.and_eq_true] at hh ⊢; exact ⟨ha hh.1, hb hh.2⟩
  ite := fun c t e c' t' e' hc ht he hh => by
    simp only [Expr.noNest, Bool.and_eq_true] at hh ⊢; exact ⟨⟨hc hh.1.1, ht hh.1.2⟩, he hh.2⟩
  call := fun f as f' as' hf has hh => by
    simp only [Expr.noNest, Bool.and_eq_true] at hh ⊢; exact ⟨hf hh.1, relL_noNest has hh.2⟩
  callKw := fun f as ns vs f' as' vs' hf has hvs hh => by
    simp only [Expr.noNest, Bool.and_eq_true] at hh ⊢
    exact ⟨⟨hf hh.1.1, relL_noNest has hh.1.2⟩, relL_noNest hvs hh.2⟩
  subscript := fun a i a' i' ha hi hh => by
    simp only [Expr.noNest, Bool.and_eq_true] at hh ⊢; exact ⟨ha hh.1, hi hh.2⟩
  lookup := fun a n a' ha hh => by simp only [Expr.noNest] at hh ⊢; exact ha hh
  subst := fun c vs xs xs' hx hh => by
    simp only [Expr.noNest, Bool.and_eq_true] at hh ⊢; exact ⟨hh.1, relL_noNest hx hh.2⟩
  deriv := fun c vs c' hc hh => by simp only [Expr.noNest] at hh ⊢; exact hc hh
  slice := fun cs cs' h hh => by simp only [Expr.noNest] at hh ⊢; exact relL_noNest h hh
  tuple := fun cs cs' h hh => by simp only [Expr.noNest] at hh ⊢; exact relL_noNest h hh
  list := fun cs cs' h hh => by simp only [Expr.noNest] at hh ⊢; exact relL_noNest h hh
  cse := fun c p s r hr hh => by
    simp only [Expr.noNest, Bool.and_eq_true] at hh
    exact wrapInCse_noNest r p (hr hh.2)
  hit := fun e k w _ hw _ _ => hw
  put := fun e r T hD _ hr hT => by
    have hw : (wrapInCse r none).noNest = true := wrapInCse_noNest r none (hr hD)
    refine ⟨fun _ => hw, ?_⟩
    intro p hp
    rcases Tbl.mem_set hp with h | h
    · rw [h]; exact hw
    · exact hT p h

end PV
