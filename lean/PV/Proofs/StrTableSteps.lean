import PV.Proofs.StrTable
/-
  C06, T-gen tie — the unfolding tactic and the step lemmas of PV/Properties/C06Table.lean.
-/
namespace PV.C06T
open PV

/-- dispatch of a node class: class ↦ handler ↦ body, then the body is run (any table) -/
theorem c06tClass_of {T : C06TTable} {cls h : String} {p : C06TProg}
    (hc : T.classHandler cls = some (some h)) (hb : T.handlerBody h = some p)
    (S : PrintPrec) (enc : Nat) (fields : List (String × C06TField)) :
    c06tClass T S cls enc fields =
      c06tEvalP T.helpers S ⟨cls, enc, none, none, fields⟩
        (c06tRunHandler T S ⟨cls, enc, none, none, fields⟩ 2) none [] p := by
  simp only [c06tClass, hc, c06tRunHandler, hb]

/-- dispatch of a foreign object through `map_foreign` (any table) -/
theorem c06tForeign_of {T : C06TTable} {kind h : String} {p : C06TProg}
    (hf : c06tForeignRule T.constKinds kind T.foreign = some h) (hb : T.handlerBody h = some p)
    (S : PrintPrec) (enc : Nat) (c : Option Const) (items : Option (List C06TChild)) :
    c06tForeign T S kind enc c items =
      c06tEvalP T.helpers S ⟨kind, enc, c, items, []⟩
        (c06tRunHandler T S ⟨kind, enc, c, items, []⟩ 2) none [] p := by
  simp only [c06tForeign, hf, c06tRunHandler, hb]

/-- an object no rule of `map_foreign` applies to (any table) -/
theorem c06tForeign_none {T : C06TTable} {kind : String}
    (hf : c06tForeignRule T.constKinds kind T.foreign = none)
    (S : PrintPrec) (enc : Nat) (c : Option Const) (items : Option (List C06TChild)) :
    c06tForeign T S kind enc c items = throw (c06tErrOfExc T.foreignElse) := by
  simp only [c06tForeign, hf]

/-- runs a handler body that the dispatch lemmas have put in front: the equations of the
interpreter, the helper parameters and literals of the regenerated table, the list printers -/
macro "c06t_run" : tactic => `(tactic|
  simp [c06tEvalP, c06tEvalE, c06tEvalArgs, c06tEvalCond, c06tAssoc, c06tPrec, c06tPrecBase,
    c06tFill, c06tJoin, c06tOpt, C06TCmp.holds, C06TVal.pieces, C06TVal.list, C06TCtx.items,
    c06t_h_parenIfCmp, c06t_h_parenIfWrap, c06t_h_forceDefault, BinOp.c06tFields, parenIf, parens,
    c06t_lit_0, c06t_lit_1, c06t_lit_2, c06t_lit_3, c06t_lit_4, c06t_lit_5, c06t_lit_6, c06t_lit_7,
    c06t_lit_8, c06t_lit_9, c06t_lit_12, c06t_lit_13, c06t_lit_14, c06t_lit_15, c06t_lit_16,
    c06t_lit_17, c06t_lit_18, c06t_lit_19, c06t_lit_20, c06t_lit_21, c06t_lit_22, c06t_lit_23,
    c06t_lit_24, c06t_lit_25, c06t_lit_26, c06t_lit_27, c06t_lit_28, c06t_lit_29, c06t_lit_30,
    c06t_lit_31, c06t_lit_32, c06t_lit_33, c06t_lit_34,
    runAll_plain, runAll_force_nil, runAll_force_div, runAllOpt_eq, recForce_mult, fillPairs_kw,
    kidsOf_length, *])

/-- `map_subscript` of the current source on a node whose index is not a tuple -/
theorem subscript_nt_step (S : PrintPrec) (a i : Expr) (hi : ∀ cs, i ≠ .tuple cs)
    (iha : c06tStr tableCurrent true S a = strE S a)
    (ihi : c06tStr tableCurrent true S i = strE S i) (enc : Nat) :
    c06tStr tableCurrent true S (.subscript a i) enc = strE S (.subscript a i) enc := by
  have hi' : ∀ cs, i = .tuple cs → False := hi
  have hc := cls_ne_tuple i hi
  rw [c06tStr, strE, iha, ihi, c06tClass_of c06t_cls_Subscript c06t_body_map_subscript]
  · generalize strE S i = fi
    generalize i.c06tCls = ci at hc
    c06t_run
  · exact hi'
  · exact hi'

/-! ### `map_constant`: the one handler with compound conditions -/

section cond
variable {S : PrintPrec} {ctx : C06TCtx} {loc : C06TLoc}

theorem evalCond_not {c : C06TCond} {x : Bool} (h : c06tEvalCond S ctx loc c = pure x) :
    c06tEvalCond S ctx loc (.not c) = pure (!x) := by
  rw [c06tEvalCond, h]
  rfl

theorem evalCond_and {a b : C06TCond} {x y : Bool} (ha : c06tEvalCond S ctx loc a = pure x)
    (hb : c06tEvalCond S ctx loc b = pure y) :
    c06tEvalCond S ctx loc (.and a b) = pure (x && y) := by
  rw [c06tEvalCond, ha]
  cases x
  · rfl
  · exact hb

theorem evalCond_or {a b : C06TCond} {x y : Bool} (ha : c06tEvalCond S ctx loc a = pure x)
    (hb : c06tEvalCond S ctx loc b = pure y) :
    c06tEvalCond S ctx loc (.or a b) = pure (x || y) := by
  rw [c06tEvalCond, ha]
  cases x
  · exact hb
  · rfl
end cond

/-- `map_constant` of the current source on a constant whose four character tests are known:
`str(c)`, in parentheses iff it is not already parenthesised, has a sign and stands above a sum.
The four tests are the hypotheses `h1 … h4`; `evalCond_not` / `_and` / `_or` assemble the value
of the whole condition from them, and only then is the body run. -/
theorem map_constant_run {c : Const} {p q m pl : Bool}
    (h1 : c.c06tTest .starts "(" = some p) (h2 : c.c06tTest .ends ")" = some q)
    (h3 : c.c06tTest .contains "-" = some m) (h4 : c.c06tTest .contains "+" = some pl)
    (S : PrintPrec) (kind : String) (enc : Nat) (callH : String → Except SErr Pieces) :
    c06tEvalP tableCurrent.helpers S ⟨kind, enc, some c, none, []⟩ callH none []
      (.assign "result" (.strSelf false)
        (.ite (.and (.not (.and (.startsWith "result" "(") (.endsWith "result" ")")))
            (.and (.or (.litIn "-" "result") (.litIn "+" "result"))
              (.precCmp .gt ⟨"enclosing_prec", 0⟩ ⟨"PREC_SUM", 0⟩)))
          (.ret (.parens (.var "result")))
          (.ret (.var "result")))) = (do
      let b ← c.c06tBody
      pure (if !(p && q) && ((m || pl) && decide (enc > S.sum)) then parens b else b)) := by
  have hc := evalCond_and (S := S) (ctx := ⟨kind, enc, some c, none, []⟩)
    (loc := [("result", .ctext c)])
    (evalCond_not (evalCond_and
      (show c06tEvalCond _ _ _ (.startsWith "result" "(") = pure p by
        simp only [c06tEvalCond, c06tAssoc, if_true, h1, c06tOpt])
      (show c06tEvalCond _ _ _ (.endsWith "result" ")") = pure q by
        simp only [c06tEvalCond, c06tAssoc, if_true, h2, c06tOpt])))
    (evalCond_and (evalCond_or
      (show c06tEvalCond _ _ _ (.litIn "-" "result") = pure m by
        simp only [c06tEvalCond, c06tAssoc, if_true, h3, c06tOpt])
      (show c06tEvalCond _ _ _ (.litIn "+" "result") = pure pl by
        simp only [c06tEvalCond, c06tAssoc, if_true, h4, c06tOpt]))
      (show c06tEvalCond _ _ _ (.precCmp .gt ⟨"enclosing_prec", 0⟩ ⟨"PREC_SUM", 0⟩)
          = pure (decide (enc > S.sum)) by
        simp only [c06tEvalCond, c06tPrec, c06tPrecBase, C06TCmp.holds, bind, Except.bind, pure,
          Except.pure, Nat.add_zero]))
  simp only [c06tEvalP, c06tEvalE, hc, bind, Except.bind, pure, Except.pure]
  generalize (!(p && q) && ((m || pl) && decide (enc > S.sum))) = v
  cases v <;>
    simp only [c06tAssoc, if_true, c06tOpt, C06TVal.pieces, pure, Except.pure,
      c06t_h_parenthesize, c06tFill, c06t_lit_0, c06t_lit_1, Bool.false_eq_true, if_false,
      parens] <;>
    cases c.c06tBody <;> rfl

/-! ### trees without `Substitution` / `Derivative` nodes

The flag `lim` of `c06tStr T lim S`: with `lim = true` the interpreter stops at a `Substitution` /
`Derivative` node with "no claim", as the hand-written model `strE` does; with `lim = false` it
runs their handlers like all others (this is the printer the `table-str` stream compares with
the real one).  On a tree without such nodes (`c06tPlain`) the flag makes no difference. -/

mutual
/-- no `Substitution` / `Derivative` node anywhere in the tree -/
def c06tPlain : Expr → Bool
  | .subst .. => false
  | .deriv .. => false
  | .nary _ cs => c06tPlainL cs
  | .bin _ a b => c06tPlain a && c06tPlain b
  | .un _ a => c06tPlain a
  | .cmp _ a b => c06tPlain a && c06tPlain b
  | .ite c t e => c06tPlain c && c06tPlain t && c06tPlain e
  | .call f as => c06tPlain f && c06tPlainL as
  | .callKw f as _ vs => c06tPlain f && c06tPlainL as && c06tPlainL vs
  | .subscript a i => c06tPlain a && c06tPlain i
  | .lookup a _ => c06tPlain a
  | .cse c _ _ => c06tPlain c
  | .slice cs => c06tPlainL cs
  | .tuple cs => c06tPlainL cs
  | .list cs => c06tPlainL cs
  | _ => true
def c06tPlainL : List Expr → Bool
  | [] => true
  | c :: cs => c06tPlain c && c06tPlainL cs
end

mutual
/-- the limits of the model only matter below a `Substitution` / `Derivative` node (any table) -/
theorem full_eq_lim (T : C06TTable) (S : PrintPrec) :
    ∀ e, c06tPlain e = true → c06tStr T false S e = c06tStr T true S e
  | .const _, _ => by funext enc; simp only [c06tStr]
  | .var _, _ => by funext enc; simp only [c06tStr]
  | .nary o cs, h => by
      funext enc
      simp only [c06tPlain] at h
      simp only [c06tStr, full_eq_lim_kids T S cs h]
  | .bin o a b, h => by
      funext enc
      simp only [c06tPlain, Bool.and_eq_true] at h
      simp only [c06tStr, full_eq_lim T S a h.1, full_eq_lim T S b h.2]
  | .un o a, h => by
      funext enc
      simp only [c06tPlain] at h
      simp only [c06tStr, full_eq_lim T S a h]
  | .cmp o a b, h => by
      funext enc
      simp only [c06tPlain, Bool.and_eq_true] at h
      simp only [c06tStr, full_eq_lim T S a h.1, full_eq_lim T S b h.2]
  | .ite c t e, h => by
      funext enc
      simp only [c06tPlain, Bool.and_eq_true] at h
      simp only [c06tStr, full_eq_lim T S c h.1.1, full_eq_lim T S t h.1.2, full_eq_lim T S e h.2]
  | .call f as, h => by
      funext enc
      simp only [c06tPlain, Bool.and_eq_true] at h
      simp only [c06tStr, full_eq_lim T S f h.1, full_eq_lim_kids T S as h.2]
  | .callKw f as ns vs, h => by
      funext enc
      simp only [c06tPlain, Bool.and_eq_true] at h
      simp only [c06tStr, full_eq_lim T S f h.1.1, full_eq_lim_kids T S as h.1.2,
        full_eq_lim_kids T S vs h.2]
  | .subscript a i, h => by
      funext enc
      simp only [c06tPlain, Bool.and_eq_true] at h
      have iha := full_eq_lim T S a h.1
      have ihi := full_eq_lim T S i h.2
      cases i with
      | tuple cs =>
        have ihc := full_eq_lim_kids T S cs (by simpa only [c06tPlain] using h.2)
        simp only [c06tStr, iha, ihi, ihc]
      | _ =>
        rw [c06tStr, c06tStr, iha, ihi]
        all_goals (intro cs hc; cases hc)
  | .lookup a n, h => by
      funext enc
      simp only [c06tPlain] at h
      simp only [c06tStr, full_eq_lim T S a h]
  | .cse c p s, h => by
      funext enc
      simp only [c06tPlain] at h
      simp only [c06tStr, full_eq_lim T S c h]
  | .subst .., h => by simp [c06tPlain] at h
  | .deriv .., h => by simp [c06tPlain] at h
  | .slice cs, h => by
      funext enc
      simp only [c06tPlain] at h
      simp only [c06tStr, full_eq_lim_kids T S cs h]
  | .nan, _ => by funext enc; simp only [c06tStr]
  | .wildcard, _ => by funext enc; simp only [c06tStr]
  | .dotWild _, _ => by funext enc; simp only [c06tStr]
  | .starWild _, _ => by funext enc; simp only [c06tStr]
  | .funcSym, _ => by funext enc; simp only [c06tStr]
  | .tuple cs, h => by
      funext enc
      simp only [c06tPlain] at h
      simp only [c06tStr, full_eq_lim_kids T S cs h]
  | .list cs, h => by
      funext enc
      simp only [c06tPlain] at h
      simp only [c06tStr, full_eq_lim_kids T S cs h]
theorem full_eq_lim_kids (T : C06TTable) (S : PrintPrec) :
    ∀ cs, c06tPlainL cs = true → c06tKids T false S cs = c06tKids T true S cs
  | [], _ => by simp only [c06tKids]
  | c :: cs, h => by
      simp only [c06tPlainL, Bool.and_eq_true] at h
      simp only [c06tKids, full_eq_lim T S c h.1, full_eq_lim_kids T S cs h.2]
end

/-- `" ".join(f"d/d{v}" for v in expr.variables)` -/
theorem fillEach_deriv : ∀ vars : List String,
    c06tFillEach [.lit "d/d", .hole] (c06tIdents vars)
      = pure (vars.map fun v => [.tok (.ident "d"), sy "/", .tok (.ident "d"), .tok (.ident v)])
  | [] => rfl
  | v :: vs => by
      have ih := fillEach_deriv vs
      simp only [c06tIdents] at ih
      simp [c06tIdents, c06tFillEach, c06tFill, c06t_lit_12, ih]


end PV.C06T
