import PV.Model.StrTable
import PV.Generated.Stringifier
/-
  C06, T-gen tie — helper lemmas for PV/Properties/C06Table.lean.

  * what the regenerated table `PV.Generated.c06tTable` says, entry by entry: which handler every
    node class reaches, the body of every reached handler, the helper parameters, the pieces of
    every literal — each proved from the table itself (its row exhibited in the table, whose names are
    distinct; `decide` for the literals), so an edit of the source that changes an entry breaks
    the lemma of that entry;
  * the recursion schemes of the interpreter over child lists (`c06tRunAll`, `c06tRunAllOpt`) are
    the list printers of the hand-written model (`strL`, `strForceL`, `strSliceL`);
  * the class tuples under `force_parens_around` are the predicates `isDivision` /
    `isMultiplicative` of the model.
-/
namespace PV.C06T
open PV

/-- the table regenerated from the working tree -/
abbrev tableCurrent : C06TTable := Generated.c06tTable

/-! ### look-up by name in a list with distinct names -/

/-- with pairwise distinct keys, a look-up by key finds every member -/
theorem find?_key_of_mem {α : Type} (key : α → String) : ∀ {l : List α}, (l.map key).Nodup →
    ∀ {a : α}, a ∈ l → l.find? (fun e => key e == key a) = some a
  | [], _, _, h => nomatch h
  | b :: l, hn, a, h => by
    rw [List.map_cons, List.nodup_cons] at hn
    rw [List.find?_cons]
    rcases List.mem_cons.mp h with rfl | h
    · rw [beq_self_eq_true]
    · have hk : (key b == key a) = false :=
        beq_false_of_ne fun hk => hn.1 (hk ▸ List.mem_map_of_mem h)
      rw [hk]
      exact find?_key_of_mem key hn.2 h

theorem handlerBody_of_mem {T : C06TTable} (hn : (T.handlers.map (·.name)).Nodup) {h : String}
    {p : C06TProg} (hm : (h, p) ∈ T.handlers.map fun e => (e.name, e.body)) :
    T.handlerBody h = some p := by
  obtain ⟨e, he, heq⟩ := List.mem_map.mp hm
  cases heq
  rw [C06TTable.handlerBody, find?_key_of_mem (·.name) hn he]

theorem classHandler_of_mem {T : C06TTable} (hn : (T.classes.map (·.cls)).Nodup) {cls : String}
    {h : Option String} (hm : (cls, h) ∈ T.classes.map fun c => (c.cls, c.handler)) :
    T.classHandler cls = some h := by
  obtain ⟨e, he, heq⟩ := List.mem_map.mp hm
  cases heq
  rw [C06TTable.classHandler, find?_key_of_mem (·.cls) hn he]

/-! ### what the regenerated table says, entry by entry

The class and handler names of the table are distinct (evaluated once); an entry lemma then only
has to exhibit its row in the table, which needs no comparison of names: `repeat constructor`
walks down the list to the row. -/

theorem classes_nodup_current : (tableCurrent.classes.map (·.cls)).Nodup := by decide +kernel

theorem handlers_nodup_current : (tableCurrent.handlers.map (·.name)).Nodup := by decide +kernel


theorem c06t_cls_Variable : tableCurrent.classHandler "Variable" = some (some "map_variable") :=
  classHandler_of_mem classes_nodup_current (by repeat constructor)
theorem c06t_cls_Sum : tableCurrent.classHandler "Sum" = some (some "map_sum") :=
  classHandler_of_mem classes_nodup_current (by repeat constructor)
theorem c06t_cls_Product : tableCurrent.classHandler "Product" = some (some "map_product") :=
  classHandler_of_mem classes_nodup_current (by repeat constructor)
theorem c06t_cls_BitwiseOr : tableCurrent.classHandler "BitwiseOr" = some (some "map_bitwise_or") :=
  classHandler_of_mem classes_nodup_current (by repeat constructor)
theorem c06t_cls_BitwiseXor : tableCurrent.classHandler "BitwiseXor" = some (some "map_bitwise_xor") :=
  classHandler_of_mem classes_nodup_current (by repeat constructor)
theorem c06t_cls_BitwiseAnd : tableCurrent.classHandler "BitwiseAnd" = some (some "map_bitwise_and") :=
  classHandler_of_mem classes_nodup_current (by repeat constructor)
theorem c06t_cls_LogicalOr : tableCurrent.classHandler "LogicalOr" = some (some "map_logical_or") :=
  classHandler_of_mem classes_nodup_current (by repeat constructor)
theorem c06t_cls_LogicalAnd : tableCurrent.classHandler "LogicalAnd" = some (some "map_logical_and") :=
  classHandler_of_mem classes_nodup_current (by repeat constructor)
theorem c06t_cls_Min : tableCurrent.classHandler "Min" = some (some "map_min") :=
  classHandler_of_mem classes_nodup_current (by repeat constructor)
theorem c06t_cls_Max : tableCurrent.classHandler "Max" = some (some "map_max") :=
  classHandler_of_mem classes_nodup_current (by repeat constructor)
theorem c06t_cls_Quotient : tableCurrent.classHandler "Quotient" = some (some "map_quotient") :=
  classHandler_of_mem classes_nodup_current (by repeat constructor)
theorem c06t_cls_FloorDiv : tableCurrent.classHandler "FloorDiv" = some (some "map_floor_div") :=
  classHandler_of_mem classes_nodup_current (by repeat constructor)
theorem c06t_cls_Remainder : tableCurrent.classHandler "Remainder" = some (some "map_remainder") :=
  classHandler_of_mem classes_nodup_current (by repeat constructor)
theorem c06t_cls_Power : tableCurrent.classHandler "Power" = some (some "map_power") :=
  classHandler_of_mem classes_nodup_current (by repeat constructor)
theorem c06t_cls_LeftShift : tableCurrent.classHandler "LeftShift" = some (some "map_left_shift") :=
  classHandler_of_mem classes_nodup_current (by repeat constructor)
theorem c06t_cls_RightShift : tableCurrent.classHandler "RightShift" = some (some "map_right_shift") :=
  classHandler_of_mem classes_nodup_current (by repeat constructor)
theorem c06t_cls_BitwiseNot : tableCurrent.classHandler "BitwiseNot" = some (some "map_bitwise_not") :=
  classHandler_of_mem classes_nodup_current (by repeat constructor)
theorem c06t_cls_LogicalNot : tableCurrent.classHandler "LogicalNot" = some (some "map_logical_not") :=
  classHandler_of_mem classes_nodup_current (by repeat constructor)
theorem c06t_cls_Comparison : tableCurrent.classHandler "Comparison" = some (some "map_comparison") :=
  classHandler_of_mem classes_nodup_current (by repeat constructor)
theorem c06t_cls_If : tableCurrent.classHandler "If" = some (some "map_if") :=
  classHandler_of_mem classes_nodup_current (by repeat constructor)
theorem c06t_cls_Call : tableCurrent.classHandler "Call" = some (some "map_call") :=
  classHandler_of_mem classes_nodup_current (by repeat constructor)
theorem c06t_cls_CallWithKwargs : tableCurrent.classHandler "CallWithKwargs" = some (some "map_call_with_kwargs") :=
  classHandler_of_mem classes_nodup_current (by repeat constructor)
theorem c06t_cls_Subscript : tableCurrent.classHandler "Subscript" = some (some "map_subscript") :=
  classHandler_of_mem classes_nodup_current (by repeat constructor)
theorem c06t_cls_Lookup : tableCurrent.classHandler "Lookup" = some (some "map_lookup") :=
  classHandler_of_mem classes_nodup_current (by repeat constructor)
theorem c06t_cls_CommonSubexpression : tableCurrent.classHandler "CommonSubexpression" = some (some "map_common_subexpression") :=
  classHandler_of_mem classes_nodup_current (by repeat constructor)
theorem c06t_cls_Substitution : tableCurrent.classHandler "Substitution" = some (some "map_substitution") :=
  classHandler_of_mem classes_nodup_current (by repeat constructor)
theorem c06t_cls_Derivative : tableCurrent.classHandler "Derivative" = some (some "map_derivative") :=
  classHandler_of_mem classes_nodup_current (by repeat constructor)
theorem c06t_cls_Slice : tableCurrent.classHandler "Slice" = some (some "map_slice") :=
  classHandler_of_mem classes_nodup_current (by repeat constructor)
theorem c06t_cls_NaN : tableCurrent.classHandler "NaN" = some (some "map_nan") :=
  classHandler_of_mem classes_nodup_current (by repeat constructor)
theorem c06t_cls_Wildcard : tableCurrent.classHandler "Wildcard" = some (some "map_wildcard") :=
  classHandler_of_mem classes_nodup_current (by repeat constructor)
theorem c06t_cls_DotWildcard : tableCurrent.classHandler "DotWildcard" = some (some "map_algebraic_leaf") :=
  classHandler_of_mem classes_nodup_current (by repeat constructor)
theorem c06t_cls_StarWildcard : tableCurrent.classHandler "StarWildcard" = some (some "map_algebraic_leaf") :=
  classHandler_of_mem classes_nodup_current (by repeat constructor)
theorem c06t_cls_FunctionSymbol : tableCurrent.classHandler "FunctionSymbol" = some (some "map_function_symbol") :=
  classHandler_of_mem classes_nodup_current (by repeat constructor)

theorem c06t_body_map_algebraic_leaf : tableCurrent.handlerBody "map_algebraic_leaf" = some
    (.raise "NotImplementedError") :=
  handlerBody_of_mem handlers_nodup_current (by repeat constructor)
theorem c06t_body_map_bitwise_and : tableCurrent.handlerBody "map_bitwise_and" = some
    (.ret (.parenIf (.join " & " (.recEach (.field "children") ⟨"PREC_BITWISE_AND", 0⟩ true)) ⟨"PREC_BITWISE_AND", 0⟩)) :=
  handlerBody_of_mem handlers_nodup_current (by repeat constructor)
theorem c06t_body_map_bitwise_not : tableCurrent.handlerBody "map_bitwise_not" = some
    (.ret (.parenIf (.cat (.lit "~") (.recF "child" ⟨"PREC_UNARY", 0⟩ false)) ⟨"PREC_UNARY", 0⟩)) :=
  handlerBody_of_mem handlers_nodup_current (by repeat constructor)
theorem c06t_body_map_bitwise_or : tableCurrent.handlerBody "map_bitwise_or" = some
    (.ret (.parenIf (.join " | " (.recEach (.field "children") ⟨"PREC_BITWISE_OR", 0⟩ true)) ⟨"PREC_BITWISE_OR", 0⟩)) :=
  handlerBody_of_mem handlers_nodup_current (by repeat constructor)
theorem c06t_body_map_bitwise_xor : tableCurrent.handlerBody "map_bitwise_xor" = some
    (.ret (.parenIf (.join " ^ " (.recEach (.field "children") ⟨"PREC_BITWISE_XOR", 0⟩ true)) ⟨"PREC_BITWISE_XOR", 0⟩)) :=
  handlerBody_of_mem handlers_nodup_current (by repeat constructor)
theorem c06t_body_map_call : tableCurrent.handlerBody "map_call" = some
    (.ret (.fmt [.hole, .lit "(", .hole, .lit ")"] [(.recF "function" ⟨"PREC_CALL", 0⟩ false), (.join ", " (.recEach (.field "parameters") ⟨"PREC_NONE", 0⟩ true))])) :=
  handlerBody_of_mem handlers_nodup_current (by repeat constructor)
theorem c06t_body_map_call_with_kwargs : tableCurrent.handlerBody "map_call_with_kwargs" = some
    (.assign "args_strings" (.append (.recEach (.field "parameters") ⟨"PREC_NONE", 0⟩ false) (.kwEach [.hole, .lit "=", .hole] "kw_parameters" ⟨"PREC_NONE", 0⟩))
      (.ret (.fmt [.hole, .lit "(", .hole, .lit ")"] [(.recF "function" ⟨"PREC_CALL", 0⟩ false), (.join ", " (.var "args_strings"))]))) :=
  handlerBody_of_mem handlers_nodup_current (by repeat constructor)
theorem c06t_body_map_common_subexpression : tableCurrent.handlerBody "map_common_subexpression" = some
    (.assign "type_name" (.cond (.typeIs "CommonSubexpression") (.lit "CSE") (.clsName false))
      (.ret (.fmt [.hole, .lit "(", .hole, .lit ")"] [(.var "type_name"), (.recF "child" ⟨"PREC_NONE", 0⟩ false)]))) :=
  handlerBody_of_mem handlers_nodup_current (by repeat constructor)
theorem c06t_body_map_comparison : tableCurrent.handlerBody "map_comparison" = some
    (.ret (.parenIf (.fmt [.hole, .lit " ", .hole, .lit " ", .hole] [(.recF "left" ⟨"PREC_COMPARISON", 1⟩ false), (.attr "operator"), (.recF "right" ⟨"PREC_COMPARISON", 1⟩ false)]) ⟨"PREC_COMPARISON", 0⟩)) :=
  handlerBody_of_mem handlers_nodup_current (by repeat constructor)
theorem c06t_body_map_constant : tableCurrent.handlerBody "map_constant" = some
    (.assign "result" (.strSelf false)
      (.ite (.and (.not (.and (.startsWith "result" "(") (.endsWith "result" ")"))) (.and (.or (.litIn "-" "result") (.litIn "+" "result")) (.precCmp .gt ⟨"enclosing_prec", 0⟩ ⟨"PREC_SUM", 0⟩)))
        (.ret (.parens (.var "result")))
        (.ret (.var "result")))) :=
  handlerBody_of_mem handlers_nodup_current (by repeat constructor)
theorem c06t_body_map_derivative : tableCurrent.handlerBody "map_derivative" = some
    (.assign "derivs" (.join " " (.strEach [.lit "d/d", .hole] "variables"))
      (.ret (.fmt [.hole, .lit " ", .hole] [(.var "derivs"), (.recF "child" ⟨"PREC_PRODUCT", 0⟩ false)]))) :=
  handlerBody_of_mem handlers_nodup_current (by repeat constructor)
theorem c06t_body_map_floor_div : tableCurrent.handlerBody "map_floor_div" = some
    (.setForce ["Product", "Quotient", "FloorDiv", "Remainder"] ["Product", "Quotient", "FloorDiv", "Remainder"]
      (.ret (.parenIf (.fmt [.hole, .lit " // ", .hole] [(.recF "numerator" ⟨"PREC_PRODUCT", 0⟩ true), (.recF "denominator" ⟨"PREC_PRODUCT", 0⟩ true)]) ⟨"PREC_PRODUCT", 0⟩))) :=
  handlerBody_of_mem handlers_nodup_current (by repeat constructor)
theorem c06t_body_map_function_symbol : tableCurrent.handlerBody "map_function_symbol" = some
    (.ret (.clsName false)) :=
  handlerBody_of_mem handlers_nodup_current (by repeat constructor)
theorem c06t_body_map_if : tableCurrent.handlerBody "map_if" = some
    (.ret (.parenIf (.fmt [.hole, .lit " if ", .hole, .lit " else ", .hole] [(.recF "then" ⟨"PREC_LOGICAL_OR", 0⟩ false), (.recF "condition" ⟨"PREC_LOGICAL_OR", 0⟩ false), (.recF "else_" ⟨"PREC_LOGICAL_OR", 0⟩ false)]) ⟨"PREC_IF", 0⟩)) :=
  handlerBody_of_mem handlers_nodup_current (by repeat constructor)
theorem c06t_body_map_left_shift : tableCurrent.handlerBody "map_left_shift" = some
    (.ret (.parenIf (.fmt [.hole, .lit " << ", .hole] [(.recF "shiftee" ⟨"PREC_SHIFT", 1⟩ false), (.recF "shift" ⟨"PREC_SHIFT", 1⟩ false)]) ⟨"PREC_SHIFT", 0⟩)) :=
  handlerBody_of_mem handlers_nodup_current (by repeat constructor)
theorem c06t_body_map_list : tableCurrent.handlerBody "map_list" = some
    (.ret (.fmt [.lit "[", .hole, .lit "]"] [(.join ", " (.recEach .self ⟨"PREC_NONE", 0⟩ true))])) :=
  handlerBody_of_mem handlers_nodup_current (by repeat constructor)
theorem c06t_body_map_logical_and : tableCurrent.handlerBody "map_logical_and" = some
    (.ret (.parenIf (.join " and " (.recEach (.field "children") ⟨"PREC_LOGICAL_AND", 0⟩ true)) ⟨"PREC_LOGICAL_AND", 0⟩)) :=
  handlerBody_of_mem handlers_nodup_current (by repeat constructor)
theorem c06t_body_map_logical_not : tableCurrent.handlerBody "map_logical_not" = some
    (.ret (.parenIf (.cat (.lit "not ") (.recF "child" ⟨"PREC_UNARY", 0⟩ false)) ⟨"PREC_UNARY", 0⟩)) :=
  handlerBody_of_mem handlers_nodup_current (by repeat constructor)
theorem c06t_body_map_logical_or : tableCurrent.handlerBody "map_logical_or" = some
    (.ret (.parenIf (.join " or " (.recEach (.field "children") ⟨"PREC_LOGICAL_OR", 0⟩ true)) ⟨"PREC_LOGICAL_OR", 0⟩)) :=
  handlerBody_of_mem handlers_nodup_current (by repeat constructor)
theorem c06t_body_map_lookup : tableCurrent.handlerBody "map_lookup" = some
    (.ret (.parenIf (.fmt [.hole, .lit ".", .hole] [(.recF "aggregate" ⟨"PREC_CALL", 0⟩ false), (.attr "name")]) ⟨"PREC_CALL", 0⟩)) :=
  handlerBody_of_mem handlers_nodup_current (by repeat constructor)
theorem c06t_body_map_max : tableCurrent.handlerBody "map_max" = some
    (.assign "what" (.clsName true)
      (.ret (.fmt [.hole, .lit "(", .hole, .lit ")"] [(.var "what"), (.join ", " (.recEach (.field "children") ⟨"PREC_NONE", 0⟩ true))]))) :=
  handlerBody_of_mem handlers_nodup_current (by repeat constructor)
theorem c06t_body_map_min : tableCurrent.handlerBody "map_min" = some
    (.assign "what" (.clsName true)
      (.ret (.fmt [.hole, .lit "(", .hole, .lit ")"] [(.var "what"), (.join ", " (.recEach (.field "children") ⟨"PREC_NONE", 0⟩ true))]))) :=
  handlerBody_of_mem handlers_nodup_current (by repeat constructor)
theorem c06t_body_map_nan : tableCurrent.handlerBody "map_nan" = some
    (.ret (.lit "NaN")) :=
  handlerBody_of_mem handlers_nodup_current (by repeat constructor)
theorem c06t_body_map_power : tableCurrent.handlerBody "map_power" = some
    (.ret (.parenIf (.fmt [.hole, .lit "**", .hole] [(.recF "base" ⟨"PREC_POWER", 1⟩ false), (.recF "exponent" ⟨"PREC_POWER", 0⟩ false)]) ⟨"PREC_POWER", 0⟩)) :=
  handlerBody_of_mem handlers_nodup_current (by repeat constructor)
theorem c06t_body_map_product : tableCurrent.handlerBody "map_product" = some
    (.setForce ["Quotient", "FloorDiv", "Remainder"] ["Quotient", "FloorDiv", "Remainder"]
      (.ret (.parenIf (.join "*" (.recEach (.field "children") ⟨"PREC_PRODUCT", 0⟩ true)) ⟨"PREC_PRODUCT", 0⟩))) :=
  handlerBody_of_mem handlers_nodup_current (by repeat constructor)
theorem c06t_body_map_quotient : tableCurrent.handlerBody "map_quotient" = some
    (.setForce ["Product", "Quotient", "FloorDiv", "Remainder"] ["Product", "Quotient", "FloorDiv", "Remainder"]
      (.ret (.parenIf (.fmt [.hole, .lit " / ", .hole] [(.recF "numerator" ⟨"PREC_PRODUCT", 0⟩ true), (.recF "denominator" ⟨"PREC_PRODUCT", 0⟩ true)]) ⟨"PREC_PRODUCT", 0⟩))) :=
  handlerBody_of_mem handlers_nodup_current (by repeat constructor)
theorem c06t_body_map_remainder : tableCurrent.handlerBody "map_remainder" = some
    (.setForce ["Product", "Quotient", "FloorDiv", "Remainder"] ["Product", "Quotient", "FloorDiv", "Remainder"]
      (.ret (.parenIf (.fmt [.hole, .lit " % ", .hole] [(.recF "numerator" ⟨"PREC_PRODUCT", 0⟩ true), (.recF "denominator" ⟨"PREC_PRODUCT", 0⟩ true)]) ⟨"PREC_PRODUCT", 0⟩))) :=
  handlerBody_of_mem handlers_nodup_current (by repeat constructor)
theorem c06t_body_map_right_shift : tableCurrent.handlerBody "map_right_shift" = some
    (.ret (.parenIf (.fmt [.hole, .lit " >> ", .hole] [(.recF "shiftee" ⟨"PREC_SHIFT", 1⟩ false), (.recF "shift" ⟨"PREC_SHIFT", 1⟩ false)]) ⟨"PREC_SHIFT", 0⟩)) :=
  handlerBody_of_mem handlers_nodup_current (by repeat constructor)
theorem c06t_body_map_slice : tableCurrent.handlerBody "map_slice" = some
    (.assign "children" (.recEachOpt (.field "children") ⟨"PREC_NONE", 0⟩ "")
      (.ret (.parenIf (.join ":" (.var "children")) ⟨"PREC_NONE", 0⟩))) :=
  handlerBody_of_mem handlers_nodup_current (by repeat constructor)
theorem c06t_body_map_subscript : tableCurrent.handlerBody "map_subscript" = some
    (.assign "index_str" (.cond (.isTuple "index") (.join ", " (.recEach (.field "index") ⟨"PREC_NONE", 0⟩ true)) (.recF "index" ⟨"PREC_NONE", 0⟩ false))
      (.ret (.parenIf (.fmt [.hole, .lit "[", .hole, .lit "]"] [(.recF "aggregate" ⟨"PREC_CALL", 0⟩ false), (.var "index_str")]) ⟨"PREC_CALL", 0⟩))) :=
  handlerBody_of_mem handlers_nodup_current (by repeat constructor)
theorem c06t_body_map_substitution : tableCurrent.handlerBody "map_substitution" = some
    (.assign "substs" (.join ", " (.zipEach [.hole, .lit "=", .hole] "variables" "values" ⟨"PREC_NONE", 0⟩))
      (.ret (.fmt [.lit "[", .hole, .lit "]{", .hole, .lit "}"] [(.recF "child" ⟨"PREC_NONE", 0⟩ false), (.var "substs")]))) :=
  handlerBody_of_mem handlers_nodup_current (by repeat constructor)
theorem c06t_body_map_sum : tableCurrent.handlerBody "map_sum" = some
    (.ret (.parenIf (.join " + " (.recEach (.field "children") ⟨"PREC_SUM", 0⟩ true)) ⟨"PREC_SUM", 0⟩)) :=
  handlerBody_of_mem handlers_nodup_current (by repeat constructor)
theorem c06t_body_map_tuple : tableCurrent.handlerBody "map_tuple" = some
    (.assign "el_str" (.join ", " (.recEach .self ⟨"PREC_NONE", 0⟩ false))
      (.assign "el_str" (.cond (.lenEq .self 1) (.cat (.var "el_str") (.lit ",")) (.var "el_str"))
      (.ret (.fmt [.lit "(", .hole, .lit ")"] [(.var "el_str")])))) :=
  handlerBody_of_mem handlers_nodup_current (by repeat constructor)
theorem c06t_body_map_variable : tableCurrent.handlerBody "map_variable" = some
    (.ret (.attr "name")) :=
  handlerBody_of_mem handlers_nodup_current (by repeat constructor)
theorem c06t_body_map_wildcard : tableCurrent.handlerBody "map_wildcard" = some
    (.ret (.lit "*")) :=
  handlerBody_of_mem handlers_nodup_current (by repeat constructor)

theorem c06t_lit_0 : c06tLit "(" = some [sy ("(")] := by decide +kernel
theorem c06t_lit_1 : c06tLit ")" = some [sy (")")] := by decide +kernel
theorem c06t_lit_2 : c06tLit " & " = some [.sp, sy ("&"), .sp] := by decide +kernel
theorem c06t_lit_3 : c06tLit "~" = some [sy ("~")] := by decide +kernel
theorem c06t_lit_4 : c06tLit " | " = some [.sp, sy ("|"), .sp] := by decide +kernel
theorem c06t_lit_5 : c06tLit " ^ " = some [.sp, sy ("^"), .sp] := by decide +kernel
theorem c06t_lit_6 : c06tLit ", " = some [sy (","), .sp] := by decide +kernel
theorem c06t_lit_7 : c06tLit "=" = some [sy ("=")] := by decide +kernel
theorem c06t_lit_8 : c06tLit "CSE" = some [.tok (.ident "CSE")] := by decide +kernel
theorem c06t_lit_9 : c06tLit " " = some [.sp] := by decide +kernel
theorem c06t_lit_10 : c06tLit "-" = some [sy ("-")] := by decide +kernel
theorem c06t_lit_11 : c06tLit "+" = some [sy ("+")] := by decide +kernel
theorem c06t_lit_12 : c06tLit "d/d" = some [.tok (.ident "d"), sy ("/"), .tok (.ident "d")] := by decide +kernel
theorem c06t_lit_13 : c06tLit " // " = some [.sp, sy ("//"), .sp] := by decide +kernel
theorem c06t_lit_14 : c06tLit " if " = some [.sp, sy ("if"), .sp] := by decide +kernel
theorem c06t_lit_15 : c06tLit " else " = some [.sp, sy ("else"), .sp] := by decide +kernel
theorem c06t_lit_16 : c06tLit " << " = some [.sp, sy ("<<"), .sp] := by decide +kernel
theorem c06t_lit_17 : c06tLit "[" = some [sy ("[")] := by decide +kernel
theorem c06t_lit_18 : c06tLit "]" = some [sy ("]")] := by decide +kernel
theorem c06t_lit_19 : c06tLit " and " = some [.sp, sy ("and"), .sp] := by decide +kernel
theorem c06t_lit_20 : c06tLit "not " = some [sy ("not"), .sp] := by decide +kernel
theorem c06t_lit_21 : c06tLit " or " = some [.sp, sy ("or"), .sp] := by decide +kernel
theorem c06t_lit_22 : c06tLit "." = some [sy (".")] := by decide +kernel
theorem c06t_lit_23 : c06tLit "NaN" = some [.tok (.ident "NaN")] := by decide +kernel
theorem c06t_lit_24 : c06tLit "**" = some [sy ("**")] := by decide +kernel
theorem c06t_lit_25 : c06tLit "*" = some [sy ("*")] := by decide +kernel
theorem c06t_lit_26 : c06tLit " / " = some [.sp, sy ("/"), .sp] := by decide +kernel
theorem c06t_lit_27 : c06tLit " % " = some [.sp, sy ("%"), .sp] := by decide +kernel
theorem c06t_lit_28 : c06tLit " >> " = some [.sp, sy (">>"), .sp] := by decide +kernel
theorem c06t_lit_29 : c06tLit "" = some [] := by decide +kernel
theorem c06t_lit_30 : c06tLit ":" = some [sy (":")] := by decide +kernel
theorem c06t_lit_31 : c06tLit "]{" = some [sy ("]"), sy ("{")] := by decide +kernel
theorem c06t_lit_32 : c06tLit "}" = some [sy ("}")] := by decide +kernel
theorem c06t_lit_33 : c06tLit " + " = some [.sp, sy ("+"), .sp] := by decide +kernel
theorem c06t_lit_34 : c06tLit "," = some [sy (",")] := by decide +kernel
theorem c06t_lit_35 : c06tLit " > 0 else " = some [.sp, sy (">"), .sp, .tok (.ident "0"), .sp, sy ("else"), .sp] := by decide +kernel

theorem c06t_helpers : tableCurrent.helpers =
    { parenthesize := [.lit "(", .hole, .lit ")"], parenIfCmp := .gt,
      parenIfWrap := [.lit "(", .hole, .lit ")"], forceKw := "force_parens_around",
      forceDefault := [], forceWrap := [.lit "(", .hole, .lit ")"] } := by rfl

theorem c06t_h_parenthesize :
    tableCurrent.helpers.parenthesize = [.lit "(", .hole, .lit ")"] := by rfl
theorem c06t_h_parenIfCmp : tableCurrent.helpers.parenIfCmp = .gt := by rfl
theorem c06t_h_parenIfWrap :
    tableCurrent.helpers.parenIfWrap = [.lit "(", .hole, .lit ")"] := by rfl
theorem c06t_h_forceDefault : tableCurrent.helpers.forceDefault = [] := by rfl
theorem c06t_h_forceWrap :
    tableCurrent.helpers.forceWrap = [.lit "(", .hole, .lit ")"] := by rfl

theorem c06t_foreign_int :
    c06tForeignRule tableCurrent.constKinds "int" tableCurrent.foreign = some "map_constant" := by decide +kernel
theorem c06t_foreign_bool :
    c06tForeignRule tableCurrent.constKinds "bool" tableCurrent.foreign = some "map_constant" := by decide +kernel
theorem c06t_foreign_float :
    c06tForeignRule tableCurrent.constKinds "float" tableCurrent.foreign = some "map_constant" := by decide +kernel
theorem c06t_foreign_str :
    c06tForeignRule tableCurrent.constKinds "str" tableCurrent.foreign = none := by decide +kernel
theorem c06t_foreign_none :
    c06tForeignRule tableCurrent.constKinds "NoneType" tableCurrent.foreign = none := by decide +kernel

theorem c06t_foreign_tuple :
    c06tForeignRule tableCurrent.constKinds "tuple" tableCurrent.foreign = some "map_tuple" := by decide +kernel

theorem c06t_foreign_list :
    c06tForeignRule tableCurrent.constKinds "list" tableCurrent.foreign = some "map_list" := by decide +kernel

theorem c06t_foreign_else : tableCurrent.foreignElse = "ValueError" := by rfl

/-! ### child lists -/

/-- the children of a tuple-valued attribute as the hand-written model prints them -/
def kidsOf (S : PrintPrec) : List Expr → List C06TChild
  | [] => []
  | c :: cs => ⟨c.c06tCls, strE S c⟩ :: kidsOf S cs

theorem kidsOf_length (S : PrintPrec) : ∀ cs, (kidsOf S cs).length = cs.length
  | [] => rfl
  | _ :: cs => by simp [kidsOf, kidsOf_length S cs]

/-- plain recursion over a child list = `strL` -/
theorem runAll_plain (H : C06THelpers) (S : PrintPrec) (p : Nat) :
    ∀ cs, c06tRunAll H none (kidsOf S cs) p = strL S cs p
  | [] => rfl
  | c :: cs => by simp [kidsOf, c06tRunAll, strL, runAll_plain H S p cs]

/-! ### the class tuples under `force_parens_around` -/

/-- `(Quotient, FloorDiv, Remainder)` (what `map_product` forces) is the model's `isDivision` -/
theorem div_classes (e : Expr) :
    ["Quotient", "FloorDiv", "Remainder"].contains e.c06tCls = isDivision e := by
  cases e with
  | const c => cases c <;> simp [Expr.c06tCls, Const.c06tKind, isDivision]
  | nary o _ => cases o <;> simp [Expr.c06tCls, NaryOp.name, isDivision]
  | bin o _ _ => cases o <;> simp [Expr.c06tCls, BinOp.name, isDivision]
  | un o _ => cases o <;> simp [Expr.c06tCls, UnOp.name, isDivision]
  | _ => simp [Expr.c06tCls, isDivision]

/-- `multiplicative_primitives` (what the three divisions force) is the model's
`isMultiplicative` -/
theorem mult_classes (e : Expr) :
    ["Product", "Quotient", "FloorDiv", "Remainder"].contains e.c06tCls = isMultiplicative e := by
  cases e with
  | const c => cases c <;> simp [Expr.c06tCls, Const.c06tKind, isMultiplicative]
  | nary o _ => cases o <;> simp [Expr.c06tCls, NaryOp.name, isMultiplicative]
  | bin o _ _ => cases o <;> simp [Expr.c06tCls, BinOp.name, isMultiplicative]
  | un o _ => cases o <;> simp [Expr.c06tCls, UnOp.name, isMultiplicative]
  | _ => simp [Expr.c06tCls, isMultiplicative]

/-- `rec_with_force_parens_around` of the current source on a child of the model -/
theorem recForce_eq (S : PrintPrec) (fp : List String) (c : Expr) (p : Nat) :
    c06tRecForce tableCurrent.helpers fp ⟨c.c06tCls, strE S c⟩ p = (do
      let r ← strE S c p
      pure (if fp.contains c.c06tCls then parens r else r)) := by
  simp [c06tRecForce, c06t_h_forceWrap, c06tFill, c06t_lit_0, c06t_lit_1, parens]

theorem recForce_div (S : PrintPrec) (c : Expr) (p : Nat) :
    c06tRecForce tableCurrent.helpers ["Quotient", "FloorDiv", "Remainder"] ⟨c.c06tCls, strE S c⟩ p
      = (do let r ← strE S c p; pure (forceWrap false c r)) := by
  rw [recForce_eq, div_classes]; rfl

theorem recForce_mult (S : PrintPrec) (c : Expr) (p : Nat) :
    c06tRecForce tableCurrent.helpers ["Product", "Quotient", "FloorDiv", "Remainder"]
        ⟨c.c06tCls, strE S c⟩ p
      = (do let r ← strE S c p; pure (forceWrap true c r)) := by
  rw [recForce_eq, mult_classes]; rfl

theorem recForce_nil (S : PrintPrec) (c : Expr) (p : Nat) :
    c06tRecForce tableCurrent.helpers [] ⟨c.c06tCls, strE S c⟩ p = strE S c p := by
  rw [recForce_eq]; simp

/-- `join_rec` without forced classes = `strL` -/
theorem runAll_force_nil (S : PrintPrec) (p : Nat) :
    ∀ cs, c06tRunAll tableCurrent.helpers (some []) (kidsOf S cs) p = strL S cs p
  | [] => rfl
  | c :: cs => by
      simp only [kidsOf, c06tRunAll, strL, runAll_force_nil S p cs, recForce_nil]

/-- `join_rec` under `map_product` = `strForceL … false` -/
theorem runAll_force_div (S : PrintPrec) (p : Nat) :
    ∀ cs, c06tRunAll tableCurrent.helpers (some ["Quotient", "FloorDiv", "Remainder"])
        (kidsOf S cs) p = strForceL S false cs p
  | [] => rfl
  | c :: cs => by
      simp only [kidsOf, c06tRunAll, strForceL, runAll_force_div S p cs, recForce_div]
      simp

theorem cls_none_iff (c : Expr) : c.c06tCls = "NoneType" ↔ c = .const .none := by
  cases c with
  | const k => cases k <;> simp [Expr.c06tCls, Const.c06tKind]
  | nary o _ => cases o <;> simp [Expr.c06tCls, NaryOp.name]
  | bin o _ _ => cases o <;> simp [Expr.c06tCls, BinOp.name]
  | un o _ => cases o <;> simp [Expr.c06tCls, UnOp.name]
  | _ => simp [Expr.c06tCls]

/-- the loop of `map_slice` = `strSliceL` -/
theorem runAllOpt_eq (S : PrintPrec) :
    ∀ cs, c06tRunAllOpt [] (kidsOf S cs) S.none = strSliceL S cs
  | [] => rfl
  | c :: cs => by
      by_cases h : c = .const .none
      · subst h
        simp [kidsOf, c06tRunAllOpt, strSliceL, runAllOpt_eq S cs, Expr.c06tCls, Const.c06tKind]
      · have h' : ¬ c.c06tCls = "NoneType" := fun hc => h ((cls_none_iff c).mp hc)
        rw [strSliceL]
        · simp [kidsOf, c06tRunAllOpt, h', runAllOpt_eq S cs]
        · exact h


/-- the keyword arguments: `"{}={}".format(name, value)` for every pair -/
theorem fillPairs_kw : ∀ (ns : List String) (xs : List Pieces),
    c06tFillPairs [.hole, .lit "=", .hole] ((c06tIdents ns).zip xs)
      = pure ((ns.zip xs).map fun p => (.tok (.ident p.1) : Piece) :: sy "=" :: p.2)
  | [], _ => rfl
  | _ :: _, [] => rfl
  | n :: ns, x :: xs => by
      have ih := fillPairs_kw ns xs
      simp only [c06tIdents] at ih
      simp [c06tIdents, c06tFillPairs, c06tFill, c06t_lit_7, ih]

theorem cls_ne_tuple (i : Expr) (hi : ∀ cs, i ≠ .tuple cs) : i.c06tCls ≠ "tuple" := by
  cases i with
  | const k => cases k <;> simp [Expr.c06tCls, Const.c06tKind]
  | nary o _ => cases o <;> simp [Expr.c06tCls, NaryOp.name]
  | bin o _ _ => cases o <;> simp [Expr.c06tCls, BinOp.name]
  | un o _ => cases o <;> simp [Expr.c06tCls, UnOp.name]
  | tuple cs => exact absurd rfl (hi cs)
  | _ => simp [Expr.c06tCls]

end PV.C06T
