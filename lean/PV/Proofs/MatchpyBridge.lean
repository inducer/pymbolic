import PV.Proofs.MatchpySort
import PV.Proofs.WalkSpec
/-
  C16, matchpy bridge: facts about `toM`, `fromM`, `mk` used by the round-trip theorems and by the
  replacement conversion (PV/Proofs/MatchpyRepl.lean).
-/
namespace PV.Matchpy
open PV

/-! ### `mk` on each class -/

/-- the seven classes declared commutative and associative -/
def MOp.isAC (o : MOp) : Bool := o.nary?.isSome

theorem mk_ac {o : MOp} (h : o.isAC = true) (args : List MTerm) :
    mk o args = .op o (pySort MTerm.lt (flattenOps o args)) none := by
  cases o <;> simp [MOp.isAC, MOp.nary?] at h <;> simp [mk, MOp.row, acRow]

theorem mk_plain {o : MOp} (h : o.isAC = false) (args : List MTerm) :
    mk o args = .op o args none := by
  cases o <;> simp [MOp.isAC, MOp.nary?] at h <;> simp [mk, MOp.row, binRow, unRow]

theorem mopOfNary_nary? {o : NaryOp} {mo : MOp} (h : mopOfNary o = some mo) : mo.nary? = some o := by
  cases o <;> simp [mopOfNary] at h <;> subst h <;> rfl

theorem nary?_mopOfNary {o : NaryOp} {mo : MOp} (h : mo.nary? = some o) : mopOfNary o = some mo := by
  cases mo <;> simp [MOp.nary?] at h <;> subst h <;> rfl

theorem mopOfNary_isAC {o : NaryOp} {mo : MOp} (h : mopOfNary o = some mo) : mo.isAC = true := by
  simp [MOp.isAC, mopOfNary_nary? h]

/-! ### `fromM` -/

theorem fromM_ac {mo : MOp} {o : NaryOp} (h : mo.nary? = some o) (as : List MTerm)
    (vn : Option String) : fromM (.op mo as vn) = (fromML as).map (.nary o) := by
  cases mo <;> simp [MOp.nary?] at h <;> subst h <;> simp only [fromM] <;>
    cases fromML as <;> rfl

theorem fromML_cons {t : MTerm} {ts : List MTerm} {es : List Expr}
    (h : fromML (t :: ts) = .ok es) : ∃ e es', es = e :: es' ∧ fromM t = .ok e ∧ fromML ts = .ok es' := by
  simp only [fromML] at h
  cases h1 : fromM t with
  | error err => simp [h1, bind, Except.bind] at h
  | ok e =>
    cases h2 : fromML ts with
    | error err => simp [h1, h2, bind, Except.bind] at h
    | ok es' =>
      simp [h1, h2, bind, Except.bind, pure, Except.pure] at h
      exact ⟨e, es', h.symm, rfl, rfl⟩

theorem fromML_cons_ok {t : MTerm} {ts : List MTerm} {e : Expr} {es : List Expr}
    (h1 : fromM t = .ok e) (h2 : fromML ts = .ok es) : fromML (t :: ts) = .ok (e :: es) := by
  simp [fromML, h1, h2, bind, Except.bind, pure, Except.pure]

theorem fromML_append : ∀ {as bs : List MTerm} {xs ys : List Expr},
    fromML as = .ok xs → fromML bs = .ok ys → fromML (as ++ bs) = .ok (xs ++ ys)
  | [], _, _, _, h1, h2 => by
    simp [fromML, pure, Except.pure] at h1; subst h1; simpa using h2
  | a :: as, bs, xs, ys, h1, h2 => by
    obtain ⟨e, es', rfl, ha, has⟩ := fromML_cons h1
    exact fromML_cons_ok ha (fromML_append has h2)

/-! ### permutations and `fromML` -/

theorem fromML_perm {ts ts' : List MTerm} (h : ts.Perm ts') :
    ∀ {es : List Expr}, fromML ts = .ok es → ∃ es', fromML ts' = .ok es' ∧ es.Perm es' := by
  induction h with
  | nil => intro es h; exact ⟨es, h, .refl _⟩
  | cons x _ ih =>
    intro es h
    obtain ⟨e, es0, rfl, hx, hl⟩ := fromML_cons h
    obtain ⟨es1, h1, hp⟩ := ih hl
    exact ⟨e :: es1, fromML_cons_ok hx h1, hp.cons e⟩
  | swap x y l =>
    intro es h
    obtain ⟨e1, es0, rfl, hy, hl⟩ := fromML_cons h
    obtain ⟨e2, es1, rfl, hx, hl'⟩ := fromML_cons hl
    exact ⟨e2 :: e1 :: es1, fromML_cons_ok hx (fromML_cons_ok hy hl'), .swap _ _ _⟩
  | trans _ _ ih1 ih2 =>
    intro es h
    obtain ⟨es1, h1, hp1⟩ := ih1 h
    obtain ⟨es2, h2, hp2⟩ := ih2 h1
    exact ⟨es2, h2, hp1.trans hp2⟩

/-- a subscript whose index is no tuple: the index is converted as one tree and wrapped -/
theorem toM_subscript_of_not_tuple {a i : Expr} (hi : ∀ cs, i ≠ .tuple cs) :
    toM (.subscript a i) = (do
      let a' ← toM a
      let i' ← toM i
      pure (mk .subscript [a', mk .tupleOp [i']])) := by
  cases i <;> first | rfl | (exact absurd rfl (hi _))

end PV.Matchpy
