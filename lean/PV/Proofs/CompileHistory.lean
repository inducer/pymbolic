import PV.Model.CompileHistory
/-
  Helper lemmas about the history model of compiled objects (PV/Model/CompileHistory.lean): the
  object table only grows at its end, look-ups are stable under that.  Used by
  PV/Properties/C13History.lean.
-/
namespace PV.C13
open PV

/-- a binding survives additions at the end of the table -/
theorem lookupObj_append_of_some {objs extra : List (Nat × Compiled)} {fid : Nat} {c : Compiled}
    (h : lookupObj objs fid = some c) : lookupObj (objs ++ extra) fid = some c := by
  unfold lookupObj at *
  rw [List.find?_append]
  cases hf : objs.find? (fun p => p.1 == fid) with
  | none => simp [hf] at h
  | some q => simpa [hf] using h

/-- an unbound id is bound by an addition at the end -/
theorem lookupObj_append_new {objs : List (Nat × Compiled)} {fid : Nat} (c : Compiled)
    (h : lookupObj objs fid = none) : lookupObj (objs ++ [(fid, c)]) fid = some c := by
  unfold lookupObj at *
  rw [List.find?_append]
  cases hf : objs.find? (fun p => p.1 == fid) with
  | none => simp
  | some q => simp [hf] at h

/-- a step only ever ADDS objects -/
theorem step_objs_extend (S : PrintPrec) (exprs : List Expr) (st : HState) (s : HStep) :
    ∃ extra, (st.step S exprs s).objs = st.objs ++ extra := by
  cases s with
  | mutate l op =>
    simp only [HState.step]
    split <;> exact ⟨[], by simp⟩
  | compile fid e l =>
    simp only [HState.step]
    split
    · split
      · exact ⟨[], by simp⟩
      · split
        · exact ⟨_, rfl⟩
        · exact ⟨[], by simp⟩
    · exact ⟨[], by simp⟩
  | pickle fid src =>
    simp only [HState.step]
    split
    · split
      · exact ⟨_, rfl⟩
      · exact ⟨[], by simp⟩
    · exact ⟨[], by simp⟩
  | call fid =>
    simp only [HState.step]
    split <;> exact ⟨[], by simp⟩

theorem run_cons (S : PrintPrec) (exprs : List Expr) (st : HState) (s : HStep) (rest : List HStep) :
    st.run S exprs (s :: rest) = (st.step S exprs s).run S exprs rest := rfl

theorem run_singleton (S : PrintPrec) (exprs : List Expr) (st : HState) (s : HStep) :
    st.run S exprs [s] = st.step S exprs s := rfl

/-- … and so does a program -/
theorem run_objs_extend (S : PrintPrec) (exprs : List Expr) (steps : List HStep) :
    ∀ st : HState, ∃ extra, (st.run S exprs steps).objs = st.objs ++ extra := by
  induction steps with
  | nil => intro st; exact ⟨[], by simp [HState.run]⟩
  | cons s rest ih =>
    intro st
    obtain ⟨x1, h1⟩ := step_objs_extend S exprs st s
    obtain ⟨x2, h2⟩ := ih (st.step S exprs s)
    refine ⟨x1 ++ x2, ?_⟩
    rw [run_cons, h2, h1, List.append_assoc]

/-- running a concatenation = running the parts one after the other -/
theorem run_append (S : PrintPrec) (exprs : List Expr) (st : HState) (xs ys : List HStep) :
    st.run S exprs (xs ++ ys) = (st.run S exprs xs).run S exprs ys := by
  simp [HState.run, List.foldl_append]

/-- a bound object is a member of the table -/
theorem lookupObj_mem {objs : List (Nat × Compiled)} {fid : Nat} {c : Compiled}
    (h : lookupObj objs fid = some c) : ∃ q ∈ objs, q.2 = c := by
  unfold lookupObj at h
  cases hf : objs.find? (fun p => p.1 == fid) with
  | none => simp [hf] at h
  | some q =>
    simp only [hf, Option.map_some, Option.some.injEq] at h
    exact ⟨q, List.mem_of_find?_eq_some hf, h⟩

end PV.C13
