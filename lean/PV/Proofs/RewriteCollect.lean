import PV.Proofs.RewriteDist
import Mathlib.Data.List.Perm.Subperm
-- one `simp` call with the common lemma set closes several cases; not every lemma fires in each
set_option linter.unusedSimpArgs false
/-
  C11, part 8: `TermCollector`.  `split_term` turns a multiplicative term into a coefficient and
  a dictionary base ↦ exponent (merging `b**m * b**n` to `b**(m+n)`); `map_sum` adds up the
  coefficients of terms whose dictionaries are equal as sets.  All of this preserves the value in
  any field; the set comparison of keys is sound because a key has pairwise distinct bases.
-/
namespace PV

universe u
variable {K : Type u} [Field K] [DecidableEq K]

section
variable (ρ : String → K)

/-! ### values of (base, exponent) pairs, keys and dictionary entries -/

def pairVal (p : Expr × Expr) : Option K := powK (evalK ρ p.1) (expInt? p.2)

def keyVal : List (Expr × Expr) → Option K
  | [] => some 1
  | p :: ps => match pairVal ρ p, keyVal ps with
    | some a, some b => some (a * b)
    | _, _ => none

def entryVal (kc : List (Expr × Expr) × Expr) : Option K :=
  match evalK ρ kc.2, keyVal ρ kc.1 with
  | some a, some b => some (a * b)
  | _, _ => none

def t2cVal : List (List (Expr × Expr) × Expr) → Option K
  | [] => some 0
  | kc :: r => match entryVal ρ kc, t2cVal r with
    | some a, some b => some (a + b)
    | _, _ => none

theorem keyVal_cons {p : Expr × Expr} {ps : List (Expr × Expr)} {v : K}
    (h : keyVal ρ (p :: ps) = some v) :
    ∃ a b, pairVal ρ p = some a ∧ keyVal ρ ps = some b ∧ v = a * b := by
  simp only [keyVal] at h
  cases ha : pairVal ρ p with
  | none => rw [ha] at h; simp at h
  | some a =>
    cases hb : keyVal ρ ps with
    | none => rw [ha, hb] at h; simp at h
    | some b => rw [ha, hb] at h; injection h with h; exact ⟨a, b, rfl, rfl, h.symm⟩

theorem keyVal_cons_mk {p : Expr × Expr} {ps : List (Expr × Expr)} {a b : K}
    (ha : pairVal ρ p = some a) (hb : keyVal ρ ps = some b) :
    keyVal ρ (p :: ps) = some (a * b) := by
  simp only [keyVal, ha, hb]

theorem t2cVal_cons {kc : List (Expr × Expr) × Expr} {r : List (List (Expr × Expr) × Expr)} {v : K}
    (h : t2cVal ρ (kc :: r) = some v) :
    ∃ a b, entryVal ρ kc = some a ∧ t2cVal ρ r = some b ∧ v = a + b := by
  simp only [t2cVal] at h
  cases ha : entryVal ρ kc with
  | none => rw [ha] at h; simp at h
  | some a =>
    cases hb : t2cVal ρ r with
    | none => rw [ha, hb] at h; simp at h
    | some b => rw [ha, hb] at h; injection h with h; exact ⟨a, b, rfl, rfl, h.symm⟩

theorem t2cVal_cons_mk {kc : List (Expr × Expr) × Expr} {r : List (List (Expr × Expr) × Expr)}
    {a b : K} (ha : entryVal ρ kc = some a) (hb : t2cVal ρ r = some b) :
    t2cVal ρ (kc :: r) = some (a + b) := by
  simp only [t2cVal, ha, hb]

theorem entryVal_some {kc : List (Expr × Expr) × Expr} {v : K} (h : entryVal ρ kc = some v) :
    ∃ a b, evalK ρ kc.2 = some a ∧ keyVal ρ kc.1 = some b ∧ v = a * b := by
  simp only [entryVal] at h
  cases ha : evalK ρ kc.2 with
  | none => rw [ha] at h; simp at h
  | some a =>
    cases hb : keyVal ρ kc.1 with
    | none => rw [ha, hb] at h; simp at h
    | some b => rw [ha, hb] at h; injection h with h; exact ⟨a, b, rfl, rfl, h.symm⟩

theorem entryVal_mk {k : List (Expr × Expr)} {c : Expr} {a b : K} (ha : evalK ρ c = some a)
    (hb : keyVal ρ k = some b) : entryVal ρ (k, c) = some (a * b) := by
  simp only [entryVal, ha, hb]

theorem pairVal_some {p : Expr × Expr} {v : K} (h : pairVal ρ p = some v) :
    ∃ x n, evalK ρ p.1 = some x ∧ p.2 = .const (.int n) ∧ ¬ (n < 0 ∧ x = 0) ∧ v = x ^ n := by
  obtain ⟨x, n, hx, hn, hdef, rfl⟩ := powK_some h
  exact ⟨x, n, hx, expInt?_some hn, hdef, rfl⟩

theorem pairVal_mk {b : Expr} {n : Int} {x : K} (hx : evalK ρ b = some x)
    (hdef : ¬ (n < 0 ∧ x = 0)) : pairVal ρ (b, .const (.int n)) = some (x ^ n) := by
  simp only [pairVal, hx, expInt?, powK, hdef, if_false]

/-- `x^(m+n) = x^m * x^n` wherever both factors are defined -/
theorem zpow_add_def (x : K) (m n : Int) (hm : ¬ (m < 0 ∧ x = 0)) (hn : ¬ (n < 0 ∧ x = 0)) :
    x ^ (m + n) = x ^ m * x ^ n ∧ ¬ (m + n < 0 ∧ x = 0) := by
  by_cases hx : x = 0
  · have hm' : 0 ≤ m := by by_contra hc; exact hm ⟨by omega, hx⟩
    have hn' : 0 ≤ n := by by_contra hc; exact hn ⟨by omega, hx⟩
    obtain ⟨a, rfl⟩ := Int.eq_ofNat_of_zero_le hm'
    obtain ⟨b, rfl⟩ := Int.eq_ofNat_of_zero_le hn'
    refine ⟨?_, fun h => by omega⟩
    rw [← Nat.cast_add, zpow_natCast, zpow_natCast, zpow_natCast, pow_add]
  · exact ⟨zpow_add₀ hx m n, fun h => hx h.2⟩

/-! ### Python `==` is reflexive on the fragment, hence identity there -/

theorem pyEq_refl_K : ∀ (e : Expr) (k : K), evalK ρ e = some k → e.pyEq e = true := by
  intro e
  induction e using Expr.induct with
  | h e ih =>
    intro k hk
    cases e with
    | const c => obtain ⟨n, rfl, _⟩ := evalK_const ρ hk; simp [Expr.pyEq, Const.pyEq, Const.numVal?]
    | var x => simp [Expr.pyEq]
    | nary o cs =>
      simp only [Expr.pyEq, beq_self_eq_true, Bool.true_and]
      apply pyEqL_refl_of
      intro c hc
      cases o <;> simp only [evalK] at hk <;> try contradiction
      all_goals
        obtain ⟨a, ha⟩ := evalKL_mem ρ hk c hc
        exact ih c (by simp [Expr.children, hc]) a ha
    | bin o a b =>
      cases o <;> simp only [evalK] at hk <;> try contradiction
      · obtain ⟨x, y, hx, hy, _, _⟩ := divK_some hk
        simp only [Expr.pyEq, beq_self_eq_true, Bool.true_and, Bool.and_eq_true]
        exact ⟨ih a (by simp [Expr.children]) x hx, ih b (by simp [Expr.children]) y hy⟩
      · obtain ⟨x, n, hx, hn, _, _⟩ := powK_some hk
        have := expInt?_some hn; subst this
        simp only [Expr.pyEq, beq_self_eq_true, Bool.true_and, Bool.and_eq_true]
        exact ⟨ih a (by simp [Expr.children]) x hx, by simp [Const.pyEq, Const.numVal?]⟩
    | cse c p s =>
      simp only [evalK] at hk
      simp only [Expr.pyEq, beq_self_eq_true, Bool.and_true]
      exact ih c (by simp [Expr.children]) k hk
    | _ => simp [evalK] at hk

theorem pyEq_iff_eq_K {a b : Expr} {x y : K} (ha : evalK ρ a = some x) (hb : evalK ρ b = some y) :
    a.pyEq b = true ↔ a = b := by
  constructor
  · exact pyEq_eq_of_simple a b (evalK_simple ρ a x ha) (evalK_simple ρ b y hb)
  · rintro rfl; exact pyEq_refl_K ρ a x ha

/-! ### `split_term`: the dictionary base ↦ exponent -/

/-- pairwise distinct bases -/
def DistinctBases (acc : List (Expr × Expr)) : Prop := (acc.map Prod.fst).Pairwise (· ≠ ·)

theorem b2eInsert_value {b e : Expr} {x : K} (hb : pairVal ρ (b, e) = some x) :
    ∀ {acc acc' : List (Expr × Expr)} {w : K}, b2eInsert b e acc = .ok acc' →
      keyVal ρ acc = some w →
      keyVal ρ acc' = some (w * x) ∧
        (acc'.map Prod.fst = acc.map Prod.fst ∨
          (acc'.map Prod.fst = acc.map Prod.fst ++ [b] ∧ ∀ b' ∈ acc.map Prod.fst, b' ≠ b))
  | [], acc', w, h, hw => by
      simp only [b2eInsert] at h
      split at h
      · simp [throw, throwThe, MonadExceptOf.throw] at h
      · simp only [pure, Except.pure] at h
        injection h with h; subst h
        simp only [keyVal, Option.some.injEq] at hw; subst hw
        refine ⟨?_, .inr ⟨rfl, by simp⟩⟩
        rw [keyVal_cons_mk ρ hb rfl]; simp
  | (b', e') :: rest, acc', w, h, hw => by
      obtain ⟨a, r, ha, hr, rfl⟩ := keyVal_cons ρ hw
      obtain ⟨xb, n, hxb, hen, hdef, rfl⟩ := pairVal_some ρ hb
      obtain ⟨xb', n', hxb', hen', hdef', rfl⟩ := pairVal_some ρ ha
      simp only at hxb hen hxb' hen'
      subst hen; subst hen'
      simp only [b2eInsert] at h
      split at h
      · simp [throw, throwThe, MonadExceptOf.throw] at h
      · split at h
        · rename_i heq
          have heq' : b' = b := (pyEq_iff_eq_K ρ hxb' hxb).1 heq
          subst heq'
          rw [hxb] at hxb'; injection hxb' with hxb'; subst hxb'
          obtain ⟨s, hs, h⟩ := bind_ok h
          simp only [pure, Except.pure] at h
          injection h with h; subst h
          simp only [pyAdd, constArith, Const.toValue?, Value.add_int, Value.toExpr?, pure,
            Except.pure] at hs
          injection hs with hs; subst hs
          obtain ⟨hadd, hdef''⟩ := zpow_add_def xb n' n hdef' hdef
          refine ⟨?_, .inl (by simp)⟩
          rw [keyVal_cons_mk ρ (pairVal_mk ρ hxb hdef'') hr, hadd]
          simp only [Option.some.injEq]; ring
        · rename_i hne
          obtain ⟨rest', hrest, h⟩ := bind_ok h
          simp only [pure, Except.pure] at h
          injection h with h; subst h
          obtain ⟨hv, hbases⟩ := b2eInsert_value hb hrest hr
          have hb'ne : b' ≠ b := fun hh => hne ((pyEq_iff_eq_K ρ hxb' hxb).2 hh)
          refine ⟨?_, ?_⟩
          · rw [keyVal_cons_mk ρ ha hv]; simp only [Option.some.injEq]; ring
          · rcases hbases with hs | ⟨hs, hall⟩
            · exact .inl (by simp [hs])
            · refine .inr ⟨by simp [hs], ?_⟩
              intro c hc
              simp only [List.map_cons, List.mem_cons] at hc
              rcases hc with rfl | hc
              · exact hb'ne
              · exact hall c hc

theorem termPair_val {f : Expr} {x : K} (hf : evalK ρ f = some x) :
    pairVal ρ (termBase f, termExp f) = some x := by
  unfold termBase termExp
  split
  · rename_i b e
    simpa only [pairVal, evalK] using hf
  · simp only [pairVal, hf, one, expInt?, powK]
    simp

theorem b2eBuild_value : ∀ {fs : List Expr} {acc acc' : List (Expr × Expr)} {v w : K},
    b2eBuild fs acc = .ok acc' → evalKL ρ true fs = some v → keyVal ρ acc = some w →
    DistinctBases acc → keyVal ρ acc' = some (w * v) ∧ DistinctBases acc'
  | [], acc, acc', v, w, h, hv, hw, hd => by
      simp only [b2eBuild, pure, Except.pure] at h
      injection h with h; subst h
      simp only [evalKL, unitK_true, Option.some.injEq] at hv; subst hv
      exact ⟨by simpa using hw, hd⟩
  | f :: fs, acc, acc', v, w, h, hv, hw, hd => by
      obtain ⟨x, y, hx, hy, rfl⟩ := evalKL_cons ρ hv
      simp only [b2eBuild] at h
      obtain ⟨acc1, h1, h⟩ := bind_ok h
      obtain ⟨hv1, hb1⟩ := b2eInsert_value ρ (termPair_val ρ hx) h1 hw
      have hd1 : DistinctBases acc1 := by
        unfold DistinctBases at hd ⊢
        rcases hb1 with hs | ⟨hs, hall⟩
        · rw [hs]; exact hd
        · rw [hs, List.pairwise_append]
          exact ⟨hd, List.pairwise_singleton _ _, fun a ha c hc => by
            simp only [List.mem_singleton] at hc; subst hc; exact hall a ha⟩
      obtain ⟨hv2, hd2⟩ := b2eBuild_value h hy hv1 hd1
      refine ⟨?_, hd2⟩
      rw [hv2]; simp only [opK_true, Option.some.injEq]; ring

theorem splitFactors_value {t : Expr} {fs : List Expr} {v : K} (h : splitFactors t = .ok fs)
    (hv : evalK ρ t = some v) : evalKL ρ true fs = some v := by
  unfold splitFactors at h
  split at h
  · simp only [pure, Except.pure] at h; injection h with h; subst h
    rwa [evalK_prod] at hv
  · simp only [pure, Except.pure] at h; injection h with h; subst h
    exact evalKL_singleton ρ hv
  · split at h
    · simp only [pure, Except.pure] at h; injection h with h; subst h
      exact evalKL_singleton ρ hv
    · obtain ⟨d, _, h⟩ := bind_ok h
      split at h
      · simp only [pure, Except.pure] at h; injection h with h; subst h
        exact evalKL_singleton ρ hv
      · simp [throw, throwThe, MonadExceptOf.throw] at h

theorem b2eSplit_value (params : List Expr) :
    ∀ {b2e cleaned : List (Expr × Expr)} {coeffs : List Expr} {w : K},
      b2eSplit params b2e = .ok (coeffs, cleaned) → keyVal ρ b2e = some w →
      ∃ a c, evalKL ρ true coeffs = some a ∧ keyVal ρ cleaned = some c ∧ w = a * c ∧
        cleaned.Sublist b2e
  | [], cleaned, coeffs, w, h, hw => by
      simp only [b2eSplit, pure, Except.pure] at h
      injection h with h; injection h with h1 h2; subst h1; subst h2
      simp only [keyVal, Option.some.injEq] at hw; subst hw
      exact ⟨1, 1, rfl, rfl, by simp, List.Sublist.refl _⟩
  | (b, e) :: rest, cleaned, coeffs, w, h, hw => by
      obtain ⟨x, r, hx, hr, rfl⟩ := keyVal_cons ρ hw
      obtain ⟨xb, n, hxb, hen, hdef, rfl⟩ := pairVal_some ρ hx
      simp only at hxb hen; subst hen
      simp only [b2eSplit] at h
      obtain ⟨term, hterm, h⟩ := bind_ok h
      obtain ⟨d, _, h⟩ := bind_ok h
      obtain ⟨⟨cs, cl⟩, hrec, h⟩ := bind_ok h
      obtain ⟨a, c, ha, hc, rfl, hsub⟩ := b2eSplit_value params hrec hr
      have hterm' := pyPow_value ρ hterm hxb hdef
      split at h
      · simp only [pure, Except.pure] at h
        injection h with h; injection h with h1 h2; subst h1; subst h2
        refine ⟨xb ^ n * a, c, evalKL_cons_mk ρ hterm' ha, hc, by ring, hsub.cons _⟩
      · simp only [pure, Except.pure] at h
        injection h with h; injection h with h1 h2; subst h1; subst h2
        refine ⟨a, xb ^ n * c, ha, keyVal_cons_mk ρ hx hc, by ring, hsub.cons_cons _⟩

theorem splitTerm_value {rec : Expr → RwR} (hrec : Preserves ρ rec) (params : List Expr)
    {t coeff : Expr} {cleaned : List (Expr × Expr)} {v : K}
    (h : splitTerm rec params t = .ok (cleaned, coeff)) (hv : evalK ρ t = some v) :
    entryVal ρ (cleaned, coeff) = some v ∧ DistinctBases cleaned := by
  unfold splitTerm at h
  obtain ⟨fs, hfs, h⟩ := bind_ok h
  obtain ⟨b2e, hb2e, h⟩ := bind_ok h
  obtain ⟨⟨coeffs, cl⟩, hsp, h⟩ := bind_ok h
  obtain ⟨hk, hd⟩ := b2eBuild_value ρ hb2e (splitFactors_value ρ hfs hv) (w := 1) rfl
    (by simp [DistinctBases])
  rw [one_mul] at hk
  obtain ⟨a, c, ha, hc, rfl, hsub⟩ := b2eSplit_value ρ params hsp hk
  simp only at h
  split at h
  · simp [throw, throwThe, MonadExceptOf.throw] at h
  · obtain ⟨cf, hcf, h⟩ := bind_ok h
    cases hco : rec cf with
    | error err => rw [hco] at h; simp [Functor.map, Except.map, bind, Except.bind] at h
    | ok co =>
      rw [hco] at h
      simp only [Functor.map, Except.map, bind, Except.bind, pure, Except.pure] at h
      injection h with h; injection h with h1 h2; subst h1; subst h2
      refine ⟨entryVal_mk ρ (hrec _ _ _ hco (flatProd_value ρ hcf ha)) hc, ?_⟩
      exact List.Pairwise.sublist (hsub.map Prod.fst) hd

/-! ### frozenset equality of keys -/

theorem keyVal_perm {k₁ k₂ : List (Expr × Expr)} (h : k₁.Perm k₂) :
    keyVal ρ k₁ = keyVal ρ k₂ := by
  induction h with
  | nil => rfl
  | cons p _ ih => simp only [keyVal, ih]
  | swap p q l =>
    simp only [keyVal]
    cases pairVal ρ p <;> cases pairVal ρ q <;> cases keyVal ρ l <;> simp
    ring
  | trans _ _ ih₁ ih₂ => exact ih₁.trans ih₂

theorem keyVal_mem {k : List (Expr × Expr)} {w : K} (h : keyVal ρ k = some w) :
    ∀ p ∈ k, ∃ a, pairVal ρ p = some a := by
  induction k generalizing w with
  | nil => intro p hp; simp at hp
  | cons q qs ih =>
    intro p hp
    obtain ⟨a, b, ha, hb, _⟩ := keyVal_cons ρ h
    simp only [List.mem_cons] at hp
    rcases hp with rfl | hp
    · exact ⟨a, ha⟩
    · exact ih hb p hp

/-- the set comparison of two keys is sound: equal as sets ⇒ the same value -/
theorem keyEqSet_sound {k₁ k₂ : List (Expr × Expr)} {w₁ w₂ : K} (h : keyEqSet k₁ k₂ = true)
    (h₁ : keyVal ρ k₁ = some w₁) (h₂ : keyVal ρ k₂ = some w₂) (hd : DistinctBases k₁) :
    w₁ = w₂ := by
  simp only [keyEqSet, Bool.and_eq_true, beq_iff_eq, List.all_eq_true, List.any_eq_true] at h
  obtain ⟨hlen, hall⟩ := h
  have hsub : k₁ ⊆ k₂ := by
    intro p hp
    obtain ⟨q, hq, hpq⟩ := hall p hp
    obtain ⟨a, ha⟩ := keyVal_mem ρ h₁ p hp
    obtain ⟨b, hb⟩ := keyVal_mem ρ h₂ q hq
    obtain ⟨x, n, hx, hn, _, _⟩ := pairVal_some ρ ha
    obtain ⟨y, m, hy, hm, _, _⟩ := pairVal_some ρ hb
    have e1 : p.1 = q.1 := (pyEq_iff_eq_K ρ hx hy).1 hpq.1
    have e2 : p.2 = q.2 := by
      have := hpq.2
      rw [hn, hm] at this ⊢
      simp only [Expr.pyEq, Const.pyEq, Const.numVal?, Int.natCast_one, mul_one, beq_iff_eq]
        at this
      rw [this]
    have : p = q := Prod.ext e1 e2
    rw [this]; exact hq
  have hnd : k₁.Nodup := by
    unfold DistinctBases at hd
    exact (List.Pairwise.of_map Prod.fst (fun a b hab hh => hab (by rw [hh])) hd)
  have hperm : k₁.Perm k₂ :=
    (List.subperm_of_subset hnd hsub).perm_of_length_le (by omega)
  rw [keyVal_perm ρ hperm, h₂] at h₁
  injection h₁ with h₁; exact h₁.symm

/-! ### `map_sum`: the dictionary term ↦ coefficient -/

def KeysOK (acc : List (List (Expr × Expr) × Expr)) : Prop := ∀ kc ∈ acc, DistinctBases kc.1

theorem t2cInsert_value {k : List (Expr × Expr)} {c : Expr} {x : K}
    (hx : entryVal ρ (k, c) = some x) (hk : DistinctBases k) :
    ∀ {acc acc' : List (List (Expr × Expr) × Expr)} {w : K}, t2cInsert k c acc = .ok acc' →
      t2cVal ρ acc = some w → KeysOK acc → t2cVal ρ acc' = some (w + x) ∧ KeysOK acc'
  | [], acc', w, h, hw, _ => by
      obtain ⟨a, b, ha, hb, rfl⟩ := entryVal_some ρ hx
      simp only [t2cInsert] at h
      obtain ⟨s, hs, h⟩ := bind_ok h
      simp only [pure, Except.pure] at h
      injection h with h; subst h
      simp only [t2cVal, Option.some.injEq] at hw; subst hw
      have hs' := pyAdd_value ρ hs (evalK_zero ρ) ha
      refine ⟨?_, ?_⟩
      · rw [t2cVal_cons_mk ρ (entryVal_mk ρ hs' hb) rfl]; simp
      · intro kc hkc; simp only [List.mem_singleton] at hkc; subst hkc; exact hk
  | (k', c') :: rest, acc', w, h, hw, hok => by
      obtain ⟨a, b, ha, hb, rfl⟩ := entryVal_some ρ hx
      obtain ⟨y, r, hy, hr, rfl⟩ := t2cVal_cons ρ hw
      obtain ⟨a', b', ha', hb', rfl⟩ := entryVal_some ρ hy
      simp only at ha hb ha' hb'
      simp only [t2cInsert] at h
      split at h
      · rename_i heq
        obtain ⟨s, hs, h⟩ := bind_ok h
        simp only [pure, Except.pure] at h
        injection h with h; subst h
        have hbb : b' = b := keyEqSet_sound ρ heq hb' hb (hok (k', c') (by simp))
        subst hbb
        have hs' := pyAdd_value ρ hs ha' ha
        refine ⟨?_, ?_⟩
        · rw [t2cVal_cons_mk ρ (entryVal_mk ρ hs' hb') hr]
          simp only [Option.some.injEq]; ring
        · intro kc hkc
          simp only [List.mem_cons] at hkc
          rcases hkc with rfl | hkc
          · exact hok (k', c') (by simp)
          · exact hok kc (by simp [hkc])
      · obtain ⟨rest', hrest, h⟩ := bind_ok h
        simp only [pure, Except.pure] at h
        injection h with h; subst h
        obtain ⟨hv, hok'⟩ := t2cInsert_value hx hk hrest hr
          (fun kc hkc => hok kc (by simp [hkc]))
        refine ⟨?_, ?_⟩
        · rw [t2cVal_cons_mk ρ hy hv]; simp only [Option.some.injEq]; ring
        · intro kc hkc
          simp only [List.mem_cons] at hkc
          rcases hkc with rfl | hkc
          · exact hok (k', c') (by simp)
          · exact hok' kc hkc

theorem collectSumLoop_value {rec : Expr → RwR} (hrec : Preserves ρ rec) (params : List Expr) :
    ∀ {cs : List Expr} {acc acc' : List (List (Expr × Expr) × Expr)} {v w : K},
      collectSumLoop rec params cs acc = .ok acc' → evalKL ρ false cs = some v →
      t2cVal ρ acc = some w → KeysOK acc → t2cVal ρ acc' = some (w + v)
  | [], acc, acc', v, w, h, hv, hw, _ => by
      simp only [collectSumLoop, pure, Except.pure] at h
      injection h with h; subst h
      simp only [evalKL, unitK_false, Option.some.injEq] at hv; subst hv
      simpa using hw
  | c :: cs, acc, acc', v, w, h, hv, hw, hok => by
      obtain ⟨x, y, hx, hy, rfl⟩ := evalKL_cons ρ hv
      simp only [collectSumLoop] at h
      obtain ⟨⟨k, coeff⟩, hsp, h⟩ := bind_ok h
      obtain ⟨acc1, hins, h⟩ := bind_ok h
      obtain ⟨hent, hdb⟩ := splitTerm_value ρ hrec params hsp hx
      obtain ⟨hv1, hok1⟩ := t2cInsert_value ρ hent hdb hins hw hok
      rw [collectSumLoop_value hrec params h hy hv1 hok1]
      simp only [opK_false, Option.some.injEq]; ring

theorem pow_pairs_value : ∀ {rep : List (Expr × Expr)} {fs : List Expr} {b : K},
    List.Forall₂ (fun (p : Expr × Expr) t => pyPow p.1 p.2 = .ok t) rep fs →
    keyVal ρ rep = some b → evalKL ρ true fs = some b
  | _, _, _, .nil, h => by
      simp only [keyVal, Option.some.injEq] at h; subst h; rfl
  | _, _, _, .cons hp hps, h => by
      obtain ⟨a, r, ha, hr, rfl⟩ := keyVal_cons ρ h
      obtain ⟨x, n, hx, hn, hdef, rfl⟩ := pairVal_some ρ ha
      rw [hn] at hp
      rw [evalKL_cons_mk ρ (pyPow_value ρ hp hx hdef) (pow_pairs_value hps hr)]
      simp

theorem rep2term_value {rep : List (Expr × Expr)} {t : Expr} {b : K} (h : rep2term rep = .ok t)
    (hb : keyVal ρ rep = some b) : evalK ρ t = some b := by
  unfold rep2term at h
  obtain ⟨fs, hfs, h⟩ := bind_ok h
  exact flatProd_value ρ h (pow_pairs_value ρ (mapM_ok' hfs) hb)

theorem collect_terms_value : ∀ {t2c : List (List (Expr × Expr) × Expr)} {terms : List Expr}
    {v : K},
    List.Forall₂ (fun (kc : List (Expr × Expr) × Expr) t =>
      (do let t ← rep2term kc.1; pyMul kc.2 t) = Except.ok t) t2c terms →
    t2cVal ρ t2c = some v → evalKL ρ false terms = some v
  | _, _, _, .nil, h => by
      simp only [t2cVal, Option.some.injEq] at h; subst h; rfl
  | _, _, _, .cons hp hps, h => by
      obtain ⟨y, r, hy, hr, rfl⟩ := t2cVal_cons ρ h
      obtain ⟨a, b, ha, hb, rfl⟩ := entryVal_some ρ hy
      obtain ⟨t, ht, hp⟩ := bind_ok hp
      rw [evalKL_cons_mk ρ (pyMul_value ρ hp ha (rep2term_value ρ ht hb))
        (collect_terms_value hps hr)]
      simp

theorem collectM_const (params : List Expr) : ∀ (fuel : Nat) (c : Const) (r : Expr),
    collectM params fuel (.const c) = .ok r → r = .const c
  | 0, _, _, h => by simp [collectM, throw, throwThe, MonadExceptOf.throw] at h
  | fuel + 1, c, r, h => by
      cases c <;> simp only [collectM, idMap, pure, Except.pure, throw, throwThe,
        MonadExceptOf.throw] at h <;> first | contradiction | (injection h with h; exact h.symm)

/-- **Term collection preserves the value** (for every set of `parameters`). -/
theorem collectM_value (params : List Expr) : ∀ fuel, Preserves ρ (collectM params fuel)
  | 0, _, _, _, h, _ => by simp [collectM, throw, throwThe, MonadExceptOf.throw] at h
  | fuel + 1, e, e', v, h, hv => by
      have ih := collectM_value params fuel
      have hc := collectM_const params fuel
      cases e with
      | nary o cs =>
        cases o with
        | sum =>
          simp only [collectM] at h
          obtain ⟨t2c, hl, h⟩ := bind_ok h
          obtain ⟨terms, hterms, h⟩ := bind_ok h
          simp only [pure, Except.pure] at h
          injection h with h; subst h
          rw [evalK_sum] at hv
          have h1 := collectSumLoop_value ρ ih params hl hv (w := 0) rfl
            (by intro kc hkc; simp at hkc)
          rw [zero_add] at h1
          exact flattenedSum_value ρ (collect_terms_value ρ (mapM_ok' hterms) h1)
        | _ =>
          simp only [collectM] at h
          exact idMap_value ρ hc ih h hv
      | _ =>
        simp only [collectM] at h
        exact idMap_value ρ hc ih h hv

/-- **`expand` / `distribute` preserve the value** (any `parameters`, commutative or not). -/
theorem distM_value (cfg : DistCfg) : ∀ fuel, Preserves ρ (distM cfg fuel) :=
  distM_value_of_collect ρ cfg (fun fuel params _ => collectM_value ρ params fuel)

end

end PV
