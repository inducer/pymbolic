import PV.Proofs.ParserTable
/-
  C07, T-gen (continued): `parse_prefix` with `parse_terminal`, `parse_arglist`, the induction on
  the fuel and `Parser.__call__`.
-/
-- `c07_body` and `c07_eval` pass fixed simp sets, of which a single call uses only a part
set_option linter.unusedSimpArgs false
namespace PV

variable {P : ParserPrec} {f : Nat}

/-- the row of `parse_prefix` a given token selects: closed, string comparisons only, left to the
kernel -/
macro "c07_pfind" : tactic => `(tactic| decide +kernel)

set_option hygiene false in
/-- reduce both sides to the body of a prefix row -/
macro "c07_pre" row:ident tok:term:max : tactic => `(tactic| (
  obtain ⟨ihE, ihP, ihL, ihA⟩ := ih
  have hfind : c07FindPre (.sym $tok) c07ModelTable.prefixes = some $row := by c07_pfind
  simp only [parsePrefix, c07PrefixT, hfind]
  simp only [$row:ident]))

/-- the interpreter's `parse_prefix` and the hand-written one agree on the token lists that start
with `tok` -/
def c07PrefixOk (P : ParserPrec) (f : Nat) (tok : Tok) : Prop :=
  ∀ rest, c07PrefixT c07ModelTable P (f+1) (tok :: rest) = parsePrefix P (f+1) (tok :: rest)

theorem c07P_colon (ih : c07Agree P f) : c07PrefixOk P f (.sym ":") := by
  intro rest
  c07_pre c07Pre_colon ":"
  simp only [ihE, ihA]
  c07_body
  cases parseExpr P f P.slice rest with
  | ok p => c07_eval [c07Jts_model]
  | error e => cases e <;> rfl

theorem c07P_times (ih : c07Agree P f) : c07PrefixOk P f (.sym "*") := by
  intro rest
  c07_pre c07Pre_times "*"
  rfl

/-- `+ e`, `not e`, `~ e`: one operand at `_PREC_UNARY`, one constructor call (none for `+`) -/
theorem c07P_unary (ih : c07Agree P f) :
    c07PrefixOk P f (.sym "+") ∧ c07PrefixOk P f (.sym "not") ∧ c07PrefixOk P f (.sym "~") := by
  refine ⟨?plus, ?not, ?bnot⟩ <;> intro rest
  case' plus => c07_pre c07Pre_plus "+"
  case' not => c07_pre c07Pre_not "not"
  case' bnot => c07_pre c07Pre_bitwisenot "~"
  all_goals
    simp only [ihE, ihA]
    c07_body
    congr 1

theorem c07P_minus (ih : c07Agree P f) : c07PrefixOk P f (.sym "-") := by
  intro rest
  c07_pre c07Pre_minus "-"
  simp only [ihE, ihA]
  c07_body
  congr 1
  funext p
  c07_eval []
  cases parseNeg p.1 <;> rfl

/-- `( … )` and `[ … ]`: the two branches have the same statements up to the closing token and the
container that finalizes a tuple -/
theorem c07P_brackets (ih : c07Agree P f) :
    c07PrefixOk P f (.sym "(") ∧ c07PrefixOk P f (.sym "[") := by
  constructor <;> intro rest
  case' left => c07_pre c07Pre_openpar "("
  case' right => c07_pre c07Pre_openbracket "["
  all_goals
    simp only [ihE, ihA]
    c07_body
    split
    · rfl
    · congr 1
      funext ⟨e, rest'⟩
      dsimp only
      split
      · by_cases ht : ∃ cs, e = .tuple cs
        · obtain ⟨cs, rfl⟩ := ht; rfl
        · split
          · exact absurd ⟨_, rfl⟩ ht
          · c07_eval [c07IsInst_false false .tuple ht]
      · rfl

def c07PreSyms : List String := [":", "*", "+", "-", "not", "~", "(", "["]

/-- tokens that start no prefix form go to `parse_terminal`.  The symbol `if` is no prefix row but
has a row there (`Variable("if")`, deprecated), as in `parsePrefix`; every other symbol fails in both:
the catch-all branch of `parsePrefix`, whose equation carries one side condition per pattern before
it (closed at the end by `cases` on the token equation, then `hs` / `hif`). -/
theorem c07P_terminal {tok : Tok} (h : ∀ s ∈ c07PreSyms, tok ≠ .sym s) : c07PrefixOk P f tok := by
  intro rest
  cases tok with
  | sym s =>
    have hs : ∀ t ∈ c07PreSyms, s ≠ t := fun t ht he => h t ht (he ▸ rfl)
    by_cases hif : s = "if"
    · subst hif; rfl
    · have hne : ∀ t ∈ "if" :: c07PreSyms, (t == s) = false := fun t ht =>
        beq_false_of_ne fun he => (List.mem_cons.mp ht).elim (fun h' => hif (he ▸ h')) (hs t · he.symm)
      simp only [c07PreSyms, List.forall_mem_cons, List.not_mem_nil, false_implies, implies_true,
        and_true] at hne
      rw [c07PrefixT, parsePrefix]
      · simp [c07FindPre, c07ModelPrefixes, C07Tag.matches, C07Tok.matches, c07Pre_colon, c07Pre_times,
          c07Pre_plus, c07Pre_minus, c07Pre_not, c07Pre_bitwisenot, c07Pre_openpar, c07Pre_openbracket,
          c07Terminal, c07ModelTerminals, hne, bind, Except.bind]
        rfl
      all_goals
        intros
        rename_i he
        cases he <;> first | exact absurd rfl hif | exact absurd rfl (hs _ (by decide))
  | _ => rfl

/-- one more unit of fuel for `parse_prefix` -/
theorem c07P_step (ih : c07Agree P f) (tok : Tok) : c07PrefixOk P f tok := by
  by_cases hs : ∃ s, s ∈ c07PreSyms ∧ tok = .sym s
  · obtain ⟨s, hm, rfl⟩ := hs
    simp only [c07PreSyms, List.mem_cons, List.not_mem_nil, or_false] at hm
    rcases hm with h | h | h | h | h | h | h | h <;> subst h
    · exact c07P_colon ih
    · exact c07P_times ih
    · exact (c07P_unary ih).1
    · exact c07P_minus ih
    · exact (c07P_unary ih).2.1
    · exact (c07P_unary ih).2.2
    · exact (c07P_brackets ih).1
    · exact (c07P_brackets ih).2
  · exact c07P_terminal fun s hm he => hs ⟨s, hm, he⟩

/-- one more unit of fuel for `parse_arglist`: the interpreter's template with the tags and levels
of the model's table against `parseArglist` -/
theorem c07A_step (ih : c07Agree P f) (ts : List Tok) (a : List Expr) (kn : List String)
    (kv : List Expr) (ca : Bool) :
    c07ArglistT c07ModelTable P (f+1) ts a kn kv ca = parseArglist P (f+1) ts a kn kv ca := by
  cases ts with
  | nil => rfl
  | cons tok rest =>
    simp only [c07ArglistT, parseArglist, c07M_arglist, c07ModelArglist, C07Tag.matches, c07_symMatch,
      c07_isSym_cons "," tok rest, C07Lvl.get, C07Prec.get, ih.1, ih.2.2.2, List.tail_cons]
    -- from here on both sides only look at the tokens after the optional comma
    generalize (if isSym "," [tok] = true then rest else tok :: rest) = ts1
    congr 1
    cases ts1 with
    | nil => rfl
    | cons t1 rest1 =>
      rw [c07_isSym_cons ")" t1 rest1]
      simp only [List.isEmpty_cons, Bool.false_eq_true, if_false, List.tail_cons]
      congr 2
      cases t1 with
      | ident k =>
        cases rest1 with
        | nil => rfl
        | cons t2 rest2 =>
          cases t2 with
          | sym s =>
            by_cases hs : s = "="
            · subst hs; rfl
            · simp [C07Tok.matches, isSym, hs]
          | _ => rfl
      | _ => rfl

/-- **the table interpreter on the model's table is the hand-written parser**, for every fuel -/
theorem c07Agree_all (P : ParserPrec) : ∀ f, c07Agree P f
  | 0 => ⟨fun _ _ => rfl, fun _ => rfl, fun _ _ _ _ => rfl, fun _ _ _ _ _ => rfl⟩
  | f + 1 =>
    have ih := c07Agree_all P f
    ⟨fun m ts => by simp only [c07ExprT, parseExpr, ih.2.1, ih.2.2.1],
     fun ts => match ts with
      | [] => rfl
      | tok :: rest => c07P_step ih tok rest,
     fun m l fin ts => match ts with
      | [] => rfl
      | tok :: rest => c07L_step ih tok m l fin rest,
     c07A_step ih⟩

theorem c07TopT_model (P : ParserPrec) (m : Nat) (ts : List Tok) :
    c07TopT c07ModelTable P m ts = parseTop P m ts := by
  unfold c07TopT parseTop
  rw [(c07Agree_all P _).1]
  split <;> simp_all [c07ModelTable]

end PV
