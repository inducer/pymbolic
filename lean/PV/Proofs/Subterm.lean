import PV.Model.Traverse
import PV.Model.Eval
/-
  Subterm relation (reflexive-transitive closure of `Expr.children`) and the flag-free
  substitution function `substE` with its link to the coded `substM`.
-/
namespace PV

inductive Subterm : Expr → Expr → Prop
  | refl (e : Expr) : Subterm e e
  | step {t c e : Expr} : Subterm t c → c ∈ e.children → Subterm t e

theorem Subterm.child {c e : Expr} (h : c ∈ e.children) : Subterm c e :=
  .step (.refl c) h

theorem Subterm.trans {a b c : Expr} (h1 : Subterm a b) (h2 : Subterm b c) : Subterm a c := by
  induction h2 with
  | refl => exact h1
  | step _ hc ih => exact .step ih hc

mutual
/-- the substituted tree, rebuilt naively (no identity-preservation bookkeeping) -/
def substE (σ : SubstMap) : Expr → Expr
  | .var x => match σ.apply (.var x) with
    | some r => r
    | none => .var x
  | .subscript a i => match σ.apply (.subscript a i) with
    | some r => r
    | none => .subscript (substE σ a) (substE σ i)
  | .lookup a n => match σ.apply (.lookup a n) with
    | some r => r
    | none => .lookup (substE σ a) n
  | .const c => .const c
  | .nary o cs => .nary o (substEL σ cs)
  | .bin o a b => .bin o (substE σ a) (substE σ b)
  | .un o a => .un o (substE σ a)
  | .cmp o a b => .cmp o (substE σ a) (substE σ b)
  | .ite c t e => .ite (substE σ c) (substE σ t) (substE σ e)
  | .call f as => .call (substE σ f) (substEL σ as)
  | .callKw f as ns vs => .callKw (substE σ f) (substEL σ as) ns (substEL σ vs)
  | .cse c p s => if (substE σ c).isZero then zero else .cse (substE σ c) p s
  | .subst c vs xs => .subst (substE σ c) vs (substEL σ xs)
  | .deriv c vs => .deriv (substE σ c) vs
  | .slice cs => .slice (substEL σ cs)
  | .tuple cs => .tuple (substEL σ cs)
  | .list cs => .list (substEL σ cs)
  | .nan => .nan
  | .wildcard => .wildcard
  | .dotWild n => .dotWild n
  | .starWild n => .starWild n
  | .funcSym => .funcSym
def substEL (σ : SubstMap) : List Expr → List Expr
  | [] => []
  | c :: cs => substE σ c :: substEL σ cs
end

theorem substEL_eq_map (σ : SubstMap) : ∀ cs : List Expr, substEL σ cs = cs.map (substE σ)
  | [] => by simp only [substEL, List.map]
  | c :: cs => by simp only [substEL, List.map, substEL_eq_map σ cs]

/- Per class: the model binds the children's results by `let (a', ca) := substM σ a`, which reduces
only on a literal pair; so each result is generalised to a pair `(a', ca)` together with the
induction hypothesis about it, and the flags are split. -/
mutual
theorem substM_spec (σ : SubstMap) (e : Expr) :
    (substM σ e).1 = substE σ e ∧ ((substM σ e).2 = false → substE σ e = e) := by
  cases e with
  | var x =>
      simp only [substM, substE]
      cases σ.apply (.var x) <;> simp
  | const | nan | wildcard | dotWild | starWild | funcSym => simp [substM, substE]
  | subscript a b =>
      have ha := substM_spec σ a
      have hb := substM_spec σ b
      simp only [substM, substE]
      cases σ.apply (.subscript a b) with
      | some r => simp
      | none =>
        revert ha hb
        generalize substM σ a = pa
        generalize substM σ b = pb
        obtain ⟨a', ca⟩ := pa
        obtain ⟨b', cb⟩ := pb
        rintro ⟨rfl, h1⟩ ⟨rfl, h2⟩
        cases ca <;> cases cb <;> simp_all
  | lookup a n =>
      have ha := substM_spec σ a
      simp only [substM, substE]
      cases σ.apply (.lookup a n) with
      | some r => simp
      | none =>
        revert ha
        generalize substM σ a = pa
        obtain ⟨a', ca⟩ := pa
        rintro ⟨rfl, h1⟩
        cases ca <;> simp_all
  | bin o a b | cmp o a b =>
      have ha := substM_spec σ a
      have hb := substM_spec σ b
      simp only [substM, substE]
      revert ha hb
      generalize substM σ a = pa
      generalize substM σ b = pb
      obtain ⟨a', ca⟩ := pa
      obtain ⟨b', cb⟩ := pb
      rintro ⟨rfl, h1⟩ ⟨rfl, h2⟩
      cases ca <;> cases cb <;> simp_all
  | un o a | deriv a vs =>
      have ha := substM_spec σ a
      simp only [substM, substE]
      revert ha
      generalize substM σ a = pa
      obtain ⟨a', ca⟩ := pa
      rintro ⟨rfl, h1⟩
      cases ca <;> simp_all
  | cse a p s =>
      have ha := substM_spec σ a
      simp only [substM, substE]
      revert ha
      generalize substM σ a = pa
      obtain ⟨a', ca⟩ := pa
      rintro ⟨rfl, h1⟩
      cases hz : (substE σ a).isZero <;> cases ca <;> simp_all
  | ite a b c =>
      have ha := substM_spec σ a
      have hb := substM_spec σ b
      have hc := substM_spec σ c
      simp only [substM, substE]
      revert ha hb hc
      generalize substM σ a = pa
      generalize substM σ b = pb
      generalize substM σ c = pc
      obtain ⟨a', ca⟩ := pa
      obtain ⟨b', cb⟩ := pb
      obtain ⟨c', cc⟩ := pc
      rintro ⟨rfl, h1⟩ ⟨rfl, h2⟩ ⟨rfl, h3⟩
      cases ca <;> cases cb <;> cases cc <;> simp_all
  | nary o cs | slice cs | tuple cs =>
      have ha := substML_spec σ cs
      simp only [substM, substE]
      revert ha
      generalize substL σ cs = pa
      obtain ⟨a', ca⟩ := pa
      rintro ⟨rfl, h1⟩
      cases ca <;> simp_all
  | list cs =>
      have ha := substML_spec σ cs
      simp only [substM, substE]
      simp [ha.1]
  | call a cs | subst a vs cs =>
      have ha := substM_spec σ a
      have hb := substML_spec σ cs
      simp only [substM, substE]
      revert ha hb
      generalize substM σ a = pa
      generalize substL σ cs = pb
      obtain ⟨a', ca⟩ := pa
      obtain ⟨b', cb⟩ := pb
      rintro ⟨rfl, h1⟩ ⟨rfl, h2⟩
      cases ca <;> cases cb <;> simp_all
  | callKw a bs ns cs =>
      have ha := substM_spec σ a
      have hb := substML_spec σ bs
      have hc := substML_spec σ cs
      simp only [substM, substE]
      revert ha hb hc
      generalize substM σ a = pa
      generalize substL σ bs = pb
      generalize substL σ cs = pc
      obtain ⟨a', ca⟩ := pa
      obtain ⟨b', cb⟩ := pb
      obtain ⟨c', cc⟩ := pc
      rintro ⟨rfl, h1⟩ ⟨rfl, h2⟩ ⟨rfl, h3⟩
      cases ca <;> cases cb <;> cases cc <;> simp_all
theorem substML_spec (σ : SubstMap) (cs : List Expr) :
    (substL σ cs).1 = substEL σ cs ∧ ((substL σ cs).2 = false → substEL σ cs = cs) := by
  cases cs with
  | nil => simp [substL, substEL]
  | cons a cs =>
      have ha := substM_spec σ a
      have hb := substML_spec σ cs
      simp only [substL, substEL]
      revert ha hb
      generalize substM σ a = pa
      generalize substL σ cs = pb
      obtain ⟨a', ca⟩ := pa
      obtain ⟨b', cb⟩ := pb
      rintro ⟨rfl, h1⟩ ⟨rfl, h2⟩
      cases ca <;> cases cb <;> simp_all
end

end PV
