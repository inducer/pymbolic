import PV.Model.CCode
/-
  C14.  Invariants of the CSE allocator of the C code mapper model.

  * `RefInv` (holds in EVERY state reachable with `emit`, `copy`, `copy_with_mapped_cses`): every
    hoisted name an assignment refers to is assigned by an earlier entry of `cse_name_list`.
  * `Inv` (holds on one mapper without `copy`): names pairwise distinct, `cse_names` = the names,
    `cse_to_name` lists the wrapped children entry by entry, children pairwise different under `==`.
-/
namespace PV.C14
open PV

/-- the dictionary key an entry was stored under (ghost `child`; mapped entries: the pair's value) -/
def entryKey (e : CEntry) : CCKey :=
  match e.child with
  | some c => .expr c
  | none => e.val

/-- every entry refers only to names assigned by earlier entries (`seen`: names assigned so far) -/
def refsBefore : List String → List CEntry → Prop
  | _, [] => True
  | seen, e :: es => (∀ r ∈ e.refs, r ∈ seen) ∧ refsBefore (seen ++ [e.name]) es

theorem refsBefore_append (seen : List String) (l : List CEntry) (e : CEntry) :
    refsBefore seen (l ++ [e]) ↔
      refsBefore seen l ∧ ∀ r ∈ e.refs, r ∈ seen ++ l.map (·.name) := by
  induction l generalizing seen with
  | nil => simp [refsBefore]
  | cons x xs ih =>
    simp only [List.cons_append, refsBefore, ih, List.map_cons, List.append_assoc,
      List.nil_append, List.cons_append, and_assoc]

theorem refsBefore_append_list (seen : List String) (l ext : List CEntry)
    (h1 : refsBefore seen l) (h2 : ∀ e ∈ ext, e.refs = []) : refsBefore seen (l ++ ext) := by
  induction ext generalizing l with
  | nil => simpa using h1
  | cons x xs ih =>
    have : l ++ x :: xs = (l ++ [x]) ++ xs := by simp
    rw [this]
    apply ih
    · rw [refsBefore_append]
      refine ⟨h1, ?_⟩
      rw [h2 x (by simp)]
      simp
    · intro e he
      exact h2 e (by simp [he])

/-- the state only grows, and its configuration is fixed -/
def Ext (st st' : CSt) : Prop :=
  (∃ ext, st'.nameList = st.nameList ++ ext) ∧ st'.reverse = st.reverse ∧ st'.pfx = st.pfx

theorem Ext.refl (st : CSt) : Ext st st := ⟨⟨[], by simp⟩, rfl, rfl⟩

theorem Ext.trans {a b c : CSt} (h1 : Ext a b) (h2 : Ext b c) : Ext a c := by
  obtain ⟨⟨e1, h1l⟩, h1r, h1p⟩ := h1
  obtain ⟨⟨e2, h2l⟩, h2r, h2p⟩ := h2
  exact ⟨⟨e1 ++ e2, by rw [h2l, h1l, List.append_assoc]⟩, h2r.trans h1r, h2p.trans h1p⟩

theorem Ext.assigned_mono {a b : CSt} (h : Ext a b) {r : String} (hr : r ∈ a.assigned) :
    r ∈ b.assigned := by
  obtain ⟨⟨e, hl⟩, _, _⟩ := h
  simp only [CSt.assigned, hl, List.map_append, List.mem_append]
  exact Or.inl hr

/-! ### `RefInv`: assigned before use, in every state -/

structure RefInv (st : CSt) : Prop where
  /-- every assignment refers only to names assigned by earlier entries -/
  before : refsBefore [] st.nameList
  /-- every name `cse_to_name` can return is assigned -/
  vals : ∀ kv ∈ st.toName, kv.2 ∈ st.assigned

/-- what one call of the printer guarantees about the allocator -/
def RefStep (st : CSt) (refs : List String) (st' : CSt) : Prop :=
  RefInv st' ∧ Ext st st' ∧ ∀ r ∈ refs, r ∈ st'.assigned

/-- `self.rec`: allocator state, expression, enclosing precedence ↦ printed structure, the hoisted
names its text refers to, new state -/
abbrev Printer := CSt → Expr → Nat → Except CErr COut

def RefGood (f : Printer) : Prop :=
  ∀ st e enc d refs st', RefInv st → f st e enc = .ok (d, refs, st') → RefStep st refs st'

theorem printAll_ref (f : Printer) (hf : RefGood f) :
    ∀ pl st ds refs st', RefInv st → printAll f st pl = .ok (ds, refs, st') →
      RefStep st refs st' := by
  intro pl
  induction pl with
  | nil =>
    intro st ds refs st' hi h
    simp only [printAll, pure, Except.pure, Except.ok.injEq, Prod.mk.injEq] at h
    obtain ⟨_, rfl, rfl⟩ := h
    exact ⟨hi, Ext.refl _, by simp⟩
  | cons x rest ih =>
    intro st ds refs st' hi h
    obtain ⟨e, enc⟩ := x
    simp only [printAll, bind, Except.bind] at h
    cases h1 : f st e enc with
    | error err => simp [h1] at h
    | ok v =>
      obtain ⟨d1, r1, st1⟩ := v
      simp only [h1] at h
      cases h2 : printAll f st1 rest with
      | error err => simp [h2] at h
      | ok w =>
        obtain ⟨ds2, r2, st2⟩ := w
        simp only [h2, pure, Except.pure, Except.ok.injEq, Prod.mk.injEq] at h
        obtain ⟨_, rfl, rfl⟩ := h
        obtain ⟨i1, e1, m1⟩ := hf st e enc d1 r1 st1 hi h1
        obtain ⟨i2, e2, m2⟩ := ih st1 ds2 r2 st2 i1 h2
        refine ⟨i2, e1.trans e2, ?_⟩
        intro r hr
        rcases List.mem_append.mp hr with hr | hr
        · exact e2.assigned_mono (m1 r hr)
        · exact m2 r hr

theorem ccodeGeneric_ref (S : PrintPrec) (f : Printer) (hf : RefGood f) :
    ∀ st e enc d refs st', RefInv st → ccodeGeneric S f st e enc = .ok (d, refs, st') →
      RefStep st refs st' := by
  intro st e enc d refs st' hi h
  simp only [ccodeGeneric, bind, Except.bind] at h
  cases hp : plan S e enc with
  | error err => simp [hp] at h
  | ok pl =>
    simp only [hp] at h
    cases h2 : printAll f st pl with
    | error err => simp [h2] at h
    | ok w =>
      obtain ⟨ds, r, st2⟩ := w
      simp only [h2] at h
      cases h3 : assemble S st.reverse e enc ds with
      | error err => simp [h3] at h
      | ok dd =>
        simp only [h3, pure, Except.pure, Except.ok.injEq, Prod.mk.injEq] at h
        obtain ⟨_, rfl, rfl⟩ := h
        exact printAll_ref f hf pl st ds r st2 hi h2

theorem ccodeCse_ref (S : PrintPrec) (f : Printer) (hf : RefGood f) :
    ∀ st c p d refs st', RefInv st →
      ccodeCse S f st c p = .ok (d, refs, st') → RefStep st refs st' := by
  intro st c p d refs st' hi h
  have hval := hi.vals
  unfold ccodeCse at h
  split at h
  · simp [throw, throwThe, MonadExceptOf.throw] at h
  · split at h
    · rename_i kv hfind
      simp only [pure, Except.pure, Except.ok.injEq, Prod.mk.injEq] at h
      obtain ⟨_, rfl, rfl⟩ := h
      refine ⟨hi, Ext.refl _, ?_⟩
      intro r hr
      simp only [List.mem_singleton] at hr
      subst hr
      exact hval kv (List.mem_of_find?_eq_some hfind)
    · split at h
      · simp [throw, throwThe, MonadExceptOf.throw] at h
      · rename_i d1 r1 st1 h1
        obtain ⟨i1, e1, m1⟩ := hf st c S.none d1 r1 st1 hi h1
        split at h
        · simp [throw, throwThe, MonadExceptOf.throw] at h
        · rename_i n hn
          split at h
          · simp [throw, throwThe, MonadExceptOf.throw] at h
          · simp only [pure, Except.pure, Except.ok.injEq, Prod.mk.injEq] at h
            obtain ⟨_, rfl, rfl⟩ := h
            refine ⟨?_, ?_, ?_⟩
            · constructor
              · show refsBefore [] (st1.nameList ++ [_])
                rw [refsBefore_append]
                exact ⟨i1.before, by simpa [CSt.assigned] using m1⟩
              · intro kv hkv
                simp only [List.mem_append, List.mem_singleton] at hkv
                rcases hkv with hkv | hkv
                · have := i1.vals kv hkv
                  simp only [CSt.assigned, List.map_append, List.mem_append] at this ⊢
                  exact Or.inl this
                · subst hkv
                  simp [CSt.assigned]
            · refine Ext.trans e1 ⟨⟨[_], rfl⟩, rfl, rfl⟩
            · intro r hr
              simp only [List.mem_singleton] at hr
              subst hr
              simp [CSt.assigned]


theorem ccodeE_ref (S : PrintPrec) : ∀ fuel, RefGood (ccodeE S fuel) := by
  intro fuel
  induction fuel with
  | zero =>
    intro st e enc d refs st' _ h
    simp [ccodeE, throw, throwThe, MonadExceptOf.throw] at h
  | succ n ih =>
    intro st e enc d refs st' hi h
    cases e with
    | cse c p sc =>
      simp only [ccodeE] at h
      exact ccodeCse_ref S _ ih st c p d refs st' hi h
    | _ =>
      simp only [ccodeE] at h
      exact ccodeGeneric_ref S _ ih st _ enc d refs st' hi h

theorem ccode_ref (S : PrintPrec) (st : CSt) (e : Expr) (d : Doc) (refs : List String) (st' : CSt)
    (hi : RefInv st) (h : ccode S st e = .ok (d, refs, st')) : RefStep st refs st' :=
  ccodeE_ref S _ st e _ d refs st' hi h

/-! ### `Inv`: one mapper, no `copy` -/

structure Inv (st : CSt) : Prop where
  /-- no name is assigned twice -/
  nodup : st.assigned.Nodup
  /-- `cse_names` is the set of assigned names -/
  namesEq : st.names = st.nameList.map (fun e => CCKey.text e.name)
  /-- `cse_to_name` maps the key of every entry to its name, in order -/
  toNameEq : st.toName = st.nameList.map (fun e => (entryKey e, e.name))
  /-- the keys are pairwise unequal under Python's `==` (`CCKey.eq`): a child is hoisted once -/
  once : (st.nameList.map entryKey).Pairwise (fun a b => a.eq b = false)
  /-- every entry was hoisted for a wrapper child (none comes from `copy_with_mapped_cses`) -/
  hoisted : ∀ e ∈ st.nameList, e.child.isSome = true

def InvGood (f : Printer) : Prop :=
  ∀ st e enc d refs st', Inv st → f st e enc = .ok (d, refs, st') → Inv st'

theorem printAll_inv (f : Printer) (hf : InvGood f) :
    ∀ pl st ds refs st', Inv st → printAll f st pl = .ok (ds, refs, st') → Inv st' := by
  intro pl
  induction pl with
  | nil =>
    intro st ds refs st' hi h
    simp only [printAll, pure, Except.pure, Except.ok.injEq, Prod.mk.injEq] at h
    obtain ⟨_, _, rfl⟩ := h
    exact hi
  | cons x rest ih =>
    intro st ds refs st' hi h
    obtain ⟨e, enc⟩ := x
    simp only [printAll, bind, Except.bind] at h
    cases h1 : f st e enc with
    | error err => simp [h1] at h
    | ok v =>
      obtain ⟨d1, r1, st1⟩ := v
      simp only [h1] at h
      cases h2 : printAll f st1 rest with
      | error err => simp [h2] at h
      | ok w =>
        obtain ⟨ds2, r2, st2⟩ := w
        simp only [h2, pure, Except.pure, Except.ok.injEq, Prod.mk.injEq] at h
        obtain ⟨_, _, rfl⟩ := h
        exact ih st1 ds2 r2 st2 (hf st e enc d1 r1 st1 hi h1) h2

theorem ccodeGeneric_inv (S : PrintPrec) (f : Printer) (hf : InvGood f) :
    ∀ st e enc d refs st', Inv st → ccodeGeneric S f st e enc = .ok (d, refs, st') → Inv st' := by
  intro st e enc d refs st' hi h
  simp only [ccodeGeneric, bind, Except.bind] at h
  cases hp : plan S e enc with
  | error err => simp [hp] at h
  | ok pl =>
    simp only [hp] at h
    cases h2 : printAll f st pl with
    | error err => simp [h2] at h
    | ok w =>
      obtain ⟨ds, r, st2⟩ := w
      simp only [h2] at h
      cases h3 : assemble S st.reverse e enc ds with
      | error err => simp [h3] at h
      | ok dd =>
        simp only [h3, pure, Except.pure, Except.ok.injEq, Prod.mk.injEq] at h
        obtain ⟨_, _, rfl⟩ := h
        exact printAll_inv f hf pl st ds r st2 hi h2

theorem firstFree_not_taken (taken : List CCKey) (cand : Nat → String) :
    ∀ fuel i n, firstFree taken cand fuel i = some n → nameTaken taken n = false := by
  intro fuel
  induction fuel with
  | zero => intro i n h; simp [firstFree] at h
  | succ k ih =>
    intro i n h
    simp only [firstFree] at h
    split at h
    · exact ih _ _ h
    · rename_i hnt
      simp only [Option.some.injEq] at h
      subst h
      simpa using hnt

theorem nameTaken_names (l : List CEntry) (n : String) :
    nameTaken (l.map (fun e => CCKey.text e.name)) n = false → n ∉ l.map (·.name) := by
  intro h hmem
  simp only [nameTaken, List.any_map, List.any_eq_false, Function.comp] at h
  obtain ⟨e, he, rfl⟩ := List.mem_map.mp hmem
  have := h e he
  simp at this

theorem find_none_all {l : List (CCKey × String)} {k : CCKey}
    (h : l.find? (fun kv => kv.1.eq k) = none) : ∀ kv ∈ l, kv.1.eq k = false := by
  intro kv hkv
  have := List.find?_eq_none.mp h kv hkv
  simpa using this

/-- the hoisting step keeps `Inv`, and a wrapper whose child is known changes nothing -/
theorem ccodeCse_inv (S : PrintPrec) (f : Printer) (hf : InvGood f) :
    ∀ st c p d refs st', Inv st → ccodeCse S f st c p = .ok (d, refs, st') → Inv st' := by
  intro st c p d refs st' hi h
  unfold ccodeCse at h
  split at h
  · simp [throw, throwThe, MonadExceptOf.throw] at h
  · split at h
    · simp only [pure, Except.pure, Except.ok.injEq, Prod.mk.injEq] at h
      obtain ⟨_, _, rfl⟩ := h
      exact hi
    · split at h
      · simp [throw, throwThe, MonadExceptOf.throw] at h
      · rename_i d1 r1 st1 h1
        have i1 := hf st c S.none d1 r1 st1 hi h1
        split at h
        · simp [throw, throwThe, MonadExceptOf.throw] at h
        · rename_i n hn
          split at h
          · simp [throw, throwThe, MonadExceptOf.throw] at h
          · rename_i hfind
            simp only [pure, Except.pure, Except.ok.injEq, Prod.mk.injEq] at h
            obtain ⟨_, _, rfl⟩ := h
            have hfree : nameTaken st1.names n = false := firstFree_not_taken _ _ _ _ _ hn
            rw [i1.namesEq] at hfree
            have hnew : n ∉ st1.nameList.map (·.name) := nameTaken_names _ _ hfree
            have hkeys := find_none_all hfind
            constructor
            · simp only [CSt.assigned, List.map_append, List.map_cons, List.map_nil]
              rw [List.nodup_append]
              refine ⟨i1.nodup, by simp, ?_⟩
              intro a ha b hb
              simp only [List.mem_singleton] at hb
              subst hb
              intro hab
              subst hab
              exact hnew ha
            · simp [i1.namesEq]
            · simp [i1.toNameEq, entryKey]
            · simp only [List.map_append, List.map_cons, List.map_nil]
              rw [List.pairwise_append]
              refine ⟨i1.once, by simp, ?_⟩
              intro a ha b hb
              simp only [List.mem_singleton] at hb
              subst hb
              obtain ⟨e, he, rfl⟩ := List.mem_map.mp ha
              have := hkeys (entryKey e, e.name) (by rw [i1.toNameEq]; exact List.mem_map.mpr ⟨e, he, rfl⟩)
              simpa [entryKey] using this
            · intro e he
              simp only [List.mem_append, List.mem_singleton] at he
              rcases he with he | he
              · exact i1.hoisted e he
              · subst he; rfl

theorem ccodeE_inv (S : PrintPrec) : ∀ fuel, InvGood (ccodeE S fuel) := by
  intro fuel
  induction fuel with
  | zero =>
    intro st e enc d refs st' _ h
    simp [ccodeE, throw, throwThe, MonadExceptOf.throw] at h
  | succ n ih =>
    intro st e enc d refs st' hi h
    cases e with
    | cse c p sc =>
      simp only [ccodeE] at h
      exact ccodeCse_inv S _ ih st c p d refs st' hi h
    | _ =>
      simp only [ccodeE] at h
      exact ccodeGeneric_inv S _ ih st _ enc d refs st' hi h

theorem inv_init (reverse : Bool) (pfx : String) : Inv { reverse, pfx } := by
  constructor <;> simp [CSt.assigned]

theorem refInv_init (reverse : Bool) (pfx : String) : RefInv { reverse, pfx } := by
  constructor <;> simp [refsBefore]


/-! ### histories on one mapper -/

theorem emits_inv (S : PrintPrec) : ∀ es st outs st', Inv st → emits S st es = .ok (outs, st') →
    Inv st' := by
  intro es
  induction es with
  | nil =>
    intro st outs st' hi h
    simp only [emits, pure, Except.pure, Except.ok.injEq, Prod.mk.injEq] at h
    obtain ⟨_, rfl⟩ := h
    exact hi
  | cons e rest ih =>
    intro st outs st' hi h
    simp only [emits, bind, Except.bind] at h
    cases h1 : ccode S st e with
    | error err => simp [h1] at h
    | ok v =>
      obtain ⟨d1, r1, st1⟩ := v
      simp only [h1] at h
      cases h2 : emits S st1 rest with
      | error err => simp [h2] at h
      | ok w =>
        obtain ⟨o2, st2⟩ := w
        simp only [h2, pure, Except.pure, Except.ok.injEq, Prod.mk.injEq] at h
        obtain ⟨_, rfl⟩ := h
        exact ih st1 o2 st2 (ccodeE_inv S _ st e _ d1 r1 st1 hi h1) h2

theorem emits_ref (S : PrintPrec) : ∀ es st outs st', RefInv st → emits S st es = .ok (outs, st') →
    RefInv st' ∧ Ext st st' ∧ ∀ o ∈ outs, ∀ r ∈ o.2, r ∈ st'.assigned := by
  intro es
  induction es with
  | nil =>
    intro st outs st' hi h
    simp only [emits, pure, Except.pure, Except.ok.injEq, Prod.mk.injEq] at h
    obtain ⟨rfl, rfl⟩ := h
    exact ⟨hi, Ext.refl _, by simp⟩
  | cons e rest ih =>
    intro st outs st' hi h
    simp only [emits, bind, Except.bind] at h
    cases h1 : ccode S st e with
    | error err => simp [h1] at h
    | ok v =>
      obtain ⟨d1, r1, st1⟩ := v
      simp only [h1] at h
      cases h2 : emits S st1 rest with
      | error err => simp [h2] at h
      | ok w =>
        obtain ⟨o2, st2⟩ := w
        simp only [h2, pure, Except.pure, Except.ok.injEq, Prod.mk.injEq] at h
        obtain ⟨rfl, rfl⟩ := h
        obtain ⟨i1, e1, m1⟩ := ccode_ref S st e d1 r1 st1 hi h1
        obtain ⟨i2, e2, m2⟩ := ih st1 o2 st2 i1 h2
        refine ⟨i2, e1.trans e2, ?_⟩
        intro o ho
        simp only [List.mem_cons] at ho
        rcases ho with rfl | ho
        · intro r hr
          exact e2.assigned_mono (m1 r hr)
        · exact m2 o ho

/-! ### `copy` keeps `RefInv` (but not `Inv`) -/

theorem dictSet_vals (d : List (CCKey × String)) (k : CCKey) (v : String) (P : String → Prop)
    (hd : ∀ kv ∈ d, P kv.2) (hv : P v) : ∀ kv ∈ dictSet d k v, P kv.2 := by
  induction d with
  | nil => intro kv h; simp only [dictSet, List.mem_singleton] at h; subst h; exact hv
  | cons x xs ih =>
    intro kv h
    obtain ⟨k', v'⟩ := x
    simp only [dictSet] at h
    split at h
    · simp only [List.mem_cons] at h
      rcases h with rfl | h
      · exact hv
      · exact hd kv (by simp [h])
    · simp only [List.mem_cons] at h
      rcases h with rfl | h
      · exact hd _ (by simp)
      · exact ih (fun kv hkv => hd kv (by simp [hkv])) kv h

theorem ofList_vals (l : List CEntry) (P : String → Prop) (hl : ∀ e ∈ l, P e.name) :
    ∀ (d : List (CCKey × String)), (∀ kv ∈ d, P kv.2) →
      ∀ kv ∈ l.foldl (fun d e => dictSet d e.val e.name) d, P kv.2 := by
  induction l with
  | nil => intro d hd; simpa using hd
  | cons x xs ih =>
    intro d hd
    simp only [List.foldl_cons]
    apply ih (fun e he => hl e (by simp [he]))
    exact dictSet_vals d _ _ P hd (hl x (by simp))

theorem refInv_ofList (reverse : Bool) (pfx : String) (l : List CEntry)
    (h : refsBefore [] l) : RefInv (CSt.ofList reverse pfx l) := by
  constructor
  · exact h
  · intro kv hkv
    simp only [CSt.ofList] at hkv
    refine ofList_vals l (fun n => n ∈ l.map (·.name)) ?_ [] (by simp) kv hkv
    intro e he
    exact List.mem_map.mpr ⟨e, he, rfl⟩

theorem refInv_copy (st : CSt) (h : RefInv st) : RefInv st.copy :=
  refInv_ofList _ _ _ h.before

theorem refInv_copyMapped (st : CSt) (pairs : List (String × Expr)) (h : RefInv st) :
    RefInv (st.copyWithMappedCses pairs) := by
  apply refInv_ofList
  apply refsBefore_append_list _ _ _ h.before
  intro e he
  obtain ⟨p, _, rfl⟩ := List.mem_map.mp he
  rfl

/-! ### pools -/

/-- what an output of `runOps` promises about the final pool -/
def OutOK (pool' : List CSt) : COpn → CStepOut → Prop
  | .emit i _, .text _ refs => ∀ st', pool'[i]? = some st' → ∀ r ∈ refs, r ∈ st'.assigned
  | _, _ => True

/-- `OutOK` for every (operation, output) pair of a run -/
def OutsOK (pool' : List CSt) : List COpn → List CStepOut → Prop
  | [], [] => True
  | op :: ops, o :: os => OutOK pool' op o ∧ OutsOK pool' ops os
  | _, _ => False

theorem runOps_ref (S : PrintPrec) : ∀ ops pool outs pool', (∀ st ∈ pool, RefInv st) →
    runOps S pool ops = .ok (outs, pool') →
      (∀ st ∈ pool', RefInv st) ∧
      (∀ (i : Nat) st, pool[i]? = some st → ∃ st', pool'[i]? = some st' ∧ Ext st st') ∧
      OutsOK pool' ops outs := by
  intro ops
  induction ops with
  | nil =>
    intro pool outs pool' hp h
    simp only [runOps, pure, Except.pure, Except.ok.injEq, Prod.mk.injEq] at h
    obtain ⟨rfl, rfl⟩ := h
    exact ⟨hp, fun i st hi => ⟨st, hi, Ext.refl _⟩, trivial⟩
  | cons op rest ih =>
    intro pool outs pool' hp h
    cases op with
    | emit i e =>
      simp only [runOps] at h
      cases hi : pool[i]? with
      | none => simp [hi, throw, throwThe, MonadExceptOf.throw] at h
      | some st =>
        simp only [hi, bind, Except.bind] at h
        cases h1 : ccode S st e with
        | error err => simp [h1] at h
        | ok v =>
          obtain ⟨d1, r1, st1⟩ := v
          simp only [h1] at h
          cases h2 : runOps S (pool.set i st1) rest with
          | error err => simp [h2] at h
          | ok w =>
            obtain ⟨o2, p2⟩ := w
            simp only [h2, pure, Except.pure, Except.ok.injEq, Prod.mk.injEq] at h
            obtain ⟨rfl, rfl⟩ := h
            have hst : RefInv st := hp st (List.mem_of_getElem? hi)
            obtain ⟨i1, e1, m1⟩ := ccode_ref S st e d1 r1 st1 hst h1
            have hp1 : ∀ s ∈ pool.set i st1, RefInv s := by
              intro s hs
              rcases List.mem_or_eq_of_mem_set hs with hs | hs
              · exact hp s hs
              · subst hs; exact i1
            obtain ⟨a, b, c⟩ := ih (pool.set i st1) o2 p2 hp1 h2
            have hlt : i < pool.length := by
              rcases Nat.lt_or_ge i pool.length with hh | hh
              · exact hh
              · rw [List.getElem?_eq_none hh] at hi; cases hi
            refine ⟨a, ?_, ?_⟩
            · intro j s hj
              by_cases hji : i = j
              · subst hji
                obtain ⟨s', hs', es'⟩ := b i st1 (by simp [List.getElem?_set_self hlt])
                rw [hi] at hj
                cases hj
                exact ⟨s', hs', e1.trans es'⟩
              · exact b j s (by rw [List.getElem?_set_ne hji]; exact hj)
            · refine ⟨?_, c⟩
              intro s' hs' r hr
              obtain ⟨s'', hs'', es''⟩ := b i st1 (by simp [List.getElem?_set_self hlt])
              rw [hs'] at hs''
              cases hs''
              exact es''.assigned_mono (m1 r hr)
    | copy i =>
      simp only [runOps] at h
      cases hi : pool[i]? with
      | none => simp [hi, throw, throwThe, MonadExceptOf.throw] at h
      | some st =>
        simp only [hi, bind, Except.bind] at h
        cases h2 : runOps S (pool ++ [st.copy]) rest with
        | error err => simp [h2] at h
        | ok w =>
          obtain ⟨o2, p2⟩ := w
          simp only [h2, pure, Except.pure, Except.ok.injEq, Prod.mk.injEq] at h
          obtain ⟨rfl, rfl⟩ := h
          have hst : RefInv st := hp st (List.mem_of_getElem? hi)
          have hp1 : ∀ s ∈ pool ++ [st.copy], RefInv s := by
            intro s hs
            simp only [List.mem_append, List.mem_singleton] at hs
            rcases hs with hs | rfl
            · exact hp s hs
            · exact refInv_copy st hst
          obtain ⟨a, b, c⟩ := ih _ o2 p2 hp1 h2
          refine ⟨a, ?_, trivial, c⟩
          intro j s hj
          have hlt : j < pool.length := by
            rcases Nat.lt_or_ge j pool.length with hh | hh
            · exact hh
            · rw [List.getElem?_eq_none hh] at hj; cases hj
          exact b j s (by rw [List.getElem?_append_left hlt]; exact hj)
    | copyMapped i pairs =>
      simp only [runOps] at h
      cases hi : pool[i]? with
      | none => simp [hi, throw, throwThe, MonadExceptOf.throw] at h
      | some st =>
        simp only [hi, bind, Except.bind] at h
        cases h2 : runOps S (pool ++ [st.copyWithMappedCses pairs]) rest with
        | error err => simp [h2] at h
        | ok w =>
          obtain ⟨o2, p2⟩ := w
          simp only [h2, pure, Except.pure, Except.ok.injEq, Prod.mk.injEq] at h
          obtain ⟨rfl, rfl⟩ := h
          have hst : RefInv st := hp st (List.mem_of_getElem? hi)
          have hp1 : ∀ s ∈ pool ++ [st.copyWithMappedCses pairs], RefInv s := by
            intro s hs
            simp only [List.mem_append, List.mem_singleton] at hs
            rcases hs with hs | rfl
            · exact hp s hs
            · exact refInv_copyMapped st pairs hst
          obtain ⟨a, b, c⟩ := ih _ o2 p2 hp1 h2
          refine ⟨a, ?_, trivial, c⟩
          intro j s hj
          have hlt : j < pool.length := by
            rcases Nat.lt_or_ge j pool.length with hh | hh
            · exact hh
            · rw [List.getElem?_eq_none hh] at hj; cases hj
          exact b j s (by rw [List.getElem?_append_left hlt]; exact hj)


/-! ### pools whose copies are all made before anything is hoisted -/

def isPlainCopy : COpn → Bool
  | .copy _ => true
  | .copyMapped _ [] => true
  | _ => false

def isEmit : COpn → Bool
  | .emit _ _ => true
  | _ => false

/-- nothing hoisted yet -/
def Fresh (st : CSt) : Prop := st.nameList = [] ∧ st.toName = [] ∧ st.names = []

theorem Fresh.inv {st : CSt} (h : Fresh st) : Inv st := by
  obtain ⟨h1, h2, h3⟩ := h
  constructor <;> simp [CSt.assigned, h1, h2, h3]

theorem Fresh.copy {st : CSt} (h : Fresh st) : Fresh st.copy := by
  obtain ⟨h1, _, _⟩ := h
  simp [Fresh, CSt.copy, CSt.ofList, h1]

theorem Fresh.copyMapped {st : CSt} (h : Fresh st) : Fresh (st.copyWithMappedCses []) := by
  obtain ⟨h1, _, _⟩ := h
  simp [Fresh, CSt.copyWithMappedCses, CSt.ofList, h1]

theorem runOps_emits_inv (S : PrintPrec) : ∀ ops pool outs pool',
    (∀ op ∈ ops, isEmit op = true) → (∀ st ∈ pool, Inv st) →
    runOps S pool ops = .ok (outs, pool') → ∀ st ∈ pool', Inv st := by
  intro ops
  induction ops with
  | nil =>
    intro pool outs pool' _ hp h
    simp only [runOps, pure, Except.pure, Except.ok.injEq, Prod.mk.injEq] at h
    obtain ⟨_, rfl⟩ := h
    exact hp
  | cons op rest ih =>
    intro pool outs pool' hops hp h
    have hrest : ∀ op ∈ rest, isEmit op = true := fun o ho => hops o (by simp [ho])
    cases op with
    | emit i e =>
      simp only [runOps] at h
      cases hi : pool[i]? with
      | none => simp [hi, throw, throwThe, MonadExceptOf.throw] at h
      | some st =>
        simp only [hi, bind, Except.bind] at h
        cases h1 : ccode S st e with
        | error err => simp [h1] at h
        | ok v =>
          obtain ⟨d1, r1, st1⟩ := v
          simp only [h1] at h
          cases h2 : runOps S (pool.set i st1) rest with
          | error err => simp [h2] at h
          | ok w =>
            obtain ⟨o2, p2⟩ := w
            simp only [h2, pure, Except.pure, Except.ok.injEq, Prod.mk.injEq] at h
            obtain ⟨_, rfl⟩ := h
            have hst : Inv st := hp st (List.mem_of_getElem? hi)
            have i1 : Inv st1 := ccodeE_inv S _ st e _ d1 r1 st1 hst h1
            refine ih (pool.set i st1) o2 p2 hrest ?_ h2
            intro s hs
            rcases List.mem_or_eq_of_mem_set hs with hs | hs
            · exact hp s hs
            · subst hs; exact i1
    | copy i => have := hops (.copy i) (by simp); simp [isEmit] at this
    | copyMapped i pairs => have := hops (.copyMapped i pairs) (by simp); simp [isEmit] at this

theorem runOps_copies_first_inv (S : PrintPrec) (ems : List COpn)
    (hems : ∀ op ∈ ems, isEmit op = true) : ∀ cps pool outs pool',
    (∀ op ∈ cps, isPlainCopy op = true) → (∀ st ∈ pool, Fresh st) →
    runOps S pool (cps ++ ems) = .ok (outs, pool') → ∀ st ∈ pool', Inv st := by
  intro cps
  induction cps with
  | nil =>
    intro pool outs pool' _ hp h
    exact runOps_emits_inv S ems pool outs pool' hems (fun st hst => (hp st hst).inv) h
  | cons op rest ih =>
    intro pool outs pool' hops hp h
    have hrest : ∀ op ∈ rest, isPlainCopy op = true := fun o ho => hops o (by simp [ho])
    cases op with
    | emit i e => have := hops (.emit i e) (by simp); simp [isPlainCopy] at this
    | copy i =>
      simp only [List.cons_append, runOps] at h
      cases hi : pool[i]? with
      | none => simp [hi, throw, throwThe, MonadExceptOf.throw] at h
      | some st =>
        simp only [hi, bind, Except.bind] at h
        cases h2 : runOps S (pool ++ [st.copy]) (rest ++ ems) with
        | error err => simp [h2] at h
        | ok w =>
          obtain ⟨o2, p2⟩ := w
          simp only [h2, pure, Except.pure, Except.ok.injEq, Prod.mk.injEq] at h
          obtain ⟨_, rfl⟩ := h
          refine ih _ o2 p2 hrest ?_ h2
          intro s hs
          simp only [List.mem_append, List.mem_singleton] at hs
          rcases hs with hs | rfl
          · exact hp s hs
          · exact (hp st (List.mem_of_getElem? hi)).copy
    | copyMapped i pairs =>
      have hpl := hops (.copyMapped i pairs) (by simp)
      cases pairs with
      | cons x xs => simp [isPlainCopy] at hpl
      | nil =>
        simp only [List.cons_append, runOps] at h
        cases hi : pool[i]? with
        | none => simp [hi, throw, throwThe, MonadExceptOf.throw] at h
        | some st =>
          simp only [hi, bind, Except.bind] at h
          cases h2 : runOps S (pool ++ [st.copyWithMappedCses []]) (rest ++ ems) with
          | error err => simp [h2] at h
          | ok w =>
            obtain ⟨o2, p2⟩ := w
            simp only [h2, pure, Except.pure, Except.ok.injEq, Prod.mk.injEq] at h
            obtain ⟨_, rfl⟩ := h
            refine ih _ o2 p2 hrest ?_ h2
            intro s hs
            simp only [List.mem_append, List.mem_singleton] at hs
            rcases hs with hs | rfl
            · exact hp s hs
            · exact (hp st (List.mem_of_getElem? hi)).copyMapped

end PV.C14
