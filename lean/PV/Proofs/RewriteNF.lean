import PV.Proofs.RewriteSound
/-
  C11, part 2: the normal form reached by `flatten` (no sum directly under a sum, no product
  directly under a product, no zero operand in a sum, no zero / one operand in a product — at
  every depth).  ("At most one constant operand" for the constant folders: RewriteFoldNF.lean.)
-/
namespace PV

/-- admissible operand of a flattened sum: not a sum, not zero (`is_zero`, i.e. falsy) -/
def sumChildOk (c : Expr) : Bool := !isSum c && !c.isZero
/-- admissible operand of a flattened product: not a product, not zero, not one -/
def prodChildOk (c : Expr) : Bool := !isProdE c && !c.isZero && !c.isOne

mutual
/-- every Sum / Product node of the tree (at any depth) has admissible operands only -/
def Expr.flatNF : Expr → Bool
  | .nary .sum cs => Expr.flatNFL cs && cs.all sumChildOk
  | .nary .prod cs => Expr.flatNFL cs && cs.all prodChildOk
  | .nary _ cs => Expr.flatNFL cs
  | .bin _ a b => a.flatNF && b.flatNF
  | .un _ a => a.flatNF
  | .cmp _ a b => a.flatNF && b.flatNF
  | .ite c t e => c.flatNF && t.flatNF && e.flatNF
  | .call f as => f.flatNF && Expr.flatNFL as
  | .callKw f as _ vs => f.flatNF && Expr.flatNFL as && Expr.flatNFL vs
  | .subscript a i => a.flatNF && i.flatNF
  | .lookup a _ => a.flatNF
  | .cse c _ _ => c.flatNF
  | .subst c _ xs => c.flatNF && Expr.flatNFL xs
  | .deriv c _ => c.flatNF
  | .slice cs => Expr.flatNFL cs
  | .tuple cs => Expr.flatNFL cs
  | .list cs => Expr.flatNFL cs
  | _ => true
def Expr.flatNFL : List Expr → Bool
  | [] => true
  | c :: cs => c.flatNF && Expr.flatNFL cs
end

theorem flatNFL_append : ∀ (as bs : List Expr),
    Expr.flatNFL (as ++ bs) = (Expr.flatNFL as && Expr.flatNFL bs)
  | [], bs => by simp [Expr.flatNFL]
  | a :: as, bs => by simp [Expr.flatNFL, flatNFL_append as bs, Bool.and_assoc]

theorem flatNFL_forall₂ {f : Expr → RwR} (hf : ∀ c c', f c = .ok c' → c'.flatNF = true) :
    ∀ {cs cs' : List Expr}, List.Forall₂ (fun c c' => f c = .ok c') cs cs' →
      Expr.flatNFL cs' = true
  | _, _, .nil => rfl
  | _, _, .cons hc hcs => by
      simp only [Expr.flatNFL, Bool.and_eq_true]
      exact ⟨hf _ _ hc, flatNFL_forall₂ hf hcs⟩

theorem flatNF_zero : zero.flatNF = true := rfl
theorem flatNF_one : one.flatNF = true := rfl

/-! ### the queue loops produce admissible operands only -/

theorem flattenedSumLoop_nf : ∀ (fuel : Nat) (queue done : List Expr),
    Expr.flatNFL queue = true → Expr.flatNFL done = true → done.all sumChildOk = true →
    Expr.flatNFL (flattenedSumLoop fuel queue done) = true ∧
      (flattenedSumLoop fuel queue done).all sumChildOk = true
  | 0, _, _, _, hd, hd' => by simp only [flattenedSumLoop]; exact ⟨hd, hd'⟩
  | _ + 1, [], _, _, hd, hd' => by simp only [flattenedSumLoop]; exact ⟨hd, hd'⟩
  | fuel + 1, item :: queue, done, hq, hd, hd' => by
      simp only [Expr.flatNFL, Bool.and_eq_true] at hq
      simp only [flattenedSumLoop]
      split
      · exact flattenedSumLoop_nf fuel queue done hq.2 hd hd'
      · rename_i hz
        split
        · apply flattenedSumLoop_nf fuel _ done _ hd hd'
          rw [flatNFL_append, hq.2]
          have := hq.1
          simp only [Expr.flatNF, Bool.and_eq_true] at this
          simp [this.1]
        · rename_i hns
          apply flattenedSumLoop_nf fuel queue (done ++ [item]) hq.2
          · rw [flatNFL_append, hd]; simp [Expr.flatNFL, hq.1]
          · rw [List.all_append, hd']
            have : isSum item = false := by
              cases item <;> simp only [isSum]
            simp [sumChildOk, this, hz]

theorem flattenedSum_nf {terms : List Expr} (h : Expr.flatNFL terms = true) :
    (flattenedSum terms).flatNF = true := by
  have := flattenedSumLoop_nf (Expr.sizeL terms + terms.length + 1) terms [] h rfl rfl
  simp only [flattenedSum]
  generalize flattenedSumLoop (Expr.sizeL terms + terms.length + 1) terms [] = L at this ⊢
  rcases L with _ | ⟨x, _ | ⟨y, ys⟩⟩
  · exact flatNF_zero
  · simpa [Expr.flatNFL] using this.1
  · simp only [Expr.flatNF, Bool.and_eq_true]; exact this

theorem flattenedProductLoop_nf : ∀ (fuel : Nat) (queue done : List Expr),
    Expr.flatNFL queue = true → Expr.flatNFL done = true → done.all prodChildOk = true →
    ∀ xs, flattenedProductLoop fuel queue done = some xs →
      Expr.flatNFL xs = true ∧ xs.all prodChildOk = true
  | 0, _, _, _, hd, hd', xs, h => by
      simp only [flattenedProductLoop, Option.some.injEq] at h; subst h; exact ⟨hd, hd'⟩
  | _ + 1, [], _, _, hd, hd', xs, h => by
      simp only [flattenedProductLoop, Option.some.injEq] at h; subst h; exact ⟨hd, hd'⟩
  | fuel + 1, item :: queue, done, hq, hd, hd', xs, h => by
      simp only [Expr.flatNFL, Bool.and_eq_true] at hq
      simp only [flattenedProductLoop] at h
      split at h
      · contradiction
      · rename_i hz
        split at h
        · exact flattenedProductLoop_nf fuel queue done hq.2 hd hd' xs h
        · rename_i h1
          split at h
          · refine flattenedProductLoop_nf fuel _ done ?_ hd hd' xs h
            rw [flatNFL_append, hq.2]
            have := hq.1
            simp only [Expr.flatNF, Bool.and_eq_true] at this
            simp [this.1]
          · rename_i hnp
            refine flattenedProductLoop_nf fuel queue (done ++ [item]) hq.2 ?_ ?_ xs h
            · rw [flatNFL_append, hd]; simp [Expr.flatNFL, hq.1]
            · rw [List.all_append, hd']
              have : isProdE item = false := by
                cases item <;> simp only [isProdE]
              simp [prodChildOk, this, hz, h1]

theorem flattenedProduct_nf {terms : List Expr} (h : Expr.flatNFL terms = true) :
    (flattenedProduct terms).flatNF = true := by
  have := flattenedProductLoop_nf (Expr.sizeL terms + terms.length + 1) terms [] h rfl rfl
  simp only [flattenedProduct]
  generalize flattenedProductLoop (Expr.sizeL terms + terms.length + 1) terms [] = L at this ⊢
  rcases L with _ | _ | ⟨x, _ | ⟨y, ys⟩⟩
  · exact flatNF_zero
  · exact flatNF_one
  · simpa [Expr.flatNFL] using (this _ rfl).1
  · simp only [Expr.flatNF, Bool.and_eq_true]; exact this _ rfl

theorem flatProd_nf {items : List Expr} {e : Expr} (h : flatProd items = .ok e)
    (hn : Expr.flatNFL items = true) : e.flatNF = true := by
  simp only [flatProd] at h
  split at h
  · contradiction
  · injection h with h; subst h; exact flattenedProduct_nf hn

/-! ### the inherited handlers keep the normal form of the mapped children -/

theorem mapOpt_nf {rec : Expr → RwR} (hrec : ∀ c c', rec c = .ok c' → c'.flatNF = true)
    (c c' : Expr) (h : mapOpt rec c = .ok c') : c'.flatNF = true := by
  unfold mapOpt at h
  split at h
  · simp only [pure, Except.pure] at h; injection h with h; subst h; rfl
  · exact hrec _ _ h

/-- an inherited handler keeps the normal form; n-ary nodes are left out: sums and products have
handlers of their own, the other n-ary classes are `idMap_nary_nf` -/
theorem idMap_nf {rec : Expr → RwR} (hrec : ∀ c c', rec c = .ok c' → c'.flatNF = true)
    {e e' : Expr} (h : idMap rec e = .ok e') : e'.flatNF = true ∨ (∃ o cs, e = .nary o cs) := by
  cases e with
  | nary o cs => exact .inr ⟨o, cs, rfl⟩
  | const c =>
    left
    cases c <;> simp only [idMap, pure, Except.pure, throw, throwThe, MonadExceptOf.throw] at h <;>
      first | contradiction | (injection h with h; subst h; rfl)
  | var x | nan | wildcard | dotWild n | starWild n | funcSym =>
    left; simp only [idMap, pure, Except.pure] at h; injection h with h; subst h; rfl
  | bin o a b | cmp o a b | subscript a b =>
    left
    simp only [idMap] at h
    obtain ⟨a', ha, h⟩ := bind_ok h
    obtain ⟨b', hb, h⟩ := bind_ok h
    simp only [pure, Except.pure] at h; injection h with h; subst h
    simp [Expr.flatNF, hrec _ _ ha, hrec _ _ hb]
  | un o a | lookup a n | deriv a vs =>
    left
    simp only [idMap] at h
    obtain ⟨a', ha, h⟩ := bind_ok h
    simp only [pure, Except.pure] at h; injection h with h; subst h
    simp [Expr.flatNF, hrec _ _ ha]
  | ite c t e =>
    left
    simp only [idMap] at h
    obtain ⟨a', ha, h⟩ := bind_ok h
    obtain ⟨b', hb, h⟩ := bind_ok h
    obtain ⟨c', hc, h⟩ := bind_ok h
    simp only [pure, Except.pure] at h; injection h with h; subst h
    simp [Expr.flatNF, hrec _ _ ha, hrec _ _ hb, hrec _ _ hc]
  | call f as | subst f vs as =>
    left
    simp only [idMap] at h
    obtain ⟨a', ha, h⟩ := bind_ok h
    obtain ⟨b', hb, h⟩ := bind_ok h
    simp only [pure, Except.pure] at h; injection h with h; subst h
    simp [Expr.flatNF, hrec _ _ ha, flatNFL_forall₂ hrec (mapM_ok hb)]
  | callKw f as ns vs =>
    left
    simp only [idMap] at h
    obtain ⟨a', ha, h⟩ := bind_ok h
    obtain ⟨b', hb, h⟩ := bind_ok h
    obtain ⟨c', hc, h⟩ := bind_ok h
    simp only [pure, Except.pure] at h; injection h with h; subst h
    simp [Expr.flatNF, hrec _ _ ha, flatNFL_forall₂ hrec (mapM_ok hb),
      flatNFL_forall₂ hrec (mapM_ok hc)]
  | cse c p s =>
    left
    simp only [idMap] at h
    obtain ⟨c', hc, h⟩ := bind_ok h
    split at h <;> simp only [pure, Except.pure] at h <;> injection h with h <;> subst h
    · rfl
    · simp [Expr.flatNF, hrec _ _ hc]
  | slice cs =>
    left
    simp only [idMap] at h
    obtain ⟨cs', hcs, h⟩ := bind_ok h
    simp only [pure, Except.pure] at h; injection h with h; subst h
    simp [Expr.flatNF, flatNFL_forall₂ (mapOpt_nf hrec) (mapM_ok hcs)]
  | tuple cs | list cs =>
    left
    simp only [idMap] at h
    obtain ⟨cs', hcs, h⟩ := bind_ok h
    simp only [pure, Except.pure] at h; injection h with h; subst h
    simp [Expr.flatNF, flatNFL_forall₂ hrec (mapM_ok hcs)]

/-- `idMap` on an n-ary node other than Sum / Product -/
theorem idMap_nary_nf {rec : Expr → RwR} (hrec : ∀ c c', rec c = .ok c' → c'.flatNF = true)
    {o : NaryOp} {cs : List Expr} {e' : Expr} (ho : o ≠ .sum) (ho' : o ≠ .prod)
    (h : idMap rec (.nary o cs) = .ok e') : e'.flatNF = true := by
  simp only [idMap] at h
  obtain ⟨cs', hcs, h⟩ := bind_ok h
  simp only [pure, Except.pure] at h; injection h with h; subst h
  cases o <;> first | contradiction | simp [Expr.flatNF, flatNFL_forall₂ hrec (mapM_ok hcs)]

/-- **Normal form of `flatten`**: in the result no Sum has a Sum or a zero operand and no Product
has a Product, a zero or a one operand — at every depth, for every input on which `flatten`
returns.  No hypothesis on the input is needed. -/
theorem flattenM_nf : ∀ (fuel : Nat) (e e' : Expr), flattenM fuel e = .ok e' → e'.flatNF = true
  | 0, _, _, h => by simp [flattenM, throw, throwThe, MonadExceptOf.throw] at h
  | fuel + 1, e, e', h => by
      have ih := flattenM_nf fuel
      cases e with
      | nary o cs =>
        cases o with
        | sum =>
          simp only [flattenM] at h
          obtain ⟨cs', hcs, h⟩ := bind_ok h
          simp only [pure, Except.pure] at h; injection h with h; subst h
          exact flattenedSum_nf (flatNFL_forall₂ ih (mapM_ok hcs))
        | prod =>
          simp only [flattenM] at h
          obtain ⟨cs', hcs, h⟩ := bind_ok h
          exact flatProd_nf h (flatNFL_forall₂ ih (mapM_ok hcs))
        | _ =>
          simp only [flattenM] at h
          exact idMap_nary_nf ih (by decide) (by decide) h
      | _ =>
        simp only [flattenM] at h
        rcases idMap_nf ih h with h' | ⟨o, cs, h'⟩
        · exact h'
        · cases h'

/-! ### the normal form claimed for `expand` on polynomial expressions -/

mutual
/-- the polynomial fragment: integer constants, variables, sums, products, powers with a positive
integer-literal exponent -/
def Expr.isPoly : Expr → Bool
  | .const (.int _) => true
  | .var _ => true
  | .nary .sum cs => Expr.isPolyL cs
  | .nary .prod cs => Expr.isPolyL cs
  | .bin .pow a (.const (.int n)) => decide (0 < n) && a.isPoly
  | _ => false
def Expr.isPolyL : List Expr → Bool
  | [] => true
  | c :: cs => c.isPoly && Expr.isPolyL cs
end

mutual
/-- does the tree contain a Sum node? -/
def Expr.hasSum : Expr → Bool
  | .nary .sum _ => true
  | .nary _ cs => Expr.hasSumL cs
  | .bin _ a b => a.hasSum || b.hasSum
  | .cse c _ _ => c.hasSum
  | _ => false
def Expr.hasSumL : List Expr → Bool
  | [] => false
  | c :: cs => c.hasSum || Expr.hasSumL cs
end

mutual
/-- "no sum beneath a product or an integer power" -/
def Expr.expandedNF : Expr → Bool
  | .nary .prod cs => !Expr.hasSumL cs
  | .nary .sum cs => Expr.expandedNFL cs
  | .bin .pow a (.const (.int _)) => !a.hasSum
  | _ => true
def Expr.expandedNFL : List Expr → Bool
  | [] => true
  | c :: cs => c.expandedNF && Expr.expandedNFL cs
end

end PV
