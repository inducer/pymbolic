import PV.Proofs.UnifyAC
/-
  Soundness of the unifier model (C16): records, `unify_map`, the structural rules and
  `map_commut_assoc`.
-/
namespace PV.Unify
open PV
set_option linter.unusedSectionVars false

/-! ### association lists -/

theorem AMap.get_append_some {m n : AMap} {k : String} {v : Expr} (h : AMap.get m k = some v) :
    AMap.get (m ++ n) k = some v := by
  induction m with
  | nil => simp [AMap.get] at h
  | cons p m ih =>
    obtain ⟨k', v'⟩ := p
    simp only [AMap.get, List.cons_append] at h ⊢
    split
    · simp_all
    · rename_i hne; simp only [hne, if_false] at h; exact ih h

theorem AMap.get_append_none {m n : AMap} {k : String} (h : AMap.get m k = none) :
    AMap.get (m ++ n) k = AMap.get n k := by
  induction m with
  | nil => rfl
  | cons p m ih =>
    obtain ⟨k', v'⟩ := p
    simp only [AMap.get, List.cons_append] at h ⊢
    split
    · rename_i heq; simp [heq] at h
    · rename_i hne; simp only [hne, if_false] at h; exact ih h

theorem AMap.get_none_iff {m : AMap} {k : String} : AMap.get m k = none ↔ k ∉ m.keys := by
  induction m with
  | nil => simp [AMap.get, AMap.keys]
  | cons p m ih =>
    obtain ⟨k', v'⟩ := p
    simp only [AMap.get, AMap.keys, List.map_cons, List.mem_cons, not_or]
    split
    · rename_i heq; simp [heq]
    · rename_i hne
      simp only [AMap.keys] at ih
      rw [ih]
      exact ⟨fun h => ⟨fun h' => hne h'.symm, h⟩, fun h => h.2⟩

theorem AMap.get_some_mem_keys {m : AMap} {k : String} {v : Expr} (h : AMap.get m k = some v) :
    k ∈ m.keys := by
  refine Decidable.byContradiction fun hk => ?_
  rw [← AMap.get_none_iff] at hk
  simp [hk] at h

theorem AMap.get_of_mem_nodup {m : AMap} (hn : m.keys.Nodup) {k : String} {v : Expr}
    (h : (k, v) ∈ m) : AMap.get m k = some v := by
  induction m with
  | nil => simp at h
  | cons p m ih =>
    obtain ⟨k', v'⟩ := p
    simp only [AMap.keys, List.map_cons, List.nodup_cons] at hn
    simp only [List.mem_cons, Prod.mk.injEq] at h
    simp only [AMap.get]
    rcases h with ⟨rfl, rfl⟩ | h
    · simp
    · have : k' ≠ k := by
        rintro rfl
        exact hn.1 (List.mem_map.2 ⟨(k', v), h, rfl⟩)
      simp only [this, if_false]
      exact ih hn.2 h

/-! ### `unify_map` -/

theorem unifyMapGo_spec (m1 : AMap) : ∀ (m2 res out : AMap), unifyMapGo m1 res m2 = some out →
    ∃ added : AMap, out = res ++ added ∧ added.Sublist m2 ∧
      (∀ p ∈ added, AMap.get m1 p.1 = none) ∧
      (∀ p ∈ m2, (∃ v1, AMap.get m1 p.1 = some v1 ∧ v1.pyEq p.2 = true) ∨ p ∈ added)
  | [], res, out, h => by
    simp only [unifyMapGo, Option.some.injEq] at h
    exact ⟨[], by simp [h], .slnil, by simp, by simp⟩
  | (k, v) :: rest, res, out, h => by
    simp only [unifyMapGo] at h
    split at h
    · rename_i v1 hv1
      split at h
      · rename_i hpy
        obtain ⟨added, h1, h2, h3, h4⟩ := unifyMapGo_spec m1 rest res out h
        refine ⟨added, h1, h2.cons _, h3, ?_⟩
        intro p hp
        rcases List.mem_cons.1 hp with rfl | hp
        · exact Or.inl ⟨v1, hv1, hpy⟩
        · exact h4 p hp
      · simp at h
    · rename_i hnone
      obtain ⟨added, h1, h2, h3, h4⟩ := unifyMapGo_spec m1 rest (res ++ [(k, v)]) out h
      refine ⟨(k, v) :: added, by simp [h1], h2.cons_cons _, ?_, ?_⟩
      · intro p hp
        rcases List.mem_cons.1 hp with rfl | hp
        · exact hnone
        · exact h3 p hp
      · intro p hp
        rcases List.mem_cons.1 hp with rfl | hp
        · exact Or.inr (by simp)
        · rcases h4 p hp with h | h
          · exact Or.inl h
          · exact Or.inr (by simp [h])

theorem AMap.get_some_mem {m : AMap} {k : String} {v : Expr} (h : AMap.get m k = some v) :
    (k, v) ∈ m := by
  induction m with
  | nil => simp [AMap.get] at h
  | cons p m ih =>
    obtain ⟨k', v'⟩ := p
    simp only [AMap.get] at h
    split at h
    · rename_i heq; simp only [Option.some.injEq] at h; simp [heq, h]
    · exact List.mem_cons_of_mem _ (ih h)

/-! ### records -/

/-- a record binds only candidates, each at most once -/
def Good (cands : List String) (r : URec) : Prop :=
  (∀ k ∈ r.lmap.keys, k ∈ cands) ∧ r.lmap.keys.Nodup

/-- `r` keeps every binding of `u` -/
def ExtEq (u r : URec) : Prop := ∀ k v, u.lmap.get k = some v → r.lmap.get k = some v

/-- `r` binds every variable of `u`, to an AC-equal value -/
def Ext (u r : URec) : Prop :=
  ∀ k v, u.lmap.get k = some v → ∃ v', r.lmap.get k = some v' ∧ ACEq v v'

theorem ExtEq.toExt {u r : URec} (h : ExtEq u r) : Ext u r :=
  fun k v hk => ⟨v, h k v hk, .refl v⟩

theorem Ext.refl (u : URec) : Ext u u := fun _ v hk => ⟨v, hk, .refl v⟩

theorem Ext.trans {a b c : URec} (h1 : Ext a b) (h2 : Ext b c) : Ext a c := by
  intro k v hk
  obtain ⟨v', hv', e1⟩ := h1 k v hk
  obtain ⟨v'', hv'', e2⟩ := h2 k v' hv'
  exact ⟨v'', hv'', e1.trans e2⟩

theorem ExtEq.trans {a b c : URec} (h1 : ExtEq a b) (h2 : ExtEq b c) : ExtEq a c :=
  fun k v hk => h2 k v (h1 k v hk)

theorem good_empty (cands : List String) : Good cands URec.empty := by
  simp [Good, URec.empty, AMap.keys]

theorem ext_empty (r : URec) : Ext URec.empty r := by
  intro k v hk; simp [URec.empty, AMap.get] at hk

/-- `UnificationRecord.unify`: the merged record keeps the bindings of the receiver and has
AC-equal (in fact `==`-equal) values for those of the argument -/
theorem unify_spec {cands : List String} {a b r : URec} (ha : Good cands a) (hb : Good cands b)
    (h : a.unify b = some r) : Good cands r ∧ ExtEq a r ∧ Ext b r := by
  unfold URec.unify at h
  split at h
  · simp at h
  · rename_i l hl
    split at h
    · simp at h
    · rename_i r' _
      simp only [Option.some.injEq] at h
      subst h
      obtain ⟨added, h1, h2, h3, h4⟩ := unifyMapGo_spec a.lmap b.lmap a.lmap l hl
      have hkeys : added.keys.Sublist b.lmap.keys := h2.map _
      have hnd : added.keys.Nodup := hb.2.sublist hkeys
      refine ⟨⟨?_, ?_⟩, ?_, ?_⟩
      · intro k hk
        simp only [h1, AMap.keys, List.map_append, List.mem_append] at hk
        rcases hk with hk | hk
        · exact ha.1 k hk
        · exact hb.1 k (hkeys.subset hk)
      · simp only [h1, AMap.keys, List.map_append]
        refine List.nodup_append.2 ⟨ha.2, hnd, ?_⟩
        intro x hx y hy hxy
        subst hxy
        obtain ⟨p, hp, rfl⟩ := List.mem_map.1 hy
        have := h3 p hp
        rw [AMap.get_none_iff] at this
        exact this hx
      · intro k v hk
        simp only [h1]
        exact AMap.get_append_some hk
      · intro k v hk
        have hmem := AMap.get_some_mem hk
        rcases h4 (k, v) hmem with ⟨v1, hv1, hpy⟩ | hadd
        · exact ⟨v1, by simp only [h1]; exact AMap.get_append_some hv1, (ACEq.py hpy).symm⟩
        · refine ⟨v, ?_, .refl v⟩
          simp only [h1]
          rw [AMap.get_append_none (h3 (k, v) hadd)]
          exact AMap.get_of_mem_nodup hnd hadd

theorem mem_unifyMany {us : List URec} {n r : URec} :
    r ∈ unifyMany us n ↔ ∃ u ∈ us, u.unify n = some r := by
  simp [unifyMany, List.mem_filterMap]

theorem recFromEq_spec {cands : List String} {x : String} {rhs : Expr} {n : URec}
    (h : recFromEq cands x rhs = some n) : x ∈ cands ∧ n.lmap = [(x, rhs)] := by
  unfold recFromEq at h
  split at h <;> simp at h <;> (obtain ⟨h1, rfl⟩ := h; exact ⟨h1, rfl⟩)

theorem good_single {cands : List String} {x : String} {v : Expr} {n : URec} (hx : x ∈ cands)
    (hn : n.lmap = [(x, v)]) : Good cands n := by
  simp [Good, hn, AMap.keys, hx]

/-! ### instantiation under extension of the record -/

/-- every candidate variable of `p` is bound by `r` -/
def Covers (cands : List String) (r : URec) (p : Expr) : Prop :=
  ∀ x ∈ varsOf p, x ∈ cands → x ∈ r.lmap.keys

def CoversL (cands : List String) (r : URec) (ps : List Expr) : Prop :=
  ∀ x ∈ varsOfL ps, x ∈ cands → x ∈ r.lmap.keys

theorem instL_eq_map (m : AMap) : ∀ cs : List Expr, instL m cs = cs.map (inst m)
  | [] => rfl
  | c :: cs => by simp [instL, instL_eq_map m cs]

theorem mem_varsOfL {x : String} : ∀ {cs : List Expr}, x ∈ varsOfL cs ↔ ∃ c ∈ cs, x ∈ varsOf c
  | [] => by simp [varsOfL]
  | c :: cs => by simp [varsOfL, mem_varsOfL (cs := cs)]

section
variable {cands : List String} {u r : URec} (hu : ∀ k ∈ u.lmap.keys, k ∈ cands)
  (hr : ∀ k ∈ r.lmap.keys, k ∈ cands) (hext : Ext u r)
include hu hr hext

theorem inst_ext_var (x : String) (hc : x ∈ cands → x ∈ u.lmap.keys) :
    ACEq (inst u.lmap (.var x)) (inst r.lmap (.var x)) := by
  simp only [inst]
  cases hg : AMap.get u.lmap x with
  | some v =>
    obtain ⟨v', hv', e⟩ := hext x v hg
    simp only [hv']; exact e
  | none =>
    have hxu : x ∉ u.lmap.keys := AMap.get_none_iff.1 hg
    have hxc : x ∉ cands := fun h => hxu (hc h)
    have hxr : x ∉ r.lmap.keys := fun h => hxc (hr x h)
    rw [AMap.get_none_iff.2 hxr]
    exact .refl _

mutual
theorem inst_ext : ∀ p : Expr, Covers cands u p → ACEq (inst u.lmap p) (inst r.lmap p)
  | .var x, h => inst_ext_var hu hr hext x (fun hx => h x (by simp [varsOf]) hx)
  | .const _, _ => by simp only [inst]; exact .refl _
  | .nan, _ => by simp only [inst]; exact .refl _
  | .wildcard, _ => by simp only [inst]; exact .refl _
  | .dotWild _, _ => by simp only [inst]; exact .refl _
  | .starWild _, _ => by simp only [inst]; exact .refl _
  | .funcSym, _ => by simp only [inst]; exact .refl _
  | .nary o cs, h => by
      simp only [inst]; exact .nary o (instL_ext cs (fun x hx => h x (by simpa [varsOf] using hx)))
  | .bin o a b, h => by
      simp only [inst]
      exact .bin o (inst_ext a (fun x hx => h x (by simp [varsOf, hx])))
        (inst_ext b (fun x hx => h x (by simp [varsOf, hx])))
  | .un o a, h => by
      simp only [inst]; exact .un o (inst_ext a (fun x hx => h x (by simpa [varsOf] using hx)))
  | .cmp o a b, h => by
      simp only [inst]
      exact .cmp o (inst_ext a (fun x hx => h x (by simp [varsOf, hx])))
        (inst_ext b (fun x hx => h x (by simp [varsOf, hx])))
  | .ite c t e, h => by
      simp only [inst]
      exact .ite (inst_ext c (fun x hx => h x (by simp [varsOf, hx])))
        (inst_ext t (fun x hx => h x (by simp [varsOf, hx])))
        (inst_ext e (fun x hx => h x (by simp [varsOf, hx])))
  | .call f as, h => by
      simp only [inst]
      exact .call (inst_ext f (fun x hx => h x (by simp [varsOf, hx])))
        (instL_ext as (fun x hx => h x (by simp [varsOf, hx])))
  | .callKw f as ns vs, h => by
      simp only [inst]
      exact .callKw ns (inst_ext f (fun x hx => h x (by simp [varsOf, hx])))
        (instL_ext as (fun x hx => h x (by simp [varsOf, hx])))
        (instL_ext vs (fun x hx => h x (by simp [varsOf, hx])))
  | .subscript a i, h => by
      simp only [inst]
      exact .subscript (inst_ext a (fun x hx => h x (by simp [varsOf, hx])))
        (inst_ext i (fun x hx => h x (by simp [varsOf, hx])))
  | .lookup a n, h => by
      simp only [inst]; exact .lookup n (inst_ext a (fun x hx => h x (by simpa [varsOf] using hx)))
  | .cse a p s, h => by
      simp only [inst]; exact .cse p s (inst_ext a (fun x hx => h x (by simpa [varsOf] using hx)))
  | .subst a vs xs, h => by
      simp only [inst]
      exact .subst vs (inst_ext a (fun x hx => h x (by simp [varsOf, hx])))
        (instL_ext xs (fun x hx => h x (by simp [varsOf, hx])))
  | .deriv a vs, h => by
      simp only [inst]; exact .deriv vs (inst_ext a (fun x hx => h x (by simpa [varsOf] using hx)))
  | .slice cs, h => by
      simp only [inst]; exact .slice (instL_ext cs (fun x hx => h x (by simpa [varsOf] using hx)))
  | .tuple cs, h => by
      simp only [inst]; exact .tuple (instL_ext cs (fun x hx => h x (by simpa [varsOf] using hx)))
  | .list cs, h => by
      simp only [inst]; exact .list (instL_ext cs (fun x hx => h x (by simpa [varsOf] using hx)))
theorem instL_ext : ∀ ps : List Expr, CoversL cands u ps → ACEqL (instL u.lmap ps) (instL r.lmap ps)
  | [], _ => by simp only [instL]; exact .nil
  | p :: ps, h => by
      simp only [instL]
      exact .cons (inst_ext p (fun x hx => h x (by simp [varsOfL, hx])))
        (instL_ext ps (fun x hx => h x (by simp [varsOfL, hx])))
end
end

/-- the record `r` instantiates `p` to `t` (up to AC) and binds every candidate variable of `p` -/
def Sound (cands : List String) (r : URec) (p t : Expr) : Prop :=
  Covers cands r p ∧ ACEq (inst r.lmap p) t

def SoundL (cands : List String) (r : URec) (ps ts : List Expr) : Prop :=
  CoversL cands r ps ∧ ACEqL (instL r.lmap ps) ts

theorem ext_keys {u r : URec} (h : Ext u r) {k : String} (hk : k ∈ u.lmap.keys) :
    k ∈ r.lmap.keys := by
  cases hg : AMap.get u.lmap k with
  | none => exact absurd hk (AMap.get_none_iff.1 hg)
  | some v =>
    obtain ⟨v', hv', _⟩ := h k v hg
    exact AMap.get_some_mem_keys hv'

theorem Sound.ext {cands : List String} {u r : URec} {p t : Expr} (hu : Good cands u)
    (hr : Good cands r) (hext : Ext u r) (h : Sound cands u p t) : Sound cands r p t :=
  ⟨fun x hx hc => ext_keys hext (h.1 x hx hc),
    (inst_ext hu.1 hr.1 hext p h.1).symm.trans h.2⟩

theorem ACEqL.symm' : ∀ {as bs : List Expr}, ACEqL as bs → ACEqL bs as
  | _, _, .nil => .nil
  | _, _, .cons h t => .cons h.symm (ACEqL.symm' t)

theorem ACEqL.trans' : ∀ {as bs cs : List Expr}, ACEqL as bs → ACEqL bs cs → ACEqL as cs
  | _, _, _, .nil, .nil => .nil
  | _, _, _, .cons h t, .cons h' t' => .cons (h.trans h') (ACEqL.trans' t t')

theorem SoundL.ext {cands : List String} {u r : URec} {ps ts : List Expr} (hu : Good cands u)
    (hr : Good cands r) (hext : Ext u r) (h : SoundL cands u ps ts) : SoundL cands r ps ts :=
  ⟨fun x hx hc => ext_keys hext (h.1 x hx hc),
    (instL_ext hu.1 hr.1 hext ps h.1).symm'.trans' h.2⟩

/-! ### `subsets` and `partitions` -/

theorem combinations_spec : ∀ (s : List Nat) (k : Nat) (c : List Nat), c ∈ combinations s k →
    c.Sublist s ∧ c.length = k
  | s, 0, c, h => by
    cases s <;> simp only [combinations, List.mem_singleton] at h <;> subst h <;> simp
  | [], k + 1, c, h => by simp [combinations] at h
  | x :: xs, k + 1, c, h => by
    simp only [combinations, List.mem_append, List.mem_map] at h
    rcases h with ⟨c', hc', rfl⟩ | h
    · have := combinations_spec xs k c' hc'
      exact ⟨this.1.cons_cons x, by simp [this.2]⟩
    · have := combinations_spec xs (k + 1) c h
      exact ⟨this.1.cons x, this.2⟩

theorem subsetsUpTo_spec {s : List Nat} {m : Nat} {c : List Nat} (h : c ∈ subsetsUpTo s m) :
    c.Sublist s ∧ 1 ≤ c.length ∧ c.length ≤ m := by
  simp only [subsetsUpTo, List.mem_flatMap, List.mem_range] at h
  obtain ⟨i, hi, hc⟩ := h
  have := combinations_spec s (i + 1) c hc
  exact ⟨this.1, by omega, by omega⟩

/-- a sublist of a duplicate-free list and its complement -/
theorem sublist_filter_perm : ∀ {c s : List Nat}, c.Sublist s → s.Nodup →
    (c ++ s.filter (fun i => !c.contains i)).Perm s
  | _, _, .slnil, _ => by simp
  | c, _, @List.Sublist.cons _ _ s a h, hn => by
    have hn' := List.nodup_cons.1 hn
    have ha : a ∉ c := fun hc => hn'.1 (h.subset hc)
    have hca : c.contains a = false := by simpa using ha
    simp only [List.filter_cons, hca, Bool.not_false, if_true]
    exact List.perm_middle.trans ((sublist_filter_perm h hn'.2).cons a)
  | _, _, @List.Sublist.cons_cons _ c s a h, hn => by
    have hn' := List.nodup_cons.1 hn
    have hf : ∀ i ∈ s, (!(a :: c).contains i) = (!c.contains i) := by
      intro i hi
      have : i ≠ a := fun e => hn'.1 (e ▸ hi)
      simp [this]
    have hfa : (!(a :: c).contains a) = false := by simp
    rw [List.filter_cons, hfa, List.filter_congr hf]
    exact (sublist_filter_perm h hn'.2).cons a

/-- the shares are non-empty except in one case: `partitions 1 s = [[s]]` hands the only variable
the empty share when `s` is empty (the shape of `PV.C16.unify_sound_emptyLeftover_cex`) -/
theorem partitions_spec : ∀ (k : Nat) (s : List Nat), s.Nodup → ∀ parts ∈ partitions k s,
    parts.length = k ∧ parts.flatten.Perm s ∧ ((k = 1 → s ≠ []) → ∀ part ∈ parts, part ≠ [])
  | 0, _, _, parts, h => by simp [partitions] at h
  | 1, s, _, parts, h => by
    simp only [partitions, List.mem_singleton] at h
    subst h
    refine ⟨rfl, by simp, fun hne part hp => ?_⟩
    simp only [List.mem_singleton] at hp
    subst hp
    exact hne rfl
  | k + 2, s, hn, parts, h => by
    simp only [partitions, List.mem_flatMap, List.mem_map] at h
    obtain ⟨sub, hsub, rest, hrest, rfl⟩ := h
    obtain ⟨hsl, hlen1, hlen2⟩ := subsetsUpTo_spec hsub
    have hperm := sublist_filter_perm hsl hn
    have hnr : (s.filter (fun i => !sub.contains i)).Nodup := hn.filter _
    obtain ⟨h1, h2, h3⟩ := partitions_spec (k + 1) _ hnr rest hrest
    have hlen : sub.length + (s.filter (fun i => !sub.contains i)).length = s.length := by
      have := hperm.length_eq; simpa using this
    refine ⟨by simp [h1], ?_, fun _ part hp => ?_⟩
    · simp only [List.flatten_cons]
      exact (List.Perm.append_left sub h2).trans hperm
    · rcases List.mem_cons.1 hp with rfl | hp
      · intro h0; simp [h0] at hlen1
      · refine h3 (fun _ h0 => ?_) part hp
        rw [h0] at hlen; simp at hlen; omega

/-! ### `match_plain_var_candidates` -/

theorem bindParts_spec {cands : List String} {o : NaryOp} {ds : List Expr} :
    ∀ (zs : List (List Nat × String)) (urec r : URec), Good cands urec →
    bindParts cands o ds urec zs = some r →
    Good cands r ∧ ExtEq urec r ∧
      ∀ z ∈ zs, ∃ v, AMap.get r.lmap z.2 = some v ∧
        ACEq v (factory o (z.1.map (fun i => ds.getD i zero)))
  | [], urec, r, hg, h => by
    simp only [bindParts, Option.some.injEq] at h
    subst h
    exact ⟨hg, fun _ _ h => h, by simp⟩
  | (subset, x) :: rest, urec, r, hg, h => by
    simp only [bindParts] at h
    split at h
    · simp at h
    · rename_i n hn
      split at h
      · simp at h
      · rename_i u hu
        obtain ⟨hx, hnl⟩ := recFromEq_spec hn
        obtain ⟨hgu, he1, he2⟩ := unify_spec hg (good_single hx hnl) hu
        obtain ⟨hgr, he3, hrest⟩ := bindParts_spec rest u r hgu h
        refine ⟨hgr, he1.trans he3, ?_⟩
        intro z hz
        rcases List.mem_cons.1 hz with rfl | hz
        · have hget : AMap.get n.lmap x
              = some (factory o (subset.map (fun i => ds.getD i zero))) := by
            rw [hnl]; simp only [AMap.get, if_true]
          obtain ⟨v', hv', e⟩ := he2 x _ hget
          exact ⟨v', he3 x v' hv', e.symm⟩
        · exact hrest z hz

theorem ACEqL_of_zip {α β : Type} (f : α → Expr) (g : β → Expr) : ∀ (as : List α) (bs : List β),
    as.length = bs.length → (∀ z ∈ as.zip bs, ACEq (f z.1) (g z.2)) →
    ACEqL (as.map f) (bs.map g)
  | [], [], _, _ => .nil
  | a :: as, b :: bs, hl, h => by
    simp only [List.length_cons, Nat.add_right_cancel_iff] at hl
    exact .cons (h (a, b) (by simp)) (ACEqL_of_zip f g as bs hl (fun z hz => h z (by simp [hz])))
  | [], _ :: _, hl, _ => by simp at hl
  | _ :: _, [], hl, _ => by simp at hl

/-- what a successful run of `match_plain_var_candidates` provides: the leftovers are split into
one share per plain variable, and the variable is bound to (something AC-equal to) the sum /
product of its share -/
def PlainOk (o : NaryOp) (ds : List Expr) (plain : List String) (left : List Nat) (r : URec) : Prop :=
  ∃ parts : List (List Nat), parts.length = plain.length ∧ parts.flatten.Perm left ∧
    ∀ z ∈ parts.zip plain, ∃ v, AMap.get r.lmap z.2 = some v ∧
      ACEq v (.nary o (z.1.map (fun i => ds.getD i zero)))

theorem getD_mem {ds : List Expr} {i : Nat} (h : i < ds.length) : ds.getD i zero ∈ ds := by
  simp [List.getD_eq_getElem?_getD, List.getElem?_eq_getElem h]

theorem matchPlain_spec {cands : List String} {o : NaryOp} (hac : isAC o) {plain : List String}
    {hasNonvar : Bool} {ds : List Expr} {urecs : List URec} {urec : URec} {left : List Nat}
    (hds : CleanQ o ds) (hleft : ∀ i ∈ left, i < ds.length) (hnd : left.Nodup)
    (hurecs : ∀ u ∈ urecs, Good cands u) (hg : Good cands urec)
    (hlt : plain.length = 1 → left ≠ [])
    (hnv : hasNonvar = true → ∃ u0 ∈ urecs, Ext u0 urec)
    (hnv' : hasNonvar = false → urec = URec.empty ∧ plain ≠ []) :
    ∀ r ∈ matchPlain cands o plain hasNonvar ds urecs urec left,
      Good cands r ∧ (∃ u0 ∈ urecs, Ext u0 r) ∧ Ext urec r ∧ PlainOk o ds plain left r := by
  intro r hr
  unfold matchPlain at hr
  split at hr
  · rename_i hemp
    simp only [Bool.and_eq_true, List.isEmpty_iff] at hemp
    simp only [List.mem_singleton] at hr
    subst hr
    have hnvt : hasNonvar = true := by
      cases hh : hasNonvar with
      | true => rfl
      | false => exact absurd hemp.1 (hnv' hh).2
    exact ⟨hg, hnv hnvt, Ext.refl _, [], by simp [hemp.1], by simp [hemp.2], by simp⟩
  · -- one consistent partition `part`, giving `res`
    have key : ∀ part ∈ partitions plain.length left, ∀ res,
        bindParts cands o ds urec (part.zip plain) = some res →
        Good cands res ∧ ExtEq urec res ∧ PlainOk o ds plain left res := by
      intro part hpart res hres
      obtain ⟨hp1, hp2, hp3⟩ := partitions_spec plain.length left hnd part hpart
      obtain ⟨hgr, he, hz⟩ := bindParts_spec _ urec res hg hres
      refine ⟨hgr, he, part, hp1, hp2, ?_⟩
      intro z hzm
      obtain ⟨v, hv, e⟩ := hz z hzm
      refine ⟨v, hv, e.trans (factory_ac hac _ ?_ ?_)⟩
      · have hz1 : z.1 ∈ part := (List.of_mem_zip hzm).1
        have := hp3 hlt z.1 hz1
        simpa using this
      · intro e' he'
        obtain ⟨i, hi, rfl⟩ := List.mem_map.1 he'
        have hz1 : z.1 ∈ part := (List.of_mem_zip hzm).1
        have hil : i ∈ left := hp2.subset (List.mem_flatten.2 ⟨z.1, hz1, hi⟩)
        exact hds _ (getD_mem (hleft i hil))
    simp only at hr
    split at hr
    · rename_i hnvt
      have hmem := List.mem_of_mem_head? (Option.mem_toList.1 hr)
      obtain ⟨part, hpart, hres⟩ := List.mem_filterMap.1 hmem
      obtain ⟨h1, h2, h3⟩ := key part hpart r hres
      obtain ⟨u0, hu0, e0⟩ := hnv hnvt
      exact ⟨h1, ⟨u0, hu0, e0.trans h2.toExt⟩, h2.toExt, h3⟩
    · rename_i hnvf
      simp only [Bool.not_eq_true] at hnvf
      obtain ⟨res, hresm, hrm⟩ := List.mem_flatMap.1 hr
      obtain ⟨part, hpart, hres⟩ := List.mem_filterMap.1 hresm
      obtain ⟨h1, _, parts, hp1, hp2, hp3⟩ := key part hpart res hres
      obtain ⟨u, hu, hur⟩ := mem_unifyMany.1 hrm
      obtain ⟨hgr, he1, he2⟩ := unify_spec (hurecs u hu) h1 hur
      refine ⟨hgr, ⟨u, hu, he1.toExt⟩, ?_, parts, hp1, hp2, ?_⟩
      · rw [(hnv' hnvf).1]; exact ext_empty r
      · intro z hz
        obtain ⟨v, hv, e⟩ := hp3 z hz
        obtain ⟨v', hv', e'⟩ := he2 _ v hv
        exact ⟨v', hv', e'.symm.trans e⟩

/-! ### `match_children` -/

abbrev Row := List (Nat × List URec)

/-- what a row of `unification_candidates` promises about the non-plain pattern operand `c` -/
def RowOk (cands : List String) (ds : List Expr) (urecs : List URec) (c : Expr) (row : Row) : Prop :=
  ∀ p ∈ row, p.1 < ds.length ∧ ∀ pr ∈ p.2,
    Good cands pr ∧ (∃ u0 ∈ urecs, Ext u0 pr) ∧ Sound cands pr c (ds.getD p.1 zero)

def RowsOk (cands : List String) (ds : List Expr) (urecs : List URec) : List Expr → List Row → Prop
  | [], [] => True
  | c :: cs, row :: t => RowOk cands ds urecs c row ∧ RowsOk cands ds urecs cs t
  | _, _ => False

/-- what a record produced by `map_commut_assoc` provides: the non-plain operands `ncs` are matched
to distinct target operands `js`, the rest of the target operands is split among the plain
variables -/
def ChildrenOk (cands : List String) (o : NaryOp) (ds : List Expr) (plain : List String)
    (ncs : List Expr) (r : URec) : Prop :=
  ∃ (js : List Nat) (parts : List (List Nat)), js.length = ncs.length ∧
    (∀ z ∈ ncs.zip js, Sound cands r z.1 (ds.getD z.2 zero)) ∧
    parts.length = plain.length ∧ (js ++ parts.flatten).Perm (List.range ds.length) ∧
    ∀ z ∈ parts.zip plain, ∃ v, AMap.get r.lmap z.2 = some v ∧
      ACEq v (.nary o (z.1.map (fun i => ds.getD i zero)))

/-- The invariant of `match_children`: `dcs` are the non-plain operands of the pattern matched so
far, `djs` the target positions they took (in range, so the default `zero` of `getD` never shows),
`left` the positions still free, `ncs` / `table` the operands and rows still to do.  The last three
hypotheses are the guards in the form the recursion keeps: `hasNonvar` says whether the pattern has
a non-plain operand at all, one plain variable never meets a target with as many operands as the
pattern has non-plain ones (arity guard: its share would be empty), and the pattern is not empty. -/
theorem matchChildren_spec {cands : List String} {o : NaryOp} (hac : isAC o) {plain : List String}
    {hasNonvar : Bool} {ds : List Expr} {urecs : List URec}
    (hds : CleanQ o ds) (hurecs : ∀ u ∈ urecs, Good cands u) :
    ∀ (ncs : List Expr) (table : List Row), RowsOk cands ds urecs ncs table →
    ∀ (dcs : List Expr) (djs : List Nat) (urec : URec) (left : List Nat),
    dcs.length = djs.length → Good cands urec →
    (∀ z ∈ dcs.zip djs, Sound cands urec z.1 (ds.getD z.2 zero)) →
    (djs ++ left).Perm (List.range ds.length) →
    (dcs ≠ [] → ∃ u0 ∈ urecs, Ext u0 urec) →
    (dcs = [] → urec = URec.empty) →
    (hasNonvar = true ↔ dcs.length + ncs.length ≠ 0) →
    (plain.length = 1 → ds.length ≠ dcs.length + ncs.length) →
    (dcs.length + ncs.length = 0 → plain ≠ []) →
    ∀ r ∈ matchChildren cands o plain hasNonvar ds urecs table urec left,
      Good cands r ∧ (∃ u0 ∈ urecs, Ext u0 r) ∧ ChildrenOk cands o ds plain (dcs ++ ncs) r
  | [], [], _, dcs, djs, urec, left, hlen, hg, hsound, hperm, hne, hemp, hnv, har, hpl, r, hr => by
    simp only [matchChildren] at hr
    simp only [List.length_nil, Nat.add_zero] at hnv har hpl
    have hnodup : (djs ++ left).Nodup := hperm.nodup_iff.2 List.nodup_range
    have hlenp : djs.length + left.length = ds.length := by
      have := hperm.length_eq; simpa using this
    have hspec := matchPlain_spec (cands := cands) (plain := plain) (hasNonvar := hasNonvar)
      (urecs := urecs) (urec := urec) (left := left) hac hds
      (fun i hi => List.mem_range.1 (hperm.subset (List.mem_append_right _ hi)))
      (List.nodup_append.1 hnodup).2.1 hurecs hg
      (fun h1 h0 => by have := har h1; simp [h0] at hlenp; omega)
      (fun ht => hne (by
        have := hnv.1 ht
        intro h0; simp [h0] at this))
      (fun hf => by
        have h0 : dcs.length = 0 := by
          cases hd : dcs.length with
          | zero => rfl
          | succ n => have := hnv.2 (by omega); simp [hf] at this
        have hd : dcs = [] := List.length_eq_zero_iff.1 h0
        exact ⟨hemp hd, hpl h0⟩) r hr
    obtain ⟨hgr, hu0, hext, parts, hp1, hp2, hp3⟩ := hspec
    refine ⟨hgr, hu0, djs, parts, by simp [hlen], ?_, hp1, ?_, hp3⟩
    · intro z hz
      simp only [List.append_nil] at hz
      exact (hsound z hz).ext hg hgr hext
    · exact (List.Perm.append_left djs hp2).trans hperm
  | c :: ncs, row :: table, hrows, dcs, djs, urec, left, hlen, hg, hsound, hperm, hne, hemp, hnv,
      har, hpl, r, hr => by
    obtain ⟨hrow, hrows'⟩ := hrows
    simp only [matchChildren, List.mem_flatMap] at hr
    obtain ⟨⟨j, prs⟩, hjrow, hr⟩ := hr
    simp only at hr
    split at hr
    · rename_i hjleft
      obtain ⟨cu, hcu, hr⟩ := List.mem_flatMap.1 hr
      obtain ⟨pr, hpr, hunify⟩ := List.mem_filterMap.1 hcu
      obtain ⟨hjlt, hprs⟩ := hrow (j, prs) hjrow
      obtain ⟨hgpr, ⟨u0, hu0, he0⟩, hspr⟩ := hprs pr hpr
      obtain ⟨hgcu, he1, he2⟩ := unify_spec hgpr hg hunify
      have hnodup : (djs ++ left).Nodup := hperm.nodup_iff.2 List.nodup_range
      have hleftnd : left.Nodup := (List.nodup_append.1 hnodup).2.1
      have hjmem : j ∈ left := by simpa using hjleft
      have hfilter : left.filter (· != j) = left.erase j := (hleftnd.erase_eq_filter j).symm
      have ih := matchChildren_spec hac hds hurecs ncs table hrows' (dcs ++ [c]) (djs ++ [j]) cu
        (left.filter (· != j)) (by simp [hlen]) hgcu ?_ ?_ ?_ ?_ ?_ ?_ ?_ r hr
      · obtain ⟨h1, h2, h3⟩ := ih
        refine ⟨h1, h2, ?_⟩
        simpa using h3
      · intro z hz
        rw [List.zip_append hlen] at hz
        rcases List.mem_append.1 hz with hz | hz
        · exact (hsound z hz).ext hg hgcu he2
        · simp only [List.zip_cons_cons, List.zip_nil_right, List.mem_singleton] at hz
          subst hz
          exact hspr.ext hgpr hgcu he1.toExt
      · rw [hfilter, List.append_assoc]
        exact (List.Perm.append_left djs (List.perm_cons_erase hjmem).symm).trans hperm
      · intro _
        exact ⟨u0, hu0, he0.trans he1.toExt⟩
      · intro h0; simp at h0
      · rw [hnv]; simp only [List.length_append, List.length_cons, List.length_nil]; omega
      · intro h1; have := har h1
        simp only [List.length_append, List.length_cons, List.length_nil] at this ⊢; omega
      · intro h0; simp only [List.length_append, List.length_cons, List.length_nil] at h0; omega
    · simp at hr
  | [], _ :: _, hrows, _, _, _, _, _, _, _, _, _, _, _, _, _, _, _ => by simp [RowsOk] at hrows
  | _ :: _, [], hrows, _, _, _, _, _, _, _, _, _, _, _, _, _, _, _ => by simp [RowsOk] at hrows

/-! ### assembling the sum / product -/

/-- the non-plain operands of a sum / product pattern, in order -/
def nonvarOf (cands : List String) (cs : List Expr) : List Expr :=
  cs.filter (fun c => !isPlain cands c)

theorem isPlain_iff {cands : List String} {c : Expr} :
    isPlain cands c = true ↔ ∃ x, c = .var x ∧ cands.contains x = true := by
  cases c <;> simp [isPlain]

theorem plainNames_cons_of_not_isPlain {cands : List String} {c : Expr} (cs : List Expr)
    (h : ¬ isPlain cands c = true) : plainNames cands (c :: cs) = plainNames cands cs := by
  cases c <;> simp_all [isPlain, plainNames]

theorem split_perm (cands : List String) : ∀ cs : List Expr,
    cs.Perm (nonvarOf cands cs ++ (plainNames cands cs).map Expr.var)
  | [] => by simp [nonvarOf, plainNames]
  | c :: cs => by
    have ih := split_perm cands cs
    by_cases hp : isPlain cands c = true
    · obtain ⟨x, rfl, hx⟩ := isPlain_iff.1 hp
      simp only [nonvarOf, List.filter_cons, hp, Bool.not_true, Bool.false_eq_true, if_false,
        plainNames, hx, if_true, List.map_cons]
      exact (ih.cons _).trans List.perm_middle.symm
    · simp only [nonvarOf, List.filter_cons, hp, Bool.not_false, if_true,
        plainNames_cons_of_not_isPlain cs hp, List.cons_append]
      simpa [nonvarOf] using ih.cons c

theorem split_length (cands : List String) (cs : List Expr) :
    (nonvarOf cands cs).length + (plainNames cands cs).length = cs.length := by
  have := (split_perm cands cs).length_eq
  simp at this; omega

theorem exists_zip_left {α β : Type} : ∀ {as : List α} {bs : List β} {a : α},
    as.length = bs.length → a ∈ as → ∃ b, (a, b) ∈ as.zip bs
  | [], _, _, _, h => by simp at h
  | _ :: _, [], _, hl, _ => by simp at hl
  | x :: as, y :: bs, a, hl, h => by
    simp only [List.length_cons, Nat.add_right_cancel_iff] at hl
    rcases List.mem_cons.1 h with rfl | h
    · exact ⟨y, by simp⟩
    · obtain ⟨b, hb⟩ := exists_zip_left hl h
      exact ⟨b, by simp [hb]⟩

theorem exists_zip_right {α β : Type} : ∀ {as : List α} {bs : List β} {b : β},
    as.length = bs.length → b ∈ bs → ∃ a, (a, b) ∈ as.zip bs
  | _, [], _, _, h => by simp at h
  | [], _ :: _, _, hl, _ => by simp at hl
  | x :: as, y :: bs, b, hl, h => by
    simp only [List.length_cons, Nat.add_right_cancel_iff] at hl
    rcases List.mem_cons.1 h with rfl | h
    · exact ⟨x, by simp⟩
    · obtain ⟨a, ha⟩ := exists_zip_right hl h
      exact ⟨a, by simp [ha]⟩

theorem range_map_getD (ds : List Expr) :
    (List.range ds.length).map (fun i => ds.getD i zero) = ds := by
  apply List.ext_getElem
  · simp
  · intro i h1 h2
    simp [List.getD_eq_getElem?_getD, List.getElem?_eq_getElem h2]

/-- the record instantiates the whole sum / product pattern to the target -/
theorem commut_final {cands : List String} {o : NaryOp} (hac : isAC o) {cs ds : List Expr}
    {r : URec} (h : ChildrenOk cands o ds (plainNames cands cs) (nonvarOf cands cs) r) :
    Sound cands r (.nary o cs) (.nary o ds) := by
  obtain ⟨js, parts, hjl, hjs, hpl, hperm, hparts⟩ := h
  have hsplit := split_perm cands cs
  constructor
  · intro x hx hxc
    simp only [varsOf] at hx
    obtain ⟨c, hc, hxv⟩ := mem_varsOfL.1 hx
    rcases List.mem_append.1 (hsplit.subset hc) with hc | hc
    · obtain ⟨j, hj⟩ := exists_zip_left hjl.symm hc
      exact (hjs _ hj).1 x hxv hxc
    · obtain ⟨y, hy, rfl⟩ := List.mem_map.1 hc
      simp only [varsOf, List.mem_singleton] at hxv
      subst hxv
      obtain ⟨part, hpart⟩ := exists_zip_right hpl hy
      obtain ⟨v, hv, _⟩ := hparts _ hpart
      exact AMap.get_some_mem_keys hv
  · simp only [inst, instL_eq_map]
    -- reorder the pattern operands: non-plain ones first
    have h1 : ACEq (.nary o (cs.map (inst r.lmap)))
        (.nary o ((nonvarOf cands cs).map (inst r.lmap)
          ++ (plainNames cands cs).map (fun x => inst r.lmap (.var x)))) := by
      refine ACEq.perm hac ?_
      have := hsplit.map (inst r.lmap)
      simpa [List.map_append, List.map_map, Function.comp_def] using this
    -- each operand against what it was matched with
    have h2a : ACEqL ((nonvarOf cands cs).map (inst r.lmap))
        (js.map (fun j => ds.getD j zero)) :=
      ACEqL_of_zip _ _ _ _ hjl.symm (fun z hz => (hjs z hz).2)
    have h2b : ACEqL ((plainNames cands cs).map (fun x => inst r.lmap (.var x)))
        (parts.map (fun part => Expr.nary o (part.map (fun i => ds.getD i zero)))) := by
      refine ACEqL.symm' (ACEqL_of_zip _ _ _ _ hpl (fun z hz => ?_))
      obtain ⟨v, hv, e⟩ := hparts z hz
      simp only [inst, hv]
      exact e.symm
    have h2 := ACEq.nary o (h2a.append h2b)
    -- merge the shares into the parent
    have h3 := ACEq.flatMany hac (parts.map (fun part => part.map (fun i => ds.getD i zero)))
      (js.map (fun j => ds.getD j zero))
    simp only [List.map_map, Function.comp_def] at h3
    -- and reorder the target operands
    have h4 : ACEq (.nary o (js.map (fun j => ds.getD j zero)
        ++ (parts.map (fun part => part.map (fun i => ds.getD i zero))).flatten)) (.nary o ds) := by
      refine ACEq.perm hac ?_
      have := hperm.map (fun i => ds.getD i zero)
      rw [range_map_getD] at this
      simpa [List.map_append, List.map_flatten] using this
    exact h1.trans (h2.trans (h3.trans h4))

/-! ### the structural rules -/

/-- target facts carried through the recursion: its n-ary arities are among `ar`, it is guarded.
The list `ar` is fixed at the top (`arities target`): `arityGuard cands ar p` must hold against every
n-ary node of the target a sub-pattern may meet, and sub-targets only have fewer arities. -/
structure TOk (ar : List (NaryOp × Nat)) (t : Expr) : Prop where
  sub : arities t ⊆ ar
  g : tgtGuard t = true

theorem aritiesL_mem {t : Expr} : ∀ {ts : List Expr}, t ∈ ts → arities t ⊆ aritiesL ts
  | [], h => by simp at h
  | d :: ds, h => by
    simp only [aritiesL]
    rcases List.mem_cons.1 h with rfl | h
    · exact List.subset_append_left _ _
    · exact (aritiesL_mem h).trans (List.subset_append_right _ _)

theorem TOk.ofL {ar : List (NaryOp × Nat)} {ts : List Expr} (hs : aritiesL ts ⊆ ar)
    (hg : tgtGuardL ts = true) : ∀ t ∈ ts, TOk ar t :=
  fun t ht => ⟨(aritiesL_mem ht).trans hs, tgtGuardL_mem hg t ht⟩

theorem unpackIndex_of_not_tuple1 {i : Expr} (h : isTuple1 i = false) : unpackIndex i = i := by
  unfold unpackIndex
  split
  · simp [isTuple1] at h
  · rfl

theorem mapVariable_sound {cands : List String} {x : String} {other : Expr} {urecs : List URec}
    (hurecs : ∀ u ∈ urecs, Good cands u) :
    ∀ r ∈ mapVariable cands x other urecs,
      Good cands r ∧ ∃ u ∈ urecs, Ext u r ∧ Sound cands r (.var x) other := by
  intro r hr
  unfold mapVariable at hr
  split at hr
  · rename_i n hn
    obtain ⟨hx, hnl⟩ := recFromEq_spec hn
    obtain ⟨u, hu, hur⟩ := mem_unifyMany.1 hr
    obtain ⟨hg, he1, he2⟩ := unify_spec (hurecs u hu) (good_single hx hnl) hur
    have hget : AMap.get n.lmap x = some other := by rw [hnl]; simp only [AMap.get, if_true]
    obtain ⟨v', hv', e⟩ := he2 x other hget
    refine ⟨hg, u, hu, he1.toExt, ?_, ?_⟩
    · intro y hy _
      simp only [varsOf, List.mem_singleton] at hy
      subst hy
      exact AMap.get_some_mem_keys hv'
    · simp only [inst, hv']; exact e.symm
  · split at hr
    · rename_i y _
      split at hr
      · rename_i hc
        simp only [Bool.and_eq_true, decide_eq_true_eq, Bool.not_eq_true'] at hc
        obtain ⟨rfl, hxc⟩ := hc
        have hxc' : y ∉ cands := by simpa using hxc
        have hg := hurecs r hr
        refine ⟨hg, r, hr, Ext.refl r, ?_, ?_⟩
        · intro z hz hzc
          simp only [varsOf, List.mem_singleton] at hz
          subst hz
          exact absurd hzc hxc'
        · have : AMap.get r.lmap y = none :=
            AMap.get_none_iff.2 (fun hk => hxc' (hg.1 y hk))
          simp only [inst, this]; exact .refl _
      · simp at hr
    · simp at hr

/-- sequencing two rules: records of the outer call extend records of the inner call -/
theorem chain {cands : List String} {urecs mid : List URec} {r : URec}
    {P Q : URec → Prop} (hQ : ∀ m r', Good cands m → Good cands r' → Ext m r' → Q m → Q r')
    (hmid : ∀ m ∈ mid, Good cands m ∧ ∃ u ∈ urecs, Ext u m ∧ Q m)
    (hr : Good cands r ∧ ∃ m ∈ mid, Ext m r ∧ P r) :
    Good cands r ∧ ∃ u ∈ urecs, Ext u r ∧ P r ∧ Q r := by
  obtain ⟨hg, m, hm, hemr, hs⟩ := hr
  obtain ⟨hgm, u, hu, heum, hq⟩ := hmid m hm
  exact ⟨hg, u, hu, heum.trans hemr, hs, hQ m r hgm hg hemr hq⟩

theorem soundQ {cands : List String} {p t : Expr} :
    ∀ m r', Good cands m → Good cands r' → Ext m r' → Sound cands m p t → Sound cands r' p t :=
  fun _ _ hm hr he hq => hq.ext hm hr he

theorem soundLQ {cands : List String} {ps ts : List Expr} :
    ∀ m r', Good cands m → Good cands r' → Ext m r' → SoundL cands m ps ts → SoundL cands r' ps ts :=
  fun _ _ hm hr he hq => hq.ext hm hr he

/-! congruence of `Sound` -/
section
variable {cands : List String} {r : URec}

theorem Sound.bin {o : BinOp} {a a' b b' : Expr} (ha : Sound cands r a a') (hb : Sound cands r b b') :
    Sound cands r (.bin o a b) (.bin o a' b') :=
  ⟨fun x hx hc => by
      simp only [varsOf, List.mem_append] at hx
      rcases hx with hx | hx
      · exact ha.1 x hx hc
      · exact hb.1 x hx hc,
    by simp only [inst]; exact .bin o ha.2 hb.2⟩

theorem Sound.cmp {o : CmpOp} {a a' b b' : Expr} (ha : Sound cands r a a') (hb : Sound cands r b b') :
    Sound cands r (.cmp o a b) (.cmp o a' b') :=
  ⟨fun x hx hc => by
      simp only [varsOf, List.mem_append] at hx
      rcases hx with hx | hx
      · exact ha.1 x hx hc
      · exact hb.1 x hx hc,
    by simp only [inst]; exact .cmp o ha.2 hb.2⟩

theorem Sound.subscript {a a' i i' : Expr} (ha : Sound cands r a a') (hi : Sound cands r i i') :
    Sound cands r (.subscript a i) (.subscript a' i') :=
  ⟨fun x hx hc => by
      simp only [varsOf, List.mem_append] at hx
      rcases hx with hx | hx
      · exact ha.1 x hx hc
      · exact hi.1 x hx hc,
    by simp only [inst]; exact .subscript ha.2 hi.2⟩

theorem Sound.un {o : UnOp} {a a' : Expr} (ha : Sound cands r a a') :
    Sound cands r (.un o a) (.un o a') :=
  ⟨fun x hx hc => ha.1 x (by simpa [varsOf] using hx) hc, by simp only [inst]; exact .un o ha.2⟩

theorem Sound.lookup {n : String} {a a' : Expr} (ha : Sound cands r a a') :
    Sound cands r (.lookup a n) (.lookup a' n) :=
  ⟨fun x hx hc => ha.1 x (by simpa [varsOf] using hx) hc, by simp only [inst]; exact .lookup n ha.2⟩

theorem Sound.ite {c c' t t' e e' : Expr} (hc : Sound cands r c c') (ht : Sound cands r t t')
    (he : Sound cands r e e') : Sound cands r (.ite c t e) (.ite c' t' e') :=
  ⟨fun x hx hxc => by
      simp only [varsOf, List.mem_append] at hx
      rcases hx with (hx | hx) | hx
      · exact hc.1 x hx hxc
      · exact ht.1 x hx hxc
      · exact he.1 x hx hxc,
    by simp only [inst]; exact .ite hc.2 ht.2 he.2⟩

theorem Sound.call {f f' : Expr} {as as' : List Expr} (hf : Sound cands r f f')
    (ha : SoundL cands r as as') : Sound cands r (.call f as) (.call f' as') :=
  ⟨fun x hx hc => by
      simp only [varsOf, List.mem_append] at hx
      rcases hx with hx | hx
      · exact hf.1 x hx hc
      · exact ha.1 x hx hc,
    by simp only [inst]; exact .call hf.2 ha.2⟩

theorem Sound.tuple {cs ds : List Expr} (h : SoundL cands r cs ds) :
    Sound cands r (.tuple cs) (.tuple ds) :=
  ⟨fun x hx hc => h.1 x (by simpa [varsOf] using hx) hc, by simp only [inst]; exact .tuple h.2⟩

theorem SoundL.cons {c d : Expr} {cs ds : List Expr} (hc : Sound cands r c d)
    (hcs : SoundL cands r cs ds) : SoundL cands r (c :: cs) (d :: ds) :=
  ⟨fun x hx hxc => by
      simp only [varsOfL, List.mem_append] at hx
      rcases hx with hx | hx
      · exact hc.1 x hx hxc
      · exact hcs.1 x hx hxc,
    by simp only [instL]; exact .cons hc.2 hcs.2⟩
end

/-! target facts, constructor by constructor -/
section
variable {ar : List (NaryOp × Nat)}

theorem TOk.bin {o : BinOp} {a b : Expr} (h : TOk ar (.bin o a b)) : TOk ar a ∧ TOk ar b := by
  have hg := h.g; have hs := h.sub
  simp only [tgtGuard, Bool.and_eq_true] at hg
  simp only [arities] at hs
  exact ⟨⟨fun x hx => hs (List.mem_append_left _ hx), hg.1⟩,
    ⟨fun x hx => hs (List.mem_append_right _ hx), hg.2⟩⟩

theorem TOk.cmp {o : CmpOp} {a b : Expr} (h : TOk ar (.cmp o a b)) : TOk ar a ∧ TOk ar b := by
  have hg := h.g; have hs := h.sub
  simp only [tgtGuard, Bool.and_eq_true] at hg
  simp only [arities] at hs
  exact ⟨⟨fun x hx => hs (List.mem_append_left _ hx), hg.1⟩,
    ⟨fun x hx => hs (List.mem_append_right _ hx), hg.2⟩⟩

theorem TOk.un {o : UnOp} {a : Expr} (h : TOk ar (.un o a)) : TOk ar a := by
  have hg := h.g; have hs := h.sub
  simp only [tgtGuard] at hg
  simp only [arities] at hs
  exact ⟨hs, hg⟩

theorem TOk.lookup {n : String} {a : Expr} (h : TOk ar (.lookup a n)) : TOk ar a := by
  have hg := h.g; have hs := h.sub
  simp only [tgtGuard] at hg
  simp only [arities] at hs
  exact ⟨hs, hg⟩

theorem TOk.ite {c t e : Expr} (h : TOk ar (.ite c t e)) : TOk ar c ∧ TOk ar t ∧ TOk ar e := by
  have hg := h.g; have hs := h.sub
  simp only [tgtGuard, Bool.and_eq_true] at hg
  simp only [arities] at hs
  exact ⟨⟨fun x hx => hs (List.mem_append_left _ (List.mem_append_left _ hx)), hg.1.1⟩,
    ⟨fun x hx => hs (List.mem_append_left _ (List.mem_append_right _ hx)), hg.1.2⟩,
    ⟨fun x hx => hs (List.mem_append_right _ hx), hg.2⟩⟩

theorem TOk.call {f : Expr} {as : List Expr} (h : TOk ar (.call f as)) :
    TOk ar f ∧ ∀ a ∈ as, TOk ar a := by
  have hg := h.g; have hs := h.sub
  simp only [tgtGuard, Bool.and_eq_true] at hg
  simp only [arities] at hs
  exact ⟨⟨fun x hx => hs (List.mem_append_left _ hx), hg.1⟩,
    TOk.ofL (fun x hx => hs (List.mem_append_right _ hx)) hg.2⟩

theorem TOk.tuple {cs : List Expr} (h : TOk ar (.tuple cs)) : ∀ c ∈ cs, TOk ar c := by
  have hg := h.g; have hs := h.sub
  simp only [tgtGuard] at hg
  simp only [arities] at hs
  exact TOk.ofL hs hg

theorem TOk.subscript {a i : Expr} (h : TOk ar (.subscript a i)) :
    isTuple1 i = false ∧ TOk ar a ∧ TOk ar i := by
  have hg := h.g; have hs := h.sub
  simp only [tgtGuard, Bool.and_eq_true, Bool.not_eq_true'] at hg
  simp only [arities] at hs
  exact ⟨hg.1.1, ⟨fun x hx => hs (List.mem_append_left _ hx), hg.1.2⟩,
    ⟨fun x hx => hs (List.mem_append_right _ hx), hg.2⟩⟩

theorem TOk.nary {o : NaryOp} {ds : List Expr} (h : TOk ar (.nary o ds)) :
    (o, ds.length) ∈ ar ∧ ∀ d ∈ ds, TOk ar d := by
  have hg := h.g; have hs := h.sub
  simp only [tgtGuard, Bool.and_eq_true] at hg
  simp only [arities] at hs
  exact ⟨hs (by simp), TOk.ofL (fun x hx => hs (List.mem_cons_of_mem _ hx)) hg.2⟩
end

theorem rowsOk_length {cands : List String} {ds : List Expr} {urecs : List URec} :
    ∀ {ncs : List Expr} {table : List Row}, RowsOk cands ds urecs ncs table →
      ncs.length = table.length
  | [], [], _ => rfl
  | _ :: _, _ :: _, h => by simp [rowsOk_length h.2]
  | [], _ :: _, h => by simp [RowsOk] at h
  | _ :: _, [], h => by simp [RowsOk] at h

/-! ### the main induction -/

theorem unifyE_subscript {cands : List String} {a i other : Expr} {urecs : List URec}
    (h : isTuple1 i = false) :
    unifyE cands (.subscript a i) other urecs =
      match other with
      | .subscript a' i' => unifyE cands a a' (unifyE cands i (unpackIndex i') urecs)
      | _ => [] := by
  -- the equations of `unifyE` for an index that is no 1-tuple carry this as a side condition
  have hi : ∀ i1, i = .tuple [i1] → False := fun x hx => by subst hx; simp [isTuple1] at h
  cases other with
  | subscript a' i' => rw [unifyE]; exact hi
  | _ => rw [unifyE] <;> first | exact hi | exact fun _ _ h => nomatch h

/-- shape of every result: a good record extending one of the incoming ones, sound for `p`, `t` -/
abbrev Res (cands : List String) (urecs : List URec) (r : URec) (p t : Expr) : Prop :=
  Good cands r ∧ ∃ u ∈ urecs, Ext u r ∧ Sound cands r p t

abbrev ResL (cands : List String) (urecs : List URec) (r : URec) (ps ts : List Expr) : Prop :=
  Good cands r ∧ ∃ u ∈ urecs, Ext u r ∧ SoundL cands r ps ts

section
variable (cands : List String) (ar : List (NaryOp × Nat))

mutual
theorem unifyE_sound : ∀ (p t : Expr) (urecs : List URec), patGuard p = true →
    arityGuard cands ar p = true → TOk ar t → (∀ u ∈ urecs, Good cands u) →
    ∀ r ∈ unifyE cands p t urecs, Res cands urecs r p t
  | .const c, t, urecs, _, _, _, hu, r, hr => by
      simp only [unifyE] at hr
      split at hr
      · rename_i hpy
        exact ⟨hu r hr, r, hr, Ext.refl r, fun x hx => by simp [varsOf] at hx,
          by simp only [inst]; exact .py hpy⟩
      · simp at hr
  | .var x, t, urecs, _, _, _, hu, r, hr => by
      simp only [unifyE] at hr
      exact mapVariable_sound hu r hr
  | .bin o a b, t, urecs, hp, ha, ht, hu, r, hr => by
      simp only [unifyE] at hr
      split at hr
      · rename_i o' a' b'
        split at hr
        · rename_i ho; subst ho
          simp only [patGuard, arityGuard, Bool.and_eq_true] at hp ha
          have hmid := unifyE_sound b b' urecs hp.2 ha.2 ht.bin.2 hu
          have hr' := unifyE_sound a a' _ hp.1 ha.1 ht.bin.1 (fun m hm => (hmid m hm).1) r hr
          obtain ⟨hg, u, hu', he, hsa, hsb⟩ := chain (P := fun m => Sound cands m a a')
            (Q := fun m => Sound cands m b b') soundQ hmid hr'
          exact ⟨hg, u, hu', he, Sound.bin hsa hsb⟩
        · simp at hr
      · simp at hr
  | .cmp o a b, t, urecs, hp, ha, ht, hu, r, hr => by
      simp only [unifyE] at hr
      split at hr
      · rename_i o' a' b'
        split at hr
        · rename_i ho; subst ho
          simp only [patGuard, arityGuard, Bool.and_eq_true] at hp ha
          have hmid := unifyE_sound b b' urecs hp.2 ha.2 ht.cmp.2 hu
          have hr' := unifyE_sound a a' _ hp.1 ha.1 ht.cmp.1 (fun m hm => (hmid m hm).1) r hr
          obtain ⟨hg, u, hu', he, hsa, hsb⟩ := chain (P := fun m => Sound cands m a a')
            (Q := fun m => Sound cands m b b') soundQ hmid hr'
          exact ⟨hg, u, hu', he, Sound.cmp hsa hsb⟩
        · simp at hr
      · simp at hr
  | .un o a, t, urecs, hp, ha, ht, hu, r, hr => by
      simp only [unifyE] at hr
      split at hr
      · rename_i o' a'
        split at hr
        · rename_i ho; subst ho
          simp only [patGuard, arityGuard] at hp ha
          obtain ⟨hg, u, hu', he, hs⟩ := unifyE_sound a a' urecs hp ha ht.un hu r hr
          exact ⟨hg, u, hu', he, Sound.un hs⟩
        · simp at hr
      · simp at hr
  | .lookup a n, t, urecs, hp, ha, ht, hu, r, hr => by
      simp only [unifyE] at hr
      split at hr
      · rename_i a' n'
        split at hr
        · rename_i hn; subst hn
          simp only [patGuard, arityGuard] at hp ha
          obtain ⟨hg, u, hu', he, hs⟩ := unifyE_sound a a' urecs hp ha ht.lookup hu r hr
          exact ⟨hg, u, hu', he, Sound.lookup hs⟩
        · simp at hr
      · simp at hr
  | .ite c th e, t, urecs, hp, ha, ht, hu, r, hr => by
      simp only [unifyE] at hr
      split at hr
      · rename_i c' t' e'
        simp only [patGuard, arityGuard, Bool.and_eq_true] at hp ha
        have h1 := unifyE_sound e e' urecs hp.2 ha.2 ht.ite.2.2 hu
        have h2 := unifyE_sound th t' _ hp.1.2 ha.1.2 ht.ite.2.1 (fun m hm => (h1 m hm).1)
        have h2' : ∀ m ∈ unifyE cands th t' (unifyE cands e e' urecs),
            Good cands m ∧ ∃ u ∈ urecs, Ext u m ∧ (Sound cands m th t' ∧ Sound cands m e e') :=
          fun m hm => chain (P := fun m => Sound cands m th t')
            (Q := fun m => Sound cands m e e') soundQ h1 (h2 m hm)
        have h3 := unifyE_sound c c' _ hp.1.1 ha.1.1 ht.ite.1 (fun m hm => (h2' m hm).1) r hr
        obtain ⟨hg, u, hu', he, hsc, hst, hse⟩ :=
          chain (P := fun m => Sound cands m c c')
            (Q := fun m => Sound cands m th t' ∧ Sound cands m e e')
            (fun m r' hm hr' hee hq => ⟨hq.1.ext hm hr' hee, hq.2.ext hm hr' hee⟩) h2' h3
        exact ⟨hg, u, hu', he, Sound.ite hsc hst hse⟩
      · simp at hr
  | .call f as, t, urecs, hp, ha, ht, hu, r, hr => by
      simp only [unifyE] at hr
      split at hr
      · rename_i f' as'
        simp only [patGuard, arityGuard, Bool.and_eq_true] at hp ha
        have hmid := unifyL_sound as as' urecs hp.2 ha.2 ht.call.2 hu
        have hr' := unifyE_sound f f' _ hp.1 ha.1 ht.call.1 (fun m hm => (hmid m hm).1) r hr
        obtain ⟨hg, u, hu', he, hsf, hsa⟩ := chain (P := fun m => Sound cands m f f')
          (Q := fun m => SoundL cands m as as') soundLQ hmid hr'
        exact ⟨hg, u, hu', he, Sound.call hsf hsa⟩
      · simp at hr
  | .tuple cs, t, urecs, hp, ha, ht, hu, r, hr => by
      simp only [unifyE] at hr
      split at hr
      · rename_i ds
        simp only [patGuard, arityGuard] at hp ha
        obtain ⟨hg, u, hu', he, hs⟩ := unifyL_sound cs ds urecs hp ha ht.tuple hu r hr
        exact ⟨hg, u, hu', he, Sound.tuple hs⟩
      · simp at hr
  | .subscript a (.tuple [i1]), t, urecs, hp, _, _, _, r, _ => by
      simp only [patGuard] at hp
      simp [isTuple1] at hp
  | .subscript a i, t, urecs, hp, ha, ht, hu, r, hr => by
      simp only [patGuard, arityGuard, Bool.and_eq_true, Bool.not_eq_true'] at hp ha
      rw [unifyE_subscript hp.1.1] at hr
      split at hr
      · rename_i a' i'
        rw [unpackIndex_of_not_tuple1 ht.subscript.1] at hr
        have hmid := unifyE_sound i i' urecs hp.2 ha.2 ht.subscript.2.2 hu
        have hr' := unifyE_sound a a' _ hp.1.2 ha.1 ht.subscript.2.1 (fun m hm => (hmid m hm).1) r hr
        obtain ⟨hg, u, hu', he, hsa, hsi⟩ := chain (P := fun m => Sound cands m a a')
          (Q := fun m => Sound cands m i i') soundQ hmid hr'
        exact ⟨hg, u, hu', he, Sound.subscript hsa hsi⟩
      · simp at hr
  | .nary o cs, t, urecs, hp, ha, ht, hu, r, hr => by
      simp only [unifyE] at hr
      split at hr
      · rename_i o' ds
        split at hr
        · rename_i hcond
          simp only [Bool.and_eq_true, Bool.or_eq_true, decide_eq_true_eq] at hcond
          obtain ⟨rfl, hac⟩ := hcond
          have hac' : isAC o := hac
          simp only [patGuard, arityGuard, Bool.and_eq_true, Bool.not_eq_true',
            List.isEmpty_eq_false_iff] at hp ha
          obtain ⟨_, hcl⟩ := cleanQ_of_guard hac' ht.g
          have hrows := candTable_sound cs ds urecs hp.2 ha.2 ht.nary.2 hu
          have hlen := rowsOk_length hrows
          have hsplit := split_length cands cs
          have hcslen : cs.length ≠ 0 := fun h0 => hp.1 (List.length_eq_zero_iff.1 h0)
          have := matchChildren_spec hac' (plain := plainNames cands cs)
            (hasNonvar := !(candTable cands cs ds urecs).isEmpty) hcl hu
            (nonvarOf cands cs) _ hrows [] [] URec.empty (List.range ds.length) rfl
            (good_empty _) (by simp) (by simp) (by simp) (fun _ => rfl)
            (by
              simp only [List.length_nil, Nat.zero_add, hlen, Bool.not_eq_true',
                List.isEmpty_eq_false_iff, ne_eq, List.length_eq_zero_iff])
            (by
              intro h1
              simp only [List.length_nil, Nat.zero_add]
              intro hds
              have h2 := ha.1
              simp only [h1, BEq.rfl, Bool.true_and, List.contains_eq_mem, decide_eq_false_iff_not]
                at h2
              apply h2
              have : cs.length - 1 = ds.length := by omega
              rw [this]; exact ht.nary.1)
            (by
              intro h0 hpl
              simp only [List.length_nil, Nat.zero_add] at h0
              rw [hpl] at hsplit; simp at hsplit; omega)
            r hr
          obtain ⟨hg, ⟨u0, hu0, he0⟩, hch⟩ := this
          exact ⟨hg, u0, hu0, he0, commut_final hac' (by simpa using hch)⟩
        · simp at hr
      · simp at hr
  | .callKw .., _, _, _, _, _, _, r, hr => by simp [unifyE] at hr
  | .cse .., _, _, _, _, _, _, r, hr => by simp [unifyE] at hr
  | .subst .., _, _, _, _, _, _, r, hr => by simp [unifyE] at hr
  | .deriv .., _, _, _, _, _, _, r, hr => by simp [unifyE] at hr
  | .slice .., _, _, _, _, _, _, r, hr => by simp [unifyE] at hr
  | .nan, _, _, _, _, _, _, r, hr => by simp [unifyE] at hr
  | .wildcard, _, _, _, _, _, _, r, hr => by simp [unifyE] at hr
  | .dotWild .., _, _, _, _, _, _, r, hr => by simp [unifyE] at hr
  | .starWild .., _, _, _, _, _, _, r, hr => by simp [unifyE] at hr
  | .funcSym, _, _, _, _, _, _, r, hr => by simp [unifyE] at hr
  | .list .., _, _, _, _, _, _, r, hr => by simp [unifyE] at hr
theorem unifyL_sound : ∀ (ps ts : List Expr) (urecs : List URec), patGuardL ps = true →
    arityGuardL cands ar ps = true → (∀ t ∈ ts, TOk ar t) → (∀ u ∈ urecs, Good cands u) →
    ∀ r ∈ unifyL cands ps ts urecs, ResL cands urecs r ps ts
  | [], [], urecs, _, _, _, hu, r, hr => by
      simp only [unifyL] at hr
      exact ⟨hu r hr, r, hr, Ext.refl r, fun x hx => by simp [varsOfL] at hx,
        by simp only [instL]; exact .nil⟩
  | c :: cs, d :: ds, urecs, hp, ha, ht, hu, r, hr => by
      simp only [unifyL] at hr
      split at hr
      · simp at hr
      · simp only [patGuardL, arityGuardL, Bool.and_eq_true] at hp ha
        have hmid := unifyE_sound c d urecs hp.1 ha.1 (ht d (by simp)) hu
        have hr' := unifyL_sound cs ds _ hp.2 ha.2 (fun t h => ht t (by simp [h]))
          (fun m hm => (hmid m hm).1) r hr
        obtain ⟨hg, u, hu', he, hsl, hsc⟩ := chain (P := fun m => SoundL cands m cs ds)
          (Q := fun m => Sound cands m c d) soundQ hmid hr'
        exact ⟨hg, u, hu', he, SoundL.cons hsc hsl⟩
  | [], _ :: _, _, _, _, _, _, r, hr => by simp [unifyL] at hr
  | _ :: _, [], _, _, _, _, _, r, hr => by simp [unifyL] at hr
theorem candTable_sound : ∀ (cs ds : List Expr) (urecs : List URec), patGuardL cs = true →
    arityGuardL cands ar cs = true → (∀ d ∈ ds, TOk ar d) → (∀ u ∈ urecs, Good cands u) →
    RowsOk cands ds urecs (nonvarOf cands cs) (candTable cands cs ds urecs)
  | [], ds, urecs, _, _, _, _ => by simp [nonvarOf, candTable, RowsOk]
  | c :: cs, ds, urecs, hp, ha, htl, hu => by
      simp only [patGuardL, arityGuardL, Bool.and_eq_true] at hp ha
      have ih := candTable_sound cs ds urecs hp.2 ha.2 htl hu
      by_cases hpl : isPlain cands c = true
      · simp only [candTable, nonvarOf, List.filter_cons, hpl, if_true, Bool.not_true,
          Bool.false_eq_true, if_false]
        exact ih
      · simp only [candTable, nonvarOf, List.filter_cons, hpl, Bool.false_eq_true, if_false,
          Bool.not_false, if_true]
        refine ⟨?_, ih⟩
        intro p hpm
        obtain ⟨j, hj, hjp⟩ := List.mem_filterMap.1 hpm
        have hjlt := List.mem_range.1 hj
        split at hjp
        · simp at hjp
        · simp only [Option.some.injEq] at hjp
          subst hjp
          refine ⟨hjlt, fun pr hpr => ?_⟩
          obtain ⟨hg, u, hu', he, hs⟩ :=
            unifyE_sound c (ds.getD j zero) urecs hp.1 ha.1 (htl _ (getD_mem hjlt)) hu pr hpr
          exact ⟨hg, ⟨u, hu', he⟩, hs⟩
end
end

/-! ### records are well-formed on ALL inputs (no guard) -/

theorem matchPlain_good {cands : List String} {o : NaryOp} {plain : List String}
    {hasNonvar : Bool} {ds : List Expr} {urecs : List URec} {urec : URec} {left : List Nat}
    (hurecs : ∀ u ∈ urecs, Good cands u) (hg : Good cands urec) :
    ∀ r ∈ matchPlain cands o plain hasNonvar ds urecs urec left, Good cands r := by
  intro r hr
  unfold matchPlain at hr
  split at hr
  · simp only [List.mem_singleton] at hr; subst hr; exact hg
  · simp only at hr
    split at hr
    · have hmem := List.mem_of_mem_head? (Option.mem_toList.1 hr)
      obtain ⟨part, _, hres⟩ := List.mem_filterMap.1 hmem
      exact (bindParts_spec _ urec r hg hres).1
    · obtain ⟨res, hresm, hrm⟩ := List.mem_flatMap.1 hr
      obtain ⟨part, _, hres⟩ := List.mem_filterMap.1 hresm
      obtain ⟨u, hu, hur⟩ := mem_unifyMany.1 hrm
      exact (unify_spec (hurecs u hu) (bindParts_spec _ urec res hg hres).1 hur).1

theorem matchChildren_good {cands : List String} {o : NaryOp} {plain : List String}
    {hasNonvar : Bool} {ds : List Expr} {urecs : List URec} (hurecs : ∀ u ∈ urecs, Good cands u) :
    ∀ (table : List Row), (∀ row ∈ table, ∀ p ∈ row, ∀ pr ∈ p.2, Good cands pr) →
    ∀ (urec : URec) (left : List Nat), Good cands urec →
    ∀ r ∈ matchChildren cands o plain hasNonvar ds urecs table urec left, Good cands r
  | [], _, urec, left, hg, r, hr => by
    simp only [matchChildren] at hr
    exact matchPlain_good hurecs hg r hr
  | row :: table, htab, urec, left, hg, r, hr => by
    simp only [matchChildren, List.mem_flatMap] at hr
    obtain ⟨⟨j, prs⟩, hjrow, hr⟩ := hr
    simp only at hr
    split at hr
    · obtain ⟨cu, hcu, hr⟩ := List.mem_flatMap.1 hr
      obtain ⟨pr, hpr, hunify⟩ := List.mem_filterMap.1 hcu
      have hgpr := htab row (by simp) (j, prs) hjrow pr hpr
      exact matchChildren_good hurecs table (fun row' h => htab row' (by simp [h])) cu _
        (unify_spec hgpr hg hunify).1 r hr
    · simp at hr

theorem mapVariable_good {cands : List String} {x : String} {other : Expr} {urecs : List URec}
    (hurecs : ∀ u ∈ urecs, Good cands u) : ∀ r ∈ mapVariable cands x other urecs, Good cands r := by
  intro r hr
  unfold mapVariable at hr
  split at hr
  · rename_i n hn
    obtain ⟨hx, hnl⟩ := recFromEq_spec hn
    obtain ⟨u, hu, hur⟩ := mem_unifyMany.1 hr
    exact (unify_spec (hurecs u hu) (good_single hx hnl) hur).1
  · split at hr
    · split at hr
      · exact hurecs r hr
      · simp at hr
    · simp at hr

theorem isTuple1_iff {i : Expr} : isTuple1 i = true ↔ ∃ i1, i = .tuple [i1] := by
  constructor
  · intro h
    unfold isTuple1 at h
    split at h
    · exact ⟨_, rfl⟩
    · simp at h
  · rintro ⟨i1, rfl⟩; rfl

section
variable (cands : List String)

mutual
theorem unifyE_good : ∀ (p t : Expr) (urecs : List URec), (∀ u ∈ urecs, Good cands u) →
    ∀ r ∈ unifyE cands p t urecs, Good cands r
  | .const c, t, urecs, hu, r, hr => by
      simp only [unifyE] at hr
      split at hr
      · exact hu r hr
      · simp at hr
  | .var x, t, urecs, hu, r, hr => by
      simp only [unifyE] at hr
      exact mapVariable_good hu r hr
  | .bin o a b, t, urecs, hu, r, hr => by
      simp only [unifyE] at hr
      split at hr
      · split at hr
        · exact unifyE_good a _ _ (unifyE_good b _ urecs hu) r hr
        · simp at hr
      · simp at hr
  | .cmp o a b, t, urecs, hu, r, hr => by
      simp only [unifyE] at hr
      split at hr
      · split at hr
        · exact unifyE_good a _ _ (unifyE_good b _ urecs hu) r hr
        · simp at hr
      · simp at hr
  | .un o a, t, urecs, hu, r, hr => by
      simp only [unifyE] at hr
      split at hr
      · split at hr
        · exact unifyE_good a _ urecs hu r hr
        · simp at hr
      · simp at hr
  | .lookup a n, t, urecs, hu, r, hr => by
      simp only [unifyE] at hr
      split at hr
      · split at hr
        · exact unifyE_good a _ urecs hu r hr
        · simp at hr
      · simp at hr
  | .ite c th e, t, urecs, hu, r, hr => by
      simp only [unifyE] at hr
      split at hr
      · exact unifyE_good c _ _ (unifyE_good th _ _ (unifyE_good e _ urecs hu)) r hr
      · simp at hr
  | .call f as, t, urecs, hu, r, hr => by
      simp only [unifyE] at hr
      split at hr
      · exact unifyE_good f _ _ (unifyL_good as _ urecs hu) r hr
      · simp at hr
  | .tuple cs, t, urecs, hu, r, hr => by
      simp only [unifyE] at hr
      split at hr
      · exact unifyL_good cs _ urecs hu r hr
      · simp at hr
  | .subscript a i, t, urecs, hu, r, hr => by
      by_cases hi : isTuple1 i = true
      · obtain ⟨i1, hi1⟩ := isTuple1_iff.1 hi
        -- the unpacked element is reached through the 1-tuple itself: `(i1,)` against `(X,)`
        have hmid : ∀ X, ∀ m ∈ unifyE cands i1 X urecs, Good cands m := by
          intro X m hm
          refine unifyE_good i (.tuple [X]) urecs hu m ?_
          rw [hi1]
          simp only [unifyE, unifyL]
          split
          · rename_i hemp; rw [List.isEmpty_iff.1 hemp] at hm; simp at hm
          · exact hm
        rw [hi1] at hr
        simp only [unifyE] at hr
        split at hr
        · exact unifyE_good a _ _ (hmid _) r hr
        · simp at hr
      · simp only [Bool.not_eq_true] at hi
        rw [unifyE_subscript hi] at hr
        split at hr
        · exact unifyE_good a _ _ (unifyE_good i _ urecs hu) r hr
        · simp at hr
  | .nary o cs, t, urecs, hu, r, hr => by
      simp only [unifyE] at hr
      split at hr
      · split at hr
        · exact matchChildren_good hu _ (candTable_good cs _ urecs hu) _ _ (good_empty cands) r hr
        · simp at hr
      · simp at hr
  | .callKw .., _, _, _, r, hr => by simp [unifyE] at hr
  | .cse .., _, _, _, r, hr => by simp [unifyE] at hr
  | .subst .., _, _, _, r, hr => by simp [unifyE] at hr
  | .deriv .., _, _, _, r, hr => by simp [unifyE] at hr
  | .slice .., _, _, _, r, hr => by simp [unifyE] at hr
  | .nan, _, _, _, r, hr => by simp [unifyE] at hr
  | .wildcard, _, _, _, r, hr => by simp [unifyE] at hr
  | .dotWild .., _, _, _, r, hr => by simp [unifyE] at hr
  | .starWild .., _, _, _, r, hr => by simp [unifyE] at hr
  | .funcSym, _, _, _, r, hr => by simp [unifyE] at hr
  | .list .., _, _, _, r, hr => by simp [unifyE] at hr
theorem unifyL_good : ∀ (ps ts : List Expr) (urecs : List URec), (∀ u ∈ urecs, Good cands u) →
    ∀ r ∈ unifyL cands ps ts urecs, Good cands r
  | [], [], urecs, hu, r, hr => by simp only [unifyL] at hr; exact hu r hr
  | c :: cs, d :: ds, urecs, hu, r, hr => by
      simp only [unifyL] at hr
      split at hr
      · simp at hr
      · exact unifyL_good cs ds _ (unifyE_good c d urecs hu) r hr
  | [], _ :: _, _, _, r, hr => by simp [unifyL] at hr
  | _ :: _, [], _, _, r, hr => by simp [unifyL] at hr
theorem candTable_good : ∀ (cs ds : List Expr) (urecs : List URec), (∀ u ∈ urecs, Good cands u) →
    ∀ row ∈ candTable cands cs ds urecs, ∀ p ∈ row, ∀ pr ∈ p.2, Good cands pr
  | [], _, _, _, row, hrow => by simp [candTable] at hrow
  | c :: cs, ds, urecs, hu, row, hrow => by
      simp only [candTable] at hrow
      split at hrow
      · exact candTable_good cs ds urecs hu row hrow
      · rcases List.mem_cons.1 hrow with rfl | hrow
        · intro p hp pr hpr
          obtain ⟨j, _, hjp⟩ := List.mem_filterMap.1 hp
          split at hjp
          · simp at hjp
          · simp only [Option.some.injEq] at hjp
            subst hjp
            exact unifyE_good c _ urecs hu pr hpr
        · exact candTable_good cs ds urecs hu row hrow
end
end

end PV.Unify
