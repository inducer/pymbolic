import PV.Proofs.EqHash
import PV.Model.EqHashOwn
/-
  C01 — lemmas about `==` / `hash` with the hand-written methods of the legacy number-like classes
  inside (`eqF`, `ownEq`, `hashX`, lean/PV/Model/EqHashOwn.lean).

  1. On objects without an instance of such a class the extended functions ARE the generated ones
     (`hashX_free`, `eqF_free`, `ownEq_free`): everything proved about `eqGen` / `hashGen` carries
     over, and the fields of a `Rational` / `Polynomial` that are ordinary trees compare
     structurally.
  2. One level of `Rational` / `Polynomial` on top of ordinary fields: what `==` answers
     (`ownEq_inst_spec`, `ratEq_plain`, `ratEq_num`, …).
  3. The fuel of `ownEq` is enough (`eqF_fuel`).
  4. The class table under the interpreter modes of C01's histories (`inMode`, `step1_tbl_irrelevant`).
-/
namespace PV.EqHash
open PV PV.Pickle

/-! ### small facts -/

theorem resAll_ok (bs : List Bool) : resAll (bs.map Res.ok) = .ok (bs.all id) := by
  induction bs with
  | nil => rfl
  | cons b bs ih => cases b <;> simp [resAll, Res.and, ih]

theorem pick_map {α β : Type} (g : α → β) (names : List String) (vals : List α) (sel : List String) :
    pick names (vals.map g) sel = (pick names vals sel).map g := by
  have hl : ∀ n, (names.zip (vals.map g)).lookup n = ((names.zip vals).lookup n).map g := by
    intro n
    induction names generalizing vals with
    | nil => simp
    | cons m ms ih =>
      cases vals with
      | nil => simp
      | cons v vs =>
        simp only [List.map_cons, List.zip_cons_cons, List.lookup_cons]
        cases n == m <;> simp [ih]
  simp only [pick, hl, List.map_filterMap]

theorem eqGenL_eq_zip (t : ClassTable) (P : HashParams) : ∀ (as bs : List Obj),
    eqGenL t P as bs = (as.zip bs).map fun p => eqGen t P p.1 p.2
  | [], _ | _ :: _, [] => by simp [eqGenL]
  | a :: as, b :: bs => by simp [eqGenL, eqGenL_eq_zip t P as bs]

theorem zip_map_ok (f : Obj → Obj → Res) (g : Obj → Obj → Bool) : ∀ (as bs : List Obj),
    (∀ a ∈ as, ∀ b ∈ bs, f a b = .ok (g a b)) →
    (as.zip bs).map (fun p => f p.1 p.2) = ((as.zip bs).map fun p => g p.1 p.2).map Res.ok
  | [], _, _ | _ :: _, [], _ => by simp
  | a :: as, b :: bs, h => by
    simp only [List.zip_cons_cons, List.map_cons, h a List.mem_cons_self b List.mem_cons_self,
      zip_map_ok f g as bs (fun a' ha' b' hb' =>
        h a' (List.mem_cons_of_mem _ ha') b' (List.mem_cons_of_mem _ hb'))]

/-- CPython's tuple `==` over pointwise-decided elements is "same length and all equal" -/
theorem tupleEqWith_ok (f : Obj → Obj → Res) (g : Obj → Obj → Bool) : ∀ (as bs : List Obj),
    (∀ a ∈ as, ∀ b ∈ bs, f a b = .ok (g a b)) →
    tupleEqWith f as bs = .ok (as.length == bs.length && ((as.zip bs).map fun p => g p.1 p.2).all id)
  | [], [], _ | [], _ :: _, _ | _ :: _, [], _ => by simp [tupleEqWith]
  | a :: as, b :: bs, h => by
    have h1 := h a List.mem_cons_self b List.mem_cons_self
    have h2 := tupleEqWith_ok f g as bs (fun a' ha' b' hb' =>
      h a' (List.mem_cons_of_mem _ ha') b' (List.mem_cons_of_mem _ hb'))
    simp only [tupleEqWith, h1, h2, List.length_cons, List.zip_cons_cons, List.map_cons,
      List.all_cons, id]
    cases g a b <;> simp

theorem kwEqWith_ok (f : Obj → Obj → Res) (t : ClassTable) (P : HashParams) :
    ∀ (ns : List String) (vs : List Obj) (ms : List String) (ws : List Obj),
    (∀ v ∈ vs, ∀ w ∈ ws, f v w = .ok (eqGen t P v w)) →
    kwEqWith f ns vs ms ws = .ok (eqGenKw t P ns vs ms ws)
  | [], _, _, _, _ | _ :: _, [], _, _, _ => by simp [kwEqWith, eqGenKw]
  | n :: ns, v :: vs, ms, ws, h => by
    have h2 := kwEqWith_ok f t P ns vs ms ws (fun v' hv' w' hw' =>
      h v' (List.mem_cons_of_mem _ hv') w' hw')
    simp only [kwEqWith, eqGenKw, h2]
    cases hl : assocLookupO n ms ws with
    | none => rfl
    | some w =>
      simp only [h v List.mem_cons_self w (lookupO_mem_vals hl)]
      cases eqGen t P v w <;> simp

theorem objDepth_le_depthL : ∀ {xs : List Obj} {x : Obj}, x ∈ xs → objDepth x ≤ objDepthL xs
  | y :: ys, x, h => by
    simp only [objDepthL]
    rcases List.mem_cons.mp h with rfl | h'
    · exact Nat.le_max_left _ _
    · exact Nat.le_trans (objDepth_le_depthL h') (Nat.le_max_right _ _)

theorem ownFreeL_iff {X : OwnCtx} : ∀ {xs : List Obj},
    ownFreeL X xs = true ↔ ∀ x ∈ xs, ownFree X x = true
  | [] => by simp [ownFreeL]
  | y :: ys => by
    simp only [ownFreeL, Bool.and_eq_true, List.forall_mem_cons, ownFreeL_iff (xs := ys)]

/-! ### 1. without hand-written classes inside: the generated methods -/

mutual
theorem hashX_free (X : OwnCtx) : ∀ o : Obj, ownFree X o = true → hashX X o = hashGen X.tbl X.P o
  | .atom _, _ => rfl
  | .tuple xs, h | .list xs, h | .dict _ xs, h => by
      simp only [ownFree] at h
      simp only [hashX, hashGen, hashXL_free X xs h]
  | .inst c k fs v, h => by
      simp only [ownFree, Bool.and_eq_true, Option.isNone_iff_eq_none] at h
      simp only [hashX, hashGen, hashXL_free X fs h.2, h.1]
      cases X.tbl.template? c <;> rfl
theorem hashXL_free (X : OwnCtx) : ∀ xs : List Obj, ownFreeL X xs = true →
    hashXL X xs = hashGenL X.tbl X.P xs
  | [], _ => rfl
  | x :: xs, h => by
      simp only [ownFreeL, Bool.and_eq_true] at h
      simp only [hashXL, hashGenL, hashX_free X x h.1, hashXL_free X xs h.2]
end

/-- the Boolean skeletons of the three instance paths, written with early returns as in the code -/
theorem inst_paths (sameClass sameHash allArgs isLegacy : Bool) :
    (if !(if isLegacy then true else sameClass) then Res.ok false
     else if !sameHash then .ok false else if !sameClass then .ok false else .ok allArgs)
      = .ok (if isLegacy then sameHash && (sameClass && allArgs)
             else sameClass && sameHash && (sameClass && allArgs)) := by
  cases sameClass <;> cases sameHash <;> cases allArgs <;> cases isLegacy <;> rfl

/-- an instance of a class with generated / `Expression` methods is never `==` to an instance of
another class (table satisfying `Ok`: every generated `__eq__` tests the class) -/
theorem methEq_diffclass (X : OwnCtx) (ok : X.tbl.Ok = true) (f : Obj → Obj → Res)
    (c : String) (k : Kind) (fs : List Obj) (v : Option Nat) (c' : String) (k' : Kind)
    (fs' : List Obj) (v' : Option Nat) (hown : X.own? c = none) (hne : (c == c') = false) :
    methEq X f (.inst c k fs v) (.inst c' k' fs' v') = .ok false := by
  simp only [methEq, hown, hne, Bool.false_and]
  cases ht : X.tbl.template? c with
  | none => simp
  | some p =>
    obtain ⟨tpl, lp⟩ := p
    simp only []
    by_cases hleg : (tpl.kind == ClassKind.legacy) = true
    · simp only [hleg, Bool.true_or, if_true]
      split <;> simp
    · simp only [Bool.not_eq_true] at hleg
      cases lp with
      | true => simp [hleg]
      | false =>
        obtain ⟨_, _, hcc, _, _⟩ := okDataclass_spec (template_dataclass ok ht).2
        simp [hleg, hcc]

theorem properSub_ne {X : OwnCtx} {c' c : String} (h : X.properSub c' c = true) :
    (c == c') = false := by
  simp only [OwnCtx.properSub, Bool.and_eq_true, bne_iff_ne, ne_eq] at h
  simp only [beq_eq_false_iff_ne, ne_eq]
  exact fun e => h.1 e.symm

/-- **conservativity.**  On objects that contain no instance of a class with a hand-written
`__eq__`, Python's `==` as modelled here (dispatch order, reflected calls, tuple and mapping
comparison, early returns) answers what the table-driven generated method answers, for every table
satisfying `Ok` and every amount of fuel above the depth of the left operand. -/
theorem eqF_free (X : OwnCtx) (ok : X.tbl.Ok = true) : ∀ (fuel : Nat) (a b : Obj),
    ownFree X a = true → ownFree X b = true → objDepth a < fuel →
    eqF X fuel a b = .ok (eqGen X.tbl X.P a b) := by
  intro fuel
  induction fuel with
  | zero => intro a b _ _ h; exact absurd h (Nat.not_lt_zero _)
  | succ fuel ih =>
    intro a b fa fb hd
    have ihL : ∀ (xs ys : List Obj), ownFreeL X xs = true → ownFreeL X ys = true →
        objDepthL xs < fuel → ∀ x ∈ xs, ∀ y ∈ ys, eqF X fuel x y = .ok (eqGen X.tbl X.P x y) := by
      intro xs ys fx fy hx x hxm y hym
      exact ih x y (ownFreeL_iff.mp fx x hxm) (ownFreeL_iff.mp fy y hym)
        (Nat.lt_of_le_of_lt (objDepth_le_depthL hxm) hx)
    cases a <;> cases b <;> simp only [ownFree, Bool.and_eq_true, Option.isNone_iff_eq_none] at fa fb <;>
      simp only [objDepth, Nat.add_lt_add_iff_right] at hd
    case atom.atom c d => simp only [eqF, eqGen]
    case tuple.tuple xs ys =>
      simp only [eqF, eqGen]
      rw [tupleEqWith_ok _ (eqGen X.tbl X.P) xs ys (ihL xs ys fa fb hd), eqGenL_eq_zip]
    case list.list xs ys =>
      simp only [eqF, eqGen]
      rw [tupleEqWith_ok _ (eqGen X.tbl X.P) xs ys (ihL xs ys fa fb hd), eqGenL_eq_zip]
      by_cases hl : xs.length = ys.length <;> simp [hl]
    case dict.dict ks vs ms ws =>
      simp only [eqF, eqGen]
      rw [kwEqWith_ok _ X.tbl X.P ks vs ms ws (ihL vs ws fa fb hd)]
      by_cases hl : ks.length = ms.length <;> simp [hl]
    case inst.inst c k fs v c' k' fs' v' =>
      have hha : hashX X (.inst c k fs v) = hashGen X.tbl X.P (.inst c k fs v) :=
        hashX_free X _ (by simp only [ownFree, fa.1, fa.2, Option.isNone_none, Bool.and_self])
      have hhb : hashX X (.inst c' k' fs' v') = hashGen X.tbl X.P (.inst c' k' fs' v') :=
        hashX_free X _ (by simp only [ownFree, fb.1, fb.2, Option.isNone_none, Bool.and_self])
      have hzip := zip_map_ok (eqF X fuel) (eqGen X.tbl X.P) fs fs' (ihL fs fs' fa.2 fb.2 hd)
      have htup := tupleEqWith_ok (eqF X fuel) (eqGen X.tbl X.P) fs fs' (ihL fs fs' fa.2 fb.2 hd)
      -- the forward call `a.__eq__(b)`
      have fwd : methEq X (eqF X fuel) (.inst c k fs v) (.inst c' k' fs' v')
          = .ok (eqGen X.tbl X.P (.inst c k fs v) (.inst c' k' fs' v')) := by
        simp only [methEq, fa.1, eqGen, hha, hhb, htup, hzip, pick_map, resAll_ok, ← eqGenL_eq_zip]
        cases ht : X.tbl.template? c with
        | none =>
          simp only []
          cases (c == c' && k == k') <;>
            cases (hashGen X.tbl X.P (.inst c k fs v) == hashGen X.tbl X.P (.inst c' k' fs' v')) <;>
            simp
        | some p =>
          obtain ⟨tpl, lp⟩ := p
          simp only []
          by_cases hleg : (tpl.kind == ClassKind.legacy) = true
          · have := inst_paths (c == c' && k == k')
              (hashGen X.tbl X.P (.inst c k fs v) == hashGen X.tbl X.P (.inst c' k' fs' v'))
              (fs.length == fs'.length && (eqGenL X.tbl X.P fs fs').all id) true
            simp only [if_true] at this
            simp only [hleg, Bool.true_or, if_true, this]
          · simp only [Bool.not_eq_true] at hleg
            cases lp with
            | true =>
              have := inst_paths (c == c' && k == k')
                (hashGen X.tbl X.P (.inst c k fs v) == hashGen X.tbl X.P (.inst c' k' fs' v'))
                (fs.length == fs'.length && (eqGenL X.tbl X.P fs fs').all id) false
              simp only [Bool.false_eq_true, if_false] at this
              simp only [hleg, Bool.false_or, if_true, Bool.false_eq_true, if_false, this]
            | false =>
              simp only [hleg, Bool.false_or, Bool.false_eq_true, if_false]
              cases (!tpl.eqClassChecked || (c == c' && k == k')) <;>
                cases (hashGen X.tbl X.P (.inst c k fs v) == hashGen X.tbl X.P (.inst c' k' fs' v')) <;>
                simp
      simp only [eqF]
      by_cases hps : X.properSub c' c = true
      · -- a proper subclass on the right is asked first: both directions answer False
        have hne := properSub_ne hps
        have hne' : (c' == c) = false := by
          simp only [beq_eq_false_iff_ne, ne_eq] at hne ⊢
          exact fun e => hne e.symm
        have h1 := methEq_diffclass X ok (eqF X fuel) c k fs v c' k' fs' v' fa.1 hne
        rw [fwd] at h1
        simp only [hps, if_true, methEq_diffclass X ok (eqF X fuel) c' k' fs' v' c k fs v fb.1 hne']
        exact h1.symm
      · simp only [hps, Bool.false_eq_true, if_false]
        exact fwd
    case inst.atom | inst.tuple | inst.list | inst.dict => simp only [eqF, methEq, fa.1, eqGen]
    case atom.inst | tuple.inst | list.inst | dict.inst => simp only [eqF, methEq, fb.1, eqGen]
    all_goals simp only [eqF, eqGen]

/-- `a == b` for two objects without hand-written classes inside -/
theorem ownEq_free (X : OwnCtx) (ok : X.tbl.Ok = true) (a b : Obj) (fa : ownFree X a = true)
    (fb : ownFree X b = true) : ownEq X a b = .ok (eqGen X.tbl X.P a b) :=
  eqF_free X ok _ a b fa fb (by omega)

/-! ### 2. one level of hand-written `__eq__` over ordinary attribute values -/

/-- pairwise `==` of two lists of attribute values -/
def pairsEq (as bs : List Obj) : Bool := (as.zip bs).all fun p => p.1.pyEq p.2

theorem pairsEq_symm : ∀ (as bs : List Obj), (∀ a ∈ as, a.wf = true) → (∀ b ∈ bs, b.wf = true) →
    pairsEq as bs = pairsEq bs as
  | [], [], _, _ | [], _ :: _, _, _ | _ :: _, [], _, _ => rfl
  | a :: as, b :: bs, wa, wb => by
    have ih := pairsEq_symm as bs (fun x hx => wa x (List.mem_cons_of_mem _ hx))
      (fun x hx => wb x (List.mem_cons_of_mem _ hx))
    simp only [pairsEq, List.zip_cons_cons, List.all_cons] at ih ⊢
    rw [ih]
    congr 1
    have ha := wa a List.mem_cons_self
    have hb := wb b List.mem_cons_self
    cases h1 : a.pyEq b with
    | true => exact (Obj.pyEq_symm a b ha hb h1).symm
    | false =>
      cases h2 : b.pyEq a with
      | true => rw [Obj.pyEq_symm b a hb ha h2] at h1; exact absurd h1 (by simp)
      | false => rfl

theorem lookup_mem_pair {α : Type} {n : String} {x : α} : ∀ {l : List (String × α)},
    l.lookup n = some x → (n, x) ∈ l
  | [], h => by simp at h
  | (m, y) :: l, h => by
    simp only [List.lookup_cons] at h
    cases hnm : n == m with
    | true =>
      simp only [hnm] at h
      simp only [beq_iff_eq] at hnm
      simp only [Option.some.injEq] at h
      subst h; subst hnm
      exact List.mem_cons_self
    | false =>
      simp only [hnm] at h
      exact List.mem_cons_of_mem _ (lookup_mem_pair h)

theorem pick_subset {α : Type} {names : List String} {vals : List α} {sel : List String} {x : α}
    (h : x ∈ pick names vals sel) : x ∈ vals := by
  simp only [pick, List.mem_filterMap] at h
  obtain ⟨n, _, hn⟩ := h
  exact (List.of_mem_zip (lookup_mem_pair hn)).2

/-- side conditions under which an attribute value is an ordinary, well-formed tree of the table -/
structure Plain (X : OwnCtx) (o : Obj) : Prop where
  free : ownFree X o = true
  wf : o.wf = true
  conf : conforms X.tbl o = true

/-- the chain `self.A == other.A and …` over ordinary attribute values -/
theorem cmpChain_spec (X : OwnCtx) (ok : X.tbl.Ok = true) (hP : X.P.Ok) (fuel : Nat)
    (as bs : List Obj) (pa : ∀ a ∈ as, Plain X a) (pb : ∀ b ∈ bs, Plain X b)
    (hd : objDepthL as < fuel) :
    resAll ((as.zip bs).map fun p => eqF X fuel p.1 p.2) = .ok (pairsEq as bs) := by
  rw [zip_map_ok (eqF X fuel) (fun a b => a.pyEq b) as bs, resAll_ok]
  · simp only [pairsEq, List.all_map]; rfl
  · intro a ha b hb
    rw [eqF_free X ok fuel a b (pa a ha).free (pb b hb).free
      (Nat.lt_of_le_of_lt (objDepth_le_depthL ha) hd),
      eqGen_eq_pyEq ok hP a b (pa a ha).wf (pb b hb).wf (pa a ha).conf (pb b hb).conf]

theorem methEq_own_inst (X : OwnCtx) (f : Obj → Obj → Res) {c : String} {o : C01OwnEqInfo}
    (hc : X.own? c = some o) (k : Kind) (fs : List Obj) (h : Option Nat) (c' : String) (k' : Kind)
    (fs' : List Obj) (h' : Option Nat)
    (hi : (if o.eqIsinstance then X.isInstance c' o.name else c' == c) = true) :
    methEq X f (.inst c k fs h) (.inst c' k' fs' h') =
      resAll (((pick o.initAttrs fs o.eqAttrs).zip (pick o.initAttrs fs' o.eqAttrs)).map
        fun p => f p.1 p.2) := by
  simp only [methEq, hc, hi]

theorem objDepthL_le_of_forall {D : Nat} : ∀ {l : List Obj}, (∀ x ∈ l, objDepth x ≤ D) →
    objDepthL l ≤ D
  | [], _ => Nat.zero_le _
  | x :: xs, h => by
    simp only [objDepthL]
    exact Nat.max_le.mpr ⟨h x List.mem_cons_self,
      objDepthL_le_of_forall fun y hy => h y (List.mem_cons_of_mem _ hy)⟩

theorem objDepthL_pick {names : List String} {vals : List Obj} {sel : List String} :
    objDepthL (pick names vals sel) ≤ objDepthL vals :=
  objDepthL_le_of_forall fun _ hx => objDepth_le_depthL (pick_subset hx)

/-! one step of `==` (the fuel stays a variable, so nothing unfolds further) -/

theorem eqF_inst_inst (X : OwnCtx) (fuel : Nat) (c : String) (k : Kind) (fs : List Obj)
    (h : Option Nat) (c' : String) (k' : Kind) (fs' : List Obj) (h' : Option Nat) :
    eqF X (fuel + 1) (.inst c k fs h) (.inst c' k' fs' h') =
      if X.properSub c' c then methEq X (eqF X fuel) (.inst c' k' fs' h') (.inst c k fs h)
      else methEq X (eqF X fuel) (.inst c k fs h) (.inst c' k' fs' h') := by
  simp only [eqF]

theorem eqF_inst_atom (X : OwnCtx) (fuel : Nat) (c : String) (k : Kind) (fs : List Obj)
    (h : Option Nat) (d : Const) :
    eqF X (fuel + 1) (.inst c k fs h) (.atom d) = methEq X (eqF X fuel) (.inst c k fs h) (.atom d) := by
  simp only [eqF]

theorem eqF_atom_inst (X : OwnCtx) (fuel : Nat) (c : String) (k : Kind) (fs : List Obj)
    (h : Option Nat) (d : Const) :
    eqF X (fuel + 1) (.atom d) (.inst c k fs h) = methEq X (eqF X fuel) (.inst c k fs h) (.atom d) := by
  simp only [eqF]

/-- the values of the attributes the hand-written `__eq__` compares -/
def eqVals (o : C01OwnEqInfo) (fs : List Obj) : List Obj := pick o.initAttrs fs o.eqAttrs

/-- **both operands instances of the defining class** (`isinstance`, so subclasses included; no
coercion happens): the answer is the pairwise `==` of the compared attributes — whatever the two
classes are, whatever the other init args hold, whichever operand CPython asks first. -/
theorem ownEq_inst_spec (X : OwnCtx) (ok : X.tbl.Ok = true) (hP : X.P.Ok) {o : C01OwnEqInfo}
    {c c' : String} (hc : X.own? c = some o) (hc' : X.own? c' = some o)
    (hin : o.eqIsinstance = true) (hi : X.isInstance c o.name = true)
    (hi' : X.isInstance c' o.name = true) (k k' : Kind) (fs fs' : List Obj) (h h' : Option Nat)
    (pf : ∀ x ∈ fs, Plain X x) (pf' : ∀ x ∈ fs', Plain X x) :
    ownEq X (.inst c k fs h) (.inst c' k' fs' h') = .ok (pairsEq (eqVals o fs) (eqVals o fs')) := by
  have pa : ∀ x ∈ eqVals o fs, Plain X x := fun x hx => pf x (pick_subset hx)
  have pb : ∀ x ∈ eqVals o fs', Plain X x := fun x hx => pf' x (pick_subset hx)
  have da : objDepthL (eqVals o fs) ≤ objDepthL fs := objDepthL_pick
  have db : objDepthL (eqVals o fs') ≤ objDepthL fs' := objDepthL_pick
  simp only [ownEq, objDepth]
  rw [eqF_inst_inst]
  by_cases hps : X.properSub c' c = true
  · simp only [hps, if_true]
    rw [methEq_own_inst X _ hc' k' fs' h' c k fs h (by simp [hin, hi])]
    rw [show pick o.initAttrs fs' o.eqAttrs = eqVals o fs' from rfl,
      show pick o.initAttrs fs o.eqAttrs = eqVals o fs from rfl,
      cmpChain_spec X ok hP _ _ _ pb pa (by omega)]
    rw [pairsEq_symm _ _ (fun a ha => (pb a ha).wf) (fun a ha => (pa a ha).wf)]
  · simp only [hps, Bool.false_eq_true, if_false]
    rw [methEq_own_inst X _ hc k fs h c' k' fs' h' (by simp [hin, hi'])]
    rw [show pick o.initAttrs fs' o.eqAttrs = eqVals o fs' from rfl,
      show pick o.initAttrs fs o.eqAttrs = eqVals o fs from rfl,
      cmpChain_spec X ok hP _ _ _ pa pb (by omega)]

/-! #### laws of `pairsEq` -/

theorem pairsEq_refl : ∀ (as : List Obj), (∀ a ∈ as, a.wf = true) → pairsEq as as = true
  | [], _ => rfl
  | a :: as, wa => by
    simp only [pairsEq, List.zip_cons_cons, List.all_cons, Bool.and_eq_true]
    exact ⟨Obj.pyEq_refl a (wa a List.mem_cons_self),
      pairsEq_refl as fun x hx => wa x (List.mem_cons_of_mem _ hx)⟩

theorem pairsEq_trans : ∀ (as bs cs : List Obj), as.length = bs.length → bs.length = cs.length →
    (∀ a ∈ as, a.wf = true) → (∀ b ∈ bs, b.wf = true) → (∀ c ∈ cs, c.wf = true) →
    pairsEq as bs = true → pairsEq bs cs = true → pairsEq as cs = true
  | [], _, _, _, _, _, _, _, _, _ => by simp [pairsEq]
  | _ :: _, [], _, h, _, _, _, _, _, _ | _ :: _, _ :: _, [], _, h, _, _, _, _, _ => by simp at h
  | a :: as, b :: bs, c :: cs, l1, l2, wa, wb, wc, h1, h2 => by
    simp only [pairsEq, List.zip_cons_cons, List.all_cons, Bool.and_eq_true] at h1 h2 ⊢
    exact ⟨Obj.pyEq_trans a b c (wa a List.mem_cons_self) (wb b List.mem_cons_self)
        (wc c List.mem_cons_self) h1.1 h2.1,
      pairsEq_trans as bs cs (by simpa using l1) (by simpa using l2)
        (fun x hx => wa x (List.mem_cons_of_mem _ hx)) (fun x hx => wb x (List.mem_cons_of_mem _ hx))
        (fun x hx => wc x (List.mem_cons_of_mem _ hx)) h1.2 h2.2⟩

/-- pairwise-equal attribute values hash pairwise equal -/
theorem pairsEq_hash {X : OwnCtx} (ok : X.tbl.Ok = true) (hP : X.P.Ok) : ∀ (as bs : List Obj),
    as.length = bs.length → (∀ a ∈ as, Plain X a) → (∀ b ∈ bs, Plain X b) → pairsEq as bs = true →
    hashXL X as = hashXL X bs
  | [], [], _, _, _, _ => rfl
  | [], _ :: _, h, _, _, _ | _ :: _, [], h, _, _, _ => by simp at h
  | a :: as, b :: bs, hl, pa, pb, h => by
    simp only [pairsEq, List.zip_cons_cons, List.all_cons, Bool.and_eq_true] at h
    have ha := pa a List.mem_cons_self
    have hb := pb b List.mem_cons_self
    simp only [hashXL]
    rw [pairsEq_hash ok hP as bs (by simpa using hl) (fun x hx => pa x (List.mem_cons_of_mem _ hx))
      (fun x hx => pb x (List.mem_cons_of_mem _ hx)) h.2]
    rw [hashX_free X a ha.free, hashX_free X b hb.free, hashGen_eq_hash ok X.P a ha.conf,
      hashGen_eq_hash ok X.P b hb.conf, Obj.eq_hash hP a b ha.wf hb.wf h.1]

/-! #### the rational shape -/

/-- what `C01OwnEqInfo.ok` says about a record of the rational shape: `__eq__`, `__hash__` and
`__getinitargs__` all speak about the same two attributes (numerator `an`, denominator `ad`), the
unit test of `__hash__` looks at the denominator and hashes the numerator -/
structure RatShape (o : C01OwnEqInfo) (an ad : String) : Prop where
  init : o.initAttrs = [an, ad]
  eq : o.eqAttrs = [an, ad]
  hash : o.hashAttrs = [an, ad]
  ne : an ≠ ad
  isinst : o.eqIsinstance = true
  coerces : o.eqCoerces = true
  tagged : o.hashTagged = true
  unitA : o.hashUnitAttr = some ad
  unitV : o.hashUnitValue = some an

theorem ratShape_of_ok {o : C01OwnEqInfo} (hok : o.ok = true) (hs : o.shape = .rational) :
    ∃ an ad, RatShape o an ad := by
  simp only [C01OwnEqInfo.ok, hs, Bool.and_eq_true, decide_eq_true_eq, beq_iff_eq, and_assoc] at hok
  -- the conjuncts of `C01OwnEqInfo.ok` in order: initAttrs.Nodup, eqIsinstance, hashTagged,
  -- neIsNotEq, initAsExpected, hashAttrs = eqAttrs, eqAttrs ⊆ initAttrs, then those of the shape
  -- (rational: coerces (hco), initAttrs = eqAttrs (hie), the unit test of `__hash__` (hm))
  obtain ⟨hnd, hin, htag, _, _, hh, _, hco, hie, hm⟩ := hok
  cases he : o.eqAttrs with
  | nil => simp [he] at hm
  | cons an r1 =>
    cases r1 with
    | nil => simp [he] at hm
    | cons ad r2 =>
      cases r2 with
      | cons _ _ => simp [he] at hm
      | nil =>
        cases hua : o.hashUnitAttr with
        | none => simp [he, hua] at hm
        | some ua =>
          cases huv : o.hashUnitValue with
          | none => simp [he, hua, huv] at hm
          | some uv =>
            simp only [he, hua, huv, Bool.and_eq_true, beq_iff_eq] at hm
            refine ⟨an, ad, ⟨by rw [hie, he], he, by rw [hh, he], ?_, hin, hco, htag, by rw [hua, hm.1],
              by rw [huv, hm.2]⟩⟩
            rw [hie, he] at hnd
            simp only [List.nodup_cons, List.mem_cons, List.not_mem_nil, or_false] at hnd
            exact hnd.1

theorem RatShape.eqVals {o : C01OwnEqInfo} {an ad : String} (rs : RatShape o an ad) (n d : Obj) :
    eqVals o [n, d] = [n, d] := by
  have h1 : (ad == an) = false := by
    simp only [beq_eq_false_iff_ne, ne_eq]; exact fun e => rs.ne e.symm
  simp [EqHash.eqVals, rs.init, rs.eq, pick, List.lookup, h1]

theorem plain_floatOne (X : OwnCtx) : Plain X floatOne := ⟨rfl, rfl, rfl⟩

theorem plain_atom (X : OwnCtx) (c : Const) (h : c.wf = true) : Plain X (.atom c) := ⟨rfl, h, rfl⟩

/-- the coercion branch of a hand-written `__eq__`: `other = C(other)`, then the comparison chain
against the init args the constructor stored -/
theorem methEq_own_coerce_inst (X : OwnCtx) (f : Obj → Obj → Res) {c : String} {o : C01OwnEqInfo}
    (hc : X.own? c = some o) (hco : o.eqCoerces = true) (k : Kind) (fs : List Obj) (h : Option Nat)
    (c' : String) (k' : Kind) (fs' : List Obj) (h' : Option Nat)
    (hni : (if o.eqIsinstance then X.isInstance c' o.name else c' == c) = false)
    (hnp : X.isPolyShape c' = false) :
    methEq X f (.inst c k fs h) (.inst c' k' fs' h') =
      resAll (((pick o.initAttrs fs o.eqAttrs).zip
        (pick o.initAttrs [.inst c' k' fs' h', floatOne] o.eqAttrs)).map fun p => f p.1 p.2) := by
  simp only [methEq, hc, hni, hco, coerceOther, hnp, Bool.false_eq_true, if_false, if_true]

theorem methEq_own_coerce_atom (X : OwnCtx) (f : Obj → Obj → Res) {c : String} {o : C01OwnEqInfo}
    (hc : X.own? c = some o) (hco : o.eqCoerces = true) (k : Kind) (fs : List Obj) (h : Option Nat)
    (d fl : Const) (hn : constIsNumeric d = true) (hf : constToFloat? d = some fl) :
    methEq X f (.inst c k fs h) (.atom d) =
      resAll (((pick o.initAttrs fs o.eqAttrs).zip
        (pick o.initAttrs [.atom fl, floatOne] o.eqAttrs)).map fun p => f p.1 p.2) := by
  simp only [methEq, hc, hco, coerceOther, hn, hf, if_true]

/-- a `Rational` against something that cannot be divided by one: the comparison RAISES -/
theorem methEq_own_coerce_raises (X : OwnCtx) (f : Obj → Obj → Res) {c : String} {o : C01OwnEqInfo}
    (hc : X.own? c = some o) (hco : o.eqCoerces = true) (k : Kind) (fs : List Obj) (h : Option Nat)
    (other : Obj)
    (hb : (∃ d, other = .atom d ∧ constIsNumeric d = false) ∨ (∃ xs, other = .tuple xs) ∨
          (∃ ks vs, other = .dict ks vs)) :
    methEq X f (.inst c k fs h) other = .raises := by
  rcases hb with ⟨d, rfl, hd⟩ | ⟨xs, rfl⟩ | ⟨ks, vs, rfl⟩
  · simp [methEq, hc, hco, coerceOther, hd]
  · simp [methEq, hc, hco, coerceOther]
  · simp [methEq, hc, hco, coerceOther]

/-- **`Rational(n, d) == e`** for an ordinary node `e` (not a Rational, not a subclass of the
Rational's class): `n == e and d == 1.0` — equal to its bare numerator when the denominator is
one, although the classes differ. -/
theorem ratEq_plain (X : OwnCtx) (ok : X.tbl.Ok = true) (hP : X.P.Ok) {o : C01OwnEqInfo} {c an ad : String}
    (hc : X.own? c = some o) (rs : RatShape o an ad) (k : Kind) (n d : Obj) (h : Option Nat)
    (c' : String) (k' : Kind) (fs' : List Obj) (h' : Option Nat)
    (he : X.own? c' = none) (hni : X.isInstance c' o.name = false) (hps : X.properSub c' c = false)
    (pn : Plain X n) (pd : Plain X d) (pe : Plain X (.inst c' k' fs' h')) :
    ownEq X (.inst c k [n, d] h) (.inst c' k' fs' h') =
      .ok (n.pyEq (.inst c' k' fs' h') && d.pyEq floatOne) := by
  simp only [ownEq, objDepth]
  rw [eqF_inst_inst]
  simp only [hps, Bool.false_eq_true, if_false]
  rw [methEq_own_coerce_inst X _ hc rs.coerces k [n, d] h c' k' fs' h' (by simp [rs.isinst, hni])
    (by simp [OwnCtx.isPolyShape, he])]
  rw [show pick o.initAttrs [n, d] o.eqAttrs = eqVals o [n, d] from rfl,
    show pick o.initAttrs [Obj.inst c' k' fs' h', floatOne] o.eqAttrs
      = eqVals o [Obj.inst c' k' fs' h', floatOne] from rfl, rs.eqVals, rs.eqVals]
  rw [cmpChain_spec X ok hP _ [n, d] [.inst c' k' fs' h', floatOne]
    (by intro a ha; simp only [List.mem_cons, List.not_mem_nil, or_false] at ha
        rcases ha with rfl | rfl <;> assumption)
    (by intro a ha; simp only [List.mem_cons, List.not_mem_nil, or_false] at ha
        rcases ha with rfl | rfl
        · exact pe
        · exact plain_floatOne X)
    (by simp only [objDepthL]; omega)]
  simp [pairsEq]

/-- … and the other way round the ordinary node answers for itself: never equal -/
theorem plainEq_rat (X : OwnCtx) (ok : X.tbl.Ok = true) {o : C01OwnEqInfo} {c : String}
    (hc : X.own? c = some o) (k : Kind) (fs : List Obj) (h : Option Nat)
    (c' : String) (k' : Kind) (fs' : List Obj) (h' : Option Nat)
    (he : X.own? c' = none) (hps : X.properSub c c' = false) :
    ownEq X (.inst c' k' fs' h') (.inst c k fs h) = .ok false := by
  have hne : (c' == c) = false := by
    simp only [beq_eq_false_iff_ne, ne_eq]
    rintro rfl
    rw [hc] at he
    exact absurd he (by simp)
  simp only [ownEq, objDepth]
  rw [eqF_inst_inst]
  simp only [hps, Bool.false_eq_true, if_false]
  exact methEq_diffclass X ok _ c' k' fs' h' c k fs h he hne

theorem constToFloat?_numVal {d fl : Const} (h : constToFloat? d = some fl) :
    fl.numVal? = d.numVal? := by
  cases d with
  | int n =>
    simp only [constToFloat?] at h
    split at h
    · simp only [Option.some.injEq] at h; subst h; simp [Const.numVal?]
    · simp at h
  | bool b =>
    simp only [constToFloat?, Option.some.injEq] at h
    subst h; cases b <;> simp [Const.numVal?]
  | flt r n m => simp only [constToFloat?, Option.some.injEq] at h; subst h; rfl
  | str _ => simp [constToFloat?] at h
  | none => simp [constToFloat?] at h

/-- the float a number is turned into compares like the number -/
theorem constToFloat?_pyEq {d fl : Const} (h : constToFloat? d = some fl) (hn : constIsNumeric d = true)
    (x : Obj) : x.pyEq (.atom fl) = x.pyEq (.atom d) := by
  have hv := constToFloat?_numVal h
  cases x <;> simp only [Obj.pyEq]
  case atom c =>
    unfold Const.pyEq
    rw [hv]
    cases hc : c.numVal? with
    | some p => cases hd : d.numVal? <;> simp
    | none =>
      cases hd : d.numVal? with
      | some q => simp
      | none =>
        cases d <;> simp [constIsNumeric] at hn <;> simp [Const.numVal?] at hd
        -- a float without a value (inf / nan spelled by its repr) is kept as it is
        all_goals (simp only [constToFloat?, Option.some.injEq] at h; subst h; rfl)

/-- **`Rational(n, d) == k`** for a number `k` — and `k == Rational(n, d)`, which CPython hands to
the same method: `n == k and d == 1` -/
theorem ratEq_num (X : OwnCtx) (ok : X.tbl.Ok = true) (hP : X.P.Ok) {o : C01OwnEqInfo} {c an ad : String}
    (hc : X.own? c = some o) (rs : RatShape o an ad) (k : Kind) (n d : Obj) (h : Option Nat)
    (kc fl : Const) (hn : constIsNumeric kc = true) (hf : constToFloat? kc = some fl)
    (hw : kc.wf = true) (pn : Plain X n) (pd : Plain X d) :
    ownEq X (.inst c k [n, d] h) (.atom kc) = .ok (n.pyEq (.atom kc) && d.pyEq floatOne) ∧
    ownEq X (.atom kc) (.inst c k [n, d] h) = .ok (n.pyEq (.atom kc) && d.pyEq floatOne) := by
  have hwf : fl.wf = true := by
    cases kc <;> simp [constToFloat?] at hf
    · obtain ⟨_, rfl⟩ := hf; rfl
    · subst hf; rfl
    · subst hf; exact hw
  have key : methEq X (eqF X (objDepthL [n, d] + 1)) (.inst c k [n, d] h) (.atom kc)
      = .ok (n.pyEq (.atom kc) && d.pyEq floatOne) := by
    rw [methEq_own_coerce_atom X _ hc rs.coerces k [n, d] h kc fl hn hf]
    rw [show pick o.initAttrs [n, d] o.eqAttrs = eqVals o [n, d] from rfl,
      show pick o.initAttrs [Obj.atom fl, floatOne] o.eqAttrs = eqVals o [Obj.atom fl, floatOne] from rfl,
      rs.eqVals, rs.eqVals]
    rw [cmpChain_spec X ok hP _ [n, d] [.atom fl, floatOne]
      (by intro a ha; simp only [List.mem_cons, List.not_mem_nil, or_false] at ha
          rcases ha with rfl | rfl <;> assumption)
      (by intro a ha; simp only [List.mem_cons, List.not_mem_nil, or_false] at ha
          rcases ha with rfl | rfl
          · exact plain_atom X fl hwf
          · exact plain_floatOne X)
      (by omega)]
    simp [pairsEq, constToFloat?_pyEq hf hn]
  constructor
  · simp only [ownEq, objDepth, Nat.add_zero]
    rw [eqF_inst_atom]; exact key
  · simp only [ownEq, objDepth, Nat.zero_add]
    rw [eqF_atom_inst]; exact key

/-! #### hashes -/

theorem hashXL_eq_map (X : OwnCtx) : ∀ xs : List Obj, hashXL X xs = xs.map (hashX X)
  | [] => rfl
  | x :: xs => by simp [hashXL, hashXL_eq_map X xs]

theorem hashX_own (X : OwnCtx) {c : String} {o : C01OwnEqInfo} (hc : X.own? c = some o) (k : Kind)
    (fs : List Obj) (h : Option Nat) :
    hashX X (.inst c k fs h) = ownHash X.P o c fs (hashXL X fs) := by
  simp only [hashX, hc]

theorem lookup_zip_isSome {α β : Type} (n : String) : ∀ (names : List String) (xs : List α)
    (ys : List β), xs.length = ys.length →
    ((names.zip xs).lookup n).isSome = ((names.zip ys).lookup n).isSome
  | [], _, _, _ | _ :: _, [], [], _ => by simp
  | _ :: _, [], _ :: _, h | _ :: _, _ :: _, [], h => by simp at h
  | m :: ms, x :: xs, y :: ys, h => by
    simp only [List.zip_cons_cons, List.lookup_cons]
    cases n == m
    · exact lookup_zip_isSome n ms xs ys (by simpa using h)
    · rfl

theorem pick_length {α β : Type} (names : List String) (xs : List α) (ys : List β)
    (h : xs.length = ys.length) : ∀ sel : List String,
    (pick names xs sel).length = (pick names ys sel).length
  | [] => rfl
  | s :: ss => by
    have h1 := lookup_zip_isSome s names xs ys h
    have ih := pick_length names xs ys h ss
    simp only [pick, List.filterMap_cons] at ih ⊢
    cases hx : (names.zip xs).lookup s <;> cases hy : (names.zip ys).lookup s <;>
      simp_all

/-- **instances of the same class with pairwise `==` compared attributes hash equal** when the
hash covers exactly the compared attributes (polynomial shape: no unit test) -/
theorem ownHash_eq_of_pairsEq (X : OwnCtx) (ok : X.tbl.Ok = true) (hP : X.P.Ok) {o : C01OwnEqInfo}
    {c : String} (hc : X.own? c = some o) (hu : o.hashUnitAttr = none) (hh : o.hashAttrs = o.eqAttrs)
    (k k' : Kind) (fs fs' : List Obj) (h h' : Option Nat) (hl : fs.length = fs'.length)
    (pf : ∀ x ∈ fs, Plain X x) (pf' : ∀ x ∈ fs', Plain X x)
    (he : pairsEq (eqVals o fs) (eqVals o fs') = true) :
    hashX X (.inst c k fs h) = hashX X (.inst c k' fs' h') := by
  rw [hashX_own X hc, hashX_own X hc]
  simp only [ownHash, hu, hh, hashXL_eq_map, pick_map]
  rw [← hashXL_eq_map, ← hashXL_eq_map]
  rw [pairsEq_hash ok hP (pick o.initAttrs fs o.eqAttrs) (pick o.initAttrs fs' o.eqAttrs)
    (pick_length _ _ _ hl _) (fun x hx => pf x (pick_subset hx)) (fun x hx => pf' x (pick_subset hx)) he]

/-- the hand-written `__hash__` of the rational shape on (numerator, NUMBER denominator) -/
theorem hashX_rat (X : OwnCtx) {o : C01OwnEqInfo} {c an ad : String} (hc : X.own? c = some o)
    (rs : RatShape o an ad) (k : Kind) (n : Obj) (dc : Const) (h : Option Nat) :
    hashX X (.inst c k [n, .atom dc] h) =
      if dc.pyEq (.int 1) then hashX X n
      else X.P.tuple "tuple" [X.P.str c, hashX X n, dc.hash X.P] := by
  have h1 : (ad == an) = false := by
    simp only [beq_eq_false_iff_ne, ne_eq]; exact fun e => rs.ne e.symm
  rw [hashX_own X hc]
  simp [ownHash, rs.init, rs.hash, rs.tagged, rs.unitA, rs.unitV, attrOf, pick, List.lookup, h1,
    hashXL, hashX]

theorem plain_hashX {X : OwnCtx} (ok : X.tbl.Ok = true) {a : Obj} (pa : Plain X a) :
    hashX X a = a.hash X.P := by
  rw [hashX_free X a pa.free, hashGen_eq_hash ok X.P a pa.conf]

theorem const_one_float : Const.pyEq (.flt "1.0" 1 1) (.int 1) = true := by decide

/-- a denominator `==` to the float one passes the unit test `self.Denominator == 1` -/
theorem den_unit_of_eq {dc : Const} (h : (Obj.atom dc).pyEq floatOne = true) :
    dc.pyEq (.int 1) = true :=
  Const.pyEq_trans dc _ _ (by simpa [Obj.pyEq, floatOne] using h) const_one_float

/-- two `==` denominators take the same branch of the unit test -/
theorem den_unit_congr {dc dc' : Const} (h : dc.pyEq dc' = true) :
    dc.pyEq (.int 1) = dc'.pyEq (.int 1) := by
  cases h1 : dc.pyEq (.int 1) with
  | true => exact (Const.pyEq_trans dc' dc _ (Const.pyEq_symm _ _ h) h1).symm
  | false =>
    cases h2 : dc'.pyEq (.int 1) with
    | false => rfl
    | true => rw [Const.pyEq_trans dc dc' _ h h2] at h1; exact absurd h1 (by simp)

/-- **equal Rationals of the same class hash equal** (number denominators) -/
theorem ratEq_hash (X : OwnCtx) (ok : X.tbl.Ok = true) (hP : X.P.Ok) {o : C01OwnEqInfo} {c an ad : String}
    (hc : X.own? c = some o) (rs : RatShape o an ad) (k k' : Kind) (n n' : Obj) (dc dc' : Const)
    (h h' : Option Nat) (pn : Plain X n) (pn' : Plain X n')
    (he : (n.pyEq n' && dc.pyEq dc') = true) :
    hashX X (.inst c k [n, .atom dc] h) = hashX X (.inst c k' [n', .atom dc'] h') := by
  simp only [Bool.and_eq_true] at he
  rw [hashX_rat X hc rs, hashX_rat X hc rs, den_unit_congr he.2, plain_hashX ok pn, plain_hashX ok pn',
    Obj.eq_hash hP n n' pn.wf pn'.wf he.1, Const.eq_hash hP dc dc' he.2]

/-- **a Rational that is `==` to an ordinary node or a number hashes like it** -/
theorem ratEq_other_hash (X : OwnCtx) (ok : X.tbl.Ok = true) (hP : X.P.Ok) {o : C01OwnEqInfo}
    {c an ad : String} (hc : X.own? c = some o) (rs : RatShape o an ad) (k : Kind) (n : Obj) (dc : Const)
    (h : Option Nat) (e : Obj) (pn : Plain X n) (pe : Plain X e)
    (he : (n.pyEq e && (Obj.atom dc).pyEq floatOne) = true) :
    hashX X (.inst c k [n, .atom dc] h) = hashX X e := by
  simp only [Bool.and_eq_true] at he
  rw [hashX_rat X hc rs, den_unit_of_eq he.2, if_pos rfl, plain_hashX ok pn, plain_hashX ok pe,
    Obj.eq_hash hP n e pn.wf pe.wf he.1]

/-! ### 3. the fuel of `ownEq` is enough -/

theorem tupleEqWith_congr (f g : Obj → Obj → Res) : ∀ (as bs : List Obj),
    (∀ a ∈ as, ∀ b ∈ bs, f a b = g a b) → tupleEqWith f as bs = tupleEqWith g as bs
  | [], [], _ | [], _ :: _, _ | _ :: _, [], _ => rfl
  | a :: as, b :: bs, h => by
    simp only [tupleEqWith, h a List.mem_cons_self b List.mem_cons_self,
      tupleEqWith_congr f g as bs (fun a' ha' b' hb' =>
        h a' (List.mem_cons_of_mem _ ha') b' (List.mem_cons_of_mem _ hb'))]

theorem kwEqWith_congr (f g : Obj → Obj → Res) :
    ∀ (ns : List String) (vs : List Obj) (ms : List String) (ws : List Obj),
    (∀ v ∈ vs, ∀ w ∈ ws, f v w = g v w) → kwEqWith f ns vs ms ws = kwEqWith g ns vs ms ws
  | [], _, _, _, _ | _ :: _, [], _, _, _ => by simp [kwEqWith]
  | n :: ns, v :: vs, ms, ws, h => by
    have h2 := kwEqWith_congr f g ns vs ms ws (fun v' hv' w' hw' =>
      h v' (List.mem_cons_of_mem _ hv') w' hw')
    simp only [kwEqWith, h2]
    cases hl : assocLookupO n ms ws with
    | none => rfl
    | some w => simp only [h v List.mem_cons_self w (lookupO_mem_vals hl)]

theorem zipmap_congr (f g : Obj → Obj → Res) (as bs : List Obj)
    (h : ∀ a ∈ as, ∀ b ∈ bs, f a b = g a b) :
    (as.zip bs).map (fun p => f p.1 p.2) = (as.zip bs).map (fun p => g p.1 p.2) := by
  apply List.map_congr_left
  intro p hp
  exact h p.1 (List.of_mem_zip hp).1 p.2 (List.of_mem_zip hp).2

theorem coerceOther_depth (X : OwnCtx) (other : Obj) (L : List Obj)
    (h : coerceOther X other = .fields L) : ∀ y ∈ L, objDepth y ≤ objDepth other := by
  cases other with
  | atom d =>
    simp only [coerceOther] at h
    split at h
    · split at h
      · simp only [Coerced.fields.injEq] at h; subst h
        intro y hy
        simp only [List.mem_cons, List.not_mem_nil, or_false] at hy
        rcases hy with rfl | rfl <;> simp [objDepth, floatOne]
      · simp at h
    · simp at h
  | tuple xs => simp [coerceOther] at h
  | list xs => simp [coerceOther] at h
  | dict ks vs => simp [coerceOther] at h
  | inst c k fs v =>
    simp only [coerceOther] at h
    split at h
    · simp at h
    · simp only [Coerced.fields.injEq] at h; subst h
      intro y hy
      simp only [List.mem_cons, List.not_mem_nil, or_false] at hy
      rcases hy with rfl | rfl
      · exact Nat.le_refl _
      · simp [objDepth, floatOne]

/-- `type(self).__eq__(self, other)` only asks the nested `==` about (an init arg of `self`,
something no deeper than `other`) -/
theorem methEq_congr (X : OwnCtx) (f g : Obj → Obj → Res) (c : String) (k : Kind) (fs : List Obj)
    (h : Option Nat) (other : Obj)
    (hfg : ∀ x ∈ fs, ∀ y, objDepth y ≤ objDepth other → f x y = g x y) :
    methEq X f (.inst c k fs h) other = methEq X g (.inst c k fs h) other := by
  have hpick : ∀ (o : C01OwnEqInfo) (L : List Obj), (∀ y ∈ L, objDepth y ≤ objDepth other) →
      ((pick o.initAttrs fs o.eqAttrs).zip (pick o.initAttrs L o.eqAttrs)).map (fun p => f p.1 p.2)
      = ((pick o.initAttrs fs o.eqAttrs).zip (pick o.initAttrs L o.eqAttrs)).map (fun p => g p.1 p.2) :=
    fun o L hL => zipmap_congr f g _ _ fun a ha b hb =>
      hfg a (pick_subset ha) b (hL b (pick_subset hb))
  cases hown : X.own? c with
  | some o =>
    cases other with
    | atom _ | tuple _ | list _ | dict _ _ =>
      simp only [methEq, hown]
      cases hc : coerceOther X _ with
      | fields L => simp only [hpick o L (coerceOther_depth X _ L hc)]
      | raises | unmodelled => rfl
    | inst c' k' fs' h' =>
      have hin := hpick o fs' (fun y hy => Nat.le_of_lt (by
        simp only [objDepth]; exact Nat.lt_succ_of_le (objDepth_le_depthL hy)))
      simp only [methEq, hown]
      cases (if o.eqIsinstance then X.isInstance c' o.name else c' == c) with
      | true => simp only [hin]
      | false =>
        simp only []
        cases hc : coerceOther X _ with
        | fields L => simp only [hpick o L (coerceOther_depth X _ L hc)]
        | raises | unmodelled => rfl
  | none =>
    cases other with
    | inst c' k' fs' h' =>
      have hfl : ∀ a ∈ fs, ∀ b ∈ fs', f a b = g a b := fun a ha b hb =>
        hfg a ha b (Nat.le_of_lt (by
          simp only [objDepth]; exact Nat.lt_succ_of_le (objDepth_le_depthL hb)))
      simp only [methEq, hown, tupleEqWith_congr f g fs fs' hfl, zipmap_congr f g fs fs' hfl]
    | _ => simp only [methEq, hown]

/-- **the fuel of `ownEq` is enough**: with `objDepth a + objDepth b + 1` levels (or more) the
answer no longer depends on the fuel — `Res.unmodelled` never means "out of fuel". -/
theorem eqF_fuel (X : OwnCtx) : ∀ (n : Nat) (a b : Obj), objDepth a + objDepth b < n →
    ∀ m, eqF X (n + m) a b = eqF X n a b := by
  intro n
  induction n with
  | zero => intro a b h; exact absurd h (Nat.not_lt_zero _)
  | succ n ih =>
    intro a b hlt m
    have hfg : ∀ x y, objDepth x + objDepth y < n → eqF X (n + m) x y = eqF X n x y :=
      fun x y h => ih x y h m
    have hL : ∀ {xs : List Obj} {x : Obj}, x ∈ xs → objDepth x ≤ objDepthL xs :=
      fun h => objDepth_le_depthL h
    rw [show n + 1 + m = (n + m) + 1 by omega]
    cases a <;> cases b <;> simp only [objDepth] at hlt
    case atom.atom => simp only [eqF]
    case tuple.tuple xs ys | list.list xs ys =>
      simp only [eqF]
      rw [tupleEqWith_congr _ _ xs ys fun x hx y hy => hfg x y (by
        have := hL hx; have := hL hy; omega)]
    case dict.dict ks vs ms ws =>
      simp only [eqF]
      rw [kwEqWith_congr _ _ ks vs ms ws fun x hx y hy => hfg x y (by
        have := hL hx; have := hL hy; omega)]
    case inst.inst c k fs v c' k' fs' v' =>
      simp only [eqF]
      rw [methEq_congr X (eqF X (n + m)) (eqF X n) c k fs v (.inst c' k' fs' v') (fun x hx y hy =>
          hfg x y (by have := hL hx; simp only [objDepth] at hy; omega)),
        methEq_congr X (eqF X (n + m)) (eqF X n) c' k' fs' v' (.inst c k fs v) (fun x hx y hy =>
          hfg x y (by have := hL hx; simp only [objDepth] at hy; omega))]
    case inst.atom c k fs v _ | inst.tuple c k fs v _ | inst.list c k fs v _ | inst.dict c k fs v _ _
        | atom.inst _ c k fs v | tuple.inst _ c k fs v | list.inst _ c k fs v
        | dict.inst _ _ c k fs v =>
      simp only [eqF]
      exact methEq_congr X _ _ c k fs v _ (fun x hx y hy =>
          hfg x y (by have := hL hx; simp only [objDepth] at hy; omega))
    all_goals simp only [eqF]

/-- `ownEq` is `eqF` with ANY larger amount of fuel -/
theorem ownEq_eq_eqF (X : OwnCtx) (a b : Obj) (fuel : Nat)
    (h : objDepth a + objDepth b < fuel) : eqF X fuel a b = ownEq X a b := by
  obtain ⟨m, rfl⟩ : ∃ m, fuel = objDepth a + objDepth b + 1 + m := ⟨fuel - (objDepth a + objDepth b + 1), by omega⟩
  exact eqF_fuel X _ a b (by omega) m

/-! ### 4. interpreter modes (`python -O`): which operations look at the class table -/

theorem inMode_default (t : ClassTable) : t.inMode .debugFlag true = t := by
  simp only [ClassTable.inMode, C01FrozenSource.eval, Bool.and_true]
  exact List.map_id' t

theorem find?_inMode (t : ClassTable) (src : C01FrozenSource) (dbg : Bool) (c : String) :
    (t.inMode src dbg).find? c
      = (t.find? c).map fun i => { i with frozen := i.frozen && src.eval dbg } := by
  simp only [ClassTable.find?, ClassTable.inMode]
  induction t with
  | nil => rfl
  | cons i t ih =>
    simp only [List.map_cons, List.find?_cons]
    cases i.name == c <;> simp [ih]

/-- under `python -O` (`frozen=__debug__` evaluates to false) NO attribute of NO class is
protected -/
theorem frozenFor_optimized (t : ClassTable) (c f : String) :
    (t.inMode .debugFlag false).frozenFor c f = false := by
  simp only [ClassTable.frozenFor, find?_inMode, C01FrozenSource.eval, Bool.and_false]
  cases t.find? c with
  | none => rfl
  | some i =>
    simp only [Option.map_some]
    cases i.kind with
    | dataclass => rfl
    | legacy => rfl
    | sub =>
      simp only []
      cases t.find? i.base <;> simp

theorem fieldIndex_inMode (t : ClassTable) (src : C01FrozenSource) (dbg : Bool) (c f : String) :
    fieldIndex (t.inMode src dbg) c f = fieldIndex t c f := by
  simp only [fieldIndex, find?_inMode]
  cases t.find? c <;> rfl

/-- the operations that consult the class table (`frozenFor`, `fieldIndex`) -/
def Op1.isAttrOp : Op1 → Bool
  | .setattr .. => true
  | .delattr .. => true
  | _ => false

/-- operations other than `setattr` / `delattr` never look at the class table -/
theorem step1_tbl_irrelevant (t₁ t₂ : ClassTable) (P : HashParams) (w : World1) (op : Op1)
    (h : op.isAttrOp = false) : step1 t₁ P w op = step1 t₂ P w op := by
  cases op <;> simp only [Op1.isAttrOp, Bool.true_eq_false] at h <;> rfl

theorem run1_tbl_irrelevant (t₁ t₂ : ClassTable) (P : HashParams) : ∀ (ops : List Op1) (w : World1),
    (∀ op ∈ ops, op.isAttrOp = false) → run1 t₁ P w ops = run1 t₂ P w ops
  | [], _, _ => rfl
  | op :: ops, w, h => by
    simp only [run1]
    rw [step1_tbl_irrelevant t₁ t₂ P w op (h op List.mem_cons_self),
      run1_tbl_irrelevant t₁ t₂ P ops _ (fun o ho => h o (List.mem_cons_of_mem _ ho))]

end PV.EqHash
