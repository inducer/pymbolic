import PV.Model.NodeCount
import PV.Proofs.WalkSpec
import PV.Proofs.PyEqEquiv
import PV.Proofs.SyntaxBEq
import PV.Proofs.AnalysisTable
import Mathlib.Data.List.Nodup
import Mathlib.Data.List.Perm.Subperm
import Mathlib.Data.Finset.Card
import Mathlib.Tactic.Choose
/-
  C09 — the exact cached walk of `get_num_nodes` (`c09CountWalk`, `PV/Model/NodeCount.lean`):
  a generic unfolding over `walkChildren`, the subterm list `c09Subterms` (an independent
  specification), and the invariants of the cache.
-/
set_option linter.unusedSimpArgs false
set_option linter.unusedTactic false
set_option linter.unreachableTactic false
namespace PV

/-! ### sequencing -/

theorem c09Seq_zero_ok (cache : List Expr) (k : List Expr → Except DepErr (Nat × List Expr)) :
    c09Seq (.ok (0, cache)) k = k cache := by
  simp only [c09Seq]
  rcases k cache with err | ⟨y, c⟩ <;> simp

theorem c09Seq_eq_ok {r : Except DepErr (Nat × List Expr)}
    {k : List Expr → Except DepErr (Nat × List Expr)} {n : Nat} {c' : List Expr}
    (h : c09Seq r k = .ok (n, c')) :
    ∃ x c1 y, r = .ok (x, c1) ∧ k c1 = .ok (y, c') ∧ n = x + y := by
  rcases r with err | ⟨x, c1⟩
  · simp [c09Seq] at h
  · simp only [c09Seq] at h
    rcases hk : k c1 with err | ⟨y, c2⟩
    · simp [hk] at h
    · simp only [hk, Except.ok.injEq, Prod.mk.injEq] at h
      exact ⟨x, c1, y, rfl, by rw [hk, h.2], h.1.symm⟩

theorem c09Store_eq_ok {e : Expr} {r : Except DepErr (Nat × List Expr)} {n : Nat} {c' : List Expr}
    (h : c09Store e r = .ok (n, c')) : ∃ m c1, r = .ok (m, c1) ∧ n = m + 1 ∧ c' = c1 ++ [e] := by
  rcases r with err | ⟨m, c1⟩
  · simp [c09Store] at h
  · simp only [c09Store, Except.ok.injEq, Prod.mk.injEq] at h
    exact ⟨m, c1, rfl, h.1.symm, h.2.symm⟩

/-! ### the list traversals -/

theorem c09CountWalkL_append : ∀ (as bs : List Expr) (cache : List Expr),
    c09CountWalkL (as ++ bs) cache = c09Seq (c09CountWalkL as cache) (fun c1 => c09CountWalkL bs c1)
  | [], bs, cache => by simp [c09CountWalkL, c09Seq_zero_ok]
  | a :: as, bs, cache => by
    simp only [List.cons_append, c09CountWalkL, c09Seq_assoc]
    congr 1
    funext c
    exact c09CountWalkL_append as bs c

theorem c09CountWalkS_eq (cs cache : List Expr) :
    c09CountWalkS cs cache = c09CountWalkL (cs.filter (fun c => !c.isNoneConst)) cache := by
  simp only [c09CountWalkS_eq_seqL, c09CountWalkL_eq_seqL, Expr.c04IsNone_eq]

/-! ### the walk, generically: lookup, reject, children in `walkChildren` order, store -/

theorem c09CountWalk_eq (e : Expr) (cache : List Expr) :
    c09CountWalk e cache =
      if c09Hit cache e then .ok (0, cache)
      else if e.isRejectedConst then .error .foreign
      else c09Store e (c09CountWalkL (walkChildren e) cache) := by
  cases e with
  | const c =>
    cases c <;> simp [c09CountWalk, c09Cached, Expr.isRejectedConst, walkChildren, Expr.children,
      c09CountWalkL]
  | bin o a b =>
    cases o <;> simp [c09CountWalk, c09Cached, Expr.isRejectedConst, walkChildren, Expr.children,
      c09CountWalkL, BinOp.isShift, c09Seq_zero]
  | slice cs =>
    simp [c09CountWalk, c09Cached, Expr.isRejectedConst, walkChildren, c09CountWalkS_eq]
  | callKw f as ns vs =>
    simp [c09CountWalk, c09Cached, Expr.isRejectedConst, walkChildren, Expr.children,
      c09CountWalkL, c09CountWalkL_append]
  | _ =>
    simp [c09CountWalk, c09Cached, Expr.isRejectedConst, walkChildren, Expr.children,
      c09CountWalkL, c09Seq_zero]

/-! ### the subterms of a tree (independent of the walk: no cache, no counting) -/

mutual
/-- every subexpression of `e`, `e` itself included, each occurrence listed once: the node, then
the subterms of its expression-valued fields (constants are subterms; the absent `None` parts of
a slice are not) -/
def c09Subterms : Expr → List Expr
  | .nary o cs => .nary o cs :: c09SubtermsL cs
  | .bin o a b => .bin o a b :: (c09Subterms a ++ c09Subterms b)
  | .un o a => .un o a :: c09Subterms a
  | .cmp o a b => .cmp o a b :: (c09Subterms a ++ c09Subterms b)
  | .ite c t e => .ite c t e :: (c09Subterms c ++ (c09Subterms t ++ c09Subterms e))
  | .call f as => .call f as :: (c09Subterms f ++ c09SubtermsL as)
  | .callKw f as ns vs => .callKw f as ns vs :: (c09Subterms f ++ (c09SubtermsL as ++ c09SubtermsL vs))
  | .subscript a i => .subscript a i :: (c09Subterms a ++ c09Subterms i)
  | .lookup a n => .lookup a n :: c09Subterms a
  | .cse c p s => .cse c p s :: c09Subterms c
  | .subst c vs xs => .subst c vs xs :: (c09Subterms c ++ c09SubtermsL xs)
  | .deriv c vs => .deriv c vs :: c09Subterms c
  | .slice cs => .slice cs :: c09SubtermsS cs
  | .tuple cs => .tuple cs :: c09SubtermsL cs
  | .list cs => .list cs :: c09SubtermsL cs
  | .const c => [.const c]
  | .var x => [.var x]
  | .nan => [.nan]
  | .wildcard => [.wildcard]
  | .dotWild n => [.dotWild n]
  | .starWild n => [.starWild n]
  | .funcSym => [.funcSym]
def c09SubtermsL : List Expr → List Expr
  | [] => []
  | c :: cs => c09Subterms c ++ c09SubtermsL cs
/-- the parts of a slice: `None` stands for an absent part -/
def c09SubtermsS : List Expr → List Expr
  | [] => []
  | .const .none :: cs => c09SubtermsS cs
  | c :: cs => c09Subterms c ++ c09SubtermsS cs
end

theorem mem_c09SubtermsL {s : Expr} : ∀ {cs : List Expr},
    s ∈ c09SubtermsL cs ↔ ∃ c ∈ cs, s ∈ c09Subterms c
  | [] => by simp [c09SubtermsL]
  | c :: cs => by simp [c09SubtermsL, mem_c09SubtermsL (cs := cs)]

theorem mem_c09SubtermsS {s : Expr} : ∀ {cs : List Expr},
    s ∈ c09SubtermsS cs ↔ ∃ c ∈ cs.filter (fun c => !c.isNoneConst), s ∈ c09Subterms c
  | [] => by simp [c09SubtermsS]
  | c :: cs => by
    by_cases hc : c = .const .none
    · subst hc
      simp [c09SubtermsS, Expr.isNoneConst, mem_c09SubtermsS (cs := cs)]
    · have hn : c.isNoneConst = false := by
        cases c with
        | const k => cases k <;> simp_all [Expr.isNoneConst]
        | _ => simp [Expr.isNoneConst]
      have : c09SubtermsS (c :: cs) = c09Subterms c ++ c09SubtermsS cs := by
        cases c with
        | const k => cases k <;> simp_all [c09SubtermsS]
        | _ => simp [c09SubtermsS]
      rw [this]
      simp [List.filter_cons, hn, mem_c09SubtermsS (cs := cs)]

/-- the subterms of `e` are `e` and the subterms of the children the walk descends into -/
theorem mem_c09Subterms {s e : Expr} :
    s ∈ c09Subterms e ↔ s = e ∨ ∃ c ∈ walkChildren e, s ∈ c09Subterms c := by
  cases e with
  | bin o a b =>
    cases o <;> simp [c09Subterms, walkChildren, BinOp.isShift, or_comm]
  | slice cs => simp [c09Subterms, walkChildren, mem_c09SubtermsS]
  | callKw f as ns vs =>
    simp [c09Subterms, walkChildren, Expr.children, mem_c09SubtermsL, or_and_right, exists_or]
  | _ => simp [c09Subterms, walkChildren, Expr.children, mem_c09SubtermsL]

theorem self_mem_c09Subterms (e : Expr) : e ∈ c09Subterms e := mem_c09Subterms.2 (Or.inl rfl)

theorem c09Subterms_child {s c e : Expr} (hc : c ∈ walkChildren e) (hs : s ∈ c09Subterms c) :
    s ∈ c09Subterms e := mem_c09Subterms.2 (Or.inr ⟨c, hc, hs⟩)

theorem c09Subterms_trans {a b : Expr} (hab : a ∈ c09Subterms b) :
    ∀ {c : Expr}, b ∈ c09Subterms c → a ∈ c09Subterms c := by
  intro c
  induction c using walkChildren_induct with
  | step c ih =>
    intro hbc
    rcases mem_c09Subterms.1 hbc with rfl | ⟨d, hd, hbd⟩
    · exact hab
    · exact c09Subterms_child hd (ih d hd hbd)

theorem c09Subterms_size_le {s e : Expr} : s ∈ c09Subterms e → s.size ≤ e.size := by
  induction e using walkChildren_induct with
  | step e ih =>
    intro h
    rcases mem_c09Subterms.1 h with rfl | ⟨d, hd, hsd⟩
    · exact Nat.le_refl _
    · exact Nat.le_of_lt (Nat.lt_of_le_of_lt (ih d hd hsd) (walkChildren_size_lt hd))

/-! ### what the cache looks like after a walk -/

theorem c09Hit_false_iff {cache : List Expr} {e : Expr} :
    c09Hit cache e = false ↔ ∀ k ∈ cache, k.keyEq e = false := by
  simp [c09Hit]

theorem c09Hit_true_iff {cache : List Expr} {e : Expr} :
    c09Hit cache e = true ↔ ∃ k ∈ cache, k.keyEq e = true := by
  simp [c09Hit]

/-- an `ok` walk appends `n` keys to the cache; each is a subterm of `e` that was dispatched -/
def C09Shape (e : Expr) : Prop :=
  ∀ cache n c', c09CountWalk e cache = .ok (n, c') →
    ∃ new, c' = cache ++ new ∧ new.length = n ∧
      ∀ k ∈ new, k ∈ c09Subterms e ∧ k.isRejectedConst = false

def C09ShapeL (cs : List Expr) : Prop :=
  ∀ cache n c', c09CountWalkL cs cache = .ok (n, c') →
    ∃ new, c' = cache ++ new ∧ new.length = n ∧
      ∀ k ∈ new, (∃ c ∈ cs, k ∈ c09Subterms c) ∧ k.isRejectedConst = false

theorem c09ShapeL_of : ∀ (cs : List Expr), (∀ c ∈ cs, C09Shape c) → C09ShapeL cs
  | [], _ => by
    intro cache n c' h
    simp only [c09CountWalkL, Except.ok.injEq, Prod.mk.injEq] at h
    exact ⟨[], by simp [h.2], by simp [h.1], by simp⟩
  | c :: cs, ih => by
    intro cache n c' h
    simp only [c09CountWalkL] at h
    obtain ⟨x, c1, y, h1, h2, rfl⟩ := c09Seq_eq_ok h
    obtain ⟨new1, rfl, rfl, hn1⟩ := ih c List.mem_cons_self cache _ c1 h1
    obtain ⟨new2, rfl, rfl, hn2⟩ :=
      c09ShapeL_of cs (fun d hd => ih d (List.mem_cons_of_mem _ hd)) _ _ c' h2
    refine ⟨new1 ++ new2, by simp, by simp, ?_⟩
    intro k hk
    rcases List.mem_append.1 hk with hk | hk
    · exact ⟨⟨c, List.mem_cons_self, (hn1 k hk).1⟩, (hn1 k hk).2⟩
    · obtain ⟨⟨d, hd, hkd⟩, hr⟩ := hn2 k hk
      exact ⟨⟨d, List.mem_cons_of_mem _ hd, hkd⟩, hr⟩

theorem c09Shape (e : Expr) : C09Shape e := by
  induction e using walkChildren_induct with
  | step e ih =>
    intro cache n c' h
    rw [c09CountWalk_eq] at h
    split at h
    · simp only [Except.ok.injEq, Prod.mk.injEq] at h
      exact ⟨[], by simp [h.2], by simp [h.1], by simp⟩
    · split at h
      · simp at h
      · rename_i _ hrej
        obtain ⟨m, c1, hL, rfl, rfl⟩ := c09Store_eq_ok h
        obtain ⟨new, rfl, rfl, hn⟩ := c09ShapeL_of _ ih cache m c1 hL
        refine ⟨new ++ [e], by simp, by simp, ?_⟩
        intro k hk
        rcases List.mem_append.1 hk with hk | hk
        · obtain ⟨⟨d, hd, hkd⟩, hr⟩ := hn k hk
          exact ⟨c09Subterms_child hd hkd, hr⟩
        · simp only [List.mem_singleton] at hk
          subst hk
          exact ⟨self_mem_c09Subterms _, by simpa using hrej⟩

theorem c09ShapeL (cs : List Expr) : C09ShapeL cs := c09ShapeL_of cs (fun c _ => c09Shape c)

/-! ### no key is stored twice -/

def C09Nodup (e : Expr) : Prop :=
  (∀ s ∈ c09Subterms e, s.keyEq s = true) →
    ∀ cache n c', cache.Nodup → c09CountWalk e cache = .ok (n, c') → c'.Nodup

theorem c09NodupL_of : ∀ (cs : List Expr), (∀ c ∈ cs, C09Nodup c) →
    (∀ c ∈ cs, ∀ s ∈ c09Subterms c, s.keyEq s = true) →
    ∀ cache n c', cache.Nodup → c09CountWalkL cs cache = .ok (n, c') → c'.Nodup
  | [], _, _ => by
    intro cache n c' hc h
    simp only [c09CountWalkL, Except.ok.injEq, Prod.mk.injEq] at h
    exact h.2 ▸ hc
  | c :: cs, ih, hr => by
    intro cache n c' hc h
    simp only [c09CountWalkL] at h
    obtain ⟨x, c1, y, h1, h2, rfl⟩ := c09Seq_eq_ok h
    have hc1 := ih c List.mem_cons_self (hr c List.mem_cons_self) cache _ c1 hc h1
    exact c09NodupL_of cs (fun d hd => ih d (List.mem_cons_of_mem _ hd))
      (fun d hd => hr d (List.mem_cons_of_mem _ hd)) c1 _ c' hc1 h2

theorem c09Nodup (e : Expr) : C09Nodup e := by
  induction e using walkChildren_induct with
  | step e ih =>
    intro hr cache n c' hc h
    rw [c09CountWalk_eq] at h
    split at h
    · simp only [Except.ok.injEq, Prod.mk.injEq] at h
      exact h.2 ▸ hc
    · rename_i hmiss
      split at h
      · simp at h
      · obtain ⟨m, c1, hL, rfl, rfl⟩ := c09Store_eq_ok h
        have hc1 := c09NodupL_of _ ih
          (fun d hd s hs => hr s (c09Subterms_child hd hs)) cache m c1 hc hL
        obtain ⟨new, rfl, -, hn⟩ := c09ShapeL _ cache m c1 hL
        have hnot : e ∉ cache ++ new := by
          intro hmem
          rcases List.mem_append.1 hmem with hm | hm
          · have := c09Hit_false_iff.1 (by simpa using hmiss) e hm
            rw [hr e (self_mem_c09Subterms e)] at this
            exact Bool.noConfusion this
          · obtain ⟨⟨d, hd, hkd⟩, -⟩ := hn e hm
            have h1 := c09Subterms_size_le hkd
            have h2 := walkChildren_size_lt hd
            omega
        exact List.Nodup.append hc1 (List.nodup_singleton e) (by simpa using hnot)

/-! ### the only exception is the rejected constant, and only when one is reached -/

theorem c09CountWalkL_total_of : ∀ (cs : List Expr),
    (∀ c ∈ cs, ∀ cache, (∃ n c', c09CountWalk c cache = .ok (n, c')) ∨
      c09CountWalk c cache = .error .foreign) →
    ∀ cache, (∃ n c', c09CountWalkL cs cache = .ok (n, c')) ∨
      c09CountWalkL cs cache = .error .foreign
  | [], _, cache => Or.inl ⟨0, cache, rfl⟩
  | c :: cs, ih, cache => by
    simp only [c09CountWalkL]
    rcases ih c List.mem_cons_self cache with ⟨x, c1, h1⟩ | h1
    · rcases c09CountWalkL_total_of cs (fun d hd => ih d (List.mem_cons_of_mem _ hd)) c1 with
        ⟨y, c2, h2⟩ | h2
      · exact Or.inl ⟨x + y, c2, by simp [c09Seq, h1, h2]⟩
      · exact Or.inr (by simp [c09Seq, h1, h2])
    · exact Or.inr (by simp [c09Seq, h1])

theorem c09CountWalk_total (e : Expr) : ∀ cache,
    (∃ n c', c09CountWalk e cache = .ok (n, c')) ∨ c09CountWalk e cache = .error .foreign := by
  induction e using walkChildren_induct with
  | step e ih =>
    intro cache
    rw [c09CountWalk_eq]
    split
    · exact Or.inl ⟨0, cache, rfl⟩
    · split
      · exact Or.inr rfl
      · rcases c09CountWalkL_total_of _ ih cache with ⟨m, c1, h⟩ | h
        · exact Or.inl ⟨m + 1, c1 ++ [e], by simp [h, c09Store]⟩
        · exact Or.inr (by simp [h, c09Store])

theorem c09CountWalkL_ok_of : ∀ (cs : List Expr),
    (∀ c ∈ cs, ∀ cache, ∃ n c', c09CountWalk c cache = .ok (n, c')) →
    ∀ cache, ∃ n c', c09CountWalkL cs cache = .ok (n, c')
  | [], _, cache => ⟨0, cache, rfl⟩
  | c :: cs, ih, cache => by
    simp only [c09CountWalkL]
    obtain ⟨x, c1, h1⟩ := ih c List.mem_cons_self cache
    obtain ⟨y, c2, h2⟩ := c09CountWalkL_ok_of cs (fun d hd => ih d (List.mem_cons_of_mem _ hd)) c1
    exact ⟨x + y, c2, by simp [c09Seq, h1, h2]⟩

/-- no string / `None` among the subterms: the walk raises nothing, whatever the cache -/
theorem c09CountWalk_ok_of (e : Expr) :
    (∀ s ∈ c09Subterms e, s.isRejectedConst = false) →
    ∀ cache, ∃ n c', c09CountWalk e cache = .ok (n, c') := by
  induction e using walkChildren_induct with
  | step e ih =>
    intro hr cache
    rw [c09CountWalk_eq]
    split
    · exact ⟨0, cache, rfl⟩
    · rw [if_neg (by simp [hr e (self_mem_c09Subterms e)])]
      obtain ⟨m, c1, h⟩ := c09CountWalkL_ok_of _
        (fun d hd => ih d hd (fun s hs => hr s (c09Subterms_child hd hs))) cache
      exact ⟨m + 1, c1 ++ [e], by simp [h, c09Store]⟩

/-- no two subterms of `r` are confusable: the cache key `(type, ==)` identifies exactly the
structurally identical ones (in particular every subterm is `==` to itself: no nan constant) -/
def C09Unconf (r : Expr) : Prop :=
  ∀ a ∈ c09Subterms r, ∀ b ∈ c09Subterms r, (a.keyEq b = true ↔ a = b)

/-! ### well-formed trees -/

theorem c09Subterms_wf {e : Expr} (h : e.wf = true) : ∀ {s : Expr}, s ∈ c09Subterms e → s.wf = true := by
  induction e using walkChildren_induct with
  | step e ih =>
    intro s hs
    rcases mem_c09Subterms.1 hs with rfl | ⟨d, hd, hsd⟩
    · exact h
    · exact ih d hd (wf_children h _ (mem_children_of_mem_walkChildren hd)) hsd

/-! ### `==` descends to the children the walk visits -/

theorem pyEqL_mem : ∀ {as bs : List Expr}, Expr.pyEqL as bs = true →
    ∀ c ∈ as, ∃ c' ∈ bs, c.pyEq c' = true
  | [], _, _ => by simp
  | _ :: _, [], h => by simp [Expr.pyEqL] at h
  | a :: as, b :: bs, h => by
    simp only [Expr.pyEqL, Bool.and_eq_true] at h
    intro c hc
    rcases List.mem_cons.1 hc with rfl | hc
    · exact ⟨b, List.mem_cons_self, h.1⟩
    · obtain ⟨c', hc', hcc⟩ := pyEqL_mem h.2 c hc
      exact ⟨c', List.mem_cons_of_mem _ hc', hcc⟩

/-- only `None` is `==` to `None` -/
theorem pyEq_none_right {a : Expr} (h : a.pyEq (.const .none) = true) : a = .const .none := by
  cases a with
  | const c =>
    cases c <;> simp only [Expr.pyEq, Const.pyEq, Const.numVal?, Bool.false_eq_true] at h
    · split at h <;> simp_all
    · rfl
  | _ => simp [Expr.pyEq] at h

theorem isNoneConst_iff {b : Expr} : b.isNoneConst = true ↔ b = .const .none := by
  cases b with
  | const d => cases d <;> simp [Expr.isNoneConst]
  | _ => simp [Expr.isNoneConst]

theorem pyEq_walkChildren {a b : Expr} (ha : a.wf = true) (h : a.pyEq b = true) :
    ∀ c ∈ walkChildren a, ∃ c' ∈ walkChildren b, c.pyEq c' = true := by
  cases PyEqNode.of_pyEq h with
  | const | var | nan | wildcard | dotWild | starWild | funcSym =>
    simp [walkChildren, Expr.children]
  | nary hl | tuple hl | list hl => simpa [walkChildren, Expr.children] using pyEqL_mem hl
  | @bin o _ _ _ _ h1 h2 => cases o <;> simp [walkChildren, BinOp.isShift, h1, h2]
  | un h1 | lookup h1 | cse h1 | deriv h1 => simp [walkChildren, Expr.children, h1]
  | cmp h1 h2 | subscript h1 h2 => simp [walkChildren, Expr.children, h1, h2]
  | ite h1 h2 h3 => simp [walkChildren, Expr.children, h1, h2, h3]
  | @call _ _ f' _ hf hl | @subst _ _ _ f' _ hf hl =>
    intro c hc
    simp only [walkChildren, Expr.children, List.mem_cons] at hc ⊢
    rcases hc with rfl | hc
    · exact ⟨f', Or.inl rfl, hf⟩
    · obtain ⟨c', hc', hcc⟩ := pyEqL_mem hl c hc
      exact ⟨c', Or.inr hc', hcc⟩
  | @callKw f as ns vs f' as' ns' vs' hf hl _ hkw =>
    intro c hc
    simp only [walkChildren, Expr.children, List.mem_cons, List.mem_append] at hc ⊢
    rcases hc with rfl | hc | hc
    · exact ⟨f', Or.inl rfl, hf⟩
    · obtain ⟨c', hc', hcc⟩ := pyEqL_mem hl c hc
      exact ⟨c', Or.inr (Or.inl hc'), hcc⟩
    · simp only [Expr.wf, Bool.and_eq_true, beq_iff_eq] at ha
      have hlen : ns.length = vs.length := ha.1.2
      obtain ⟨i, hi, rfl⟩ := List.getElem_of_mem hc
      have hz : (ns[i]'(by omega), vs[i]) ∈ ns.zip vs := by
        have : (ns.zip vs)[i]'(by simp; omega) = (ns[i]'(by omega), vs[i]) := by simp
        rw [← this]; exact List.getElem_mem _
      obtain ⟨w, hw, hr⟩ := (pyEqKw_iff_lookup ns vs ns' vs').1 hkw _ _ hz
      exact ⟨w, Or.inr (Or.inr (List.of_mem_zip (lookup_mem hw)).2), hr⟩
  | slice hl =>
    intro c hc
    simp only [walkChildren, List.mem_filter] at hc ⊢
    obtain ⟨c', hc', hcc⟩ := pyEqL_mem hl c hc.1
    refine ⟨c', ⟨hc', ?_⟩, hcc⟩
    rw [Bool.not_eq_true', Bool.eq_false_iff, Ne, isNoneConst_iff] at hc ⊢
    rintro rfl
    exact hc.2 (pyEq_none_right hcc)

theorem pyEq_subterms : ∀ (a : Expr) {b : Expr}, a.wf = true → a.pyEq b = true →
    ∀ s ∈ c09Subterms a, ∃ s' ∈ c09Subterms b, s.pyEq s' = true := by
  intro a
  induction a using walkChildren_induct with
  | step a ih =>
    intro b ha h s hs
    rcases mem_c09Subterms.1 hs with rfl | ⟨d, hd, hsd⟩
    · exact ⟨b, self_mem_c09Subterms b, h⟩
    · obtain ⟨d', hd', hdd⟩ := pyEq_walkChildren ha h d hd
      obtain ⟨s', hs', hss⟩ := ih d hd (wf_children ha _ (mem_children_of_mem_walkChildren hd)) hdd s hsd
      exact ⟨s', c09Subterms_child hd' hs', hss⟩

/-! ### every subterm is represented in the cache

One invariant for both readings of "distinct": on a tree without confusable subterms the cache
holds every subterm itself (`R` is `=`), on a well-formed tree a key that is `==` to it. -/

/-- the cache holds, for every subterm of every key, a key related to it -/
def C09Closed (R : Expr → Expr → Prop) (cache : List Expr) : Prop :=
  ∀ k ∈ cache, ∀ s ∈ c09Subterms k, ∃ r ∈ cache, R r s

/-- nodes `P` (closed under subterms) and a relation `R` on them for which a cache hit on `e`
vouches for all subterms of `e` -/
structure C09Track (P : Expr → Prop) (R : Expr → Expr → Prop) : Prop where
  sub : ∀ {e s : Expr}, P e → s ∈ c09Subterms e → P s
  refl : ∀ {s : Expr}, P s → R s s
  hit : ∀ {k e : Expr}, P k → P e → k.keyEq e = true →
    ∀ s ∈ c09Subterms e, ∃ s' ∈ c09Subterms k, ∀ r, P r → R r s' → R r s

section
variable {P : Expr → Prop} {R : Expr → Expr → Prop}

def C09Tracks (P : Expr → Prop) (R : Expr → Expr → Prop) (e : Expr) : Prop :=
  P e → ∀ cache n c', (∀ k ∈ cache, P k) → C09Closed R cache →
    c09CountWalk e cache = .ok (n, c') →
    C09Closed R c' ∧ ∀ s ∈ c09Subterms e, ∃ r ∈ c', R r s

theorem rep_append {c1 new : List Expr} {s : Expr}
    (h : ∃ r ∈ c1, R r s) : ∃ r ∈ c1 ++ new, R r s := by
  obtain ⟨r, hr, hrs⟩ := h
  exact ⟨r, List.mem_append_left _ hr, hrs⟩

theorem c09TracksL_of (T : C09Track P R) : ∀ (cs : List Expr), (∀ c ∈ cs, C09Tracks P R c) →
    (∀ c ∈ cs, P c) → ∀ cache n c', (∀ k ∈ cache, P k) → C09Closed R cache →
      c09CountWalkL cs cache = .ok (n, c') →
      C09Closed R c' ∧ ∀ c ∈ cs, ∀ s ∈ c09Subterms c, ∃ r ∈ c', R r s
  | [], _, _ => by
    intro cache n c' _ hcl h
    simp only [c09CountWalkL, Except.ok.injEq, Prod.mk.injEq] at h
    exact ⟨h.2 ▸ hcl, by simp⟩
  | c :: cs, ih, hP => by
    intro cache n c' hin hcl h
    simp only [c09CountWalkL] at h
    obtain ⟨x, c1, y, h1, h2, rfl⟩ := c09Seq_eq_ok h
    obtain ⟨hcl1, hall1⟩ := ih c List.mem_cons_self (hP c List.mem_cons_self) cache _ c1 hin hcl h1
    obtain ⟨new1, rfl, -, hn1⟩ := c09Shape c cache _ c1 h1
    have hin1 : ∀ k ∈ cache ++ new1, P k := by
      intro k hk
      rcases List.mem_append.1 hk with hk | hk
      · exact hin k hk
      · exact T.sub (hP c List.mem_cons_self) (hn1 k hk).1
    obtain ⟨hcl2, hall2⟩ := c09TracksL_of T cs (fun d hd => ih d (List.mem_cons_of_mem _ hd))
      (fun d hd => hP d (List.mem_cons_of_mem _ hd)) _ _ c' hin1 hcl1 h2
    obtain ⟨new2, rfl, -, -⟩ := c09ShapeL cs _ _ c' h2
    refine ⟨hcl2, ?_⟩
    intro d hd s hs
    rcases List.mem_cons.1 hd with rfl | hd
    · exact rep_append (hall1 s hs)
    · exact hall2 d hd s hs

theorem c09Tracks (T : C09Track P R) (e : Expr) : C09Tracks P R e := by
  induction e using walkChildren_induct with
  | step e ih =>
    intro hP cache n c' hin hcl h
    rw [c09CountWalk_eq] at h
    split at h
    · rename_i hhit
      simp only [Except.ok.injEq, Prod.mk.injEq] at h
      obtain ⟨k, hk, hke⟩ := c09Hit_true_iff.1 hhit
      refine ⟨h.2 ▸ hcl, fun s hs => ?_⟩
      obtain ⟨s', hs', htr⟩ := T.hit (hin k hk) hP hke s hs
      obtain ⟨r, hr, hrs⟩ := hcl k hk s' hs'
      exact ⟨r, h.2 ▸ hr, htr r (hin r hr) hrs⟩
    · split at h
      · simp at h
      · obtain ⟨m, c1, hL, rfl, rfl⟩ := c09Store_eq_ok h
        obtain ⟨hcl1, hall1⟩ := c09TracksL_of T _ ih
          (fun d hd => T.sub hP (c09Subterms_child hd (self_mem_c09Subterms d))) cache m c1 hin hcl hL
        have hsub : ∀ s ∈ c09Subterms e, ∃ r ∈ c1 ++ [e], R r s := by
          intro s hs
          rcases mem_c09Subterms.1 hs with rfl | ⟨d, hd, hsd⟩
          · exact ⟨s, by simp, T.refl hP⟩
          · exact rep_append (hall1 d hd s hsd)
        refine ⟨?_, hsub⟩
        intro k hk s hs
        rcases List.mem_append.1 hk with hk | hk
        · exact rep_append (hcl1 k hk s hs)
        · simp only [List.mem_singleton] at hk
          subst hk
          exact hsub s hs

end

/-- unconfusable trees: every subterm is stored -/
theorem c09Full {r : Expr} (hU : C09Unconf r) : C09Track (· ∈ c09Subterms r) Eq where
  sub := fun h hs => c09Subterms_trans hs h
  refl := fun _ => rfl
  hit := by
    intro k e hk he hke s hs
    obtain rfl := (hU k hk e he).1 hke
    exact ⟨s, hs, fun _ _ h => h⟩

/-- well-formed trees: every subterm has an `==` representative in the cache -/
theorem c09Rep : C09Track (fun e => e.wf = true) (fun r s => r.pyEq s = true) where
  sub := fun h hs => c09Subterms_wf h hs
  refl := fun h => pyEq_refl _ h
  hit := by
    intro k e hk he hke s hs
    simp only [Expr.keyEq, Bool.and_eq_true] at hke
    obtain ⟨s', hs', hss⟩ := pyEq_subterms e he (pyEq_symm k e hk he hke.2) s hs
    have hswf := c09Subterms_wf he hs
    have hs'wf := c09Subterms_wf hk hs'
    exact ⟨s', hs', fun r hr hrs =>
      pyEq_trans r s' s hr hs'wf hswf hrs (pyEq_symm s s' hswf hs'wf hss)⟩

/-! ### counting -/

/-- a family of pairwise unrelated elements, each represented in `N`, where one representative
serves at most one element, is at most as long as `N` -/
theorem length_le_of_reps {α : Type} {D N : List α} (R : α → α → Prop) (hD : D.Nodup)
    (hrep : ∀ d ∈ D, ∃ r ∈ N, R r d)
    (hinj : ∀ r ∈ N, ∀ d1 ∈ D, ∀ d2 ∈ D, R r d1 → R r d2 → d1 = d2) : D.length ≤ N.length := by
  have : ∀ d : {d // d ∈ D}, ∃ r, r ∈ N ∧ R r d.1 := fun d => hrep d.1 d.2
  choose f hfN hfR using this
  have hnd : (D.attach.map f).Nodup := by
    refine List.Nodup.map_on ?_ (List.nodup_attach.2 hD)
    intro x _ y _ hxy
    exact Subtype.ext (hinj (f x) (hfN x) x.1 x.2 y.1 y.2 (hfR x) (hxy ▸ hfR y))
  have hsub : D.attach.map f ⊆ N := by
    intro r hr
    obtain ⟨d, -, rfl⟩ := List.mem_map.1 hr
    exact hfN d
  have := (hnd.subperm hsub).length_le
  simpa using this

/-! ### the uncached count `numNodes`: the `post_visit` nodes of the whole walk, duplicates removed
afterwards -/

/-- the nodes of the `post_visit` events of the uncached walk -/
def c09PostNodes (e : Expr) : List Expr :=
  ((walkSpec [] false e).filter (·.post)).map (·.node)

theorem mem_c09PostNodes_iff {x e : Expr} :
    x ∈ c09PostNodes e ↔ ∃ ev ∈ walkSpec [] false e, ev.post = true ∧ ev.node = x := by
  simp [c09PostNodes, List.mem_map, List.mem_filter, and_assoc]

theorem mem_c09PostNodes {e : Expr} : ∀ {x : Expr}, x ∈ c09PostNodes e ↔ x ∈ c09Subterms e := by
  induction e using walkChildren_induct with
  | step e ih =>
    intro x
    rw [mem_c09PostNodes_iff, mem_c09Subterms]
    cases hleaf : e.isLeafNode
    · rw [walkSpec_node [] false hleaf]
      simp only [List.contains_nil, Bool.false_eq_true, if_false, List.mem_cons, List.mem_append,
        List.mem_flatMap, List.mem_singleton, List.not_mem_nil, or_false]
      constructor
      · rintro ⟨ev, (rfl | ⟨c, hc, hev⟩ | rfl), hp, hn⟩
        · simp at hp
        · exact Or.inr ⟨c, hc, (ih c hc).1 (mem_c09PostNodes_iff.2 ⟨ev, hev, hp, hn⟩)⟩
        · exact Or.inl hn.symm
      · rintro (rfl | ⟨c, hc, hx⟩)
        · exact ⟨⟨true, x, false⟩, Or.inr (Or.inr rfl), rfl, rfl⟩
        · obtain ⟨ev, hev, hp, hn⟩ := mem_c09PostNodes_iff.1 ((ih c hc).2 hx)
          exact ⟨ev, Or.inr (Or.inl ⟨c, hc, hev⟩), hp, hn⟩
    · rw [walkSpec_leaf [] false hleaf, walkChildren_nil_of_leaf hleaf]
      simp only [List.mem_cons, List.not_mem_nil, or_false, false_and, exists_false]
      constructor
      · rintro ⟨ev, (rfl | rfl), hp, hn⟩
        · simp at hp
        · exact hn.symm
      · rintro rfl
        exact ⟨⟨true, x, false⟩, Or.inr rfl, rfl, rfl⟩

theorem dedupFold_spec {R : Expr → Expr → Bool} : ∀ (l acc : List Expr),
    (∀ a ∈ acc ++ l, ∀ b ∈ acc ++ l, (R a b = true ↔ a = b)) → acc.Nodup →
    (l.foldl (fun acc x => if acc.any (fun y => R y x) then acc else acc ++ [x]) acc).Nodup ∧
    ∀ x, x ∈ l.foldl (fun acc x => if acc.any (fun y => R y x) then acc else acc ++ [x]) acc ↔
      x ∈ acc ∨ x ∈ l
  | [], acc, _, hn => by simp [hn]
  | x :: l, acc, hR, hn => by
    simp only [List.foldl_cons]
    have hany : acc.any (fun y => R y x) = true ↔ x ∈ acc := by
      simp only [List.any_eq_true]
      constructor
      · rintro ⟨y, hy, hyx⟩
        have := (hR y (by simp [hy]) x (by simp)).1 hyx
        exact this ▸ hy
      · intro hx
        exact ⟨x, hx, (hR x (by simp) x (by simp)).2 rfl⟩
    by_cases hx : x ∈ acc
    · rw [if_pos (hany.2 hx)]
      have hsub : ∀ a ∈ acc ++ l, a ∈ acc ++ x :: l := fun a ha => by simp at ha ⊢; tauto
      obtain ⟨h1, h2⟩ := dedupFold_spec l acc (fun a ha b hb => hR a (hsub a ha) b (hsub b hb)) hn
      refine ⟨h1, fun y => ?_⟩
      rw [h2 y]
      simp only [List.mem_cons]
      constructor
      · rintro (h | h)
        · exact Or.inl h
        · exact Or.inr (Or.inr h)
      · rintro (h | rfl | h)
        · exact Or.inl h
        · exact Or.inl hx
        · exact Or.inr h
    · rw [if_neg (fun h => hx (hany.1 h))]
      have hsub : ∀ a ∈ acc ++ [x] ++ l, a ∈ acc ++ x :: l := fun a ha => by simpa using ha
      obtain ⟨h1, h2⟩ := dedupFold_spec l (acc ++ [x])
        (fun a ha b hb => hR a (hsub a ha) b (hsub b hb))
        (List.Nodup.append hn (List.nodup_singleton x) (by simpa using hx))
      refine ⟨h1, fun y => ?_⟩
      rw [h2 y]
      simp only [List.mem_append, List.mem_singleton, List.mem_cons, List.not_mem_nil, false_or,
        or_assoc]

/-- when the relation is equality on the list, `dedupBy` leaves one copy of each element -/
theorem dedupBy_length_of_eq {R : Expr → Expr → Bool} {l : List Expr}
    (hR : ∀ a ∈ l, ∀ b ∈ l, (R a b = true ↔ a = b)) :
    (dedupBy R l).length = l.toFinset.card := by
  obtain ⟨h1, h2⟩ := dedupFold_spec (R := R) l [] (by simpa using hR) List.nodup_nil
  have : (dedupBy R l).toFinset = l.toFinset := List.toFinset.ext (by simpa [dedupBy] using h2)
  rw [← this, List.toFinset_card_of_nodup (by simpa [dedupBy] using h1)]

theorem walkOK_nil_iff (e : Expr) :
    walkOK [] e = true ↔ ∀ s ∈ c09Subterms e, s.isRejectedConst = false := by
  induction e using walkChildren_induct with
  | step e ih =>
    rw [walkOK_eq]
    simp only [List.contains_nil, Bool.and_false, Bool.false_or, Bool.and_eq_true,
      Bool.not_eq_eq_eq_not, Bool.not_true, List.all_eq_true]
    constructor
    · rintro ⟨h1, h2⟩ s hs
      rcases mem_c09Subterms.1 hs with rfl | ⟨d, hd, hsd⟩
      · exact h1
      · exact (ih d hd).1 (h2 d hd) s hsd
    · intro h
      exact ⟨h e (self_mem_c09Subterms e),
        fun d hd => (ih d hd).2 (fun s hs => h s (c09Subterms_child hd hs))⟩

/-! ### `dedupBy` keeps pairwise unrelated elements (for the lower bound on the count) -/

theorem dedupFold_pairwise {R : Expr → Expr → Bool} : ∀ (l acc : List Expr),
    acc.Pairwise (fun a b => R a b = false) →
    (l.foldl (fun acc x => if acc.any (fun y => R y x) then acc else acc ++ [x]) acc).Pairwise
        (fun a b => R a b = false) ∧
    ∀ x ∈ l.foldl (fun acc x => if acc.any (fun y => R y x) then acc else acc ++ [x]) acc,
      x ∈ acc ∨ x ∈ l
  | [], acc, hp => by simp [hp]
  | x :: l, acc, hp => by
    simp only [List.foldl_cons]
    by_cases hany : acc.any (fun y => R y x) = true
    · rw [if_pos hany]
      obtain ⟨h1, h2⟩ := dedupFold_pairwise l acc hp
      exact ⟨h1, fun y hy => (h2 y hy).imp id (List.mem_cons_of_mem _)⟩
    · rw [if_neg hany]
      have hnone : ∀ a ∈ acc, R a x = false := by
        intro a ha
        by_contra hc
        exact hany (List.any_eq_true.2 ⟨a, ha, by simpa using hc⟩)
      obtain ⟨h1, h2⟩ := dedupFold_pairwise l (acc ++ [x])
        (List.pairwise_append.2 ⟨hp, List.pairwise_singleton _ _, by simpa using hnone⟩)
      refine ⟨h1, fun y hy => ?_⟩
      rcases h2 y hy with h | h
      · rcases List.mem_append.1 h with h | h
        · exact Or.inl h
        · exact Or.inr (by simp at h; simp [h])
      · exact Or.inr (List.mem_cons_of_mem _ h)

theorem dedupBy_pairwise (R : Expr → Expr → Bool) (l : List Expr) :
    (dedupBy R l).Pairwise (fun a b => R a b = false) ∧ ∀ x ∈ dedupBy R l, x ∈ l := by
  obtain ⟨h1, h2⟩ := dedupFold_pairwise (R := R) l [] List.Pairwise.nil
  exact ⟨by simpa [dedupBy] using h1, fun x hx => by simpa using h2 x (by simpa [dedupBy] using hx)⟩

theorem pairwise_or_flip {α : Type} {R : α → α → Prop} : ∀ {l : List α}, l.Pairwise R →
    ∀ a ∈ l, ∀ b ∈ l, a ≠ b → R a b ∨ R b a
  | [], _, a, ha, _, _, _ => by simp at ha
  | x :: l, h, a, ha, b, hb, hne => by
    obtain ⟨h1, h2⟩ := List.pairwise_cons.1 h
    rcases List.mem_cons.1 ha with hax | hal
    · rcases List.mem_cons.1 hb with hbx | hbl
      · exact absurd (hax.trans hbx.symm) hne
      · exact Or.inl (hax ▸ h1 b hbl)
    · rcases List.mem_cons.1 hb with hbx | hbl
      · exact Or.inr (hbx ▸ h1 a hal)
      · exact pairwise_or_flip h2 a hal b hbl hne

end PV
