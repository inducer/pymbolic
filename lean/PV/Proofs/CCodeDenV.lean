import PV.Model.CCodeFrag
import PV.Proofs.PyEqEquiv
/-
  C14.  The reference meaning `denV` of the C-expressible integer fragment (defined in
  PV/Model/CCodeFrag.lean) is the evaluator's denotation `den` (`denV_sound`).

  Values are Python ints or bools (`CVal`); `CVal.toInt` is the number C computes where Python has
  `True`/`False` (1/0).  `denV` is defined where the evaluation succeeds on integer variables with
    * every `//` and `%` applied to a non-negative dividend and a positive divisor,
    * every `<<` / `>>` applied to a non-negative value and an amount in `0 … 4096`,
    * every `&`, `^`, `|` applied to non-negative operands,
  `and`/`or`/`if` evaluating only the operands Python evaluates.
-/
namespace PV.C14
open PV

@[simp] theorem toValue_i (n : Int) : (CVal.i n).toValue = .int n := rfl
@[simp] theorem toValue_b (x : Bool) : (CVal.b x).toValue = .bool x := rfl
@[simp] theorem toInt_i (n : Int) : (CVal.i n).toInt = n := rfl

/-! ### Python's operators on ints and bools -/

theorem envInt_get {env : Env} {x : String} {n : Int} (h : envInt env x = some n) :
    env.get x = some (.int n) := by
  unfold envInt at h
  split at h
  · simp only [Option.some.injEq] at h; subst h; assumption
  · cases h

theorem num_toValue (x : CVal) : x.toValue.num? = some (.i x.toInt) := by
  cases x with
  | i n => rfl
  | b p => cases p <;> rfl

theorem flags_toValue (x : CVal) : x.toValue.isInexact = false ∧ x.toValue.isSeq = false ∧
    x.toValue.hasInexact = false := by
  cases x <;> simp [CVal.toValue, Value.isInexact, Value.isSeq, Value.hasInexact]

theorem arith_toValue (f : Num → Num → R) (x y : CVal) :
    arith f x.toValue y.toValue = f (.i x.toInt) (.i y.toInt) := by
  simp [arith, flags_toValue, num_toValue]

theorem add_cv (a : Int) (x : CVal) : Value.add (.int a) x.toValue = .ok (.int (a + x.toInt)) := by
  have := arith_toValue addN (.i a) x
  simpa [Value.add, CVal.toValue, CVal.toInt, addN, pure, Except.pure] using this

theorem mul_cv (a : Int) (x : CVal) : Value.mul (.int a) x.toValue = .ok (.int (a * x.toInt)) := by
  have := arith_toValue mulN (.i a) x
  simpa [Value.mul, CVal.toValue, CVal.toInt, mulN, pure, Except.pure] using this

theorem floordiv_cv (x y : CVal) (hy : 0 < y.toInt) :
    Value.floordiv x.toValue y.toValue = .ok (.int (x.toInt / y.toInt)) := by
  have hy0 : y.toInt ≠ 0 := by omega
  simp [Value.floordiv, arith_toValue, floordivN, hy0,
    Int.fdiv_eq_ediv_of_nonneg x.toInt (Int.le_of_lt hy), pure, Except.pure]

theorem mod_cv (x y : CVal) (hy : 0 < y.toInt) :
    Value.mod x.toValue y.toValue = .ok (.int (x.toInt % y.toInt)) := by
  have hy0 : y.toInt ≠ 0 := by omega
  simp [Value.mod, arith_toValue, modN, hy0,
    Int.fmod_eq_emod_of_nonneg x.toInt (Int.le_of_lt hy), pure, Except.pure]

theorem pow_two_cv (x : CVal) :
    Value.pow x.toValue (.int 2) = .ok (.int (x.toInt * x.toInt)) := by
  have h2 : x.toInt ^ (2 : Nat) = x.toInt * x.toInt := by
    rw [Int.pow_succ, Int.pow_succ, Int.pow_zero, Int.one_mul]
  have := arith_toValue powN x (.i 2)
  rw [show (CVal.i 2).toValue = Value.int 2 from rfl, show (CVal.i 2).toInt = 2 from rfl] at this
  simp [Value.pow, this, powN, bigLimit, pure, Except.pure, h2]

theorem lshift_cv (x y : CVal) (h0 : 0 ≤ y.toInt) (h1 : y.toInt ≤ 4096) :
    Value.lshift x.toValue y.toValue = .ok (.int (x.toInt * 2 ^ y.toInt.toNat)) := by
  have h2 : ¬ y.toInt < 0 := by omega
  have h3 : y.toInt ≤ (bigLimit : Nat) := by simp only [bigLimit]; omega
  simp [Value.lshift, arith_toValue, lshiftN, intOnly, h2, h3, pure, Except.pure]

theorem rshift_cv (x y : CVal) (h0 : 0 ≤ y.toInt) (h1 : y.toInt ≤ 4096) :
    Value.rshift x.toValue y.toValue = .ok (.int (x.toInt / 2 ^ y.toInt.toNat)) := by
  have h2 : ¬ y.toInt < 0 := by omega
  have h3 : y.toInt ≤ (bigLimit : Nat) := by simp only [bigLimit]; omega
  have h4 : (0 : Int) ≤ 2 ^ y.toInt.toNat := Int.le_of_lt (Int.pow_pos (by decide))
  simp [Value.rshift, arith_toValue, rshiftN, intOnly, h2, h3, pure, Except.pure,
    Int.fdiv_eq_ediv_of_nonneg x.toInt h4]

theorem invert_cv (x : CVal) : Value.invert x.toValue = .ok (.int (-x.toInt - 1)) := by
  simp [Value.invert, flags_toValue, num_toValue, pure, Except.pure]

theorem truthy_cv (x : CVal) : x.toValue.truthy = .ok (x.toInt != 0) := by
  cases x with
  | i n => simp [CVal.toValue, CVal.toInt, Value.truthy, pure, Except.pure]
  | b p => cases p <;> simp [CVal.toValue, CVal.toInt, Value.truthy, c14B2I, pure, Except.pure]

theorem pyEq_cv (x y : CVal) : x.toValue.pyEq y.toValue = (x.toInt == y.toInt) := by
  have key : ∀ a b : Int, (((a : Rat) == (b : Rat)) : Bool) = (a == b) := by
    intro a b
    rw [Bool.eq_iff_iff]
    simp [Rat.intCast_inj]
  cases x <;> cases y <;>
    simp [CVal.toValue, CVal.toInt, Value.pyEq, Value.num?, Num.toRat] <;>
    first
    | exact key _ _
    | (rename_i p q; cases p <;> cases q <;> simp [c14B2I])
    | (rename_i p; cases p <;> simp [c14B2I, key] <;> exact key _ _)
    | skip

theorem cmp_cv (o : CmpOp) (x y : CVal) :
    Value.cmp o x.toValue y.toValue = .ok (.bool (c14CmpInt o x.toInt y.toInt)) := by
  have hlt : ∀ a b : Int, decide ((a : Rat) < (b : Rat)) = decide (a < b) := by
    intro a b
    simp [Rat.intCast_lt_intCast]
  have hle : ∀ a b : Int, decide ((a : Rat) ≤ (b : Rat)) = decide (a ≤ b) := by
    intro a b
    simp [Rat.intCast_le_intCast]
  cases o <;>
    simp [Value.cmp, flags_toValue, num_toValue, pyEq_cv, c14CmpInt, CmpOp.evalRat, Num.toRat,
      pure, Except.pure, bne] <;>
    first | exact hlt _ _ | exact hle _ _

theorem better_cv (isMin : Bool) (x m : CVal) :
    Value.better isMin x.toValue m.toValue =
      .ok (if isMin then decide (x.toInt < m.toInt) else decide (m.toInt < x.toInt)) := by
  cases isMin <;>
    simp [Value.better, Value.lt, cmp_cv, c14CmpInt, bind, Except.bind, pure, Except.pure]

theorem land'_nonneg (a b : Int) (ha : 0 ≤ a) (hb : 0 ≤ b) :
    Int.land' a b = Int.ofNat (a.toNat &&& b.toNat) := by
  cases a <;> cases b <;> first | rfl | omega

theorem lor'_nonneg (a b : Int) (ha : 0 ≤ a) (hb : 0 ≤ b) :
    Int.lor' a b = Int.ofNat (a.toNat ||| b.toNat) := by
  cases a <;> cases b <;> first | rfl | omega

theorem xor'_nonneg (a b : Int) (ha : 0 ≤ a) (hb : 0 ≤ b) :
    Int.xor' a b = Int.ofNat (a.toNat ^^^ b.toNat) := by
  cases a <;> cases b <;> first | rfl | omega

theorem bitop_cv (fi : Int → Int → Int) (fb : Bool → Bool → Bool) (x y : CVal)
    (h : ¬ (∃ p q, x = .b p ∧ y = .b q)) :
    bitop fi fb x.toValue y.toValue = .ok (.int (fi x.toInt y.toInt)) := by
  have := arith_toValue (intOnly fun a b => pure (.int (fi a b))) x y
  cases x <;> cases y <;> simp_all [bitop, CVal.toValue, CVal.toInt, intOnly, pure, Except.pure]

theorem bitV_sound (op : NaryOp) (x y r : CVal) (h : bitV op x y = some r) :
    op.apply x.toValue y.toValue = .ok r.toValue := by
  cases op <;> first | (cases x <;> cases y <;> cases h; done) | skip
  all_goals
    cases x <;> cases y
    case b.b => simp only [bitV, Option.some.injEq] at h; subst h; rfl
    all_goals
      simp only [bitV] at h
      split at h
      · rename_i hg
        simp only [Option.some.injEq] at h; subst h
        simp only [NaryOp.apply, Value.bor, Value.bxor, Value.band]
        rw [bitop_cv _ _ _ _ (by simp)]
        first
          | rw [lor'_nonneg _ _ hg.1 hg.2]
          | rw [xor'_nonneg _ _ hg.1 hg.2]
          | rw [land'_nonneg _ _ hg.1 hg.2]
        rfl
      · cases h

def bitNat : NaryOp → Nat → Nat → Nat
  | .band, a, b => a &&& b
  | .bxor, a, b => a ^^^ b
  | .bor, a, b => a ||| b
  | _, _, _ => 0

/-- the number C computes for `&`, `^`, `|` is the number of Python's result -/
theorem bitV_toInt (op : NaryOp) (x y r : CVal) (h : bitV op x y = some r) :
    0 ≤ x.toInt ∧ 0 ≤ y.toInt ∧ r.toInt = Int.ofNat (bitNat op x.toInt.toNat y.toInt.toNat) := by
  cases op <;> first | (cases x <;> cases y <;> cases h; done) | skip
  all_goals
    cases x <;> cases y
    case b.b p q =>
      simp only [bitV, Option.some.injEq] at h; subst h
      cases p <;> cases q <;> decide
    all_goals
      simp only [bitV] at h
      split at h
      · rename_i hg
        simp only [Option.some.injEq] at h; subst h
        exact ⟨hg.1, hg.2, rfl⟩
      · cases h

/-! ### `denV` is the evaluator's value -/

abbrev SoundAt (env : Env) (c : Expr) : Prop := ∀ w, denV env c = some w → den env c = .ok w.toValue

theorem denFold_sum_cv (env : Env) : ∀ (cs : List Expr) (vs : List CVal) (a : Int),
    (∀ c ∈ cs, SoundAt env c) → denVL env cs = some vs →
    denFold env .sum (.int a) cs = .ok (.int (a + sumL (vs.map CVal.toInt)))
  | [], vs, a, _, h => by
      simp only [denVL, Option.some.injEq] at h
      subst h
      simp [denFold, sumL, pure, Except.pure]
  | c :: cs, vs, a, ih, h => by
      simp only [denVL] at h
      cases hc : denV env c with
      | none => simp [hc] at h
      | some v =>
        cases hcs : denVL env cs with
        | none => simp [hc, hcs] at h
        | some ws =>
          simp only [hc, hcs, Option.some.injEq] at h
          subst h
          have h1 := ih c (by simp) v hc
          simp only [denFold, h1, bind, Except.bind, NaryOp.apply, add_cv]
          rw [denFold_sum_cv env cs ws (a + v.toInt) (fun c' hc' => ih c' (by simp [hc'])) hcs]
          simp [sumL, Int.add_assoc]

theorem denFold_prod_cv (env : Env) : ∀ (cs : List Expr) (vs : List CVal) (a : Int),
    (∀ c ∈ cs, SoundAt env c) → denVL env cs = some vs →
    denFold env .prod (.int a) cs = .ok (.int (a * prodL (vs.map CVal.toInt)))
  | [], vs, a, _, h => by
      simp only [denVL, Option.some.injEq] at h
      subst h
      simp [denFold, prodL, pure, Except.pure]
  | c :: cs, vs, a, ih, h => by
      simp only [denVL] at h
      cases hc : denV env c with
      | none => simp [hc] at h
      | some v =>
        cases hcs : denVL env cs with
        | none => simp [hc, hcs] at h
        | some ws =>
          simp only [hc, hcs, Option.some.injEq] at h
          subst h
          have h1 := ih c (by simp) v hc
          simp only [denFold, h1, bind, Except.bind, NaryOp.apply, mul_cv]
          rw [denFold_prod_cv env cs ws (a * v.toInt) (fun c' hc' => ih c' (by simp [hc'])) hcs]
          simp [prodL, Int.mul_assoc]

theorem denFold_bit_cv (env : Env) (op : NaryOp) : ∀ (cs : List Expr) (acc r : CVal),
    (∀ c ∈ cs, SoundAt env c) → denVBit env op acc cs = some r →
    denFold env op acc.toValue cs = .ok r.toValue
  | [], acc, r, _, h => by
      simp only [denVBit, Option.some.injEq] at h
      subst h
      simp [denFold, pure, Except.pure]
  | c :: cs, acc, r, ih, h => by
      simp only [denVBit] at h
      cases hc : denV env c with
      | none => simp [hc] at h
      | some w =>
        simp only [hc] at h
        cases hb : bitV op acc w with
        | none => simp [hb] at h
        | some acc' =>
          simp only [hb] at h
          have h1 := ih c (by simp) w hc
          simp only [denFold, h1, bind, Except.bind, bitV_sound op acc w acc' hb]
          exact denFold_bit_cv env op cs acc' r (fun c' hc' => ih c' (by simp [hc'])) h

theorem denAll_cv (env : Env) : ∀ (cs : List Expr) (r : CVal),
    (∀ c ∈ cs, SoundAt env c) → denVAll env cs = some r → denAll env cs = .ok r.toValue
  | [], r, _, h => by
      simp only [denVAll, Option.some.injEq] at h
      subst h
      simp [denAll, toValue_i, toValue_b, pure, Except.pure]
  | c :: cs, r, ih, h => by
      simp only [denVAll] at h
      cases hc : denV env c with
      | none => simp [hc] at h
      | some w =>
        simp only [hc] at h
        have h1 := ih c (by simp) w hc
        simp only [denAll, h1, bind, Except.bind, truthy_cv]
        by_cases hw : w.toInt = 0
        · simp only [hw, if_true, Option.some.injEq] at h
          subst h
          simp [hw, toValue_i, toValue_b, pure, Except.pure]
        · simp only [hw, if_false] at h
          simp only [bne_iff_ne, ne_eq, hw, not_false_eq_true, decide_true, if_true]
          exact denAll_cv env cs r (fun c' hc' => ih c' (by simp [hc'])) h

theorem denAny_cv (env : Env) : ∀ (cs : List Expr) (r : CVal),
    (∀ c ∈ cs, SoundAt env c) → denVAny env cs = some r → denAny env cs = .ok r.toValue
  | [], r, _, h => by
      simp only [denVAny, Option.some.injEq] at h
      subst h
      simp [denAny, toValue_i, toValue_b, pure, Except.pure]
  | c :: cs, r, ih, h => by
      simp only [denVAny] at h
      cases hc : denV env c with
      | none => simp [hc] at h
      | some w =>
        simp only [hc] at h
        have h1 := ih c (by simp) w hc
        simp only [denAny, h1, bind, Except.bind, truthy_cv]
        by_cases hw : w.toInt = 0
        · simp only [hw, if_true] at h
          simp only [hw, bne_self_eq_false, Bool.false_eq_true, if_false]
          exact denAny_cv env cs r (fun c' hc' => ih c' (by simp [hc'])) h
        · simp only [hw, if_false, Option.some.injEq] at h
          subst h
          simp [hw, toValue_i, toValue_b, pure, Except.pure]

/-- **`denV` is the evaluator's value**: where the fragment's meaning is defined, `den` returns
exactly that int or bool. -/
theorem denV_sound (env : Env) (e : Expr) : SoundAt env e := by
  induction e using Expr.induct with
  | h e ih =>
    intro v h
    cases e with
    | const c =>
      cases c <;> simp [denV] at h
      subst h
      simp [den, Const.den, toValue_i, toValue_b, pure, Except.pure]
    | var x =>
      simp only [denV] at h
      cases hx : envInt env x with
      | none => simp [hx] at h
      | some n =>
        simp only [hx, Option.map_some, Option.some.injEq] at h
        subst h
        simp [den, envInt_get hx, toValue_i, toValue_b, pure, Except.pure]
    | nary op cs =>
      have ihc : ∀ c ∈ cs, SoundAt env c := fun c hc => ih c (by simp [Expr.children, hc])
      cases op with
      | sum =>
        simp only [denV] at h
        cases hcs : denVL env cs with
        | none => simp [hcs] at h
        | some vs =>
          simp only [hcs, Option.map_some, Option.some.injEq] at h
          subst h
          simp only [den]
          rw [denFold_sum_cv env cs vs 0 ihc hcs]
          simp [toValue_i, toValue_b]
      | prod =>
        simp only [denV] at h
        cases hcs : denVL env cs with
        | none => simp [hcs] at h
        | some vs =>
          simp only [hcs, Option.map_some, Option.some.injEq] at h
          subst h
          simp only [den]
          rw [denFold_prod_cv env cs vs 1 ihc hcs]
          simp [toValue_i, toValue_b]
      | band =>
        cases cs with
        | nil => simp [denV] at h
        | cons c cs =>
          simp only [denV] at h
          cases hc : denV env c with
          | none => simp [hc] at h
          | some w =>
            simp only [hc] at h
            simp only [den, denReduce, ihc c (by simp) w hc, bind, Except.bind]
            exact denFold_bit_cv env .band cs w v (fun c' hc' => ihc c' (by simp [hc'])) h
      | bxor =>
        cases cs with
        | nil => simp [denV] at h
        | cons c cs =>
          simp only [denV] at h
          cases hc : denV env c with
          | none => simp [hc] at h
          | some w =>
            simp only [hc] at h
            simp only [den, denReduce, ihc c (by simp) w hc, bind, Except.bind]
            exact denFold_bit_cv env .bxor cs w v (fun c' hc' => ihc c' (by simp [hc'])) h
      | bor =>
        cases cs with
        | nil => simp [denV] at h
        | cons c cs =>
          simp only [denV] at h
          cases hc : denV env c with
          | none => simp [hc] at h
          | some w =>
            simp only [hc] at h
            simp only [den, denReduce, ihc c (by simp) w hc, bind, Except.bind]
            exact denFold_bit_cv env .bor cs w v (fun c' hc' => ihc c' (by simp [hc'])) h
      | land =>
        simp only [denV] at h
        simp only [den]
        exact denAll_cv env cs v ihc h
      | lor =>
        simp only [denV] at h
        simp only [den]
        exact denAny_cv env cs v ihc h
      | min =>
        match cs, h, ihc with
        | [a, b], h, ihc =>
          simp only [denV] at h
          cases ha : denV env a with
          | none => simp [ha] at h
          | some x =>
            cases hb : denV env b with
            | none => simp [ha, hb] at h
            | some y =>
              simp only [ha, hb, Option.some.injEq] at h
              subst h
              simp only [den, denMinMax, ihc a (by simp) x ha, ihc b (by simp) y hb, bind,
                Except.bind, better_cv, if_true, pure, Except.pure]
              by_cases hlt : y.toInt < x.toInt <;> simp [hlt]
        | [], h, _ => simp [denV] at h
        | [_], h, _ => simp [denV] at h
        | _ :: _ :: _ :: _, h, _ => simp [denV] at h
      | max =>
        match cs, h, ihc with
        | [a, b], h, ihc =>
          simp only [denV] at h
          cases ha : denV env a with
          | none => simp [ha] at h
          | some x =>
            cases hb : denV env b with
            | none => simp [ha, hb] at h
            | some y =>
              simp only [ha, hb, Option.some.injEq] at h
              subst h
              simp only [den, denMinMax, ihc a (by simp) x ha, ihc b (by simp) y hb, bind,
                Except.bind, better_cv, Bool.false_eq_true, if_false, pure, Except.pure]
              by_cases hlt : x.toInt < y.toInt <;> simp [hlt]
        | [], h, _ => simp [denV] at h
        | [_], h, _ => simp [denV] at h
        | _ :: _ :: _ :: _, h, _ => simp [denV] at h
    | bin op a b =>
      have iha := ih a (by simp [Expr.children])
      have ihb := ih b (by simp [Expr.children])
      cases op with
      | quot => simp [denV] at h
      | floordiv =>
        simp only [denV] at h
        cases ha : denV env a with
        | none => simp [ha] at h
        | some x =>
          cases hb : denV env b with
          | none => simp [ha, hb] at h
          | some y =>
            simp only [ha, hb] at h
            split at h
            · rename_i hxy
              simp only [Option.some.injEq] at h
              subst h
              simp [den, iha x ha, ihb y hb, bind, Except.bind, BinOp.apply,
                floordiv_cv x y hxy.2, toValue_i, toValue_b]
            · cases h
      | rem =>
        simp only [denV] at h
        cases ha : denV env a with
        | none => simp [ha] at h
        | some x =>
          cases hb : denV env b with
          | none => simp [ha, hb] at h
          | some y =>
            simp only [ha, hb] at h
            split at h
            · rename_i hxy
              simp only [Option.some.injEq] at h
              subst h
              simp [den, iha x ha, ihb y hb, bind, Except.bind, BinOp.apply, mod_cv x y hxy.2,
                toValue_i, toValue_b]
            · cases h
      | lshift =>
        simp only [denV] at h
        cases ha : denV env a with
        | none => simp [ha] at h
        | some x =>
          cases hb : denV env b with
          | none => simp [ha, hb] at h
          | some y =>
            simp only [ha, hb] at h
            split at h
            · rename_i hxy
              simp only [Option.some.injEq] at h
              subst h
              simp [den, iha x ha, ihb y hb, bind, Except.bind, BinOp.apply,
                lshift_cv x y hxy.2.1 hxy.2.2, toValue_i, toValue_b]
            · cases h
      | rshift =>
        simp only [denV] at h
        cases ha : denV env a with
        | none => simp [ha] at h
        | some x =>
          cases hb : denV env b with
          | none => simp [ha, hb] at h
          | some y =>
            simp only [ha, hb] at h
            split at h
            · rename_i hxy
              simp only [Option.some.injEq] at h
              subst h
              simp [den, iha x ha, ihb y hb, bind, Except.bind, BinOp.apply,
                rshift_cv x y hxy.2.1 hxy.2.2, toValue_i, toValue_b]
            · cases h
      | pow =>
        cases b with
        | const c =>
          cases c with
          | int n =>
            simp only [denV] at h
            split at h
            · rename_i hn
              subst hn
              cases ha : denV env a with
              | none => simp [ha] at h
              | some x =>
                simp only [ha, Option.map_some, Option.some.injEq] at h
                subst h
                simp [den, iha x ha, Const.den, bind, Except.bind, BinOp.apply, pow_two_cv,
                  toValue_i, toValue_b, pure, Except.pure]
            · cases h
          | _ => simp [denV] at h
        | _ => simp [denV] at h
    | un op a =>
      have iha := ih a (by simp [Expr.children])
      cases op with
      | lnot =>
        simp only [denV] at h
        cases ha : denV env a with
        | none => simp [ha] at h
        | some x =>
          simp only [ha, Option.map_some, Option.some.injEq] at h
          subst h
          simp only [den, iha x ha, bind, Except.bind, truthy_cv, pure, Except.pure, toValue_i, toValue_b]
          by_cases hx : x.toInt = 0 <;> simp [hx, bne]
      | bnot =>
        simp only [denV] at h
        cases ha : denV env a with
        | none => simp [ha] at h
        | some x =>
          simp only [ha, Option.map_some, Option.some.injEq] at h
          subst h
          simp [den, iha x ha, bind, Except.bind, invert_cv, toValue_i, toValue_b]
    | cmp o a b =>
      have iha := ih a (by simp [Expr.children])
      have ihb := ih b (by simp [Expr.children])
      simp only [denV] at h
      cases ha : denV env a with
      | none => simp [ha] at h
      | some x =>
        cases hb : denV env b with
        | none => simp [ha, hb] at h
        | some y =>
          simp only [ha, hb, Option.some.injEq] at h
          subst h
          simp [den, iha x ha, ihb y hb, bind, Except.bind, cmp_cv, toValue_i, toValue_b]
    | ite c t e =>
      have ihc := ih c (by simp [Expr.children])
      have iht := ih t (by simp [Expr.children])
      have ihe := ih e (by simp [Expr.children])
      simp only [denV] at h
      cases hc : denV env c with
      | none => simp [hc] at h
      | some w =>
        simp only [hc] at h
        simp only [den, ihc w hc, bind, Except.bind, truthy_cv]
        by_cases hw : w.toInt = 0
        · simp only [hw, if_true] at h
          simp only [hw, bne_self_eq_false, Bool.false_eq_true, if_false]
          exact ihe v h
        · simp only [hw, if_false] at h
          simp only [bne_iff_ne, ne_eq, hw, not_false_eq_true, decide_true, if_true]
          exact iht v h
    | _ => simp [denV] at h

end PV.C14
