import PV.Model.AlgoTable
/-!
  C19 (T-gen): symbolic execution of the table interpreter of PV/Model/AlgoTable.lean.

  The interpreter is run by rewriting: the lemmas below say what the interpreter does on each
  constructor of the syntax and what each helper does on values in constructor form, the tactic
  `c19_run [extra]` rewrites with all of them, the `c19While_succ_*` lemmas unroll one iteration
  of a loop and `c19While_inv` runs a loop that keeps an invariant.

  The rewrite lemmas are closed with `by rfl`, not with the term `rfl`: `simp` applies a lemma whose
  proof is the term `rfl` as a definitional step and records nothing, and the kernel, left to find
  the conversion by itself, unfolds the interpreter where `simp` did not (method resolution,
  look-ups by name: comparisons of long strings).  With a proof term for each step the kernel only
  matches instances.

  Budgets.  `c19RunFn … (n + 1) name args` runs a body at call depth `n`: every nested call of a
  table function costs one, so a statement `… (n + 1 + 1 + 1) …` says "two levels of calls below
  this body" (`Rational.__init__` → `traits` / `get_unit`), and a bound such as
  `q.natAbs + r.natAbs + 3 ≤ n` adds the levels above a loop to the number of its turns.  Every
  `while` of a body at depth `n` may take `n + 1` turns; a loop that lowers a measure `μ` needs
  `μ + 1` of them (`c19While_inv`: the last turn is the failing test).
-/
namespace PV.Algo

variable {α : Type}

/-- the context of a body that runs at call depth `n` with loop budget `k` -/
def c19CxAt (ops : C19Ops α) (tbl : C19Table) (ext : String → List (C19V α) → C19R (C19V α))
    (n k : Nat) : C19Cx α := ⟨ops, tbl, c19RunFn ops tbl ext n, k⟩

@[simp] theorem c19CxAt_ops (ops : C19Ops α) (tbl : C19Table)
    (ext : String → List (C19V α) → C19R (C19V α)) (n k : Nat) : (c19CxAt ops tbl ext n k).ops = ops := by rfl
@[simp] theorem c19CxAt_tbl (ops : C19Ops α) (tbl : C19Table)
    (ext : String → List (C19V α) → C19R (C19V α)) (n k : Nat) : (c19CxAt ops tbl ext n k).tbl = tbl := by rfl
@[simp] theorem c19CxAt_calls (ops : C19Ops α) (tbl : C19Table)
    (ext : String → List (C19V α) → C19R (C19V α)) (n k : Nat) :
    (c19CxAt ops tbl ext n k).calls = c19RunFn ops tbl ext n := by rfl
@[simp] theorem c19CxAt_fuel (ops : C19Ops α) (tbl : C19Table)
    (ext : String → List (C19V α) → C19R (C19V α)) (n k : Nat) : (c19CxAt ops tbl ext n k).fuel = k := by rfl

/-- one call of a table function: parameters bound, body run one level deeper -/
theorem c19RunFn_succ (ops : C19Ops α) (tbl : C19Table)
    (ext : String → List (C19V α) → C19R (C19V α)) (n : Nat) (name : String) (args : List (C19V α))
    (f : C19Fn) (σ : C19Store α) (hf : c19FindFn tbl name = some f)
    (hb : c19BindParams f.params args = some σ) :
    c19RunFn ops tbl ext (n + 1) name args
      = c19Finish f.kind (c19ExecL (c19CxAt ops tbl ext n (n + 1)) f.body σ) := by
  simp only [c19RunFn, hf, hb, c19CxAt]

/-- a name outside the table goes to `ext` -/
theorem c19RunFn_ext (ops : C19Ops α) (tbl : C19Table)
    (ext : String → List (C19V α) → C19R (C19V α)) (n : Nat) (name : String) (args : List (C19V α))
    (hf : c19FindFn tbl name = none) :
    c19RunFn ops tbl ext (n + 1) name args = ext name args := by
  simp only [c19RunFn, hf]

@[simp] theorem c19Finish_ret (kind : C19Kind) (h : kind ≠ .init) (v : C19V α) :
    c19Finish kind (.ret v) = .ok v := by simp [c19Finish, h]
@[simp] theorem c19Finish_raise (kind : C19Kind) (k : String) :
    c19Finish kind (.raise k : C19O α) = .raise k := by rfl

/-! ### one step of the interpreter

The equations of `c19EvalE`, `c19EvalEs`, `c19Exec`, `c19ExecL` on each constructor. -/

section
variable (cx : C19Cx α) (σ : C19Store α)

theorem c19EvalE_var (x : String) : c19EvalE cx (.var x) σ = match c19Get x σ with
    | some v => .ok v
    | Option.none => .stuck ("unbound name " ++ x) := by rfl
theorem c19EvalE_int (i : Int) : c19EvalE cx (.int i) σ = .ok (.int i) := by rfl
theorem c19EvalE_none : c19EvalE cx .none σ = .ok .none := by rfl
theorem c19EvalE_bool (b : Bool) : c19EvalE cx (.bool b) σ = .ok (.bool b) := by rfl
theorem c19EvalE_bin (op : C19Bin) (a b : C19E) : c19EvalE cx (.bin op a b) σ =
    (c19EvalE cx a σ).bind fun va => (c19EvalE cx b σ).bind fun vb => c19BinOp cx op va vb := by rfl
theorem c19EvalE_neg (a : C19E) : c19EvalE cx (.neg a) σ =
    (c19EvalE cx a σ).bind fun va => c19Neg cx va := by rfl
theorem c19EvalE_not (a : C19E) : c19EvalE cx (.not a) σ =
    (c19EvalE cx a σ).bind fun va => (c19TruthyM cx va).bind fun t => .ok (.bool (!t)) := by rfl
theorem c19EvalE_cmp (op : C19Cmp) (a b : C19E) : c19EvalE cx (.cmp op a b) σ =
    (c19EvalE cx a σ).bind fun va => (c19EvalE cx b σ).bind fun vb => c19Cmp op va vb := by rfl
theorem c19EvalE_and (a b : C19E) : c19EvalE cx (.and a b) σ =
    (c19EvalE cx a σ).bind fun va => (c19TruthyM cx va).bind fun t =>
      if t then c19EvalE cx b σ else .ok va := by rfl
theorem c19EvalE_or (a b : C19E) : c19EvalE cx (.or a b) σ =
    (c19EvalE cx a σ).bind fun va => (c19TruthyM cx va).bind fun t =>
      if t then .ok va else c19EvalE cx b σ := by rfl
theorem c19EvalE_tuple (es : List C19E) : c19EvalE cx (.tuple es) σ =
    (c19EvalEs cx es σ).bind fun vs => .ok (.tup vs) := by rfl
theorem c19EvalE_index (a i : C19E) : c19EvalE cx (.index a i) σ =
    (c19EvalE cx a σ).bind fun va => (c19EvalE cx i σ).bind fun vi =>
      match vi with
      | .int k => (c19ItemsOf va).bind fun vs => c19Index vs k
      | _ => .stuck "index is not an integer" := by rfl
theorem c19EvalE_slice (a lo st : C19E) : c19EvalE cx (.slice a lo st) σ =
    (c19EvalE cx a σ).bind fun va => (c19EvalE cx lo σ).bind fun vlo =>
      (c19EvalE cx st σ).bind fun vst =>
        match va with
        | .tup vs => (c19Slice vs vlo vst).bind fun ws => .ok (.tup ws)
        | .vec vs => (c19Slice vs vlo vst).bind fun ws => .ok (.vec ws)
        | _ => .stuck "slice of a non-sequence" := by rfl
theorem c19EvalE_attr (a : C19E) (name : String) : c19EvalE cx (.attr a name) σ =
    (c19EvalE cx a σ).bind fun va => c19Attr cx va name := by rfl
theorem c19EvalE_isinst (a : C19E) (classes : List String) : c19EvalE cx (.isinst a classes) σ =
    (c19EvalE cx a σ).bind fun va => .ok (.bool (c19IsInst cx va classes)) := by rfl
theorem c19EvalE_isinstOf (a b : C19E) : c19EvalE cx (.isinstOf a b) σ =
    (c19EvalE cx a σ).bind fun va => (c19EvalE cx b σ).bind fun vb =>
      .ok (.bool (c19IsInst cx va ((c19ClassesOf cx.tbl vb).take 1))) := by rfl
theorem c19EvalE_call (fn : String) (args : List C19E) : c19EvalE cx (.call fn args) σ =
    (c19EvalEs cx args σ).bind fun vs => c19Call cx fn vs := by rfl
theorem c19EvalE_method (recv : C19E) (name : String) (args : List C19E) :
    c19EvalE cx (.method recv name args) σ =
      (c19EvalE cx recv σ).bind fun vr => (c19EvalEs cx args σ).bind fun vs =>
        c19Method cx vr name vs := by rfl
theorem c19EvalE_new (cls : String) (args : List C19E) : c19EvalE cx (.new cls args) σ =
    (c19EvalEs cx args σ).bind fun vs => c19New cx cls vs := by rfl
theorem c19EvalE_comp (elt : C19E) (tgt : C19P) (iter : C19E) : c19EvalE cx (.comp elt tgt iter) σ =
    (c19EvalE cx iter σ).bind fun vi => (c19ItemsOf vi).bind fun items =>
      (c19MapM (fun item => match c19Bind tgt item σ with
        | some σ' => c19EvalE cx elt σ'
        | Option.none => .stuck "comprehension target does not match") items).bind fun vs =>
        .ok (.tup vs) := by rfl
theorem c19EvalE_twiddle (sign : C19E) (num : List C19E) (den : C19E) :
    c19EvalE cx (.twiddle sign num den) σ =
      (c19EvalE cx sign σ).bind fun vs => (c19EvalE cx den σ).bind fun vd =>
        (c19EvalEs cx num σ).bind fun vn =>
          match vs, vd with
          | .int s, .int m => (c19TwNum vn).bind fun p =>
              match p.2 with
              | Option.none => .ok (.elem (cx.ops.tw s m p.1))
              | some ks => (c19TwVec cx.ops s m p.1 ks).bind fun ws => .ok (.vec ws)
          | _, _ => .stuck "twiddle sign / length is not an integer" := by rfl
theorem c19EvalE_commonTraits (args : List C19E) : c19EvalE cx (.commonTraits args) σ =
    (c19EvalEs cx args σ).bind fun vs => c19CommonTraits cx vs := by rfl

theorem c19EvalEs_nil : c19EvalEs cx [] σ = .ok [] := by rfl
theorem c19EvalEs_cons (e : C19E) (es : List C19E) : c19EvalEs cx (e :: es) σ =
    (c19EvalE cx e σ).bind fun v => (c19EvalEs cx es σ).bind fun vs => .ok (v :: vs) := by rfl

theorem c19Exec_assign (t : C19T) (e : C19E) : c19Exec cx (.assign t e) σ =
    C19O.ofR (c19EvalE cx e σ) fun v => c19AssignT cx t v σ := by rfl
theorem c19Exec_aug (x : String) (op : C19Bin) (e : C19E) : c19Exec cx (.aug x op e) σ =
    match c19Get x σ with
    | Option.none => .stuck ("unbound name " ++ x)
    | some v => C19O.ofR (c19EvalE cx e σ) fun w =>
        C19O.ofR (c19BinOp cx op v w) fun r => .next (c19Set x r σ) := by rfl
theorem c19Exec_append (x : String) (e : C19E) : c19Exec cx (.append x e) σ =
    C19O.ofR (c19EvalE cx e σ) fun v =>
      match c19Get x σ with
      | some (.tup vs) => .next (c19Set x (.tup (vs ++ [v])) σ)
      | _ => .stuck "append to a non-list" := by rfl
theorem c19Exec_pop (x : String) : c19Exec cx (.pop x) σ =
    match c19Get x σ with
    | some (.tup vs) =>
      if vs.isEmpty then .raise "IndexError" else .next (c19Set x (.tup vs.dropLast) σ)
    | _ => .stuck "pop from a non-list" := by rfl
theorem c19Exec_sortByFirst (x : String) : c19Exec cx (.sortByFirst x) σ =
    match c19Get x σ with
    | some (.tup vs) => match c19SortByKey vs with
      | some r => .next (c19Set x (.tup (r.map (·.2))) σ)
      | Option.none => .stuck "sort key outside the language"
    | _ => .stuck "sort of a non-list" := by rfl
theorem c19Exec_ite (c : C19E) (thn els : List C19S) : c19Exec cx (.ite c thn els) σ =
    C19O.ofR (c19Test cx c σ) fun t =>
      if t then c19ExecL cx thn σ else c19ExecL cx els σ := by rfl
theorem c19Exec_while (c : C19E) (body : List C19S) : c19Exec cx (.while c body) σ =
    c19While (c19Test cx c) (c19ExecL cx body) cx.fuel σ := by rfl
theorem c19Exec_for (p : C19P) (iter : C19E) (body : List C19S) : c19Exec cx (.for p iter body) σ =
    C19O.ofR (c19EvalE cx iter σ) fun vi =>
      C19O.ofR (c19ItemsOf vi) fun items => c19For (c19Bind p) (c19ExecL cx body) items σ := by rfl
theorem c19Exec_ret (e : C19E) : c19Exec cx (.ret e) σ =
    C19O.ofR (c19EvalE cx e σ) fun v => .ret v := by rfl
theorem c19Exec_raise (kind : String) : c19Exec cx (.raise kind) σ = .raise kind := by rfl
theorem c19Exec_tryExcept (body : List C19S) (kind : String) (handler : List C19S) :
    c19Exec cx (.tryExcept body kind handler) σ =
      match c19ExecL cx body σ with
      | .raise k => if k = kind then c19ExecL cx handler σ else .raise k
      | o => o := by rfl
theorem c19Exec_assert (c : C19E) : c19Exec cx (.assert c) σ =
    C19O.ofR (c19Test cx c σ) fun t => if t then .next σ else .raise "AssertionError" := by rfl
theorem c19Exec_pass : c19Exec cx .pass σ = .next σ := by rfl

theorem c19ExecL_nil : c19ExecL cx [] σ = .next σ := by rfl
theorem c19ExecL_cons (s : C19S) (ss : List C19S) : c19ExecL cx (s :: ss) σ =
    (c19Exec cx s σ).andThen (c19ExecL cx ss) := by rfl
end

/-! ### results -/

@[simp] theorem C19R.bind_ok {β γ : Type} (v : β) (f : β → C19R γ) : (C19R.ok v).bind f = f v := by rfl
@[simp] theorem C19R.bind_raise {β γ : Type} (k : String) (f : β → C19R γ) :
    (C19R.raise k : C19R β).bind f = .raise k := by rfl
@[simp] theorem C19R.bind_fuel {β γ : Type} (f : β → C19R γ) : (C19R.fuel : C19R β).bind f = .fuel := by rfl
@[simp] theorem C19R.bind_stuck {β γ : Type} (w : String) (f : β → C19R γ) :
    (C19R.stuck w : C19R β).bind f = .stuck w := by rfl

@[simp] theorem C19O.ofR_ok {β : Type} (v : β) (f : β → C19O α) : C19O.ofR (.ok v) f = f v := by rfl
@[simp] theorem C19O.ofR_raise {β : Type} (k : String) (f : β → C19O α) :
    C19O.ofR (.raise k) f = .raise k := by rfl
@[simp] theorem C19O.ofR_fuel {β : Type} (f : β → C19O α) : C19O.ofR .fuel f = .fuel := by rfl
@[simp] theorem C19O.ofR_stuck {β : Type} (w : String) (f : β → C19O α) :
    C19O.ofR (.stuck w) f = .stuck w := by rfl

@[simp] theorem C19O.andThen_next (σ : C19Store α) (f : C19Store α → C19O α) :
    (C19O.next σ).andThen f = f σ := by rfl
@[simp] theorem C19O.andThen_ret (v : C19V α) (f : C19Store α → C19O α) :
    (C19O.ret v).andThen f = .ret v := by rfl
@[simp] theorem C19O.andThen_raise (k : String) (f : C19Store α → C19O α) :
    (C19O.raise k : C19O α).andThen f = .raise k := by rfl
@[simp] theorem C19O.andThen_fuel (f : C19Store α → C19O α) :
    (C19O.fuel : C19O α).andThen f = .fuel := by rfl
@[simp] theorem C19O.andThen_stuck (w : String) (f : C19Store α → C19O α) :
    (C19O.stuck w : C19O α).andThen f = .stuck w := by rfl

/- a test the run cannot decide (`if d = 0 then raise … else …` from a division) is carried
along: what follows is run under both outcomes, and the result has the tests of the source in
their order -/
theorem C19R.bind_ite {β γ : Type} (c : Prop) [Decidable c] (x y : C19R β) (f : β → C19R γ) :
    (if c then x else y).bind f = if c then x.bind f else y.bind f := by
  split <;> rfl
theorem C19O.ofR_ite {β : Type} (c : Prop) [Decidable c] (x y : C19R β) (f : β → C19O α) :
    C19O.ofR (if c then x else y) f = if c then C19O.ofR x f else C19O.ofR y f := by
  split <;> rfl
theorem C19O.andThen_ite (c : Prop) [Decidable c] (x y : C19O α) (f : C19Store α → C19O α) :
    (if c then x else y).andThen f = if c then x.andThen f else y.andThen f := by
  split <;> rfl
/-- the second of two equal tests in a row is idle (two divisions by the same number, each with
its test for zero) -/
theorem c19_ite_ite_same {β : Type} (c : Prop) [Decidable c] (x y : β) :
    (if c then x else if c then x else y) = if c then x else y := by
  split <;> simp [*]

/-! ### binding -/

theorem c19Bind_name (x : String) (v : C19V α) (σ : C19Store α) :
    c19Bind (.name x) v σ = some (c19Set x v σ) := by simp [c19Bind]
theorem c19Bind_tuple (ps : List C19P) (vs : List (C19V α)) (σ : C19Store α) :
    c19Bind (.tuple ps) (.tup vs) σ = c19BindL ps vs σ := by simp [c19Bind]
theorem c19BindL_nil (σ : C19Store α) : c19BindL [] ([] : List (C19V α)) σ = some σ := by
  simp [c19BindL]
theorem c19BindL_cons (p : C19P) (ps : List C19P) (v : C19V α) (vs : List (C19V α))
    (σ : C19Store α) :
    c19BindL (p :: ps) (v :: vs) σ = (c19Bind p v σ).bind (c19BindL ps vs) := by
  simp only [c19BindL]; cases c19Bind p v σ <;> rfl

/-! ### stores -/

/- the equations of `c19Get` / `c19Set` with a proof term as well: the test `x = y` on two string
literals is then left to `String.reduceEq` -/
theorem c19Get_cons (x y : String) (v : C19V α) (r : C19Store α) :
    c19Get x ((y, v) :: r) = if x = y then some v else c19Get x r := by rw [c19Get]
theorem c19Get_nil (x : String) : c19Get x ([] : C19Store α) = none := by rw [c19Get]
theorem c19Set_cons (x y : String) (v w : C19V α) (r : C19Store α) :
    c19Set x v ((y, w) :: r) = if x = y then (y, v) :: r else (y, w) :: c19Set x v r := by
  rw [c19Set]
theorem c19Set_nil (x : String) (v : C19V α) : c19Set x v ([] : C19Store α) = [(x, v)] := by
  rw [c19Set]

theorem c19Get_set (x y : String) (v : C19V α) (σ : C19Store α) :
    c19Get x (c19Set y v σ) = if x = y then some v else c19Get x σ := by
  induction σ with
  | nil => simp only [c19Set, c19Get]
  | cons p r ih =>
    obtain ⟨z, w⟩ := p
    simp only [c19Set]
    by_cases hyz : y = z
    · subst hyz
      simp only [if_true, c19Get]
      split <;> simp_all
    · simp only [hyz, if_false, c19Get, ih]
      by_cases hxz : x = z
      · subst hxz
        have : ¬ x = y := fun h => hyz h.symm
        simp [this]
      · simp [hxz]

theorem c19Get_set_same (x : String) (v : C19V α) (σ : C19Store α) :
    c19Get x (c19Set x v σ) = some v := by simp [c19Get_set]

/-! ### attributes -/

theorem c19AttrGet_cons (name k : String) (ks : List String) (v : C19V α) (vs : List (C19V α)) :
    c19AttrGet name (k :: ks) (v :: vs) = if name = k then some v else c19AttrGet name ks vs := by
  simp [c19AttrGet]
theorem c19AttrGet_nil (name : String) (vs : List (C19V α)) :
    c19AttrGet name [] vs = none := by simp [c19AttrGet]
theorem c19AttrSet_cons (name k : String) (ks : List String) (v w : C19V α) (ws : List (C19V α)) :
    c19AttrSet name v (k :: ks) (w :: ws) = if name = k then (k :: ks, v :: ws)
      else (k :: (c19AttrSet name v ks ws).1, w :: (c19AttrSet name v ks ws).2) := by
  simp [c19AttrSet]
theorem c19AttrSet_nil (name : String) (v : C19V α) (ws : List (C19V α)) :
    c19AttrSet name v [] ws = ([name], [v]) := by simp [c19AttrSet]

/-! ### truth values -/

@[simp] theorem c19Truthy_none : c19Truthy (C19V.none : C19V α) = .ok false := by rfl
@[simp] theorem c19Truthy_bool (b : Bool) : c19Truthy (C19V.bool b : C19V α) = .ok b := by rfl
@[simp] theorem c19Truthy_int (i : Int) : c19Truthy (C19V.int i : C19V α) = .ok (i != 0) := by rfl
@[simp] theorem c19Truthy_tup (vs : List (C19V α)) : c19Truthy (C19V.tup vs) = .ok (!vs.isEmpty) := by rfl

@[simp] theorem c19TruthyM_none (cx : C19Cx α) : c19TruthyM cx C19V.none = .ok false := by rfl
@[simp] theorem c19TruthyM_bool (cx : C19Cx α) (b : Bool) : c19TruthyM cx (.bool b) = .ok b := by rfl
@[simp] theorem c19TruthyM_int (cx : C19Cx α) (i : Int) : c19TruthyM cx (.int i) = .ok (i != 0) := by rfl
@[simp] theorem c19Truthy_obj (c : String) (ks : List String) (vs : List (C19V α)) :
    c19Truthy (C19V.obj c ks vs) = .ok true := by rfl
@[simp] theorem c19TruthyM_tup (cx : C19Cx α) (vs : List (C19V α)) :
    c19TruthyM cx (.tup vs) = .ok (!vs.isEmpty) := by rfl

/-! ### operators on integers -/

@[simp] theorem c19BinOp_int (cx : C19Cx α) (op : C19Bin) (a : Int) (b : C19V α) :
    c19BinOp cx op (.int a) b = c19Arith cx.ops op (.int a) b := by rfl
@[simp] theorem c19BinOp_elem (cx : C19Cx α) (op : C19Bin) (a : α) (b : C19V α) :
    c19BinOp cx op (.elem a) b = c19Arith cx.ops op (.elem a) b := by rfl
@[simp] theorem c19BinOp_frac (cx : C19Cx α) (op : C19Bin) (a c : Int) (b : C19V α) :
    c19BinOp cx op (.frac a c) b = c19Arith cx.ops op (.frac a c) b := by rfl
@[simp] theorem c19BinOp_vec (cx : C19Cx α) (op : C19Bin) (a : List (C19V α)) (b : C19V α) :
    c19BinOp cx op (.vec a) b = c19Arith cx.ops op (.vec a) b := by rfl
@[simp] theorem c19BinOp_obj (cx : C19Cx α) (op : C19Bin) (c : String) (ks : List String)
    (vs : List (C19V α)) (b : C19V α) :
    c19BinOp cx op (.obj c ks vs) b = c19Method cx (.obj c ks vs) (c19Dunder op) [b] := by rfl

@[simp] theorem c19Arith_int_int (ops : C19Ops α) (op : C19Bin) (a b : Int) :
    c19Arith ops op (.int a) (.int b) = c19Scalar ops op (.int a) (.int b) := by rfl
@[simp] theorem c19Arith_elem_elem (ops : C19Ops α) (op : C19Bin) (a b : α) :
    c19Arith ops op (.elem a) (.elem b) = c19Scalar ops op (.elem a) (.elem b) := by rfl

@[simp] theorem c19Scalar_add (ops : C19Ops α) (a b : Int) :
    c19Scalar ops .add (.int a) (.int b) = .ok (.int (a + b)) := by rfl
@[simp] theorem c19Scalar_sub (ops : C19Ops α) (a b : Int) :
    c19Scalar ops .sub (.int a) (.int b) = .ok (.int (a - b)) := by rfl
@[simp] theorem c19Scalar_mul (ops : C19Ops α) (a b : Int) :
    c19Scalar ops .mul (.int a) (.int b) = .ok (.int (a * b)) := by rfl
@[simp] theorem c19Scalar_floordiv (ops : C19Ops α) (a b : Int) :
    c19Scalar ops .floordiv (.int a) (.int b) =
      if b = 0 then .raise "ZeroDivisionError" else .ok (.int (Int.fdiv a b)) := by rfl
@[simp] theorem c19Scalar_mod (ops : C19Ops α) (a b : Int) :
    c19Scalar ops .mod (.int a) (.int b) =
      if b = 0 then .raise "ZeroDivisionError" else .ok (.int (Int.fmod a b)) := by rfl
@[simp] theorem c19Scalar_truediv (ops : C19Ops α) (a b : Int) :
    c19Scalar ops .truediv (.int a) (.int b) =
      if b = 0 then .raise "ZeroDivisionError" else .ok (.frac a b) := by rfl
@[simp] theorem c19Scalar_pow (ops : C19Ops α) (a b : Int) :
    c19Scalar ops .pow (.int a) (.int b) =
      if b < 0 then .stuck "int ** negative leaves the integers" else .ok (.int (a ^ b.toNat)) := by rfl
@[simp] theorem c19Scalar_bitand (ops : C19Ops α) (a b : Int) :
    c19Scalar ops .bitand (.int a) (.int b) =
      if 0 ≤ a ∧ 0 ≤ b then .ok (.int ((a.toNat &&& b.toNat : Nat) : Int))
      else .stuck "& on a negative integer" := by rfl
@[simp] theorem c19Scalar_add_elem (ops : C19Ops α) (a b : α) :
    c19Scalar ops .add (.elem a) (.elem b) = .ok (.elem (ops.add a b)) := by rfl
@[simp] theorem c19Scalar_mul_elem (ops : C19Ops α) (a b : α) :
    c19Scalar ops .mul (.elem a) (.elem b) = .ok (.elem (ops.mul a b)) := by rfl

@[simp] theorem c19Cmp_lt (a b : Int) :
    c19Cmp .lt (.int a : C19V α) (.int b) = .ok (.bool (decide (a < b))) := by rfl
@[simp] theorem c19Cmp_gt (a b : Int) :
    c19Cmp .gt (.int a : C19V α) (.int b) = .ok (.bool (decide (a > b))) := by rfl
@[simp] theorem c19Cmp_le (a b : Int) :
    c19Cmp .le (.int a : C19V α) (.int b) = .ok (.bool (decide (a ≤ b))) := by rfl
@[simp] theorem c19Cmp_ge (a b : Int) :
    c19Cmp .ge (.int a : C19V α) (.int b) = .ok (.bool (decide (a ≥ b))) := by rfl
@[simp] theorem c19Cmp_eq_int (a b : Int) :
    c19Cmp .eq (.int a : C19V α) (.int b) = .ok (.bool (a == b)) := by rfl
@[simp] theorem c19Cmp_ne_int (a b : Int) :
    c19Cmp .ne (.int a : C19V α) (.int b) = .ok (.bool (!(a == b))) := by rfl
@[simp] theorem c19Cmp_eq_none_int (b : Int) :
    c19Cmp .eq (.none : C19V α) (.int b) = .ok (.bool false) := by rfl
@[simp] theorem c19Cmp_eq_none_none :
    c19Cmp .eq (.none : C19V α) .none = .ok (.bool true) := by rfl
@[simp] theorem c19Cmp_is_none_none : c19Cmp .is (.none : C19V α) .none = .ok (.bool true) := by rfl
@[simp] theorem c19Cmp_is_int_none (a : Int) :
    c19Cmp .is (.int a : C19V α) .none = .ok (.bool false) := by rfl
@[simp] theorem c19Cmp_is_tup_none (a : List (C19V α)) :
    c19Cmp .is (.tup a : C19V α) .none = .ok (.bool false) := by rfl
@[simp] theorem c19Cmp_is_obj_none (c : String) (ks : List String) (vs : List (C19V α)) :
    c19Cmp .is (.obj c ks vs : C19V α) .none = .ok (.bool false) := by rfl
@[simp] theorem c19Cmp_is_sym (a b : String) :
    c19Cmp .is (.sym a : C19V α) (.sym b) = .ok (.bool (a == b)) := by rfl
@[simp] theorem c19Cmp_eq_sym (a b : String) :
    c19Cmp .eq (.sym a : C19V α) (.sym b) = .ok (.bool (a == b)) := by rfl
@[simp] theorem c19Cmp_ne_sym (a b : String) :
    c19Cmp .ne (.sym a : C19V α) (.sym b) = .ok (.bool (!(a == b))) := by rfl

@[simp] theorem c19Neg_int (cx : C19Cx α) (i : Int) : c19Neg cx (.int i) = .ok (.int (-i)) := by rfl
theorem c19Neg_obj (cx : C19Cx α) (c : String) (ks : List String) (vs : List (C19V α)) :
    c19Neg cx (.obj c ks vs) = c19Method cx (.obj c ks vs) "__neg__" [] := by rfl

/-! ### indexing -/

@[simp] theorem c19Index_zero (v : C19V α) (vs : List (C19V α)) : c19Index (v :: vs) 0 = .ok v := by
  simp [c19Index, c19NormIndex]
@[simp] theorem c19Index_one (a b : C19V α) (vs : List (C19V α)) :
    c19Index (a :: b :: vs) 1 = .ok b := by
  simp [c19Index, c19NormIndex]
theorem c19Index_last (xs : List (C19V α)) (y : C19V α) : c19Index (xs ++ [y]) (-1) = .ok y := by
  simp [c19Index, c19NormIndex]
theorem c19Index_nil (i : Int) : c19Index ([] : List (C19V α)) i = .raise "IndexError" := by
  unfold c19Index c19NormIndex
  split <;> simp_all
theorem c19Index_nat (vs : List (C19V α)) (k : Nat) (h : k < vs.length) :
    c19Index vs (k : Int) = .ok vs[k] := by
  have : c19NormIndex vs.length (k : Int) = some k := by
    simp [c19NormIndex, h]
  simp [c19Index, this, h]

/-! ### calls -/

@[simp] theorem c19ItemsOf_tup (vs : List (C19V α)) : c19ItemsOf (.tup vs) = .ok vs := by rfl
@[simp] theorem c19ItemsOf_vec (vs : List (C19V α)) : c19ItemsOf (.vec vs) = .ok vs := by rfl

theorem c19Call_builtin (cx : C19Cx α) (fn : String) (vs : List (C19V α)) (r : C19R (C19V α))
    (h : c19Builtin cx.ops fn vs = some r) : c19Call cx fn vs = r := by
  simp [c19Call, h]

theorem c19Call_table (cx : C19Cx α) (fn : String) (vs : List (C19V α))
    (h : c19Builtin cx.ops fn vs = none) : c19Call cx fn vs = cx.calls fn vs := by
  simp [c19Call, h]

@[simp] theorem c19Call_len (cx : C19Cx α) (vs : List (C19V α)) :
    c19Call cx "len" [.tup vs] = .ok (.int vs.length) := by rfl
@[simp] theorem c19Call_len_vec (cx : C19Cx α) (vs : List (C19V α)) :
    c19Call cx "len" [.vec vs] = .ok (.int vs.length) := by rfl
@[simp] theorem c19Call_abs (cx : C19Cx α) (i : Int) :
    c19Call cx "abs" [.int i] = .ok (.int (i.natAbs : Int)) := by rfl
@[simp] theorem c19Call_int (cx : C19Cx α) (i : Int) :
    c19Call cx "int" [.int i] = .ok (.int i) := by rfl
@[simp] theorem c19Call_tuple (cx : C19Cx α) (vs : List (C19V α)) :
    c19Call cx "tuple" [.tup vs] = .ok (.tup vs) := by rfl
@[simp] theorem c19Call_divmod (cx : C19Cx α) (a b : Int) :
    c19Call cx "divmod" [.int a, .int b] =
      if b = 0 then .raise "ZeroDivisionError"
      else .ok (.tup [.int (Int.fdiv a b), .int (Int.fmod a b)]) := by rfl
theorem c19Call_divmod_ne (cx : C19Cx α) (a b : Int) (h : b ≠ 0) :
    c19Call cx "divmod" [.int a, .int b] = .ok (.tup [.int (Int.fdiv a b), .int (Int.fmod a b)]) := by
  rw [c19Call_divmod, if_neg h]
theorem c19Call_divmod_zero (cx : C19Cx α) (a : Int) :
    c19Call cx "divmod" [.int a, .int 0] = .raise "ZeroDivisionError" := by rfl
theorem c19Scalar_floordiv_ne (ops : C19Ops α) (a b : Int) (h : b ≠ 0) :
    c19Scalar ops .floordiv (.int a) (.int b) = .ok (.int (Int.fdiv a b)) := by
  rw [c19Scalar_floordiv, if_neg h]
theorem c19Scalar_mod_ne (ops : C19Ops α) (a b : Int) (h : b ≠ 0) :
    c19Scalar ops .mod (.int a) (.int b) = .ok (.int (Int.fmod a b)) := by
  rw [c19Scalar_mod, if_neg h]
theorem c19Scalar_truediv_ne (ops : C19Ops α) (a b : Int) (h : b ≠ 0) :
    c19Scalar ops .truediv (.int a) (.int b) = .ok (.frac a b) := by
  rw [c19Scalar_truediv, if_neg h]

@[simp] theorem c19Call_isqrt (cx : C19Cx α) (n : Int) :
    c19Call cx "isqrt" [.int n] =
      if n < 0 then .raise "ValueError" else .ok (.int (Nat.sqrt n.toNat : Nat)) := by rfl
@[simp] theorem c19Call_range (cx : C19Cx α) (b : Int) :
    c19Call cx "range" [.int b] = .ok (.tup (c19Range 0 b)) := by rfl
@[simp] theorem c19Call_enumerate (cx : C19Cx α) (vs : List (C19V α)) :
    c19Call cx "enumerate" [.tup vs] = .ok (.tup (c19Enumerate vs)) := by rfl

/-! ### look-ups by name, method resolution

Look-ups in a concrete table do not evaluate `String.decEq` (the kernel, and `rfl`, encode both
strings to UTF-8 before comparing them): the names of a table are shown pairwise distinct once,
after which a function is found at its position (`c19FindFn_getElem`: no string is compared); a
name that is not in the table is compared with every name of the table by `simp`
(`String.reduceEq` points at the first differing character).  `c19Method`, `c19New`, `c19Attr`,
`c19TruthyM` are then read off the resolved function. -/

/-- a function stands under its own name when the names of the table are pairwise distinct -/
theorem c19FindFn_getElem (tbl : C19Table) (hnd : (tbl.fns.map (·.name)).Nodup) (i : Nat)
    (f : C19Fn) (h : tbl.fns[i]? = some f) : c19FindFn tbl f.name = some f := by
  unfold c19FindFn
  generalize tbl.fns = l at hnd h
  induction l generalizing i with
  | nil => simp at h
  | cons g l ih =>
    rw [List.map_cons, List.nodup_cons] at hnd
    cases i with
    | zero =>
      simp only [List.getElem?_cons_zero, Option.some.injEq] at h
      subst h
      simp
    | succ i =>
      rw [List.getElem?_cons_succ] at h
      have hne : g.name ≠ f.name := fun he =>
        hnd.1 (he ▸ List.mem_map.2 ⟨f, List.mem_of_getElem? h, rfl⟩)
      rw [List.find?_cons]
      simp only [hne, decide_false]
      exact ih i hnd.2 h

theorem c19FindFn_eq_none (tbl : C19Table) (name : String) (h : name ∉ tbl.fns.map (·.name)) :
    c19FindFn tbl name = none := by
  simp only [c19FindFn, List.find?_eq_none, decide_eq_true_eq]
  intro f hf he
  exact h (he ▸ List.mem_map.2 ⟨f, hf, rfl⟩)

theorem c19ResolveIn_nil (tbl : C19Table) (attr : String) : c19ResolveIn tbl attr [] = none := by
  rw [c19ResolveIn]

/-- an attribute the first class of the list defines -/
theorem c19ResolveIn_head {tbl : C19Table} {attr c q : String} {cs : List String} {f : C19Fn}
    (hq : c ++ "." ++ attr = q) (h : c19FindFn tbl q = some f) :
    c19ResolveIn tbl attr (c :: cs) = some f := by
  rw [c19ResolveIn, hq, h]

theorem c19ResolveIn_cons (tbl : C19Table) (attr c : String) (cs : List String) :
    c19ResolveIn tbl attr (c :: cs)
      = (c19FindFn tbl (c ++ "." ++ attr)).or (c19ResolveIn tbl attr cs) := by
  rw [c19ResolveIn]
  cases c19FindFn tbl (c ++ "." ++ attr) <;> rfl

section
variable (cx : C19Cx α) (c : String) (ks : List String) (vs : List (C19V α))

/-- a method the classes of the receiver define: static methods do not get the receiver -/
theorem c19Method_resolved (name : String) (args : List (C19V α)) (f : C19Fn)
    (hn : name ≠ "__class__")
    (hr : c19ResolveIn cx.tbl name (c19ClassesOf cx.tbl (.obj c ks vs : C19V α)) = some f) :
    c19Method cx (.obj c ks vs) name args
      = cx.calls f.name (if f.kind = .static then args else .obj c ks vs :: args) := by
  simp only [c19Method, hn, if_false, hr]
  split <;> rfl

/-- a method no class of the receiver defines goes to the callee oracle under the receiver's own
class -/
theorem c19Method_unresolved (name : String) (args : List (C19V α)) (hn : name ≠ "__class__")
    (hr : c19ResolveIn cx.tbl name (c19ClassesOf cx.tbl (.obj c ks vs : C19V α)) = none) :
    c19Method cx (.obj c ks vs) name args = cx.calls (c ++ "." ++ name) (.obj c ks vs :: args) := by
  simp only [c19Method, hn, if_false, hr]

theorem c19Method_class (args : List (C19V α)) :
    c19Method cx (.obj c ks vs) "__class__" args = c19New cx c args := by
  simp only [c19Method, if_true]

theorem c19New_resolved (args ws : List (C19V α)) (f : C19Fn)
    (hr : c19ResolveIn cx.tbl "__init__" (c19ClassesOf cx.tbl (.obj c [] [] : C19V α)) = some f)
    (hd : c19FillDefaults (f.params.length - 1) f.defaults args = some ws) :
    c19New cx c args = cx.calls f.name (.obj c [] [] :: ws) := by
  simp only [c19New, hr, hd]

theorem c19New_plain
    (hr : c19ResolveIn cx.tbl "__init__" (c19ClassesOf cx.tbl (.obj c [] [] : C19V α)) = none) :
    c19New cx c [] = .ok (.obj c [] []) := by
  simp only [c19New, hr]

theorem c19Attr_prop (name : String) (f : C19Fn) (h : c19AttrGet name ks vs = none)
    (hr : c19ResolveIn cx.tbl name (c19ClassesOf cx.tbl (.obj c ks vs : C19V α)) = some f)
    (hk : f.kind = .prop) :
    c19Attr cx (.obj c ks vs) name = cx.calls f.name [.obj c ks vs] := by
  simp only [c19Attr, h, hr, hk, if_true]

theorem c19TruthyM_plain
    (hr : c19ResolveIn cx.tbl "__bool__" (c19ClassesOf cx.tbl (.obj c ks vs : C19V α)) = none) :
    c19TruthyM cx (.obj c ks vs) = .ok true := by
  simp only [c19TruthyM, hr]

theorem c19IsInst_obj (classes mro : List String)
    (hm : c19ClassesOf cx.tbl (.obj c ks vs : C19V α) = mro) :
    c19IsInst cx (.obj c ks vs) classes = mro.any fun k => classes.contains k := by
  rw [c19IsInst, hm]
end

/-! ### loops -/

theorem c19While_succ_true (test : C19Store α → C19R Bool) (body : C19Store α → C19O α)
    (k : Nat) (σ σ' : C19Store α) (ht : test σ = .ok true) (hb : body σ = .next σ') :
    c19While test body (k + 1) σ = c19While test body k σ' := by
  simp [c19While, ht, hb]

theorem c19While_succ_false (test : C19Store α → C19R Bool) (body : C19Store α → C19O α)
    (k : Nat) (σ : C19Store α) (ht : test σ = .ok false) :
    c19While test body (k + 1) σ = .next σ := by
  simp [c19While, ht]

theorem c19While_succ_ret (test : C19Store α → C19R Bool) (body : C19Store α → C19O α)
    (k : Nat) (σ : C19Store α) (v : C19V α) (ht : test σ = .ok true) (hb : body σ = .ret v) :
    c19While test body (k + 1) σ = .ret v := by
  simp [c19While, ht, hb]

theorem c19While_succ_raise (test : C19Store α → C19R Bool) (body : C19Store α → C19O α)
    (k : Nat) (σ : C19Store α) (e : String) (ht : test σ = .ok true) (hb : body σ = .raise e) :
    c19While test body (k + 1) σ = .raise e := by
  simp [c19While, ht, hb]

/-- a `while` loop that keeps an invariant `I s` on an abstract state `s` the test is a function of,
each turn lowering the measure `μ s`: it ends normally in a state where the test fails -/
theorem c19While_inv {S : Type} (test : C19Store α → C19R Bool) (body : C19Store α → C19O α)
    (I : S → C19Store α → Prop) (cont : S → Bool) (μ : S → Nat)
    (htest : ∀ s σ, I s σ → test σ = .ok (cont s))
    (hbody : ∀ s σ, I s σ → cont s = true → ∃ s' σ', body σ = .next σ' ∧ I s' σ' ∧ μ s' < μ s)
    (s : S) (σ : C19Store α) (k : Nat) (hI : I s σ) (hk : μ s + 1 ≤ k) :
    ∃ s' σ', c19While test body k σ = .next σ' ∧ I s' σ' ∧ cont s' = false := by
  induction hm : μ s using Nat.strongRecOn generalizing s σ k with
  | _ m ih =>
    subst hm
    obtain ⟨k, rfl⟩ : ∃ k', k = k' + 1 := ⟨k - 1, by omega⟩
    cases hc : cont s with
    | false => exact ⟨s, σ, c19While_succ_false _ _ _ _ (by rw [htest s σ hI, hc]), hI, hc⟩
    | true =>
      obtain ⟨s', σ', hb, hI', hlt⟩ := hbody s σ hI hc
      obtain ⟨s'', σ'', hw, hI'', hc''⟩ := ih (μ s') hlt s' σ' k hI' (by omega) rfl
      exact ⟨s'', σ'', by rw [c19While_succ_true _ _ _ _ _ (by rw [htest s σ hI, hc]) hb, hw],
        hI'', hc''⟩

/-! ### statement lists -/

theorem c19ExecL_append (cx : C19Cx α) (pre rest : List C19S) (σ : C19Store α) :
    c19ExecL cx (pre ++ rest) σ = (c19ExecL cx pre σ).andThen (c19ExecL cx rest) := by
  induction pre generalizing σ with
  | nil => simp [c19ExecL]
  | cons s ss ih =>
    simp only [List.cons_append, c19ExecL]
    cases c19Exec cx s σ <;> simp [ih]

theorem c19ExecL_while (cx : C19Cx α) (c : C19E) (b rest : List C19S) (σ : C19Store α) :
    c19ExecL cx (.while c b :: rest) σ =
      (c19While (c19Test cx c) (c19ExecL cx b) cx.fuel σ).andThen (c19ExecL cx rest) := by
  simp only [c19ExecL, c19Exec]

theorem c19ExecL_for (cx : C19Cx α) (p : C19P) (it : C19E) (b rest : List C19S) (σ : C19Store α)
    (items : List (C19V α)) (h : (c19EvalE cx it σ).bind c19ItemsOf = .ok items) :
    c19ExecL cx (.for p it b :: rest) σ =
      (c19For (c19Bind p) (c19ExecL cx b) items σ).andThen (c19ExecL cx rest) := by
  simp only [c19ExecL, c19Exec]
  cases h1 : c19EvalE cx it σ with
  | ok v => rw [h1] at h; simp only [C19R.bind_ok] at h; simp [h]
  | raise k => rw [h1] at h; simp at h
  | fuel => rw [h1] at h; simp at h
  | stuck w => rw [h1] at h; simp at h

/-- rewriting with everything the interpreter does on constructor-headed data -/
syntax "c19_run" "[" Lean.Parser.Tactic.simpLemma,* "]" (Lean.Parser.Tactic.location)? : tactic
macro_rules
  | `(tactic| c19_run [$ts,*] $[$loc]?) =>
    `(tactic| simp only [c19CxAt_ops, c19CxAt_tbl, c19CxAt_calls, c19CxAt_fuel, 
        c19EvalE_var, c19EvalE_int, c19EvalE_none, c19EvalE_bool, c19EvalE_bin, c19EvalE_neg,
        c19EvalE_not, c19EvalE_cmp, c19EvalE_and, c19EvalE_or, c19EvalE_tuple, c19EvalE_index,
        c19EvalE_slice, c19EvalE_attr, c19EvalE_isinst, c19EvalE_isinstOf, c19EvalE_call,
        c19EvalE_method, c19EvalE_new, c19EvalE_comp, c19EvalE_twiddle, c19EvalE_commonTraits,
        c19EvalEs_nil, c19EvalEs_cons, c19Exec_assign, c19Exec_aug, c19Exec_append, c19Exec_pop,
        c19Exec_sortByFirst, c19Exec_ite, c19Exec_while, c19Exec_for, c19Exec_ret, c19Exec_raise,
        c19Exec_tryExcept, c19Exec_assert, c19Exec_pass, c19ExecL_nil, c19ExecL_cons,
        c19Test, c19Get_cons, c19Get_nil, c19Set_cons, c19Set_nil, c19Bind_name,
        c19Bind_tuple, c19BindL_nil, c19BindL_cons, Option.bind_some, Option.bind_none, c19AssignT,
        c19Index_zero, c19Index_one, c19Get_set, c19AttrGet_cons, c19AttrGet_nil, c19AttrSet_cons,
        c19AttrSet_nil,
        C19R.bind_ok, C19R.bind_raise, C19R.bind_fuel, C19R.bind_stuck, C19O.ofR_ok, C19O.ofR_raise,
        C19O.ofR_fuel, C19O.ofR_stuck, C19O.andThen_next, C19O.andThen_ret, C19O.andThen_raise,
        C19O.andThen_fuel, C19O.andThen_stuck, c19Truthy_none, c19Truthy_bool, c19Truthy_int, c19Truthy_tup,
        c19TruthyM_none, c19TruthyM_bool, c19TruthyM_int, c19TruthyM_tup,
        c19BinOp_int, c19BinOp_elem, c19BinOp_frac, c19BinOp_vec, c19BinOp_obj, c19Arith_int_int,
        c19Arith_elem_elem, c19Scalar_add, c19Scalar_sub, c19Scalar_mul, c19Scalar_floordiv,
        c19Scalar_mod, c19Scalar_truediv, c19Scalar_pow, c19Scalar_add_elem,
        c19Scalar_mul_elem, c19Cmp_lt, c19Cmp_gt, c19Cmp_le, c19Cmp_ge, c19Cmp_eq_int, c19Cmp_ne_int,
        c19Cmp_eq_none_int, c19Cmp_eq_none_none, c19Cmp_is_none_none, c19Cmp_is_int_none,
        c19Cmp_is_tup_none, c19Cmp_is_obj_none, c19Cmp_eq_sym, c19Cmp_ne_sym, c19Neg_int,
        c19ItemsOf_tup, c19ItemsOf_vec, c19Call_len, c19Call_len_vec, c19Call_abs, c19Call_int,
        c19Call_tuple, c19Call_range, c19Call_enumerate,
        String.reduceEq, if_true, if_false, ite_true, ite_false, reduceIte, reduceCtorEq,
        Bool.not_true, Bool.not_false, decide_true, decide_false, Bool.true_eq_false,
        Bool.false_eq_true, List.length_cons, List.length_nil, Int.reduceBNe, Int.reduceBEq, Int.reduceLT,
        Int.reduceLE, Int.reduceGT, Int.reduceGE, Int.reduceAdd, Int.reduceSub, Int.reduceMul,
        Int.reduceNeg, Int.reduceToNat, Nat.reduceAdd, Nat.reduceSub, Nat.reduceLT, Nat.reduceGT, Nat.reduceLeDiff, Nat.reduceEqDiff, Nat.reduceMul,
        Int.reduceEq, Int.reduceNe, List.cons_append, List.nil_append, List.getElem?_cons_zero,
        List.getElem?_cons_succ, $ts,*] $[$loc]?)

end PV.Algo
