import PV.Proofs.ImpTable
import PV.Proofs.ImpGraph
/-
  C20 (T-gen): `get_dot_dependency_graph` as the regenerated table has it IS `dotText` (node lines,
  the dependency dict, the fixed-point closure, the transitive reduction, the edge lines).
-/
set_option linter.unusedSimpArgs false

namespace PV.Imp
open PV PV.Generated

variable {σ : Type}

/-! ### the dependency dict as an interpreter value -/

def encG (g : Graph) : List (String × C20Val σ) := g.map fun kv => (kv.1, .strSet kv.2)

theorem dictGet_encG (k : String) (g : Graph) :
    c20DictGet k (encG (σ := σ) g) = (g.lookup k).map .strSet :=
  dictGet_map .strSet k g

theorem getD_encG (k : String) (g : Graph) :
    (c20DictGet k (encG (σ := σ) g)).getD (.strSet []) = .strSet (g.get k) := by
  rw [dictGet_encG, Graph.get]
  cases g.lookup k <;> rfl

theorem keys_encG (g : Graph) :
    (encG (σ := σ) g).map (fun kv => C20Val.str (σ := σ) kv.1) = g.keys.map .str := by
  simp [encG, Graph.keys, List.map_map, Function.comp_def]

theorem setdefaultAdd_encG (k v : String) : ∀ g : Graph,
    c20DictSetdefaultAdd k v (encG (σ := σ) g) = some (encG (g.addEdge k v))
  | [] => rfl
  | (a, b) :: g => by
    have ih := setdefaultAdd_encG k v g
    by_cases h : a = k
    · subst h; simp [encG, c20DictSetdefaultAdd, Graph.addEdge]
    · simp only [encG, List.map_cons, c20DictSetdefaultAdd, Graph.addEdge] at ih ⊢
      simp [h, ih]

theorem update_encG (k : String) (f : List String → Option (List String))
    (f' : List String → List String) : ∀ g : Graph, k ∈ g.keys → f (g.get k) = some (f' (g.get k)) →
    c20DictUpdate k f (encG (σ := σ) g) = .ok (encG (g.modify k f'))
  | [], hk, _ => by simp [Graph.keys] at hk
  | (a, b) :: g, hk, hf => by
    by_cases h : a = k
    · subst h
      have : Graph.get ((a, b) :: g) a = b := by simp [Graph.get, List.lookup]
      rw [this] at hf
      simp [encG, c20DictUpdate, Graph.modify, hf]
    · have hk' : k ∈ Graph.keys g := by
        simp only [Graph.keys, List.map_cons, List.mem_cons] at hk
        rcases hk with hk | hk
        · exact absurd hk.symm h
        · exact hk
      have hg : Graph.get ((a, b) :: g) k = Graph.get g k := by
        have h' : (k == a) = false := by simpa using fun h' => h h'.symm
        simp [Graph.get, List.lookup, h']
      rw [hg] at hf
      have ih := update_encG k f f' g hk' hf
      simp only [encG, List.map_cons, c20DictUpdate, Graph.modify] at ih ⊢
      simp [h, ih]

/-! ### the frame, and the loops over an arbitrary body

What a loop leaves in its own variables, and in those of the loops inside it, is of no
consequence (each loop binds them afresh): the lemmas say that there are such values. -/

/-- the frame of `get_dot_dependency_graph`: eight names that are bound before the loops and never
rebound by them, `lines`, `dep_graph`, the (always empty) `annotation_dep_graph`,
`changed_something`, and the five loop variables -/
abbrev dotEnv (v0 v1 v2 v3 v4 v5 v6 v7 : C20Val σ) (lines : List (C20Val σ))
    (g : List (String × C20Val σ)) (ch js jd j1 j2 j3 : C20Val σ) : C20Env σ :=
  [("statements", v0), ("use_stmt_ids", v1), ("preamble_hook", v2),
   ("additional_lines_hook", v3), ("statement_stringifier", v4), ("use_insn_ids", v5),
   ("warn", v6), ("get_node_attrs", v7), ("lines", .list lines), ("dep_graph", .dict g),
   ("annotation_dep_graph", .dict []), ("stmt", js), ("dep", jd), ("changed_something", ch),
   ("stmt_1", j1), ("stmt_2", j2), ("stmt_3", j3)]

section loops
variable (v0 v1 v2 v3 v4 v5 v6 v7 : C20Val σ)

local notation "E" => dotEnv v0 v1 v2 v3 v4 v5 v6 v7

/-- binding a loop variable in the frame -/
theorem dotEnv_set (L : List (C20Val σ)) (g) (ch js jd j1 j2 j3 v : C20Val σ) :
    c20Set "stmt" v (E L g ch js jd j1 j2 j3) = E L g ch v jd j1 j2 j3 ∧
    c20Set "dep" v (E L g ch js jd j1 j2 j3) = E L g ch js v j1 j2 j3 ∧
    c20Set "stmt_1" v (E L g ch js jd j1 j2 j3) = E L g ch js jd v j2 j3 ∧
    c20Set "stmt_2" v (E L g ch js jd j1 j2 j3) = E L g ch js jd j1 v j3 ∧
    c20Set "stmt_3" v (E L g ch js jd j1 j2 j3) = E L g ch js jd j1 j2 v := by
  simp only [dotEnv, c20Set, String.reduceEq, ↓reduceIte, and_self]

/-! #### building the dependency dict -/

theorem dot_dep_loop (i : String) (f : C20Env σ → C20Out σ) (L : List (C20Val σ))
    (ch js j1 j2 j3 : C20Val σ)
    (hf : ∀ (d : String) (g : Graph),
      f (E L (encG g) ch js (.str d) j1 j2 j3) =
        .next (E L (encG (g.addEdge i d)) ch js (.str d) j1 j2 j3)) :
    ∀ (ds : List String) (g : Graph) (jd : C20Val σ),
      c20ForIn f "dep" (ds.map .str) (E L (encG g) ch js jd j1 j2 j3) =
        .next (E L (encG (ds.foldl (fun g d => g.addEdge i d) g)) ch js
          (c20LastD jd (ds.map .str)) j1 j2 j3)
  | [], g, jd => rfl
  | d :: ds, g, jd => by
    simp only [List.map_cons, c20ForIn, dotEnv_set, hf, dot_dep_loop i f L ch js j1 j2 j3 hf ds,
      c20LastD, List.foldl_cons]

theorem dot_stmt_loop_ex (line : Stmt → String) (f : C20Env σ → C20Out σ)
    (ch j1 j2 j3 : C20Val σ)
    (hf : ∀ (s : Stmt) (Ls : List String) (g : Graph) (jd : C20Val σ),
      ∃ jd', f (E (Ls.map .str) (encG g) ch (.stmt s) jd j1 j2 j3) =
        .next (E ((Ls ++ [line s]).map .str)
          (encG (s.dependsOn.foldl (fun g d => g.addEdge s.id d) g)) ch (.stmt s) jd' j1 j2 j3)) :
    ∀ (ss : List Stmt) (Ls : List String) (g : Graph) (js jd : C20Val σ),
      ∃ js' jd', c20ForIn f "stmt" (ss.map .stmt) (E (Ls.map .str) (encG g) ch js jd j1 j2 j3) =
        .next (E ((Ls ++ ss.map line).map .str)
          (encG (ss.foldl (fun g s => s.dependsOn.foldl (fun g d => g.addEdge s.id d) g) g))
          ch js' jd' j1 j2 j3)
  | [], Ls, g, js, jd => ⟨js, jd, by simp [c20ForIn]⟩
  | s :: ss, Ls, g, js, jd => by
    obtain ⟨jd1, h1⟩ := hf s Ls g jd
    obtain ⟨js', jd', h2⟩ := dot_stmt_loop_ex line f ch j1 j2 j3 hf ss (Ls ++ [line s])
      (s.dependsOn.foldl (fun g d => g.addEdge s.id d) g) (.stmt s) jd1
    refine ⟨js', jd', ?_⟩
    simp only [List.map_cons, c20ForIn, dotEnv_set, h1, h2, List.foldl_cons, List.append_assoc,
      List.cons_append, List.nil_append]

/-! #### the fixed-point closure -/

theorem dot_close_inner (s1 s2 : String) (f : C20Env σ → C20Out σ) (L : List (C20Val σ))
    (js jd : C20Val σ)
    (hf : ∀ (s3 : String) (g : Graph) (chb : Bool), s1 ∈ g.keys →
      f (E L (encG g) (.bool chb) js jd (.str s1) (.str s2) (.str s3)) =
        .next (E L (encG (if s3 ∈ g.get s1 then g else g.modify s1 fun vs => insertS vs s3))
          (.bool (chb || !decide (s3 ∈ g.get s1))) js jd (.str s1) (.str s2) (.str s3))) :
    ∀ (xs : List String) (g : Graph) (chb : Bool) (j3 : C20Val σ), s1 ∈ g.keys →
      c20ForIn f "stmt_3" (xs.map .str) (E L (encG g) (.bool chb) js jd (.str s1) (.str s2) j3) =
        .next (E L (encG (closeInner g s1 xs).1) (.bool (chb || (closeInner g s1 xs).2)) js jd
          (.str s1) (.str s2) (c20LastD j3 (xs.map .str)))
  | [], g, chb, j3, _ => by simp [c20ForIn, closeInner, c20LastD]
  | s3 :: xs, g, chb, j3, hk => by
    have h1 := hf s3 g chb hk
    by_cases h3 : s3 ∈ g.get s1
    · have ih := dot_close_inner s1 s2 f L js jd hf xs g chb (.str s3) hk
      simp only [h3, if_true, decide_true, Bool.not_true, Bool.or_false] at h1
      simp only [List.map_cons, c20ForIn, dotEnv_set, h1, ih, closeInner, h3, if_true, c20LastD]
    · have hk' : s1 ∈ (g.modify s1 fun vs => insertS vs s3).keys := by
        rw [Graph.keys_modify]; exact hk
      have ih := dot_close_inner s1 s2 f L js jd hf xs (g.modify s1 fun vs => insertS vs s3) true
        (.str s3) hk'
      simp only [h3, if_false, decide_false, Bool.not_false, Bool.or_true] at h1
      simp only [List.map_cons, c20ForIn, dotEnv_set, h1, ih, closeInner, h3, if_false, c20LastD,
        Bool.true_or, Bool.or_true]

theorem dot_close_mid_ex (s1 : String) (f : C20Env σ → C20Out σ) (L : List (C20Val σ))
    (js jd : C20Val σ)
    (hf : ∀ (s2 : String) (g : Graph) (chb : Bool) (j3 : C20Val σ), s1 ∈ g.keys →
      ∃ j3', f (E L (encG g) (.bool chb) js jd (.str s1) (.str s2) j3) =
        .next (E L (encG (closeInner g s1 (g.get s2)).1)
          (.bool (chb || (closeInner g s1 (g.get s2)).2)) js jd (.str s1) (.str s2) j3')) :
    ∀ (xs : List String) (g : Graph) (chb : Bool) (j2 j3 : C20Val σ), s1 ∈ g.keys →
      ∃ j2' j3', c20ForIn f "stmt_2" (xs.map .str)
          (E L (encG g) (.bool chb) js jd (.str s1) j2 j3) =
        .next (E L (encG (closeMid g s1 xs).1) (.bool (chb || (closeMid g s1 xs).2)) js jd
          (.str s1) j2' j3')
  | [], g, chb, j2, j3, _ => ⟨j2, j3, by simp [c20ForIn, closeMid]⟩
  | s2 :: xs, g, chb, j2, j3, hk => by
    obtain ⟨j3a, h1⟩ := hf s2 g chb j3 hk
    have hk' : s1 ∈ (closeInner g s1 (g.get s2)).1.keys := by
      rw [(closeInner_spec g s1 (g.get s2) g hk).1]; exact hk
    obtain ⟨j2', j3', h2⟩ := dot_close_mid_ex s1 f L js jd hf xs (closeInner g s1 (g.get s2)).1
      (chb || (closeInner g s1 (g.get s2)).2) (.str s2) j3a hk'
    refine ⟨j2', j3', ?_⟩
    simp only [List.map_cons, c20ForIn, dotEnv_set, h1, h2, closeMid, Bool.or_assoc]

theorem dot_close_outer_ex (f : C20Env σ → C20Out σ) (L : List (C20Val σ)) (js jd : C20Val σ)
    (hf : ∀ (s1 : String) (g : Graph) (chb : Bool) (j2 j3 : C20Val σ), s1 ∈ g.keys →
      ∃ j2' j3', f (E L (encG g) (.bool chb) js jd (.str s1) j2 j3) =
        .next (E L (encG (closeMid g s1 (g.get s1)).1)
          (.bool (chb || (closeMid g s1 (g.get s1)).2)) js jd (.str s1) j2' j3')) :
    ∀ (ks : List String) (g : Graph) (chb : Bool) (j1 j2 j3 : C20Val σ),
      (∀ k ∈ ks, k ∈ g.keys) →
      ∃ j1' j2' j3', c20ForIn f "stmt_1" (ks.map .str)
          (E L (encG g) (.bool chb) js jd j1 j2 j3) =
        .next (E L (encG (closeOuter g ks).1) (.bool (chb || (closeOuter g ks).2)) js jd
          j1' j2' j3')
  | [], g, chb, j1, j2, j3, _ => ⟨j1, j2, j3, by simp [c20ForIn, closeOuter]⟩
  | s1 :: ks, g, chb, j1, j2, j3, hk => by
    have hk1 : s1 ∈ g.keys := hk s1 (List.mem_cons_self ..)
    obtain ⟨j2a, j3a, h1⟩ := hf s1 g chb j2 j3 hk1
    have hkeys := (closeMid_spec g s1 (g.get s1) g hk1).1
    obtain ⟨j1', j2', j3', h2⟩ := dot_close_outer_ex f L js jd hf ks (closeMid g s1 (g.get s1)).1
      (chb || (closeMid g s1 (g.get s1)).2) (.str s1) j2a j3a
      (fun k hkk => by rw [hkeys]; exact hk k (List.mem_cons_of_mem _ hkk))
    refine ⟨j1', j2', j3', ?_⟩
    simp only [List.map_cons, c20ForIn, dotEnv_set, h1, h2, closeOuter, Bool.or_assoc]

theorem dot_while_ex (f : C20Env σ → C20Out σ) (L : List (C20Val σ)) (js jd : C20Val σ)
    (hf : ∀ (g : Graph) (chv j1 j2 j3 : C20Val σ),
      ∃ j1' j2' j3', f (E L (encG g) chv js jd j1 j2 j3) =
        if (closeOuter g g.keys).2 then
          .next (E L (encG (closeOuter g g.keys).1) (.bool true) js jd j1' j2' j3')
        else .brk (E L (encG (closeOuter g g.keys).1) (.bool false) js jd j1' j2' j3')) :
    ∀ (fuel : Nat) (g : Graph) (chv j1 j2 j3 : C20Val σ),
      ∃ chv' j1' j2' j3', c20While f fuel (E L (encG g) chv js jd j1 j2 j3) =
        match closure fuel g with
        | none => .fuel
        | some g' => .next (E L (encG g') chv' js jd j1' j2' j3')
  | 0, g, chv, j1, j2, j3 => ⟨chv, j1, j2, j3, by simp [c20While, closure]⟩
  | fuel + 1, g, chv, j1, j2, j3 => by
    obtain ⟨j1a, j2a, j3a, h1⟩ := hf g chv j1 j2 j3
    by_cases hc : (closeOuter g g.keys).2 = true
    · obtain ⟨chv', j1', j2', j3', h2⟩ := dot_while_ex f L js jd hf fuel (closeOuter g g.keys).1
        (.bool true) j1a j2a j3a
      refine ⟨chv', j1', j2', j3', ?_⟩
      simp only [hc, if_true] at h1
      simp only [c20While, h1, h2, closure, hc, if_true]
    · refine ⟨.bool false, j1a, j2a, j3a, ?_⟩
      simp only [hc, if_false, Bool.false_eq_true] at h1
      simp only [c20While, h1, closure, hc, if_false, Bool.false_eq_true]

/-! #### the transitive reduction -/

theorem dot_reduce_inner (s1 s2 : String) (f : C20Env σ → C20Out σ) (L : List (C20Val σ))
    (ch js jd : C20Val σ)
    (hf : ∀ (s3 : String) (g : Graph), s1 ∈ g.keys →
      f (E L (encG g) ch js jd (.str s1) (.str s2) (.str s3)) =
        .next (E L (encG (if s3 ∈ g.get s1 then g.modify s1 fun vs => vs.filter fun v => v != s3
          else g)) ch js jd (.str s1) (.str s2) (.str s3))) :
    ∀ (xs : List String) (g : Graph) (j3 : C20Val σ), s1 ∈ g.keys →
      c20ForIn f "stmt_3" (xs.map .str) (E L (encG g) ch js jd (.str s1) (.str s2) j3) =
        .next (E L (encG (reduceInner g s1 xs)) ch js jd (.str s1) (.str s2)
          (c20LastD j3 (xs.map .str)))
  | [], g, j3, _ => by simp [c20ForIn, reduceInner, c20LastD]
  | s3 :: xs, g, j3, hk => by
    have h1 := hf s3 g hk
    by_cases h3 : s3 ∈ g.get s1
    · have hk' : s1 ∈ (g.modify s1 fun vs => vs.filter fun v => v != s3).keys := by
        rw [Graph.keys_modify]; exact hk
      have ih := dot_reduce_inner s1 s2 f L ch js jd hf xs
        (g.modify s1 fun vs => vs.filter fun v => v != s3) (.str s3) hk'
      simp only [h3, if_true] at h1
      simp only [List.map_cons, c20ForIn, dotEnv_set, h1, ih, reduceInner, h3, if_true, c20LastD]
    · have ih := dot_reduce_inner s1 s2 f L ch js jd hf xs g (.str s3) hk
      simp only [h3, if_false] at h1
      simp only [List.map_cons, c20ForIn, dotEnv_set, h1, ih, reduceInner, h3, if_false, c20LastD]

theorem dot_reduce_mid_ex (s1 : String) (f : C20Env σ → C20Out σ) (L : List (C20Val σ))
    (ch js jd : C20Val σ)
    (hf : ∀ (s2 : String) (g : Graph) (j3 : C20Val σ), s1 ∈ g.keys →
      ∃ j3', f (E L (encG g) ch js jd (.str s1) (.str s2) j3) =
        .next (E L (encG (reduceInner g s1 (g.get s2))) ch js jd (.str s1) (.str s2) j3')) :
    ∀ (xs : List String) (g : Graph) (j2 j3 : C20Val σ), s1 ∈ g.keys →
      ∃ j2' j3', c20ForIn f "stmt_2" (xs.map .str) (E L (encG g) ch js jd (.str s1) j2 j3) =
        .next (E L (encG (reduceMid g s1 xs)) ch js jd (.str s1) j2' j3')
  | [], g, j2, j3, _ => ⟨j2, j3, by simp [c20ForIn, reduceMid]⟩
  | s2 :: xs, g, j2, j3, hk => by
    obtain ⟨j3a, h1⟩ := hf s2 g j3 hk
    have hk' : s1 ∈ (reduceInner g s1 (g.get s2)).keys := by
      rw [(reduceInner_spec s1 (g.get s2) g).1]; exact hk
    obtain ⟨j2', j3', h2⟩ := dot_reduce_mid_ex s1 f L ch js jd hf xs
      (reduceInner g s1 (g.get s2)) (.str s2) j3a hk'
    refine ⟨j2', j3', ?_⟩
    simp only [List.map_cons, c20ForIn, dotEnv_set, h1, h2, reduceMid]

theorem reduceMid_keys (s1 : String) : ∀ (l2 : List String) (g : Graph),
    (reduceMid g s1 l2).keys = g.keys
  | [], g => rfl
  | s2 :: rest, g => by
    rw [reduceMid, reduceMid_keys s1 rest, (reduceInner_spec s1 (g.get s2) g).1]

theorem dot_reduce_outer_ex (f : C20Env σ → C20Out σ) (L : List (C20Val σ)) (ch js jd : C20Val σ)
    (hf : ∀ (s1 : String) (g : Graph) (j2 j3 : C20Val σ), s1 ∈ g.keys →
      ∃ j2' j3', f (E L (encG g) ch js jd (.str s1) j2 j3) =
        .next (E L (encG (reduceMid g s1 (g.get s1))) ch js jd (.str s1) j2' j3')) :
    ∀ (ks : List String) (g : Graph) (j1 j2 j3 : C20Val σ), (∀ k ∈ ks, k ∈ g.keys) →
      ∃ j1' j2' j3', c20ForIn f "stmt_1" (ks.map .str) (E L (encG g) ch js jd j1 j2 j3) =
        .next (E L (encG (reduceOuter g ks)) ch js jd j1' j2' j3')
  | [], g, j1, j2, j3, _ => ⟨j1, j2, j3, by simp [c20ForIn, reduceOuter]⟩
  | s1 :: ks, g, j1, j2, j3, hk => by
    have hk1 : s1 ∈ g.keys := hk s1 (List.mem_cons_self ..)
    obtain ⟨j2a, j3a, h1⟩ := hf s1 g j2 j3 hk1
    obtain ⟨j1', j2', j3', h2⟩ := dot_reduce_outer_ex f L ch js jd hf ks
      (reduceMid g s1 (g.get s1)) (.str s1) j2a j3a
      (fun k hkk => by rw [reduceMid_keys]; exact hk k (List.mem_cons_of_mem _ hkk))
    refine ⟨j1', j2', j3', ?_⟩
    simp only [List.map_cons, c20ForIn, dotEnv_set, h1, h2, reduceOuter]

/-! #### the edge lines -/

theorem dot_edge_inner (s1 : String) (f : C20Env σ → C20Out σ) (g : List (String × C20Val σ))
    (ch js jd j3 : C20Val σ)
    (hf : ∀ (s2 : String) (Ls : List String),
      f (E (Ls.map .str) g ch js jd (.str s1) (.str s2) j3) =
        .next (E ((Ls ++ [dotEdgeLine (s1, s2)]).map .str) g ch js jd (.str s1) (.str s2) j3)) :
    ∀ (xs : List String) (Ls : List String) (j2 : C20Val σ),
      c20ForIn f "stmt_2" (xs.map .str) (E (Ls.map .str) g ch js jd (.str s1) j2 j3) =
        .next (E ((Ls ++ xs.map fun s2 => dotEdgeLine (s1, s2)).map .str) g ch js jd (.str s1)
          (c20LastD j2 (xs.map .str)) j3)
  | [], Ls, j2 => by simp [c20ForIn, c20LastD]
  | s2 :: xs, Ls, j2 => by
    have h1 := hf s2 Ls
    have ih := dot_edge_inner s1 f g ch js jd j3 hf xs (Ls ++ [dotEdgeLine (s1, s2)]) (.str s2)
    simp only [List.map_cons, c20ForIn, dotEnv_set, h1, ih, c20LastD, List.append_assoc,
      List.cons_append, List.nil_append]

theorem dot_edge_outer_ex (gr : Graph) (f : C20Env σ → C20Out σ) (g : List (String × C20Val σ))
    (ch js jd j3 : C20Val σ)
    (hf : ∀ (s1 : String) (Ls : List String) (j2 : C20Val σ),
      ∃ j2', f (E (Ls.map .str) g ch js jd (.str s1) j2 j3) =
        .next (E ((Ls ++ (gr.get s1).map fun s2 => dotEdgeLine (s1, s2)).map .str) g ch js jd
          (.str s1) j2' j3)) :
    ∀ (ks : List String) (Ls : List String) (j1 j2 : C20Val σ),
      ∃ j1' j2', c20ForIn f "stmt_1" (ks.map .str) (E (Ls.map .str) g ch js jd j1 j2 j3) =
        .next (E ((Ls ++ ks.flatMap fun k => (gr.get k).map fun s2 => dotEdgeLine (k, s2)).map .str)
          g ch js jd j1' j2' j3)
  | [], Ls, j1, j2 => ⟨j1, j2, by simp [c20ForIn]⟩
  | s1 :: ks, Ls, j1, j2 => by
    obtain ⟨j2a, h1⟩ := hf s1 Ls j2
    obtain ⟨j1', j2', h2⟩ := dot_edge_outer_ex gr f g ch js jd j3 hf ks
      (Ls ++ (gr.get s1).map fun s2 => dotEdgeLine (s1, s2)) (.str s1) j2a
    refine ⟨j1', j2', ?_⟩
    simp only [List.map_cons, c20ForIn, dotEnv_set, h1, h2, List.flatMap_cons, List.append_assoc]

end loops

/-! ### the loop bodies of the regenerated `get_dot_dependency_graph`, by position

The numbers below count the statements of the function body from 0: 3 is `def get_node_attrs`, 8 the
loop over the statements, 9 the `while True`, 10 and 11 the reduction and the edge loops; inside a
loop body, 0 or 1 is the nested loop.  A statement inserted in the source shifts them, and the
lemmas about the bodies then fail. -/

def stmtAt : List C20Stmt → Nat → C20Stmt
  | [], _ => .break_
  | s :: _, 0 => s
  | _ :: r, n + 1 => stmtAt r n

def loopBody : C20Stmt → List C20Stmt
  | .forIn _ _ b => b
  | .whileTrue b => b
  | _ => []

def dotBody : List C20Stmt := c20Fn_get_dot_dependency_graph.body
/-- the function `get_node_attrs` the fourth statement defines -/
def dotAttrsFn : C20Val σ :=
  match stmtAt dotBody 3 with
  | .defLocal _ ps b => .localFn ps b
  | _ => .none
def dotStmtBody : List C20Stmt := loopBody (stmtAt dotBody 8)
def dotDepBody : List C20Stmt := loopBody (stmtAt dotStmtBody 1)
def dotWhileBody : List C20Stmt := loopBody (stmtAt dotBody 9)
def dotCloseOuterBody : List C20Stmt := loopBody (stmtAt dotWhileBody 1)
def dotCloseMidBody : List C20Stmt := loopBody (stmtAt dotCloseOuterBody 0)
def dotCloseInnerBody : List C20Stmt := loopBody (stmtAt dotCloseMidBody 0)
def dotReduceOuterBody : List C20Stmt := loopBody (stmtAt dotBody 10)
def dotReduceMidBody : List C20Stmt := loopBody (stmtAt dotReduceOuterBody 0)
def dotReduceInnerBody : List C20Stmt := loopBody (stmtAt dotReduceMidBody 0)
def dotEdgeOuterBody : List C20Stmt := loopBody (stmtAt dotBody 11)
def dotEdgeInnerBody : List C20Stmt := loopBody (stmtAt dotEdgeOuterBody 0)

/-- expose a loop body as the literal statement list the table has -/
syntax "dot_body" (Lean.Parser.Tactic.location)? : tactic
macro_rules
  | `(tactic| dot_body $[$loc]?) => `(tactic| simp only [dotAttrsFn, dotStmtBody, dotDepBody,
      dotWhileBody, dotCloseOuterBody, dotCloseMidBody, dotCloseInnerBody, dotReduceOuterBody,
      dotReduceMidBody, dotReduceInnerBody, dotEdgeOuterBody, dotEdgeInnerBody, dotBody,
      c20Fn_get_dot_dependency_graph, stmtAt, loopBody] $[$loc]?)

/-- fold the literal statement list of a loop body back into its name -/
macro "dot_fold " b:ident : tactic => `(tactic| (
  have hb : $b = $b := rfl
  conv at hb => rhs; simp only [dotAttrsFn, dotStmtBody, dotDepBody, dotWhileBody,
    dotCloseOuterBody, dotCloseMidBody, dotCloseInnerBody, dotReduceOuterBody, dotReduceMidBody,
    dotReduceInnerBody, dotEdgeOuterBody, dotEdgeInnerBody, dotBody,
    c20Fn_get_dot_dependency_graph, stmtAt, loopBody]
  rw [← hb]
  clear hb))

/-- the evaluation context of the frame of `get_dot_dependency_graph` -/
abbrev dotCx (G : NameGen σ) (wf n : Nat) : C20Ctx σ :=
  cxCur G (fun xs => xs) wf (c20Run (cfgCur G (fun xs => xs) wf) (n + 1)) none

section bodies
variable (G : NameGen σ) (wf n : Nat) (v0 v1 v2 v3 v4 v5 v6 v7 : C20Val σ)
local notation "E" => dotEnv v0 v1 v2 v3 v4 v5 v6 v7

theorem dot_hf_close_inner (s1 s2 : String) (L : List (C20Val σ)) (js jd : C20Val σ)
    (s3 : String) (g : Graph) (chb : Bool) (hk : s1 ∈ g.keys) :
    c20Exec (dotCx G wf n) dotCloseInnerBody
        (E L (encG g) (.bool chb) js jd (.str s1) (.str s2) (.str s3)) =
      .next (E L (encG (if s3 ∈ g.get s1 then g else g.modify s1 fun vs => insertS vs s3))
        (.bool (chb || !decide (s3 ∈ g.get s1))) js jd (.str s1) (.str s2) (.str s3)) := by
  dot_body
  by_cases h3 : s3 ∈ g.get s1
  · c20_run [getD_encG, h3]
  · c20_run [getD_encG, h3, update_encG s1 (c20SetAdd s3) (fun vs => insertS vs s3) g hk rfl]

theorem dot_hf_close_mid (s1 : String) (L : List (C20Val σ)) (js jd : C20Val σ)
    (s2 : String) (g : Graph) (chb : Bool) (j3 : C20Val σ) (hk : s1 ∈ g.keys) :
    ∃ j3', c20Exec (dotCx G wf n) dotCloseMidBody
        (E L (encG g) (.bool chb) js jd (.str s1) (.str s2) j3) =
      .next (E L (encG (closeInner g s1 (g.get s2)).1)
        (.bool (chb || (closeInner g s1 (g.get s2)).2)) js jd (.str s1) (.str s2) j3') := by
  -- the witness is left open: it is whatever the loop lemma puts there when the goal is closed
  refine ⟨?w, ?h⟩
  case h =>
    dot_body
    c20_run [getD_encG]
    dot_fold dotCloseInnerBody
    rw [dot_close_inner (hf := dot_hf_close_inner G wf n v0 v1 v2 v3 v4 v5 v6 v7 s1 s2 L js jd)]
    exact hk

theorem dot_hf_close_outer (L : List (C20Val σ)) (js jd : C20Val σ)
    (s1 : String) (g : Graph) (chb : Bool) (j2 j3 : C20Val σ) (hk : s1 ∈ g.keys) :
    ∃ j2' j3', c20Exec (dotCx G wf n) dotCloseOuterBody
        (E L (encG g) (.bool chb) js jd (.str s1) j2 j3) =
      .next (E L (encG (closeMid g s1 (g.get s1)).1)
        (.bool (chb || (closeMid g s1 (g.get s1)).2)) js jd (.str s1) j2' j3') := by
  obtain ⟨j2', j3', h⟩ := dot_close_mid_ex v0 v1 v2 v3 v4 v5 v6 v7 s1 _ L js jd
    (dot_hf_close_mid G wf n v0 v1 v2 v3 v4 v5 v6 v7 s1 L js jd) (g.get s1) g chb j2 j3 hk
  refine ⟨j2', j3', ?_⟩
  dot_body
  c20_run [getD_encG]
  dot_fold dotCloseMidBody
  rw [h]

theorem dot_hf_while (L : List (C20Val σ)) (js jd : C20Val σ)
    (g : Graph) (chv j1 j2 j3 : C20Val σ) :
    ∃ j1' j2' j3', c20Exec (dotCx G wf n) dotWhileBody (E L (encG g) chv js jd j1 j2 j3) =
      if (closeOuter g g.keys).2 then
        .next (E L (encG (closeOuter g g.keys).1) (.bool true) js jd j1' j2' j3')
      else .brk (E L (encG (closeOuter g g.keys).1) (.bool false) js jd j1' j2' j3') := by
  obtain ⟨j1', j2', j3', h⟩ := dot_close_outer_ex v0 v1 v2 v3 v4 v5 v6 v7 _ L js jd
    (dot_hf_close_outer G wf n v0 v1 v2 v3 v4 v5 v6 v7 L js jd) g.keys g false j1 j2 j3
    (fun _ h => h)
  refine ⟨j1', j2', j3', ?_⟩
  dot_body
  c20_run [keys_encG]
  dot_fold dotCloseOuterBody
  rw [h]
  cases hc : (closeOuter g g.keys).2 <;> c20_run [hc]

theorem dot_hf_reduce_inner (s1 s2 : String) (L : List (C20Val σ)) (ch js jd : C20Val σ)
    (s3 : String) (g : Graph) (hk : s1 ∈ g.keys) :
    c20Exec (dotCx G wf n) dotReduceInnerBody
        (E L (encG g) ch js jd (.str s1) (.str s2) (.str s3)) =
      .next (E L (encG (if s3 ∈ g.get s1 then g.modify s1 fun vs => vs.filter fun v => v != s3
        else g)) ch js jd (.str s1) (.str s2) (.str s3)) := by
  dot_body
  by_cases h3 : s3 ∈ g.get s1
  · c20_run [getD_encG, h3, update_encG s1 (c20SetRemove s3)
      (fun vs => vs.filter fun v => v != s3) g hk (by simp [c20SetRemove, h3])]
  · c20_run [getD_encG, h3]

theorem dot_hf_reduce_mid (s1 : String) (L : List (C20Val σ)) (ch js jd : C20Val σ)
    (s2 : String) (g : Graph) (j3 : C20Val σ) (hk : s1 ∈ g.keys) :
    ∃ j3', c20Exec (dotCx G wf n) dotReduceMidBody (E L (encG g) ch js jd (.str s1) (.str s2) j3) =
      .next (E L (encG (reduceInner g s1 (g.get s2))) ch js jd (.str s1) (.str s2) j3') := by
  refine ⟨?w, ?h⟩
  case h =>
    dot_body
    c20_run [getD_encG]
    dot_fold dotReduceInnerBody
    rw [dot_reduce_inner
      (hf := dot_hf_reduce_inner G wf n v0 v1 v2 v3 v4 v5 v6 v7 s1 s2 L ch js jd)]
    exact hk

theorem dot_hf_reduce_outer (L : List (C20Val σ)) (ch js jd : C20Val σ)
    (s1 : String) (g : Graph) (j2 j3 : C20Val σ) (hk : s1 ∈ g.keys) :
    ∃ j2' j3', c20Exec (dotCx G wf n) dotReduceOuterBody (E L (encG g) ch js jd (.str s1) j2 j3) =
      .next (E L (encG (reduceMid g s1 (g.get s1))) ch js jd (.str s1) j2' j3') := by
  obtain ⟨j2', j3', h⟩ := dot_reduce_mid_ex v0 v1 v2 v3 v4 v5 v6 v7 s1 _ L ch js jd
    (dot_hf_reduce_mid G wf n v0 v1 v2 v3 v4 v5 v6 v7 s1 L ch js jd) (g.get s1) g j2 j3 hk
  refine ⟨j2', j3', ?_⟩
  dot_body
  c20_run [getD_encG]
  dot_fold dotReduceMidBody
  rw [h]

theorem dot_hf_edge_inner (s1 : String) (g : List (String × C20Val σ)) (ch js jd j3 : C20Val σ)
    (s2 : String) (Ls : List String) :
    c20Exec (dotCx G wf n) dotEdgeInnerBody
        (E (Ls.map .str) g ch js jd (.str s1) (.str s2) j3) =
      .next (E ((Ls ++ [dotEdgeLine (s1, s2)]).map .str) g ch js jd (.str s1) (.str s2) j3) := by
  dot_body
  c20_run [dotEdgeLine]
  simp [String.append_assoc]

theorem dot_hf_edge_outer (gr : Graph) (ch js jd j3 : C20Val σ)
    (s1 : String) (Ls : List String) (j2 : C20Val σ) :
    ∃ j2', c20Exec (dotCx G wf n) dotEdgeOuterBody
        (E (Ls.map .str) (encG gr) ch js jd (.str s1) j2 j3) =
      .next (E ((Ls ++ (gr.get s1).map fun s2 => dotEdgeLine (s1, s2)).map .str) (encG gr) ch js jd
        (.str s1) j2' j3) := by
  refine ⟨?w, ?h⟩
  case h =>
    dot_body
    c20_run [getD_encG]
    dot_fold dotEdgeInnerBody
    rw [dot_edge_inner
      (hf := dot_hf_edge_inner G wf n v0 v1 v2 v3 v4 v5 v6 v7 s1 (encG gr) ch js jd j3)]

theorem dot_hf_dep (s : Stmt) (L : List (C20Val σ)) (ch j1 j2 j3 : C20Val σ)
    (d : String) (g : Graph) :
    c20Exec (dotCx G wf n) dotDepBody (E L (encG g) ch (.stmt s) (.str d) j1 j2 j3) =
      .next (E L (encG (g.addEdge s.id d)) ch (.stmt s) (.str d) j1 j2 j3) := by
  dot_body
  c20_run [setdefaultAdd_encG]

end bodies

section stmtbody
variable (G : NameGen σ) (wf n : Nat) (v0 v2 v3 v5 v6 : C20Val σ)

/-- `use_stmt_ids` as passed by a caller: `None`, `True` or `False` -/
def c20OfOptBool : Option Bool → C20Val σ
  | none => .none
  | some b => .bool b

/-- `get_node_attrs(stmt)`: label and tooltip as `use_stmt_ids` says -/
theorem dot_node_attrs (u : Option Bool) (str : Stmt → String) (L : List (C20Val σ))
    (g : List (String × C20Val σ)) (ch jd j1 j2 j3 : C20Val σ) (s : Stmt) :
    c20Apply (dotCx G wf n)
        (dotEnv v0 (c20OfOptBool u) v2 v3 (.stmtStr str) v5 v6 dotAttrsFn L g ch (.stmt s) jd j1 j2 j3)
        dotAttrsFn [.stmt s] [] [] = .ok (.str (dotNodeAttrs (u.getD false) str s)) := by
  dot_body
  rcases u with _ | _ | _ <;> c20_run [c20OfOptBool] <;> simp [dotNodeAttrs, String.append_assoc]

/-- one pass of the statement loop: the node line is appended, the dependencies are recorded, the
`if 0:` block is skipped -/
theorem dot_hf_stmt (u : Option Bool) (str : Stmt → String)
    (ch j1 j2 j3 : C20Val σ) (s : Stmt) (Ls : List String) (g : Graph) (jd : C20Val σ) :
    ∃ jd', c20Exec (dotCx G wf n) dotStmtBody
        (dotEnv v0 (c20OfOptBool u) v2 v3 (.stmtStr str) v5 v6 dotAttrsFn (Ls.map .str) (encG g) ch
          (.stmt s) jd j1 j2 j3) =
      .next (dotEnv v0 (c20OfOptBool u) v2 v3 (.stmtStr str) v5 v6 dotAttrsFn
        ((Ls ++ [dotNodeLine (u.getD false) str s]).map .str)
        (encG (s.dependsOn.foldl (fun g d => g.addEdge s.id d) g)) ch (.stmt s) jd' j1 j2 j3) := by
  refine ⟨?w, ?h⟩
  case h =>
    have hd := dot_hf_dep G wf n v0 (c20OfOptBool u) v2 v3 (.stmtStr str) v5 v6
      (dotAttrsFn (σ := σ)) s
    have ha := dot_node_attrs G wf n v0 v2 v3 v5 v6 u str (Ls.map .str) (encG g) ch jd j1 j2 j3 s
    dot_body at hd ha ⊢
    c20_run [ha]
    rw [dot_dep_loop (i := s.id) (hf := hd _ ch j1 j2 j3)]
    c20_run [dotNodeLine]
    simp [String.append_assoc]
    rfl

end stmtbody

/-! ### the function -/

theorem edges_flatMap {β : Type} (F : String → String → β) : ∀ g : Graph, g.keys.Nodup →
    g.keys.flatMap (fun k => (g.get k).map (F k)) = g.edges.map fun e => F e.1 e.2
  | [], _ => rfl
  | (k, vs) :: rest, h => by
    simp only [Graph.keys, List.map_cons, List.nodup_cons] at h
    have ih := edges_flatMap F rest h.2
    have hk : Graph.get ((k, vs) :: rest) k = vs := by simp [Graph.get, List.lookup]
    have hrest : ∀ k' ∈ Graph.keys rest, Graph.get ((k, vs) :: rest) k' = Graph.get rest k' := by
      intro k' hk'
      have hne : (k' == k) = false := by
        simpa using fun e : k' = k => h.1 (e ▸ hk')
      simp [Graph.get, List.lookup, hne]
    simp only [Graph.keys, List.map_cons, List.flatMap_cons, hk, Graph.edges, List.map_append,
      List.map_map]
    congr 1
    rw [List.flatMap_congr (fun k' hk' => by rw [hrest k' hk'])]
    exact ih

/-- the statements of `get_dot_dependency_graph` after the definition of `get_node_attrs` -/
def dotTail : List C20Stmt := dotBody.drop 4

/-- the frame when the statement loop is reached -/
abbrev dotEnv0 (ss : List Stmt) (u : Option Bool) (pre post : List String) (str : Stmt → String)
    (v5 v6 : C20Val σ) : C20Env σ :=
  [("statements", .list (ss.map .stmt)), ("use_stmt_ids", c20OfOptBool u),
   ("preamble_hook", .thunk (.list (pre.map .str))),
   ("additional_lines_hook", .thunk (.list (post.map .str))),
   ("statement_stringifier", .stmtStr str), ("use_insn_ids", v5), ("warn", v6),
   ("get_node_attrs", dotAttrsFn), ("lines", .unbound), ("dep_graph", .unbound),
   ("annotation_dep_graph", .unbound), ("stmt", .unbound), ("dep", .unbound),
   ("changed_something", .unbound), ("stmt_1", .unbound), ("stmt_2", .unbound),
   ("stmt_3", .unbound)]

/-- the statements after `def get_node_attrs`, run in the frame the head of the function leaves:
each loop is rewritten by its loop lemma (with the pass lemma of its body) and the frame handed on;
`return` of the text, or `fuel` exactly when the model's closure gives up (sets visited in the
order of the model's lists, as in `dot_fn_eq_table`) -/
theorem dot_tail_eq (G : NameGen σ) (n : Nat) (ss : List Stmt)
    (u : Option Bool) (pre post : List String) (str : Stmt → String) (v5 v6 : C20Val σ) :
    c20Exec (dotCx G (fuelFor (buildGraph ss)) n) dotTail (dotEnv0 ss u pre post str v5 v6) =
      match dotText pre post (u.getD false) str ss with
      | .ok t => .ret (.str t)
      | .error _ => .fuel := by
  simp only [dotTail, dotBody, c20Fn_get_dot_dependency_graph, List.drop_succ_cons, List.drop_zero,
    dotAttrsFn, stmtAt]
  c20_run []
  rw [show (List.map C20Val.str pre ++ [C20Val.str "rankdir=BT;"] : List (C20Val σ)) =
      (pre ++ ["rankdir=BT;"]).map .str by simp,
    show (("dep_graph", C20Val.dict []) : String × C20Val σ) = ("dep_graph", .dict (encG [])) from rfl]
  dot_fold dotStmtBody
  obtain ⟨js, jd, h⟩ := dot_stmt_loop_ex _ _ _ _ _ _ _ _ (dotNodeLine (u.getD false) str) _ _ _ _ _
    (dot_hf_stmt G (fuelFor (buildGraph ss)) n (.list (ss.map .stmt)) (.thunk (.list (pre.map .str)))
      (.thunk (.list (post.map .str))) v5 v6 u str .unbound .unbound .unbound .unbound)
    ss (pre ++ ["rankdir=BT;"]) [] .unbound .unbound
  rw [h]
  c20_run []
  have hbg : List.foldl (fun (g : Graph) (s : Stmt) =>
      List.foldl (fun (g : Graph) d => g.addEdge s.id d) g s.dependsOn) [] ss = buildGraph ss := rfl
  rw [hbg]
  dot_fold dotWhileBody
  obtain ⟨chv, j1, j2, j3, h⟩ := dot_while_ex _ _ _ _ _ _ _ _ _ _ js jd
    (dot_hf_while G (fuelFor (buildGraph ss)) n (.list (ss.map .stmt)) (c20OfOptBool u)
      (.thunk (.list (pre.map .str))) (.thunk (.list (post.map .str))) (.stmtStr str) v5 v6 dotAttrsFn
      ((pre ++ ["rankdir=BT;"] ++ ss.map (dotNodeLine (u.getD false) str)).map .str) js jd)
    (fuelFor (buildGraph ss)) (buildGraph ss) .unbound .unbound .unbound .unbound
  rw [h]
  have hwf := (buildGraph_spec ss).1
  unfold dotText dotEdges
  cases hcl : closure (fuelFor (buildGraph ss)) (buildGraph ss) with
  | none => simp [hcl, throw, throwThe, MonadExceptOf.throw, bind, Except.bind]
  | some c =>
    have hcwf : c.WF := (closure_spec (buildGraph ss) _ _ _ hcl).2.1 hwf
    have hrwf : (reduce c).WF := reduce_WF hcwf
    c20_run [keys_encG]
    dot_fold dotReduceOuterBody
    obtain ⟨j1', j2', j3', h⟩ := dot_reduce_outer_ex _ _ _ _ _ _ _ _ _ _ chv js jd
      (dot_hf_reduce_outer G (fuelFor (buildGraph ss)) n (.list (ss.map .stmt)) (c20OfOptBool u)
        (.thunk (.list (pre.map .str))) (.thunk (.list (post.map .str))) (.stmtStr str) v5 v6
        dotAttrsFn ((pre ++ ["rankdir=BT;"] ++ ss.map (dotNodeLine (u.getD false) str)).map .str)
        chv js jd)
      c.keys c j1 j2 j3 (fun _ h => h)
    rw [h]
    c20_run [keys_encG]
    dot_fold dotEdgeOuterBody
    obtain ⟨j1'', j2'', h⟩ := dot_edge_outer_ex _ _ _ _ _ _ _ _ (reduce c) _ _ chv js jd j3'
      (dot_hf_edge_outer G (fuelFor (buildGraph ss)) n (.list (ss.map .stmt)) (c20OfOptBool u)
        (.thunk (.list (pre.map .str))) (.thunk (.list (post.map .str))) (.stmtStr str) v5 v6
        dotAttrsFn (reduce c) chv js jd j3')
      (reduce c).keys (pre ++ ["rankdir=BT;"] ++ ss.map (dotNodeLine (u.getD false) str)) j1' j2'
    rw [show reduceOuter c c.keys = reduce c from rfl, h]
    c20_run [edges_flatMap (fun a b => dotEdgeLine (a, b)) (reduce c) hrwf.1]
    rw [← List.map_append, strsOf_map_str]
    c20_run []
    simp [hcl, bind, Except.bind, pure, Except.pure, dotLines, String.append_assoc]

/-- **`get_dot_dependency_graph` of the current source is `dotText`.**  The body read from the
working tree — the `None` tests of the stringifier and the deprecated parameter, `get_node_attrs`,
the preamble lines and `rankdir=BT;`, the statement loop (one node line per statement, every
dependency recorded with `setdefault(...).add(...)`, the dead `if 0:` block), the fixed-point
closure (`while True` around three nested loops over copies, `changed_something`, `break`), the
transitive reduction (three nested loops over copies, `remove`), one `a -> b` line per remaining
entry, the (never entered) annotation loop, the additional lines, the final `%`-format — run by the
table interpreter returns exactly the text the model builds from `dotEdges`; it runs out of `while`
budget exactly when the model's closure does (never: `dot_export_total`).  For every stream, every
caller-supplied stringifier and hooks, `use_stmt_ids` ∈ {`None`, `True`, `False`}; NOT for every
order in which a `for` statement visits a set: the theorem is about `order := fun xs => xs`, the
order of the model's lists, and the `while` budget `fuelFor (buildGraph ss)` the model uses. -/
theorem dot_fn_eq_table (G : NameGen σ) (n : Nat) (cls : Option String) (ss : List Stmt)
    (u : Option Bool) (pre post : List String) (str : Stmt → String) :
    c20CallFn (cxCur G (fun xs => xs) (fuelFor (buildGraph ss))
        (c20Run (cfgCur G (fun xs => xs) (fuelFor (buildGraph ss))) (n + 2)) cls)
      c20Fn_get_dot_dependency_graph
      [.list (ss.map .stmt), c20OfOptBool u, .thunk (.list (pre.map .str)),
        .thunk (.list (post.map .str)), .stmtStr str, .none] [] [] =
      match dotText pre post (u.getD false) str ss with
      | .ok t => .ok (.str t)
      | .error _ => .fuel := by
  have ht := fun v5 v6 => dot_tail_eq G n ss u pre post str v5 v6
  simp only [dotTail, dotBody, c20Fn_get_dot_dependency_graph, List.drop_succ_cons, List.drop_zero,
    dotAttrsFn, stmtAt, dotEnv0, dotCx] at ht
  simp only [c20CallFn, c20Fn_get_dot_dependency_graph]
  cases u <;>
  · simp only [c20OfOptBool] at ht ⊢
    c20_run [ht]
    cases dotText pre post _ str ss <;> rfl


end PV.Imp
