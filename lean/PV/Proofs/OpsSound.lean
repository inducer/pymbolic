import PV.Model.Ops
import PV.Model.Eval
import PV.Proofs.OpsRing
import Mathlib.Data.Rat.Floor
import Mathlib.Tactic.Ring
/-
  C03 helper lemmas: value-level specifications of Python arithmetic on the exact numeric
  fragment (int / bool / Fraction) and soundness of the construction-time shortcuts of
  `pymbolic.primitives.Expression.__add__` & co. with respect to the denotation `den`.
-/
namespace PV

/-! ### The numeric view of a value: its rational value and whether it is a `Fraction` -/

/-- rational value and "is a Fraction" flag of an exact numeric value -/
def Value.view : Value → Option (Rat × Bool)
  | .int n => some ((n : Rat), false)
  | .bool b => some (((if b then 1 else 0 : Int) : Rat), false)
  | .frac q => some (q, true)
  | _ => Option.none

theorem view_cases {v : Value} {q : Rat} {f : Bool} (h : v.view = some (q, f)) :
    (∃ n : Int, v = .int n ∧ q = (n : Rat) ∧ f = false) ∨
    (∃ b : Bool, v = .bool b ∧ q = ((if b then 1 else 0 : Int) : Rat) ∧ f = false) ∨
    (v = .frac q ∧ f = true) := by
  cases v <;> simp only [Value.view, Option.some.injEq, Prod.mk.injEq, reduceCtorEq] at h
  · obtain ⟨rfl, rfl⟩ := h; exact Or.inl ⟨_, rfl, rfl, rfl⟩
  · obtain ⟨rfl, rfl⟩ := h; exact Or.inr (Or.inl ⟨_, rfl, rfl, rfl⟩)
  · obtain ⟨rfl, rfl⟩ := h; exact Or.inr (Or.inr ⟨rfl, rfl⟩)

/-- the `Num` of a viewed value -/
theorem view_num {v : Value} {q : Rat} {f : Bool} (h : v.view = some (q, f)) :
    ∃ x, v.num? = some x ∧ x.toRat = q ∧ v.isInexact = false ∧ v.isSeq = false ∧
      (f = false → ∃ n : Int, x = .i n) ∧ (f = true → x = .q q) := by
  rcases view_cases h with ⟨n, rfl, rfl, rfl⟩ | ⟨b, rfl, rfl, rfl⟩ | ⟨rfl, rfl⟩
  · exact ⟨.i n, rfl, rfl, rfl, rfl, fun _ => ⟨_, rfl⟩, by simp⟩
  · exact ⟨.i (if b then 1 else 0), rfl, rfl, rfl, rfl, fun _ => ⟨_, rfl⟩, by simp⟩
  · exact ⟨.q q, rfl, rfl, rfl, rfl, by simp, fun _ => rfl⟩

theorem num_view {v : Value} {x : Num} (h : v.num? = some x) :
    ∃ f, v.view = some (x.toRat, f) ∧ (f = false → ∃ n : Int, x = .i n) ∧ (f = true → ∃ q, x = .q q) := by
  cases v <;> simp [Value.num?] at h
  · subst h; exact ⟨false, rfl, fun _ => ⟨_, rfl⟩, by simp⟩
  · subst h; exact ⟨false, rfl, fun _ => ⟨_, rfl⟩, by simp⟩
  · subst h; exact ⟨true, rfl, by simp, fun _ => ⟨_, rfl⟩⟩

/-- a successful `x >>= f` went through a successful `x` -/
theorem _root_.Except.exists_of_bind_eq_ok {ε α β : Type} {x : Except ε α} {f : α → Except ε β}
    {b : β} (h : (x >>= f) = .ok b) : ∃ a, x = .ok a ∧ f a = .ok b := by
  cases x with
  | error e => cases h
  | ok a => exact ⟨a, rfl, h⟩

/-- a successful `arith` has numeric operands -/
theorem arith_ok {f : Num → Num → R} {a b v : Value} (h : arith f a b = .ok v) :
    ∃ x y, a.num? = some x ∧ b.num? = some y ∧ f x y = .ok v := by
  unfold arith at h
  split at h
  · cases h
  · split at h
    · cases h
    · split at h
      · rename_i x y hx hy; exact ⟨x, y, hx, hy, h⟩
      · cases h

theorem arith_num {f : Num → Num → R} {a b : Value} {x y : Num}
    (ha : a.num? = some x) (hb : b.num? = some y) : arith f a b = f x y := by
  have hai : a.isInexact = false := by cases a <;> simp [Value.num?] at ha <;> rfl
  have hbi : b.isInexact = false := by cases b <;> simp [Value.num?] at hb <;> rfl
  have has : a.isSeq = false := by cases a <;> simp [Value.num?] at ha <;> rfl
  have hbs : b.isSeq = false := by cases b <;> simp [Value.num?] at hb <;> rfl
  simp [arith, hai, hbi, has, hbs, ha, hb]

def Num.isQ : Num → Bool
  | .i _ => false
  | .q _ => true

theorem view_eq_num (v : Value) : v.view = v.num?.map (fun x => (x.toRat, x.isQ)) := by
  cases v <;> rfl

theorem view_iff_num {v : Value} {q : Rat} {f : Bool} :
    v.view = some (q, f) ↔ ∃ x, v.num? = some x ∧ x.toRat = q ∧ x.isQ = f := by
  rw [view_eq_num]
  cases v.num? <;> simp

theorem num_some_view {v : Value} {x : Num} (h : v.num? = some x) :
    v.view = some (x.toRat, x.isQ) := by rw [view_eq_num, h]; rfl

/-- operands of a successful arithmetic operation are numeric -/
theorem arith_ok_view {f : Num → Num → R} {a b v : Value} (h : arith f a b = .ok v) :
    ∃ x y, a.num? = some x ∧ b.num? = some y ∧ f x y = .ok v ∧
      a.view = some (x.toRat, x.isQ) ∧ b.view = some (y.toRat, y.isQ) := by
  obtain ⟨x, y, hx, hy, hf⟩ := arith_ok h
  exact ⟨x, y, hx, hy, hf, num_some_view hx, num_some_view hy⟩

/-! ### Specifications of the total operators on numeric values

`+`, `-`, `*`: an operation `gi` on two ints and `g` on the rational values otherwise, `g`
extending `gi`. -/

section ring
variable {f : Num → Num → R} {gi : Int → Int → Int} {g : Rat → Rat → Rat}
  (hf : ∀ x y, f x y = match x, y with
    | .i a, .i b => pure (.int (gi a b))
    | x, y => pure (.frac (g x.toRat y.toRat)))
  (cast : ∀ a b : Int, ((gi a b : Int) : Rat) = g a b)
include hf cast

theorem ring_spec {a b : Value} {qa qb : Rat} {fa fb : Bool}
    (ha : a.view = some (qa, fa)) (hb : b.view = some (qb, fb)) :
    ∃ r, arith f a b = .ok r ∧ r.view = some (g qa qb, fa || fb) := by
  obtain ⟨x, hx, rfl, rfl⟩ := view_iff_num.1 ha
  obtain ⟨y, hy, rfl, rfl⟩ := view_iff_num.1 hb
  rw [arith_num hx hy, hf]
  cases x <;> cases y
  · exact ⟨_, rfl, by simp only [Value.view, cast]; rfl⟩
  all_goals exact ⟨_, rfl, rfl⟩

theorem ring_view {a b v : Value} (h : arith f a b = .ok v) :
    ∃ qa fa qb fb, a.view = some (qa, fa) ∧ b.view = some (qb, fb) ∧
      v.view = some (g qa qb, fa || fb) := by
  obtain ⟨x, y, _, _, _, hx, hy⟩ := arith_ok_view h
  obtain ⟨r, hr, hv⟩ := ring_spec hf cast hx hy
  rw [h] at hr; cases hr
  exact ⟨_, _, _, _, hx, hy, hv⟩

end ring

theorem add_spec {a b : Value} {qa qb : Rat} {fa fb : Bool}
    (ha : a.view = some (qa, fa)) (hb : b.view = some (qb, fb)) :
    ∃ r, Value.add a b = .ok r ∧ r.view = some (qa + qb, fa || fb) :=
  ring_spec (fun _ _ => rfl) Int.cast_add ha hb

theorem sub_spec {a b : Value} {qa qb : Rat} {fa fb : Bool}
    (ha : a.view = some (qa, fa)) (hb : b.view = some (qb, fb)) :
    ∃ r, Value.sub a b = .ok r ∧ r.view = some (qa - qb, fa || fb) :=
  ring_spec (fun _ _ => rfl) Int.cast_sub ha hb

theorem mul_spec {a b : Value} {qa qb : Rat} {fa fb : Bool}
    (ha : a.view = some (qa, fa)) (hb : b.view = some (qb, fb)) :
    ∃ r, Value.mul a b = .ok r ∧ r.view = some (qa * qb, fa || fb) :=
  ring_spec (fun _ _ => rfl) Int.cast_mul ha hb

theorem add_view {a b v : Value} (h : Value.add a b = .ok v) :
    ∃ qa fa qb fb, a.view = some (qa, fa) ∧ b.view = some (qb, fb) ∧
      v.view = some (qa + qb, fa || fb) :=
  ring_view (fun _ _ => rfl) Int.cast_add h

theorem sub_view {a b v : Value} (h : Value.sub a b = .ok v) :
    ∃ qa fa qb fb, a.view = some (qa, fa) ∧ b.view = some (qb, fb) ∧
      v.view = some (qa - qb, fa || fb) :=
  ring_view (fun _ _ => rfl) Int.cast_sub h

theorem mul_view {a b v : Value} (h : Value.mul a b = .ok v) :
    ∃ qa fa qb fb, a.view = some (qa, fa) ∧ b.view = some (qb, fb) ∧
      v.view = some (qa * qb, fa || fb) :=
  ring_view (fun _ _ => rfl) Int.cast_mul h

/-! ### Division on exact numbers

`//` and `%` only depend on the rational values of the operands (and `%`, `/` on whether one of them
is a `Fraction`): on two ints `Int.fdiv` / `Int.fmod` are the floor of the quotient and what is left. -/

theorem rat_floor_eq (q : Rat) : q.floor = ⌊q⌋ := rfl

theorem fdiv_eq_floor_pos (a b : Int) (hb : 0 < b) : Int.fdiv a b = ((a:Rat)/(b:Rat)).floor := by
  rw [rat_floor_eq, Int.fdiv_eq_ediv_of_nonneg _ hb.le]
  have h := Rat.floor_intCast_div_natCast a b.toNat
  have hbn : ((b.toNat : ℕ) : ℤ) = b := Int.toNat_of_nonneg hb.le
  have : ((b.toNat : ℕ) : ℚ) = (b : ℚ) := by exact_mod_cast congrArg (Int.cast (R := ℚ)) hbn
  rw [this, hbn] at h
  exact h.symm

theorem fdiv_eq_floor (a b : Int) (hb : b ≠ 0) : Int.fdiv a b = ((a:Rat)/(b:Rat)).floor := by
  rcases lt_or_gt_of_ne hb with h | h
  · have := fdiv_eq_floor_pos (-a) (-b) (by omega)
    rw [Int.neg_fdiv_neg] at this
    rw [this]
    congr 1
    push_cast
    rw [neg_div_neg_eq]
  · exact fdiv_eq_floor_pos a b h

theorem fmod_cast (a m : Int) (hm : m ≠ 0) :
    ((Int.fmod a m : Int) : Rat) = (a : Rat) - (m : Rat) * ((((a : Rat) / (m : Rat)).floor : Int) : Rat) := by
  rw [← fdiv_eq_floor a m hm, Int.fmod_def]
  push_cast; ring

theorem divN_eq (x y : Num) : divN x y =
    if y.toRat = 0 then throw .zeroDiv
    else if x.isQ || y.isQ then pure (.frac (x.toRat / y.toRat)) else pure .inexact := by
  cases x <;> cases y <;> simp [divN, Num.toRat, Num.isQ] <;> rfl

theorem floordivN_eq (x y : Num) : floordivN x y =
    if y.toRat = 0 then throw .zeroDiv else pure (.int (x.toRat / y.toRat).floor) := by
  rcases x with a | a <;> rcases y with b | b <;> simp only [floordivN, Num.toRat]
  by_cases hb : b = 0
  · simp [hb]
  · simp [hb, fdiv_eq_floor a b hb]

theorem modN_eq (x y : Num) : modN x y =
    if y.toRat = 0 then throw .zeroDiv
    else if x.isQ || y.isQ then pure (.frac (x.toRat - y.toRat * ((x.toRat / y.toRat).floor : Rat)))
    else pure (.int (x.toRat - y.toRat * ((x.toRat / y.toRat).floor : Rat)).floor) := by
  rcases x with a | a <;> rcases y with b | b <;> simp only [modN, Num.toRat, Num.isQ] <;> try rfl
  by_cases hb : b = 0
  · simp [hb]
  · simp only [hb, Int.cast_eq_zero, if_false, Bool.or_false, Bool.false_eq_true]
    rw [← fmod_cast a b hb, rat_floor_eq, Int.floor_intCast]

theorem view_inj {v : Value} {q q' : Rat} {f f' : Bool} (h : v.view = some (q, f))
    (h' : v.view = some (q', f')) : q = q' ∧ f = f' := by
  rw [h] at h'; simpa using h'

theorem num_of_view {v : Value} {x : Num} {q : Rat} {f : Bool} (hx : v.num? = some x)
    (hv : v.view = some (q, f)) : x.toRat = q ∧ x.isQ = f := by
  have := num_some_view hx
  exact view_inj this hv

theorem num_i_of {x : Num} (h : x.isQ = false) : ∃ n, x = .i n := by
  cases x
  · exact ⟨_, rfl⟩
  · simp [Num.isQ] at h

/-! ### Python `==` on numeric values, the refinement relation -/

theorem pyEq_of_view {w v : Value} {q q' : Rat} {fw fv : Bool}
    (hw : w.view = some (q, fw)) (hv : v.view = some (q', fv)) : w.pyEq v = (q == q') := by
  rcases view_cases hw with ⟨n, rfl, rfl, rfl⟩ | ⟨b, rfl, rfl, rfl⟩ | ⟨rfl, rfl⟩ <;>
  rcases view_cases hv with ⟨m, rfl, rfl, rfl⟩ | ⟨c, rfl, rfl, rfl⟩ | ⟨rfl, rfl⟩ <;>
  simp [Value.pyEq, Value.num?, Num.toRat]

/-- `w` (value of the constructed tree) refines `v` (value of the plain computation): both are
the same float-abstraction, or both are exact numbers with the same rational value, and `w` is a
`Fraction` only if `v` is one (the shortcuts `x*0 → 0`, `x**0 → 1` may turn a Fraction into an int,
never the other way round). -/
def Refines (w v : Value) : Prop :=
  (w = .inexact ∧ v = .inexact) ∨
  ∃ q fw fv, w.view = some (q, fw) ∧ v.view = some (q, fv) ∧ (fw = true → fv = true)

theorem Refines.pyEq {w v : Value} (h : Refines w v) : w.pyEq v = true := by
  rcases h with ⟨rfl, rfl⟩ | ⟨q, fw, fv, hw, hv, _⟩
  · simp [Value.pyEq]
  · rw [pyEq_of_view hw hv]; simp

theorem Refines.of_view {w v : Value} {q : Rat} {fw fv : Bool}
    (hw : w.view = some (q, fw)) (hv : v.view = some (q, fv)) (h : fw = true → fv = true) :
    Refines w v := Or.inr ⟨q, fw, fv, hw, hv, h⟩

theorem Refines.refl_view {v : Value} {q : Rat} {f : Bool} (hv : v.view = some (q, f)) :
    Refines v v := Refines.of_view hv hv id

theorem Refines.trans {a b c : Value} (h1 : Refines a b) (h2 : Refines b c) : Refines a c := by
  rcases h1 with ⟨rfl, rfl⟩ | ⟨q, f1, f2, ha, hb, h12⟩
  · exact h2
  · rcases h2 with ⟨rfl, rfl⟩ | ⟨q', f2', f3, hb', hc, h23⟩
    · simp [Value.view] at hb
    · rw [hb] at hb'
      simp only [Option.some.injEq, Prod.mk.injEq] at hb'
      obtain ⟨rfl, rfl⟩ := hb'
      exact Refines.of_view ha hc (fun h => h23 (h12 h))

theorem pyEq_zero_iff {v : Value} : v.pyEq (.int 0) = true ↔ ∃ f, v.view = some (0, f) := by
  constructor
  · intro h
    cases v <;> simp [Value.pyEq, Value.num?, Num.toRat] at h
    · subst h; exact ⟨false, by simp [Value.view]⟩
    · subst h; exact ⟨false, by simp [Value.view]⟩
    · subst h; exact ⟨true, by simp [Value.view]⟩
  · rintro ⟨f, h⟩
    rw [pyEq_of_view h (show (Value.int 0).view = some (0, false) by simp [Value.view])]
    simp

/-! ### n-ary folds: the value of `Sum`/`Product` children lists -/

/-- the combined view of a list of operands (`g` = rational operation, `z` = neutral element) -/
def listView (env : Env) (g : Rat → Rat → Rat) (z : Rat) : List Expr → Option (Rat × Bool)
  | [] => some (z, false)
  | c :: cs => match den env c with
    | .ok v => match v.view, listView env g z cs with
       | some (q, f), some (q', f') => some (g q q', f || f')
       | _, _ => Option.none
    | _ => Option.none

structure FoldSpec (o : NaryOp) (g : Rat → Rat → Rat) (z : Rat) : Prop where
  spec : ∀ {a b : Value} {qa qb : Rat} {fa fb : Bool}, a.view = some (qa, fa) →
    b.view = some (qb, fb) → ∃ r, o.apply a b = .ok r ∧ r.view = some (g qa qb, fa || fb)
  numeric : ∀ {a b r : Value}, o.apply a b = .ok r →
    ∃ qa fa qb fb, a.view = some (qa, fa) ∧ b.view = some (qb, fb)
  assoc : ∀ a b c, g (g a b) c = g a (g b c)
  right_id : ∀ a, g a z = a
  left_id : ∀ a, g z a = a

theorem sumSpec : FoldSpec .sum (· + ·) 0 where
  spec := add_spec
  numeric := fun h => by
    obtain ⟨x, y, _, _, _, hx, hy⟩ := arith_ok_view h
    exact ⟨_, _, _, _, hx, hy⟩
  assoc := add_assoc
  right_id := add_zero
  left_id := zero_add

theorem prodSpec : FoldSpec .prod (· * ·) 1 where
  spec := mul_spec
  numeric := fun h => by
    obtain ⟨x, y, _, _, _, hx, hy⟩ := arith_ok_view h
    exact ⟨_, _, _, _, hx, hy⟩
  assoc := mul_assoc
  right_id := mul_one
  left_id := one_mul

variable {env : Env} {o : NaryOp} {g : Rat → Rat → Rat} {z : Rat}

/-- what a defined view of `c :: cs` is made of -/
theorem listView_cons_inv {c : Expr} {cs : List Expr} {q : Rat} {f : Bool}
    (h : listView env g z (c :: cs) = some (q, f)) :
    ∃ vc qc fc qs fs, den env c = .ok vc ∧ vc.view = some (qc, fc) ∧
      listView env g z cs = some (qs, fs) ∧ q = g qc qs ∧ f = (fc || fs) := by
  simp only [listView] at h
  cases hc : den env c with
  | error e => rw [hc] at h; cases h
  | ok vc =>
    rw [hc] at h
    simp only at h
    cases hvc : vc.view with
    | none => rw [hvc] at h; cases h
    | some p =>
      cases hl : listView env g z cs with
      | none => rw [hvc, hl] at h; cases h
      | some p' =>
        rw [hvc, hl] at h
        simp only [Option.some.injEq, Prod.mk.injEq] at h
        exact ⟨vc, p.1, p.2, p'.1, p'.2, rfl, hvc, rfl, h.1.symm, h.2.symm⟩

theorem listView_cons {e : Expr} {cs : List Expr} {ve : Value} {q q' : Rat} {f f' : Bool}
    (he : den env e = .ok ve) (hv : ve.view = some (q, f))
    (hl : listView env g z cs = some (q', f')) :
    listView env g z (e :: cs) = some (g q q', f || f') := by
  simp [listView, he, hv, hl]

theorem listView_nil : listView env g z [] = some (z, false) := rfl

theorem fold_view (S : FoldSpec o g z) : ∀ (ds : List Expr) (acc r : Value) (qa : Rat) (fa : Bool),
    acc.view = some (qa, fa) → denFold env o acc ds = .ok r →
    ∃ qs fs, listView env g z ds = some (qs, fs) ∧ r.view = some (g qa qs, fa || fs)
  | [], acc, r, qa, fa, ha, h => by
    simp only [denFold, pure, Except.pure, Except.ok.injEq] at h
    subst h
    exact ⟨z, false, rfl, by simp [S.right_id, ha]⟩
  | c :: cs, acc, r, qa, fa, ha, h => by
    simp only [denFold] at h
    obtain ⟨vc, hc, h⟩ := Except.exists_of_bind_eq_ok h
    obtain ⟨acc', hacc, h⟩ := Except.exists_of_bind_eq_ok h
    obtain ⟨qa', fa', qc, fc, ha', hvc⟩ := S.numeric hacc
    obtain ⟨rfl, rfl⟩ := view_inj ha ha'
    obtain ⟨r', hr', hview⟩ := S.spec ha hvc
    rw [hacc] at hr'; cases hr'
    obtain ⟨qs, fs, hl, hr⟩ := fold_view S cs acc' r _ _ hview h
    exact ⟨g qc qs, fc || fs, listView_cons hc hvc hl, by rw [hr, S.assoc, Bool.or_assoc]⟩

theorem fold_of_view (S : FoldSpec o g z) : ∀ (ds : List Expr) (acc : Value) (qa qs : Rat) (fa fs : Bool),
    acc.view = some (qa, fa) → listView env g z ds = some (qs, fs) →
    ∃ r, denFold env o acc ds = .ok r ∧ r.view = some (g qa qs, fa || fs)
  | [], acc, qa, qs, fa, fs, ha, h => by
    simp only [listView, Option.some.injEq, Prod.mk.injEq] at h
    obtain ⟨rfl, rfl⟩ := h
    exact ⟨acc, by simp [denFold, pure, Except.pure], by simp [S.right_id, ha]⟩
  | c :: cs, acc, qa, qs, fa, fs, ha, h => by
    obtain ⟨vc, qc, fc, qs', fs', hc, hvc, hl, rfl, rfl⟩ := listView_cons_inv h
    obtain ⟨acc', hacc, hview⟩ := S.spec ha hvc
    obtain ⟨r, hr, hrv⟩ := fold_of_view S cs acc' _ _ _ _ hview hl
    exact ⟨r, by simp only [denFold, bind, Except.bind, hc, hacc, hr],
      by rw [hrv, S.assoc, Bool.or_assoc]⟩

theorem listView_append (S : FoldSpec o g z) : ∀ (cs ds : List Expr) (q q' : Rat) (f f' : Bool),
    listView env g z cs = some (q, f) → listView env g z ds = some (q', f') →
    listView env g z (cs ++ ds) = some (g q q', f || f')
  | [], ds, q, q', f, f', h1, h2 => by
    simp only [listView, Option.some.injEq, Prod.mk.injEq] at h1
    obtain ⟨rfl, rfl⟩ := h1
    simp [h2, S.left_id]
  | c :: cs, ds, q, q', f, f', h1, h2 => by
    obtain ⟨vc, qc, fc, qs, fs, hc, hvc, hl, rfl, rfl⟩ := listView_cons_inv h1
    rw [List.cons_append, listView_cons hc hvc (listView_append S cs ds _ _ _ _ hl h2), S.assoc,
      Bool.or_assoc]

theorem listView_single {e : Expr} {v : Value} {q : Rat} {f : Bool} (S : FoldSpec o g z)
    (he : den env e = .ok v) (hv : v.view = some (q, f)) :
    listView env g z [e] = some (q, f) := by
  simp [listView, he, hv, S.right_id]

theorem int_view (n : Int) : (Value.int n).view = some ((n : Rat), false) := rfl

theorem fold_start_view (S : FoldSpec o g z) {start r : Value} {cs : List Expr}
    (hs : start.view = some (z, false)) (h : denFold env o start cs = .ok r) :
    ∃ q f, listView env g z cs = some (q, f) ∧ r.view = some (q, f) := by
  obtain ⟨q, f, hl, hr⟩ := fold_view S cs start r z false hs h
  exact ⟨q, f, hl, by simpa [S.left_id] using hr⟩

theorem fold_start_of_view (S : FoldSpec o g z) {start : Value} {cs : List Expr} {q : Rat} {f : Bool}
    (hs : start.view = some (z, false)) (h : listView env g z cs = some (q, f)) :
    ∃ r, denFold env o start cs = .ok r ∧ r.view = some (q, f) := by
  obtain ⟨r, hr, hv⟩ := fold_of_view S cs start z q false f hs h
  exact ⟨r, hr, by simpa [S.left_id] using hv⟩

theorem sum_den_view {cs : List Expr} {r : Value} (h : den env (.nary .sum cs) = .ok r) :
    ∃ q f, listView env (· + ·) 0 cs = some (q, f) ∧ r.view = some (q, f) := by
  simp only [den] at h
  exact fold_start_view sumSpec (by simp [Value.view]) h

theorem sum_den_of_view {cs : List Expr} {q : Rat} {f : Bool}
    (h : listView env (· + ·) 0 cs = some (q, f)) :
    ∃ r, den env (.nary .sum cs) = .ok r ∧ r.view = some (q, f) := by
  simp only [den]
  exact fold_start_of_view sumSpec (by simp [Value.view]) h

theorem prod_den_view {cs : List Expr} {r : Value} (h : den env (.nary .prod cs) = .ok r) :
    ∃ q f, listView env (· * ·) 1 cs = some (q, f) ∧ r.view = some (q, f) := by
  simp only [den] at h
  exact fold_start_view prodSpec (by simp [Value.view]) h

theorem prod_den_of_view {cs : List Expr} {q : Rat} {f : Bool}
    (h : listView env (· * ·) 1 cs = some (q, f)) :
    ∃ r, den env (.nary .prod cs) = .ok r ∧ r.view = some (q, f) := by
  simp only [den]
  exact fold_start_of_view prodSpec (by simp [Value.view]) h

/-! ### zero numerators -/

theorem rat_floor_zero : Rat.floor 0 = 0 := by
  have := Rat.floor_intCast 0
  simpa using this

theorem div_zero_left {a b v : Value} {f : Bool} (ha : a.view = some (0, f))
    (h : Value.div a b = .ok v) : v = .inexact ∨ v.view = some (0, true) := by
  obtain ⟨x, y, hx, _, hf⟩ := arith_ok h
  rw [divN_eq, (num_of_view hx ha).1] at hf
  split at hf
  · cases hf
  · split at hf <;> cases hf
    · exact .inr (by simp [Value.view])
    · exact .inl rfl

theorem floordiv_zero_left {a b v : Value} {f : Bool} (ha : a.view = some (0, f))
    (h : Value.floordiv a b = .ok v) : v.view = some (0, false) := by
  obtain ⟨x, y, hx, _, hf⟩ := arith_ok h
  rw [floordivN_eq, (num_of_view hx ha).1] at hf
  split at hf <;> cases hf
  simp [Value.view, rat_floor_zero]

theorem mod_zero_left {a b v : Value} {f : Bool} (ha : a.view = some (0, f))
    (h : Value.mod a b = .ok v) : ∃ f', v.view = some (0, f') := by
  obtain ⟨x, y, hx, _, hf⟩ := arith_ok h
  rw [modN_eq, (num_of_view hx ha).1] at hf
  simp only [zero_div, rat_floor_zero, Int.cast_zero, mul_zero, sub_zero] at hf
  split at hf
  · cases hf
  · split at hf <;> cases hf
    · exact ⟨_, rfl⟩
    · exact ⟨false, by simp [Value.view]⟩

/-! ### `falsy_value`: a node whose Python truth value is False evaluates to zero -/

/-- possible values of an expression whose `bool()` is `False` -/
def Falsy (v : Value) : Prop :=
  v = .inexact ∨ v = .tuple [] ∨ v = .list [] ∨ ∃ f, v.view = some (0, f)

theorem Falsy.zero {v : Value} {f : Bool} (h : v.view = some (0, f)) : Falsy v :=
  Or.inr (Or.inr (Or.inr ⟨f, h⟩))

theorem Falsy.view {v : Value} {q : Rat} {f : Bool} (h : Falsy v) (hv : v.view = some (q, f)) :
    q = 0 := by
  rcases h with rfl | rfl | rfl | ⟨f', h⟩
  · simp [Value.view] at hv
  · simp [Value.view] at hv
  · simp [Value.view] at hv
  · rw [hv] at h; simp only [Option.some.injEq, Prod.mk.injEq] at h; exact h.1

theorem bin_den_ok {o : BinOp} {a b : Expr} {v : Value} (h : den env (.bin o a b) = .ok v) :
    ∃ x y, den env a = .ok x ∧ den env b = .ok y ∧ o.apply x y = .ok v := by
  simp only [den] at h
  obtain ⟨x, ha, h⟩ := Except.exists_of_bind_eq_ok h
  obtain ⟨y, hb, h⟩ := Except.exists_of_bind_eq_ok h
  exact ⟨x, y, ha, hb, h⟩

/-- consuming a `Falsy` value in `arith` succeeds only if it is a numeric zero -/
theorem Falsy.of_arith_left {f : Num → Num → R} {a b v : Value} (ha : Falsy a)
    (h : arith f a b = .ok v) : ∃ fl, a.view = some (0, fl) := by
  obtain ⟨x, y, _, _, _, hx, _⟩ := arith_ok_view h
  exact ⟨_, by rw [hx, ha.view hx]⟩

theorem Falsy.of_arith_right {f : Num → Num → R} {a b v : Value} (hb : Falsy b)
    (h : arith f a b = .ok v) : ∃ fl, b.view = some (0, fl) := by
  obtain ⟨x, y, _, _, _, _, hy⟩ := arith_ok_view h
  exact ⟨_, by rw [hy, hb.view hy]⟩

mutual
theorem falsy_den : ∀ (e : Expr) (v : Value), e.truthy = false → den env e = .ok v → Falsy v
  | .const c, v, ht, hd => by
    cases c <;> simp only [Expr.truthy, Const.truthy, den, Const.den, pure, Except.pure,
      Except.ok.injEq, throw, throwThe, MonadExceptOf.throw, reduceCtorEq] at ht hd
    · subst hd; simp at ht; subst ht; exact .zero (int_view 0)
    · subst hd; subst ht; exact .zero (f := false) (by simp [Value.view])
    · subst hd; exact Or.inl rfl
  | .var _, _, ht, _ => by cases ht
  | .nary o cs, v, ht, hd => by
    cases o <;> simp only [Expr.truthy, reduceCtorEq] at ht
    · obtain ⟨q, f, hl, hv⟩ := sum_den_view hd
      obtain rfl := falsy_sumView cs q f ht hl
      exact .zero hv
    · obtain ⟨q, f, hl, hv⟩ := prod_den_view hd
      obtain rfl := falsy_prodView cs q f ht hl
      exact .zero hv
  | .bin o a b, v, ht, hd => by
    obtain ⟨x, y, hx, hy, hv⟩ := bin_den_ok hd
    cases o <;> simp only [Expr.truthy, reduceCtorEq] at ht <;>
      simp only [BinOp.apply] at hv <;>
      obtain ⟨fl, hz⟩ := (falsy_den a x ht hx).of_arith_left hv
    · exact (div_zero_left hz hv).elim Or.inl .zero
    · exact .zero (floordiv_zero_left hz hv)
    · exact (mod_zero_left hz hv).elim fun _ => .zero
  | .un .., _, ht, _ | .cmp .., _, ht, _ | .ite .., _, ht, _ | .call .., _, ht, _
  | .callKw .., _, ht, _ | .subscript .., _, ht, _ | .lookup .., _, ht, _ | .cse .., _, ht, _
  | .subst .., _, ht, _ | .deriv .., _, ht, _ | .slice .., _, ht, _ | .nan, _, ht, _
  | .wildcard, _, ht, _ | .dotWild .., _, ht, _ | .starWild .., _, ht, _
  | .funcSym, _, ht, _ => by cases ht
  | .tuple cs, v, ht, hd => by
    cases cs with
    | nil =>
      simp only [den, denList, bind, Except.bind, pure, Except.pure, Except.ok.injEq] at hd
      exact Or.inr (Or.inl hd.symm)
    | cons c cs => cases ht
  | .list cs, v, ht, hd => by
    cases cs with
    | nil =>
      simp only [den, denList, bind, Except.bind, pure, Except.pure, Except.ok.injEq] at hd
      exact Or.inr (Or.inr (Or.inl hd.symm))
    | cons c cs => cases ht
theorem falsy_sumView : ∀ (cs : List Expr) (q : Rat) (f : Bool), Expr.truthySum cs = false →
    listView env (· + ·) 0 cs = some (q, f) → q = 0
  | [], q, f, ht, hl => by cases ht
  | [c], q, f, ht, hl => by
    obtain ⟨vc, qc, fc, qs, fs, hc, hvc, hcs, rfl, rfl⟩ := listView_cons_inv hl
    cases Option.some.inj (listView_nil.symm.trans hcs)
    obtain rfl := (falsy_den c vc ht hc).view hvc
    exact add_zero 0
  | _ :: _ :: _, q, f, ht, hl => by cases ht
theorem falsy_prodView : ∀ (cs : List Expr) (q : Rat) (f : Bool), Expr.truthyProd cs = false →
    listView env (· * ·) 1 cs = some (q, f) → q = 0
  | [], q, f, ht, hl => by cases ht
  | c :: cs, q, f, ht, hl => by
    obtain ⟨vc, qc, fc, qs, fs, hc, hvc, hcs, rfl, rfl⟩ := listView_cons_inv hl
    simp only [Expr.truthyProd, Bool.and_eq_false_iff] at ht
    rcases ht with ht | ht
    · obtain rfl := (falsy_den c vc ht hc).view hvc
      exact zero_mul qs
    · obtain rfl := falsy_prodView cs qs fs ht hcs
      exact mul_zero qc
end

/-! ### views of the results of the plain operations -/

/-- a `Sum` node whose children have combined view `(q, f)` refines any value with view `(q, f')`,
`f → f'` -/
theorem sum_node_sound {xs : List Expr} {v : Value} {q : Rat} {f f' : Bool}
    (hl : listView env (· + ·) 0 xs = some (q, f)) (hv : v.view = some (q, f'))
    (hf : f = true → f' = true) : ∃ w, den env (.nary .sum xs) = .ok w ∧ Refines w v := by
  obtain ⟨w, hw, hwv⟩ := sum_den_of_view hl
  exact ⟨w, hw, Refines.of_view hwv hv hf⟩

theorem prod_node_sound {xs : List Expr} {v : Value} {q : Rat} {f f' : Bool}
    (hl : listView env (· * ·) 1 xs = some (q, f)) (hv : v.view = some (q, f'))
    (hf : f = true → f' = true) : ∃ w, den env (.nary .prod xs) = .ok w ∧ Refines w v := by
  obtain ⟨w, hw, hwv⟩ := prod_den_of_view hl
  exact ⟨w, hw, Refines.of_view hwv hv hf⟩

/-- the children view of an evaluated `Sum` agrees with the view of its value -/
theorem sum_children_view {cs : List Expr} {r : Value} {q : Rat} {f : Bool}
    (h : den env (.nary .sum cs) = .ok r) (hr : r.view = some (q, f)) :
    listView env (· + ·) 0 cs = some (q, f) := by
  obtain ⟨q', f', hl, hv⟩ := sum_den_view h
  obtain ⟨rfl, rfl⟩ := view_inj hr hv
  exact hl

theorem prod_children_view {cs : List Expr} {r : Value} {q : Rat} {f : Bool}
    (h : den env (.nary .prod cs) = .ok r) (hr : r.view = some (q, f)) :
    listView env (· * ·) 1 cs = some (q, f) := by
  obtain ⟨q', f', hl, hv⟩ := prod_den_view h
  obtain ⟨rfl, rfl⟩ := view_inj hr hv
  exact hl

/-! ### soundness of the dunder methods -/

/-- the operands a flattening method takes from an operand have, as a list, the view of the operand -/
theorem sum_operands_view {e : Expr} {xs : List Expr} {v : Value} {q : Rat} {f : Bool}
    (h : Operands .sum e xs) (he : den env e = .ok v) (hv : v.view = some (q, f)) :
    listView env (· + ·) 0 xs = some (q, f) := by
  rcases h with rfl | rfl
  · exact sum_children_view he hv
  · exact listView_single sumSpec he hv

theorem prod_operands_view {e : Expr} {xs : List Expr} {v : Value} {q : Rat} {f : Bool}
    (h : Operands .prod e xs) (he : den env e = .ok v) (hv : v.view = some (q, f)) :
    listView env (· * ·) 1 xs = some (q, f) := by
  rcases h with rfl | rfl
  · exact prod_children_view he hv
  · exact listView_single prodSpec he hv

theorem exprAdd_sound {self other t : Expr} {vs vo v : Value}
    (h : exprAdd self other = .ret t) (hs : den env self = .ok vs) (ho : den env other = .ok vo)
    (hv : Value.add vs vo = .ok v) : ∃ w, den env t = .ok w ∧ Refines w v := by
  obtain ⟨qs, fs, qo, fo, hvs, hvo, hvv⟩ := add_view hv
  rcases exprAdd_ret h with ⟨hf, rfl⟩ | ⟨hf, rfl⟩ | ⟨ys, hy, rfl⟩
  · obtain rfl := (falsy_den other vo hf ho).view hvo
    exact ⟨vs, hs, Refines.of_view hvs (by simpa using hvv) (fun h => by simp [h])⟩
  · obtain rfl := (falsy_den self vs hf hs).view hvs
    exact ⟨vo, ho, Refines.of_view hvo (by simpa using hvv) (fun h => by simp [h])⟩
  · exact sum_node_sound (listView_cons hs hvs (sum_operands_view hy ho hvo)) hvv id

theorem addD_sound {self other t : Expr} {vs vo v : Value}
    (h : addD self other = .ret t) (hs : den env self = .ok vs) (ho : den env other = .ok vo)
    (hv : Value.add vs vo = .ok v) : ∃ w, den env t = .ok w ∧ Refines w v := by
  obtain ⟨qs, fs, qo, fo, hvs, hvo, hvv⟩ := add_view hv
  rcases addD_ret h with ⟨hf, rfl⟩ | ⟨hf, rfl⟩ | ⟨xs, ys, hx, hy, rfl⟩
  · obtain rfl := (falsy_den other vo hf ho).view hvo
    exact ⟨vs, hs, Refines.of_view hvs (by simpa using hvv) (fun h => by simp [h])⟩
  · obtain rfl := (falsy_den self vs hf hs).view hvs
    exact ⟨vo, ho, Refines.of_view hvo (by simpa using hvv) (fun h => by simp [h])⟩
  · exact sum_node_sound (listView_append sumSpec _ _ _ _ _ _ (sum_operands_view hx hs hvs)
      (sum_operands_view hy ho hvo)) hvv id

/-- reflected addition: the result is `other + self` -/
theorem raddD_sound {self other t : Expr} {vs vo v : Value}
    (h : raddD self other = .ret t) (hs : den env self = .ok vs) (ho : den env other = .ok vo)
    (hv : Value.add vo vs = .ok v) : ∃ w, den env t = .ok w ∧ Refines w v := by
  obtain ⟨qo, fo, qs, fs, hvo, hvs, hvv⟩ := add_view hv
  rcases raddD_ret h with ⟨hf, rfl⟩ | ⟨hf, rfl⟩ | ⟨xs, hx, rfl⟩
  · obtain rfl := (falsy_den other vo hf ho).view hvo
    exact ⟨vs, hs, Refines.of_view hvs (by simpa using hvv) (fun h => by simp [h])⟩
  · obtain rfl := (falsy_den self vs hf hs).view hvs
    exact ⟨vo, ho, Refines.of_view hvo (by simpa using hvv) (fun h => by simp [h])⟩
  · exact sum_node_sound (listView_cons ho hvo (sum_operands_view hx hs hvs)) hvv id

theorem Refines.view_right {w v : Value} {q : Rat} {f : Bool} (h : Refines w v)
    (hv : v.view = some (q, f)) : ∃ fw, w.view = some (q, fw) ∧ (fw = true → f = true) := by
  rcases h with ⟨rfl, rfl⟩ | ⟨q', fw, fv, hw, hv', hf⟩
  · simp [Value.view] at hv
  · obtain ⟨rfl, rfl⟩ := view_inj hv hv'
    exact ⟨fw, hw, hf⟩

theorem isOne_view {e : Expr} {v : Value} {q : Rat} {f : Bool} (h1 : e.isOne = true)
    (he : den env e = .ok v) (hv : v.view = some (q, f)) : q = 1 ∧ f = false := by
  cases e <;> simp only [Expr.isOne, Bool.false_eq_true] at h1
  rename_i c
  cases c <;> simp only [Const.isOne, Bool.false_eq_true] at h1 <;>
    simp only [den, Const.den, pure, Except.pure, Except.ok.injEq] at he <;> subst he
  · simp only [beq_iff_eq] at h1; subst h1
    simp only [Value.view, Option.some.injEq, Prod.mk.injEq] at hv
    exact ⟨by simpa using hv.1.symm, hv.2.symm⟩
  · subst h1
    simp only [Value.view, Option.some.injEq, Prod.mk.injEq] at hv
    exact ⟨by simpa using hv.1.symm, hv.2.symm⟩
  · simp [Value.view] at hv

theorem zero_den : den env zero = .ok (.int 0) := rfl
theorem one_den : den env one = .ok (.int 1) := rfl
theorem negOne_den : den env negOne = .ok (.int (-1)) := rfl

/-- reflected multiplication: the result is `other * self` -/
theorem rmulD_sound {self other t : Expr} {vs vo v : Value}
    (h : rmulD self other = .ret t) (hs : den env self = .ok vs) (ho : den env other = .ok vo)
    (hv : Value.mul vo vs = .ok v) : ∃ w, den env t = .ok w ∧ Refines w v := by
  obtain ⟨qo, fo, qs, fs, hvo, hvs, hvv⟩ := mul_view hv
  rcases rmulD_ret h with ⟨hz, rfl⟩ | ⟨h1, rfl⟩ | ⟨xs, hx, rfl⟩
  · obtain rfl := (falsy_den other vo (by simpa [Expr.isZero] using hz) ho).view hvo
    exact ⟨_, zero_den, Refines.of_view (int_view 0) (by simpa using hvv) (by simp)⟩
  · obtain ⟨rfl, rfl⟩ := isOne_view h1 ho hvo
    exact ⟨vs, hs, Refines.of_view hvs (by simpa using hvv) id⟩
  · exact prod_node_sound (listView_cons ho hvo (prod_operands_view hx hs hvs)) hvv id

theorem mulD_sound {self other t : Expr} {vs vo v : Value}
    (h : mulD self other = .ret t) (hs : den env self = .ok vs) (ho : den env other = .ok vo)
    (hv : Value.mul vs vo = .ok v) : ∃ w, den env t = .ok w ∧ Refines w v := by
  obtain ⟨qs, fs, qo, fo, hvs, hvo, hvv⟩ := mul_view hv
  rcases mulD_ret h with ⟨hz, rfl⟩ | ⟨h1, rfl⟩ | ⟨xs, ys, hx, hy, rfl⟩
  · obtain rfl := (falsy_den other vo (by simpa [Expr.isZero] using hz) ho).view hvo
    exact ⟨_, zero_den, Refines.of_view (int_view 0) (by simpa using hvv) (by simp)⟩
  · obtain ⟨rfl, rfl⟩ := isOne_view h1 ho hvo
    exact ⟨vs, hs, Refines.of_view hvs (by simpa using hvv) id⟩
  · exact prod_node_sound (listView_append prodSpec _ _ _ _ _ _ (prod_operands_view hx hs hvs)
      (prod_operands_view hy ho hvo)) hvv id

/-- `-e` as built by pymbolic (`-1 * e`, or the negated constant) evaluates to the negated value -/
theorem negE_sound {e n : Expr} {ve : Value} {q : Rat} {f : Bool}
    (h : negE e = .ok n) (he : den env e = .ok ve) (hv : ve.view = some (q, f)) :
    ∃ wn fn, den env n = .ok wn ∧ wn.view = some (-q, fn) ∧ (fn = true → f = true) := by
  unfold negE at h
  split at h
  · rename_i c
    split at h
    · rename_i c' hc
      cases h
      cases c <;> simp only [Const.neg, Option.some.injEq, reduceCtorEq] at hc <;> subst hc <;>
        simp only [den, Const.den, pure, Except.pure, Except.ok.injEq] at he <;> subst he
      · simp only [Value.view, Option.some.injEq, Prod.mk.injEq] at hv
        obtain ⟨rfl, rfl⟩ := hv
        exact ⟨_, false, rfl, by simp [Value.view], by simp⟩
      · rename_i b
        simp only [Value.view, Option.some.injEq, Prod.mk.injEq] at hv
        obtain ⟨rfl, rfl⟩ := hv
        exact ⟨_, false, rfl, by cases b <;> simp [Value.view], by simp⟩
      · simp [Value.view] at hv
    · cases h
  · split at h
    · split at h
      · rename_i r hr
        cases h
        obtain ⟨v, hmul, hvv⟩ := mul_spec (int_view (-1)) hv
        obtain ⟨w, hw, href⟩ := rmulD_sound hr he negOne_den hmul
        obtain ⟨fw, hwv, hf⟩ := href.view_right hvv
        exact ⟨w, fw, hw, by simpa using hwv, by simpa using hf⟩
      · cases h
    · cases h

theorem subD_sound {self other t : Expr} {vs vo v : Value}
    (h : subD self other = .ret t) (hs : den env self = .ok vs) (ho : den env other = .ok vo)
    (hv : Value.sub vs vo = .ok v) : ∃ w, den env t = .ok w ∧ Refines w v := by
  obtain ⟨qs, fs, qo, fo, hvs, hvo, hvv⟩ := sub_view hv
  rcases subD_ret h with ⟨hf, rfl⟩ | ⟨n, hn, h⟩
  · obtain rfl := (falsy_den other vo hf ho).view hvo
    exact ⟨vs, hs, Refines.of_view hvs (by simpa using hvv) (fun h => by simp [h])⟩
  obtain ⟨wn, fn, hwn, hwnv, hfn⟩ := negE_sound hn ho hvo
  have hflag : (fs || fn) = true → (fs || fo) = true := by
    simp only [Bool.or_eq_true]
    exact Or.imp_right hfn
  rcases h with ⟨cs, rfl, rfl⟩ | h
  · exact sum_node_sound (listView_append sumSpec _ _ _ _ _ _ (sum_children_view hs hvs)
      (listView_single sumSpec hwn hwnv)) (by simpa [sub_eq_add_neg] using hvv) hflag
  · obtain ⟨v', hv', hv'v⟩ := add_spec hvs hwnv
    obtain ⟨w, hw, href⟩ := exprAdd_sound h hs hwn hv'
    exact ⟨w, hw, href.trans (Refines.of_view hv'v (by simpa [sub_eq_add_neg] using hvv) hflag)⟩

/-- reflected subtraction: the result is `other - self` -/
theorem rsubD_sound {self other t : Expr} {vs vo v : Value}
    (h : rsubD self other = .ret t) (hs : den env self = .ok vs) (ho : den env other = .ok vo)
    (hv : Value.sub vo vs = .ok v) : ∃ w, den env t = .ok w ∧ Refines w v := by
  obtain ⟨qo, fo, qs, fs, hvo, hvs, hvv⟩ := sub_view hv
  obtain ⟨n, hn, h⟩ := rsubD_ret h
  obtain ⟨wn, fn, hwn, hwnv, hfn⟩ := negE_sound hn hs hvs
  rcases h with ⟨hf, rfl⟩ | rfl
  · obtain rfl := (falsy_den other vo hf ho).view hvo
    exact ⟨wn, hwn, Refines.of_view hwnv (by simpa using hvv) (fun h => by simp [hfn h])⟩
  · refine sum_node_sound (listView_cons ho hvo (listView_single sumSpec hwn hwnv))
      (by simpa [sub_eq_add_neg] using hvv) ?_
    simp only [Bool.or_eq_true]
    exact Or.imp_right hfn

/-! ### shape of results: every operator returns an exact number or the float abstraction -/

def Value.NumOrInexact (v : Value) : Prop := v = .inexact ∨ ∃ q f, v.view = some (q, f)

theorem Refines.refl_of {v : Value} (h : v.NumOrInexact) : Refines v v := by
  rcases h with rfl | ⟨q, f, h⟩
  · exact Or.inl ⟨rfl, rfl⟩
  · exact Refines.refl_view h

theorem noi_int (n : Int) : (Value.int n).NumOrInexact := Or.inr ⟨_, _, rfl⟩
theorem noi_frac (q : Rat) : (Value.frac q).NumOrInexact := Or.inr ⟨_, _, rfl⟩
theorem noi_bool (b : Bool) : (Value.bool b).NumOrInexact := Or.inr ⟨_, _, rfl⟩
theorem noi_inexact : Value.inexact.NumOrInexact := Or.inl rfl

theorem fracPowInt_spec {a : Rat} {p : Int} {v : Value} (h : fracPowInt a p = .ok v) :
    (a = 0 → 0 ≤ p) ∧ v.view = some (a ^ p, true) := by
  unfold fracPowInt at h
  split at h
  · cases h
  · split at h
    · rename_i hp
      cases h
      exact ⟨fun _ => hp, by rw [← zpow_natCast, Int.toNat_of_nonneg hp]; rfl⟩
    · split at h
      · cases h
      · rename_i ha
        cases h
        exact ⟨fun h0 => absurd h0 ha, rfl⟩

/-- `x ** y` on exact numbers is a power with an integer exponent, or a float; an int base stays
an int exactly when the exponent is not negative -/
theorem powN_spec {x y : Num} {v : Value} (h : powN x y = .ok v) :
    (∃ n : Int, y.toRat = n ∧ (x.toRat = 0 → 0 ≤ n) ∧
      v.view = some (x.toRat ^ n, x.isQ || decide (n < 0))) ∨
    (v = .inexact ∧ ∀ n : Nat, y.toRat ≠ n) := by
  have hint : ∀ {a n : Int}, 0 ≤ n → (Value.int (a ^ n.toNat)).view =
      some ((a : Rat) ^ n, false || decide (n < 0)) := by
    intro a n hn
    obtain ⟨k, rfl⟩ := Int.eq_ofNat_of_zero_le hn
    simp [Value.view]
  have hfrac : ∀ {a : Rat} {n : Int} (f : Bool), (f = false → n < 0) → fracPowInt a n = .ok v →
      (a = 0 → 0 ≤ n) ∧ v.view = some (a ^ n, f || decide (n < 0)) := by
    intro a n f hf hp
    obtain ⟨h0, hv⟩ := fracPowInt_spec hp
    refine ⟨h0, ?_⟩
    cases f
    · rw [hv, decide_eq_true (hf rfl)]; rfl
    · exact hv
  have hfloat : ∀ {a b : Rat}, b.den ≠ 1 → floatPow a b = .ok v →
      v = .inexact ∧ ∀ n : Nat, b ≠ n := by
    intro a b hden hf
    unfold floatPow at hf
    split at hf <;> cases hf
    exact ⟨rfl, fun n hn => hden (by rw [hn]; rfl)⟩
  rcases x with a | a <;> rcases y with b | b <;> simp only [powN] at h
  · split at h
    · cases h
    · split at h
      · rename_i hb
        cases h
        exact .inl ⟨b, rfl, fun _ => hb, hint hb⟩
      · rename_i hb
        split at h <;> cases h
        refine .inr ⟨rfl, fun n hn => hb ?_⟩
        simp only [Num.toRat] at hn
        have : b = n := by exact_mod_cast hn
        omega
  · split at h
    · rename_i hb
      split at h
      · cases h
      · cases h
        exact .inl ⟨b.num, (Rat.coe_int_num_of_den_eq_one hb.1).symm, fun _ => hb.2, hint hb.2⟩
    · rename_i hb
      split at h
      · rename_i hden
        exact .inl ⟨b.num, (Rat.coe_int_num_of_den_eq_one hden).symm,
          hfrac false (fun _ => not_le.1 fun hn => hb ⟨hden, hn⟩) h⟩
      · rename_i hden
        exact .inr (hfloat hden h)
  · exact .inl ⟨b, rfl, hfrac true (by simp) h⟩
  · split at h
    · rename_i hden
      exact .inl ⟨b.num, (Rat.coe_int_num_of_den_eq_one hden).symm, hfrac true (by simp) h⟩
    · rename_i hden
      exact .inr (hfloat hden h)

theorem powN_shape {x y : Num} {v : Value} (h : powN x y = .ok v) : v.NumOrInexact := by
  rcases powN_spec h with ⟨n, _, _, hv⟩ | ⟨rfl, _⟩
  · exact Or.inr ⟨_, _, hv⟩
  · exact Or.inl rfl

theorem intOnly_shape {g : Int → Int → R} (hg : ∀ a b v, g a b = .ok v → v.NumOrInexact)
    {x y : Num} {v : Value} (h : intOnly g x y = .ok v) : v.NumOrInexact := by
  rcases x with a | a <;> rcases y with b | b <;> simp only [intOnly] at h
  · exact hg _ _ _ h
  all_goals cases h

theorem divN_shape {x y : Num} {v : Value} (hf : divN x y = .ok v) : v.NumOrInexact := by
  rw [divN_eq] at hf
  split at hf
  · cases hf
  · split at hf <;> cases hf
    · exact noi_frac _
    · exact noi_inexact

theorem floordivN_shape {x y : Num} {v : Value} (hf : floordivN x y = .ok v) : v.NumOrInexact := by
  rw [floordivN_eq] at hf
  split at hf <;> cases hf
  exact noi_int _

theorem modN_shape {x y : Num} {v : Value} (hf : modN x y = .ok v) : v.NumOrInexact := by
  rw [modN_eq] at hf
  split at hf
  · cases hf
  · split at hf <;> cases hf
    · exact noi_frac _
    · exact noi_int _

theorem shift_shape {k : Int → Int → Int} (a b : Int) (v : Value)
    (h : (if b < 0 then throw .valueError else if b.toNat > bigLimit then throw .noClaim
      else pure (.int (k a b)) : R) = .ok v) : v.NumOrInexact := by
  split at h
  · cases h
  · split at h <;> cases h
    exact noi_int _

theorem onValues_shape {o : PyBinOp} {a b v : Value} (h : o.onValues a b = .ok v) :
    v.NumOrInexact := by
  cases o <;> simp only [PyBinOp.onValues] at h
  case add => obtain ⟨_, _, _, _, _, _, hv⟩ := add_view h; exact Or.inr ⟨_, _, hv⟩
  case sub => obtain ⟨_, _, _, _, _, _, hv⟩ := sub_view h; exact Or.inr ⟨_, _, hv⟩
  case mul => obtain ⟨_, _, _, _, _, _, hv⟩ := mul_view h; exact Or.inr ⟨_, _, hv⟩
  case truediv => obtain ⟨x, y, _, _, hf⟩ := arith_ok h; exact divN_shape hf
  case floordiv => obtain ⟨x, y, _, _, hf⟩ := arith_ok h; exact floordivN_shape hf
  case mod => obtain ⟨x, y, _, _, hf⟩ := arith_ok h; exact modN_shape hf
  case pow => obtain ⟨x, y, _, _, hf⟩ := arith_ok h; exact powN_shape hf
  case lshift => obtain ⟨x, y, _, _, hf⟩ := arith_ok h; exact intOnly_shape shift_shape hf
  case rshift => obtain ⟨x, y, _, _, hf⟩ := arith_ok h; exact intOnly_shape shift_shape hf
  all_goals
    simp only [Value.band, Value.bor, Value.bxor, bitop] at h
    split at h
    · cases h; exact noi_bool _
    · obtain ⟨x, y, _, _, hf⟩ := arith_ok h
      refine intOnly_shape ?_ hf
      intro a b v hg
      cases hg; exact noi_int _

/-! ### neutral elements of division and power -/

/-- `x / 1`: exact only for a Fraction `x`, and then equal to `x` -/
theorem div_one_right {a b v : Value} {qa : Rat} {fa : Bool} (ha : a.view = some (qa, fa))
    (hb : b.view = some (1, false)) (h : Value.div a b = .ok v) (hex : v.isInexact = false) :
    v.view = some (qa, true) ∧ fa = true := by
  obtain ⟨x, y, hx, hy, hf⟩ := arith_ok h
  obtain ⟨rfl, rfl⟩ := num_of_view hx ha
  obtain ⟨hy1, hyq⟩ := num_of_view hy hb
  rw [divN_eq, hy1, hyq, Bool.or_false, if_neg one_ne_zero, div_one] at hf
  split at hf <;> cases hf
  · exact ⟨rfl, ‹_›⟩
  · cases hex

/-- the operands of `//` and `%` when the left one is an int or bool and the right one the constant one -/
theorem int_one_operands {a b : Value} {qa : Rat} {x y : Num} (ha : a.view = some (qa, false))
    (hb : b.view = some (1, false)) (hx : a.num? = some x) (hy : b.num? = some y) :
    (∃ n : Int, x = .i n ∧ qa = n) ∧ y.toRat = 1 ∧ y.isQ = false := by
  obtain ⟨rfl, hxq⟩ := num_of_view hx ha
  obtain ⟨n, rfl⟩ := num_i_of hxq
  exact ⟨⟨n, rfl, rfl⟩, num_of_view hy hb⟩

/-- `x // 1` for an int/bool `x` -/
theorem floordiv_one_right {a b v : Value} {qa : Rat} (ha : a.view = some (qa, false))
    (hb : b.view = some (1, false)) (h : Value.floordiv a b = .ok v) :
    v.view = some (qa, false) := by
  obtain ⟨x, y, hx, hy, hf⟩ := arith_ok h
  obtain ⟨⟨n, rfl, rfl⟩, hy1, _⟩ := int_one_operands ha hb hx hy
  rw [floordivN_eq, hy1, if_neg one_ne_zero, div_one] at hf
  cases hf
  simp [Value.view, Num.toRat, rat_floor_eq]

/-- `x % 1` for an int/bool `x` -/
theorem mod_one_right {a b v : Value} {qa : Rat} (ha : a.view = some (qa, false))
    (hb : b.view = some (1, false)) (h : Value.mod a b = .ok v) :
    v.view = some (0, false) := by
  obtain ⟨x, y, hx, hy, hf⟩ := arith_ok h
  obtain ⟨⟨n, rfl, rfl⟩, hy1, hyq⟩ := int_one_operands ha hb hx hy
  rw [modN_eq, hy1, hyq, if_neg one_ne_zero] at hf
  cases hf
  simp [Value.view, Num.toRat, rat_floor_eq]

theorem int_fmod_one (n : Int) : Int.fmod n 1 = 0 := by
  rw [Int.fmod_def, Int.fdiv_one]; omega

/-- a power whose exponent has the integer value `k ≥ 0` -/
theorem pow_int_right {a b v : Value} {qa : Rat} {fa fb : Bool} {k : Nat}
    (ha : a.view = some (qa, fa)) (hb : b.view = some ((k : Rat), fb))
    (h : Value.pow a b = .ok v) : v.view = some (qa ^ k, fa) := by
  obtain ⟨x, y, hx, hy, hf⟩ := arith_ok h
  obtain ⟨rfl, rfl⟩ := num_of_view hx ha
  obtain ⟨hyk, _⟩ := num_of_view hy hb
  rcases powN_spec hf with ⟨n, hn, _, hv⟩ | ⟨_, hn⟩
  · have : n = k := by exact_mod_cast hn.symm.trans hyk
    subst this
    rw [hv, decide_eq_false (not_lt.2 (Int.natCast_nonneg k)), Bool.or_false, zpow_natCast]
  · exact absurd hyk (hn k)

/-- `x ** 0 == 1` -/
theorem pow_zero_right {a b v : Value} {fb : Bool}
    (hb : b.view = some (0, fb)) (h : Value.pow a b = .ok v) :
    ∃ f, v.view = some (1, f) := by
  obtain ⟨x, y, _, _, _, hx, _⟩ := arith_ok_view h
  exact ⟨_, by simpa using pow_int_right (k := 0) hx (by simpa using hb) h⟩

/-- `x ** 1 == x`, for any representation of the exponent one -/
theorem pow_one_right {a b v : Value} {qa : Rat} {fa fb : Bool} (ha : a.view = some (qa, fa))
    (hb : b.view = some (1, fb)) (h : Value.pow a b = .ok v) :
    v.view = some (qa, fa) := by
  simpa using pow_int_right (k := 1) ha (by simpa using hb) h

/-- an exact power with base value `q`, where `q ^ n = q` for every exponent `n` that can occur -/
theorem pow_const_left {a b v : Value} {q qb : Rat} {fa fb : Bool} (ha : a.view = some (q, fa))
    (hb : b.view = some (qb, fb)) (hq : ∀ n : Int, qb = n → (q = 0 → 0 ≤ n) → q ^ n = q)
    (h : Value.pow a b = .ok v) (hex : v.isInexact = false) : ∃ f, v.view = some (q, f) := by
  obtain ⟨x, y, hx, hy, hf⟩ := arith_ok h
  obtain ⟨rfl, _⟩ := num_of_view hx ha
  obtain ⟨rfl, _⟩ := num_of_view hy hb
  rcases powN_spec hf with ⟨n, hn, h0, hv⟩ | ⟨rfl, _⟩
  · exact ⟨_, by rw [hv, hq n hn h0]⟩
  · cases hex

/-- `0 ** x == 0` provided `x ≠ 0` (and the result is exact) -/
theorem zero_pow_left {a b v : Value} {qb : Rat} {fa fb : Bool} (ha : a.view = some (0, fa))
    (hb : b.view = some (qb, fb)) (hq : qb ≠ 0) (h : Value.pow a b = .ok v)
    (hex : v.isInexact = false) : ∃ f, v.view = some (0, f) :=
  pow_const_left ha hb (fun n hn _ => zero_zpow n (by rintro rfl; exact hq (by simpa using hn))) h hex

/-- `1 ** x == 1` (when the result is exact) -/
theorem one_pow_left {a b v : Value} {fa : Bool} (ha : a.view = some (1, fa))
    (h : Value.pow a b = .ok v)
    (hex : v.isInexact = false) : ∃ f, v.view = some (1, f) := by
  obtain ⟨x, y, _, _, _, _, hy⟩ := arith_ok_view h
  exact pow_const_left ha hy (fun n _ _ => one_zpow n) h hex

/-! ### division, power, shifts, bitwise operators -/

theorem bin_node_sound {o : BinOp} {a b : Expr} {va vb v : Value} (ha : den env a = .ok va)
    (hb : den env b = .ok vb) (h : o.apply va vb = .ok v) (hv : v.NumOrInexact) :
    ∃ w, den env (.bin o a b) = .ok w ∧ Refines w v :=
  ⟨v, by simp only [den, ha, hb, bind, Except.bind, h], Refines.refl_of hv⟩

theorem isOne_view' {e : Expr} {v : Value} {q : Rat} {f : Bool} (h1 : e.isOne = true)
    (he : den env e = .ok v) (hv : v.view = some (q, f)) : v.view = some (1, false) := by
  obtain ⟨rfl, rfl⟩ := isOne_view h1 he hv
  exact hv

theorem divD_sound {self other t : Expr} {vs vo v : Value}
    (h : divD self other = .ret t) (hs : den env self = .ok vs) (ho : den env other = .ok vo)
    (hv : Value.div vs vo = .ok v) (hex : v.isInexact = false) :
    ∃ w, den env t = .ok w ∧ Refines w v := by
  unfold divD at h
  replace h := ret_of_guard h
  split at h
  · rename_i h1
    cases h
    obtain ⟨x, y, _, _, _, hx, hy⟩ := arith_ok_view hv
    obtain ⟨hvv, hfa⟩ := div_one_right hx (isOne_view' h1 ho hy) hv hex
    exact ⟨vs, hs, Refines.of_view hx hvv (fun _ => rfl)⟩
  · cases h
    exact bin_node_sound hs ho hv (onValues_shape (o := .truediv) hv)

/-- reflected true division: the result is `other / self` -/
theorem rdivD_sound {self other t : Expr} {vs vo v : Value}
    (h : rdivD self other = .ret t) (hs : den env self = .ok vs) (ho : den env other = .ok vo)
    (hv : Value.div vo vs = .ok v) (hex : v.isInexact = false) :
    ∃ w, den env t = .ok w ∧ Refines w v := by
  unfold rdivD at h
  replace h := ret_of_guard h
  split at h
  · rename_i hz
    cases h
    obtain ⟨fl, hz0⟩ := (falsy_den other vo (by simpa [Expr.isZero] using hz) ho).of_arith_left hv
    rcases div_zero_left hz0 hv with rfl | hvv
    · simp [Value.isInexact] at hex
    · exact ⟨_, zero_den, Refines.of_view (int_view 0) (by simpa using hvv) (by simp)⟩
  · cases h
    exact bin_node_sound ho hs hv (onValues_shape (o := .truediv) hv)

/-- `x // y`; the fold `x // 1 → x` is sound only for an int/bool `x` -/
theorem floordivD_sound {self other t : Expr} {vs vo v : Value}
    (h : floordivD self other = .ret t) (hs : den env self = .ok vs) (ho : den env other = .ok vo)
    (hv : Value.floordiv vs vo = .ok v)
    (hside : other.isOne = false ∨ ∃ q, vs.view = some (q, false)) :
    ∃ w, den env t = .ok w ∧ Refines w v := by
  unfold floordivD at h
  replace h := ret_of_guard h
  split at h
  · rename_i h1
    cases h
    rcases hside with hside | ⟨q, hq⟩
    · rw [h1] at hside; cases hside
    · obtain ⟨x, y, _, _, _, hx, hy⟩ := arith_ok_view hv
      have := floordiv_one_right hq (isOne_view' h1 ho hy) hv
      exact ⟨vs, hs, Refines.of_view hq this id⟩
  · cases h
    exact bin_node_sound hs ho hv (onValues_shape (o := .floordiv) hv)

theorem rfloordivD_sound {self other t : Expr} {vs vo v : Value}
    (h : rfloordivD self other = .ret t) (hs : den env self = .ok vs) (ho : den env other = .ok vo)
    (hv : Value.floordiv vo vs = .ok v) : ∃ w, den env t = .ok w ∧ Refines w v := by
  unfold rfloordivD at h
  replace h := ret_of_guard h
  cases h
  exact bin_node_sound ho hs hv (onValues_shape (o := .floordiv) hv)

/-- `x % y`; the fold `x % 1 → 0` is sound only for an int/bool `x` -/
theorem modD_sound {self other t : Expr} {vs vo v : Value}
    (h : modD self other = .ret t) (hs : den env self = .ok vs) (ho : den env other = .ok vo)
    (hv : Value.mod vs vo = .ok v)
    (hside : other.isOne = false ∨ ∃ q, vs.view = some (q, false)) :
    ∃ w, den env t = .ok w ∧ Refines w v := by
  unfold modD at h
  replace h := ret_of_guard h
  split at h
  · rename_i h1
    cases h
    rcases hside with hside | ⟨q, hq⟩
    · rw [h1] at hside; cases hside
    · obtain ⟨x, y, _, _, _, hx, hy⟩ := arith_ok_view hv
      have := mod_one_right hq (isOne_view' h1 ho hy) hv
      exact ⟨_, zero_den, Refines.of_view (int_view 0) (by simpa using this) id⟩
  · cases h
    exact bin_node_sound hs ho hv (onValues_shape (o := .mod) hv)

theorem rmodD_sound {self other t : Expr} {vs vo v : Value}
    (h : rmodD self other = .ret t) (hs : den env self = .ok vs) (ho : den env other = .ok vo)
    (hv : Value.mod vo vs = .ok v) : ∃ w, den env t = .ok w ∧ Refines w v := by
  unfold rmodD at h
  replace h := ret_of_guard h
  cases h
  exact bin_node_sound ho hs hv (onValues_shape (o := .mod) hv)

theorem powD_sound {self other t : Expr} {vs vo v : Value}
    (h : powD self other = .ret t) (hs : den env self = .ok vs) (ho : den env other = .ok vo)
    (hv : Value.pow vs vo = .ok v) : ∃ w, den env t = .ok w ∧ Refines w v := by
  obtain ⟨x, y, _, _, _, hx, hy⟩ := arith_ok_view hv
  unfold powD at h
  replace h := ret_of_guard h
  split at h
  · rename_i hz
    cases h
    obtain ⟨fl, hz0⟩ := (falsy_den other vo (by simpa [Expr.isZero] using hz) ho).of_arith_right hv
    obtain ⟨f, hvv⟩ := pow_zero_right hz0 hv
    exact ⟨_, one_den, Refines.of_view (int_view 1) (by simpa using hvv) (by simp)⟩
  · split at h
    · rename_i h1
      cases h
      have := pow_one_right hx (isOne_view' h1 ho hy) hv
      exact ⟨vs, hs, Refines.of_view hx this id⟩
    · cases h
      exact bin_node_sound hs ho hv (onValues_shape (o := .pow) hv)

/-- reflected power `other ** self`; the fold `0 ** x → 0` is sound only for `x ≠ 0` -/
theorem rpowD_sound {self other t : Expr} {vs vo v : Value}
    (h : rpowD self other = .ret t) (hs : den env self = .ok vs) (ho : den env other = .ok vo)
    (hv : Value.pow vo vs = .ok v) (hex : v.isInexact = false)
    (hside : other.isZero = false ∨ vs.pyEq (.int 0) = false) :
    ∃ w, den env t = .ok w ∧ Refines w v := by
  obtain ⟨x, y, _, _, _, hx, hy⟩ := arith_ok_view hv
  unfold rpowD at h
  replace h := ret_of_guard h
  split at h
  · rename_i hz
    cases h
    rcases hside with hside | hside
    · rw [hz] at hside; cases hside
    · obtain ⟨fl, hz0⟩ := (falsy_den other vo (by simpa [Expr.isZero] using hz) ho).of_arith_left hv
      have hq : y.toRat ≠ 0 := by
        intro h0
        have : vs.pyEq (.int 0) = true := pyEq_zero_iff.2 ⟨_, by rw [hy, h0]⟩
        rw [this] at hside; cases hside
      obtain ⟨f, hvv⟩ := zero_pow_left hz0 hy hq hv hex
      exact ⟨_, zero_den, Refines.of_view (int_view 0) (by simpa using hvv) (by simp)⟩
  · split at h
    · rename_i h1
      cases h
      obtain ⟨f, hvv⟩ := one_pow_left (isOne_view' h1 ho hx) hv hex
      exact ⟨_, one_den, Refines.of_view (int_view 1) (by simpa using hvv) (by simp)⟩
    · cases h
      exact bin_node_sound ho hs hv (onValues_shape (o := .pow) hv)

/-! ### CPython operator dispatch -/

theorem dispatch_inv {fwd refl : Expr → Expr → Dunder} {a b t : Expr}
    (h : dispatch fwd refl a b = .ok t) :
    (a.isNode = true ∧ fwd a b = .ret t) ∨ (b.isNode = true ∧ refl b a = .ret t) := by
  unfold dispatch at h
  split at h
  · rename_i ha
    split at h
    · rename_i r hr
      cases h; exact Or.inl ⟨ha, hr⟩
    · cases h
    · split at h
      · rename_i hb
        split at h
        · rename_i r hr
          cases h; exact Or.inr ⟨hb, hr⟩
        · cases h
        · cases h
      · cases h
  · split at h
    · rename_i hb
      split at h
      · split at h
        · rename_i r hr
          cases h; exact Or.inr ⟨hb, hr⟩
        · cases h
        · cases h
      · cases h
    · cases h

def Value.isIntLike : Value → Bool
  | .int _ | .bool _ => true
  | _ => false

theorem isIntLike_view {v : Value} (h : v.isIntLike = true) : ∃ q, v.view = some (q, false) := by
  cases v <;> simp [Value.isIntLike] at h
  · exact ⟨_, rfl⟩
  · exact ⟨_, rfl⟩

/-- side conditions under which `a <op> b` on trees is claimed to agree with plain arithmetic:
exactness of the plain result where a fold is only valid on exact values, and exclusion of the
three folds that are wrong (`x // 1`, `x % 1` for non-integral `x`; `0 ** x` at `x = 0`). -/
def sideCond (o : PyBinOp) (a b : Expr) (va vb v : Value) : Bool :=
  match o with
  | .truediv => !v.isInexact
  | .floordiv => !b.isOne || va.isIntLike
  | .mod => !b.isOne || va.isIntLike
  | .pow => a.isNode || (!v.isInexact && (!a.isZero || !vb.pyEq (.int 0)))
  | _ => true

theorem mkBinD_inv {mk : Expr → Expr → Expr} {self other t : Expr}
    (h : mkBinD mk self other = .ret t) : t = mk self other := by
  unfold mkBinD at h
  split at h <;> cases h
  rfl

theorem mkBinRD_inv {mk : Expr → Expr → Expr} {self other t : Expr}
    (h : mkBinRD mk self other = .ret t) : t = mk other self := by
  unfold mkBinRD at h
  split at h <;> cases h
  rfl

theorem reduce_pair_sound {o : NaryOp} {a b : Expr} {va vb v : Value} (ha : den env a = .ok va)
    (hb : den env b = .ok vb) (h : o.apply va vb = .ok v) :
    denReduce env o [a, b] = .ok v := by
  simp only [denReduce, denFold, ha, hb, bind, Except.bind, h, pure, Except.pure]

/-- a method that only builds the node builds it from the operands in source order, whichever
operand it is called on -/
theorem dispatch_mkBin {mk : Expr → Expr → Expr} {a b t : Expr}
    (h : dispatch (mkBinD mk) (mkBinRD mk) a b = .ok t) : t = mk a b := by
  rcases dispatch_inv h with ⟨_, hd⟩ | ⟨_, hd⟩
  · exact mkBinD_inv hd
  · exact mkBinRD_inv hd

/-- the reflected power is reached only from a constant base -/
theorem rpowD_inv {self other t : Expr} (h : rpowD self other = .ret t) :
    other.isNode = false := by
  unfold rpowD at h
  cases hc : other.isConstant
  · simp only [hc, Bool.not_false, if_true, reduceCtorEq] at h
  · cases other <;> first | rfl | cases hc

theorem bin_sound {o : PyBinOp} {a b t : Expr} {va vb v : Value}
    (h : Ops.bin o a b = .ok t) (ha : den env a = .ok va) (hb : den env b = .ok vb)
    (hv : o.onValues va vb = .ok v) (hside : sideCond o a b va vb v = true) :
    ∃ w, den env t = .ok w ∧ Refines w v := by
  have hshape := onValues_shape hv
  cases o <;> simp only [Ops.bin] at h <;> simp only [PyBinOp.onValues] at hv
  case lshift | rshift => rw [dispatch_mkBin h]; exact bin_node_sound ha hb hv hshape
  case band | bor | bxor =>
    rw [dispatch_mkBin h]
    exact ⟨v, by simp only [den]; exact reduce_pair_sound ha hb hv, Refines.refl_of hshape⟩
  all_goals rcases dispatch_inv h with ⟨hn, hd⟩ | ⟨hn, hd⟩
  · exact addD_sound hd ha hb hv
  · exact raddD_sound hd hb ha hv
  · exact subD_sound hd ha hb hv
  · exact rsubD_sound hd hb ha hv
  · exact mulD_sound hd ha hb hv
  · exact rmulD_sound hd hb ha hv
  · exact divD_sound hd ha hb hv (by simpa [sideCond] using hside)
  · exact rdivD_sound hd hb ha hv (by simpa [sideCond] using hside)
  · refine floordivD_sound hd ha hb hv ?_
    simp only [sideCond, Bool.or_eq_true, Bool.not_eq_true'] at hside
    exact hside.imp id isIntLike_view
  · exact rfloordivD_sound hd hb ha hv
  · refine modD_sound hd ha hb hv ?_
    simp only [sideCond, Bool.or_eq_true, Bool.not_eq_true'] at hside
    exact hside.imp id isIntLike_view
  · exact rmodD_sound hd hb ha hv
  · exact powD_sound hd ha hb hv
  · simp only [sideCond, Bool.or_eq_true, Bool.and_eq_true, Bool.not_eq_true'] at hside
    rcases hside with hside | ⟨hex, hside⟩
    · rw [rpowD_inv hd] at hside; cases hside
    · exact rpowD_sound hd hb ha hv hex hside

/-! ### unary operators -/

theorem neg_view {a v : Value} (h : Value.neg a = .ok v) :
    ∃ q f, a.view = some (q, f) ∧ v.view = some (-q, f) := by
  unfold Value.neg at h
  split at h
  · cases h
  · split at h
    · rename_i n hn
      cases h
      have := num_some_view hn
      exact ⟨_, _, this, by simp [Value.view, Num.toRat, Num.isQ]⟩
    · rename_i r hr
      cases h
      have := num_some_view hr
      exact ⟨_, _, this, by simp [Value.view, Num.toRat, Num.isQ]⟩
    · split at h <;> cases h

theorem pos_view {a v : Value} (h : PyUnOp.onValue .pos a = .ok v) :
    ∃ q f, a.view = some (q, f) ∧ v.view = some (q, f) := by
  simp only [PyUnOp.onValue] at h
  split at h
  · cases h; exact ⟨_, _, rfl, rfl⟩
  · split at h
    · rename_i hs
      cases h
      cases hx : a.num? with
      | none => rw [hx] at hs; cases hs
      | some x => exact ⟨_, _, num_some_view hx, num_some_view hx⟩
    · cases h

theorem invert_shape {a v : Value} (h : Value.invert a = .ok v) : v.NumOrInexact := by
  unfold Value.invert at h
  split at h
  · cases h
  · split at h
    · cases h; exact noi_int _
    · split at h <;> cases h

theorem un_sound {o : PyUnOp} {e t : Expr} {ve v : Value}
    (h : Ops.un o e = .ok t) (he : den env e = .ok ve) (hv : o.onValue ve = .ok v) :
    ∃ w, den env t = .ok w ∧ Refines w v := by
  cases o <;> simp only [Ops.un] at h <;> split at h
  · simp only [PyUnOp.onValue] at hv
    obtain ⟨q, f, hve, hvv⟩ := neg_view hv
    obtain ⟨wn, fn, hwn, hwv, hf⟩ := negE_sound h he hve
    exact ⟨wn, hwn, Refines.of_view hwv hvv hf⟩
  · cases h
  · cases h
    obtain ⟨q, f, hve, hvv⟩ := pos_view hv
    exact ⟨ve, he, Refines.of_view hve hvv id⟩
  · cases h
  · cases h
    simp only [PyUnOp.onValue] at hv
    exact ⟨v, by simp only [den, he, bind, Except.bind, hv], Refines.refl_of (invert_shape hv)⟩
  · cases h

/-! ## Congruence of plain arithmetic for the refinement relation: refined operands give refined results -/

/-- tree-side numeral `x'` against plain-side numeral `x`: equal, or an int standing for the
Fraction of the same value -/
def NumRef (x' x : Num) : Prop := x' = x ∨ ∃ n : Int, x' = .i n ∧ x = .q (n : Rat)

theorem Refines.numRef {w v : Value} {x : Num} (h : Refines w v) (hx : v.num? = some x) :
    ∃ x', w.num? = some x' ∧ NumRef x' x := by
  have hv := num_some_view hx
  obtain ⟨fw, hw, hf⟩ := h.view_right hv
  obtain ⟨x', hx', hq, hfq⟩ := view_iff_num.1 hw
  refine ⟨x', hx', ?_⟩
  rcases x' with n' | r' <;> rcases x with n | r <;> simp only [Num.toRat, Num.isQ] at hq hfq hf
  · left; congr 1; exact_mod_cast hq
  · right; exact ⟨n', rfl, by rw [hq]⟩
  · subst hfq; simp at hf
  · left; rw [hq]

/-- refined operands of `arith`, as numbers -/
theorem Refines.arith {f : Num → Num → R} {wa wb va vb v : Value} (ha : Refines wa va)
    (hb : Refines wb vb) (h : arith f va vb = .ok v) :
    ∃ x' x y' y, NumRef x' x ∧ NumRef y' y ∧ f x y = .ok v ∧ arith f wa wb = f x' y' := by
  obtain ⟨x, y, hx, hy, hf⟩ := arith_ok h
  obtain ⟨x', hx', hxr⟩ := ha.numRef hx
  obtain ⟨y', hy', hyr⟩ := hb.numRef hy
  exact ⟨x', x, y', y, hxr, hyr, hf, arith_num hx' hy'⟩

/-- result of the tree-side operation against the plain result `v` -/
def Res (w v : Value) : Prop := Refines w v ∨ w = .inexact

/-- `arith f` is monotone for refinement when `f` respects an int standing for the Fraction of the
same value: on the left (`H1`, the right operand refined as well) and on the right (`H2`) -/
theorem arith_congr {f : Num → Num → R}
    (hshape : ∀ x y v, f x y = .ok v → v.NumOrInexact)
    (H1 : ∀ (n : Int) (y' y : Num) (v : Value), NumRef y' y → f (.q (n : Rat)) y = .ok v →
      ∃ w, f (.i n) y' = .ok w ∧ Res w v)
    (H2 : ∀ (x : Num) (m : Int) (v : Value), f x (.q (m : Rat)) = .ok v →
      ∃ w, f x (.i m) = .ok w ∧ Res w v)
    {wa wb va vb v : Value} (ha : Refines wa va) (hb : Refines wb vb)
    (h : arith f va vb = .ok v) : ∃ w, arith f wa wb = .ok w ∧ Res w v := by
  obtain ⟨x', x, y', y, hxr, hyr, hf, hw⟩ := ha.arith hb h
  rw [hw]
  rcases hxr with rfl | ⟨n, rfl, rfl⟩
  · rcases hyr with rfl | ⟨m, rfl, rfl⟩
    · exact ⟨v, hf, Or.inl (Refines.refl_of (hshape _ _ _ hf))⟩
    · exact H2 _ _ _ hf
  · exact H1 _ _ _ _ hyr hf

theorem Res.int_frac {n : Int} {q : Rat} (h : (n : Rat) = q) : Res (.int n) (.frac q) :=
  Or.inl (Refines.of_view (int_view n) (by rw [h]; rfl) (by simp))

theorem Res.same {v : Value} (h : v.NumOrInexact) : Res v v := Or.inl (Refines.refl_of h)

theorem numRef_toRat {y' y : Num} (h : NumRef y' y) : y'.toRat = y.toRat := by
  rcases h with rfl | ⟨n, rfl, rfl⟩ <;> rfl

theorem numRef_isQ {x' x : Num} (h : NumRef x' x) (hq : x'.isQ = true) : x.isQ = true := by
  rcases h with rfl | ⟨n, rfl, rfl⟩
  · exact hq
  · rfl

theorem div_congr {wa wb va vb v : Value} (ha : Refines wa va) (hb : Refines wb vb)
    (h : Value.div va vb = .ok v) : ∃ w, Value.div wa wb = .ok w ∧ Res w v := by
  obtain ⟨x', x, y', y, hx, hy, hf, hw⟩ := ha.arith hb h
  rw [Value.div, hw, divN_eq, numRef_toRat hx, numRef_toRat hy]
  rw [divN_eq] at hf
  split at hf
  · cases hf
  · rename_i hy0
    rw [if_neg hy0]
    cases hq : x'.isQ || y'.isQ
    · exact ⟨.inexact, rfl, Or.inr rfl⟩
    · have : (x.isQ || y.isQ) = true := by
        simp only [Bool.or_eq_true] at hq ⊢
        exact hq.imp (numRef_isQ hx) (numRef_isQ hy)
      rw [this] at hf
      cases hf
      exact ⟨_, rfl, Res.same (noi_frac _)⟩

theorem floordiv_congr {wa wb va vb v : Value} (ha : Refines wa va) (hb : Refines wb vb)
    (h : Value.floordiv va vb = .ok v) : ∃ w, Value.floordiv wa wb = .ok w ∧ Res w v := by
  obtain ⟨x', x, y', y, hx, hy, hf, hw⟩ := ha.arith hb h
  refine ⟨v, ?_, Res.same (floordivN_shape hf)⟩
  rw [Value.floordiv, hw, floordivN_eq, numRef_toRat hx, numRef_toRat hy, ← floordivN_eq, hf]

theorem mod_congr {wa wb va vb v : Value} (ha : Refines wa va) (hb : Refines wb vb)
    (h : Value.mod va vb = .ok v) : ∃ w, Value.mod wa wb = .ok w ∧ Res w v := by
  obtain ⟨x', x, y', y, hx, hy, hf, hw⟩ := ha.arith hb h
  have hsh := modN_shape hf
  rw [Value.mod, hw, modN_eq, numRef_toRat hx, numRef_toRat hy]
  rw [modN_eq] at hf
  split at hf
  · cases hf
  · rename_i hy0
    rw [if_neg hy0]
    cases hq : x'.isQ || y'.isQ
    · -- both operands of the tree are ints: the remainder is an int
      simp only [Bool.or_eq_false_iff] at hq
      obtain ⟨n, rfl⟩ := num_i_of hq.1
      obtain ⟨m, rfl⟩ := num_i_of hq.2
      refine ⟨_, rfl, ?_⟩
      split at hf <;> cases hf
      · apply Res.int_frac
        rw [← numRef_toRat hx, ← numRef_toRat hy]
        simp only [Num.toRat]
        rw [show (n : Rat) - m * (((n : Rat) / m).floor : Rat) = ((n - m * ((n : Rat) / m).floor : Int) : Rat) by push_cast; ring, rat_floor_eq, Int.floor_intCast]
      · exact Res.same hsh
    · have : (x.isQ || y.isQ) = true := by
        simp only [Bool.or_eq_true] at hq ⊢
        exact hq.imp (numRef_isQ hx) (numRef_isQ hy)
      rw [this] at hf
      cases hf
      exact ⟨_, rfl, Res.same hsh⟩

theorem fracPowInt_int {n b : Int} {v : Value} (h : fracPowInt (n : Rat) b = .ok v) :
    ∃ w, powN (.i n) (.i b) = .ok w ∧ Res w v := by
  unfold fracPowInt at h
  simp only [powN]
  split at h
  · cases h
  · rename_i hl
    rw [if_neg hl]
    split at h
    · rename_i hb
      cases h
      rw [if_pos hb]
      exact ⟨_, rfl, Res.int_frac (by push_cast; rfl)⟩
    · rename_i hb
      rw [if_neg hb]
      split at h
      · cases h
      · rename_i hn
        cases h
        have : n ≠ 0 := by intro h0; subst h0; simp at hn
        rw [if_neg this]
        exact ⟨_, rfl, Or.inr rfl⟩

theorem numRef_i {y' : Num} {b : Int} (h : NumRef y' (.i b)) : y' = .i b := by
  rcases h with rfl | ⟨n, _, h⟩
  · rfl
  · cases h

theorem pow_congr {wa wb va vb v : Value} (ha : Refines wa va) (hb : Refines wb vb)
    (h : Value.pow va vb = .ok v) : ∃ w, Value.pow wa wb = .ok w ∧ Res w v := by
  refine arith_congr (fun x y v h => powN_shape h) ?_ ?_ ha hb h
  · intro n y' y v hy hf
    have hsh := powN_shape hf
    rcases y with b | s
    · obtain rfl := numRef_i hy
      simp only [powN] at hf
      exact fracPowInt_int hf
    · simp only [powN] at hf
      rcases hy with rfl | ⟨m, rfl, hs⟩
      · simp only [powN]
        split at hf
        · rename_i hden
          by_cases hnum : s.num ≥ 0
          · rw [if_pos ⟨hden, hnum⟩]
            unfold fracPowInt at hf
            split at hf
            · cases hf
            · rename_i hl
              rw [if_neg hl]
              cases hf
              exact ⟨_, rfl, Res.int_frac (by push_cast; rfl)⟩
          · rw [if_neg (fun h => hnum h.2), if_pos hden]
            exact ⟨v, hf, Res.same hsh⟩
        · rename_i hden
          rw [if_neg (fun h => hden h.1), if_neg hden]
          exact ⟨v, hf, Res.same hsh⟩
      · cases hs
        have hden : ((m : Rat)).den = 1 := Rat.den_intCast m
        have hnum : ((m : Rat)).num = m := Rat.num_intCast m
        generalize (m : Rat) = s at hf hden hnum
        subst hnum
        rw [if_pos hden] at hf
        exact fracPowInt_int hf
  · intro x m v hf
    have hsh := powN_shape hf
    have hden : ((m : Rat)).den = 1 := Rat.den_intCast m
    have hnum : ((m : Rat)).num = m := Rat.num_intCast m
    generalize (m : Rat) = s at hf hden hnum
    subst hnum
    rcases x with a | a
    · simp only [powN] at hf ⊢
      by_cases hm : s.num ≥ 0
      · rw [if_pos ⟨hden, hm⟩] at hf
        split at hf
        · cases hf
        · rename_i hl
          cases hf
          exact ⟨_, by rw [if_neg hl, if_pos hm]; rfl, Res.same (noi_int _)⟩
      · rw [if_neg (fun h => hm h.2), if_pos hden] at hf
        exact fracPowInt_int hf
    · simp only [powN] at hf ⊢
      rw [if_pos hden] at hf
      exact ⟨v, hf, Res.same hsh⟩

theorem intOnly_congr {g : Int → Int → R} (hg : ∀ a b v, g a b = .ok v → v.NumOrInexact)
    {wa wb va vb v : Value} (ha : Refines wa va) (hb : Refines wb vb)
    (h : arith (intOnly g) va vb = .ok v) : ∃ w, arith (intOnly g) wa wb = .ok w ∧ Res w v := by
  refine arith_congr (fun x y v h => intOnly_shape hg h) ?_ ?_ ha hb h
  · intro n y' y v _ hf
    cases y <;> cases hf
  · intro x m v hf
    cases x <;> cases hf

/-- `+`, `-`, `*` (see `ring_spec`) are monotone for refinement -/
theorem ring_congr {f : Num → Num → R} {gi : Int → Int → Int} {g : Rat → Rat → Rat}
    (hf : ∀ x y, f x y = match x, y with
      | .i a, .i b => pure (.int (gi a b))
      | x, y => pure (.frac (g x.toRat y.toRat)))
    (cast : ∀ a b : Int, ((gi a b : Int) : Rat) = g a b)
    {wa wb va vb v : Value} (ha : Refines wa va) (hb : Refines wb vb)
    (h : arith f va vb = .ok v) : ∃ w, arith f wa wb = .ok w ∧ Res w v := by
  obtain ⟨qa, fa, qb, fb, hva, hvb, hvv⟩ := ring_view hf cast h
  obtain ⟨fwa, hwa, hfa⟩ := ha.view_right hva
  obtain ⟨fwb, hwb, hfb⟩ := hb.view_right hvb
  obtain ⟨w, hw, hwv⟩ := ring_spec hf cast hwa hwb
  refine ⟨w, hw, Or.inl (Refines.of_view hwv hvv ?_)⟩
  intro hh
  simp only [Bool.or_eq_true] at hh ⊢
  exact hh.imp hfa hfb

/-! bitwise operators: via the integer view -/

def b2i (b : Bool) : Int := if b then 1 else 0

def Value.int? : Value → Option Int
  | .int n => some n
  | .bool b => some (b2i b)
  | _ => Option.none

theorem int?_view {v : Value} {k : Int} (h : v.int? = some k) : v.view = some ((k : Rat), false) := by
  cases v <;> simp only [Value.int?, Option.some.injEq, reduceCtorEq] at h <;> subst h <;> rfl

theorem int?_num {v : Value} {k : Int} (h : v.int? = some k) : v.num? = some (.i k) := by
  cases v <;> simp only [Value.int?, Option.some.injEq, reduceCtorEq] at h <;> subst h <;> rfl

theorem num_int? {v : Value} {k : Int} (h : v.num? = some (.i k)) : v.int? = some k := by
  cases v <;> simp only [Value.num?, Option.some.injEq, Num.i.injEq, reduceCtorEq] at h <;>
    subst h <;> rfl

theorem Refines.int? {w v : Value} {k : Int} (h : Refines w v) (hv : v.int? = some k) :
    w.int? = some k := by
  obtain ⟨x', hx', hr⟩ := h.numRef (int?_num hv)
  rcases hr with rfl | ⟨n, _, h⟩
  · exact num_int? hx'
  · cases h

theorem Refines.of_int? {w v : Value} {k : Int} (hw : w.int? = some k) (hv : v.int? = some k) :
    Refines w v := Refines.of_view (int?_view hw) (int?_view hv) id

theorem bitop_ok {fi : Int → Int → Int} {fb : Bool → Bool → Bool}
    (hc : ∀ x y, fi (b2i x) (b2i y) = b2i (fb x y)) {a b v : Value}
    (h : bitop fi fb a b = .ok v) :
    ∃ m n, a.int? = some m ∧ b.int? = some n ∧ v.int? = some (fi m n) := by
  unfold bitop at h
  split at h
  · cases h
    exact ⟨_, _, rfl, rfl, by simp [Value.int?, hc]⟩
  · obtain ⟨x, y, hx, hy, hf⟩ := arith_ok h
    rcases x with m | r <;> rcases y with n | s <;> simp only [intOnly] at hf <;> cases hf
    exact ⟨m, n, num_int? hx, num_int? hy, rfl⟩

theorem bitop_of_int {fi : Int → Int → Int} {fb : Bool → Bool → Bool}
    (hc : ∀ x y, fi (b2i x) (b2i y) = b2i (fb x y)) {a b : Value} {m n : Int}
    (ha : a.int? = some m) (hb : b.int? = some n) :
    ∃ v, bitop fi fb a b = .ok v ∧ v.int? = some (fi m n) := by
  unfold bitop
  split
  · simp only [Value.int?, Option.some.injEq] at ha hb
    subst ha; subst hb
    exact ⟨_, rfl, by simp [Value.int?, hc]⟩
  · rw [arith_num (int?_num ha) (int?_num hb)]
    exact ⟨_, rfl, rfl⟩

theorem bitop_congr {fi : Int → Int → Int} {fb : Bool → Bool → Bool}
    (hc : ∀ x y, fi (b2i x) (b2i y) = b2i (fb x y)) {wa wb va vb v : Value}
    (ha : Refines wa va) (hb : Refines wb vb) (h : bitop fi fb va vb = .ok v) :
    ∃ w, bitop fi fb wa wb = .ok w ∧ Res w v := by
  obtain ⟨m, n, hm, hn, hv⟩ := bitop_ok hc h
  obtain ⟨w, hw, hwv⟩ := bitop_of_int hc (ha.int? hm) (hb.int? hn)
  exact ⟨w, hw, Or.inl (Refines.of_int? hwv hv)⟩

theorem land_compat : ∀ x y, Int.land' (b2i x) (b2i y) = b2i (x && y) := by decide
theorem lor_compat : ∀ x y, Int.lor' (b2i x) (b2i y) = b2i (x || y) := by decide
theorem xor_compat : ∀ x y, Int.xor' (b2i x) (b2i y) = b2i (x != y) := by decide

/-- every binary operator is monotone for refinement: refined operands give a refined result,
or the float abstraction -/
theorem onValues_congr {o : PyBinOp} {wa wb va vb v : Value} (ha : Refines wa va)
    (hb : Refines wb vb) (h : o.onValues va vb = .ok v) :
    ∃ w, o.onValues wa wb = .ok w ∧ Res w v := by
  cases o <;> simp only [PyBinOp.onValues] at h ⊢
  · exact ring_congr (fun _ _ => rfl) Int.cast_add ha hb h
  · exact ring_congr (fun _ _ => rfl) Int.cast_sub ha hb h
  · exact ring_congr (fun _ _ => rfl) Int.cast_mul ha hb h
  · exact div_congr ha hb h
  · exact floordiv_congr ha hb h
  · exact mod_congr ha hb h
  · exact pow_congr ha hb h
  · exact intOnly_congr shift_shape ha hb h
  · exact intOnly_congr shift_shape ha hb h
  · exact bitop_congr land_compat ha hb h
  · exact bitop_congr lor_compat ha hb h
  · exact bitop_congr xor_compat ha hb h


/-! ## Two-level soundness: operands of the tree refine the operands of the plain computation -/

theorem Res.of_refines {w w' v : Value} (h1 : Refines w w') (h2 : Res w' v) : Res w v := by
  rcases h2 with h2 | rfl
  · exact Or.inl (h1.trans h2)
  · rcases h1 with ⟨rfl, _⟩ | ⟨q, fw, fv, _, hv, _⟩
    · exact Or.inr rfl
    · simp [Value.view] at hv

theorem div_view {a b v : Value} (h : Value.div a b = .ok v) :
    ∃ qa fa qb fb, a.view = some (qa, fa) ∧ b.view = some (qb, fb) ∧
      (v = .inexact ∨ v.view = some (qa / qb, true)) := by
  obtain ⟨x, y, _, _, hf, hx, hy⟩ := arith_ok_view h
  refine ⟨_, _, _, _, hx, hy, ?_⟩
  rw [divN_eq] at hf
  split at hf
  · cases hf
  · split at hf <;> cases hf
    · exact .inr rfl
    · exact .inl rfl

theorem not_inexact_view {v : Value} (h : v = .inexact ∨ ∃ q f, v.view = some (q, f))
    (hex : v.isInexact = false) : ∃ q f, v.view = some (q, f) := by
  rcases h with rfl | h
  · simp [Value.isInexact] at hex
  · exact h

theorem bin_node_congr {o : BinOp} {a b : Expr} {wa wb w : Value} (ha : den env a = .ok wa)
    (hb : den env b = .ok wb) (h : o.apply wa wb = .ok w) :
    den env (.bin o a b) = .ok w := by
  simp only [den, ha, hb, bind, Except.bind, h]

theorem divD_sound2 {self other t : Expr} {ws wo vs vo v : Value}
    (h : divD self other = .ret t) (hs : den env self = .ok ws) (ho : den env other = .ok wo)
    (hrs : Refines ws vs) (hro : Refines wo vo)
    (hv : Value.div vs vo = .ok v) (hex : v.isInexact = false) :
    ∃ w, den env t = .ok w ∧ Res w v := by
  unfold divD at h
  replace h := ret_of_guard h
  split at h
  · rename_i h1
    cases h
    obtain ⟨qs, fs, qo, fo, hvs, hvo, hvv⟩ := div_view hv
    obtain ⟨fws, hws, _⟩ := hrs.view_right hvs
    obtain ⟨fwo, hwo, _⟩ := hro.view_right hvo
    obtain ⟨rfl, _⟩ := isOne_view h1 ho hwo
    rcases hvv with rfl | hvv
    · simp [Value.isInexact] at hex
    · exact ⟨ws, hs, Or.inl (Refines.of_view hws (by simpa using hvv) (fun _ => rfl))⟩
  · cases h
    obtain ⟨w, hw, hres⟩ := div_congr hrs hro hv
    exact ⟨w, bin_node_congr hs ho hw, hres⟩

theorem rdivD_sound2 {self other t : Expr} {ws wo vs vo v : Value}
    (h : rdivD self other = .ret t) (hs : den env self = .ok ws) (ho : den env other = .ok wo)
    (hrs : Refines ws vs) (hro : Refines wo vo)
    (hv : Value.div vo vs = .ok v) (hex : v.isInexact = false) :
    ∃ w, den env t = .ok w ∧ Res w v := by
  unfold rdivD at h
  replace h := ret_of_guard h
  split at h
  · rename_i hz
    cases h
    obtain ⟨qo, fo, qs, fs, hvo, hvs, hvv⟩ := div_view hv
    obtain ⟨fwo, hwo, _⟩ := hro.view_right hvo
    have := (falsy_den other wo (by simpa [Expr.isZero] using hz) ho).view hwo
    subst this
    rcases hvv with rfl | hvv
    · simp [Value.isInexact] at hex
    · exact ⟨_, zero_den, Or.inl (Refines.of_view (int_view 0) (by simpa using hvv) (by simp))⟩
  · cases h
    obtain ⟨w, hw, hres⟩ := div_congr hro hrs hv
    exact ⟨w, bin_node_congr ho hs hw, hres⟩

theorem powD_sound2 {self other t : Expr} {ws wo vs vo v : Value}
    (h : powD self other = .ret t) (hs : den env self = .ok ws) (ho : den env other = .ok wo)
    (hrs : Refines ws vs) (hro : Refines wo vo)
    (hv : Value.pow vs vo = .ok v) : ∃ w, den env t = .ok w ∧ Res w v := by
  obtain ⟨x, y, _, _, _, hvs, hvo⟩ := arith_ok_view hv
  obtain ⟨fws, hws, hfs⟩ := hrs.view_right hvs
  obtain ⟨fwo, hwo, _⟩ := hro.view_right hvo
  unfold powD at h
  replace h := ret_of_guard h
  split at h
  · rename_i hz
    cases h
    have h0 := (falsy_den other wo (by simpa [Expr.isZero] using hz) ho).view hwo
    rw [h0] at hvo
    obtain ⟨f, hvv⟩ := pow_zero_right hvo hv
    exact ⟨_, one_den, Or.inl (Refines.of_view (int_view 1) (by simpa using hvv) (by simp))⟩
  · split at h
    · rename_i h1
      cases h
      obtain ⟨h1', _⟩ := isOne_view h1 ho hwo
      rw [h1'] at hvo
      have := pow_one_right hvs hvo hv
      exact ⟨ws, hs, Or.inl (Refines.of_view hws this hfs)⟩
    · cases h
      obtain ⟨w, hw, hres⟩ := pow_congr hrs hro hv
      exact ⟨w, bin_node_congr hs ho hw, hres⟩

theorem rpowD_sound2 {self other t : Expr} {ws wo vs vo v : Value}
    (h : rpowD self other = .ret t) (hs : den env self = .ok ws) (ho : den env other = .ok wo)
    (hrs : Refines ws vs) (hro : Refines wo vo)
    (hv : Value.pow vo vs = .ok v) (hex : v.isInexact = false)
    (hside : other.isZero = false ∨ vs.pyEq (.int 0) = false) :
    ∃ w, den env t = .ok w ∧ Res w v := by
  obtain ⟨x, y, _, _, _, hvo, hvs⟩ := arith_ok_view hv
  obtain ⟨fwo, hwo, _⟩ := hro.view_right hvo
  unfold rpowD at h
  replace h := ret_of_guard h
  split at h
  · rename_i hz
    cases h
    rcases hside with hside | hside
    · rw [hz] at hside; cases hside
    · have h0 := (falsy_den other wo (by simpa [Expr.isZero] using hz) ho).view hwo
      rw [h0] at hvo
      have hq : y.toRat ≠ 0 := by
        intro h0
        have : vs.pyEq (.int 0) = true := pyEq_zero_iff.2 ⟨_, by rw [hvs, h0]⟩
        rw [this] at hside; cases hside
      obtain ⟨f, hvv⟩ := zero_pow_left hvo hvs hq hv hex
      exact ⟨_, zero_den, Or.inl (Refines.of_view (int_view 0) (by simpa using hvv) (by simp))⟩
  · split at h
    · rename_i h1
      cases h
      obtain ⟨h1', _⟩ := isOne_view h1 ho hwo
      rw [h1'] at hvo
      obtain ⟨f, hvv⟩ := one_pow_left hvo hv hex
      exact ⟨_, one_den, Or.inl (Refines.of_view (int_view 1) (by simpa using hvv) (by simp))⟩
    · cases h
      obtain ⟨w, hw, hres⟩ := pow_congr hro hrs hv
      exact ⟨w, bin_node_congr ho hs hw, hres⟩

theorem isIntLike_iff_int? {v : Value} : v.isIntLike = true ↔ ∃ k, v.int? = some k := by
  cases v <;> simp [Value.isIntLike, Value.int?]

theorem Refines.isIntLike {w v : Value} (h : Refines w v) (hv : v.isIntLike = true) :
    w.isIntLike = true := by
  obtain ⟨k, hk⟩ := isIntLike_iff_int?.1 hv
  exact isIntLike_iff_int?.2 ⟨k, h.int? hk⟩

/-- Soundness of a binary operator when the operands of the tree only *refine* the operands of
the plain computation.  The side condition is stated on the plain values.  Where it carries over
to the values of the tree (`generic`), `bin_sound` applies to those and `onValues_congr` closes the
gap.  For `/` and `**` it asks for an exact result, which the tree side need not have (`2 / 1` on
ints is a float where `Fraction(2) / 1` is exact): these go through the `*_sound2` lemmas. -/
theorem bin_sound_refines {o : PyBinOp} {a b t : Expr} {wa wb va vb v : Value}
    (h : Ops.bin o a b = .ok t) (ha : den env a = .ok wa) (hb : den env b = .ok wb)
    (hra : Refines wa va) (hrb : Refines wb vb)
    (hv : o.onValues va vb = .ok v) (hside : sideCond o a b va vb v = true) :
    ∃ w, den env t = .ok w ∧ Res w v := by
  have generic : (∀ w', sideCond o a b wa wb w' = true) → ∃ w, den env t = .ok w ∧ Res w v := by
    intro hs
    obtain ⟨w', hw', hres⟩ := onValues_congr hra hrb hv
    obtain ⟨w, hw, href⟩ := bin_sound h ha hb hw' (hs w')
    exact ⟨w, hw, Res.of_refines href hres⟩
  cases o
  case truediv =>
    simp only [Ops.bin] at h
    simp only [PyBinOp.onValues] at hv
    have hex : v.isInexact = false := by simpa [sideCond] using hside
    rcases dispatch_inv h with ⟨_, hd⟩ | ⟨_, hd⟩
    · exact divD_sound2 hd ha hb hra hrb hv hex
    · exact rdivD_sound2 hd hb ha hrb hra hv hex
  case pow =>
    simp only [Ops.bin] at h
    simp only [PyBinOp.onValues] at hv
    rcases dispatch_inv h with ⟨_, hd⟩ | ⟨_, hd⟩
    · exact powD_sound2 hd ha hb hra hrb hv
    · simp only [sideCond, Bool.or_eq_true, Bool.and_eq_true, Bool.not_eq_true'] at hside
      rcases hside with hside | ⟨hex, hside⟩
      · rw [rpowD_inv hd] at hside; cases hside
      · exact rpowD_sound2 hd hb ha hrb hra hv hex hside
  case floordiv | mod =>
    apply generic
    intro w'
    simp only [sideCond, Bool.or_eq_true, Bool.not_eq_true'] at hside ⊢
    exact hside.imp id hra.isIntLike
  all_goals exact generic (fun _ => rfl)

/-! ### unary operators, two-level -/

theorem neg_spec {a : Value} {q : Rat} {f : Bool} (ha : a.view = some (q, f)) :
    ∃ r, Value.neg a = .ok r ∧ r.view = some (-q, f) := by
  rcases view_cases ha with ⟨n, rfl, rfl, rfl⟩ | ⟨b, rfl, rfl, rfl⟩ | ⟨rfl, rfl⟩
  · exact ⟨.int (-n), rfl, by simp [Value.view]⟩
  · exact ⟨.int (-(if b then 1 else 0)), rfl, by simp [Value.view]⟩
  · exact ⟨.frac (-q), rfl, rfl⟩

theorem pos_spec {a : Value} {q : Rat} {f : Bool} (ha : a.view = some (q, f)) :
    ∃ r, PyUnOp.onValue .pos a = .ok r ∧ r.view = some (q, f) := by
  rcases view_cases ha with ⟨n, rfl, rfl, rfl⟩ | ⟨b, rfl, rfl, rfl⟩ | ⟨rfl, rfl⟩
  · exact ⟨.int n, rfl, rfl⟩
  · exact ⟨.int (if b then 1 else 0), rfl, rfl⟩
  · exact ⟨.frac q, rfl, rfl⟩

theorem invert_int? {a v : Value} (h : Value.invert a = .ok v) :
    ∃ n, a.int? = some n ∧ v = .int (-n - 1) := by
  unfold Value.invert at h
  split at h
  · cases h
  · split at h
    · rename_i n hn
      cases h
      exact ⟨n, num_int? hn, rfl⟩
    · split at h <;> cases h

theorem invert_of_int? {a : Value} {n : Int} (h : a.int? = some n) :
    Value.invert a = .ok (.int (-n - 1)) := by
  cases a <;> simp only [Value.int?, Option.some.injEq, reduceCtorEq] at h <;> subst h <;> rfl

theorem un_congr {o : PyUnOp} {we ve v : Value} (hr : Refines we ve) (h : o.onValue ve = .ok v) :
    ∃ w, o.onValue we = .ok w ∧ Refines w v := by
  cases o
  · simp only [PyUnOp.onValue] at h ⊢
    obtain ⟨q, f, hve, hvv⟩ := neg_view h
    obtain ⟨fw, hwe, hf⟩ := hr.view_right hve
    obtain ⟨r, hr', hrv⟩ := neg_spec hwe
    exact ⟨r, hr', Refines.of_view hrv hvv hf⟩
  · obtain ⟨q, f, hve, hvv⟩ := pos_view h
    obtain ⟨fw, hwe, hf⟩ := hr.view_right hve
    obtain ⟨r, hr', hrv⟩ := pos_spec hwe
    exact ⟨r, hr', Refines.of_view hrv hvv hf⟩
  · simp only [PyUnOp.onValue] at h ⊢
    obtain ⟨n, hn, rfl⟩ := invert_int? h
    exact ⟨_, invert_of_int? (hr.int? hn), Refines.refl_of (noi_int _)⟩

theorem un_sound_refines {o : PyUnOp} {e t : Expr} {we ve v : Value}
    (h : Ops.un o e = .ok t) (he : den env e = .ok we) (hr : Refines we ve)
    (hv : o.onValue ve = .ok v) : ∃ w, den env t = .ok w ∧ Refines w v := by
  obtain ⟨w', hw', href'⟩ := un_congr hr hv
  obtain ⟨w, hw, href⟩ := un_sound h he hw'
  exact ⟨w, hw, href.trans href'⟩

/-! ## Operator programs -/

/-- the same computation on plain Python numbers: leaves are evaluated, operators applied to
the values -/
def OpProg.plain (env : Env) : OpProg → R
  | .leaf e => den env e
  | .bin o p q => do
      let a ← OpProg.plain env p
      let b ← OpProg.plain env q
      o.onValues a b
  | .un o p => do
      let a ← OpProg.plain env p
      o.onValue a

/-- `sideCond` holds at every binary operator of the program (in particular the three wrong folds
`x // 1`, `x % 1` on a non-integral `x`, `0 ** x` at `x = 0` are not exercised, and quotients
are exact). -/
def OpProg.sideOK (env : Env) : OpProg → Bool
  | .leaf _ => true
  | .bin o p q => OpProg.sideOK env p && OpProg.sideOK env q &&
      (match p.build, q.build, OpProg.plain env p, OpProg.plain env q with
       | .ok a, .ok b, .ok va, .ok vb =>
         (match o.onValues va vb with
          | .ok v => sideCond o a b va vb v
          | _ => true)
       | _, _, _, _ => true)
  | .un _ p => OpProg.sideOK env p

/-- the result is not the float abstraction (an error passes) -/
def notInexactR : R → Bool
  | .ok w => !w.isInexact
  | _ => true

/-- the model does not abstain: no tree built for an operator node evaluates to the float
abstraction -/
def OpProg.treeExact (env : Env) : OpProg → Bool
  | .leaf _ => true
  | .bin o p q => OpProg.treeExact env p && OpProg.treeExact env q &&
      (match (OpProg.bin o p q).build with
       | .ok t => notInexactR (den env t)
       | _ => true)
  | .un o p => OpProg.treeExact env p &&
      (match (OpProg.un o p).build with
       | .ok t => notInexactR (den env t)
       | _ => true)

theorem toValue_den {c : Const} {v : Value} (h : c.toValue? = some v) :
    den env (.const c) = .ok v := by
  cases c <;> simp only [Const.toValue?, Option.some.injEq, reduceCtorEq] at h <;> subst h <;> rfl

theorem toConst_den {v : Value} {c : Const} (h : v.toConst? = some c) :
    den env (.const c) = .ok v ∧ v.isInexact = false := by
  cases v <;> simp only [Value.toConst?, Option.some.injEq, reduceCtorEq] at h <;> subst h <;>
    exact ⟨rfl, rfl⟩

theorem Res.refines_of_exact {w v : Value} (h : Res w v) (hex : w.isInexact = false) :
    Refines w v := by
  rcases h with h | rfl
  · exact h
  · simp [Value.isInexact] at hex

theorem onValues_operands {o : PyBinOp} {a b v : Value} (h : o.onValues a b = .ok v) :
    a.NumOrInexact ∧ b.NumOrInexact := by
  have key : ∀ {f : Num → Num → R}, arith f a b = .ok v → a.NumOrInexact ∧ b.NumOrInexact := by
    intro f h
    obtain ⟨x, y, _, _, _, hx, hy⟩ := arith_ok_view h
    exact ⟨Or.inr ⟨_, _, hx⟩, Or.inr ⟨_, _, hy⟩⟩
  cases o <;> simp only [PyBinOp.onValues] at h
  case band =>
    obtain ⟨m, n, hm, hn, _⟩ := bitop_ok land_compat h
    exact ⟨Or.inr ⟨_, _, int?_view hm⟩, Or.inr ⟨_, _, int?_view hn⟩⟩
  case bor =>
    obtain ⟨m, n, hm, hn, _⟩ := bitop_ok lor_compat h
    exact ⟨Or.inr ⟨_, _, int?_view hm⟩, Or.inr ⟨_, _, int?_view hn⟩⟩
  case bxor =>
    obtain ⟨m, n, hm, hn, _⟩ := bitop_ok xor_compat h
    exact ⟨Or.inr ⟨_, _, int?_view hm⟩, Or.inr ⟨_, _, int?_view hn⟩⟩
  all_goals exact key h

theorem onValue_operand {o : PyUnOp} {a v : Value} (h : o.onValue a = .ok v) :
    a.NumOrInexact ∧ v.NumOrInexact := by
  cases o
  · simp only [PyUnOp.onValue] at h
    obtain ⟨q, f, ha, hv⟩ := neg_view h
    exact ⟨Or.inr ⟨_, _, ha⟩, Or.inr ⟨_, _, hv⟩⟩
  · obtain ⟨q, f, ha, hv⟩ := pos_view h
    exact ⟨Or.inr ⟨_, _, ha⟩, Or.inr ⟨_, _, hv⟩⟩
  · simp only [PyUnOp.onValue] at h
    obtain ⟨n, hn, rfl⟩ := invert_int? h
    exact ⟨Or.inr ⟨_, _, int?_view hn⟩, noi_int _⟩

theorem notInexactR_ok {w : Value} (h : notInexactR (.ok w) = true) : w.isInexact = false := by
  simpa [notInexactR] using h

/-- Main induction: the tree built by an operator program refines the plain value.  `v.NumOrInexact`
is only needed for a leaf (`Refines` is not reflexive on other values); an operator returns
nothing else. -/
theorem program_refines : ∀ (p : OpProg) (t : Expr) (v : Value), p.build = .ok t →
    OpProg.plain env p = .ok v → OpProg.sideOK env p = true → OpProg.treeExact env p = true →
    v.NumOrInexact → ∃ w, den env t = .ok w ∧ Refines w v := by
  intro p
  induction p with
  | leaf e =>
    intro t v hb hp _ _ hv
    simp only [OpProg.build, pure, Except.pure, Except.ok.injEq] at hb
    subst hb
    simp only [OpProg.plain] at hp
    exact ⟨v, hp, Refines.refl_of hv⟩
  | bin o p q ihp ihq =>
    intro t v hb hp hs hte _
    have hb0 := hb
    obtain ⟨a, hpa, hb⟩ := Except.exists_of_bind_eq_ok hb
    obtain ⟨b, hqb, hb⟩ := Except.exists_of_bind_eq_ok hb
    obtain ⟨va, hpv, hp⟩ := Except.exists_of_bind_eq_ok hp
    obtain ⟨vb, hqv, hp⟩ := Except.exists_of_bind_eq_ok hp
    simp only [OpProg.sideOK, Bool.and_eq_true, hpa, hqb, hpv, hqv, hp] at hs
    simp only [OpProg.treeExact, Bool.and_eq_true, hb0] at hte
    obtain ⟨hna, hnb⟩ := onValues_operands hp
    obtain ⟨wa, hwa, hra⟩ := ihp a va hpa hpv hs.1.1 hte.1.1 hna
    obtain ⟨wb, hwb, hrb⟩ := ihq b vb hqb hqv hs.1.2 hte.1.2 hnb
    split at hb
    · rename_i x y
      obtain ⟨w', hw', hres⟩ := onValues_congr hra hrb hp
      unfold constBin at hb
      split at hb
      · rename_i wx wy hx hy
        have h1 := toValue_den (env := env) hx
        have h2 := toValue_den (env := env) hy
        rw [hwa] at h1; rw [hwb] at h2
        cases h1; cases h2
        rw [hw'] at hb
        simp only at hb
        split at hb
        · rename_i c hc
          cases hb
          obtain ⟨hd, hex⟩ := toConst_den (env := env) hc
          exact ⟨w', hd, hres.refines_of_exact hex⟩
        · cases hb
      · cases hb
    · obtain ⟨w, hw, hres⟩ := bin_sound_refines hb hwa hwb hra hrb hp hs.2
      rw [hw] at hte
      exact ⟨w, hw, hres.refines_of_exact (notInexactR_ok hte.2)⟩
  | un o p ih =>
    intro t v hb hp hs hte _
    have hb0 := hb
    obtain ⟨a, hpa, hb⟩ := Except.exists_of_bind_eq_ok hb
    obtain ⟨ve, hpv, hp⟩ := Except.exists_of_bind_eq_ok hp
    simp only [OpProg.sideOK] at hs
    simp only [OpProg.treeExact, Bool.and_eq_true, hb0] at hte
    obtain ⟨we, hwe, hr⟩ := ih a ve hpa hpv hs hte.1 (onValue_operand hp).1
    split at hb
    · rename_i c
      obtain ⟨w', hw', href⟩ := un_congr hr hp
      split at hb
      · rename_i wv hc
        have h1 := toValue_den (env := env) hc
        rw [hwe] at h1; cases h1
        rw [hw'] at hb
        simp only at hb
        split at hb
        · rename_i c' hc'
          cases hb
          exact ⟨w', (toConst_den (env := env) hc').1, href⟩
        · cases hb
      · cases hb
    · exact un_sound_refines hb hwe hr hp

end PV
