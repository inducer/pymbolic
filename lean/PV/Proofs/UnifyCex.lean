import PV.Proofs.UnifyAC
/-
  An invariant of AC-equivalence, used to refute `ACEq a b` for concrete trees (C16 witnesses):
  a weighted count of variable leaves (by name), constant leaves and tuple nodes.
-/
namespace PV.Unify
open PV

mutual
/-- weighted count: `v x` per occurrence of the variable `x`, `k` per constant, `τ` per tuple node;
nodes outside the C16 fragment count 0 and are not entered -/
def cnt (v : String → Nat) (k τ : Nat) : Expr → Nat
  | .var x => v x
  | .const _ => k
  | .nary _ cs => cntL v k τ cs
  | .bin _ a b => cnt v k τ a + cnt v k τ b
  | .un _ a => cnt v k τ a
  | .cmp _ a b => cnt v k τ a + cnt v k τ b
  | .ite c t e => cnt v k τ c + cnt v k τ t + cnt v k τ e
  | .call f as => cnt v k τ f + cntL v k τ as
  | .subscript a i => cnt v k τ a + cnt v k τ i
  | .lookup a _ => cnt v k τ a
  | .tuple cs => τ + cntL v k τ cs
  | _ => 0
def cntL (v : String → Nat) (k τ : Nat) : List Expr → Nat
  | [] => 0
  | c :: cs => cnt v k τ c + cntL v k τ cs
end

variable (v : String → Nat) (k τ : Nat)

theorem cntL_append : ∀ (as bs : List Expr), cntL v k τ (as ++ bs) = cntL v k τ as + cntL v k τ bs
  | [], bs => by simp [cntL]
  | a :: as, bs => by simp [cntL, cntL_append as bs]; omega

theorem cntL_perm {as bs : List Expr} (h : as.Perm bs) : cntL v k τ as = cntL v k τ bs := by
  induction h with
  | nil => rfl
  | cons x _ ih => simp [cntL, ih]
  | swap x y l => simp only [cntL]; omega
  | trans _ _ ih1 ih2 => exact ih1.trans ih2

theorem cntL_pyEqL : ∀ (cs ds : List Expr),
    (∀ c ∈ cs, ∀ b, c.pyEq b = true → cnt v k τ c = cnt v k τ b) →
    Expr.pyEqL cs ds = true → cntL v k τ cs = cntL v k τ ds
  | [], [], _, _ => rfl
  | c :: cs, d :: ds, ih, h => by
    simp only [Expr.pyEqL, Bool.and_eq_true] at h
    simp only [cntL, ih c (by simp) d h.1,
      cntL_pyEqL cs ds (fun c' hc' => ih c' (by simp [hc'])) h.2]
  | [], _ :: _, _, h => by simp [Expr.pyEqL] at h
  | _ :: _, [], _, h => by simp [Expr.pyEqL] at h

/-- Python equality preserves the count -/
theorem cnt_pyEq (a : Expr) : ∀ b, a.pyEq b = true → cnt v k τ a = cnt v k τ b := by
  induction a using Expr.induct with
  | h e ih =>
    intro b hb
    cases PyEqNode.of_pyEq hb with
    | nary h =>
      exact cntL_pyEqL v k τ _ _ (fun c hc => ih c (by simpa [Expr.children] using hc)) h
    | bin h1 h2 | cmp h1 h2 | subscript h1 h2 =>
      simp only [cnt]
      rw [ih _ (by simp [Expr.children]) _ h1, ih _ (by simp [Expr.children]) _ h2]
    | un h | lookup h => simp only [cnt]; exact ih _ (by simp [Expr.children]) _ h
    | ite h1 h2 h3 =>
      simp only [cnt]
      rw [ih _ (by simp [Expr.children]) _ h1, ih _ (by simp [Expr.children]) _ h2,
        ih _ (by simp [Expr.children]) _ h3]
    | call h1 h2 =>
      simp only [cnt]
      rw [ih _ (by simp [Expr.children]) _ h1,
        cntL_pyEqL v k τ _ _ (fun c hc => ih c (by simp [Expr.children, hc])) h2]
    | tuple h =>
      simp only [cnt]
      rw [cntL_pyEqL v k τ _ _ (fun c hc => ih c (by simpa [Expr.children] using hc)) h]
    | _ => rfl

mutual
/-- AC-equivalence preserves the count -/
theorem ACEq.cnt_eq : ∀ {a b : Expr}, ACEq a b → cnt v k τ a = cnt v k τ b
  | _, _, .refl _ => rfl
  | _, _, .py h => cnt_pyEq v k τ _ _ h
  | _, _, .symm h => (ACEq.cnt_eq h).symm
  | _, _, .trans h1 h2 => (ACEq.cnt_eq h1).trans (ACEq.cnt_eq h2)
  | _, _, .nary _ h => by simp only [cnt, ACEqL.cnt_eq h]
  | _, _, .bin _ h1 h2 => by simp only [cnt, ACEq.cnt_eq h1, ACEq.cnt_eq h2]
  | _, _, .un _ h => by simp only [cnt, ACEq.cnt_eq h]
  | _, _, .cmp _ h1 h2 => by simp only [cnt, ACEq.cnt_eq h1, ACEq.cnt_eq h2]
  | _, _, .ite h1 h2 h3 => by simp only [cnt, ACEq.cnt_eq h1, ACEq.cnt_eq h2, ACEq.cnt_eq h3]
  | _, _, .call h1 h2 => by simp only [cnt, ACEq.cnt_eq h1, ACEqL.cnt_eq h2]
  | _, _, .subscript h1 h2 => by simp only [cnt, ACEq.cnt_eq h1, ACEq.cnt_eq h2]
  | _, _, .lookup _ h => by simp only [cnt, ACEq.cnt_eq h]
  | _, _, .tuple h => by simp only [cnt, ACEqL.cnt_eq h]
  | _, _, .callKw _ _ _ _ => by simp only [cnt]
  | _, _, .cse _ _ _ => by simp only [cnt]
  | _, _, .subst _ _ _ => by simp only [cnt]
  | _, _, .deriv _ _ => by simp only [cnt]
  | _, _, .slice _ => by simp only [cnt]
  | _, _, .list _ => by simp only [cnt]
  | _, _, .perm _ h => by simp only [cnt, cntL_perm v k τ h]
  | _, _, .flat xs ys zs _ => by
      simp only [cnt, cntL_append, cntL]; omega
  | _, _, .single a _ => by simp only [cnt, cntL]; omega
theorem ACEqL.cnt_eq : ∀ {as bs : List Expr}, ACEqL as bs → cntL v k τ as = cntL v k τ bs
  | _, _, .nil => rfl
  | _, _, .cons h t => by simp only [cntL, ACEq.cnt_eq h, ACEqL.cnt_eq t]
end

end PV.Unify
