import PV.Model.Memo
/-
  Helper lemmas for C05: the cache keys computed by a mapper class after `optimize_mapper`.
-/
namespace PV.Memo
open PV

/-- the class's own key tuple for a dispatch (`Code.user ka kk`) -/
def userKey (ka kk : Bool) (k : Key) : List KVal :=
  [.ty k.expr.typeTag, .expr k.expr] ++ (if ka then [.args k.args.args] else []) ++
    (if kk then [.kwargs k.args.kwargs] else [])

/-- the hard-wired key of `inline_cache` -/
def inlinedKey (k : Key) : List KVal := [.ty k.expr.typeTag, .expr k.expr]

/-- keys a dispatch goes through after optimization, on the calls the option set allows:
`__call__` uses the class's key; a `self.rec` site uses the inlined key (with `inline_cache`) and
then, unless `inline_rec` bypasses `__call__`, the class's key -/
def expectedKeys (o : Opts) (ka kk top : Bool) (k : Key) : List (List KVal) :=
  if top then [userKey ka kk k]
  else (if o.inlineCache then [inlinedKey k] else []) ++
    (if o.inlineRec then [] else [userKey ka kk k])

/-- The optimized class computes the expected keys.  The options, the class and the site are
enumerated; the expression and the argument lists stay variables, the rewritten code only moves them
around (an argument list the class does not take is empty by `Allowed`). -/
theorem siteKeys_optimize (o : Opts) (ka kk top : Bool) (k : Key)
    (h : Allowed o ka kk k = true) :
    siteKeys (optimize o (Code.user ka kk)) top k = .ok (expectedKeys o ka kk top k) := by
  obtain ⟨da, dk, ir, ic, ig⟩ := o
  obtain ⟨e, ⟨a, w⟩⟩ := k
  simp only [Allowed, Bool.and_eq_true, Bool.or_eq_true, Bool.not_eq_true', List.isEmpty_iff] at h
  obtain ⟨⟨⟨⟨h1, h2⟩, h3⟩, h4⟩, h5⟩ := h
  -- the class: an argument list it does not take is empty (`h4`, `h5`)
  cases ka <;> cases kk <;> simp at h4 h5 <;> subst_vars <;>
    -- the options `Allowed` leaves for that class (`h1`–`h3` refute the others)
    cases da <;> cases dk <;> cases ic <;> simp at h1 h2 h3 <;>
    cases ir <;> cases ig <;> cases top <;> eq_refl

/-- on the calls an option set allows the class's key tuples compare like the original keys: an
argument list that is not part of the tuple is empty on both sides -/
theorem tupleEq_userKey (o : Opts) (ka kk : Bool) (k1 k2 : Key)
    (h1 : Allowed o ka kk k1 = true) (h2 : Allowed o ka kk k2 = true) :
    tupleEq (userKey ka kk k1) (userKey ka kk k2) = Key.eq k1 k2 := by
  obtain ⟨e1, ⟨a1, w1⟩⟩ := k1
  obtain ⟨e2, ⟨a2, w2⟩⟩ := k2
  cases ka <;> cases kk <;> simp [Allowed] at h1 h2 <;>
    simp [h1, h2, userKey, tupleEq, KVal.eq, Key.eq, ArgKey.pyEq, constsEq, kwEq, Expr.keyEq,
      Bool.and_assoc]

/-- Every expected key is the class's key (with `inline_cache` the inlined key is the class's), so
two dispatches share an entry iff both consult the cache at all and the original keys are equal. -/
theorem shares_expected (o : Opts) (ka kk t1 t2 : Bool) (k1 k2 : Key)
    (h1 : Allowed o ka kk k1 = true) (h2 : Allowed o ka kk k2 = true) :
    shares (expectedKeys o ka kk t1 k1) (expectedKeys o ka kk t2 k2) =
      ((!(o.inlineRec && !o.inlineCache) || (t1 && t2)) && Key.eq k1 k2) := by
  have hu := tupleEq_userKey o ka kk k1 k2 h1 h2
  obtain ⟨da, dk, ir, ic, ig⟩ := o
  cases ic
  · cases ir <;> cases t1 <;> cases t2 <;> simp [expectedKeys, shares, hu]
  · -- `Allowed` leaves only the class without extra arguments in its key
    cases ka <;> cases kk <;> simp [Allowed] at h1
    have hi : ∀ k, inlinedKey k = userKey false false k := fun _ => rfl
    cases ir <;> cases t1 <;> cases t2 <;> simp [expectedKeys, shares, hi, hu]

end PV.Memo
