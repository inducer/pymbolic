import PV.Proofs.GATableProd
/-
  C18 (T-gen): `as_scalar`, `scalar_product`, `norm_squared`, `I`, `dual`,
  `get_pure_grade`, `inv`, `__bool__`, `__eq__`, `__hash__` of the expected function table.
-/
-- one `variable` line serves every statement of the file, and `c18sym` is handed rules that not
-- every run needs
set_option linter.unusedSectionVars false
set_option linter.unusedVariables false
set_option linter.unusedSimpArgs false
namespace PV.GA.C18T

section
variable {R : Type} [Add R] [Mul R] [Neg R] [OfNat R 0] [OfNat R 1]
variable (Γ : C18Ctx R) (fuel : Nat) (callee : C18Callee R)

/-! ## `as_scalar` -/

/-- the loop of `as_scalar` on values: `none` = `ValueError` -/
def asScalarVal : MVOf R → C18Val R → Option (C18Val R)
  | [], rv => some rv
  | (k, c) :: rest, _ => if k ≠ 0 then none else asScalarVal rest (.coef c)

/-- the loop hands back the initial value or a coefficient -/
theorem asScalarVal_kind : ∀ (a : MVOf R) (rv : C18Val R), (rv = .nat 0 ∨ ∃ r, rv = .coef r) →
    ∀ v, asScalarVal a rv = some v → (v = .nat 0 ∨ ∃ r, v = .coef r) := by
  intro a
  induction a with
  | nil => intro rv h v hv; simp [asScalarVal] at hv; subst hv; exact h
  | cons p a ih =>
    intro rv h v hv
    obtain ⟨k, x⟩ := p
    by_cases hk : k = 0
    · simp [asScalarVal, hk] at hv; exact ih _ (Or.inr ⟨x, rfl⟩) v hv
    · simp [asScalarVal, hk] at hv

def asScalarBody : List C18Stmt := [
  .ifThen (.cmp .ne (.name "bits") (.nat 0)) [.raise "ValueError"] [],
  .assign [.name "result"] false (.name "coeff")]

theorem as_scalar_loop (rt : C18Rt R) (sv : C18Val R) : ∀ (a : MVOf R) (rv b c : C18Val R),
    (match asScalarVal a rv with
      | none => c18For (c18BindNames ["bits", "coeff"]) (c18ExecList rt asScalarBody) (c18Items a)
          [("self", sv), ("result", rv), ("bits", b), ("coeff", c)] = .raise "ValueError"
      | some rv' => ∃ b' c', c18For (c18BindNames ["bits", "coeff"]) (c18ExecList rt asScalarBody)
          (c18Items a) [("self", sv), ("result", rv), ("bits", b), ("coeff", c)]
          = .normal [("self", sv), ("result", rv'), ("bits", b'), ("coeff", c')]) := by
  intro a
  induction a with
  | nil => intro rv b c; exact ⟨b, c, rfl⟩
  | cons p a ih =>
    intro rv b c
    obtain ⟨k, x⟩ := p
    by_cases hk : k = 0
    · subst hk
      simp only [asScalarVal, ne_eq, not_true_eq_false, if_false]
      rw [show c18Items ((0, x) :: a) = .tuple [.nat 0, .coef x] :: c18Items a from rfl,
        c18For_iter (env1 := [("self", sv), ("result", rv), ("bits", .nat 0), ("coeff", .coef x)])
          (env2 := [("self", sv), ("result", .coef x), ("bits", .nat 0), ("coeff", .coef x)])
          (by simp [c18BindNames, c18Set]) (by c18sym [asScalarBody])]
      exact ih (.coef x) (.nat 0) (.coef x)
    · simp only [asScalarVal, ne_eq, hk, not_false_eq_true, if_true]
      have hk' : (k == 0) = false := by simp [hk]
      simp only [c18Items, List.map_cons, c18For]
      c18sym [asScalarBody, c18BindNames, hk']

theorem c18_as_scalar (a : MVOf R) :
    c18RunFn c18ExpectedModule Γ fuel callee c18X_MultiVector_as_scalar [.mv a] []
      = match asScalarVal a (.nat 0) with
        | none => .raise "ValueError"
        | some v => .ok v := by
  apply c18RunFn_of_body rfl
  have hl := as_scalar_loop (c18Rt Γ fuel callee) (.mv a) a (.nat 0) .unbound .unbound
  simp only [asScalarBody] at hl
  cases hv : asScalarVal a (.nat 0) with
  | none =>
    rw [hv] at hl
    c18sym [c18X_MultiVector_as_scalar, hl]
  | some v =>
    rw [hv] at hl
    obtain ⟨b', c', hl⟩ := hl
    rcases asScalarVal_kind a _ (Or.inl rfl) v hv with rfl | ⟨r, rfl⟩ <;> c18sym
      [c18X_MultiVector_as_scalar, hl]

/-- the model's `asScalar` is the value of the loop -/
theorem asScalarVal_model (a : MVOf R) :
    (asScalarVal a (.nat 0 : C18Val R)).map c18ValR = asScalar a := by
  have hnone : ∀ (f : Option R → Nat × R → Option R), (∀ p, f none p = none) →
      ∀ (a : MVOf R), a.foldl f none = none := by
    intro f hf a; induction a with
    | nil => rfl
    | cons p a ih => simp [hf, ih]
  have : ∀ (a : MVOf R) (rv : C18Val R), (asScalarVal a rv).map c18ValR
      = a.foldl (fun (r : Option R) (p : Nat × R) =>
          r.bind fun _ => if p.1 ≠ 0 then none else some p.2) (some (c18ValR rv)) := by
    intro a
    induction a with
    | nil => intro rv; rfl
    | cons p a ih =>
      intro rv
      obtain ⟨k, x⟩ := p
      by_cases hk : k = 0
      · simp [asScalarVal, hk, ih, c18ValR]
      · simp only [asScalarVal, ne_eq, hk, not_false_eq_true, if_true, Option.map_none,
          List.foldl_cons, Option.bind_some]
        exact (hnone _ (fun p => rfl) a).symm
  have h := this a (.nat 0)
  simp only [c18ValR, c18OfNat_zero] at h
  rw [h]; rfl

/-! ## `scalar_product`, `norm_squared`, `I`, `dual` -/


/-- `scalar_product`: the scalar product handed to `as_scalar` -/
theorem c18_scalar_product (hc : C18HasCast Γ callee) (x : MVOf R) (v : C18Val R) (y p : MVOf R)
    (hv : c18CastOf Γ.z v = some y)
    (hgp : callee "MultiVector._generic_product" [.mv x, .mv y, .cls "_ScalarProduct"] []
      = .ok (.mv p)) :
    c18RunFn c18ExpectedModule Γ fuel callee c18X_MultiVector_scalar_product [.mv x, v] []
      = callee "MultiVector.as_scalar" [.mv p] [] := by
  have hcast := hc v y hv
  have hv' := c18CastOf_ne_unbound hv
  apply c18RunFn_of_body rfl
  c18sym [c18X_MultiVector_scalar_product, hcast, hv', hgp]
  cases callee "MultiVector.as_scalar" _ [] <;> rfl

/-- `norm_squared`: `self.rev().scalar_product(self)` -/
theorem c18_norm_squared (a : MVOf R)
    (hrev : callee "MultiVector.rev" [.mv a] [] = .ok (.mv (rev a))) :
    c18RunFn c18ExpectedModule Γ fuel callee c18X_MultiVector_norm_squared [.mv a] []
      = callee "MultiVector.scalar_product" [.mv (rev a), .mv a] [] := by
  apply c18RunFn_of_body rfl
  c18sym [c18X_MultiVector_norm_squared, hrev]
  cases callee "MultiVector.scalar_product" _ [] <;> rfl

/-- `I`: the pseudoscalar `{2**dims - 1: 1}` -/
theorem c18_I (hinit : C18HasInit callee) (a : MVOf R) :
    c18RunFn c18ExpectedModule Γ fuel callee c18X_MultiVector_I [.mv a] []
      = .ok (.mv (pseudoscalar Γ.dims)) := by
  apply c18RunFn_of_body rfl
  have h1 : 1 ≤ 2 ^ Γ.dims := Nat.one_le_two_pow
  c18sym [c18X_MultiVector_I, h1, dictSet, hinit _, pseudoscalar]

/-! ## `get_pure_grade` -/

/-- the loop of `get_pure_grade` on values: `none` = the early `return None` -/
def pgVal : List Nat → Option Nat → Option (Option Nat)
  | [], r => some r
  | k :: ks, none => pgVal ks (some (bitCount k))
  | k :: ks, some g => if g = bitCount k then pgVal ks (some g) else none

def pgResVal : Option Nat → C18Val R
  | none => .none
  | some g => .nat g

def pgBody : List C18Stmt := [
  .assign [.name "grade"] false (.call (.name "bit_count") [(.name "bits")] [] []),
  .ifThen (.cmp .is (.name "result") .none)
    [.assign [.name "result"] false (.name "grade")]
    [.ifThen (.cmp .eq (.name "result") (.name "grade")) [.pass] [.ret .none]]]

theorem pg_loop (hbc : C18HasBitCount fuel callee) (sv : C18Val R) :
    ∀ (ks : List Nat), (∀ k ∈ ks, k < fuel) → ∀ (r : Option Nat) (b g : C18Val R),
    (match pgVal ks r with
      | none => c18For (c18BindNames ["bits"]) (c18ExecList (c18Rt Γ fuel callee) pgBody)
          (ks.map fun k => (.nat k : C18Val R))
          [("self", sv), ("result", pgResVal r), ("bits", b), ("grade", g)] = .ret .none
      | some r' => ∃ b' g', c18For (c18BindNames ["bits"])
          (c18ExecList (c18Rt Γ fuel callee) pgBody) (ks.map fun k => (.nat k : C18Val R))
          [("self", sv), ("result", pgResVal r), ("bits", b), ("grade", g)]
          = .normal [("self", sv), ("result", pgResVal r'), ("bits", b'), ("grade", g')]) := by
  intro ks
  induction ks with
  | nil => intro _ r b g; exact ⟨b, g, rfl⟩
  | cons k ks ih =>
    intro hk r b g
    have hkf : k < fuel := hk k (List.mem_cons_self)
    have hks : ∀ k' ∈ ks, k' < fuel := fun k' h => hk k' (List.mem_cons_of_mem _ h)
    cases r with
    | none =>
      simp only [pgVal, List.map_cons]
      rw [c18For_iter (env1 := [("self", sv), ("result", .none), ("bits", .nat k), ("grade", g)])
        (env2 := [("self", sv), ("result", .nat (bitCount k)), ("bits", .nat k),
          ("grade", .nat (bitCount k))])
        (by simp [c18BindNames, c18Set, pgResVal]) (by c18sym [pgBody, hbc k hkf])]
      exact ih hks (some (bitCount k)) _ _
    | some g0 =>
      simp only [pgVal, List.map_cons]
      by_cases hg : g0 = bitCount k
      · subst hg
        simp only [if_true]
        rw [c18For_iter (env1 := [("self", sv), ("result", .nat (bitCount k)), ("bits", .nat k),
            ("grade", g)])
          (env2 := [("self", sv), ("result", .nat (bitCount k)), ("bits", .nat k),
            ("grade", .nat (bitCount k))])
          (by simp [c18BindNames, c18Set, pgResVal]) (by c18sym [pgBody, hbc k hkf])]
        exact ih hks (some (bitCount k)) (.nat k) (.nat (bitCount k))
      · have hg' : (g0 == bitCount k) = false := by simp [hg]
        simp only [hg, if_false]
        simp only [c18For, pgResVal]
        c18sym [c18BindNames, pgBody, hbc k hkf, hg']

theorem pgVal_model (a : MVOf R) (hne : a ≠ []) :
    (match pgVal (dkeys a) none with
      | none => (none : Option Nat)
      | some r => r) = getPureGrade a := by
  cases a with
  | nil => exact absurd rfl hne
  | cons p rest =>
    obtain ⟨k, c⟩ := p
    simp only [dkeys, List.map_cons, pgVal, getPureGrade]
    have : ∀ (ks : MVOf R), (match pgVal (ks.map (·.1)) (some (bitCount k)) with
        | none => (none : Option Nat) | some r => r)
        = if ks.all (fun x => decide (bitCount x.1 = bitCount k)) then some (bitCount k)
          else none := by
      intro ks
      induction ks with
      | nil => simp [pgVal]
      | cons q ks ih =>
        obtain ⟨k', c'⟩ := q
        by_cases h : bitCount k = bitCount k'
        · simp only [List.map_cons, pgVal, h, if_true, List.all_cons, decide_true, Bool.true_and]
          rw [← h]; exact ih
        · have h' : ¬ bitCount k' = bitCount k := fun e => h e.symm
          simp [pgVal, h, h']
    have h2 := this rest
    simp only [h2]

/-- **`get_pure_grade` of the table is `getPureGrade`** (Python `None` = the model's `none`) -/
theorem c18_get_pure_grade (hbc : C18HasBitCount fuel callee) (a : MVOf R)
    (hk : ∀ k ∈ dkeys a, k < fuel) :
    c18RunFn c18ExpectedModule Γ fuel callee c18X_MultiVector_get_pure_grade [.mv a] []
      = .ok (pgResVal (getPureGrade a)) := by
  apply c18RunFn_of_body rfl
  cases a with
  | nil => c18sym [c18X_MultiVector_get_pure_grade, getPureGrade, pgResVal]
  | cons p rest =>
    have hl := pg_loop Γ fuel callee hbc (.mv (p :: rest)) (dkeys (p :: rest)) hk none
      .unbound .unbound
    have hm := pgVal_model (p :: rest) (by simp)
    simp only [pgBody, pgResVal] at hl
    simp only [dkeys, List.map_cons, List.map_map] at hl hm
    have hmap : (List.map (fun (x : Nat × R) => (C18Val.nat x.1 : C18Val R)) (p :: rest))
        = (dkeys (p :: rest)).map fun k => (.nat k : C18Val R) := by
      simp [dkeys, List.map_map]
    cases hv : pgVal (p.1 :: List.map (fun x => x.1) rest) none with
    | none =>
      rw [hv] at hl hm
      dsimp only at hl hm
      c18sym [c18X_MultiVector_get_pure_grade, hmap, hl, ← hm, pgResVal]
    | some r =>
      rw [hv] at hl hm
      dsimp only at hl hm
      obtain ⟨b', g', hl⟩ := hl
      cases r with
      | none => c18sym [c18X_MultiVector_get_pure_grade, hmap, hl, ← hm, pgResVal]
      | some g => c18sym [c18X_MultiVector_get_pure_grade, hmap, hl, ← hm, pgResVal]

/-! ## `__bool__`, `__hash__` -/

@[simp] theorem c18Prim_bool_dict (rt : C18Rt R) (d : MVOf R) :
    c18Prim rt "bool" [.dict d] [] = .ok (.bool (!d.isEmpty)) := rfl

/-- **`__bool__` of the table is `mvBool`** -/
theorem c18_bool (a : MVOf R) :
    c18RunFn c18ExpectedModule Γ fuel callee c18X_MultiVector___bool__ [.mv a] []
      = .ok (.bool (mvBool a)) := by
  apply c18RunFn_of_body rfl
  c18sym [c18X_MultiVector___bool__, mvBool]

theorem hash_fold (hb : Nat → Nat) (hc : R → Nat) (a : MVOf R) (h0 : Nat) :
    (c18Items a).foldl (fun h (x : C18Val R) => match x with
      | .tuple [.nat k, .coef c] => h ^^^ (hb k ^^^ hc c)
      | _ => h) h0 = a.foldl (fun r (p : Nat × R) => r ^^^ (hb p.1 ^^^ hc p.2)) h0 := by
  induction a generalizing h0 with
  | nil => rfl
  | cons p a ih =>
    obtain ⟨k, c⟩ := p
    simp only [c18Items, List.map_cons, List.foldl_cons] at ih ⊢
    exact ih _

/-- **`__hash__` of the table is `mvHash`**: `hash(space)` XOR-ed with `hash(bits) ^ hash(coeff)`
of every item -/
theorem c18_hash (a : MVOf R) :
    c18RunFn c18ExpectedModule Γ fuel callee c18X_MultiVector___hash__ [.mv a] []
      = .ok (.hash (a.foldl (fun r (p : Nat × R) => r ^^^ (Γ.hb p.1 ^^^ Γ.hc p.2)) Γ.hspace)) := by
  apply c18RunFn_of_body rfl
  obtain ⟨u, hfor⟩ := c18For_env
    (fun (h : Nat) (u : C18Val R × C18Val R) =>
      [("self", .mv a), ("result", .hash h), ("bits", u.1), ("coeff", u.2)])
    (bind := c18BindNames ["bits", "coeff"])
    (body := c18ExecList (c18Rt Γ fuel callee) [
      .aug (.name "result") .bxor (.bin .bxor (.call (.name "hash") [(.name "bits")] [] [])
        (.call (.name "hash") [(.name "coeff")] [] []))])
    (fun h x => match x with
      | .tuple [.nat k, .coef c] => h ^^^ (Γ.hb k ^^^ Γ.hc c)
      | _ => h) (c18Items a)
    (fun h u x hx => by
      obtain ⟨k, c, hmem, rfl⟩ := mem_c18Items hx
      exact ⟨(.nat k, .coef c), (.nat k, .coef c), by simp [c18BindNames, c18Set], by c18sym⟩)
    Γ.hspace (.unbound, .unbound)
  c18sym [c18X_MultiVector___hash__, hfor, hash_fold]

/-! ## `inv` -/


/-- what `inv` returns, given the value of `norm_squared` -/
def invRes (Γ : C18Ctx R) (a : MVOf R) (nsqr : R) : C18Res (C18Val R) :=
  match a with
  | [] => .raise "ZeroDivisionError"
  | [(bits, coeff)] =>
    if Γ.z nsqr then .raise "ZeroDivisionError"
    else .ok (.mv [(bits, Γ.div (if bitCount bits * (bitCount bits - 1) / 2 % 2 ≠ 0 then -coeff
      else coeff) nsqr)])
  | _ =>
    match getPureGrade a with
    | some gr =>
      if gr = 0 ∨ gr = 1 ∨ gr = Γ.dims then
        if Γ.z nsqr then .raise "ZeroDivisionError"
        else .ok (.mv (a.map fun (p : Nat × R) => (p.1, Γ.div p.2 nsqr)))
      else .raise "NotImplementedError"
    | none => .raise "NotImplementedError"

/-- a comprehension over `….items()` each of whose steps stores `g coeff` under `bits` -/
theorem foldl_items_store (step : C18Res (C18Val R) → C18Val R → C18Res (C18Val R)) (g : R → R)
    (h : ∀ acc k c, step (.ok (.dict acc)) (.tuple [.nat k, .coef c])
      = .ok (.dict (dictSet acc k (g c)))) : ∀ (a acc : MVOf R),
    (c18Items a).foldl step (.ok (.dict acc))
      = .ok (.dict (a.foldl (fun acc (p : Nat × R) => dictSet acc p.1 (g p.2)) acc)) := by
  intro a
  induction a with
  | nil => intro acc; rfl
  | cons p a ih =>
    intro acc
    simp only [c18Items, List.map_cons, List.foldl_cons, h]
    exact ih _

/-- a comprehension each of whose steps raises `e` -/
theorem foldl_items_raise (step : C18Res (C18Val R) → C18Val R → C18Res (C18Val R)) (e : String)
    (h : ∀ acc k c, step (.ok (.dict acc)) (.tuple [.nat k, .coef c]) = .raise e)
    (hr : ∀ x, step (.raise e) x = .raise e) (a acc : MVOf R) (ha : a ≠ []) :
    (c18Items a).foldl step (.ok (.dict acc)) = .raise e := by
  cases a with
  | nil => exact absurd rfl ha
  | cons p a =>
    simp only [c18Items, List.map_cons, List.foldl_cons, h]
    generalize List.map _ a = xs
    induction xs with
    | nil => rfl
    | cons x xs ih => simp only [List.foldl_cons, hr, ih]

/-- the dict comprehension `{bits: coeff/nsqr for bits, coeff in self.data.items()}` -/
theorem inv_comp_fold (rt : C18Rt R) (sv nv g : C18Val R) (n : R)
    (hnv : nv = .coef n ∨ (nv = .nat 0 ∧ n = 0)) (hz0 : rt.Γ.z 0 = true) :
    ∀ (a acc : MVOf R),
    (c18Items a).foldl (c18DictCompStep (c18Eval rt (.name "bits"))
        (c18Eval rt (.bin .truediv (.name "coeff") (.name "nsqr"))) ["bits", "coeff"]
        [("self", sv), ("nsqr", nv), ("bits", .unbound), ("coeff", .unbound), ("grade", g)])
      (.ok (.dict acc))
      = if rt.Γ.z n = true ∧ a ≠ [] then .raise "ZeroDivisionError"
        else .ok (.dict (a.foldl (fun acc (p : Nat × R) => dictSet acc p.1 (rt.Γ.div p.2 n)) acc)) := by
  intro a acc
  have hstep : ∀ acc k c, c18DictCompStep (c18Eval rt (.name "bits"))
      (c18Eval rt (.bin .truediv (.name "coeff") (.name "nsqr"))) ["bits", "coeff"]
      [("self", sv), ("nsqr", nv), ("bits", .unbound), ("coeff", .unbound), ("grade", g)]
      (.ok (.dict acc)) (.tuple [.nat k, .coef c])
      = if rt.Γ.z n then .raise "ZeroDivisionError"
        else .ok (.dict (dictSet acc k (rt.Γ.div c n))) := by
    intro acc k c
    simp only [c18DictCompStep, c18BindNames]
    rcases hnv with rfl | ⟨rfl, rfl⟩ <;> c18sym [hz0, C18Res.ite_bind]
  cases hz : rt.Γ.z n
  · simpa [hz] using foldl_items_store _ _ (by simpa [hz] using hstep) a acc
  · by_cases ha : a = []
    · subst ha; simp [c18Items]
    · simpa [ha] using foldl_items_raise _ _ (by simpa [hz] using hstep) (fun x => rfl) a acc ha

theorem foldl_dictSet_map (f : R → R) (a : MVOf R) (hnd : (dkeys a).Nodup) :
    a.foldl (fun acc (p : Nat × R) => dictSet acc p.1 (f p.2)) [] = a.map fun p => (p.1, f p.2) := by
  have h := foldl_dictSet_filterMap (fun _ c => some (f c)) a [] hnd (by simp [dkeys])
  simp only [List.nil_append, Option.map_some] at h
  rw [List.filterMap_eq_map'] at h
  exact h

/-- **`inv` of the table**, given what `norm_squared` and `get_pure_grade` return: `invRes`.
`nv` is the value of `norm_squared` and `n` the same as a coefficient: a coefficient, or Python's
int `0` when the scalar product is empty (`as_scalar` starts from `result = 0`). -/
theorem c18_inv (hz0 : Γ.z 0 = true) (hbc : C18HasBitCount fuel callee) (hinit : C18HasInit callee)
    (a : MVOf R) (hnd : (dkeys a).Nodup) (hk : ∀ k ∈ dkeys a, k < fuel) (nv : C18Val R) (n : R)
    (hnv : nv = .coef n ∨ (nv = .nat 0 ∧ n = 0))
    (hns : callee "MultiVector.norm_squared" [.mv a] [] = .ok nv)
    (hpg : callee "MultiVector.get_pure_grade" [.mv a] [] = .ok (pgResVal (getPureGrade a))) :
    c18RunFn c18ExpectedModule Γ fuel callee c18X_MultiVector_inv [.mv a] [] = invRes Γ a n := by
  apply c18RunFn_of_body rfl
  have hdiv : ∀ c : R, c18BinOp (c18Rt Γ fuel callee) .truediv (.coef c) nv
      = if Γ.z n then .raise "ZeroDivisionError" else .ok (.coef (Γ.div c n)) := by
    rcases hnv with rfl | ⟨rfl, rfl⟩ <;> simp
  have hnu : nv ≠ .unbound := by rcases hnv with rfl | ⟨rfl, _⟩ <;> simp
  match a, hnd, hk, hns, hpg with
  | [], _, _, hns, _ => c18sym [c18X_MultiVector_inv, hns, invRes]
  | [(k, c)], _, hk, hns, _ =>
    have hkf : k < fuel := hk k (by simp [dkeys])
    c18sym [c18X_MultiVector_inv, hns, invRes, c18Items, c18BindNames, hbc k hkf, c18BinOp_mul_pred,
      c18Branch_ok, hdiv, hnu, C18Res.ite_bind, C18Out.ofRes_ite, C18Out.andThen_ite, c18Ret_ite,
      dictSet, hinit _]
    by_cases h : bitCount k * (bitCount k - 1) / 2 % 2 = 1 <;> simp [h]
  | p :: q :: rest, hnd, hk, hns, hpg =>
    have hcomp := inv_comp_fold (c18Rt Γ fuel callee) (.mv (p :: q :: rest)) nv .unbound n hnv hz0
      (p :: q :: rest) []
    have hmap := foldl_dictSet_map (fun c => Γ.div c n) (p :: q :: rest) hnd
    have hin : c18CmpOp (c18Rt Γ fuel callee) .isIn (pgResVal (getPureGrade (p :: q :: rest)))
        (.list [.nat 0, .nat 1, .nat Γ.dims])
        = .ok (.bool (match getPureGrade (p :: q :: rest) with
          | some gr => gr == 0 || (gr == 1 || gr == Γ.dims)
          | none => false)) := by
      cases getPureGrade (p :: q :: rest) <;> simp [pgResVal, c18CmpOp, c18ValEq]
    c18sym [c18X_MultiVector_inv, hns, invRes, hpg, hin, c18Branch_ok, hcomp, hmap, hinit _,
      C18Res.ite_bind, C18Out.ofRes_ite, C18Out.andThen_ite, c18Ret_ite]
    cases getPureGrade (p :: q :: rest) <;> simp

/-! ## `dual`, `__truediv__`, `__eq__`, `__neg__`, `__sub__` -/

theorem c18GetAttr_obj_I (rt : C18Rt R) (hM : rt.M = c18ExpectedModule) (d : MVOf R) :
    c18GetAttr rt (.obj true (some d)) "I" = rt.callee "MultiVector.I" [.obj true (some d)] [] := by
  simp only [c18GetAttr, hM]
  rfl

/-- an operator whose left operand is a `MultiVector`: the dunder method of the table, a
`NotImplemented` result becomes `TypeError` -/
theorem c18BinOp_obj (rt : C18Rt R) (hM : rt.M = c18ExpectedModule) (op : C18Bin) (q : String)
    (hq : c18ClassAttr c18ExpectedModule "MultiVector" ("__" ++ c18DunderOf op ++ "__")
      = some (.method q "plain")) (s : Bool) (d : Option (MVOf R)) (b : C18Val R) :
    c18BinOp rt op (.obj s d) b
      = match rt.callee q [.obj s d, b] [] with
        | .ok .notImplemented => .raise "TypeError"
        | r => r := by
  simp only [c18BinOp, hM, hq]
  rfl

/-- `dual`: `self | self.I.rev()` -/
theorem c18_dual (a i0 i1 r : MVOf R) (hI : callee "MultiVector.I" [.mv a] [] = .ok (.mv i0))
    (hrev : callee "MultiVector.rev" [.mv i0] [] = .ok (.mv i1))
    (hor : callee "MultiVector.__or__" [.mv a, .mv i1] [] = .ok (.mv r)) :
    c18RunFn c18ExpectedModule Γ fuel callee c18X_MultiVector_dual [.mv a] [] = .ok (.mv r) := by
  apply c18RunFn_of_body rfl
  c18sym [c18X_MultiVector_dual, c18GetAttr_obj_I (c18Rt Γ fuel callee) rfl, hI, hrev,
    c18BinOp_obj (c18Rt Γ fuel callee) rfl .bor "MultiVector.__or__" rfl, hor]


/-- `__truediv__`: `self * other.inv()`; an exception of `inv` propagates -/
theorem c18_truediv (hc : C18HasCast Γ callee) (x : MVOf R) (v : C18Val R) (y : MVOf R)
    (hv : c18CastOf Γ.z v = some y) :
    (∀ yi r, callee "MultiVector.inv" [.mv y] [] = .ok (.mv yi) →
      callee "MultiVector.__mul__" [.mv x, .mv yi] [] = .ok (.mv r) →
      c18RunFn c18ExpectedModule Γ fuel callee c18X_MultiVector___truediv__ [.mv x, v] []
        = .ok (.mv r)) ∧
    (∀ e, callee "MultiVector.inv" [.mv y] [] = .raise e →
      c18RunFn c18ExpectedModule Γ fuel callee c18X_MultiVector___truediv__ [.mv x, v] []
        = .raise e) := by
  have hcast := hc v y hv
  have hv' := c18CastOf_ne_unbound hv
  constructor
  · intro yi r hinv hmul
    apply c18RunFn_of_body rfl
    c18sym [c18X_MultiVector___truediv__, hcast, hv', hinv,
      c18BinOp_obj (c18Rt Γ fuel callee) rfl .mul "MultiVector.__mul__" rfl, hmul]
  · intro e hinv
    apply c18RunFn_of_body rfl
    c18sym [c18X_MultiVector___truediv__, hcast, hv', hinv]

@[simp] theorem c18CmpOp_eq_dict (rt : C18Rt R) (a b : MVOf R) :
    c18CmpOp rt .eq (.dict a) (.dict b)
      = .ok (.bool (a.length == b.length && a.all fun (p : Nat × R) =>
          match dictGet b p.1 with | some w => rt.Γ.ceq p.2 w | none => false)) := rfl

/-- `__eq__`: the dicts compared with Python's dict `==` -/
theorem c18_eq (hc : C18HasCast Γ callee) (x : MVOf R) (v : C18Val R) (y : MVOf R)
    (hv : c18CastOf Γ.z v = some y) :
    c18RunFn c18ExpectedModule Γ fuel callee c18X_MultiVector___eq__ [.mv x, v] []
      = .ok (.bool (x.length == y.length && x.all fun (p : Nat × R) =>
          match dictGet y p.1 with | some w => Γ.ceq p.2 w | none => false)) := by
  have hcast := hc v y hv
  have hv' := c18CastOf_ne_unbound hv
  apply c18RunFn_of_body rfl
  c18sym [c18X_MultiVector___eq__, hcast, hv']

/-- with `==` on coefficients deciding equality, that is the model's `mvEq` -/
theorem eq_val_model [DecidableEq R] (x y : MVOf R) :
    (x.length == y.length && x.all fun (p : Nat × R) =>
      match dictGet y p.1 with | some w => decide (p.2 = w) | none => false) = mvEq x y := by
  simp only [mvEq, dictEq]
  congr 1
  apply List.all_congr rfl
  intro p
  cases h : dictGet y p.1 with
  | none => simp
  | some w =>
    by_cases hw : p.2 = w
    · subst hw; simp
    · have hw' : ¬ w = p.2 := fun e => hw e.symm
      simp [hw, hw']

/-- the dict comprehension of `__neg__` -/
theorem neg_comp_fold (rt : C18Rt R) (sv : C18Val R) : ∀ (a acc : MVOf R),
    (c18Items a).foldl (c18DictCompStep (c18Eval rt (.name "bits"))
        (c18Eval rt (.un .neg (.name "coeff"))) ["bits", "coeff"] [("self", sv)])
      (.ok (.dict acc))
      = .ok (.dict (a.foldl (fun acc (p : Nat × R) => dictSet acc p.1 (-p.2)) acc)) := by
  refine foldl_items_store _ _ fun acc k c => ?_
  simp only [c18DictCompStep, c18BindNames]
  c18sym

/-- **`__neg__` of the table is `mvNeg`** -/
theorem c18_neg (hinit : C18HasInit callee) (a : MVOf R) (hnd : (dkeys a).Nodup) :
    c18RunFn c18ExpectedModule Γ fuel callee c18X_MultiVector___neg__ [.mv a] []
      = .ok (.mv (mvNeg a)) := by
  apply c18RunFn_of_body rfl
  have h := neg_comp_fold (c18Rt Γ fuel callee) (.mv a) a []
  have hm := foldl_dictSet_map (fun c => -c) a hnd
  c18sym [c18X_MultiVector___neg__, h, hm, hinit _, mvNeg]

/-- `__sub__`: `self + (-other)` -/
theorem c18_sub (x y ny r : MVOf R) (hneg : callee "MultiVector.__neg__" [.mv y] [] = .ok (.mv ny))
    (hadd : callee "MultiVector.__add__" [.mv x, .mv ny] [] = .ok (.mv r)) :
    c18RunFn c18ExpectedModule Γ fuel callee c18X_MultiVector___sub__ [.mv x, .mv y] []
      = .ok (.mv r) := by
  apply c18RunFn_of_body rfl
  have hun : c18UnOp (c18Rt Γ fuel callee) .neg (.mv y)
      = callee "MultiVector.__neg__" [.mv y] [] := by
    simp only [c18UnOp]; rfl
  c18sym [c18X_MultiVector___sub__, hun, hneg, c18BinOp_obj (c18Rt Γ fuel callee) rfl .add
    "MultiVector.__add__" rfl, hadd]

end
end PV.GA.C18T
