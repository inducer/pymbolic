import PV.Proofs.MemoRefines
import PV.Proofs.Simple
import PV.Proofs.WalkSpec
/-
  Helper lemmas for C05: the stock `Prog` families (`depsProg`, `sizeProg`) only ask for children of
  their key, and the "simple" universe of C02 (Python `==` is identity) makes every such family
  admissible for the generic theorems.
-/
namespace PV.Memo
open PV

/-! ### the universe: simple expressions, simple positional arguments, no keywords -/

def ArgKey.simple (a : ArgKey) : Bool := a.args.all Const.simple && a.kwargs.isEmpty

/-- keys on which Python `==` is identity -/
def UK (k : Key) : Prop := k.expr.simple = true ∧ k.args.simple = true

theorem constsEq_eq_of_simple : ∀ (as bs : List Const), as.all Const.simple = true →
    bs.all Const.simple = true → constsEq as bs = true → as = bs
  | [], [], _, _, _ => rfl
  | [], _ :: _, _, _, h => by simp [constsEq] at h
  | _ :: _, [], _, _, h => by simp [constsEq] at h
  | a :: as, b :: bs, ha, hb, h => by
      simp only [List.all_cons, Bool.and_eq_true] at ha hb
      simp only [constsEq, Bool.and_eq_true] at h
      rw [Const.pyEq_eq_of_simple ha.1 hb.1 h.1, constsEq_eq_of_simple as bs ha.2 hb.2 h.2]

theorem argKey_eq_of_simple {a b : ArgKey} (ha : a.simple = true) (hb : b.simple = true)
    (h : constsEq a.args b.args = true) : a = b := by
  obtain ⟨aa, aw⟩ := a
  obtain ⟨ba, bw⟩ := b
  simp only [ArgKey.simple, Bool.and_eq_true, List.isEmpty_iff] at ha hb
  obtain ⟨ha1, rfl⟩ := ha
  obtain ⟨hb1, rfl⟩ := hb
  rw [constsEq_eq_of_simple aa ba ha1 hb1 h]

theorem keyEq_eq_of_UK {a b : Key} (ha : UK a) (hb : UK b) (h : Key.eq a b = true) : a = b := by
  obtain ⟨ae, aa⟩ := a
  obtain ⟨be, ba⟩ := b
  simp only [Key.eq, Expr.keyEq, ArgKey.pyEq, Bool.and_eq_true] at h
  have h1 : ae = be := pyEq_eq_of_simple ae be ha.1 hb.1 h.1.2
  have h2 : aa = ba := argKey_eq_of_simple ha.2 hb.2 h.2.1
  rw [h1, h2]

theorem cseEq_eq_of_UK {a b : Key} (ha : UK a) (hb : UK b) (h : Key.cseEq a b = true) : a = b := by
  obtain ⟨ae, aa⟩ := a
  obtain ⟨be, ba⟩ := b
  simp only [Key.cseEq, Bool.and_eq_true] at h
  have h1 : ae = be := pyEq_eq_of_simple ae be ha.1 hb.1 h.1
  have h2 : aa = ba := argKey_eq_of_simple ha.2 hb.2 h.2
  rw [h1, h2]

/-! ### coherent universes make every handler family admissible -/

variable {K X R : Type}

/-- a handler family whose requests go to children (in a measure) of the key, in the universe -/
structure Descends (S : Spec K X R) (U : K → Prop) (μ : K → Nat) : Prop where
  coherent : ∀ a b, U a → U b → S.keq a b = true → a = b
  calls : ∀ k, U k → CallsOK (fun k' => U k' ∧ μ k' < μ k) (S.h k)
  hashable : ∀ k, U k → S.unhashable k = none

theorem Descends.admissible {S : Spec K X R} {U : K → Prop} {μ : K → Nat}
    (h : Descends S U μ) : Admissible S U where
  closed := fun k hk => (h.calls k hk).mono fun _ hk' => hk'.1
  resp := fun k k' hk hk' he n a hp => by
    have := h.coherent k k' hk hk' he; subst this; exact ⟨n, hp⟩
  hashable := h.hashable

theorem Descends.ordered {S : Spec K X R} {U : K → Prop} {μ : K → Nat}
    (h : Descends S U μ) : Ordered S U μ where
  closed := fun k hk => (h.calls k hk).mono fun _ hk' => hk'.1
  symm := fun a b ha hb he => by
    have := h.coherent a b ha hb he; subst this; exact he
  trans := fun a b c ha hb _ h1 h2 => by
    have := h.coherent a b ha hb h1; subst this; exact h2
  meas := fun a b ha hb he => by
    have := h.coherent a b ha hb he; subst this; rfl
  below := fun k hk => (h.calls k hk).mono fun _ hk' => hk'.2

/-! ### the stock families ask for children only -/

/-- "a child of `k`, with `k`'s extra arguments" -/
def ChildOf (k : Key) (k' : Key) : Prop := k'.expr ∈ k.expr.children ∧ k'.args = k.args

theorem kidsAll_ok {R' : Type} (k : Key) (es : List Expr) (cont : List R' → Prog Key DepErr R')
    (hc : ∀ rs, CallsOK (ChildOf k) (cont rs)) (h : ∀ c ∈ es, c ∈ k.expr.children) :
    CallsOK (ChildOf k) (callAll (kids k es) cont) := by
  refine callAll_ok _ _ ?_ hc
  intro k' hk'
  simp only [kids, List.mem_map] at hk'
  obtain ⟨c, hc', rfl⟩ := hk'
  exact ⟨h c hc', rfl⟩

theorem depRet_ok (P : Key → Prop) (e : Expr) : CallsOK P (depRet e) := by
  unfold depRet; split
  · exact .fail _
  · exact .ret _

theorem sliceKids_sub : ∀ {cs : List Expr} {c : Expr}, c ∈ sliceKids cs → c ∈ cs
  | [], _, h => by simp [sliceKids] at h
  | d :: ds, c, h => by
      by_cases hd : d = .const .none
      · subst hd
        simp only [sliceKids] at h
        exact List.mem_cons_of_mem _ (sliceKids_sub h)
      · have e : sliceKids (d :: ds) = d :: sliceKids ds := by
          rw [sliceKids]; exact hd
        rw [e] at h
        simp only [List.mem_cons] at h ⊢
        rcases h with rfl | h
        · exact Or.inl rfl
        · exact Or.inr (sliceKids_sub h)

theorem sizeProg_calls (k : Key) : CallsOK (ChildOf k) (sizeProg k) :=
  kidsAll_ok k _ _ (fun _ => .ret _) (fun _ h => h)

theorem depsProg_calls (fl : DepFlags) (k : Key) : CallsOK (ChildOf k) (depsProg fl k) := by
  obtain ⟨e, a⟩ := k
  have ret : ∀ rs : List (List Expr),
      CallsOK (ChildOf ⟨e, a⟩) (Prog.ret (unionAll rs) : Prog Key DepErr (List Expr)) :=
    fun _ => .ret _
  cases e <;> simp only [depsProg]
  case const c => cases c <;> first | exact .ret _ | exact .fail _
  case var => exact .ret _
  case call f as =>
    cases fl.calls
    · exact depRet_ok _ _
    · exact kidsAll_ok _ _ _ ret (by simp [Expr.children])
    · exact kidsAll_ok _ _ _ ret (fun c hc => by simp [Expr.children, hc])
  case callKw f as ns vs =>
    cases fl.calls
    · exact depRet_ok _ _
    · exact kidsAll_ok _ _ _ ret (by simp [Expr.children])
    · exact kidsAll_ok _ _ _ ret (fun c hc => by
        simp only [Expr.children, List.mem_cons]; exact Or.inr hc)
  case lookup a' n =>
    split
    · exact depRet_ok _ _
    · exact kidsAll_ok _ _ _ ret (by simp [Expr.children])
  case subscript a' i =>
    split
    · exact depRet_ok _ _
    · exact kidsAll_ok _ _ _ ret (by simp [Expr.children])
  case cse c p s =>
    split
    · exact .fail _
    · split
      · exact .ret _
      · exact kidsAll_ok _ _ _ ret (by simp [Expr.children])
  case slice cs => exact kidsAll_ok _ _ _ ret (fun c hc => by
      simp only [Expr.children]; exact sliceKids_sub hc)
  all_goals first
    | exact .ret _
    | exact .fail _
    | exact kidsAll_ok _ _ _ ret (by simp [Expr.children])

/-- any handler family that asks for children only descends on the simple universe -/
theorem descends_of_children {X R : Type} (h : Key → Prog Key X R) (te : X)
    (hc : ∀ k, CallsOK (ChildOf k) (h k)) :
    Descends (cachedSpec h te) UK (fun k => k.expr.size) where
  coherent := fun _ _ => keyEq_eq_of_UK
  calls := fun k hk => (hc k).mono fun k' hk' =>
    ⟨⟨simple_children hk.1 _ hk'.1, by rw [hk'.2]; exact hk.2⟩, Expr.size_lt_of_mem_children hk'.1⟩
  hashable := fun k hk => by simp [cachedSpec, simple_nolist _ hk.1]

theorem descends_of_children_cse {X R : Type} (h : Key → Prog Key X R) (te : X)
    (hc : ∀ k, CallsOK (ChildOf k) (h k)) :
    Descends (cseMixinSpec h te) UK (fun k => k.expr.size) where
  coherent := fun _ _ => cseEq_eq_of_UK
  calls := fun k hk => (hc k).mono fun k' hk' =>
    ⟨⟨simple_children hk.1 _ hk'.1, by rw [hk'.2]; exact hk.2⟩, Expr.size_lt_of_mem_children hk'.1⟩
  hashable := fun k hk => by simp [cseMixinSpec, simple_nolist _ hk.1]

end PV.Memo
