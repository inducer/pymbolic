import PV.Proofs.SyntaxPostfix
/-
  C06.  The main lemma by induction on the size of the tree, and the statement for `parseTop`.
-/
namespace PV.Syntax
open PV

variable {P : ParserPrec} {S : PrintPrec}

theorem printableAll_mem {pos : Pos} : ∀ {ds : List Expr}, PrintableAll P S pos ds = true →
    ∀ e ∈ ds, Printable P S e = true
  | d :: ds, h, e, he => by
    simp only [PrintableAll, Bool.and_eq_true] at h
    rcases List.mem_cons.mp he with rfl | he
    · exact h.1.2
    · exact printableAll_mem h.2 e he

theorem printableProd_mem : ∀ {ds : List Expr}, PrintableProd P S ds = true →
    ∀ e ∈ ds, Printable P S e = true
  | [d], h, e, he => by
    obtain rfl := List.mem_singleton.mp he
    exact (Bool.and_eq_true_iff.mp h).2
  | d :: d' :: ds, h, e, he => by
    have h : (okAt P S (.left .times) d && Printable P S d
        && PrintableProd P S (d' :: ds)) = true := h
    simp only [Bool.and_eq_true] at h
    rcases List.mem_cons.mp he with rfl | he
    · exact h.1.2
    · exact printableProd_mem h.2 e he

/-! ### the main lemma -/

theorem main_lemma : ∀ (n : Nat) (t : Expr), t.size < n → Printable P S t = true → Goal P S t
  | 0, _, hsz, _ => absurd hsz (Nat.not_lt_zero _)
  | n + 1, t, hsz, hp => by
    have ih := main_lemma n
    have ihL : ∀ {cs : List Expr}, Expr.sizeL cs < n → (∀ e ∈ cs, Printable P S e = true) →
        ∀ e ∈ cs, Goal P S e :=
      fun hcs hpr e he => ih e (Nat.lt_of_le_of_lt (Expr.size_le_sizeL he) hcs) (hpr e he)
    match hv : infixOf t with
    | some (o, a, b) =>
      obtain ⟨_, _, hpr, hsa, hsb⟩ := infixOf_facts (P := P) (S := S) hv
      have hp' := hp
      rw [hpr] at hp'
      simp only [Bool.and_eq_true] at hp'
      exact infix_case hv hp (ih a (by omega) hp'.1.2) (ih b (by omega) hp'.2)
    | none =>
      cases t with
      | const c =>
        cases c with
        | int n => exact int_case n
        | bool b => exact bool_case b
        | flt r m d =>
          obtain ⟨k, hk⟩ := Option.isSome_iff_exists.mp hp
          exact flt_case r m d hk
        | _ => cases hp
      | var x => exact var_case x
      | un o a =>
        simp only [Expr.size] at hsz
        exact un_case hp (ih a (by omega) (Bool.and_eq_true_iff.mp hp).2)
      | ite c t e =>
        have hp' := hp
        simp only [Printable, Bool.and_eq_true] at hp'
        simp only [Expr.size] at hsz
        exact ite_case hp (ih c (by omega) hp'.1.1.2) (ih t (by omega) hp'.1.2)
          (ih e (by omega) hp'.2)
      | bin o a b => cases hv
      | cmp o a b => cases hv
      | nary o cs =>
        simp only [Expr.size] at hsz
        cases o with
        | sum =>
          match cs, hp, hsz with
          | c :: d :: cs', hp, hsz =>
            refine sum_case hp (ihL (by omega) fun e he => ?_)
            simp only [Printable, Bool.and_eq_true] at hp
            rcases List.mem_cons.mp he with rfl | he
            · exact hp.1.2
            · exact printableAll_mem hp.2 e he
          | [], hp, _ => cases hp
          | [_], hp, _ => cases hp
        | prod =>
          match cs, hp, hsz with
          | c :: d :: cs', hp, hsz =>
            exact prod_case hp (ihL (by omega) (printableProd_mem (Bool.and_eq_true_iff.mp hp).1))
          | [], hp, _ => cases hp
          | [_], hp, _ => cases hp
        | _ => rcases cs with _ | ⟨a, _ | ⟨b, _ | ⟨c, cs⟩⟩⟩ <;> first | cases hp | cases hv
      | lookup a nm =>
        simp only [Expr.size] at hsz
        exact lookup_case hp (ih a (by omega) (Bool.and_eq_true_iff.mp hp).2)
      | subscript a i =>
        simp only [Expr.size] at hsz
        by_cases hi : ∃ cs, i = .tuple cs
        · obtain ⟨cs, rfl⟩ := hi
          match cs, hp, hsz with
          | c :: d :: cs', hp, hsz =>
            have hp' := hp
            simp only [Printable, Bool.and_eq_true] at hp'
            simp only [Expr.size, Expr.sizeL] at hsz
            exact subscript_tuple_case hp (ih a (by omega) hp'.1.1.1.1.2)
              (ih c (by omega) hp'.1.1.2) (ihL (by simp only [Expr.sizeL]; omega)
                (printableAll_mem hp'.1.2))
          | [], hp, _ => cases hp
          | [_], hp, _ => cases hp
        · have hi : ∀ cs, i ≠ .tuple cs := fun cs h => hi ⟨cs, h⟩
          have hp' := hp
          rw [printable_subscript hi] at hp'
          simp only [Bool.and_eq_true] at hp'
          exact subscript_case hi hp (ih a (by omega) hp'.1.1.2) (ih i (by omega) hp'.2)
      | call f as =>
        have hp' := hp
        simp only [Printable, Bool.and_eq_true] at hp'
        simp only [Expr.size] at hsz
        exact call_case hp (ih f (by omega) hp'.1.2) (ihL (by omega) (printableAll_mem hp'.2))
      | callKw f as ns vs =>
        have hp' := hp
        simp only [Printable, Bool.and_eq_true] at hp'
        simp only [Expr.size] at hsz
        exact callKw_case hp (ih f (by omega) hp'.1.1.1.1.1.2)
          (ihL (by omega) (printableAll_mem hp'.1.1.1.1.2))
          (ihL (by omega) (printableAll_mem hp'.1.1.1.2))
      | tuple cs =>
        simp only [Expr.size] at hsz
        refine tuple_case hp (ihL (by omega) fun e he => ?_)
        match cs, hp, he with
        | c :: cs', hp, he =>
          simp only [Printable, Bool.and_eq_true] at hp
          rcases List.mem_cons.mp he with rfl | he
          · exact hp.1.1.2
          · exact printableAll_mem hp.1.2 e he
      | list cs =>
        simp only [Expr.size] at hsz
        refine list_case hp (ihL (by omega) fun e he => ?_)
        match cs, hp, he with
        | [c], hp, he =>
          obtain rfl := List.mem_singleton.mp he
          exact (Bool.and_eq_true_iff.mp hp).2
        | c :: d :: cs', hp, he =>
          simp only [Printable, Bool.and_eq_true] at hp
          rcases List.mem_cons.mp he with rfl | he
          · exact hp.1.1.2
          · exact printableAll_mem hp.1.2 e he
      | slice cs =>
        simp only [Expr.size] at hsz
        match cs, hp, hsz with
        | c :: d :: cs', hp, hsz =>
          exact slice_case hp fun e he hn =>
            ih e (Nat.lt_of_le_of_lt (Expr.size_le_sizeL he) (by omega)) (printableSlice_mem hp e he hn)
        | [], hp, _ => cases hp
        | [_], hp, _ => cases hp
      | _ => cases hp


/-- the printed form of a tree of the fragment parses (with the fuel of `parseTop`) to its
normal form -/
theorem parseTop_str {e : Expr} {ps : Pieces} (hp : Printable P S e = true)
    (htop : okAt P S .top e = true) (hs : strTop S e = .ok ps) :
    parseTop P 0 (toks ps) = .ok (pnf e) := by
  have h := operand_plain (pos := .top) (fun _ => rfl) (main_lemma _ e (Nat.lt_succ_self _) hp)
    htop hp hs (m := 0) (R := []) (Nat.lt_succ_self _) not_absorbs_nil (PL_stop not_absorbs_nil)
  rw [List.append_nil] at h
  -- `2 * n + 8` is the fuel `parseTop` hands to `parseExpr` for `n` tokens
  have h' := h (2 * (toks ps).length + 8) (by simp only [G]; omega)
  simp [parseTop, h', pure, Except.pure]

end PV.Syntax
