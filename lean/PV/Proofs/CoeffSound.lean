import PV.Model.Coeff
import PV.Proofs.OpsSound
import PV.Proofs.Simple
import PV.Proofs.PyEqEquiv
import Mathlib.Tactic.Ring
import Mathlib.Tactic.FieldSimp
/-
  C15 helper lemmas: the dictionary computed by `coeffs` evaluates (entry by entry, through `den`)
  to the value of the input expression.

  Also what the other C15 proofs about `coeffs` rest on: when the loops of the model succeed
  (`*_ok`), the keys of their results (`KeysP`), the shapes of a successful run (`CView`) and the
  induction over successful runs (`coeffs_induct`).
-/
namespace PV.Coeff
open PV

variable {env : Env}

/-! ### exact numeric value of an expression -/

/-- the rational value of `e` when `den env e` is an exact number (int, bool, Fraction) -/
def nv (env : Env) (e : Expr) : Option Rat :=
  match den env e with
  | .ok v => match v.view with
    | some (q, _) => some q
    | none => none
  | .error _ => none

theorem nv_iff {e : Expr} {q : Rat} :
    nv env e = some q ↔ ∃ v f, den env e = .ok v ∧ v.view = some (q, f) := by
  unfold nv
  constructor
  · intro h
    split at h
    · rename_i v hd
      split at h
      · rename_i q' f' hv
        cases h
        exact ⟨v, f', hd, hv⟩
      · cases h
    · cases h
  · rintro ⟨v, f, hd, hv⟩
    rw [hd]
    simp [hv]

theorem nv_one : nv env one = some 1 :=
  nv_iff.2 ⟨.int 1, false, rfl, by simp [Value.view]⟩

theorem nv_int (n : Int) : nv env (.const (.int n)) = some (n : Rat) :=
  nv_iff.2 ⟨.int n, false, rfl, rfl⟩

def nvL (env : Env) : List Expr → Option (List Rat)
  | [] => some []
  | c :: cs => match nv env c, nvL env cs with
    | some q, some qs => some (q :: qs)
    | _, _ => none

def qsum : List Rat → Rat
  | [] => 0
  | a :: as => a + qsum as

def qprod : List Rat → Rat
  | [] => 1
  | a :: as => a * qprod as

theorem listView_nvL {g : Rat → Rat → Rat} {z : Rat} {cs : List Expr} {q : Rat} {f : Bool}
    (h : listView env g z cs = some (q, f)) : ∃ qs, nvL env cs = some qs ∧ q = qs.foldr g z := by
  induction cs generalizing q f with
  | nil => cases h; exact ⟨[], rfl, rfl⟩
  | cons c cs ih =>
    simp only [listView] at h
    split at h
    · rename_i vc hc
      split at h
      · rename_i qc fc qs' fs' hvc hl
        cases h
        obtain ⟨qs, hqs, rfl⟩ := ih hl
        have hn : nv env c = some qc := nv_iff.2 ⟨vc, fc, hc, hvc⟩
        exact ⟨qc :: qs, by simp only [nvL, hn, hqs], rfl⟩
      · cases h
    · cases h

theorem nvL_listView {g : Rat → Rat → Rat} {z : Rat} {cs : List Expr} {qs : List Rat}
    (h : nvL env cs = some qs) : ∃ f, listView env g z cs = some (qs.foldr g z, f) := by
  induction cs generalizing qs with
  | nil => cases h; exact ⟨false, rfl⟩
  | cons c cs ih =>
    simp only [nvL] at h
    split at h
    · rename_i qc qs' hn hl
      cases h
      obtain ⟨v, fc, hd, hv⟩ := nv_iff.1 hn
      obtain ⟨f, hf⟩ := ih hl
      exact ⟨fc || f, by simp only [listView, hd, hv, hf, List.foldr_cons]⟩
    · cases h

theorem foldr_add (qs : List Rat) : qs.foldr (· + ·) 0 = qsum qs := by
  induction qs with
  | nil => rfl
  | cons a as ih => simp [qsum, ih]

theorem foldr_mul (qs : List Rat) : qs.foldr (· * ·) 1 = qprod qs := by
  induction qs with
  | nil => rfl
  | cons a as ih => simp [qprod, ih]

theorem nv_sum {cs : List Expr} {q : Rat} (h : nv env (.nary .sum cs) = some q) :
    ∃ qs, nvL env cs = some qs ∧ q = qsum qs := by
  obtain ⟨v, f, hd, hv⟩ := nv_iff.1 h
  obtain ⟨qs, h1, h2⟩ := listView_nvL (sum_children_view hd hv)
  exact ⟨qs, h1, by rw [h2, foldr_add]⟩

theorem nv_sum_of {cs : List Expr} {qs : List Rat} (h : nvL env cs = some qs) :
    nv env (.nary .sum cs) = some (qsum qs) := by
  obtain ⟨f, hf⟩ := nvL_listView (g := (· + ·)) (z := 0) h
  obtain ⟨r, hr, hv⟩ := sum_den_of_view hf
  rw [foldr_add] at hv
  exact nv_iff.2 ⟨r, f, hr, hv⟩

theorem nv_prod {cs : List Expr} {q : Rat} (h : nv env (.nary .prod cs) = some q) :
    ∃ qs, nvL env cs = some qs ∧ q = qprod qs := by
  obtain ⟨v, f, hd, hv⟩ := nv_iff.1 h
  obtain ⟨qs, h1, h2⟩ := listView_nvL (prod_children_view hd hv)
  exact ⟨qs, h1, by rw [h2, foldr_mul]⟩

theorem nv_prod_of {cs : List Expr} {qs : List Rat} (h : nvL env cs = some qs) :
    nv env (.nary .prod cs) = some (qprod qs) := by
  obtain ⟨f, hf⟩ := nvL_listView (g := (· * ·)) (z := 1) h
  obtain ⟨r, hr, hv⟩ := prod_den_of_view hf
  rw [foldr_mul] at hv
  exact nv_iff.2 ⟨r, f, hr, hv⟩

/-- exact quotient: both operands are exact, the divisor is not zero -/
theorem nv_quot {a b : Expr} {q : Rat} (h : nv env (.bin .quot a b) = some q) :
    ∃ qa qb, nv env a = some qa ∧ nv env b = some qb ∧ qb ≠ 0 ∧ q = qa / qb := by
  obtain ⟨v, f, hd, hv⟩ := nv_iff.1 h
  obtain ⟨x, y, hx, hy, hxy⟩ := bin_den_ok hd
  simp only [BinOp.apply] at hxy
  obtain ⟨qa, fa, qb, fb, hva, hvb, hres⟩ := div_view hxy
  have hq : v.view = some (qa / qb, true) := by
    rcases hres with rfl | hres
    · simp [Value.view] at hv
    · exact hres
  obtain ⟨rfl, _⟩ := view_inj hv hq
  refine ⟨qa, qb, nv_iff.2 ⟨x, fa, hx, hva⟩, nv_iff.2 ⟨y, fb, hy, hvb⟩, ?_, rfl⟩
  -- a zero divisor raises
  intro h0
  subst h0
  obtain ⟨nx, ny, hnx, hny, hf, _, hyv⟩ := arith_ok_view hxy
  have hy0 : ny.toRat = 0 := (Prod.mk.inj (Option.some.inj (hvb.symm.trans hyv))).1.symm
  cases nx <;> cases ny <;> simp only [divN, Num.toRat] at hf hy0
  · rename_i a' b'
    have : b' = 0 := by exact_mod_cast hy0
    simp [this] at hf
  all_goals simp [hy0] at hf

/-! ### arithmetic on stored coefficients -/

theorem liftOp_ok {r : OpR} {t : Expr} (h : liftOp r = .ok t) : r = .ok t := by
  cases r with
  | ok e => simpa [liftOp] using h
  | error err => cases err <;> simp [liftOp] at h

theorem constBin_nv {o : PyBinOp} {g : Rat → Rat → Rat}
    (hspec : ∀ {va vb : Value} {qa qb : Rat} {fa fb : Bool}, va.view = some (qa, fa) →
      vb.view = some (qb, fb) → ∃ r, o.onValues va vb = .ok r ∧ r.view = some (g qa qb, fa || fb))
    {x y : Const} {t : Expr} {qa qb : Rat} (h : constBin o x y = .ok t)
    (ha : nv env (.const x) = some qa) (hb : nv env (.const y) = some qb) :
    nv env t = some (g qa qb) := by
  obtain ⟨va, fa, hda, hva⟩ := nv_iff.1 ha
  obtain ⟨vb, fb, hdb, hvb⟩ := nv_iff.1 hb
  unfold constBin at h
  split at h
  · rename_i vx vy hx hy
    cases hda.symm.trans (toValue_den (env := env) hx)
    cases hdb.symm.trans (toValue_den (env := env) hy)
    obtain ⟨r, hr, hrv⟩ := hspec hva hvb
    rw [hr] at h
    simp only at h
    split at h
    · rename_i c hc
      cases h
      exact nv_iff.2 ⟨r, _, (toConst_den hc).1, hrv⟩
    · cases h
  · cases h

theorem pyBin_nv {o : PyBinOp} {g : Rat → Rat → Rat}
    (hspec : ∀ {va vb : Value} {qa qb : Rat} {fa fb : Bool}, va.view = some (qa, fa) →
      vb.view = some (qb, fb) → ∃ r, o.onValues va vb = .ok r ∧ r.view = some (g qa qb, fa || fb))
    (hside : ∀ a b va vb v, sideCond o a b va vb v = true)
    {a b t : Expr} {qa qb : Rat} (h : pyBin o a b = .ok t)
    (ha : nv env a = some qa) (hb : nv env b = some qb) : nv env t = some (g qa qb) := by
  unfold pyBin at h
  split at h
  · exact constBin_nv hspec (liftOp_ok h) ha hb
  · obtain ⟨va, fa, hda, hva⟩ := nv_iff.1 ha
    obtain ⟨vb, fb, hdb, hvb⟩ := nv_iff.1 hb
    obtain ⟨r, hr, hrv⟩ := hspec hva hvb
    obtain ⟨w, hw, href⟩ := bin_sound (liftOp_ok h) hda hdb hr (hside _ _ _ _ _)
    obtain ⟨fw, hwv, _⟩ := href.view_right hrv
    exact nv_iff.2 ⟨w, fw, hw, hwv⟩

theorem pyAdd_nv {a b t : Expr} {qa qb : Rat} (h : pyBin .add a b = .ok t)
    (ha : nv env a = some qa) (hb : nv env b = some qb) : nv env t = some (qa + qb) :=
  pyBin_nv (o := .add) (g := (· + ·)) (fun h1 h2 => add_spec h1 h2) (fun _ _ _ _ _ => rfl) h ha hb

theorem pyMul_nv {a b t : Expr} {qa qb : Rat} (h : pyBin .mul a b = .ok t)
    (ha : nv env a = some qa) (hb : nv env b = some qb) : nv env t = some (qa * qb) :=
  pyBin_nv (o := .mul) (g := (· * ·)) (fun h1 h2 => mul_spec h1 h2) (fun _ _ _ _ _ => rfl) h ha hb

/-! ### the value of a dictionary -/

/-- `Σ value(coefficient) * value(key)`, defined when every coefficient and key is exact -/
def dictNV (env : Env) : Dict → Option Rat
  | [] => some 0
  | (k, c) :: rest => match nv env c, nv env k, dictNV env rest with
    | some qc, some qk, some qr => some (qc * qk + qr)
    | _, _, _ => none

def dictNVL (env : Env) : List Dict → Option (List Rat)
  | [] => some []
  | d :: ds => match dictNV env d, dictNVL env ds with
    | some q, some qs => some (q :: qs)
    | _, _ => none

theorem dictNV_cons {k c : Expr} {rest : Dict} {q : Rat} (h : dictNV env ((k, c) :: rest) = some q) :
    ∃ qc qk qr, nv env c = some qc ∧ nv env k = some qk ∧ dictNV env rest = some qr ∧
      q = qc * qk + qr := by
  simp only [dictNV] at h
  split at h
  · rename_i qc qk qr hc hk hr
    cases h
    exact ⟨qc, qk, qr, hc, hk, hr, rfl⟩
  · cases h

theorem dictNV_cons_of {k c : Expr} {rest : Dict} {qc qk qr : Rat} (hc : nv env c = some qc)
    (hk : nv env k = some qk) (hr : dictNV env rest = some qr) :
    dictNV env ((k, c) :: rest) = some (qc * qk + qr) := by
  simp [dictNV, hc, hk, hr]

theorem dictNVL_cons {d : Dict} {ds : List Dict} {qs : List Rat}
    (h : dictNVL env (d :: ds) = some qs) :
    ∃ q qs', dictNV env d = some q ∧ dictNVL env ds = some qs' ∧ qs = q :: qs' := by
  simp only [dictNVL] at h
  split at h
  · rename_i q qs' hd hds
    cases h
    exact ⟨q, qs', hd, hds, rfl⟩
  · cases h

theorem nvL_cons {c : Expr} {cs : List Expr} {qs : List Rat} (h : nvL env (c :: cs) = some qs) :
    ∃ q qs', nv env c = some q ∧ nvL env cs = some qs' ∧ qs = q :: qs' := by
  simp only [nvL] at h
  split at h
  · rename_i q qs' hd hds
    cases h
    exact ⟨q, qs', hd, hds, rfl⟩
  · cases h

/-- the reconstruction `Σ c·k` as a tree evaluates to the value of the dictionary -/
theorem recon_nv {d : Dict} {q : Rat} (h : dictNV env d = some q) :
    ∃ qs, nvL env (d.map fun kc => .nary .prod [kc.2, kc.1]) = some qs ∧ qsum qs = q := by
  induction d generalizing q with
  | nil => cases h; exact ⟨[], rfl, rfl⟩
  | cons kc rest ih =>
    obtain ⟨qc, qk, qr, hc, hk, hr, rfl⟩ := dictNV_cons (k := kc.1) (c := kc.2) h
    obtain ⟨qs, hqs, hsum⟩ := ih hr
    have hterm : nv env (.nary .prod [kc.2, kc.1]) = some (qc * qk) := by
      have : nvL env [kc.2, kc.1] = some [qc, qk] := by simp only [nvL, hc, hk]
      rw [nv_prod_of this, qprod, qprod, qprod, mul_one]
    exact ⟨(qc * qk) :: qs, by simp only [List.map_cons, nvL, hterm, hqs], by rw [qsum, hsum]⟩

theorem recon_den {d : Dict} {q : Rat} (h : dictNV env d = some q) : nv env (recon d) = some q := by
  obtain ⟨qs, hqs, hsum⟩ := recon_nv h
  unfold recon
  rw [nv_sum_of hqs, hsum]

/-! ### keys -/

def KeysP (P : Expr → Prop) (d : Dict) : Prop := ∀ kc ∈ d, P kc.1

abbrev KeysSimple (d : Dict) : Prop := KeysP (fun k => k.simple = true) d

theorem keysP_iff {P : Expr → Prop} {d : Dict} : KeysP P d ↔ ∀ k ∈ d.map Prod.fst, P k :=
  List.forall_mem_map.symm

theorem keysP_cons {P : Expr → Prop} {kc : Expr × Expr} {d : Dict} :
    KeysP P (kc :: d) ↔ P kc.1 ∧ KeysP P d :=
  List.forall_mem_cons

theorem keysP_single {P : Expr → Prop} {k c : Expr} : KeysP P [(k, c)] ↔ P k := by
  simp [KeysP]

theorem keysP_of_keys {P : Expr → Prop} {d d' : Dict} (h : d'.map Prod.fst = d.map Prod.fst)
    (hd : KeysP P d) : KeysP P d' := by
  rw [keysP_iff] at hd ⊢
  rwa [h]

theorem one_simple : one.simple = true := rfl

theorem key_eq_of_pyEq {k k' : Expr} (h1 : k'.simple = true) (h2 : k.simple = true)
    (h : k'.pyEq k = true) : k' = k := pyEq_eq_of_simple k' k h1 h2 h

/-! ### when the loops of the model succeed -/

theorem bind_ok {α β : Type} {x : CR α} {f : α → CR β} {b : β} :
    (x >>= f) = .ok b ↔ ∃ a, x = .ok a ∧ f a = .ok b := by
  cases x with
  | error e => exact ⟨nofun, fun ⟨_, h, _⟩ => nomatch h⟩
  | ok a => exact ⟨fun h => ⟨a, rfl, h⟩, fun ⟨_, h, hf⟩ => by cases h; exact hf⟩

theorem pure_ok {α : Type} {a b : α} : (pure a : CR α) = .ok b ↔ a = b :=
  ⟨fun h => by cases h; rfl, fun h => h ▸ rfl⟩

theorem addTo_cons_ok {k' c' k c : Expr} {rest d' : Dict} :
    Dict.addTo ((k', c') :: rest) k c = .ok d' ↔
      (k'.pyEq k = true ∧ ∃ s, pyBin .add c' c = .ok s ∧ (k', s) :: rest = d') ∨
      (k'.pyEq k = false ∧ ∃ r, Dict.addTo rest k c = .ok r ∧ (k', c') :: r = d') := by
  cases heq : k'.pyEq k <;>
    simp only [Dict.addTo, heq, Bool.false_eq_true, if_false, if_true, bind_ok, pure_ok, false_and,
      true_and, false_or, Bool.true_eq_false, or_false]

theorem mergeInto_cons_ok {result rest d' : Dict} {k c : Expr} :
    mergeInto result ((k, c) :: rest) = .ok d' ↔
      ∃ r, result.addTo k c = .ok r ∧ mergeInto r rest = .ok d' :=
  bind_ok

theorem sumDicts_cons_ok {result d d' : Dict} {ds : List Dict} :
    sumDicts result (d :: ds) = .ok d' ↔ ∃ r, mergeInto result d = .ok r ∧ sumDicts r ds = .ok d' :=
  bind_ok

theorem otherCoeffs_cons_ok {acc other : Expr} {d : Dict} {ds : List Dict} :
    otherCoeffs acc (d :: ds) = .ok other ↔
      d.length = 1 ∧ ∃ c, d.find one = some c ∧
        ∃ acc', pyBin .mul acc c = .ok acc' ∧ otherCoeffs acc' ds = .ok other := by
  simp only [otherCoeffs, bne_iff_ne, ne_eq, ite_not]
  by_cases hl : d.length = 1
  · cases hf : d.find one
    · simp only [hl, if_true, throw, throwThe, MonadExceptOf.throw, reduceCtorEq, false_and,
        exists_const, and_false]
    · simp only [hl, if_true, bind_ok, Option.some.injEq, exists_eq_left', true_and]
  · simp only [hl, if_false, throw, throwThe, MonadExceptOf.throw, reduceCtorEq, false_and]

theorem coeffsL_cons_ok {tg : Option (List String)} {c : Expr} {cs : List Expr} {ds : List Dict} :
    coeffsL tg (c :: cs) = .ok ds ↔
      ∃ d, coeffs tg c = .ok d ∧ ∃ ds', coeffsL tg cs = .ok ds' ∧ d :: ds' = ds := by
  simp only [coeffsL, bind_ok, pure_ok]

/-- `d'` is `d` with `f` applied to every coefficient -/
def Scaled (f : Expr → CR Expr) : Dict → Dict → Prop :=
  List.Forall₂ fun kc kc' => kc'.1 = kc.1 ∧ f kc.2 = .ok kc'.2

theorem scaled_cons {f : Expr → CR Expr} {k c : Expr} {rest d' : Dict} :
    Scaled f ((k, c) :: rest) d' ↔
      ∃ c', f c = .ok c' ∧ ∃ r, Scaled f rest r ∧ (k, c') :: r = d' := by
  simp only [Scaled, List.forall₂_cons_left_iff]
  constructor
  · rintro ⟨⟨k', c'⟩, r, ⟨rfl, h1⟩, h2, rfl⟩
    exact ⟨c', h1, r, h2, rfl⟩
  · rintro ⟨c', h1, r, h2, rfl⟩
    exact ⟨(k, c'), r, ⟨rfl, h1⟩, h2, rfl⟩

theorem scaleLeft_ok {other : Expr} {d d' : Dict} :
    scaleLeft other d = .ok d' ↔ Scaled (pyBin .mul other) d d' := by
  induction d generalizing d' with
  | nil => exact pure_ok.trans (eq_comm.trans List.forall₂_nil_left_iff.symm)
  | cons kc rest ih =>
    obtain ⟨k, c⟩ := kc
    simp only [scaleLeft, bind_ok, pure_ok, ih, scaled_cons]

theorem scaleRight_ok {q : Expr} {d d' : Dict} :
    scaleRight q d = .ok d' ↔ Scaled (fun c => pyBin .mul c q) d d' := by
  induction d generalizing d' with
  | nil => exact pure_ok.trans (eq_comm.trans List.forall₂_nil_left_iff.symm)
  | cons kc rest ih =>
    obtain ⟨k, c⟩ := kc
    simp only [scaleRight, bind_ok, pure_ok, ih, scaled_cons]

/-- the result is determined by which dictionaries have a variable key -/
theorem splitVars_ok {ds os : List Dict} {v : Option Dict} :
    splitVars ds = .ok (v, os) ↔
      ds.filter hasVarKey = v.toList ∧ (ds.filter fun d => !hasVarKey d) = os := by
  induction ds generalizing v os with
  | nil =>
    simp only [splitVars, pure_ok, Prod.mk.injEq, List.filter_nil]
    cases v <;> simp only [List.nil_eq, true_and, Option.toList_none, reduceCtorEq, false_and,
      Option.toList_some, List.ne_cons_self]
  | cons d ds ih =>
    simp only [splitVars, bind_ok, Prod.exists, ih]
    cases hv : hasVarKey d
    · simp only [List.filter_cons, hv, Bool.false_eq_true, if_false, Bool.not_false, if_true,
        pure_ok, Prod.mk.injEq]
      constructor
      · rintro ⟨a, b, ⟨h1, rfl⟩, rfl, rfl⟩
        exact ⟨h1, rfl⟩
      · rintro ⟨h1, rfl⟩
        exact ⟨v, _, ⟨h1, rfl⟩, rfl, rfl⟩
    · simp only [List.filter_cons, hv, if_true, Bool.not_true, Bool.false_eq_true, if_false]
      constructor
      · rintro ⟨a, b, ⟨h1, rfl⟩, h⟩
        cases a with
        | some _ => cases h
        | none => cases h; exact ⟨by rw [h1]; rfl, rfl⟩
      · rintro ⟨h1, rfl⟩
        cases v with
        | none => cases h1
        | some dv =>
          injection h1 with h2 h3
          subst h2
          exact ⟨none, _, ⟨h3, rfl⟩, rfl⟩

/-! ### the keys of the result -/

/-- `result[var] += stride` leaves the keys alone if one of them `==` the new key, and appends the
new key otherwise -/
theorem addTo_keys {d d' : Dict} {k c : Expr} (h : d.addTo k c = .ok d') :
    (d'.map Prod.fst = d.map Prod.fst ∧ ∃ k' ∈ d.map Prod.fst, k'.pyEq k = true) ∨
      (d'.map Prod.fst = d.map Prod.fst ++ [k] ∧ ∀ k' ∈ d.map Prod.fst, k'.pyEq k = false) := by
  induction d generalizing d' with
  | nil => cases h; exact .inr ⟨rfl, nofun⟩
  | cons kc rest ih =>
    rcases addTo_cons_ok.1 h with ⟨heq, s, -, rfl⟩ | ⟨hne, r, hr, rfl⟩
    · exact .inl ⟨rfl, kc.1, List.mem_cons_self, heq⟩
    · rcases ih hr with ⟨h1, k', hk', hp⟩ | ⟨h1, hall⟩
      · exact .inl ⟨by simp [h1], k', List.mem_cons_of_mem _ hk', hp⟩
      · exact .inr ⟨by simp [h1], List.forall_mem_cons.2 ⟨hne, hall⟩⟩

variable {P : Expr → Prop}

theorem addTo_keysP {d d' : Dict} {k c : Expr} (h : d.addTo k c = .ok d') (hd : KeysP P d)
    (hk : P k) : KeysP P d' := by
  rw [keysP_iff] at hd ⊢
  rcases addTo_keys h with ⟨h1, -⟩ | ⟨h1, -⟩ <;> rw [h1]
  · exact hd
  · exact List.forall_mem_append.2 ⟨hd, fun x hx => List.mem_singleton.1 hx ▸ hk⟩

theorem mergeInto_keysP {d result d' : Dict} (h : mergeInto result d = .ok d')
    (hr : KeysP P result) (hd : KeysP P d) : KeysP P d' := by
  induction d generalizing result with
  | nil => cases h; exact hr
  | cons kc rest ih =>
    obtain ⟨r, ha, hm⟩ := mergeInto_cons_ok.1 h
    exact ih hm (addTo_keysP ha hr (keysP_cons.1 hd).1) (keysP_cons.1 hd).2

theorem sumDicts_keysP {ds : List Dict} {result d' : Dict} (h : sumDicts result ds = .ok d')
    (hr : KeysP P result) (hds : ∀ d ∈ ds, KeysP P d) : KeysP P d' := by
  induction ds generalizing result with
  | nil => cases h; exact hr
  | cons d ds ih =>
    obtain ⟨r, hm, hs⟩ := sumDicts_cons_ok.1 h
    exact ih hs (mergeInto_keysP hm hr (hds d List.mem_cons_self))
      fun d' hd' => hds d' (List.mem_cons_of_mem _ hd')

theorem Scaled.keys {f : Expr → CR Expr} {d d' : Dict} (h : Scaled f d d') :
    d'.map Prod.fst = d.map Prod.fst := by
  induction h with
  | nil => rfl
  | cons hx _ ih => simp only [List.map_cons, hx.1, ih]

theorem scaleLeft_keys : ∀ (d d' : Dict) (other : Expr), scaleLeft other d = .ok d' →
    d'.map Prod.fst = d.map Prod.fst :=
  fun _ _ _ h => (scaleLeft_ok.1 h).keys

theorem scaleRight_keys : ∀ (d d' : Dict) (qe : Expr), scaleRight qe d = .ok d' →
    d'.map Prod.fst = d.map Prod.fst :=
  fun _ _ _ h => (scaleRight_ok.1 h).keys

theorem splitVars_mem : ∀ (ds : List Dict) (v : Option Dict) (os : List Dict),
    splitVars ds = .ok (v, os) → (∀ d ∈ os, d ∈ ds) ∧ (∀ d, v = some d → d ∈ ds) := by
  intro ds v os h
  obtain ⟨hv, rfl⟩ := splitVars_ok.1 h
  refine ⟨fun d hd => (List.mem_filter.1 hd).1, ?_⟩
  rintro d rfl
  have : d ∈ ds.filter hasVarKey := hv ▸ List.mem_singleton_self d
  exact (List.mem_filter.1 this).1

/-! ### `map_sum` -/

theorem addTo_nv {d d' : Dict} {k c : Expr} {q0 qc qk : Rat} (hks : KeysSimple d)
    (hk : k.simple = true) (h : d.addTo k c = .ok d') (h0 : dictNV env d = some q0)
    (hc : nv env c = some qc) (hkv : nv env k = some qk) :
    dictNV env d' = some (q0 + qc * qk) := by
  induction d generalizing d' q0 with
  | nil =>
    cases h; cases h0
    rw [dictNV_cons_of hc hkv rfl, add_comm]
  | cons kc rest ih =>
    obtain ⟨k', c'⟩ := kc
    obtain ⟨qc', qk', qr, hc', hk', hr, rfl⟩ := dictNV_cons h0
    rcases addTo_cons_ok.1 h with ⟨heq, s, hs, rfl⟩ | ⟨-, r, hr', rfl⟩
    · obtain rfl := key_eq_of_pyEq (keysP_cons.1 hks).1 hk heq
      cases hk'.symm.trans hkv
      rw [dictNV_cons_of (pyAdd_nv hs hc' hc) hk' hr, add_mul, add_right_comm]
    · rw [dictNV_cons_of hc' hk' (ih (keysP_cons.1 hks).2 hr' hr), add_assoc]

theorem mergeInto_nv {d result d' : Dict} {q0 qd : Rat} (hr : KeysSimple result)
    (hd : KeysSimple d) (h : mergeInto result d = .ok d') (h0 : dictNV env result = some q0)
    (hqd : dictNV env d = some qd) : dictNV env d' = some (q0 + qd) := by
  induction d generalizing result q0 qd with
  | nil => cases h; cases hqd; rw [h0, add_zero]
  | cons kc rest ih =>
    obtain ⟨k, c⟩ := kc
    obtain ⟨qc, qk, qr, hc, hk, hrest, rfl⟩ := dictNV_cons hqd
    obtain ⟨r, ha, hm⟩ := mergeInto_cons_ok.1 h
    obtain ⟨hks, hd'⟩ := keysP_cons.1 hd
    rw [ih (addTo_keysP ha hr hks) hd' hm (addTo_nv hr hks ha h0 hc hk) hrest, add_assoc]

theorem sumDicts_nv {ds : List Dict} {result d' : Dict} {q0 : Rat} {qs : List Rat}
    (hr : KeysSimple result) (hds : ∀ d ∈ ds, KeysSimple d) (h : sumDicts result ds = .ok d')
    (h0 : dictNV env result = some q0) (hqs : dictNVL env ds = some qs) :
    dictNV env d' = some (q0 + qsum qs) := by
  induction ds generalizing result q0 qs with
  | nil => cases h; cases hqs; rw [h0, qsum, add_zero]
  | cons d ds ih =>
    obtain ⟨q, qs', hd, hds', rfl⟩ := dictNVL_cons hqs
    obtain ⟨r, hm, hs⟩ := sumDicts_cons_ok.1 h
    have hd1 := hds d List.mem_cons_self
    rw [ih (mergeInto_keysP hm hr hd1) (fun d' hd' => hds d' (List.mem_cons_of_mem _ hd')) hs
      (mergeInto_nv hr hd1 hm h0 hd) hds', qsum, add_assoc]

/-! ### `map_product` -/

/-- splitting a list of dictionaries in two keeps the product of their values -/
theorem dictNVL_filter (p : Dict → Bool) {ds : List Dict} {qs : List Rat}
    (h : dictNVL env ds = some qs) :
    ∃ q1 q2, dictNVL env (ds.filter p) = some q1 ∧
      dictNVL env (ds.filter fun d => !p d) = some q2 ∧ qprod qs = qprod q1 * qprod q2 := by
  induction ds generalizing qs with
  | nil => cases h; exact ⟨[], [], rfl, rfl, (mul_one 1).symm⟩
  | cons d ds ih =>
    obtain ⟨q, qs', hd, hds, rfl⟩ := dictNVL_cons h
    obtain ⟨q1, q2, h1, h2, h3⟩ := ih hds
    by_cases hp : p d = true
    · refine ⟨q :: q1, q2, ?_, ?_, ?_⟩
      · simp [hp, dictNVL, hd, h1]
      · simpa [hp] using h2
      · simp only [qprod, h3, mul_assoc]
    · refine ⟨q1, q :: q2, ?_, ?_, ?_⟩
      · simpa [hp] using h1
      · simp [hp, dictNVL, hd, h2]
      · simp only [qprod, h3, mul_left_comm]

theorem dictNV_one {c : Expr} {q : Rat} : dictNV env [(one, c)] = some q ↔ nv env c = some q := by
  constructor
  · intro h
    obtain ⟨qc, qk, qr, hc, hk, hr, rfl⟩ := dictNV_cons h
    cases nv_one.symm.trans hk
    cases hr
    rw [hc, mul_one, add_zero]
  · intro h
    rw [dictNV_cons_of h nv_one rfl, mul_one, add_zero]

theorem find_single {d : Dict} {c : Expr} (hl : d.length = 1) (hf : d.find one = some c) :
    ∃ k, d = [(k, c)] ∧ k.pyEq one = true := by
  match d, hl with
  | [(k, c')], _ =>
    simp only [Dict.find] at hf
    split at hf
    · cases hf; exact ⟨k, rfl, ‹_›⟩
    · cases hf

theorem otherCoeffs_nv {os : List Dict} {acc other : Expr} {qa : Rat} {qos : List Rat}
    (hks : ∀ d ∈ os, KeysSimple d) (h : otherCoeffs acc os = .ok other)
    (ha : nv env acc = some qa) (hq : dictNVL env os = some qos) :
    nv env other = some (qa * qprod qos) := by
  induction os generalizing acc qa qos with
  | nil => cases h; cases hq; rw [ha, qprod, mul_one]
  | cons d os ih =>
    obtain ⟨q, qs', hd, hds', rfl⟩ := dictNVL_cons hq
    obtain ⟨hl, c, hf, acc', hm, ho⟩ := otherCoeffs_cons_ok.1 h
    obtain ⟨k, rfl, hk⟩ := find_single hl hf
    obtain rfl := key_eq_of_pyEq (keysP_single.1 (hks _ List.mem_cons_self)) one_simple hk
    rw [ih (fun d' hd' => hks d' (List.mem_cons_of_mem _ hd')) ho
      (pyMul_nv hm ha (dictNV_one.1 hd)) hds', qprod, mul_assoc]

/-- the two loops of `map_product`: the value of the product is the value of the child with
variables (if any) times the value of `other_coeffs` -/
theorem splitVars_nv {ds os : List Dict} {v : Option Dict} {other : Expr} {qs : List Rat}
    (hks : ∀ d ∈ ds, KeysSimple d) (hsp : splitVars ds = .ok (v, os))
    (ho : otherCoeffs one os = .ok other) (hds : dictNVL env ds = some qs) :
    ∃ q1 qo, dictNVL env v.toList = some q1 ∧ nv env other = some qo ∧
      qprod qs = qprod q1 * qo := by
  obtain ⟨hv, rfl⟩ := splitVars_ok.1 hsp
  obtain ⟨q1, q2, hq1, hq2, hprod⟩ := dictNVL_filter hasVarKey hds
  refine ⟨q1, _, hv ▸ hq1, otherCoeffs_nv (fun d hd => hks d (List.mem_filter.1 hd).1) ho nv_one hq2, ?_⟩
  rw [hprod, one_mul]

theorem Scaled.nv {f : Expr → CR Expr} {qo : Rat}
    (hf : ∀ {c c' qc}, f c = .ok c' → nv env c = some qc → nv env c' = some (qo * qc))
    {d d' : Dict} (h : Scaled f d d') :
    ∀ {qd}, dictNV env d = some qd → dictNV env d' = some (qo * qd) := by
  induction h with
  | nil => intro qd hd; cases hd; rw [mul_zero]; rfl
  | @cons kc kc' _ _ hx _ ih =>
    intro qd hd
    obtain ⟨qc, qk, qr, hc, hk, hr, rfl⟩ := dictNV_cons (k := kc.1) (c := kc.2) hd
    rw [← hx.1] at hk
    rw [dictNV_cons_of (k := kc'.1) (c := kc'.2) (hf hx.2 hc) hk (ih hr)]
    congr 1; ring

/-! ### inversion of `coeffs` -/

def _root_.PV.Expr.isAlgLeaf : Expr → Bool
  | .var _ | .subscript _ _ | .call _ _ | .callKw _ _ _ _ | .lookup _ _ | .nan | .wildcard
  | .dotWild _ | .starWild _ | .funcSym => true
  | _ => false

def _root_.PV.Expr.isNumConst : Expr → Bool
  | .const (.int _) | .const (.bool _) | .const (.flt ..) => true
  | _ => false

/-- the shapes of a successful call of the collector -/
inductive CView (tg : Option (List String)) : Expr → Dict → Prop
  | leaf (e : Expr) : Expr.isAlgLeaf e = true → CView tg e (leafDict tg e)
  | num (e : Expr) : Expr.isNumConst e = true → CView tg e [(one, e)]
  | sum (cs : List Expr) (ds : List Dict) (d : Dict) : coeffsL tg cs = .ok ds →
      sumDicts [] ds = .ok d → CView tg (.nary .sum cs) d
  | prodConst (cs : List Expr) (ds os : List Dict) (other : Expr) : coeffsL tg cs = .ok ds →
      splitVars ds = .ok (none, os) → otherCoeffs one os = .ok other →
      CView tg (.nary .prod cs) [(one, other)]
  | prodVar (cs : List Expr) (ds os : List Dict) (dv d : Dict) (other : Expr) :
      coeffsL tg cs = .ok ds → splitVars ds = .ok (some dv, os) → otherCoeffs one os = .ok other →
      scaleLeft other dv = .ok d → CView tg (.nary .prod cs) d
  | quot (a b : Expr) (dn dd d : Dict) (val : Expr) : coeffs tg a = .ok dn → coeffs tg b = .ok dd →
      constOnly dd = some val → scaleRight (.bin .quot one val) dn = .ok d →
      CView tg (.bin .quot a b) d
  | pow (a b : Expr) (db de : Dict) (vb ve : Expr) : coeffs tg a = .ok db → coeffs tg b = .ok de →
      constOnly de = some ve → constOnly db = some vb → CView tg (.bin .pow a b) [(one, .bin .pow a b)]

theorem leafR_ok {tg : Option (List String)} {e : Expr} {d : Dict} (h : leafR tg e = .ok d) :
    d = leafDict tg e := by
  unfold leafR at h
  split at h
  · cases h
  · exact (pure_ok.1 h).symm

theorem coeffs_view (tg : Option (List String)) (e : Expr) (d : Dict) (h : coeffs tg e = .ok d) :
    CView tg e d := by
  cases e with
  | const c => cases c <;> cases h <;> exact CView.num _ rfl
  | var | subscript | call | callKw | lookup | nan | wildcard | dotWild | starWild | funcSym =>
    cases leafR_ok h
    exact CView.leaf _ rfl
  | nary o cs =>
    cases o with
    | sum =>
      obtain ⟨ds, hds, h⟩ := bind_ok.1 h
      exact CView.sum cs ds d hds h
    | prod =>
      obtain ⟨ds, hds, h⟩ := bind_ok.1 h
      obtain ⟨⟨v, os⟩, hsp, h⟩ := bind_ok.1 h
      obtain ⟨other, ho, h⟩ := bind_ok.1 h
      cases v with
      | none => cases h; exact CView.prodConst cs ds os other hds hsp ho
      | some dv => exact CView.prodVar cs ds os dv d other hds hsp ho h
    | _ => cases h
  | bin o a b =>
    cases o with
    | quot =>
      obtain ⟨dn, hdn, h⟩ := bind_ok.1 h
      obtain ⟨dd, hdd, h⟩ := bind_ok.1 h
      cases hc : constOnly dd with
      | none => rw [hc] at h; cases h
      | some val => rw [hc] at h; exact CView.quot a b dn dd d val hdn hdd hc h
    | pow =>
      obtain ⟨db, hdb, h⟩ := bind_ok.1 h
      obtain ⟨de, hde, h⟩ := bind_ok.1 h
      cases hce : constOnly de with
      | none => rw [hce] at h; cases h
      | some ve =>
        cases hcb : constOnly db with
        | none => rw [hce, hcb] at h; cases h
        | some vb => rw [hce, hcb] at h; cases h; exact CView.pow a b db de vb ve hdb hde hce hcb
    | _ => cases h
  | un | cmp | ite | cse | subst | deriv | slice | tuple | list => cases h

theorem coeffsL_forall₂ {tg : Option (List String)} {R : Expr → Dict → Prop} {cs : List Expr}
    {ds : List Dict} (ih : ∀ c ∈ cs, ∀ d, coeffs tg c = .ok d → R c d)
    (h : coeffsL tg cs = .ok ds) : List.Forall₂ R cs ds := by
  induction cs generalizing ds with
  | nil => cases h; exact .nil
  | cons c cs ihcs =>
    obtain ⟨d, hd, ds', hds, rfl⟩ := coeffsL_cons_ok.1 h
    exact .cons (ih c List.mem_cons_self d hd)
      (ihcs (fun c' hc' => ih c' (List.mem_cons_of_mem _ hc')) hds)

theorem forall₂_mem_right {α β : Type} {R : α → β → Prop} {as : List α} {bs : List β}
    (h : List.Forall₂ R as bs) : ∀ b ∈ bs, ∃ a ∈ as, R a b := by
  induction h with
  | nil => simp
  | cons hx _ ih =>
    simp only [List.mem_cons, forall_eq_or_imp, exists_eq_or_imp]
    exact ⟨Or.inl hx, fun b hb => Or.inr (ih b hb)⟩

theorem forall₂_mem_left {α β : Type} {R : α → β → Prop} {as : List α} {bs : List β}
    (h : List.Forall₂ R as bs) : ∀ a ∈ as, ∃ b ∈ bs, R a b :=
  forall₂_mem_right (List.Forall₂.flip (R := fun b a => R a b) h)

/-- Induction over a successful run of the collector: one case per shape of `CView`, with the
claim for the children (pairwise for the child lists of `Sum` and `Product`) as hypothesis. -/
theorem coeffs_induct {tg : Option (List String)} {motive : Expr → Dict → Prop}
    (leaf : ∀ e, e.isAlgLeaf = true → motive e (leafDict tg e))
    (num : ∀ e, e.isNumConst = true → motive e [(one, e)])
    (sum : ∀ cs ds d, coeffsL tg cs = .ok ds → List.Forall₂ motive cs ds →
      sumDicts [] ds = .ok d → motive (.nary .sum cs) d)
    (prodConst : ∀ cs ds os other, coeffsL tg cs = .ok ds → List.Forall₂ motive cs ds →
      splitVars ds = .ok (none, os) → otherCoeffs one os = .ok other →
      motive (.nary .prod cs) [(one, other)])
    (prodVar : ∀ cs ds os dv d other, coeffsL tg cs = .ok ds → List.Forall₂ motive cs ds →
      splitVars ds = .ok (some dv, os) → otherCoeffs one os = .ok other →
      scaleLeft other dv = .ok d → motive (.nary .prod cs) d)
    (quot : ∀ a b dn dd d val, coeffs tg a = .ok dn → coeffs tg b = .ok dd → motive a dn →
      motive b dd → constOnly dd = some val → scaleRight (.bin .quot one val) dn = .ok d →
      motive (.bin .quot a b) d)
    (pow : ∀ a b db de vb ve, coeffs tg a = .ok db → coeffs tg b = .ok de → motive a db →
      motive b de → constOnly de = some ve → constOnly db = some vb →
      motive (.bin .pow a b) [(one, .bin .pow a b)])
    (e : Expr) : ∀ d, coeffs tg e = .ok d → motive e d := by
  induction e using Expr.induct with
  | h e ih =>
    intro d h
    cases coeffs_view tg e d h with
    | leaf _ hl => exact leaf e hl
    | num _ hn => exact num e hn
    | sum cs ds _ hds hsum => exact sum cs ds d hds (coeffsL_forall₂ ih hds) hsum
    | prodConst cs ds os other hds hsp ho =>
      exact prodConst cs ds os other hds (coeffsL_forall₂ ih hds) hsp ho
    | prodVar cs ds os dv _ other hds hsp ho hsc =>
      exact prodVar cs ds os dv d other hds (coeffsL_forall₂ ih hds) hsp ho hsc
    | quot a b dn dd _ val hdn hdd hc hsc =>
      exact quot a b dn dd d val hdn hdd (ih a (.head _) dn hdn) (ih b (.tail _ (.head _)) dd hdd)
        hc hsc
    | pow a b db de vb ve hdb hde hce hcb =>
      exact pow a b db de vb ve hdb hde (ih a (.head _) db hdb) (ih b (.tail _ (.head _)) de hde)
        hce hcb

/-- `len(d) > 1 or 1 not in d` is false only for a dictionary with a single key `== 1` -/
theorem constOnly_some {d : Dict} {val : Expr} (h : constOnly d = some val) :
    ∃ k, d = [(k, val)] ∧ k.pyEq one = true := by
  match d with
  | [] => cases h
  | [(k, c)] =>
    have h : (if k.pyEq one then some c else none) = some val := h
    split at h
    · cases h; exact ⟨k, rfl, ‹_›⟩
    · cases h
  | _ :: _ :: _ => cases h

theorem constOnly_single {d : Dict} {val : Expr} (hks : KeysSimple d) (h : constOnly d = some val) :
    d = [(one, val)] := by
  obtain ⟨k, rfl, hk⟩ := constOnly_some h
  rw [key_eq_of_pyEq (keysP_single.1 hks) one_simple hk]

/-! ### properties of the returned dictionary that depend only on its keys; every key is the
constant `1` or a target leaf of the input -/

/-- A property of dictionaries holds of every result of the collector if it holds of the
dictionaries of leaves and of `{1: c}`, survives `map_sum`, and depends only on the list of keys.
`Q` describes the inputs (a class closed under taking children). -/
theorem coeffs_dictP {tg : Option (List String)} {P : Dict → Prop} {Q : Expr → Prop}
    (hQ : ∀ e, Q e → ∀ c ∈ e.children, Q c)
    (hleaf : ∀ e, Q e → e.isAlgLeaf = true → P (leafDict tg e)) (hone : ∀ c, P [(one, c)])
    (hsum : ∀ ds d, (∀ d ∈ ds, P d) → sumDicts [] ds = .ok d → P d)
    (hkeys : ∀ d d', d'.map Prod.fst = d.map Prod.fst → P d → P d') (e : Expr) :
    ∀ d, coeffs tg e = .ok d → Q e → P d := by
  have hL : ∀ {cs ds}, List.Forall₂ (fun c d => Q c → P d) cs ds → (∀ c ∈ cs, Q c) →
      ∀ d ∈ ds, P d := fun h hq d hd =>
    let ⟨c, hc, hcd⟩ := forall₂_mem_right h d hd
    hcd (hq c hc)
  refine coeffs_induct (motive := fun e d => Q e → P d)
    ?leaf ?num ?sum ?prodConst ?prodVar ?quot ?pow e
  case leaf => exact fun e hl hq => hleaf e hq hl
  case num => exact fun _ _ _ => hone _
  case sum => exact fun cs ds d _ ih hs hq => hsum ds d (hL ih (hQ _ hq)) hs
  case prodConst => exact fun _ _ _ _ _ _ _ _ _ => hone _
  case prodVar =>
    exact fun cs ds os dv d other _ ih hsp _ hsc hq => hkeys dv d (scaleLeft_keys dv d other hsc)
      (hL ih (hQ _ hq) dv ((splitVars_mem ds _ os hsp).2 dv rfl))
  case quot =>
    exact fun a b dn dd d val _ _ iha _ _ hsc hq =>
      hkeys dn d (scaleRight_keys dn d _ hsc) (iha (hQ _ hq a (.head _)))
  case pow => exact fun _ _ _ _ _ _ _ _ _ _ _ _ _ => hone _

/-- every key is the constant `1` or a target leaf of the input: `P` describes the keys -/
theorem coeffs_keysP {tg : Option (List String)} {P Q : Expr → Prop} (hone : P one)
    (hQ : ∀ e, Q e → ∀ c ∈ e.children, Q c)
    (hleaf : ∀ e, Q e → e.isAlgLeaf = true → isTarget tg e = true → P e) (e : Expr) :
    ∀ d, coeffs tg e = .ok d → Q e → KeysP P d := by
  refine coeffs_dictP hQ (fun e hq hl => ?_) (fun _ => keysP_single.2 hone)
    (fun ds d h hs => sumDicts_keysP hs (by simp [KeysP]) h) (fun _ _ => keysP_of_keys) e
  unfold leafDict
  split
  · exact keysP_single.2 (hleaf e hq hl ‹_›)
  · exact keysP_single.2 hone

theorem coeffs_keys_simple (tg : Option (List String)) (e : Expr) :
    ∀ d, e.simple = true → coeffs tg e = .ok d → KeysSimple d :=
  fun d hs h => coeffs_keysP (Q := fun e => e.simple = true) one_simple
    (fun _ => simple_children) (fun _ hs _ _ => hs) e d h hs

theorem coeffsL_mem {tg : Option (List String)} {cs : List Expr} {ds : List Dict}
    (h : coeffsL tg cs = .ok ds) : ∀ d ∈ ds, ∃ c ∈ cs, coeffs tg c = .ok d :=
  forall₂_mem_right (coeffsL_forall₂ (fun _ _ _ h => h) h)

theorem coeffsL_keys_simple {tg : Option (List String)} {cs : List Expr} {ds : List Dict}
    (hs : ∀ c ∈ cs, c.simple = true) (h : coeffsL tg cs = .ok ds) : ∀ d ∈ ds, KeysSimple d :=
  fun d hd =>
    let ⟨c, hc, hcd⟩ := coeffsL_mem h d hd
    coeffs_keys_simple tg c d (hs c hc) hcd

/-! ### the side condition on reciprocals -/

mutual
/-- every reciprocal `Quotient(1, val)` the collector builds (one per `Quotient` node, `val` the
constant coefficient of the denominator) evaluates to an exact number -/
def recipOK (env : Env) (tg : Option (List String)) : Expr → Bool
  | .nary .sum cs => recipOKL env tg cs
  | .nary .prod cs => recipOKL env tg cs
  | .bin .quot a b =>
    recipOK env tg a && recipOK env tg b &&
      (match coeffs tg b with
       | .ok dd => match constOnly dd with
         | some val => (nv env (.bin .quot one val)).isSome
         | none => true
       | .error _ => true)
  | _ => true
def recipOKL (env : Env) (tg : Option (List String)) : List Expr → Bool
  | [] => true
  | c :: cs => recipOK env tg c && recipOKL env tg cs
end

theorem recipOKL_eq_all {tg : Option (List String)} :
    ∀ cs : List Expr, recipOKL env tg cs = cs.all (recipOK env tg)
  | [] => rfl
  | c :: cs => by rw [recipOKL, recipOKL_eq_all cs, List.all_cons]

theorem recipOKL_mem {tg : Option (List String)} : ∀ {cs : List Expr}, recipOKL env tg cs = true →
    ∀ c ∈ cs, recipOK env tg c = true := by
  intro cs h
  rwa [recipOKL_eq_all, List.all_eq_true] at h

/-! ### the main induction -/

theorem coeffs_nv (tg : Option (List String)) (e : Expr) :
    ∀ d q, e.simple = true → coeffs tg e = .ok d → recipOK env tg e = true →
      nv env e = some q → dictNV env d = some q := by
  intro d q hs h
  revert q hs
  -- the list version for the children of a Sum / Product
  have hL : ∀ {cs ds}, List.Forall₂ (fun e d => ∀ q, e.simple = true →
      recipOK env tg e = true → nv env e = some q → dictNV env d = some q) cs ds →
      (∀ c ∈ cs, c.simple = true) → recipOKL env tg cs = true → ∀ qs, nvL env cs = some qs →
      dictNVL env ds = some qs := by
    intro cs ds h
    induction h with
    | nil => intro _ _ qs hqs; cases hqs; rfl
    | cons hx _ ih =>
      intro hs hr qs hqs
      obtain ⟨q0, qs', hq0, hqs', rfl⟩ := nvL_cons hqs
      simp only [recipOKL, Bool.and_eq_true] at hr
      simp only [dictNVL, hx q0 (hs _ (.head _)) hr.1 hq0,
        ih (fun c hc => hs c (.tail _ hc)) hr.2 qs' hqs']
  refine coeffs_induct (motive := fun e d => ∀ q, e.simple = true → recipOK env tg e = true →
    nv env e = some q → dictNV env d = some q) ?leaf ?num ?sum ?prodConst ?prodVar ?quot ?pow e d h
  case leaf =>
    intro e _ q _ _ hq
    unfold leafDict
    split
    · rw [dictNV_cons_of nv_one hq rfl, one_mul, add_zero]
    · exact dictNV_one.2 hq
  case num =>
    exact fun _ _ _ _ _ hq => dictNV_one.2 hq
  case sum =>
    intro cs ds d hds ih hsum q hs hrec hq
    obtain ⟨qs, hqs, rfl⟩ := nv_sum hq
    have hcs := simple_children hs
    rw [sumDicts_nv (by simp [KeysP]) (coeffsL_keys_simple hcs hds) hsum rfl
      (hL ih hcs hrec qs hqs), zero_add]
  case prodConst =>
    intro cs ds os other hds ih hsp ho q hs hrec hq
    obtain ⟨qs, hqs, rfl⟩ := nv_prod hq
    have hcs := simple_children hs
    obtain ⟨q1, qo, hq1, hoth, hprod⟩ :=
      splitVars_nv (coeffsL_keys_simple hcs hds) hsp ho (hL ih hcs hrec qs hqs)
    cases hq1
    rw [dictNV_one, hoth, hprod, qprod, one_mul]
  case prodVar =>
    intro cs ds os dv d other hds ih hsp ho hsc q hs hrec hq
    obtain ⟨qs, hqs, rfl⟩ := nv_prod hq
    have hcs := simple_children hs
    obtain ⟨q1, qo, hq1, hoth, hprod⟩ :=
      splitVars_nv (coeffsL_keys_simple hcs hds) hsp ho (hL ih hcs hrec qs hqs)
    obtain ⟨qv, _, hqv, hnil, rfl⟩ := dictNVL_cons hq1
    cases hnil
    rw [(scaleLeft_ok.1 hsc).nv (fun hm hc => pyMul_nv hm hoth hc) hqv, hprod, qprod, qprod,
      mul_one, mul_comm]
  case quot =>
    intro a b dn dd d val _ hdd iha ihb hc hsc q hs hrec hq
    obtain ⟨qa, qb, hqa, hqb, hb0, rfl⟩ := nv_quot hq
    have hsa : a.simple = true := simple_children hs a (.head _)
    have hsb : b.simple = true := simple_children hs b (.tail _ (.head _))
    change (_ && _ && _) = true at hrec
    simp only [Bool.and_eq_true, hdd, hc] at hrec
    obtain ⟨⟨hra, hrb⟩, hrecip⟩ := hrec
    obtain rfl := constOnly_single (coeffs_keys_simple tg b dd hsb hdd) hc
    have hval := dictNV_one.1 (ihb qb hsb hrb hqb)
    obtain ⟨r, hr⟩ := Option.isSome_iff_exists.1 hrecip
    obtain ⟨q1, qv, hq1, hqv, _, rfl⟩ := nv_quot hr
    cases nv_one.symm.trans hq1
    cases hval.symm.trans hqv
    rw [(scaleRight_ok.1 hsc).nv (fun hm hc => (pyMul_nv hm hc hr).trans (by rw [mul_comm]))
      (iha qa hsa hra hqa), one_div, inv_mul_eq_div]
  case pow =>
    exact fun _ _ _ _ _ _ _ _ _ _ _ _ _ _ _ hq => dictNV_one.2 hq

end PV.Coeff
