import PV.Model.AlgoScalar
import PV.Proofs.AlgoPoly
/-!
  Proofs for `PV.Model.AlgoScalar`: values of polynomial (op) constant, and the run of the
  regenerated `Polynomial.__divmod__` on an int divisor.
-/
namespace PV.Algo

theorem evalSpec_divmod_scalar (p : Poly) (d x : ℤ) :
    evalSpec p x = evalSpec (p.map fun t => (t.1, Int.fdiv t.2 d)) x * d
      + evalSpec (p.map fun t => (t.1, Int.fmod t.2 d)) x := by
  induction p with
  | nil => simp
  | cons t p ih =>
    obtain ⟨e, c⟩ := t
    simp only [List.map_cons, evalSpec_cons] at ih ⊢
    have h := Int.fmod_add_mul_fdiv c d
    rw [ih]
    have h2 : c * x ^ e = (c.fmod d + d * c.fdiv d) * x ^ e := by rw [h]
    rw [h2]; ring

theorem divmodScalar_spec (p q r : Poly) (d x : ℤ) (h : divmodScalar p d = some (q, r)) :
    evalSpec p x = evalSpec q x * d + evalSpec r x := by
  unfold divmodScalar at h
  by_cases hd : d = 0
  · simp only [hd, if_true] at h
    cases p with
    | nil => simp at h; obtain ⟨rfl, rfl⟩ := h; simp
    | cons t p => simp at h
  · simp only [hd, if_false, Option.some.injEq, Prod.mk.injEq] at h
    obtain ⟨rfl, rfl⟩ := h
    exact evalSpec_divmod_scalar p d x

theorem addScalar_eval (p : Poly) (k x : ℤ) : evalSpec (addScalar p k) x = evalSpec p x + k := by
  unfold addScalar
  by_cases hk : k = 0
  · simp [hk]
  · simp only [hk, if_false, add_eval, evalSpec_cons]; simp

end PV.Algo
