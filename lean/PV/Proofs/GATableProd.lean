import PV.Proofs.GATableMV
/-
  C18 (T-gen): `MultiVector._generic_product` of the expected function table — the double
  loop over blade pairs with accumulation and pruning — is `genericProductZ`; the product dunders.
-/
-- one `variable` line serves every statement of the file, and `c18sym` is handed rules that not
-- every run needs
set_option linter.unusedSectionVars false
set_option linter.unusedVariables false
set_option linter.unusedSimpArgs false
namespace PV.GA.C18T

section
variable {R : Type} [Add R] [Mul R] [Neg R] [OfNat R 0] [OfNat R 1]

/-! ## dict facts -/

theorem dictGet_dictSet_self (d : MVOf R) (k : Nat) (v : R) : dictGet (dictSet d k v) k = some v := by
  induction d with
  | nil => simp [dictSet, dictGet]
  | cons p d ih =>
    obtain ⟨k', v'⟩ := p
    by_cases h : k' = k <;> simp [dictSet, dictGet, h, ih]

theorem dictSet_dictSet (d : MVOf R) (k : Nat) (v w : R) :
    dictSet (dictSet d k v) k w = dictSet d k w := by
  induction d with
  | nil => simp [dictSet]
  | cons p d ih =>
    obtain ⟨k', v'⟩ := p
    by_cases h : k' = k <;> simp [dictSet, h, ih]

theorem dictDel_absent (d : MVOf R) (k : Nat) (h : dictGet d k = none) : dictDel d k = d := by
  induction d with
  | nil => rfl
  | cons p d ih =>
    obtain ⟨k', v'⟩ := p
    by_cases hk : k' = k
    · simp [dictGet, hk] at h
    · simp only [dictGet, hk, if_false] at h
      simp [dictDel, hk, ih h]

theorem dictDel_dictSet_absent (d : MVOf R) (k : Nat) (v : R) (h : dictGet d k = none) :
    dictDel (dictSet d k v) k = d := by
  induction d with
  | nil => simp [dictSet, dictDel]
  | cons p d ih =>
    obtain ⟨k', v'⟩ := p
    by_cases hk : k' = k
    · simp [dictGet, hk] at h
    · simp only [dictGet, hk, if_false] at h
      simp [dictSet, dictDel, hk, ih h]

/-! ## `_generic_product` -/

/-- a blade-product weight as the table's functions return it: the int `0`, the int `1`, or a
coefficient -/
def IsW (v : C18Val R) : Prop := v = .nat 0 ∨ v = .nat 1 ∨ ∃ w, v = .coef w

/-- the local variables of the loops of `_generic_product` -/
structure GPVars (R : Type) where
  sb : C18Val R
  sc : C18Val R
  ob : C18Val R
  oc : C18Val R
  nb : C18Val R
  w : C18Val R
  co : C18Val R
  nc : C18Val R

def gpEnv (x y : MVOf R) (cn q : String) (acc : MVOf R) (v : GPVars R) : C18Env R :=
  [("self", .mv x), ("other", .mv y), ("product_class", .cls cn), ("bpw", .fn q),
   ("is_zero", .prim "pymbolic.primitives.is_zero"), ("new_data", .dict acc),
   ("sbits", v.sb), ("scoeff", v.sc), ("obits", v.ob), ("ocoeff", v.oc), ("new_bits", v.nb),
   ("weight", v.w), ("coeff", v.co), ("new_coeff", v.nc)]

def gpInnerBody : List C18Stmt := [
  .assign [.name "new_bits"] false (.bin .bxor (.name "sbits") (.name "obits")),
  .assign [.name "weight"] false (.call (.name "bpw") [(.name "sbits"), (.name "obits"), (.attr (.name "self") "space")] [] []),
  .ifThen (.un .not (.call (.name "is_zero") [(.name "weight")] [] []))
    [
      .assign [.name "coeff"] false (.bin .mul (.bin .mul (.bin .mul (.name "weight") (.call (.name "canonical_reordering_sign") [(.name "sbits"), (.name "obits")] [] [])) (.name "scoeff")) (.name "ocoeff")),
      .assign [.name "new_coeff"] false (.bin .add (.callMethod (.name "new_data") "setdefault" [(.name "new_bits"), (.nat 0)] [] []) (.name "coeff")),
      .ifThen (.call (.name "is_zero") [(.name "new_coeff")] [] [])
        [
          .del "new_data" (.name "new_bits")
        ]
        [
          .assign [.index "new_data" (.name "new_bits")] false (.name "new_coeff")
        ]
    ]
    []]

/-- one blade pair, on the accumulator: the model's step -/
def gpStep (z : R → Bool) (w : Nat → Nat → R) (sb : Nat) (sc : R) (acc : MVOf R) (ob : Nat)
    (oc : R) : MVOf R :=
  if z (w sb ob) then acc
  else dictAccumZ z acc (sb ^^^ ob) (w sb ob * reorderSignR sb ob * sc * oc)

section Inner
variable (Γ : C18Ctx R) (fuel : Nat) (callee : C18Callee R) (q : String)
  (wv : Nat → Nat → C18Val R)

/-- what `_generic_product` needs of the weight function it selected -/
def C18HasW (fuel : Nat) (callee : C18Callee R) (q : String) (wv : Nat → Nat → C18Val R) : Prop :=
  ∀ a b, a < fuel → callee q [.nat a, .nat b, .space] [] = .ok (wv a b) ∧ IsW (wv a b)

/-- the sign `canonical_reordering_sign` returns (the int `1` or `-1`) as a factor -/
theorem c18BinOp_one_sign (rt : C18Rt R) (a b : Nat) :
    c18BinOp rt .mul (.nat 1) (.ofInt (reorderSign a b)) = .ok (.ofInt (reorderSign a b)) := by
  rcases Nat.mod_two_eq_zero_or_one (reorderSignExp a b) with h | h <;> simp [reorderSign, h]

theorem c18BinOp_sign_coef (rt : C18Rt R) (a b : Nat) (c : R) :
    c18BinOp rt .mul (.ofInt (reorderSign a b)) (.coef c) = .ok (.coef (reorderSignR a b * c)) := by
  rcases Nat.mod_two_eq_zero_or_one (reorderSignExp a b) with h | h <;>
    simp [reorderSign, reorderSignR, h]

theorem c18BinOp_coef_sign (rt : C18Rt R) (a b : Nat) (c : R) :
    c18BinOp rt .mul (.coef c) (.ofInt (reorderSign a b)) = .ok (.coef (c * reorderSignR a b)) := by
  rcases Nat.mod_two_eq_zero_or_one (reorderSignExp a b) with h | h <;>
    simp [reorderSign, reorderSignR, h]

/-- one pass of the inner loop body is the model's `gpStep`.  `h1`: Python multiplies the int
weight `1` with the int sign before the coefficients come in, the model multiplies in `R`; `hz0`:
the zero test finds the int weight `0` (as coefficient `0`), so that blade pair is skipped. -/
theorem gp_inner_step (h1 : ∀ r : R, 1 * r = r) (hz0 : Γ.z 0 = true)
    (hw : C18HasW fuel callee q wv) (hcrs : C18HasCrs fuel callee)
    (x y : MVOf R) (cn : String) (acc : MVOf R) (v : GPVars R) (sb ob : Nat) (sc oc : R)
    (hsb : sb < fuel) (hv : v.sb = .nat sb ∧ v.sc = .coef sc ∧ v.ob = .nat ob ∧ v.oc = .coef oc) :
    ∃ (acc' : MVOf R) (v' : GPVars R),
      c18ExecList (c18Rt Γ fuel callee) gpInnerBody (gpEnv x y cn q acc v) =
        .normal (gpEnv x y cn q acc' v') ∧
      acc' = gpStep Γ.z (fun a b => c18ValR (wv a b)) sb sc acc ob oc ∧
      v'.sb = .nat sb ∧ v'.sc = .coef sc := by
  obtain ⟨vsb, vsc, vob, voc, vnb, vw, vco, vnc⟩ := v
  obtain ⟨rfl, rfl, rfl, rfl⟩ := hv
  obtain ⟨hwv, hisw⟩ := hw sb ob hsb
  have hsg := hcrs sb ob hsb
  generalize hE : c18ExecList (c18Rt Γ fuel callee) gpInnerBody
    (gpEnv x y cn q acc ⟨.nat sb, .coef sc, .nat ob, .coef oc, vnb, vw, vco, vnc⟩) = out
  revert hE
  -- the body runs once per shape of the weight and of `new_data.setdefault`; the two zero tests
  -- stay `if`s in the outcome and are split there
  rcases hisw with h0 | h0 | ⟨w, h0⟩
  · c18sym [gpInnerBody, gpEnv, hwv, h0, hz0]
    rintro rfl
    exact ⟨_, ⟨_, _, _, _, _, _, _, _⟩, rfl, by simp [gpStep, h0, c18ValR, hz0], rfl, rfl⟩
  all_goals
    cases hg : dictGet acc (sb ^^^ ob) <;>
    (c18sym [gpInnerBody, gpEnv, hwv, h0, hsg, hg, c18BinOp_one_sign, c18BinOp_sign_coef,
       c18BinOp_coef_sign, dictGet_dictSet_self, c18Branch_ok]
     intro hE
     repeat' split at hE
     all_goals
       subst hE
       refine ⟨_, ⟨_, _, _, _, _, _, _, _⟩, rfl, ?_, rfl, rfl⟩
       simp_all [gpStep, dictAccumZ, c18ValR, h1, dictDel_dictSet_absent, dictDel_absent,
         dictSet_dictSet])

/-- one item of `other.data.items()` on the accumulator -/
def gpInnerVal (z : R → Bool) (w : Nat → Nat → R) (sb : Nat) (sc : R) (acc : MVOf R) :
    C18Val R → MVOf R
  | .tuple [.nat ob, .coef oc] => gpStep z w sb sc acc ob oc
  | _ => acc

/-- one item of `self.data.items()` on the accumulator -/
def gpOuterVal (z : R → Bool) (w : Nat → Nat → R) (y : MVOf R) (acc : MVOf R) :
    C18Val R → MVOf R
  | .tuple [.nat sb, .coef sc] => (c18Items y).foldl (gpInnerVal z w sb sc) acc
  | _ => acc

theorem gp_outer_eq (z : R → Bool) (w : Nat → Nat → R) (x y : MVOf R) :
    (c18Items x).foldl (gpOuterVal z w y) [] = genericProductZ z w x y := by
  unfold genericProductZ
  generalize ([] : MVOf R) = acc
  induction x generalizing acc with
  | nil => rfl
  | cons p x ih =>
    obtain ⟨sb, sc⟩ := p
    simp only [c18Items, List.map_cons, List.foldl_cons, gpOuterVal] at ih ⊢
    rw [ih]
    congr 1
    clear ih
    induction y generalizing acc with
    | nil => rfl
    | cons p' y ih' =>
      obtain ⟨ob, oc⟩ := p'
      simp only [List.map_cons, List.foldl_cons, gpInnerVal, gpStep]
      exact ih' _

theorem gp_inner_loop (h1 : ∀ r : R, 1 * r = r) (hz0 : Γ.z 0 = true)
    (hw : C18HasW fuel callee q wv) (hcrs : C18HasCrs fuel callee)
    (x y : MVOf R) (cn : String) (acc : MVOf R) (v : GPVars R) (sb : Nat) (sc : R)
    (hsb : sb < fuel) (hv : v.sb = .nat sb ∧ v.sc = .coef sc) :
    ∃ v' : GPVars R, c18For (c18BindNames ["obits", "ocoeff"])
        (c18ExecList (c18Rt Γ fuel callee) gpInnerBody) (c18Items y) (gpEnv x y cn q acc v) =
      .normal (gpEnv x y cn q
        ((c18Items y).foldl (gpInnerVal Γ.z (fun a b => c18ValR (wv a b)) sb sc) acc) v') := by
  obtain ⟨env', hfor, v', rfl, _⟩ := c18For_fold
    (bind := c18BindNames ["obits", "ocoeff"])
    (body := c18ExecList (c18Rt Γ fuel callee) gpInnerBody)
    (fun env acc => ∃ v : GPVars R, env = gpEnv x y cn q acc v ∧ v.sb = .nat sb ∧ v.sc = .coef sc)
    (gpInnerVal Γ.z (fun a b => c18ValR (wv a b)) sb sc) (c18Items y)
    (gpEnv x y cn q acc v) acc ⟨v, rfl, hv⟩
    (by
      intro env acc0 xv hx ⟨v0, henv, hv0⟩
      obtain ⟨ob, oc, hmem, rfl⟩ := mem_c18Items hx
      subst henv
      obtain ⟨acc', v', hex, hacc, hv'⟩ := gp_inner_step Γ fuel callee q wv h1 hz0 hw hcrs x y cn
        acc0 { v0 with ob := .nat ob, oc := .coef oc } sb ob sc oc hsb ⟨hv0.1, hv0.2, rfl, rfl⟩
      refine ⟨_, _, ?_, hex, ⟨v', ?_, hv'⟩⟩
      · simp [c18BindNames, c18Set, gpEnv]
      · simp [gpInnerVal, hacc])
  exact ⟨v', hfor⟩

end Inner

/-- what `_generic_product` needs to know about the class it is handed: the class rows of the
table resolve its weight attribute to the function `q` -/
def C18WeightOf (cn attr q : String) : Prop :=
  c18ClassAttr c18ExpectedModule cn attr = some (.method q "static")

section Outer
variable (Γ : C18Ctx R) (fuel : Nat) (callee : C18Callee R) (q : String)
  (wv : Nat → Nat → C18Val R)

/-- **`_generic_product` of the table is `genericProductZ`** (orthogonal space): the double loop
over blade pairs, the weight test, the accumulation with `setdefault` and the pruning -/
theorem c18_generic_product (h1 : ∀ r : R, 1 * r = r) (hz0 : Γ.z 0 = true) (horth : Γ.orth = true)
    (cn : String) (hq : C18WeightOf cn "orthogonal_blade_product_weight" q)
    (hw : C18HasW fuel callee q wv) (hcrs : C18HasCrs fuel callee) (hinit : C18HasInit callee)
    (x y : MVOf R) (hk : ∀ k ∈ dkeys x, k < fuel) :
    c18RunFn c18ExpectedModule Γ fuel callee c18X_MultiVector__generic_product
      [.mv x, .mv y, .cls cn] []
      = .ok (.mv (genericProductZ Γ.z (fun a b => c18ValR (wv a b)) x y)) := by
  apply c18RunFn_of_body rfl
  have hattr : c18GetAttr (c18Rt Γ fuel callee) (.cls cn) "orthogonal_blade_product_weight"
      = .ok (.fn q) := by
    simp only [c18GetAttr]
    rw [hq]
    rfl
  obtain ⟨env', hfor, v', rfl⟩ := c18For_fold
    (bind := c18BindNames ["sbits", "scoeff"])
    (body := c18ExecList (c18Rt Γ fuel callee) [
      .forIn ["obits", "ocoeff"] (.callMethod (.attr (.name "other") "data") "items" [] [] [])
        gpInnerBody])
    (fun env acc => ∃ v : GPVars R, env = gpEnv x y cn q acc v)
    (gpOuterVal Γ.z (fun a b => c18ValR (wv a b)) y) (c18Items x)
    (gpEnv x y cn q [] ⟨.unbound, .unbound, .unbound, .unbound, .unbound, .unbound, .unbound,
      .unbound⟩) [] ⟨_, rfl⟩
    (by
      intro env acc0 xv hx ⟨v0, henv⟩
      obtain ⟨sb, sc, hmem, rfl⟩ := mem_c18Items hx
      have hsb : sb < fuel := hk sb (List.mem_map.mpr ⟨(sb, sc), hmem, rfl⟩)
      subst henv
      obtain ⟨v', hin⟩ := gp_inner_loop Γ fuel callee q wv h1 hz0 hw hcrs x y cn acc0
        { v0 with sb := .nat sb, sc := .coef sc } sb sc hsb ⟨rfl, rfl⟩
      refine ⟨gpEnv x y cn q acc0 { v0 with sb := .nat sb, sc := .coef sc }, _, ?_, ?_,
        ⟨v', rfl⟩⟩
      · simp [c18BindNames, c18Set, gpEnv]
      · c18sym [gpEnv]
        simp only [gpEnv] at hin
        rw [hin]
        c18sym [gpOuterVal, gpEnv])
  simp only [gpEnv, gpInnerBody] at hfor
  c18sym [c18X_MultiVector__generic_product, horth, hattr, hfor, hinit _, gp_outer_eq]

end Outer
/-! ## `MultiVector(scalar, space)`, `_cast_or_ni` -/

section Cast
variable (Γ : C18Ctx R) (fuel : Nat) (callee : C18Callee R)


/-- **`MultiVector(x, space)` for a scalar `x`** is `ofScalarZ`: `{}` for a zero, `{0: x}`
otherwise -/
theorem c18_init_scalar (c : R) :
    c18RunFn c18ExpectedModule Γ fuel callee c18X_MultiVector___init__
      [.obj false none, .coef c, .space] [] = .ok (.mv (ofScalarZ Γ.z c)) := by
  apply c18RunFn_of_body rfl
  have hgen := init_keys_gen (c18Rt Γ fuel callee) rfl [(0, c)] (.prim "pymbolic.primitives.is_zero")
    [(0, c)] []
  simp only [initEnv, List.map_cons, List.map_nil, List.nil_append] at hgen
  c18sym [c18X_MultiVector___init__, dictSet, hgen, ofScalarZ, C18Res.ite_bind, C18Out.ofRes_ite,
    C18Out.andThen_ite, c18Ret_ite]
  cases Γ.z c <;> rfl

/-- what a body that wraps a scalar needs of its callee -/
def C18HasInitScalar (Γ : C18Ctx R) (callee : C18Callee R) : Prop :=
  ∀ c : R, callee "MultiVector.__init__" [.obj false none, .coef c, .space] []
    = .ok (.mv (ofScalarZ Γ.z c))

/-- `_cast_or_ni`: a `MultiVector` is handed back, a scalar is wrapped -/
theorem c18_cast_mv (y : MVOf R) :
    c18RunFn c18ExpectedModule Γ fuel callee c18X__cast_or_ni [.mv y, .space] [] = .ok (.mv y) := by
  apply c18RunFn_of_body rfl
  c18sym [c18X__cast_or_ni]

theorem c18_cast_scalar (hs : C18HasInitScalar Γ callee) (c : R) :
    c18RunFn c18ExpectedModule Γ fuel callee c18X__cast_or_ni [.coef c, .space] []
      = .ok (.mv (ofScalarZ Γ.z c)) := by
  apply c18RunFn_of_body rfl
  c18sym [c18X__cast_or_ni, hs c]

/-- the value `_cast_or_ni` turns an operand into -/
def c18CastOf (z : R → Bool) : C18Val R → Option (MVOf R)
  | .obj true (some y) => some y
  | .coef c => some (ofScalarZ z c)
  | _ => none

/-- an operand `_cast_or_ni` accepts is a bound value (a parameter holding it can be read) -/
theorem c18CastOf_ne_unbound {z : R → Bool} {v : C18Val R} {y : MVOf R}
    (h : c18CastOf z v = some y) : v ≠ .unbound := by
  rintro rfl; simp [c18CastOf] at h

/-- what a body that calls `_cast_or_ni` needs of its callee -/
def C18HasCast (Γ : C18Ctx R) (callee : C18Callee R) : Prop :=
  ∀ (v : C18Val R) (y : MVOf R), c18CastOf Γ.z v = some y →
    callee "_cast_or_ni" [v, .space] [] = .ok (.mv y)

end Cast

/-! ## the product dunders: which class is handed to `_generic_product` -/

section Dunders
variable (Γ : C18Ctx R) (fuel : Nat) (callee : C18Callee R)


/-- `self OP other` for the five product operators `* ^ | << >>`: `other` is cast, the class named in the body is handed
to `_generic_product` -/
theorem c18_dunder (hc : C18HasCast Γ callee) (f : C18Fn) (cn : String)
    (hf : f = c18X_MultiVector___mul__ ∧ cn = "_GeometricProduct" ∨
      f = c18X_MultiVector___xor__ ∧ cn = "_OuterProduct" ∨
      f = c18X_MultiVector___or__ ∧ cn = "_InnerProduct" ∨
      f = c18X_MultiVector___lshift__ ∧ cn = "_LeftContractionProduct" ∨
      f = c18X_MultiVector___rshift__ ∧ cn = "_RightContractionProduct")
    (x : MVOf R) (v : C18Val R) (y : MVOf R) (hv : c18CastOf Γ.z v = some y) :
    c18RunFn c18ExpectedModule Γ fuel callee f [.mv x, v] []
      = callee "MultiVector._generic_product" [.mv x, .mv y, .cls cn] [] := by
  have hcast := hc v y hv
  have hv' := c18CastOf_ne_unbound hv
  rcases hf with ⟨rfl, rfl⟩ | ⟨rfl, rfl⟩ | ⟨rfl, rfl⟩ | ⟨rfl, rfl⟩ | ⟨rfl, rfl⟩ <;>
    apply c18RunFn_of_body rfl <;>
    c18sym [c18X_MultiVector___mul__, c18X_MultiVector___xor__, c18X_MultiVector___or__,
      c18X_MultiVector___lshift__, c18X_MultiVector___rshift__, hcast, hv'] <;>
    cases callee "MultiVector._generic_product" _ [] <;> rfl

end Dunders

end
end PV.GA.C18T
