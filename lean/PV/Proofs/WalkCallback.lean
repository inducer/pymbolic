import PV.Model.Callback
import PV.Proofs.WalkTable
import PV.Proofs.WalkIdentity
/-
  C04 — `CallbackMapper`: which node kinds reach `function`, and the calls a delegating
  `function` sees with an `IdentityMapper` fallback (`callbackTrace`).
-/
-- one `simp` set serves several constructor cases at once; not every case uses every lemma
set_option linter.unusedSimpArgs false
namespace PV

theorem c04CallbackBody_classRep (e : Expr) :
    c04CallbackBody e = c04CallbackBody e.classRep := by
  cases e with
  | const k => cases k <;> rfl
  | nary o cs => cases o <;> rfl
  | _ => rfl

/-- the node kinds `CallbackMapper` lists (its `map_*` attributes) -/
def Expr.c04CallbackListed : Expr → Bool
  | .const (.str _) | .const .none => false
  | .wildcard | .dotWild _ | .starWild _ | .nan => false
  | .nary .min _ | .nary .max _ => false
  | .callKw _ _ _ _ | .subst _ _ _ | .deriv _ _ | .slice _ => false
  | _ => true

/-- listed kinds: `function` is called, with the extra arguments -/
theorem c04CallbackBody_listed {e : Expr} (h : e.c04CallbackListed = true) :
    c04CallbackBody e = .ok (.callback true) := by
  cases e with
  | const k => cases k <;> first | rfl | cases h
  | nary o cs => cases o <;> first | rfl | cases h
  | _ => first | rfl | cases h

/-- unlisted kinds: dispatch fails (foreign object / no handler) or ends at a raising stub -/
theorem c04CallbackBody_unlisted {e : Expr} (h : e.c04CallbackListed = false) :
    c04CallbackBody e = .ok .raises ∨ ∃ err, c04CallbackBody e = .error err := by
  cases e with
  | const k => cases k <;> first | (cases h; done) | exact .inl rfl | exact .inr ⟨_, rfl⟩
  | nary o cs => cases o <;> first | (cases h; done) | exact .inl rfl | exact .inr ⟨_, rfl⟩
  | _ => first | (cases h; done) | exact .inl rfl | exact .inr ⟨_, rfl⟩

/-- the node occurrences in pre-order through ALL direct children in field order -/
def c04Pre (e : Expr) : List Expr :=
  e :: e.children.attach.flatMap (fun ⟨c, _⟩ => c04Pre c)
termination_by e.size
decreasing_by exact Expr.size_lt_of_mem_children ‹_›

theorem c04Pre_eq (e : Expr) : c04Pre e = e :: e.children.flatMap c04Pre := by
  rw [c04Pre]; simp [List.flatMap_subtype, List.unattach_attach]

/-- outcome of a traversal that either succeeds with `l` or raises -/
def C04Outcome {β : Type} (ok : Bool) (l : List β) (r : Except DepErr (List β)) : Prop :=
  if ok then r = .ok l else ∃ err, r = .error err

theorem c04SeqL_outcome {β : Type} {f : Expr → Except DepErr (List β)} {p : Expr → Bool}
    {l : Expr → List β} : ∀ {cs : List Expr}, (∀ c ∈ cs, C04Outcome (p c) (l c) (f c)) →
      C04Outcome (cs.all p) (cs.flatMap l) (c04SeqL f cs)
  | [], _ => by simp [C04Outcome, c04SeqL]; rfl
  | c :: cs, h => by
    have hc := h c (by simp)
    have ih := c04SeqL_outcome (f := f) (p := p) (l := l)
      (fun d hd => h d (List.mem_cons_of_mem _ hd))
    simp only [c04SeqL, List.all_cons, List.flatMap_cons]
    cases hp : p c <;> cases hps : cs.all p <;>
      simp only [C04Outcome, hp, hps, if_true, Bool.false_eq_true, if_false, Bool.and_self,
        Bool.and_true, Bool.and_false] at hc ih ⊢
    · obtain ⟨err, he⟩ := hc; exact ⟨err, by rw [he]; rfl⟩
    · obtain ⟨err, he⟩ := hc; exact ⟨err, by rw [he]; rfl⟩
    · obtain ⟨err, he⟩ := ih; exact ⟨err, by rw [hc, he]; rfl⟩
    · rw [hc, ih]; rfl

/-- **The callback trace.**  With enough fuel: if every node of the tree is of a kind the callback
mapper lists, `function` is called on every node occurrence exactly once, in pre-order through all
children in field order, each time with the extra arguments; otherwise the traversal raises. -/
theorem callbackTraceF_total (a : Bool) : ∀ (fuel : Nat) (e : Expr), e.size ≤ fuel →
    C04Outcome (allSub Expr.c04CallbackListed e) ((c04Pre e).map (fun n => (n, a)))
      (callbackTraceF fuel a e)
  | 0, e, h => by have := Expr.size_pos e; omega
  | fuel + 1, e, h => by
    have ih : ∀ c ∈ e.children, C04Outcome (allSub Expr.c04CallbackListed c)
        ((c04Pre c).map (fun n => (n, a))) (callbackTraceF fuel a c) := fun c hc =>
      callbackTraceF_total a fuel c (by have := Expr.size_lt_of_mem_children hc; omega)
    have hs := c04SeqL_outcome ih
    rw [allSub_eq, c04Pre_eq, callbackTraceF]
    cases hl : e.c04CallbackListed with
    | true =>
      rw [c04CallbackBody_listed hl]
      simp only [c04CallbackStepB, Bool.and_true, Bool.true_and]
      cases hall : e.children.all (allSub Expr.c04CallbackListed) <;>
        simp only [C04Outcome, hall, if_true, Bool.false_eq_true, if_false] at hs ⊢
      · obtain ⟨err, he⟩ := hs; exact ⟨err, by rw [he]; rfl⟩
      · rw [hs]; simp [List.map_flatMap, bind, Except.bind, pure, Except.pure, List.flatMap_def]; rfl
    | false =>
      simp only [Bool.false_and, C04Outcome, Bool.false_eq_true, if_false]
      rcases c04CallbackBody_unlisted hl with hb | ⟨err, hb⟩ <;> rw [hb]
      · exact ⟨_, rfl⟩
      · exact ⟨_, rfl⟩

theorem callbackTrace_total (a : Bool) (e : Expr) :
    C04Outcome (allSub Expr.c04CallbackListed e) ((c04Pre e).map (fun n => (n, a)))
      (callbackTrace a e) :=
  callbackTraceF_total a e.size e (Nat.le_refl _)

end PV
