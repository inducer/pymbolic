import PV.Model.Diff
import Mathlib.Analysis.SpecialFunctions.Pow.Real
import Mathlib.Analysis.SpecialFunctions.Trigonometric.Basic
import Mathlib.Tactic.Ring
import Mathlib.Tactic.Linarith
import PV.Proofs.ExprSize
/-
  C10, part 1.  A total real-valued semantics `evalR` of expression trees and the soundness of
  the overloaded operators, of plain Python constant arithmetic and of
  `flattened_sum` / `flattened_product` with respect to it (the analogue over ℝ, with division and
  powers, of `PV/Proofs/OpsRing.lean`).

  Environments map *leaves* (variables and subscripted variables, as trees) to reals.
-/
namespace PV

open Real

/-- the real number a constant denotes (non-numbers: 0) -/
noncomputable def Const.toReal : Const → ℝ
  | .int n => (n : ℝ)
  | .bool b => if b then 1 else 0
  | .flt _ n d => (n : ℝ) / (d : ℝ)
  | _ => 0

def CmpOp.holds : CmpOp → ℝ → ℝ → Prop
  | .eq, a, b => a = b
  | .ne, a, b => a ≠ b
  | .lt, a, b => a < b
  | .le, a, b => a ≤ b
  | .gt, a, b => b < a
  | .ge, a, b => b ≤ a

/-- the function a call applies: `math.<name>`, or the bare variable `log` the power rule emits -/
def callFn? : Expr → Option MathFn
  | .var n => if n = "log" then some .log else none
  | f => mathFn? f

open Classical in
/-- the meaning of the functions of the table -/
noncomputable def evalCall : Option MathFn → List ℝ → ℝ
  | some .sin, [a] => Real.sin a
  | some .cos, [a] => Real.cos a
  | some .tan, [a] => Real.tan a
  | some .log, [a] => Real.log a
  | some .exp, [a] => Real.exp a
  | some .sinh, [a] => Real.sinh a
  | some .cosh, [a] => Real.cosh a
  | some .tanh, [a] => Real.tanh a
  | some .expm1, [a] => Real.exp a - 1
  | some .fabs, [a] => |a|
  | some .copysign, [a, b] => if 0 < b then |a| else if b < 0 then -|a| else 0
  | _, _ => 0

open Classical in
mutual
/-- real-valued meaning of a tree; nodes outside the differentiable fragment denote 0 -/
noncomputable def evalR (ρ : Expr → ℝ) : Expr → ℝ
  | .const c => c.toReal
  | .var n => ρ (.var n)
  | .subscript a i => ρ (.subscript a i)
  | .nary .sum cs => evalSum ρ cs
  | .nary .prod cs => evalProd ρ cs
  | .nary .lor cs => evalOr ρ cs
  | .nary .land cs => evalAnd ρ cs
  | .nary _ _ => 0
  | .bin .quot a b => evalR ρ a / evalR ρ b
  | .bin .pow a b => evalR ρ a ^ evalR ρ b
  | .bin _ _ _ => 0
  | .un .lnot a => if evalR ρ a = 0 then 1 else 0
  | .un _ _ => 0
  | .cmp o a b => if o.holds (evalR ρ a) (evalR ρ b) then 1 else 0
  | .ite c t e => if evalR ρ c = 0 then evalR ρ e else evalR ρ t
  | .call f args => evalCall (callFn? f) (evalArgs ρ args)
  | .cse c _ _ => evalR ρ c
  | _ => 0
noncomputable def evalSum (ρ : Expr → ℝ) : List Expr → ℝ
  | [] => 0
  | c :: cs => evalR ρ c + evalSum ρ cs
noncomputable def evalProd (ρ : Expr → ℝ) : List Expr → ℝ
  | [] => 1
  | c :: cs => evalR ρ c * evalProd ρ cs
noncomputable def evalOr (ρ : Expr → ℝ) : List Expr → ℝ
  | [] => 0
  | c :: cs => if evalR ρ c = 0 then evalOr ρ cs else 1
noncomputable def evalAnd (ρ : Expr → ℝ) : List Expr → ℝ
  | [] => 1
  | c :: cs => if evalR ρ c = 0 then 0 else evalAnd ρ cs
noncomputable def evalArgs (ρ : Expr → ℝ) : List Expr → List ℝ
  | [] => []
  | c :: cs => evalR ρ c :: evalArgs ρ cs
end

section
variable (ρ : Expr → ℝ)

@[simp] theorem evalR_zero : evalR ρ zero = 0 := by simp [zero, evalR, Const.toReal]
@[simp] theorem evalR_one : evalR ρ one = 1 := by simp [one, evalR, Const.toReal]
@[simp] theorem evalR_negOne : evalR ρ negOne = -1 := by simp [negOne, evalR, Const.toReal]
@[simp] theorem evalR_two : evalR ρ two = 2 := by simp [two, evalR, Const.toReal]

theorem evalSum_append : ∀ (xs ys : List Expr),
    evalSum ρ (xs ++ ys) = evalSum ρ xs + evalSum ρ ys
  | [], ys => by simp [evalSum]
  | x :: xs, ys => by simp [evalSum, evalSum_append xs ys, add_assoc]

theorem evalProd_append : ∀ (xs ys : List Expr),
    evalProd ρ (xs ++ ys) = evalProd ρ xs * evalProd ρ ys
  | [], ys => by simp [evalProd]
  | x :: xs, ys => by simp [evalProd, evalProd_append xs ys, mul_assoc]

/-! ### truthiness -/

theorem Const.falsy_toReal {c : Const} (h : c.truthy = false) : c.toReal = 0 := by
  cases c with
  | int n => simp [Const.truthy] at h; simp [Const.toReal, h]
  | bool b => simp [Const.truthy] at h; simp [Const.toReal, h]
  | flt r n d =>
    simp [Const.truthy] at h
    simp [Const.toReal, h.2]
  | str s => simp [Const.toReal]
  | none => simp [Const.toReal]

theorem Const.isOne_toReal {c : Const} (h : c.isOne = true) : c.toReal = 1 := by
  cases c with
  | int n => simp [Const.isOne] at h; simp [Const.toReal, h]
  | bool b => simp [Const.isOne] at h; simp [Const.toReal, h]
  | flt r n d =>
    simp [Const.isOne] at h
    obtain ⟨hd, hn⟩ := h
    have hd' : (d : ℝ) ≠ 0 := by exact_mod_cast hd
    simp [Const.toReal, hn, hd']
  | str s => simp [Const.isOne] at h
  | none => simp [Const.isOne] at h

mutual
theorem falsy_eval : ∀ (e : Expr), e.truthy = false → evalR ρ e = 0
  | .const c, h => by
      simp only [Expr.truthy] at h
      simp only [evalR]; exact Const.falsy_toReal h
  | .nary .sum cs, h => by
      simp only [Expr.truthy] at h
      simp only [evalR]; exact falsySum_eval cs h
  | .nary .prod cs, h => by
      simp only [Expr.truthy] at h
      simp only [evalR]; exact falsyProd_eval cs h
  | .bin .quot a b, h => by
      simp only [Expr.truthy] at h
      simp only [evalR, falsy_eval a h, zero_div]
  | .bin .floordiv _ _, _ | .bin .rem _ _, _ => by simp only [evalR]
  | .tuple _, _ | .list _, _ => by simp only [evalR]
  | .var _, h | .nary .bor _, h | .nary .bxor _, h | .nary .band _, h | .nary .lor _, h
  | .nary .land _, h | .nary .min _, h | .nary .max _, h | .bin .pow _ _, h
  | .bin .lshift _ _, h | .bin .rshift _ _, h | .un _ _, h | .cmp _ _ _, h | .ite _ _ _, h
  | .call _ _, h | .callKw _ _ _ _, h | .subscript _ _, h | .lookup _ _, h | .cse _ _ _, h
  | .subst _ _ _, h | .deriv _ _, h | .slice _, h | .nan, h | .wildcard, h | .dotWild _, h
  | .starWild _, h | .funcSym, h => by simp [Expr.truthy] at h
theorem falsySum_eval : ∀ (cs : List Expr), Expr.truthySum cs = false → evalSum ρ cs = 0
  | [], h => by simp [Expr.truthySum] at h
  | [c], h => by
      simp only [Expr.truthySum] at h
      simp only [evalSum, falsy_eval c h, add_zero]
  | _ :: _ :: _, h => by simp [Expr.truthySum] at h
theorem falsyProd_eval : ∀ (cs : List Expr), Expr.truthyProd cs = false → evalProd ρ cs = 0
  | [], h => by simp [Expr.truthyProd] at h
  | c :: cs, h => by
      simp only [Expr.truthyProd, Bool.and_eq_false_iff] at h
      simp only [evalProd]
      rcases h with h | h
      · rw [falsy_eval c h, zero_mul]
      · rw [falsyProd_eval cs h, mul_zero]
end

theorem isZero_eval {e : Expr} (h : e.isZero = true) : evalR ρ e = 0 := by
  simp only [Expr.isZero, Bool.not_eq_true'] at h
  exact falsy_eval ρ e h

theorem not_truthy_eval {e : Expr} (h : (!e.truthy) = true) : evalR ρ e = 0 := by
  simp only [Bool.not_eq_true'] at h
  exact falsy_eval ρ e h

theorem isOne_eval {e : Expr} (h : e.isOne = true) : evalR ρ e = 1 := by
  cases e <;> simp only [Expr.isOne] at h <;> try contradiction
  simp only [evalR]; exact Const.isOne_toReal h

/-! ### sums and products evaluate to `evalSum` / `evalProd` -/

theorem evalR_sum (cs : List Expr) : evalR ρ (.nary .sum cs) = evalSum ρ cs := by simp only [evalR]
theorem evalR_prod (cs : List Expr) : evalR ρ (.nary .prod cs) = evalProd ρ cs := by
  simp only [evalR]

/-! ### the dunder methods -/

theorem rmulD_eval {self other t : Expr} (h : rmulD self other = .ret t) :
    evalR ρ t = evalR ρ other * evalR ρ self := by
  unfold rmulD at h
  split at h
  · contradiction
  · split at h
    · split at h
      · cases h
        rw [isZero_eval ρ ‹other.isZero = true›, zero_mul, evalR_zero]
      · split at h
        · cases h
          rw [isOne_eval ρ ‹other.isOne = true›, one_mul]
        · cases h
          simp only [evalR, evalProd]
    · split at h
      · cases h
        rw [isOne_eval ρ ‹other.isOne = true›, one_mul]
      · split at h
        · cases h
          rw [isZero_eval ρ ‹other.isZero = true›, zero_mul, evalR_zero]
        · cases h
          simp only [evalR, evalProd, mul_one]

theorem mulD_eval {self other t : Expr} (h : mulD self other = .ret t) :
    evalR ρ t = evalR ρ self * evalR ρ other := by
  unfold mulD at h
  split at h
  · contradiction
  · split at h
    · split at h
      · cases h
        simp only [evalR, evalProd_append]
      · split at h
        · cases h
          rw [isZero_eval ρ ‹other.isZero = true›, mul_zero, evalR_zero]
        · split at h
          · cases h
            rw [isOne_eval ρ ‹other.isOne = true›, mul_one]
          · cases h
            simp only [evalR, evalProd_append, evalProd, mul_one]
    · split at h
      · cases h
        rw [isOne_eval ρ ‹other.isOne = true›, mul_one]
      · split at h
        · cases h
          rw [isZero_eval ρ ‹other.isZero = true›, mul_zero, evalR_zero]
        · cases h
          simp only [evalR, evalProd, mul_one]

theorem Const.neg_toReal {c c' : Const} (h : c.neg = some c') : c'.toReal = -c.toReal := by
  cases c with
  | int n => simp [Const.neg] at h; subst h; simp [Const.toReal]
  | bool b =>
    simp [Const.neg] at h; subst h
    cases b <;> simp [Const.toReal]
  | flt r n d => simp [Const.neg] at h; subst h; simp [Const.toReal, neg_div]
  | str s => simp [Const.neg] at h
  | none => simp [Const.neg] at h

theorem negE_eval {e n : Expr} (h : negE e = .ok n) : evalR ρ n = -evalR ρ e := by
  unfold negE at h
  split at h
  · split at h
    · simp only [pure, Except.pure] at h
      cases h
      simp only [evalR]; exact Const.neg_toReal ‹_›
    · cases h
  · split at h
    · split at h
      · rename_i r hr
        cases h
        rw [rmulD_eval ρ hr, evalR_negOne, neg_one_mul]
      · cases h
    · cases h

theorem exprAdd_eval {self other t : Expr} (h : exprAdd self other = .ret t) :
    evalR ρ t = evalR ρ self + evalR ρ other := by
  unfold exprAdd at h
  split at h
  · contradiction
  · split at h
    · split at h
      · split at h
        · cases h
          simp only [evalR, evalSum]
        · cases h
          simp only [evalR, evalSum, add_zero]
      · cases h
        rename_i hst
        simp only [Bool.not_eq_true] at hst
        rw [falsy_eval ρ _ hst, zero_add]
    · cases h
      rename_i hot
      simp only [Bool.not_eq_true] at hot
      rw [falsy_eval ρ _ hot, add_zero]

theorem addD_eval {self other t : Expr} (h : addD self other = .ret t) :
    evalR ρ t = evalR ρ self + evalR ρ other := by
  unfold addD at h
  split at h
  · split at h
    · contradiction
    · split at h
      · cases h
        simp only [evalR, evalSum_append]
      · split at h
        · cases h
          rename_i hot
          simp only [Bool.not_eq_true'] at hot
          rw [falsy_eval ρ _ hot, add_zero]
        · cases h
          simp only [evalR, evalSum_append, evalSum, add_zero]
  · exact exprAdd_eval ρ h

theorem raddD_eval {self other t : Expr} (h : raddD self other = .ret t) :
    evalR ρ t = evalR ρ other + evalR ρ self := by
  unfold raddD at h
  split at h
  · split at h
    · contradiction
    · split at h
      · cases h
        rename_i hot
        simp only [Bool.not_eq_true'] at hot
        rw [falsy_eval ρ _ hot, zero_add]
      · cases h
        simp only [evalR, evalSum]
  · split at h
    · contradiction
    · split at h
      · split at h
        · cases h
          simp only [evalR, evalSum, add_zero]
        · cases h
          rename_i hst
          simp only [Bool.not_eq_true] at hst
          rw [falsy_eval ρ _ hst, add_zero]
      · cases h
        rename_i hot
        simp only [Bool.not_eq_true] at hot
        rw [falsy_eval ρ _ hot, zero_add]

theorem subD_eval {self other t : Expr} (h : subD self other = .ret t) :
    evalR ρ t = evalR ρ self - evalR ρ other := by
  unfold subD at h
  split at h
  · split at h
    · contradiction
    · split at h
      · cases h
        rename_i hot
        simp only [Bool.not_eq_true'] at hot
        rw [falsy_eval ρ _ hot, sub_zero]
      · split at h
        · rename_i n hn
          cases h
          simp only [evalR, evalSum_append, evalSum, add_zero, negE_eval ρ hn]
          ring
        · contradiction
  · split at h
    · contradiction
    · split at h
      · split at h
        · rename_i n hn
          rw [exprAdd_eval ρ h, negE_eval ρ hn]; ring
        · contradiction
      · cases h
        rename_i hot
        simp only [Bool.not_eq_true] at hot
        rw [falsy_eval ρ _ hot, sub_zero]

theorem rsubD_eval {self other t : Expr} (h : rsubD self other = .ret t) :
    evalR ρ t = evalR ρ other - evalR ρ self := by
  unfold rsubD at h
  split at h
  · contradiction
  · split at h
    · contradiction
    · rename_i n hn
      have hn' := negE_eval ρ hn
      split at h
      · cases h
        simp only [evalR, evalSum, add_zero, hn']; ring
      · cases h
        rename_i hot
        simp only [Bool.not_eq_true] at hot
        rw [falsy_eval ρ _ hot, zero_sub, hn']

theorem divD_eval {self other t : Expr} (h : divD self other = .ret t) :
    evalR ρ t = evalR ρ self / evalR ρ other := by
  unfold divD at h
  split at h
  · contradiction
  · split at h
    · cases h
      rw [isOne_eval ρ ‹other.isOne = true›, div_one]
    · cases h
      simp only [evalR]

theorem rdivD_eval {self other t : Expr} (h : rdivD self other = .ret t) :
    evalR ρ t = evalR ρ other / evalR ρ self := by
  unfold rdivD at h
  split at h
  · contradiction
  · split at h
    · cases h
      rw [isZero_eval ρ ‹other.isZero = true›, zero_div, evalR_zero]
    · cases h
      simp only [evalR]

theorem powD_eval {self other t : Expr} (h : powD self other = .ret t) :
    evalR ρ t = evalR ρ self ^ evalR ρ other := by
  unfold powD at h
  split at h
  · contradiction
  · split at h
    · cases h
      rw [isZero_eval ρ ‹other.isZero = true›, Real.rpow_zero, evalR_one]
    · split at h
      · cases h
        rw [isOne_eval ρ ‹other.isOne = true›, Real.rpow_one]
      · cases h
        simp only [evalR]

/-- `0 ** x` is folded to `0` (known finding of C03): sound only where the exponent is not 0 -/
theorem rpowD_eval {self other t : Expr} (h : rpowD self other = .ret t)
    (hne : evalR ρ other ≠ 0 ∨ evalR ρ self ≠ 0) :
    evalR ρ t = evalR ρ other ^ evalR ρ self := by
  unfold rpowD at h
  split at h
  · contradiction
  · split at h
    · cases h
      have h0 := isZero_eval ρ ‹other.isZero = true›
      rcases hne with hne | hne
      · exact absurd h0 hne
      · rw [h0, Real.zero_rpow hne, evalR_zero]
    · split at h
      · cases h
        rw [isOne_eval ρ ‹other.isOne = true›, Real.one_rpow, evalR_one]
      · cases h
        simp only [evalR]

theorem dispatch_eval {fwd refl : Expr → Expr → Dunder} (g : ℝ → ℝ → ℝ) {x y t : Expr}
    (hf : ∀ {t : Expr}, fwd x y = .ret t → evalR ρ t = g (evalR ρ x) (evalR ρ y))
    (hr : ∀ {t : Expr}, refl y x = .ret t → evalR ρ t = g (evalR ρ x) (evalR ρ y))
    (h : dispatch fwd refl x y = .ok t) :
    evalR ρ t = g (evalR ρ x) (evalR ρ y) := by
  unfold dispatch at h
  simp only [pure, Except.pure, throw, throwThe, MonadExceptOf.throw] at h
  split at h
  · split at h
    · rename_i r hr'
      cases h
      exact hf hr'
    · contradiction
    · split at h
      · split at h
        · rename_i r hr'
          cases h
          exact hr hr'
        · contradiction
        · contradiction
      · contradiction
  · split at h
    · split at h
      · split at h
        · rename_i r hr'
          cases h
          exact hr hr'
        · contradiction
        · contradiction
      · contradiction
    · contradiction

theorem bin_add_eval {x y t : Expr} (h : Ops.bin .add x y = .ok t) :
    evalR ρ t = evalR ρ x + evalR ρ y :=
  dispatch_eval ρ (· + ·) (addD_eval ρ) (raddD_eval ρ) h

theorem bin_sub_eval {x y t : Expr} (h : Ops.bin .sub x y = .ok t) :
    evalR ρ t = evalR ρ x - evalR ρ y :=
  dispatch_eval ρ (· - ·) (subD_eval ρ) (rsubD_eval ρ) h

theorem bin_mul_eval {x y t : Expr} (h : Ops.bin .mul x y = .ok t) :
    evalR ρ t = evalR ρ x * evalR ρ y :=
  dispatch_eval ρ (· * ·) (mulD_eval ρ) (rmulD_eval ρ) h

theorem bin_div_eval {x y t : Expr} (h : Ops.bin .truediv x y = .ok t) :
    evalR ρ t = evalR ρ x / evalR ρ y :=
  dispatch_eval ρ (· / ·) (divD_eval ρ) (rdivD_eval ρ) h

theorem bin_pow_eval {x y t : Expr} (h : Ops.bin .pow x y = .ok t)
    (hne : evalR ρ x ≠ 0 ∨ evalR ρ y ≠ 0) :
    evalR ρ t = evalR ρ x ^ evalR ρ y :=
  dispatch_eval ρ (· ^ ·) (powD_eval ρ) (fun h => rpowD_eval ρ h hne) h

/-! ### plain Python arithmetic on two constants -/

/-- integer a constant operand of `constBin` stands for -/
def Const.asInt? : Const → Option Int
  | .int n => some n
  | .bool b => some (if b then 1 else 0)
  | _ => Option.none

theorem Const.asInt_toReal {c : Const} {n : Int} (h : c.asInt? = some n) : c.toReal = n := by
  cases c with
  | int m => simp [Const.asInt?] at h; subst h; simp [Const.toReal]
  | bool b => simp [Const.asInt?] at h; subst h; cases b <;> simp [Const.toReal]
  | flt r m d => simp [Const.asInt?] at h
  | str s => simp [Const.asInt?] at h
  | none => simp [Const.asInt?] at h

/-- `constBin` succeeds on int/bool operands only, with the `Num` operation on their integers -/
theorem constBin_ok {o : PyBinOp} {f : Num → Num → R} (ho : o.onValues = arith f) {a b : Const}
    {t : Expr} (h : constBin o a b = .ok t) :
    ∃ m n v c, a.asInt? = some m ∧ b.asInt? = some n ∧ f (.i m) (.i n) = .ok v ∧
      v.toConst? = some c ∧ t = .const c := by
  cases a <;> cases b <;> simp only [constBin, Const.toValue?] at h <;> try (cases h; done)
  all_goals
    simp only [ho, arith, Value.isInexact, Value.isSeq, Value.num?, Bool.or_self,
      Bool.false_eq_true, if_false] at h
    split at h
    · rename_i v hv
      split at h
      · rename_i c hc
        exact ⟨_, _, v, c, rfl, rfl, hv, hc, (Except.ok.inj h).symm⟩
      · cases h
    · cases h
    · cases h

theorem constBin_add_eval {a b : Const} {t : Expr} (h : constBin .add a b = .ok t) :
    evalR ρ t = a.toReal + b.toReal := by
  obtain ⟨m, n, v, c, ha, hb, hf, hc, rfl⟩ := constBin_ok (f := addN) rfl h
  cases hf; cases hc
  rw [Const.asInt_toReal ha, Const.asInt_toReal hb]
  simp [evalR, Const.toReal]

theorem constBin_sub_eval {a b : Const} {t : Expr} (h : constBin .sub a b = .ok t) :
    evalR ρ t = a.toReal - b.toReal := by
  obtain ⟨m, n, v, c, ha, hb, hf, hc, rfl⟩ := constBin_ok (f := subN) rfl h
  cases hf; cases hc
  rw [Const.asInt_toReal ha, Const.asInt_toReal hb]
  simp [evalR, Const.toReal]

theorem constBin_mul_eval {a b : Const} {t : Expr} (h : constBin .mul a b = .ok t) :
    evalR ρ t = a.toReal * b.toReal := by
  obtain ⟨m, n, v, c, ha, hb, hf, hc, rfl⟩ := constBin_ok (f := mulN) rfl h
  cases hf; cases hc
  rw [Const.asInt_toReal ha, Const.asInt_toReal hb]
  simp [evalR, Const.toReal]

/-- int / int is a float: no claim -/
theorem constBin_div_ne {a b : Const} {t : Expr} : constBin .truediv a b ≠ .ok t := by
  intro h
  obtain ⟨m, n, v, c, -, -, hf, hc, -⟩ := constBin_ok (f := divN) rfl h
  simp only [divN] at hf
  split at hf <;> cases hf
  cases hc

theorem constBin_pow_eval {a b : Const} {t : Expr} (h : constBin .pow a b = .ok t) :
    evalR ρ t = a.toReal ^ b.toReal := by
  obtain ⟨m, n, v, c, ha, hb, hf, hc, rfl⟩ := constBin_ok (f := powN) rfl h
  -- an int result needs a small exponent `0 ≤ n`: then it is `m ^ n.toNat`
  have hn : 0 ≤ n ∧ c = .int (m ^ n.toNat) := by
    simp only [powN] at hf
    split at hf
    · cases hf
    · split at hf
      · cases hf; cases hc; exact ⟨‹_›, rfl⟩
      · split at hf <;> cases hf
        cases hc
  obtain ⟨h0, rfl⟩ := hn
  rw [Const.asInt_toReal ha, Const.asInt_toReal hb]
  simp only [evalR, Const.toReal, Int.cast_pow]
  rw [← Real.rpow_natCast]
  congr 1
  exact_mod_cast (Int.toNat_of_nonneg h0)

/-! ### Python `a <op> b`, `-a` -/

theorem pyBin_add_eval {a b t : Expr} (h : pyBin .add a b = .ok t) :
    evalR ρ t = evalR ρ a + evalR ρ b := by
  unfold pyBin at h
  split at h
  · simp only [evalR]; exact constBin_add_eval ρ h
  · exact bin_add_eval ρ h

theorem pyBin_sub_eval {a b t : Expr} (h : pyBin .sub a b = .ok t) :
    evalR ρ t = evalR ρ a - evalR ρ b := by
  unfold pyBin at h
  split at h
  · simp only [evalR]; exact constBin_sub_eval ρ h
  · exact bin_sub_eval ρ h

theorem pyBin_mul_eval {a b t : Expr} (h : pyBin .mul a b = .ok t) :
    evalR ρ t = evalR ρ a * evalR ρ b := by
  unfold pyBin at h
  split at h
  · simp only [evalR]; exact constBin_mul_eval ρ h
  · exact bin_mul_eval ρ h

theorem pyBin_div_eval {a b t : Expr} (h : pyBin .truediv a b = .ok t) :
    evalR ρ t = evalR ρ a / evalR ρ b := by
  unfold pyBin at h
  split at h
  · exact absurd h constBin_div_ne
  · exact bin_div_eval ρ h

theorem pyBin_pow_eval {a b t : Expr} (h : pyBin .pow a b = .ok t)
    (hne : evalR ρ a ≠ 0 ∨ evalR ρ b ≠ 0) :
    evalR ρ t = evalR ρ a ^ evalR ρ b := by
  unfold pyBin at h
  split at h
  · simp only [evalR]; exact constBin_pow_eval ρ h
  · exact bin_pow_eval ρ h hne

theorem pyNeg_eval {a t : Expr} (h : pyNeg a = .ok t) : evalR ρ t = -evalR ρ a := by
  unfold pyNeg at h
  split at h
  · rename_i c
    cases c <;> simp [Const.toValue?, pure, Except.pure, throw, throwThe, MonadExceptOf.throw] at h
    · subst h; simp [evalR, Const.toReal]
    · subst h; rename_i b; cases b <;> simp [evalR, Const.toReal]
  · split at h
    · exact negE_eval ρ h
    · cases h

/-! ### `flattened_sum`, `flattened_product` -/

theorem flattenedSumLoop_eval : ∀ (fuel : Nat) (queue done : List Expr),
    Expr.sizeL queue < fuel →
    evalSum ρ (flattenedSumLoop fuel queue done) = evalSum ρ done + evalSum ρ queue
  | 0, _, _, h => by omega
  | fuel + 1, [], done, _ => by simp [flattenedSumLoop, evalSum]
  | fuel + 1, item :: queue, done, h => by
      have hp := Expr.size_pos item
      simp only [Expr.sizeL] at h
      simp only [flattenedSumLoop]
      split
      · rename_i hz
        rw [flattenedSumLoop_eval fuel queue done (by omega)]
        simp only [evalSum, isZero_eval ρ hz, zero_add]
      · split
        · rename_i cs hnz
          simp only [Expr.size] at h
          rw [flattenedSumLoop_eval fuel (cs ++ queue) done
            (by rw [Expr.sizeL_append]; omega)]
          simp only [evalSum, evalSum_append, evalR]
        · rw [flattenedSumLoop_eval fuel queue (done ++ [item]) (by omega)]
          simp only [evalSum, evalSum_append, add_zero]; ring

theorem flattenedSum_eval (ts : List Expr) : evalR ρ (flattenedSum ts) = evalSum ρ ts := by
  have h := flattenedSumLoop_eval ρ (Expr.sizeL ts + ts.length + 1) ts [] (by omega)
  unfold flattenedSum
  split
  · rename_i heq; rw [heq] at h
    simpa [evalSum] using h
  · rename_i x heq; rw [heq] at h
    simpa [evalSum] using h
  · rename_i xs _ _
    simpa [evalSum, evalR] using h

/-- what `flattenedProductLoop` returns: `none` marks the early `return 0` -/
def prodSpec (target : ℝ) : Option (List Expr) → Prop
  | Option.none => target = 0
  | some r => evalProd ρ r = target

theorem flattenedProductLoop_eval : ∀ (fuel : Nat) (queue done : List Expr),
    Expr.sizeL queue < fuel →
    prodSpec ρ (evalProd ρ done * evalProd ρ queue) (flattenedProductLoop fuel queue done)
  | 0, _, _, h => by omega
  | fuel + 1, [], done, _ => by simp [flattenedProductLoop, evalProd, prodSpec]
  | fuel + 1, item :: queue, done, h => by
      have hp := Expr.size_pos item
      simp only [Expr.sizeL] at h
      simp only [flattenedProductLoop]
      split
      · rename_i hz
        simp only [prodSpec, evalProd, isZero_eval ρ hz, zero_mul, mul_zero]
      · split
        · rename_i h1
          have ih := flattenedProductLoop_eval fuel queue done (by omega)
          simp only [evalProd, isOne_eval ρ h1, one_mul]
          exact ih
        · split
          · rename_i cs hnz hn1
            simp only [Expr.size] at h
            have ih := flattenedProductLoop_eval fuel (cs ++ queue) done
              (by rw [Expr.sizeL_append]; omega)
            have e : evalProd ρ done * evalProd ρ (cs ++ queue) =
                evalProd ρ done * evalProd ρ (Expr.nary NaryOp.prod cs :: queue) := by
              simp only [evalProd, evalProd_append, evalR]
            rw [e] at ih; exact ih
          · have ih := flattenedProductLoop_eval fuel queue (done ++ [item]) (by omega)
            have e : evalProd ρ (done ++ [item]) * evalProd ρ queue =
                evalProd ρ done * evalProd ρ (item :: queue) := by
              simp only [evalProd, evalProd_append, mul_one]; ring
            rw [e] at ih; exact ih

theorem flattenedProduct_eval (ts : List Expr) :
    evalR ρ (flattenedProduct ts) = evalProd ρ ts := by
  have h := flattenedProductLoop_eval ρ (Expr.sizeL ts + ts.length + 1) ts [] (by omega)
  unfold flattenedProduct
  split
  · rename_i heq; rw [heq] at h
    simp only [prodSpec, evalProd, one_mul] at h
    rw [h, evalR_zero]
  · rename_i heq; rw [heq] at h
    simpa [prodSpec, evalProd] using h
  · rename_i x heq; rw [heq] at h
    simpa [prodSpec, evalProd] using h
  · rename_i xs _ _ heq; rw [heq] at h
    simpa [prodSpec, evalProd, evalR] using h

end

end PV
