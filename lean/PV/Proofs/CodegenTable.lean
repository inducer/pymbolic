import PV.Model.CodegenTable
import PV.Generated.Codegen
import PV.Generated.Traversal
import PV.Generated.Analysis
import PV.Proofs.NodeClass
/-
  C13 (T-gen), helper lemmas: the folding helper of `PymbolicToASTMapper` as a list fold; the
  handlers of that mapper written once for every monad (`toAstG`), with the memo-free model
  `toAst` and the mapper as coded `toAstNode` as its two instances, so that the table interpreter
  is compared with `toAstG` only; the dispatch of a node as the row of the handler table its class
  reaches (`c13TRow`, `c13TNode_row`) and the classes of Python's `ast` without a handler
  (`c13FUnhandled`), so that the look-ups by name are closed facts; `ast.Slice(*parts)`; the
  constant printer of `CompileMapper` as a text condition; the statement-by-statement run of
  `_compile` in closed form.
-/
namespace PV.C13
open PV

abbrev fromTableCurrent : C13FromTable := Generated.c13FromTable
abbrev toTableCurrent : C13ToTable := Generated.c13ToTable
abbrev classesCurrent : List C04NodeClass := Generated.c04Classes
abbrev compileMapperCurrent : C13CompileMapperTable := Generated.c13CompileMapperTable
abbrev compiledCurrent : C13CompiledTable := Generated.c13CompiledTable
abbrev funcSrcCurrent : C13FuncSrcTable := Generated.c13FuncSrcTable

/-! ### `ASTToPymbolic` -/

theorem fromAstL_eq_seq : ∀ as : List PyAst, fromAstL as = c13SeqF (c13ModelRunsF as)
  | [] => rfl
  | a :: as => by
      simp only [fromAstL, c13ModelRunsF, c13SeqF, fromAstL_eq_seq as]

/-- no `map_<class>` along the MRO of the class `cls` is a handler of the mapper -/
def c13FUnhandled (T : C13FromTable) (cls : String) : Bool :=
  match T.classes.find? (fun c => c.name == cls) with
  | some c => c.mroHandlers.all fun h => (T.handler? h).isNone
  | none => false

theorem c13FFirstHandler_none {T : C13FromTable} : ∀ {hs : List String},
    (hs.all fun h => (T.handler? h).isNone) = true → c13FFirstHandler T hs = none
  | [], _ => rfl
  | x :: xs, h => by
      simp only [List.all_cons, Bool.and_eq_true, Option.isNone_iff_eq_none] at h
      rw [c13FFirstHandler, h.1]
      exact c13FFirstHandler_none h.2

/-- `ASTMapper.rec` on a node of such a class ends in `not_supported` -/
theorem c13FClass_unhandled {T : C13FromTable} {cls : String} (h : c13FUnhandled T cls = true)
    (fields : List (String × C13FField)) :
    c13FClass T cls fields = throw (c13AErrOfExc T.notSupported) := by
  unfold c13FUnhandled at h
  unfold c13FClass
  split at h
  · rename_i c hc
    rw [hc]
    simp only [c13FFirstHandler_none h]
  · cases h

/-! ### the folding helper -/

/-- the expected row of the folding helper -/
def foldRowExpected : C13FoldRow :=
  { name := "_map_multi_children_op", init := -1, lo := some (-2), hi := none, step := some (-1),
    ctor := "BinOp", argNames := ["left", "op", "right"], argRoles := [.item, .opParam, .acc] }

theorem c13FoldLoop_expected (o : PyBin) : ∀ (items : List PyAst) (acc : PyAst),
    c13FoldLoop foldRowExpected (.opB o) acc items
      = pure (items.foldl (fun a c => PyAst.binop c o a) acc)
  | [], _ => rfl
  | c :: cs, acc => by
      show c13FoldLoop foldRowExpected (.opB o) (.binop c o acc) cs = _
      rw [c13FoldLoop_expected o cs]; rfl

theorem foldBin_snoc (o : PyBin) : ∀ (ys : List PyAst) (l : PyAst),
    foldBin o (ys ++ [l]) = pure (ys.foldr (fun c a => PyAst.binop c o a) l)
  | [], _ => rfl
  | [_], _ => rfl
  | y :: y2 :: ys, l => by
      have ih := foldBin_snoc o (y2 :: ys) l
      simp only [List.cons_append] at ih ⊢
      simp only [foldBin, ih]; rfl

/-- `foldBin` (right nesting, the last operand innermost, `IndexError` without operands) is the
loop of the expected row -/
theorem foldBin_eq_table (o : PyBin) (xs : List PyAst) :
    foldBin o xs = c13FoldT foldRowExpected (.opB o) xs := by
  rcases List.eq_nil_or_concat xs with rfl | ⟨ys, l, rfl⟩
  · rfl
  · have h1 : c13FoldOrder foldRowExpected (ys ++ [l]) = .ok (l, ys.reverse) := by
      simp [c13FoldOrder, foldRowExpected, pure, Except.pure]
    simp only [List.concat_eq_append, c13FoldT, h1, c13FoldLoop_expected, List.foldl_reverse,
      foldBin_snoc]

/-! ### `PymbolicToASTMapper` in any monad -/

/-- `ast.Slice(*parts)`: more parts than fields is a `TypeError` -/
theorem mkSlice_eq_table : mkSlice = fun xs =>
    if xs.length > ["lower", "upper", "step"].length then throw .typeError
    else c13MkAst "Slice" (["lower", "upper", "step"].zip (xs.map C13TVal.ast)) := by
  funext xs
  show (if xs.length > 3 then _ else _) = if xs.length > 3 then _ else _
  split
  · rfl
  · next h =>
    match xs, h with
    | [], _ => rfl
    | [_], _ => rfl
    | [_, _], _ => rfl
    | [_, _, _], _ => rfl
    | _ :: _ :: _ :: _ :: _, h => simp only [List.length_cons] at h; omega

theorem find?_of_findIdx? {α : Type} {p : α → Bool} {a : α} {l : List α} {i : Nat}
    (h : l.findIdx? p = some i) (ha : l[i]? = some a) : l.find? p = some a := by
  obtain ⟨hlt, hp, hlt'⟩ := List.findIdx?_eq_some_iff_getElem.mp h
  obtain rfl : l[i] = a := by simpa [List.getElem?_eq_getElem hlt] using ha
  exact List.find?_eq_some_iff_getElem.mpr ⟨hp, i, hlt, rfl, fun j hj => by simpa using hlt' j hj⟩

/-- the row of the handler table `Mapper.__call__` reaches for a node: a foreign object by its
kind, a node by the first entry of its class's MRO (when the mapper has that handler; the rest of
the MRO is not consulted then) -/
def c13TRow (cl : List C04NodeClass) (T : C13ToTable) : Expr → Option Nat
  | e@(.const _) | e@(.tuple _) | e@(.list _) =>
    match c04Dispatch cl [] e with
    | .foreign n => T.handlers.findIdx? (fun h => h.name == n)
    | _ => none
  | e => match c04FindClass cl e.kind with
    | some c => match c.mro with
      | some m :: _ => T.handlers.findIdx? (fun h => h.name == m)
      | _ => none
    | none => none

theorem contains_of_findIdx? {T : C13ToTable} {n : String} {i : Nat}
    (h : T.handlers.findIdx? (fun h => h.name == n) = some i) :
    (T.handlers.map (·.name)).contains n = true := by
  obtain ⟨hlt, hp, _⟩ := List.findIdx?_eq_some_iff_getElem.mp h
  rw [List.contains_iff_mem]
  simp only [beq_iff_eq] at hp
  exact hp ▸ List.mem_map_of_mem (List.getElem_mem hlt)

/-- the look-up of the row is the membership test of the dispatch: for a node of class `k` … -/
theorem dispatchExpr_row {cl : List C04NodeClass} {T : C13ToTable} {k : String} {i : Nat}
    (hi : (match c04FindClass cl k with
      | some c => match c.mro with
        | some m :: _ => T.handlers.findIdx? (fun h => h.name == m)
        | _ => none
      | none => none) = some i) :
    ∃ n, T.handlers.findIdx? (fun h => h.name == n) = some i ∧
      (match c04FindClass cl k with
        | some c => dispatchExpr (T.handlers.map fun h : C13THandler => h.name) c.mro
        | none => .unsupported) = .handler n := by
  split at hi
  · rename_i c hc
    split at hi
    · rename_i m rest hm
      exact ⟨m, hi, by simp only [hm, dispatchExpr, contains_of_findIdx? hi, if_true]⟩
    · cases hi
  · cases hi

/-- … and for every object -/
theorem c04Dispatch_row {cl : List C04NodeClass} {T : C13ToTable} {e : Expr} {i : Nat}
    (hi : c13TRow cl T e = some i) :
    ∃ n, T.handlers.findIdx? (fun h => h.name == n) = some i ∧
      (c04Dispatch cl (T.handlers.map (·.name)) e = .handler n ∨
       c04Dispatch cl (T.handlers.map (·.name)) e = .foreign n) := by
  cases e with
  | const k => cases k <;> first | exact ⟨_, hi, .inr rfl⟩ | cases hi
  | tuple cs => exact ⟨_, hi, .inr rfl⟩
  | list cs => exact ⟨_, hi, .inr rfl⟩
  | _ => exact (dispatchExpr_row hi).imp fun n h => ⟨h.1, .inl h.2⟩

/-- Dispatch looks at the class of a node only; once the row it reaches is known (a closed fact
about the tables), the node runs the body found in that row.  `x` is what the run amounts to.
The fuel `3`: `c13TNode` starts `c13TRunHandler` with 4, of which the look-up of the dispatched
handler uses one; the rest bounds the chain of `delegate` stubs. -/
theorem c13TNode_row {M : Type → Type} [Monad M] (lift : {α : Type} → Except AErr α → M α)
    {cl : List C04NodeClass} {T : C13ToTable} {e : Expr} {ctx : C13TCtx M} {i : Nat}
    {h : C13THandler} {x : M PyAst} (hi : c13TRow cl T e.classRep = some i)
    (hh : T.handlers[i]? = some h)
    (hx : c13TRun lift T ctx (c13TRunHandler lift T ctx 3) h.body = x) :
    c13TNode lift cl T e ctx = x := by
  obtain ⟨n, hn, hd⟩ := c04Dispatch_row hi
  have hf : T.handler? n = some h.body := by
    simp only [C13ToTable.handler?, find?_of_findIdx? hn hh]
  unfold c13TNode
  rw [c04Dispatch_classRep]
  rcases hd with hd | hd <;>
  · rw [hd]
    show (match T.handler? n with
      | none => lift (throw .noClaim)
      | some p => c13TRun lift T ctx (c13TRunHandler lift T ctx 3) p) = x
    rw [hf]; exact hx

section
variable {M : Type → Type} [Monad M] (lift : {α : Type} → Except AErr α → M α)
  (wrap : Expr → M PyAst → M PyAst)

mutual
/-- The handlers of `PymbolicToASTMapper`, written once for every monad the mapper may run in:
`lift` embeds the steps that touch no state, `wrap c` is `self.rec(c)` around the handler call.
`toAst` is the instance without a memo table (`toAst_eq_G`), `toAstNode` the mapper as coded
(`toAstNode_eq_G`).  Two-operand nodes go through the folding helper, as in the source. -/
def toAstG : Expr → M PyAst
  | .const c => lift (constToAst c)
  | .var x => lift (pure (.name x))
  | .nary o cs =>
    match o with
    | .min | .max => lift (throw .notImplemented)
    | .lor => c13SeqT (toAstGRuns cs) >>= fun xs => lift (pure (.boolop true xs))
    | .land => c13SeqT (toAstGRuns cs) >>= fun xs => lift (pure (.boolop false xs))
    | .sum => c13SeqT (toAstGRuns cs) >>= fun xs => lift (foldBin .add xs)
    | .prod => c13SeqT (toAstGRuns cs) >>= fun xs => lift (foldBin .mult xs)
    | .bor => c13SeqT (toAstGRuns cs) >>= fun xs => lift (foldBin .bitor xs)
    | .bxor => c13SeqT (toAstGRuns cs) >>= fun xs => lift (foldBin .bitxor xs)
    | .band => c13SeqT (toAstGRuns cs) >>= fun xs => lift (foldBin .bitand xs)
  | .bin o a b =>
      c13SeqT [wrap a (toAstG a), wrap b (toAstG b)] >>= fun xs => lift (foldBin o.pyBin xs)
  | .un o a => wrap a (toAstG a) >>= fun x =>
      lift (pure (.unop (match o with | .bnot => .invert | .lnot => .not) x))
  | .ite c t e => wrap c (toAstG c) >>= fun x => wrap t (toAstG t) >>= fun y =>
      wrap e (toAstG e) >>= fun z => lift (pure (.ifexp x y z))
  | .call f as => wrap f (toAstG f) >>= fun g => c13SeqT (toAstGRuns as) >>= fun xs =>
      lift (pure (.call g xs [] []))
  | .callKw f as ns vs => wrap f (toAstG f) >>= fun g => c13SeqT (toAstGRuns as) >>= fun xs =>
      c13MapIdx (c13RunNth lift (toAstGRuns vs)) ((sortedKw ns).map (·.2)) >>= fun ys =>
        lift (pure (.call g xs ((sortedKw ns).map (·.1)) ys))
  | .subscript a i => wrap a (toAstG a) >>= fun x => wrap i (toAstG i) >>= fun y =>
      lift (pure (.subscript x y))
  | .lookup a n => wrap a (toAstG a) >>= fun x => lift (pure (.attribute x n))
  | .tuple cs => c13SeqT (toAstGRuns cs) >>= fun xs => lift (pure (.tuple xs))
  | .list cs => c13SeqT (toAstGRuns cs) >>= fun xs => lift (pure (.list xs))
  | .slice cs => c13SeqT (toAstGRuns cs) >>= fun xs => lift (mkSlice xs)
  | .nan => lift (throw .assertion)
  | .cmp .. | .cse .. | .subst .. | .deriv .. | .wildcard | .dotWild _ | .starWild _ | .funcSym =>
      lift (throw .notImplemented)
/-- the suspended `self.rec(c)` on the elements of a tuple-valued attribute -/
def toAstGRuns : List Expr → List (M PyAst)
  | [] => []
  | c :: cs => wrap c (toAstG c) :: toAstGRuns cs
end

omit [Monad M] in
theorem liftMkSlice_eq_table : (fun xs => lift (mkSlice xs)) = fun xs =>
    if xs.length > ["lower", "upper", "step"].length then lift (throw .typeError)
    else lift (c13MkAst "Slice" (["lower", "upper", "step"].zip (xs.map C13TVal.ast))) := by
  funext xs
  rw [mkSlice_eq_table]
  simp only []
  split <;> rfl

end

/-! ### the memo-free reading is the instance `Except AErr` -/

theorem toAstL_eq_seq : ∀ cs : List Expr, toAstL cs = c13SeqT (c13ModelRunsP cs)
  | [] => rfl
  | c :: cs => by simp only [toAstL, c13ModelRunsP, c13SeqT, toAstL_eq_seq cs]

theorem mapIdxE_eq (f : Nat → Except AErr PyAst) : ∀ is, mapIdxE f is = c13MapIdx f is
  | [] => rfl
  | i :: is => by simp only [mapIdxE, c13MapIdx, mapIdxE_eq f is]

theorem toAstNth_eq_run' : ∀ (vs : List Expr) (i : Nat),
    toAstNth vs i = c13RunNth c13LiftId (c13ModelRunsP vs) i
  | [], _ => rfl
  | _ :: _, 0 => rfl
  | _ :: vs, i + 1 => by simp only [toAstNth, c13ModelRunsP, c13RunNth, toAstNth_eq_run' vs i]

theorem toAstNth_eq_run (vs : List Expr) :
    (fun i => toAstNth vs i) = c13RunNth c13LiftId (c13ModelRunsP vs) :=
  funext (toAstNth_eq_run' vs)

/-- a two-operand handler goes through the folding helper: mapped operands, then one `BinOp` -/
theorem seq2_fold_except (ra rb : Except AErr PyAst) (op : PyBin) :
    (c13SeqT [ra, rb] >>= fun xs => foldBin op xs)
      = (ra >>= fun x => rb >>= fun y => pure (PyAst.binop x op y)) := by
  cases ra <;> cases rb <;> rfl

mutual
theorem toAst_eq_G : ∀ e : Expr, toAst e = toAstG c13LiftId c13NoMemo e
  | .const _ | .var _ | .cmp .. | .cse .. | .subst .. | .deriv .. | .nan | .wildcard
  | .dotWild _ | .starWild _ | .funcSym => rfl
  | .nary o cs => by
      cases o <;> simp only [toAst, toAstG, toAstL_eq_seq, modelRunsP_eq_G cs] <;> rfl
  | .bin o a b => by
      simp only [toAst, toAstG, ← toAst_eq_G a, ← toAst_eq_G b]
      exact (seq2_fold_except ..).symm
  | .un o a => by
      cases o <;> simp only [toAst, toAstG, ← toAst_eq_G a] <;> rfl
  | .ite c t e => by
      simp only [toAst, toAstG, ← toAst_eq_G c, ← toAst_eq_G t, ← toAst_eq_G e]
  | .call f as => by
      simp only [toAst, toAstG, ← toAst_eq_G f, toAstL_eq_seq, modelRunsP_eq_G as]
  | .callKw f as ns vs => by
      simp only [toAst, toAstG, ← toAst_eq_G f, toAstL_eq_seq, modelRunsP_eq_G as, mapIdxE_eq,
        toAstNth_eq_run, modelRunsP_eq_G vs]
  | .subscript a i => by
      simp only [toAst, toAstG, ← toAst_eq_G a, ← toAst_eq_G i]
  | .lookup a _ => by
      simp only [toAst, toAstG, ← toAst_eq_G a]
  | .slice cs | .tuple cs | .list cs => by
      simp only [toAst, toAstG, toAstL_eq_seq, modelRunsP_eq_G cs]
theorem modelRunsP_eq_G : ∀ cs : List Expr,
    c13ModelRunsP cs = toAstGRuns c13LiftId c13NoMemo cs
  | [] => rfl
  | c :: cs => by
      simp only [c13ModelRunsP, toAstGRuns, ← toAst_eq_G c, modelRunsP_eq_G cs]
end

/-! ### the mapper as coded is the instance `AstM` with the memo protocol -/

theorem toAstCL_eq_seq : ∀ cs : List Expr, toAstCL cs = c13SeqT (c13ModelRunsC cs)
  | [] => rfl
  | c :: cs => by simp only [toAstCL, c13ModelRunsC, c13SeqT, toAstCL_eq_seq cs]; rfl

theorem mapIdxM_eq (f : Nat → AstM PyAst) : ∀ is, mapIdxM f is = c13MapIdx f is
  | [] => rfl
  | i :: is => by simp only [mapIdxM, c13MapIdx, mapIdxM_eq f is]; rfl

theorem toAstCNth_eq_run' : ∀ (vs : List Expr) (i : Nat),
    toAstCNth vs i = c13RunNth AstM.lift (c13ModelRunsC vs) i
  | [], _ => rfl
  | _ :: _, 0 => rfl
  | _ :: vs, i + 1 => by simp only [toAstCNth, c13ModelRunsC, c13RunNth, toAstCNth_eq_run' vs i]

theorem toAstCNth_eq_run (vs : List Expr) :
    (fun i => toAstCNth vs i) = c13RunNth AstM.lift (c13ModelRunsC vs) :=
  funext (toAstCNth_eq_run' vs)

theorem seq2_fold_astM (ra rb : AstM PyAst) (op : PyBin) :
    (c13SeqT [ra, rb] >>= fun xs => AstM.lift (foldBin op xs))
      = (ra >>= fun x => rb >>= fun y => AstM.pure (PyAst.binop x op y)) := by
  funext s
  show AstM.bind (AstM.bind ra fun x => AstM.bind (AstM.bind rb fun y => AstM.bind (AstM.pure [])
      fun ys => AstM.pure (y :: ys)) fun xs => AstM.pure (x :: xs))
      (fun xs => AstM.lift (foldBin op xs)) s
    = AstM.bind ra (fun x => AstM.bind rb fun y => AstM.pure (PyAst.binop x op y)) s
  simp only [AstM.bind]
  rcases ra s with e | ⟨x, s1⟩
  · rfl
  · simp only []
    rcases rb s1 with e | ⟨y, s2⟩ <;> rfl

mutual
theorem toAstNode_eq_G : ∀ e : Expr, toAstNode e = toAstG AstM.lift withAstCache e
  | .const _ | .var _ | .cmp .. | .cse .. | .subst .. | .deriv .. | .nan | .wildcard
  | .dotWild _ | .starWild _ | .funcSym => rfl
  | .nary o cs => by
      cases o <;> simp only [toAstNode, toAstG, toAstCL_eq_seq, modelRunsC_eq_G cs] <;> rfl
  | .bin o a b => by
      simp only [toAstNode, toAstG, ← toAstNode_eq_G a, ← toAstNode_eq_G b]
      exact (seq2_fold_astM ..).symm
  | .un o a => by
      cases o <;> simp only [toAstNode, toAstG, ← toAstNode_eq_G a] <;> rfl
  | .ite c t e => by
      simp only [toAstNode, toAstG, ← toAstNode_eq_G c, ← toAstNode_eq_G t, ← toAstNode_eq_G e]
      rfl
  | .call f as => by
      simp only [toAstNode, toAstG, ← toAstNode_eq_G f, toAstCL_eq_seq, modelRunsC_eq_G as]
      rfl
  | .callKw f as ns vs => by
      simp only [toAstNode, toAstG, ← toAstNode_eq_G f, toAstCL_eq_seq, modelRunsC_eq_G as,
        mapIdxM_eq, toAstCNth_eq_run, modelRunsC_eq_G vs]
      rfl
  | .subscript a i => by
      simp only [toAstNode, toAstG, ← toAstNode_eq_G a, ← toAstNode_eq_G i]
      rfl
  | .lookup a _ => by
      simp only [toAstNode, toAstG, ← toAstNode_eq_G a]
      rfl
  | .slice cs => by
      simp only [toAstNode, toAstG, toAstCL_eq_seq, modelRunsC_eq_G cs]
  | .tuple cs | .list cs => by
      simp only [toAstNode, toAstG, toAstCL_eq_seq, modelRunsC_eq_G cs]
      rfl
theorem modelRunsC_eq_G : ∀ cs : List Expr,
    c13ModelRunsC cs = toAstGRuns AstM.lift withAstCache cs
  | [] => rfl
  | c :: cs => by
      simp only [c13ModelRunsC, toAstGRuns, ← toAstNode_eq_G c, modelRunsC_eq_G cs]
end

/-! ### `CompileMapper` -/

/-- the expected text condition of `map_constant`:
`not (result.startswith("(") and result.endswith(")")) and ("-" in result or "+" in result)
and enclosing_prec > PREC_SUM` -/
def constCondExpected : C13TextCond :=
  .and (.not .wrapped) (.and (.or (.has "-") (.has "+")) (.encGt "PREC_SUM"))

theorem constPiecesRepr_eq_table (S : PrintPrec) :
    constPiecesRepr S = c13ConstT S "repr" constCondExpected true false := by
  funext c enc
  cases c with
  | int n =>
    by_cases h : n < 0 <;>
      simp [constPiecesRepr, c13ConstT, constPiecesReprBare, c13TextCondEval, constCondExpected,
        Const.c13ReprHas, c13PrecByName, h, pure, Except.pure]
  | bool b => rfl
  | flt r n d =>
    by_cases hd : d = 0
    · simp [constPiecesRepr, c13ConstT, constPiecesReprBare, hd, throw, throwThe, MonadExceptOf.throw]
    · cases h3 : r.startsWith "-" <;>
        simp [constPiecesRepr, c13ConstT, constPiecesReprBare, c13TextCondEval, constCondExpected,
          Const.c13ReprHas, c13PrecByName, hd, h3, pure, Except.pure, or_comm]
  | str s => rfl
  | none => rfl

/-! ### `CompiledExpression._compile` -/

theorem dep_flags_current_aux :
    c09InitFlags Generated.c09DepInit {} (some false) = compileDepFlags := by rfl

/-- the statement-by-statement run of the regenerated `_compile` table, in closed form.
`["math"] ++ ["numpy"]` is what the run leaves in `ctx`: the `contextKeys` of the table, then the
name the `ctxTryImport` step adds; it is `contextNames`. -/
theorem compileT_unfold (S : PrintPrec) (e : Expr) (listed : List String) :
    c13CompileT Generated.c09DepInit (c13Printers compileMapperCurrent S) compiledCurrent S e listed
    = (match deps compileDepFlags e with
      | .error err => .error (CompErr.ofDep err)
      | .ok used =>
        match c13StrT compileMapperCurrent S e S.none with
        | .error err => .error (CompErr.ofStr err)
        | .ok ps => .ok (Compiled.mk e listed
            (listed ++ sortStrings (((varNames used).filter (fun v => !listed.contains v)).filter
              (fun v => !(["math"] ++ ["numpy"]).contains v)))
            (render ps))) := by
  cases hd : deps compileDepFlags e with
  | error err =>
    simp only [c13CompileT, compiledCurrent, Generated.c13CompiledTable, c13CStepsRun, c13CStepRun,
      dep_flags_current_aux, hd, pure, Except.pure]
    simp [throw, throwThe, MonadExceptOf.throw]
  | ok used =>
    cases hs : c13StrT compileMapperCurrent S e S.none with
    | error err =>
      simp [c13CompileT, compiledCurrent, Generated.c13CompiledTable, c13CStepsRun, c13CStepRun,
        dep_flags_current_aux, hd, hs, pure, Except.pure, c13Printers, c13PrecByName,
        throw, throwThe, MonadExceptOf.throw]
    | ok ps =>
      simp [c13CompileT, compiledCurrent, Generated.c13CompiledTable, c13CStepsRun, c13CStepRun,
        dep_flags_current_aux, hd, hs, pure, Except.pure, c13Printers, c13PrecByName]

end PV.C13
