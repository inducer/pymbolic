import PV.Model.PyEq
import PV.Proofs.ExprSize
/-
  Python `==` on expression trees (`Expr.pyEq`) is an equivalence relation on well-formed
  expressions, `Expr.keyEq` likewise, and a structural hash in the style of the generated
  `__hash__` respects it.
-/
namespace PV

/-! ### One level of `==` -/

/-- one level of `Expr.pyEq`: `==` relates only nodes of the same class, with equal data and
`==` children -/
inductive PyEqNode : Expr → Expr → Prop
  | const {c c'} : c.pyEq c' = true → PyEqNode (.const c) (.const c')
  | var {x} : PyEqNode (.var x) (.var x)
  | nary {o cs cs'} : Expr.pyEqL cs cs' = true → PyEqNode (.nary o cs) (.nary o cs')
  | bin {o x y x' y'} : x.pyEq x' = true → y.pyEq y' = true → PyEqNode (.bin o x y) (.bin o x' y')
  | un {o x x'} : x.pyEq x' = true → PyEqNode (.un o x) (.un o x')
  | cmp {o x y x' y'} : x.pyEq x' = true → y.pyEq y' = true → PyEqNode (.cmp o x y) (.cmp o x' y')
  | ite {c t e c' t' e'} : c.pyEq c' = true → t.pyEq t' = true → e.pyEq e' = true →
      PyEqNode (.ite c t e) (.ite c' t' e')
  | call {f as f' as'} : f.pyEq f' = true → Expr.pyEqL as as' = true →
      PyEqNode (.call f as) (.call f' as')
  | callKw {f as ns vs f' as' ns' vs'} : f.pyEq f' = true → Expr.pyEqL as as' = true →
      ns.length = ns'.length → Expr.pyEqKw ns vs ns' vs' = true →
      PyEqNode (.callKw f as ns vs) (.callKw f' as' ns' vs')
  | subscript {x i x' i'} : x.pyEq x' = true → i.pyEq i' = true →
      PyEqNode (.subscript x i) (.subscript x' i')
  | lookup {x n x'} : x.pyEq x' = true → PyEqNode (.lookup x n) (.lookup x' n)
  | cse {c p s c'} : c.pyEq c' = true → PyEqNode (.cse c p s) (.cse c' p s)
  | subst {c vs xs c' xs'} : c.pyEq c' = true → Expr.pyEqL xs xs' = true →
      PyEqNode (.subst c vs xs) (.subst c' vs xs')
  | deriv {c vs c'} : c.pyEq c' = true → PyEqNode (.deriv c vs) (.deriv c' vs)
  | slice {cs cs'} : Expr.pyEqL cs cs' = true → PyEqNode (.slice cs) (.slice cs')
  | nan : PyEqNode .nan .nan
  | wildcard : PyEqNode .wildcard .wildcard
  | dotWild {n} : PyEqNode (.dotWild n) (.dotWild n)
  | starWild {n} : PyEqNode (.starWild n) (.starWild n)
  | funcSym : PyEqNode .funcSym .funcSym
  | tuple {cs cs'} : Expr.pyEqL cs cs' = true → PyEqNode (.tuple cs) (.tuple cs')
  | list {cs cs'} : Expr.pyEqL cs cs' = true → PyEqNode (.list cs) (.list cs')

theorem PyEqNode.of_pyEq {a b : Expr} (h : a.pyEq b = true) : PyEqNode a b := by
  -- splitting the match of `Expr.pyEq` itself gives its 22 diagonal alternatives and one for all
  -- other pairs, where `h` is `false = true`
  unfold Expr.pyEq at h
  split at h <;> try simp only [Bool.and_eq_true, beq_iff_eq] at h
  next => exact .const h
  next => subst h; exact .var
  next => obtain ⟨rfl, h⟩ := h; exact .nary h
  next => obtain ⟨⟨rfl, h1⟩, h2⟩ := h; exact .bin h1 h2
  next => obtain ⟨rfl, h⟩ := h; exact .un h
  next => obtain ⟨⟨rfl, h1⟩, h2⟩ := h; exact .cmp h1 h2
  next => exact .ite h.1.1 h.1.2 h.2
  next => exact .call h.1 h.2
  next => exact .callKw h.1.1.1 h.1.1.2 h.1.2 h.2
  next => exact .subscript h.1 h.2
  next => obtain ⟨h, rfl⟩ := h; exact .lookup h
  next => obtain ⟨⟨h, rfl⟩, rfl⟩ := h; exact .cse h
  next => obtain ⟨⟨h1, rfl⟩, h2⟩ := h; exact .subst h1 h2
  next => obtain ⟨h, rfl⟩ := h; exact .deriv h
  next => exact .slice h
  next => exact .nan
  next => exact .wildcard
  next => subst h; exact .dotWild
  next => subst h; exact .starWild
  next => exact .funcSym
  next => exact .tuple h
  next => exact .list h
  next => cases h

/-! ### Constants -/

/-- The only constant with `c.pyEq c = false` is a float nan: `.flt "nan" _ 0`.  Exactly that
constant is excluded (inf / -inf, i.e. other reprs with den = 0, stay well-formed). -/
def Const.wf : Const → Bool
  | .flt r _ d => d != 0 || r != "nan"
  | _ => true

theorem Const.numVal?_den {a : Const} {n : Int} {d : Nat} (h : a.numVal? = some (n, d)) :
    d ≠ 0 := by
  cases a <;> simp [Const.numVal?] at h <;> grind

theorem Const.pyEq_refl (c : Const) (h : c.wf = true) : c.pyEq c = true := by
  cases c with
  | flt r n d =>
    by_cases hd : d = 0
    · subst hd; simp [Const.wf] at h; simp [Const.pyEq, Const.numVal?, h]
    · simp [Const.pyEq, Const.numVal?, hd]
  | _ => simp [Const.pyEq, Const.numVal?]

/-- nan is the (only) reason for the side condition -/
example : (Const.flt "nan" 0 0).pyEq (Const.flt "nan" 0 0) = false := by decide

/-- conversely: reflexivity characterises `Const.wf` -/
theorem Const.pyEq_self_iff (c : Const) : c.pyEq c = true ↔ c.wf = true := by
  constructor
  · intro h
    cases c with
    | flt r n d =>
      by_cases hd : d = 0
      · subst hd; simp [Const.pyEq, Const.numVal?] at h; simp [Const.wf, h]
      · simp [Const.wf, hd]
    | _ => rfl
  · exact Const.pyEq_refl c

theorem Const.pyEq_symm (a b : Const) (h : a.pyEq b = true) : b.pyEq a = true := by
  unfold Const.pyEq at h ⊢
  split at h
  · rename_i n d n' d' h1 h2
    simp [h1, h2] at h ⊢; omega
  · rename_i h1 h2
    simp only [h1, h2]
    split at h <;> simp_all
    obtain ⟨rfl, h⟩ := h; exact h
  · simp at h

theorem ratEq_trans {n n' n'' : Int} {d d' d'' : Nat} (hd' : d' ≠ 0)
    (h1 : n * (d' : Int) = n' * d) (h2 : n' * (d'' : Int) = n'' * d') :
    n * (d'' : Int) = n'' * d := by
  have hd : (d' : Int) ≠ 0 := by omega
  apply Int.eq_of_mul_eq_mul_right hd
  calc n * ↑d'' * ↑d' = (n * ↑d') * ↑d'' := by ac_rfl
    _ = (n' * ↑d'') * ↑d := by rw [h1]; ac_rfl
    _ = n'' * ↑d * ↑d' := by rw [h2]; ac_rfl

/-- a non-number `==` to `b` answers every comparison as `b` does -/
theorem Const.pyEq_congr_of_nonnum {a b : Const} (ha : a.numVal? = Option.none)
    (h : a.pyEq b = true) (c : Const) : a.pyEq c = b.pyEq c := by
  unfold Const.pyEq at h
  rw [ha] at h
  cases hb : b.numVal? with
  | some q => simp [hb] at h
  | none =>
    simp only [hb] at h
    split at h
    · rw [beq_iff_eq.1 h]
    · rfl
    · simp only [Bool.and_eq_true, beq_iff_eq] at h
      rw [h.1]
      cases c with
      | flt _ _ d => cases d <;> rfl
      | _ => rfl
    · cases h

theorem Const.pyEq_trans (a b c : Const) (h1 : a.pyEq b = true) (h2 : b.pyEq c = true) :
    a.pyEq c = true := by
  cases ha : a.numVal? with
  | none => rw [Const.pyEq_congr_of_nonnum ha h1]; exact h2
  | some p =>
    unfold Const.pyEq at h1 h2 ⊢
    rw [ha] at h1 ⊢
    cases hb : b.numVal? with
    | none => simp [hb] at h1
    | some q =>
      cases hc : c.numVal? with
      | none => simp [hb, hc] at h2
      | some r =>
        simp only [hb, hc, beq_iff_eq] at h1 h2 ⊢
        exact ratEq_trans (Const.numVal?_den hb) h1 h2

/-! ### Well-formed expressions -/

/- `Expr.wf`: keyword names of every `callKw` are duplicate-free and parallel to the values; no
nan constant; recursively. -/
mutual
def Expr.wf : Expr → Bool
  | .const c => c.wf
  | .nary _ cs => Expr.wfL cs
  | .bin _ a b => a.wf && b.wf
  | .un _ a => a.wf
  | .cmp _ a b => a.wf && b.wf
  | .ite c t e => c.wf && t.wf && e.wf
  | .call f as => f.wf && Expr.wfL as
  | .callKw f as ns vs =>
      f.wf && Expr.wfL as && decide ns.Nodup && ns.length == vs.length && Expr.wfL vs
  | .subscript a i => a.wf && i.wf
  | .lookup a _ => a.wf
  | .cse c _ _ => c.wf
  | .subst c _ xs => c.wf && Expr.wfL xs
  | .deriv c _ => c.wf
  | .slice cs => Expr.wfL cs
  | .tuple cs => Expr.wfL cs
  | .list cs => Expr.wfL cs
  | _ => true
def Expr.wfL : List Expr → Bool
  | [] => true
  | c :: cs => c.wf && Expr.wfL cs
end

theorem wfL_iff : ∀ {cs : List Expr}, Expr.wfL cs = true ↔ ∀ c ∈ cs, c.wf = true
  | [] => by simp [Expr.wfL]
  | d :: ds => by
    simp only [Expr.wfL, Bool.and_eq_true, List.forall_mem_cons, wfL_iff (cs := ds)]

theorem wf_children {e : Expr} (h : e.wf = true) : ∀ c ∈ e.children, c.wf = true := by
  intro c hc
  -- per class, `h` is the conjunction of the children's `wf` and `hc` says which child `c` is
  cases e <;> simp only [Expr.children, List.mem_cons, List.mem_append, List.not_mem_nil,
    or_false] at hc <;>
    simp only [Expr.wf, Bool.and_eq_true, wfL_iff, decide_eq_true_eq, beq_iff_eq] at h
  all_goals grind

/-! ### Generic association-list matching -/

theorem assoc_split {K β : Type} {k : K} {w : β} {M' : List (K × β)}
    (hn : (M'.map Prod.fst).Nodup) (hm : (k, w) ∈ M') :
    ∃ L1 L2, M' = L1 ++ (k, w) :: L2 ∧ ((L1 ++ L2).map Prod.fst).Nodup ∧
      (∀ k' w', (k', w') ∈ M' → k' ≠ k → (k', w') ∈ L1 ++ L2) ∧
      (∀ k' w', (k', w') ∈ M' → k' = k → w' = w) := by
  obtain ⟨L1, L2, rfl⟩ := List.append_of_mem hm
  refine ⟨L1, L2, rfl, ?_, ?_, ?_⟩
  · simp only [List.map_append, List.map_cons, List.nodup_append, List.nodup_cons] at hn ⊢
    refine ⟨hn.1, hn.2.1.2, ?_⟩
    intro a ha b hb
    exact hn.2.2 a ha b (List.mem_cons_of_mem _ hb)
  · intro k' w' hm' hne
    simp only [List.mem_append, List.mem_cons, Prod.mk.injEq] at hm' ⊢
    rcases hm' with h | ⟨h, _⟩ | h
    · exact Or.inl h
    · exact absurd h hne
    · exact Or.inr h
  · intro k' w' hm' he
    subst he
    simp only [List.map_append, List.map_cons, List.nodup_append, List.nodup_cons] at hn
    simp only [List.mem_append, List.mem_cons, Prod.mk.injEq] at hm'
    rcases hm' with h | ⟨_, h⟩ | h
    · exact absurd rfl (hn.2.2 k' (List.mem_map.2 ⟨_, h, rfl⟩) k' (List.mem_cons_self))
    · exact h
    · exact absurd (List.mem_map.2 ⟨_, h, rfl⟩) hn.2.1.1

theorem assoc_match_perm {K β γ δ : Type} (g : K → β → δ) (g' : K → γ → δ) :
    ∀ (M : List (K × β)) (M' : List (K × γ)), (M.map Prod.fst).Nodup → (M'.map Prod.fst).Nodup →
      M.length = M'.length → (∀ k v, (k, v) ∈ M → ∃ w, (k, w) ∈ M' ∧ g k v = g' k w) →
      (M.map (fun p => g p.1 p.2)).Perm (M'.map (fun p => g' p.1 p.2))
  | [], M', _, _, hl, _ => by
    cases M' with
    | nil => simp
    | cons _ _ => simp at hl
  | (k0, v0) :: M, M', hn, hn', hl, hall => by
    obtain ⟨w0, hw0, hr0⟩ := hall k0 v0 List.mem_cons_self
    obtain ⟨L1, L2, rfl, hn2, hne, hfun⟩ := assoc_split hn' hw0
    simp only [List.map_cons, List.nodup_cons] at hn
    have ih := assoc_match_perm g g' M (L1 ++ L2) hn.2 hn2
      (by simp only [List.length_cons, List.length_append] at hl ⊢; omega)
      (by
        intro k v hkv
        obtain ⟨w, hw, hr⟩ := hall k v (List.mem_cons_of_mem _ hkv)
        refine ⟨w, hne k w hw ?_, hr⟩
        rintro rfl
        exact hn.1 (List.mem_map.2 ⟨_, hkv, rfl⟩))
    simp only [List.map_cons, List.map_append] at ih ⊢
    rw [hr0]
    exact (List.Perm.cons _ ih).trans List.perm_middle.symm

/-- hence the matching is onto: every binding of `M'` is matched by one of `M` -/
theorem assoc_match_symm {K β γ : Type} (R : β → γ → Prop) (M : List (K × β)) (M' : List (K × γ))
    (hn : (M.map Prod.fst).Nodup) (hn' : (M'.map Prod.fst).Nodup) (hl : M.length = M'.length)
    (hall : ∀ k v, (k, v) ∈ M → ∃ w, (k, w) ∈ M' ∧ R v w) :
    ∀ k w, (k, w) ∈ M' → ∃ v, (k, v) ∈ M ∧ R v w := by
  intro k w hm
  have hp := assoc_match_perm (fun k _ => k) (fun k _ => k) M M' hn hn' hl fun k v hkv =>
    let ⟨w, hw, _⟩ := hall k v hkv; ⟨w, hw, rfl⟩
  obtain ⟨⟨_, v⟩, hv, rfl⟩ := List.mem_map.1 (hp.mem_iff.2 (List.mem_map.2 ⟨(k, w), hm, rfl⟩))
  obtain ⟨w', hw', hr⟩ := hall _ v hv
  obtain ⟨_, _, _, _, _, hfun⟩ := assoc_split hn' hw'
  exact ⟨v, hv, hfun _ w hm rfl ▸ hr⟩


/-! ### Keyword mappings as association lists -/

theorem lookup_mem {k : String} : ∀ {ms : List String} {ws : List Expr} {w : Expr},
    assocLookupE k ms ws = some w → (k, w) ∈ ms.zip ws
  | [], _, _, h | _ :: _, [], _, h => by simp [assocLookupE] at h
  | m :: ms, w' :: ws, w, h => by
    simp only [assocLookupE] at h
    simp only [List.zip_cons_cons, List.mem_cons, Prod.mk.injEq]
    split at h
    · rename_i hm
      simp only [Option.some.injEq] at h
      exact Or.inl ⟨hm.symm, h.symm⟩
    · exact Or.inr (lookup_mem h)

theorem lookup_of_mem {k : String} : ∀ {ms : List String} {ws : List Expr} {w : Expr},
    ms.Nodup → (k, w) ∈ ms.zip ws → assocLookupE k ms ws = some w
  | [], _, _, _, h | _ :: _, [], _, _, h => by simp at h
  | m :: ms, w' :: ws, w, hn, h => by
    simp only [List.zip_cons_cons, List.mem_cons, Prod.mk.injEq] at h
    simp only [List.nodup_cons] at hn
    simp only [assocLookupE]
    rcases h with ⟨rfl, rfl⟩ | h
    · simp
    · have hk := (List.of_mem_zip h).1
      have : m ≠ k := by rintro rfl; exact hn.1 hk
      simp only [this, if_false]
      exact lookup_of_mem hn.2 h

theorem pyEqKw_iff_lookup : ∀ (ns : List String) (vs : List Expr) (ms : List String) (ws : List Expr),
    Expr.pyEqKw ns vs ms ws = true ↔
      ∀ n v, (n, v) ∈ ns.zip vs → ∃ w, assocLookupE n ms ws = some w ∧ v.pyEq w = true
  | [], _, _, _ | _ :: _, [], _, _ => by simp [Expr.pyEqKw]
  | n :: ns, v :: vs, ms, ws => by
    simp only [Expr.pyEqKw, Bool.and_eq_true, List.zip_cons_cons, List.mem_cons, Prod.mk.injEq,
      pyEqKw_iff_lookup ns vs ms ws]
    constructor
    · rintro ⟨h1, h2⟩ n' v' (⟨rfl, rfl⟩ | h)
      · split at h1
        · exact ⟨_, by assumption, h1⟩
        · simp at h1
      · exact h2 n' v' h
    · intro h
      refine ⟨?_, fun n' v' h' => h n' v' (Or.inr h')⟩
      obtain ⟨w, hw, hr⟩ := h n v (Or.inl ⟨rfl, rfl⟩)
      simp only [hw, hr]

theorem pyEqKw_iff {ns : List String} {vs : List Expr} {ms : List String} {ws : List Expr}
    (hms : ms.Nodup) :
    Expr.pyEqKw ns vs ms ws = true ↔
      ∀ n v, (n, v) ∈ ns.zip vs → ∃ w, (n, w) ∈ ms.zip ws ∧ v.pyEq w = true := by
  rw [pyEqKw_iff_lookup]
  constructor
  · intro h n v hm
    obtain ⟨w, hw, hr⟩ := h n v hm
    exact ⟨w, lookup_mem hw, hr⟩
  · intro h n v hm
    obtain ⟨w, hw, hr⟩ := h n v hm
    exact ⟨w, lookup_of_mem hms hw, hr⟩


/-! ### Reflexivity on a list, from reflexivity on its members -/

theorem pyEqL_refl_of : ∀ (cs : List Expr), (∀ c ∈ cs, c.pyEq c = true) → Expr.pyEqL cs cs = true
  | [], _ => by simp [Expr.pyEqL]
  | c :: cs, h => by
    simp only [List.forall_mem_cons] at h
    simp only [Expr.pyEqL, Bool.and_eq_true]
    exact ⟨h.1, pyEqL_refl_of cs h.2⟩

/-! ### Keyword mappings, given the statement for the values -/

theorem pyEqKw_refl_of {ns : List String} {vs : List Expr} (hn : ns.Nodup)
    (h : ∀ v ∈ vs, v.pyEq v = true) : Expr.pyEqKw ns vs ns vs = true := by
  rw [pyEqKw_iff hn]
  intro n v hm
  exact ⟨v, hm, h v (List.of_mem_zip hm).2⟩

theorem zip_keys {ns : List String} {vs : List Expr} (hl : ns.length = vs.length) :
    (ns.zip vs).map Prod.fst = ns := List.map_fst_zip (by omega)

theorem pyEqKw_symm_of {ns ms : List String} {vs ws : List Expr} (hn : ns.Nodup) (hm : ms.Nodup)
    (hl1 : ns.length = vs.length) (hl2 : ms.length = ws.length) (hl : ns.length = ms.length)
    (ih : ∀ v ∈ vs, ∀ w ∈ ws, v.pyEq w = true → w.pyEq v = true)
    (h : Expr.pyEqKw ns vs ms ws = true) : Expr.pyEqKw ms ws ns vs = true := by
  rw [pyEqKw_iff hm] at h
  rw [pyEqKw_iff hn]
  intro m w hmw
  have := assoc_match_symm (fun v w => v.pyEq w = true) (ns.zip vs) (ms.zip ws)
    (by rw [zip_keys hl1]; exact hn) (by rw [zip_keys hl2]; exact hm)
    (by simp only [List.length_zip]; omega) h m w hmw
  obtain ⟨v, hv, hr⟩ := this
  exact ⟨v, hv, ih v (List.of_mem_zip hv).2 w (List.of_mem_zip hmw).2 hr⟩

theorem pyEqKw_trans_of {ns ms ks : List String} {vs ws us : List Expr}
    (hm : ms.Nodup) (hk : ks.Nodup)
    (ih : ∀ v ∈ vs, ∀ w ∈ ws, ∀ u ∈ us, v.pyEq w = true → w.pyEq u = true → v.pyEq u = true)
    (h1 : Expr.pyEqKw ns vs ms ws = true) (h2 : Expr.pyEqKw ms ws ks us = true) :
    Expr.pyEqKw ns vs ks us = true := by
  rw [pyEqKw_iff hm] at h1
  rw [pyEqKw_iff hk] at h2 ⊢
  intro n v hnv
  obtain ⟨w, hw, hr⟩ := h1 n v hnv
  obtain ⟨u, hu, hr'⟩ := h2 n w hw
  exact ⟨u, hu, ih v (List.of_mem_zip hnv).2 w (List.of_mem_zip hw).2 u (List.of_mem_zip hu).2 hr hr'⟩

/-! ### Structural hash -/

structure HashParams where
  /-- hash of a numeric constant given as num/den -/
  num : Int → Nat → Nat
  str : String → Nat
  none : Nat
  /-- class tag + field hashes, order-sensitive -/
  tuple : String → List Nat → Nat
  /-- order-INsensitive -/
  mapping : List (Nat × Nat) → Nat

structure HashParams.Ok (P : HashParams) : Prop where
  num_ok : ∀ (n : Int) (d : Nat) (n' : Int) (d' : Nat), d ≠ 0 → d' ≠ 0 → n * (d' : Int) = n' * (d : Int) → P.num n d = P.num n' d'
  mapping_perm : ∀ l l', l.Perm l' → P.mapping l = P.mapping l'

def Const.hash (P : HashParams) : Const → Nat
  | .int n => P.num n 1
  | .bool b => P.num (if b then 1 else 0) 1
  | .flt r n d => if d = 0 then P.tuple "float" [P.str r] else P.num n d
  | .str s => P.str s
  | .none => P.none

theorem Const.hash_of_numVal {P : HashParams} {a : Const} {n : Int} {d : Nat}
    (h : a.numVal? = some (n, d)) : a.hash P = P.num n d := by
  cases a <;> simp only [Const.numVal?, Option.some.injEq, Prod.mk.injEq, reduceCtorEq] at h
  case flt r m e =>
    split at h
    · cases h
    · rename_i he
      obtain ⟨rfl, rfl⟩ := h
      simp only [Const.hash, he, if_false]
  all_goals simp [Const.hash, ← h.1, ← h.2]

theorem Const.eq_hash {P : HashParams} (hP : P.Ok) (a b : Const) (h : a.pyEq b = true) :
    a.hash P = b.hash P := by
  unfold Const.pyEq at h
  split at h
  · rename_i n d n' d' ha hb
    rw [Const.hash_of_numVal ha, Const.hash_of_numVal hb]
    exact hP.num_ok n d n' d' (Const.numVal?_den ha) (Const.numVal?_den hb) (by simpa using h)
  · split at h <;> simp_all [Const.hash]
  · simp at h

mutual
def Expr.hash (P : HashParams) : Expr → Nat
  | .const c => c.hash P
  | .var n => P.tuple "Variable" [P.str n]
  | .nary o cs => P.tuple o.name [P.tuple "tuple" (Expr.hashL P cs)]
  | .bin o a b => P.tuple o.name [a.hash P, b.hash P]
  | .un o a => P.tuple o.name [a.hash P]
  | .cmp o a b => P.tuple "Comparison" [a.hash P, P.str o.sym, b.hash P]
  | .ite c t e => P.tuple "If" [c.hash P, t.hash P, e.hash P]
  | .call f as => P.tuple "Call" [f.hash P, P.tuple "tuple" (Expr.hashL P as)]
  | .callKw f as ns vs =>
      P.tuple "CallWithKwargs"
        [f.hash P, P.tuple "tuple" (Expr.hashL P as), P.mapping (Expr.hashKw P ns vs)]
  | .subscript a i => P.tuple "Subscript" [a.hash P, i.hash P]
  | .lookup a n => P.tuple "Lookup" [a.hash P, P.str n]
  | .cse c p s =>
      P.tuple "CommonSubexpression"
        [c.hash P, (match p with | some p => P.str p | Option.none => P.none), P.str s]
  | .subst c vs xs =>
      P.tuple "Substitution"
        [c.hash P, P.tuple "tuple" (vs.map P.str), P.tuple "tuple" (Expr.hashL P xs)]
  | .deriv c vs => P.tuple "Derivative" [c.hash P, P.tuple "tuple" (vs.map P.str)]
  | .slice cs => P.tuple "Slice" [P.tuple "tuple" (Expr.hashL P cs)]
  | .nan => P.tuple "NaN" []
  | .wildcard => P.tuple "Wildcard" []
  | .dotWild n => P.tuple "DotWildcard" [P.str n]
  | .starWild n => P.tuple "StarWildcard" [P.str n]
  | .funcSym => P.tuple "FunctionSymbol" []
  | .tuple cs => P.tuple "tuple" (Expr.hashL P cs)
  | .list cs => P.tuple "list" (Expr.hashL P cs)
def Expr.hashL (P : HashParams) : List Expr → List Nat
  | [] => []
  | c :: cs => c.hash P :: Expr.hashL P cs
def Expr.hashKw (P : HashParams) : List String → List Expr → List (Nat × Nat)
  | n :: ns, v :: vs => (P.str n, v.hash P) :: Expr.hashKw P ns vs
  | _, _ => []
end

theorem hashKw_eq_map (P : HashParams) : ∀ (ns : List String) (vs : List Expr),
    Expr.hashKw P ns vs = (ns.zip vs).map (fun p => (P.str p.1, p.2.hash P))
  | [], _ | _ :: _, [] => by simp [Expr.hashKw]
  | n :: ns, v :: vs => by simp [Expr.hashKw, hashKw_eq_map P ns vs]

theorem hashKw_perm_of (P : HashParams) {ns ms : List String} {vs ws : List Expr}
    (hn : ns.Nodup) (hm : ms.Nodup)
    (hl1 : ns.length = vs.length) (hl2 : ms.length = ws.length) (hl : ns.length = ms.length)
    (ih : ∀ v ∈ vs, ∀ w ∈ ws, v.pyEq w = true → v.hash P = w.hash P)
    (h : Expr.pyEqKw ns vs ms ws = true) : (Expr.hashKw P ns vs).Perm (Expr.hashKw P ms ws) := by
  rw [pyEqKw_iff hm] at h
  rw [hashKw_eq_map, hashKw_eq_map]
  apply assoc_match_perm (fun n v => (P.str n, Expr.hash P v)) (fun n v => (P.str n, Expr.hash P v))
    (ns.zip vs) (ms.zip ws)
    (by rw [zip_keys hl1]; exact hn) (by rw [zip_keys hl2]; exact hm)
    (by simp only [List.length_zip]; omega)
  intro n v hnv
  obtain ⟨w, hw, hr⟩ := h n v hnv
  exact ⟨w, hw, by rw [ih v (List.of_mem_zip hnv).2 w (List.of_mem_zip hw).2 hr]⟩


/-! ### `Expr.pyEq` is an equivalence on well-formed expressions -/

theorem pyEq_refl (e : Expr) : e.wf = true → e.pyEq e = true := by
  induction e using Expr.rec
    (motive_2 := fun cs => Expr.wfL cs = true →
      Expr.pyEqL cs cs = true ∧ ∀ c ∈ cs, c.pyEq c = true) with
  | const c => exact Const.pyEq_refl c
  | callKw f as ns vs ihf ihas ihvs =>
    intro h
    simp only [Expr.wf, Bool.and_eq_true, decide_eq_true_eq, beq_iff_eq] at h
    simp only [Expr.pyEq, Bool.and_eq_true, beq_self_eq_true, and_true]
    exact ⟨⟨ihf h.1.1.1.1, (ihas h.1.1.1.2).1⟩, pyEqKw_refl_of h.1.1.2 (ihvs h.2).2⟩
  | _ =>
    intros
    rename_i h
    dsimp only [Expr.wf, Expr.wfL, Expr.pyEq, Expr.pyEqL] at h ⊢
    first | done | grind

/-! The statements about two trees go by induction along the recursion of `Expr.pyEq`
(`Expr.pyEq.induct`).  Its cases are numbered in the order of the alternatives of `Expr.pyEq`,
`Expr.pyEqKw`, `Expr.pyEqL` in PV/Model/PyEq.lean: `case1` constants, `case9` `CallWithKwargs`
(the only class with a keyword mapping), `case23` the last row of `Expr.pyEq` (two trees of
different classes), `case24/25` keyword mappings, `case26-28` lists.  For a keyword mapping the
hypothesis carried is the statement for each value against anything.  The classes not named in a
proof all go the same way: one level of `==` and `wf` is unfolded and every conjunct of the goal
is an induction hypothesis or a conjunct at hand. -/

theorem kwVals_cons {M : Expr → Prop} {n : String} {ns : List String} {v : Expr} {vs : List Expr}
    (hv : M v) (ih : ns.length = vs.length → ∀ v ∈ vs, M v) :
    (n :: ns).length = (v :: vs).length → ∀ v' ∈ v :: vs, M v' :=
  fun hl => List.forall_mem_cons.2 ⟨hv, ih (Nat.succ.inj hl)⟩

theorem kwVals_nil {M : Expr → Prop} : ∀ {ns : List String} {vs : List Expr},
    (∀ n ns' v vs', ns = n :: ns' → vs = v :: vs' → False) →
    ns.length = vs.length → ∀ v ∈ vs, M v
  | _, [], _, _ => nofun
  | [], _ :: _, _, hl => nomatch hl
  | n :: ns, v :: vs, h, _ => (h n ns v vs rfl rfl).elim

theorem pyEq_symm : ∀ a b : Expr,
    a.wf = true → b.wf = true → a.pyEq b = true → b.pyEq a = true := by
  apply Expr.pyEq.induct
    (motive_2 := fun ns vs _ _ => ns.length = vs.length → ∀ v ∈ vs, ∀ w : Expr,
      v.wf = true → w.wf = true → v.pyEq w = true → w.pyEq v = true)
    (motive_3 := fun as bs =>
      Expr.wfL as = true → Expr.wfL bs = true → Expr.pyEqL as bs = true → Expr.pyEqL bs as = true)
  case case1 => exact fun a b _ _ => Const.pyEq_symm a b
  case case9 =>
    intro f as ns vs g bs ms ws ihf ihas ihvs ha hb h
    simp only [Expr.pyEq, Expr.wf, Bool.and_eq_true, beq_iff_eq, decide_eq_true_eq] at ha hb h ⊢
    obtain ⟨⟨⟨h1, h2⟩, h3⟩, h4⟩ := h
    obtain ⟨⟨⟨⟨a1, a2⟩, a3⟩, a4⟩, a5⟩ := ha
    obtain ⟨⟨⟨⟨b1, b2⟩, b3⟩, b4⟩, b5⟩ := hb
    exact ⟨⟨⟨ihf a1 b1 h1, ihas a2 b2 h2⟩, h3.symm⟩, pyEqKw_symm_of a3 b3 a4 b4 h3
      (fun v hv w hw => ihvs a4 v hv w (wfL_iff.1 a5 v hv) (wfL_iff.1 b5 w hw)) h4⟩
  case case23 | case28 =>
    intros
    simp only [Expr.pyEq, Expr.pyEqL, Bool.false_eq_true, *] at *
  case case24 => exact fun _ _ _ _ _ _ hv ih => kwVals_cons hv ih
  case case25 => exact fun _ _ _ _ h => kwVals_nil h
  all_goals
    intros
    rename_i ha hb h
    dsimp only [Expr.pyEq, Expr.wf, Expr.pyEqL, Expr.wfL] at ha hb h ⊢
    first | done | grind

theorem pyEq_trans' : ∀ a b : Expr, a.wf = true → b.wf = true → ∀ c : Expr, c.wf = true →
    a.pyEq b = true → b.pyEq c = true → a.pyEq c = true := by
  apply Expr.pyEq.induct
    (motive_2 := fun ns vs _ _ => ns.length = vs.length → ∀ v ∈ vs, ∀ w : Expr,
      v.wf = true → w.wf = true → ∀ c : Expr, c.wf = true →
        v.pyEq w = true → w.pyEq c = true → v.pyEq c = true)
    (motive_3 := fun as bs =>
      Expr.wfL as = true → Expr.wfL bs = true → ∀ cs, Expr.wfL cs = true →
        Expr.pyEqL as bs = true → Expr.pyEqL bs cs = true → Expr.pyEqL as cs = true)
  case case23 | case28 =>
    intros
    simp only [Expr.pyEq, Expr.pyEqL, Bool.false_eq_true, *] at *
  case case24 => exact fun _ _ _ _ _ _ hv ih => kwVals_cons hv ih
  case case25 => exact fun _ _ _ _ h => kwVals_nil h
  case case26 | case27 =>
    intros
    rename_i ha hb cs hc h1 h2
    cases cs <;> dsimp only [Expr.pyEqL, Expr.wfL] at ha hb hc h1 h2 ⊢ <;> grind
  -- the third tree is of the class of the second
  all_goals
    intros
    rename_i ha hb c hc h1 h2
    cases PyEqNode.of_pyEq h2
  case case1 => exact Const.pyEq_trans _ _ _ h1 h2
  case case9 f as ns vs g bs ms ws ihf ihas ihvs k cs ks us q1 q2 q3 q4 =>
    simp only [Expr.pyEq, Expr.wf, Bool.and_eq_true, beq_iff_eq, decide_eq_true_eq]
      at ha hb hc h1 ⊢
    obtain ⟨⟨⟨p1, p2⟩, p3⟩, p4⟩ := h1
    obtain ⟨⟨⟨⟨a1, a2⟩, a3⟩, a4⟩, a5⟩ := ha
    obtain ⟨⟨⟨⟨b1, b2⟩, b3⟩, b4⟩, b5⟩ := hb
    obtain ⟨⟨⟨⟨c1, c2⟩, c3⟩, c4⟩, c5⟩ := hc
    exact ⟨⟨⟨ihf a1 b1 _ c1 p1 q1, ihas a2 b2 _ c2 p2 q2⟩, p3.trans q3⟩,
      pyEqKw_trans_of b3 c3 (fun v hv w hw u hu =>
        ihvs a4 v hv w (wfL_iff.1 a5 v hv) (wfL_iff.1 b5 w hw) u (wfL_iff.1 c5 u hu)) p4 q4⟩
  all_goals
    dsimp only [Expr.pyEq, Expr.wf, Expr.pyEqL, Expr.wfL] at ha hb hc h1 h2 ⊢
    first | done | grind

theorem pyEq_trans (a b c : Expr) (ha : a.wf = true) (hb : b.wf = true) (hc : c.wf = true)
    (h1 : a.pyEq b = true) (h2 : b.pyEq c = true) : a.pyEq c = true :=
  pyEq_trans' a b ha hb c hc h1 h2

/-! ### The structural hash respects `==` -/

theorem eq_hash' {P : HashParams} (hP : P.Ok) : ∀ a b : Expr,
    a.wf = true → b.wf = true → a.pyEq b = true → a.hash P = b.hash P := by
  apply Expr.pyEq.induct
    (motive_2 := fun ns vs _ _ => ns.length = vs.length → ∀ v ∈ vs, ∀ w : Expr,
      v.wf = true → w.wf = true → v.pyEq w = true → v.hash P = w.hash P)
    (motive_3 := fun as bs => Expr.wfL as = true → Expr.wfL bs = true →
      Expr.pyEqL as bs = true → Expr.hashL P as = Expr.hashL P bs)
  case case1 => exact fun a b _ _ => Const.eq_hash hP a b
  case case9 =>
    intro f as ns vs g bs ms ws ihf ihas ihvs ha hb h
    simp only [Expr.pyEq, Expr.wf, Bool.and_eq_true, beq_iff_eq, decide_eq_true_eq] at ha hb h
    obtain ⟨⟨⟨h1, h2⟩, h3⟩, h4⟩ := h
    obtain ⟨⟨⟨⟨a1, a2⟩, a3⟩, a4⟩, a5⟩ := ha
    obtain ⟨⟨⟨⟨b1, b2⟩, b3⟩, b4⟩, b5⟩ := hb
    simp only [Expr.hash]
    rw [ihf a1 b1 h1, ihas a2 b2 h2, hP.mapping_perm _ _ (hashKw_perm_of P a3 b3 a4 b4 h3
      (fun v hv w hw => ihvs a4 v hv w (wfL_iff.1 a5 v hv) (wfL_iff.1 b5 w hw)) h4)]
  case case23 | case28 =>
    intros
    simp only [Expr.pyEq, Expr.pyEqL, Bool.false_eq_true, *] at *
  case case24 => exact fun _ _ _ _ _ _ hv ih => kwVals_cons hv ih
  case case25 => exact fun _ _ _ _ h => kwVals_nil h
  all_goals
    intros
    rename_i ha hb h
    dsimp only [Expr.pyEq, Expr.wf, Expr.pyEqL, Expr.wfL, Expr.hash, Expr.hashL] at ha hb h ⊢
    first | done | grind

theorem eq_hash {P : HashParams} (hP : P.Ok) (a b : Expr) (ha : a.wf = true) (hb : b.wf = true)
    (h : a.pyEq b = true) : a.hash P = b.hash P := eq_hash' hP a b ha hb h

/-! ### `Expr.keyEq` (cache-key equality: type tag and `==`) -/

theorem keyEq_refl (e : Expr) (h : e.wf = true) : e.keyEq e = true := by
  simp only [Expr.keyEq, Bool.and_eq_true, beq_self_eq_true, true_and]
  exact pyEq_refl e h

theorem keyEq_symm (a b : Expr) (ha : a.wf = true) (hb : b.wf = true) (h : a.keyEq b = true) :
    b.keyEq a = true := by
  simp only [Expr.keyEq, Bool.and_eq_true, beq_iff_eq] at h ⊢
  exact ⟨h.1.symm, pyEq_symm a b ha hb h.2⟩

theorem keyEq_trans (a b c : Expr) (ha : a.wf = true) (hb : b.wf = true) (hc : c.wf = true)
    (h1 : a.keyEq b = true) (h2 : b.keyEq c = true) : a.keyEq c = true := by
  simp only [Expr.keyEq, Bool.and_eq_true, beq_iff_eq] at h1 h2 ⊢
  exact ⟨h1.1.trans h2.1, pyEq_trans a b c ha hb hc h1.2 h2.2⟩

theorem keyEq_equiv :
    (∀ e : Expr, e.wf = true → e.keyEq e = true) ∧
    (∀ a b : Expr, a.wf = true → b.wf = true → a.keyEq b = true → b.keyEq a = true) ∧
    (∀ a b c : Expr, a.wf = true → b.wf = true → c.wf = true →
      a.keyEq b = true → b.keyEq c = true → a.keyEq c = true) :=
  ⟨keyEq_refl, keyEq_symm, keyEq_trans⟩

/-- equal cache keys have equal hashes -/
theorem keyEq_hash {P : HashParams} (hP : P.Ok) (a b : Expr) (ha : a.wf = true) (hb : b.wf = true)
    (h : a.keyEq b = true) : a.hash P = b.hash P := by
  simp only [Expr.keyEq, Bool.and_eq_true] at h
  exact eq_hash hP a b ha hb h.2

/-! ### Why each clause of `wf` is needed -/

/-- nan: reflexivity fails -/
example : (Expr.const (.flt "nan" 0 0)).pyEq (.const (.flt "nan" 0 0)) = false := by decide

/-- duplicate keyword names: reflexivity fails (`f(x=1, x=2)`; lookup finds the first binding) -/
example :
    let e := Expr.callKw (.var "f") [] ["x", "x"] [.const (.int 1), .const (.int 2)]
    e.pyEq e = false := by decide

/-- duplicate keyword names: symmetry fails even when lengths agree -/
example :
    let a := Expr.callKw (.var "f") [] ["x", "x"] [.const (.int 1), .const (.int 1)]
    let b := Expr.callKw (.var "f") [] ["x", "y"] [.const (.int 1), .const (.int 3)]
    a.pyEq b = true ∧ b.pyEq a = false := by decide

/-- names and values not parallel: symmetry fails -/
example :
    let a := Expr.callKw (.var "f") [] ["x", "y"] [.const (.int 1)]
    let b := Expr.callKw (.var "f") [] ["x", "z"] [.const (.int 1), .const (.int 2)]
    a.pyEq b = true ∧ b.pyEq a = false := by decide

end PV
