import PV.Model.GA
/-
  C18 — proofs about the model `PV/Model/GA.lean`: the bit level (core Lean only).

  The letters in docstrings of this and the following files (GA, GAMV, GAExt) are those of the
  sections of PV/Properties/C18.lean: (a) `bit_count`, (b) `canonical_reordering_sign`, (c) sign
  cocycle, (d) metric cocycle, (e) basis vectors, (f) the other five products, (g) `rev` /
  `invol`, (h) multivectors.
-/
namespace PV.GA

/-! ## clean popcount -/

/-- number of set bits, by binary recursion -/
def pc : Nat → Nat
  | 0 => 0
  | n+1 => (n+1) % 2 + pc ((n+1) / 2)
decreasing_by omega

@[simp] theorem pc_zero : pc 0 = 0 := by simp [pc]

theorem pc_eq (n : Nat) : pc n = n % 2 + pc (n / 2) := by
  cases n with
  | zero => simp
  | succ k => rw [pc]

theorem and_mod2 (x y : Nat) : (x &&& y) % 2 = (x % 2) * (y % 2) := by
  have := Nat.and_mod_two_pow (a := x) (b := y) (n := 1)
  simp at this
  rcases Nat.mod_two_eq_zero_or_one x with hx | hx <;>
  rcases Nat.mod_two_eq_zero_or_one y with hy | hy <;>
    simp [this, hx, hy]

theorem xor_mod2 (x y : Nat) : (x ^^^ y) % 2 = (x % 2 + y % 2) % 2 := by
  have := Nat.xor_mod_two_pow (a := x) (b := y) (n := 1)
  simp at this
  rcases Nat.mod_two_eq_zero_or_one x with hx | hx <;>
  rcases Nat.mod_two_eq_zero_or_one y with hy | hy <;>
    simp [this, hx, hy]

theorem and_div2 (x y : Nat) : (x &&& y) / 2 = (x / 2) &&& (y / 2) := by
  simpa using Nat.and_div_two_pow (a := x) (b := y) (n := 1)

theorem xor_div2 (x y : Nat) : (x ^^^ y) / 2 = (x / 2) ^^^ (y / 2) := by
  simpa using Nat.xor_div_two_pow (a := x) (b := y) (n := 1)

/-- two naturals are equal iff their lowest bits and their halves agree -/
theorem eq_iff_mod2_div2 (m n : Nat) : m = n ↔ m % 2 = n % 2 ∧ m / 2 = n / 2 := by omega

theorem pc_eq_zero_iff : ∀ n, pc n = 0 ↔ n = 0 := by
  intro n
  induction n using Nat.strongRecOn with
  | _ n ih =>
    by_cases hn : n = 0
    · subst hn; simp
    · rw [pc_eq]
      have := ih (n / 2) (by omega)
      omega

theorem pc_and_xor_parity : ∀ (x b c : Nat),
    pc (x &&& (b ^^^ c)) % 2 = (pc (x &&& b) + pc (x &&& c)) % 2 := by
  intro x
  induction x using Nat.strongRecOn with
  | _ x ih =>
    intro b c
    by_cases hx : x = 0
    · subst hx; simp
    · rw [pc_eq (x &&& (b ^^^ c)), pc_eq (x &&& b), pc_eq (x &&& c)]
      rw [and_div2, and_div2, and_div2, xor_div2]
      have ih' := ih (x / 2) (by omega) (b / 2) (c / 2)
      rw [and_mod2, and_mod2, and_mod2, xor_mod2]
      rcases Nat.mod_two_eq_zero_or_one x with hx2 | hx2 <;>
      rcases Nat.mod_two_eq_zero_or_one b with hb | hb <;>
      rcases Nat.mod_two_eq_zero_or_one c with hc | hc <;>
      simp [hx2, hb, hc] <;> omega

/-- `|a ⊕ b| + 2 |a ∩ b| = |a| + |b|` -/
theorem pc_xor_add : ∀ (a b : Nat), pc (a ^^^ b) + 2 * pc (a &&& b) = pc a + pc b := by
  intro a
  induction a using Nat.strongRecOn with
  | _ a ih =>
    intro b
    by_cases ha : a = 0
    · subst ha; simp
    · rw [pc_eq (a ^^^ b), pc_eq (a &&& b), pc_eq a, pc_eq b, and_div2, xor_div2, and_mod2,
        xor_mod2]
      have ih' := ih (a / 2) (by omega) (b / 2)
      rcases Nat.mod_two_eq_zero_or_one a with h1 | h1 <;>
      rcases Nat.mod_two_eq_zero_or_one b with h2 | h2 <;>
      simp [h1, h2] <;> omega

theorem pc_xor_parity (a b : Nat) : pc (a ^^^ b) % 2 = (pc a + pc b) % 2 := by
  have := pc_xor_add a b; omega

theorem pc_and_le_left : ∀ (a b : Nat), pc (a &&& b) ≤ pc a := by
  intro a
  induction a using Nat.strongRecOn with
  | _ a ih =>
    intro b
    by_cases ha : a = 0
    · subst ha; simp
    · rw [pc_eq (a &&& b), pc_eq a, and_div2, and_mod2]
      have ih' := ih (a / 2) (by omega) (b / 2)
      rcases Nat.mod_two_eq_zero_or_one a with h1 | h1 <;>
      rcases Nat.mod_two_eq_zero_or_one b with h2 | h2 <;>
      simp [h1, h2] <;> omega

/-- `a ∩ b` has as many elements as `a` iff `a ⊆ b` -/
theorem pc_and_eq_left_iff : ∀ (a b : Nat), pc (a &&& b) = pc a ↔ a &&& b = a := by
  intro a
  induction a using Nat.strongRecOn with
  | _ a ih =>
    intro b
    by_cases ha : a = 0
    · subst ha; simp
    · rw [eq_iff_mod2_div2 (a &&& b) a, pc_eq (a &&& b), pc_eq a, and_div2, and_mod2]
      have ih' := ih (a / 2) (by omega) (b / 2)
      have hle := pc_and_le_left (a / 2) (b / 2)
      rw [← ih']
      rcases Nat.mod_two_eq_zero_or_one a with h1 | h1 <;>
      rcases Nat.mod_two_eq_zero_or_one b with h2 | h2 <;>
      simp [h1, h2] <;> omega

/-! ## `bit_count` is popcount -/

/-- Kernighan's step `i & (i-1)` clears exactly one set bit -/
theorem pc_and_pred : ∀ i, i ≠ 0 → pc (i &&& (i - 1)) + 1 = pc i := by
  intro i
  induction i using Nat.strongRecOn with
  | _ i ih =>
    intro hi
    rw [pc_eq (i &&& (i - 1)), pc_eq i, and_div2, and_mod2]
    rcases Nat.mod_two_eq_zero_or_one i with h1 | h1
    · have h2 : (i - 1) / 2 = i / 2 - 1 := by omega
      have h3 := ih (i / 2) (by omega) (by omega)
      rw [h2, h1]; omega
    · have h2 : (i - 1) / 2 = i / 2 := by omega
      have h3 : (i - 1) % 2 = 0 := by omega
      rw [h2, h1, h3, Nat.and_self]; omega

theorem bitCountLoop_eq (i count : Nat) : bitCountLoop i count = count + pc i := by
  induction i using Nat.strongRecOn generalizing count with
  | _ i ih =>
    rw [bitCountLoop]
    split
    · next h => subst h; simp
    · next h =>
      have hlt : i &&& (i - 1) < i := by
        have : i &&& (i - 1) ≤ i - 1 := Nat.and_le_right
        omega
      rw [ih _ hlt]
      have := pc_and_pred i h
      omega

/-- (a) the Kernighan loop of `bit_count` computes the number of set bits -/
theorem bitCount_eq_popcount (i : Nat) : bitCount i = pc i := by
  simp [bitCount, bitCountLoop_eq]

/-! ## `canonical_reordering_sign` -/

/-- the accumulator of the loop can be pulled out -/
theorem reorderLoop_acc (a b s : Nat) : reorderLoop a b s = s + reorderLoop a b 0 := by
  induction a using Nat.strongRecOn generalizing s with
  | _ a ih =>
    rw [reorderLoop.eq_1 a b s, reorderLoop.eq_1 a b 0]
    split
    · simp
    · next h =>
      have hlt : a >>> 1 < a := by rw [Nat.shiftRight_eq_div_pow]; omega
      rw [ih _ hlt (s + _), ih _ hlt (0 + _)]
      omega

theorem reorderLoop_zero (b : Nat) : reorderLoop 0 b 0 = 0 := by
  rw [reorderLoop]; simp

theorem reorderLoop_step (a b : Nat) (h : a ≠ 0) :
    reorderLoop a b 0 = pc (a &&& b) + reorderLoop (a / 2) b 0 := by
  rw [reorderLoop]
  simp only [h, ↓reduceDIte]
  rw [reorderLoop_acc, bitCount_eq_popcount, Nat.shiftRight_eq_div_pow]
  simp

/-- halving both arguments of the loop -/
theorem reorderLoop_halve : ∀ (a b : Nat),
    reorderLoop a b 0 = (b % 2) * pc a + reorderLoop (a / 2) (b / 2) 0 := by
  intro a
  induction a using Nat.strongRecOn with
  | _ a ih =>
    intro b
    by_cases ha : a = 0
    · subst ha; simp [reorderLoop_zero]
    · rw [reorderLoop_step a b ha, ih (a / 2) (by omega) b]
      rw [pc_eq (a &&& b), and_mod2, and_div2, pc_eq a]
      by_cases ha2 : a / 2 = 0
      · rw [ha2]; simp [reorderLoop_zero, Nat.mul_comm]
      · rw [reorderLoop_step (a / 2) (b / 2) ha2]
        simp only [Nat.mul_add, Nat.mul_comm]
        omega

theorem reorderSignExp_zero_left (b : Nat) : reorderSignExp 0 b = 0 := by
  simp [reorderSignExp, reorderLoop_zero]

/-- (b′) the defining recursion of the inversion count: the lowest bit of `b` is overtaken by all
    bits of `a` above position 0 -/
theorem reorderSignExp_halve (a b : Nat) :
    reorderSignExp a b = (b % 2) * pc (a / 2) + reorderSignExp (a / 2) (b / 2) := by
  unfold reorderSignExp
  rw [reorderLoop_halve]
  simp [Nat.shiftRight_eq_div_pow]

theorem reorderSignExp_zero_right : ∀ a, reorderSignExp a 0 = 0 := by
  intro a
  induction a using Nat.strongRecOn with
  | _ a ih =>
    by_cases ha : a = 0
    · subst ha; exact reorderSignExp_zero_left 0
    · rw [reorderSignExp_halve]; simp [ih (a / 2) (by omega)]

/-- (b) bilinearity mod 2 in the second argument -/
theorem reorderSignExp_xor_right : ∀ (a b c : Nat),
    reorderSignExp a (b ^^^ c) % 2 = (reorderSignExp a b + reorderSignExp a c) % 2 := by
  intro a
  induction a using Nat.strongRecOn with
  | _ a ih =>
    intro b c
    by_cases ha : a = 0
    · subst ha; simp [reorderSignExp_zero_left]
    · rw [reorderSignExp_halve a (b ^^^ c), reorderSignExp_halve a b, reorderSignExp_halve a c,
        xor_div2, xor_mod2]
      have ih' := ih (a / 2) (by omega) (b / 2) (c / 2)
      rcases Nat.mod_two_eq_zero_or_one b with hb | hb <;>
      rcases Nat.mod_two_eq_zero_or_one c with hc | hc <;>
      simp [hb, hc] <;> omega

/-- (b) bilinearity mod 2 in the first argument -/
theorem reorderSignExp_xor_left : ∀ (a b c : Nat),
    reorderSignExp (a ^^^ b) c % 2 = (reorderSignExp a c + reorderSignExp b c) % 2 := by
  intro a
  induction a using Nat.strongRecOn with
  | _ a ih =>
    intro b c
    by_cases ha : a = 0
    · subst ha; simp [reorderSignExp_zero_left]
    · rw [reorderSignExp_halve (a ^^^ b) c, reorderSignExp_halve a c, reorderSignExp_halve b c,
        xor_div2]
      have ih' := ih (a / 2) (by omega) (b / 2) (c / 2)
      have hp := pc_xor_parity (a / 2) (b / 2)
      rcases Nat.mod_two_eq_zero_or_one c with hc | hc <;>
      simp [hc] <;> omega

/-- `|{(i,j) : i ∈ a, j ∈ b, i > j}| + |{(i,j) : i ∈ b, j ∈ a, i > j}| + |a ∩ b| = |a| |b|` -/
theorem reorderSignExp_swap : ∀ (a b : Nat),
    reorderSignExp a b + reorderSignExp b a + pc (a &&& b) = pc a * pc b := by
  intro a
  induction a using Nat.strongRecOn with
  | _ a ih =>
    intro b
    by_cases ha : a = 0
    · subst ha; simp [reorderSignExp_zero_left, reorderSignExp_zero_right]
    · rw [reorderSignExp_halve a b, reorderSignExp_halve b a, pc_eq (a &&& b), pc_eq a, pc_eq b,
        and_div2, and_mod2]
      have ih' := ih (a / 2) (by omega) (b / 2)
      rcases Nat.mod_two_eq_zero_or_one a with h1 | h1 <;>
      rcases Nat.mod_two_eq_zero_or_one b with h2 | h2 <;>
      simp [h1, h2, Nat.add_mul, Nat.mul_add] <;> omega

/-- the blade `a` against itself: `k (k-1) / 2` transpositions, `k = |a|` -/
theorem reorderSignExp_self : ∀ a, 2 * reorderSignExp a a = pc a * (pc a - 1) := by
  intro a
  induction a using Nat.strongRecOn with
  | _ a ih =>
    by_cases ha : a = 0
    · subst ha; simp [reorderSignExp_zero_left]
    · rw [reorderSignExp_halve a a, pc_eq a]
      have ih' := ih (a / 2) (by omega)
      rcases Nat.mod_two_eq_zero_or_one a with h1 | h1
      · simp [h1]; exact ih'
      · simp only [h1, Nat.one_mul, Nat.mul_add, Nat.add_sub_cancel_left]
        rw [ih', Nat.add_mul]
        cases pc (a / 2) with
        | zero => simp
        | succ k => simp [Nat.mul_add, Nat.add_mul]; omega


/-! ## signs -/

/-- `(-1)^n` -/
def sgn (n : Nat) : Int := if n % 2 = 0 then 1 else -1

theorem sgn_add (m n : Nat) : sgn (m + n) = sgn m * sgn n := by
  unfold sgn
  rcases Nat.mod_two_eq_zero_or_one m with h1 | h1 <;>
  rcases Nat.mod_two_eq_zero_or_one n with h2 | h2 <;>
  simp [Nat.add_mod, h1, h2]

theorem sgn_congr {m n : Nat} (h : m % 2 = n % 2) : sgn m = sgn n := by
  unfold sgn; rw [h]

theorem sgn_mul_self (n : Nat) : sgn n * sgn n = 1 := by
  unfold sgn; split <;> simp

theorem reorderSign_eq_sgn (a b : Nat) : reorderSign a b = sgn (reorderSignExp a b) := by
  unfold reorderSign sgn
  rw [Nat.and_one_is_mod]
  rcases Nat.mod_two_eq_zero_or_one (reorderSignExp a b) with h | h <;> simp [h]

theorem reorderSign_mul_self (a b : Nat) : reorderSign a b * reorderSign a b = 1 := by
  rw [reorderSign_eq_sgn]; exact sgn_mul_self _

/-- (c) the 2-cocycle identity of the reordering sign: the sign part of associativity of every
    product defined by `_generic_product` -/
theorem sign_cocycle (a b c : Nat) :
    reorderSign a b * reorderSign (a ^^^ b) c = reorderSign b c * reorderSign a (b ^^^ c) := by
  simp only [reorderSign_eq_sgn, ← sgn_add]
  apply sgn_congr
  have h1 := reorderSignExp_xor_left a b c
  have h2 := reorderSignExp_xor_right a b c
  omega

theorem revSign_eq_sgn (a : Nat) : revSign a = sgn (reorderSignExp a a) := by
  unfold revSign sgn
  simp only [bitCount_eq_popcount]
  have h := reorderSignExp_self a
  rw [← h]
  simp

/-- (g) `rev` multiplies the blade `a` by the sign of `a` against itself -/
theorem revSign_eq_reorderSign_self (a : Nat) : revSign a = reorderSign a a := by
  rw [revSign_eq_sgn, reorderSign_eq_sgn]

theorem involSign_eq_sgn (a : Nat) : involSign a = sgn (pc a) := by
  unfold involSign sgn; rw [bitCount_eq_popcount]

/-- (g) commutation law: `e_b e_a = (-1)^(|a||b| - |a ∩ b|) e_a e_b` -/
theorem reorderSign_swap (a b : Nat) :
    reorderSign b a = sgn (pc a * pc b - pc (a &&& b)) * reorderSign a b := by
  simp only [reorderSign_eq_sgn, ← sgn_add]
  apply sgn_congr
  have h := reorderSignExp_swap a b
  omega

/-- (g) `rev` is an anti-automorphism at blade level (sign part):
    `rev (e_a e_b) = rev e_b * rev e_a` -/
theorem rev_antiauto_sign (a b : Nat) :
    revSign (a ^^^ b) * reorderSign a b = reorderSign b a * (revSign b * revSign a) := by
  simp only [revSign_eq_sgn, reorderSign_eq_sgn, ← sgn_add]
  apply sgn_congr
  have h1 := reorderSignExp_xor_left a b (a ^^^ b)
  have h2 := reorderSignExp_xor_right a a b
  have h3 := reorderSignExp_xor_right b a b
  omega

/-- (g) `invol` is an automorphism at blade level (sign part) -/
theorem invol_auto_sign (a b : Nat) : involSign (a ^^^ b) = involSign a * involSign b := by
  simp only [involSign_eq_sgn, ← sgn_add]
  exact sgn_congr (pc_xor_parity a b)

/-! ## single basis vectors -/

theorem pc_two_pow : ∀ i, pc (2 ^ i) = 1 := by
  intro i
  induction i with
  | zero => simp [pc]
  | succ k ih =>
    rw [pc_eq]
    have h1 : 2 ^ (k + 1) % 2 = 0 := by rw [Nat.pow_succ]; omega
    have h2 : 2 ^ (k + 1) / 2 = 2 ^ k := by rw [Nat.pow_succ]; omega
    rw [h1, h2, ih]

theorem xor_eq_zero_iff (a b : Nat) : a ^^^ b = 0 ↔ a = b := by
  constructor
  · intro h
    have : a ^^^ (a ^^^ b) = a := by rw [h]; simp
    rw [← Nat.xor_assoc, Nat.xor_self, Nat.zero_xor] at this
    exact this.symm
  · intro h; subst h; exact Nat.xor_self a

theorem two_pow_and_two_pow_ne {i j : Nat} (h : i ≠ j) : 2 ^ i &&& 2 ^ j = 0 := by
  apply Nat.eq_of_testBit_eq
  intro k
  simp only [Nat.testBit_and, Nat.testBit_two_pow, Nat.zero_testBit]
  by_cases h1 : i = k <;> by_cases h2 : j = k <;> simp [h1, h2]
  omega

/-- `e_i e_j` is in canonical order iff `i ≤ j`: one transposition otherwise -/
theorem reorderSignExp_two_pow : ∀ (i j : Nat),
    reorderSignExp (2 ^ i) (2 ^ j) = if j < i then 1 else 0 := by
  intro i
  induction i with
  | zero =>
    intro j
    rw [reorderSignExp_halve]
    simp [reorderSignExp_zero_left]
  | succ k ih =>
    intro j
    rw [reorderSignExp_halve]
    have h2 : 2 ^ (k + 1) / 2 = 2 ^ k := by rw [Nat.pow_succ]; omega
    rw [h2, pc_two_pow]
    cases j with
    | zero => simp [reorderSignExp_zero_right]
    | succ l =>
      have h1 : 2 ^ (l + 1) % 2 = 0 := by rw [Nat.pow_succ]; omega
      have h3 : 2 ^ (l + 1) / 2 = 2 ^ l := by rw [Nat.pow_succ]; omega
      rw [h1, h3, ih l]
      simp

/-- (e) sign part of `e_i e_i = g i`: the sign is `+1` and the result is the scalar blade -/
theorem basis_square_sign (i : Nat) : reorderSign (2 ^ i) (2 ^ i) = 1 ∧ 2 ^ i ^^^ 2 ^ i = 0 := by
  refine ⟨?_, Nat.xor_self _⟩
  rw [reorderSign_eq_sgn, reorderSignExp_two_pow]; simp [sgn]

/-- (e) `e_i e_j = - e_j e_i` for `i ≠ j` (sign part) -/
theorem basis_anticommute_sign {i j : Nat} (h : i ≠ j) :
    reorderSign (2 ^ i) (2 ^ j) = - reorderSign (2 ^ j) (2 ^ i) := by
  simp only [reorderSign_eq_sgn, reorderSignExp_two_pow, sgn]
  by_cases h1 : j < i
  · have : ¬ i < j := by omega
    simp [h1, this]
  · have : i < j := by omega
    simp [h1, this]

/-! ## grade conditions (bit level) -/

/-- outer product: disjoint blades ⇔ grades add -/
theorem disjoint_iff_grade (a b : Nat) : a &&& b = 0 ↔ pc (a ^^^ b) = pc a + pc b := by
  have h := pc_xor_add a b
  rw [← pc_eq_zero_iff]
  omega

/-- left contraction: `a ⊆ b` ⇔ the grade drops by `|a|` -/
theorem subset_iff_grade (a b : Nat) :
    a &&& b = a ↔ pc a ≤ pc b ∧ pc (a ^^^ b) = pc b - pc a := by
  have h := pc_xor_add a b
  have hle := pc_and_le_left a b
  rw [← pc_and_eq_left_iff]
  omega

/-- right contraction: `b ⊆ a` -/
theorem supset_iff_grade (a b : Nat) :
    a &&& b = b ↔ pc b ≤ pc a ∧ pc (a ^^^ b) = pc a - pc b := by
  have := subset_iff_grade b a
  rw [Nat.and_comm, Nat.xor_comm]
  exact this

/-- scalar product: equal blades ⇔ grade 0 -/
theorem eq_iff_grade (a b : Nat) : a = b ↔ pc (a ^^^ b) = 0 := by
  rw [pc_eq_zero_iff, xor_eq_zero_iff]

/-- inner product as coded: one blade contains the other ⇔ grade `| |a| - |b| |` -/
theorem nested_iff_grade (a b : Nat) :
    (a &&& b = a ∨ a &&& b = b) ↔ pc (a ^^^ b) = max (pc a - pc b) (pc b - pc a) := by
  rw [subset_iff_grade, supset_iff_grade]
  omega


/-! ## the exponent is the number of inversions -/

/-- `|{(i, j) : i, j < n, bit i of a set, bit j of b set, j < i}|`: the number of pairs of basis
    vectors that are out of order in the concatenation `e_a e_b` -/
def inversions (n a b : Nat) : Nat :=
  ((List.range n).map fun j =>
    ((List.range n).map fun i =>
      if (b.testBit j && a.testBit i && decide (j < i)) = true then 1 else 0).sum).sum

theorem sum_map_zero {α : Type} (l : List α) : (l.map fun _ => (0 : Nat)).sum = 0 := by
  induction l with
  | nil => rfl
  | cons x xs ih => simpa using ih

/-- the bits of `a` at positions `≥ m`, counted one by one -/
theorem pc_shiftRight_eq_sum : ∀ (n a m : Nat), a < 2 ^ n →
    pc (a >>> m) = ((List.range n).map fun i =>
      if (decide (m ≤ i) && a.testBit i) = true then 1 else 0).sum := by
  intro n
  induction n with
  | zero => intro a m h; have : a = 0 := by simpa using h
            subst this; simp
  | succ n ih =>
    intro a m h
    have h2 : a / 2 < 2 ^ n := by rw [Nat.pow_succ] at h; omega
    rw [List.range_succ_eq_map, List.map_cons, List.sum_cons, List.map_map]
    cases m with
    | zero =>
      have e := ih (a / 2) 0 h2
      simp only [Nat.shiftRight_zero, Nat.zero_le, decide_true, Bool.true_and] at e ⊢
      rw [pc_eq a, e, Nat.testBit_zero]
      congr 1
      · rcases Nat.mod_two_eq_zero_or_one a with h1 | h1 <;> simp [h1]
      · congr 1
        apply List.map_congr_left
        intro i _
        simp [Function.comp, Nat.testBit_succ]
    | succ m' =>
      have e := ih (a / 2) m' h2
      rw [Nat.shiftRight_succ_inside, e]
      simp only [Nat.le_zero_eq, Nat.add_one_ne_zero, decide_false, Bool.false_and,
        Bool.false_eq_true, ↓reduceIte, Nat.zero_add]
      congr 1
      apply List.map_congr_left
      intro i _
      simp [Function.comp, Nat.testBit_succ]

theorem reorderSignExp_eq_sum : ∀ (n a b : Nat), b < 2 ^ n →
    reorderSignExp a b = ((List.range n).map fun j =>
      if b.testBit j = true then pc (a >>> (j + 1)) else 0).sum := by
  intro n
  induction n with
  | zero => intro a b h; have : b = 0 := by simpa using h
            subst this; simp [reorderSignExp_zero_right]
  | succ n ih =>
    intro a b h
    have h2 : b / 2 < 2 ^ n := by rw [Nat.pow_succ] at h; omega
    rw [List.range_succ_eq_map, List.map_cons, List.sum_cons, List.map_map, reorderSignExp_halve,
      ih (a / 2) (b / 2) h2, Nat.testBit_zero]
    congr 1
    · rcases Nat.mod_two_eq_zero_or_one b with h1 | h1 <;>
        simp [h1, Nat.shiftRight_eq_div_pow]
    · congr 1
      apply List.map_congr_left
      intro j _
      simp only [Function.comp, Nat.succ_eq_add_one, Nat.testBit_succ]
      rw [Nat.shiftRight_succ_inside a (j + 1)]

/-- (b) `canonical_reordering_sign` counts inversions: the accumulated `s` is the number
    of pairs (basis vector of `a`, basis vector of `b`) that have to be swapped -/
theorem reorderSignExp_eq_inversions (n a b : Nat) (ha : a < 2 ^ n) (hb : b < 2 ^ n) :
    reorderSignExp a b = inversions n a b := by
  rw [reorderSignExp_eq_sum n a b hb]
  unfold inversions
  congr 1
  apply List.map_congr_left
  intro j _
  cases hbj : b.testBit j with
  | false => simp [sum_map_zero]
  | true =>
    rw [if_pos rfl, pc_shiftRight_eq_sum n a (j + 1) ha]
    congr 1
    apply List.map_congr_left
    intro i _
    have : (j + 1 ≤ i) = (j < i) := by simp [Nat.lt_iff_add_one_le]
    simp only [Bool.true_and, this, Bool.and_comm]

/-! ## the loop of `_shared_metric_coeff`

the bit of `t` it looks at when `shared_bits = t <<< idx`, and what is left once that bit is
cleared -/

theorem shl_and_one_shl (t idx : Nat) : t <<< idx &&& 1 <<< idx = (t % 2) <<< idx := by
  rw [← Nat.shiftLeft_and_distrib, Nat.and_one_is_mod]

theorem shl_eq_half_shl_succ {t : Nat} (h : t % 2 = 0) (idx : Nat) :
    t <<< idx = (t / 2) <<< (idx + 1) := by
  rw [Nat.shiftLeft_succ_inside]; congr 1; omega

theorem shl_xor_one_shl {t : Nat} (h : t % 2 = 1) (idx : Nat) :
    t <<< idx ^^^ 1 <<< idx = (t / 2) <<< (idx + 1) := by
  have hx : t ^^^ 1 = 2 * (t / 2) := by
    rw [eq_iff_mod2_div2, xor_mod2, xor_div2]
    constructor
    · omega
    · simp
  rw [← Nat.shiftLeft_xor_distrib, hx, Nat.shiftLeft_succ_inside]

end PV.GA
