import PV.Model.Expr
/-
  The size of a tree against the sizes of its children, and induction over children
  (`Expr.induct`: from the direct children to the node; `Expr.size_induction`): the termination
  measures and induction principles of the traversal proofs of all properties.
-/
namespace PV

theorem Expr.size_le_sizeL {c : Expr} : ∀ {cs : List Expr}, c ∈ cs → c.size ≤ Expr.sizeL cs
  | [], h => by simp at h
  | d :: ds, h => by
    simp only [List.mem_cons] at h
    simp only [Expr.sizeL]
    rcases h with rfl | h
    · omega
    · have := Expr.size_le_sizeL h; omega

theorem Expr.sizeL_append : ∀ (as bs : List Expr),
    Expr.sizeL (as ++ bs) = Expr.sizeL as + Expr.sizeL bs
  | [], bs => by simp [Expr.sizeL]
  | a :: as, bs => by simp [Expr.sizeL, Expr.sizeL_append as bs]; omega

/-- a node counts one more than its children together -/
theorem Expr.size_eq_sizeL_children (e : Expr) : e.size = 1 + Expr.sizeL e.children := by
  cases e <;> simp only [Expr.size, Expr.children, Expr.sizeL, Expr.sizeL_append] <;> omega

theorem Expr.size_pos (e : Expr) : 0 < e.size := by
  rw [e.size_eq_sizeL_children]; omega

theorem Expr.size_lt_of_mem_children {c e : Expr} (h : c ∈ e.children) : c.size < e.size := by
  have := Expr.size_le_sizeL h
  rw [e.size_eq_sizeL_children]; omega

/-- induction on the size of a tree -/
theorem Expr.size_induction {motive : Expr → Prop}
    (step : ∀ e, (∀ c, c.size < e.size → motive c) → motive e) (e : Expr) : motive e :=
  step e fun c _ => size_induction step c
termination_by e.size

/-- induction over a tree: a property passes from the direct children to the node -/
theorem Expr.induct {P : Expr → Prop} (h : ∀ e, (∀ c ∈ e.children, P c) → P e) (e : Expr) : P e :=
  Expr.size_induction (fun e ih => h e fun _ hc => ih _ (Expr.size_lt_of_mem_children hc)) e

theorem Expr.ind_auxL {P : Expr → Prop} (h : ∀ e, (∀ c ∈ e.children, P c) → P e) :
    ∀ (cs : List Expr), ∀ c ∈ cs, P c :=
  fun _ c _ => Expr.induct h c

end PV
