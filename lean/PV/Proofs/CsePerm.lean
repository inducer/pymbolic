import PV.Model.Cse
import PV.Proofs.CseEval
import Mathlib.Data.Rat.Defs
import Mathlib.Data.List.Perm.Subperm
import Mathlib.Data.List.Nodup
import Mathlib.Tactic.Ring
/-
  C12 helper: (1) an exact sum / product that evaluates to a value evaluates to the same value
  with its operands in any other order; (2) two simple sums / products with Python-equal normalised
  keys have operand lists that are permutations of each other; (3) conversely, permuted operand
  lists have Python-equal keys.
-/
namespace PV

/-! ### exact addition and multiplication may be reordered -/

theorem arith_ok {f : Num → Num → R} {a b r : Value} (h : arith f a b = .ok r) :
    ∃ x y, a.num? = some x ∧ b.num? = some y ∧ f x y = .ok r ∧
      a.isInexact = false ∧ b.isInexact = false ∧ a.isSeq = false ∧ b.isSeq = false := by
  unfold arith at h
  by_cases h1 : (a.isInexact || b.isInexact) = true
  · simp [h1] at h
  · simp only [h1, Bool.false_eq_true, if_false] at h
    by_cases h2 : (a.isSeq || b.isSeq) = true
    · simp [h2] at h
    · simp only [h2, Bool.false_eq_true, if_false] at h
      simp only [Bool.or_eq_true, not_or, Bool.not_eq_true] at h1 h2
      cases ha : a.num? with
      | none => simp [ha] at h
      | some x =>
        cases hb : b.num? with
        | none => simp [ha, hb] at h
        | some y =>
          simp only [ha, hb] at h
          exact ⟨x, y, rfl, rfl, h, h1.1, h1.2, h2.1, h2.2⟩

theorem arith_of_num {f : Num → Num → R} {a b : Value} {x y : Num}
    (ha : a.num? = some x) (hb : b.num? = some y) : arith f a b = f x y := by
  cases a <;> cases ha <;> cases b <;> cases hb <;> rfl

/-- the value of an exact number -/
def Num.val : Num → Value
  | .i n => .int n
  | .q r => .frac r

theorem Num.val_num (n : Num) : n.val.num? = some n := by cases n <;> rfl

def addNum : Num → Num → Num
  | .i a, .i b => .i (a + b)
  | x, y => .q (x.toRat + y.toRat)

def mulNum : Num → Num → Num
  | .i a, .i b => .i (a * b)
  | x, y => .q (x.toRat * y.toRat)

theorem addN_eq (x y : Num) : addN x y = .ok (addNum x y).val := by
  cases x <;> cases y <;> rfl

theorem mulN_eq (x y : Num) : mulN x y = .ok (mulNum x y).val := by
  cases x <;> cases y <;> rfl

theorem addNum_swap (a x y : Num) : addNum (addNum a x) y = addNum (addNum a y) x := by
  cases a <;> cases x <;> cases y <;> simp only [addNum, Num.toRat, Num.i.injEq, Num.q.injEq] <;>
    first
    | omega
    | (push_cast; ring)

theorem mulNum_swap (a x y : Num) : mulNum (mulNum a x) y = mulNum (mulNum a y) x := by
  cases a <;> cases x <;> cases y <;> simp only [mulNum, Num.toRat, Num.i.injEq, Num.q.injEq] <;>
    (push_cast; ring)

/-- the two commutative operators of `NormalizedKeyGetter` -/
def NaryOp.isComm : NaryOp → Bool
  | .sum | .prod => true
  | _ => false

/-- two operands of an exact operation whose result on numbers is `g`, and `g` lets them swap -/
theorem arith_swap {f : Num → Num → R} {g : Num → Num → Num} (hg : ∀ x y, f x y = .ok (g x y).val)
    (hs : ∀ a x y, g (g a x) y = g (g a y) x) {acc x y a1 a2 : Value}
    (h1 : arith f acc x = .ok a1) (h2 : arith f a1 y = .ok a2) :
    ∃ b1, arith f acc y = .ok b1 ∧ arith f b1 x = .ok a2 := by
  obtain ⟨A, X, hA, hX, e1, _⟩ := arith_ok h1
  obtain ⟨A1, Y, hA1, hY, e2, _⟩ := arith_ok h2
  rw [hg] at e1 e2
  injection e1 with e1; injection e2 with e2
  subst e1
  rw [Num.val_num] at hA1; injection hA1 with hA1; subst hA1
  refine ⟨(g A Y).val, ?_, ?_⟩
  · rw [arith_of_num hA hY, hg]
  · rw [arith_of_num (Num.val_num _) hX, hg, ← e2, hs]

theorem apply_swap {o : NaryOp} (ho : o.isComm = true) {acc x y a1 a2 : Value}
    (h1 : o.apply acc x = .ok a1) (h2 : o.apply a1 y = .ok a2) :
    ∃ b1, o.apply acc y = .ok b1 ∧ o.apply b1 x = .ok a2 := by
  cases o <;> simp only [NaryOp.isComm, Bool.false_eq_true] at ho
  · exact arith_swap addN_eq addNum_swap h1 h2
  · exact arith_swap mulN_eq mulNum_swap h1 h2

theorem bind_ok_iff {α β : Type} {x : Except Err α} {f : α → Except Err β} {r : β} :
    (x >>= f) = .ok r ↔ ∃ a, x = .ok a ∧ f a = .ok r := by
  cases x with
  | error e => simp [bind, Except.bind]
  | ok a => simp [bind, Except.bind]

theorem denFold_cons (env : Env) (o : NaryOp) (acc : Value) (c : Expr) (cs : List Expr) (v : Value) :
    denFold env o acc (c :: cs) = .ok v ↔
      ∃ x a1, den env c = .ok x ∧ o.apply acc x = .ok a1 ∧ denFold env o a1 cs = .ok v := by
  simp only [denFold]
  constructor
  · intro h
    obtain ⟨x, hx, h⟩ := bind_ok_iff.mp h
    obtain ⟨a1, ha, h⟩ := bind_ok_iff.mp h
    exact ⟨x, a1, hx, ha, h⟩
  · rintro ⟨x, a1, hx, ha, h⟩
    exact bind_ok_iff.mpr ⟨x, hx, bind_ok_iff.mpr ⟨a1, ha, h⟩⟩

/-- a sum / product that has a value keeps it under any reordering of its operands -/
theorem denFold_perm (env : Env) {o : NaryOp} (ho : o.isComm = true) {cs cs' : List Expr}
    (hp : cs.Perm cs') : ∀ (acc v : Value), denFold env o acc cs = .ok v →
      denFold env o acc cs' = .ok v := by
  induction hp with
  | nil => intro acc v h; exact h
  | cons c _ ih =>
    intro acc v h
    obtain ⟨x, a1, hx, ha, h⟩ := (denFold_cons env o acc c _ v).mp h
    exact (denFold_cons env o acc c _ v).mpr ⟨x, a1, hx, ha, ih a1 v h⟩
  | swap c d l =>
    intro acc v h
    obtain ⟨x, a1, hx, ha, h⟩ := (denFold_cons env o acc d _ v).mp h
    obtain ⟨y, a2, hy, hb, h⟩ := (denFold_cons env o a1 c _ v).mp h
    obtain ⟨b1, hb1, hb2⟩ := apply_swap ho ha hb
    exact (denFold_cons env o acc c _ v).mpr ⟨y, b1, hy, hb1,
      (denFold_cons env o b1 d _ v).mpr ⟨x, a2, hx, hb2, h⟩⟩
  | trans _ _ ih1 ih2 => intro acc v h; exact ih2 acc v (ih1 acc v h)

/-! ### normalised keys of simple sums / products -/

/-- the operand list a kid-count dictionary stands for -/
def expandKids (kids : List (Expr × Nat)) : List Expr :=
  kids.flatMap fun p => List.replicate p.2 p.1

def kidsSimple (kids : List (Expr × Nat)) : Prop := ∀ p ∈ kids, p.1.simple = true

theorem kidCountAdd_simple {c : Expr} (hc : c.simple = true) : ∀ {acc : List (Expr × Nat)},
    kidsSimple acc → kidsSimple (kidCountAdd c acc)
  | [], _ => by intro p hp; simp [kidCountAdd] at hp; rw [hp]; exact hc
  | (k, n) :: rest, h => by
    intro p hp
    simp only [kidCountAdd] at hp
    split at hp
    · simp only [List.mem_cons] at hp
      rcases hp with rfl | hp
      · exact h (k, n) (by simp)
      · exact h p (by simp [hp])
    · simp only [List.mem_cons] at hp
      rcases hp with rfl | hp
      · exact h (k, n) (by simp)
      · exact kidCountAdd_simple hc (fun q hq => h q (by simp [hq])) p hp

theorem kidCountAdd_perm {c : Expr} (hc : c.simple = true) : ∀ {acc : List (Expr × Nat)},
    kidsSimple acc → (expandKids (kidCountAdd c acc)).Perm (c :: expandKids acc)
  | [], _ => by simp [kidCountAdd, expandKids]
  | (k, n) :: rest, h => by
    simp only [kidCountAdd]
    split
    next hk =>
      have : k = c := pyEq_eq_of_simple k c (h (k, n) (by simp)) hc hk
      subst this
      simp [expandKids, List.replicate_succ]
    next hk =>
      have ih := kidCountAdd_perm hc (acc := rest) (fun q hq => h q (by simp [hq]))
      simp only [expandKids, List.flatMap_cons] at ih ⊢
      exact (List.Perm.append_left _ ih).trans List.perm_middle

theorem kidCountFrom_simple : ∀ {cs : List Expr} {acc : List (Expr × Nat)},
    Expr.simpleL cs = true → kidsSimple acc → kidsSimple (kidCountFrom acc cs)
  | [], _, _, h => h
  | c :: cs, acc, hs, h => by
    simp only [Expr.simpleL, Bool.and_eq_true] at hs
    show kidsSimple (kidCountFrom (kidCountAdd c acc) cs)
    exact kidCountFrom_simple hs.2 (kidCountAdd_simple hs.1 h)

theorem kidCountFrom_perm : ∀ {cs : List Expr} {acc : List (Expr × Nat)},
    Expr.simpleL cs = true → kidsSimple acc →
      (expandKids (kidCountFrom acc cs)).Perm (expandKids acc ++ cs)
  | [], acc, _, _ => by simp [kidCountFrom]
  | c :: cs, acc, hs, h => by
    simp only [Expr.simpleL, Bool.and_eq_true] at hs
    have ih := kidCountFrom_perm (cs := cs) hs.2 (kidCountAdd_simple hs.1 h)
    have h1 := kidCountAdd_perm hs.1 h
    simp only [kidCountFrom]
    refine ih.trans ?_
    refine (List.Perm.append_right cs h1).trans ?_
    simp only [List.cons_append]
    exact List.perm_middle.symm

theorem kidCount_perm {cs : List Expr} (hs : Expr.simpleL cs = true) :
    (expandKids (kidCount cs)).Perm cs := by
  have := kidCountFrom_perm (cs := cs) (acc := []) hs (by intro p hp; simp at hp)
  simpa [kidCount, expandKids] using this

/-- the keys of a kid-count dictionary are pairwise different -/
def kidsNodup (kids : List (Expr × Nat)) : Prop := (kids.map Prod.fst).Nodup

theorem kidCountAdd_keys {c : Expr} : ∀ {acc : List (Expr × Nat)} {k : Expr},
    k ∈ (kidCountAdd c acc).map Prod.fst → k = c ∨ k ∈ acc.map Prod.fst
  | [], k, h => by simp [kidCountAdd] at h; left; exact h
  | (k0, n) :: rest, k, h => by
    simp only [kidCountAdd] at h
    split at h
    · right; simpa using h
    · simp only [List.map_cons, List.mem_cons] at h
      rcases h with rfl | h
      · right; simp
      · rcases kidCountAdd_keys h with h | h
        · left; exact h
        · right; simp only [List.map_cons, List.mem_cons]; right; exact h

theorem kidCountAdd_nodup {c : Expr} (hc : c.simple = true) : ∀ {acc : List (Expr × Nat)},
    kidsSimple acc → kidsNodup acc → kidsNodup (kidCountAdd c acc)
  | [], _, _ => by simp [kidCountAdd, kidsNodup]
  | (k, n) :: rest, h, hn => by
    simp only [kidCountAdd]
    split
    next hk => simpa [kidsNodup] using hn
    next hk =>
      simp only [kidsNodup, List.map_cons, List.nodup_cons] at hn ⊢
      refine ⟨?_, kidCountAdd_nodup hc (fun q hq => h q (by simp [hq])) hn.2⟩
      intro hmem
      rcases kidCountAdd_keys hmem with rfl | hmem
      · exact hk (pyEq_self_simple _ hc)
      · exact hn.1 hmem

theorem kidCountFrom_nodup : ∀ {cs : List Expr} {acc : List (Expr × Nat)},
    Expr.simpleL cs = true → kidsSimple acc → kidsNodup acc → kidsNodup (kidCountFrom acc cs)
  | [], _, _, _, h => h
  | c :: cs, acc, hs, h, hn => by
    simp only [Expr.simpleL, Bool.and_eq_true] at hs
    show kidsNodup (kidCountFrom (kidCountAdd c acc) cs)
    exact kidCountFrom_nodup hs.2 (kidCountAdd_simple hs.1 h) (kidCountAdd_nodup hs.1 h hn)

theorem nodup_of_keys {kids : List (Expr × Nat)} (h : kidsNodup kids) : kids.Nodup :=
  List.Nodup.of_map _ h

theorem kidsSubset_subset {a b : List (Expr × Nat)} (ha : kidsSimple a) (hb : kidsSimple b)
    (h : kidsSubset a b = true) : a ⊆ b := by
  intro p hp
  simp only [kidsSubset, List.all_eq_true, List.any_eq_true, Bool.and_eq_true, beq_iff_eq] at h
  obtain ⟨q, hq, h1, h2⟩ := h p hp
  have : q.1 = p.1 := pyEq_eq_of_simple _ _ (hb q hq) (ha p hp) h1
  have : q = p := Prod.ext this h2
  rw [← this]; exact hq

/-- equal keys of two simple sums / products: the kid-count dictionaries are permutations -/
theorem kidPerm_of_keyEq {o o' : NaryOp} {cs cs' : List Expr} (hs : Expr.simpleL cs = true)
    (hs' : Expr.simpleL cs' = true)
    (h : (CKey.comm o (kidCount cs)).eq (CKey.comm o' (kidCount cs')) = true) :
    o = o' ∧ (kidCount cs).Perm (kidCount cs') := by
  simp only [CKey.eq, Bool.and_eq_true, beq_iff_eq] at h
  obtain ⟨⟨ho, hlen⟩, hsub⟩ := h
  refine ⟨ho, ?_⟩
  have e0 : kidsSimple ([] : List (Expr × Nat)) := by intro p hp; simp at hp
  have n0 : kidsNodup ([] : List (Expr × Nat)) := by simp [kidsNodup]
  have s1 := kidCountFrom_simple (acc := []) hs e0
  have s2 := kidCountFrom_simple (acc := []) hs' e0
  have d1 := nodup_of_keys (kidCountFrom_nodup (acc := []) hs e0 n0)
  have sub := kidsSubset_subset s1 s2 hsub
  exact (List.subperm_of_subset d1 sub).perm_of_length_le (by simp only [kidCount] at hlen ⊢; omega)

/-- … hence the operand lists are permutations of each other -/
theorem perm_of_keyEq {o o' : NaryOp} {cs cs' : List Expr} (hs : Expr.simpleL cs = true)
    (hs' : Expr.simpleL cs' = true)
    (h : (CKey.comm o (kidCount cs)).eq (CKey.comm o' (kidCount cs')) = true) :
    o = o' ∧ cs.Perm cs' := by
  obtain ⟨ho, hperm⟩ := kidPerm_of_keyEq hs hs' h
  refine ⟨ho, ?_⟩
  have : (expandKids (kidCount cs)).Perm (expandKids (kidCount cs')) :=
    List.Perm.flatMap_right _ hperm
  exact (kidCount_perm hs).symm.trans (this.trans (kidCount_perm hs'))

/-- two kid-count dictionaries of simple operands that are permutations of each other give
Python-equal keys (what reflexivity, symmetry and transitivity of key equality on simple sums /
products rest on) -/
theorem keyEq_of_perm_aux {cs cs' : List Expr} (hs : Expr.simpleL cs = true)
    (hp : (kidCount cs).Perm (kidCount cs')) (o : NaryOp) :
    (CKey.comm o (kidCount cs)).eq (CKey.comm o (kidCount cs')) = true := by
  have e0 : kidsSimple ([] : List (Expr × Nat)) := by intro p hp; simp at hp
  have s1 := kidCountFrom_simple (acc := []) hs e0
  simp only [CKey.eq, Bool.and_eq_true, beq_iff_eq, true_and]
  refine ⟨hp.length_eq, ?_⟩
  simp only [kidsSubset, List.all_eq_true, List.any_eq_true, Bool.and_eq_true, beq_iff_eq]
  intro p hp'
  exact ⟨p, hp.subset hp', pyEq_self_simple _ (s1 p hp'), rfl⟩

theorem simpleL_perm {cs cs' : List Expr} (hp : cs.Perm cs') (h : Expr.simpleL cs = true) :
    Expr.simpleL cs' = true := by
  induction hp with
  | nil => exact h
  | cons c _ ih =>
    simp only [Expr.simpleL, Bool.and_eq_true] at h ⊢; exact ⟨h.1, ih h.2⟩
  | swap c d l =>
    simp only [Expr.simpleL, Bool.and_eq_true] at h ⊢; exact ⟨h.2.1, h.1, h.2.2⟩
  | trans _ _ ih1 ih2 => exact ih2 (ih1 h)

theorem sizeL_perm {cs cs' : List Expr} (hp : cs.Perm cs') : Expr.sizeL cs = Expr.sizeL cs' := by
  induction hp with
  | nil => rfl
  | cons c _ ih => simp only [Expr.sizeL, ih]
  | swap c d l => simp only [Expr.sizeL]; omega
  | trans _ _ ih1 ih2 => exact ih1.trans ih2

/-! ### the converse: permuted operand lists have equal keys -/

theorem kidCountAdd_pos {c : Expr} : ∀ {acc : List (Expr × Nat)}, (∀ p ∈ acc, 0 < p.2) →
    ∀ p ∈ kidCountAdd c acc, 0 < p.2
  | [], _, p, hp => by simp [kidCountAdd] at hp; rw [hp]; exact Nat.one_pos
  | (k, n) :: rest, h, p, hp => by
    simp only [kidCountAdd] at hp
    split at hp
    · simp only [List.mem_cons] at hp
      rcases hp with rfl | hp
      · exact Nat.succ_pos _
      · exact h p (by simp [hp])
    · simp only [List.mem_cons] at hp
      rcases hp with rfl | hp
      · exact h (k, n) (by simp)
      · exact kidCountAdd_pos (fun q hq => h q (by simp [hq])) p hp

theorem kidCountFrom_pos : ∀ {cs : List Expr} {acc : List (Expr × Nat)}, (∀ p ∈ acc, 0 < p.2) →
    ∀ p ∈ kidCountFrom acc cs, 0 < p.2
  | [], _, h => h
  | c :: cs, acc, h => by
    show ∀ p ∈ kidCountFrom (kidCountAdd c acc) cs, 0 < p.2
    exact kidCountFrom_pos (kidCountAdd_pos h)

theorem kidCount_pos (cs : List Expr) : ∀ p ∈ kidCount cs, 0 < p.2 :=
  kidCountFrom_pos (acc := []) (by intro p hp; simp at hp)

open Classical in
/-- number of occurrences; by propositional equality (decided classically), so that
`List.Perm.filter` applies without a detour through `Expr.beq` -/
noncomputable def occ (x : Expr) (l : List Expr) : Nat := (l.filter fun y => decide (y = x)).length

theorem occ_perm {x : Expr} {l l' : List Expr} (h : l.Perm l') : occ x l = occ x l' := by
  unfold occ; exact (h.filter _).length_eq

theorem occ_append (x : Expr) (a b : List Expr) : occ x (a ++ b) = occ x a + occ x b := by
  unfold occ; simp [List.filter_append]

theorem occ_replicate_self (x : Expr) (n : Nat) : occ x (List.replicate n x) = n := by
  unfold occ; simp

theorem occ_replicate_ne {x k : Expr} (h : k ≠ x) (n : Nat) : occ x (List.replicate n k) = 0 := by
  unfold occ; simp [h]

theorem occ_pos_mem {x : Expr} {l : List Expr} (h : 0 < occ x l) : x ∈ l := by
  unfold occ at h
  obtain ⟨y, hy⟩ := List.exists_mem_of_length_pos h
  have := List.mem_filter.mp hy
  simp only [decide_eq_true_eq] at this
  rw [← this.2]; exact this.1

theorem occ_expand_notin {x : Expr} : ∀ {kids : List (Expr × Nat)}, x ∉ kids.map Prod.fst →
    occ x (expandKids kids) = 0
  | [], _ => by simp [expandKids, occ]
  | (k, n) :: rest, h => by
    simp only [List.map_cons, List.mem_cons, not_or] at h
    have ih := occ_expand_notin (kids := rest) h.2
    simp only [expandKids, List.flatMap_cons] at ih ⊢
    rw [occ_append, occ_replicate_ne (Ne.symm h.1), ih]

theorem occ_expand_mem {x : Expr} {n : Nat} : ∀ {kids : List (Expr × Nat)}, kidsNodup kids →
    (x, n) ∈ kids → occ x (expandKids kids) = n
  | [], _, h => by simp at h
  | (k, m) :: rest, hn, h => by
    simp only [kidsNodup, List.map_cons, List.nodup_cons] at hn
    simp only [expandKids, List.flatMap_cons]
    rw [occ_append]
    simp only [List.mem_cons, Prod.mk.injEq] at h
    rcases h with ⟨rfl, rfl⟩ | h
    · have := occ_expand_notin (kids := rest) hn.1
      simp only [expandKids] at this
      rw [occ_replicate_self, this]; rfl
    · have hne : k ≠ x := by
        intro hk; subst hk
        exact hn.1 (List.mem_map.mpr ⟨(k, n), h, rfl⟩)
      have := occ_expand_mem (kids := rest) hn.2 h
      simp only [expandKids] at this
      rw [occ_replicate_ne hne, this]; simp

theorem mem_expand {x : Expr} {kids : List (Expr × Nat)} (h : x ∈ expandKids kids) :
    ∃ n, (x, n) ∈ kids := by
  simp only [expandKids, List.mem_flatMap] at h
  obtain ⟨p, hp, hx⟩ := h
  have := (List.mem_replicate.mp hx).2
  subst this
  exact ⟨p.2, hp⟩

theorem kidsSubset_of_expand_perm {a b : List (Expr × Nat)} (sa : kidsSimple a)
    (da : kidsNodup a) (db : kidsNodup b) (pa : ∀ p ∈ a, 0 < p.2)
    (h : (expandKids a).Perm (expandKids b)) : kidsSubset a b = true ∧ a ⊆ b := by
  have sub : a ⊆ b := by
    intro p hp
    have h1 : occ p.1 (expandKids a) = p.2 := occ_expand_mem da hp
    have h2 : occ p.1 (expandKids b) = p.2 := by rw [← occ_perm h]; exact h1
    have : p.1 ∈ expandKids b := occ_pos_mem (by rw [h2]; exact pa p hp)
    obtain ⟨n, hn⟩ := mem_expand this
    have h3 := occ_expand_mem db hn
    have : n = p.2 := by rw [← h3, h2]
    subst this; exact hn
  refine ⟨?_, sub⟩
  simp only [kidsSubset, List.all_eq_true, List.any_eq_true, Bool.and_eq_true, beq_iff_eq]
  intro p hp
  exact ⟨p, sub hp, pyEq_self_simple _ (sa p hp), rfl⟩

/-- sums / products of the same simple operands in another order have Python-equal keys -/
theorem keyEq_of_perm (o : NaryOp) {cs cs' : List Expr} (hs : Expr.simpleL cs = true)
    (hp : cs.Perm cs') :
    (CKey.comm o (kidCount cs)).eq (CKey.comm o (kidCount cs')) = true := by
  have hs' := simpleL_perm hp hs
  have e0 : kidsSimple ([] : List (Expr × Nat)) := by intro p hp; simp at hp
  have n0 : kidsNodup ([] : List (Expr × Nat)) := by simp [kidsNodup]
  have s1 := kidCountFrom_simple (acc := []) hs e0
  have s2 := kidCountFrom_simple (acc := []) hs' e0
  have d1 := kidCountFrom_nodup (acc := []) hs e0 n0
  have d2 := kidCountFrom_nodup (acc := []) hs' e0 n0
  have pp : (expandKids (kidCount cs)).Perm (expandKids (kidCount cs')) :=
    (kidCount_perm hs).trans (hp.trans (kidCount_perm hs').symm)
  obtain ⟨k1, sub1⟩ := kidsSubset_of_expand_perm s1 d1 d2 (kidCount_pos cs) pp
  obtain ⟨_, sub2⟩ := kidsSubset_of_expand_perm s2 d2 d1 (kidCount_pos cs') pp.symm
  have l1 := (List.subperm_of_subset (nodup_of_keys d1) sub1).length_le
  have l2 := (List.subperm_of_subset (nodup_of_keys d2) sub2).length_le
  simp only [CKey.eq, Bool.and_eq_true, beq_iff_eq, true_and]
  exact ⟨Nat.le_antisymm l1 l2, k1⟩

end PV
