import PV.Proofs.UnifySound
/-
  Completeness of the unifier model under injective renamings (C16): if the target is the pattern
  with its candidate variables renamed injectively (the other variables fixed), at least one record
  is returned — the renaming itself, restricted to the variables met.
-/
namespace PV.Unify
open PV
set_option linter.unusedSectionVars false

mutual
/-- rename every variable -/
def rename (ρ : String → String) : Expr → Expr
  | .var x => .var (ρ x)
  | .const c => .const c
  | .nary o cs => .nary o (renameL ρ cs)
  | .bin o a b => .bin o (rename ρ a) (rename ρ b)
  | .un o a => .un o (rename ρ a)
  | .cmp o a b => .cmp o (rename ρ a) (rename ρ b)
  | .ite c t e => .ite (rename ρ c) (rename ρ t) (rename ρ e)
  | .call f as => .call (rename ρ f) (renameL ρ as)
  | .subscript a i => .subscript (rename ρ a) (rename ρ i)
  | .lookup a n => .lookup (rename ρ a) n
  | .tuple cs => .tuple (renameL ρ cs)
  | e => e
def renameL (ρ : String → String) : List Expr → List Expr
  | [] => []
  | c :: cs => rename ρ c :: renameL ρ cs
end

mutual
/-- the fragment of the completeness theorem: `patOk` (PV/Model/Unify.lean, the driver's patterns)
plus tuples (subscript indices) -/
def patC : Expr → Bool
  | .const c => constOkPattern c
  | .var _ => true
  | .nary o cs => (o == .sum || o == .prod) && patCL cs
  | .bin _ a b => patC a && patC b
  | .un _ a => patC a
  | .cmp _ a b => patC a && patC b
  | .ite c t e => patC c && patC t && patC e
  | .call f as => patC f && patCL as
  | .subscript a i => patC a && patC i
  | .lookup a _ => patC a
  | .tuple cs => patCL cs
  | _ => false
def patCL : List Expr → Bool
  | [] => true
  | c :: cs => patC c && patCL cs
end

/-- the renaming: injective on the variables `V` of the whole pattern, identity off the candidates -/
structure Renaming (cands V : List String) (ρ : String → String) : Prop where
  inj : ∀ x ∈ V, ∀ y ∈ V, ρ x = ρ y → x = y
  fix : ∀ x ∈ V, x ∉ cands → ρ x = x

/-- a record CONSISTENT with the renaming (a piece of it): every binding of `lmap` is `x ↦ ρ x`,
every binding of `rmap` its inverse.  (The suffix `C` of `patC`, `RowsC` likewise stands for the
completeness theorem.) -/
def Cons (V : List String) (ρ : String → String) (r : URec) : Prop :=
  (∀ p ∈ r.lmap, p.1 ∈ V ∧ p.2 = .var (ρ p.1)) ∧
  (∀ p ∈ r.rmap, ∃ x ∈ V, p.2 = .var x ∧ p.1 = ρ x)

theorem cons_empty (V : List String) (ρ : String → String) : Cons V ρ URec.empty := by
  simp [Cons, URec.empty]

/-- `unify_map` succeeds when common keys carry `==`-equal values; the result is made of entries
of the two maps -/
theorem unifyMapGo_total (m1 : AMap) : ∀ (m2 res : AMap),
    (∀ p ∈ m2, ∀ v1, AMap.get m1 p.1 = some v1 → v1.pyEq p.2 = true) →
    ∃ out, unifyMapGo m1 res m2 = some out ∧ ∀ q ∈ out, q ∈ res ∨ q ∈ m2
  | [], res, _ => ⟨res, rfl, fun q hq => Or.inl hq⟩
  | (k, v) :: rest, res, h => by
    simp only [unifyMapGo]
    cases hg : AMap.get m1 k with
    | some v1 =>
      have hpy := h (k, v) (by simp) v1 hg
      simp only [hpy, if_true]
      obtain ⟨out, h1, h2⟩ := unifyMapGo_total m1 rest res (fun p hp => h p (by simp [hp]))
      exact ⟨out, h1, fun q hq => (h2 q hq).imp id (fun h' => by simp [h'])⟩
    | none =>
      obtain ⟨out, h1, h2⟩ := unifyMapGo_total m1 rest (res ++ [(k, v)])
        (fun p hp => h p (by simp [hp]))
      refine ⟨out, h1, fun q hq => ?_⟩
      rcases h2 q hq with h' | h'
      · rcases List.mem_append.1 h' with h'' | h''
        · exact Or.inl h''
        · simp only [List.mem_singleton] at h''; exact Or.inr (by simp [h''])
      · exact Or.inr (by simp [h'])

/-- two pieces of one injective renaming always unify, to a piece of it -/
theorem unify_cons {cands V : List String} {ρ : String → String} (hρ : Renaming cands V ρ)
    {a b : URec} (ha : Cons V ρ a) (hb : Cons V ρ b) :
    ∃ r, a.unify b = some r ∧ Cons V ρ r := by
  obtain ⟨l, hl, hl'⟩ := unifyMapGo_total a.lmap b.lmap a.lmap (by
    intro p hp v1 hv1
    have h1 := ha.1 _ (AMap.get_some_mem hv1)
    have h2 := hb.1 p hp
    simp only at h1
    rw [h1.2, h2.2]; simp [Expr.pyEq])
  obtain ⟨r', hr, hr'⟩ := unifyMapGo_total a.rmap b.rmap a.rmap (by
    intro p hp v1 hv1
    obtain ⟨x1, hx1, e1, e1'⟩ := ha.2 _ (AMap.get_some_mem hv1)
    obtain ⟨x2, hx2, e2, e2'⟩ := hb.2 p hp
    simp only at e1 e1'
    have : x1 = x2 := hρ.inj x1 hx1 x2 hx2 (e1'.symm.trans e2')
    rw [e1, e2, this]; simp [Expr.pyEq])
  refine ⟨⟨l, r'⟩, by simp [URec.unify, unifyMap, hl, hr], ?_, ?_⟩
  · intro p hp
    rcases hl' p hp with h | h
    · exact ha.1 p h
    · exact hb.1 p h
  · intro p hp
    rcases hr' p hp with h | h
    · exact ha.2 p h
    · exact hb.2 p h

/-! ### the identity partition comes first -/

theorem combinations_one_cons (a : Nat) (s : List Nat) :
    ∃ rest, combinations (a :: s) 1 = [a] :: rest := by
  cases s <;> simp [combinations]

theorem subsetsUpTo_one_cons (a : Nat) (s : List Nat) :
    ∃ rest, subsetsUpTo (a :: s) 1 = [a] :: rest := by
  obtain ⟨rest, h⟩ := combinations_one_cons a s
  exact ⟨rest, by simp [subsetsUpTo, List.range_succ, h]⟩

theorem filter_not_head {a : Nat} {s : List Nat} (h : a ∉ s) :
    (a :: s).filter (fun i => ![a].contains i) = s := by
  simp only [List.filter_cons, List.contains_cons, List.contains_nil, Bool.or_false, BEq.rfl,
    Bool.not_true, Bool.false_eq_true, if_false]
  rw [List.filter_eq_self]
  intro i hi
  have : i ≠ a := fun e => h (e ▸ hi)
  simp [this]

/-- when there are exactly as many leftovers as plain variables, the FIRST partition tried gives
the i-th leftover to the i-th variable -/
theorem partitions_head : ∀ (k : Nat) (s : List Nat), s.length = k → 1 ≤ k → s.Nodup →
    ∃ rest, partitions k s = s.map (fun i => [i]) :: rest
  | 0, _, _, h, _ => by omega
  | 1, s, hl, _, _ => by
    match s, hl with
    | [a], _ => exact ⟨[], by simp [partitions]⟩
  | k + 2, s, hl, _, hn => by
    match s, hl, hn with
    | a :: s', hl, hn =>
      have hn' := List.nodup_cons.1 hn
      have hl' : s'.length = k + 1 := by simpa using hl
      obtain ⟨rest1, h1⟩ := subsetsUpTo_one_cons a s'
      obtain ⟨rest2, h2⟩ := partitions_head (k + 1) s' hl' (by omega) hn'.2
      have harg : (a :: s').length + 1 - (k + 2) = 1 := by simp [hl']
      simp only [partitions, harg, h1, List.flatMap_cons, filter_not_head hn'.1, h2, List.map_cons,
        List.cons_append]
      exact ⟨_, rfl⟩

/-! ### binding the plain variables -/

theorem factory_var {o : NaryOp} (hac : isAC o) (y : String) : factory o [.var y] = .var y := by
  rcases hac with rfl | rfl <;>
    simp [factory, flattenedSum, flattenedProduct, flattenedSumLoop, flattenedProductLoop,
      Expr.isZero, Expr.isOne, Expr.truthy, Expr.sizeL, Expr.size]

theorem recFromEq_var {cands : List String} {x y : String} (hx : x ∈ cands) :
    recFromEq cands x (.var y) = some ⟨[(x, .var y)], [(y, .var x)]⟩ := by
  simp [recFromEq, hx]

theorem bindParts_complete {cands V : List String} {ρ : String → String} (hρ : Renaming cands V ρ)
    {o : NaryOp} (hac : isAC o) {ds : List Expr} :
    ∀ (idx : List Nat) (names : List String) (urec : URec), Cons V ρ urec →
    idx.length = names.length →
    (∀ z ∈ idx.zip names, ds.getD z.1 zero = .var (ρ z.2) ∧ z.2 ∈ cands ∧ z.2 ∈ V) →
    ∃ res, bindParts cands o ds urec ((idx.map (fun i => [i])).zip names) = some res ∧ Cons V ρ res
  | [], [], urec, hc, _, _ => ⟨urec, rfl, hc⟩
  | i :: idx, x :: names, urec, hc, hl, h => by
    obtain ⟨hd, hxc, hxV⟩ := h (i, x) (by simp)
    simp only at hd hxc hxV
    have hn : Cons V ρ ⟨[(x, .var (ρ x))], [(ρ x, .var x)]⟩ := by
      constructor
      · intro p hp; simp only [List.mem_singleton] at hp; subst hp; exact ⟨hxV, rfl⟩
      · intro p hp; simp only [List.mem_singleton] at hp; subst hp; exact ⟨x, hxV, rfl, rfl⟩
    obtain ⟨u, hu, hcu⟩ := unify_cons hρ hc hn
    obtain ⟨res, hres, hcr⟩ := bindParts_complete hρ hac idx names u hcu (by simpa using hl)
      (fun z hz => h z (by simp [hz]))
    refine ⟨res, ?_, hcr⟩
    simp only [List.map_cons, List.zip_cons_cons, bindParts, List.map_nil, hd, factory_var hac,
      recFromEq_var hxc, hu, hres]
  | [], _ :: _, _, _, hl, _ => by simp at hl
  | _ :: _, [], _, _, hl, _ => by simp at hl

/-- `match_plain_var_candidates` finds the renaming when the leftovers are exactly the renamed plain
variables, in order -/
theorem matchPlain_complete {cands V : List String} {ρ : String → String}
    (hρ : Renaming cands V ρ) {o : NaryOp} (hac : isAC o) {plain : List String} {hasNonvar : Bool}
    {ds : List Expr} {urecs : List URec} {urec : URec} {left : List Nat}
    (hc : Cons V ρ urec) (hu : ∃ u ∈ urecs, Cons V ρ u) (hl : left.length = plain.length)
    (hnd : left.Nodup)
    (hz : ∀ z ∈ left.zip plain, ds.getD z.1 zero = .var (ρ z.2) ∧ z.2 ∈ cands ∧ z.2 ∈ V) :
    ∃ r ∈ matchPlain cands o plain hasNonvar ds urecs urec left, Cons V ρ r := by
  unfold matchPlain
  split
  · exact ⟨urec, by simp, hc⟩
  · rename_i hne
    have hk : 1 ≤ plain.length := by
      cases plain with
      | nil =>
        have : left = [] := List.length_eq_zero_iff.1 (by simpa using hl)
        simp [this] at hne
      | cons _ _ => simp
    obtain ⟨rest, hparts⟩ := partitions_head plain.length left hl hk hnd
    obtain ⟨res, hres, hcr⟩ := bindParts_complete hρ hac (o := o) (ds := ds) left plain urec hc hl hz
    simp only
    split
    · refine ⟨res, ?_, hcr⟩
      rw [hparts]
      simp [hres]
    · obtain ⟨u, hu', hcu⟩ := hu
      obtain ⟨r, hr, hcr'⟩ := unify_cons hρ hcu hcr
      refine ⟨r, ?_, hcr'⟩
      rw [hparts]
      simp only [List.filterMap_cons, hres, List.flatMap_cons, List.mem_append]
      exact Or.inl (mem_unifyMany.2 ⟨u, hu', hr⟩)

/-! ### positions of the plain and the other operands -/

def nonvarIdx (cands : List String) : List Expr → Nat → List Nat
  | [], _ => []
  | c :: cs, off =>
    if isPlain cands c then nonvarIdx cands cs (off + 1) else off :: nonvarIdx cands cs (off + 1)

def plainIdx (cands : List String) : List Expr → Nat → List Nat
  | [], _ => []
  | c :: cs, off =>
    if isPlain cands c then off :: plainIdx cands cs (off + 1) else plainIdx cands cs (off + 1)

/-- `other_leftovers` after the operands `js` have been matched one after the other -/
def finalLeft (left js : List Nat) : List Nat := js.foldl (fun l j => l.filter (· != j)) left

theorem nonvarIdx_sublist (cands : List String) : ∀ (cs : List Expr) (off : Nat),
    (nonvarIdx cands cs off).Sublist (List.range' off cs.length)
  | [], _ => by simp [nonvarIdx]
  | c :: cs, off => by
    simp only [nonvarIdx, List.length_cons, List.range'_succ]
    split
    · exact (nonvarIdx_sublist cands cs (off + 1)).cons _
    · exact (nonvarIdx_sublist cands cs (off + 1)).cons_cons _

theorem plainIdx_sublist (cands : List String) : ∀ (cs : List Expr) (off : Nat),
    (plainIdx cands cs off).Sublist (List.range' off cs.length)
  | [], _ => by simp [plainIdx]
  | c :: cs, off => by
    simp only [plainIdx, List.length_cons, List.range'_succ]
    split
    · exact (plainIdx_sublist cands cs (off + 1)).cons_cons _
    · exact (plainIdx_sublist cands cs (off + 1)).cons _

theorem filter_ne_mid {pre R : List Nat} {off : Nat} (hpre : ∀ i ∈ pre, i ≠ off)
    (hR : ∀ i ∈ R, i ≠ off) : (pre ++ off :: R).filter (· != off) = pre ++ R := by
  rw [List.filter_append, List.filter_cons]
  simp only [bne_self_eq_false, Bool.false_eq_true, if_false]
  rw [List.filter_eq_self.2 (fun i hi => by simpa using hpre i hi),
    List.filter_eq_self.2 (fun i hi => by simpa using hR i hi)]

theorem finalLeft_spec (cands : List String) : ∀ (cs : List Expr) (off : Nat) (pre : List Nat),
    (∀ i ∈ pre, i < off) →
    finalLeft (pre ++ List.range' off cs.length) (nonvarIdx cands cs off) = pre ++ plainIdx cands cs off
  | [], off, pre, _ => by simp [finalLeft, nonvarIdx, plainIdx]
  | c :: cs, off, pre, hpre => by
    simp only [nonvarIdx, plainIdx, List.length_cons, List.range'_succ]
    split
    · have ih := finalLeft_spec cands cs (off + 1) (pre ++ [off]) (by
        intro i hi
        rcases List.mem_append.1 hi with h | h
        · have := hpre i h; omega
        · simp only [List.mem_singleton] at h; omega)
      simpa using ih
    · have ih := finalLeft_spec cands cs (off + 1) pre (fun i hi => by have := hpre i hi; omega)
      simp only [finalLeft, List.foldl_cons] at ih ⊢
      rw [filter_ne_mid (fun i hi => by have := hpre i hi; omega)
        (fun i hi => by have := (List.mem_range'_1.1 hi).1; omega)]
      exact ih

/-- the target operands are the renamed pattern operands, position by position (from `off` on) -/
def Aligned (ρ : String → String) (ds cs : List Expr) (off : Nat) : Prop :=
  ∀ k c, cs[k]? = some c → ds.getD (off + k) zero = rename ρ c ∧ off + k < ds.length

theorem Aligned.tail {ρ : String → String} {ds : List Expr} {c : Expr} {cs : List Expr} {off : Nat}
    (h : Aligned ρ ds (c :: cs) off) : Aligned ρ ds cs (off + 1) := by
  intro k c' hk
  have := h (k + 1) c' (by simpa using hk)
  have e : off + (k + 1) = off + 1 + k := by omega
  rwa [e] at this

theorem Aligned.head {ρ : String → String} {ds : List Expr} {c : Expr} {cs : List Expr} {off : Nat}
    (h : Aligned ρ ds (c :: cs) off) : ds.getD off zero = rename ρ c ∧ off < ds.length := by
  simpa using h 0 c rfl

theorem plainIdx_spec {cands V : List String} {ρ : String → String} {ds : List Expr} :
    ∀ (cs : List Expr) (off : Nat), Aligned ρ ds cs off → (∀ x ∈ varsOfL cs, x ∈ V) →
    (plainIdx cands cs off).length = (plainNames cands cs).length ∧
    ∀ z ∈ (plainIdx cands cs off).zip (plainNames cands cs),
      ds.getD z.1 zero = .var (ρ z.2) ∧ z.2 ∈ cands ∧ z.2 ∈ V
  | [], _, _, _ => by simp [plainIdx, plainNames]
  | c :: cs, off, hal, hV => by
    have ih := plainIdx_spec (cands := cands) cs (off + 1) hal.tail
      (fun x hx => hV x (by simp [varsOfL, hx]))
    by_cases hp : isPlain cands c = true
    · obtain ⟨x, rfl, hx⟩ := isPlain_iff.1 hp
      have hxc : x ∈ cands := by simpa using hx
      simp only [plainIdx, hp, if_true, plainNames, hx, List.length_cons, List.zip_cons_cons,
        List.mem_cons]
      refine ⟨by rw [ih.1], ?_⟩
      rintro z (rfl | hz)
      · refine ⟨by simpa [rename] using hal.head.1, hxc, hV x (by simp [varsOfL, varsOf])⟩
      · exact ih.2 z hz
    · simp only [plainIdx, hp, Bool.false_eq_true, if_false, plainNames_cons_of_not_isPlain cs hp]
      exact ih

/-! ### `match_children` finds the position-by-position pairing -/

/-- the k-th row of the table offers the k-th position, with a record that is a piece of the
renaming -/
def RowsC (V : List String) (ρ : String → String) : List Row → List Nat → Prop
  | [], [] => True
  | row :: t, j :: js => (∃ prs, (j, prs) ∈ row ∧ ∃ pr ∈ prs, Cons V ρ pr) ∧ RowsC V ρ t js
  | _, _ => False

theorem matchChildren_complete {cands V : List String} {ρ : String → String}
    (hρ : Renaming cands V ρ) {o : NaryOp} {plain : List String} {hasNonvar : Bool}
    {ds : List Expr} {urecs : List URec} :
    ∀ (table : List Row) (js : List Nat), RowsC V ρ table js →
    ∀ (urec : URec) (left : List Nat), Cons V ρ urec → (∀ j ∈ js, j ∈ left) → js.Nodup →
    (∀ urec', Cons V ρ urec' →
      ∃ r ∈ matchPlain cands o plain hasNonvar ds urecs urec' (finalLeft left js), Cons V ρ r) →
    ∃ r ∈ matchChildren cands o plain hasNonvar ds urecs table urec left, Cons V ρ r
  | [], [], _, urec, left, hc, _, _, hplain => by
    simpa [matchChildren, finalLeft] using hplain urec hc
  | row :: table, j :: js, hrows, urec, left, hc, hmem, hnd, hplain => by
    obtain ⟨⟨prs, hrow, pr, hpr, hcpr⟩, hrows'⟩ := hrows
    obtain ⟨cu, hunify, hccu⟩ := unify_cons hρ hcpr hc
    have hnd' := List.nodup_cons.1 hnd
    obtain ⟨r, hr, hcr⟩ := matchChildren_complete hρ table js hrows' cu (left.filter (· != j)) hccu
      (fun j' hj' => List.mem_filter.2 ⟨hmem j' (by simp [hj']), by
        have : j' ≠ j := fun e => hnd'.1 (e ▸ hj')
        simpa using this⟩)
      hnd'.2 (by simpa [finalLeft] using hplain)
    refine ⟨r, ?_, hcr⟩
    simp only [matchChildren, List.mem_flatMap]
    refine ⟨(j, prs), hrow, ?_⟩
    have hj : left.contains j = true := by simpa using hmem j (by simp)
    simp only [hj, if_true, List.mem_flatMap]
    exact ⟨cu, List.mem_filterMap.2 ⟨pr, hpr, hunify⟩, hr⟩
  | [], _ :: _, hrows, _, _, _, _, _, _ => by simp [RowsC] at hrows
  | _ :: _, [], hrows, _, _, _, _, _, _ => by simp [RowsC] at hrows

/-! ### the main induction -/

theorem renameL_eq_map (ρ : String → String) : ∀ cs : List Expr, renameL ρ cs = cs.map (rename ρ)
  | [] => rfl
  | c :: cs => by simp [renameL, renameL_eq_map ρ cs]

theorem aligned_renameL (ρ : String → String) (cs : List Expr) : Aligned ρ (renameL ρ cs) cs 0 := by
  intro k c hk
  have hlt : k < cs.length := (List.getElem?_eq_some_iff.1 hk).1
  have hc : cs[k] = c := (List.getElem?_eq_some_iff.1 hk).2
  simp [renameL_eq_map, List.getD_eq_getElem?_getD, hlt, hc]

theorem isTuple1_rename (ρ : String → String) (i : Expr) : isTuple1 (rename ρ i) = isTuple1 i := by
  cases i with
  | tuple cs =>
    match cs with
    | [] => rfl
    | [_] => rfl
    | _ :: _ :: _ => rfl
  | _ => rfl

theorem constOk_pyEq {c : Const} (h : constOkPattern c = true) :
    (Expr.const c).pyEq (.const c) = true := by
  cases c <;> simp [constOkPattern] at h <;> simp [Expr.pyEq, Const.pyEq, Const.numVal?]

section
variable {cands V : List String} {ρ : String → String} (hρ : Renaming cands V ρ)
include hρ

theorem mapVariable_complete {x : String} (hxV : x ∈ V) {urecs : List URec}
    (hu : ∃ u ∈ urecs, Cons V ρ u) :
    ∃ r ∈ mapVariable cands x (.var (ρ x)) urecs, Cons V ρ r := by
  obtain ⟨u, hu', hcu⟩ := hu
  by_cases hx : x ∈ cands
  · have hn : Cons V ρ ⟨[(x, .var (ρ x))], [(ρ x, .var x)]⟩ := by
      constructor
      · intro p hp; simp only [List.mem_singleton] at hp; subst hp; exact ⟨hxV, rfl⟩
      · intro p hp; simp only [List.mem_singleton] at hp; subst hp; exact ⟨x, hxV, rfl, rfl⟩
    obtain ⟨r, hr, hcr⟩ := unify_cons hρ hcu hn
    refine ⟨r, ?_, hcr⟩
    simp only [mapVariable, recFromEq_var hx]
    exact mem_unifyMany.2 ⟨u, hu', hr⟩
  · refine ⟨u, ?_, hcu⟩
    have hfix := hρ.fix x hxV hx
    simp [mapVariable, recFromEq, hx, hfix, hu']

mutual
theorem unifyE_complete : ∀ (p : Expr) (urecs : List URec), patC p = true →
    (∀ x ∈ varsOf p, x ∈ V) → (∃ u ∈ urecs, Cons V ρ u) →
    ∃ r ∈ unifyE cands p (rename ρ p) urecs, Cons V ρ r
  | .const c, urecs, hp, _, hu => by
      obtain ⟨u, hu', hcu⟩ := hu
      simp only [patC] at hp
      exact ⟨u, by simp [unifyE, rename, constOk_pyEq hp, hu'], hcu⟩
  | .var x, urecs, _, hV, hu => by
      simp only [unifyE, rename]
      exact mapVariable_complete hρ (hV x (by simp [varsOf])) hu
  | .bin o a b, urecs, hp, hV, hu => by
      simp only [patC, Bool.and_eq_true] at hp
      simp only [unifyE, rename, if_true]
      exact unifyE_complete a _ hp.1 (fun x hx => hV x (by simp [varsOf, hx]))
        (unifyE_complete b urecs hp.2 (fun x hx => hV x (by simp [varsOf, hx])) hu)
  | .cmp o a b, urecs, hp, hV, hu => by
      simp only [patC, Bool.and_eq_true] at hp
      simp only [unifyE, rename, if_true]
      exact unifyE_complete a _ hp.1 (fun x hx => hV x (by simp [varsOf, hx]))
        (unifyE_complete b urecs hp.2 (fun x hx => hV x (by simp [varsOf, hx])) hu)
  | .un o a, urecs, hp, hV, hu => by
      simp only [patC] at hp
      simp only [unifyE, rename, if_true]
      exact unifyE_complete a urecs hp (fun x hx => hV x (by simpa [varsOf] using hx)) hu
  | .lookup a n, urecs, hp, hV, hu => by
      simp only [patC] at hp
      simp only [unifyE, rename, if_true]
      exact unifyE_complete a urecs hp (fun x hx => hV x (by simpa [varsOf] using hx)) hu
  | .ite c t e, urecs, hp, hV, hu => by
      simp only [patC, Bool.and_eq_true] at hp
      simp only [unifyE, rename]
      exact unifyE_complete c _ hp.1.1 (fun x hx => hV x (by simp [varsOf, hx]))
        (unifyE_complete t _ hp.1.2 (fun x hx => hV x (by simp [varsOf, hx]))
          (unifyE_complete e urecs hp.2 (fun x hx => hV x (by simp [varsOf, hx])) hu))
  | .call f as, urecs, hp, hV, hu => by
      simp only [patC, Bool.and_eq_true] at hp
      simp only [unifyE, rename]
      exact unifyE_complete f _ hp.1 (fun x hx => hV x (by simp [varsOf, hx]))
        (unifyL_complete as urecs hp.2 (fun x hx => hV x (by simp [varsOf, hx])) hu)
  | .tuple cs, urecs, hp, hV, hu => by
      simp only [patC] at hp
      simp only [unifyE, rename]
      exact unifyL_complete cs urecs hp (fun x hx => hV x (by simpa [varsOf] using hx)) hu
  | .subscript a i, urecs, hp, hV, hu => by
      simp only [patC, Bool.and_eq_true] at hp
      have hVa : ∀ x ∈ varsOf a, x ∈ V := fun x hx => hV x (by simp [varsOf, hx])
      have hVi : ∀ x ∈ varsOf i, x ∈ V := fun x hx => hV x (by simp [varsOf, hx])
      have ihi := unifyE_complete i urecs hp.2 hVi hu
      by_cases hi : isTuple1 i = true
      · obtain ⟨i1, hi1⟩ := isTuple1_iff.1 hi
        -- the 1-tuple against its renamed copy is the element against its renamed copy
        have hmid : ∃ r ∈ unifyE cands i1 (rename ρ i1) urecs, Cons V ρ r := by
          obtain ⟨r, hr, hcr⟩ := ihi
          rw [hi1] at hr
          simp only [rename, renameL, unifyE, unifyL] at hr
          split at hr
          · simp at hr
          · exact ⟨r, hr, hcr⟩
        have := unifyE_complete a _ hp.1 hVa hmid
        simpa [hi1, rename, renameL, unifyE, unpackIndex] using this
      · simp only [Bool.not_eq_true] at hi
        simp only [rename]
        rw [unifyE_subscript hi]
        simp only
        rw [unpackIndex_of_not_tuple1 (by rw [isTuple1_rename]; exact hi)]
        exact unifyE_complete a _ hp.1 hVa ihi
  | .nary o cs, urecs, hp, hV, hu => by
      simp only [patC, Bool.and_eq_true, Bool.or_eq_true, beq_iff_eq] at hp
      have hac : isAC o := hp.1
      simp only [unifyE, rename]
      rw [if_pos (by rcases hp.1 with h | h <;> simp [h])]
      have hVL : ∀ x ∈ varsOfL cs, x ∈ V := fun x hx => hV x (by simpa [varsOf] using hx)
      have hal := aligned_renameL ρ cs
      have hlen : (renameL ρ cs).length = cs.length := by simp [renameL_eq_map]
      have hrows := candTable_complete cs (renameL ρ cs) 0 urecs hp.2 hVL hal hu
      have hsub := nonvarIdx_sublist cands cs 0
      refine matchChildren_complete hρ _ _ hrows URec.empty _ (cons_empty V ρ) ?_ ?_ ?_
      · intro j hj
        rw [hlen, List.range_eq_range']
        exact hsub.subset hj
      · exact (List.nodup_range' (s := 0) (n := cs.length)).sublist hsub
      · intro urec' hc'
        have hfl : finalLeft (List.range (renameL ρ cs).length) (nonvarIdx cands cs 0)
            = plainIdx cands cs 0 := by
          have := finalLeft_spec cands cs 0 [] (by simp)
          rw [hlen, List.range_eq_range']
          simpa using this
        rw [hfl]
        obtain ⟨hl, hz⟩ := plainIdx_spec (cands := cands) (V := V) cs 0 hal hVL
        exact matchPlain_complete hρ hac hc' hu hl
          ((List.nodup_range' (s := 0) (n := cs.length)).sublist (plainIdx_sublist cands cs 0)) hz
  | .callKw .., _, hp, _, _ => by simp [patC] at hp
  | .cse .., _, hp, _, _ => by simp [patC] at hp
  | .subst .., _, hp, _, _ => by simp [patC] at hp
  | .deriv .., _, hp, _, _ => by simp [patC] at hp
  | .slice .., _, hp, _, _ => by simp [patC] at hp
  | .nan, _, hp, _, _ => by simp [patC] at hp
  | .wildcard, _, hp, _, _ => by simp [patC] at hp
  | .dotWild .., _, hp, _, _ => by simp [patC] at hp
  | .starWild .., _, hp, _, _ => by simp [patC] at hp
  | .funcSym, _, hp, _, _ => by simp [patC] at hp
  | .list .., _, hp, _, _ => by simp [patC] at hp
theorem unifyL_complete : ∀ (ps : List Expr) (urecs : List URec), patCL ps = true →
    (∀ x ∈ varsOfL ps, x ∈ V) → (∃ u ∈ urecs, Cons V ρ u) →
    ∃ r ∈ unifyL cands ps (renameL ρ ps) urecs, Cons V ρ r
  | [], urecs, _, _, hu => by simpa [unifyL, renameL] using hu
  | c :: cs, urecs, hp, hV, hu => by
      simp only [patCL, Bool.and_eq_true] at hp
      have h1 := unifyE_complete c urecs hp.1 (fun x hx => hV x (by simp [varsOfL, hx])) hu
      have h2 := unifyL_complete cs _ hp.2 (fun x hx => hV x (by simp [varsOfL, hx])) h1
      simp only [unifyL, renameL]
      split
      · rename_i hemp
        obtain ⟨r, hr, _⟩ := h1
        rw [List.isEmpty_iff.1 hemp] at hr; simp at hr
      · exact h2
theorem candTable_complete : ∀ (cs ds : List Expr) (off : Nat) (urecs : List URec),
    patCL cs = true → (∀ x ∈ varsOfL cs, x ∈ V) → Aligned ρ ds cs off →
    (∃ u ∈ urecs, Cons V ρ u) →
    RowsC V ρ (candTable cands cs ds urecs) (nonvarIdx cands cs off)
  | [], _, _, _, _, _, _, _ => by simp [candTable, nonvarIdx, RowsC]
  | c :: cs, ds, off, urecs, hp, hV, hal, hu => by
      simp only [patCL, Bool.and_eq_true] at hp
      have ih := candTable_complete cs ds (off + 1) urecs hp.2
        (fun x hx => hV x (by simp [varsOfL, hx])) hal.tail hu
      by_cases hpl : isPlain cands c = true
      · simp only [candTable, nonvarIdx, hpl, if_true]
        exact ih
      · simp only [candTable, nonvarIdx, hpl, Bool.false_eq_true, if_false]
        refine ⟨?_, ih⟩
        obtain ⟨r, hr, hcr⟩ :=
          unifyE_complete c urecs hp.1 (fun x hx => hV x (by simp [varsOfL, hx])) hu
        obtain ⟨hd, hlt⟩ := hal.head
        refine ⟨unifyE cands c (ds.getD off zero) urecs, ?_, r, by rw [hd]; exact hr, hcr⟩
        refine List.mem_filterMap.2 ⟨off, List.mem_range.2 hlt, ?_⟩
        have hne : (unifyE cands c (ds.getD off zero) urecs).isEmpty = false := by
          rw [hd]; cases h : unifyE cands c (rename ρ c) urecs with
          | nil => rw [h] at hr; simp at hr
          | cons _ _ => rfl
        simp only [hne, Bool.false_eq_true, if_false]
end
end

end PV.Unify
