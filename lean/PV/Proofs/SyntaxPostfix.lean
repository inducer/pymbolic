import PV.Proofs.SyntaxRoundtrip
import PV.Proofs.SyntaxSuffix
/-
  C06.  The cases of the main lemma for the postfix forms (look-up, subscript, call, call with
  keyword arguments), for tuples and lists, and for slices (`sliceNF`, `slice_step`, `slice_case`).
-/
namespace PV.Syntax
open PV

variable {P : ParserPrec} {S : PrintPrec}

theorem not_absorbs_comma {r} : ¬ absorbs P P.comma (.sym "," :: r) := not_absorbs_self rfl

theorem lookup_case {a : Expr} {n : String} (hp : Printable P S (.lookup a n) = true)
    (ha : Goal P S a) : Goal P S (.lookup a n) := by
  obtain ⟨hoa, hpa⟩ := Bool.and_eq_true_iff.mp hp
  intro enc ps hs m R res k hc hl
  obtain ⟨x, hx, htoks⟩ := strE_lookup hs
  refine goal_of_bare ?_ (fun _ h => Expr.noConfusion h) rfl htoks hc hl
  intro m R res k hgm _ hl
  have h1 := operand_plain (pos := .callee) (fun _ => rfl) ha hoa hpa hx (m := m) hgm
    (not_absorbs_self rfl) (PL_lookup hgm hl)
  simp only [List.append_assoc, List.cons_append, List.nil_append]
  refine h1.mono (G_succ_le ?_)
  simp only [List.length_append, List.length_cons]; omega

theorem printable_subscript {a i : Expr} (hi : ∀ cs, i ≠ .tuple cs) :
    Printable P S (.subscript a i) =
      (okAt P S .callee a && Printable P S a && okAt P S .index i && Printable P S i) := by
  cases i <;> first | rfl | exact absurd rfl (hi _)

/-- `a [ T ]`, given how the index `T` is read up to the closing bracket -/
theorem subscript_bare {a i : Expr} {x : Pieces} {T : List Tok} (ha : Goal P S a)
    (hoa : okAt P S .callee a = true) (hpa : Printable P S a = true)
    (hx : strE S a S.call = .ok x)
    (hi : ∀ R, PEok P (G 1 T.length) 0 (T ++ .sym "]" :: R) (pnf i, .sym "]" :: R)) :
    Bare P (.subscript a i) (toks x ++ .sym "[" :: (T ++ [.sym "]"])) := by
  intro m R res k hgm _ hl
  have h1 := operand_plain (pos := .callee) (fun _ => rfl) ha hoa hpa hx (m := m) hgm
    (not_absorbs_self rfl) (PL_subscript hgm (hi R) hl)
  simp only [List.append_assoc, List.cons_append, List.nil_append] at h1 ⊢
  refine h1.mono (G_le ?_ ?_) <;>
    simp only [G_one_eq, List.length_append, List.length_cons, List.length_nil] <;> omega

theorem subscript_case {a i : Expr} (hi : ∀ cs, i ≠ .tuple cs)
    (hp : Printable P S (.subscript a i) = true)
    (ha : Goal P S a) (hgi : Goal P S i) : Goal P S (.subscript a i) := by
  rw [printable_subscript hi] at hp
  simp only [Bool.and_eq_true] at hp
  obtain ⟨⟨⟨hoa, hpa⟩, hoi⟩, hpi⟩ := hp
  intro enc ps hs m R res k hc hl
  obtain ⟨x, y, hx, hy, htoks⟩ := strE_subscript hi hs
  refine goal_of_bare (subscript_bare ha hoa hpa hx fun R => ?_) (fun _ h => Expr.noConfusion h)
    rfl htoks hc hl
  exact operand_plain (pos := .index) (fun _ => rfl) hgi hoi hpi hy (Nat.lt_succ_self _)
    not_absorbs_rbrack (PL_stop not_absorbs_rbrack)


/-! ### comma-separated elements (tuples, lists, index tuples) -/

theorem not_absorbs_chain_comma {xs : List Pieces} {Rest : List Tok}
    (h : ¬ absorbs P P.comma Rest) : ¬ absorbs P P.comma (chainT "," xs ++ Rest) := by
  cases xs with
  | nil => exact h
  | cons y ys => exact not_absorbs_comma

/-- `, d , …`: the loop appends the elements to the tuple under construction -/
theorem elems_chain : ∀ (cs : List Expr) (d : Expr) (xs : List Pieces),
    strL S (d :: cs) S.none = .ok xs →
    (∀ e ∈ d :: cs, Goal P S e) → PrintableAll P S .elemRest (d :: cs) = true →
    ∀ (acc : List Expr) (left : Expr) (fin : Bool) (m : Nat) (Rest : List Tok) res k,
      TupState acc left fin → P.comma > m → ¬ absorbs P P.comma Rest →
      PLok P k m (.tuple (acc ++ pnfL (d :: cs))) false Rest res →
      PLok P (G k (chainT "," xs).length) m left fin (chainT "," xs ++ Rest) res
  | cs, d, xs, hs, hg, hp, acc, left, fin, m, Rest, res, k, hst, hm, hna, hl => by
      obtain ⟨x, xs', hx, hxs, rfl⟩ := strL_cons hs
      simp only [PrintableAll, Bool.and_eq_true] at hp
      obtain ⟨⟨hod, hpd⟩, hpcs⟩ := hp
      have hna' := not_absorbs_chain_comma (P := P) (xs := xs') hna
      have he := operand_plain (pos := .elemRest) (fun _ => rfl) (hg d (List.mem_cons_self ..))
        hod hpd hx (m := P.comma) (Nat.lt_succ_self _) hna' (PL_stop hna')
      have hrest : PLok P (G k (chainT "," xs').length) m (.tuple (acc ++ [pnf d])) false
          (chainT "," xs' ++ Rest) res := by
        match cs, xs', hxs, hg, hpcs, hl with
        | [], _, hxs, _, _, hl => rw [strL_nil hxs]; exact hl.mono (Nat.le_max_right 1 k)
        | d' :: cs, xs', hxs, hg, hpcs, hl =>
          exact elems_chain cs d' xs' hxs (fun e he => hg e (List.mem_cons_of_mem _ he)) hpcs
            (acc ++ [pnf d]) _ false m Rest res k (Or.inr ⟨rfl, rfl⟩) hm hna
            (by rw [List.append_assoc]; exact hl)
      simp only [chainT, List.cons_append, List.append_assoc]
      refine (PL_comma_step hst hm he hrest).mono (G_chain ?_)
      simp only [List.length_append, List.length_cons]; omega

theorem kind_tuple {c : Expr} (h : kind c = some .tuple) : ∃ cs, c = .tuple cs := by
  cases c with
  | tuple cs => exact ⟨cs, rfl⟩
  | const c0 =>
    cases c0 <;> simp [kind] at h
    · split at h <;> cases h
    · rcases fltKind_cases h with h' | h' | h' <;> cases h'
  | nary o cs => cases o <;> simp [kind] at h
  | _ => simp [kind] at h

/-- if the normal form of a tree of the fragment is a tuple, the tree is a tuple literal, which the
parser returns finalised (`finOf`) -/
theorem open_of_printable {c : Expr} (hp : Printable P S c = true) :
    ∀ cs, pnf c = .tuple cs → finOf c = true := by
  intro cs h
  by_cases hk : kind c = some .tuple
  · obtain ⟨ds, rfl⟩ := kind_tuple hk; rfl
  · exact absurd h (pnf_ne_tuple hp hk cs)

/-- `c , d , …` followed by a closing token, read at level 0 -/
theorem elems_parse {c d : Expr} {cs : List Expr} {x : Pieces} {xs : List Pieces}
    (hgc : Goal P S c) (hg : ∀ e ∈ d :: cs, Goal P S e)
    (hoc : okAt P S .elemFirst c = true) (hpc : Printable P S c = true)
    (hpcs : PrintableAll P S .elemRest (d :: cs) = true) (hcomma : P.comma > 0)
    (hx : strE S c S.none = .ok x) (hxs : strL S (d :: cs) S.none = .ok xs)
    {Rest : List Tok} (hna : ¬ absorbs P P.comma Rest) (hna0 : ¬ absorbs P 0 Rest) :
    PEok P (G 1 (toks x ++ chainT "," xs).length) 0 (toks x ++ chainT "," xs ++ Rest)
      (.tuple (pnfL (c :: d :: cs)), Rest) := by
  obtain ⟨y, ys, -, -, rfl⟩ := strL_cons hxs
  have hX := elems_chain cs d (y :: ys) hxs hg hpcs [pnf c] (pnf c) (finOf c) 0 Rest
    (.tuple (pnfL (c :: d :: cs)), Rest) 1 (Or.inl ⟨rfl, open_of_printable hpc⟩) hcomma hna
    (PL_stop hna0)
  have h1 := operand_plain (pos := .elemFirst) (fun _ => rfl) hgc hoc hpc hx (m := 0)
    (Nat.lt_succ_self _) not_absorbs_comma hX
  rw [List.append_assoc, List.length_append]
  exact h1.mono (G_G ..)

theorem seqT_false_cons (x : Pieces) (xs : List Pieces) :
    seqT false (x :: xs) = toks x ++ chainT "," xs := by
  simp [seqT, seqT_true_eq_chain]

theorem subscript_tuple_case {a c d : Expr} {cs : List Expr}
    (hp : Printable P S (.subscript a (.tuple (c :: d :: cs))) = true)
    (ha : Goal P S a) (hgc : Goal P S c) (hg : ∀ e ∈ d :: cs, Goal P S e) :
    Goal P S (.subscript a (.tuple (c :: d :: cs))) := by
  simp only [Printable, Bool.and_eq_true, decide_eq_true_eq] at hp
  obtain ⟨⟨⟨⟨⟨hoa, hpa⟩, hoc⟩, hpc⟩, hpcs⟩, hcomma⟩ := hp
  intro enc ps hs m R res k hc hl
  obtain ⟨x, xs, hx, hxs, htoks⟩ := strE_subscript_tuple hs
  obtain ⟨y, ys, hy, hys, rfl⟩ := strL_cons hxs
  rw [seqT_false_cons] at htoks
  refine goal_of_bare (subscript_bare ha hoa hpa hx fun R => ?_) (fun _ h => Expr.noConfusion h)
    rfl htoks hc hl
  exact elems_parse hgc hg hoc hpc hpcs hcomma hy hys not_absorbs_rbrack not_absorbs_rbrack

theorem tuple_case {cs : List Expr} (hp : Printable P S (.tuple cs) = true)
    (hg : ∀ e ∈ cs, Goal P S e) : Goal P S (.tuple cs) := by
  intro enc ps hs m R res k _ hl
  obtain ⟨xs, hxs, htoks⟩ := strE_tuple hs
  rw [htoks]
  match cs, hp, hg, hxs, hl with
  | [], _, _, hxs, hl =>
    rw [strL_nil hxs]
    exact (PE_mk PP_unit hl).mono (by simp only [G]; simp; omega)
  | [c], hp, hg, hxs, hl =>
    obtain ⟨x, xs', hx, hxs', rfl⟩ := strL_cons hxs
    rw [strL_nil hxs']
    simp only [Printable, PrintableAll, Bool.and_eq_true, decide_eq_true_eq] at hp
    obtain ⟨⟨⟨hoc, hpc⟩, -⟩, hcomma⟩ := hp
    have h1 := operand_plain (pos := .elemFirst) (fun _ => rfl) (hg c (List.mem_cons_self ..))
      hoc hpc hx (m := 0) (Nat.lt_succ_self _) not_absorbs_comma
      (PL_comma_single hcomma (open_of_printable hpc)
        (PL_stop (m := 0) (ts := .sym ")" :: R) not_absorbs_rparen))
    have h2 := PE_mk (PP_paren_tuple (h1.mono (G_succ_le (Nat.lt_succ_self _)))) hl
    simp only [seqT, List.length_cons, List.length_nil, beq_self_eq_true, if_true,
      Bool.false_eq_true, if_false, List.nil_append, List.append_nil, List.append_assoc,
      List.cons_append] at h2 ⊢
    refine h2.mono (G_prefix ?_)
    simp only [List.length_append, List.length_cons, List.length_nil]; omega
  | c :: d :: cs', hp, hg, hxs, hl =>
    obtain ⟨x, xs', hx, hxs', rfl⟩ := strL_cons hxs
    simp only [Printable, Bool.and_eq_true, decide_eq_true_eq] at hp
    obtain ⟨⟨⟨hoc, hpc⟩, hpcs⟩, hcomma⟩ := hp
    have h1 := elems_parse (hg c (List.mem_cons_self ..))
      (fun e he => hg e (List.mem_cons_of_mem _ he)) hoc hpc hpcs hcomma hx hxs'
      (Rest := .sym ")" :: R) not_absorbs_rparen not_absorbs_rparen
    have h2 := PE_mk (PP_paren_tuple h1) hl
    rw [seqT_false_cons]
    simp only [List.length_cons, Nat.succ_ne_zero, Nat.add_eq_right, beq_iff_eq, if_false,
      List.nil_append, List.append_assoc, List.cons_append] at h2 ⊢
    refine h2.mono (G_prefix ?_)
    simp only [List.length_append, List.length_cons, List.length_nil]; omega

theorem list_case {cs : List Expr} (hp : Printable P S (.list cs) = true)
    (hg : ∀ e ∈ cs, Goal P S e) : Goal P S (.list cs) := by
  intro enc ps hs m R res k _ hl
  obtain ⟨xs, hxs, htoks⟩ := strE_list hs
  rw [htoks]
  match cs, hp, hg, hxs, hl with
  | [], _, _, hxs, hl =>
    rw [strL_nil hxs]
    exact (PE_mk PP_nil_list hl).mono (by simp only [G]; simp; omega)
  | [c], hp, hg, hxs, hl =>
    obtain ⟨x, xs', hx, hxs', rfl⟩ := strL_cons hxs
    rw [strL_nil hxs']
    obtain ⟨hoc, hpc⟩ := Bool.and_eq_true_iff.mp hp
    obtain ⟨kc, hkc, hokc⟩ := okAt_iff hoc
    have hkt : kind c ≠ some .tuple := by
      rintro h; rw [hkc] at h; cases h; cases hokc
    have h1 := operand_plain (pos := .index) (fun _ => rfl) (hg c (List.mem_cons_self ..))
      hoc hpc hx (m := 0) (R := .sym "]" :: R) (Nat.lt_succ_self _) not_absorbs_rbrack
      (PL_stop not_absorbs_rbrack)
    have h2 := PE_mk (PP_list_one h1 (pnf_ne_tuple hpc hkt)) hl
    simp only [seqT, Bool.false_eq_true, if_false, List.nil_append, List.append_nil,
      List.append_assoc, List.cons_append] at h2 ⊢
    refine h2.mono (G_prefix ?_)
    simp only [List.length_append, List.length_cons, List.length_nil]; omega
  | c :: d :: cs', hp, hg, hxs, hl =>
    obtain ⟨x, xs', hx, hxs', rfl⟩ := strL_cons hxs
    simp only [Printable, Bool.and_eq_true, decide_eq_true_eq] at hp
    obtain ⟨⟨⟨hoc, hpc⟩, hpcs⟩, hcomma⟩ := hp
    have h1 := elems_parse (hg c (List.mem_cons_self ..))
      (fun e he => hg e (List.mem_cons_of_mem _ he)) hoc hpc hpcs hcomma hx hxs'
      (Rest := .sym "]" :: R) not_absorbs_rbrack not_absorbs_rbrack
    have h2 := PE_mk (PP_list_tuple h1) hl
    rw [seqT_false_cons]
    simp only [List.append_assoc, List.cons_append] at h2 ⊢
    refine h2.mono (G_prefix ?_)
    simp only [List.length_append, List.length_cons, List.length_nil]; omega

/-! ### argument lists -/

theorem seqT_cons_if (ca : Bool) (x : Pieces) (xs : List Pieces) (Rest : List Tok) :
    seqT ca (x :: xs) ++ Rest
      = if ca then .sym "," :: (toks x ++ (seqT true xs ++ Rest)) else toks x ++ (seqT true xs ++ Rest) := by
  cases ca <;> simp [seqT]

theorem seqT_follow {xs : List Pieces} {Rest : List Tok} (h1 : ¬ absorbs P P.comma Rest)
    (h2 : isSym "=" Rest = false) :
    ¬ absorbs P P.comma (seqT true xs ++ Rest) ∧ isSym "=" (seqT true xs ++ Rest) = false := by
  cases xs with
  | nil => exact ⟨h1, h2⟩
  | cons y ys => exact ⟨not_absorbs_comma, rfl⟩

/-- fuel for an argument list of `n` tokens -/
def GA (k n : Nat) : Nat := max (2 * n + 2) (k + n)

theorem GA_one_eq (n : Nat) : GA 1 n = 2 * n + 2 := by simp only [GA]; omega

/-- an argument of `a` tokens followed by `n` tokens of further arguments -/
theorem GA_chain {k a n N : Nat} (h1 : a + n ≤ N) (h2 : n < N) :
    max (G 1 a) (GA k n) + 1 ≤ GA k N := by
  simp only [G, GA]; omega

theorem args_chain : ∀ (as : List Expr) (xs : List Pieces), strL S as S.none = .ok xs →
    (∀ e ∈ as, Goal P S e) → PrintableAll P S .arg as = true →
    ∀ (acc : List Expr) (ca : Bool) (Rest : List Tok) res k,
      ¬ absorbs P P.comma Rest → isSym "=" Rest = false →
      PAok P k Rest (acc ++ pnfL as) [] [] (ca || !as.isEmpty) res →
      PAok P (GA k (seqT ca xs).length) (seqT ca xs ++ Rest) acc [] [] ca res
  | [], xs, hs, _, _, acc, ca, Rest, res, k, _, _, hl => by
      rw [strL_nil hs]
      simp only [pnfL, List.append_nil, List.isEmpty_nil, Bool.not_true, Bool.or_false] at hl
      exact hl.mono (by simp only [GA]; omega)
  | a :: as, xs, hs, hg, hp, acc, ca, Rest, res, k, hna, heq, hl => by
      obtain ⟨x, xs', hx, hxs, rfl⟩ := strL_cons hs
      simp only [PrintableAll, Bool.and_eq_true] at hp
      obtain ⟨⟨hoa, hpa⟩, hpas⟩ := hp
      obtain ⟨hna', heq'⟩ := seqT_follow (P := P) (xs := xs') hna heq
      have he := operand_plain (pos := .arg) (fun _ => rfl) (hg a (List.mem_cons_self ..)) hoa hpa hx
        (m := P.comma) (Nat.lt_succ_self _) hna' (PL_stop hna')
      have ih := args_chain as xs' hxs (fun e he => hg e (List.mem_cons_of_mem _ he)) hpas
        (acc ++ [pnf a]) true Rest res k hna heq
        (by simpa [pnfL, List.append_assoc] using hl)
      have hlen := PEok_consumes he
      rw [seqT_cons_if]
      refine (PA_pos (ca := ca) he heq' ih).mono (GA_chain ?_ ?_) <;>
        cases ca <;> simp only [seqT, List.length_append, List.length_cons, List.length_nil,
          if_true, Bool.false_eq_true, if_false] at hlen ⊢ <;> omega

theorem call_case {f : Expr} {as : List Expr} (hp : Printable P S (.call f as) = true)
    (hf : Goal P S f) (hg : ∀ e ∈ as, Goal P S e) : Goal P S (.call f as) := by
  simp only [Printable, Bool.and_eq_true] at hp
  obtain ⟨⟨hof, hpf⟩, hpas⟩ := hp
  intro enc ps hs m R res k hc hl
  obtain ⟨x, xs, hx, hxs, htoks⟩ := strE_call hs
  refine goal_of_bare (w := false) ?_ (fun _ h => Expr.noConfusion h) rfl htoks hc hl
  intro m R res k hgm _ hl
  have hA := args_chain as xs hxs hg hpas [] false (.sym ")" :: R) ((pnfL as, [], []), R) 1
    not_absorbs_rparen rfl PA_close
  have h1 := operand_plain (pos := .callee) (fun _ => rfl) hf hof hpf hx (m := m) hgm
    (not_absorbs_self rfl) (PL_call hgm hA hl)
  simp only [List.append_assoc, List.cons_append, List.nil_append] at h1 ⊢
  refine h1.mono (G_le ?_ ?_) <;>
    simp only [GA_one_eq, List.length_append, List.length_cons, List.length_nil] <;> omega

theorem strL_isEmpty {as : List Expr} {xs : List Pieces} {enc : Nat}
    (h : strL S as enc = .ok xs) : xs.isEmpty = as.isEmpty := by
  cases as with
  | nil => rw [strL_nil h]; rfl
  | cons a as => obtain ⟨x, xs', _, _, rfl⟩ := strL_cons h; rfl

theorem kwPieces_cons (n : String) (ns : List String) (y : Pieces) (ys : List Pieces) :
    kwPieces (n :: ns) (y :: ys) = ((.tok (.ident n) : Piece) :: sy "=" :: y) :: kwPieces ns ys :=
  rfl

theorem kw_chain : ∀ (ns : List String) (vs : List Expr) (ys : List Pieces),
    strL S vs S.none = .ok ys → ns.length = vs.length →
    (∀ e ∈ vs, Goal P S e) → PrintableAll P S .arg vs = true →
    ∀ (args : List Expr) (kwn : List String) (kwv : List Expr) (ca : Bool) (Rest : List Tok) res k,
      (∀ n ∈ ns, kwn.contains n = false) → nodupB ns = true →
      ¬ absorbs P P.comma Rest → isSym "=" Rest = false →
      PAok P k Rest args (kwn ++ ns) (kwv ++ pnfL vs) (ca || !ns.isEmpty) res →
      PAok P (GA k (seqT ca (kwPieces ns ys)).length) (seqT ca (kwPieces ns ys) ++ Rest)
        args kwn kwv ca res
  | [], [], ys, hs, _, _, _, args, kwn, kwv, ca, Rest, res, k, _, _, _, _, hl => by
      rw [strL_nil hs]
      simp only [pnfL, List.append_nil, List.isEmpty_nil, Bool.not_true, Bool.or_false] at hl
      exact hl.mono (by simp only [GA]; omega)
  | [], _ :: _, _, _, hlen, _, _, _, _, _, _, _, _, _, _, _, _, _, _ => by cases hlen
  | _ :: _, [], _, _, hlen, _, _, _, _, _, _, _, _, _, _, _, _, _, _ => by cases hlen
  | n :: ns, v :: vs, ys, hs, hlen, hg, hp, args, kwn, kwv, ca, Rest, res, k, hnew, hnd, hna,
      heq, hl => by
      obtain ⟨y, ys', hy, hys, rfl⟩ := strL_cons hs
      simp only [PrintableAll, Bool.and_eq_true] at hp
      obtain ⟨⟨hov, hpv⟩, hpvs⟩ := hp
      simp only [nodupB, Bool.and_eq_true, Bool.not_eq_true'] at hnd
      obtain ⟨hn1, hn2⟩ := hnd
      obtain ⟨hna', -⟩ := seqT_follow (P := P) (xs := kwPieces ns ys') hna heq
      have hv := operand_plain (pos := .arg) (fun _ => rfl) (hg v (List.mem_cons_self ..)) hov hpv hy
        (m := P.comma) (Nat.lt_succ_self _) hna' (PL_stop hna')
      have hnew' : ∀ n' ∈ ns, (kwn ++ [n]).contains n' = false := by
        intro n' hn'
        have h1 := hnew n' (List.mem_cons_of_mem _ hn')
        simp only [List.contains_eq_mem, decide_eq_false_iff_not, List.mem_append,
          List.mem_singleton, not_or] at hn1 h1 ⊢
        exact ⟨h1, fun h => hn1 (h ▸ hn')⟩
      have ih := kw_chain ns vs ys' hys (Nat.succ.inj hlen)
        (fun e he => hg e (List.mem_cons_of_mem _ he)) hpvs args (kwn ++ [n]) (kwv ++ [pnf v])
        true Rest res k hnew' hn2 hna heq
        (by simpa [pnfL, List.append_assoc] using hl)
      rw [kwPieces_cons, seqT_cons_if]
      simp only [toks_tok, toks_sy, List.cons_append]
      refine (PA_kw (ca := ca) hv (hnew n (List.mem_cons_self ..)) ih).mono (GA_chain ?_ ?_) <;>
        cases ca <;> simp [kwPieces_cons, seqT] <;> omega

theorem callKw_case {f : Expr} {as : List Expr} {ns : List String} {vs : List Expr}
    (hp : Printable P S (.callKw f as ns vs) = true)
    (hf : Goal P S f) (hg : ∀ e ∈ as, Goal P S e) (hgv : ∀ e ∈ vs, Goal P S e) :
    Goal P S (.callKw f as ns vs) := by
  simp only [Printable, Bool.and_eq_true, beq_iff_eq, Bool.not_eq_true'] at hp
  obtain ⟨⟨⟨⟨⟨⟨hof, hpf⟩, hpas⟩, hpvs⟩, hlen⟩, hne⟩, hnd⟩ := hp
  intro enc ps hs m R res k hc hl
  obtain ⟨x, xs, ys, hx, hxs, hys, htoks⟩ := strE_callKw hs
  refine goal_of_bare (w := false) ?_ (fun _ h => Expr.noConfusion h) rfl htoks hc hl
  intro m R res k hgm _ hl
  obtain ⟨n0, ns', rfl⟩ : ∃ n0 ns', ns = n0 :: ns' := by
    cases ns with
    | nil => cases hne
    | cons n0 ns' => exact ⟨n0, ns', rfl⟩
  obtain ⟨v0, vs', rfl⟩ : ∃ v0 vs', vs = v0 :: vs' := by
    cases vs with
    | nil => cases hlen
    | cons v0 vs' => exact ⟨v0, vs', rfl⟩
  obtain ⟨y0, ys', -, -, rfl⟩ := strL_cons hys
  have hK := kw_chain (n0 :: ns') (v0 :: vs') (y0 :: ys') hys hlen hgv hpvs (pnfL as) [] []
    (!as.isEmpty) (.sym ")" :: R) ((pnfL as, n0 :: ns', pnfL (v0 :: vs')), R) 1
    (fun _ _ => rfl) hnd not_absorbs_rparen rfl PA_close
  have hrest : ¬ absorbs P P.comma
        (seqT (!as.isEmpty) (kwPieces (n0 :: ns') (y0 :: ys')) ++ .sym ")" :: R) ∧
      isSym "=" (seqT (!as.isEmpty) (kwPieces (n0 :: ns') (y0 :: ys')) ++ .sym ")" :: R)
        = false := by
    cases as.isEmpty
    · exact ⟨not_absorbs_comma, rfl⟩
    · exact ⟨id, rfl⟩
  have hA := args_chain as xs hxs hg hpas [] false _ _ _ hrest.1 hrest.2
    (by simpa only [List.nil_append, Bool.false_or] using hK)
  have h1 := operand_plain (pos := .callee) (fun _ => rfl) hf hof hpf hx (m := m) hgm
    (not_absorbs_self rfl) (PL_call hgm hA hl)
  rw [seqT_append, strL_isEmpty hxs]
  simp only [Bool.false_or, List.append_assoc, List.cons_append, List.nil_append] at h1 ⊢
  refine h1.mono (G_le ?_ ?_)
  · simp only [List.length_append, List.length_cons]; omega
  · simp only [GA, List.length_append, List.length_cons, List.length_nil]; omega

/-! ### slices -/

/-- what `parse_expression(_PREC_SLICE)` returns for `c : … : last` -/
def sliceNF : List Expr → Expr
  | [] => .slice []
  | c :: cs =>
    match cs with
    | [] => pnf c
    | _ :: _ => joinToSlice (pnf c) (sliceNF cs)

theorem sliceNF_cons2 (c d : Expr) (ds : List Expr) :
    sliceNF (c :: d :: ds) = joinToSlice (pnf c) (sliceNF (d :: ds)) := rfl

theorem pnf_ne_slice {t : Expr} (hp : Printable P S t = true) (hk : kind t ≠ some .slice) :
    ∀ cs, pnf t ≠ .slice cs :=
  fun cs h => hk (by rw [← kind_pnf hp, h]; rfl)

theorem printableSlice_none (cs : List Expr) (d : Expr) :
    PrintableSlice P S (.const .none :: d :: cs) = PrintableSlice P S (d :: cs) := rfl

theorem printableSlice_some {c : Expr} (hc : c ≠ .const .none) (cs : List Expr) (d : Expr) :
    PrintableSlice P S (c :: d :: cs)
      = (okAt P S .slicePart c && Printable P S c && PrintableSlice P S (d :: cs)) := by
  rw [PrintableSlice]
  · intro h; cases h
  · exact fun h => hc h

theorem not_slice_of_okAt {pos : Pos} (hpos : pos = .slicePart ∨ pos = .sliceLast) {c : Expr}
    (ho : okAt P S pos c = true) (hp : Printable P S c = true) : ∀ cs, pnf c ≠ .slice cs := by
  obtain ⟨kc, hkc, hok⟩ := okAt_iff ho
  refine pnf_ne_slice hp ?_
  rw [hkc]
  rintro ⟨⟩
  rcases hpos with rfl | rfl <;> cases hok

theorem sliceNF_eq : ∀ (c d : Expr) (ds : List Expr), PrintableSlice P S (c :: d :: ds) = true →
    sliceNF (c :: d :: ds) = .slice (pnfL (c :: d :: ds))
  | c, d, [], h => by
    have hd : PrintableSlice P S [d] = true := by
      by_cases hc : c = .const .none
      · subst hc; exact h
      · rw [printableSlice_some hc] at h; simp only [Bool.and_eq_true] at h; exact h.2
    obtain ⟨hod, hpd⟩ := Bool.and_eq_true_iff.mp hd
    have hns := not_slice_of_okAt (Or.inr rfl) hod hpd
    show joinToSlice (pnf c) (pnf d) = _
    unfold joinToSlice
    split
    · rename_i cs heq; exact absurd heq (hns cs)
    · rfl
  | c, d, d' :: ds, h => by
    have hd : PrintableSlice P S (d :: d' :: ds) = true := by
      by_cases hc : c = .const .none
      · subst hc; exact h
      · rw [printableSlice_some hc] at h; simp only [Bool.and_eq_true] at h; exact h.2
    rw [sliceNF_cons2, sliceNF_eq d d' ds hd]
    rfl

/-- the first part of a slice `c : d : …`, read at level `m` with the loop going on as in `hl`,
given how the parts after the first colon are read at the level of a slice -/
theorem slice_step {c d : Expr} {ds : List Expr} {xs : List Pieces}
    (hs : strSliceL S (c :: d :: ds) = .ok xs) (hgc : c ≠ .const .none → Goal P S c)
    (hp : PrintableSlice P S (c :: d :: ds) = true) {m : Nat} {R : List Tok} {res k}
    (hm : P.slice + 1 > m)
    (htail : ∀ xs', strSliceL S (d :: ds) = .ok xs' → PrintableSlice P S (d :: ds) = true →
      ∃ y ys, xs' = y :: ys ∧ PEok P (G 1 (toks y ++ chainT ":" ys).length) P.slice
        (toks y ++ chainT ":" ys ++ R) (sliceNF (d :: ds), R))
    (hl : PLok P k m (sliceNF (c :: d :: ds)) false R res) :
    ∃ x xs', xs = x :: xs' ∧
      PEok P (G k (toks x ++ chainT ":" xs').length) m (toks x ++ chainT ":" xs' ++ R) res := by
  by_cases hcn : c = .const .none
  · subst hcn
    obtain ⟨xs', hxs, rfl⟩ := strSliceL_none hs
    obtain ⟨y, ys, rfl, ih⟩ := htail xs' hxs hp
    refine ⟨_, _, rfl, ?_⟩
    have h1 := PE_mk (PP_colon ih) hl
    simp only [toks_nil, List.nil_append, chainT, List.cons_append, List.append_assoc] at h1 ⊢
    refine h1.mono (G_prefix ?_)
    simp only [List.length_append, List.length_cons]; omega
  · rw [printableSlice_some hcn] at hp
    simp only [Bool.and_eq_true] at hp
    obtain ⟨⟨hoc, hpc⟩, hpcs⟩ := hp
    obtain ⟨x, xs', hx, hxs, rfl⟩ := strSliceL_cons hcn hs
    obtain ⟨y, ys, rfl, ih⟩ := htail xs' hxs hpcs
    refine ⟨_, _, rfl, ?_⟩
    have h1 := operand_plain (pos := .slicePart) (fun _ => rfl) (hgc hcn) hoc hpc hx (m := m) hm
      (not_absorbs_self rfl)
      (PL_colon (fin := finOf c) (Nat.le_of_lt_succ hm) (not_slice_of_okAt (Or.inl rfl) hoc hpc)
        ih hl)
    simp only [chainT, List.cons_append, List.append_assoc] at h1 ⊢
    refine h1.mono (G_le ?_ ?_) <;>
      simp only [G_one_eq, List.length_append, List.length_cons] <;> omega

theorem slice_tail : ∀ (c : Expr) (cs : List Expr) (xs : List Pieces),
    strSliceL S (c :: cs) = .ok xs →
    (∀ e ∈ c :: cs, e ≠ .const .none → Goal P S e) → PrintableSlice P S (c :: cs) = true →
    ∀ R, ¬ absorbs P P.slice R →
    ∃ x xs', xs = x :: xs' ∧
      PEok P (G 1 (toks x ++ chainT ":" xs').length) P.slice
        (toks x ++ chainT ":" xs' ++ R) (sliceNF (c :: cs), R)
  | c, [], xs, hs, hg, hp, R, hna => by
    obtain ⟨hoc, hpc⟩ := Bool.and_eq_true_iff.mp hp
    have hcn : c ≠ .const .none := by
      rintro rfl; cases hoc
    obtain ⟨x, xs', hx, hxs, rfl⟩ := strSliceL_cons hcn hs
    rw [strSliceL_nil hxs]
    refine ⟨_, _, rfl, ?_⟩
    have h1 := operand_plain (pos := .sliceLast) (fun _ => rfl) (hg c (List.mem_cons_self ..) hcn)
      hoc hpc hx (m := P.slice) (Nat.lt_succ_self _) hna (PL_stop hna)
    simp only [chainT, List.append_nil]
    exact h1
  | c, d :: ds, xs, hs, hg, hp, R, hna =>
    slice_step hs (hg c (List.mem_cons_self ..)) hp (Nat.lt_succ_self _)
      (fun xs' hxs hpt => slice_tail d ds xs' hxs (fun e he => hg e (List.mem_cons_of_mem _ he))
        hpt R hna)
      (PL_stop hna)

theorem slice_case {c d : Expr} {cs : List Expr} (hp : Printable P S (.slice (c :: d :: cs)) = true)
    (hg : ∀ e ∈ c :: d :: cs, e ≠ .const .none → Goal P S e) :
    Goal P S (.slice (c :: d :: cs)) := by
  have hp : PrintableSlice P S (c :: d :: cs) = true := hp
  intro enc ps hs m R res k hc hl
  obtain ⟨xs, hxs, htoks⟩ := strE_slice hs
  obtain ⟨x0, xs0, rfl⟩ : ∃ x0 xs0, xs = x0 :: xs0 := by
    by_cases hcn : c = .const .none
    · subst hcn; obtain ⟨xs', _, rfl⟩ := strSliceL_none hxs; exact ⟨_, _, rfl⟩
    · obtain ⟨x, xs', _, _, rfl⟩ := strSliceL_cons hcn hxs; exact ⟨_, _, rfl⟩
  rw [toks_joinWith (s := ":") rfl] at htoks
  refine goal_of_bare ?_ (fun _ h => Expr.noConfusion h) rfl htoks hc hl
  intro m R res k hgm hna hl
  obtain ⟨x, xs', hxeq, h⟩ := slice_step hxs (hg c (List.mem_cons_self ..)) hp hgm
    (fun xs' hxs' hpt => slice_tail d cs xs' hxs'
      (fun e he => hg e (List.mem_cons_of_mem _ he)) hpt R hna)
    (by rw [sliceNF_eq c d cs hp]; exact hl)
  obtain ⟨rfl, rfl⟩ := List.cons.inj hxeq
  exact h

theorem printableSlice_mem : ∀ {cs : List Expr}, PrintableSlice P S cs = true →
    ∀ e ∈ cs, e ≠ .const .none → Printable P S e = true
  | [], h, _, _, _ => by simp [PrintableSlice] at h
  | [c], h, e, he, _ => by
    simp only [PrintableSlice, Bool.and_eq_true] at h
    rcases List.mem_cons.mp he with rfl | he
    · exact h.2
    · cases he
  | c :: d :: ds, h, e, he, hn => by
    by_cases hcn : c = .const .none
    · subst hcn
      rw [printableSlice_none] at h
      rcases List.mem_cons.mp he with rfl | he
      · exact absurd rfl hn
      · exact printableSlice_mem h e he hn
    · rw [printableSlice_some hcn] at h
      simp only [Bool.and_eq_true] at h
      rcases List.mem_cons.mp he with rfl | he
      · exact h.1.2
      · exact printableSlice_mem h.2 e he hn

end PV.Syntax
