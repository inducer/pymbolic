import PV.Model.CCode
/-
  C14.  C's reading of a chain of binary operators (`c14EvalChain`: group around the last operator
  of the lowest precedence) against the TREE the printer had in mind.

  `exposedOps d` : the binary operators of the text of `d` that are not inside parentheses
  `cwf d`        : every infix node of `d` has, on its left, only exposed operators that bind at
                   least as tightly as its own, and on its right only operators that bind tighter
                   — or equally tightly where regrouping does not change the value
                   (`a + (b - c)`, `a * (b * c)`, `a & (b & c)`, `a && (b && c)`, …); a prefix
                   operator is applied to a primary
  `denT d`       : the value of `d` read as the tree it is
  `denC_eq_denT` : on well-formed structures C's reading is the tree's value.
-/
namespace PV.C14
open PV

/-! ### the operators -/

theorem prec_le_ten (o : COp) : o.prec ≤ 10 := by
  cases o with
  | cmp c => cases c <;> simp [COp.prec]
  | _ => simp [COp.prec]

theorem prec_pos (o : COp) : 1 ≤ o.prec := by
  cases o with
  | cmp c => cases c <;> simp [COp.prec]
  | _ => simp [COp.prec]

/-- `(x op y) o2 z = x op (y o2 z)` for these pairs of one precedence level -/
def assocPair : COp → COp → Bool
  | .plus, .plus | .plus, .minus | .times, .times | .band, .band | .bxor, .bxor | .bor, .bor
  | .land, .land | .lor, .lor => true
  | _, _ => false

/-- `&`, `^`, `|` of C on non-negative operands -/
def bitC (f : Nat → Nat → Nat) (a b : Int) : Option Int :=
  if a < 0 ∨ b < 0 then none else some (Int.ofNat (f a.toNat b.toNat))

theorem bitC_assoc (f : Nat → Nat → Nat) (hf : ∀ a b c, f (f a b) c = f a (f b c)) (a b c : Int) :
    (bitC f a b).bind (fun ab => bitC f ab c) = (bitC f b c).bind (fun bc => bitC f a bc) := by
  unfold bitC
  by_cases ha : a < 0
  · simp only [ha, true_or, if_true, Option.bind_none]
    split <;> rfl
  · by_cases hb : b < 0
    · simp [hb]
    · by_cases hc : c < 0
      · simp only [hc, or_true, if_true, Option.bind_none]
        split <;> simp
      · simp [ha, hb, hc, hf]
        rw [if_neg (by omega), if_neg (by omega)]

theorem applyL_band (x y : Option Int) :
    COp.applyL .band x y = x.bind fun a => y.bind fun b => bitC (· &&& ·) a b := by
  cases x <;> cases y <;> simp [COp.applyL, COp.apply, bitC]

theorem applyL_bxor (x y : Option Int) :
    COp.applyL .bxor x y = x.bind fun a => y.bind fun b => bitC (· ^^^ ·) a b := by
  cases x <;> cases y <;> simp [COp.applyL, COp.apply, bitC]

theorem applyL_bor (x y : Option Int) :
    COp.applyL .bor x y = x.bind fun a => y.bind fun b => bitC (· ||| ·) a b := by
  cases x <;> cases y <;> simp [COp.applyL, COp.apply, bitC]

theorem bind_assoc3 (g : Int → Int → Option Int)
    (hg : ∀ a b c, (g a b).bind (fun ab => g ab c) = (g b c).bind (fun bc => g a bc))
    (x y z : Option Int) :
    ((x.bind fun a => y.bind fun b => g a b).bind fun ab => z.bind fun c => g ab c) =
      x.bind fun a => (y.bind fun b => z.bind fun c => g b c).bind fun bc => g a bc := by
  cases x with
  | none => rfl
  | some a =>
    cases y with
    | none => rfl
    | some b =>
      cases z with
      | none =>
        simp only [Option.bind_some, Option.bind_none]
        cases g a b <;> rfl
      | some c => simpa using hg a b c

theorem assoc_applyL {op o2 : COp} (h : assocPair op o2 = true) (x y z : Option Int) :
    o2.applyL (op.applyL x y) z = op.applyL x (o2.applyL y z) := by
  cases op <;> cases o2 <;> simp [assocPair] at h
  -- plus plus
  · cases x <;> cases y <;> cases z <;> simp [COp.applyL, COp.apply, Int.add_assoc]
  -- plus minus
  · cases x <;> cases y <;> cases z <;> simp [COp.applyL, COp.apply]
    omega
  -- times times
  · cases x <;> cases y <;> cases z <;> simp [COp.applyL, COp.apply, Int.mul_assoc]
  -- band
  · simp only [applyL_band]
    exact bind_assoc3 _ (bitC_assoc (· &&& ·) Nat.and_assoc) x y z
  -- bxor
  · simp only [applyL_bxor]
    exact bind_assoc3 _ (bitC_assoc (· ^^^ ·) Nat.xor_assoc) x y z
  -- bor
  · simp only [applyL_bor]
    exact bind_assoc3 _ (bitC_assoc (· ||| ·) Nat.or_assoc) x y z
  -- land
  · cases x with
    | none => simp [COp.applyL]
    | some a =>
      by_cases ha : a = 0
      · simp [COp.applyL, ha]
      · cases y with
        | none => simp [COp.applyL, ha]
        | some b =>
          by_cases hb : b = 0
          · simp [COp.applyL, ha, hb, c14B2I]
          · cases z with
            | none => simp [COp.applyL, ha, hb, c14B2I]
            | some c => by_cases hc : c = 0 <;> simp [COp.applyL, ha, hb, hc, c14B2I]
  -- lor
  · cases x with
    | none => simp [COp.applyL]
    | some a =>
      by_cases ha : a = 0
      · cases y with
        | none => simp [COp.applyL, ha]
        | some b =>
          by_cases hb : b = 0
          · cases z with
            | none => simp [COp.applyL, ha, hb, c14B2I]
            | some c => by_cases hc : c = 0 <;> simp [COp.applyL, ha, hb, hc, c14B2I]
          · simp [COp.applyL, ha, hb, c14B2I]
      · simp [COp.applyL, ha]

/-! ### chains -/

theorem minPrec_le_of_mem : ∀ (r : CRest) (x : COp × Option Int), x ∈ r → c14MinPrec r ≤ x.1.prec
  | [], _, h => by cases h
  | (o, v) :: t, x, h => by
      simp only [List.mem_cons] at h
      simp only [c14MinPrec]
      rcases h with rfl | h
      · exact Nat.min_le_left _ _
      · exact Nat.le_trans (Nat.min_le_right _ _) (minPrec_le_of_mem t x h)

/-- `100` is `c14MinPrec []`, above every level (`prec_le_ten`) -/
theorem le_minPrec (m : Nat) (hm : m ≤ 100) : ∀ (r : CRest), (∀ x ∈ r, m ≤ x.1.prec) →
    m ≤ c14MinPrec r
  | [], _ => hm
  | (o, v) :: t, h => by
      simp only [c14MinPrec]
      exact Nat.le_min.mpr ⟨h (o, v) (by simp), le_minPrec m hm t (fun x hx => h x (by simp [hx]))⟩

theorem splitLast_none (m : Nat) : ∀ (r : CRest), (∀ x ∈ r, x.1.prec ≠ m) → c14SplitLast m r = none
  | [], _ => rfl
  | (o, v) :: t, h => by
      simp only [c14SplitLast, splitLast_none m t (fun x hx => h x (by simp [hx]))]
      have := h (o, v) (by simp)
      simp [this]

theorem splitLast_spec (m : Nat) : ∀ (r b : CRest) (o : COp) (v : Option Int) (a : CRest),
    c14SplitLast m r = some (b, o, v, a) →
    r = b ++ (o, v) :: a ∧ o.prec = m ∧ ∀ x ∈ a, x.1.prec ≠ m
  | [], b, o, v, a, h => by simp [c14SplitLast] at h
  | (o1, v1) :: t, b, o, v, a, h => by
      simp only [c14SplitLast] at h
      cases ht : c14SplitLast m t with
      | some w =>
        obtain ⟨b', o', v', a'⟩ := w
        simp only [ht, Option.some.injEq, Prod.mk.injEq] at h
        obtain ⟨rfl, rfl, rfl, rfl⟩ := h
        obtain ⟨h1, h2, h3⟩ := splitLast_spec m t b' o' v' a' ht
        exact ⟨by rw [h1]; rfl, h2, h3⟩
      | none =>
        simp only [ht] at h
        split at h
        · rename_i hp
          simp only [Option.some.injEq, Prod.mk.injEq] at h
          obtain ⟨rfl, rfl, rfl, rfl⟩ := h
          refine ⟨rfl, hp, ?_⟩
          intro x hx hxm
          -- an operator of precedence `m` in `t` would have been found
          have : ∀ (r : CRest), c14SplitLast m r = none → ∀ x ∈ r, x.1.prec ≠ m := by
            intro r
            induction r with
            | nil => intro _ x hx; cases hx
            | cons y ys ih =>
              intro hn x hx
              obtain ⟨o2, v2⟩ := y
              simp only [c14SplitLast] at hn
              cases hys : c14SplitLast m ys with
              | some w => simp [hys] at hn
              | none =>
                simp only [hys] at hn
                split at hn
                · cases hn
                · rename_i hne
                  simp only [List.mem_cons] at hx
                  rcases hx with rfl | hx
                  · exact hne
                  · exact ih hys x hx
          exact this _ ht x hx hxm
        · cases h

theorem splitLast_append (m : Nat) (b : CRest) : ∀ (a : CRest),
    c14SplitLast m (a ++ b) =
      match c14SplitLast m b with
      | some (b1, o, v, b2) => some (a ++ b1, o, v, b2)
      | none => (c14SplitLast m a).map fun w => (w.1, w.2.1, w.2.2.1, w.2.2.2 ++ b)
  | [] => by
      cases hb : c14SplitLast m b with
      | none => simp [c14SplitLast, hb]
      | some w => simp [hb]
  | (o, v) :: t => by
      simp only [List.cons_append, c14SplitLast, splitLast_append m b t]
      cases hb : c14SplitLast m b with
      | some w => simp
      | none =>
        simp only []
        cases ht : c14SplitLast m t with
        | some w => simp
        | none =>
          simp only [Option.map_none]
          split <;> simp

theorem evalChain_fuel : ∀ (n k : Nat) (f : Option Int) (r : CRest), r.length ≤ n → r.length ≤ k →
    c14EvalChain n f r = c14EvalChain k f r
  | _, _, f, [], _, _ => by
      unfold c14EvalChain
      rfl
  | 0, _, _, _ :: _, h, _ => by simp at h
  | _ + 1, 0, _, _ :: _, _, h => by simp at h
  | n + 1, k + 1, f, x :: t, hn, hk => by
      simp only [c14EvalChain]
      cases hs : c14SplitLast (c14MinPrec (x :: t)) (x :: t) with
      | none => rfl
      | some w =>
        obtain ⟨b, o, v, a⟩ := w
        obtain ⟨h1, _, _⟩ := splitLast_spec _ _ b o v a hs
        have hl : b.length + a.length + 1 = (x :: t).length := by
          rw [h1]
          simp only [List.length_append, List.length_cons]
          omega
        simp only [List.length_cons] at hl hn hk
        simp only []
        rw [evalChain_fuel n k f b (by omega) (by omega),
          evalChain_fuel n k v a (by omega) (by omega)]

theorem ev_nil (f : Option Int) : c14Ev (f, []) = f := by
  simp [c14Ev, c14EvalChain]

/-- a non-empty chain is grouped around the last operator of the lowest precedence -/
theorem ev_split (f : Option Int) (r b : CRest) (o : COp) (v : Option Int) (a : CRest)
    (hs : c14SplitLast (c14MinPrec r) r = some (b, o, v, a)) :
    c14Ev (f, r) = o.applyL (c14Ev (f, b)) (c14Ev (v, a)) := by
  obtain ⟨h1, _, _⟩ := splitLast_spec _ _ b o v a hs
  cases r with
  | nil => simp [c14SplitLast] at hs
  | cons x t =>
    have hl : b.length + a.length + 1 = (x :: t).length := by
      rw [h1]
      simp only [List.length_append, List.length_cons]
      omega
    simp only [List.length_cons] at hl
    simp only [c14Ev, List.length_cons, c14EvalChain, hs]
    rw [evalChain_fuel t.length b.length f b (by omega) (Nat.le_refl _),
      evalChain_fuel t.length a.length v a (by omega) (Nat.le_refl _)]

/-- the right operand of `op` may expose operators that bind tighter, or equally tight ones that
can be regrouped -/
def rightOK (op o : COp) : Bool := decide (op.prec < o.prec) || (o.prec == op.prec && assocPair op o)

/-- **C groups `‹chain 1› op ‹chain 2›` as `(‹chain 1›) op (‹chain 2›)`** when chain 1 exposes only
operators binding at least as tightly as `op` and chain 2 only operators binding tighter (or
regroupable ones of the same level). -/
theorem ev_cat (op : COp) : ∀ (n : Nat) (f1 : Option Int) (r1 : CRest) (f2 : Option Int)
    (r2 : CRest), r2.length ≤ n → (∀ x ∈ r1, op.prec ≤ x.1.prec) →
    (∀ x ∈ r2, rightOK op x.1 = true) →
    c14Ev (f1, r1 ++ (op, f2) :: r2) = op.applyL (c14Ev (f1, r1)) (c14Ev (f2, r2)) := by
  intro n
  induction n with
  | zero =>
    intro f1 r1 f2 r2 hn h1 _
    have : r2 = [] := List.eq_nil_of_length_eq_zero (Nat.le_zero.mp hn)
    subst this
    have hmin : c14MinPrec (r1 ++ [(op, f2)]) = op.prec := by
      apply Nat.le_antisymm
      · exact minPrec_le_of_mem _ (op, f2) (by simp)
      · apply le_minPrec _ (Nat.le_trans (prec_le_ten op) (by decide))
        intro x hx
        simp only [List.mem_append, List.mem_singleton] at hx
        rcases hx with hx | rfl
        · exact h1 x hx
        · exact Nat.le_refl _
    have hs : c14SplitLast (c14MinPrec (r1 ++ [(op, f2)])) (r1 ++ [(op, f2)]) =
        some (r1, op, f2, []) := by
      rw [hmin, splitLast_append]
      simp [c14SplitLast]
    rw [ev_split f1 _ r1 op f2 [] hs]
  | succ n ih =>
    intro f1 r1 f2 r2 hn h1 h2
    have h2' : ∀ x ∈ r2, op.prec ≤ x.1.prec := by
      intro x hx
      have := h2 x hx
      simp only [rightOK, Bool.or_eq_true, decide_eq_true_eq, Bool.and_eq_true, beq_iff_eq] at this
      rcases this with h | ⟨h, _⟩ <;> omega
    have hmin : c14MinPrec (r1 ++ (op, f2) :: r2) = op.prec := by
      apply Nat.le_antisymm
      · exact minPrec_le_of_mem _ (op, f2) (by simp)
      · apply le_minPrec _ (Nat.le_trans (prec_le_ten op) (by decide))
        intro x hx
        simp only [List.mem_append, List.mem_cons] at hx
        rcases hx with hx | rfl | hx
        · exact h1 x hx
        · exact Nat.le_refl _
        · exact h2' x hx
    cases hs2 : c14SplitLast op.prec r2 with
    | none =>
      have hs : c14SplitLast (c14MinPrec (r1 ++ (op, f2) :: r2)) (r1 ++ (op, f2) :: r2) =
          some (r1, op, f2, r2) := by
        rw [hmin, splitLast_append]
        simp [c14SplitLast, hs2]
      rw [ev_split f1 _ r1 op f2 r2 hs]
    | some w =>
      obtain ⟨b, o2, v, a⟩ := w
      obtain ⟨hr2, hp2, _⟩ := splitLast_spec _ _ b o2 v a hs2
      have hs : c14SplitLast (c14MinPrec (r1 ++ (op, f2) :: r2)) (r1 ++ (op, f2) :: r2) =
          some (r1 ++ (op, f2) :: b, o2, v, a) := by
        rw [hmin, splitLast_append]
        simp [c14SplitLast, hs2]
      rw [ev_split f1 _ _ o2 v a hs]
      have hlen : b.length ≤ n := by
        rw [hr2] at hn
        simp only [List.length_append, List.length_cons] at hn
        omega
      have hb : ∀ x ∈ b, rightOK op x.1 = true := by
        intro x hx
        exact h2 x (by rw [hr2]; simp [hx])
      rw [ih f1 r1 f2 b hlen h1 hb]
      have hmin2 : c14MinPrec r2 = op.prec := by
        apply Nat.le_antisymm
        · have := minPrec_le_of_mem r2 (o2, v) (by rw [hr2]; simp)
          simpa [hp2] using this
        · exact le_minPrec _ (Nat.le_trans (prec_le_ten op) (by decide)) r2 h2'
      have hs2' : c14SplitLast (c14MinPrec r2) r2 = some (b, o2, v, a) := by rw [hmin2]; exact hs2
      rw [ev_split f2 r2 b o2 v a hs2']
      have ho2 := h2 (o2, v) (by rw [hr2]; simp)
      simp only [rightOK, Bool.or_eq_true, decide_eq_true_eq, Bool.and_eq_true, beq_iff_eq] at ho2
      rcases ho2 with h | ⟨_, h⟩
      · omega
      · exact assoc_applyL h _ _ _

/-! ### printed structures -/

/-- the binary operators of the text of `d` that are not inside parentheses -/
def exposedOps : Doc → List COp
  | .bin l op r => exposedOps l ++ op :: exposedOps r
  | .un _ d => exposedOps d
  | _ => []

theorem ops_chainOf (env : Env) : ∀ d : Doc, (chainOf env d).2.map (·.1) = exposedOps d
  | .lit _ | .var _ | .atom _ | .paren _ | .tern .. | .call2 .. => by simp [chainOf, exposedOps]
  | .bin l op r => by
      simp [chainOf, exposedOps, ops_chainOf env l, ops_chainOf env r]
  | .un _ d => by simp [chainOf, exposedOps, ops_chainOf env d]

theorem mem_chain_ops (env : Env) (d : Doc) (x : COp × Option Int) (h : x ∈ (chainOf env d).2) :
    x.1 ∈ exposedOps d := by
  rw [← ops_chainOf env d]
  exact List.mem_map.mpr ⟨x, h, rfl⟩

def fitsL (op : COp) (d : Doc) : Bool := (exposedOps d).all fun o => decide (op.prec ≤ o.prec)

def fitsR (op : COp) (d : Doc) : Bool := (exposedOps d).all fun o => rightOK op o

/-- the text of the structure, read by C, groups as the structure does (up to regrouping of
`+`/`-`, `*`, `&`, `^`, `|`, `&&`, `||` chains) -/
def cwf : Doc → Bool
  | .bin l op r => cwf l && cwf r && fitsL op l && fitsR op r
  | .un _ d => cwf d && (exposedOps d).isEmpty
  | .paren d => cwf d
  | .tern c t e => cwf c && cwf t && cwf e
  | .call2 _ a b => cwf a && cwf b
  | _ => true

/-- the value of the structure read as a tree -/
def denT (env : Env) : Doc → Option Int
  | .lit n => some n
  | .var x => envInt env x
  | .atom _ => none
  | .paren d => denT env d
  | .bin l op r => op.applyL (denT env l) (denT env r)
  | .un op d => op.apply (denT env d)
  | .tern c t e => c14Tern (denT env c) (denT env t) (denT env e)
  | .call2 f a b => c14Call2 f (denT env a) (denT env b)

/-- **On well-formed structures C's reading of the text is the value of the tree.** -/
theorem denC_eq_denT (env : Env) : ∀ d : Doc, cwf d = true → denC env d = denT env d
  | .lit _, _ => by simp [denC, chainOf, ev_nil, denT]
  | .var _, _ => by simp [denC, chainOf, ev_nil, denT]
  | .atom _, _ => by simp [denC, chainOf, ev_nil, denT]
  | .paren d, h => by
      simp only [cwf] at h
      have := denC_eq_denT env d h
      simp only [denC] at this
      simp [denC, chainOf, ev_nil, denT, this]
  | .tern c t e, h => by
      simp only [cwf, Bool.and_eq_true] at h
      have h1 := denC_eq_denT env c h.1.1
      have h2 := denC_eq_denT env t h.1.2
      have h3 := denC_eq_denT env e h.2
      simp only [denC] at h1 h2 h3
      simp [denC, chainOf, ev_nil, denT, h1, h2, h3]
  | .call2 f a b, h => by
      simp only [cwf, Bool.and_eq_true] at h
      have h1 := denC_eq_denT env a h.1
      have h2 := denC_eq_denT env b h.2
      simp only [denC] at h1 h2
      simp [denC, chainOf, ev_nil, denT, h1, h2]
  | .un op d, h => by
      simp only [cwf, Bool.and_eq_true, List.isEmpty_iff] at h
      have h1 := denC_eq_denT env d h.1
      have hnil : (chainOf env d).2 = [] := by
        have := ops_chainOf env d
        rw [h.2] at this
        exact List.map_eq_nil_iff.mp this
      simp only [denC, c14Ev, hnil, List.length_nil] at h1
      simp only [denC, chainOf, c14Ev, hnil, List.length_nil, denT]
      simp only [c14EvalChain] at h1 ⊢
      rw [h1]
  | .bin l op r, h => by
      simp only [cwf, Bool.and_eq_true, fitsL, fitsR, List.all_eq_true, decide_eq_true_eq] at h
      obtain ⟨⟨⟨hl, hr⟩, hfl⟩, hfr⟩ := h
      have h1 := denC_eq_denT env l hl
      have h2 := denC_eq_denT env r hr
      simp only [denC] at h1 h2
      simp only [denC, chainOf, denT]
      rw [ev_cat op (chainOf env r).2.length (chainOf env l).1 (chainOf env l).2 (chainOf env r).1
        (chainOf env r).2 (Nat.le_refl _)
        (fun x hx => hfl x.1 (mem_chain_ops env l x hx))
        (fun x hx => hfr x.1 (mem_chain_ops env r x hx))]
      rw [← h1, ← h2]

end PV.C14
