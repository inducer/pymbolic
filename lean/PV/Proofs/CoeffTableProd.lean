import PV.Proofs.CoeffTableColl
/-
  C15, T-gen tie, part 1b: `CoefficientCollector.map_product` as read from the source — the search
  for the child with variables (raising on a second one), the product of the other children with
  its `assert`, the dictionary comprehension — is `splitVars` / `otherCoeffs` / `scaleLeft`.
-/
namespace PV.Coeff
open PV

/-! ### the first loop as a function, and `splitVars` -/

/-- `if k != 1: (raise if another child was seen); idx = i` -/
def scanStep (i : Nat) (cur : Option Nat) (k : Expr) : CR (Option Nat) :=
  if k.pyEq one then pure cur
  else match cur with
    | some j => if j ≠ i then throw .nonlinear else pure (some i)
    | none => pure (some i)

/-- `for k in child_coeffs: if k != 1: (raise if another child was seen); idx = i` -/
def scanInner (i : Nat) : Option Nat → Dict → CR (Option Nat)
  | cur, [] => pure cur
  | cur, (k, _) :: rest =>
    if k.pyEq one then scanInner i cur rest
    else match cur with
      | some j => if j ≠ i then throw .nonlinear else scanInner i (some i) rest
      | none => scanInner i (some i) rest

theorem scanInner_cons (i : Nat) (cur : Option Nat) (k c : Expr) (rest : Dict) :
    scanInner i cur ((k, c) :: rest) = scanStep i cur k >>= fun cur' => scanInner i cur' rest := by
  simp only [scanInner, scanStep]
  cases k.pyEq one
  · cases cur with
    | none => rfl
    | some j =>
      simp only [Bool.false_eq_true, if_false]
      by_cases hj : j ≠ i
      · rw [if_pos hj, if_pos hj]; rfl
      · rw [if_neg hj, if_neg hj]; rfl
  · rfl

def scanOuter : Nat → Option Nat → List Dict → CR (Option Nat)
  | _, cur, [] => pure cur
  | i, cur, d :: ds => do
      let c ← scanInner i cur d
      scanOuter (i + 1) c ds

theorem scanInner_same (i : Nat) : ∀ d : Dict, scanInner i (some i) d = .ok (some i)
  | [] => rfl
  | (k, c) :: rest => by
    simp only [scanInner, ne_eq, not_true_eq_false, if_false, scanInner_same i rest, ite_self]

/-- one child: a dictionary with a variable key sets the index, and raises if it is set already -/
theorem scanInner_spec (i : Nat) : ∀ (d : Dict) (cur : Option Nat),
    scanInner i cur d =
      if hasVarKey d then
        (match cur with
          | some j => if j ≠ i then .error .nonlinear else .ok (some i)
          | none => .ok (some i))
      else .ok cur
  | [], cur => rfl
  | (k, c) :: rest, cur => by
    have hv : hasVarKey ((k, c) :: rest) = (!k.pyEq one || hasVarKey rest) := rfl
    simp only [hv, scanInner]
    cases hk : k.pyEq one
    · simp only [Bool.false_eq_true, if_false, Bool.not_false, Bool.true_or, if_true]
      cases cur with
      | none => exact scanInner_same i rest
      | some j =>
        by_cases hj : j = i
        · simp only [hj, ne_eq, not_true_eq_false, if_false]; exact scanInner_same i rest
        · simp only [ne_eq, hj, not_false_eq_true, if_true]; rfl
    · simp only [if_true, Bool.not_true, Bool.false_or]
      exact scanInner_spec i rest cur

def noVars (ds : List Dict) : Bool := ds.all fun d => !hasVarKey d

theorem noVars_iff {ds : List Dict} : noVars ds = true ↔ ds.filter hasVarKey = [] := by
  simp only [noVars, List.all_eq_true, List.filter_eq_nil_iff, Bool.not_eq_true', Bool.not_eq_true]

/-- once the index is set, a further dictionary with a variable key raises -/
theorem scanOuter_some : ∀ (ds : List Dict) (i j : Nat), j < i →
    scanOuter i (some j) ds = if noVars ds then .ok (some j) else .error .nonlinear
  | [], i, j, _ => rfl
  | d :: ds, i, j, hji => by
    have hn : noVars (d :: ds) = (!hasVarKey d && noVars ds) := rfl
    rw [scanOuter, scanInner_spec, hn]
    cases hasVarKey d
    · exact scanOuter_some ds (i + 1) j (Nat.lt_succ_of_lt hji)
    · simp only [if_true, ne_eq, Nat.ne_of_lt hji, not_false_eq_true]
      rfl

theorem splitVars_noVars : ∀ ds : List Dict, noVars ds = true → splitVars ds = .ok (none, ds) :=
  fun _ h => splitVars_ok.2 ⟨noVars_iff.1 h, List.filter_eq_self.2 (List.all_eq_true.1 h)⟩

/-- the first loop of `map_product` against the model's `splitVars` -/
theorem scanOuter_splitVars : ∀ (ds : List Dict) (i : Nat),
    match splitVars ds with
    | .error e => e = .nonlinear ∧ scanOuter i none ds = .error .nonlinear
    | .ok (none, os) => scanOuter i none ds = .ok none ∧ os = ds
    | .ok (some d, os) => ∃ p, scanOuter i none ds = .ok (some (i + p)) ∧ ds[p]? = some d ∧
        os = ds.eraseIdx p
  | [], i => ⟨rfl, rfl⟩
  | d :: ds, i => by
    have ih := scanOuter_splitVars ds (i + 1)
    rw [scanOuter, scanInner_spec, splitVars]
    cases hv : hasVarKey d
    · -- `d` has no variable key: it goes to the other children, the index moves by one
      cases hsp : splitVars ds with
      | error e =>
        rw [hsp] at ih
        exact ih
      | ok vo =>
        obtain ⟨v, os⟩ := vo
        rw [hsp] at ih
        cases v with
        | none => exact ⟨ih.1, congrArg (d :: ·) ih.2⟩
        | some dv =>
          obtain ⟨p, hs, hp, hos⟩ := ih
          exact ⟨p + 1, (Nat.add_right_comm i 1 p ▸ hs :), hp, congrArg (d :: ·) hos⟩
    · -- `d` has one: it is the child with variables iff no later child has one
      have hso := scanOuter_some ds (i + 1) i (Nat.lt_succ_self i)
      cases hsp : splitVars ds with
      | error e =>
        rw [hsp] at ih
        have hn : noVars ds = false := Bool.eq_false_iff.2 fun h => by
          rw [splitVars_noVars ds h] at hsp; cases hsp
        rw [hn] at hso
        exact ⟨ih.1, hso⟩
      | ok vo =>
        obtain ⟨v, os⟩ := vo
        have hf := (splitVars_ok.1 hsp).1
        rw [hsp] at ih
        cases v with
        | none =>
          rw [noVars_iff.2 hf] at hso
          exact ⟨0, hso, rfl, ih.2⟩
        | some dv =>
          have hn : noVars ds = false := Bool.eq_false_iff.2 fun h => by
            rw [noVars_iff.1 h] at hf; cases hf
          rw [hn] at hso
          exact ⟨rfl, hso⟩

/-! ### the second loop as a function, and `otherCoeffs` -/

/-- `if i != idx: assert len(child_coeffs) == 1; other *= child_coeffs[1]` -/
def otherStep (idx : Option Nat) (i : Nat) (acc : Expr) (d : Dict) : CR Expr :=
  if idx = some i then pure acc
  else if d.length != 1 then throw .assertion
  else match d.find one with
    | none => throw .keyError
    | some c => pyBin .mul acc c

/-- `for i, child_coeffs in enumerate(children_coeffs): if i != idx: assert …; other *= …[1]` -/
def otherLoop (idx : Option Nat) : Nat → Expr → List Dict → CR Expr
  | _, acc, [] => pure acc
  | i, acc, d :: ds =>
    if idx = some i then otherLoop idx (i + 1) acc ds
    else if d.length != 1 then throw .assertion
    else match d.find one with
      | none => throw .keyError
      | some c => do
          let acc' ← pyBin .mul acc c
          otherLoop idx (i + 1) acc' ds

theorem otherLoop_cons (idx : Option Nat) (i : Nat) (acc : Expr) (d : Dict) (ds : List Dict) :
    otherLoop idx i acc (d :: ds) = otherStep idx i acc d >>= fun acc' => otherLoop idx (i + 1) acc' ds := by
  simp only [otherLoop, otherStep]
  split
  · rfl
  · split
    · rfl
    · split <;> rfl

/-- a child that is not the one with variables is treated as by `otherCoeffs` -/
theorem otherLoop_out (idx : Option Nat) : ∀ (ds : List Dict) (i : Nat) (acc : Expr),
    (∀ j, idx = some j → j < i) → otherLoop idx i acc ds = otherCoeffs acc ds
  | [], i, acc, _ => rfl
  | d :: ds, i, acc, h => by
    have hne : idx ≠ some i := fun he => Nat.lt_irrefl i (h i he)
    have ih := fun acc' => otherLoop_out idx ds (i + 1) acc' fun j hj => Nat.lt_succ_of_lt (h j hj)
    simp only [otherLoop, otherCoeffs, hne, if_false, ih]
    rfl

/-- the second loop skips the child at the index the first loop found -/
theorem otherLoop_at : ∀ (ds : List Dict) (i p : Nat) (acc : Expr),
    otherLoop (some (i + p)) i acc ds = otherCoeffs acc (ds.eraseIdx p)
  | [], i, p, acc => rfl
  | d :: ds, i, 0, acc => by
    show otherLoop (some i) i acc (d :: ds) = _
    rw [otherLoop, if_pos rfl]
    exact otherLoop_out _ ds (i + 1) acc fun j hj => Option.some.inj hj ▸ Nat.lt_succ_self i
  | d :: ds, i, p + 1, acc => by
    have hne : some (i + (p + 1)) ≠ some i := fun h => by simp at h
    have ih := fun acc' => (Nat.add_right_comm i 1 p ▸ otherLoop_at ds (i + 1) p acc' :
      otherLoop (some (i + (p + 1))) (i + 1) acc' ds = _)
    simp only [otherLoop, otherCoeffs, List.eraseIdx_cons_succ, hne, if_false, ih]
    rfl
/-! ### the loops of `map_product` as the interpreter runs them -/

def idxVal : Option Nat → C15Val
  | none => .none
  | some j => .int j

def expScanInner : List C15S := [
  .ifThen (.cmp .ne (.var "k") (.lit 1)) [
    .ifThen (.and_ (.isNot (.var "idx_of_child_with_vars") .pyNone)
        (.cmp .ne (.var "idx_of_child_with_vars") (.var "i")))
      [.raise_ "RuntimeError" "nonlinear expression"] [],
    .assign (.name "idx_of_child_with_vars") (.var "i")] []]

def expScanOuter : List C15S := [.forIn (.name "k") (.var "child_coeffs") expScanInner]

/-- `a != b` on two naturals stored as Python ints -/
theorem ne_cast (a b : Nat) : (!((a : Int) == (b : Int))) = decide (a ≠ b) := by
  by_cases h : a = b
  · simp [h]
  · have : (a : Int) ≠ (b : Int) := by omega
    simp [h, this]

theorem scan_inner_step (ctx : C15Ctx) (st : C15Env) (cur : Option Nat) (i : Nat) (k : Expr)
    (hidx : c15Get "idx_of_child_with_vars" st = some (idxVal cur))
    (hi : c15Get "i" st = some (.int i)) (hk : c15Get "k" st = some (.ex k)) :
    Sim (scanStep i cur k) (C15S.execL ctx expScanInner st)
      fun cur' st' => c15Get "idx_of_child_with_vars" st' = some (idxVal cur') ∧
        Frame ["idx_of_child_with_vars"] st st' := by
  have hc1 : c15Cond ctx (.cmp .ne (.var "k") (.lit 1)) st = .ok (!k.pyEq one) := by
    simp [c15Cond, hk, bind, Except.bind, pure, Except.pure, c15Cmp, c15ValEq, C15Val.toExpr?, c15Truthy, one]
  have hc2 : c15Cond ctx (.and_ (.isNot (.var "idx_of_child_with_vars") .pyNone)
      (.cmp .ne (.var "idx_of_child_with_vars") (.var "i"))) st =
      .ok (match cur with | some j => decide (j ≠ i) | none => false) := by
    cases cur with
    | none => simp [c15Cond, hidx, idxVal, bind, Except.bind, pure, Except.pure, c15Is, c15Truthy]
    | some j =>
      simp [c15Cond, hidx, hi, idxVal, bind, Except.bind, pure, Except.pure, c15Is, c15Truthy, c15Cmp,
        c15ValEq, ne_cast]
  have hset : Sim (pure (some i) : CR (Option Nat))
      (C15S.execL ctx [.assign (.name "idx_of_child_with_vars") (.var "i")] st)
      fun cur' st' => c15Get "idx_of_child_with_vars" st' = some (idxVal cur') ∧
        Frame ["idx_of_child_with_vars"] st st' := by
    rw [execL_assign ctx _ _ _ _ _ (eval_var ctx _ st _ hi)]
    exact ⟨_, rfl, c15Get_set_eq _ _ _, (Frame.refl _ _).set _ (by simp)⟩
  simp only [expScanInner, execL_single, exec_ifThen, hc1, scanStep]
  by_cases hk1 : k.pyEq one = true
  · simp only [hk1, Bool.not_true, if_true]
    exact ⟨st, rfl, hidx, Frame.refl _ _⟩
  · simp only [hk1, Bool.not_false, Bool.false_eq_true, if_false]
    rw [execL_guard ctx _ _ _ _ _ _ hc2]
    cases cur with
    | none => exact hset
    | some j =>
      by_cases hj : j = i
      · simpa [hj] using hset
      · simp [hj, Sim, SimO, c15ErrOf, throw, throwThe, MonadExceptOf.throw]

/-- the variables the first loop writes -/
def scanVars : List String := ["k", "idx_of_child_with_vars", "i", "child_coeffs"]

theorem scan_inner_loop (ctx : C15Ctx) (i : Nat) : ∀ (d : Dict) (st : C15Env) (cur : Option Nat),
    c15Get "idx_of_child_with_vars" st = some (idxVal cur) → c15Get "i" st = some (.int i) →
    Sim (scanInner i cur d) (c15For (forStep ctx (.name "k") expScanInner) (d.map fun kc => .ex kc.1) st)
      fun cur' st' => c15Get "idx_of_child_with_vars" st' = some (idxVal cur') ∧ Frame scanVars st st'
  | [], st, cur, hidx, hi => ⟨st, rfl, hidx, Frame.refl _ _⟩
  | (k, c) :: rest, st, cur, hidx, hi => by
    rw [scanInner_cons]
    refine Sim.iter (scan_inner_step ctx (c15Set "k" (.ex k) st) cur i k (by simp [c15Get_set, hidx])
      (by simp [c15Get_set, hi]) (c15Get_set_eq _ _ _)) ?_
    rintro cur' st' ⟨h1, h2⟩
    have hfr : Frame scanVars st st' :=
      (((Frame.refl _ _).set _ (by simp [scanVars])).trans (h2.mono (by decide +kernel)))
    refine (scan_inner_loop ctx i rest st' cur' h1
      ((h2 _ (by simp)).trans (by simp [c15Get_set, hi]))).mono ?_
    rintro cur'' st'' ⟨g1, g2⟩
    exact ⟨g1, hfr.trans g2⟩

theorem scan_outer_loop (ctx : C15Ctx) : ∀ (ds : List Dict) (i0 : Nat) (st : C15Env) (cur : Option Nat),
    c15Get "idx_of_child_with_vars" st = some (idxVal cur) →
    Sim (scanOuter i0 cur ds)
      (c15For (forStep ctx (.tup2 (.name "i") (.name "child_coeffs")) expScanOuter)
        (c15Enum i0 (ds.map .dict)) st)
      fun cur' st' => c15Get "idx_of_child_with_vars" st' = some (idxVal cur') ∧ Frame scanVars st st'
  | [], i0, st, cur, hidx => ⟨st, rfl, hidx, Frame.refl _ _⟩
  | d :: ds, i0, st, cur, hidx => by
    have hfr1 : Frame scanVars st (c15Set "child_coeffs" (.dict d) (c15Set "i" (.int i0) st)) :=
      ((Frame.refl _ _).set _ (by simp [scanVars])).set _ (by simp [scanVars])
    have hstep : Sim (scanInner i0 cur d)
        (forStep ctx (.tup2 (.name "i") (.name "child_coeffs")) expScanOuter (.pair (.int i0) (.dict d)) st)
        fun cur' st' => c15Get "idx_of_child_with_vars" st' = some (idxVal cur') ∧
          Frame scanVars (c15Set "child_coeffs" (.dict d) (c15Set "i" (.int i0) st)) st' := by
      have hit : (C15E.var "child_coeffs").eval ctx (c15Set "child_coeffs" (.dict d)
          (c15Set "i" (.int i0) st)) = .ok (.dict d) := eval_var ctx _ _ _ (c15Get_set_eq _ _ _)
      simp only [forStep, c15Bind, Option.bind, expScanOuter, execL_single, exec_forIn, hit, c15Items]
      exact scan_inner_loop ctx i0 d _ cur (by simp [c15Get_set, hidx]) (by simp [c15Get_set])
    refine Sim.iter hstep ?_
    rintro c1 st1 ⟨h1, h2⟩
    refine (scan_outer_loop ctx ds (i0 + 1) st1 c1 h1).mono ?_
    rintro c2 st2 ⟨g1, g2⟩
    exact ⟨g1, (hfr1.trans h2).trans g2⟩

/-- the value of `other_coeffs`: the int literal it starts with, or a stored coefficient -/
def Scal (v : C15Val) (acc : Expr) : Prop :=
  v = .ex acc ∨ ∃ n : Int, v = .int n ∧ acc = .const (.int n)

theorem c15Bin_scal_ex (st : C15Env) (op : C15BinOp) (v : C15Val) (acc c : Expr) (h : Scal v acc) :
    c15Bin st op v (.ex c) = (c15LiftCR (pyBin op.py acc c)).map .ex := by
  rcases h with rfl | ⟨n, rfl, rfl⟩
  · exact c15Bin_ex_ex st op acc c
  · simp only [c15Bin, c15Deref, C15Val.toExpr?]
    cases pyBin op.py (.const (.int n)) c <;> rfl

def expOther : List C15S := [
  .ifThen (.cmp .ne (.var "i") (.var "idx_of_child_with_vars")) [
    .assert_ (.cmp .eq (.call "len" [.var "child_coeffs"]) (.lit 1)),
    .aug "other_coeffs" .mul (.index (.var "child_coeffs") (.lit 1))] []]

def otherVars : List String := ["i", "child_coeffs", "other_coeffs"]

/-- what the second loop keeps about `other_coeffs` -/
def OtherInv (st0 : C15Env) (acc : Expr) (st : C15Env) : Prop :=
  (∃ v, c15Get "other_coeffs" st = some v ∧ Scal v acc) ∧ Frame otherVars st0 st

theorem other_step (ctx : C15Ctx) (st : C15Env) (idx : Option Nat) (i : Nat) (d : Dict) (v : C15Val)
    (acc : Expr) (hidx : c15Get "idx_of_child_with_vars" st = some (idxVal idx))
    (hi : c15Get "i" st = some (.int i)) (hd : c15Get "child_coeffs" st = some (.dict d))
    (hv : c15Get "other_coeffs" st = some v) (hs : Scal v acc) :
    Sim (otherStep idx i acc d) (C15S.execL ctx expOther st) (OtherInv st) := by
  have hne : c15Cond ctx (.cmp .ne (.var "i") (.var "idx_of_child_with_vars")) st
      = .ok (!(decide (idx = some i))) := by
    cases idx with
    | none => simp [c15Cond, hi, hidx, idxVal, bind, Except.bind, pure, Except.pure, c15Cmp, c15ValEq, c15Truthy]
    | some j =>
      simp [c15Cond, hi, hidx, idxVal, bind, Except.bind, pure, Except.pure, c15Cmp, c15ValEq, c15Truthy,
        ne_cast, eq_comm]
  have hlen : c15Cond ctx (.cmp .eq (.call "len" [.var "child_coeffs"]) (.lit 1)) st
      = .ok (d.length == 1) := by
    have : ((d.length : Int) == 1) = (d.length == 1) := by
      by_cases h : d.length = 1
      · simp [h]
      · have : (d.length : Int) ≠ 1 := by omega
        rw [beq_eq_false_iff_ne.2 this, beq_eq_false_iff_ne.2 h]
    simp [c15Cond, hd, bind, Except.bind, pure, Except.pure, c15Builtin, c15Cmp, c15ValEq, c15Truthy, this]
  simp only [expOther, execL_single, exec_ifThen, hne, otherStep]
  by_cases hii : idx = some i
  · simp only [hii, decide_true, Bool.not_true, if_true]
    exact ⟨st, rfl, ⟨v, hv, hs⟩, Frame.refl _ _⟩
  · simp only [hii, decide_false, Bool.not_false, if_false, execL_cons, exec_assert, hlen]
    by_cases hl : d.length = 1
    · have hl' : (d.length != 1) = false := by simp [hl]
      simp only [hl, beq_self_eq_true, exec_aug, hv]
      have hix : (C15E.index (.var "child_coeffs") (.lit 1)).eval ctx st =
          match d.find one with | some c => .ok (.ex c) | none => .error (.py .keyError) := by
        simp only [eval_index, eval_var ctx _ st _ hd, eval_lit, bind, Except.bind, C15Val.toExpr?, one]
        cases d.find (.const (.int 1)) <;> rfl
      rw [hix]
      cases d.find one with
      | none => rfl
      | some c =>
        simp only [bind, Except.bind, c15Bin_scal_ex st .mul v acc c hs, C15BinOp.py]
        cases pyBin .mul acc c with
        | error e => rfl
        | ok acc' =>
          exact ⟨_, rfl, ⟨_, c15Get_set_eq _ _ _, Or.inl rfl⟩, (Frame.refl _ _).set _ (by simp [otherVars])⟩
    · have hl' : (d.length != 1) = true := by simp [hl]
      have hl'' : (d.length == 1) = false := by simp [hl]
      simp only [hl', hl'', if_true]
      rfl

theorem other_loop (ctx : C15Ctx) (idx : Option Nat) : ∀ (ds : List Dict) (i0 : Nat) (st : C15Env)
    (v : C15Val) (acc : Expr),
    c15Get "idx_of_child_with_vars" st = some (idxVal idx) →
    c15Get "other_coeffs" st = some v → Scal v acc →
    Sim (otherLoop idx i0 acc ds)
      (c15For (forStep ctx (.tup2 (.name "i") (.name "child_coeffs")) expOther) (c15Enum i0 (ds.map .dict)) st)
      (OtherInv st)
  | [], i0, st, v, acc, hidx, hv, hs => ⟨st, rfl, ⟨v, hv, hs⟩, Frame.refl _ _⟩
  | d :: ds, i0, st, v, acc, hidx, hv, hs => by
    have hfr1 : Frame otherVars st (c15Set "child_coeffs" (.dict d) (c15Set "i" (.int i0) st)) :=
      ((Frame.refl _ _).set _ (by simp [otherVars])).set _ (by simp [otherVars])
    rw [otherLoop_cons]
    refine Sim.iter (other_step ctx (c15Set "child_coeffs" (.dict d) (c15Set "i" (.int i0) st)) idx i0 d v acc
      (by simp [c15Get_set, hidx]) (by simp [c15Get_set]) (c15Get_set_eq _ _ _)
      (by simp [c15Get_set, hv]) hs) ?_
    rintro acc1 st1 ⟨⟨v1, hv1, hs1⟩, hfr2⟩
    have hfr : Frame otherVars st st1 := hfr1.trans hfr2
    refine (other_loop ctx idx ds (i0 + 1) st1 v1 acc1
      ((hfr _ (by simp [otherVars])).trans hidx) hv1 hs1).mono ?_
    rintro acc' st' ⟨g1, g2⟩
    exact ⟨g1, hfr.trans g2⟩

/-! ### the dictionary comprehension -/

theorem dictSet_append : ∀ (acc : Dict) (k v : Expr), (∀ a ∈ acc, a.1.pyEq k = false) →
    c15DictSet acc k v = acc ++ [(k, v)]
  | [], k, v, _ => rfl
  | (k', c') :: rest, k, v, h => by
    have h1 : k'.pyEq k = false := h (k', c') (by simp)
    simp only [c15DictSet, h1, Bool.false_eq_true, if_false, List.cons_append]
    rw [dictSet_append rest k v (fun a ha => h a (by simp [ha]))]

/-- one step of `{var: other_coeffs*coeff for var, coeff in D.items()}` -/
def compStep (ctx : C15Ctx) (st : C15Env) : Dict → C15Val → C15R Dict :=
  dictCompStep ctx (.var "var") (.bin .mul (.var "other_coeffs") (.var "coeff"))
    (.tup2 (.name "var") (.name "coeff")) st

theorem comp_step (ctx : C15Ctx) (st : C15Env) (v : C15Val) (other : Expr)
    (hv : c15Get "other_coeffs" st = some v) (hs : Scal v other) (acc : Dict) (k c : Expr) :
    compStep ctx st acc (.pair (.ex k) (.ex c)) =
      (c15LiftCR (pyBin .mul other c)).map fun c' => c15DictSet acc k c' := by
  have hb := c15Bin_scal_ex (c15Set "coeff" (.ex c) (c15Set "var" (.ex k) st)) .mul v other c hs
  simp only [compStep, dictCompStep, c15Bind, Option.bind, eval_var_get, eval_bin, c15Get_set, String.reduceEq,
    ↓reduceIte, hv, bind, Except.bind, hb, C15BinOp.py]
  cases pyBin .mul other c <;> rfl

theorem comp_fold (ctx : C15Ctx) (st : C15Env) (v : C15Val) (other : Expr)
    (hv : c15Get "other_coeffs" st = some v) (hs : Scal v other) :
    ∀ (rest acc : Dict), (∀ a ∈ acc, ∀ b ∈ rest, a.1.pyEq b.1 = false) → DictOK rest →
      List.foldlM (compStep ctx st) acc (itemsOf rest) =
        (c15LiftCR (scaleLeft other rest)).map (acc ++ ·)
  | [], acc, _, _ => by simp [itemsOf, scaleLeft, c15LiftCR, Except.map, pure, Except.pure]
  | (k, c) :: rest, acc, hacc, hok => by
    have hok' := List.pairwise_cons.1 hok
    simp only [itemsOf, List.map_cons, List.foldlM_cons, comp_step ctx st v other hv hs, scaleLeft,
      bind, Except.bind]
    cases hm : pyBin .mul other c with
    | error e => simp [c15LiftCR, Except.map]
    | ok c' =>
      have hset : c15DictSet acc k c' = acc ++ [(k, c')] :=
        dictSet_append acc k c' (fun a ha => hacc a ha (k, c) (by simp))
      simp only [c15LiftCR, Except.map, hset]
      have ih := comp_fold ctx st v other hv hs rest (acc ++ [(k, c')]) (by
        intro a ha b hb
        simp only [List.mem_append, List.mem_singleton] at ha
        rcases ha with ha | rfl
        · exact hacc a ha b (by simp [hb])
        · exact hok'.1 b hb) hok'.2
      simp only [itemsOf] at ih
      rw [ih]
      cases scaleLeft other rest <;> simp [c15LiftCR, Except.map, pure, Except.pure]

/-! ### `map_product` -/

def expProdComp : C15E :=
  .dictComp (.var "var") (.bin .mul (.var "other_coeffs") (.var "coeff"))
    (.tup2 (.name "var") (.name "coeff"))
    (.meth (.index (.var "children_coeffs") (.var "idx_of_child_with_vars")) "items")

def expProdBody : List C15S := [
  .assign (.name "result") .emptyDict,
  .assign (.name "children_coeffs") (.recList "children"),
  .assign (.name "idx_of_child_with_vars") .pyNone,
  .forIn (.tup2 (.name "i") (.name "child_coeffs")) (.call "enumerate" [.var "children_coeffs"])
    expScanOuter,
  .assign (.name "other_coeffs") (.lit 1),
  .forIn (.tup2 (.name "i") (.name "child_coeffs")) (.call "enumerate" [.var "children_coeffs"])
    expOther,
  .ifThen (.is_ (.var "idx_of_child_with_vars") .pyNone)
    [.ret (.mkDict (.lit 1) (.var "other_coeffs"))]
    [.ret expProdComp],
  .ret (.var "result")]

theorem eval_prodComp (ctx : C15Ctx) (st : C15Env) (ds : List Dict) (p : Nat) (d : Dict)
    (hc : c15Get "children_coeffs" st = some (.list (ds.map .dict)))
    (hi : c15Get "idx_of_child_with_vars" st = some (.int p)) (hp : ds[p]? = some d) :
    expProdComp.eval ctx st =
      (List.foldlM (compStep ctx st) [] (itemsOf d)).map .dict := by
  have hget : (ds.map C15Val.dict)[p]? = some (.dict d) := by simp [hp]
  have hn : ¬ ((p : Int) < 0) := by omega
  simp only [expProdComp, eval_dictComp, eval_meth, eval_index, eval_var ctx _ st _ hc, eval_var ctx _ st _ hi,
    bind, Except.bind, hn, if_false, Int.toNat_natCast, hget, c15Items]
  rfl

theorem scal_toExpr {v : C15Val} {acc : Expr} (h : Scal v acc) : v.toExpr? = some acc := by
  rcases h with rfl | ⟨n, rfl, rfl⟩ <;> rfl

theorem run_prod (ctx : C15Ctx) (rs : List (Unit → CR Dict))
    (hrec : ctx.recList = [("children", rs)])
    (hok : ∀ ds, rs.mapM (fun r => r ()) = .ok ds → ∀ d ∈ ds, DictOK d) :
    c15Result (C15S.execL ctx expProdBody []) =
      dictRes (do
        let ds ← rs.mapM (fun r => r ())
        let (v, os) ← splitVars ds
        let other ← otherCoeffs one os
        match v with
        | none => pure [(one, other)]
        | some d => scaleLeft other d) := by
  refine SimO.result ?_
  simp only [expProdBody]
  rw [execL_assign ctx "result" .emptyDict _ _ (.dict []) rfl]
  refine Sim.seq (Sim.with_eq (assign_recList ctx "children_coeffs" "children" rs _ (by rw [hrec]; rfl))) ?_
  rintro ds _ ⟨hds, rfl⟩
  rw [execL_assign ctx "idx_of_child_with_vars" .pyNone _ _ .none rfl]
  generalize hst0 : (c15Set "idx_of_child_with_vars" C15Val.none
    (c15Set "children_coeffs" (.list (ds.map .dict)) (c15Set "result" (.dict []) []))) = st0
  have hcc0 : c15Get "children_coeffs" st0 = some (.list (ds.map .dict)) := by
    subst hst0; simp [c15Get_set]
  have hscan := scan_outer_loop ctx ds 0 st0 none (by subst hst0; exact c15Get_set_eq _ _ _)
  have hsplit := scanOuter_splitVars ds 0
  rw [execL_cons, exec_forIn_enum ctx _ "children_coeffs" _ _ _ hcc0]
  cases hsp : splitVars ds with
  | error e =>
    rw [hsp] at hsplit
    obtain ⟨rfl, hso⟩ := hsplit
    rw [hso] at hscan
    rw [show c15For _ _ st0 = .err (.py .nonlinear) from hscan]
    rfl
  | ok vo =>
    obtain ⟨v, os⟩ := vo
    rw [hsp] at hsplit
    -- what the first loop leaves: `idx`, and the second loop computes `otherCoeffs one os`
    obtain ⟨idx, st1, h1, hidx1, hfr1, hother, hv⟩ : ∃ (idx : Option Nat) (st1 : C15Env),
        c15For (forStep ctx (.tup2 (.name "i") (.name "child_coeffs")) expScanOuter)
          (c15Enum 0 (ds.map .dict)) st0 = .ok st1 ∧
        c15Get "idx_of_child_with_vars" st1 = some (idxVal idx) ∧ Frame scanVars st0 st1 ∧
        otherLoop idx 0 one ds = otherCoeffs one os ∧
        (match v with
          | none => idx = none
          | some d => ∃ p, idx = some p ∧ ds[p]? = some d) := by
      cases v with
      | none =>
        obtain ⟨hso, hos⟩ := hsplit
        rw [hso] at hscan
        obtain ⟨st1, h1, h2, h3⟩ := hscan
        exact ⟨none, st1, h1, h2, h3, by rw [hos]; exact otherLoop_out none ds 0 one (by simp), rfl⟩
      | some d =>
        obtain ⟨p, hso, hp, hos⟩ := hsplit
        rw [hso] at hscan
        obtain ⟨st1, h1, h2, h3⟩ := hscan
        exact ⟨some (0 + p), st1, h1, h2, h3,
          by rw [hos]; exact otherLoop_at ds 0 p one, p, by simp, hp⟩
    rw [h1]
    have hcc1 : c15Get "children_coeffs" st1 = some (.list (ds.map .dict)) :=
      (hfr1 _ (by simp [scanVars])).trans hcc0
    show SimO (otherCoeffs one os >>= fun other => match v with
      | none => pure [(one, other)]
      | some d => scaleLeft other d) (C15S.execL ctx _ st1) _
    rw [execL_assign ctx "other_coeffs" (.lit 1) _ _ _ (eval_lit ctx _ 1), ← hother]
    refine Sim.seq (by
      rw [exec_forIn_enum ctx _ "children_coeffs" _ _ (ds.map .dict) (by simp [c15Get_set, hcc1])]
      exact other_loop ctx idx ds 0 _ (.int 1) one (by simp [c15Get_set, hidx1]) (c15Get_set_eq _ _ _)
        (Or.inr ⟨1, rfl, rfl⟩)) ?_
    rintro other st3 ⟨⟨v3, g2, g3⟩, g4⟩
    have hidx3 : c15Get "idx_of_child_with_vars" st3 = some (idxVal idx) :=
      (g4 _ (by simp [otherVars])).trans (by simp [c15Get_set, hidx1])
    have hcc3 : c15Get "children_coeffs" st3 = some (.list (ds.map .dict)) :=
      (g4 _ (by simp [otherVars])).trans (by simp [c15Get_set, hcc1])
    cases v with
    | none =>
      subst hv
      have h1e : (C15Val.int 1).toExpr? = some one := rfl
      simp [SimO, c15Cond, hidx3, idxVal, bind, Except.bind, pure, Except.pure, c15Is, c15Truthy, g2, h1e,
        scal_toExpr g3, Expr.hasList, one]
    | some d =>
      obtain ⟨p, rfl, hp⟩ := hv
      have hcomp := eval_prodComp ctx st3 ds p d hcc3 hidx3 hp
      rw [comp_fold ctx st3 v3 other g2 g3 d [] (by simp) (hok ds hds d (List.mem_of_getElem? hp))] at hcomp
      simp [SimO, c15Cond, hidx3, idxVal, bind, Except.bind, pure, Except.pure, c15Is, c15Truthy, hcomp]
      cases scaleLeft other d <;> simp [c15LiftCR, Except.map]

end PV.Coeff
