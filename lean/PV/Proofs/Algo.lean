import PV.Proofs.AlgoArith
import PV.Proofs.AlgoPoly
import PV.Proofs.AlgoDivmod

/-!
  PV.Proofs.Algo — the proofs about `PV.Model.Algo` that `PV.Properties.C19` needs; the fft
  proofs (`AlgoFft`, `AlgoFftMod`) and `AlgoScalar` are imported where they are used:

  * `PV.Proofs.AlgoArith`  : `integer_power`, `extended_euclidean`, `gcd`, `lcm`,
                             `find_factors`, `fft` index splitting
  * `PV.Proofs.AlgoPoly`   : `_sort_uniq`, Horner evaluation, `+ - * **`, `divmod` (partial
                             correctness), where the bodies before the repair of `_sort_uniq`
                             (`mergePy`, `sortUniqPy`, `mulPy`, `powPy`) agree with the current ones
  * `PV.Proofs.AlgoDivmod` : fuel sufficiency (termination) of `divmod`
  * `PV.Proofs.AlgoFft`    : the arithmetic of `fft` = DFT over every commutative ring, `ifft`
                             inverts it (principal roots), necessity of that hypothesis
  * `PV.Proofs.AlgoFftMod` : naturality of the `fft` model, the driver's `Z_p` instance = DFT mod p,
                             primitive roots in domains are principal
-/
