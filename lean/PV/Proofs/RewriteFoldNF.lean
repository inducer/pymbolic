import PV.Proofs.RewriteFold
import Mathlib.Data.List.Basic
/-
  C11, part 4: "constant folding leaves at most one constant operand in each folded sum or
  product".
-/
namespace PV

/-! ### without nested sums the queue loop only drops operands -/

theorem flattenedSumLoop_sublist : ∀ (fuel : Nat) (queue done : List Expr),
    (∀ q ∈ queue, isSum q = false) → (flattenedSumLoop fuel queue done).Sublist (done ++ queue)
  | 0, _, _, _ => by simp [flattenedSumLoop]
  | _ + 1, [], _, _ => by simp [flattenedSumLoop]
  | fuel + 1, item :: queue, done, h => by
      have hq : ∀ q ∈ queue, isSum q = false := fun q hq => h q (by simp [hq])
      simp only [flattenedSumLoop]
      split
      · exact (flattenedSumLoop_sublist fuel queue done hq).trans
          (List.Sublist.append_left (List.sublist_cons_self _ _) _)
      · split
        · have := h _ (List.mem_cons_self)
          simp [isSum] at this
        · have := flattenedSumLoop_sublist fuel queue (done ++ [item]) hq
          simpa using this

theorem flattenedProductLoop_sublist : ∀ (fuel : Nat) (queue done xs : List Expr),
    (∀ q ∈ queue, isProdE q = false) → flattenedProductLoop fuel queue done = some xs →
    xs.Sublist (done ++ queue)
  | 0, _, _, _, _, h => by
      simp only [flattenedProductLoop, Option.some.injEq] at h; subst h; simp
  | _ + 1, [], _, _, _, h => by
      simp only [flattenedProductLoop, Option.some.injEq] at h; subst h; simp
  | fuel + 1, item :: queue, done, xs, h, hx => by
      have hq : ∀ q ∈ queue, isProdE q = false := fun q hq => h q (by simp [hq])
      simp only [flattenedProductLoop] at hx
      split at hx
      · contradiction
      · split at hx
        · exact (flattenedProductLoop_sublist fuel queue done xs hq hx).trans
            (List.Sublist.append_left (List.sublist_cons_self _ _) _)
        · split at hx
          · have := h _ (List.mem_cons_self)
            simp [isProdE] at this
          · have := flattenedProductLoop_sublist fuel queue (done ++ [item]) xs hq hx
            simpa using this

/-! ### what `fold` puts into `nonconstants` is never a numeric literal -/

theorem classify_const_not_nonconstant (c : Const) : classify (.const c) ≠ .ok .nonconstant := by
  intro h
  cases c <;> simp [classify, depsR, deps, bind, Except.bind, pure, Except.pure, throw, throwThe,
    MonadExceptOf.throw, RwErr.ofDep, evalG, withMemo, Expr.hasList, findBy, evalNode, EvM.lift,
    Const.den] at h

theorem classify_nonconstant_not_const {x : Expr} (h : classify x = .ok .nonconstant) :
    x.isConstant = false := by
  cases x <;> simp only [Expr.isConstant] <;> try rfl
  all_goals exact absurd h (classify_const_not_nonconstant _)

theorem isSum_false_of {x : Expr} (h : ∀ cs, x = .nary .sum cs → False) : isSum x = false := by
  cases x <;> simp only [isSum]

theorem isProdE_false_of {x : Expr} (h : ∀ cs, x = .nary .prod cs → False) :
    isProdE x = false := by
  cases x <;> simp only [isProdE]

/-- not a numeric literal and not of the class being folded -/
def nonOk (p : Bool) (x : Expr) : Bool := !x.isConstant && !(if p then isProdE x else isSum x)

theorem foldLoop_non {rec : Expr → RwR} (p : Bool) :
    ∀ (fuel : Nat) (queue : List Expr) (consts : List Value) (non : List Expr)
      (cs' : List Value) (ns' : List Expr),
      foldLoop rec p fuel queue consts non = .ok (cs', ns') →
      (∀ x ∈ non, nonOk p x = true) → ∀ x ∈ ns', nonOk p x = true
  | 0, _, _, _, _, _, h, _ => by simp [foldLoop, throw, throwThe, MonadExceptOf.throw] at h
  | fuel + 1, [], consts, non, cs', ns', h, hn => by
      simp only [foldLoop, pure, Except.pure] at h
      injection h with h; injection h with h1 h2; subst h1; subst h2; exact hn
  | fuel + 1, item :: queue, consts, non, cs', ns', h, hn => by
      simp only [foldLoop] at h
      obtain ⟨child, _, h⟩ := bind_ok h
      split at h
      · exact foldLoop_non false fuel _ consts non cs' ns' h hn
      · exact foldLoop_non true fuel _ consts non cs' ns' h hn
      · rename_i hns hnp
        obtain ⟨cl, hcl, h⟩ := bind_ok h
        cases cl with
        | constant w => exact foldLoop_non p fuel queue _ non cs' ns' h hn
        | nonconstant =>
          refine foldLoop_non p fuel queue consts _ cs' ns' h ?_
          intro x hx
          simp only [List.mem_append, List.mem_singleton] at hx
          rcases hx with hx | rfl
          · exact hn x hx
          · have h1 : x.isConstant = false := classify_nonconstant_not_const hcl
            have h2 : (if p then isProdE x else isSum x) = false := by
              cases p
              · simp only [Bool.false_eq_true, if_false]
                exact isSum_false_of fun cs hc => hns cs rfl hc
              · simp only [if_true]
                exact isProdE_false_of fun cs hc => hnp cs rfl hc
            simp [nonOk, h1, h2]

theorem countP_const_non (p : Bool) : ∀ (non : List Expr), (∀ x ∈ non, nonOk p x = true) →
    non.countP Expr.isConstant = 0
  | [], _ => rfl
  | x :: xs, h => by
      have hx := h x (by simp)
      simp only [nonOk, Bool.and_eq_true, Bool.not_eq_true'] at hx
      rw [List.countP_cons_of_neg (by simp [hx.1])]
      exact countP_const_non p xs fun y hy => h y (by simp [hy])

theorem value_toExpr_not_sum {v : Value} {k : Expr} (h : v.toExpr? = some k) :
    isSum k = false ∧ isProdE k = false := by
  cases v <;> simp only [Value.toExpr?] at h <;> try contradiction
  all_goals (injection h with h; subst h; exact ⟨rfl, rfl⟩)

/-- what `fold` hands to its constructor: the non-constant operands, with the reduced constant in
front if there is one — operands not of the folded class, at most one of them a literal -/
theorem foldFinish_items (p : Bool) (consts : List Value) (non : List Expr) (r : Expr)
    (hnon : ∀ x ∈ non, nonOk p x = true) (h : foldFinish p consts non = .ok r) :
    ∃ items : List Expr, (∀ q ∈ items, (if p then isProdE q else isSum q) = false) ∧
      items.countP Expr.isConstant ≤ 1 ∧
      (if p then flatProd items else pure (flattenedSum items)) = .ok r := by
  have hcnt := countP_const_non p non hnon
  have hns : ∀ x ∈ non, (if p then isProdE x else isSum x) = false := by
    intro x hx
    have := hnon x hx
    simp only [nonOk, Bool.and_eq_true, Bool.not_eq_true'] at this
    exact this.2
  unfold foldFinish at h
  cases consts with
  | nil => exact ⟨non, hns, by omega, h⟩
  | cons w ws =>
    simp only at h
    cases hr : reduceConsts p w ws with
    | error err => rw [hr] at h; cases h
    | ok v =>
      rw [hr] at h
      simp only at h
      cases hk : v.toExpr? with
      | none => rw [hk] at h; cases h
      | some k =>
        rw [hk] at h
        refine ⟨k :: non, ?_, ?_, h⟩
        · intro q hq
          simp only [List.mem_cons] at hq
          rcases hq with rfl | hq
          · cases p
            · exact (value_toExpr_not_sum hk).1
            · exact (value_toExpr_not_sum hk).2
          · exact hns q hq
        · rw [List.countP_cons, hcnt]; split <;> omega

/-- **At most one constant operand in a folded sum** (both folders). -/
theorem foldM_one_const_sum (comm : Bool) (fuel : Nat) (cs ds : List Expr)
    (h : foldM comm fuel (.nary .sum cs) = .ok (.nary .sum ds)) :
    ds.countP Expr.isConstant ≤ 1 := by
  cases fuel with
  | zero => simp [foldM, throw, throwThe, MonadExceptOf.throw] at h
  | succ fuel =>
    simp only [foldM] at h
    obtain ⟨⟨consts, non⟩, hl, h⟩ := bind_ok h
    obtain ⟨items, hi, hc, hf⟩ := foldFinish_items false consts non _
      (foldLoop_non false fuel cs [] [] consts non hl (by simp)) h
    simp only [Bool.false_eq_true, if_false, pure, Except.pure, Except.ok.injEq] at hi hf
    -- the result is `flattenedSum items`
    have hsub := flattenedSumLoop_sublist (Expr.sizeL items + items.length + 1) items [] hi
    simp only [flattenedSum] at hf
    generalize flattenedSumLoop (Expr.sizeL items + items.length + 1) items [] = L at hf hsub
    rcases L with _ | ⟨x, _ | ⟨y, ys⟩⟩
    · simp [zero] at hf
    · simp only at hf
      have := hi x (by simpa using hsub.subset (List.mem_cons_self))
      rw [hf] at this; simp [isSum] at this
    · simp only [Expr.nary.injEq, true_and] at hf
      subst hf
      exact (hsub.countP_le (p := Expr.isConstant)).trans (by simpa using hc)

/-- **At most one constant operand in a folded product** (commutative folder). -/
theorem foldM_one_const_prod (fuel : Nat) (cs ds : List Expr)
    (h : foldM true fuel (.nary .prod cs) = .ok (.nary .prod ds)) :
    ds.countP Expr.isConstant ≤ 1 := by
  cases fuel with
  | zero => simp [foldM, throw, throwThe, MonadExceptOf.throw] at h
  | succ fuel =>
    simp only [foldM, if_true] at h
    obtain ⟨⟨consts, non⟩, hl, h⟩ := bind_ok h
    obtain ⟨items, hi, hc, hf⟩ := foldFinish_items true consts non _
      (foldLoop_non true fuel cs [] [] consts non hl (by simp)) h
    simp only [if_true] at hi hf
    -- the result is `flattened_product(items)`
    simp only [flatProd] at hf
    split at hf
    · cases hf
    · simp only [pure, Except.pure] at hf
      injection hf with hf
      have hsub := flattenedProductLoop_sublist (Expr.sizeL items + items.length + 1) items []
      simp only [flattenedProduct] at hf
      generalize flattenedProductLoop (Expr.sizeL items + items.length + 1) items [] = L
        at hf hsub
      rcases L with _ | _ | ⟨x, _ | ⟨y, ys⟩⟩
      · simp [zero] at hf
      · simp [one] at hf
      · simp only at hf
        have := hi x (by simpa using (hsub _ hi rfl).subset (List.mem_cons_self))
        rw [hf] at this; simp [isProdE] at this
      · simp only [Expr.nary.injEq, true_and] at hf
        subst hf
        exact ((hsub _ hi rfl).countP_le (p := Expr.isConstant)).trans (by simpa using hc)

end PV
