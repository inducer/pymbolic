import PV.Proofs.UnifyTableExpected
/-
  C16 (T-gen), part 1: what the table interpreter (PV/Model/UnifyTable.lean) computes for the
  record-level functions of the table `c16Expected` — `unify_map`, `UnificationRecord(…)`,
  `UnificationRecord.unify`, `unify_many`, `unification_record_from_equation`, `treat_mismatch`,
  `UnifierBase.__init__` — in closed form: the functions of the hand-written model
  (PV/Model/Unify.lean).  Every lemma is for ALL arguments (loops by induction).

  "T-gen" is DESIGN.md's word for the tie of a model to a table regenerated from the source.  The
  parts follow the import chain: UnifyTable, UnifyTableGen, UnifyTableCA, UnifyTableStep,
  UnifyTableLink, UnifyTableWF, UnifyTableModel, UnifyTableUnique; PV/Properties/C16Table.lean puts
  the regenerated table in.
-/
open PV PV.Unify
namespace PV.Unify

theorem AMap.put_eq_append {k : String} {v : Expr} : ∀ {m : AMap}, k ∉ m.keys →
    AMap.put k v m = m ++ [(k, v)]
  | [], _ => rfl
  | (n, w) :: rest, h => by
    simp only [AMap.keys, List.map_cons, List.mem_cons, not_or] at h
    have hne : ¬ n = k := fun e => h.1 e.symm
    simp only [AMap.put, hne, if_false, List.cons_append]
    rw [AMap.put_eq_append (m := rest) (by simpa [AMap.keys] using h.2)]

theorem AMap.get_none_iff' {m : AMap} {k : String} : AMap.get m k = none ↔ k ∉ m.keys := by
  induction m with
  | nil => simp [AMap.get, AMap.keys]
  | cons p m ih =>
    obtain ⟨n, w⟩ := p
    by_cases h : n = k
    · simp [AMap.get, AMap.keys, h]
    · have h' : ¬ k = n := fun e => h e.symm
      simp [AMap.get, AMap.keys, h, h'] at ih ⊢
      simpa [AMap.keys] using ih

theorem AMap.get_some_mem' {m : AMap} {k : String} {v : Expr} (h : AMap.get m k = some v) :
    k ∈ m.keys := by
  cases hc : decide (k ∈ m.keys) with
  | true => simpa using hc
  | false =>
    have : k ∉ m.keys := by simpa using hc
    rw [AMap.get_none_iff'.2 this] at h; cases h

/-! ### look-ups in the table -/

theorem find?_key_of_mem {α : Type} (key : α → String) :
    ∀ {l : List α}, (l.map key).Nodup → ∀ {x : α}, x ∈ l → l.find? (fun y => key y == key x) = some x
  | y :: l, hnd, x, hx => by
    rw [List.map_cons, List.nodup_cons] at hnd
    rcases List.mem_cons.1 hx with rfl | hx
    · simp
    · have : key y ≠ key x := fun h => hnd.1 (h ▸ List.mem_map_of_mem hx)
      simp [List.find?_cons, this, find?_key_of_mem key hnd.2 hx]

/-- the names of the functions of the table are pairwise distinct; `simp` unfolds every function of
`c16ExpectedFns` to its name and compares the literals -/
theorem c16ExpectedFns_nodup : (c16ExpectedFns.map C16Fn.name).Nodup := by
  simp [c16ExpectedFns, c16X_unify_map, c16X_Rec_init, c16X_Rec_unify, c16X_unify_many,
    c16X_Base_init, c16X_Base_treat_mismatch, c16X_Base_unification_record_from_equation,
    c16X_Base_map_constant, c16X_Base_map_variable, c16X_Base_map_call, c16X_Base_map_subscript,
    c16X_Base_map_lookup, c16X_Base_map_sum, c16X_Base_map_quotient, c16X_Base_map_power,
    c16X_Base_map_left_shift, c16X_Base_map_bitwise_not, c16X_Base_map_comparison,
    c16X_Base_map_if_positive, c16X_Base_map_if, c16X_Base_map_list, c16X_Base_call,
    c16X_Uni_treat_mismatch, c16X_Uni_map_commut_assoc, c16X_Uni_mca_match_children,
    c16X_Uni_mca_match_plain_var_candidates, c16X_Uni_mca_mpv_subsets, c16X_Uni_mca_mpv_partitions,
    c16X_Uni_map_sum, c16X_Uni_map_product]

/-- the functions of the table are found under their names, so that no later look-up walks the
table -/
theorem c16FindFn_mem {fn : C16Fn} (h : fn ∈ c16ExpectedFns) :
    c16FindFn c16Expected fn.name = some fn :=
  find?_key_of_mem C16Fn.name c16ExpectedFns_nodup h

/-- the classes and the attribute resolutions along the MRO that the calls between the functions of
the table go through (one evaluation for all of them) -/
theorem c16Resolve_expected :
    c16FindClass c16Expected "UnificationRecord" = some ⟨"UnificationRecord", ["UnificationRecord"]⟩ ∧
    c16FindClass c16Expected "unify_map" = none ∧ c16FindClass c16Expected "unify_many" = none ∧
    c16Resolve c16Expected "UnificationRecord" "__init__" = some "UnificationRecord.__init__" ∧
    c16Resolve c16Expected "UnificationRecord" "unify" = some "UnificationRecord.unify" ∧
    c16Resolve c16Expected c16Mapper "unification_record_from_equation"
      = some "UnifierBase.unification_record_from_equation" ∧
    c16Resolve c16Expected c16Mapper "treat_mismatch" = some "UnidirectionalUnifier.treat_mismatch" ∧
    c16Resolve c16Expected c16Mapper "map_commut_assoc"
      = some "UnidirectionalUnifier.map_commut_assoc" ∧
    c16Resolve c16Expected c16Mapper "__init__" = some "UnifierBase.__init__" := by
  decide +kernel

/-! `isUnbound` of every constructor (so that `simp` never unfolds it on an abstract value) -/
@[simp] theorem isUnbound_unbound : C16Val.unbound.isUnbound = true := rfl
@[simp] theorem isUnbound_none : C16Val.none.isUnbound = false := rfl
@[simp] theorem isUnbound_bool (b : Bool) : (C16Val.bool b).isUnbound = false := rfl
@[simp] theorem isUnbound_int (i : Int) : (C16Val.int i).isUnbound = false := rfl
@[simp] theorem isUnbound_str (s : String) : (C16Val.str s).isUnbound = false := rfl
@[simp] theorem isUnbound_obj (e : Expr) : (C16Val.obj e).isUnbound = false := rfl
@[simp] theorem isUnbound_objs (l : List Expr) : (C16Val.objs l).isUnbound = false := rfl
@[simp] theorem isUnbound_cls (c : String) : (C16Val.cls c).isUnbound = false := rfl
@[simp] theorem isUnbound_clss (l : List String) : (C16Val.clss l).isUnbound = false := rfl
@[simp] theorem isUnbound_strs (l : List String) : (C16Val.strs l).isUnbound = false := rfl
@[simp] theorem isUnbound_dict (m : AMap) : (C16Val.dict m).isUnbound = false := rfl
@[simp] theorem isUnbound_urec (r : URec) : (C16Val.urec r).isUnbound = false := rfl
@[simp] theorem isUnbound_recs (l : List URec) : (C16Val.recs l).isUnbound = false := rfl
@[simp] theorem isUnbound_idxs (l : List Nat) : (C16Val.idxs l).isUnbound = false := rfl
@[simp] theorem isUnbound_parts (l : List (List Nat)) : (C16Val.parts l).isUnbound = false := rfl
@[simp] theorem isUnbound_row (l : List (Nat × List URec)) : (C16Val.row l).isUnbound = false := rfl
@[simp] theorem isUnbound_table (l : List (List (Nat × List URec))) :
    (C16Val.table l).isUnbound = false := rfl
@[simp] theorem isUnbound_eqs (l : List (Expr × Expr)) : (C16Val.eqs l).isUnbound = false := rfl
@[simp] theorem isUnbound_eqSet : C16Val.eqSet.isUnbound = false := rfl
@[simp] theorem isUnbound_tup (a b : C16Val) : (C16Val.tup a b).isUnbound = false := rfl
@[simp] theorem isUnbound_seq (l : List C16Val) : (C16Val.seq l).isUnbound = false := rfl
@[simp] theorem isUnbound_self : C16Val.self.isUnbound = false := rfl
@[simp] theorem isUnbound_factory (o : NaryOp) : (C16Val.factory o).isUnbound = false := rfl

/-- the body of a `for` loop as a function of the item and the state -/
def c16LoopBody (cx : C16Ctx) (ts : List String) (body : List C16S) : C16Val → C16St → C16St :=
  fun v s => C16S.execList cx body (c16BindTargets s ts v)

/-- what follows the iterations of a `for` -/
def c16ForEnd (cx : C16Ctx) (orelse : List C16S) (st' : C16St) : C16St :=
  match st'.ctl with
  | .brk => { st' with ctl := .run }
  | .run => C16S.execList cx orelse st'
  | _ => st'

theorem exec_forIn (cx : C16Ctx) (ts : List String) (it : C16E) (body orelse : List C16S) (st : C16St) :
    C16S.exec cx (.forIn ts it body orelse) st =
      match it.evalIter cx st.env with
      | none => st.stuck
      | some items => c16ForEnd cx orelse (c16Loop (c16LoopBody cx ts body) items st) := by
  rfl

macro "c16eval" "[" ts:Lean.Parser.Tactic.simpLemma,* "]" : tactic =>
  `(tactic| simp [C16S.execList, C16S.exec, C16E.eval, C16E.evalArgs, C16E.evalIter, c16Lookup, C16Env.get,
      c16BindTargets, C16St.bind, C16St.stuck, C16Env.set, c16Cmp, c16Index, C16Val.truthy, c16Builtin,
      c16Meth, c16SelfCall, c16Arith, C16Val.attr, C16Val.len, C16Val.iter, $ts,*])

/-- the same without the functions that case-split on a VALUE (for goals with abstract values:
give their results as hypotheses) -/
macro "c16evalA" "[" ts:Lean.Parser.Tactic.simpLemma,* "]" : tactic =>
  `(tactic| simp [C16S.execList, C16S.exec, C16E.eval, C16E.evalArgs, C16E.evalIter, c16Lookup, C16Env.get,
      c16BindTargets, C16St.bind, C16St.stuck, C16Env.set, c16Builtin, c16Meth, c16SelfCall, $ts,*])

/-- the body of the loop of `unify_map`, as it stands in `c16X_unify_map` (the callers identify the
two by unfolding; so for the other `…Body` / `…St` definitions of these files) -/
def umBody : List C16S :=
  [(.ifThen (.cmp .in_ (.name "name") (.name "map1")) [(.ifThen (.cmp .ne (.index (.name "map1") (.name "name")) (.name "value")) [(.ret (some .pyNone))] [])] [(.setItem "result" (.name "name") (.name "value"))])]

def umSt (a b0 res : AMap) (n v : C16Val) (attrs : C16Env) (out : List C16Val) (ctl : C16Ctl) : C16St :=
  { env := [("map1", .dict a), ("map2", .dict b0), ("result", .dict res), ("name", n), ("value", v)],
    attrs := attrs, out := out, ctl := ctl }

theorem c16Loop_unify_map (cx : C16Ctx) (a b0 : AMap) :
    ∀ (rest res : AMap) (n v : C16Val) (attrs : C16Env) (out : List C16Val),
      (rest.keys).Nodup → (∀ k ∈ rest.keys, k ∉ res.keys ∨ k ∈ a.keys) →
      let st' := c16Loop (c16LoopBody cx ["name", "value"] umBody)
        (rest.map fun p => .tup (.str p.1) (.obj p.2)) (umSt a b0 res n v attrs out .run)
      st'.attrs = attrs ∧ st'.out = out ∧
      match unifyMapGo a res rest with
        | some m => st'.ctl = .run ∧ C16Env.get "result" st'.env = some (.dict m)
        | none => st'.ctl = .ret .none := by
  intro rest
  induction rest with
  | nil => intro res n v attrs out _ _; simp [c16Loop, unifyMapGo, C16Env.get, umSt]
  | cons p rest ih =>
    intro res n v attrs out hnd hk
    obtain ⟨k, val⟩ := p
    simp only [AMap.keys, List.map_cons, List.nodup_cons] at hnd
    simp only [List.map_cons, c16Loop, unifyMapGo]
    cases hg : AMap.get a k with
    | some v1 =>
      have hmem : k ∈ a.keys := AMap.get_some_mem' hg
      by_cases hp : v1.pyEq val
      · have hstep : c16LoopBody cx ["name", "value"] umBody (.tup (.str k) (.obj val))
            (umSt a b0 res n v attrs out .run) = umSt a b0 res (.str k) (.obj val) attrs out .run := by
          simp only [c16LoopBody, umBody, umSt]
          c16eval [hg, hp, hmem]
        rw [hstep]
        simp only [hp, if_true, umSt]
        exact ih res (.str k) (.obj val) attrs out hnd.2 (fun k' hk' => hk k' (by simp [AMap.keys] at hk' ⊢; exact Or.inr hk'))
      · have hstep : c16LoopBody cx ["name", "value"] umBody (.tup (.str k) (.obj val))
            (umSt a b0 res n v attrs out .run) = umSt a b0 res (.str k) (.obj val) attrs out (.ret .none) := by
          simp only [c16LoopBody, umBody, umSt]
          c16eval [hg, hp, hmem]
        rw [hstep]
        simp [hp, umSt]
    | none =>
      have hnm : k ∉ a.keys := AMap.get_none_iff'.1 hg
      have hres : k ∉ res.keys := by
        rcases hk k (by simp [AMap.keys]) with h | h
        · exact h
        · exact absurd h hnm
      have hstep : c16LoopBody cx ["name", "value"] umBody (.tup (.str k) (.obj val))
            (umSt a b0 res n v attrs out .run)
            = umSt a b0 (res ++ [(k, val)]) (.str k) (.obj val) attrs out .run := by
          simp only [c16LoopBody, umBody, umSt]
          c16eval [hg, hnm, AMap.put_eq_append hres]
      rw [hstep]
      simp only [umSt]
      refine ih (res ++ [(k, val)]) (.str k) (.obj val) attrs out hnd.2 ?_
      intro k' hk'
      have hne : k' ≠ k := fun e => hnd.1 (by simpa [AMap.keys, e] using hk')
      rcases hk k' (by simp [AMap.keys] at hk' ⊢; exact Or.inr hk') with h | h
      · left; simp [AMap.keys] at h ⊢; exact ⟨h, hne⟩
      · exact Or.inr h

def c16OptMap : Option AMap → C16Val
  | some m => .dict m
  | none => .none

theorem c16Call_unify_map (cx : C16Ctx) (a b : AMap) (hb : b.keys.Nodup) :
    c16CallVal cx c16X_unify_map [.dict a, .dict b] = .ok (c16OptMap (unifyMap a b)) := by
  have hl := c16Loop_unify_map cx a b b a .unbound .unbound [] [] hb (fun k _ => by
    by_cases h : k ∈ a.keys
    · exact Or.inr h
    · exact Or.inl h)
  simp only [umSt] at hl
  simp only [c16CallVal, c16X_unify_map, c16RunFn, c16BindParams, Option.map, List.map, List.append]
  simp only [C16S.execList, exec_forIn]
  c16eval []
  simp only [umBody] at hl
  generalize c16Loop _ _ _ = st' at hl ⊢
  obtain ⟨env', attrs', out', ctl'⟩ := st'
  simp only at hl
  obtain ⟨rfl, rfl, h3⟩ := hl
  cases hu : unifyMapGo a a b with
  | none =>
    simp only [hu] at h3
    subst h3
    simp [c16ForEnd, unifyMap, hu, c16OptMap]
  | some m =>
    simp only [hu] at h3
    obtain ⟨rfl, hget⟩ := h3
    c16eval [c16ForEnd, hget, unifyMap, hu, c16OptMap]

/-! ### `UnificationRecord(equations[, lmap, rmap])` -/

def c16VarName : Expr → Option String
  | .var x => some x
  | _ => none

theorem c16VarName_some {e : Expr} {x : String} (h : c16VarName e = some x) : e = .var x := by
  cases e <;> simp_all [c16VarName]

theorem kind_eq_Variable (e : Expr) : (e.kind == "Variable") = (c16VarName e).isSome := by
  cases e with
  | const c => cases c <;> rfl
  | nary o _ => cases o <;> rfl
  | bin o _ _ => cases o <;> rfl
  | un o _ => cases o <;> rfl
  | _ => rfl

@[simp] theorem c16VarName_var (x : String) : c16VarName (.var x) = some x := rfl

theorem c16Attr_var_name (x : String) : (Expr.var x).c16Attr "name" = some (.str x) := rfl

/-- the record `UnificationRecord([(lhs, rhs)])` -/
def c16Rec1 (l r : Expr) : URec :=
  ⟨match c16VarName l with | some x => [(x, r)] | none => [],
   match c16VarName r with | some y => [(y, l)] | none => []⟩

theorem c16Init_empty (cx : C16Ctx) :
    c16CallInit cx c16X_Rec_init [.self, .objs []]
      = .ok [("equations", .objs []), ("lmap", .dict []), ("rmap", .dict [])] := by
  simp only [c16CallInit, c16X_Rec_init, c16RunFn, c16BindParams, Option.map, List.map]
  simp only [C16S.execList, exec_forIn]
  c16eval [c16ForEnd, c16Loop]

theorem c16Init_one (cx : C16Ctx) (l r : Expr) :
    c16CallInit cx c16X_Rec_init [.self, .eqs [(l, r)]]
      = .ok [("equations", .eqs [(l, r)]), ("lmap", .dict (c16Rec1 l r).lmap),
             ("rmap", .dict (c16Rec1 l r).rmap)] := by
  simp only [c16CallInit, c16X_Rec_init, c16RunFn, c16BindParams, Option.map, List.map]
  simp only [C16S.execList, exec_forIn]
  cases hl : c16VarName l with
  | none =>
    cases hr : c16VarName r with
    | none =>
      c16eval [c16ForEnd, c16Loop, c16LoopBody, c16IsInstance, c16KindOf, kind_eq_Variable, hl, hr,
        c16Rec1]
    | some y =>
      cases c16VarName_some hr
      c16eval [c16ForEnd, c16Loop, c16LoopBody, c16IsInstance, c16KindOf, kind_eq_Variable, hl,
        c16Rec1, AMap.put, c16Attr_var_name, c16VarName_var]
  | some x =>
    cases c16VarName_some hl
    cases hr : c16VarName r with
    | none =>
      c16eval [c16ForEnd, c16Loop, c16LoopBody, c16IsInstance, c16KindOf, kind_eq_Variable, hr,
        c16Rec1, AMap.put, c16Attr_var_name, c16VarName_var]
    | some y =>
      cases c16VarName_some hr
      c16eval [c16ForEnd, c16Loop, c16LoopBody, c16IsInstance, c16KindOf, kind_eq_Variable,
        c16Rec1, AMap.put, c16Attr_var_name, c16VarName_var]

theorem c16Init_maps (cx : C16Ctx) (l r : AMap) :
    c16CallInit cx c16X_Rec_init [.self, .eqSet, .dict l, .dict r]
      = .ok [("equations", .eqSet), ("lmap", .dict l), ("rmap", .dict r)] := by
  simp only [c16CallInit, c16X_Rec_init, c16RunFn, c16BindParams, Option.map, List.map]
  simp only [C16S.execList, exec_forIn]
  c16eval []

/-! ### the meanings the calls between the functions are given (closed forms = the model) -/

/-- a Python record: the keys of each of its two dicts are distinct -/
def URec.WF (r : URec) : Prop := r.lmap.keys.Nodup ∧ r.rmap.keys.Nodup

/-- `unification_record_from_equation(lhs, rhs)` of a `UnidirectionalUnifier(cands)` for any
`lhs` -/
def c16RecFromEqG (cands : List String) (l r : Expr) : Option URec :=
  if c16IsSeq l || c16IsSeq r then none
  else if !((c16VarName l).isSome || (c16VarName r).isSome) then none
  else match c16VarName l with
    | some x => if cands.contains x then some (c16Rec1 l r) else none
    | none => some (c16Rec1 l r)

theorem recFromEq_eq_G (cands : List String) (x : String) (rhs : Expr) :
    recFromEq cands x rhs = c16RecFromEqG cands (.var x) rhs := by
  cases rhs <;> simp [recFromEq, c16RecFromEqG, c16IsSeq, c16VarName, c16Rec1]

/-- what the callees that return a value mean: the functions of the model -/
structure C16FnSpec (cands : List String) (fn : C16Callee → List C16Val → Option C16Val) : Prop where
  unify_map : ∀ a b, b.keys.Nodup →
    fn (.modfn "unify_map") [.dict a, .dict b] = some (c16OptMap (unifyMap a b))
  ctor0 : fn (.modfn "UnificationRecord") [.objs []] = some (.urec URec.empty)
  ctor1 : ∀ l r, fn (.modfn "UnificationRecord") [.eqs [(l, r)]] = some (.urec (c16Rec1 l r))
  ctor3 : ∀ l r, fn (.modfn "UnificationRecord") [.eqSet, .dict l, .dict r] = some (.urec ⟨l, r⟩)
  unify : ∀ a b, b.WF →
    fn (.meth "UnificationRecord" "unify") [.urec a, .urec b] = some (.ofOptRec (a.unify b))
  unify_many : ∀ v us n, v.asRecs = some us → n.WF →
    fn (.modfn "unify_many") [v, .urec n] = some (.ofRecs (unifyMany us n))
  rec_from_eq : ∀ l r, fn (.self "unification_record_from_equation") [.obj l, .obj r]
    = some (.ofOptRec (c16RecFromEqG cands l r))
  treat_mismatch : ∀ e o v, v.isUnbound = false →
    fn (.self "treat_mismatch") [.obj e, .obj o, v] = some (.objs [])

/-- the attributes of `UnidirectionalUnifier(cands)` -/
def c16ModelAttrs (cands : List String) : C16Env :=
  [("lhs_mapping_candidates", .strs cands), ("rhs_mapping_candidates", .none),
   ("force_var_match", .bool true)]

/-! ### `UnificationRecord.unify` -/

theorem c16Call_unify (cands : List String) (cx : C16Ctx) (hs : C16FnSpec cands cx.fn)
    (a b : URec) (hb : b.WF) :
    c16CallVal cx c16X_Rec_unify [.urec a, .urec b] = .ok (.ofOptRec (a.unify b)) := by
  simp only [c16CallVal, c16X_Rec_unify, c16RunFn, c16BindParams, Option.map, List.map]
  cases h1 : unifyMap a.lmap b.lmap with
  | none =>
    c16eval [hs.unify_map _ _ hb.1, h1, c16OptMap, URec.unify, C16Val.ofOptRec]
  | some l =>
    cases h2 : unifyMap a.rmap b.rmap with
    | none =>
      c16eval [hs.unify_map _ _ hb.1, hs.unify_map _ _ hb.2, h1, h2, c16OptMap, URec.unify,
        C16Val.ofOptRec]
    | some r =>
      c16eval [hs.unify_map _ _ hb.1, hs.unify_map _ _ hb.2, h1, h2, c16OptMap, URec.unify,
        C16Val.ofOptRec, hs.ctor3]

/-! ### `unify_many` -/

theorem c16Append_ofRecs (acc : List URec) (r : URec) :
    c16Append (C16Val.ofRecs acc) (.urec r) = some (C16Val.ofRecs (acc ++ [r])) := by
  cases acc <;> simp [C16Val.ofRecs, c16Append]

@[simp] theorem ofRecs_nil : C16Val.ofRecs [] = .objs [] := rfl

theorem asRecs_ofRecs (l : List URec) : (C16Val.ofRecs l).asRecs = some l := by
  cases l <;> rfl

theorem iter_of_asRecs {v : C16Val} {l : List URec} (h : v.asRecs = some l) :
    v.iter = some (l.map .urec) := by
  cases v <;> simp_all [C16Val.asRecs, C16Val.iter]
  rename_i l'
  cases l' <;> simp_all [C16Val.asRecs]

theorem truthy_ofRecs (l : List URec) : (C16Val.ofRecs l).truthy = some (!l.isEmpty) := by
  cases l <;> rfl

theorem ofRecs_isUnbound (l : List URec) : (C16Val.ofRecs l).isUnbound = false := by
  cases l <;> rfl

def umyBody : List C16S :=
  [(.assign "unif_result" (.meth (.name "uni1") "unify" [(.name "uni2")])), (.ifThen (.cmp .isNot (.name "unif_result") .pyNone) [(.append "result" (.name "unif_result"))] [])]

def umySt (v1 : C16Val) (n : URec) (acc : List URec) (u r : C16Val) (attrs : C16Env)
    (out : List C16Val) : C16St :=
  { env := [("unis1", v1), ("uni2", .urec n), ("result", C16Val.ofRecs acc), ("uni1", u), ("unif_result", r)],
    attrs := attrs, out := out, ctl := .run }

theorem c16Loop_unify_many (cands : List String) (cx : C16Ctx) (hs : C16FnSpec cands cx.fn)
    (v1 : C16Val) (n : URec) (hn : n.WF) :
    ∀ (us acc : List URec) (u r : C16Val) (attrs : C16Env) (out : List C16Val),
      ∃ u' r', c16Loop (c16LoopBody cx ["uni1"] umyBody) (us.map .urec) (umySt v1 n acc u r attrs out)
        = umySt v1 n (acc ++ unifyMany us n) u' r' attrs out := by
  intro us
  induction us with
  | nil => intro acc u r attrs out; exact ⟨u, r, by simp [c16Loop, unifyMany]⟩
  | cons a us ih =>
    intro acc u r attrs out
    simp only [List.map_cons, c16Loop]
    cases hu : a.unify n with
    | none =>
      have hstep : c16LoopBody cx ["uni1"] umyBody (.urec a) (umySt v1 n acc u r attrs out)
          = umySt v1 n acc (.urec a) .none attrs out := by
        simp only [c16LoopBody, umyBody, umySt]
        c16eval [hs.unify _ _ hn, hu, C16Val.ofOptRec]
      rw [hstep]
      obtain ⟨u', r', h⟩ := ih acc (.urec a) .none attrs out
      refine ⟨u', r', ?_⟩
      simp only [umySt] at h ⊢
      rw [h]; simp [unifyMany, hu]
    | some w =>
      have hstep : c16LoopBody cx ["uni1"] umyBody (.urec a) (umySt v1 n acc u r attrs out)
          = umySt v1 n (acc ++ [w]) (.urec a) (.urec w) attrs out := by
        simp only [c16LoopBody, umyBody, umySt]
        c16eval [hs.unify _ _ hn, hu, C16Val.ofOptRec, c16Append_ofRecs]
      rw [hstep]
      obtain ⟨u', r', h⟩ := ih (acc ++ [w]) (.urec a) (.urec w) attrs out
      refine ⟨u', r', ?_⟩
      simp only [umySt] at h ⊢
      rw [h]; simp [unifyMany, hu]

theorem c16Call_unify_many (cands : List String) (cx : C16Ctx) (hs : C16FnSpec cands cx.fn)
    (v : C16Val) (us : List URec) (n : URec) (hv : v.asRecs = some us) (hn : n.WF) :
    c16CallVal cx c16X_unify_many [v, .urec n] = .ok (C16Val.ofRecs (unifyMany us n)) := by
  obtain ⟨u', r', hl⟩ := c16Loop_unify_many cands cx hs v n hn us [] .unbound .unbound [] []
  simp only [umySt, umyBody, ofRecs_nil, List.nil_append] at hl
  have hvu : v.isUnbound = false := by cases v <;> simp_all [C16Val.asRecs]
  simp only [c16CallVal, c16X_unify_many, c16RunFn, c16BindParams, Option.map, List.map]
  simp only [C16S.execList, exec_forIn]
  c16evalA [iter_of_asRecs hv, hvu]
  simp only [hl]
  c16eval [c16ForEnd, ofRecs_isUnbound]

/-! ### `unification_record_from_equation`, `treat_mismatch`, `UnifierBase.__init__` -/

theorem isSeq_iff_kind (e : Expr) :
    (decide (e.kind = "tuple") || decide (e.kind = "list")) = c16IsSeq e := by
  cases e with
  | const c => cases c <;> rfl
  | nary o _ => cases o <;> rfl
  | bin o _ _ => cases o <;> rfl
  | un o _ => cases o <;> rfl
  | _ => rfl

theorem c16Attr_name_of_var {e : Expr} {x : String} (h : c16VarName e = some x) :
    e.c16Attr "name" = some (.str x) := by
  cases c16VarName_some h; rfl

theorem c16Call_rec_from_eq (cands : List String) (cx : C16Ctx) (hs : C16FnSpec cands cx.fn)
    (ha : cx.selfAttrs = c16ModelAttrs cands) (l r : Expr) :
    c16CallVal cx c16X_Base_unification_record_from_equation [.self, .obj l, .obj r]
      = .ok (.ofOptRec (c16RecFromEqG cands l r)) := by
  simp only [c16CallVal, c16X_Base_unification_record_from_equation, c16RunFn, c16BindParams,
    Option.map, List.map]
  cases hsl : c16IsSeq l with
  | true =>
    c16evalA [c16IsInstance, c16KindOf, isSeq_iff_kind, hsl, c16RecFromEqG, C16Val.ofOptRec,
      C16Val.truthy]
  | false =>
    cases hsr : c16IsSeq r with
    | true =>
      c16evalA [c16IsInstance, c16KindOf, isSeq_iff_kind, hsl, hsr, c16RecFromEqG, C16Val.ofOptRec,
        C16Val.truthy]
    | false =>
      cases hl : c16VarName l with
      | none =>
        cases hr : c16VarName r with
        | none =>
          c16evalA [c16IsInstance, c16KindOf, isSeq_iff_kind, hsl, hsr, c16RecFromEqG, C16Val.ofOptRec,
            kind_eq_Variable, hl, hr, ha, c16ModelAttrs, C16Val.truthy, C16Val.attr, c16Cmp]
        | some y =>
          c16evalA [c16IsInstance, c16KindOf, isSeq_iff_kind, hsl, hsr, c16RecFromEqG, C16Val.ofOptRec,
            kind_eq_Variable, hl, hr, ha, c16ModelAttrs, hs.ctor1, c16Collect, C16Val.truthy,
            C16Val.attr, c16Cmp]
      | some x =>
        have hname := c16Attr_name_of_var hl
        by_cases hc : x ∈ cands
        · c16evalA [c16IsInstance, c16KindOf, isSeq_iff_kind, hsl, hsr, c16RecFromEqG, C16Val.ofOptRec,
            kind_eq_Variable, hl, ha, c16ModelAttrs, hs.ctor1, c16Collect, C16Val.truthy,
            C16Val.attr, c16Cmp, hname, hc]
        · c16evalA [c16IsInstance, c16KindOf, isSeq_iff_kind, hsl, hsr, c16RecFromEqG, C16Val.ofOptRec,
            kind_eq_Variable, hl, ha, c16ModelAttrs, hs.ctor1, c16Collect, C16Val.truthy,
            C16Val.attr, c16Cmp, hname, hc]

theorem c16Call_treat_mismatch (cx : C16Ctx) (e o : Expr) (v : C16Val) :
    c16CallVal cx c16X_Uni_treat_mismatch [.self, .obj e, .obj o, v] = .ok (.objs []) := rfl

theorem c16Init_mapper (cx : C16Ctx) (cands : List String) :
    c16CallInit cx c16X_Base_init [.self, .strs cands] = .ok (c16ModelAttrs cands) := by
  simp only [c16CallInit, c16X_Base_init, c16RunFn, c16BindParams, Option.map, List.map]
  c16eval [c16ModelAttrs]

/-- **the attributes of `UnidirectionalUnifier(cands)`** as the table's `__init__` leaves them -/
theorem c16MapperAttrs_expected (cands : List String) :
    c16MapperAttrs c16Expected cands = c16ModelAttrs cands := by
  have hr := c16Resolve_expected.2.2.2.2.2.2.2.2
  have hf : c16FindFn c16Expected "UnifierBase.__init__" = some c16X_Base_init :=
    c16FindFn_mem (fn := c16X_Base_init) (by repeat constructor)
  simp only [c16MapperAttrs, hr, hf, c16Init_mapper]

end PV.Unify
