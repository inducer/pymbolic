import PV.Model.AlgoFft
import PV.Proofs.AlgoArith
import Mathlib.Algebra.BigOperators.Group.Finset.Basic
import Mathlib.Algebra.BigOperators.Group.Finset.Sigma
import Mathlib.Algebra.BigOperators.Ring.Finset
import Mathlib.Algebra.BigOperators.Fin
import Mathlib.Tactic.Ring

/-!
  PV.Proofs.AlgoFft — the model of `fft` (`PV.Model.AlgoFft`) computes the discrete Fourier
  transform over every commutative ring; `ifft` inverts it exactly when the root is "principal"
  (`∑_{k<n} z^(k d) = 0` for `0 < d < n`) and `n` is invertible.
-/

namespace PV.Algo

open Finset

variable {R : Type*} [CommRing R]

/-- The discrete Fourier transform of the property text as a list:
`F[x]_k = ∑_{j<n} z^(k j) x_j`, `n = len(x)`. -/
noncomputable def c19Dft (z : R) (x : List R) : List R :=
  (List.range x.length).map fun k => ∑ j ∈ range x.length, z ^ (k * j) * x.getD j 0

@[simp] theorem c19Dft_length (z : R) (x : List R) : (c19Dft z x).length = x.length := by
  simp [c19Dft]

/-! ### list / sum plumbing -/

theorem c19_list_sum_range {M : Type*} [AddCommMonoid M] (f : ℕ → M) (n : ℕ) :
    ((List.range n).map f).sum = ∑ i ∈ range n, f i := by
  induction n with
  | zero => simp
  | succ n ih => rw [List.sum_range_succ, Finset.sum_range_succ, ih]

/-- `range (a*b)` enumerated as `k1*b + k2` (the order in which `concatenate` lays out the
blocks `k1 = 0 … a-1`, each of length `b`). -/
theorem c19_range_mul_flatMap {β : Type*} (h : ℕ → β) (a b : ℕ) :
    (List.range (a * b)).map h =
      (List.range a).flatMap fun i => (List.range b).map fun j => h (i * b + j) := by
  induction a with
  | zero => simp
  | succ a ih =>
    rw [Nat.succ_mul, List.range_add, List.map_append, ih, List.range_succ, List.flatMap_append]
    simp

/-- Re-indexing of the input index `j = n1 + N1*j2` (the Cooley–Tukey input split). -/
theorem c19_sum_range_mul {M : Type*} [AddCommMonoid M] (f : ℕ → M) (N1 N2 : ℕ) :
    ∑ j ∈ range (N1 * N2), f j = ∑ n1 ∈ range N1, ∑ j2 ∈ range N2, f (n1 + N1 * j2) := by
  induction N2 with
  | zero => simp
  | succ N2 ih =>
    rw [Nat.mul_succ, Finset.sum_range_add, ih, ← Finset.sum_add_distrib]
    refine Finset.sum_congr rfl fun n1 _ => ?_
    rw [Finset.sum_range_succ, Nat.add_comm n1 (N1 * N2)]

theorem c19_foldl_vecAdd (L : ℕ) {ι : Type*} (t : ι → ℕ → R) :
    ∀ (l : List ι) (a : ℕ → R),
      List.foldl (c19VecAdd (· + ·)) ((List.range L).map a)
          (l.map fun i => (List.range L).map (t i)) =
        (List.range L).map fun k => a k + (l.map fun i => t i k).sum
  | [], a => by simp
  | i :: l, a => by
    simp only [List.map_cons, List.foldl_cons, List.sum_cons]
    have h : c19VecAdd (· + ·) ((List.range L).map a) ((List.range L).map (t i)) =
        (List.range L).map fun k => a k + t i k := by
      simp [c19VecAdd, List.zipWith_map, List.zipWith_self]
    rw [h, c19_foldl_vecAdd L t l]
    simp only [add_assoc]

/-- Python's `sum(...)` over `N1 ≥ 1` arrays of common length `L` is the elementwise sum. -/
theorem c19PySum_range (L N1 : ℕ) (hN1 : 1 ≤ N1) (t : ℕ → ℕ → R) :
    c19PySum (· + ·) (0 : R) ((List.range N1).map fun i => (List.range L).map (t i)) =
      (List.range L).map fun k => ∑ i ∈ range N1, t i k := by
  obtain ⟨m, rfl⟩ : ∃ m, N1 = m + 1 := ⟨N1 - 1, by omega⟩
  rw [List.range_succ_eq_map]
  simp only [List.map_cons, List.map_map, c19PySum]
  have h := c19_foldl_vecAdd L (fun i => t (i + 1)) (List.range m) (fun k => 0 + t 0 k)
  have e1 : ((fun i => (List.range L).map (t i)) ∘ Nat.succ) =
      fun i => (List.range L).map (t (i + 1)) := rfl
  have e2 : (List.range L).map ((fun v => (0 : R) + v) ∘ t 0) =
      (List.range L).map fun k => 0 + t 0 k := rfl
  rw [e1, e2, h]
  refine List.map_congr_left fun k _ => ?_
  rw [c19_list_sum_range, Finset.sum_range_succ', zero_add, add_comm]

theorem c19_zipIdx_map_range {β : Type*} (F : ℕ → β) (n : ℕ) :
    ((List.range n).map F).zipIdx = (List.range n).map fun i => (F i, i) := by
  apply List.ext_getElem
  · simp
  · intro i h1 h2
    simp

theorem c19_stride_getD (x : List R) (s k j : ℕ) (hk : 1 ≤ k) :
    (stride x s k).getD j 0 = x.getD (s + k * j) 0 := by
  rw [List.getD_eq_getElem?_getD, List.getD_eq_getElem?_getD, stride_getElem? x s k j hk]

/-! ### one Cooley–Tukey level -/

/-- The exponent identity behind the recombination: with `z^(N1*N2) = 1`,
`z^((k1*N2+k2) * (n1+N1*j2)) = (z^N1)^(k2*j2) · z^(n1*k2) · z^(N2*(n1*k1))`. -/
theorem c19_twiddle_identity (z : R) (N1 N2 k1 k2 n1 j2 : ℕ) (hz : z ^ (N1 * N2) = 1) :
    z ^ ((k1 * N2 + k2) * (n1 + N1 * j2)) =
      (z ^ N1) ^ (k2 * j2) * z ^ (n1 * k2) * z ^ (N2 * (n1 * k1)) := by
  have h : (k1 * N2 + k2) * (n1 + N1 * j2) =
      N1 * (k2 * j2) + n1 * k2 + N2 * (n1 * k1) + (N1 * N2) * (k1 * j2) := by ring
  rw [h, pow_add, pow_mul (z) (N1 * N2), hz, one_pow, mul_one, pow_add, pow_add, pow_mul]

/-- One level of `fft` is correct if its sub-transforms are DFTs for the root `z^N1`:
the recombination step in general (any factorisation `len(x) = N1 * N2` returned by
`find_factors`, any commutative ring, `z^(N1*N2) = 1`; nothing else about `z`). -/
theorem c19FftStep_eq_dft (z : R) (rp : ℕ → ℕ → R) (sub : List R → List R) (x : List R)
    (hN1 : 1 ≤ (findFactors x.length).1)
    (hlen : (findFactors x.length).1 * (findFactors x.length).2 = x.length)
    (hz : z ^ x.length = 1)
    (hsub : ∀ n1 < (findFactors x.length).1,
      sub (stride x n1 (findFactors x.length).1) =
        c19Dft (z ^ (findFactors x.length).1) (stride x n1 (findFactors x.length).1))
    (htw : ∀ k, rp ((findFactors x.length).1 * (findFactors x.length).2) k = z ^ k)
    (htw1 : ∀ k, rp (findFactors x.length).1 k = z ^ ((findFactors x.length).2 * k)) :
    c19FftStep (· + ·) (· * ·) 0 rp sub x = c19Dft z x := by
  unfold c19FftStep
  simp only []
  generalize (findFactors x.length).1 = N1 at *
  generalize (findFactors x.length).2 = N2 at *
  -- the sub-transforms, as functions of (n1, k2)
  have hsubF : (List.range N1).map (fun n1 =>
        c19VecMul (· * ·) (sub (stride x n1 N1)) (c19Twiddles rp N1 N2 n1)) =
      (List.range N1).map fun n1 => (List.range N2).map fun k2 =>
        (∑ j2 ∈ range N2, (z ^ N1) ^ (k2 * j2) * x.getD (n1 + N1 * j2) 0) * z ^ (n1 * k2) := by
    refine List.map_congr_left fun n1 hn1 => ?_
    have hn1 : n1 < N1 := List.mem_range.mp hn1
    have hl : (stride x n1 N1).length = N2 := stride_length x N1 N2 n1 hlen.symm hn1
    rw [hsub n1 hn1]
    unfold c19Dft c19VecMul c19Twiddles
    rw [hl, List.zipWith_map, List.zipWith_self]
    refine List.map_congr_left fun k2 _ => ?_
    rw [htw]
    congr 1
    refine Finset.sum_congr rfl fun j2 _ => ?_
    rw [c19_stride_getD x n1 N1 j2 hN1]
  rw [hsubF, c19_zipIdx_map_range]
  unfold c19Dft
  rw [← hlen, c19_range_mul_flatMap]
  refine List.flatMap_congr fun k1 _ => ?_
  simp only [List.map_map, Function.comp_def, c19VecScale]
  rw [c19PySum_range N2 N1 hN1]
  refine List.map_congr_left fun k2 _ => ?_
  rw [c19_sum_range_mul]
  refine Finset.sum_congr rfl fun n1 _ => ?_
  rw [htw1, Finset.sum_mul, Finset.sum_mul]
  refine Finset.sum_congr rfl fun j2 _ => ?_
  rw [c19_twiddle_identity z N1 N2 k1 k2 n1 j2 (by rw [hlen]; exact hz)]
  ring

/-! ### the whole recursion -/

theorem c19Dft_singleton (z a : R) : c19Dft z [a] = [a] := by
  simp [c19Dft]

/-- The fuel-indexed recursion computes the DFT whenever the fuel is at least `len(x)`.
Hypotheses on the twiddle function: for every divisor `m` of `len(x)`, `rp m k = z^((n/m)*k)`,
i.e. the root for length `m` is `z^(n/m)`. -/
theorem c19FftAux_eq_dft (fuel : ℕ) : ∀ (x : List R) (z : R) (rp : ℕ → ℕ → R),
    x.length ≤ fuel → 1 ≤ x.length → z ^ x.length = 1 →
    (∀ m k, m ∣ x.length → rp m k = z ^ (x.length / m * k)) →
    c19FftAux (· + ·) (· * ·) 0 rp fuel x = c19Dft z x := by
  induction fuel with
  | zero => intro x z rp h1 h2; omega
  | succ fuel ih =>
    intro x z rp hfuel hpos hz hrp
    unfold c19FftAux
    by_cases h1 : x.length = 1
    · rw [if_pos h1]
      obtain ⟨a, rfl⟩ := List.length_eq_one_iff.mp h1
      exact (c19Dft_singleton z a).symm
    · rw [if_neg h1]
      have hn2 : 2 ≤ x.length := by omega
      have hmul := findFactors_mul x.length
      obtain ⟨hN1, hN2pos, hN2lt⟩ := findFactors_lt x.length hn2
      have hnpos : 0 < x.length := by omega
      apply c19FftStep_eq_dft z rp _ x (by omega) hmul hz
      · intro n1 hn1
        have hl : (stride x n1 (findFactors x.length).1).length = (findFactors x.length).2 :=
          stride_length x _ _ n1 hmul.symm hn1
        apply ih
        · rw [hl]; omega
        · rw [hl]; omega
        · rw [hl, ← pow_mul, hmul, hz]
        · intro m k hm
          rw [hl] at hm ⊢
          have hmn : m ∣ x.length := hmul ▸ Dvd.dvd.mul_left hm _
          have hdiv : x.length / m =
              (findFactors x.length).1 * ((findFactors x.length).2 / m) := by
            rw [← Nat.mul_div_assoc _ hm, hmul]
          rw [hrp m k hmn, ← pow_mul, hdiv, Nat.mul_assoc]
      · intro k
        rw [hmul, hrp _ k (dvd_refl _), Nat.div_self hnpos, one_mul]
      · intro k
        have hdiv : x.length / (findFactors x.length).1 = (findFactors x.length).2 :=
          Nat.div_eq_of_eq_mul_right (by omega) hmul.symm
        rw [hrp _ k ⟨_, hmul.symm⟩, hdiv]

/-- `fft` (model) = DFT, for every commutative ring, every length `n ≥ 1`, every `z` with
`z^n = 1` (no primitivity needed). -/
theorem c19Fft_eq_dft (z : R) (rp : ℕ → ℕ → R) (x : List R) (hpos : 1 ≤ x.length)
    (hz : z ^ x.length = 1)
    (hrp : ∀ m k, m ∣ x.length → rp m k = z ^ (x.length / m * k)) :
    c19Fft (· + ·) (· * ·) 0 rp x = c19Dft z x :=
  c19FftAux_eq_dft x.length x z rp (le_refl _) hpos hz hrp

end PV.Algo

/-! ## `ifft` inverts `fft` -/

namespace PV.Algo

open Finset

variable {R : Type*} [CommRing R]

/-- The orthogonality relation that `ifft ∘ fft = id` needs of the root: `z` is a *principal*
`n`-th root of unity, `∑_{k<n} z^(k d) = 0` for every `0 < d < n`.  (In an integral domain a primitive
`n`-th root is principal: `c19Principal_of_isPrimitiveRoot` in PV/Proofs/AlgoFftMod.lean.) -/
def c19Principal (z : R) (n : ℕ) : Prop :=
  ∀ d, 0 < d → d < n → ∑ k ∈ range n, z ^ (k * d) = 0

theorem c19Dft_getD (z : R) (x : List R) (k : ℕ) (hk : k < x.length) :
    (c19Dft z x).getD k 0 = ∑ j ∈ range x.length, z ^ (k * j) * x.getD j 0 := by
  unfold c19Dft
  rw [List.getD_eq_getElem?_getD, List.getElem?_map, List.getElem?_range hk]
  rfl

/-- `∑_k zinv^(j' k) z^(k j)` is `n` on the diagonal and `0` elsewhere. -/
theorem c19_orthogonality (z zinv : R) (n : ℕ) (hz : z ^ n = 1) (hzi : z * zinv = 1)
    (horth : c19Principal z n) (j' j : ℕ) (hj' : j' < n) (hj : j < n) :
    ∑ k ∈ range n, zinv ^ (j' * k) * z ^ (k * j) = if j = j' then (n : R) else 0 := by
  have hunit : ∀ e : ℕ, zinv ^ e * z ^ e = 1 := fun e => by
    rw [← mul_pow, mul_comm, hzi, one_pow]
  split_ifs with h
  · subst h
    rw [Finset.sum_congr rfl (fun k _ => by rw [Nat.mul_comm k j, hunit]),
      Finset.sum_const, card_range, nsmul_eq_mul, mul_one]
  · rcases Nat.lt_or_gt_of_ne h with hlt | hgt
    · -- j < j'
      have hd : 0 < n - (j' - j) ∧ n - (j' - j) < n := by omega
      rw [← horth (n - (j' - j)) hd.1 hd.2]
      refine Finset.sum_congr rfl fun k _ => ?_
      have e1 : j' * k = k * (j' - j) + k * j := by
        rw [← Nat.mul_add, Nat.sub_add_cancel (le_of_lt hlt), Nat.mul_comm]
      have e2 : z ^ (k * (n - (j' - j))) * z ^ (k * (j' - j)) = 1 := by
        rw [← pow_add, ← Nat.mul_add, Nat.sub_add_cancel (by omega), Nat.mul_comm, pow_mul, hz,
          one_pow]
      calc zinv ^ (j' * k) * z ^ (k * j)
          = zinv ^ (k * (j' - j)) * (zinv ^ (k * j) * z ^ (k * j)) := by rw [e1, pow_add]; ring
        _ = zinv ^ (k * (j' - j)) * (z ^ (k * (n - (j' - j))) * z ^ (k * (j' - j))) := by
            rw [hunit, e2]
        _ = z ^ (k * (n - (j' - j))) * (zinv ^ (k * (j' - j)) * z ^ (k * (j' - j))) := by ring
        _ = z ^ (k * (n - (j' - j))) := by rw [hunit, mul_one]
    · -- j' < j
      have hd : 0 < j - j' ∧ j - j' < n := by omega
      rw [← horth (j - j') hd.1 hd.2]
      refine Finset.sum_congr rfl fun k _ => ?_
      have e1 : k * j = j' * k + k * (j - j') := by
        rw [Nat.mul_comm j' k, ← Nat.mul_add, Nat.add_sub_cancel' (le_of_lt hgt)]
      rw [e1, pow_add, ← mul_assoc, hunit, one_mul]

/-- DFT with `zinv`, scaled by `1/n`, undoes the DFT with `z`. -/
theorem c19Dft_inv (z zinv ninv : R) (x : List R) (hz : z ^ x.length = 1) (hzi : z * zinv = 1)
    (hn : ninv * (x.length : R) = 1) (horth : c19Principal z x.length) :
    (c19Dft zinv (c19Dft z x)).map (fun v => ninv * v) = x := by
  apply List.ext_getElem
  · simp
  · intro i h1 h2
    have hi : i < x.length := h2
    simp only [List.getElem_map]
    have hg : ∀ (l : List R) (h : i < l.length), l[i] = l.getD i 0 := fun l h => by
      rw [List.getD_eq_getElem?_getD, List.getElem?_eq_getElem h, Option.getD_some]
    rw [hg _ (by simpa using hi), c19Dft_getD _ _ _ (by simpa using hi), c19Dft_length]
    have step : ∀ k ∈ range x.length, zinv ^ (i * k) * (c19Dft z x).getD k 0 =
        ∑ j ∈ range x.length, (zinv ^ (i * k) * z ^ (k * j)) * x.getD j 0 := fun k hk => by
      rw [c19Dft_getD z x k (mem_range.mp hk), Finset.mul_sum]
      exact Finset.sum_congr rfl fun j _ => by ring
    rw [Finset.sum_congr rfl step, Finset.sum_comm]
    have step2 : ∀ j ∈ range x.length,
        ∑ k ∈ range x.length, (zinv ^ (i * k) * z ^ (k * j)) * x.getD j 0 =
          (if j = i then (x.length : R) else 0) * x.getD j 0 := fun j hj => by
      rw [← Finset.sum_mul, c19_orthogonality z zinv x.length hz hzi horth i j hi (mem_range.mp hj)]
    rw [Finset.sum_congr rfl step2]
    simp only [ite_mul, zero_mul]
    rw [Finset.sum_ite_eq' (range x.length) i, if_pos (mem_range.mpr hi), ← mul_assoc, hn, one_mul,
      ← hg x hi]

/-- The orthogonality hypothesis is NECESSARY: if `ifft ∘ fft` is the identity on all vectors
of length `n` then `z` is a principal `n`-th root of unity. -/
theorem c19Principal_of_inverts (z zinv ninv : R) (n : ℕ) (hn : ninv * (n : R) = 1)
    (hinv : ∀ x : List R, x.length = n →
      (c19Dft zinv (c19Dft z x)).map (fun v => ninv * v) = x) :
    c19Principal z n := by
  intro d hd0 hdn
  -- the unit vector e_d, read at output index 0
  let x : List R := (List.range n).map fun j => if j = d then 1 else 0
  have hxl : x.length = n := by simp [x]
  have hx := hinv x hxl
  have h0 : ((c19Dft zinv (c19Dft z x)).map (fun v => ninv * v)).getD 0 0 = x.getD 0 0 := by
    rw [hx]
  have hxd : ∀ j, j < n → x.getD j 0 = if j = d then 1 else 0 := fun j hj => by
    simp only [x]
    rw [List.getD_eq_getElem?_getD, List.getElem?_map, List.getElem?_range hj]
    rfl
  have hn0 : 0 < n := by omega
  rw [hxd 0 hn0, if_neg (by omega)] at h0
  rw [List.getD_eq_getElem?_getD, List.getElem?_map] at h0
  have hl0 : 0 < (c19Dft zinv (c19Dft z x)).length := by simp [hxl, hn0]
  rw [List.getElem?_eq_getElem hl0] at h0
  simp only [Option.map_some, Option.getD_some] at h0
  have hg : (c19Dft zinv (c19Dft z x))[0] = (c19Dft zinv (c19Dft z x)).getD 0 0 := by
    rw [List.getD_eq_getElem?_getD, List.getElem?_eq_getElem hl0, Option.getD_some]
  rw [hg, c19Dft_getD _ _ _ (by simpa [hxl] using hn0), c19Dft_length, hxl] at h0
  have hsum : ∑ k ∈ range n, zinv ^ (0 * k) * (c19Dft z x).getD k 0 =
      ∑ k ∈ range n, z ^ (k * d) := by
    refine Finset.sum_congr rfl fun k hk => ?_
    rw [c19Dft_getD z x k (by simpa [hxl] using mem_range.mp hk), hxl, Nat.zero_mul, pow_zero,
      one_mul]
    rw [Finset.sum_congr rfl (fun j hj => by rw [hxd j (mem_range.mp hj)])]
    simp only [mul_ite, mul_one, mul_zero]
    rw [Finset.sum_ite_eq' (range n) d, if_pos (mem_range.mpr hdn)]
  rw [hsum] at h0
  calc ∑ k ∈ range n, z ^ (k * d)
      = ((n : R) * ninv) * ∑ k ∈ range n, z ^ (k * d) := by rw [mul_comm (n : R), hn, one_mul]
    _ = (n : R) * (ninv * ∑ k ∈ range n, z ^ (k * d)) := by ring
    _ = 0 := by rw [h0, mul_zero]

end PV.Algo
