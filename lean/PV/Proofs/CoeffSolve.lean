import PV.Model.Coeff
import PV.Proofs.CoeffSound
import PV.Proofs.Gauss
import PV.Proofs.UnionPy
/-
  C15 helper lemmas: the expression `solve_affine_equations_for` assembles for one unknown
  evaluates to `constant + Σ coefficient · parameter`, and processing one side of an equation adds
  `factor · value(side)` to the residual of the integer row.
-/
namespace PV.Coeff
open PV

variable {env : Env}

/-! ### lists related entry by entry -/

theorem forall2_get {α β : Type} {R : α → β → Prop} {l1 : List α} {l2 : List β}
    (h : List.Forall₂ R l1 l2) (j : Nat) (a : α) (ha : l1[j]? = some a) :
    ∃ b, l2[j]? = some b ∧ R a b := by
  induction h generalizing j with
  | nil => nomatch ha
  | cons h0 _ ih =>
    cases j with
    | zero => exact ⟨_, rfl, Option.some.inj ha ▸ h0⟩
    | succ j => exact ih j ha

/-- a successful `mapM` relates arguments and results entry by entry -/
theorem mapM_forall₂ {α β : Type} {f : α → CR β} (l : List α) (rs : List β)
    (h : l.mapM f = .ok rs) : List.Forall₂ (fun a r => f a = .ok r) l rs := by
  induction l generalizing rs with
  | nil => cases h; exact .nil
  | cons a l ih =>
    rw [List.mapM_cons] at h
    obtain ⟨r, hr, h⟩ := except_bind_ok h
    obtain ⟨rs', hrs, h⟩ := except_bind_ok h
    cases h
    exact .cons hr (ih rs' hrs)

theorem mapM_mem {α β : Type} {f : α → CR β} (l : List α) (rs : List β) (h : l.mapM f = .ok rs) :
    ∀ r ∈ rs, ∃ a ∈ l, f a = .ok r := fun r hr => by
  obtain ⟨j, hj⟩ := List.mem_iff_getElem?.1 hr
  obtain ⟨a, ha, hfa⟩ := forall2_get (List.Forall₂.flip (R := flip _) (mapM_forall₂ l rs h)) j r hj
  exact ⟨a, List.mem_of_getElem? ha, hfa⟩

theorem mapM_of_mem {α β : Type} {f : α → CR β} (l : List α) (rs : List β) (h : l.mapM f = .ok rs) :
    ∀ a ∈ l, ∃ r ∈ rs, f a = .ok r := fun a ha => by
  obtain ⟨j, hj⟩ := List.mem_iff_getElem?.1 ha
  obtain ⟨r, hr, hfa⟩ := forall2_get (mapM_forall₂ l rs h) j a hj
  exact ⟨r, List.mem_of_getElem? hr, hfa⟩

theorem nvL_forall₂ (ps : List Expr) (qs : List Rat) (h : nvL env ps = some qs) :
    List.Forall₂ (fun u q => nv env u = some q) ps qs := by
  induction ps generalizing qs with
  | nil => cases h; exact .nil
  | cons p ps ih =>
    obtain ⟨q, qs', hp, hps, rfl⟩ := nvL_cons h
    exact .cons hp (ih qs' hps)

theorem nvL_length (ps : List Expr) (qs : List Rat) (h : nvL env ps = some qs) :
    qs.length = ps.length :=
  (nvL_forall₂ ps qs h).length_eq.symm

/-! ### the value assembled for one unknown -/

/-- `Σ kᵢ · qᵢ` over the common prefix (Python `zip`) -/
def dotQ : List Int → List Rat → Rat
  | k :: ks, q :: qs => (k : Rat) * q + dotQ ks qs
  | _, _ => 0

theorem assembleLoop_nv (ps : List Expr) (ks : Row) (acc t : Expr) (qa : Rat) (qs : List Rat)
    (h : assembleLoop acc ps ks = .ok t) (ha : nv env acc = some qa) (hq : nvL env ps = some qs) :
    nv env t = some (qa + dotQ ks qs) := by
  induction ps generalizing ks acc qa qs with
  | nil =>
    cases h
    cases hq
    cases ks <;> exact ha.trans (congrArg some (add_zero qa).symm)
  | cons p ps ih =>
    cases ks with
    | nil =>
      cases h
      exact ha.trans (congrArg some (add_zero qa).symm)
    | cons k ks =>
      obtain ⟨q, qs', hp, hps, rfl⟩ := nvL_cons hq
      rw [assembleLoop] at h
      obtain ⟨tm, hm, h⟩ := except_bind_ok h
      obtain ⟨acc', hadd, h⟩ := except_bind_ok h
      rw [ih ks acc' _ qs' h (pyAdd_nv hadd ha (pyMul_nv hm (nv_int k) hp)) hps, dotQ, add_assoc]

/-- the value assembled for one unknown: `row[-1] + Σ row[i] · parameterᵢ` -/
theorem assembleVal_nv {params : List Expr} {row : Row} {t : Expr} {qs : List Rat}
    (h : assembleVal params row = .ok t) (hq : nvL env params = some qs) :
    nv env t = some ((row.getLastD 0 : Int) + dotQ row qs) :=
  assembleLoop_nv params row _ t _ qs h (nv_int _) hq

/-! ### from the matrix solution to the returned expressions -/

/-- the column values of the right-hand side: the parameter values, then `1` for the constant -/
def pOf (qs : List Rat) (i : Nat) : Rat := (qs[i]?).getD 1

theorem dotFrom_shift (x : Nat → Rat) (r : Row) (i : Nat) :
    dotFrom x (i + 1) r = dotFrom (fun k => x (k + 1)) i r := by
  induction r generalizing i with
  | nil => rfl
  | cons a as ih => rw [dotFrom, dotFrom, ih]

theorem dot_pOf {qs : List Rat} {row : Row} (hl : row.length = qs.length + 1) :
    dot (pOf qs) row = (row.getLastD 0 : Int) + dotQ row qs := by
  induction qs generalizing row with
  | nil =>
    obtain ⟨a, t, rfl⟩ := List.exists_cons_of_length_eq_add_one hl
    cases List.eq_nil_of_length_eq_zero (Nat.succ.inj hl)
    show (a : Rat) * 1 + 0 = a + 0
    rw [mul_one]
  | cons q qs ih =>
    obtain ⟨a, t, rfl⟩ := List.exists_cons_of_length_eq_add_one hl
    obtain ⟨b, t, rfl⟩ := List.exists_cons_of_length_eq_add_one (Nat.succ.inj hl)
    -- `pOf (q :: qs) (k + 1)` is `pOf qs k`
    have ih : dotFrom (fun k => pOf (q :: qs) (k + 1)) 0 (b :: t) = _ := ih (Nat.succ.inj hl)
    rw [dot, dotFrom, dotFrom_shift, ih, add_left_comm]
    rfl

theorem solveRows_spec {params : List Expr} {s : List ARow} (js : List Nat) (vals : List Expr)
    (h : solveRows params s js = .ok vals) :
    ∃ rows, js.mapM (solveCol s) = .ok rows ∧
      List.Forall₂ (fun row v => assembleVal params row = .ok v) rows vals := by
  induction js generalizing vals with
  | nil => cases h; exact ⟨[], rfl, .nil⟩
  | cons j js ih =>
    rw [solveRows] at h
    obtain ⟨row, hc, h⟩ := except_bind_ok h
    obtain ⟨v, ha, h⟩ := except_bind_ok h
    obtain ⟨vs, hr, h⟩ := except_bind_ok h
    cases h
    obtain ⟨rows, h1, h2⟩ := ih vs hr
    exact ⟨row :: rows, by rw [List.mapM_cons, hc, h1]; rfl, .cons ha h2⟩

/-- `solveAffine` = assemble the integer matrix, read off the rows with `solveMat`, turn every row
into an expression with `assembleVal` -/
theorem solveAffine_spec {names : List String} {eqs : List (Expr × Expr)} {params : List Expr}
    {sol : List (Expr × Expr)} (h : solveAffine names eqs params = .ok sol) :
    ∃ mat rows vals, eqs.mapM (assembleRow (names.map Expr.var) params) = .ok mat ∧
      solveMat eqs.length (names.map Expr.var).length mat = .ok rows ∧
      sol = (names.map Expr.var).zip vals ∧
      List.Forall₂ (fun row v => assembleVal params row = .ok v) rows vals := by
  simp only [solveAffine] at h
  split at h
  · nomatch h
  obtain ⟨mat, hm, h⟩ := except_bind_ok h
  obtain ⟨vals, hr, h⟩ := except_bind_ok h
  obtain ⟨rows, h1, h2⟩ := solveRows_spec _ vals hr
  exact ⟨mat, rows, vals, hm, h1, (Except.ok.inj h).symm, h2⟩

theorem solveCol_length {s : List ARow} {j : Nat} {row : Row} (h : solveCol s j = .ok row) :
    ∃ r ∈ s, row.length = r.2.length := by
  obtain ⟨r, hf, _, rfl⟩ := solveCol_ok h
  have hr : r ∈ s.filter (fun r => rowGet r.1 j ≠ 0) := hf ▸ List.mem_singleton_self r
  exact ⟨r, (List.mem_filter.1 hr).1, List.length_map _⟩

theorem vals_values {params : List Expr} {qs : List Rat} (hq : nvL env params = some qs)
    {rows : List Row} {vals : List Expr}
    (h : List.Forall₂ (fun row v => assembleVal params row = .ok v) rows vals)
    (hl : ∀ row ∈ rows, row.length = qs.length + 1) :
    List.Forall₂ (fun v x => nv env v = some x) vals (rows.map (dot (pOf qs))) := by
  induction h with
  | nil => exact .nil
  | cons h1 _ ih =>
    obtain ⟨hrow, hrest⟩ := List.forall_mem_cons.1 hl
    exact .cons (by rw [assembleVal_nv h1 hq, dot_pOf hrow]) (ih hrest)

theorem getD_map_dot (p : Nat → Rat) (rows : List Row) (j : Nat) :
    (rows.map (dot p)).getD j 0 = dot p (rows.getD j []) := by
  rw [List.getD_eq_getElem?_getD, List.getD_eq_getElem?_getD, List.getElem?_map]
  cases rows[j]? <;> rfl

/-! ### the assembled row represents `lhs - rhs` -/

theorem dotFrom_set (x : Nat → Rat) (v : Int) (l : Row) (i j : Nat) (h : j < l.length) :
    dotFrom x i (l.set j (rowGet l j + v)) = dotFrom x i l + (v : Rat) * x (i + j) := by
  induction l generalizing i j with
  | nil => nomatch h
  | cons a as ih =>
    cases j with
    | zero =>
      rw [List.set_cons_zero, dotFrom, dotFrom, rowGet_cons_zero, Int.cast_add, add_mul,
        add_right_comm]
      rfl
    | succ j =>
      rw [List.set_cons_succ, dotFrom, dotFrom, rowGet_cons_succ,
        ih (i + 1) j (Nat.lt_of_succ_lt_succ h), Nat.add_assoc i 1 j, Nat.add_comm 1 j]
      exact (add_assoc _ _ _).symm

/-- `mat[i, j] += v` adds `v·xⱼ` to the residual `a·x - b·p` -/
theorem res_set_left (x p : Nat → Rat) (row : ARow) (v : Int) {j : Nat} (hj : j < row.1.length) :
    res x p (row.1.set j (rowGet row.1 j + v), row.2) = res x p row + v * x j := by
  unfold res dot
  rw [dotFrom_set x v row.1 0 j hj, Nat.zero_add, add_sub_right_comm]

/-- `rhs_mat[i, j] += v` takes `v·pⱼ` off the residual -/
theorem res_set_right (x p : Nat → Rat) (row : ARow) (v : Int) {j : Nat} (hj : j < row.2.length) :
    res x p (row.1, row.2.set j (rowGet row.2 j + v)) = res x p row - v * p j := by
  unfold res dot
  rw [dotFrom_set p v row.2 0 j hj, Nat.zero_add, sub_add_eq_sub_sub]

theorem idxOf_spec (keys : List Expr) (k : Expr) (j : Nat) (h : idxOf keys k = some j) :
    ∃ u, keys[j]? = some u ∧ u.pyEq k = true := by
  induction keys generalizing j with
  | nil => nomatch h
  | cons k' rest ih =>
    rw [idxOf] at h
    split at h
    · rename_i heq
      cases h
      exact ⟨k', rfl, heq⟩
    · obtain ⟨j', hr, rfl⟩ := Option.map_eq_some_iff.1 h
      exact ih j' hr

/-- among `simple` trees the key found is the probe itself -/
theorem idxOf_simple {keys : List Expr} {k : Expr} {j : Nat} (h : idxOf keys k = some j)
    (hks : ∀ u ∈ keys, u.simple = true) (hk : k.simple = true) : keys[j]? = some k := by
  obtain ⟨u, hu, heq⟩ := idxOf_spec keys k j h
  rw [hu, key_eq_of_pyEq (hks u (List.mem_of_getElem? hu)) hk heq]

theorem intOf_ok {t : Expr} {v : Int} (h : intOf t = .ok v) : t = .const (.int v) := by
  unfold intOf at h
  split at h
  · cases h; rfl
  · nomatch h

/-- one step `entry += factor'·coeff`: the stored integer is `factor'·value(coeff)` -/
theorem scaled_int {factor : Int} {coeff t : Expr} {v : Int} {qc : Rat}
    (hm : pyBin .mul (.const (.int factor)) coeff = .ok t) (hi : intOf t = .ok v)
    (hc : nv env coeff = some qc) : (v : Rat) = factor * qc := by
  have h1 := pyMul_nv hm (nv_int factor) hc
  rw [intOf_ok hi, nv_int] at h1
  exact Option.some.inj h1

/-- What `assembleSide` does with one entry `(key, coeff)`: it adds the integer `v = g·coeff` to
the column of an unknown (`g = factor`), or to the column of a parameter or the constant column of
the right-hand side (`g = -factor`), and goes on with the remaining entries. -/
theorem assembleSide_cons_ok {unknowns params : List Expr} {factor : Int} {row row' : ARow}
    {key coeff : Expr} {rest : Dict}
    (h : assembleSide unknowns params factor row ((key, coeff) :: rest) = .ok row') :
    ∃ (g : Int) (t : Expr) (v : Int) (row1 : ARow),
      pyBin .mul (.const (.int g)) coeff = .ok t ∧ intOf t = .ok v ∧
      assembleSide unknowns params factor row1 rest = .ok row' ∧
      ((∃ j, idxOf unknowns key = some j ∧ g = factor ∧
          row1 = (row.1.set j (rowGet row.1 j + v), row.2)) ∨
       (∃ j, (idxOf params key = some j ∨ key.pyEq one = true ∧ j = params.length) ∧ g = -factor ∧
          row1 = (row.1, row.2.set j (rowGet row.2 j + v)))) := by
  rw [assembleSide] at h
  split at h
  · rename_i j hj
    obtain ⟨t, ht, h⟩ := except_bind_ok h
    obtain ⟨v, hv, h⟩ := except_bind_ok h
    exact ⟨_, t, v, _, ht, hv, h, .inl ⟨j, hj, rfl, rfl⟩⟩
  · split at h
    · rename_i j hj
      obtain ⟨t, ht, h⟩ := except_bind_ok h
      obtain ⟨v, hv, h⟩ := except_bind_ok h
      exact ⟨_, t, v, _, ht, hv, h, .inr ⟨j, .inl hj, rfl, rfl⟩⟩
    · split at h
      · rename_i hone
        obtain ⟨t, ht, h⟩ := except_bind_ok h
        obtain ⟨v, hv, h⟩ := except_bind_ok h
        exact ⟨_, t, v, _, ht, hv, h, .inr ⟨_, .inr ⟨hone, rfl⟩, rfl, rfl⟩⟩
      · nomatch h

/-- lengths of an assembled row -/
theorem assembleSide_length {unknowns params : List Expr} {factor : Int} (d : Dict)
    (row row' : ARow) (h : assembleSide unknowns params factor row d = .ok row') :
    row'.1.length = row.1.length ∧ row'.2.length = row.2.length := by
  induction d generalizing row with
  | nil => cases h; exact ⟨rfl, rfl⟩
  | cons kc rest ih =>
    obtain ⟨_, _, _, row1, _, _, h, ⟨_, _, _, rfl⟩ | ⟨_, _, _, rfl⟩⟩ := assembleSide_cons_ok h
    · exact (ih _ h).imp_left fun h1 => h1.trans (List.length_set ..)
    · exact (ih _ h).imp_right fun h2 => h2.trans (List.length_set ..)

theorem assembleRow_length {unknowns params : List Expr} {eq : Expr × Expr} {row : ARow}
    (h : assembleRow unknowns params eq = .ok row) :
    row.1.length = unknowns.length ∧ row.2.length = params.length + 1 := by
  unfold assembleRow at h
  obtain ⟨dl, _, h⟩ := except_bind_ok h
  obtain ⟨dr, _, h⟩ := except_bind_ok h
  obtain ⟨row1, h1, h⟩ := except_bind_ok h
  obtain ⟨l1, l1'⟩ := assembleSide_length dl _ row1 h1
  obtain ⟨l2, l2'⟩ := assembleSide_length dr _ row h
  exact ⟨(l2.trans l1).trans List.length_replicate, (l2'.trans l1').trans List.length_replicate⟩

/-- Processing one side of an equation adds `factor · Σ coefficient·value(key)` to the residual
`a·x - b·p` of the row, where the value of an unknown key is `x j`, of a parameter key `p c`, and
of the constant key `p (number of parameters) = 1`. -/
theorem assembleSide_value {unknowns params : List Expr} {factor : Int} (x p : Nat → Rat)
    (hx : ∀ j u, unknowns[j]? = some u → nv env u = some (x j))
    (hp : ∀ c u, params[c]? = some u → nv env u = some (p c))
    (hp1 : p params.length = 1)
    (hus : ∀ u ∈ unknowns, u.simple = true) (hpss : ∀ u ∈ params, u.simple = true)
    (d : Dict) (row row' : ARow) (qd : Rat) (hks : KeysSimple d)
    (hl1 : row.1.length = unknowns.length) (hl2 : row.2.length = params.length + 1)
    (h : assembleSide unknowns params factor row d = .ok row') (hd : dictNV env d = some qd) :
    res x p row' = res x p row + factor * qd := by
  induction d generalizing row qd with
  | nil =>
    cases h
    cases hd
    rw [mul_zero, add_zero]
  | cons kc rest ih =>
    obtain ⟨key, coeff⟩ := kc
    obtain ⟨qc, qk, qr, hc, hk, hr, rfl⟩ := dictNV_cons hd
    obtain ⟨hkey, hrs⟩ : key.simple = true ∧ KeysSimple rest := List.forall_mem_cons.1 hks
    obtain ⟨g, t, v, row1, hm, hi, h, hrow1⟩ := assembleSide_cons_ok h
    have hv := scaled_int hm hi hc
    rcases hrow1 with ⟨j, hj, rfl, rfl⟩ | ⟨j, hj, rfl, rfl⟩
    · -- an unknown: its value is `x j`
      have hu := idxOf_simple hj hus hkey
      rw [ih (row.1.set j (rowGet row.1 j + v), row.2) qr hrs ((List.length_set ..).trans hl1) hl2
          h hr,
        res_set_left x p row v (hl1 ▸ (List.getElem?_eq_some_iff.1 hu).1), hv,
        Option.some.inj (hk.symm.trans (hx j key hu))]
      ring
    · -- a parameter or the constant: a column `j` of the right-hand side with value `p j`
      have hpj : j < params.length + 1 ∧ qk = p j := by
        rcases hj with hj | ⟨hone, rfl⟩
        · have hu := idxOf_simple hj hpss hkey
          exact ⟨Nat.lt_succ_of_lt (List.getElem?_eq_some_iff.1 hu).1,
            Option.some.inj (hk.symm.trans (hp j key hu))⟩
        · rw [key_eq_of_pyEq hkey one_simple hone, nv_one] at hk
          exact ⟨Nat.lt_succ_self _, (Option.some.inj hk).symm.trans hp1.symm⟩
      rw [ih (row.1, row.2.set j (rowGet row.2 j + v)) qr hrs hl1 ((List.length_set ..).trans hl2)
          h hr,
        res_set_right x p row v (hl2 ▸ hpj.1), hv, hpj.2]
      push_cast
      ring

end PV.Coeff
