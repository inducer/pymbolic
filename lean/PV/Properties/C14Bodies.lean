import PV.Model.CCodeBodies
import PV.Properties.C14
import PV.Properties.C14Table
/-
  C14 — mappers constructed from an EXPLICIT assignment list, `copy(cse_name_list=L)`
  (model: `PV/Model/CCodeBodies.lean`; stream `ccode-bodies`).

  A code generator emits several C functions: the mapper of every further body is obtained from a
  configured one with `copy(cse_name_list=[])` (same settings, no assignments), or continues from
  the first `k` assignments of an earlier list, possibly with values the caller provides itself.
  Each body consists of ITS OWN mapper's `cse_name_list` followed by the texts that mapper returned.

  * `copyWithList_nil`: a copy made with the empty list is the fresh mapper with the parent's
    settings — nothing else of the parent's allocator state reaches it; hence
    `body_names_unique`, `body_assigned_once`, `body_assigned_before_use`: the single-mapper
    theorems hold for every history on such a copy, WHATEVER the parent has hoisted before.
  * `bodies_assigned_before_use`: for ALL histories of `emit` / `copy()` / `copy_with_mapped_cses` /
    `copy(cse_name_list = prefix ++ pairs)` on a pool, in every mapper each assignment refers only to
    names assigned by earlier entries of that mapper's own list and every name `cse_to_name` can
    hand out is assigned in that list (so no returned text uses a name its body never assigns).
  * `copyList_eq_table_current`: `copy` with an explicit list, as read from the current source
    (regenerated table), is `CSt.copyWithList`.
-/
namespace PV.C14
open PV

variable (S : PrintPrec)

/-- **A copy made with the empty list is a fresh mapper with the parent's settings.** -/
theorem copyWithList_nil (st : CSt) :
    st.copyWithList [] = { reverse := st.reverse, pfx := st.pfx } := rfl

/-- `copy()` is the copy made with the mapper's own list. -/
theorem copyWithList_own (st : CSt) : st.copyWithList st.nameList = st.copy := rfl

/-- **A further body, names unique**: after any sequence of expressions sent through
`parent.copy(cse_name_list=[])` the names of its `cse_name_list` are pairwise distinct — for every
`parent`, whatever it has hoisted. -/
theorem body_names_unique (parent : CSt) (es : List Expr)
    (outs : List (String × List String)) (st : CSt)
    (h : emits S (parent.copyWithList []) es = .ok (outs, st)) : st.assigned.Nodup :=
  names_unique S parent.reverse parent.pfx es outs st h

/-- **A further body, assigned once**: every entry was hoisted for a wrapper child sent through THIS
mapper, the children of different entries differ, `cse_to_name` lists exactly these children. -/
theorem body_assigned_once (parent : CSt) (es : List Expr)
    (outs : List (String × List String)) (st : CSt)
    (h : emits S (parent.copyWithList []) es = .ok (outs, st)) :
    (st.nameList.map entryKey).Pairwise (fun a b => a.eq b = false) ∧
    (∀ e ∈ st.nameList, e.child.isSome = true) ∧
    st.toName = st.nameList.map (fun e => (entryKey e, e.name)) ∧
    st.names = st.nameList.map (fun e => CCKey.text e.name) :=
  assigned_once S parent.reverse parent.pfx es outs st h

/-- **A further body, assigned before use**: every name a returned text (or an assignment) refers to is
assigned in the body's OWN list — none is taken over from the parent. -/
theorem body_assigned_before_use (parent : CSt) (es : List Expr)
    (outs : List (String × List String)) (st : CSt)
    (h : emits S (parent.copyWithList []) es = .ok (outs, st)) :
    refsBefore [] st.nameList ∧ ∀ o ∈ outs, ∀ r ∈ o.2, r ∈ st.assigned :=
  assigned_before_use_emits S parent.reverse parent.pfx es outs st h

/-- a non-vacuity instance: the parent has hoisted `x + 1` as `_cse_u`; its empty-list copy hoists
the same subexpression again, in its own list -/
example :
    (do
      let (_, p1) ← emits Generated.printPrec {} [.cse xPlus1 (some "u") "s"]
      let (outs, st) ← emits Generated.printPrec (p1.copyWithList []) [.cse xPlus1 (some "u") "s"]
      pure (p1.assigned, outs.map (·.1), st.assigned) : Except CErr _).toOption
      = some (["_cse_u"], ["_cse_u"], ["_cse_u"]) := by decide +kernel

/-! ### all histories with explicit lists -/

theorem refsBefore_take (seen : List String) (l : List CEntry) (k : Nat)
    (h : refsBefore seen l) : refsBefore seen (l.take k) := by
  induction l generalizing seen k with
  | nil => simpa using h
  | cons x xs ih =>
    cases k with
    | zero => simp [refsBefore]
    | succ k =>
      simp only [List.take_succ_cons, refsBefore] at h ⊢
      exact ⟨h.1, ih _ _ h.2⟩

theorem refInv_copyWithList (st src : CSt) (k : Nat) (pairs : List (String × Expr))
    (h : RefInv src) : RefInv (st.copyWithList (bodyList src k pairs)) := by
  apply refInv_ofList
  apply refsBefore_append_list _ _ _ (refsBefore_take _ _ _ h.before)
  intro e he
  obtain ⟨p, _, rfl⟩ := List.mem_map.mp he
  rfl

theorem runBodyOps_ref : ∀ (ops : List CBodyOp) (pool : List CSt) (outs : List CStepOut)
    (pool' : List CSt), (∀ st ∈ pool, RefInv st) → runBodyOps S pool ops = .ok (outs, pool') →
    ∀ st ∈ pool', RefInv st := by
  intro ops
  induction ops with
  | nil =>
    intro pool outs pool' hp h
    simp only [runBodyOps, pure, Except.pure, Except.ok.injEq, Prod.mk.injEq] at h
    obtain ⟨_, rfl⟩ := h
    exact hp
  | cons op rest ih =>
    intro pool outs pool' hp h
    cases op with
    | op o =>
      simp only [runBodyOps, bind, Except.bind] at h
      cases h1 : runOps S pool [o] with
      | error err => simp [h1] at h
      | ok v =>
        obtain ⟨o1, pool1⟩ := v
        simp only [h1] at h
        cases h2 : runBodyOps S pool1 rest with
        | error err => simp [h2] at h
        | ok w =>
          obtain ⟨o2, p2⟩ := w
          simp only [h2, pure, Except.pure, Except.ok.injEq, Prod.mk.injEq] at h
          obtain ⟨_, rfl⟩ := h
          exact ih pool1 o2 _ (runOps_ref S [o] pool o1 pool1 hp h1).1 h2
    | copyList i j k pairs =>
      simp only [runBodyOps] at h
      cases hi : pool[i]? with
      | none => simp [hi, throw, throwThe, MonadExceptOf.throw] at h
      | some st =>
        cases hj : pool[j]? with
        | none => simp [hi, hj, throw, throwThe, MonadExceptOf.throw] at h
        | some src =>
          simp only [hi, hj, bind, Except.bind] at h
          cases h2 : runBodyOps S (pool ++ [st.copyWithList (bodyList src k pairs)]) rest with
          | error err => simp [h2] at h
          | ok w =>
            obtain ⟨o2, p2⟩ := w
            simp only [h2, pure, Except.pure, Except.ok.injEq, Prod.mk.injEq] at h
            obtain ⟨_, rfl⟩ := h
            refine ih _ o2 _ ?_ h2
            intro s hs
            simp only [List.mem_append, List.mem_singleton] at hs
            rcases hs with hs | rfl
            · exact hp s hs
            · exact refInv_copyWithList st src k pairs (hp src (List.mem_of_getElem? hj))

/-- **Assigned before use, in every body**: for ALL histories of `emit`, `copy()`,
`copy_with_mapped_cses(…)` and `copy(cse_name_list = first k assignments of some mapper ++ pairs)`
on a pool of mappers, in every mapper each assignment refers only to names assigned by EARLIER
entries of that mapper's own `cse_name_list`, and every name its `cse_to_name` can hand out for a
wrapped subexpression is assigned in that list: a mapper never knows a name its body lacks. -/
theorem bodies_assigned_before_use (reverse : Bool) (pfx : String) (ops : List CBodyOp)
    (outs : List CStepOut) (pool : List CSt)
    (h : runBodyOps S [{ reverse, pfx }] ops = .ok (outs, pool)) :
    ∀ st ∈ pool, refsBefore [] st.nameList ∧ ∀ kv ∈ st.toName, kv.2 ∈ st.assigned := by
  have hp : ∀ st ∈ [({ reverse, pfx } : CSt)], RefInv st := by
    intro st hst
    simp only [List.mem_singleton] at hst
    subst hst
    exact refInv_init reverse pfx
  intro st hst
  have r := runBodyOps_ref S ops _ outs pool hp h st hst
  exact ⟨r.before, r.vals⟩

/-- a non-vacuity instance: body 0 hoists `x + 1`, body 1 = `copy(cse_name_list=[])` sees it again -/
example :
    ((runBodyOps Generated.printPrec [{}]
        [.op (.emit 0 (.cse xPlus1 (some "u") "s")), .copyList 0 0 0 [],
         .op (.emit 1 (.nary .sum [.cse xPlus1 (some "u") "s", .const (.int 1)]))]).toOption.map
      fun r => (r.1.length, r.2.map (·.assigned))) = some (3, [["_cse_u"], ["_cse_u"]]) := by decide +kernel

/-! ### the tie to the current source -/

/-- **`copy(cse_name_list=l)` as read from the source is the modelled one**: the constructor is
called with the mapper's settings and `l`; the new mapper's tables are built from `l` alone. -/
theorem copyList_eq_table_current (st : CSt) (l : List CEntry) :
    c14CopyT tableCurrent.init tableCurrent.copy tableCurrent.mapper st (some l)
      = some (st.copyWithList l) := by
  have := init_eq_table_current st.reverse st.pfx l
  simp [c14CopyT, tableCurrent, Generated.c14CCodeTable, List.lookup, List.zip,
    CSt.copyWithList] at this ⊢
  exact this

end PV.C14
