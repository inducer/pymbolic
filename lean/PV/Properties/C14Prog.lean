import PV.Model.CCodeProg
import PV.Generated.Prec
import PV.Proofs.CCodeProg
import PV.Properties.C14
import PV.Properties.C14Table
/-
  C14, program level — the emitted expression TOGETHER WITH the hoisted assignments computes the
  evaluator's value.

  Model: `PV/Model/CCodeProg.lean` (`cFragCse`: `cFrag` with `CommonSubexpression` wrappers anywhere;
  `emitProg` / `emitsP`: the mapper of `CCode.lean` returning in addition the new assignments as
  printed structures; `runProg`: declarations `long name = rhs;` executed in order, then the
  expression, every right-hand side read by C's grammar `denC`; `denVCse`: the reference meaning, a
  wrapper means its child).

  * `emit_is_ccode`, `emits_is_emits`, `assigns_are_name_list`, `emits_as_runOps`: the program-level
    mapper IS the mapper of `CCode.lean` (same text, same names, same allocator state; the
    assignments are the entries appended to `cse_name_list`; a history of emits on one mapper is a
    `runOps` history without copies).
  * `program_value_partial`: one call on a fresh mapper.
  * `history_value_partial`: any sequence of calls on one mapper — EVERY expression text of the
    history, the earlier ones included, computes its tree's value under the assignment list
    accumulated by the whole history.
  * `history_value_current_partial`: the same for the texts and the `cse_name_list` the table
    interpreter produces on the handler table regenerated from the current source.
  * hypotheses, each with a witness that it cannot be dropped:
      - the environment declares none of the generated names (`program_value_env_clash_cex`; the
        real mapper does not check this),
      - every hoisted subexpression has a value (`program_value_lazy_cex`: the program computes ALL
        hoisted assignments, also those of a branch the evaluator does not take),
      - no `copy()` in the history (`program_value_after_copy_cex`: the copy declares one C
        variable twice).
-/
namespace PV.C14
open PV

variable (S : PrintPrec)

/-! ### the program-level mapper is the mapper -/

/-- **`emitProg` is `ccode`**: forgetting the assignments gives exactly the printed structure, the
names and the allocator state of the mapper model (which `C14Table.lean` ties to the source). -/
theorem emit_is_ccode (st : CSt) (e : Expr) : (emitProg S st e).map proj = ccode S st e :=
  emitProg_ccode S st e

/-- **`emitsP` is `emits`**: same texts, same final allocator state. -/
theorem emits_is_emits (st : CSt) (es : List Expr) :
    (emitsP S st es).map (fun o => (o.1.map Doc.render, o.2.2)) =
      (emits S st es).map (fun o => (o.1.map (·.1), o.2)) := emitsP_emits S es st

/-- **the assignments are `cse_name_list`**: after a history on a fresh mapper the `(name, text)`
pairs of `cse_name_list` are the names and rendered right-hand sides of the assignments, in
order. -/
theorem assigns_are_name_list (reverse : Bool) (pfx : String) (es : List Expr) (ds : List Doc)
    (as : Assigns) (st' : CSt) (h : emitsP S { reverse, pfx } es = .ok (ds, as, st')) :
    st'.nameList.map entryPair = as.map assignPair := by
  simpa using emitsP_list S es _ ds as st' h

/-- a history of calls on one mapper is a `runOps` history without copies -/
theorem emits_as_runOps : ∀ (es : List Expr) (st : CSt),
    runOps S [st] (es.map (COpn.emit 0)) =
      (emits S st es).map (fun o => (o.1.map (fun t => CStepOut.text t.1 t.2), [o.2]))
  | [], st => rfl
  | e :: es, st => by
      simp only [List.map_cons, runOps, emits, List.getElem?_cons_zero, bind, Except.bind]
      cases h1 : ccode S st e with
      | error err => rfl
      | ok w =>
        obtain ⟨d, r, st1⟩ := w
        simp only [List.set_cons_zero, emits_as_runOps es st1]
        cases emits S st1 es with
        | error err => rfl
        | ok w2 => rfl

/-! ### the value of the program -/

/-- **The generated program computes the evaluator's value (one call, fresh mapper).**  Let `e` be
in `cFragCse` — the C-expressible integer fragment `cFrag` with `CommonSubexpression` wrappers at
any place, nested wrappers included —, let the mapper be fresh (any sorting direction, any
`cse_prefix`), `prog` = the assignments `long name = rhs;` the call hoists, in emission order,
followed by the expression text.  Let the environment be in range: `denVCse env e = some w` (the
evaluation of the tree, a wrapper meaning its child, succeeds inside the guards of
`ccode_value_c_partial`), every hoisted subexpression has a value (`cseTotal`), and the environment
declares none of the names the program declares (`hdisj`; decidable; the real mapper does NOT check
it).  Then running the program — each assignment binds its name to the C value `denC` of its
right-hand side in the environment extended so far, then the expression is read by C's grammar —
gives `w.toInt`, and `w` is the evaluator's value (`True`/`False` as 1/0). -/
theorem program_value_partial (hS : PrecA S ∧ PrecB S) (env : Env) (reverse : Bool) (pfx : String)
    (e : Expr) (d : Doc) (refs : List String) (as : Assigns) (st' : CSt) (w : CVal)
    (hfrag : cFragCse e = true) (htot : cseTotal env e = true)
    (hrun : emitProg S { reverse, pfx } e = .ok (d, refs, as, st'))
    (hdisj : ∀ a ∈ as, env.get a.1 = none) (hv : denVCse env e = some w) :
    runProg env { assigns := as, expr := d } = some w.toInt ∧ den env e = .ok w.toValue := by
  obtain ⟨hi, _, hr, hc, hA⟩ := progE_good S hS.1 hS.2 env _ _ e _ d refs as st' [] hfrag htot hrun
    (progInv_init env reverse pfx) hdisj
  have hp : Printed S st'.toName st'.reverse e d := ⟨hfrag, hc, fun M hM st0 h0 => hA M hM st0 (h0.trans hr)⟩
  exact printed_value S hS.1 hS.2 (by simpa using hi) hp w hv

/-- **… after ANY history of calls on the same mapper.**  Let `es` be trees of `cFragCse` sent
through one mapper one after the other (the allocator state reached by `runOps` from the initial
state without copies: `emits_as_runOps`), `ds` the expression structures returned, `as` the
assignment list accumulated by ALL calls (= `cse_name_list`: `assigns_are_name_list`).  Let the
environment be in range for every tree, every hoisted subexpression have a value, and the
environment declare none of the assigned names.  Then EVERY returned expression — the last one and
every earlier one — computes the value of its tree when run after the whole assignment list: a
wrapped subexpression is assigned once, under one name that no later call re-binds, and the names
an expression refers to keep their values however the list grows.  (Applied to a prefix of the
history: the list accumulated so far followed by the new expression computes the new tree's
value.) -/
theorem history_value_partial (hS : PrecA S ∧ PrecB S) (env : Env) (reverse : Bool) (pfx : String)
    (es : List Expr) (ds : List Doc) (as : Assigns) (st' : CSt)
    (hfrag : ∀ e ∈ es, cFragCse e = true) (htot : ∀ e ∈ es, cseTotal env e = true)
    (hrun : emitsP S { reverse, pfx } es = .ok (ds, as, st'))
    (hdisj : ∀ a ∈ as, env.get a.1 = none) :
    ds.length = es.length ∧
    ∀ p ∈ es.zip ds, ∀ w, denVCse env p.1 = some w →
      runProg env { assigns := as, expr := p.2 } = some w.toInt ∧ den env p.1 = .ok w.toValue := by
  obtain ⟨hi, _, hr, hl, hP⟩ := emitsP_good S hS.1 hS.2 env es _ ds as st' []
    (fun e he => ⟨hfrag e he, htot e he⟩) hrun (progInv_init env reverse pfx) hdisj
  refine ⟨hl, fun p hp w hw => ?_⟩
  have := hP p hp
  rw [← hr] at this
  exact printed_value S hS.1 hS.2 (by simpa using hi) this w hw

/-- … and the assigned names are pairwise distinct (`names_unique` read on the program) -/
theorem history_names_unique (reverse : Bool) (pfx : String) (es : List Expr) (ds : List Doc)
    (as : Assigns) (st' : CSt) (hrun : emitsP S { reverse, pfx } es = .ok (ds, as, st')) :
    (as.map (·.1)).Nodup := by
  have h1 := emits_is_emits S { reverse, pfx } es
  rw [hrun] at h1
  cases h2 : emits S { reverse, pfx } es with
  | error err => rw [h2] at h1; cases h1
  | ok w =>
    obtain ⟨outs, st2⟩ := w
    rw [h2] at h1
    simp only [Except.map, Except.ok.injEq, Prod.mk.injEq] at h1
    have hn := names_unique S reverse pfx es outs st2 h2
    rw [← h1.2] at hn
    have hl := assigns_are_name_list S reverse pfx es ds as st' hrun
    have : st'.assigned = as.map (·.1) := by
      have := congrArg (List.map Prod.fst) hl
      simpa [CSt.assigned, entryPair, assignPair, Function.comp_def] using this
    rwa [this] at hn

/-- **… for what the current source says** (`history_value_partial` transported through
`emits_eq_table_current`): the texts the table interpreter — run on the handler table regenerated
from the source of `CCodeMapper` — returns for a history on a fresh mapper, and the `cse_name_list`
it builds, are the renderings of a program (assignments and expressions as printed structures)
each of whose expressions computes the value of its tree after the whole assignment list. -/
theorem history_value_current_partial (hS : PrecA S ∧ PrecB S) (env : Env) (reverse : Bool)
    (pfx : String) (es : List Expr) (outs : List (String × List String)) (st' : CSt)
    (hfrag : ∀ e ∈ es, cFragCse e = true) (htot : ∀ e ∈ es, cseTotal env e = true)
    (hrun : c14EmitsT tableCurrent S { reverse, pfx } es = .ok (outs, st')) :
    ∃ (ds : List Doc) (as : Assigns),
      ds.map Doc.render = outs.map (·.1) ∧ st'.nameList.map entryPair = as.map assignPair ∧
      ds.length = es.length ∧
      ((∀ a ∈ as, env.get a.1 = none) → ∀ p ∈ es.zip ds, ∀ w, denVCse env p.1 = some w →
        runProg env { assigns := as, expr := p.2 } = some w.toInt ∧ den env p.1 = .ok w.toValue) := by
  rw [← emits_eq_table_current] at hrun
  have h1 := emits_is_emits S { reverse, pfx } es
  rw [hrun] at h1
  cases h2 : emitsP S { reverse, pfx } es with
  | error err => rw [h2] at h1; cases h1
  | ok v =>
    obtain ⟨ds, as, st2⟩ := v
    rw [h2] at h1
    simp only [Except.map, Except.ok.injEq, Prod.mk.injEq] at h1
    obtain ⟨h3, h4⟩ := h1
    subst h4
    refine ⟨ds, as, h3, assigns_are_name_list S reverse pfx es ds as _ h2, ?_, ?_⟩
    · exact emitsP_length S es _ ds as _ h2
    · intro hdisj
      exact (history_value_partial S hS env reverse pfx es ds as _ hfrag htot h2 hdisj).2

/-! ### the hypotheses cannot be dropped -/

def progText (r : Except CErr POut) : Option (List (String × String) × String) :=
  match r with
  | .ok (d, _, as, _) => some (CProg.text { assigns := as, expr := d })
  | .error _ => none

def progRun (env : Env) (r : Except CErr POut) : Option Int :=
  match r with
  | .ok (d, _, as, _) => runProg env { assigns := as, expr := d }
  | .error _ => none

def envXY : Env := [("x", .int 6), ("y", .int 0)]

/-- `If(y != 0, CSE(x // y), 0)` -/
def lazyTree : Expr :=
  .ite (.cmp .ne (.var "y") (.const (.int 0)))
    (.cse (.bin .floordiv (.var "x") (.var "y")) none "s") (.const (.int 0))

/-- **false without `cseTotal`**: the wrapper stands in the branch the evaluator does not take; the
program nevertheless computes the hoisted `x/y` first and divides by zero, where the evaluator
returns 0. -/
theorem program_value_lazy_cex :
    cFragCse lazyTree = true ∧ denVCse envXY lazyTree = some (.i 0) ∧
      den envXY lazyTree = .ok (.int 0) ∧ cseTotal envXY lazyTree = false ∧
      progText (emitProg Generated.printPrec {} lazyTree) =
        some ([("_cse0", "(x/y)")], "(y != 0 ? _cse0 : 0)") ∧
      progRun envXY (emitProg Generated.printPrec {} lazyTree) = none := by
  refine ⟨by decide +kernel, by decide +kernel, ?_, by decide +kernel, by decide +kernel, by decide +kernel⟩
  rw [← den_strip]
  exact denV_sound _ _ (.i 0) (by decide +kernel)

def envClash : Env := [("x", .int 1), ("_cse0", .int 5)]

/-- `CSE(x + 1) * _cse0`: the user's variable `_cse0` has the name the mapper generates -/
def clashTree : Expr :=
  .nary .prod [.cse (.nary .sum [.var "x", .const (.int 1)]) none "s", .var "_cse0"]

/-- **false without `hdisj`**: the mapper does not look at the variables of the expression when it
generates names; the program declares `_cse0` although the environment has a variable of that name
(a redeclaration for the C compiler; with shadowing instead, `_cse0 * _cse0` would be 4, not 10). -/
theorem program_value_env_clash_cex :
    cFragCse clashTree = true ∧ cseTotal envClash clashTree = true ∧
      denVCse envClash clashTree = some (.i 10) ∧
      progText (emitProg Generated.printPrec {} clashTree) =
        some ([("_cse0", "x + 1")], "_cse0 * _cse0") ∧
      progRun envClash (emitProg Generated.printPrec {} clashTree) = none := by
  decide +kernel

/-- an entry of `cse_name_list` as `(name, text)` -/
def entryText (e : CEntry) : String × String :=
  (e.name, match e.val with
    | .text s => s
    | .expr _ => "?")

/-- `m(e1); m2 = m.copy(); m2(e2)`: the `cse_name_list` of the copy, the program (all assignments
of the two calls, the expression of the second), whether the environment declares one of the
assigned names, the C value of the program -/
def afterCopy (env : Env) (e1 e2 : Expr) :
    Option (List (String × String) × (List (String × String) × String) × Bool × Option Int) :=
  match emitProg Generated.printPrec {} e1 with
  | .ok (_, _, as1, st1) =>
    match emitProg Generated.printPrec st1.copy e2 with
    | .ok (d, _, as2, st2) =>
      let prog : CProg := { assigns := as1 ++ as2, expr := d }
      some (st2.nameList.map entryText, prog.text,
        prog.assigns.any (fun a => (env.get a.1).isSome), runProg env prog)
    | .error _ => none
  | .error _ => none

def copyTree1 : Expr := .cse xPlus1 (some "u") "s"
def copyTree2 : Expr := .nary .sum [.cse (.var "y") (some "u") "s", .var "x"]

def envCopy : Env := [("x", .int 2), ("y", .int 7)]

/-- **false after `copy()`** (`m(CSE(x+1,"u")); m2 = m.copy(); m2(CSE(y,"u") + x)`): the copy
inherits the assignment `_cse_u = x + 1` in its `cse_name_list` but not the name in `cse_names`, so
it hands out `_cse_u` again; its program — its whole `cse_name_list`, then the expression —
declares ONE C variable twice with two different right-hand sides: it does not compile, where the
evaluator returns 9; the environment declares none of the names, both trees are in the fragment,
every hoisted subexpression has a value. -/
theorem program_value_after_copy_cex :
    cFragCse copyTree1 = true ∧ cFragCse copyTree2 = true ∧
    cseTotal envCopy copyTree1 = true ∧ cseTotal envCopy copyTree2 = true ∧
    denVCse envCopy copyTree2 = some (.i 9) ∧
    afterCopy envCopy copyTree1 copyTree2 =
      some ([("_cse_u", "x + 1"), ("_cse_u", "y")],
            ([("_cse_u", "x + 1"), ("_cse_u", "y")], "x + _cse_u"), false, none) := by
  decide +kernel

/-! ### non-vacuity -/

def envP : Env := [("x", .int 2), ("y", .int 5), ("a", .int 7), ("b", .int 3)]

/-- a shared wrapper, a nested wrapper, equal children under different prefixes, a wrapper in a
condition and one of a Boolean value: text and value as gcc computes them -/
def progTree : Expr :=
  .nary .sum [
    .cse (.nary .prod [.cse xPlus1 (some "u") "s", .var "y"]) none "s",
    .cse xPlus1 (some "v") "s",
    .ite (.cse (.cmp .lt (.var "b") (.var "a")) (some "c") "s")
      (.bin .floordiv (.var "a") (.cse xPlus1 (some "u") "s")) (.const (.int 0)),
    .nary .prod [.const (.int (-1)), .cse (.bin .rem (.var "a") (.var "b")) none "s"]]

set_option maxRecDepth 16000 in
/-- non-vacuity of `program_value_partial` -/
example :
    cFragCse progTree = true ∧ cseTotal envP progTree = true ∧
      denVCse envP progTree = some (.i 19) ∧
      progText (emitProg Generated.printPrec {} progTree) =
        some ([("_cse_u", "x + 1"), ("_cse0", "_cse_u * y"), ("_cse_c", "b < a"), ("_cse1", "a % b")],
          "_cse_u + _cse0 + (_cse_c ? (a/_cse_u) : 0) - _cse1") ∧
      progRun envP (emitProg Generated.printPrec {} progTree) = some 19 := by
  decide +kernel

def histRun (env : Env) (es : List Expr) : Option (List (String × String) × List (String × Option Int)) :=
  match emitsP Generated.printPrec {} es with
  | .ok (ds, as, _) =>
    some (as.map (fun a => (a.1, a.2.render)),
          ds.map (fun d => (d.render, runProg env { assigns := as, expr := d })))
  | .error _ => none

set_option maxRecDepth 16000 in
/-- non-vacuity of `history_value_partial`: three calls; the first expression `_cse_u * y` still
means 15 under the list of four assignments, the third call reuses `_cse_u` and `_cse0` -/
example :
    let es : List Expr := [
      .nary .prod [.cse xPlus1 (some "u") "s", .var "y"],
      .nary .sum [.cse (.nary .prod [.cse xPlus1 (some "u") "s", .var "y"]) none "s",
                  .cse (.var "a") (some "u") "s"],
      .cmp .lt (.cse (.nary .prod [.cse xPlus1 (some "u") "s", .var "y"]) (some "p") "s")
               (.cse (.nary .sum [.var "a", .cse xPlus1 none "s"]) none "s")]
    (∀ e ∈ es, cFragCse e = true ∧ cseTotal envP e = true) ∧
    es.map (denVCse envP) = [some (.i 15), some (.i 22), some (.b false)] ∧
    histRun envP es = some (
      [("_cse_u", "x + 1"), ("_cse0", "_cse_u * y"), ("_cse_u_2", "a"), ("_cse1", "a + _cse_u")],
      [("_cse_u * y", some 15), ("_cse_u_2 + _cse0", some 22), ("_cse0 < _cse1", some 0)]) := by
  decide +kernel

end PV.C14
