import PV.Model.Traverse
import PV.Model.Eval
import PV.Proofs.Subterm
import PV.Proofs.UnionPy
import PV.Proofs.PyEqEquiv
import PV.Proofs.NodeCount
import PV.Proofs.AnalysisTable
import PV.Generated.Analysis
import PV.Properties.C04
/-
  C09 — analyses: free variables / coincidence, `DependencyMapper` (`deps`), flop counters, the
  node counter `get_num_nodes`, and the handlers of all three read from the current source (T-gen).
-/
set_option linter.unusedTactic false
set_option linter.unreachableTactic false
namespace PV.C09
open PV

/-! ### all variable names of a tree, and the coincidence lemma -/

mutual
def fv : Expr → List String
  | .var x => [x]
  | .nary _ cs => fvL cs
  | .bin _ a b => fv a ++ fv b
  | .un _ a => fv a
  | .cmp _ a b => fv a ++ fv b
  | .ite c t e => fv c ++ fv t ++ fv e
  | .call f as => fv f ++ fvL as
  | .callKw f as _ vs => fv f ++ fvL as ++ fvL vs
  | .subscript a i => fv a ++ fv i
  | .lookup a _ => fv a
  | .cse c _ _ => fv c
  | .subst c _ xs => fv c ++ fvL xs
  | .deriv c _ => fv c
  | .slice cs => fvL cs
  | .tuple cs => fvL cs
  | .list cs => fvL cs
  | _ => []
def fvL : List Expr → List String
  | [] => []
  | c :: cs => fv c ++ fvL cs
end

section
variable {env₁ env₂ : Env}

/-- agreement of two environments on a set of names -/
def Agree (env₁ env₂ : Env) (xs : List String) : Prop := ∀ x ∈ xs, env₁.get x = env₂.get x

theorem Agree.left {xs ys : List String} (h : Agree env₁ env₂ (xs ++ ys)) : Agree env₁ env₂ xs :=
  fun x hx => h x (List.mem_append_left _ hx)
theorem Agree.right {xs ys : List String} (h : Agree env₁ env₂ (xs ++ ys)) : Agree env₁ env₂ ys :=
  fun x hx => h x (List.mem_append_right _ hx)

mutual
/-- **Coincidence.**  Evaluation depends on the environment only through the variables that occur
in the tree: outside `fv e` no value is ever needed. -/
theorem coincidence : ∀ e : Expr, Agree env₁ env₂ (fv e) → den env₁ e = den env₂ e
  | .var x, h => by simp only [den, h x (by simp [fv])]
  | .const _, _ | .nan, _ | .wildcard, _ | .dotWild _, _ | .starWild _, _ | .funcSym, _
  | .deriv _ _, _ | .subst _ _ _, _ | .slice _, _ => by simp only [den]
  | .subscript a b, h | .bin _ a b, h | .cmp _ a b, h => by
      simp only [fv] at h
      simp only [den, coincidence a h.left, coincidence b h.right]
  | .lookup a _, h | .cse a _ _, h => by
      simp only [fv] at h
      simp only [den, coincidence a h]
  | .un o a, h => by
      simp only [fv] at h
      cases o <;> simp only [den, coincidence a h]
  | .ite a b c, h => by
      simp only [fv] at h
      simp only [den, coincidence a h.left.left, coincidence b h.left.right, coincidence c h.right]
  | .nary o cs, h => by
      simp only [fv] at h
      cases o <;> simp only [den]
      · exact denFold_coinc .sum _ cs h
      · exact denFold_coinc .prod _ cs h
      · exact denReduce_coinc .bor cs h
      · exact denReduce_coinc .bxor cs h
      · exact denReduce_coinc .band cs h
      · exact denAny_coinc cs h
      · exact denAll_coinc cs h
      · exact denMinMax_coinc true none cs h
      · exact denMinMax_coinc false none cs h
  | .tuple cs, h | .list cs, h => by
      simp only [fv] at h
      simp only [den, denList_coinc cs h]
  | .call a cs, h => by
      simp only [fv] at h
      simp only [den, coincidence a h.left, denList_coinc cs h.right]
  | .callKw a bs ns cs, h => by
      simp only [fv] at h
      simp only [den, coincidence a h.left.left, denList_coinc bs h.left.right,
        denList_coinc cs h.right]
theorem denFold_coinc (o : NaryOp) : ∀ (acc : Value) (cs : List Expr), Agree env₁ env₂ (fvL cs) →
    denFold env₁ o acc cs = denFold env₂ o acc cs
  | _, [], _ => by simp only [denFold]
  | acc, c :: cs, h => by
      simp only [fvL] at h
      simp only [denFold, coincidence c h.left]
      cases den env₂ c with
      | error e => rfl
      | ok v =>
        simp only [bind, Except.bind]
        cases o.apply acc v with
        | error e => rfl
        | ok acc' => exact denFold_coinc o acc' cs h.right
theorem denReduce_coinc (o : NaryOp) : ∀ (cs : List Expr), Agree env₁ env₂ (fvL cs) →
    denReduce env₁ o cs = denReduce env₂ o cs
  | [], _ => by simp only [denReduce]
  | c :: cs, h => by
      simp only [fvL] at h
      simp only [denReduce, coincidence c h.left]
      cases den env₂ c with
      | error e => rfl
      | ok v => exact denFold_coinc o v cs h.right
theorem denAny_coinc : ∀ (cs : List Expr), Agree env₁ env₂ (fvL cs) →
    denAny env₁ cs = denAny env₂ cs
  | [], _ => by simp only [denAny]
  | c :: cs, h => by
      simp only [fvL] at h
      simp only [denAny, coincidence c h.left, denAny_coinc cs h.right]
theorem denAll_coinc : ∀ (cs : List Expr), Agree env₁ env₂ (fvL cs) →
    denAll env₁ cs = denAll env₂ cs
  | [], _ => by simp only [denAll]
  | c :: cs, h => by
      simp only [fvL] at h
      simp only [denAll, coincidence c h.left, denAll_coinc cs h.right]
theorem denMinMax_coinc (isMin : Bool) : ∀ (cur : Option Value) (cs : List Expr),
    Agree env₁ env₂ (fvL cs) → denMinMax env₁ isMin cur cs = denMinMax env₂ isMin cur cs
  | _, [], _ => by simp only [denMinMax]
  | cur, c :: cs, h => by
      simp only [fvL] at h
      simp only [denMinMax, coincidence c h.left]
      cases den env₂ c with
      | error e => rfl
      | ok v =>
        simp only [bind, Except.bind]
        cases cur with
        | none => exact denMinMax_coinc isMin (some v) cs h.right
        | some m =>
          simp only
          cases Value.better isMin v m with
          | error e => rfl
          | ok b => exact denMinMax_coinc isMin _ cs h.right
theorem denList_coinc : ∀ (cs : List Expr), Agree env₁ env₂ (fvL cs) →
    denList env₁ cs = denList env₂ cs
  | [], _ => by simp only [denList]
  | c :: cs, h => by
      simp only [fvL] at h
      simp only [denList, coincidence c h.left, denList_coinc cs h.right]
end
end

/-! ### `DependencyMapper` with all composite flags off computes exactly the variables -/

def offFlags : DepFlags := { subscripts := false, lookups := false, calls := .no, cses := false }

/-- `r` is a list of variable nodes whose names are exactly `names` (as sets) -/
def VarSet (r : List Expr) (names : List String) : Prop :=
  (∀ y ∈ r, ∃ x, y = .var x) ∧ ∀ x, .var x ∈ r ↔ x ∈ names

theorem VarSet.nil : VarSet [] [] := ⟨by simp, by simp⟩

theorem VarSet.single (x : String) : VarSet [.var x] [x] := ⟨by simp, by simp⟩

theorem VarSet.union {a b : List Expr} {n m : List String} (ha : VarSet a n) (hb : VarSet b m) :
    VarSet (unionPy a b) (n ++ m) := by
  constructor
  · intro y hy
    rcases mem_unionPy hy with h | h
    · exact ha.1 y h
    · exact hb.1 y h
  · intro x
    rw [mem_unionPy_var, ha.2, hb.2, List.mem_append]

mutual
theorem deps_off : ∀ (e : Expr) (r : List Expr), deps offFlags e = .ok r → VarSet r (fv e)
  | .const c, r, h => by
      cases c <;> simp only [deps] at h <;> cases h <;> exact VarSet.nil
  | .var x, r, h => by cases h; exact VarSet.single x
  | .nan, r, h | .wildcard, r, h | .dotWild _, r, h | .starWild _, r, h | .funcSym, r, h => by
      cases h; exact VarSet.nil
  | .subst .., r, h | .deriv .., r, h => by cases h
  | .bin _ a b, r, h | .cmp _ a b, r, h => by
      simp only [deps] at h
      obtain ⟨x, hx, h⟩ := except_bind_ok h
      obtain ⟨y, hy, h⟩ := except_bind_ok h
      cases h
      exact (deps_off a x hx).union (deps_off b y hy)
  | .subscript a b, r, h => by
      simp only [deps, offFlags, Bool.false_eq_true, if_false] at h
      obtain ⟨x, hx, h⟩ := except_bind_ok h
      obtain ⟨y, hy, h⟩ := except_bind_ok h
      cases h
      exact (deps_off a x hx).union (deps_off b y hy)
  | .ite a b c, r, h => by
      simp only [deps] at h
      obtain ⟨x, hx, h⟩ := except_bind_ok h
      obtain ⟨y, hy, h⟩ := except_bind_ok h
      obtain ⟨z, hz, h⟩ := except_bind_ok h
      cases h
      exact ((deps_off a x hx).union (deps_off b y hy)).union (deps_off c z hz)
  | .un o a, r, h => by
      simp only [deps] at h
      exact deps_off a r h
  | .lookup a n, r, h => by
      simp only [deps, offFlags, Bool.false_eq_true, if_false] at h
      exact deps_off a r h
  | .cse a p s, r, h => by
      simp only [deps, offFlags, Bool.false_eq_true, if_false] at h
      split at h
      · cases h
      · exact deps_off a r h
  | .nary _ cs, r, h | .tuple cs, r, h | .list cs, r, h => by
      simp only [deps] at h
      exact depsL_off cs r h
  | .slice cs, r, h => by
      simp only [deps] at h
      exact depsSlice_off cs r h
  | .call a cs, r, h => by
      simp only [deps, offFlags] at h
      obtain ⟨x, hx, h⟩ := except_bind_ok h
      obtain ⟨y, hy, h⟩ := except_bind_ok h
      cases h
      exact (deps_off a x hx).union (depsL_off cs y hy)
  | .callKw a bs ns cs, r, h => by
      simp only [deps, offFlags] at h
      obtain ⟨x, hx, h⟩ := except_bind_ok h
      obtain ⟨y, hy, h⟩ := except_bind_ok h
      obtain ⟨z, hz, h⟩ := except_bind_ok h
      cases h
      exact ((deps_off a x hx).union (depsL_off bs y hy)).union (depsL_off cs z hz)
theorem depsL_off : ∀ (cs : List Expr) (r : List Expr), depsL offFlags cs = .ok r →
    VarSet r (fvL cs)
  | [], r, h => by cases h; exact VarSet.nil
  | c :: cs, r, h => by
      simp only [depsL] at h
      obtain ⟨x, hx, h⟩ := except_bind_ok h
      obtain ⟨y, hy, h⟩ := except_bind_ok h
      cases h
      exact (deps_off c x hx).union (depsL_off cs y hy)
theorem depsSlice_off : ∀ (cs : List Expr) (r : List Expr), depsSlice offFlags cs = .ok r →
    VarSet r (fvL cs)
  | [], r, h => by cases h; exact VarSet.nil
  | c :: cs, r, h => by
      by_cases hc : c = .const .none
      · subst hc
        simp only [depsSlice] at h
        simpa [fvL, fv] using depsSlice_off cs r h
      · rw [depsSlice.eq_3 _ _ _ hc] at h
        obtain ⟨x, hx, h⟩ := except_bind_ok h
        obtain ⟨y, hy, h⟩ := except_bind_ok h
        cases h
        exact (deps_off c x hx).union (depsSlice_off cs y hy)
end

/-- With subscripts, lookups, calls and CSEs all switched off, a successful `DependencyMapper` run
returns variable nodes only, and their names are exactly the variables occurring in the tree. -/
theorem deps_off_eq_fv (e : Expr) (r : List Expr) (h : deps offFlags e = .ok r) :
    (∀ y ∈ r, ∃ x, y = .var x) ∧ ∀ x, .var x ∈ r ↔ x ∈ fv e :=
  deps_off e r h

/-! ### flop counting -/

/-- arithmetic operations performed AT a node: an n-ary sum/product (n ≥ 1) performs n − 1,
quotient / floor division / power perform one, everything else none -/
def opWeight : Expr → Nat
  | .nary .sum cs => cs.length - 1
  | .nary .prod cs => cs.length - 1
  | .bin .quot _ _ => 1
  | .bin .floordiv _ _ => 1
  | .bin .pow _ _ => 1
  | _ => 0

mutual
/-- independent specification: the operations of the node plus those of all its children -/
def countOps : Expr → Nat
  | .nary o cs => opWeight (.nary o cs) + countOpsL cs
  | .bin o a b => opWeight (.bin o a b) + countOps a + countOps b
  | .un _ a => countOps a
  | .cmp _ a b => countOps a + countOps b
  | .ite c t e => countOps c + countOps t + countOps e
  | .call f as => countOps f + countOpsL as
  | .callKw f as _ vs => countOps f + countOpsL as + countOpsL vs
  | .subscript a i => countOps a + countOps i
  | .lookup a _ => countOps a
  | .cse c _ _ => countOps c
  | .subst c _ xs => countOps c + countOpsL xs
  | .deriv c _ => countOps c
  | .slice cs => countOpsL cs
  | .tuple cs => countOpsL cs
  | .list cs => countOpsL cs
  | _ => 0
def countOpsL : List Expr → Nat
  | [] => 0
  | c :: cs => countOps c + countOpsL cs
end

theorem except_pair_bind_ok {ε α β γ : Type} {x : Except ε (α × β)} {f : α × β → Except ε γ}
    {r : γ} (h : (x >>= f) = .ok r) : ∃ a b, x = .ok (a, b) ∧ f (a, b) = .ok r := by
  cases x with
  | error e => cases h
  | ok p => exact ⟨p.1, p.2, rfl, h⟩

/-- what a successful run of either counter satisfies: at most `m` operations are reported; the
plain counter reports exactly `m` and hands the seen-set back untouched -/
def FlopsOk (aware : Bool) (m : Nat) (seen : List Expr) (r : Nat × List Expr) : Prop :=
  r.1 ≤ m ∧ (aware = false → r.1 = m ∧ r.2 = seen)

theorem FlopsOk.const {aware : Bool} (k : Nat) (seen : List Expr) : FlopsOk aware k seen (k, seen) :=
  ⟨Nat.le_refl k, fun _ => ⟨rfl, rfl⟩⟩

/-- one run after the other -/
theorem FlopsOk.add {aware : Bool} {m k x y : Nat} {seen s1 s2 : List Expr}
    (h1 : FlopsOk aware m seen (x, s1)) (h2 : FlopsOk aware k s1 (y, s2)) :
    FlopsOk aware (m + k) seen (x + y, s2) := by
  refine ⟨Nat.add_le_add h1.1 h2.1, fun ha => ?_⟩
  obtain ⟨hx, hs1⟩ := h1.2 ha
  obtain ⟨hy, hs2⟩ := h2.2 ha
  exact ⟨congrArg₂ (· + ·) hx hy, hs2.trans hs1⟩

mutual
theorem flops_ok (aware : Bool) : ∀ (e : Expr) (seen : List Expr) (r : Nat × List Expr),
    flopsG aware e seen = .ok r → FlopsOk aware (countOps e) seen r
  | .const c, seen, r, h => by
      cases c <;> cases h <;> exact .const 0 seen
  | .var x, seen, r, h => by cases h; exact .const 0 seen
  | .nary o cs, seen, r, h => by
      cases o <;> simp only [flopsG] at h
      case sum | prod =>
        obtain ⟨m, s1, h1, h⟩ := except_pair_bind_ok h
        cases h
        simp only [countOps, opWeight]
        rw [Nat.add_comm (cs.length - 1)]
        exact (flopsL_ok aware cs seen _ h1).add (.const _ s1)
      all_goals
        simp only [countOps, opWeight, Nat.zero_add]
        exact flopsL_ok aware cs seen r h
  | .bin o a b, seen, r, h => by
      cases o <;> simp only [flopsG] at h <;>
      · obtain ⟨x, s1, h1, h⟩ := except_pair_bind_ok h
        obtain ⟨y, s2, h2, h⟩ := except_pair_bind_ok h
        cases h
        first
          | exact ((FlopsOk.const 1 seen).add (flops_ok aware a seen _ h1)).add
              (flops_ok aware b s1 _ h2)
          | (simp only [countOps, opWeight, Nat.zero_add]
             exact (flops_ok aware a seen _ h1).add (flops_ok aware b s1 _ h2))
  | .cmp _ a b, seen, r, h | .subscript a b, seen, r, h => by
      simp only [flopsG] at h
      obtain ⟨x, s1, h1, h⟩ := except_pair_bind_ok h
      obtain ⟨y, s2, h2, h⟩ := except_pair_bind_ok h
      cases h
      exact (flops_ok aware a seen _ h1).add (flops_ok aware b s1 _ h2)
  | .ite a b c, seen, r, h => by
      simp only [flopsG] at h
      obtain ⟨x, s1, h1, h⟩ := except_pair_bind_ok h
      obtain ⟨y, s2, h2, h⟩ := except_pair_bind_ok h
      obtain ⟨z, s3, h3, h⟩ := except_pair_bind_ok h
      cases h
      exact ((flops_ok aware a seen _ h1).add (flops_ok aware b s1 _ h2)).add
        (flops_ok aware c s2 _ h3)
  | .un _ a, seen, r, h | .lookup a _, seen, r, h => flops_ok aware a seen r h
  | .cse a p s, seen, r, h => by
      cases aware <;> simp only [flopsG, Bool.false_eq_true, if_false, if_true] at h
      · exact flops_ok false a seen r h
      · -- the aware counter promises the bound only, whatever the seen-set
        refine ⟨?_, fun ha => by cases ha⟩
        split at h
        · cases h
        · split at h
          · cases h; exact Nat.zero_le _
          · exact (flops_ok true a _ r h).1
  | .tuple cs, seen, r, h | .list cs, seen, r, h => flopsL_ok aware cs seen r h
  | .call a cs, seen, r, h => by
      simp only [flopsG] at h
      obtain ⟨x, s1, h1, h⟩ := except_pair_bind_ok h
      obtain ⟨y, s2, h2, h⟩ := except_pair_bind_ok h
      cases h
      exact (flops_ok aware a seen _ h1).add (flopsL_ok aware cs s1 _ h2)
  | .callKw a bs _ cs, seen, r, h => by
      simp only [flopsG] at h
      obtain ⟨x, s1, h1, h⟩ := except_pair_bind_ok h
      obtain ⟨y, s2, h2, h⟩ := except_pair_bind_ok h
      obtain ⟨z, s3, h3, h⟩ := except_pair_bind_ok h
      cases h
      exact ((flops_ok aware a seen _ h1).add (flopsL_ok aware bs s1 _ h2)).add
        (flopsL_ok aware cs s2 _ h3)
  | .subst .., _, _, h | .deriv .., _, _, h | .slice _, _, _, h | .nan, _, _, h
  | .wildcard, _, _, h | .dotWild _, _, _, h | .starWild _, _, _, h | .funcSym, _, _, h => by
      cases h
theorem flopsL_ok (aware : Bool) : ∀ (cs : List Expr) (seen : List Expr) (r : Nat × List Expr),
    flopsL aware cs seen = .ok r → FlopsOk aware (countOpsL cs) seen r
  | [], seen, r, h => by cases h; exact .const 0 seen
  | c :: cs, seen, r, h => by
      simp only [flopsL] at h
      obtain ⟨x, s1, h1, h⟩ := except_pair_bind_ok h
      obtain ⟨y, s2, h2, h⟩ := except_pair_bind_ok h
      cases h
      exact (flops_ok aware c seen _ h1).add (flopsL_ok aware cs s1 _ h2)
end

theorem flops_spec : ∀ (e : Expr) (seen : List Expr) (n : Nat) (seen' : List Expr),
    flopsG false e seen = .ok (n, seen') → n = countOps e ∧ seen' = seen :=
  fun e seen _ _ h => (flops_ok false e seen _ h).2 rfl

theorem flopsL_spec : ∀ (cs : List Expr) (seen : List Expr) (n : Nat) (seen' : List Expr),
    flopsL false cs seen = .ok (n, seen') → n = countOpsL cs ∧ seen' = seen :=
  fun cs seen _ _ h => (flopsL_ok false cs seen _ h).2 rfl

/-- The plain `FlopCounter` returns exactly the independently specified operation count and does
not touch the seen-set. -/
theorem flops_eq_count (e : Expr) (seen : List Expr) (n : Nat) (seen' : List Expr)
    (h : flopsG false e seen = .ok (n, seen')) : n = countOps e ∧ seen' = seen :=
  flops_spec e seen n seen' h

/-- `CSEAwareFlopCounter`: a common subexpression already seen (up to Python `==`) costs nothing
and leaves the seen-set alone. -/
theorem flopsCse_once (c : Expr) (p : Option String) (s : String) (seen : List Expr)
    (hl : c.hasList = false) (h : seen.any (fun k => k.pyEq (.cse c p s)) = true) :
    flopsG true (.cse c p s) seen = .ok (0, seen) := by
  simp [flopsG, hl, h]; rfl

/-- … and the first time it costs what its child costs, and is recorded. -/
theorem flopsCse_first (c : Expr) (p : Option String) (s : String) (seen : List Expr)
    (hl : c.hasList = false) (h : seen.any (fun k => k.pyEq (.cse c p s)) = false) :
    flopsG true (.cse c p s) seen = flopsG true c (seen ++ [.cse c p s]) := by
  simp [flopsG, hl, h]

theorem flopsCse_le_aux : ∀ (e : Expr) (seen : List Expr) (n : Nat) (seen' : List Expr),
    flopsG true e seen = .ok (n, seen') → n ≤ countOps e :=
  fun e seen _ _ h => (flops_ok true e seen _ h).1

theorem flopsCseL_le_aux : ∀ (cs : List Expr) (seen : List Expr) (n : Nat) (seen' : List Expr),
    flopsL true cs seen = .ok (n, seen') → n ≤ countOpsL cs :=
  fun cs seen _ _ h => (flopsL_ok true cs seen _ h).1

/-- The CSE-aware counter never reports more than the plain operation count. -/
theorem flopsCse_le (e : Expr) (seen : List Expr) (n : Nat) (seen' : List Expr)
    (h : flopsG true e seen = .ok (n, seen')) : n ≤ countOps e :=
  flopsCse_le_aux e seen n seen' h

/-- non-vacuity: `(x + 1) * (x + 1) / y` with a shared CSE: plain count 4, CSE-aware count 3 -/
example :
    let c := Expr.cse (.nary .sum [.var "x", .const (.int 1)]) none "s"
    let e := Expr.bin .quot (.nary .prod [c, c]) (.var "y")
    flopsG false e [] = .ok (4, []) ∧ countOps e = 4 ∧ flopsG true e [] = .ok (3, [c]) :=
  ⟨rfl, rfl, rfl⟩

/-! ### what `DependencyMapper` reports, for arbitrary flags -/

/-- the node kinds the flags select as atomic dependencies (variables always) -/
def Selected (fl : DepFlags) : Expr → Prop
  | .var _ => True
  | .subscript .. => fl.subscripts = true
  | .lookup .. => fl.lookups = true
  | .call .. => fl.calls = .yes
  | .callKw .. => fl.calls = .yes
  | .cse .. => fl.cses = true
  | _ => False

/-- `Occurs fl e x`: `x` is a variable occurrence of `e`, or an OUTERMOST selected
subscript / lookup / call / CSE of `e`.  Inside a selected composite nothing is reported; with
`calls = .descend` the function of a call is skipped and only its arguments are searched. -/
inductive Occurs (fl : DepFlags) : Expr → Expr → Prop
  | var (x : String) : Occurs fl (.var x) (.var x)
  | call_sel {f : Expr} {as : List Expr} : fl.calls = .yes → Occurs fl (.call f as) (.call f as)
  | call_fn {f : Expr} {as : List Expr} {x : Expr} : fl.calls = .no → Occurs fl f x →
      Occurs fl (.call f as) x
  | call_arg {f : Expr} {as : List Expr} {c x : Expr} : fl.calls ≠ .yes → c ∈ as → Occurs fl c x →
      Occurs fl (.call f as) x
  | callKw_sel {f : Expr} {as : List Expr} {ns : List String} {vs : List Expr} : fl.calls = .yes →
      Occurs fl (.callKw f as ns vs) (.callKw f as ns vs)
  | callKw_fn {f : Expr} {as : List Expr} {ns : List String} {vs : List Expr} {x : Expr} :
      fl.calls = .no → Occurs fl f x → Occurs fl (.callKw f as ns vs) x
  | callKw_arg {f : Expr} {as : List Expr} {ns : List String} {vs : List Expr} {c x : Expr} :
      fl.calls ≠ .yes → c ∈ as → Occurs fl c x → Occurs fl (.callKw f as ns vs) x
  | callKw_kwarg {f : Expr} {as : List Expr} {ns : List String} {vs : List Expr} {c x : Expr} :
      fl.calls ≠ .yes → c ∈ vs → Occurs fl c x → Occurs fl (.callKw f as ns vs) x
  | lookup_sel {a : Expr} {n : String} : fl.lookups = true → Occurs fl (.lookup a n) (.lookup a n)
  | lookup_in {a : Expr} {n : String} {x : Expr} : fl.lookups = false → Occurs fl a x →
      Occurs fl (.lookup a n) x
  | subscript_sel {a i : Expr} : fl.subscripts = true → Occurs fl (.subscript a i) (.subscript a i)
  | subscript_l {a i x : Expr} : fl.subscripts = false → Occurs fl a x →
      Occurs fl (.subscript a i) x
  | subscript_r {a i x : Expr} : fl.subscripts = false → Occurs fl i x →
      Occurs fl (.subscript a i) x
  | cse_sel {c : Expr} {p : Option String} {s : String} : fl.cses = true →
      Occurs fl (.cse c p s) (.cse c p s)
  | cse_in {c : Expr} {p : Option String} {s : String} {x : Expr} : fl.cses = false →
      Occurs fl c x → Occurs fl (.cse c p s) x
  | nary {o : NaryOp} {cs : List Expr} {c x : Expr} : c ∈ cs → Occurs fl c x →
      Occurs fl (.nary o cs) x
  | bin_l {o : BinOp} {a b x : Expr} : Occurs fl a x → Occurs fl (.bin o a b) x
  | bin_r {o : BinOp} {a b x : Expr} : Occurs fl b x → Occurs fl (.bin o a b) x
  | un {o : UnOp} {a x : Expr} : Occurs fl a x → Occurs fl (.un o a) x
  | cmp_l {o : CmpOp} {a b x : Expr} : Occurs fl a x → Occurs fl (.cmp o a b) x
  | cmp_r {o : CmpOp} {a b x : Expr} : Occurs fl b x → Occurs fl (.cmp o a b) x
  | ite_c {c t e x : Expr} : Occurs fl c x → Occurs fl (.ite c t e) x
  | ite_t {c t e x : Expr} : Occurs fl t x → Occurs fl (.ite c t e) x
  | ite_e {c t e x : Expr} : Occurs fl e x → Occurs fl (.ite c t e) x
  | slice {cs : List Expr} {c x : Expr} : c ∈ cs → Occurs fl c x → Occurs fl (.slice cs) x
  | tuple {cs : List Expr} {c x : Expr} : c ∈ cs → Occurs fl c x → Occurs fl (.tuple cs) x
  | list {cs : List Expr} {c x : Expr} : c ∈ cs → Occurs fl c x → Occurs fl (.list cs) x

/-- an occurrence is a subterm of a selected kind -/
theorem Occurs.subterm_selected {fl : DepFlags} {e x : Expr} (h : Occurs fl e x) :
    Subterm x e ∧ Selected fl x := by
  induction h with
  | var x => exact ⟨.refl _, trivial⟩
  | call_sel h => exact ⟨.refl _, h⟩
  | callKw_sel h => exact ⟨.refl _, h⟩
  | lookup_sel h => exact ⟨.refl _, h⟩
  | subscript_sel h => exact ⟨.refl _, h⟩
  | cse_sel h => exact ⟨.refl _, h⟩
  | call_arg _ hc _ ih | callKw_arg _ hc _ ih | callKw_kwarg _ hc _ ih | nary hc _ ih
  | slice hc _ ih | tuple hc _ ih | list hc _ ih =>
      exact ⟨ih.1.trans (.child (by simp [Expr.children, hc])), ih.2⟩
  | call_fn _ _ ih | callKw_fn _ _ ih | lookup_in _ _ ih | subscript_l _ _ ih
  | subscript_r _ _ ih | cse_in _ _ ih | bin_l _ ih | bin_r _ ih | un _ ih | cmp_l _ ih
  | cmp_r _ ih | ite_c _ ih | ite_t _ ih | ite_e _ ih =>
      exact ⟨ih.1.trans (.child (by simp [Expr.children])), ih.2⟩

theorem depSingle_mem {e y : Expr} {r : List Expr} (h : depSingle e = .ok r) (hy : y ∈ r) :
    y = e := by
  unfold depSingle at h
  split at h
  · cases h
  · cases h; simpa using hy

section
variable {fl : DepFlags}

mutual
/-- **Soundness (exact form).**  Everything `DependencyMapper` returns is an occurrence in the
sense of `Occurs`. -/
theorem deps_occ : ∀ (e : Expr) (r : List Expr), deps fl e = .ok r → ∀ y ∈ r, Occurs fl e y
  | .const c, r, h, y, hy => by
      cases c <;> simp only [deps] at h <;> cases h <;> simp at hy
  | .var x, r, h, y, hy => by
      cases h; simp only [List.mem_singleton] at hy; subst hy; exact .var x
  | .nan, r, h, y, hy | .wildcard, r, h, y, hy | .dotWild _, r, h, y, hy
  | .starWild _, r, h, y, hy | .funcSym, r, h, y, hy => by cases h; simp at hy
  | .subst .., r, h, _, _ | .deriv .., r, h, _, _ => by cases h
  | .bin o a b, r, h, y, hy => by
      simp only [deps] at h
      obtain ⟨x, hx, h⟩ := except_bind_ok h
      obtain ⟨z, hz, h⟩ := except_bind_ok h
      cases h
      rcases mem_unionPy hy with hy | hy
      · exact .bin_l (deps_occ a x hx y hy)
      · exact .bin_r (deps_occ b z hz y hy)
  | .cmp o a b, r, h, y, hy => by
      simp only [deps] at h
      obtain ⟨x, hx, h⟩ := except_bind_ok h
      obtain ⟨z, hz, h⟩ := except_bind_ok h
      cases h
      rcases mem_unionPy hy with hy | hy
      · exact .cmp_l (deps_occ a x hx y hy)
      · exact .cmp_r (deps_occ b z hz y hy)
  | .subscript a b, r, h, y, hy => by
      simp only [deps] at h
      cases hs : fl.subscripts <;> simp only [hs, Bool.false_eq_true, if_false, if_true] at h
      · obtain ⟨x, hx, h⟩ := except_bind_ok h
        obtain ⟨z, hz, h⟩ := except_bind_ok h
        cases h
        rcases mem_unionPy hy with hy | hy
        · exact .subscript_l hs (deps_occ a x hx y hy)
        · exact .subscript_r hs (deps_occ b z hz y hy)
      · rw [depSingle_mem h hy]; exact .subscript_sel hs
  | .ite a b c, r, h, y, hy => by
      simp only [deps] at h
      obtain ⟨x, hx, h⟩ := except_bind_ok h
      obtain ⟨z, hz, h⟩ := except_bind_ok h
      obtain ⟨w, hw, h⟩ := except_bind_ok h
      cases h
      rcases mem_unionPy hy with hy | hy
      · rcases mem_unionPy hy with hy | hy
        · exact .ite_c (deps_occ a x hx y hy)
        · exact .ite_t (deps_occ b z hz y hy)
      · exact .ite_e (deps_occ c w hw y hy)
  | .un o a, r, h, y, hy => by
      simp only [deps] at h
      exact .un (deps_occ a r h y hy)
  | .lookup a n, r, h, y, hy => by
      simp only [deps] at h
      cases hs : fl.lookups <;> simp only [hs, Bool.false_eq_true, if_false, if_true] at h
      · exact .lookup_in hs (deps_occ a r h y hy)
      · rw [depSingle_mem h hy]; exact .lookup_sel hs
  | .cse a p s, r, h, y, hy => by
      simp only [deps] at h
      split at h
      · cases h
      · cases hs : fl.cses <;> simp only [hs, Bool.false_eq_true, if_false, if_true] at h
        · exact .cse_in hs (deps_occ a r h y hy)
        · cases h; simp only [List.mem_singleton] at hy; subst hy; exact .cse_sel hs
  | .nary o cs, r, h, y, hy => by
      simp only [deps] at h
      obtain ⟨c, hc, ho⟩ := depsL_occ cs r h y hy
      exact .nary hc ho
  | .tuple cs, r, h, y, hy => by
      simp only [deps] at h
      obtain ⟨c, hc, ho⟩ := depsL_occ cs r h y hy
      exact .tuple hc ho
  | .list cs, r, h, y, hy => by
      simp only [deps] at h
      obtain ⟨c, hc, ho⟩ := depsL_occ cs r h y hy
      exact .list hc ho
  | .slice cs, r, h, y, hy => by
      simp only [deps] at h
      obtain ⟨c, hc, ho⟩ := depsSlice_occ cs r h y hy
      exact .slice hc ho
  | .call a cs, r, h, y, hy => by
      simp only [deps] at h
      cases hs : fl.calls <;> simp only [hs] at h
      · rw [depSingle_mem h hy]; exact .call_sel hs
      · obtain ⟨x, hx, h⟩ := except_bind_ok h
        obtain ⟨z, hz, h⟩ := except_bind_ok h
        cases h
        rcases mem_unionPy hy with hy | hy
        · exact .call_fn hs (deps_occ a x hx y hy)
        · obtain ⟨c, hc, ho⟩ := depsL_occ cs z hz y hy
          exact .call_arg (by simp [hs]) hc ho
      · obtain ⟨c, hc, ho⟩ := depsL_occ cs r h y hy
        exact .call_arg (by simp [hs]) hc ho
  | .callKw a bs ns cs, r, h, y, hy => by
      simp only [deps] at h
      cases hs : fl.calls <;> simp only [hs] at h
      · rw [depSingle_mem h hy]; exact .callKw_sel hs
      · obtain ⟨x, hx, h⟩ := except_bind_ok h
        obtain ⟨z, hz, h⟩ := except_bind_ok h
        obtain ⟨w, hw, h⟩ := except_bind_ok h
        cases h
        rcases mem_unionPy hy with hy | hy
        · rcases mem_unionPy hy with hy | hy
          · exact .callKw_fn hs (deps_occ a x hx y hy)
          · obtain ⟨c, hc, ho⟩ := depsL_occ bs z hz y hy
            exact .callKw_arg (by simp [hs]) hc ho
        · obtain ⟨c, hc, ho⟩ := depsL_occ cs w hw y hy
          exact .callKw_kwarg (by simp [hs]) hc ho
      · obtain ⟨z, hz, h⟩ := except_bind_ok h
        obtain ⟨w, hw, h⟩ := except_bind_ok h
        cases h
        rcases mem_unionPy hy with hy | hy
        · obtain ⟨c, hc, ho⟩ := depsL_occ bs z hz y hy
          exact .callKw_arg (by simp [hs]) hc ho
        · obtain ⟨c, hc, ho⟩ := depsL_occ cs w hw y hy
          exact .callKw_kwarg (by simp [hs]) hc ho
termination_by structural e => e
theorem depsL_occ : ∀ (cs : List Expr) (r : List Expr), depsL fl cs = .ok r →
    ∀ y ∈ r, ∃ c ∈ cs, Occurs fl c y
  | [], r, h, y, hy => by cases h; simp at hy
  | c :: cs, r, h, y, hy => by
      simp only [depsL] at h
      obtain ⟨x, hx, h⟩ := except_bind_ok h
      obtain ⟨z, hz, h⟩ := except_bind_ok h
      cases h
      rcases mem_unionPy hy with hy | hy
      · exact ⟨c, by simp, deps_occ c x hx y hy⟩
      · obtain ⟨d, hd, ho⟩ := depsL_occ cs z hz y hy
        exact ⟨d, by simp [hd], ho⟩
termination_by structural cs => cs
theorem depsSlice_occ : ∀ (cs : List Expr) (r : List Expr), depsSlice fl cs = .ok r →
    ∀ y ∈ r, ∃ c ∈ cs, Occurs fl c y
  | [], r, h, y, hy => by cases h; simp at hy
  | c :: cs, r, h, y, hy => by
      by_cases hc : c = .const .none
      · subst hc
        simp only [depsSlice] at h
        obtain ⟨d, hd, ho⟩ := depsSlice_occ cs r h y hy
        exact ⟨d, by simp [hd], ho⟩
      · rw [depsSlice.eq_3 _ _ _ hc] at h
        obtain ⟨x, hx, h⟩ := except_bind_ok h
        obtain ⟨z, hz, h⟩ := except_bind_ok h
        cases h
        rcases mem_unionPy hy with hy | hy
        · exact ⟨c, by simp, deps_occ c x hx y hy⟩
        · obtain ⟨d, hd, ho⟩ := depsSlice_occ cs z hz y hy
          exact ⟨d, by simp [hd], ho⟩
termination_by structural cs => cs
end

theorem deps_sound_occurs (e : Expr) (r : List Expr) (h : deps fl e = .ok r) (y : Expr)
    (hy : y ∈ r) : Occurs fl e y :=
  deps_occ e r h y hy

/-- **Soundness.**  Every reported dependency is a subterm of the input, and it is a variable or
a node of a kind the flags select. -/
theorem deps_mem_subterm (e : Expr) (r : List Expr) (h : deps fl e = .ok r) (y : Expr)
    (hy : y ∈ r) : Subterm y e ∧ Selected fl y :=
  (deps_occ e r h y hy).subterm_selected

end

/-! ### completeness of `DependencyMapper` up to Python `==` -/

/-- a class of expressions closed under children on which Python `==` is reflexive and transitive
(instantiated with well-formed expressions via `PV/Proofs/PyEqEquiv.lean`) -/
structure EqUniverse (W : Expr → Prop) : Prop where
  child : ∀ e c, W e → c ∈ e.children → W c
  refl : ∀ a, W a → a.pyEq a = true
  trans : ∀ a b c, W a → W b → W c → a.pyEq b = true → b.pyEq c = true → a.pyEq c = true

/-- `x` is represented in `r` up to Python `==` -/
def Rep (r : List Expr) (x : Expr) : Prop := ∃ y ∈ r, y.pyEq x = true

section
set_option linter.unusedSectionVars false
variable {fl : DepFlags} {W : Expr → Prop} (hW : EqUniverse W)
include hW

theorem EqUniverse.subterm {t e : Expr} (h : Subterm t e) : W e → W t := by
  induction h with
  | refl => exact id
  | step _ hc ih => exact fun he => ih (hW.child _ _ he hc)

theorem EqUniverse.deps_mem {e : Expr} {r : List Expr} (he : W e) (h : deps fl e = .ok r) :
    ∀ y ∈ r, W y :=
  fun y hy => hW.subterm (deps_mem_subterm e r h y hy).1 he

omit hW in
theorem Rep.union_left {a b : List Expr} {x : Expr} (h : Rep a x) : Rep (unionPy a b) x := by
  obtain ⟨y, hy, hyx⟩ := h
  exact ⟨y, mem_unionPy_left hy, hyx⟩

theorem Rep.union_right {a b : List Expr} {x : Expr} (hb : ∀ y ∈ b, W y)
    (hab : ∀ y ∈ unionPy a b, W y) (hx : W x) (h : Rep b x) : Rep (unionPy a b) x := by
  obtain ⟨y, hy, hyx⟩ := h
  obtain ⟨y', hy', rfl | h'⟩ := mem_unionPy_right (a := a) hy
  · exact ⟨y', hy', hyx⟩
  · exact ⟨y', hy', hW.trans y' y x (hab y' hy') (hb y hy) hx h' hyx⟩

theorem mem_union_W {a b : List Expr} (ha : ∀ y ∈ a, W y) (hb : ∀ y ∈ b, W y) :
    ∀ y ∈ unionPy a b, W y := by
  intro y hy
  rcases mem_unionPy hy with h | h
  · exact ha y h
  · exact hb y h

theorem depsL_mem : ∀ (cs : List Expr) (r : List Expr), (∀ c ∈ cs, W c) → depsL fl cs = .ok r →
    ∀ y ∈ r, W y
  | [], r, _, h => by cases h; simp
  | c :: cs, r, hc, h => by
      simp only [depsL] at h
      obtain ⟨x, hx, h⟩ := except_bind_ok h
      obtain ⟨z, hz, h⟩ := except_bind_ok h
      cases h
      exact mem_union_W hW (hW.deps_mem (hc c (by simp)) hx)
        (depsL_mem cs z (fun c h => hc c (by simp [h])) hz)

theorem depsSlice_mem : ∀ (cs : List Expr) (r : List Expr), (∀ c ∈ cs, W c) →
    depsSlice fl cs = .ok r → ∀ y ∈ r, W y
  | [], r, _, h => by cases h; simp
  | c :: cs, r, hc, h => by
      by_cases hn : c = .const .none
      · subst hn
        simp only [depsSlice] at h
        exact depsSlice_mem cs r (fun c h => hc c (by simp [h])) h
      · rw [depsSlice.eq_3 _ _ _ hn] at h
        obtain ⟨x, hx, h⟩ := except_bind_ok h
        obtain ⟨z, hz, h⟩ := except_bind_ok h
        cases h
        exact mem_union_W hW (hW.deps_mem (hc c (by simp)) hx)
          (depsSlice_mem cs z (fun c h => hc c (by simp [h])) hz)

theorem depsL_rep {c x : Expr} (hx : W x)
    (ih : ∀ r', deps fl c = .ok r' → Rep r' x) : ∀ (cs : List Expr) (r : List Expr),
    (∀ c ∈ cs, W c) → depsL fl cs = .ok r → c ∈ cs → Rep r x
  | [], r, _, _, hc => by simp at hc
  | d :: cs, r, hw, h, hc => by
      simp only [depsL] at h
      obtain ⟨a, ha, h⟩ := except_bind_ok h
      obtain ⟨b, hb, h⟩ := except_bind_ok h
      cases h
      simp only [List.mem_cons] at hc
      rcases hc with rfl | hc
      · exact (ih a ha).union_left
      · have hbW := depsL_mem hW cs b (fun c h => hw c (by simp [h])) hb
        exact Rep.union_right hW hbW (mem_union_W hW (hW.deps_mem (hw _ (by simp)) ha) hbW) hx
          (depsL_rep hx ih cs b (fun c h => hw c (by simp [h])) hb hc)

theorem depsSlice_rep {c x : Expr} (hx : W x) (hcn : c ≠ .const .none)
    (ih : ∀ r', deps fl c = .ok r' → Rep r' x) : ∀ (cs : List Expr) (r : List Expr),
    (∀ c ∈ cs, W c) → depsSlice fl cs = .ok r → c ∈ cs → Rep r x
  | [], r, _, _, hc => by simp at hc
  | d :: cs, r, hw, h, hc => by
      by_cases hn : d = .const .none
      · subst hn
        simp only [depsSlice] at h
        simp only [List.mem_cons] at hc
        rcases hc with rfl | hc
        · exact absurd rfl hcn
        · exact depsSlice_rep hx hcn ih cs r (fun c h => hw c (by simp [h])) h hc
      · rw [depsSlice.eq_3 _ _ _ hn] at h
        obtain ⟨a, ha, h⟩ := except_bind_ok h
        obtain ⟨b, hb, h⟩ := except_bind_ok h
        cases h
        simp only [List.mem_cons] at hc
        rcases hc with rfl | hc
        · exact (ih a ha).union_left
        · have hbW := depsSlice_mem hW cs b (fun c h => hw c (by simp [h])) hb
          exact Rep.union_right hW hbW (mem_union_W hW (hW.deps_mem (hw _ (by simp)) ha) hbW) hx
            (depsSlice_rep hx hcn ih cs b (fun c h => hw c (by simp [h])) hb hc)

/-- **Completeness.**  Every occurrence (variable, or outermost selected composite) is reported, up
to Python `==` (the result is a set under `==`, so an `==`-equal representative may stand for it). -/
theorem deps_complete_gen {e x : Expr} (ho : Occurs fl e x) :
    ∀ (r : List Expr), W e → deps fl e = .ok r → Rep r x := by
  induction ho with
  | var x =>
    intro r hw h; cases h
    exact ⟨.var x, by simp, hW.refl _ hw⟩
  | call_sel hs | callKw_sel hs | lookup_sel hs | subscript_sel hs | cse_sel hs =>
    intro r hw h
    simp only [deps, hs, depSingle, if_true] at h
    split at h
    · cases h
    · cases h; exact ⟨_, by simp, hW.refl _ hw⟩
  | @call_fn f as x hs ho ih =>
    intro r hw h
    simp only [deps, hs] at h
    obtain ⟨a, ha, h⟩ := except_bind_ok h
    obtain ⟨b, hb, h⟩ := except_bind_ok h
    cases h
    exact (ih a (hW.child _ _ hw (by simp [Expr.children])) ha).union_left
  | @call_arg f as c x hs hc ho ih =>
    intro r hw h
    have hx : W x := hW.subterm ho.subterm_selected.1 (hW.child _ _ hw (by simp [Expr.children, hc]))
    have hwas : ∀ c ∈ as, W c := fun c hc => hW.child _ _ hw (by simp [Expr.children, hc])
    have hwc := hwas c hc
    simp only [deps] at h
    cases hcs : fl.calls <;> simp only [hcs] at h
    · exact absurd hcs hs
    · obtain ⟨a, ha, h⟩ := except_bind_ok h
      obtain ⟨b, hb, h⟩ := except_bind_ok h
      cases h
      have hbW := depsL_mem hW as b hwas hb
      exact Rep.union_right hW hbW
        (mem_union_W hW (hW.deps_mem (hW.child _ _ hw (by simp [Expr.children])) ha) hbW) hx
        (depsL_rep hW hx (fun r' h' => ih r' hwc h') as b hwas hb hc)
    · exact depsL_rep hW hx (fun r' h' => ih r' hwc h') as r hwas h hc
  | @callKw_fn f as ns vs x hs ho ih =>
    intro r hw h
    simp only [deps, hs] at h
    obtain ⟨a, ha, h⟩ := except_bind_ok h
    obtain ⟨b, hb, h⟩ := except_bind_ok h
    obtain ⟨c, hc, h⟩ := except_bind_ok h
    cases h
    exact (ih a (hW.child _ _ hw (by simp [Expr.children])) ha).union_left.union_left
  | @callKw_arg f as ns vs c x hs hc ho ih =>
    intro r hw h
    have hx : W x := hW.subterm ho.subterm_selected.1 (hW.child _ _ hw (by simp [Expr.children, hc]))
    have hwas : ∀ c ∈ as, W c := fun c hc => hW.child _ _ hw (by simp [Expr.children, hc])
    have hwvs : ∀ c ∈ vs, W c := fun c hc => hW.child _ _ hw (by simp [Expr.children, hc])
    have hwc := hwas c hc
    simp only [deps] at h
    cases hcs : fl.calls <;> simp only [hcs] at h
    · exact absurd hcs hs
    · obtain ⟨a, ha, h⟩ := except_bind_ok h
      obtain ⟨b, hb, h⟩ := except_bind_ok h
      obtain ⟨d, hd, h⟩ := except_bind_ok h
      cases h
      have hbW := depsL_mem hW as b hwas hb
      exact (Rep.union_right hW hbW
        (mem_union_W hW (hW.deps_mem (hW.child _ _ hw (by simp [Expr.children])) ha) hbW) hx
        (depsL_rep hW hx (fun r' h' => ih r' hwc h') as b hwas hb hc)).union_left
    · obtain ⟨b, hb, h⟩ := except_bind_ok h
      obtain ⟨d, hd, h⟩ := except_bind_ok h
      cases h
      exact (depsL_rep hW hx (fun r' h' => ih r' hwc h') as b hwas hb hc).union_left
  | @callKw_kwarg f as ns vs c x hs hc ho ih =>
    intro r hw h
    have hx : W x := hW.subterm ho.subterm_selected.1 (hW.child _ _ hw (by simp [Expr.children, hc]))
    have hwas : ∀ c ∈ as, W c := fun c hc => hW.child _ _ hw (by simp [Expr.children, hc])
    have hwvs : ∀ c ∈ vs, W c := fun c hc => hW.child _ _ hw (by simp [Expr.children, hc])
    have hwc := hwvs c hc
    simp only [deps] at h
    cases hcs : fl.calls <;> simp only [hcs] at h
    · exact absurd hcs hs
    · obtain ⟨a, ha, h⟩ := except_bind_ok h
      obtain ⟨b, hb, h⟩ := except_bind_ok h
      obtain ⟨d, hd, h⟩ := except_bind_ok h
      cases h
      have hbW := depsL_mem hW as b hwas hb
      have hdW := depsL_mem hW vs d hwvs hd
      have haW := hW.deps_mem (hW.child _ _ hw (by simp [Expr.children])) ha
      exact Rep.union_right hW hdW (mem_union_W hW (mem_union_W hW haW hbW) hdW) hx
        (depsL_rep hW hx (fun r' h' => ih r' hwc h') vs d hwvs hd hc)
    · obtain ⟨b, hb, h⟩ := except_bind_ok h
      obtain ⟨d, hd, h⟩ := except_bind_ok h
      cases h
      have hbW := depsL_mem hW as b hwas hb
      have hdW := depsL_mem hW vs d hwvs hd
      exact Rep.union_right hW hdW (mem_union_W hW hbW hdW) hx
        (depsL_rep hW hx (fun r' h' => ih r' hwc h') vs d hwvs hd hc)
  | @lookup_in a n x hs ho ih =>
    intro r hw h
    simp only [deps, hs, Bool.false_eq_true, if_false] at h
    exact ih r (hW.child _ _ hw (by simp [Expr.children])) h
  | @cse_in c p s x hs ho ih =>
    intro r hw h
    simp only [deps, hs, Bool.false_eq_true, if_false] at h
    split at h
    · cases h
    · exact ih r (hW.child _ _ hw (by simp [Expr.children])) h
  | @un o a x ho ih =>
    intro r hw h
    simp only [deps] at h
    exact ih r (hW.child _ _ hw (by simp [Expr.children])) h
  | @subscript_l a i x hs ho ih =>
    intro r hw h
    simp only [deps, hs, Bool.false_eq_true, if_false] at h
    obtain ⟨p, hp, h⟩ := except_bind_ok h
    obtain ⟨q, hq, h⟩ := except_bind_ok h
    cases h
    exact (ih p (hW.child _ _ hw (by simp [Expr.children])) hp).union_left
  | @subscript_r a i x hs ho ih =>
    intro r hw h
    have hwi : W i := hW.child _ _ hw (by simp [Expr.children])
    simp only [deps, hs, Bool.false_eq_true, if_false] at h
    obtain ⟨p, hp, h⟩ := except_bind_ok h
    obtain ⟨q, hq, h⟩ := except_bind_ok h
    cases h
    have hqW := hW.deps_mem hwi hq
    exact Rep.union_right hW hqW
      (mem_union_W hW (hW.deps_mem (hW.child _ _ hw (by simp [Expr.children])) hp) hqW)
      (hW.subterm ho.subterm_selected.1 hwi) (ih q hwi hq)
  | bin_l ho ih | cmp_l ho ih =>
    intro r hw h
    simp only [deps] at h
    obtain ⟨p, hp, h⟩ := except_bind_ok h
    obtain ⟨q, hq, h⟩ := except_bind_ok h
    cases h
    exact (ih p (hW.child _ _ hw (by simp [Expr.children])) hp).union_left
  | @bin_r _ _ b _ ho ih | @cmp_r _ _ b _ ho ih =>
    intro r hw h
    have hwi : W b := hW.child _ _ hw (by simp [Expr.children])
    simp only [deps] at h
    obtain ⟨p, hp, h⟩ := except_bind_ok h
    obtain ⟨q, hq, h⟩ := except_bind_ok h
    cases h
    have hqW := hW.deps_mem hwi hq
    exact Rep.union_right hW hqW
      (mem_union_W hW (hW.deps_mem (hW.child _ _ hw (by simp [Expr.children])) hp) hqW)
      (hW.subterm ho.subterm_selected.1 hwi) (ih q hwi hq)
  | @ite_c c t e x ho ih =>
    intro r hw h
    simp only [deps] at h
    obtain ⟨p, hp, h⟩ := except_bind_ok h
    obtain ⟨q, hq, h⟩ := except_bind_ok h
    obtain ⟨u, hu, h⟩ := except_bind_ok h
    cases h
    exact (ih p (hW.child _ _ hw (by simp [Expr.children])) hp).union_left.union_left
  | @ite_t c t e x ho ih =>
    intro r hw h
    have hwi : W t := hW.child _ _ hw (by simp [Expr.children])
    simp only [deps] at h
    obtain ⟨p, hp, h⟩ := except_bind_ok h
    obtain ⟨q, hq, h⟩ := except_bind_ok h
    obtain ⟨u, hu, h⟩ := except_bind_ok h
    cases h
    have hqW := hW.deps_mem hwi hq
    exact (Rep.union_right hW hqW
      (mem_union_W hW (hW.deps_mem (hW.child _ _ hw (by simp [Expr.children])) hp) hqW)
      (hW.subterm ho.subterm_selected.1 hwi) (ih q hwi hq)).union_left
  | @ite_e c t e x ho ih =>
    intro r hw h
    have hwi : W e := hW.child _ _ hw (by simp [Expr.children])
    simp only [deps] at h
    obtain ⟨p, hp, h⟩ := except_bind_ok h
    obtain ⟨q, hq, h⟩ := except_bind_ok h
    obtain ⟨u, hu, h⟩ := except_bind_ok h
    cases h
    have huW := hW.deps_mem hwi hu
    have hpW := hW.deps_mem (hW.child _ _ hw (by simp [Expr.children])) hp
    have hqW := hW.deps_mem (hW.child _ _ hw (by simp [Expr.children])) hq
    exact Rep.union_right hW huW (mem_union_W hW (mem_union_W hW hpW hqW) huW)
      (hW.subterm ho.subterm_selected.1 hwi) (ih u hwi hu)
  | @nary _ cs c x hc ho ih | @tuple cs c x hc ho ih | @list cs c x hc ho ih =>
    intro r hw h
    have hwcs : ∀ c ∈ cs, W c := fun c hc => hW.child _ _ hw (by simp [Expr.children, hc])
    simp only [deps] at h
    exact depsL_rep hW (hW.subterm ho.subterm_selected.1 (hwcs c hc))
      (fun r' h' => ih r' (hwcs c hc) h') cs r hwcs h hc
  | @slice cs c x hc ho ih =>
    intro r hw h
    have hwcs : ∀ c ∈ cs, W c := fun c hc => hW.child _ _ hw (by simp [Expr.children, hc])
    have hcn : c ≠ .const .none := by rintro rfl; cases ho
    simp only [deps] at h
    exact depsSlice_rep hW (hW.subterm ho.subterm_selected.1 (hwcs c hc)) hcn
      (fun r' h' => ih r' (hwcs c hc) h') cs r hwcs h hc

end

/-! ### completeness, instantiated: well-formed expressions -/

theorem wf_children {e c : Expr} (h : e.wf = true) (hc : c ∈ e.children) : c.wf = true :=
  PV.wf_children h _ hc

/-- well-formed expressions (duplicate-free parallel keyword lists, no nan constant) form an
`EqUniverse`, by `pyEq_refl` and `pyEq_trans` (PV/Proofs/PyEqEquiv.lean) -/
theorem eqUniverse_wf : EqUniverse (fun e => e.wf = true) where
  child := fun _ _ h hc => wf_children h hc
  refl := pyEq_refl
  trans := pyEq_trans

/-- **Completeness.**  On a well-formed expression, every occurrence `x` — a variable, or an
outermost subscript / lookup / call / CSE the flags select — is reported by `DependencyMapper` up
to Python `==`: the result contains some `y` with `y == x`. -/
theorem deps_complete {fl : DepFlags} {e x : Expr} {r : List Expr} (hwf : e.wf = true)
    (ho : Occurs fl e x) (h : deps fl e = .ok r) : ∃ y ∈ r, y.pyEq x = true :=
  deps_complete_gen eqUniverse_wf ho r hwf h

/-- Soundness and completeness together: the reported set and the set of occurrences are equal
modulo Python `==`. -/
theorem deps_exact {fl : DepFlags} {e : Expr} {r : List Expr} (hwf : e.wf = true)
    (h : deps fl e = .ok r) :
    (∀ y ∈ r, Occurs fl e y) ∧ (∀ x, Occurs fl e x → ∃ y ∈ r, y.pyEq x = true) :=
  ⟨deps_sound_occurs e r h, fun _ ho => deps_complete hwf ho h⟩

/-- For variables the representative is the variable itself. -/
theorem deps_complete_var {fl : DepFlags} {e : Expr} {n : String} {r : List Expr}
    (hwf : e.wf = true) (ho : Occurs fl e (.var n)) (h : deps fl e = .ok r) : .var n ∈ r := by
  obtain ⟨y, hy, hyx⟩ := deps_complete hwf ho h
  rw [← pyEq_var_right hyx]; exact hy

/-! ### witnesses -/

def demoE : Expr :=
  .nary .sum [.subscript (.var "x") (.var "i"),
    .lookup (.call (.var "f") [.var "y", .var "x"]) "a", .const (.flt "1.0" 1 1)]

example : deps offFlags demoE = .ok [.var "x", .var "i", .var "f", .var "y"] := rfl
example : fv demoE = ["x", "i", "f", "y", "x"] := rfl
example : deps {} demoE =
    .ok [.subscript (.var "x") (.var "i"), .lookup (.call (.var "f") [.var "y", .var "x"]) "a"] :=
  rfl
example : deps { lookups := false, calls := .descend } demoE =
    .ok [.subscript (.var "x") (.var "i"), .var "y", .var "x"] := rfl
/-- the result is a set under Python `==`: `1` and `True` subscripts collapse to the first one -/
example : deps {} (.nary .sum [.subscript (.var "x") (.const (.int 1)),
      .subscript (.var "x") (.const (.bool true))]) =
    .ok [.subscript (.var "x") (.const (.int 1))] := rfl
example : Occurs { lookups := false, calls := .descend } demoE (.var "y") :=
  .nary (c := .lookup (.call (.var "f") [.var "y", .var "x"]) "a") (by simp)
    (.lookup_in rfl (.call_arg (by simp) (by simp) (.var "y")))
/-- why completeness needs well-formedness: a selected node containing nan is reported, but is not
`==` to itself -/
example :
    let e := Expr.subscript (.var "x") (.const (.flt "nan" 0 0))
    deps {} e = .ok [e] ∧ Occurs {} e e ∧ e.pyEq e = false :=
  ⟨rfl, .subscript_sel rfl, by decide +kernel⟩
/-- coincidence in action: the value of `z` is irrelevant for `demoE` -/
example (v w : Value) (env : Env) :
    den (("z", v) :: env) demoE = den (("z", w) :: env) demoE :=
  coincidence demoE (fun x hx => by
    have : x ≠ "z" := by
      simp only [demoE, fv, fvL, List.mem_append, List.mem_cons, List.not_mem_nil] at hx
      rintro rfl; simp at hx
    simp [Env.get, Ne.symm this])

/-! ### the node counter: `get_num_nodes` as coded (`c09NumNodes`, an exact cached walk) and the
number of distinct subexpressions -/

/-- **No two subterms of `e` are confusable** (decidable): among the subterms of `e`, the cache
key of `CachedMapper` — `(type(expr), expr)`, compared with Python `==` — identifies exactly the
structurally identical ones.  Fails when `1` / `1.0` / `True` (or `0.0` / `-0.0`) sit below
otherwise equal parents, and for a nan constant (which is not `==` to itself). -/
def unconfusable (e : Expr) : Bool :=
  (c09Subterms e).all fun a => (c09Subterms e).all fun b => a.keyEq b == decide (a = b)

/-- the Boolean test says what it should: for all subterms `a`, `b` of `e`: `keyEq a b ↔ a = b` -/
theorem unconfusable_iff (e : Expr) : unconfusable e = true ↔ C09Unconf e := by
  simp only [unconfusable, List.all_eq_true, beq_iff_eq, C09Unconf]
  constructor
  · intro h a ha b hb
    have := h a ha b hb
    by_cases hab : a = b <;> simp_all
  · intro h a ha b hb
    by_cases hab : a = b
    · simp [hab, (h b hb b hb).2 rfl]
    · have : a.keyEq b ≠ true := fun hk => hab ((h a ha b hb).1 hk)
      simp [hab, Bool.eq_false_iff.2 this]

example : unconfusable (.nary .sum [.const (.int 1), .const (.bool true), .const (.flt "1.0" 1 1)]) = true ∧
    unconfusable (.nary .sum [.un .bnot (.const (.int 1)), .un .bnot (.const (.bool true))]) = false := by
  decide +kernel

/-- the number of DISTINCT subexpressions of `e` (structural identity, the Python type of every
constant included): independent of any traversal order, cache or counter -/
def numDistinct (e : Expr) : Nat := (c09Subterms e).toFinset.card

/-- the same number, computed by erasing duplicates from the list of subterms -/
theorem numDistinct_eq_dedup_length (e : Expr) : numDistinct e = (c09Subterms e).dedup.length :=
  List.card_toFinset _

/-- the reading of a node-counter result: with a fresh cache, `n` keys were stored -/
theorem numNodes_keys {e : Expr} {n : Nat} (h : c09NumNodes e = .ok n) :
    ∃ keys, c09NumNodesKeys e = .ok (n, keys) ∧ keys.length = n ∧ e.hasList = false ∧
      ∀ k ∈ keys, k ∈ c09Subterms e ∧ k.isRejectedConst = false := by
  unfold c09NumNodes at h
  split at h
  · rename_i m keys hk
    simp only [Except.ok.injEq] at h
    subst h
    refine ⟨keys, hk, ?_⟩
    unfold c09NumNodesKeys at hk
    split at hk
    · simp at hk
    · rename_i hl
      obtain ⟨new, rfl, hlen, hn⟩ := c09Shape e [] _ _ hk
      exact ⟨by simpa using hlen, by simpa using hl, by simpa using hn⟩
  · simp at h

/-- **The counted nodes, exactly.**  On a tree without confusable subterms the keys stored by the
cached walk are the subterms of the tree, each exactly once. -/
theorem numNodes_keys_exact {e : Expr} (hU : unconfusable e = true) {n : Nat} {keys : List Expr}
    (h : c09NumNodesKeys e = .ok (n, keys)) :
    keys.Nodup ∧ ∀ s, s ∈ keys ↔ s ∈ c09Subterms e := by
  have hU' := (unconfusable_iff e).1 hU
  unfold c09NumNodesKeys at h
  split at h
  · simp at h
  · obtain ⟨new, rfl, -, hn⟩ := c09Shape e [] _ _ h
    have hnd := c09Nodup e (fun s hs => (hU' s hs s hs).2 rfl) [] _ _ List.nodup_nil h
    have hfull := (c09Tracks (c09Full hU') e (self_mem_c09Subterms e) [] _ _ (by simp)
      (by intro k hk; simp at hk) h).2
    exact ⟨hnd, fun s => ⟨fun hs => (hn s (by simpa using hs)).1,
      fun hs => by simpa using hfull s hs⟩⟩

example : (c09NumNodesKeys (.bin .lshift (.var "x") (.nary .sum [.var "x", .const (.int 1)]))).toOption.map
    (·.2) = some [.var "x", .const (.int 1), .nary .sum [.var "x", .const (.int 1)],
      .bin .lshift (.var "x") (.nary .sum [.var "x", .const (.int 1)])] := by decide +kernel

/-- **The node counter equals the number of distinct subexpressions** (the property's sentence).
If no two subterms of `e` are confusable and the walk reaches no rejected constant (a string or
`None` outside a slice) and `e` is hashable (no Python list inside), then `get_num_nodes(e)`
returns exactly the number of distinct subterms of `e`. -/
theorem numNodes_eq_distinct (e : Expr) (hU : unconfusable e = true) (hL : e.hasList = false)
    (hOK : walkOK [] e = true) : c09NumNodes e = .ok (numDistinct e) := by
  obtain ⟨n, keys, h⟩ := c09CountWalk_ok_of e ((walkOK_nil_iff e).1 hOK) []
  have hk : c09NumNodesKeys e = .ok (n, keys) := by simp [c09NumNodesKeys, hL, h]
  obtain ⟨hnd, hmem⟩ := numNodes_keys_exact hU hk
  obtain ⟨new, hnew, hlen, -⟩ := c09Shape e [] _ _ h
  have hcard : numDistinct e = n := by
    unfold numDistinct
    rw [← List.toFinset.ext hmem, List.toFinset_card_of_nodup hnd]
    simpa [hnew] using hlen
  simp [c09NumNodes, hk, hcard]

example : c09NumNodes (.nary .sum [.var "x", .bin .pow (.var "x") (.const (.int 2)),
    .const (.int 2), .const (.flt "2.0" 2 1)]) = .ok 5 := by decide +kernel
example : unconfusable (.nary .sum [.var "x", .bin .pow (.var "x") (.const (.int 2)),
    .const (.int 2), .const (.flt "2.0" 2 1)]) = true := by decide +kernel

/-- **Upper bound, any well-formed tree** (confusable or not): no node is counted twice, so the
count never exceeds the number of structurally distinct subterms. -/
theorem numNodes_le_distinct {e : Expr} (hwf : e.wf = true) {n : Nat}
    (h : c09NumNodes e = .ok n) : n ≤ numDistinct e := by
  obtain ⟨keys, hk, hlen, hL, hn⟩ := numNodes_keys h
  have hw : c09CountWalk e [] = .ok (n, keys) := by
    simpa [c09NumNodesKeys, hL] using hk
  have hnd := c09Nodup e (fun s hs => keyEq_refl s (c09Subterms_wf hwf hs)) [] _ _ List.nodup_nil hw
  unfold numDistinct
  rw [← hlen, ← List.toFinset_card_of_nodup hnd]
  exact Finset.card_le_card (fun k hk' => by
    simp only [List.mem_toFinset] at hk' ⊢
    exact (hn k hk').1)

/-- **Lower bound, any well-formed tree**: every subterm has a representative among the counted
nodes that is `==` to it.  Hence any family of subterms that are pairwise not `==` (in particular
a system of representatives of the `==`-classes) is at most as large as the count. -/
theorem numNodes_ge_eqClasses {e : Expr} (hwf : e.wf = true) {n : Nat}
    (h : c09NumNodes e = .ok n) (D : List Expr) (hD : ∀ d ∈ D, d ∈ c09Subterms e)
    (hP : D.Pairwise (fun a b => a.pyEq b = false)) : D.length ≤ n := by
  obtain ⟨keys, hk, hlen, hL, hn⟩ := numNodes_keys h
  have hw : c09CountWalk e [] = .ok (n, keys) := by
    simpa [c09NumNodesKeys, hL] using hk
  have hrep := (c09Tracks c09Rep e hwf [] _ _ (by simp) (by intro k hk; simp at hk) hw).2
  have hDwf : ∀ d ∈ D, d.wf = true := fun d hd => c09Subterms_wf hwf (hD d hd)
  have hDnd : D.Nodup := by
    refine hP.imp_of_mem ?_
    intro a b ha _ hab heq
    subst heq
    rw [pyEq_refl a (hDwf a ha)] at hab
    exact Bool.noConfusion hab
  rw [← hlen]
  refine length_le_of_reps (fun r d => r.pyEq d = true) hDnd (fun d hd => hrep d (hD d hd)) ?_
  intro r hr d1 hd1 d2 hd2 h1 h2
  by_contra hne
  have hrwf : r.wf = true := c09Subterms_wf hwf (hn r hr).1
  have h12 : d1.pyEq d2 = true :=
    pyEq_trans d1 r d2 (hDwf d1 hd1) hrwf (hDwf d2 hd2)
      (pyEq_symm r d1 hrwf (hDwf d1 hd1) h1) h2
  have h21 : d2.pyEq d1 = true := pyEq_symm d1 d2 (hDwf d1 hd1) (hDwf d2 hd2) h12
  rcases pairwise_or_flip hP d1 hd1 d2 hd2 hne with h | h
  · rw [h12] at h; exact Bool.noConfusion h
  · rw [h21] at h; exact Bool.noConfusion h

/-- the lower bound with the classes counted by the model's own `dedupBy`: the number of
subterms left when duplicates under Python `==` alone (no type tag) are removed -/
theorem numNodes_ge_dedup_pyEq {e : Expr} (hwf : e.wf = true) {n : Nat}
    (h : c09NumNodes e = .ok n) : (dedupBy Expr.pyEq (c09Subterms e)).length ≤ n :=
  numNodes_ge_eqClasses hwf h _ (dedupBy_pairwise _ _).2 (dedupBy_pairwise _ _).1

/-- both bounds at once: between the coarsest (`==` alone) and the finest (structure and constant
types) reading of "distinct" -/
theorem numNodes_between {e : Expr} (hwf : e.wf = true) {n : Nat} (h : c09NumNodes e = .ok n) :
    (dedupBy Expr.pyEq (c09Subterms e)).length ≤ n ∧ n ≤ numDistinct e :=
  ⟨numNodes_ge_dedup_pyEq hwf h, numNodes_le_distinct hwf h⟩

/-- on `confusableE` (defined next): 3 ≤ 3 ≤ 5 -/
example : (dedupBy Expr.pyEq (c09Subterms (.cmp .ne (.nary .sum [.const (.flt "2.0" 2 1)])
      (.nary .sum [.const (.int 2)])))).length ≤ 3 ∧ 3 ≤ numDistinct (.cmp .ne
      (.nary .sum [.const (.flt "2.0" 2 1)]) (.nary .sum [.const (.int 2)])) :=
  numNodes_between (by decide +kernel) (by decide +kernel)

/-- `Comparison(Sum((2.0,)), "!=", Sum((2,)))`: the second `Sum` is a cache hit (it is `==` to the
first and of the same class), so the walk never reaches the int `2` -/
def confusableE : Expr :=
  .cmp .ne (.nary .sum [.const (.flt "2.0" 2 1)]) (.nary .sum [.const (.int 2)])

/-- **Confusable trees: neither bound is the count.**  On `confusableE` the counter says 3, while
there are 5 structurally distinct subterms and 4 classes under the cache-key equality
`(type, ==)` (what the uncached count `numNodes` answers) — only the classes under
`==` alone are 3.  On `Sum((2, 2.0))` the counter says 3 = number of distinct subterms, while the
classes under `==` alone are 2.  So on confusable trees the count is not a function of any of
the three notions of "distinct". -/
theorem numNodes_confusable_cex :
    c09NumNodes confusableE = .ok 3 ∧ numDistinct confusableE = 5 ∧
    numNodes confusableE = .ok 4 ∧
    (dedupBy Expr.pyEq (c09Subterms confusableE)).length = 3 ∧
    unconfusable confusableE = false ∧ confusableE.wf = true ∧
    (let e2 := Expr.nary .sum [.const (.int 2), .const (.flt "2.0" 2 1)]
     c09NumNodes e2 = .ok 3 ∧ numDistinct e2 = 3 ∧
       (dedupBy Expr.pyEq (c09Subterms e2)).length = 2 ∧ unconfusable e2 = true) := by
  have hold : numNodes confusableE = .ok 4 := by
    simp [numNodes, confusableE, Expr.hasList, Expr.hasListL, walk, walkL, wrapWalk, leafWalk,
      bind, Except.bind, pure, Except.pure, Expr.kind]
    decide +kernel
  refine ⟨by decide +kernel, by decide +kernel, hold, by decide +kernel, by decide +kernel,
    by decide +kernel, ?_⟩
  exact ⟨by decide +kernel, by decide +kernel, by decide +kernel, by decide +kernel⟩

/-- the counted nodes of `confusableE`, in `post_visit` order: the float, the first `Sum`, the
comparison -/
example : c09NumNodesKeys confusableE =
    .ok (3, [.const (.flt "2.0" 2 1), .nary .sum [.const (.flt "2.0" 2 1)], confusableE]) := by
  decide +kernel

/-- **Why "unconfusable" includes `a == a`.**  Two nan constants are never a cache hit (each
occurrence is its own Python object, and nan is not `==` to itself), so `Sum((nan, nan))` counts
3 nodes although there are only 2 structurally distinct subterms: the upper bound needs
well-formedness. -/
theorem numNodes_nan_cex :
    let e := Expr.nary .sum [.const (.flt "nan" 0 0), .const (.flt "nan" 0 0)]
    c09NumNodes e = .ok 3 ∧ numDistinct e = 2 ∧ e.wf = false ∧ unconfusable e = false := by
  exact ⟨by decide +kernel, by decide +kernel, by decide +kernel, by decide +kernel⟩

/-- **What the counter can raise.**  `TypeError` exactly when a Python list occurs in the tree
(the first key is unhashable); otherwise only the rejection of a string / `None` constant, and
that only if such a constant is a subterm. -/
theorem numNodes_error {e : Expr} {err : DepErr} (h : c09NumNodes e = .error err) :
    (err = .unhashable ∧ e.hasList = true) ∨
    (err = .foreign ∧ e.hasList = false ∧ ∃ s ∈ c09Subterms e, s.isRejectedConst = true) := by
  unfold c09NumNodes c09NumNodesKeys at h
  cases hL : e.hasList
  · right
    simp only [hL, Bool.false_eq_true, if_false] at h
    rcases c09CountWalk_total e [] with ⟨n, c', hw⟩ | hw
    · simp [hw] at h
    · simp only [hw, Except.error.injEq] at h
      refine ⟨h.symm, rfl, ?_⟩
      by_contra hno
      obtain ⟨n, c', hok⟩ := c09CountWalk_ok_of e (fun s hs => by
        by_contra hr
        exact hno ⟨s, hs, by simpa using hr⟩) []
      rw [hok] at hw
      cases hw
  · left
    simp only [hL, if_true, Except.error.injEq] at h
    exact ⟨h.symm, rfl⟩

example : c09NumNodes (.nary .sum [.var "x", .list [.var "y"]]) = .error .unhashable := by decide +kernel
example : c09NumNodes (.nary .sum [.var "x", .const (.str "abc")]) = .error .foreign := by decide +kernel
/-- the `None` parts of a slice are absent children, not rejected constants -/
example : c09NumNodes (.slice [.var "x", .const .none, .const .none]) = .ok 2 := by decide +kernel

/-- **The uncached count.**  `numNodes` is a second reading of "number of nodes": walk the whole
tree without a cache and remove duplicates under the cache-key equality afterwards.  This theorem
relates it to the cached walk `c09NumNodes`: on every tree without confusable subterms the two
agree — same count, same exception. -/
theorem numNodes_old_eq (e : Expr) (hU : unconfusable e = true) : numNodes e = c09NumNodes e := by
  have hU' := (unconfusable_iff e).1 hU
  cases hL : e.hasList
  · cases hOK : walkOK [] e
    · -- a rejected constant is a subterm; without confusable subterms it is reached
      have hold : numNodes e = .error .foreign := by
        simp [numNodes, hL, walk_total, hOK, okIf]
      rw [hold]
      rcases c09CountWalk_total e [] with ⟨n, keys, hw⟩ | hw
      · exfalso
        have hk : c09NumNodesKeys e = .ok (n, keys) := by simp [c09NumNodesKeys, hL, hw]
        obtain ⟨-, hmem⟩ := numNodes_keys_exact hU hk
        obtain ⟨new, hnew, -, hn⟩ := c09Shape e [] _ _ hw
        have hall : ∀ s ∈ c09Subterms e, s.isRejectedConst = false := fun s hs =>
          (hn s (by simpa [hnew] using (hmem s).2 hs)).2
        rw [(walkOK_nil_iff e).2 hall] at hOK
        exact Bool.noConfusion hOK
      · simp [c09NumNodes, c09NumNodesKeys, hL, hw]
    · rw [numNodes_eq_distinct e hU hL hOK]
      have hR : ∀ a ∈ c09PostNodes e, ∀ b ∈ c09PostNodes e, (a.keyEq b = true ↔ a = b) :=
        fun a ha b hb => hU' a (mem_c09PostNodes.1 ha) b (mem_c09PostNodes.1 hb)
      have hlen := dedupBy_length_of_eq hR
      have hset : (c09PostNodes e).toFinset = (c09Subterms e).toFinset :=
        List.toFinset.ext (fun _ => mem_c09PostNodes)
      simp only [numNodes, hL, Bool.false_eq_true, if_false, walk_total, hOK, okIf, if_true]
      show (Except.ok (walkSpec [] false e) >>= fun ev =>
        pure (dedupBy Expr.keyEq ((ev.filter (·.post)).map (·.node))).length) = _
      simp only [bind, Except.bind, pure, Except.pure]
      rw [show (List.map (fun x => x.node) (List.filter (fun x => x.post) (walkSpec [] false e)))
        = c09PostNodes e from rfl, hlen, hset]
      rfl
  · simp [numNodes, c09NumNodes, c09NumNodesKeys, hL]; rfl

example : numNodes (.nary .sum [.var "x", .bin .pow (.var "x") (.const (.int 2)),
    .const (.int 2), .const (.flt "2.0" 2 1)]) = .ok 5 := by
  rw [numNodes_old_eq _ (by decide +kernel)]; decide +kernel

/-! ## The handlers of the CURRENT source (T-gen)

`Generated.c09DepLayers`, `c09FlopLayers`, `c09FlopCseLayers`, `c09CountSpec`, `c09DepInit`, … are
regenerated by extract/analysis.py from the live source of pymbolic/mapper/dependency.py,
flop_counter.py, analysis.py (and, through extract/traversal.py, `c04CombineTable`,
`c04WalkTable`, `c04Classes` from pymbolic/mapper/__init__.py and primitives.py) on every check.
The theorems below tie the hand-written models `deps`, `flopsG`, `c09CountWalk` to those tables for
ALL expressions, flag settings, seen-sets and caches: an edit of the source that drops a variable
under one flag, tests the flags in another order, recurses into other children, counts `n`
instead of `n - 1` additions, forgets the seen-set update, looks the cache up after dispatching or
counts in another hook changes a table and breaks them. -/

section TGen
open Generated

/-- the handler bodies of the dependency mapper and of both flop counters on one node of each
class; they stand in one declaration because the kernel decodes a string literal of the tables once
per declaration -/
theorem resolve_classReps : ∀ r ∈ classReps,
    c09Resolve c04Classes c09DepLayers r = c09DepBody r ∧
    ∀ aware : Bool, c09Resolve c04Classes (if aware then c09FlopCseLayers else c09FlopLayers) r =
      c09FlopBody aware r := by
  decide +kernel

/-- **Dependency handler bodies.**  For every node the closed body the current source runs —
`Mapper.__call__` dispatch through the class MRO against the handler names of `DependencyMapper`'s
MRO, `super()` / `Collector.…(self, …)` / `Mapper` stubs / the CSE memo wrapper followed through
the layers, the layers of `CombineMapper` and `Mapper` being the rows of the C04 combine table — is
exactly the body `deps` was written from: same flag tests in the same order, same returned sets,
same recursion sites. -/
theorem deps_resolve_current (e : Expr) :
    c09Resolve c04Classes c09DepLayers e = c09DepBody e :=
  Expr.eq_of_classReps (c09Resolve_classRep _ _) c09DepBody_classRep
    (fun r hr => (resolve_classReps r hr).1) e

example : c09Resolve c04Classes c09DepLayers (.lookup (.var "r") "u") =
    .ok (.ifFlag "include_lookups" .single (.c04 (.fold false [⟨"aggregate", .one, true⟩]))) :=
  deps_resolve_current _

/-- **`deps` is the table-driven dependency analysis of the current source**: on every node and
under every flag setting, one handler call as the regenerated tables describe it (`c09DepsStep`),
recursing through `deps`. -/
theorem deps_table_step_current (fl : DepFlags) (e : Expr) :
    deps fl e = c09DepsStep c04Classes c09DepLayers fl (deps fl) e := by
  rw [c09DepsStep, deps_resolve_current]; exact deps_eq_stepB fl e

example : c09DepsStep c04Classes c09DepLayers { lookups := false } (deps { lookups := false })
    (.lookup (.var "r") "u") = .ok [.var "r"] := by
  rw [← deps_table_step_current]; decide +kernel

/-- … and the only such function: anything that makes one table-driven handler call per node and
recurses through itself IS `deps` (so `deps_exact`, `deps_off_eq_fv`, `deps_complete`,
`deps_sound_occurs`, … are theorems about what the current source says). -/
theorem deps_unique_current (fl : DepFlags) (f : Expr → Except DepErr (List Expr))
    (hf : ∀ e, f e = c09DepsStep c04Classes c09DepLayers fl f e) : ∀ e, f e = deps fl e :=
  c09Deps_unique (fun e => c09Resolve c04Classes c09DepLayers e) fl f (deps fl) hf
    (deps_table_step_current fl)

/-- the hypothesis of `deps_unique_current` is satisfiable (by `deps` itself) -/
example (fl : DepFlags) : ∀ e, deps fl e = deps fl e :=
  deps_unique_current fl (deps fl) (deps_table_step_current fl)

/-- `deps_exact` read on the current source: ANY function satisfying the handler equations of the
regenerated `DependencyMapper` tables reports, on a well-formed expression, exactly the occurrences
the flags select (modulo Python `==`). -/
theorem deps_exact_current {fl : DepFlags} (f : Expr → Except DepErr (List Expr))
    (hf : ∀ e, f e = c09DepsStep c04Classes c09DepLayers fl f e)
    {e : Expr} {r : List Expr} (hwf : e.wf = true) (h : f e = .ok r) :
    (∀ y ∈ r, Occurs fl e y) ∧ (∀ x, Occurs fl e x → ∃ y ∈ r, y.pyEq x = true) :=
  deps_exact hwf (deps_unique_current fl f hf e ▸ h)

example : (deps {} demoE).isOk = true := by decide +kernel

/-- well-formed expressions form a class on which Python `==` is an equivalence -/
theorem wf_eqClass : C09EqClass (fun e : Expr => e.wf = true) where
  refl := pyEq_refl
  symm := pyEq_symm
  trans := pyEq_trans

/-- every set `DependencyMapper` returns is duplicate-free under `==`, as a Python set is -/
theorem deps_result_distinct (fl : DepFlags) (e : Expr) (r : List Expr) (h : deps fl e = .ok r) :
    c09Distinct r := deps_distinct fl e h

/-- **`combine` read literally.**  For a well-formed node `e` and any handler shape `recs` that
fits it, the set the table-driven step computes from the recursion sites (`c09UnionSites`, the
association `deps` uses) is — as a list, element for element — Python's
`reduce(operator.or_, values, set())` (`combine_current`) applied to the list of the results of
ALL recursive calls in source order. -/
theorem deps_combine_literal {fl : DepFlags} {e : Expr} (hwf : e.wf = true) (recs : List C04Rec)
    (cs : List Expr) (hfit : c04RecsChildren e recs = some cs) :
    c09UnionSites (deps fl) e recs = (c09MapM (deps fl) cs).map c09ReduceOr := by
  refine c09UnionSites_eq_literal wf_eqClass (deps fl) e recs cs hfit ?_
  intro c hc r hr
  have hcw : c.wf = true := wf_children hwf (c04RecsChildren_sub hfit c hc)
  exact ⟨deps_distinct fl c hr, eqUniverse_wf.deps_mem hcw hr⟩

example : c09ReduceOr [[.var "x"], [.var "y", .var "x"], [.const (.int 1)]] =
    [.var "x", .var "y", .const (.int 1)] := by decide +kernel

/-- **Flop handler bodies** of the current source, for both counters (`aware`:
`CSEAwareFlopCounter`, else `FlopCounter` = `CachedMapper` over `FlopCounterBase`): which handlers
add how many operations (as expressions in `len(expr.children)`), which children are recursed in
which order, the seen-set test and update, and the handlers inherited from `CombineMapper` (rows
of the C04 combine table, `combine = sum`). -/
theorem flops_resolve_current (aware : Bool) (e : Expr) :
    c09Resolve c04Classes (if aware then c09FlopCseLayers else c09FlopLayers) e =
      c09FlopBody aware e :=
  Expr.eq_of_classReps (c09Resolve_classRep _ _) (c09FlopBody_classRep aware)
    (fun r hr => (resolve_classReps r hr).2 aware) e

/-- **`flopsG` is the table-driven flop counter of the current source** (both variants, every
seen-set), counts read as Python integers. -/
theorem flops_table_step_current (aware : Bool) (e : Expr) (seen : List Expr) :
    c09Lift (flopsG aware e seen) =
      c09FlopsStep c04Classes (if aware then c09FlopCseLayers else c09FlopLayers)
        (fun c s => c09Lift (flopsG aware c s)) e seen := by
  rw [c09FlopsStep, flops_resolve_current]; exact flopsG_eq_stepB aware e seen

example : c09FlopsStep c04Classes c09FlopLayers (fun c s => c09Lift (flopsG false c s))
    (.nary .sum [.var "x", .var "y", .var "z"]) [] = .ok (2, []) :=
  (flops_table_step_current false _ _).symm.trans (by decide +kernel)

/-- … and the only one (so `flops_eq_count`, `flopsCse_once`, `flopsCse_first`, `flopsCse_le`
speak about the current source). -/
theorem flops_unique_current (aware : Bool)
    (f : Expr → List Expr → Except DepErr (Int × List Expr))
    (hf : ∀ e s, f e s =
      c09FlopsStep c04Classes (if aware then c09FlopCseLayers else c09FlopLayers) f e s) :
    ∀ e s, f e s = c09Lift (flopsG aware e s) :=
  c09Flops_unique
    (fun e => c09Resolve c04Classes (if aware then c09FlopCseLayers else c09FlopLayers) e)
    f (fun c s => c09Lift (flopsG aware c s)) hf (flops_table_step_current aware)

example (aware : Bool) : ∀ e s, c09Lift (flopsG aware e s) = c09Lift (flopsG aware e s) :=
  flops_unique_current aware (fun e s => c09Lift (flopsG aware e s)) (flops_table_step_current aware)

example : c09FlopsStep c04Classes c09FlopCseLayers (fun c s => c09Lift (flopsG true c s))
    (.cse (.nary .prod [.var "x", .var "y"]) none "s") [] =
    .ok (1, [.cse (.nary .prod [.var "x", .var "y"]) none "s"]) :=
  (flops_table_step_current true _ _).symm.trans (by decide +kernel)

/-- `flops_eq_count` read on the current source: any solution of the handler equations of the
regenerated `FlopCounter` tables returns the independent operation count and leaves the seen-set
alone. -/
theorem flops_eq_count_current (f : Expr → List Expr → Except DepErr (Int × List Expr))
    (hf : ∀ e s, f e s = c09FlopsStep c04Classes c09FlopLayers f e s)
    (e : Expr) (seen : List Expr) (n : Int) (seen' : List Expr) (h : f e seen = .ok (n, seen')) :
    n = (countOps e : Int) ∧ seen' = seen := by
  have h' := flops_unique_current false f hf e seen
  rw [h] at h'
  rcases hg : flopsG false e seen with err | ⟨m, s'⟩
  · rw [hg] at h'; cases h'
  · rw [hg, c09Lift_ok] at h'
    obtain ⟨rfl, rfl⟩ := flops_eq_count e seen m s' hg
    cases h'; exact ⟨rfl, rfl⟩

/-- `flopsCse_once` read on the current source. -/
theorem flopsCse_once_current (f : Expr → List Expr → Except DepErr (Int × List Expr))
    (hf : ∀ e s, f e s = c09FlopsStep c04Classes c09FlopCseLayers f e s)
    (c : Expr) (p : Option String) (s : String) (seen : List Expr)
    (hl : c.hasList = false) (h : seen.any (fun k => k.pyEq (.cse c p s)) = true) :
    f (.cse c p s) seen = .ok (0, seen) := by
  rw [flops_unique_current true f hf, flopsCse_once c p s seen hl h]; rfl

/-- every seen-set operation of the current `CSEAwareFlopCounter` handlers is on the attribute
`__init__` initialises with `set()` (a fresh counter starts with an empty seen-set) -/
theorem flop_seen_attr_current :
    (c09FlopCseLayers.flatMap (fun l => l.rows.flatMap (fun r => r.body.seenAttrs))).all
      (· == c09FlopSeenAttr) = true ∧
    (c09FlopLayers.flatMap (fun l => l.rows.flatMap (fun r => r.body.seenAttrs))) = [] := by
  decide +kernel

/-- **`combine`** as the current source resolves it: `Collector.combine` =
`reduce(operator.or_, values, set())` for the dependency mapper, `FlopCounterBase.combine` =
`sum(values)` for all three flop counters. -/
theorem combine_current :
    c09DepCombine = ("Collector", .reduceOr) ∧ c09FlopCombine = ("FlopCounterBase", .sum) ∧
    c09FlopCseCombine = ("FlopCounterBase", .sum) ∧
    c09FlopCachedCombine = ("FlopCounterBase", .sum) := by decide +kernel

/-- **Which `__call__` recurses.**  `DependencyMapper` and `CSEAwareFlopCounter` recurse through
`Mapper.__call__`; `CachedDependencyMapper`, `FlopCounter` and `NodeCountMapper` through
`CachedMapper.__call__` (memoised; the cached dependency mapper has `DependencyMapper`'s
handlers). -/
theorem rec_owners_current :
    c09RecOwners = [("DependencyMapper", "Mapper"), ("CachedDependencyMapper", "CachedMapper"),
      ("FlopCounter", "CachedMapper"), ("CSEAwareFlopCounter", "Mapper"),
      ("NodeCountMapper", "CachedMapper")] ∧
    c09CachedDepMro = ["CachedDependencyMapper", "CachedMapper"] ++ c09DepLayers.map (·.cls) := by
  decide +kernel

/-- **`DependencyMapper.__init__`** of the current source: `composite_leaves=b` is equivalent to
setting `include_subscripts`, `include_lookups`, `include_calls` to `b` (and leaves `include_cses`
alone); without it the four flags are stored as given; the defaults are the model's defaults. -/
theorem dep_init_current (given : DepFlags) :
    c09InitFlags c09DepInit given none = given ∧
    c09InitFlags c09DepInit given (some true) =
      { given with subscripts := true, lookups := true, calls := .yes } ∧
    c09InitFlags c09DepInit given (some false) =
      { given with subscripts := false, lookups := false, calls := .no } ∧
    c09DepInit.params = [("include_subscripts", "True"), ("include_lookups", "True"),
      ("include_calls", "True"), ("include_cses", "False"), ("composite_leaves", "None")] ∧
    c09DepInit.callsDomain = ["True", "False", "'descend_args'"] := by
  refine ⟨?_, ?_, ?_, by decide +kernel, by decide +kernel⟩ <;> cases given <;> rfl

example : ({} : DepFlags) = { subscripts := true, lookups := true, calls := .yes, cses := false } :=
  rfl

/-- every recursive call in a handler defined by `DependencyMapper` / `Collector` hands the extra
arguments on -/
def c09BodyFwd : C09Body → Bool
  | .combine recs => recs.all (·.fwd)
  | .ifFlagEq _ _ t e => c09BodyFwd t && c09BodyFwd e
  | .ifFlag _ t e => c09BodyFwd t && c09BodyFwd e
  | _ => true

theorem dep_rows_forward_current :
    (c09DepLayers.all fun l => l.rows.all fun r => c09BodyFwd r.body) = true := by decide +kernel

/-- **`WalkMapper` handler shapes** of the current source (as `C04.walk_resolve_current`; restated
here because `NodeCountMapper` runs these handlers — extract/analysis.py checks that every
`map_*` of `NodeCountMapper` IS `WalkMapper`'s function). -/
theorem nodecount_handlers_current (e : Expr) :
    c04Resolve c04Classes c04WalkTable e = c04WalkBody e :=
  C04.walk_resolve_current e

/-- **`NodeCountMapper`, `CachedMapper.__call__`, `get_num_nodes`** of the current source: the MRO,
the memo protocol (lookup before dispatch under `(type(expr), expr)`, store after the handler, on
both paths), `visit` inherited from `WalkMapper` (returns `True`, counts nothing), `post_visit`
counting one, a fresh mapper per `get_num_nodes` call starting at zero. -/
theorem count_spec_current : c09CountSpec = c09CountSpecHand := by decide +kernel

/-- **`c09CountWalk` is the table-driven node counter of the current source**: for every node and
cache, one `NodeCountMapper.rec` call as the regenerated tables describe it (`c09CountStep`),
recursing through `c09CountWalk`. -/
theorem nodecount_table_step_current (e : Expr) (cache : List Expr) :
    c09CountWalk e cache =
      c09CountStep c04Classes c04WalkTable c09CountSpec c09CountWalk e cache := by
  rw [c09CountStep, nodecount_handlers_current, count_spec_current]
  exact c09CountWalk_eq_stepB _ e cache

example : c09CountStep c04Classes c04WalkTable c09CountSpec c09CountWalk
    (.nary .sum [.var "x", .var "x"]) [] = .ok (2, [.var "x", .nary .sum [.var "x", .var "x"]]) := by
  rw [← nodecount_table_step_current]; decide +kernel

/-- … and the only one (so `numNodes_eq_distinct`, `numNodes_between`, `numNodes_error`, … speak
about the current source). -/
theorem nodecount_unique_current (f : Expr → List Expr → Except DepErr (Nat × List Expr))
    (hf : ∀ e c, f e c = c09CountStep c04Classes c04WalkTable c09CountSpec f e c) :
    ∀ e c, f e c = c09CountWalk e c :=
  c09Count_unique c09CountSpec
    (fun e => c09StoredByMethod c04Classes (c04WalkTable.map (fun (h : C04Handler) => h.name)) e)
    (fun e => c04Resolve c04Classes c04WalkTable e) f c09CountWalk hf nodecount_table_step_current

example : ∀ e c, c09CountWalk e c = c09CountWalk e c :=
  nodecount_unique_current c09CountWalk nodecount_table_step_current

/-- `get_num_nodes` as modelled is the entry point of the current source (hash the first key, a
fresh mapper, the counter returned) run with the table-driven `rec`. -/
theorem numNodes_entry_current (e : Expr) :
    c09NumNodesKeys e = c09NumNodesT c09CountSpec c09CountWalk e := by
  rw [count_spec_current]; exact c09NumNodesKeys_eq_T e

/-- `numNodes_eq_distinct` read on the current source: for ANY `rec` satisfying the equations of
the regenerated tables, `get_num_nodes` returns the number of distinct subexpressions of an
unconfusable, hashable tree without rejected constants. -/
theorem numNodes_eq_distinct_current
    (f : Expr → List Expr → Except DepErr (Nat × List Expr))
    (hf : ∀ e c, f e c = c09CountStep c04Classes c04WalkTable c09CountSpec f e c)
    (e : Expr) (hU : unconfusable e = true) (hL : e.hasList = false) (hOK : walkOK [] e = true) :
    ∃ keys, c09NumNodesT c09CountSpec f e = .ok (numDistinct e, keys) := by
  have hfe : f = c09CountWalk := funext fun e => funext fun c => nodecount_unique_current f hf e c
  have h := numNodes_eq_distinct e hU hL hOK
  rw [hfe, ← numNodes_entry_current]
  simp only [c09NumNodes] at h
  rcases hk : c09NumNodesKeys e with err | ⟨n, keys⟩
  · rw [hk] at h; cases h
  · rw [hk] at h; cases h; exact ⟨keys, rfl⟩

end TGen

end PV.C09
