import PV.Properties.C11Table
import PV.Proofs.RewriteHalf
/-
  C11 — two clauses that the rewriting mappers satisfy, stated on their own (model and regenerated
  table):

  (A) OPERATOR NODES UNDER `flatten`.  `FlattenMapper` has handlers for sums and products only;
      every other operator node (`/ // % ** << >>`) is rebuilt with the SAME operator over the
      flattened operands.  Hence the value clause "for all node types, all environments" holds at
      such a node in EVERY Python environment (values `int`, `bool`, `Fraction`, …) as soon as it
      holds for the operands: nothing is "simplified" there.  The witnesses show why nothing may
      be: `x // 1 = x`, `x % 1 = 0`, `x // -1 = -x` are identities on the integers only — at
      `x = 1/2` the two sides differ — so a rule dropping a unit divisor of `//` / `%` breaks the
      clause (such a rule cannot be added to the model without breaking `flatten_operator_den`).

  (B) THE COEFFICIENT TEST OF `TermCollector.split_term`.  A factor `base**exp` stays in the
      (frozenset) key of a monomial only if THE POWER BUILT FROM IT depends on something that is
      not a parameter.  A base whose exponents cancel to `0` builds the constant `1`, so it is
      filed with the coefficients and never separates a monomial from its like terms (`x**0*y`
      and `y` get the same key).  Deciding on the dependencies of base and exponent separately
      would keep `(x, 0)` in the key.
-/
namespace PV.C11
open PV
open PV.Generated (c04Classes c04IdentityTable)

/-! ### (A) operator nodes under `flatten` -/

/-- `FlattenMapper` on a binary operator node: flatten the operands (left, then right), rebuild
the node with the same operator — for every operator, every operand, every fuel. -/
theorem flatten_operator_node (fuel : Nat) (o : BinOp) (a b : Expr) :
    flattenM (fuel + 1) (.bin o a b) =
      (do let a' ← flattenM fuel a
          let b' ← flattenM fuel b
          pure (.bin o a' b')) := by
  simp only [flattenM, idMap]

/-- … so a result of flattening such a node IS that node over flattened operands -/
theorem flatten_operator_shape (fuel : Nat) (o : BinOp) (a b e' : Expr)
    (h : flattenM (fuel + 1) (.bin o a b) = .ok e') :
    ∃ a' b', flattenM fuel a = .ok a' ∧ flattenM fuel b = .ok b' ∧ e' = .bin o a' b' := by
  rw [flatten_operator_node] at h
  cases ha : flattenM fuel a with
  | error err => simp [ha, bind, Except.bind] at h
  | ok a' =>
    cases hb : flattenM fuel b with
    | error err => simp [ha, hb, bind, Except.bind] at h
    | ok b' =>
      simp [ha, hb, bind, Except.bind, pure, Except.pure] at h
      exact ⟨a', b', rfl, rfl, h.symm⟩

/-- **value at operator nodes, every Python environment**: if flattening preserves the denotation
of the two operands in `env` (the same value, or the same error), it preserves the denotation of
`a / b`, `a // b`, `a % b`, `a ** b`, `a << b`, `a >> b` — `env` may hold any values, rationals
that are not integers included. -/
theorem flatten_operator_den (env : Env) (fuel : Nat) (o : BinOp) (a b e' : Expr)
    (h : flattenM (fuel + 1) (.bin o a b) = .ok e')
    (ha : ∀ a', flattenM fuel a = .ok a' → den env a' = den env a)
    (hb : ∀ b', flattenM fuel b = .ok b' → den env b' = den env b) :
    den env e' = den env (.bin o a b) := by
  obtain ⟨a', b', h1, h2, rfl⟩ := flatten_operator_shape fuel o a b e' h
  simp only [den, ha a' h1, hb b' h2]

/-- the same about what the CURRENT source says (`pymbolic.flatten` run from the regenerated
table) -/
theorem flatten_operator_shape_current (fuel : Nat) (o : BinOp) (a b e' : Expr)
    (h : c11RunPublic c04Classes c04IdentityTable PV.Generated.c11Table "flatten"
      [.expr (.bin o a b)] (fuel + 1) = .ok e') :
    ∃ a' b',
      c11RunPublic c04Classes c04IdentityTable PV.Generated.c11Table "flatten" [.expr a] fuel
        = .ok a' ∧
      c11RunPublic c04Classes c04IdentityTable PV.Generated.c11Table "flatten" [.expr b] fuel
        = .ok b' ∧ e' = .bin o a' b' := by
  rw [(flatten_eq_table_current (fuel + 1) (.bin o a b)).1] at h
  rw [(flatten_eq_table_current fuel a).1, (flatten_eq_table_current fuel b).1]
  exact flatten_operator_shape fuel o a b e' h

theorem flatten_operator_den_current (env : Env) (fuel : Nat) (o : BinOp) (a b e' : Expr)
    (h : c11RunPublic c04Classes c04IdentityTable PV.Generated.c11Table "flatten"
      [.expr (.bin o a b)] (fuel + 1) = .ok e')
    (ha : ∀ a', c11RunPublic c04Classes c04IdentityTable PV.Generated.c11Table "flatten"
      [.expr a] fuel = .ok a' → den env a' = den env a)
    (hb : ∀ b', c11RunPublic c04Classes c04IdentityTable PV.Generated.c11Table "flatten"
      [.expr b] fuel = .ok b' → den env b' = den env b) :
    den env e' = den env (.bin o a b) := by
  rw [(flatten_eq_table_current (fuel + 1) (.bin o a b)).1] at h
  rw [(flatten_eq_table_current fuel a).1] at ha
  rw [(flatten_eq_table_current fuel b).1] at hb
  exact flatten_operator_den env fuel o a b e' h ha hb

/-- non-vacuity: `flatten((x + (y + 0)) // (1*1))` is `(x + y) // 1` — the operands are flattened,
the unit divisor stays -/
example : flattenM 5 (.bin .floordiv (.nary .sum [.var "x", .nary .sum [.var "y", zero]])
      (.nary .prod [one, one])) =
    .ok (.bin .floordiv (.nary .sum [.var "x", .var "y"]) one) := by decide

/-- why a unit divisor of `//` must stay: at `x = 1/2`, `x // 1` is `0` and `x` is `1/2` -/
theorem floordiv_one_not_identity_witness :
    den halfEnv (.bin .floordiv (.var "x") one) = .ok (.int 0) ∧
    den halfEnv (.var "x") = .ok (.frac (1 / 2)) ∧
    den halfEnv (.bin .floordiv (.var "x") one) ≠ den halfEnv (.var "x") := by
  have h1 : den halfEnv (.bin .floordiv (.var "x") one) = .ok (.int 0) := by
    rw [den_half_bin]; exact half_floordiv_one
  have h2 : den halfEnv (.var "x") = .ok (.frac (1 / 2)) := by rfl
  refine ⟨h1, h2, ?_⟩
  rw [h1, h2]
  intro h
  cases h

/-- … `x % 1` is `1/2` there, not `0` -/
theorem rem_one_not_zero_witness :
    den halfEnv (.bin .rem (.var "x") one) = .ok (.frac (1 / 2)) ∧
    den halfEnv (.bin .rem (.var "x") one) ≠ den halfEnv zero := by
  have h1 : den halfEnv (.bin .rem (.var "x") one) = .ok (.frac (1 / 2)) := by
    rw [den_half_bin]; exact half_mod_one
  have h2 : den halfEnv zero = .ok (.int 0) := by rfl
  refine ⟨h1, ?_⟩
  rw [h1, h2]
  intro h
  cases h

/-- … while `x / 1` is `x` there -/
example : den halfEnv (.bin .quot (.var "x") one) = den halfEnv (.var "x") := by
  rw [den_half_bin]; exact half_div_one

/-! ### (B) the coefficient test of `split_term` -/

/-- every pair `(base, exp)` that the second loop of `split_term` keeps in the key builds a power
`base**exp` that depends on something outside the parameters -/
theorem split_key_depends (params : List Expr) :
    ∀ (l : List (Expr × Expr)) (cs : List Expr) (cl : List (Expr × Expr)),
      b2eSplit params l = .ok (cs, cl) →
      ∀ be ∈ cl, ∃ term d, pyPow be.1 be.2 = .ok term ∧ depsR term = .ok d ∧
        subsetPy d params = false
  | [], cs, cl, h, be, hbe => by
      simp [b2eSplit, pure, Except.pure] at h
      rw [h.2] at hbe
      cases hbe
  | (b, e) :: rest, cs, cl, h, be, hbe => by
      simp only [b2eSplit, bind, Except.bind] at h
      cases hp : pyPow b e with
      | error err => simp [hp] at h
      | ok term =>
        simp only [hp] at h
        cases hd : depsR term with
        | error err => simp [hd] at h
        | ok d =>
          simp only [hd] at h
          cases hr : b2eSplit params rest with
          | error err => simp [hr] at h
          | ok r =>
            obtain ⟨cs', cl'⟩ := r
            simp only [hr] at h
            by_cases hs : subsetPy d params = true
            · simp [hs, pure, Except.pure] at h
              rw [← h.2] at hbe
              exact split_key_depends params rest cs' cl' hr be hbe
            · simp [hs, pure, Except.pure] at h
              rw [← h.2] at hbe
              cases hbe with
              | head => exact ⟨term, d, hp, hd, by simpa using hs⟩
              | tail _ hmem => exact split_key_depends params rest cs' cl' hr be hmem

/-- **a base whose exponents cancel never stays in the key**: no pair `(x, 0)` with a variable
base survives the coefficient test, whatever the parameters — `x**0` is the constant `1` -/
theorem split_key_no_zero_power (params : List Expr) (l : List (Expr × Expr)) (cs : List Expr)
    (cl : List (Expr × Expr)) (h : b2eSplit params l = .ok (cs, cl)) (x : String) :
    (Expr.var x, zero) ∉ cl := by
  intro hmem
  obtain ⟨term, d, hp, hd, hs⟩ := split_key_depends params l cs cl h _ hmem
  have h1 : pyPow (.var x) zero = .ok one := by rfl
  rw [h1] at hp
  cases hp
  have h2 : depsR one = .ok [] := by decide
  rw [h2] at hd
  cases hd
  simp [subsetPy] at hs

/-- the same for `split_term` as a whole, for any `self.rec`: the key it returns holds no `(x, 0)` -/
theorem split_term_no_zero_power (rec : Expr → RwR) (params : List Expr) (t : Expr)
    (k : List (Expr × Expr)) (c : Expr) (h : splitTerm rec params t = .ok (k, c)) (x : String) :
    (Expr.var x, zero) ∉ k := by
  simp only [splitTerm, bind, Except.bind] at h
  cases hf : splitFactors t with
  | error err => simp [hf] at h
  | ok fs =>
    simp only [hf] at h
    cases hb : b2eBuild fs [] with
    | error err => simp [hb] at h
    | ok b2e =>
      simp only [hb] at h
      cases hs : b2eSplit params b2e with
      | error err => simp [hs] at h
      | ok r =>
        obtain ⟨coeffs, cleaned⟩ := r
        simp only [hs] at h
        by_cases hl : cleaned.any (fun p => p.2.hasList) = true
        · simp [hl, throw, throwThe, MonadExceptOf.throw] at h
        · simp only [hl] at h
          cases hc : flatProd coeffs with
          | error err => simp [hc] at h
          | ok cf =>
            simp only [hc] at h
            cases hr : rec cf with
            | error err => simp [hr] at h
            | ok coeff =>
              simp [hr, pure, Except.pure] at h
              rw [← h.1]
              exact split_key_no_zero_power params b2e coeffs cleaned hs x

/-- … and about what the CURRENT source of `TermCollector.split_term` says (the regenerated method
body run by the table interpreter returns exactly that key) -/
theorem split_term_no_zero_power_current (ctx : C11Ctx) (params : List Expr)
    (hctx : C11CollCtx ctx params) (fuel : Nat) (t : Expr) (k : List (Expr × Expr)) (c : Expr)
    (h : splitTerm ctx.recur params t = .ok (k, c)) (x : String) :
    c11RunFn ctx fuel PV.Generated.c11_TermCollector_split_term [.expr t]
      = c11SplitResult (.ok (k, c)) ∧ (Expr.var x, zero) ∉ k := by
  refine ⟨?_, split_term_no_zero_power ctx.recur params t k c h x⟩
  rw [split_term_eq_table_current ctx params hctx fuel t, h]

/-- non-vacuity: the factors `x**0`, `y` split into the coefficient `1` and the key `{(y, 1)}` -/
example : b2eSplit [] [(.var "x", zero), (.var "y", one)] = .ok ([one], [(.var "y", one)]) := by
  decide

/-- `x**0*y + y` collects to `2*y` (one key for both terms) -/
example : collectM [] 6 (.nary .sum [.nary .prod [.bin .pow (.var "x") zero, .var "y"], .var "y"])
    = .ok (.nary .prod [.const (.int 2), .var "y"]) := by decide

end PV.C11
