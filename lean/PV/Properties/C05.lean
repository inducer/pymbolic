import PV.Proofs.MemoRefines
import PV.Proofs.MemoInst
import PV.Proofs.MemoOpt
import PV.Proofs.MemoTable
import PV.Generated.Caching
import PV.Properties.C02
/-
  C05 — memoization and mapper optimization are observationally transparent: property theorems.

  Model: PV/Model/Memo.lean.  A mapper class is a `Spec`: a handler family (`map_*` methods as
  first-order programs `Prog` that return, raise, or ask the dispatcher for another key), the
  equality of its cache keys, which keys are looked up at all, and which keys cannot be hashed.
  `plain` is `Mapper.__call__` (no cache), `callC` is `CachedMapper.__call__`/`rec` with the cache
  threaded through the recursion and through histories (`runHistC`) of calls on one instance.

  The generic theorems hold on an *admissible* set of keys `U`: closed under the requests of the
  handlers, handlers give equal keys equal answers (the purity assumption spelled out in the
  docstring of `get_cache_key`), hashing does not raise.  The instances discharge this on the
  keys `UK` (PV/Proofs/MemoInst.lean) whose expressions and arguments are `simple`
  (PV/Proofs/Simple.lean), where Python `==` is identity.
-/
namespace PV.C05
open PV PV.Memo

variable {K X R : Type}

/-- **Transparency.**  For every handler family and every history of calls on ONE memoizing
instance, starting from the empty cache: every answer (value or exception) is exactly the answer
the non-memoizing dispatcher computes afresh for that call. -/
theorem cached_refines_plain {S : Spec K X R} {U : K → Prop} (hA : Admissible S U) (n : Nat)
    (ks : List K) (hU : ∀ k ∈ ks, U k) (hp : ∀ k ∈ ks, ∃ a, plain S n k = some a) :
    (runHistC S n ks {}).1 = ks.map (plain S n) :=
  (runHistC_refines hA n ks {} hU (inv_empty S U) hp).1

/-- … and one call from ANY state whose cache holds plain answers (whatever was computed, hit or
raised before). -/
theorem call_refines_plain {S : Spec K X R} {U : K → Prop} (hA : Admissible S U) (n : Nat)
    (k : K) (s : St K R) (a : Ans X R) (hk : U k) (hs : Inv S U s) (hp : plain S n k = some a) :
    ∃ s', callC S n k s = some (a, s') ∧ Inv S U s' :=
  callC_refines hA n k s a hk hs hp

/-- **Cache invariant.**  After any history, every entry of the cache is the plain answer for its
key. -/
theorem cache_inv {S : Spec K X R} {U : K → Prop} (hA : Admissible S U) (n : Nat)
    (ks : List K) (hU : ∀ k ∈ ks, U k) (hp : ∀ k ∈ ks, ∃ a, plain S n k = some a) :
    ∀ k r, (k, r) ∈ (runHistC S n ks {}).2.cache → ∃ m, plain S m k = some (.ok r) :=
  fun k r h => ((runHistC_refines hA n ks {} hU (inv_empty S U) hp).2 k r h).2

/-- A hit returns an entry stored under an EQUAL key, never anything else. -/
theorem hit_only_on_equal_key {keq : K → K → Bool} {k : K} {r : R} {c : List (K × R)}
    (h : lookup keq k c = some r) : ∃ k', (k', r) ∈ c ∧ keq k' k = true :=
  lookup_some h

/-- **At most once.**  Over any history on one instance, the handler of every key (up to key
equality) runs to completion at most once.  Needs key equality to be symmetric and transitive and
the handlers to descend in a measure respected by key equality (`Ordered`). -/
theorem at_most_once {S : Spec K X R} {U : K → Prop} {μ : K → Nat} (hO : Ordered S U μ) (n : Nat)
    (ks : List K) (hU : ∀ k ∈ ks, U k) (k : K) (hk : U k) :
    countKey S.keq k (runHistC S n ks {}).2.log ≤ 1 := by
  obtain ⟨_, u, p⟩ := runHistC_log hO n ks {} hU (logInv_empty S U)
  exact count_le_one hO k hk _ u p

/-- … equivalently: no two completed computations have equal keys, and the computed keys are
exactly the keys of the cache. -/
theorem computed_keys_distinct {S : Spec K X R} {U : K → Prop} {μ : K → Nat} (hO : Ordered S U μ)
    (n : Nat) (ks : List K) (hU : ∀ k ∈ ks, U k) :
    let s := (runHistC S n ks {}).2
    s.log = s.cache.map (·.1) ∧ s.log.Pairwise (fun a b => S.keq b a = false) := by
  obtain ⟨e, _, p⟩ := runHistC_log hO n ks {} hU (logInv_empty S U)
  exact ⟨e, p⟩

/-! ### the key separates scalar types and extra arguments -/

/-- `4`, `4.0` and `True`/`1` are equal in Python and hash alike, but their cache keys differ
(the type is part of the key); so do the keys of calls whose extra arguments differ. -/
theorem key_separates_types :
    Key.eq ⟨.const (.int 4), {}⟩ ⟨.const (.flt "4.0" 4 1), {}⟩ = false ∧
    Key.eq ⟨.const (.flt "4.0" 4 1), {}⟩ ⟨.const (.int 4), {}⟩ = false ∧
    Key.eq ⟨.const (.int 1), {}⟩ ⟨.const (.bool true), {}⟩ = false ∧
    Key.eq ⟨.const (.bool true), {}⟩ ⟨.const (.flt "1.0" 1 1), {}⟩ = false ∧
    (Expr.const (.int 4)).pyEq (.const (.flt "4.0" 4 1)) = true ∧
    (Expr.const (.int 1)).pyEq (.const (.bool true)) = true := by
  decide +kernel

theorem key_separates_tags (a b : Key) (h : a.expr.typeTag ≠ b.expr.typeTag) :
    Key.eq a b = false := by
  simp [Key.eq, Expr.keyEq, h]

theorem key_separates_args (a b : Key) (h : a.args.pyEq b.args = false) : Key.eq a b = false := by
  simp [Key.eq, h]

/-- different positional or keyword values give different keys (instances) -/
example : Key.eq ⟨.var "x", { args := [.str "_a"] }⟩ ⟨.var "x", { args := [.str "_b"] }⟩ = false ∧
    Key.eq ⟨.var "x", { kwargs := [("k", .int 1)] }⟩ ⟨.var "x", { kwargs := [("k", .int 2)] }⟩ = false ∧
    Key.eq ⟨.var "x", { args := [.int 1] }⟩ ⟨.var "x", { kwargs := [("k", .int 1)] }⟩ = false ∧
    Key.eq ⟨.var "x", { kwargs := [("k", .int 1), ("l", .int 2)] }⟩
      ⟨.var "x", { kwargs := [("l", .int 2), ("k", .int 1)] }⟩ = true := by
  decide +kernel

/-- The types of the EXTRA ARGUMENTS are not part of the key either: `m(x, 1)` and `m(x, True)`
look up the same entry (`(1,) == (True,)` in Python). -/
example : Key.eq ⟨.var "x", { args := [.int 1] }⟩ ⟨.var "x", { args := [.bool true] }⟩ = true := by
  decide +kernel

/-- Only the TOP-LEVEL type is part of the key: `Sum((x, 4))` and `Sum((x, 4.0))` are equal
expressions (C01) and share one entry. -/
theorem nested_constants_share :
    Key.eq ⟨.nary .sum [.var "x", .const (.int 4)], {}⟩
      ⟨.nary .sum [.var "x", .const (.flt "4.0" 4 1)], {}⟩ = true := by
  decide +kernel

/-! ### the optimizer -/

/-- **Optimizer, all 32 option sets.**  For a class whose `get_cache_key` takes and returns exactly
the extra arguments it uses (`Code.user`; `user true true` is the stock key), on the calls the
option set allows (`Allowed`: dropped `*args`/`**kwargs` are neither passed nor mentioned by the
key; with `inline_cache` the class key is `(type(expr), expr)` and no extra arguments are passed):
every dispatch — top level or `self.rec` site — computes its keys without raising; two dispatches
share a cache entry ONLY IF their original keys `(type, expr, args, kwargs)` are equal (no stale
answers); and, unless `inline_rec` is used without `inline_cache`, they share one WHENEVER the
original keys are equal (nothing is computed twice). -/
theorem optimizer_preserves_partial (o : Opts) (ka kk t1 t2 : Bool) (k1 k2 : Key)
    (h1 : Allowed o ka kk k1 = true) (h2 : Allowed o ka kk k2 = true) :
    ∃ ks1 ks2, siteKeys (optimize o (Code.user ka kk)) t1 k1 = .ok ks1 ∧
      siteKeys (optimize o (Code.user ka kk)) t2 k2 = .ok ks2 ∧
      (shares ks1 ks2 = true → Key.eq k1 k2 = true) ∧
      ((o.inlineRec = true → o.inlineCache = true) → shares ks1 ks2 = Key.eq k1 k2) := by
  refine ⟨_, _, siteKeys_optimize o ka kk t1 k1 h1, siteKeys_optimize o ka kk t2 k2 h2, ?_, ?_⟩
  · rw [shares_expected o ka kk t1 t2 k1 k2 h1 h2]
    intro h; simp only [Bool.and_eq_true] at h; exact h.2
  · intro hi
    rw [shares_expected o ka kk t1 t2 k1 k2 h1 h2]
    cases hr : o.inlineRec <;> cases hc : o.inlineCache <;> simp_all

/-- the unoptimized class is the special case of no options -/
example (ka kk t : Bool) (k : Key) (h : Allowed {} ka kk k = true) :
    siteKeys (Code.user ka kk) t k = .ok [userKey ka kk k] := by
  have e : optimize {} (Code.user ka kk) = Code.user ka kk := by cases ka <;> cases kk <;> rfl
  have := siteKeys_optimize {} ka kk t k h
  rw [e] at this
  cases t <;> simpa [expectedKeys] using this

/-- **Finding** (`optimizer-inline-cache-ignores-args`): with `inline_cache` (with or without
`inline_rec`) and extra arguments not dropped, the inlined key is `(type(expr), expr)`: two
`self.rec` dispatches of `x` with different extra arguments share a cache entry although their
original keys differ. -/
theorem optimizer_inline_cache_args_cex :
    let o : Opts := { inlineRec := true, inlineCache := true }
    let k1 : Key := ⟨.var "x", { args := [.str "_a"] }⟩
    let k2 : Key := ⟨.var "x", { args := [.str "_b"] }⟩
    ∃ ks1 ks2, siteKeys (optimize o Code.stock) false k1 = .ok ks1 ∧
      siteKeys (optimize o Code.stock) false k2 = .ok ks2 ∧
      shares ks1 ks2 = true ∧ Key.eq k1 k2 = false := by
  refine ⟨_, _, rfl, rfl, ?_, ?_⟩ <;> decide +kernel

/-- **Finding** (`optimizer-inline-cache-key-mismatch`): with `inline_cache` and the stock
`get_cache_key`, `__call__` stores under `(type, expr, (), {})` but the `self.rec` sites look up
`(type, expr)`: the same dispatch at top level and inside a handler never shares an entry, so a
key is computed twice (even without extra arguments). -/
theorem optimizer_inline_cache_key_mismatch_cex :
    let o : Opts := { inlineRec := true, inlineCache := true }
    let k : Key := ⟨.var "x", {}⟩
    ∃ ks1 ks2, siteKeys (optimize o Code.stock) true k = .ok ks1 ∧
      siteKeys (optimize o Code.stock) false k = .ok ks2 ∧
      shares ks1 ks2 = false ∧ Key.eq k k = true := by
  refine ⟨_, _, rfl, rfl, ?_, ?_⟩ <;> decide +kernel

/-- **Finding** (`optimizer-inline-rec-disables-cache`): with `inline_rec` but without
`inline_cache` the `self.rec` sites call the handler directly and consult no cache at all:
subexpressions are recomputed at every occurrence. -/
theorem optimizer_inline_rec_uncached_cex :
    let o : Opts := { inlineRec := true }
    let k : Key := ⟨.var "x", {}⟩
    siteKeys (optimize o Code.stock) false k = .ok [] ∧ Key.eq k k = true := by
  refine ⟨rfl, ?_⟩; decide +kernel

/-- `drop_args` on a class that keeps the stock `get_cache_key`: the returned tuple still mentions
`args`, which is no longer a parameter — every call raises `NameError` (why `Allowed` asks for a
key that does not mention dropped arguments). -/
theorem optimizer_drop_args_stock_key_raises (e : Expr) :
    siteKeys (optimize { dropArgs := true } Code.stock) true ⟨e, {}⟩ = .error .nameError :=
  rfl

/-- the rewrites compose as the single pass does (each option is one function on the code) -/
example : optimize { dropArgs := true, dropKwargs := true } Code.stock
    = Code.stock.dropArgs.dropKwargs := rfl
example : optimize { inlineGetCacheKey := true } Code.stock = Code.stock.inlineGetCacheKey := rfl
example : optimize { inlineRec := true } Code.stock = Code.stock.inlineRec := rfl
example : optimize { inlineCache := true } Code.stock = Code.stock.inlineCache := rfl

/-! ### instances -/

/-- the keys of the instance theorems: expressions and positional arguments on which Python `==`
is identity (no bool/float constants, keyword calls, Python lists), no keyword arguments -/
abbrev UK := Memo.UK

/-- **Dependency mapper.**  `CachedDependencyMapper` (any flag set), any history on the simple
universe, fuel beyond the largest expression: every answer is the plain `DependencyMapper` answer. -/
theorem deps_cached_refines_plain (fl : DepFlags) (n : Nat) (ks : List Key)
    (hU : ∀ k ∈ ks, UK k) (hn : ∀ k ∈ ks, k.expr.size < n) :
    (runHistC (depsSpec fl) n ks {}).1 = ks.map (plain (depsSpec fl) n) :=
  have hD := descends_of_children (depsProg fl) DepErr.unhashable (depsProg_calls fl)
  cached_refines_plain hD.admissible n ks hU
    fun k hk => plain_total hD.calls n k (hU k hk) (hn k hk)

theorem deps_at_most_once (fl : DepFlags) (n : Nat) (ks : List Key) (hU : ∀ k ∈ ks, UK k)
    (k : Key) (hk : UK k) : countKey Key.eq k (runHistC (depsSpec fl) n ks {}).2.log ≤ 1 :=
  at_most_once (descends_of_children (depsProg fl) DepErr.unhashable (depsProg_calls fl)).ordered
    n ks hU k hk

/-- **CSE mix-in** on the plain dependency mapper (`DependencyMapper`: only common-subexpression
nodes are cached, by `(expr, *args)`): transparent as well. -/
theorem cse_mixin_refines_plain (fl : DepFlags) (n : Nat) (ks : List Key)
    (hU : ∀ k ∈ ks, UK k) (hn : ∀ k ∈ ks, k.expr.size < n) :
    (runHistC (cseMixinSpec (depsProg fl) DepErr.unhashable) n ks {}).1
      = ks.map (plain (cseMixinSpec (depsProg fl) DepErr.unhashable) n) :=
  have hD := descends_of_children_cse (depsProg fl) DepErr.unhashable (depsProg_calls fl)
  cached_refines_plain hD.admissible n ks hU
    fun k hk => plain_total hD.calls n k (hU k hk) (hn k hk)

/-- **Node counter** family (1 + children). -/
theorem size_cached_refines_plain (n : Nat) (ks : List Key)
    (hU : ∀ k ∈ ks, UK k) (hn : ∀ k ∈ ks, k.expr.size < n) :
    (runHistC sizeSpec n ks {}).1 = ks.map (plain sizeSpec n) :=
  have hD := descends_of_children sizeProg DepErr.unhashable sizeProg_calls
  cached_refines_plain hD.admissible n ks hU
    fun k hk => plain_total hD.calls n k (hU k hk) (hn k hk)

theorem size_at_most_once (n : Nat) (ks : List Key) (hU : ∀ k ∈ ks, UK k)
    (k : Key) (hk : UK k) : countKey Key.eq k (runHistC sizeSpec n ks {}).2.log ≤ 1 :=
  at_most_once (descends_of_children sizeProg DepErr.unhashable sizeProg_calls).ordered n ks hU k hk

/-- **Evaluator** (C02): the memoizing evaluator with both of its caches agrees with the plain one
on every history (`PV.C02.plain_eq_cached`, `PV.C02.history_eq_den`). -/
theorem eval_cached_refines_plain {env : Env} {U : Expr → Prop} (hU : Universe U)
    (es : List Expr) (h : ∀ e ∈ es, U e) :
    runHist true env es {} = runHist false env es {} ∧ runHist true env es {} = es.map (den env) :=
  ⟨(C02.plain_eq_cached hU es h).symm, C02.history_eq_den hU true es {} h C02.evInv_empty⟩

/-- Known finding shared with C02, in this model: a memoizing mapper raises on every key that
contains a Python list, whatever the plain mapper returns. -/
theorem cached_list_raises {X R : Type} (h : Key → Prog Key X R) (te : X) (n : Nat) (k : Key)
    (s : St Key R) (hl : k.expr.hasList = true) :
    callC (cachedSpec h te) (n+1) k s = some (.error te, s) := by
  simp [callC, cachedSpec, hl]

/-! ### non-vacuity -/

/-- a history with a shared subtree, a repeated call and two different extra arguments: the answers
are the plain ones; `x`, `x*x` and the sum are computed once per argument tuple -/
example :
    let x := Expr.var "x"
    let e := Expr.nary .sum [x, .nary .prod [x, x]]
    let a : ArgKey := { args := [.str "_a"] }
    let hist : List Key := [⟨e, {}⟩, ⟨e, {}⟩, ⟨.nary .prod [x, x], {}⟩, ⟨e, a⟩]
    (runHistC sizeSpec 10 hist {}).1 = [some (.ok 5), some (.ok 5), some (.ok 3), some (.ok 5)] ∧
    hist.map (plain sizeSpec 10) = [some (.ok 5), some (.ok 5), some (.ok 3), some (.ok 5)] ∧
    (runHistC sizeSpec 10 hist {}).2.log.length = 6 ∧
    hist.all (fun k => k.expr.simple && k.args.simple) = true :=
  ⟨rfl, rfl, rfl, rfl⟩

/-- the dependency family on a tree with a call, both caches of the real class exercised by the
correspondence streams: here the memo table alone -/
example :
    let f := Expr.var "f"; let x := Expr.var "x"; let y := Expr.var "y"
    let e := Expr.nary .sum [.call f [x], .bin .pow y (.const (.int 2)), .call f [x]]
    (runHistC (depsSpec { calls := .no }) 10 [⟨e, {}⟩] {}).1 = [some (.ok [f, x, y])] ∧
    (runHistC (depsSpec {}) 10 [⟨e, {}⟩] {}).1 = [some (.ok [.call f [x], y])] ∧
    ((runHistC (depsSpec {}) 10 [⟨e, {}⟩] {}).2.trace.map (·.1)).reverse
      = [false, false, false, false, false, true] :=
  ⟨rfl, rfl, rfl⟩

/-! ### T-gen: the cache protocol regenerated from the source of the tree under test

`extract/caching.py` reads, on every run, the live classes and the live optimizer into
`PV/Generated/Caching.lean`.  The theorems below say that what was read IS what the model above was
written from; they stop holding (and the check reports them as broken, together with the failing
histories the correspondence streams find) when the source changes the key, the order of look-up,
handler call and store, the hit test, a store on one of the two dispatch paths, the place a caching
class takes in an MRO, what a `__call__` override passes on, or what a rewrite of the optimizer
does. -/

open PV.Generated

/-- **The cache key of the current source.**  `CachedMapper.get_cache_key` takes `(expr, *args,
**kwargs)` and returns the tuple `(type(expr), expr, args, immutabledict(kwargs))` — the key the
optimizer model starts from (`Code.stock`) — and Python's `==` on two such tuples is the model's
key equality `Key.eq` (the `keq` of every `cachedSpec`).  Dropping `type(expr)` or `args` from the
tuple, or reordering it, changes the regenerated table and breaks this theorem. -/
theorem key_shape_current (a b : Key) :
    c05GetCacheKey = c05ExpectedGetKey ∧
    c05GetCacheKey.sig = Code.stock.getKeySig ∧
    c05GetCacheKey.items = Code.stock.getKeyBody.map .part ∧
    c05TupleEq c05GetCacheKey.items a b = Key.eq a b := by
  have h : c05GetCacheKey = c05ExpectedGetKey := rfl
  refine ⟨h, by rw [h]; rfl, by rw [h]; rfl, ?_⟩
  rw [h]; exact c05TupleEq_stock a b

/-- non-vacuity: the regenerated key separates `4` from `4.0` and `("_a",)` from `("_b",)`; without
its first component it would not separate the scalars -/
example :
    c05TupleEq c05GetCacheKey.items ⟨.const (.int 4), {}⟩ ⟨.const (.flt "4.0" 4 1), {}⟩ = false ∧
    c05TupleEq c05GetCacheKey.items ⟨.var "x", { args := [.str "_a"] }⟩
      ⟨.var "x", { args := [.str "_b"] }⟩ = false ∧
    c05TupleEq (c05GetCacheKey.items.drop 1) ⟨.const (.int 4), {}⟩ ⟨.const (.flt "4.0" 4 1), {}⟩
      = true := by
  decide +kernel

/-- **The key of the CSE mix-in in the current source** is `(expr, *args)`: Python's `==` on two
such tuples is `Key.cseEq` (the `keq` of `cseMixinSpec`): no type component, positional arguments
spliced in, no keyword arguments (the method takes none). -/
theorem cse_key_shape_current (a b : Key) :
    c05CseMixinKey = [.part .expr, .splatArgs] ∧
    c05CseMixinMethod.sig = ⟨true, false⟩ ∧
    c05TupleEq c05CseMixinKey a b = Key.cseEq a b := by
  have h : c05CseMixinKey = [.part .expr, .splatArgs] := rfl
  refine ⟨h, by rfl, ?_⟩
  rw [h]; exact c05TupleEq_cse a b

example : c05TupleEq c05CseMixinKey ⟨.cse (.const (.int 1)) none "", {}⟩
    ⟨.cse (.const (.bool true)) none "", {}⟩ = true ∧
    c05TupleEq c05CseMixinKey ⟨.var "x", { args := [.int 1] }⟩ ⟨.var "x", { args := [.int 2] }⟩ = false ∧
    c05TupleEq c05CseMixinKey ⟨.var "x", { args := [.int 1] }⟩ ⟨.var "x", {}⟩ = false := by
  decide +kernel

/-- **The cache protocol of the current source is `callC`.**  Run the body of
`CachedMapper.__call__` as regenerated from the source (statement by statement: `dict.get` with the
walrus-bound key and the sentinel default, `is not` test, method look-up, handler call, store,
return) for ANY handler family, cache state, dispatch path (`hasName`/`hasMethod`: method path or
`rec_fallback` path) and with `self.rec` inside the handlers being the memoizing dispatcher: the
outcome — answer or exception, cache, computation log, hit/miss trace — is exactly that of the
model's `callC`, to which `cached_refines_plain`, `cache_inv` and `at_most_once` apply.  Moving a
store before the handler call, testing the cached result for truth instead of identity with the
sentinel, or dropping the store on the fallback path changes the regenerated body and breaks this
theorem. -/
theorem cache_protocol_current (S : Spec K X R) (n : Nat) (k : K) (s : St K R)
    (hasName hasMethod : Bool) (falsy isNone : R → Bool) (hc : S.cacheable k = true) :
    c05Run c05CachedMapperCall (c05CallCtx S n k hasName hasMethod falsy isNone) s
      = .ofOption (callC S (n+1) k s) := by
  have h : c05CachedMapperCall = c05ExpectedCall := by rfl
  rw [h]; exact c05Run_expectedCall S n k s hasName hasMethod falsy isNone hc

/-- non-vacuity, and the reading is sensitive to exactly the edits it is meant to catch: on a
counter whose handler answers `0` (a falsy result) the regenerated body computes `x` once over two
calls; the same body with `result = self._cache.get(key)` / `if result:` computes it twice; with the store of the method
path moved before the handler call it has no meaning at all. -/
example :
    let S : Spec Key DepErr Nat := cachedSpec (fun _ => .ret 0) .unhashable
    let ctx := c05CallCtx S 3 ⟨.var "x", {}⟩ true true (fun r => r == 0) (fun _ => false)
    let twice (m : C05Method) : Option Nat := match c05Run m ctx {} with
      | .done _ s1 => (match c05Run m ctx s1 with | .done _ s2 => some s2.log.length | _ => none)
      | _ => none
    let truthyTest : C05Method := { c05CachedMapperCall with
      body := (c05CachedMapperCall.body.set 0 (.assign "result" (.cacheGet (.selfAttr "_cache")
          "cache_key" (some (.getKeyCall true true)) none))).set 1
        (.ifThen (.truthy "result") [.ret "result"] []) }
    let storeFirst : C05Method := { c05CachedMapperCall with
      body := c05CachedMapperCall.body.set 3 (.ifThen (.isNot "method_name" .pyNone) [
        .assign "method" (.selfMethod "method_name"),
        .ifThen (.isNot "method" .pyNone) [
          .store (.selfAttr "_cache") "cache_key" "result",
          .assign "result" (.callVar "method" true true),
          .ret "result"] []] []) }
    twice c05CachedMapperCall = some 1 ∧ twice truthyTest = some 2 ∧ twice storeFirst = none := by
  decide +kernel

/-- … and without the store on the fallback path a constant (dispatched through `rec_fallback`:
no `mapper_method`) is computed at every call -/
example :
    let S : Spec Key DepErr Nat := cachedSpec (fun _ => .ret 7) .unhashable
    let ctx := c05CallCtx S 3 ⟨.const (.int 4), {}⟩ false false (fun r => r == 0) (fun _ => false)
    let twice (m : C05Method) : Option Nat := match c05Run m ctx {} with
      | .done _ s1 => (match c05Run m ctx s1 with | .done _ s2 => some s2.log.length | _ => none)
      | _ => none
    let noFallbackStore : C05Method := { c05CachedMapperCall with
      body := c05CachedMapperCall.body.eraseIdx 5 }
    twice c05CachedMapperCall = some 1 ∧ twice noFallbackStore = some 0 := by
  decide +kernel

/-- **The CSE mix-in of the current source is `callC` on its own dictionary.**  The body of
`CSECachingMapperMixin.map_common_subexpression` as regenerated (dictionary created lazily per
instance, key `(expr, *args)`, `try: return ccd[key]` / `except KeyError:` compute with
`map_common_subexpression_uncached`, store, return) is, on the nodes it is the handler of
(`cacheable`), the model's `callC` — in particular `callC (cseMixinSpec h _)`. -/
theorem cse_protocol_current (S : Spec K X R) (n : Nat) (k : K) (s : St K R)
    (falsy isNone : R → Bool) (hc : S.cacheable k = true) :
    c05Run c05CseMixinMethod (c05CseCtx S n k falsy isNone) s = .ofOption (callC S (n+1) k s) := by
  have h : c05CseMixinMethod = c05ExpectedCse := by rfl
  rw [h]; exact c05Run_expectedCse S n k s falsy isNone hc

example :
    let S : Spec Key DepErr (List Expr) := cseMixinSpec (depsProg {}) .unhashable
    let k : Key := ⟨.cse (.var "x") none "", {}⟩
    (match c05Run c05CseMixinMethod (c05CseCtx S 3 k (fun _ => false) (fun _ => false)) {} with
      | .done (.ok r) s => some (r, s.cache.length, s.trace.map (·.1))
      | _ => none) = some ([.var "x"], 1, [false]) :=
  rfl

/-- **Where the caches live, in the current source.**  The sentinel the look-up of
`CachedMapper.__call__` uses is bound exactly once, at module level, to a fresh `object()` (no
mapper result can be identical to it); `_cache` is created empty in `CachedMapper.__init__` and
`_cse_cache_dict` lazily per instance; no class body on the MRO of any caching class binds either
attribute (a class-level dictionary would be shared by all instances, where the model starts every
instance from the empty state `{}`). -/
theorem cache_state_current :
    c05Sentinels = [("_NOT_IN_CACHE", true)] ∧
    c05DictInits = [⟨"CachedMapper", "_cache", true⟩,
                    ⟨"CSECachingMapperMixin", "_cse_cache_dict", true⟩] ∧
    c05ClassLevelCaches = [] :=
  ⟨rfl, rfl, rfl⟩

/-! #### which classes the protocol governs -/

def cmCall := "pymbolic.mapper.CachedMapper.__call__"

/-- does a `__call__` override do nothing but enter `CachedMapper.__call__` on the SAME instance
with everything it received: the instance is passed, `expr` and the override's own defaulted
parameters (they become leading extra arguments, hence part of the key) come first, `*args` and
`**kwargs` follow -/
def c05HandsOver (o : C05CallOverride) : Bool :=
  o.targetFn == cmCall && o.passesSelf && o.forwardsAll

/-- is `c` dispatched by `CachedMapper.__call__`, given the `__call__` overrides `ovs`: `__call__`
is that function or an override that hands over to it (`c05HandsOver`); `rec` (what the handlers
recurse through) IS that function; `get_cache_key` is `CachedMapper`'s, `rec_fallback` is `Mapper`'s
dispatch, and `__init__` reaches `CachedMapper.__init__` -/
def c05WrappedBy (ovs : List C05CallOverride) (c : C05Class) : Bool :=
  (match c05Resolve c05Defines "__call__" c.mro with
    | some f => f == cmCall || ovs.any (fun o => o.fn == f && c05HandsOver o)
    | none => false) &&
  c05Resolve c05Defines "rec" c.mro == some cmCall &&
  c05Resolve c05Defines "get_cache_key" c.mro == some "pymbolic.mapper.CachedMapper.get_cache_key" &&
  c05Resolve c05Defines "rec_fallback" c.mro == some "pymbolic.mapper.Mapper.rec_fallback" &&
  c.initReachesCacheInit

/-- … with the overrides of the current source -/
def c05Wrapped (c : C05Class) : Bool := c05WrappedBy c05CallOverrides c

/-- **The memoizing classes of the current source**: every subclass of `CachedMapper` and of
`CSECachingMapperMixin` defined in a pymbolic module (a new one must be looked at). -/
theorem caching_classes_current :
    c05CachedClasses.map (·.name) =
      ["DerivativeSourceAndNablaComponentCollector", "PymbolicToASTMapper", "CachedCollector",
       "CachedCombineMapper", "CachedIdentityMapper", "CachedWalkMapper", "NodeCountMapper",
       "CachedDependencyMapper", "CachedEvaluationMapper", "CachedFloatEvaluationMapper",
       "FlopCounter", "CachedStringifyMapper", "CachedSubstitutionMapper"] ∧
    c05CseClasses.map (·.name) =
      ["pymbolic.geometric_algebra.mapper.ConstantFoldingMapper", "DerivativeSourceFinder",
       "Dimensionalizer", "pymbolic.geometric_algebra.mapper.EvaluationMapper",
       "NablaComponentToUnitVector", "PymbolicToSympyLikeMapper",
       "CommutativeConstantFoldingMapper", "pymbolic.mapper.constant_folder.ConstantFoldingMapper",
       "CachedDependencyMapper", "DependencyMapper", "DifferentiationMapper",
       "CachedEvaluationMapper", "CachedFloatEvaluationMapper",
       "pymbolic.mapper.evaluator.EvaluationMapper", "FloatEvaluationMapper"] :=
  ⟨rfl, rfl⟩

/-- attribute resolution along the regenerated MROs, for both families of caching classes -/
theorem mro_current :
    (∀ c ∈ c05CachedClasses, c05Wrapped c = true) ∧
    ∀ c ∈ c05CseClasses,
      c05Resolve c05Defines "map_common_subexpression" c.mro
        = some "pymbolic.mapper.CSECachingMapperMixin.map_common_subexpression" ∧
      (c05Resolve c05Defines "map_common_subexpression_uncached" c.mro).isSome = true ∧
      c05Resolve c05Defines "map_common_subexpression_uncached" c.mro
        ≠ some "pymbolic.mapper.CSECachingMapperMixin.map_common_subexpression_uncached" := by
  decide +kernel

/-- **The cache wraps every handler — by MRO.**  For EVERY `CachedMapper` subclass of the current
source, Python's attribute look-up along the regenerated MRO (first class whose body defines the
name) gives: `rec` is `CachedMapper.__call__` (the `self.rec` calls inside every inherited handler
go through the look-up: children are memoized, not only the top-level expression); `__call__` is
that same function or — `CachedStringifyMapper` — an override that only hands over to it on the same
instance with everything it received (`c05HandsOver`); the key is `CachedMapper.get_cache_key`, the
fallback path is `Mapper.rec_fallback`, and `__init__` reaches the creation of `_cache`.  So
`cache_protocol_current` — hence `cached_refines_plain`, `at_most_once` — is about each of them:
cached identity / combine / collector / walk / dependency / evaluation / substitution / stringify
mappers, the flop and node counters.  (`CachedStringifyMapper` is wrapped since repo commit 8a72a90
repaired its `__call__`, see `cached_stringify_old_override_cex`.) -/
theorem cache_wraps_handlers_current : ∀ c ∈ c05CachedClasses, c05Wrapped c = true :=
  mro_current.1

/-- **`CachedStringifyMapper` in the current source.**  Its MRO is `[CachedStringifyMapper,
StringifyMapper, CachedMapper, Mapper]`: `StringifyMapper.__call__` (which goes to the NON-memoizing
`Mapper.__call__`) would come before `CachedMapper`'s, and the class overrides `__call__` to undo
that: `def __call__(self, expr, prec=PREC_NONE, *args, **kwargs): return
CachedMapper.__call__(self, expr, prec, *args, **kwargs)` — the instance is passed, the defaulted
precedence becomes the first extra argument, everything else is forwarded.  `rec` is not
overridden on that MRO, so it is `CachedMapper.__call__` directly: every child is looked up and
stored under `(type(child), child, (prec, …), {})`.  The enclosing precedence is therefore part of
every key (`key_separates_args`): a subtree printed once with and once without parentheses has two
entries. -/
theorem cached_stringify_call_current :
    c05CallOverrides =
      [⟨"CachedStringifyMapper", "pymbolic.mapper.stringifier.CachedStringifyMapper.__call__",
        "CachedMapper", cmCall, true, [("prec", "PREC_NONE")], true⟩] ∧
    ∃ c ∈ c05CachedClasses, c.name = "CachedStringifyMapper" ∧
      c.mro = ["CachedStringifyMapper", "StringifyMapper", "CachedMapper", "Mapper"] ∧
      c05Resolve c05Defines "__call__" c.mro
        = some "pymbolic.mapper.stringifier.CachedStringifyMapper.__call__" ∧
      c05Resolve c05Defines "__call__" (c.mro.drop 1)
        = some "pymbolic.mapper.stringifier.StringifyMapper.__call__" ∧
      c05Resolve c05Defines "rec" c.mro = some cmCall ∧
      c05Wrapped c = true := by
  -- `CachedStringifyMapper` is entry 11 of `c05CachedClasses` (see `caching_classes_current`)
  refine ⟨rfl, _, List.mem_of_getElem? (i := 11) rfl, ?_⟩
  decide +kernel

/-- the precedence the override inserts separates keys: `x + y` as a term of a sum (`PREC_SUM` = 11)
and as a factor of a product (`PREC_PRODUCT` = 12, printed in parentheses) are two entries; the same
precedence is one -/
example :
    let e := Expr.nary .sum [.var "x", .var "y"]
    Key.eq ⟨e, { args := [.int 11] }⟩ ⟨e, { args := [.int 12] }⟩ = false ∧
    Key.eq ⟨e, { args := [.int 11] }⟩ ⟨e, { args := [.int 11] }⟩ = true := by
  decide +kernel

/-- **The override as it was before repo commit 8a72a90 repaired it** (finding
`cached-stringify-call-unbound`; the row below is written down here, it is NOT regenerated): `return
CachedMapper.__call__(expr, prec, *args, **kwargs)` did not pass the instance — `expr` was taken for
`self` and every top-level call raised `AttributeError` where `StringifyMapper` returns the text.
With that row the class is not wrapped; `c05Wrapped` tells the two apart, so the return of the
defect breaks `cache_wraps_handlers_current`. -/
theorem cached_stringify_old_override_cex :
    let old : C05CallOverride :=
      ⟨"CachedStringifyMapper", "pymbolic.mapper.stringifier.CachedStringifyMapper.__call__",
       "CachedMapper", cmCall, false, [("prec", "PREC_NONE")], false⟩
    ∃ c ∈ c05CachedClasses, c.name = "CachedStringifyMapper" ∧
      c05WrappedBy [old] c = false ∧ c05WrappedBy [{ old with passesSelf := true }] c = false ∧
      c05WrappedBy [{ old with passesSelf := true, forwardsAll := true }] c = true := by
  refine ⟨_, List.mem_of_getElem? (i := 11) rfl, ?_⟩  -- entry 11, as above
  decide +kernel

/-- **The CSE mix-in wraps the common-subexpression handler — by MRO.**  For every class of the
current source that inherits `CSECachingMapperMixin` (the evaluator and its cached variants, the
dependency mappers, the differentiation mapper, the constant folders, …) `map_common_subexpression`
resolves to the mix-in's caching method — no `IdentityMapper`/`CombineMapper`/`WalkMapper` handler
of that name comes first on the MRO — and `map_common_subexpression_uncached` to a concrete
handler, not the mix-in's abstract stub. -/
theorem cse_mixin_wraps_current :
    ∀ c ∈ c05CseClasses,
      c05Resolve c05Defines "map_common_subexpression" c.mro
        = some "pymbolic.mapper.CSECachingMapperMixin.map_common_subexpression" ∧
      (c05Resolve c05Defines "map_common_subexpression_uncached" c.mro).isSome = true ∧
      c05Resolve c05Defines "map_common_subexpression_uncached" c.mro
        ≠ some "pymbolic.mapper.CSECachingMapperMixin.map_common_subexpression_uncached" :=
  mro_current.2

/-- non-vacuity of the resolution: were `IdentityMapper` to come before the mix-in, its handler
would shadow the caching method -/
example :
    c05Resolve c05Defines "map_common_subexpression"
      ["pymbolic.mapper.IdentityMapper", "CSECachingMapperMixin"]
      = some "pymbolic.mapper.IdentityMapper.map_common_subexpression" ∧
    c05Resolve c05Defines "map_common_subexpression"
      ["CSECachingMapperMixin", "pymbolic.mapper.IdentityMapper"]
      = some "pymbolic.mapper.CSECachingMapperMixin.map_common_subexpression" := by
  decide +kernel

/-- **Finding** (`deprecated-mixin-key-ignores-type`): the deprecated `CachingMapperMixin` indexes
its `result_cache` with `expr` alone; that key does not separate `4` from `4.0`. -/
theorem deprecated_mixin_key_cex :
    c05DeprecatedMixinKey = some [.part .expr] ∧
    c05TupleEq [.part .expr] ⟨.const (.int 4), {}⟩ ⟨.const (.flt "4.0" 4 1), {}⟩ = true ∧
    Key.eq ⟨.const (.int 4), {}⟩ ⟨.const (.flt "4.0" 4 1), {}⟩ = false := by
  decide +kernel

/-! #### the optimizer, regenerated -/

/-- the option names of `optimize_mapper` in the current source are the five the model has, all
off by default -/
theorem optimizer_options_current :
    c05OptOptions = [("drop_args", false), ("drop_kwargs", false), ("inline_rec", false),
                     ("inline_cache", false), ("inline_get_cache_key", false)] :=
  rfl

/-- **The rewriting loop of the current `optimize_mapper` is `optimize`.**  The steps the source
applies to every method — the in-line edit of the parameter list, then `_VarArgsRemover`, then
`_CacheKeyInliner` (only when a key expression was found, which is computed only under
`inline_get_cache_key`), then `_RecInliner` — read from the source in that order with the options
each receives, compose to the model's `optimize`. -/
theorem optimizer_pipeline_current (o : Opts) (c : Code) :
    c05RunPasses o c05OptPasses c = some (optimize o c) ∧
    c05CacheKeyExprWhen = ("inline_get_cache_key and 'get_cache_key' in method_defs",
                           "_get_cache_key_expr(method_defs['get_cache_key'])") := by
  have h : c05OptPasses = c05ExpectedPasses := rfl
  exact ⟨by rw [h]; exact c05RunPasses_expected o c, rfl⟩

/-- the four option combinations of a two-flag transformer, each on every probe expression -/
def c05ProbeGrid : List (Bool × Bool × Disp) :=
  [(false, false), (false, true), (true, false), (true, true)].flatMap fun ab =>
    c05ProbeDisps.map fun d => (ab.1, ab.2, d)

/-- **`_VarArgsRemover` of the current source is `Disp.dropStar`**: the live transformer class, run
on every dispatch expression of the model's syntax (56 expressions × 4 settings), removes `*args` /
`**kwargs` from every call exactly as the model's function does. -/
theorem varargs_remover_current :
    c05VarArgsRemoverRows.map (fun r => (r.a, r.b, r.input)) = c05ProbeGrid ∧
    ∀ r ∈ c05VarArgsRemoverRows, r.input.dropStar r.a r.b = r.output := by
  decide +kernel

/-- **`_RecInliner` of the current source is `Disp.inlineRecCache`**: on every probe expression
and every setting of (`inline_rec`, `inline_cache`) the live transformer replaces each
`self.rec(…)` by the in-line method look-up and/or wraps it in a look-up of the hard-wired key
`(type(expr), expr)` exactly as the model's function does, and touches nothing else. -/
theorem rec_inliner_current :
    c05RecInlinerRows.map (fun r => (r.a, r.b, r.input)) = c05ProbeGrid ∧
    ∀ r ∈ c05RecInlinerRows, r.input.inlineRecCache r.a r.b = r.output := by
  decide +kernel

/-- **`_CacheKeyInliner` of the current source is `Disp.inlineKey`**, for the four key tuples of
the user classes. -/
theorem cache_key_inliner_current :
    c05CacheKeyInlinerRows.map (fun r => (r.body, r.input)) =
      ([(false, false), (false, true), (true, false), (true, true)].flatMap fun ab =>
        c05ProbeDisps.map fun d => ((Code.user ab.1 ab.2).getKeyBody, d)) ∧
    ∀ r ∈ c05CacheKeyInlinerRows, r.input.inlineKey r.body = r.output := by
  decide +kernel

/-- all option sets × the four user classes, in the order the extractor enumerates them -/
def c05OptGrid : List (Opts × Bool × Bool) :=
  let bs := [false, true]
  bs.flatMap fun ka => bs.flatMap fun kk =>
    bs.flatMap fun a => bs.flatMap fun b => bs.flatMap fun c => bs.flatMap fun d => bs.map fun e =>
      (⟨a, b, c, d, e⟩, ka, kk)

/-- **What `optimize_mapper` really wrote, all 32 option sets × 4 classes.**  The source of the
class the live optimizer produced (`_MODULE_SOURCE_CODE`), read back — signature and tuple of
`get_cache_key`, signature and look-up/dispatch of `__call__` (= `rec`), handler signature and the
expression every `self.rec(child, …)` site became — is, for each of the 128 applications, exactly
the model's `optimize o (Code.user keyArgs keyKwargs)`. -/
theorem optimizer_rewrites_current :
    c05OptRows.map (fun r => (r.opts, r.keyArgs, r.keyKwargs)) = c05OptGrid ∧
    ∀ r ∈ c05OptRows, optimize r.opts (Code.user r.keyArgs r.keyKwargs) = r.code := by
  decide +kernel

/-- **Optimizer transparency, stated on the regenerated code.**  For every class the live
optimizer produced (every row of `c05OptRows`) and all calls the option set allows: every dispatch
computes its keys without raising, two dispatches share a cache entry only if their original keys
are equal, and — unless `inline_rec` is used without `inline_cache` — whenever they are. -/
theorem optimizer_preserves_current_partial :
    ∀ r ∈ c05OptRows, ∀ (t1 t2 : Bool) (k1 k2 : Key),
      Allowed r.opts r.keyArgs r.keyKwargs k1 = true →
      Allowed r.opts r.keyArgs r.keyKwargs k2 = true →
      ∃ ks1 ks2, siteKeys r.code t1 k1 = .ok ks1 ∧ siteKeys r.code t2 k2 = .ok ks2 ∧
        (shares ks1 ks2 = true → Key.eq k1 k2 = true) ∧
        ((r.opts.inlineRec = true → r.opts.inlineCache = true) →
          shares ks1 ks2 = Key.eq k1 k2) := by
  intro r hr t1 t2 k1 k2 h1 h2
  rw [← optimizer_rewrites_current.2 r hr]
  exact optimizer_preserves_partial r.opts r.keyArgs r.keyKwargs t1 t2 k1 k2 h1 h2

/-- non-vacuity: the row of `inline_rec + inline_cache` on the stock-key class has the hard-wired
two-component key at its `self.rec` sites (findings `optimizer-inline-cache-ignores-args`,
`optimizer-inline-cache-key-mismatch`) -/
example : ∃ r ∈ c05OptRows, r.opts = { inlineRec := true, inlineCache := true } ∧
    r.keyArgs = true ∧ r.keyKwargs = true ∧
    r.code.recSite = .cached (.tuple [.ty, .expr]) (.method true true) ∧
    r.code.callBody = .cached (.getKeyCall true true) (.method true true) := by
  -- `c05OptGrid` enumerates the class first: `keyArgs = keyKwargs = true` is the fourth block of 32
  -- rows (from 96); within a block the option set ⟨false, false, true, true, false⟩ is number 6
  refine ⟨_, List.mem_of_getElem? (i := 96 + 6) rfl, ?_⟩
  decide +kernel

end PV.C05
