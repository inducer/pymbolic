import PV.Proofs.CCodeTable
import PV.Properties.C14
import PV.Generated.CCode
import PV.Generated.Prec
/-
  C14 — T-gen tie of the C code mapper model to the source.

  `PV.Generated.c14CCodeTable` is rewritten on every run by `extract/ccode.py` from the source text
  of `pymbolic/mapper/c_code.py` and `pymbolic/mapper/stringifier.py` in the working tree: for every
  node class the handler the dispatch reaches on `CCodeMapper` (MRO resolved), and for every handler
  its body in the language of PV/Model/CCodeTable.lean — which attribute is printed under which
  precedence in which order, the format strings, the own precedence handed to
  `parenthesize_if_needed`, the classes forced into parentheses, the case distinction of
  `map_power`, the sorted sum with its negated products, `map_constant`, the allocator protocol of
  `map_common_subexpression` with both name generators, `__init__` / `copy` /
  `copy_with_mapped_cses`, and the helper methods (`format`, `join_rec`, `parenthesize_if_needed`, …).

  `c14CcodeET T S` RUNS a table; it knows no handler.  The theorems below prove that the
  hand-written model (`plan`, `assemble`, `ccodeCse`, `ccodeE`, `ccode`, `CSt.ofList`, `CSt.copy`,
  `runOps` of PV/Model/CCode.lean — the one the driver executes and the theorems of
  PV/Properties/C14.lean are about) IS that interpreter applied to the regenerated table: the same
  recursive calls in the same order under the same precedences, the same TEXT, the same hoisted
  names, the same allocator state, for all expressions, states, precedences, budgets and histories.
  An edit of the source that changes a table entry (the hoisted name keyed by the wrapper, a lost
  minus sign in the sorted sum, the argument order of `pow`, `map_floor_div` without its
  parentheses, `copy()` not passing the name list, …) makes the corresponding case fail to check.
-/
namespace PV.C14
open PV

/-- the table regenerated from the working tree -/
abbrev tableCurrent : C14Table := Generated.c14CCodeTable

/-! ### the dispatch of the regenerated table -/

/-- position in `tableCurrent.handlers` of the handler each node is dispatched to (`none`: a handler
the table does not describe, or no handler) -/
def handlerPosOf : Expr → Option Nat
  | .var _ => some 23
  | .nary o _ => some (match o with
    | .sum => 22 | .prod => 17 | .bor => 2 | .bxor => 3 | .band => 0 | .lor => 12 | .land => 10
    | .min => 15 | .max => 14)
  | .bin o _ _ => some (match o with
    | .quot => 18 | .floordiv => 7 | .rem => 19 | .pow => 16 | .lshift => 9 | .rshift => 20)
  | .un o _ => some (match o with | .bnot => 1 | .lnot => 11)
  | .cmp .. => some 6
  | .ite .. => some 8
  | .call .. => some 4
  | .subscript .. => some 21
  | .lookup .. => some 13
  | .cse .. => some 5
  | .const (.int _) | .const (.bool _) | .const (.flt ..) => some 24
  | _ => none

/-- class ↦ handler (`Mapper.__call__` along the MRO, `map_foreign`) ↦ its row, for all classes in
one evaluation -/
theorem bodyPos_eq : ∀ e : Expr, bodyPos tableCurrent e = handlerPosOf e :=
  Expr.eq_of_classReps (bodyPos_classRep _)
    (fun e => by
      cases e with
      | const k => cases k <;> rfl
      | _ => rfl)
    (by decide +kernel)

/-- the body of the `i`-th handler of the regenerated table -/
def bodyAt (i : Nat) : Option C14Body := tableCurrent.handlers[i]?.map (·.body)

theorem bodyOf_current (e : Expr) : tableCurrent.bodyOf e = (handlerPosOf e).bind bodyAt := by
  rw [bodyOf_eq_pos, bodyPos_eq]
  rfl

/-- A handler that is a program: the table interpreter runs that program.  With `rfl` for `hi` and
`hp` the program `p` is read off `tableCurrent.handlers` by position. -/
theorem plan_of_prog {S : PrintPrec} {e : Expr} {enc i : Nat} {p : C14Prog} {x : Except CErr C14Plan}
    (hi : handlerPosOf e = some i) (hp : bodyAt i = some (.prog p)) (h : x = p.plan S e enc) :
    x = c14PlanT tableCurrent S e enc := by
  rw [c14PlanT, bodyOf_current, hi, Option.bind_some, hp]
  exact h

/-- the rows the model names: where they stand in `tableCurrent.handlers` -/
theorem rowPos_current :
    tableCurrent.handlers.findIdx? (fun h => h.name == "map_sum") = some 22 ∧
    tableCurrent.handlers.findIdx? (fun h => h.name == "map_constant") = some 24 ∧
    tableCurrent.handlers.findIdx? (fun h => h.name == "map_common_subexpression") = some 5 := by
  decide +kernel

/-- the row of `map_sum` in a table -/
def sumRowOf (T : C14Table) : C14SumRow :=
  match T.handlers.find? (fun h => h.name == "map_sum") with
  | some ⟨_, _, .sum r⟩ => r
  | _ => default

/-- `sumRowOf tableCurrent` read off by position: no name is compared when this is evaluated -/
theorem sumRowOf_current : sumRowOf tableCurrent =
    (match tableCurrent.handlers[22]? with | some (C14Handler.mk _ _ (.sum r)) => r | _ => default) := by
  rw [sumRowOf, List.find?_eq_bind_findIdx?_getElem?, rowPos_current.1]
  rfl

theorem sumRow_current : bodyAt 22 = some (.sum (sumRowOf tableCurrent)) := by
  rw [sumRowOf_current]
  rfl

/-- step through a handler body, reading attributes and named precedences: what is left compares
no strings -/
macro "table_simp" : tactic => `(tactic|
  simp only [C14Prog.plan, C14SE.plan, C14SE.planL, C14Prog.asm, C14SE.asm, C14SE.asmL,
    C14Cond.eval, C14Arg.eval, c14Field, c14Elems, C14Prec.eval, precNamed_eq, c14Format,
    List.lookup, beq_self_eq_true, String.reduceEq, ↓reduceIte, Bool.not_true, Bool.not_false,
    Bool.false_eq_true, pure, Except.pure, Except.map, List.map_cons, List.map_nil, Doc.render,
    String.append_assoc, String.empty_append, String.append_empty])

/-! ### which sub-expressions are printed, in which order, under which precedences -/

/-- the four cases of `CCodeMapper.map_power` (`x**0`, `x**1`, `x**2` through `base*base`, `pow(…)`):
the recursive calls of the model are those of the regenerated decision chain -/
theorem plan_pow_current (S : PrintPrec) (a b : Expr) (enc : Nat) :
    plan S (.bin .pow a b) enc = c14PlanT tableCurrent S (.bin .pow a b) enc := by
  refine plan_of_prog rfl rfl ?_
  table_simp
  cases b with
  | const c =>
    simp only [plan, powPlan_eq, c14ConstMinusIsZero]
    cases (Expr.const c).isConstant <;> cases c.truthy <;> cases c.isOne <;> cases c.isTwo <;>
      first | rfl | (cases c14MulE a a <;> rfl)
  | _ => rfl

/-- the regenerated `get_neg_product` has the entries the model's `negProd` assumes -/
theorem sumNeg_current : SumNegSpec (sumRowOf tableCurrent) := by
  rw [sumRowOf_current]
  constructor <;> rfl

/-- **The recursive calls of every handler are the regenerated table's.**  For every node that is
not a foreign constant, every precedence table and every enclosing precedence: the list of
(sub-expression, enclosing precedence) pairs the hand-written `plan` prints, in order, is what the
table interpreter reads off the handler body in the current source — which attribute, `rec` or
`join_rec`, `PREC_PRODUCT` or `PREC_POWER`, `+ 1` or not, the index of a subscript before its
aggregate, the negated products of a sum under `PREC_PRODUCT`, the four cases of `map_power`. -/
theorem plan_eq_table_current (S : PrintPrec) (enc : Nat) :
    ∀ e : Expr, (∀ c, e ≠ .const c) → plan S e enc = c14PlanT tableCurrent S e enc := by
  intro e h
  cases e with
  | const c => exact absurd rfl (h c)
  | nary o cs =>
    cases o with
    | sum =>
      rw [c14PlanT, bodyOf_current]
      simp only [handlerPosOf, Option.bind_some, sumRow_current]
      exact sumPlan_eq_row S _ sumNeg_current rfl rfl enc cs
    | _ => refine plan_of_prog rfl rfl ?_; table_simp; rfl
  | bin o a b =>
    cases o with
    | pow => exact plan_pow_current S a b enc
    | _ => refine plan_of_prog rfl rfl ?_; table_simp; rfl
  | un o a => cases o <;> (refine plan_of_prog rfl rfl ?_; table_simp; rfl)
  | call f as =>
    refine plan_of_prog rfl rfl ?_
    table_simp
    rw [isInst_variable]
    cases f <;> rfl
  | subscript a i =>
    refine plan_of_prog rfl rfl ?_
    table_simp
    simp only [c14IsInst, ↓reduceIte]
    cases i <;> rfl
  | var _ | cmp _ _ _ | ite _ _ _ | lookup _ _ => refine plan_of_prog rfl rfl ?_; table_simp; rfl
  | _ => rw [c14PlanT, bodyOf_current]; rfl

/-! ### the text every handler puts together -/

/-- **The helper methods resolved on `CCodeMapper` are the modelled ones**: `format` is `%`,
`join_rec` joins `rec_with_force_parens_around` of the elements, forced classes are tested with
`isinstance` and wrapped in `(`…`)`, `parenthesize_if_needed` wraps when `enclosing_prec >
my_prec`. -/
theorem helpers_current : HelpersSpec tableCurrent.helpers := by constructor <;> rfl

/-- A handler that is a program: the table interpreter runs that program, with helper methods
that are the modelled ones. -/
theorem asm_of_prog {S : PrintPrec} {rev : Bool} {e : Expr} {enc i : Nat} {p : C14Prog}
    {ds : List String} {x : Except CErr String} (hi : handlerPosOf e = some i)
    (hp : bodyAt i = some (.prog p))
    (h : ∀ H, HelpersSpec H → x = p.asm S H e enc [] ds) :
    x = c14AsmT tableCurrent S rev e enc ds := by
  rw [c14AsmT, bodyOf_current, hi, Option.bind_some, hp]
  exact h _ helpers_current

/-- step through the handler body, then compare with the text of what the model builds -/
macro "asm_case" h:ident : tactic => `(tactic|
  (table_simp
   simp only [assemble, parenIfD_render, parenIfS_spec $h, forceWrapD_render $h, atomIf, joinText,
     COp.text, CUn.text, pure, Except.pure, Except.map, Doc.render, String.append_assoc]))

/-- the text of the handlers with a fixed number of operands (variables, quotient, remainder,
floor division, shifts, `~`, `!`, comparisons, `?:`, attribute look-up) -/
theorem asm_fixed_current (S : PrintPrec) (rev : Bool) (enc : Nat) :
    ∀ (e : Expr) (ds : List Doc) (pl : List (Expr × Nat)),
      (∀ o cs, e ≠ .nary o cs) → (∀ a b, e ≠ .bin .pow a b) → (∀ f as, e ≠ .call f as) →
      (∀ a i, e ≠ .subscript a i) → (∀ c, e ≠ .const c) →
      plan S e enc = .ok pl → ds.length = pl.length →
      (assemble S rev e enc ds).map Doc.render
        = c14AsmT tableCurrent S rev e enc (ds.map Doc.render) := by
  intro e ds pl hnary hpow hcall hsub hconst hp hl
  cases e with
  | const c => exact absurd rfl (hconst c)
  | nary o cs => exact absurd rfl (hnary o cs)
  | call f as => exact absurd rfl (hcall f as)
  | subscript a i => exact absurd rfl (hsub a i)
  | var x =>
    cases hp
    obtain rfl := len0 hl
    refine asm_of_prog rfl rfl fun H hH => ?_
    asm_case hH
  | bin o a b =>
    cases o
    case pow => exact absurd rfl (hpow a b)
    all_goals
      cases hp
      obtain ⟨x, y, rfl⟩ := len2 hl
      refine asm_of_prog rfl rfl fun H hH => ?_
      asm_case hH
  | un o a =>
    cases o <;> cases hp <;> obtain ⟨x, rfl⟩ := len1 hl <;>
      refine asm_of_prog rfl rfl fun H hH => ?_ <;> asm_case hH
  | cmp o a b =>
    cases hp
    obtain ⟨x, y, rfl⟩ := len2 hl
    refine asm_of_prog rfl rfl fun H hH => ?_
    asm_case hH
  | ite c t e =>
    cases hp
    obtain ⟨x, y, z, rfl⟩ := len3 hl
    refine asm_of_prog rfl rfl fun H hH => ?_
    asm_case hH
  | lookup a n =>
    cases hp
    obtain ⟨x, rfl⟩ := len1 hl
    refine asm_of_prog rfl rfl fun H hH => ?_
    asm_case hH
  | _ => cases hp

/-- the n-ary handlers that join their operands (everything but the sorted sum) -/
theorem asm_join_current (S : PrintPrec) (rev : Bool) (enc : Nat) (o : NaryOp) (cs : List Expr)
    (ds : List Doc) (ho : o ≠ .sum) (hl : ds.length = cs.length) :
    (assemble S rev (.nary o cs) enc ds).map Doc.render
      = c14AsmT tableCurrent S rev (.nary o cs) enc (ds.map Doc.render) := by
  cases o
  case sum => exact absurd rfl ho
  case min | max =>
    refine asm_of_prog rfl rfl fun H hH => ?_
    first | rw [assemble_minmax _ _ _ (.inl rfl)] | rw [assemble_minmax _ _ _ (.inr rfl)]
    table_simp
    simp only [c14ClassOf, List.length_map, ← hl, Nat.lt_irrefl, ↓reduceIte, take_len_map,
      drop_len_map, forceAll_nil, c14Format, joinText, String.append_assoc, String.empty_append]
  all_goals
    refine asm_of_prog rfl rfl fun H hH => ?_
    asm_case hH
    simp only [List.length_map, ← hl, Nat.lt_irrefl, ↓reduceIte, take_len_map, drop_len_map,
      forceAll_nil, render_joinDocs, COp.text]

/-- the text of `CCodeMapper.map_call`: the bare name of a `Variable` callee, else the printed callee -/
theorem asm_call_current (S : PrintPrec) (rev : Bool) (enc : Nat) (g : Expr) (as : List Expr)
    (ds : List Doc) (pl : List (Expr × Nat)) (hp : plan S (.call g as) enc = .ok pl)
    (hl : ds.length = pl.length) :
    (assemble S rev (.call g as) enc ds).map Doc.render
      = c14AsmT tableCurrent S rev (.call g as) enc (ds.map Doc.render) := by
  refine asm_of_prog rfl rfl fun H hH => ?_
  by_cases hv : ∃ f, g = .var f
  · obtain ⟨f, rfl⟩ := hv
    cases hp
    simp only [List.length_map] at hl
    asm_case hH
    simp only [show c14IsInst (.var f) "Variable" = true from isInst_variable _, List.length_map,
      ← hl, Nat.lt_irrefl, ↓reduceIte, take_len_map, drop_len_map, forceAll_nil, c14Format,
      String.append_assoc, String.empty_append]
  · have hg : c14IsInst g "Variable" = false := by
      rw [isInst_variable]
      cases g <;> first | rfl | exact absurd ⟨_, rfl⟩ hv
    have hpl : pl = (g, S.call) :: as.map (·, S.none) := by
      cases g <;> first | (cases hp; rfl) | exact absurd ⟨_, rfl⟩ hv
    subst hpl
    obtain _ | ⟨d0, rest⟩ := ds
    · cases hl
    have hl' : rest.length = as.length := by simpa using hl
    have ha : assemble S rev (.call g as) enc (d0 :: rest)
        = pure (.atom (d0.render ++ "(" ++ joinText ", " rest ++ ")")) := by
      cases g <;> first | rfl | exact absurd ⟨_, rfl⟩ hv
    rw [ha]
    table_simp
    simp only [hg, List.length_map, ← hl', Nat.lt_irrefl, ↓reduceIte, take_len_map, drop_len_map,
      forceAll_nil, c14Format, joinText, String.append_assoc, String.empty_append]

/-- the text of `map_subscript` (index printed first, tuple indices joined by `, `) -/
theorem asm_subscript_current (S : PrintPrec) (rev : Bool) (enc : Nat) (a i : Expr)
    (ds : List Doc) (pl : List (Expr × Nat)) (hp : plan S (.subscript a i) enc = .ok pl)
    (hl : ds.length = pl.length) :
    (assemble S rev (.subscript a i) enc ds).map Doc.render
      = c14AsmT tableCurrent S rev (.subscript a i) enc (ds.map Doc.render) := by
  refine asm_of_prog rfl rfl fun H hH => ?_
  by_cases ht : ∃ cs, i = .tuple cs
  · obtain ⟨cs, rfl⟩ := ht
    cases hp
    simp only [List.length_append, List.length_map, List.length_cons, List.length_nil] at hl
    rcases List.eq_nil_or_concat ds with rfl | ⟨idx, x, rfl⟩
    · cases hl
    have hl' : idx.length = cs.length := by simpa using hl
    asm_case hH
    simp only [c14IsInst, ↓reduceIte, List.concat_eq_append, List.reverse_append,
      List.reverse_cons, List.reverse_nil, List.nil_append, List.cons_append, List.reverse_reverse,
      List.map_append, List.map_cons, List.map_nil, List.length_append, List.length_map,
      List.length_cons, List.length_nil, ← hl', Nat.not_succ_lt_self, List.take_left',
      List.drop_left', forceAll_nil]
    asm_case hH
  · have hi : c14IsInst i "tuple" = false := by
      cases i <;> first | rfl | exact absurd ⟨_, rfl⟩ ht
    have hpl : pl = [(i, S.none), (a, S.call)] := by
      cases i <;> first | (cases hp; rfl) | exact absurd ⟨_, rfl⟩ ht
    subst hpl
    obtain ⟨x, y, rfl⟩ := len2 hl
    have ha : assemble S rev (.subscript a i) enc [x, y]
        = pure (atomIf (y.render ++ "[" ++ x.render ++ "]") enc S.call) := by
      cases i <;> first | rfl | exact absurd ⟨_, rfl⟩ ht
    rw [ha]
    asm_case hH
    simp only [hi]

/-- the program of a handler in a table -/
def progOf (T : C14Table) (h : String) : C14Prog :=
  match T.handlers.find? (fun x => x.name == h) with
  | some ⟨_, _, .prog p⟩ => p
  | _ => .ret (.lit "")

macro "pow_simp" _h:ident k:ident : tactic => `(tactic|
  simp [progOf, tableCurrent, Generated.c14CCodeTable, C14Prog.asm, C14SE.asm, C14SE.asmL,
    C14Cond.eval, c14Field, c14Format, C14Prec.eval, c14PrecNamed, C14Arg.eval,
    Doc.render, Except.map, pure, Except.pure, String.append_assoc, $k:ident,
    c14ConstMinusIsZero])

/-- the text of `CCodeMapper.map_power`: `1`, the base, the printed `base*base`, or `pow(b, e)` -/
theorem asm_pow_current (S : PrintPrec) (rev : Bool) (enc : Nat) (a b : Expr)
    (ds : List Doc) (pl : List (Expr × Nat)) (hp : plan S (.bin .pow a b) enc = .ok pl)
    (hl : ds.length = pl.length) :
    (assemble S rev (.bin .pow a b) enc ds).map Doc.render
      = c14AsmT tableCurrent S rev (.bin .pow a b) enc (ds.map Doc.render) := by
  refine asm_of_prog rfl rfl fun H hH => ?_
  simp only [plan, assemble, bind, Except.bind] at hp ⊢
  by_cases hb : ∃ c, b = .const c
  · obtain ⟨c, rfl⟩ := hb
    table_simp
    simp only [powPlan_eq, c14ConstMinusIsZero, pure, Except.pure] at hp ⊢
    revert hp
    -- the decision chain of `map_power`, one test after the other
    cases (Expr.const c).isConstant with
    | false =>
      intro hp
      cases hp
      obtain ⟨x, y, rfl⟩ := len2 hl
      table_simp
    | true =>
      cases c.truthy with
      | false =>
        intro hp
        cases hp
        obtain rfl := len0 hl
        table_simp
        rfl
      | true =>
        cases c.isOne with
        | true =>
          intro hp
          cases hp
          obtain ⟨d, rfl⟩ := len1 hl
          table_simp
        | false =>
          cases c.isTwo with
          | false =>
            intro hp
            cases hp
            obtain ⟨x, y, rfl⟩ := len2 hl
            table_simp
          | true =>
            cases c14MulE a a with
            | error err => intro hp; cases hp
            | ok v =>
              intro hp
              cases hp
              obtain ⟨d, rfl⟩ := len1 hl
              table_simp
  · have hk : b.isConstant = false := by
      cases b <;> first | rfl | exact absurd ⟨_, rfl⟩ hb
    have hpp : powPlan a b = pure .powCall := by
      cases b <;> first | rfl | exact absurd ⟨_, rfl⟩ hb
    rw [hpp] at hp ⊢
    cases hp
    obtain ⟨x, y, rfl⟩ := len2 hl
    table_simp
    simp only [hk]

/-- the regenerated rest of `map_sum` (sorts, ` + `, ` - %s`, own precedence) is the modelled one -/
theorem sumAsm_current : SumAsmSpec (sumRowOf tableCurrent) := by
  rw [sumRowOf_current]
  constructor <;> rfl

/-- the row of `map_constant` in a table -/
def constRowOf (T : C14Table) : C14ConstRow :=
  match T.handlers.find? (fun h => h.name == "map_constant") with
  | some ⟨_, _, .constant r⟩ => r
  | _ => default

theorem constRowOf_current : constRowOf tableCurrent =
    (match tableCurrent.handlers[24]? with | some (C14Handler.mk _ _ (.constant r)) => r | _ => default) := by
  rw [constRowOf, List.find?_eq_bind_findIdx?_getElem?, rowPos_current.2.1]
  rfl

theorem constRow_current : bodyAt 24 = some (.constant (constRowOf tableCurrent)) := by
  rw [constRowOf_current]
  rfl

/-- the regenerated `map_constant` has the entries the model's `constDoc` assumes -/
theorem constSpec_current : ConstSpec (constRowOf tableCurrent) := by
  rw [constRowOf_current]
  constructor <;> rfl

/-- **The text of every handler is the regenerated table's.**  Given the printed operands `ds` (as
many as the handler's recursive calls), the text of the structure the hand-written `assemble`
builds is the string the table interpreter builds from the handler body in the current source with
Python's own string operations: the separators (` * `, ` && `, `/`, …), the format strings
(`pow(%s, %s)`, `(%s/%s)`, `(%s ? %s : %s)`, `%s[%s]`), the own precedence that decides the
parentheses, the classes forced into parentheses, the sorted positives joined by ` + ` followed by
the sorted negated products each behind ` - `, the sign test of constants. -/
theorem asm_eq_table_current (S : PrintPrec) (rev : Bool) (enc : Nat) (e : Expr) (ds : List Doc)
    (pl : List (Expr × Nat)) (hp : plan S e enc = .ok pl) (hl : ds.length = pl.length) :
    (assemble S rev e enc ds).map Doc.render
      = c14AsmT tableCurrent S rev e enc (ds.map Doc.render) := by
  cases e with
  | const c =>
    rw [c14AsmT, bodyOf_current, show assemble S rev (.const c) enc ds = constDoc S c enc by
      simp only [assemble]]
    cases c with
    | str s => rfl
    | none => rfl
    | _ =>
      simp only [handlerPosOf, Option.bind_some, constRow_current]
      exact constAsm_eq_row _ constSpec_current helpers_current S _ enc
  | nary o cs =>
    by_cases ho : o = .sum
    · subst ho
      rw [c14AsmT, bodyOf_current]
      simp only [handlerPosOf, Option.bind_some, sumRow_current]
      exact sumAsm_eq_row _ sumNeg_current sumAsm_current helpers_current S rev enc cs ds
    · have : pl.length = cs.length := by
        cases o <;> first | exact absurd rfl ho | (cases hp; simp)
      exact asm_join_current S rev enc o cs ds ho (hl.trans this)
  | bin o a b =>
    by_cases ho : o = .pow
    · subst ho
      exact asm_pow_current S rev enc a b ds pl hp hl
    · exact asm_fixed_current S rev enc _ ds pl (fun _ _ h => by cases h)
        (fun _ _ h => by cases h; exact ho rfl) (fun _ _ h => by cases h) (fun _ _ h => by cases h)
        (fun _ h => by cases h) hp hl
  | call g as => exact asm_call_current S rev enc g as ds pl hp hl
  | subscript a i => exact asm_subscript_current S rev enc a i ds pl hp hl
  | _ =>
    exact asm_fixed_current S rev enc _ ds pl (fun _ _ h => by cases h)
      (fun _ _ h => by cases h) (fun _ _ h => by cases h) (fun _ _ h => by cases h)
      (fun _ h => by cases h) hp hl

/-- **Every handler except `map_common_subexpression`, run from the table.**  For any recursive
printer `f`, allocator state, node and precedence: the model's `ccodeGeneric` (plan, print the
planned operands left to right threading the allocator, assemble) returns the text, the hoisted
names and the state that the table interpreter returns on the regenerated table. -/
theorem generic_eq_table_current (S : PrintPrec) (f : CSt → Expr → Nat → Except CErr COut)
    (st : CSt) (e : Expr) (enc : Nat) :
    (ccodeGeneric S f st e enc).map outText
      = c14GenericT tableCurrent S (textPrinter f) st e enc := by
  have key : ∀ pl, plan S e enc = .ok pl → c14PlanT tableCurrent S e enc = .ok pl →
      (ccodeGeneric S f st e enc).map outText
        = c14GenericT tableCurrent S (textPrinter f) st e enc := by
    intro pl hp hpt
    simp only [ccodeGeneric, c14GenericT, hp, hpt, bind, Except.bind, ← printAll_text]
    cases hq : printAll f st pl with
    | error err => rfl
    | ok v =>
      obtain ⟨ds, refs, st'⟩ := v
      simp only [Except.map, outsText]
      have := asm_eq_table_current S st.reverse enc e ds pl hp (printAll_length f pl st ds refs st' hq)
      rw [← this]
      cases assemble S st.reverse e enc ds <;> rfl
  by_cases hc : ∃ c, e = .const c
  · obtain ⟨c, rfl⟩ := hc
    cases c with
    | str s => rw [c14GenericT, c14PlanT, bodyOf_current]; rfl
    | none => rw [c14GenericT, c14PlanT, bodyOf_current]; rfl
    | _ => exact key [] rfl (by rw [c14PlanT, bodyOf_current]; rfl)
  · have hne : ∀ c, e ≠ .const c := fun c h => hc ⟨c, h⟩
    have hpe := plan_eq_table_current S enc e hne
    cases hp : plan S e enc with
    | error err =>
      simp only [ccodeGeneric, c14GenericT, ← hpe, hp, bind, Except.bind]
      rfl
    | ok pl => exact key pl hp (hpe ▸ hp)

/-- the row of `map_common_subexpression` in a table -/
def cseRowOf (T : C14Table) : C14CseRow :=
  match T.handlers.find? (fun h => h.name == "map_common_subexpression") with
  | some ⟨_, _, .cse r⟩ => r
  | _ => default

theorem cseRowOf_current : cseRowOf tableCurrent =
    (match tableCurrent.handlers[5]? with | some (C14Handler.mk _ _ (.cse r)) => r | _ => default) := by
  rw [cseRowOf, List.find?_eq_bind_findIdx?_getElem?, rowPos_current.2.2]
  rfl

/-- the regenerated `map_common_subexpression` (key, recursive call, name generators, stores) is
the one the model's `ccodeCse` / `candName` assume -/
theorem cseSpec_current : CseSpec (cseRowOf tableCurrent) := by
  rw [cseRowOf_current]
  constructor <;> rfl

/-! ### the whole recursion -/

/-- the dispatch of the current table sends wrappers to the allocator protocol … -/
theorem cseT_dispatch (S : PrintPrec) (fuel : Nat) (st : CSt) (c : Expr) (p : Option String)
    (sc : String) (enc : Nat) :
    c14CcodeET tableCurrent S (fuel + 1) st (.cse c p sc) enc
      = c14CseT (cseRowOf tableCurrent) S (c14CcodeET tableCurrent S fuel) st c p sc enc := by
  conv => lhs; unfold c14CcodeET
  rw [bodyOf_current, cseRowOf_current]
  rfl

/-- … and every other node to the generic handler run -/
theorem genericT_dispatch (S : PrintPrec) (fuel : Nat) (st : CSt) (e : Expr) (enc : Nat)
    (h : ∀ c p sc, e ≠ .cse c p sc) :
    c14CcodeET tableCurrent S (fuel + 1) st e enc
      = c14GenericT tableCurrent S (c14CcodeET tableCurrent S fuel) st e enc := by
  conv => lhs; unfold c14CcodeET
  rw [bodyOf_current]
  cases e with
  | cse c p sc => exact absurd rfl (h c p sc)
  | const c => cases c <;> rfl
  | nary o _ => cases o <;> rfl
  | bin o _ _ => cases o <;> rfl
  | un o _ => cases o <;> rfl
  | _ => rfl

/-- the model dispatches the same way -/
theorem ccodeE_generic (S : PrintPrec) (fuel : Nat) (st : CSt) (e : Expr) (enc : Nat)
    (h : ∀ c p sc, e ≠ .cse c p sc) :
    ccodeE S (fuel + 1) st e enc = ccodeGeneric S (ccodeE S fuel) st e enc := by
  cases e with
  | cse c p sc => exact absurd rfl (h c p sc)
  | _ => rfl

/-- **`CCodeMapper.rec` is the regenerated table, run.**  For every recursion budget, allocator
state, expression and enclosing precedence the hand-written `ccodeE` returns the TEXT, the hoisted
names the text refers to, and the allocator state (`cse_to_name`, `cse_names`, `cse_name_list`)
that the table interpreter `c14CcodeET` returns on the table read from the current source —
dispatch (class ↦ handler along the MRO), every handler body, the allocator protocol of
`map_common_subexpression` with its name generators, the helper methods. -/
theorem ccodeE_eq_table_current (S : PrintPrec) :
    ∀ (fuel : Nat) (st : CSt) (e : Expr) (enc : Nat),
      (ccodeE S fuel st e enc).map outText = c14CcodeET tableCurrent S fuel st e enc := by
  intro fuel
  induction fuel with
  | zero => intro st e enc; rfl
  | succ fuel ih =>
    intro st e enc
    have hf : textPrinter (ccodeE S fuel) = c14CcodeET tableCurrent S fuel := by
      funext st e enc
      exact ih st e enc
    by_cases hc : ∃ c p sc, e = .cse c p sc
    · obtain ⟨c, p, sc, rfl⟩ := hc
      rw [cseT_dispatch, ← hf]
      exact cse_eq_row _ cseSpec_current S (ccodeE S fuel) st c p sc enc
    · have hne : ∀ c p sc, e ≠ .cse c p sc := fun c p sc h => hc ⟨c, p, sc, h⟩
      rw [genericT_dispatch S fuel st e enc hne, ccodeE_generic S fuel st e enc hne, ← hf]
      exact generic_eq_table_current S (ccodeE S fuel) st e enc

/-- `mapper(expr)` (`__call__` with its default `prec`): model = table, run -/
theorem ccode_eq_table_current (S : PrintPrec) (st : CSt) (e : Expr) :
    (ccode S st e).map outText = c14CcodeT tableCurrent S st e :=
  ccodeE_eq_table_current S (2 * e.size + 4) st e S.none

/-! ### `__init__`, `copy`, `copy_with_mapped_cses` -/

/-- **`CCodeMapper.__init__` as read from the source builds the modelled state**: `cse_to_name`
keyed by the SECOND component of every pair with the first as value, `cse_names` the set of second
components, `cse_name_list` a copy of the list — the quirk behind `names_unique_copy_cex` and `assigned_once_copy_cex`. -/
theorem init_eq_table_current (reverse : Bool) (pfx : String) (l : List CEntry) :
    c14InitT tableCurrent.init { reverse := some reverse, pfx := some pfx, list := some l }
      = some (CSt.ofList reverse pfx l) := by
  simp [c14InitT, tableCurrent, Generated.c14CCodeTable, List.lookup, dictOf_second_first,
    c14SetOf, CSt.ofList, C14Sel.key]

/-- a mapper constructed with no arguments is the model's initial state -/
theorem init_default_current :
    c14InitT tableCurrent.init { reverse := none, pfx := none, list := none } = some {} := by
  simp [c14InitT, tableCurrent, Generated.c14CCodeTable, List.lookup, c14DictOf, c14SetOf]

/-- **`copy()` as read from the source is the modelled one**: a new `CCodeMapper` constructed from
`self.reverse`, `self.cse_prefix`, … and the name list, bound to the constructor's parameters by
position. -/
theorem copy_eq_table_current (st : CSt) :
    c14CopyT tableCurrent.init tableCurrent.copy tableCurrent.mapper st none = some st.copy := by
  have := init_eq_table_current st.reverse st.pfx st.nameList
  simp [c14CopyT, tableCurrent, Generated.c14CCodeTable, List.lookup, List.zip, CSt.copy] at this ⊢
  exact this

/-- **`copy_with_mapped_cses` as read from the source is the modelled one**: `copy` of the name
list extended by the given pairs. -/
theorem copyMapped_eq_table_current (st : CSt) (pairs : List (String × Expr)) :
    c14CopyMappedT tableCurrent.init tableCurrent.copy tableCurrent.copyMapped tableCurrent.mapper
      st pairs = some (st.copyWithMappedCses pairs) := by
  have := init_eq_table_current st.reverse st.pfx
    (st.nameList ++ pairs.map fun p => { name := p.1, val := .expr p.2 })
  simp [c14CopyMappedT, c14CopyT, tableCurrent, Generated.c14CCodeTable, List.lookup, List.zip,
    CSt.copyWithMappedCses] at this ⊢
  exact this

/-! ### histories -/

/-- any sequence of expressions through one mapper: model = table, run -/
theorem emits_eq_table_current (S : PrintPrec) :
    ∀ (es : List Expr) (st : CSt), emits S st es = c14EmitsT tableCurrent S st es := by
  intro es
  induction es with
  | nil => intro st; rfl
  | cons e es ih =>
    intro st
    simp only [emits, c14EmitsT, ← ccode_eq_table_current, ← ih, bind, Except.bind]
    cases ccode S st e with
    | error err => rfl
    | ok v =>
      obtain ⟨d, r, st1⟩ := v
      simp only [Except.map, outText]
      cases emits S st1 es with
      | error err => rfl
      | ok w => rfl

/-- **Any history of `emit` / `copy()` / `copy_with_mapped_cses(…)` on a pool of mappers: the model
is the regenerated table, run** — every returned text, the hoisted names it refers to, and the
complete allocator state of every mapper in the pool. -/
theorem runOps_eq_table_current (S : PrintPrec) :
    ∀ (ops : List COpn) (pool : List CSt),
      runOps S pool ops = c14RunOpsT tableCurrent S pool ops := by
  intro ops
  induction ops with
  | nil => intro pool; rfl
  | cons op ops ih =>
    intro pool
    cases op with
    | emit i e =>
      simp only [runOps, c14RunOpsT]
      cases pool[i]? with
      | none => rfl
      | some st =>
        simp only [← ccode_eq_table_current, ← ih, bind, Except.bind]
        cases ccode S st e with
        | error err => rfl
        | ok v =>
          obtain ⟨d, r, st1⟩ := v
          simp only [Except.map, outText]
          cases runOps S (pool.set i st1) ops with
          | error err => rfl
          | ok w => rfl
    | copy i =>
      simp only [runOps, c14RunOpsT]
      cases pool[i]? with
      | none => rfl
      | some st =>
        simp only [copy_eq_table_current, ← ih, bind, Except.bind]
        cases runOps S (pool ++ [st.copy]) ops with
        | error err => rfl
        | ok w => rfl
    | copyMapped i pairs =>
      simp only [runOps, c14RunOpsT]
      cases pool[i]? with
      | none => rfl
      | some st =>
        simp only [copyMapped_eq_table_current, ← ih, bind, Except.bind]
        cases runOps S (pool ++ [st.copyWithMappedCses pairs]) ops with
        | error err => rfl
        | ok w => rfl

/-! ### the C14 theorems, about the regenerated table -/

variable (S : PrintPrec)

/-- **Hoisted names are unique — for what the current source says.**  (`names_unique`
transported along `emits_eq_table_current`.) -/
theorem names_unique_current (reverse : Bool) (pfx : String) (es : List Expr)
    (outs : List (String × List String)) (st : CSt)
    (h : c14EmitsT tableCurrent S { reverse, pfx } es = .ok (outs, st)) : st.assigned.Nodup :=
  names_unique S reverse pfx es outs st (by rw [emits_eq_table_current]; exact h)

/-- **A wrapped subexpression is assigned once — for what the current source says.** -/
theorem assigned_once_current (reverse : Bool) (pfx : String) (es : List Expr)
    (outs : List (String × List String)) (st : CSt)
    (h : c14EmitsT tableCurrent S { reverse, pfx } es = .ok (outs, st)) :
    (st.nameList.map entryKey).Pairwise (fun a b => a.eq b = false) ∧
    (∀ e ∈ st.nameList, e.child.isSome = true) ∧
    st.toName = st.nameList.map (fun e => (entryKey e, e.name)) ∧
    st.names = st.nameList.map (fun e => CCKey.text e.name) :=
  assigned_once S reverse pfx es outs st (by rw [emits_eq_table_current]; exact h)

/-- **Assigned before use, copies included — for what the current source says.** -/
theorem assigned_before_use_current (reverse : Bool) (pfx : String) (ops : List COpn)
    (outs : List CStepOut) (pool : List CSt)
    (h : c14RunOpsT tableCurrent S [{ reverse, pfx }] ops = .ok (outs, pool)) :
    (∀ st ∈ pool, refsBefore [] st.nameList) ∧ OutsOK pool ops outs :=
  assigned_before_use S reverse pfx ops outs pool (by rw [runOps_eq_table_current]; exact h)

/-- **The C value of the text the current source prescribes** (`ccode_value_c_partial` transported):
the text `s` the table interpreter returns for an expression of the proved fragment is the text of
a printed structure whose C reading is the evaluator's value. -/
theorem ccode_value_c_current_partial (hS : PrecA S ∧ PrecB S) (env : Env) (e : Expr) (st : CSt)
    (s : String) (refs : List String) (st' : CSt) (w : CVal) (hfrag : cFrag e = true)
    (hrun : c14CcodeT tableCurrent S st e = .ok (s, refs, st')) (hv : denV env e = some w) :
    ∃ d : Doc, d.render = s ∧ denC env d = some w.toInt ∧ den env e = .ok w.toValue := by
  rw [← ccode_eq_table_current] at hrun
  cases hc : ccode S st e with
  | error err => simp [hc, Except.map] at hrun
  | ok v =>
    obtain ⟨d, r, st1⟩ := v
    simp only [hc, Except.map, outText, Except.ok.injEq, Prod.mk.injEq] at hrun
    obtain ⟨h1, h2, h3⟩ := hrun
    subst h2 h3
    exact ⟨d, h1, ccode_value_c_partial S hS env e st d r st1 w hfrag hc hv⟩

/-- … and C's grammar groups that text as the tree -/
theorem ccode_parens_sufficient_current (hS : PrecA S ∧ PrecB S) (e : Expr) (st : CSt) (s : String)
    (refs : List String) (st' : CSt) (hfrag : cFrag e = true)
    (hrun : c14CcodeT tableCurrent S st e = .ok (s, refs, st')) :
    ∃ d : Doc, d.render = s ∧ cwf d = true := by
  rw [← ccode_eq_table_current] at hrun
  cases hc : ccode S st e with
  | error err => simp [hc, Except.map] at hrun
  | ok v =>
    obtain ⟨d, r, st1⟩ := v
    simp only [hc, Except.map, outText, Except.ok.injEq, Prod.mk.injEq] at hrun
    exact ⟨d, hrun.1, ccode_parens_sufficient S hS e st d r st1 hfrag hc⟩

/-! ### what the regenerated table says about classes and dispatch -/

/-- the node classes the C model prints -/
def modelledClasses : List String :=
  ["Variable", "Sum", "Product", "BitwiseOr", "BitwiseXor", "BitwiseAnd", "LogicalOr",
   "LogicalAnd", "Min", "Max", "Quotient", "FloorDiv", "Remainder", "Power", "LeftShift",
   "RightShift", "BitwiseNot", "LogicalNot", "Comparison", "If", "Call", "Subscript", "Lookup",
   "CommonSubexpression"]

/-- **The dataclass fields the interpreter's attribute access knows are the fields of the current
node classes** (names, order, kinds), for every modelled class. -/
theorem class_fields_current :
    modelledClasses.all (fun n =>
      match tableCurrent.classes.find? (fun c => c.cls == n), c14ClassFields n with
      | some c, some fs => c.fields == fs
      | _, _ => false) = true := by decide +kernel

/-- **Every modelled class reaches a handler the table describes**, and the mapper's `rec` is
`Mapper.__call__` reached through `StringifyMapper.__call__` with `prec = PREC_NONE`. -/
theorem handlers_cover_current :
    modelledClasses.all (fun n =>
      match tableCurrent.classes.find? (fun c => c.cls == n) with
      | some c => match c.handler with
        | some h => tableCurrent.handlers.any (fun x => x.name == h)
        | none => false
      | none => false) = true ∧
    tableCurrent.recOwner = "Mapper" ∧ tableCurrent.callDefaultPrec = .named "PREC_NONE" ∧
    tableCurrent.mapper = "CCodeMapper" := by decide +kernel

/-! ### edits of the table change what the interpreter prints (witnesses) -/

def editHandler (T : C14Table) (name : String) (f : C14Body → C14Body) : C14Table :=
  { T with handlers := T.handlers.map fun h => if h.name == name then { h with body := f h.body } else h }

/-- the table of a source in which the hoisted name is keyed by the wrapper instead of its child -/
def tableKeyedByWrapper : C14Table :=
  editHandler tableCurrent "map_common_subexpression" fun b => match b with
    | .cse r => .cse { r with
        keyField := ""
        effects := [.appendList true, .storeToName "", .addName, .assertSameLen] }
    | b => b

def twoWrappers : Expr :=
  .nary .sum [.cse xPlus1 (some "u") "s", .cse xPlus1 (some "v") "s"]

def assignedT (r : Except CErr (String × List String × CSt)) : Option (String × List String) :=
  match r with
  | .ok (s, _, st) => some (s, st.assigned)
  | .error _ => none

/-- **keyed by the wrapper, the same child under two prefixes is assigned twice**: the edited table
prints `_cse_v + _cse_u` with two assignments, the current one `_cse_u + _cse_u` with one. -/
theorem keyed_by_wrapper_table_cex :
    assignedT (c14CcodeT tableKeyedByWrapper Generated.printPrec {} twoWrappers)
      = some ("_cse_v + _cse_u", ["_cse_u", "_cse_v"]) ∧
    assignedT (c14CcodeT tableCurrent Generated.printPrec {} twoWrappers)
      = some ("_cse_u + _cse_u", ["_cse_u"]) := by decide +kernel

def textT (r : Except CErr (String × List String × CSt)) : Option String :=
  match r with
  | .ok (s, _, _) => some s
  | .error _ => none

/-- the table of a source whose `map_power` hands `pow` its arguments in the other order -/
def tablePowSwapped : C14Table :=
  editHandler tableCurrent "map_power" fun _ =>
    .prog (.ret (.format ["pow(", ", ", ")"]
      [.recur (.field "exponent") (.named "PREC_NONE"), .recur (.field "base") (.named "PREC_NONE")]))

/-- **`pow` argument order is read from the table**: `x**y` -/
theorem pow_swapped_table_cex :
    textT (c14CcodeT tablePowSwapped Generated.printPrec {} (.bin .pow (.var "x") (.var "y")))
      = some "pow(y, x)" ∧
    textT (c14CcodeT tableCurrent Generated.printPrec {} (.bin .pow (.var "x") (.var "y")))
      = some "pow(x, y)" := by decide +kernel

/-- the table of a source whose `map_floor_div` lost its parentheses -/
def tableFloorDivBare : C14Table :=
  editHandler tableCurrent "map_floor_div" fun _ =>
    .prog (.ret (.format ["", "/", ""]
      [.recur (.field "numerator") (.named "PREC_PRODUCT"),
       .recur (.field "denominator") (.named "PREC_POWER")]))

/-- **the parentheses of `(a/b)` are read from the table**: `c % (a // b)` -/
theorem floor_div_bare_table_cex :
    textT (c14CcodeT tableFloorDivBare Generated.printPrec {}
        (.bin .rem (.var "c") (.bin .floordiv (.var "a") (.var "b")))) = some "c % (a/b)" ∧
    textT (c14CcodeT tableFloorDivBare Generated.printPrec {}
        (.bin .pow (.bin .floordiv (.var "a") (.var "b")) (.const (.int 1)))) = some "a/b" ∧
    textT (c14CcodeT tableCurrent Generated.printPrec {}
        (.bin .pow (.bin .floordiv (.var "a") (.var "b")) (.const (.int 1)))) = some "(a/b)" := by
  decide +kernel

/-- the table of a source whose sorted sum writes ` + ` before a negated product -/
def tableSumLostMinus : C14Table :=
  editHandler tableCurrent "map_sum" fun b => match b with
    | .sum r => .sum { r with negPieces := [" + ", ""] }
    | b => b

/-- **the minus sign of `a + -1*b ⇒ a - b` is read from the table** -/
theorem sum_lost_minus_table_cex :
    textT (c14CcodeT tableSumLostMinus Generated.printPrec {}
        (.nary .sum [.var "a", .nary .prod [.const (.int (-1)), .var "b"]])) = some "a + b" ∧
    textT (c14CcodeT tableCurrent Generated.printPrec {}
        (.nary .sum [.var "a", .nary .prod [.const (.int (-1)), .var "b"]])) = some "a - b" := by
  decide +kernel

/-- the table of a source whose `copy()` does not pass the name list to the constructor -/
def tableCopyDropsList : C14Table :=
  { tableCurrent with copy := { tableCurrent.copy with
      args := [.attr "reverse", .attr "cse_prefix", .attr "complex_constant_base_type"] } }

def oneHoisted : CSt :=
  match ccode Generated.printPrec {} (.cse xPlus1 (some "u") "s") with
  | .ok (_, _, st) => st
  | .error _ => {}

/-- **`copy()` passing the name list is read from the table**: without it the copy is empty -/
theorem copy_drops_list_table_cex :
    ((c14CopyT tableCopyDropsList.init tableCopyDropsList.copy "CCodeMapper" oneHoisted none).map
        CSt.assigned) = some [] ∧
    ((c14CopyT tableCurrent.init tableCurrent.copy "CCodeMapper" oneHoisted none).map
        CSt.assigned) = some ["_cse_u"] := by decide +kernel

/-! ### non-vacuity -/

/-- the table interpreter on the regenerated table prints a history with shared wrappers, repeated
prefixes and a copy exactly like the model (and like Python) -/
example :
    (match c14EmitsT tableCurrent Generated.printPrec {}
        [.nary .sum [.cse xPlus1 (some "u") "s", .cse xPlus1 (some "v") "s",
                      .cse (.var "y") (some "u") "s", .cse (.var "z") none "s"],
         .subscript (.cse (.var "a") (some "u_2") "s") (.cse (.var "b") none "s")] with
      | .ok (outs, st) => (outs.map (·.1), st.assigned)
      | .error _ => ([], [])) =
    (["_cse_u_2 + _cse_u + _cse_u + _cse0", "_cse_u_2_2[_cse1]"],
     ["_cse_u", "_cse_u_2", "_cse0", "_cse1", "_cse_u_2_2"]) := by decide +kernel

example :
    textT (c14CcodeT tableCurrent Generated.printPrec {}
      (.nary .sum [.var "c", .nary .prod [.const (.int (-1)), .var "b"],
        .bin .floordiv (.nary .prod [.var "a", .bin .pow (.var "x") (.const (.int 2))])
          (.nary .sum [.var "b", .const (.int 1)]),
        .bin .rem (.var "a") (.var "b"), .call (.var "f") [.bin .pow (.var "x") (.var "y")]]))
      = some "f(pow(x, y)) + c + a % b + (a * x * x/(b + 1)) - b" := by decide +kernel

example : (c14RunOpsT tableCurrent Generated.printPrec [{}] copyHistory).toOption.map
      (fun r => r.2.map CSt.assigned)
    = some [["_cse_u"], ["_cse_u", "_cse_u", "_cse_u_2"]] := by decide +kernel


end PV.C14
