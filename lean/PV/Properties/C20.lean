import PV.Proofs.ImpFuse
import PV.Proofs.ImpReads
import PV.Proofs.ImpGen
import PV.Proofs.ImpGraph
import Mathlib.Data.List.Forall2
import Mathlib.Data.List.Nodup
/-
  C20 — property theorems: statement-stream utilities keep programs well-formed.

  Model: `PV/Model/Imperative.lean` (mirrors pymbolic/imperative/{statement,transform,analysis,
  utils}.py).  The name generator is a parameter `G : NameGen σ` with the contract `G.Fresh`
  (a generated name is not among the used ones, and is used from then on); `pyGen`, the mirror of
  pytools' `UniqueNameGenerator`, meets it (`pyGen_meets_contract`).
-/
namespace PV.C20
open PV PV.Imp

/-! ### (a) fusion of statement ids -/

section fuse
variable {σ : Type} {G : NameGen σ}

/-- the mirrored `UniqueNameGenerator` satisfies the freshness contract the theorems assume -/
theorem pyGen_meets_contract : pyGen.Fresh := pyGen_fresh

/-- **Ids stay distinct.**  If the ids of the first stream are pairwise distinct, so are the ids
of the fused stream — for every second stream whatsoever (its ids may clash with the first stream
and with each other) and every generator meeting the contract. -/
theorem fuse_ids_distinct (hG : G.Fresh) {A B out : List Stmt} {m : List (String × String)}
    (hA : (A.map (·.id)).Nodup) (h : fuseG G A B = .ok (out, m)) : (out.map (·.id)).Nodup := by
  obtain ⟨bs', rfl, hnd, hdisj, -⟩ := fuse_spec hG h
  rw [List.map_append, List.nodup_append]
  refine ⟨hA, hnd, ?_⟩
  intro a ha b hb hab
  subst hab
  exact hdisj a hb ha

/-- **Closed under repeated fusion**: fusing any number of further streams into an already fused
stream keeps the ids distinct (only the very first stream needs distinct ids). -/
theorem fuse_repeated_ids_distinct (hG : G.Fresh) :
    ∀ (rest : List (List Stmt)) (A out : List Stmt), (A.map (·.id)).Nodup →
      fuseAllG G A rest = .ok out → (out.map (·.id)).Nodup
  | [], A, out, hA, h => by
    simp only [fuseAllG, pure, Except.pure, Except.ok.injEq] at h
    exact h ▸ hA
  | S :: rest, A, out, hA, h => by
    simp only [fuseAllG] at h
    obtain ⟨r, hr, h⟩ := except_bind_ok h
    exact fuse_repeated_ids_distinct hG rest r.1 out (fuse_ids_distinct hG hA (m := r.2) hr) h

/-- **Prefix.**  The fused stream is the first stream, unchanged, followed by one statement per
statement of the second stream, of the same kind (same left-hand side, right-hand side and
condition). -/
theorem fuse_prefix (hG : G.Fresh) {A B out : List Stmt} {m : List (String × String)}
    (h : fuseG G A B = .ok (out, m)) :
    ∃ bs', out = A ++ bs' ∧ bs'.length = B.length ∧
      ∀ i (h₁ : i < B.length) (h₂ : i < bs'.length), bs'[i].kind = B[i].kind := by
  obtain ⟨bs', rfl, -, -, -, -, hf⟩ := fuse_spec hG h
  refine ⟨bs', rfl, hf.length_eq.symm, ?_⟩
  intro i h₁ h₂
  exact ((List.forall₂_iff_get.1 hf).2 i h₁ h₂).1

/-- **Renaming by the returned mapping.**  With distinct ids in the second stream, the i-th
appended statement carries the id the returned mapping assigns to the id of the i-th statement of
the second stream; the mapping is defined exactly on the ids of the second stream and is
injective on them. -/
theorem fuse_renames (hG : G.Fresh) {A B out : List Stmt} {m : List (String × String)}
    (hB : (B.map (·.id)).Nodup) (h : fuseG G A B = .ok (out, m)) :
    (∀ i (h₁ : i < B.length) (h₂ : A.length + i < out.length),
        m.lookup B[i].id = some out[A.length + i].id) ∧
    (∀ k, (m.lookup k).isSome ↔ k ∈ B.map (·.id)) ∧
    (∀ k k' v, m.lookup k = some v → m.lookup k' = some v → k = k') := by
  obtain ⟨bs', rfl, hnd, -, hout, hin, hf⟩ := fuse_spec hG h
  have hget := (List.forall₂_iff_get.1 hf).2
  have hlen := hf.length_eq
  have hkey : ∀ k, (m.lookup k).isSome ↔ k ∈ B.map (·.id) := by
    intro k
    constructor
    · intro hk
      by_contra hc
      rw [hout k hc] at hk
      cases hk
    · intro hk
      obtain ⟨v, -, hv⟩ := hin k hk
      simp [hv]
  refine ⟨?_, hkey, ?_⟩
  · intro i h₁ h₂
    have h₂' : i < bs'.length := hlen ▸ h₁
    have := (hget i h₁ h₂').2.1 hB
    simp only [List.get_eq_getElem] at this
    rw [this, List.getElem_append_right (by omega)]
    simp
  · intro k k' v hk hk'
    have hkB := (hkey k).1 (by simp [hk])
    have hk'B := (hkey k').1 (by simp [hk'])
    obtain ⟨i, hi, rfl⟩ := List.getElem_of_mem hkB
    obtain ⟨j, hj, rfl⟩ := List.getElem_of_mem hk'B
    simp only [List.length_map] at hi hj
    have hi' : i < bs'.length := hlen ▸ hi
    have hj' : j < bs'.length := hlen ▸ hj
    have e1 := (hget i hi hi').2.1 hB
    have e2 := (hget j hj hj').2.1 hB
    simp only [List.get_eq_getElem, List.getElem_map] at e1 e2 hk hk'
    rw [e1] at hk
    rw [e2] at hk'
    have hid : bs'[i].id = bs'[j].id := by
      rw [← hk'] at hk
      exact Option.some.inj hk
    have hij : i = j := by
      have hnd' := List.nodup_iff_injective_getElem.1 hnd
      have := @hnd' ⟨i, by simpa using hi'⟩ ⟨j, by simpa using hj'⟩ (by simpa using hid)
      exact Fin.mk.inj this
    subst hij
    rfl

/-- **Dependencies are remapped to the same original statement.**  With distinct ids in the second
stream: the renamed i-th statement depends on the renamed j-th statement exactly when the original
i-th statement depended on the original j-th statement; every dependency of a renamed statement is
the renamed id of some statement of the second stream; and the dependency set has no duplicates. -/
theorem fuse_deps_remapped (hG : G.Fresh) {A B out : List Stmt} {m : List (String × String)}
    (hB : (B.map (·.id)).Nodup) (h : fuseG G A B = .ok (out, m)) :
    ∀ i (h₁ : i < B.length) (h₂ : A.length + i < out.length),
      (∀ j (h₃ : j < B.length) (h₄ : A.length + j < out.length),
        out[A.length + j].id ∈ out[A.length + i].dependsOn ↔ B[j].id ∈ B[i].dependsOn) ∧
      (∀ x ∈ out[A.length + i].dependsOn, ∃ j, ∃ (h₃ : j < B.length) (h₄ : A.length + j < out.length),
        x = out[A.length + j].id ∧ B[j].id ∈ B[i].dependsOn) ∧
      out[A.length + i].dependsOn.Nodup := by
  obtain ⟨hren, hkey, hinj⟩ := fuse_renames hG hB h
  obtain ⟨bs', rfl, -, -, -, -, hf⟩ := fuse_spec hG h
  have hget := (List.forall₂_iff_get.1 hf).2
  have hlen := hf.length_eq
  intro i h₁ h₂
  have hi' : i < bs'.length := hlen ▸ h₁
  have hout : ∀ k (hk : A.length + k < (A ++ bs').length) (hk' : k < bs'.length),
      (A ++ bs')[A.length + k] = bs'[k] := by
    intro k hk hk'
    rw [List.getElem_append_right (by omega)]
    simp
  obtain ⟨-, -, hnd, hdep⟩ := hget i h₁ hi'
  simp only [List.get_eq_getElem] at hdep hnd
  rw [hout i h₂ hi']
  have hback : ∀ x ∈ bs'[i].dependsOn, ∃ j, ∃ (h₃ : j < B.length)
      (h₄ : A.length + j < (A ++ bs').length),
      x = (A ++ bs')[A.length + j].id ∧ B[j].id ∈ B[i].dependsOn := by
    intro x hx
    obtain ⟨d, hd, hl⟩ := (hdep x).1 hx
    have hdB := (hkey d).1 (by simp [hl])
    obtain ⟨j, hj, rfl⟩ := List.getElem_of_mem hdB
    simp only [List.length_map] at hj
    have hj4 : A.length + j < (A ++ bs').length := by simp; omega
    refine ⟨j, hj, hj4, ?_, by simpa using hd⟩
    have := hren j hj hj4
    simp only [List.getElem_map] at hl
    rw [this] at hl
    cases hl
    rfl
  refine ⟨?_, hback, hnd⟩
  intro j h₃ h₄
  have hj' : j < bs'.length := hlen ▸ h₃
  constructor
  · intro hx
    obtain ⟨j', h₃', h₄', hid, hmem⟩ := hback _ hx
    have e1 := hren j h₃ h₄
    have e2 := hren j' h₃' h₄'
    rw [← hid] at e2
    have := hinj _ _ _ e1 e2
    rw [this]
    exact hmem
  · intro hx
    rw [hdep]
    refine ⟨B[j].id, hx, ?_⟩
    rw [hren j h₃ h₄]

/-- **The only way fusion fails** (apart from the generator giving up): a statement of the second
stream depends on an id that is not the id of a statement of the second stream — Python raises
`KeyError` there. -/
theorem fuse_error_is_keyError (hG : G.Fresh) {A B : List Stmt} {e : ImpErr}
    (h : fuseG G A B = .error e) :
    e = .noName ∨ (e = .keyError ∧ ∃ b ∈ B, ∃ d ∈ b.dependsOn, d ∉ B.map (·.id)) := by
  unfold fuseG at h
  split at h
  · cases h
    exact Or.inl rfl
  · rename_i bs m₁ s' hren
    right
    obtain ⟨h1, -, -, -, -, h5', -⟩ := renameIds_spec hG B _ [] bs m₁ s' hren
    cases hre : remapAll m₁ bs with
    | ok r =>
      rw [hre] at h
      cases h
    | error e' =>
      obtain ⟨he, b', hb', d, hd, hnone⟩ := remapAll_error m₁ bs e' hre
      rw [hre] at h
      cases h
      refine ⟨he, ?_⟩
      have : ∃ b ∈ B, b.dependsOn = b'.dependsOn := by
        clear hren h5' hre
        induction h1 with
        | nil => cases hb'
        | cons hab _ ih =>
          rcases List.mem_cons.1 hb' with rfl | hb'
          · exact ⟨_, List.mem_cons_self .., hab.2.symm⟩
          · obtain ⟨b, hb, hbd⟩ := ih hb'
            exact ⟨b, List.mem_cons_of_mem _ hb, hbd⟩
      obtain ⟨b, hb, hbd⟩ := this
      refine ⟨b, hb, d, hbd ▸ hd, ?_⟩
      intro hdB
      obtain ⟨v, -, hv⟩ := h5' d hdB
      rw [hv] at hnone
      cases hnone

end fuse

/-! with the mirrored pytools generator: fusion fails only with `KeyError`, exactly when the second
stream has a dependency that names none of its statements -/

/-- the mirrored `UniqueNameGenerator` always produces a name (pigeonhole over `name_0 … name_n`) -/
theorem pyGen_never_gives_up (g : GenState) (b : String) : ∃ n g', g.call b = some (n, g') :=
  pyGen_total g b

/-- hence fusion with it never fails for want of a name: the first loop always finishes, and the
second raises nothing but `KeyError` -/
theorem fuse_ne_noName {A B : List Stmt} (h : fuse A B = .error .noName) : False := by
  unfold fuse fuseG at h
  obtain ⟨r, hr⟩ := renameIds_pyGen_some B (pyGen.init (A.map (·.id))) []
  rw [hr] at h
  simp only at h
  cases hre : remapAll r.2.1 r.1 with
  | ok bs' => rw [hre] at h; cases h
  | error e' =>
    obtain ⟨he, -⟩ := remapAll_error _ _ _ hre
    rw [hre] at h
    cases h
    cases he

/-- **Fusion succeeds** whenever every dependency of the second stream names a statement of the
second stream. -/
theorem fuse_succeeds {A B : List Stmt}
    (hdeps : ∀ b ∈ B, ∀ d ∈ b.dependsOn, d ∈ B.map (·.id)) : ∃ out m, fuse A B = .ok (out, m) := by
  cases h : fuse A B with
  | ok r => exact ⟨r.1, r.2, rfl⟩
  | error e =>
    exfalso
    rcases fuse_error_is_keyError pyGen_fresh h with rfl | ⟨-, b, hb, d, hd, hnot⟩
    · exact fuse_ne_noName h
    · exact hnot (hdeps b hb d hd)

/-- When `fuse` fails it raises `KeyError`, never anything else, and then some dependency of the
second stream names none of its statements. -/
theorem fuse_raises_only_keyError {A B : List Stmt} {e : ImpErr} (h : fuse A B = .error e) :
    e = .keyError ∧ ∃ b ∈ B, ∃ d ∈ b.dependsOn, d ∉ B.map (·.id) := by
  rcases fuse_error_is_keyError pyGen_fresh h with rfl | h'
  · exact (fuse_ne_noName h).elim
  · exact h'

/-! non-vacuity: the run from the property's anchor — ids `s1`, `n` clash and are renamed, the
dependency of the renamed `s1` on `n` follows the renaming -/
def demoA : List Stmt :=
  [⟨"s1", [], .assign (.subscript (.var "a") (.var "x")) (.var "y") none⟩, ⟨"n", ["s1"], .nop⟩]
def demoB : List Stmt :=
  [⟨"s1", ["n"], .assign (.var "b") (.var "x") (some (.var "c"))⟩, ⟨"n", ["s1"], .nop⟩]

/-- ids, dependencies and the returned mapping of a fusion result -/
def summary (r : Except ImpErr (List Stmt × List (String × String))) :
    Option (List (String × List String) × List (String × String)) :=
  match r with
  | .ok (out, m) => some (out.map (fun s => (s.id, s.dependsOn)), m)
  | .error _ => none

example : summary (fuse demoA demoB) =
    some ([("s1", []), ("n", ["s1"]), ("s1_0", ["n_0"]), ("n_0", ["s1_0"])],
      [("s1", "s1_0"), ("n", "n_0")]) := by decide +kernel
example : (match fuse demoA [⟨"k", ["zz"], .nop⟩] with | .error .keyError => true | _ => false)
    = true := by decide +kernel
/-- repeated fusion: the same second stream fused in twice, then the first stream once more -/
example : (match fuseAllG pyGen demoA [demoB, demoB, demoA] with
      | .ok out => out.map (·.id) | .error _ => []) =
    ["s1", "n", "s1_0", "n_0", "s1_1", "n_1", "s1_2", "n_2"] := by decide +kernel
example : (demoA.map (·.id)).Nodup ∧ (demoB.map (·.id)).Nodup := by decide
example : ∃ out m, fuse demoA demoB = .ok (out, m) :=
  fuse_succeeds (by decide)


/-! ### (b) read and written variable sets against the independent scan

`scanVars e` (PV/Proofs/ImpReads.lean) lists the variables of `e` by plain structural recursion
(the function position of a call is not a variable).  `k.specReads` scans right-hand side,
condition and the index of a subscripted left-hand side; `k.specWritten` is the assigned variable
(or the aggregate of the assigned subscript). -/

/-- **Written set = scan**, for every left-hand side the property quantifies over (a variable or a
subscripted variable; a `Nop` writes nothing). -/
theorem written_scan {k : Kind} (h : k.LhsOk) : k.written = .ok k.specWritten := written_ok h

/-- `get_written_variables` succeeds for no left-hand side but a variable or a subscripted variable
(it raises `TypeError` or `AssertionError`), and then returns the scanned set. -/
theorem written_ok_only_lhsOk {k : Kind} {w : List String} (h : k.written = .ok w) :
    k.LhsOk ∧ w = k.specWritten := written_spec h

/-- **Reported reads are real reads**: everything `get_read_variables` reports is found by the
scan (it is a variable of the right-hand side or of the condition); no name is reported twice. -/
theorem reads_sound {k : Kind} {ns : List String} (h : k.reads = .ok ns) :
    ns.Nodup ∧ ∀ x ∈ ns, x ∈ k.specReads :=
  ⟨(reads_spec h).1, fun x hx => codedReads_sub_spec ((reads_spec h).2 x |>.1 hx)⟩

/-- **Read set = scan**, provided no variable occurs ONLY in the index of the left-hand side
(hypothesis `LhsCovered`; always true for assignments to plain variables). -/
theorem reads_scan_partial {k : Kind} {ns : List String} (hc : k.LhsCovered)
    (h : k.reads = .ok ns) : ∀ x, x ∈ ns ↔ x ∈ k.specReads :=
  fun x => ⟨fun hx => (reads_sound h).2 x hx,
    fun hx => ((reads_spec h).2 x).2 (specReads_sub_coded hc hx)⟩

/-- the hypothesis of `reads_scan_partial` is exactly what is needed: the reported read set equals
the scanned one if and only if every variable of the left-hand-side index also occurs in the
right-hand side or the condition -/
theorem reads_scan_iff_covered {k : Kind} {ns : List String} (h : k.reads = .ok ns) :
    (∀ x, x ∈ ns ↔ x ∈ k.specReads) ↔ k.LhsCovered := by
  constructor
  · intro hall
    cases k with
    | nop => trivial
    | assign l r c =>
      intro x hx
      have : x ∈ (Kind.assign l r c).specReads := by
        simp only [Kind.specReads, List.mem_append]
        exact Or.inr hx
      exact ((reads_spec h).2 x).1 ((hall x).2 this)
  · exact fun hc => reads_scan_partial hc h

/-- plain-variable targets are always covered: for `x <- rhs [if cond]` the read set is exact -/
theorem reads_scan_var_target {n : String} {r : Expr} {c : Option Expr} {ns : List String}
    (h : (Kind.assign (.var n) r c).reads = .ok ns) :
    ∀ x, x ∈ ns ↔ x ∈ scanVars r ++ condVars c := by
  intro x
  rw [reads_scan_partial (k := .assign (.var n) r c) (by intro y hy; cases hy) h x]
  simp [Kind.specReads, lhsIndexVars]

/-- the statement `a[x] <- y + 1` of the finding -/
def cexStmt : Kind :=
  .assign (.subscript (.var "a") (.var "x")) (.nary .sum [.var "y", .const (.int 1)]) none

/-- **KNOWN FINDING `assignment-reads-ignore-lhs`**: `a[x] <- y + 1` reports the reads `{y}`;
the scan of its left-hand side finds `x` as well. -/
theorem reads_scan_cex :
    cexStmt.reads = .ok ["y"] ∧ "x" ∈ cexStmt.specReads ∧
      ¬ (∀ x, x ∈ ["y"] ↔ x ∈ cexStmt.specReads) := by
  refine ⟨by decide +kernel, by decide +kernel, ?_⟩
  intro h
  have := (h "x").2 (by decide +kernel)
  simp at this

example : cexStmt.written = .ok ["a"] := by decide +kernel
example : cexStmt.LhsOk := trivial
/-- conditions are scanned: `a <- y if x < 1` reads `y` and `x` -/
example : (Kind.assign (.var "a") (.var "y")
    (some (.cmp .lt (.var "x") (.const (.int 1))))).reads = .ok ["y", "x"] := by decide +kernel

/-! ### (c) disambiguation of identifiers

`visibleIdents ss` are the identifiers the code collects (variables of right-hand sides and
conditions, written names); `specIdents ss` are those of the independent scan (in addition the
variables of left-hand-side indices).  The set-iteration order of Python (`order`) is arbitrary. -/

section disamb
variable {σ : Type} {G : NameGen σ}

/-- **Exactly the visible clashes are renamed**: the keys of the returned substitution are the
identifiers the code sees in both streams and that pass the filter — each once. -/
theorem disambiguate_exact (hG : G.Fresh) {filter : String → Bool} {order : List String}
    {A B B' : List Stmt} {m : List (String × String)}
    (h : disambiguateG G filter order A B = .ok (B', m)) :
    (m.map (·.1)).Nodup ∧
    ∀ x, x ∈ m.map (·.1) ↔ (x ∈ visibleIdents A ∧ x ∈ visibleIdents B ∧ filter x = true) := by
  obtain ⟨idA, idB, hA, hB, hperm, hun, -⟩ := disambiguate_unfold h
  obtain ⟨hkeys, -, -⟩ := unclash_spec hG _ _ _ hun
  rw [hkeys]
  constructor
  · refine hperm.nodup_iff.2 (List.Nodup.filter _ ?_)
    exact List.Nodup.filter _ (usedIdentifiers_spec hA).1
  · intro x
    rw [hperm.mem_iff, List.mem_filter, mem_interS, usedIdentifiers_visible hA,
      usedIdentifiers_visible hB, and_assoc]

/-- **Fresh names**: the new names are pairwise distinct and none of them is an identifier the
code sees in either stream. -/
theorem disambiguate_fresh (hG : G.Fresh) {filter : String → Bool} {order : List String}
    {A B B' : List Stmt} {m : List (String × String)}
    (h : disambiguateG G filter order A B = .ok (B', m)) :
    (m.map (·.2)).Nodup ∧ ∀ n ∈ m.map (·.2), n ∉ visibleIdents A ∧ n ∉ visibleIdents B := by
  obtain ⟨idA, idB, hA, hB, -, hun, -⟩ := disambiguate_unfold h
  obtain ⟨-, hnd, hfresh⟩ := unclash_spec hG _ _ _ hun
  refine ⟨hnd, fun n hn => ?_⟩
  have := hfresh n hn
  rw [hG.init_used, mem_unionS, usedIdentifiers_visible hA, usedIdentifiers_visible hB] at this
  exact ⟨fun h => this (Or.inl h), fun h => this (Or.inr h)⟩

/-- **Consistent renaming**: every statement of the second stream comes back with the same id and
dependencies and with ONE renaming `ρ = renamingFn m` applied to every variable of its left-hand
side, right-hand side and condition (`renameVars`, plain structural renaming). -/
theorem disambiguate_consistent {filter : String → Bool} {order : List String}
    {A B B' : List Stmt} {m : List (String × String)}
    (hz : ∀ s ∈ B, KindNoCseZero s.kind)
    (h : disambiguateG G filter order A B = .ok (B', m)) :
    B' = B.map (Stmt.mapExprs (renameVars (renamingFn m))) := by
  obtain ⟨idA, idB, -, -, -, -, rfl⟩ := disambiguate_unfold h
  apply List.map_congr_left
  intro s hs
  have := hz s hs
  unfold Stmt.mapExprs
  cases hk : s.kind with
  | nop => rfl
  | assign l r c =>
    rw [hk] at this
    obtain ⟨h1, h2, h3⟩ := this
    simp only [Kind.mapExprs, substM_rename m l h1, substM_rename m r h2]
    cases c with
    | none => rfl
    | some e => simp [substM_rename m e (h3 e rfl)]

/-- **Afterwards no visible identifier that passes the filter is shared**: what the code sees of
the first stream and of the renamed second stream is disjoint on the filter. -/
theorem disambiguate_disjoint (hG : G.Fresh) {filter : String → Bool} {order : List String}
    {A B B' : List Stmt} {m : List (String × String)}
    (hz : ∀ s ∈ B, KindNoCseZero s.kind)
    (h : disambiguateG G filter order A B = .ok (B', m)) :
    ∀ x ∈ visibleIdents A, filter x = true → x ∉ visibleIdents B' := by
  intro x hxA hf hxB
  rw [disambiguate_consistent hz h] at hxB
  obtain ⟨y, hy, rfl⟩ := mem_visible_rename hxB
  rcases renamingFn_cases m y with ⟨-, hv⟩ | ⟨hk, he⟩
  · exact ((disambiguate_fresh hG h).2 _ hv).1 hxA
  · rw [he] at hxA hf
    exact hk (((disambiguate_exact hG h).2 y).2 ⟨hxA, hy, hf⟩)

/-- **Exactly the clashing identifiers are renamed** (the property's wording, identifiers by the
independent scan) — when no identifier of either stream hides in a left-hand-side index. -/
theorem disambiguate_exact_partial (hG : G.Fresh) {filter : String → Bool} {order : List String}
    {A B B' : List Stmt} {m : List (String × String)} (hA : AllCovered A) (hB : AllCovered B)
    (h : disambiguateG G filter order A B = .ok (B', m)) :
    ∀ x, x ∈ m.map (·.1) ↔ (x ∈ specIdents A ∧ x ∈ specIdents B ∧ filter x = true) := by
  intro x
  rw [(disambiguate_exact hG h).2 x, visible_iff_spec hA, visible_iff_spec hB]

/-- **Fresh names and no shared identifier afterwards** (identifiers by the independent scan),
under the same hypothesis. -/
theorem disambiguate_disjoint_partial (hG : G.Fresh) {filter : String → Bool} {order : List String}
    {A B B' : List Stmt} {m : List (String × String)} (hA : AllCovered A) (hB : AllCovered B)
    (hz : ∀ s ∈ B, KindNoCseZero s.kind)
    (h : disambiguateG G filter order A B = .ok (B', m)) :
    (∀ n ∈ m.map (·.2), n ∉ specIdents A ∧ n ∉ specIdents B) ∧
    ∀ x ∈ specIdents A, filter x = true → x ∉ specIdents B' := by
  have hfresh : ∀ n ∈ m.map (·.2), n ∉ specIdents A ∧ n ∉ specIdents B := by
    intro n hn
    have := (disambiguate_fresh hG h).2 n hn
    rwa [visible_iff_spec hA, visible_iff_spec hB] at this
  refine ⟨hfresh, ?_⟩
  intro x hxA hf hxB
  rw [disambiguate_consistent hz h] at hxB
  obtain ⟨y, hy, rfl⟩ := mem_spec_rename hxB
  rcases renamingFn_cases m y with ⟨-, hv⟩ | ⟨hk, he⟩
  · exact (hfresh _ hv).1 hxA
  · rw [he] at hxA hf
    exact hk ((disambiguate_exact_partial hG hA hB h y).2 ⟨hxA, hy, hf⟩)

/-- `disambiguate_and_fuse` is disambiguation followed by fusion of the first stream with the
renamed second stream: all theorems of (a) and (c) apply to its result. -/
theorem disambiguate_and_fuse_composes {filter : String → Bool} {order : List String}
    {A B fused : List Stmt} {sub m : List (String × String)}
    (h : disambiguateAndFuseG G filter order A B = .ok (fused, sub, m)) :
    ∃ B', disambiguateG G filter order A B = .ok (B', sub) ∧ fuseG G A B' = .ok (fused, m) := by
  unfold disambiguateAndFuseG at h
  obtain ⟨⟨B', sub'⟩, h1, h⟩ := except_bind_ok h
  obtain ⟨⟨fused', m'⟩, h2, h⟩ := except_bind_ok h
  simp only [pure, Except.pure, Except.ok.injEq, Prod.mk.injEq] at h
  obtain ⟨rfl, rfl, rfl⟩ := h
  exact ⟨B', h1, h2⟩

end disamb

/-- renaming returned by a disambiguation run (`none` if it raised) -/
def renamingOf (r : Except ImpErr (List Stmt × List (String × String))) :
    Option (List (String × String)) :=
  match r with
  | .ok (_, m) => some m
  | .error _ => none

def cexA : List Stmt := [⟨"i", [], .assign (.subscript (.var "a") (.var "x")) (.const (.int 1)) none⟩]
def cexB : List Stmt := [⟨"j", [], .assign (.var "b") (.var "x") none⟩]

/-- **KNOWN FINDING `disambiguate-misses-lhs-only-identifier`**: `[a[x] <- 1]` and `[b <- x]` share
`x`, the filter accepts everything, and nothing is renamed. -/
theorem disambiguate_exact_cex :
    renamingOf (disambiguate (fun _ => true) [] cexA cexB) = some [] ∧
      "x" ∈ specIdents cexA ∧ "x" ∈ specIdents cexB ∧ ¬ AllCovered cexA := by
  refine ⟨by decide +kernel, by decide +kernel, by decide +kernel, ?_⟩
  intro h
  have := h _ (List.mem_cons_self ..) "x" (by decide +kernel)
  revert this
  decide +kernel

def cexA' : List Stmt := [⟨"i", [], .assign (.subscript (.var "a") (.var "x_0")) (.var "x") none⟩]

/-- **KNOWN FINDING `disambiguate-fresh-name-hits-lhs-only-identifier`**: with `[a[x_0] <- x]` and
`[b <- x]` the clash `x` is renamed to `x_0`, a name the first stream uses. -/
theorem disambiguate_fresh_cex :
    renamingOf (disambiguate (fun _ => true) ["x"] cexA' cexB) = some [("x", "x_0")] ∧
      "x_0" ∈ specIdents cexA' := by
  refine ⟨by decide +kernel, by decide +kernel⟩

/-- non-vacuity of the positive theorems: `[a <- x + y]`, `[x <- y; y_0 <- x]` with a filter that
protects `y`: only `x` is renamed, consistently -/
example :
    renamingOf (disambiguate (fun n => n != "y") ["x"]
      [⟨"i", [], .assign (.var "a") (.nary .sum [.var "x", .var "y"]) none⟩]
      [⟨"j", [], .assign (.var "x") (.var "y") none⟩, ⟨"k", ["j"], .assign (.var "y_0") (.var "x") none⟩])
    = some [("x", "x_0")] := by decide +kernel


/-! ### (d) the dependency-graph export

`DependsOn ss a b`: some statement with id `a` lists `b` in its `depends_on`.  `Reach` is its
transitive closure.  `dotEdges ss` are the `a -> b` lines of the dot text. -/

def DependsOn (ss : List Stmt) (a b : String) : Prop := ∃ s ∈ ss, s.id = a ∧ b ∈ s.dependsOn

def Reach (ss : List Stmt) : String → String → Prop := Relation.TransGen (DependsOn ss)

/-- an edge of the transitive reduction: `b` is reachable from `a` and nothing lies strictly
between them -/
def IsReductionEdge (ss : List Stmt) (a b : String) : Prop :=
  Reach ss a b ∧ ¬ ∃ m, Reach ss a m ∧ Reach ss m b

/-- **The fixed-point loop computes the transitive closure** of the dependency relation (whatever
the graph: cycles, dangling ids, repeated ids). -/
theorem closure_is_transitive_closure {ss : List Stmt} {fuel : Nat} {c : Graph}
    (h : closure fuel (buildGraph ss) = some c) : ∀ a b, b ∈ c.get a ↔ Reach ss a b := by
  intro a b
  rw [closure_transGen h a b]
  exact transGen_congr (fun a b => (buildGraph_spec ss).2 a b) a b

/-- the loop reaches its fixed point within the fuel the model supplies: the export never fails -/
theorem dot_export_total (ss : List Stmt) : ∃ es, dotEdges ss = .ok es := by
  unfold dotEdges
  obtain ⟨c, hc⟩ := closure_fuelFor (buildGraph_spec ss).1
  simp only [hc]
  exact ⟨_, rfl⟩

/-- the graph `c` the closure loop ends with stores reachability: it is transitive, irreflexive
when the dependency relation is acyclic, and its covering edges are the reduction edges -/
theorem closed_graph {ss : List Stmt} {c : Graph} (hac : ∀ a, ¬ Reach ss a a)
    (hcl : ∀ a b, b ∈ c.get a ↔ Reach ss a b) :
    (∀ a b d, b ∈ c.get a → d ∈ c.get b → d ∈ c.get a) ∧ (∀ a, a ∉ c.get a) ∧
      ∀ a b, Cover c a b ↔ IsReductionEdge ss a b := by
  refine ⟨fun a b d h1 h2 => ?_, fun a ha => hac a ((hcl a a).1 ha), fun a b => ?_⟩
  · rw [hcl] at h1 h2 ⊢
    exact h1.trans h2
  · simp only [Cover, IsReductionEdge, hcl]

/-- **The export draws exactly the transitive reduction** of an acyclic dependency relation: an
edge `a -> b` is drawn iff `b` is reachable from `a` with nothing strictly between; no edge is
drawn twice. -/
theorem reduction_is_transitive_reduction {ss : List Stmt} {es : List (String × String)}
    (hac : ∀ a, ¬ Reach ss a a) (h : dotEdges ss = .ok es) :
    es.Nodup ∧ ∀ a b, (a, b) ∈ es ↔ IsReductionEdge ss a b := by
  obtain ⟨c, hc, rfl⟩ := dotEdges_unfold h
  have hcl := closure_is_transitive_closure hc
  obtain ⟨hkeys, hwf, -, -, -⟩ := closure_spec (buildGraph ss) _ _ _ hc
  have hwfc := hwf (buildGraph_spec ss).1
  obtain ⟨htrans, hirr, hcov⟩ := closed_graph hac hcl
  obtain ⟨hk, hget⟩ := reduce_spec htrans hirr hwfc.1
  refine ⟨edges_nodup (reduce_WF hwfc), fun a b => ?_⟩
  rw [mem_edges (hk ▸ hwfc.1), hget, hcov]

/-- The drawn edges reach exactly what the dependency relation reaches. -/
theorem reduction_preserves_reachability {ss : List Stmt} {es : List (String × String)}
    (hac : ∀ a, ¬ Reach ss a a) (h : dotEdges ss = .ok es) :
    ∀ a b, Relation.TransGen (fun a b => (a, b) ∈ es) a b ↔ Reach ss a b := by
  have hred := (reduction_is_transitive_reduction hac h).2
  obtain ⟨c, hc, rfl⟩ := dotEdges_unfold h
  have hcl := closure_is_transitive_closure hc
  obtain ⟨htrans, hirr, hcov⟩ := closed_graph hac hcl
  intro a b
  constructor
  · intro hp
    induction hp with
    | single hab => exact ((hred _ _).1 hab).1
    | tail _ hbc ih => exact Relation.TransGen.trans ih ((hred _ _).1 hbc).1
  · intro hp
    have := cover_transGen htrans hirr b a ((hcl a b).2 hp)
    refine (transGen_congr (fun a b => ?_) a b).1 this
    rw [hred, hcov]

/-- The drawn edges are the LEAST set of edges that reaches what the dependency relation reaches:
every relation inside reachability that still reaches everything contains every drawn edge.  With
`reduction_preserves_reachability`: the unique transitive reduction. -/
theorem reduction_is_least {ss : List Stmt} {es : List (String × String)}
    (hac : ∀ a, ¬ Reach ss a a) (h : dotEdges ss = .ok es) (R' : String → String → Prop)
    (hsub : ∀ a b, R' a b → Reach ss a b)
    (hreach : ∀ a b, Reach ss a b → Relation.TransGen R' a b) :
    ∀ a b, (a, b) ∈ es → R' a b := by
  intro a b hab
  have hred := ((reduction_is_transitive_reduction hac h).2 a b).1 hab
  obtain ⟨c, hc, rfl⟩ := dotEdges_unfold h
  have hcl := closure_is_transitive_closure hc
  obtain ⟨htrans, -, hcov⟩ := closed_graph hac hcl
  exact cover_least htrans R' (fun a b h' => (hcl a b).2 (hsub a b h'))
    (fun a b h' => hreach a b ((hcl a b).1 h')) ((hcov a b).2 hred)

/-- non-vacuity: `a` depends on `b` and `c`, `b` on `c`: the edge `a -> c` is not drawn -/
def demoDag : List Stmt := [⟨"a", ["b", "c"], .nop⟩, ⟨"b", ["c"], .nop⟩, ⟨"c", [], .nop⟩]
example : dotEdges demoDag = .ok [("a", "b"), ("b", "c")] := by decide +kernel
example : ∀ a, ¬ Reach [⟨"a", ["b"], .nop⟩] a a := by
  intro a h
  have hstep : ∀ x y, DependsOn [⟨"a", ["b"], .nop⟩] x y → x = "a" ∧ y = "b" := by
    rintro x y ⟨s, hs, rfl, hy⟩
    simp only [List.mem_singleton] at hs
    subst hs
    simpa using hy
  have hreach : ∀ x y, Reach [⟨"a", ["b"], .nop⟩] x y → x = "a" ∧ y = "b" := by
    intro x y hp
    induction hp with
    | single h => exact hstep _ _ h
    | tail _ h ih =>
      have := hstep _ _ h
      rw [ih.2] at this
      exact absurd this.1 (by decide)
  have := hreach a a h
  rw [this.1] at this
  exact absurd this.2 (by decide)

end PV.C20
