import PV.Proofs.ParserTableMain
import PV.Proofs.SyntaxGrouping
import PV.Proofs.SyntaxStrFlatten
import PV.Generated.Parser
import PV.Generated.Prec
/-
  C07 (also C06), T-gen — the hand-written parser model IS what the current source of
  `pymbolic/parser.py` prescribes.

  `extract/parser.py` re-reads, on every run, the source of `Parser.parse_terminal`,
  `parse_prefix`, `parse_expression`, `parse_postfix`, `parse_arglist`, `__call__`, `parse_float`,
  `_join_to_slice` and the value of `_COMP_TABLE` into the table `PV.Generated.c07ParserTable`
  (`PV/Generated/Parser.lean`): every `elif` branch is a row — tag test, precedence NAME of the
  guard, `>` or `>=`, and the branch body statement by statement (which level each operand is
  parsed at, which node is built from which locals in which order, `did_something = True`).
  `PV/Model/ParserTable.lean` gives the table a meaning: an interpreter with the same fuel
  discipline as the hand-written model in which every decision is looked up in the table.

  * `parser_table_current` — the regenerated table is the table the model is tied to
    (`c07ModelTable`, `PV/Model/ParserTableRef.lean`); re-checked whenever the source changes.
  * `parse_eq_table_current` (+ `parse_prefix_…`, `postfix_loop_…`, `parse_arglist_…`,
    `parse_top_eq_table_current`) — for EVERY precedence table, token list, level, loop state and
    fuel, the hand-written `parseExpr` / `parsePrefix` / `postfixLoop` / `parseArglist` /
    `parseTop` equal the interpreter run on the regenerated table.  Hence every theorem about the
    hand-written parser (`two_operator_grouping`, `grouping_deviations_current`,
    `consumes_all_or_error`, C06 `roundtrip_*`) is a theorem about what the current source says.
  * `infix_levels_current`, `prefix_levels_current`, `conditional_levels_current`,
    `arglist_levels_current`, `row_summary_current` — the guard / operand levels that the grouping
    theorems use (`BinTok.guard`, `BinTok.rhs`, `P.unary`) read off the regenerated rows.
  * witnesses: six edits of the source (else-branch at `_PREC_IF`, unary minus operand at
    `_PREC_PLUS`, left-associative `**`, swapped operands, no end-of-input check, a branch without
    `did_something = True`) change the table AND the parse (`*_table_cex`).
-/
namespace PV.C07
open PV PV.Syntax

/-- **The regenerated parser table is the table the model was written against.**  Any edit of
`pymbolic/parser.py` that changes a tag test, a guard, the level of an operand, the node built,
the order of its arguments, a statement of a branch, the order of the branches, `_COMP_TABLE`,
`_join_to_slice`, the tail of `parse_expression`, a tag or level of `parse_arglist` or the
end-of-input check of `__call__` changes the left-hand side and breaks this theorem (an edit the
extractor does not understand is an extraction error instead). -/
theorem parser_table_current : Generated.c07ParserTable = c07ModelTable := by decide +kernel

/-- **`parse_expression` of the model is the interpreter of the regenerated table** — for every
precedence table, fuel, level and token list. -/
theorem parse_eq_table_current (P : ParserPrec) (fuel m : Nat) (ts : List Tok) :
    parseExpr P fuel m ts = c07ExprT Generated.c07ParserTable P fuel m ts := by
  rw [parser_table_current]; exact ((c07Agree_all P fuel).1 m ts).symm

/-- the same for `parse_prefix` (with `parse_terminal`) -/
theorem parse_prefix_eq_table_current (P : ParserPrec) (fuel : Nat) (ts : List Tok) :
    parsePrefix P fuel ts = c07PrefixT Generated.c07ParserTable P fuel ts := by
  rw [parser_table_current]; exact ((c07Agree_all P fuel).2.1 ts).symm

/-- the same for the `while did_something` loop around `parse_postfix`, from every loop state -/
theorem postfix_loop_eq_table_current (P : ParserPrec) (fuel m : Nat) (left : Expr) (fin : Bool)
    (ts : List Tok) :
    postfixLoop P fuel m left fin ts = c07LoopT Generated.c07ParserTable P fuel m left fin ts := by
  rw [parser_table_current]; exact ((c07Agree_all P fuel).2.2.1 m left fin ts).symm

/-- the same for `parse_arglist`, from every state of its loop -/
theorem parse_arglist_eq_table_current (P : ParserPrec) (fuel : Nat) (ts : List Tok)
    (args : List Expr) (kn : List String) (kv : List Expr) (commaAllowed : Bool) :
    parseArglist P fuel ts args kn kv commaAllowed =
      c07ArglistT Generated.c07ParserTable P fuel ts args kn kv commaAllowed := by
  rw [parser_table_current]; exact ((c07Agree_all P fuel).2.2.2 ts args kn kv commaAllowed).symm

/-- the same for `Parser.__call__` (end-of-input check included) -/
theorem parse_top_eq_table_current (P : ParserPrec) (m : Nat) (ts : List Tok) :
    parseTop P m ts = c07TopT Generated.c07ParserTable P m ts := by
  rw [parser_table_current]; exact (c07TopT_model P m ts).symm

example : c07TopT Generated.c07ParserTable Generated.parserPrec 0
    [.ident "a", .sym "*", .ident "b", .sym "/", .ident "c"]
    = .ok (.nary .prod [.var "a", .bin .quot (.var "b") (.var "c")]) := by decide +kernel
example : c07TopT Generated.c07ParserTable Generated.parserPrec 0
    [.ident "f", .sym "(", .ident "a", .sym ",", .ident "k", .sym "=", .int 1, .sym ")", .sym "[",
     .sym ":", .ident "b", .sym "]", .sym ".", .ident "u"]
    = .ok (.lookup (.subscript (.callKw (.var "f") [.var "a"] ["k"] [.const (.int 1)])
        (.slice [.const .none, .var "b"])) "u") := by decide +kernel
example : c07TopT Generated.c07ParserTable Generated.parserPrec 0 [.ident "a", .sym ")"]
    = .error .parse := by decide +kernel

/-! ### the levels the grouping theorems use, read off the regenerated rows -/

/-- the row of a table whose tag test holds for a token (the guard aside) -/
def rowFor (T : C07ParserTable) (tok : Tok) : Option C07PostRow :=
  T.postfixes.find? fun r => r.test.holds T.compTable tok

def stmtLevels : C07Stmt → List C07Lvl
  | .parse _ l => [l]
  | .tryParse _ l _ _ _ _ => [l]
  | _ => []

def cmdLevels : C07Cmd → List C07Lvl
  | .s st => stmtLevels st
  | .ifc _ thn els => thn.flatMap stmtLevels ++ els.flatMap stmtLevels

/-- the levels at which a body calls `self.parse_expression`, in source order -/
def bodyLevels (body : List C07Cmd) : List C07Lvl := body.flatMap cmdLevels

/-- **Binary operators: guard and right-operand level of the current source.**  For each of the
binary operator tokens of `two_operator_grouping` (`+ - * / // % ** << >> & | ^ and or` and the six
comparisons) the regenerated table has a row for the token, its guard is the strict comparison
`BinTok.guard P > min_precedence`, and its body parses exactly ONE operand, at `BinTok.rhs P`:
the two numbers from which `absorbs2` (and with it `grouping_deviations_current`) is computed. -/
theorem infix_levels_current (P : ParserPrec) (o : BinTok) :
    (rowFor Generated.c07ParserTable (.sym o.sym)).map (fun row => (row.strict, row.prec.get P,
        (bodyLevels row.body).map (C07Lvl.get P Generated.c07ParserTable.exprDefault))) =
      some (true, o.guard P, [o.rhs P]) := by
  cases o with
  | minus => rfl
  | op o =>
    cases o with
    | cmp c => cases c <;> rfl
    | _ => rfl

/-- `*`: guard `_PREC_TIMES` = 220, right operand at `_PREC_PLUS` = 210; `**`: guard 230, right
operand at `_PREC_TIMES` = 220 (right-associative) -/
example : (rowFor Generated.c07ParserTable (.sym "*")).map (fun row =>
    (row.prec.get Generated.parserPrec, (bodyLevels row.body).map (C07Lvl.get Generated.parserPrec 0)))
    = some (220, [210]) := by decide
example : (rowFor Generated.c07ParserTable (.sym "**")).map (fun row =>
    (row.prec.get Generated.parserPrec, (bodyLevels row.body).map (C07Lvl.get Generated.parserPrec 0)))
    = some (230, [220]) := by decide

/-- **Prefix operators: operand level of the current source.**  The branches of `parse_prefix`
for `-`, `~`, `not` (and `+`) parse exactly one operand, at `_PREC_UNARY`: the number
`absorbsPre` is computed from. -/
theorem prefix_levels_current (P : ParserPrec) (s : String) (h : s ∈ ["-", "~", "not", "+"]) :
    (c07FindPre (.sym s) Generated.c07ParserTable.prefixes).map (fun row =>
        (bodyLevels row.body).map (C07Lvl.get P Generated.c07ParserTable.exprDefault)) =
      some [P.unary] := by
  simp only [List.mem_cons, List.not_mem_nil, or_false] at h
  rcases h with h | h | h | h <;> subst h <;> rfl

example : (c07FindPre (.sym "-") Generated.c07ParserTable.prefixes).map (fun row =>
    (bodyLevels row.body).map (C07Lvl.get Generated.parserPrec 0)) = some [240] := by decide

/-- **The conditional of the current source**: guard `_PREC_IF > min_precedence`; the condition is
parsed at `_PREC_IF`, the else-branch at the default level `0` (it swallows everything, also a
following comma). -/
theorem conditional_levels_current (P : ParserPrec) :
    (rowFor Generated.c07ParserTable (.sym "if")).map (fun row => (row.strict, row.prec.get P,
        (bodyLevels row.body).map (C07Lvl.get P Generated.c07ParserTable.exprDefault))) =
      some (true, P.ifp, [P.ifp, 0]) := rfl

/-- positional and keyword arguments are parsed at `_PREC_COMMA`; the whole input must be
consumed; `min_precedence` defaults to 0 -/
theorem arglist_levels_current (P : ParserPrec) :
    Generated.c07ParserTable.arglist.posLvl.get P 0 = P.comma ∧
    Generated.c07ParserTable.arglist.kwLvl.get P 0 = P.comma ∧
    Generated.c07ParserTable.call.endCheck = true ∧
    Generated.c07ParserTable.call.dflt = 0 ∧ Generated.c07ParserTable.exprDefault = 0 :=
  ⟨rfl, rfl, rfl, rfl, rfl⟩

def testName : C07Test → String
  | .is t => t.name
  | .inComp => "<comparison>"

/-- **The branches of `parse_postfix` of the current source, in source order**: tag, precedence
name of the guard, strictness, levels of the operands. -/
theorem row_summary_current :
    Generated.c07ParserTable.postfixes.map
        (fun r => (testName r.test, r.prec, r.strict, bodyLevels r.body)) =
      [("openpar", .call, true, []), ("openbracket", .call, true, [.dflt]),
       ("if", .ifp, true, [.prec .ifp, .dflt]), ("dot", .call, true, []),
       ("plus", .plus, true, [.prec .plus]), ("minus", .plus, true, [.prec .plus]),
       ("times", .times, true, [.prec .plus]), ("floordiv", .times, true, [.prec .times]),
       ("over", .times, true, [.prec .times]), ("modulo", .times, true, [.prec .times]),
       ("exp", .power, true, [.prec .times]), ("and", .land, true, [.prec .land]),
       ("or", .lor, true, [.prec .lor]), ("bitwiseor", .bor, true, [.prec .bor]),
       ("bitwisexor", .bxor, true, [.prec .bxor]), ("bitwiseand", .band, true, [.prec .band]),
       ("rightshift", .shift, true, [.prec .shift]), ("leftshift", .shift, true, [.prec .shift]),
       ("<comparison>", .comparison, true, [.prec .comparison]),
       ("colon", .slice, false, [.prec .slice]), ("comma", .comma, true, [.prec .comma])] := by
  rw [parser_table_current]; rfl

/-! ### the grouping and round-trip theorems, stated for the interpreter of the current table -/

/-- **Two-operator grouping of the CURRENT SOURCE.**  The interpreter of the regenerated table
parses `a o1 b o2 c` to the right grouping iff the guard of the row of `o2` exceeds the level at
which the row of `o1` parses its operand (`infix_levels_current` reads both numbers off the rows). -/
theorem two_operator_grouping_table_current {P : ParserPrec} (hpos : ∀ o : BinTok, o.guard P > 0)
    (o1 o2 : BinTok) (a b c : String) :
    c07TopT Generated.c07ParserTable P 0 [.ident a, .sym o1.sym, .ident b, .sym o2.sym, .ident c] =
      if o2.guard P > o1.rhs P then o2.build (.var b) (.var c) >>= o1.build (.var a)
      else o1.build (.var a) (.var b) >>= fun l => o2.build l (.var c) := by
  rw [← parse_top_eq_table_current]; exact grouping hpos o1 o2 a b c

/-- the same for a prefix operator followed by a binary one -/
theorem prefix_operator_grouping_table_current {P : ParserPrec} (hpos : ∀ o : BinTok, o.guard P > 0)
    (p : PreTok) (o : BinTok) (a b : String) :
    c07TopT Generated.c07ParserTable P 0 [.sym p.sym, .ident a, .sym o.sym, .ident b] =
      if o.guard P > P.unary then o.build (.var a) (.var b) >>= p.build
      else p.build (.var a) >>= fun l => o.build l (.var b) := by
  rw [← parse_top_eq_table_current]; exact prefix_grouping hpos p o a b

example : c07TopT Generated.c07ParserTable Generated.parserPrec 0
    [.ident "a", .sym "|", .ident "b", .sym "^", .ident "c"]
    = .ok (.nary .bxor [.nary .bor [.var "a", .var "b"], .var "c"]) := by decide +kernel

open PV.Generated in
/-- **C06 for the current source, parser side included**: for every tree of the fragment computed
from the regenerated precedence tables, the interpreter of the regenerated PARSER table reads the
printed token list back, completely, as the parser's normal form of the tree. -/
theorem roundtrip_table_current {e : Expr} {ps : Pieces}
    (h : InFragment parserPrec printPrec e = true) (hs : strTop printPrec e = .ok ps) :
    c07TopT c07ParserTable parserPrec 0 (toks ps) = .ok (pnf e) := by
  rw [← parse_top_eq_table_current]
  simp only [InFragment, Bool.and_eq_true] at h
  exact parseTop_str h.1 h.2 hs

/-- the hypothesis of `roundtrip_table_current` is satisfiable: `a + b*c` is in the fragment and
is read back by the interpreter of the regenerated table -/
example : InFragment Generated.parserPrec Generated.printPrec
    (.nary .sum [.var "a", .nary .prod [.var "b", .var "c"]]) = true := by decide +kernel
example : c07TopT Generated.c07ParserTable Generated.parserPrec 0
    [.ident "a", .sym "+", .ident "b", .sym "*", .ident "c"]
    = .ok (.nary .sum [.var "a", .nary .prod [.var "b", .var "c"]]) := by decide +kernel

/-! ### edits of the table change the parse -/

/-- replace the body / guard of the rows selected by `p` -/
def editPost (T : C07ParserTable) (p : C07PostRow → Bool) (g : C07PostRow → C07PostRow) :
    C07ParserTable :=
  { T with postfixes := T.postfixes.map fun r => if p r then g r else r }

def editPre (T : C07ParserTable) (name : String) (g : C07PreRow → C07PreRow) : C07ParserTable :=
  { T with prefixes := T.prefixes.map fun r => if r.tag.name == name then g r else r }

def relevel (old new : C07Lvl) : C07Cmd → C07Cmd
  | .s (.parse x l) => .s (.parse x (if l = old then new else l))
  | c => c

def isTag (name : String) (r : C07PostRow) : Bool := testName r.test == name

/-- the else-branch parsed at `_PREC_IF`: `a if b else c if d else e` nests to the LEFT -/
theorem else_at_if_table_cex :
    c07TopT (editPost Generated.c07ParserTable (isTag "if")
        fun r => { r with body := r.body.map (relevel .dflt (.prec .ifp)) })
      Generated.parserPrec 0
      [.ident "a", .sym "if", .ident "b", .sym "else", .ident "c", .sym "if", .ident "d",
       .sym "else", .ident "e"]
      = .ok (.ite (.var "d") (.ite (.var "b") (.var "a") (.var "c")) (.var "e")) ∧
    parseTop Generated.parserPrec 0
      [.ident "a", .sym "if", .ident "b", .sym "else", .ident "c", .sym "if", .ident "d",
       .sym "else", .ident "e"]
      = .ok (.ite (.var "b") (.var "a") (.ite (.var "d") (.var "c") (.var "e"))) := by
  decide +kernel

/-- a unary minus whose operand is parsed at `_PREC_PLUS`: `-a / b` negates the quotient -/
theorem neg_at_plus_table_cex :
    c07TopT (editPre Generated.c07ParserTable "minus"
        fun r => { r with body := r.body.map (relevel (.prec .unary) (.prec .plus)) })
      Generated.parserPrec 0 [.sym "-", .ident "a", .sym "/", .ident "b"]
      = .ok (.nary .prod [.const (.int (-1)), .bin .quot (.var "a") (.var "b")]) ∧
    parseTop Generated.parserPrec 0 [.sym "-", .ident "a", .sym "/", .ident "b"]
      = .ok (.bin .quot (.nary .prod [.const (.int (-1)), .var "a"]) (.var "b")) := by
  decide +kernel

/-- `**` with its right operand parsed at `_PREC_POWER`: `a ** b ** c` nests to the LEFT -/
theorem pow_left_assoc_table_cex :
    c07TopT (editPost Generated.c07ParserTable (isTag "exp")
        fun r => { r with body := r.body.map (relevel (.prec .times) (.prec .power)) })
      Generated.parserPrec 0 [.ident "a", .sym "**", .ident "b", .sym "**", .ident "c"]
      = .ok (.bin .pow (.bin .pow (.var "a") (.var "b")) (.var "c")) ∧
    parseTop Generated.parserPrec 0 [.ident "a", .sym "**", .ident "b", .sym "**", .ident "c"]
      = .ok (.bin .pow (.var "a") (.bin .pow (.var "b") (.var "c"))) := by
  decide +kernel

def swapArgs : C07Cmd → C07Cmd
  | .s (.assign x (.mk2 c a b)) => .s (.assign x (.mk2 c b a))
  | c => c

/-- swapped constructor arguments in the `//` branch: `a // b` is read as `b // a` -/
theorem swapped_floordiv_table_cex :
    c07TopT (editPost Generated.c07ParserTable (isTag "floordiv")
        fun r => { r with body := r.body.map swapArgs })
      Generated.parserPrec 0 [.ident "a", .sym "//", .ident "b"]
      = .ok (.bin .floordiv (.var "b") (.var "a")) ∧
    parseTop Generated.parserPrec 0 [.ident "a", .sym "//", .ident "b"]
      = .ok (.bin .floordiv (.var "a") (.var "b")) := by
  decide +kernel

/-- `__call__` without the end-of-input check returns a tree and drops the rest -/
theorem no_end_check_table_cex :
    c07TopT { Generated.c07ParserTable with call := { Generated.c07ParserTable.call with endCheck := false } }
      Generated.parserPrec 0 [.ident "a", .sym ")", .ident "b"] = .ok (.var "a") ∧
    parseTop Generated.parserPrec 0 [.ident "a", .sym ")", .ident "b"] = .error .parse := by
  decide +kernel

/-- a branch that forgets `did_something = True` ends the loop after one operator -/
theorem no_did_something_table_cex :
    c07TopT (editPost Generated.c07ParserTable (isTag "plus")
        fun r => { r with body := r.body.filter fun c => c != .s .setDid })
      Generated.parserPrec 0 [.ident "a", .sym "+", .ident "b", .sym "+", .ident "c"]
      = .error .parse ∧
    parseTop Generated.parserPrec 0 [.ident "a", .sym "+", .ident "b", .sym "+", .ident "c"]
      = .ok (.nary .sum [.var "a", .var "b", .var "c"]) := by
  decide +kernel

end PV.C07
