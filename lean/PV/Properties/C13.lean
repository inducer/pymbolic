import PV.Proofs.Compile
import PV.Properties.C09
import PV.Generated.Prec
import PV.Proofs.C13Groups
import PV.Properties.C06
import PV.Properties.C07
/-
  C13 — property theorems.

  The four translation paths are modelled in PV/Model/Compile.lean; agreement of each model with
  the real code (source text and argument list of `compile`, the AST of `to_python_ast`, the tree
  of `ASTToPymbolic`, and the meaning `denAst` against CPython executing the AST) is checked by the
  correspondence streams of harness/props/c13.py on every run.  What CPython does with source TEXT:
  for `compile` the GROUPING of the text under Python's grammar is proved (section "The compiled
  SOURCE under Python's grammar": the parser model of C06/C07 with the hand-written Python table
  `pythonPrec`, tied to CPython's `ast.parse` by the stream `py-table`); what the grouped
  operators compute, and `ast.unparse`, are covered by executing every generated program (oracle
  streams).
-/
namespace PV.C13
open PV

/-! ## The fragment on which expression → AST preserves the value exactly -/

mutual
/-- Syntactic fragment + operand typing under which `to_python_ast` preserves the value:
  * constants are ints / bools; no keyword calls (their values are visited in name order), slices,
    or node types the mapper refuses;
  * every operand of a sum / product that evaluates is an exact number (and not a `bool` when it is
    the only operand); every operand of a bitwise chain that evaluates is an int or a bool;
    `or` / `and` have at least two operands, all boolean. -/
def AstOk (env : Env) : Expr → Prop
  | .const (.int _) => True
  | .const (.bool _) => True
  | .var _ => True
  | .nary .sum cs => AstOkL env cs ∧ OperandsOk env (ArithOperand cs.length) cs
  | .nary .prod cs => AstOkL env cs ∧ OperandsOk env (ArithOperand cs.length) cs
  | .nary .bor cs => AstOkL env cs ∧ OperandsOk env BitOperand cs
  | .nary .bxor cs => AstOkL env cs ∧ OperandsOk env BitOperand cs
  | .nary .band cs => AstOkL env cs ∧ OperandsOk env BitOperand cs
  | .nary .lor cs => 2 ≤ cs.length ∧ AstOkL env cs ∧ OperandsOk env BoolOperand cs
  | .nary .land cs => 2 ≤ cs.length ∧ AstOkL env cs ∧ OperandsOk env BoolOperand cs
  | .bin _ a b => AstOk env a ∧ AstOk env b
  | .un _ a => AstOk env a
  | .ite c t e => AstOk env c ∧ AstOk env t ∧ AstOk env e
  | .call f as => AstOk env f ∧ AstOkL env as
  | .subscript a i => AstOk env a ∧ AstOk env i
  | .lookup a _ => AstOk env a
  | .tuple cs => AstOkL env cs
  | .list cs => AstOkL env cs
  | _ => False
def AstOkL (env : Env) : List Expr → Prop
  | [] => True
  | c :: cs => AstOk env c ∧ AstOkL env cs
end

theorem foldBin_wellFormed (op : PyBin) : ∀ (xs : List PyAst) (a : PyAst),
    PyAst.wellFormedL xs = true → foldBin op xs = .ok a → a.wellFormed = true
  | [], _, _, h => by simp [foldBin, throw, throwThe, MonadExceptOf.throw] at h
  | [x], a, hw, h => by
      simp only [foldBin, except_pure_ok_iff] at h
      subst h
      simpa [PyAst.wellFormedL] using hw
  | x :: y :: rest, a, hw, h => by
      simp only [foldBin, except_bind_ok_iff, except_pure_ok_iff] at h
      obtain ⟨r, hr, rfl⟩ := h
      simp only [PyAst.wellFormedL, Bool.and_eq_true] at hw
      simp only [PyAst.wellFormed, Bool.and_eq_true]
      exact ⟨hw.1, foldBin_wellFormed op (y :: rest) r (by simp [PyAst.wellFormedL, hw.2]) hr⟩

theorem toAstL_length : ∀ (cs : List Expr) (xs : List PyAst), toAstL cs = .ok xs →
    xs.length = cs.length
  | [], xs, h => by
      simp only [toAstL, except_pure_ok_iff] at h
      subst h; rfl
  | c :: cs, xs, h => by
      simp only [toAstL, except_bind_ok_iff, except_pure_ok_iff] at h
      obtain ⟨x, _, xs', hxs, rfl⟩ := h
      simp [toAstL_length cs xs' hxs]

mutual
/-- **`to_python_ast` preserves the value** (and the error, and the order in which operands are
evaluated), **and the AST is one CPython's validator accepts** (`BoolOp` nodes have two or more
operands): CPython's meaning of the generated AST is the evaluator's meaning of the expression —
on the fragment `AstOk`.  The n-ary operators of the expression become right-nested binary
operators; for sums and products of ANY length this is value-preserving on exact ints, bools and
Fractions (associativity and the unit law of exact arithmetic), for `| ^ &` chains of any length
on ints and bools (associativity of the two's-complement operators). -/
theorem toAst_sound (env : Env) : ∀ (e : Expr) (a : PyAst), toAst e = .ok a → AstOk env e →
    denAst env a = den env e ∧ a.wellFormed = true
  | .const (.int n), a, h, _ => by
      simp only [toAst, constToAst] at h
      split at h <;> (simp only [except_pure_ok_iff] at h; subst h; refine ⟨?_, rfl⟩)
      · simp [denAst, Const.denAst, den, Const.den, Value.neg, Value.isInexact, Value.num?,
          pure, Except.pure, bind, Except.bind]
      · simp [denAst, Const.denAst, den, Const.den]
  | .const (.bool b), a, h, _ => by
      simp only [toAst, constToAst, except_pure_ok_iff] at h
      subst h
      exact ⟨by simp [denAst, Const.denAst, den, Const.den], rfl⟩
  | .var x, a, h, _ => by
      simp only [toAst, except_pure_ok_iff] at h
      subst h
      refine ⟨?_, rfl⟩
      simp only [denAst, den]
      cases env.get x <;> rfl
  | .nary .sum cs, a, h, hok => by
      obtain ⟨xs, hxs, hfold⟩ := except_bind_ok (by simpa only [toAst] using h)
      obtain ⟨hrel, hw⟩ := toAstL_sound env cs xs hxs hok.1
      refine ⟨?_, foldBin_wellFormed _ xs a hw hfold⟩
      simp only [den]
      exact nary_fold_value (o := .sum) (op := .add) (f := addNum) (u := .i 0) rfl
        (fun ha hb => add_num ha hb) addNum_assoc addNum_zero hrel hfold hok.2
  | .nary .prod cs, a, h, hok => by
      obtain ⟨xs, hxs, hfold⟩ := except_bind_ok (by simpa only [toAst] using h)
      obtain ⟨hrel, hw⟩ := toAstL_sound env cs xs hxs hok.1
      refine ⟨?_, foldBin_wellFormed _ xs a hw hfold⟩
      simp only [den]
      exact nary_fold_value (o := .prod) (op := .mult) (f := mulNum) (u := .i 1) rfl
        (fun ha hb => mul_num ha hb) mulNum_assoc mulNum_one hrel hfold hok.2
  | .nary .bor cs, a, h, hok => by
      obtain ⟨xs, hxs, hfold⟩ := except_bind_ok (by simpa only [toAst] using h)
      obtain ⟨hrel, hw⟩ := toAstL_sound env cs xs hxs hok.1
      refine ⟨?_, foldBin_wellFormed _ xs a hw hfold⟩
      simp only [den]
      exact reduce_fold_value (o := .bor) (op := .bitor) rfl (fun ha hb => bor_ib ha hb) ibOr_assoc
        hrel hfold hok.2
  | .nary .bxor cs, a, h, hok => by
      obtain ⟨xs, hxs, hfold⟩ := except_bind_ok (by simpa only [toAst] using h)
      obtain ⟨hrel, hw⟩ := toAstL_sound env cs xs hxs hok.1
      refine ⟨?_, foldBin_wellFormed _ xs a hw hfold⟩
      simp only [den]
      exact reduce_fold_value (o := .bxor) (op := .bitxor) rfl (fun ha hb => bxor_ib ha hb)
        ibXor_assoc hrel hfold hok.2
  | .nary .band cs, a, h, hok => by
      obtain ⟨xs, hxs, hfold⟩ := except_bind_ok (by simpa only [toAst] using h)
      obtain ⟨hrel, hw⟩ := toAstL_sound env cs xs hxs hok.1
      refine ⟨?_, foldBin_wellFormed _ xs a hw hfold⟩
      simp only [den]
      exact reduce_fold_value (o := .band) (op := .bitand) rfl (fun ha hb => band_ib ha hb)
        ibAnd_assoc hrel hfold hok.2
  | .nary .lor cs, a, h, hok => by
      simp only [toAst, except_bind_ok_iff, except_pure_ok_iff] at h
      obtain ⟨xs, hxs, rfl⟩ := h
      obtain ⟨hrel, hw⟩ := toAstL_sound env cs xs hxs hok.2.1
      refine ⟨?_, by
        simp only [PyAst.wellFormed, Bool.and_eq_true, decide_eq_true_eq]
        exact ⟨by rw [toAstL_length cs xs hxs]; exact hok.1, hw⟩⟩
      have hne : xs ≠ [] := by
        intro hx
        have hl := toAstL_length cs xs hxs
        have h2 := hok.1
        rw [hx, List.length_nil] at hl
        omega
      simpa [denAst, den] using boolop_value true xs cs hrel hne hok.2.2
  | .nary .land cs, a, h, hok => by
      simp only [toAst, except_bind_ok_iff, except_pure_ok_iff] at h
      obtain ⟨xs, hxs, rfl⟩ := h
      obtain ⟨hrel, hw⟩ := toAstL_sound env cs xs hxs hok.2.1
      refine ⟨?_, by
        simp only [PyAst.wellFormed, Bool.and_eq_true, decide_eq_true_eq]
        exact ⟨by rw [toAstL_length cs xs hxs]; exact hok.1, hw⟩⟩
      have hne : xs ≠ [] := by
        intro hx
        have hl := toAstL_length cs xs hxs
        have h2 := hok.1
        rw [hx, List.length_nil] at hl
        omega
      simpa [denAst, den] using boolop_value false xs cs hrel hne hok.2.2
  | .bin o x y, a, h, hok => by
      simp only [toAst, except_bind_ok_iff, except_pure_ok_iff] at h
      obtain ⟨x', hx, y', hy, rfl⟩ := h
      obtain ⟨vx, wx⟩ := toAst_sound env x x' hx hok.1
      obtain ⟨vy, wy⟩ := toAst_sound env y y' hy hok.2
      exact ⟨by simp only [denAst, den, vx, vy, pyBin_apply],
        by simp only [PyAst.wellFormed, wx, wy, Bool.and_self]⟩
  | .un o x, a, h, hok => by
      cases o <;>
      · simp only [toAst, except_bind_ok_iff, except_pure_ok_iff] at h
        obtain ⟨x', hx, rfl⟩ := h
        obtain ⟨vx, wx⟩ := toAst_sound env x x' hx hok
        exact ⟨by simp only [denAst, den, vx], by simp only [PyAst.wellFormed, wx]⟩
  | .ite c t e, a, h, hok => by
      simp only [toAst, except_bind_ok_iff, except_pure_ok_iff] at h
      obtain ⟨c', hc, t', ht, e', he, rfl⟩ := h
      obtain ⟨vc, wc⟩ := toAst_sound env c c' hc hok.1
      obtain ⟨vt, wt⟩ := toAst_sound env t t' ht hok.2.1
      obtain ⟨ve, we⟩ := toAst_sound env e e' he hok.2.2
      exact ⟨by simp only [denAst, den, vc, vt, ve],
        by simp only [PyAst.wellFormed, wc, wt, we, Bool.and_self]⟩
  | .call f as, a, h, hok => by
      simp only [toAst, except_bind_ok_iff, except_pure_ok_iff] at h
      obtain ⟨g, hg, xs, hxs, rfl⟩ := h
      obtain ⟨vf, wf⟩ := toAst_sound env f g hg hok.1
      obtain ⟨hrel, hw⟩ := toAstL_sound env as xs hxs hok.2
      exact ⟨by simp only [denAst, den, vf, relL_denList _ _ hrel, denAstL, bind, Except.bind, pure,
          Except.pure],
        by simp only [PyAst.wellFormed, wf, hw, PyAst.wellFormedL, Bool.and_self]⟩
  | .subscript x i, a, h, hok => by
      simp only [toAst, except_bind_ok_iff, except_pure_ok_iff] at h
      obtain ⟨x', hx, i', hi, rfl⟩ := h
      obtain ⟨vx, wx⟩ := toAst_sound env x x' hx hok.1
      obtain ⟨vi, wi⟩ := toAst_sound env i i' hi hok.2
      exact ⟨by simp only [denAst, den, vx, vi],
        by simp only [PyAst.wellFormed, wx, wi, Bool.and_self]⟩
  | .lookup x n, a, h, hok => by
      simp only [toAst, except_bind_ok_iff, except_pure_ok_iff] at h
      obtain ⟨x', hx, rfl⟩ := h
      obtain ⟨vx, wx⟩ := toAst_sound env x x' hx hok
      exact ⟨by simp only [denAst, den, vx], by simp only [PyAst.wellFormed, wx]⟩
  | .tuple cs, a, h, hok => by
      simp only [toAst, except_bind_ok_iff, except_pure_ok_iff] at h
      obtain ⟨xs, hxs, rfl⟩ := h
      obtain ⟨hrel, hw⟩ := toAstL_sound env cs xs hxs hok
      exact ⟨by simp only [denAst, den, relL_denList _ _ hrel], by simp only [PyAst.wellFormed, hw]⟩
  | .list cs, a, h, hok => by
      simp only [toAst, except_bind_ok_iff, except_pure_ok_iff] at h
      obtain ⟨xs, hxs, rfl⟩ := h
      obtain ⟨hrel, hw⟩ := toAstL_sound env cs xs hxs hok
      exact ⟨by simp only [denAst, den, relL_denList _ _ hrel], by simp only [PyAst.wellFormed, hw]⟩
  | .nary .min _, _, _, hok | .nary .max _, _, _, hok | .const (.flt ..), _, _, hok
  | .const (.str _), _, _, hok | .const .none, _, _, hok | .cmp .., _, _, hok
  | .callKw .., _, _, hok | .cse .., _, _, hok | .subst .., _, _, hok | .deriv .., _, _, hok
  | .slice _, _, _, hok | .nan, _, _, hok | .wildcard, _, _, hok | .dotWild _, _, _, hok
  | .starWild _, _, _, hok | .funcSym, _, _, hok => by simp [AstOk] at hok
/-- operands: pointwise -/
theorem toAstL_sound (env : Env) : ∀ (cs : List Expr) (xs : List PyAst), toAstL cs = .ok xs →
    AstOkL env cs → RelL env xs cs ∧ PyAst.wellFormedL xs = true
  | [], xs, h, _ => by
      simp only [toAstL, except_pure_ok_iff] at h
      subst h
      exact ⟨trivial, rfl⟩
  | c :: cs, xs, h, hok => by
      simp only [toAstL, except_bind_ok_iff, except_pure_ok_iff] at h
      obtain ⟨x, hx, xs', hxs, rfl⟩ := h
      obtain ⟨vx, wx⟩ := toAst_sound env c x hx hok.1
      obtain ⟨hrel, hw⟩ := toAstL_sound env cs xs' hxs hok.2
      exact ⟨⟨vx, hrel⟩, by simp only [PyAst.wellFormedL, wx, hw, Bool.and_self]⟩
end

theorem toAst_value (env : Env) : ∀ (e : Expr) (a : PyAst), toAst e = .ok a → AstOk env e →
    denAst env a = den env e :=
  fun e a h hok => (toAst_sound env e a h hok).1

theorem toAstL_value (env : Env) : ∀ (cs : List Expr) (xs : List PyAst), toAstL cs = .ok xs →
    AstOkL env cs → RelL env xs cs :=
  fun cs xs h hok => (toAstL_sound env cs xs h hok).1

/-- on the fragment the AST passes CPython's validator -/
theorem toAst_wellFormed (env : Env) : ∀ (e : Expr) (a : PyAst), toAst e = .ok a → AstOk env e →
    a.wellFormed = true :=
  fun e a h hok => (toAst_sound env e a h hok).2

theorem toAstL_wellFormed (env : Env) : ∀ (cs : List Expr) (xs : List PyAst),
    toAstL cs = .ok xs → AstOkL env cs → PyAst.wellFormedL xs = true :=
  fun cs xs h hok => (toAstL_sound env cs xs h hok).2

/-- **Executing the generated AST gives the evaluator's result** (value or error): `runAst` is
`eval(compile(ast.Expression(a)))`, validator included.  Partial: the hypothesis `AstOk` excludes
the shapes on which the real code differs from the evaluator — `or` / `and` with non-boolean or
fewer than two operands (`toAst_and_operand_cex`, `toAst_single_boolop_cex`), a one-operand sum of a
bool (`toAst_single_bool_cex`), operands of the wrong type together with a later failing operand
(`toAst_error_order_cex`) — and keyword calls, floats and slices, which are covered by the
executing oracle only. -/
theorem toAst_run_value_partial (env : Env) (e : Expr) (a : PyAst) (h : toAst e = .ok a)
    (hok : AstOk env e) : runAst env a = den env e := by
  simp only [runAst, toAst_wellFormed env e a h hok, if_true]
  exact toAst_value env e a h hok

/-! ## expression → AST → expression -/

mutual
/-- the fragment both mappers support: int / bool constants, variables, the five associative
operators with two or more operands, binary and unary operators, conditionals, calls, subscripts,
attribute lookups, tuples.  (`or` / `and`, comparisons, keyword calls, slices and lists are
refused by one of the two mappers or do not come back in the same shape.) -/
def RtOk : Expr → Prop
  | .const (.int _) => True
  | .const (.bool _) => True
  | .var _ => True
  | .nary o cs => o.isAssoc = true ∧ 2 ≤ cs.length ∧ RtOkL cs
  | .bin _ a b => RtOk a ∧ RtOk b
  | .un _ a => RtOk a
  | .ite c t e => RtOk c ∧ RtOk t ∧ RtOk e
  | .call f as => RtOk f ∧ RtOkL as
  | .subscript a i => RtOk a ∧ RtOk i
  | .lookup a _ => RtOk a
  | .tuple cs => RtOkL cs
  | _ => False
def RtOkL : List Expr → Prop
  | [] => True
  | c :: cs => RtOk c ∧ RtOkL cs
end

theorem fromAstL_length : ∀ (xs : List PyAst) (es : List Expr), fromAstL xs = .ok es →
    es.length = xs.length
  | [], es, h => by
      simp only [fromAstL, except_pure_ok_iff] at h
      subst h; rfl
  | x :: xs, es, h => by
      simp only [fromAstL, except_bind_ok_iff, except_pure_ok_iff] at h
      obtain ⟨e, _, es', hes, rfl⟩ := h
      simp [fromAstL_length xs es' hes]

/-- the n-ary case of the round trip -/
theorem nary_roundtrip {o : NaryOp} {op : PyBin} (ho : o.isAssoc = true)
    (hc : op.construct = some fun x y => .nary o [x, y])
    {cs es : List Expr} {xs : List PyAst} {a : PyAst} (hlen : 2 ≤ cs.length)
    (hxs : toAstL cs = .ok xs) (hes : fromAstL xs = .ok es)
    (hflat : flattenNestL es = flattenNestL cs) (hfold : foldBin op xs = .ok a) :
    ∃ e', fromAst a = .ok e' ∧ flattenNest e' = flattenNest (.nary o cs) := by
  have hl1 := toAstL_length cs xs hxs
  have hl2 := fromAstL_length xs es hes
  have hxne : xs ≠ [] := by
    intro h; rw [h] at hl1; simp at hl1; omega
  refine ⟨nestExpr o es, fromAst_foldBin hc xs es a hxne hes hfold, ?_⟩
  match es, hl2 with
  | x :: y :: rest, _ =>
    rw [flattenNest_nestExpr o ho, flattenNest]
    simp only [ho, if_true]
    rw [flattenNestInto_congr o _ _ hflat]
  | [], h => simp at h; omega
  | [_], h => simp at h; omega

mutual
/-- a slice that imports (so: not the `None` of a hand-made node) is mapped first, then the
aggregate -/
theorem fromAst_subscript_of_ok {v s : PyAst} {i : Expr} (h : fromAst s = .ok i) :
    fromAst (.subscript v s) = (do
      let i ← fromAst s
      let x ← fromAst v
      pure (.subscript x i)) := by
  cases s <;> first | (simp [fromAst] at h; done) | rfl

/-- **Importing the generated AST gives the expression back, up to binary nesting**: on the
fragment both mappers support, `ASTToPymbolic()(to_python_ast(e))` succeeds and differs from `e`
only in that an n-ary `+ * | ^ &` node has become a right-nested chain of two-operand nodes. -/
theorem fromAst_toAst : ∀ (e : Expr) (a : PyAst), toAst e = .ok a → RtOk e →
    ∃ e', fromAst a = .ok e' ∧ flattenNest e' = flattenNest e
  | .const (.int n), a, h, _ => by
      simp only [toAst, constToAst] at h
      split at h <;> (simp only [except_pure_ok_iff] at h; subst h)
      · refine ⟨.const (.int n), ?_, rfl⟩
        simp [fromAst, astNeg, negE, Const.neg, bind, Except.bind, pure, Except.pure]
      · exact ⟨_, rfl, rfl⟩
  | .const (.bool b), a, h, _ => by
      simp only [toAst, constToAst, except_pure_ok_iff] at h
      subst h
      exact ⟨_, rfl, rfl⟩
  | .var x, a, h, _ => by
      simp only [toAst, except_pure_ok_iff] at h
      subst h
      exact ⟨_, rfl, rfl⟩
  | .nary o cs, a, h, hok => by
      obtain ⟨ho, hlen, hcs⟩ := hok
      -- the associative operators are those exported through the folding helper
      cases o <;> cases ho
      all_goals
        obtain ⟨xs, hxs, hfold⟩ := except_bind_ok (by simpa only [toAst] using h)
        obtain ⟨es, hes, hflat⟩ := fromAstL_toAstL cs xs hxs hcs
        exact nary_roundtrip rfl rfl hlen hxs hes hflat hfold
  | .bin o x y, a, h, hok => by
      simp only [toAst, except_bind_ok_iff, except_pure_ok_iff] at h
      obtain ⟨x', hx, y', hy, rfl⟩ := h
      obtain ⟨ex, hex, hfx⟩ := fromAst_toAst x x' hx hok.1
      obtain ⟨ey, hey, hfy⟩ := fromAst_toAst y y' hy hok.2
      refine ⟨.bin o ex ey, ?_, by simp only [flattenNest, hfx, hfy]⟩
      simp only [fromAst, pyBin_construct, hex, hey, bind, Except.bind, pure, Except.pure]
  | .un o x, a, h, hok => by
      cases o <;>
      · simp only [toAst, except_bind_ok_iff, except_pure_ok_iff] at h
        obtain ⟨x', hx, rfl⟩ := h
        obtain ⟨ex, hex, hfx⟩ := fromAst_toAst x x' hx hok
        simp only [fromAst, hex, bind, Except.bind, pure, Except.pure]
        exact ⟨_, rfl, by simp only [flattenNest, hfx]⟩
  | .ite c t e, a, h, hok => by
      simp only [toAst, except_bind_ok_iff, except_pure_ok_iff] at h
      obtain ⟨c', hc, t', ht, e', he, rfl⟩ := h
      obtain ⟨ec, hec, hfc⟩ := fromAst_toAst c c' hc hok.1
      obtain ⟨et, het, hft⟩ := fromAst_toAst t t' ht hok.2.1
      obtain ⟨ee, hee, hfe⟩ := fromAst_toAst e e' he hok.2.2
      refine ⟨.ite ec et ee, ?_, by simp only [flattenNest, hfc, hft, hfe]⟩
      simp only [fromAst, hec, het, hee, bind, Except.bind, pure, Except.pure]
  | .call f as, a, h, hok => by
      simp only [toAst, except_bind_ok_iff, except_pure_ok_iff] at h
      obtain ⟨g, hg, xs, hxs, rfl⟩ := h
      obtain ⟨ef, hef, hff⟩ := fromAst_toAst f g hg hok.1
      obtain ⟨es, hes, hfl⟩ := fromAstL_toAstL as xs hxs hok.2
      refine ⟨.call ef es, ?_, by simp only [flattenNest, hff, hfl]⟩
      simp [fromAst, hef, hes, bind, Except.bind, pure, Except.pure]
  | .subscript x i, a, h, hok => by
      simp only [toAst, except_bind_ok_iff, except_pure_ok_iff] at h
      obtain ⟨x', hx, i', hi, rfl⟩ := h
      obtain ⟨ex, hex, hfx⟩ := fromAst_toAst x x' hx hok.1
      obtain ⟨ei, hei, hfi⟩ := fromAst_toAst i i' hi hok.2
      refine ⟨.subscript ex ei, ?_, by simp only [flattenNest, hfx, hfi]⟩
      rw [fromAst_subscript_of_ok hei]
      simp only [hex, hei, bind, Except.bind, pure, Except.pure]
  | .lookup x n, a, h, hok => by
      simp only [toAst, except_bind_ok_iff, except_pure_ok_iff] at h
      obtain ⟨x', hx, rfl⟩ := h
      obtain ⟨ex, hex, hfx⟩ := fromAst_toAst x x' hx hok
      refine ⟨.lookup ex n, ?_, by simp only [flattenNest, hfx]⟩
      simp only [fromAst, hex, bind, Except.bind, pure, Except.pure]
  | .tuple cs, a, h, hok => by
      simp only [toAst, except_bind_ok_iff, except_pure_ok_iff] at h
      obtain ⟨xs, hxs, rfl⟩ := h
      obtain ⟨es, hes, hfl⟩ := fromAstL_toAstL cs xs hxs hok
      refine ⟨.tuple es, ?_, by simp only [flattenNest, hfl]⟩
      simp only [fromAst, hes, bind, Except.bind, pure, Except.pure]
  | .const (.flt ..), _, _, hok | .const (.str _), _, _, hok | .const .none, _, _, hok
  | .cmp .., _, _, hok | .callKw .., _, _, hok | .cse .., _, _, hok | .subst .., _, _, hok
  | .deriv .., _, _, hok | .slice _, _, _, hok | .list _, _, _, hok | .nan, _, _, hok
  | .wildcard, _, _, hok | .dotWild _, _, _, hok | .starWild _, _, _, hok
  | .funcSym, _, _, hok => by simp [RtOk] at hok
theorem fromAstL_toAstL : ∀ (cs : List Expr) (xs : List PyAst), toAstL cs = .ok xs → RtOkL cs →
    ∃ es, fromAstL xs = .ok es ∧ flattenNestL es = flattenNestL cs
  | [], xs, h, _ => by
      simp only [toAstL, except_pure_ok_iff] at h
      subst h
      exact ⟨[], rfl, rfl⟩
  | c :: cs, xs, h, hok => by
      simp only [toAstL, except_bind_ok_iff, except_pure_ok_iff] at h
      obtain ⟨x, hx, xs', hxs, rfl⟩ := h
      obtain ⟨e, he, hfe⟩ := fromAst_toAst c x hx hok.1
      obtain ⟨es, hes, hfl⟩ := fromAstL_toAstL cs xs' hxs hok.2
      refine ⟨e :: es, ?_, by simp only [flattenNestL, hfe, hfl]⟩
      simp only [fromAstL, he, hes, bind, Except.bind, pure, Except.pure]
end

/-! ## `compile`: argument order and pickling -/

/-- **Argument order, for any number of variables.**  The argument list is the listed variables
followed by a tail that (a) is sorted by name, (b) consists exactly of the used variables that are
neither listed nor context names (`math`, `numpy`), and (c) is strictly increasing — no argument
twice — when the dependency set has no duplicates (which `deps` guarantees: `compile_args`). -/
theorem arg_order_spec (listed : List String) (used : List Expr) :
    ∃ tail, argOrder listed used = listed ++ tail ∧ StrSorted tail ∧
      (∀ x, x ∈ tail ↔ (Expr.var x ∈ used ∧ x ∉ listed ∧ x ∉ contextNames)) ∧
      (PyNodup used → tail.Pairwise (· < ·)) := by
  refine ⟨_, rfl, sortStrings_sorted _, ?_, ?_⟩
  · intro x
    rw [mem_sortStrings, List.mem_filter, mem_varNames]
    simp
  · intro hn
    exact sortStrings_strict ((varNames_nodup hn).filter _)

/-- the listed variables come first, in the order given -/
theorem arg_order_listed_first (listed : List String) (used : List Expr) :
    (argOrder listed used).take listed.length = listed := by
  simp [argOrder]

/-- **The order does not depend on how the dependency set happens to be iterated** (Python sets
have no order): any permutation of the set gives the same argument list. -/
theorem arg_order_perm (listed : List String) {used used' : List Expr} (h : used.Perm used') :
    argOrder listed used = argOrder listed used' := by
  unfold argOrder
  rw [sortStrings_perm_eq ((varNames_perm h).filter _)]

/-- what a successful `_compile` consists of -/
theorem compileModel_ok {S : PrintPrec} {e : Expr} {listed : List String} {c : Compiled}
    (h : compileModel S e listed = .ok c) :
    ∃ used s, deps compileDepFlags e = .ok used ∧ compileStr S e = .ok s ∧
      c = { expr := e, vars := listed, args := argOrder listed used, src := s } := by
  unfold compileModel at h
  split at h
  · cases h
  · split at h
    · cases h
    · rename_i used hused _ s hs
      exact ⟨used, s, hused, hs, (Except.ok.inj h).symm⟩

/-- What `_compile` stores and passes to `eval`: the expression, the listed variables, and an
argument list `listed ++ tail` whose tail is strictly increasing and is exactly the set of
variables occurring in the expression that are neither listed nor context names. -/
theorem compile_args (S : PrintPrec) (e : Expr) (listed : List String) (c : Compiled)
    (h : compileModel S e listed = .ok c) :
    c.expr = e ∧ c.vars = listed ∧ ∃ tail, c.args = listed ++ tail ∧ tail.Pairwise (· < ·) ∧
      ∀ x, x ∈ tail ↔ (x ∈ C09.fv e ∧ x ∉ listed ∧ x ∉ contextNames) := by
  obtain ⟨used, s, hused, _, rfl⟩ := compileModel_ok h
  refine ⟨rfl, rfl, ?_⟩
  obtain ⟨tail, htail, _, hmem, hstrict⟩ := arg_order_spec listed used
  refine ⟨tail, htail, hstrict (deps_pyNodup _ e used hused), ?_⟩
  intro x
  rw [hmem x, (C09.deps_off_eq_fv e used hused).2 x]

/-- **Pickling.**  The pickled state is `(expression, variables)` and `__setstate__` compiles it
again: the unpickled object has the same argument list and the same source. -/
theorem pickle_same (S : PrintPrec) (e : Expr) (listed : List String) (c : Compiled)
    (h : compileModel S e listed = .ok c) : setstate S c.getstate = .ok c := by
  obtain ⟨he, hv, _⟩ := compile_args S e listed c h
  simp only [setstate, Compiled.getstate, he, hv, h]

/-- the parameterised printer `strG` with the stringifier's own constant printer and the base
class's handling of common subexpressions (`bare = false`) is the C06 stringifier `strE` -/
theorem compile_printer_is_stringifier (S : PrintPrec) (e : Expr) (enc : Nat) :
    strG S (constPieces S) false e enc = strE S e enc := strG_eq_strE S e enc

/-- … and since the repair of `CompileMapper.map_constant` (`repr` + the base class's sign
parenthesisation) its constant printer is the stringifier's too: with the base class's handler
for common subexpressions, `CompileMapper.rec` IS `StringifyMapper.rec` on the modelled fragment -/
theorem compile_printer_is_stringifier_repaired (S : PrintPrec) (e : Expr) (enc : Nat) :
    strG S (constPiecesRepr S) false e enc = strE S e enc := by
  rw [constPiecesRepr_eq]; exact strG_eq_strE S e enc

/-- **`CompileMapper` prints a tree as the stringifier prints the tree WITHOUT its
`CommonSubexpression` wrappers** (`map_common_subexpression`: the child at the enclosing
precedence) — on `cseShapeOk`: no wrapper stands around a tuple index or around a `None` slice
part, the two places where the base class still looks at the node TYPE of a child.  (The third
such place, a product / division operand whose parent forces parentheses, needs no hypothesis:
`rec_with_force_parens_around` of `CompileMapper` looks through the wrappers, `forceWrapG_strip`;
`compile_cse_forced_parens_ok` is such a tree inside the fragment.) -/
theorem compile_printer_strips_cse (S : PrintPrec) (e : Expr) (enc : Nat)
    (h : cseShapeOk e = true) :
    strG S (constPiecesRepr S) true e enc = strE S (stripCse e) enc := by
  rw [strG_bare_eq S _ e enc h]
  exact compile_printer_is_stringifier_repaired S (stripCse e) enc

/-- on a tree without wrappers the compile printer is the stringifier -/
theorem compile_printer_is_stringifier_cse_free (S : PrintPrec) (e : Expr) (enc : Nat)
    (h : cseShapeOk e = true) (hfree : stripCse e = e) :
    strG S (constPiecesRepr S) true e enc = strE S e enc := by
  rw [compile_printer_strips_cse S e enc h, hfree]

/-- **a wrapper means its child**: the wrapper-free tree has the value (or error) of the tree,
in every environment -/
theorem strip_cse_value (env : Env) (e : Expr) : den env (stripCse e) = den env e :=
  den_stripCse env e


/-! ## The compiled SOURCE under Python's grammar

`compile` hands CPython a TEXT.  The parser model of C06/C07 is generic in its precedence table;
run with `pythonPrec` (PV/Model/PyPrec.lean) it groups the way Python's expression grammar does —
that is the hand-written reference of DESIGN.md §3.4, tied to CPython's `ast.parse` on every run
by the stream `py-table` (all skeletons with ≤ 2 operators, sampled / all 3-operator skeletons,
random deeper strings) EXCEPT on four shapes that the SCHEME of the parser model cannot express
whatever the numbers; they are pinned down below (`python_table_grouping`, `python_table_prefix`,
and the else-branch, read at the lowest level).  The compile printer is the stringifier
(`compile_text_is_str`); the round-trip theorem of C06, instantiated with
(`pythonPrec`, stringifier table), then says: the source text of a tree of the fragment is read
back, under the Python table, as the tree itself. -/

section source
open PV.Syntax PV.Generated

/-- Python binds every pair of binary operators the way the parser model with `pythonPrec` does,
EXCEPT (a) `*` followed by `* / // %`: the scheme reads the right operand of `*` at the level of a
sum (`a*b/c` is `a*(b/c)`; for `a*b*c` the difference disappears once products are flattened),
(b) two comparisons: the scheme nests them, Python chains them.  Both shapes never occur in a
compiled source of the fragment (divisions next to products are force-parenthesised, comparison
operands of comparisons are parenthesised) and are excluded from the `py-table` tie. -/
theorem python_table_grouping :
    (C07.groupingDeviations pythonPrec).map (fun p => (p.1.sym, p.2.sym)) =
      [("*", "*"), ("*", "/"), ("*", "//"), ("*", "%"),
       ("==", "=="), ("==", "<"), ("<", "=="), ("<", "<")] := by
  decide +kernel

/-- a prefix `-` / `~` against every binary operator: as Python (in particular `-a**b` is
`-(a**b)`).  The keyword `not` cannot be ranked by the scheme (one level for all prefix
operators): `not a o b` is read `(not a) o b` for every binary `o` but `**`, Python reads
`not (a o b)` unless `o` is `and` / `or`. -/
theorem python_table_prefix :
    (C07.prefixDeviations pythonPrec).map (fun p => (p.1.sym, p.2.sym)) =
      [("not", "+"), ("not", "-"), ("not", "*"), ("not", "/"), ("not", "//"), ("not", "%"),
       ("not", "<<"), ("not", ">>"), ("not", "&"), ("not", "|"), ("not", "^"),
       ("not", "=="), ("not", "<")] := by
  decide +kernel

theorem python_table_guards_positive : C07.guardsPositive pythonPrec = true := by decide +kernel

/-- on every other pair of binary operators the parser model with the Python table returns
Python's grouping (`C07.pyGroup`, written down from the language reference) -/
theorem python_table_agrees (o1 o2 : BinTok) (h1 : o1 ∈ C07.binToks) (h2 : o2 ∈ C07.binToks)
    (hd : (o1, o2) ∉ C07.groupingDeviations pythonPrec) (a b c : String) :
    parseTop pythonPrec 0 [.ident a, .sym o1.sym, .ident b, .sym o2.sym, .ident c] =
      match C07.pyGroup o1 o2 with
      | .right => o2.build (.var b) (.var c) >>= o1.build (.var a)
      | _ => o1.build (.var a) (.var b) >>= fun l => o2.build l (.var c) := by
  rw [C07.two_operator_grouping python_table_guards_positive]
  have hmem : (o1, o2) ∈ C07.allPairs := by
    simp only [C07.allPairs, List.mem_flatMap, List.mem_map]
    exact ⟨o1, h1, o2, h2, rfl⟩
  have : C07.parserGroup pythonPrec o1 o2 = C07.pyGroup o1 o2 := by
    by_cases hne : C07.parserGroup pythonPrec o1 o2 = C07.pyGroup o1 o2
    · exact hne
    · exact absurd (List.mem_filter.mpr ⟨hmem, by simpa using hne⟩) hd
  have hnc : C07.pyGroup o1 o2 ≠ .chain := by
    rw [← this]; unfold C07.parserGroup; split <;> simp
  unfold C07.parserGroup at this
  split at this
  · rw [← this]; simp [*]
  · revert hnc
    rw [← this]; simp [*]

/-- the same for a prefix `-` / `~` (every binary operator) and for `not` before `**`, `and`,
`or` -/
theorem python_table_prefix_agrees (p : PreTok) (o : BinTok) (ho : o ∈ C07.binToks)
    (hd : (p, o) ∉ C07.prefixDeviations pythonPrec) (a b : String) :
    parseTop pythonPrec 0 [.sym p.sym, .ident a, .sym o.sym, .ident b] =
      if C07.pyPrefixWide p o then o.build (.var a) (.var b) >>= p.build
      else p.build (.var a) >>= fun l => o.build l (.var b) := by
  rw [C07.prefix_operator_grouping python_table_guards_positive]
  have hmem : (p, o) ∈ [PreTok.neg, .bnot, .lnot].flatMap fun p => C07.binToks.map fun o => (p, o) := by
    simp only [List.mem_flatMap, List.mem_map]
    exact ⟨p, by cases p <;> simp, o, ho, rfl⟩
  have : C07.absorbsPre pythonPrec o = C07.pyPrefixWide p o := by
    by_cases hne : C07.absorbsPre pythonPrec o = C07.pyPrefixWide p o
    · exact hne
    · exact absurd (List.mem_filter.mpr ⟨hmem, by simpa using hne⟩) hd
  rw [this]

example : parseTop pythonPrec 0 [.sym "-", .ident "a", .sym "**", .ident "b"]
    = .ok (.nary .prod [.const (.int (-1)), .bin .pow (.var "a") (.var "b")]) := by decide +kernel
example : parseTop pythonPrec 0 [.ident "a", .sym "&", .ident "b", .sym "==", .ident "c"]
    = .ok (.cmp .eq (.nary .band [.var "a", .var "b"]) (.var "c")) := by decide +kernel
example : parseTop pythonPrec 0 [.ident "a", .sym "|", .ident "b", .sym "^", .ident "c"]
    = .ok (.nary .bor [.var "a", .nary .bxor [.var "b", .var "c"]]) := by decide +kernel

/-- **The compiled source IS the stringifier's text of the wrapper-free tree** (since the
repairs of `CompileMapper.map_constant` and `map_common_subexpression`). -/
theorem compile_text_is_str (S : PrintPrec) (e : Expr) (h : cseShapeOk e = true) :
    compilePieces S e = strTop S (stripCse e) :=
  compile_printer_strips_cse S e S.none h

/-- **The compiled source groups the way the tree does, for ANY parser table and printer table**:
the round-trip theorem of C06 applied to the compiled source.  Let no wrapper of `e` stand where
the base class looks at a child's node type (`cseShapeOk`) and let the wrapper-free tree
`stripCse e` be in the C06 fragment `InFragment P S`.  Then the compiled source exists, its token
list is parsed — completely, with the fuel `parseTop` really uses — to the parser's normal form
`pnf (stripCse e)`, which is `stripCse e` once nested sums and products are flattened and which
prints to the same source; and `stripCse e` has the value of `e` in every environment. -/
theorem compile_source_groups_partial {P : ParserPrec} {S : PrintPrec} {e : Expr}
    (hs : cseShapeOk e = true) (h : InFragment P S (stripCse e) = true) :
    ∃ ps, compilePieces S e = .ok ps ∧ parseTop P 0 (toks ps) = .ok (pnf (stripCse e)) ∧
      flattenAssoc (pnf (stripCse e)) = flattenAssoc (stripCse e) ∧
      strTop S (pnf (stripCse e)) = .ok ps ∧ ∀ env, den env (stripCse e) = den env e := by
  obtain ⟨ps, hps⟩ := C06.print_total h
  have hp := C06.roundtrip_normal_form h hps
  simp only [InFragment, Bool.and_eq_true] at h
  refine ⟨ps, by rw [compile_text_is_str S e hs]; exact hps, hp, flatten_pnf h.1, ?_,
    fun env => den_stripCse env e⟩
  rw [← hps]
  exact str_pnf h.1 S.none

/-- the compiler's printer does not see the nesting of sums and products (nor the wrappers) -/
theorem compile_flatten_invariant (S : PrintPrec) {e : Expr} (hs : cseShapeOk e = true)
    (h : nonemptyNary (stripCse e) = true) :
    strTop S (flattenAssoc (stripCse e)) = compilePieces S e := by
  rw [compile_text_is_str S e hs]
  exact C06.str_flatten_invariant S h

/-- the same with sums and products nested in any way (the local conditions are checked on the
flattened wrapper-free tree) -/
theorem compile_source_groups_flat_partial {P : ParserPrec} {S : PrintPrec} {e : Expr}
    (hs : cseShapeOk e = true) (h : InFragmentFlat P S (stripCse e) = true) :
    ∃ ps e', compilePieces S e = .ok ps ∧ parseTop P 0 (toks ps) = .ok e' ∧
      flattenAssoc e' = flattenAssoc (stripCse e) ∧ ∀ env, den env (stripCse e) = den env e := by
  have h' := h
  simp only [InFragmentFlat, Bool.and_eq_true] at h'
  obtain ⟨ps, hps⟩ := C06.print_total h'.2
  rw [C06.str_flatten_invariant S h'.1] at hps
  obtain ⟨e', hp, hf, _⟩ := C06.roundtrip_flat_partial h hps
  exact ⟨ps, e', by rw [compile_text_is_str S e hs]; exact hps, hp, hf,
    fun env => den_stripCse env e⟩

/-- what `compile` stores as the body of the lambda is the rendering of `compilePieces` -/
theorem compile_src_is_render {S : PrintPrec} {e : Expr} {listed : List String} {c : Compiled}
    {ps : Pieces} (hc : compileModel S e listed = .ok c) (hps : compilePieces S e = .ok ps) :
    c.src = render ps ∧
      c.lambdaSrc = "lambda " ++ ",".intercalate c.args ++ ": " ++ render ps := by
  obtain ⟨used, s, _, hs, rfl⟩ := compileModel_ok hc
  simp only [compileStr, hps, Except.map, Except.ok.injEq] at hs
  exact ⟨hs.symm, by simp only [Compiled.lambdaSrc, hs]⟩

/-- **C13 for the source text of the current code.**  Let `e` be in the fragment `InFragmentPy`
computed from the Python table and the REGENERATED stringifier table (covered node shapes, C06's
condition `okTriple` at every child of the wrapper-free tree, and every `not` operand
parenthesised or where Python's grammar admits it: `notOk`), and let `compile(e, listed)`
succeed.  Then the body of the lambda handed to `eval` is the rendering of a piece list whose
tokens the parser model with the Python table reads — all of them — as a tree that is `e` without
its `CommonSubexpression` wrappers, once nested sums and products are flattened, and that tree
has the value of `e` in every environment: executing the source evaluates a tree that means what
the evaluator's tree means.  (The `not` condition is not used by the proof: it delimits the texts
on which the parser model with the Python table is tied to CPython.  `gOk` / `gBadPairs` below are
the same two conditions as a finite table over (position, child class); no theorem links the
table to `InFragmentPy`, it is what `source_bad_pairs_current` enumerates.) -/
theorem compile_source_groups_current {e : Expr} {listed : List String} {c : Compiled}
    (h : InFragmentPy pythonPrec printPrec e = true)
    (hc : compileModel printPrec e listed = .ok c) :
    ∃ ps e', compilePieces printPrec e = .ok ps ∧ c.src = render ps ∧
      c.lambdaSrc = "lambda " ++ ",".intercalate c.args ++ ": " ++ render ps ∧
      parseTop pythonPrec 0 (toks ps) = .ok e' ∧ flattenAssoc e' = flattenAssoc (stripCse e) ∧
      ∀ env, den env (stripCse e) = den env e := by
  simp only [InFragmentPy, Bool.and_eq_true] at h
  obtain ⟨ps, hps, hparse, hflat, _, hden⟩ := compile_source_groups_partial h.1.1 h.1.2
  obtain ⟨h1, h2⟩ := compile_src_is_render hc hps
  exact ⟨ps, pnf (stripCse e), hps, h1, h2, hparse, hflat, hden⟩

/-- the same for trees whose sums and products are nested in any way -/
theorem compile_source_groups_flat_current {e : Expr} {listed : List String} {c : Compiled}
    (h : InFragmentPyFlat pythonPrec printPrec e = true)
    (hc : compileModel printPrec e listed = .ok c) :
    ∃ ps e', compilePieces printPrec e = .ok ps ∧ c.src = render ps ∧
      parseTop pythonPrec 0 (toks ps) = .ok e' ∧ flattenAssoc e' = flattenAssoc (stripCse e) ∧
      ∀ env, den env (stripCse e) = den env e := by
  simp only [InFragmentPyFlat, Bool.and_eq_true] at h
  obtain ⟨ps, e', hps, hparse, hflat, hden⟩ := compile_source_groups_flat_partial h.1.1 h.1.2
  exact ⟨ps, e', hps, (compile_src_is_render hc hps).1, hparse, hflat, hden⟩

/-- **Which (position, child class) pairs fail the local condition of C13** for the Python table
and the regenerated stringifier table — exactly these 40:
* GENUINE DEFECTS (known findings `compile:<Parent>>LogicalNot`, 12 parent classes): an
  unparenthesised `not …` as an operand of `+ * / // % << >> & ^ |`, of a comparison, or of `~`
  (the printer ranks `not` with the unary operators; Python reads `not a == b` as
  `not (a == b)` and rejects `a * not b`);
* not in the list: a negative constant as the base of a power or as a callee passes the
  condition (`neg_const_pairs_ok`) since the repair of `CompileMapper.map_constant` (findings
  `compile:Power>negative-int`, `compile:Power>negative-float`);
* NO DEFECT, the reparsed tree is nested differently but has the same value: a product as a
  non-last operand of a product / a sum as a non-first operand of a sum (equal once flattened;
  `compile_source_groups_flat_current`); a `& ^ | and or` node as the RIGHT operand of the same
  operator (`a & (b & c)` prints `a & b & c`, Python nests to the left: associative);
* NO DEFECT, an artefact of the local condition: a power under `~` / `not` (`~a**b`: read
  correctly by Python and by the parser model; the condition does not see that nothing can follow
  that a loop at the level of `*` would absorb);
* NO DEFECT in `compile`, a limit of the parser SCHEME (the else-branch is read at the lowest
  level): a conditional as an argument, element or slice part — Python reads
  `f(x if c else y, z)` correctly;
* shapes outside the value property (tuple as a non-tuple index, slice inside a slice). -/
theorem source_bad_pairs_current : gBadPairs pythonPrec printPrec =
    [(.std (.left .plus), .un .lnot),
     (.std (.left .times), .nary .prod), (.std (.left .times), .un .lnot),
     (.std (.left .quot), .un .lnot), (.std (.left .floordiv), .un .lnot),
     (.std (.left .rem), .un .lnot),
     (.std (.left .lshift), .un .lnot), (.std (.left .rshift), .un .lnot),
     (.std (.left .band), .un .lnot), (.std (.left .bxor), .un .lnot),
     (.std (.left .bor), .un .lnot), (.std (.left (.cmp .eq)), .un .lnot),
     (.std (.right .plus), .nary .sum), (.std (.right .plus), .un .lnot),
     (.std (.right .times), .un .lnot), (.std (.right .quot), .un .lnot),
     (.std (.right .floordiv), .un .lnot), (.std (.right .rem), .un .lnot),
     (.std (.right .lshift), .un .lnot), (.std (.right .rshift), .un .lnot),
     (.std (.right .band), .nary .band), (.std (.right .band), .un .lnot),
     (.std (.right .bxor), .nary .bxor), (.std (.right .bxor), .un .lnot),
     (.std (.right .bor), .nary .bor), (.std (.right .bor), .un .lnot),
     (.std (.right .land), .nary .land), (.std (.right .lor), .nary .lor),
     (.std (.right (.cmp .eq)), .un .lnot),
     (.std .unArg, .bin .pow), (.std .unArg, .un .lnot),
     (.std .arg, .ite), (.std .index, .tuple), (.std .elemFirst, .ite), (.std .elemRest, .ite),
     (.std .slicePart, .ite), (.std .slicePart, .slice), (.std .sliceLast, .ite),
     (.std .sliceLast, .slice),
     (.notArg, .bin .pow)] := by
  decide +kernel

private abbrev sa : Expr := .var "a"
private abbrev sb : Expr := .var "b"
private abbrev sz : Expr := .var "z"

/-- a tree of the fragment using every covered operator, with negative constants in loose and
in tight positions (`(-1)*a`, `b**(-2)`: parenthesised like `str` does) -/
def sourceSample : Expr :=
  .ite (.nary .lor [.un .lnot (.cmp .lt sa (.const (.int (-1)))), .nary .band [sa, sb]])
    (.nary .sum [.bin .quot (.nary .prod [.const (.int (-1)), sa, .bin .pow sb (.const (.int (-2)))])
        (.nary .sum [sa, .const (.int (-3))]),
      .bin .floordiv sa sb])
    (.bin .lshift (.un .bnot (.call (.var "f") [sa, .nary .bxor [sb, sz]])) (.const (.int 1)))

example : InFragmentPy pythonPrec printPrec sourceSample = true := by decide +kernel
example : (compilePieces printPrec sourceSample).map render
    = .ok ("((-1)*a*b**(-2)) / (a + -3) + a // b if not (a < -1) or a & b else ~f(a, b ^ z) << 1") := by
  decide +kernel

/-- **every position admits a signed constant** (the repaired printer parenthesises it exactly
where the context binds tighter than a sum): the local condition holds for the classes `neg` and
`sfloat` at ALL positions — in particular (base of a power, negative constant), the former
finding `compile:Power>negative-int` -/
theorem neg_const_pairs_ok (g : GPos) (hg : g ∈ allGPos) :
    gOk pythonPrec printPrec g .neg = true ∧ gOk pythonPrec printPrec g .sfloat = true := by
  revert g; decide +kernel

/-- the repaired source of `compile(Power(-2, a))` is `(-2)**a`; the tree is in the fragment and
the Python table reads the source as the tree -/
theorem compile_neg_base_source_ok :
    InFragmentPy pythonPrec printPrec (.bin .pow (.const (.int (-2))) sa) = true ∧
    (compilePieces printPrec (.bin .pow (.const (.int (-2))) sa)).map render = .ok "(-2)**a" ∧
    ∃ ps, compilePieces printPrec (.bin .pow (.const (.int (-2))) sa) = .ok ps ∧
      parseTop pythonPrec 0 (toks ps) = .ok (.bin .pow (.const (.int (-2))) sa) :=
  ⟨by decide +kernel, by decide +kernel, _, rfl, by decide +kernel⟩

/-- WHAT THE DEFECT WAS (the printer before the repair: `repr(c)`, never parenthesised —
`constPiecesReprBare`): `compile(Power(-2, a))` had the source `-2**a`, which the Python table
(like Python) reads as `-(2**a)` -/
theorem compile_neg_base_source_cex :
    ∃ ps e', strG printPrec constPiecesReprBare false (.bin .pow (.const (.int (-2))) sa) printPrec.none
        = .ok ps ∧
      render ps = "-2**a" ∧
      parseTop pythonPrec 0 (toks ps) = .ok e' ∧
      e' = .nary .prod [.const (.int (-1)), .bin .pow (.const (.int 2)) sa] ∧
      flattenAssoc e' ≠ flattenAssoc (.bin .pow (.const (.int (-2))) sa) :=
  ⟨_, _, rfl, by decide +kernel, by decide +kernel, rfl, by decide +kernel⟩

/-- negative constants in tight positions are inside the fragment: `a**(-2)`, `(-1)*a`,
`a / (-2)`, `~(-2)` -/
example : InFragmentPy pythonPrec printPrec
    (.nary .prod [.const (.int (-1)), .bin .quot (.bin .pow sa (.const (.int (-2)))) (.const (.int (-2))),
      .un .bnot (.const (.int (-2)))]) = true := by decide +kernel

/-- wrappers (with and without prefix, nested) are inside the fragment where the base class does
not look at the child's node type: `CSE(a + b)*c` has the source `(a + b)*c` -/
example : InFragmentPy pythonPrec printPrec
    (.nary .prod [.cse (.cse (.nary .sum [sa, sb]) (some "t") "e") none "e", .cse sz none "e"]) = true ∧
    (compilePieces printPrec
      (.nary .prod [.cse (.cse (.nary .sum [sa, sb]) (some "t") "e") none "e", .cse sz none "e"])).map render
      = .ok "(a + b)*z" := ⟨by decide +kernel, by decide +kernel⟩

/-- the forced parentheses look through wrappers (`CompileMapper.rec_with_force_parens_around`):
`compile(Quotient(z, CommonSubexpression(Product((a, b)))))` has the source `z / (a*b)` and is in
the fragment.  (Printing the child bare would give `z / a*b` — Python: `(z / a)*b`, 18 instead of
2 at a = 2, b = 3, z = 12: this is why the override has to look through the wrappers.) -/
theorem compile_cse_forced_parens_ok :
    InFragmentPy pythonPrec printPrec (.bin .quot sz (.cse (.nary .prod [sa, sb]) none "e")) = true ∧
    (compilePieces printPrec (.bin .quot sz (.cse (.nary .prod [sa, sb]) none "e"))).map render
      = .ok "z / (a*b)" ∧
    (compilePieces printPrec (.nary .prod [sz, .cse (.cse (.bin .floordiv sa sb) (some "t") "e") none "e"])).map
      render = .ok "z*(a // b)" :=
  ⟨by decide +kernel, by decide +kernel, by decide +kernel⟩

/-- the two shapes `cseShapeOk` excludes: a wrapper around a tuple index prints `a[(b, z)]`
(the stringifier's text of the wrapper-free tree is `a[b, z]`: the same Python value, the same
parse), a wrapper around `None` in a slice is a foreign object -/
theorem compile_cse_index_tuple_witness :
    cseShapeOk (.subscript sa (.cse (.tuple [sb, sz]) none "e")) = false ∧
    (compilePieces printPrec (.subscript sa (.cse (.tuple [sb, sz]) none "e"))).map render
      = .ok "a[(b, z)]" ∧
    (strTop printPrec (stripCse (.subscript sa (.cse (.tuple [sb, sz]) none "e")))).map render
      = .ok "a[b, z]" ∧
    ∃ ps, compilePieces printPrec (.subscript sa (.cse (.tuple [sb, sz]) none "e")) = .ok ps ∧
      parseTop pythonPrec 0 (toks ps) = .ok (.subscript sa (.tuple [sb, sz])) :=
  ⟨by decide +kernel, by decide +kernel, by decide +kernel, _, rfl, by decide +kernel⟩

/-- the `not` condition is needed for the tie to Python, not for the parser model: the scheme
reads `not a == b` as `(not a) == b` (one level for all prefix operators), Python as
`not (a == b)`; `notOk` excludes the tree -/
theorem compile_not_scheme_cex :
    InFragment pythonPrec printPrec (.cmp .eq (.un .lnot sa) sb) = true ∧
    notOk pythonPrec printPrec (.cmp .eq (.un .lnot sa) sb) = false ∧
    parseTop pythonPrec 0 [.sym "not", .ident "a", .sym "==", .ident "b"]
      = .ok (.cmp .eq (.un .lnot sa) sb) :=
  ⟨by decide +kernel, by decide +kernel, by decide +kernel⟩

/-- where Python admits `not`: operands of `and` / `or`, parts of a conditional, arguments, the
operand of another `not` -/
example : notOk pythonPrec printPrec
    (.ite (.un .lnot sa) (.nary .land [.un .lnot sa, .un .lnot (.un .lnot sb)])
      (.call (.var "f") [.un .lnot sa])) = true := by decide +kernel

end source

/-! ## The mapper's memo table is transparent -/

section
variable {U : Expr → Prop}

mutual
theorem astNode_sim (hU : Universe U) : ∀ e, U e → SimA U (toAstNode e) (toAst e)
  | .const c, _ => by simp only [toAstNode, toAst]; exact SimA.lift _
  | .var x, _ => by simp only [toAstNode, toAst]; exact SimA.pure _
  | .nary .min _, _ | .nary .max _, _ | .cmp .., _ | .nan, _ | .cse .., _ | .subst .., _
  | .deriv .., _ | .wildcard, _ | .dotWild _, _ | .starWild _, _ | .funcSym, _ => by
      simp only [toAstNode, toAst]; exact SimA.throw _
  | .nary .lor cs, h | .nary .land cs, h | .tuple cs, h | .list cs, h => by
      simp only [toAstNode, toAst]
      exact SimA.bind (astList_sim hU cs (hU.closed _ h)) fun xs => SimA.pure _
  | .nary .sum cs, h | .nary .prod cs, h | .nary .bor cs, h | .nary .bxor cs, h
  | .nary .band cs, h | .slice cs, h => by
      simp only [toAstNode, toAst]
      exact SimA.bind (astList_sim hU cs (hU.closed _ h)) fun xs => SimA.lift _
  | .un .bnot a, h | .un .lnot a, h | .lookup a _, h => by
      have ha : U a := hU.closed _ h a (by simp [Expr.children])
      simp only [toAstNode, toAst]
      exact SimA.bind (SimA.memo hU ha (astNode_sim hU a ha)) fun x => SimA.pure _
  | .bin _ a b, h | .subscript a b, h => by
      have ha : U a := hU.closed _ h a (by simp [Expr.children])
      have hb : U b := hU.closed _ h b (by simp [Expr.children])
      simp only [toAstNode, toAst]
      exact SimA.bind (SimA.memo hU ha (astNode_sim hU a ha)) fun x =>
        SimA.bind (SimA.memo hU hb (astNode_sim hU b hb)) fun y => SimA.pure _
  | .ite c t e, h => by
      have hc : U c := hU.closed _ h c (by simp [Expr.children])
      have ht : U t := hU.closed _ h t (by simp [Expr.children])
      have he : U e := hU.closed _ h e (by simp [Expr.children])
      simp only [toAstNode, toAst]
      exact SimA.bind (SimA.memo hU hc (astNode_sim hU c hc)) fun x =>
        SimA.bind (SimA.memo hU ht (astNode_sim hU t ht)) fun y =>
          SimA.bind (SimA.memo hU he (astNode_sim hU e he)) fun z => SimA.pure _
  | .call f as, h => by
      have hf : U f := hU.closed _ h f (by simp [Expr.children])
      have has : ∀ c ∈ as, U c := fun c hc => hU.closed _ h c (by simp [Expr.children, hc])
      simp only [toAstNode, toAst]
      exact SimA.bind (SimA.memo hU hf (astNode_sim hU f hf)) fun g =>
        SimA.bind (astList_sim hU as has) fun xs => SimA.pure _
  | .callKw f as ns vs, h => by
      have hf : U f := hU.closed _ h f (by simp [Expr.children])
      have has : ∀ c ∈ as, U c := fun c hc => hU.closed _ h c (by simp [Expr.children, hc])
      have hvs : ∀ c ∈ vs, U c := fun c hc => hU.closed _ h c (by simp [Expr.children, hc])
      simp only [toAstNode, toAst]
      exact SimA.bind (SimA.memo hU hf (astNode_sim hU f hf)) fun g =>
        SimA.bind (astList_sim hU as has) fun xs =>
          SimA.bind (SimA.mapIdx (fun i => astNth_sim hU vs hvs i) _) fun ys => SimA.pure _
theorem astList_sim (hU : Universe U) : ∀ cs : List Expr, (∀ c ∈ cs, U c) →
    SimA U (toAstCL cs) (toAstL cs)
  | [], _ => by simp only [toAstCL, toAstL]; exact SimA.pure _
  | c :: cs, h => by
      have hc : U c := h c (by simp)
      simp only [toAstCL, toAstL]
      exact SimA.bind (SimA.memo hU hc (astNode_sim hU c hc)) fun x =>
        SimA.bind (astList_sim hU cs fun d hd => h d (by simp [hd])) fun xs => SimA.pure _
theorem astNth_sim (hU : Universe U) : ∀ cs : List Expr, (∀ c ∈ cs, U c) → ∀ i : Nat,
    SimA U (toAstCNth cs i) (toAstNth cs i)
  | [], _, _ => by simp only [toAstCNth, toAstNth]; exact SimA.throw _
  | c :: _, h, 0 => by
      have hc : U c := h c (by simp)
      simp only [toAstCNth, toAstNth]
      exact SimA.memo hU hc (astNode_sim hU c hc)
  | _ :: cs, h, i + 1 => by
      simp only [toAstCNth, toAstNth]
      exact astNth_sim hU cs (fun d hd => h d (by simp [hd])) i
end

/-- **`to_python_ast` as coded (a `CachedMapper`) computes the memo-free mapping** — same AST, same
refusal — on every set of expressions closed under children on which Python `==` is structural
identity and which contains no Python list (`Universe`, as for the caching evaluator of C02).
Outside such a universe the memo table aliases `==`-equal subterms (`toAstC_alias_witness`). -/
theorem toAstC_eq_toAst (hU : Universe U) (e : Expr) (he : U e) : toAstC e = toAst e := by
  have h := SimA.memo hU he (astNode_sim hU e he) [] (fun _ _ hm => by simp at hm)
  unfold toAstC
  cases hm : withAstCache e (toAstNode e) [] with
  | error err => rw [hm] at h; simp only [h]
  | ok p =>
    obtain ⟨r, s⟩ := p
    rw [hm] at h
    simp only [h.1]

/-- instance: expressions without bool / float constants, keyword calls and lists -/
theorem toAstC_eq_toAst_simple (e : Expr) (he : e.simple = true) : toAstC e = toAst e :=
  toAstC_eq_toAst universe_simple e he

end

/-! ## Witnesses: where the hypotheses are needed, and the open defects mirrored in the model -/

private def va : Expr := .var "a"
private def vb : Expr := .var "b"

/-- `compile(Power(-2, a))` has the source `(-2)**a`, like the generic stringifier and the AST
path (before the repair of `CompileMapper.map_constant` it was `-2**a`, Python: `-(2**a)`) -/
theorem compile_neg_base_witness :
    compilePieces Generated.printPrec (.bin .pow (.const (.int (-2))) va)
      = .ok [sy "(", sy "-", .tok (.int 2), sy ")", sy "**", .tok (.ident "a")]
    ∧ strG Generated.printPrec constPiecesReprBare false (.bin .pow (.const (.int (-2))) va)
        Generated.printPrec.none
      = .ok [sy "-", .tok (.int 2), sy "**", .tok (.ident "a")]
    ∧ strTop Generated.printPrec (.bin .pow (.const (.int (-2))) va)
      = .ok [sy "(", sy "-", .tok (.int 2), sy ")", sy "**", .tok (.ident "a")]
    ∧ toAst (.bin .pow (.const (.int (-2))) va)
      = .ok (.binop (.unop .usub (.const (.int 2))) .pow (.name "a")) := by
  refine ⟨rfl, rfl, rfl, rfl⟩

/-- `compile(Comparison(LogicalNot(a), "==", b))` has the source `not a == b`; Python reads it as
`not (a == b)` -/
theorem compile_not_source_witness :
    compilePieces Generated.printPrec (.cmp .eq (.un .lnot va) vb)
      = .ok [sy "not", .sp, .tok (.ident "a"), .sp, sy "==", .sp, .tok (.ident "b")] := rfl

/-- `and` returns an operand: without the boolean-operand hypothesis the values differ -/
theorem toAst_and_operand_cex :
    ∃ env e a, toAst e = .ok a ∧ denAst env a = .ok (.int 3) ∧ den env e = .ok (.bool true) :=
  ⟨[("a", .int 2), ("b", .int 3)], .nary .land [va, vb], _, rfl, rfl, rfl⟩

/-- a one-operand sum of a `bool`: the evaluator computes `0 + True = 1`, the AST is the operand -/
theorem toAst_single_bool_cex :
    ∃ env e a, toAst e = .ok a ∧ denAst env a = .ok (.bool true) ∧ den env e = .ok (.int 1) :=
  ⟨[("a", .bool true)], .nary .sum [va], _, rfl, rfl, rfl⟩

/-- a one-operand `or`: the AST is a `BoolOp` with a single value, which CPython rejects -/
theorem toAst_single_boolop_cex :
    ∃ env e a, toAst e = .ok a ∧ runAst env a = .error .valueError ∧ den env e = .ok (.bool true) :=
  ⟨[("a", .int 2)], .nary .lor [va], _, rfl, rfl, rfl⟩

/-- right nesting changes WHICH error is raised when an operand is not of the operator's type:
the evaluator fails at `a | b` before looking at the third operand, the AST evaluates all
operands first -/
theorem toAst_error_order_cex :
    ∃ env e a, toAst e = .ok a ∧ denAst env a = .error .zeroDiv ∧ den env e = .error .typeError :=
  ⟨[("a", .none), ("b", .int 1)],
   .nary .bor [va, vb, .bin .floordiv (.const (.int 1)) (.const (.int 0))], _, rfl, rfl, rfl⟩

/-- the memo table of the real mapper aliases `==`-equal subterms: `(1 + x, True + x)` -/
theorem toAstC_alias_witness :
    toAstC (.tuple [.nary .sum [.const (.int 1), va], .nary .sum [.const (.bool true), va]])
      = .ok (.tuple [.binop (.const (.int 1)) .add (.name "a"),
                     .binop (.const (.int 1)) .add (.name "a")])
    ∧ toAst (.tuple [.nary .sum [.const (.int 1), va], .nary .sum [.const (.bool true), va]])
      = .ok (.tuple [.binop (.const (.int 1)) .add (.name "a"),
                     .binop (.const (.bool true)) .add (.name "a")]) := ⟨rfl, rfl⟩

/-! ## Non-vacuity -/

example : AstOk [("a", .frac (1/2)), ("b", .int 3)] (.nary .sum [va, vb, .nary .prod [va, vb]]) := by
  simp only [AstOk, AstOkL, OperandsOk, ArithOperand, Value.isExactNum, va, vb, den, denFold, Env.get]
  simp [Value.num?, Value.isBoolV, NaryOp.apply, Value.mul, arith, Value.isInexact, Value.isSeq,
    mulN, pure, Except.pure, bind, Except.bind]

example : AstOk [("a", .bool true), ("b", .int 6)] (.nary .bxor [va, vb, .nary .band [va, va], vb]) := by
  simp only [AstOk, AstOkL, OperandsOk, BitOperand, va, vb, den, denReduce, denFold, Env.get]
  simp [Value.ib?, NaryOp.apply, Value.band, bitop, pure, Except.pure, bind, Except.bind]

example : RtOk (.nary .sum [va, vb, .nary .prod [va, .const (.int (-2))]]) := by
  simp [RtOk, RtOkL, NaryOp.isAssoc, va, vb]

example : (compileModel Generated.printPrec (.nary .sum [.var "z", .var "y", va]) ["y"]).map (·.args)
    = .ok ["y", "a", "z"] := by decide +kernel

/-- a variable that occurs only inside a `CommonSubexpression` wrapper is an argument like any
other (the dependency scan enters wrappers; `compile_args` speaks about the ORIGINAL tree), and
the source is that of the wrapper-free tree -/
example : (compileModel Generated.printPrec
      (.nary .sum [.cse (.var "z") none "e", va, .cse (.cse (.nary .prod [vb, .const (.int 2)]) (some "t") "e") none "e"])
      ["b"]).map (fun c => (c.args, c.src))
    = .ok (["b", "a", "z"], "z + a + b*2") := by decide +kernel

end PV.C13
