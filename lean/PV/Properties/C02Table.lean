import PV.Properties.C02
import PV.Proofs.EvalTable
import PV.Generated.Evaluator
/-
  C02 — T-gen tie of the evaluator model to the source.

  `PV.Generated.c02EvalTable` is rewritten on every run by `extract/evaluator.py` from the source
  text of the working tree: for every node class the handler the dispatch reaches, and for every
  handler its body in the handler language of PV/Model/EvalTable.lean (operator, attribute on each
  side, fold operator and start value, lazily evaluated branches, order of callee / arguments /
  keyword arguments, the CSE dictionary, the comparison table, the memo protocol of
  `CachedMapper.__call__`, …).

  `c02EvalT T` RUNS a table: it knows no handler, only the language.  The theorems below prove that
  the hand-written model `evalNode` / `evalG` / `runHist` (PV/Model/Eval.lean) — the one the driver
  executes and the theorems of PV/Properties/C02.lean are about — IS the interpreter applied to the
  regenerated table, for all expressions, environments, evaluator states and both mapper classes.
  Hence the C02 theorems restated at the end speak about what the current source text says.  An
  edit of a handler that changes its table entry (operand order of `map_floor_div`, `or_` ↦ `xor`,
  both branches of `map_if` evaluated, a fold's start value, a dropped cache store, …) makes the
  corresponding case below fail to check.
-/
namespace PV.C02
open PV

/-- the table regenerated from the working tree -/
abbrev tableCurrent : C02EvalTable := Generated.c02EvalTable

/-- the key the current source builds — `type(expr)` and `expr`, both present — is compared like the
model's memo key -/
theorem keyEq_current : c02KeyEq tableCurrent.memo = Expr.keyEq := rfl

/-- **The memo protocol read from `CachedMapper.__call__` / `get_cache_key` is the modelled one**:
the plain mapper's `rec` is `Mapper.__call__` (no memo); the cached mapper's is
`CachedMapper.__call__`: key `(type(expr), expr, …)` (hashing it raises on lists), looked up before
dispatch, result stored after the handler and after the fallback, nothing stored on exceptions. -/
theorem withMemo_eq_table_current (cached : Bool) (e : Expr) (k : EvM Value) :
    withMemo cached e k = c02WithMemo tableCurrent cached e k := by
  have h : c02MemoActive tableCurrent cached = cached := by cases cached <;> decide +kernel
  funext s
  simp only [withMemo, c02WithMemo, h, keyEq_current]
  cases cached
  · rfl
  · -- the table stores after the node's own handler and after the fallback alike; which of the two
    -- flags is read depends on the node's class
    cases e <;> eq_refl

mutual
/-- **The hand-written handlers are the regenerated table, run.**  For every node (every
constructor, every operator), both mapper classes, every environment and — the two sides being
state transformers — every evaluator state: `evalNode` equals the table interpreter on the table of
the current tree.  Case analysis on the constructor; in each case the right-hand side is computed
from the table entry alone (dispatch: class ↦ handler; handler ↦ body; body run on the node's
attributes), so operator, operand order, start values, laziness and cache behaviour are all read
from the table. -/
theorem evalNode_eq_table_current (cached : Bool) (env : Env) :
    ∀ e, evalNode cached env e = c02EvalT tableCurrent cached env e
  | .const c => by
      -- `eq_refl`, not `rfl`: the look-ups in the table compare strings, and `eq_refl` keeps what
      -- one case has reduced for the cases after it
      simp only [evalNode, c02EvalT]
      cases c <;> eq_refl
  | .var x => by simp only [evalNode, c02EvalT]; eq_refl
  | .nary o cs => by
      simp only [c02EvalT, ← runs_eq_table_current cached env cs]
      cases o <;>
        simp only [evalNode, evalFold_eq_runs, evalReduce_eq_runs, evalAny_eq_runs,
          evalAll_eq_runs, evalMinMax_eq_runs] <;> eq_refl
  | .bin o a b | .cmp o a b => by
      simp only [c02EvalT, ← withMemo_eq_table_current, ← evalNode_eq_table_current cached env a,
        ← evalNode_eq_table_current cached env b, evalNode]
      cases o <;> eq_refl
  | .un o a => by
      simp only [c02EvalT, ← withMemo_eq_table_current, ← evalNode_eq_table_current cached env a]
      cases o <;> simp only [evalNode] <;> eq_refl
  | .ite c t e => by
      simp only [c02EvalT, ← withMemo_eq_table_current, ← evalNode_eq_table_current cached env c,
        ← evalNode_eq_table_current cached env t, ← evalNode_eq_table_current cached env e,
        evalNode]
      eq_refl
  | .call f as => by
      simp only [c02EvalT, ← withMemo_eq_table_current, ← evalNode_eq_table_current cached env f,
        ← runs_eq_table_current cached env as, evalNode, evalList_eq_runs]
      eq_refl
  | .callKw f as ns vs => by
      simp only [c02EvalT, ← withMemo_eq_table_current, ← evalNode_eq_table_current cached env f,
        ← runs_eq_table_current cached env as, ← runs_eq_table_current cached env vs, evalNode,
        evalList_eq_runs]
      eq_refl
  | .subscript a i => by
      simp only [c02EvalT, ← withMemo_eq_table_current, ← evalNode_eq_table_current cached env a,
        ← evalNode_eq_table_current cached env i, evalNode]
      eq_refl
  | .lookup a _ | .cse a _ _ => by
      simp only [c02EvalT, ← withMemo_eq_table_current, ← evalNode_eq_table_current cached env a,
        evalNode]
      eq_refl
  | .subst .. | .deriv .. | .slice _ | .nan | .wildcard | .dotWild _ | .starWild _ | .funcSym => by
      simp only [c02EvalT, evalNode]
      eq_refl
  | .tuple cs | .list cs => by
      simp only [c02EvalT, ← runs_eq_table_current cached env cs, evalNode, evalList_eq_runs]
      eq_refl
/-- the suspended recursive calls on the elements of a tuple-valued attribute agree -/
theorem runs_eq_table_current (cached : Bool) (env : Env) :
    ∀ cs, c02ModelRuns cached env cs = c02RunsT tableCurrent cached env cs
  | [] => by simp only [c02ModelRuns, c02RunsT]
  | c :: cs => by
      simp only [c02ModelRuns, c02RunsT, ← withMemo_eq_table_current,
        ← evalNode_eq_table_current cached env c, runs_eq_table_current cached env cs]
end

/-- calling the mapper instance (`__call__` is `rec`): model = table, run -/
theorem evalG_eq_table_current (cached : Bool) (env : Env) (e : Expr) :
    evalG cached env e = c02EvalGT tableCurrent cached env e := by
  simp only [evalG, c02EvalGT, ← withMemo_eq_table_current, ← evalNode_eq_table_current]

/-- any history of calls on one instance, from any state: model = table, run -/
theorem runHist_eq_table_current (cached : Bool) (env : Env) :
    ∀ (es : List Expr) (s : EvState),
      runHist cached env es s = c02RunHistT tableCurrent cached env es s
  | [], _ => by simp only [runHist, c02RunHistT]
  | e :: es, s => by
      simp only [runHist, c02RunHistT, ← evalG_eq_table_current]
      rw [runHist_eq_table_current cached env es]

/-! ### The C02 theorems, about the regenerated table -/

variable {env : Env} {U : Expr → Prop}

/-- **What the current source says is the standard meaning.**  The handler bodies read from the
working tree, run by the table interpreter — plain or memoizing mapper, from any evaluator state
whose caches hold denotations — return exactly `den env e` (value or error) and keep the caches
sound.  (`evalG_eq_den` transported along `evalG_eq_table_current`.) -/
theorem table_eq_den_current (hU : Universe U) (cached : Bool) (e : Expr) (he : U e) (s : EvState)
    (hs : EvInv env U s) :
    ∃ s', c02EvalGT tableCurrent cached env e s = (den env e, s') ∧ EvInv env U s' := by
  rw [← evalG_eq_table_current]
  exact evalG_eq_den hU cached e he s hs

/-- every call of any history on one instance of the evaluator described by the current source
returns the standard meaning -/
theorem table_history_eq_den_current (hU : Universe U) (cached : Bool) (es : List Expr)
    (s : EvState) (h : ∀ e ∈ es, U e) (hs : EvInv env U s) :
    c02RunHistT tableCurrent cached env es s = es.map (den env) := by
  rw [← runHist_eq_table_current]
  exact history_eq_den hU cached es s h hs

/-- the plain and the memoizing evaluator described by the current source agree on every history -/
theorem table_plain_eq_cached_current (hU : Universe U) (es : List Expr) (h : ∀ e ∈ es, U e) :
    c02RunHistT tableCurrent false env es {} = c02RunHistT tableCurrent true env es {} := by
  rw [← runHist_eq_table_current, ← runHist_eq_table_current]
  exact plain_eq_cached hU es h

/-- the `map_if` of the current source evaluates only the selected branch: with a true condition
the result is the meaning of `t`, whatever `e` is (e.g. erroring) -/
theorem table_if_lazy_current (hU : Universe U) (cached : Bool) (c t e : Expr)
    (h : U (.ite c t e)) (s : EvState) (hs : EvInv env U s) (cv : Value)
    (hc : den env c = .ok cv) (ht : cv.truthy = .ok true) :
    (c02EvalGT tableCurrent cached env (.ite c t e) s).1 = den env t := by
  obtain ⟨s', h1, _⟩ := table_eq_den_current hU cached (.ite c t e) h s hs
  rw [h1]
  exact if_lazy_then c t e cv hc ht

/-! ### numpy object arrays -/

/-- **The numpy-array handler of the current source is the recognised fill loop**: `map_foreign`
sends `numpy.ndarray` objects to `map_numpy_array`, whose body is `result = numpy.empty(expr.shape,
dtype=object); for i in numpy.ndindex(expr.shape): result[i] = self.rec(expr[i]); return result`
(read statement by statement by `extract/evaluator.py: read_array_handler`; any other body is
`.other src` and this obligation breaks). -/
theorem array_handler_current :
    tableCurrent.arrayBody = .ndindexFill "map_numpy_array"
      ∧ tableCurrent.foreign.lookup "numpy" = some "map_numpy_array" := by decide +kernel

/-- the handler applies: the table interpreter runs `c02ArrayRun` on arrays -/
theorem array_dispatch_current (cached : Bool) (a : C02Array Expr) :
    c02ArrayT tableCurrent cached env a = some (c02ArrayRun tableCurrent cached env a) := by
  simp only [c02ArrayT, array_handler_current.1]

/-- **Arrays mean their entries**: the plain evaluator of the current table, run on an object
array (any shape, entries in row-major order) from any state reachable in a history, returns the
array of the SAME shape whose entries are the standard meanings `den` of the entries — or the first
error in row-major order — and re-establishes the history invariant. -/
theorem array_eq_den_current (hU : Universe U) (a : C02Array Expr) (h : ∀ e ∈ a.flat, U e)
    (s : EvState) (hs : EvInv env U s) :
    ∃ s', c02ArrayRun tableCurrent false env a s
        = ((denList env a.flat).map (fun vs => (⟨a.shape, vs⟩ : C02Array Value)), s')
      ∧ EvInv env U s' := by
  obtain ⟨s', h1, i1⟩ := list_sim hU false a.flat h s hs
  rw [evalList_eq_runs, runs_eq_table_current] at h1
  refine ⟨s', ?_, i1⟩
  have hm : (c02MemoActive tableCurrent false && tableCurrent.memo.keyExpr) = false := by decide
  simp only [c02ArrayRun, hm, h1]
  cases denList env a.flat <;> rfl

/-- the memoizing evaluator cannot take an array at all: building the cache key hashes the
ndarray (known finding `unhashable-ndarray`, like `unhashable-list`) -/
theorem array_cached_raises_current (a : C02Array Expr) (s : EvState) :
    c02ArrayRun tableCurrent true env a s = (.error .typeError, s) := by
  have hm : (c02MemoActive tableCurrent true && tableCurrent.memo.keyExpr) = true := by decide
  simp only [c02ArrayRun, hm]
  rfl

/-! ### Decidable facts about the regenerated table -/

/-- the attribute names the IR (and `harness/sexp.py`) assumes for every node class are the
dataclass fields of the live classes, in order -/
theorem ir_fields_current :
    tableCurrent.classes.map (fun c => (c.cls, c.fields)) = c02IRFields := rfl

/-- `evaluate` and `evaluate_kw` instantiate the memoizing mapper by default; its `rec` goes
through the memo table, the plain mapper's does not -/
theorem entry_points_current :
    tableCurrent.entryPoints = [("evaluate", c02MapperClass true), ("evaluate_kw", c02MapperClass true)]
      ∧ c02MemoActive tableCurrent true = true ∧ c02MemoActive tableCurrent false = false := by
  decide +kernel

/-- every node class of the IR that the evaluator handles is dispatched to a handler whose body
was read (no dangling handler name), delegations included.  The interpreter follows hand-overs
from one handler to another up to 4 deep (`c02Class`, `c02Foreign`); the longest chains of this
table have two handlers (`map_common_subexpression` → `map_common_subexpression_uncached`,
`map_rational` → `map_quotient`). -/
theorem handlers_present_current :
    (tableCurrent.classes.all fun c => match c.handler with
      | none => true
      | some h => (tableCurrent.handlerBody h).isSome) = true
    ∧ (tableCurrent.handlerBody "map_common_subexpression_uncached").isSome = true := by
  decide +kernel

/-! ### Non-vacuity: the interpreter really reads the table -/

/-- a table that differs from the current one only in the operand order of `map_floor_div` -/
def tableSwappedFloorDiv : C02EvalTable :=
  { tableCurrent with
    handlers := tableCurrent.handlers.map fun h =>
      if h.name = "map_floor_div" then
        { h with body := .ret (.bin .floordiv (.recF "denominator") (.recF "numerator")) }
      else h }

/-- … evaluates `7 // 2` to `0`, the current table to `3`: the interpreter takes the operand order
from the table, so `evalNode_eq_table_current` would not check against such a source. -/
theorem swapped_floor_div_table_cex :
    (c02EvalGT tableCurrent true [] (.bin .floordiv (.const (.int 7)) (.const (.int 2))) {}).1
      = .ok (.int 3) ∧
    (c02EvalGT tableSwappedFloorDiv true [] (.bin .floordiv (.const (.int 7)) (.const (.int 2))) {}).1
      = .ok (.int 0) ∧
    (evalG true [] (.bin .floordiv (.const (.int 7)) (.const (.int 2))) {}).1 = .ok (.int 3) := by
  exact ⟨rfl, rfl, rfl⟩

/-- a table whose `map_if` evaluates both branches before testing the condition … -/
def tableEagerIf : C02EvalTable :=
  { tableCurrent with
    handlers := tableCurrent.handlers.map fun h =>
      if h.name = "map_if" then
        { h with body := .assign "t" (.recF "then") (.assign "e" (.recF "else_")
            (.ite (.recF "condition") (.ret (.var "t")) (.ret (.var "e")))) }
      else h }

/-- … raises on `If(True, 1, y)` with `y` unbound, where the current table (and the model) return
`1`. -/
theorem eager_if_table_cex :
    let e := Expr.ite (.const (.bool true)) (.const (.int 1)) (.var "y")
    (c02EvalGT tableCurrent false [] e {}).1 = .ok (.int 1) ∧
    (c02EvalGT tableEagerIf false [] e {}).1 = .error (.unknownVar "y") ∧
    (evalG false [] e {}).1 = .ok (.int 1) := by
  exact ⟨rfl, rfl, rfl⟩

/-- the table interpreter on a non-trivial expression with a shared common subexpression, a
conditional, a comparison and a call, under both mappers -/
example :
    let cse := Expr.cse (.nary .sum [.var "x", .const (.int 1)]) none "s"
    let e := Expr.ite (.cmp .lt cse (.const (.int 5)))
               (.nary .prod [cse, cse]) (.call (.var "f") [cse])
    (c02EvalGT tableCurrent true [("x", .int 2)] e {}).1 = .ok (.int 9) ∧
    (c02EvalGT tableCurrent false [("x", .int 2)] e {}).1 = .ok (.int 9) ∧
    (c02EvalGT tableCurrent false [("x", .int 7), ("f", .func "f")] e {}).1
      = .ok (.app "f" [.int 8] [] []) := by
  simp only [← evalG_eq_table_current]
  exact ⟨rfl, rfl, rfl⟩

end PV.C02
