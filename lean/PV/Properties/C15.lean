import PV.Model.Coeff
import PV.Proofs.CoeffSound
import PV.Proofs.CoeffFree
import PV.Proofs.Gauss
import PV.Proofs.CoeffSolve
import PV.Proofs.CoeffComplete
/-
  C15 — property theorems.

  "For every expression that is affine in the chosen target variables, the coefficient collector
  returns coefficients, free of those variables, such that the sum of coefficient times variable
  plus the constant term evaluates to the original expression everywhere; for input that is not
  affine in them it raises instead of returning coefficients.  The affine equation solver returns,
  for every system it accepts, assignments to the unknowns that satisfy all given equations
  identically in the remaining parameters, and it raises when an unknown is not uniquely
  determined or not integral."

  Model: `PV/Model/Coeff.lean` (`coeffs` = CoefficientCollector, `gaussElim` =
  gaussian_elimination, `solveMat`/`solveAffine` = solve_affine_equations_for), tied to the real
  code by the table tie of `PV/Properties/C15Table.lean` (the model is the interpreter of the source
  as regenerated on every run) and by the correspondence streams of `harness/props/c15.py`.

  What holds and what does not:
    * `coeffs_sound`            the returned linear form evaluates to the input            (holds)
    * `coeffs_free_partial`     coefficients are free of the targets — only when no target hides
                                inside a composite leaf (`a[x]`, `f(x)`): `coeffs_free_cex`
    * `coeffs_complete_affine`  every expression of the syntactic affine class is accepted   (holds)
    * `coeffs_rejects_*`        two target-dependent factors, target in a denominator / in a power
                                are rejected                                               (holds)
    * `gauss_preserves_solutions` every row operation and the gcd division keep the rational
                                solution set                                               (holds)
    * `solve_sound_partial`     the values read off satisfy every row — only when the reduced
                                matrix has the single-entry shape: `solve_sound_underdetermined_cex`,
                                `solve_sound_inconsistent_cex`
    * `solve_affine_sound_partial` under the same shape hypothesis the ORIGINAL equations hold
                                when the unknowns are bound to the returned expressions' values
    * `assemble_row_value`      the integer row assembled for an equation represents lhs - rhs
                                (also for terms that occur on both sides)                  (holds)
-/
namespace PV.C15
open PV PV.Coeff

/-! ## 1. The coefficient collector -/

/-- **Soundness of the linear form.**  If the collector returns the dictionary `d` for `e`, then in
every environment in which `e` evaluates to an exact number `v` (int, bool or Fraction; the model
makes no claim about floats) the tree `Σ coefficient·key` (`recon d`: a `Sum` of `Product`s, the
constant term being the coefficient of the key `1`) evaluates too, to a value Python-equal to `v`.

Hypotheses, all decidable:
* `e.simple`: no bool/float constants, keyword calls or lists in `e` (on such trees the `==` used
  by the dictionary is structural equality, so two keys that are merged have the same value);
* `recipOK env tg e`: every reciprocal `Quotient(1, val)` the collector builds for a `Quotient`
  node evaluates exactly (in Python `1/2` is a float but `1/Fraction(2)` and `1/p` with a
  Fraction-valued parameter are exact). -/
theorem coeffs_sound (env : Env) (tg : Option (List String)) (e : Expr) (d : Dict) (v : Value)
    (h : coeffs tg e = .ok d) (hs : e.simple = true) (hr : recipOK env tg e = true)
    (hv : den env e = .ok v) (hex : v.num?.isSome = true) :
    ∃ w, den env (recon d) = .ok w ∧ w.pyEq v = true := by
  obtain ⟨x, hx⟩ := Option.isSome_iff_exists.1 hex
  have hview := num_some_view hx
  have hq : nv env e = some x.toRat := nv_iff.2 ⟨v, _, hv, hview⟩
  have hd := coeffs_nv (env := env) tg e d _ hs h hr hq
  obtain ⟨w, fw, hw, hwv⟩ := nv_iff.1 (recon_den hd)
  exact ⟨w, hw, (pyEq_of_view hwv hview).trans (beq_self_eq_true _)⟩

/-- The same statement entry by entry: every coefficient and every key of the returned dictionary
evaluates to an exact number and `Σ value(coefficient)·value(key)` is the value of `e`. -/
theorem coeffs_sound_entries (env : Env) (tg : Option (List String)) (e : Expr) (d : Dict) (q : Rat)
    (h : coeffs tg e = .ok d) (hs : e.simple = true) (hr : recipOK env tg e = true)
    (hq : nv env e = some q) : dictNV env d = some q :=
  coeffs_nv tg e d q hs h hr hq

/-- non-vacuity of `coeffs_sound`: `x/p + 3*x + y` for the target `x` at `x = 1/2`, `p = 3/2`,
`y = 2` (a reciprocal of a parameter, a product, a constant term) -/
def demoExpr : Expr :=
  .nary .sum [.bin .quot (.var "x") (.var "p"), .nary .prod [.const (.int 3), .var "x"], .var "y"]
def demoEnv : Env := [("x", .frac (1/2)), ("p", .frac (3/2)), ("y", .int 2)]

example : coeffs (some ["x"]) demoExpr =
    .ok [(.var "x", .nary .sum [.bin .quot one (.var "p"), .const (.int 3)]), (one, .var "y")] := rfl
example : demoExpr.simple = true := rfl
example : recipOK demoEnv (some ["x"]) demoExpr = true := by decide +kernel
example : (match den demoEnv demoExpr with | .ok v => v.num?.isSome | _ => false) = true := by
  decide +kernel

/-- **Freeness (partial).**  No returned coefficient mentions a target — provided no target hides
inside a composite leaf that is not itself a target (`leavesClean`).  `tOcc tg c`: a variable
named in `target_names` occurs somewhere in `c` (with `target_names = None`: any variable,
subscript, call or lookup occurs). -/
theorem coeffs_free_partial (tg : Option (List String)) (e : Expr) (d : Dict)
    (h : coeffs tg e = .ok d) (hc : leavesClean tg e = true) :
    ∀ kc ∈ d, tOcc tg kc.2 = false :=
  coeffs_free tg e d h hc

/-- The excluded shape is real: for the target `x` the collector returns `a[x]` as the constant
term of `a[x]` (confirmed on the real code: known finding `coefficient-mentions-target:leaf`). -/
theorem coeffs_free_cex : ∃ (tg : Option (List String)) (e : Expr) (d : Dict),
    coeffs tg e = .ok d ∧ ∃ kc ∈ d, tOcc tg kc.2 = true :=
  ⟨some ["x"], .subscript (.var "a") (.var "x"), [(one, .subscript (.var "a") (.var "x"))], rfl,
    (one, .subscript (.var "a") (.var "x")), List.mem_singleton_self _, by decide +kernel⟩

example : leavesClean (some ["x"]) demoExpr = true := by decide +kernel
example : leavesClean (some ["x"]) (.subscript (.var "a") (.var "x")) = false := by decide +kernel

/-- Every key of a returned dictionary is the constant `1` or an algebraic leaf of the input, and
a target leaf in arithmetic position always shows up as a key (no cancellation removes it). -/
theorem coeffs_keys_shape (tg : Option (List String)) (e : Expr) (d : Dict)
    (h : coeffs tg e = .ok d) :
    (∀ kc ∈ d, kc.1 = one ∨ kc.1.isAlgLeaf = true) ∧ (armT tg e = true → hasVarKey d = true) :=
  ⟨(coeffs_keys tg e d h).1, fun ha => leafKey_hasVarKey ((coeffs_keys tg e d h).2 ha)⟩

/-- Every key of a returned dictionary is the constant `1` or an algebraic leaf that passed the
collector's own target test (`target_names is None or getattr(leaf, "name", None) in
target_names` — for a `Variable`: its name is a target name). -/
theorem coeffs_keys_are_targets (tg : Option (List String)) (e : Expr) (d : Dict)
    (h : coeffs tg e = .ok d) :
    ∀ kc ∈ d, kc.1 = one ∨ (kc.1.isAlgLeaf = true ∧ isTarget tg kc.1 = true) :=
  coeffs_keys_target tg e d h

/-- **Acceptance of the affine class.**  Every expression of the syntactic class `affClass tg` —
int constants, algebraic leaves, non-empty sums of class members, products of class members with
at most one factor that has a target in arithmetic position, quotients of a class member by a
class member without such a target, powers of two class members without such targets — is
accepted: the collector returns a dictionary (it does not raise, and the model does not abstain).
If no target occurs in arithmetic position the dictionary is `{1: c}`. -/
theorem coeffs_complete_affine (tg : Option (List String)) (e : Expr) (h : affClass tg e = true) :
    ∃ d, coeffs tg e = .ok d ∧ (armT tg e = false → ∃ c, d = [(one, c)]) := by
  obtain ⟨d, hd, _, hs⟩ := coeffs_accepts tg e h
  exact ⟨d, hd, fun ha => (hs ha).imp fun c hc => hc.1⟩

example : affClass (some ["x"]) demoExpr = true := by decide +kernel
example : affClass (some ["x"]) (.nary .prod [.var "x", .var "x"]) = false := by decide +kernel
/-- the two shapes the class leaves out on purpose (both are known findings): an empty `Sum` as a
factor, and a `Lookup` whose attribute name is a target name next to a target -/
example : coeffs (some ["x"]) (.nary .prod [.nary .sum [], .const (.int 2)]) = .error .assertion := rfl
example : coeffs (some ["x"]) (.nary .prod [.lookup (.var "r") "x", .var "x"]) = .error .nonlinear := rfl

/-- **Rejection, products.**  A product with two factors that contain a target in arithmetic
position (`armT`: a target leaf reachable through Sum/Product/Quotient/Power nodes) is never
accepted: the collector raises. -/
theorem coeffs_rejects_nonaffine_product (tg : Option (List String)) (cs : List Expr)
    (h2 : 2 ≤ (cs.filter (armT tg)).length) : ∃ err, coeffs tg (.nary .prod cs) = .error err := by
  -- every factor with a target has a key `!= 1`, and `splitVars` accepts at most one such factor
  have count : ∀ ds v os, coeffsL tg cs = .ok ds → splitVars ds = .ok (v, os) → False :=
    fun ds v os hds hsp => absurd
      (h2.trans ((armT_count tg cs ds hds).trans (splitVars_count ds v os hsp).1)) (by decide)
  cases h : coeffs tg (.nary .prod cs) with
  | error err => exact ⟨err, rfl⟩
  | ok d =>
    cases coeffs_view tg _ d h with
    | leaf _ hl => nomatch hl
    | num _ hn => nomatch hn
    | prodConst _ ds os other hds hsp ho => exact (count ds _ os hds hsp).elim
    | prodVar _ ds os dv _ other hds hsp ho hsc => exact (count ds _ os hds hsp).elim

/-- **Rejection, denominators.**  A quotient whose denominator contains a target in arithmetic
position is never accepted. -/
theorem coeffs_rejects_nonaffine_denominator (tg : Option (List String)) (a b : Expr)
    (hb : armT tg b = true) : ∃ err, coeffs tg (.bin .quot a b) = .error err := by
  cases h : coeffs tg (.bin .quot a b) with
  | error err => exact ⟨err, rfl⟩
  | ok d =>
    cases coeffs_view tg _ d h with
    | leaf _ hl => nomatch hl
    | num _ hn => nomatch hn
    | quot _ _ dn dd _ val hdn hdd hc hsc =>
      -- the target in `b` shows up as a key of `dd`, so `dd` is not of the form `{1: val}`
      nomatch (leafKey_hasVarKey ((coeffs_keys tg b dd hdd).2 hb)).symm.trans (constOnly_noVar hc).1

/-- **Rejection, powers.**  A power whose base or exponent contains a target in arithmetic
position is never accepted. -/
theorem coeffs_rejects_nonaffine_power (tg : Option (List String)) (a b : Expr)
    (hab : armT tg a = true ∨ armT tg b = true) : ∃ err, coeffs tg (.bin .pow a b) = .error err := by
  cases h : coeffs tg (.bin .pow a b) with
  | error err => exact ⟨err, rfl⟩
  | ok d =>
    cases coeffs_view tg _ d h with
    | leaf _ hl => nomatch hl
    | num _ hn => nomatch hn
    | pow _ _ db de vb ve hdb hde hce hcb =>
      rcases hab with ha | hb
      · nomatch (leafKey_hasVarKey ((coeffs_keys tg a db hdb).2 ha)).symm.trans
          (constOnly_noVar hcb).1
      · nomatch (leafKey_hasVarKey ((coeffs_keys tg b de hde).2 hb)).symm.trans
          (constOnly_noVar hce).1

/-- the three syntactic classes of non-affine input together -/
theorem coeffs_rejects_nonaffine (tg : Option (List String)) :
    (∀ cs, 2 ≤ (cs.filter (armT tg)).length → ∃ err, coeffs tg (.nary .prod cs) = .error err) ∧
    (∀ a b, armT tg b = true → ∃ err, coeffs tg (.bin .quot a b) = .error err) ∧
    (∀ a b, armT tg a = true ∨ armT tg b = true → ∃ err, coeffs tg (.bin .pow a b) = .error err) :=
  ⟨coeffs_rejects_nonaffine_product tg, coeffs_rejects_nonaffine_denominator tg,
    coeffs_rejects_nonaffine_power tg⟩

example : coeffs (some ["x"]) (.nary .prod [.var "x", .nary .sum [.var "x", .const (.int 1)]]) =
    .error .nonlinear := rfl
example : coeffs (some ["x"]) (.bin .quot (.const (.int 1)) (.var "x")) = .error .nonlinear := rfl
example : coeffs none (.bin .pow (.var "y") (.const (.int 2))) = .error .nonlinear := rfl
example : 2 ≤ ([Expr.var "x", .nary .sum [.var "x", .const (.int 1)]].filter (armT (some ["x"]))).length := by
  decide +kernel

/-! ## 2. Gaussian elimination

An augmented row is `(a | b)`: `a` the row of `mat`, `b` the row of `rhs`.  It *holds* at unknown
values `x : ℕ → ℚ` and column values `p : ℕ → ℚ` of the right-hand side (the parameters, and `1`
for the constant column) when `Σ aⱼ xⱼ = Σ b_c p_c`.  -/

/-- one elimination step `mat[u] = u_fac*mat[u] - i_fac*mat[i]` (with `u_fac`, `i_fac` from the
`lcm`) does not change whether row `u` holds, given that the pivot row holds -/
theorem row_operation_preserves (x p : ℕ → ℚ) (j : ℕ) (piv r : ARow) (hp : Holds x p piv)
    (hpj : rowGet piv.1 j ≠ 0) (h1 : r.1.length = piv.1.length) (h2 : r.2.length = piv.2.length) :
    Holds x p (elimRow j piv r) ↔ Holds x p r :=
  holds_elimRow hp hpj h1 h2

/-- the division of a row by the gcd of its non-zero entries does not change whether it holds -/
theorem gcd_division_preserves (x p : ℕ → ℚ) (r : ARow) : Holds x p (normRow r) ↔ Holds x p r :=
  holds_normRow r

/-- **`gaussian_elimination` preserves the rational solution set**, for every rectangular integer
system (any shape, any loop bounds `m`, `n`): pivot search, row swaps, fraction-free elimination
with `lcm` scaling and the final gcd normalisation. -/
theorem gauss_preserves_solutions (m n n' w : ℕ) (s : List ARow) (h : Rect n' w s)
    (x p : ℕ → ℚ) : AllHold x p (gaussElim m n s) ↔ AllHold x p s :=
  (gaussElim_spec m n s h).1

example : gaussElim 2 2 [([1, 1], [5]), ([1, -1], [1])] = [([1, 0], [3]), ([0, 1], [2])] := by
  decide +kernel
example : Rect 2 1 [([1, 1], [5]), ([1, -1], [1])] := by
  unfold Rect; decide +kernel

/-! ## 3. The solver -/

/-- **Soundness of the values read off (partial).**  If `solve_affine_equations_for` accepts the
`m × n` integer system `s` (every column of the reduced matrix has exactly one non-zero entry, and
that entry is ±1) and the reduced matrix has the single-entry shape `reducedOK` — every row has at
most one non-zero unknown entry, and a row without unknown entries has a zero right-hand side —
then the returned values (unknown `j` = the linear form `vals[j]` in the right-hand columns)
satisfy every equation of the ORIGINAL system, identically in the right-hand columns `p`. -/
theorem solve_sound_partial (m n w : ℕ) (s : List ARow) (vals : List Row) (hrect : Rect n w s)
    (h : solveMat m n s = .ok vals) (hred : reducedOK (gaussElim m n s) = true) (p : ℕ → ℚ) :
    AllHold (fun j => dot p (vals.getD j [])) p s := by
  have hF := mapM_forall₂ _ vals h
  obtain ⟨hiff, hrect'⟩ :=
    gaussElim_spec (x := fun j => dot p (vals.getD j [])) (p := p) m n s hrect
  exact hiff.1 (solveCol_holds p (n := n) (fun j hj => forall2_get hF j j (List.getElem?_range hj))
    hred fun r hr => (hrect' r hr).1)

/-- non-vacuity: `x + y = 5, x - y = 1` is accepted, reduces to the single-entry shape, `x = 3`,
`y = 2` -/
example : (match solveMat 2 2 [([1, 1], [5]), ([1, -1], [1])] with
    | .ok vals => vals == [[3], [2]] | _ => false) = true := by decide +kernel
example : reducedOK (gaussElim 2 2 [([1, 1], [5]), ([1, -1], [1])]) = true := by decide +kernel

/-- with a parameter column: `2x = 4p + 2` gives `x = 2p + 1` -/
example : (match solveMat 1 1 [([2], [4, 2])] with
    | .ok vals => vals == [[2, 1]] | _ => false) = true := by decide +kernel

/-- one equation, two unknowns: accepted, both unknowns get the value `5` -/
theorem solveMat_underdetermined : solveMat 1 2 [([1, 1], [5])] = .ok [[5], [5]] := by
  decide +kernel

/-- `x = 5`, `x = 6`: accepted, with `x = 5` -/
theorem solveMat_inconsistent : solveMat 2 1 [([1], [5]), ([1], [6])] = .ok [[5]] := by
  decide +kernel

/-- The solver accepts the underdetermined system `x + y = 5` and returns `x = 5, y = 5`, which
does not satisfy it (confirmed on the real code: known finding `solver-accepts-underdetermined`). -/
theorem solve_sound_underdetermined_cex : ∃ (m n w : ℕ) (s : List ARow) (vals : List Row) (p : ℕ → ℚ),
    Rect n w s ∧ solveMat m n s = .ok vals ∧ ¬ AllHold (fun j => dot p (vals.getD j [])) p s := by
  refine ⟨1, 2, 1, [([1, 1], [5])], [[5], [5]], fun _ => 1, ?_, solveMat_underdetermined, ?_⟩
  · unfold Rect; decide +kernel
  · unfold AllHold Holds; decide +kernel

/-- The solver accepts the inconsistent system `x = 5, x = 6` and returns `x = 5` (confirmed on the
real code: known finding `solver-accepts-inconsistent`). -/
theorem solve_sound_inconsistent_cex : ∃ (m n w : ℕ) (s : List ARow) (vals : List Row) (p : ℕ → ℚ),
    Rect n w s ∧ solveMat m n s = .ok vals ∧ ¬ AllHold (fun j => dot p (vals.getD j [])) p s := by
  refine ⟨2, 1, 1, [([1], [5]), ([1], [6])], [[5]], fun _ => 1, ?_, solveMat_inconsistent, ?_⟩
  · unfold Rect; decide +kernel
  · unfold AllHold Holds; decide +kernel

/-- `reducedOK` rejects the reduced systems of the two witnesses above -/
example : reducedOK (gaussElim 1 2 [([1, 1], [5])]) = false := by decide +kernel
example : reducedOK (gaussElim 2 1 [([1], [5]), ([1], [6])]) = false := by decide +kernel

/-- **The assembled value.**  The expression built for one unknown from its row
(`unknown_val = int(row[-1]) // div; unknown_val += (int(c) // div) * parameter …`, with the
overloaded `+`/`*` and their folds) evaluates to `row[-1] + Σ row[i]·value(parameterᵢ)` whenever
the parameters evaluate to exact numbers. -/
theorem assemble_value (env : Env) (params : List Expr) (row : Row) (t : Expr) (qs : List Rat)
    (h : assembleVal params row = .ok t) (hq : nvL env params = some qs) :
    nv env t = some ((row.getLastD 0 : Int) + dotQ row qs) :=
  assembleVal_nv h hq

example : assembleVal [.var "p", .var "q"] [2, 0, 1] = .ok (.nary .sum [.const (.int 1),
    .nary .prod [.const (.int 2), .var "p"]]) := rfl

/-- **The solver on expressions, matrix level (partial).**  If `solve_affine_equations_for`
returns `sol` for the unknowns `names` and the equations `eqs` (`params`: the parameters in the
order in which the Python set is iterated), then the equations were assembled into an integer
matrix `mat`, every returned expression evaluates — in any environment `env` in which the
parameters are exact numbers `qs` — to an exact number `xs[j]`, and, when the reduced matrix has
the single-entry shape `reducedOK`, these values satisfy every row of `mat`:
`Σ_j a_j · xs[j] = Σ_c b_c · qs[c] + b_last`. -/
theorem solve_affine_rows_sound_partial (env : Env) (names : List String) (eqs : List (Expr × Expr))
    (params : List Expr) (sol : List (Expr × Expr)) (qs : List Rat)
    (h : solveAffine names eqs params = .ok sol) (hq : nvL env params = some qs) :
    ∃ (mat : List ARow) (vals : List Expr) (xs : List Rat),
      eqs.mapM (assembleRow (names.map Expr.var) params) = .ok mat ∧
      sol = (names.map Expr.var).zip vals ∧ vals.length = (names.map Expr.var).length ∧
      List.Forall₂ (fun v x => nv env v = some x) vals xs ∧
      (reducedOK (gaussElim eqs.length (names.map Expr.var).length mat) = true →
        ∀ r ∈ mat, dot (fun j => xs.getD j 0) r.1 = dot (pOf qs) r.2) := by
  obtain ⟨mat, rows, vals, hm, hsm, hsol, hf2⟩ := solveAffine_spec h
  have hrect : Rect (names.map Expr.var).length (qs.length + 1) mat := fun r hr => by
    obtain ⟨eq, _, heq⟩ := mapM_mem eqs mat hm r hr
    rw [nvL_length params qs hq]
    exact assembleRow_length heq
  have hrect' := (gaussElim_spec (x := fun _ => 0) (p := fun _ => 0) eqs.length
    (names.map Expr.var).length mat hrect).2
  have hlen : ∀ row ∈ rows, row.length = qs.length + 1 := fun row hrow => by
    obtain ⟨j, _, hj⟩ := mapM_mem _ rows hsm row hrow
    obtain ⟨r, hr, hl⟩ := solveCol_length hj
    exact hl.trans (hrect' r hr).2
  refine ⟨mat, vals, rows.map (dot (pOf qs)), hm, hsol, ?_, vals_values hq hf2 hlen,
    fun hred r hr => ?_⟩
  · rw [← hf2.length_eq, ← (mapM_forall₂ _ rows hsm).length_eq, List.length_range]
  · rw [funext (getD_map_dot (pOf qs) rows)]
    exact sub_eq_zero.1 (solve_sound_partial _ _ _ mat rows hrect hsm hred (pOf qs) r hr)

/-- **The assembled row represents `lhs - rhs`.**  In an environment in which unknown `j` has the
exact value `x j` and parameter `c` the exact value `p c` (and `p (number of parameters) = 1` for
the constant column), the residual `a·x - b·p` of the integer row `(a | b)` assembled for the
equation `lhs = rhs` is `value(lhs) - value(rhs)`: the contributions of both sides accumulate
(`mat[i, j] += …`), also when a term occurs on both sides. -/
theorem assemble_row_value (env : Env) (unknowns params : List Expr) (eq : Expr × Expr) (row : ARow)
    (x p : ℕ → ℚ) (ql qr : Rat)
    (hx : ∀ j u, unknowns[j]? = some u → nv env u = some (x j))
    (hp : ∀ c u, params[c]? = some u → nv env u = some (p c))
    (hp1 : p params.length = 1)
    (hus : ∀ u ∈ unknowns, u.simple = true) (hps : ∀ u ∈ params, u.simple = true)
    (h : assembleRow unknowns params eq = .ok row)
    (hs1 : eq.1.simple = true) (hs2 : eq.2.simple = true)
    (hr1 : recipOK env none eq.1 = true) (hr2 : recipOK env none eq.2 = true)
    (hl : nv env eq.1 = some ql) (hr : nv env eq.2 = some qr) :
    dot x row.1 - dot p row.2 = ql - qr := by
  unfold assembleRow at h
  obtain ⟨dl, hdl, h⟩ := except_bind_ok h
  obtain ⟨dr, hdr, h⟩ := except_bind_ok h
  obtain ⟨row1, h1, h⟩ := except_bind_ok h
  obtain ⟨l1, l1'⟩ := assembleSide_length dl _ row1 h1
  have zeros : ∀ (y : ℕ → ℚ) n, dotFrom y 0 (zeroRow n) = 0 := fun y n =>
    dotFrom_zeros _ 0 fun _ ha => List.eq_of_mem_replicate ha
  -- the left side adds `ql` to the residual of the zero row, the right side takes `qr` off
  show res x p row = ql - qr
  rw [assembleSide_value x p hx hp hp1 hus hps dr _ row qr (coeffs_keys_simple none eq.2 dr hs2 hdr)
      (l1.trans List.length_replicate) (l1'.trans List.length_replicate) h
      (coeffs_nv none eq.2 dr qr hs2 hdr hr2 hr),
    assembleSide_value x p hx hp hp1 hus hps dl _ row1 ql (coeffs_keys_simple none eq.1 dl hs1 hdl)
      List.length_replicate List.length_replicate h1 (coeffs_nv none eq.1 dl ql hs1 hdl hr1 hl),
    res, dot, dot, zeros, zeros]
  push_cast
  ring

/-- two-sided terms accumulate: `x + 1 = 0` gives the row `(1 | -1)`, `2x = x + 3` gives `(1 | 3)` -/
example : assembleRow [.var "x"] [] (.nary .sum [.var "x", .const (.int 1)], .const (.int 0))
    = .ok ([1], [-1]) := by decide +kernel
example : assembleRow [.var "x"] [] (.nary .prod [.const (.int 2), .var "x"],
    .nary .sum [.var "x", .const (.int 3)]) = .ok ([1], [3]) := by decide +kernel

/-- **The solver on the original equations (partial).**  Let `solve_affine_equations_for` return
`sol` for the unknowns `names`, the equations `eqs` and the parameter order `params`, and let the
reduced matrix have the single-entry shape `reducedOK` (this excludes the two known-bad shapes:
underdetermined and inconsistent systems).  Take any environment `env` in which the parameters are
exact numbers `qs`, and any environment `env'` that gives the parameters the same values and binds
every unknown to the value its returned expression has in `env` (`hbind`).  Then every ORIGINAL
equation holds in `env'`: whenever both sides evaluate to exact numbers, these are equal.

Side conditions as in `coeffs_sound`: the equation sides and the parameters are `simple` trees,
and the reciprocals the collector builds evaluate exactly (`recipOK`; vacuous for equations
without `Quotient`). -/
theorem solve_affine_sound_partial (env env' : Env) (names : List String)
    (eqs : List (Expr × Expr)) (params : List Expr) (sol : List (Expr × Expr)) (qs : List Rat)
    (h : solveAffine names eqs params = .ok sol)
    (hq : nvL env params = some qs) (hq' : nvL env' params = some qs)
    (hps : ∀ u ∈ params, u.simple = true)
    (hbind : ∀ kv ∈ sol, ∃ x, nv env kv.2 = some x ∧ nv env' kv.1 = some x)
    (hred : ∀ mat, eqs.mapM (assembleRow (names.map Expr.var) params) = .ok mat →
      reducedOK (gaussElim eqs.length (names.map Expr.var).length mat) = true) :
    ∀ eq ∈ eqs, eq.1.simple = true → eq.2.simple = true →
      recipOK env' none eq.1 = true → recipOK env' none eq.2 = true →
      ∀ ql qr, nv env' eq.1 = some ql → nv env' eq.2 = some qr → ql = qr := by
  obtain ⟨mat, vals, xs, hm, hsol, hvl, hf2, hrows⟩ :=
    solve_affine_rows_sound_partial env names eqs params sol qs h hq
  intro eq heq hs1 hs2 hr1 hr2 ql qr hl hr
  obtain ⟨r, hrm, hre⟩ := mapM_of_mem eqs mat hm eq heq
  -- in `env'` unknown `j` has the value `xs[j]` of its returned expression …
  have hx : ∀ j u, (names.map Expr.var)[j]? = some u → nv env' u = some (xs.getD j 0) := by
    intro j u hu
    have hj : j < vals.length := hvl ▸ (List.getElem?_eq_some_iff.1 hu).1
    have hv : vals[j]? = some vals[j] := List.getElem?_eq_getElem hj
    obtain ⟨x0, h1, h2⟩ := hbind (u, vals[j])
      (hsol ▸ List.mem_iff_getElem?.2 ⟨j, List.getElem?_zip_eq_some.2 ⟨hu, hv⟩⟩)
    obtain ⟨b, hb, hvb⟩ := forall2_get hf2 j _ hv
    rw [List.getD_eq_getElem?_getD, hb, Option.getD_some, ← Option.some.inj (h1.symm.trans hvb)]
    exact h2
  -- … and parameter `c` the value `qs[c]`
  have hp : ∀ c u, params[c]? = some u → nv env' u = some (pOf qs c) := fun c u hu => by
    obtain ⟨q, h1, h2⟩ := forall2_get (nvL_forall₂ params qs hq') c u hu
    rw [pOf, h1]
    exact h2
  have hp1 : pOf qs params.length = 1 := by
    rw [pOf, ← nvL_length params qs hq, List.getElem?_eq_none (Nat.le_refl _)]
    rfl
  have hval := assemble_row_value env' _ params eq r (fun j => xs.getD j 0) (pOf qs) ql qr hx hp hp1
    (fun u hu => by obtain ⟨n, _, rfl⟩ := List.mem_map.1 hu; rfl) hps hre hs1 hs2 hr1 hr2 hl hr
  exact sub_eq_zero.1 (hval.symm.trans (sub_eq_zero.2 (hrows (hred mat hm) r hrm)))

/-- non-vacuity: `x + y = 2p + 1`, `x - y = 1` with the parameter `p`: accepted, single-entry
shape, `x = 1 + p`, `y = p` -/
def demoEqs : List (Expr × Expr) :=
  [(.nary .sum [.var "x", .var "y"], .nary .sum [.nary .prod [.const (.int 2), .var "p"], .const (.int 1)]),
   (.nary .sum [.var "x", .nary .prod [.const (.int (-1)), .var "y"]], .const (.int 1))]

example : (match solveAffine ["x", "y"] demoEqs [.var "p"] with
    | .ok [(_, v1), (_, v2)] => v1 == .nary .sum [.const (.int 1), .var "p"] && v2 == .var "p"
    | _ => false) = true := by decide +kernel
example : (match demoEqs.mapM (assembleRow [.var "x", .var "y"] [.var "p"]) with
    | .ok mat => reducedOK (gaussElim 2 2 mat) | _ => false) = true := by decide +kernel

/-- the hypotheses of `solve_affine_sound_partial` at `p = 2`: `env'` binds `x ↦ 3 = value of 1 + p`,
`y ↦ 2 = value of p`; both sides of both equations are `5 = 5` and `1 = 1` -/
def demoEnvP : Env := [("p", .int 2)]
def demoEnvXY : Env := [("p", .int 2), ("x", .int 3), ("y", .int 2)]
example : nvL demoEnvP [.var "p"] = some [2] := by decide +kernel
example : nvL demoEnvXY [.var "p"] = some [2] := by decide +kernel
example : nv demoEnvP (.nary .sum [.const (.int 1), .var "p"]) = nv demoEnvXY (.var "x") := by
  decide +kernel
example : nv demoEnvP (.var "p") = nv demoEnvXY (.var "y") := by decide +kernel
example : demoEqs.all (fun eq => eq.1.simple && eq.2.simple && recipOK demoEnvXY none eq.1 &&
    recipOK demoEnvXY none eq.2) = true := by decide +kernel
example : demoEqs.map (fun eq => (nv demoEnvXY eq.1, nv demoEnvXY eq.2)) =
    [(some 5, some 5), (some 1, some 1)] := by decide +kernel

/-- the whole solver as the model computes it: `x + 1 = 0` gives `x = -1` (the repaired two-sided
accumulation), and the two remaining known-bad inputs -/
example : (match solveAffine ["x"] [(.nary .sum [.var "x", .const (.int 1)], .const (.int 0))] [] with
    | .ok [(k, v)] => k == .var "x" && v == .const (.int (-1)) | _ => false) = true := by
  decide +kernel
example : (match solveAffine ["x", "y"] [(.nary .sum [.var "x", .var "y"], .const (.int 5))] [] with
    | .ok [(_, v1), (_, v2)] => v1 == .const (.int 5) && v2 == .const (.int 5) | _ => false) = true := by
  decide +kernel
example : (match solveAffine ["x"] [(.var "x", .const (.int 5)), (.var "x", .const (.int 6))] [] with
    | .ok [(_, v)] => v == .const (.int 5) | _ => false) = true := by
  decide +kernel

end PV.C15
