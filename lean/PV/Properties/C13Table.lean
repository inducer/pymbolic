import PV.Properties.C13
import PV.Proofs.CodegenTable
/-
  C13 — T-gen tie of the code-generation models to the source.

  `PV.Generated.c13FromTable / c13ToTable / c13CompileMapperTable / c13CompiledTable /
  c13FuncSrcTable` are rewritten on every run by `extract/codegen.py` from the source text of
  pymbolic/interop/ast.py and pymbolic/compiler.py in the working tree: the operator dictionaries
  of `ASTToPymbolic` with the helper functions they point to, every `map_*` handler of both AST
  mappers in a small handler language (which `ast` class / node class, which operator object,
  arguments in evaluation order under their field names, the fold of n-ary nodes), the class body
  of `CompileMapper`, and `CompiledExpression` statement by statement.

  The interpreters of PV/Model/CodegenTable.lean RUN such tables; they know no handler, only the
  languages.  The theorems below prove that the hand-written models of PV/Model/Compile.lean
  (`fromAst`, `toAst`, `toAstNode` / `toAstC`, `foldBin`, `compilePieces`, `compileModel`,
  `argOrder` inside it, `getstate`, `setstate`, `lambdaSrc`) — the ones the driver executes and the
  theorems of PV/Properties/C13.lean are about — ARE the interpreters applied to the regenerated
  tables, for ALL inputs.  Hence the C13 theorems restated at the end speak about what the current
  source text says.  An edit that changes a table entry (`ast.LtE ↦ "<"`, `~a` imported as `-a`,
  the fold nested the other way, `used + listed`, a state tuple without the variables, …) makes
  the corresponding case fail to check; the streams of harness/props/c13.py then give the input.
-/
namespace PV.C13
open PV

/-! ## A. `ASTToPymbolic` -/

/-- the expected operator dictionaries of the importer (`bool_op_map` does not exist:
`BoolOp` nodes have no handler) -/
def opMapsExpected : List (String × List (String × C13MapVal)) :=
  [("bin_op_map", [
      ("Add", .fn "_add" 2 (.node "Sum" [.tuple [.arg 0, .arg 1]])),
      ("Sub", .fn "_sub" 2 (.node "Sum" [.tuple [.arg 0, .node "Product" [.tuple [.int (-1), .arg 1]]]])),
      ("Mult", .fn "_mult" 2 (.node "Product" [.tuple [.arg 0, .arg 1]])),
      ("Div", .cls "Quotient"), ("FloorDiv", .cls "FloorDiv"), ("Mod", .cls "Remainder"),
      ("Pow", .cls "Power"), ("LShift", .cls "LeftShift"), ("RShift", .cls "RightShift"),
      ("BitOr", .fn "_bitwise_or" 2 (.node "BitwiseOr" [.tuple [.arg 0, .arg 1]])),
      ("BitXor", .fn "_bitwise_xor" 2 (.node "BitwiseXor" [.tuple [.arg 0, .arg 1]])),
      ("BitAnd", .fn "_bitwise_and" 2 (.node "BitwiseAnd" [.tuple [.arg 0, .arg 1]]))]),
   ("comparison_op_map", [
      ("Eq", .str "=="), ("NotEq", .str "!="), ("Lt", .str "<"), ("LtE", .str "<="),
      ("Gt", .str ">"), ("GtE", .str ">=")]),
   ("unary_op_map", [
      ("Invert", .cls "BitwiseNot"), ("Not", .cls "LogicalNot"), ("USub", .fn "_neg" 1 (.neg (.arg 0)))])]

/-- **The operator dictionaries of the current source are the modelled ones**, entry by entry and
in order: keys (classes of Python's `ast`), node classes, comparison strings, and the bodies of the
module-level helpers `_add _sub _mult _neg _bitwise_or _bitwise_xor _bitwise_and`. -/
theorem op_maps_current : fromTableCurrent.maps = opMapsExpected := by rfl

example : c13Assoc "LtE" ((fromTableCurrent.map? "comparison_op_map").getD []) matches some (.str "<=") := by
  rfl

/-- `ASTToPymbolic` has no `bool_op_map` (and no `map_BoolOp`): `a and b` is refused -/
theorem bool_op_map_absent_current : (fromTableCurrent.map? "bool_op_map").isNone = true := by
  decide +kernel

/-- **`PyBin.construct` is `bin_op_map` of the current source, applied**: for every operator and
operands, looking the operator class up in the regenerated dictionary and calling the value it
holds (a node class, or the body of the helper function it names) gives the modelled node; the
operators without an entry (`@`) are exactly those the model refuses. -/
theorem bin_op_construct_current (op : PyBin) (x y : Expr) :
    (match op.construct with
     | some mk => (c13Assoc op.name ((fromTableCurrent.map? "bin_op_map").getD [])).map
          (fun v => (c13ApplyMapVal v [.expr x, .expr y] >>= C13FVal.toExpr)) = some (.ok (mk x y))
     | none => (c13Assoc op.name ((fromTableCurrent.map? "bin_op_map").getD [])).isNone = true) := by
  cases op <;> rfl

example : (c13Assoc "Sub" ((fromTableCurrent.map? "bin_op_map").getD [])).map
    (fun v => (c13ApplyMapVal v [.expr (.var "a"), .expr (.var "b")] >>= C13FVal.toExpr))
    = some (.ok (.nary .sum [.var "a", .nary .prod [negOne, .var "b"]])) := by decide +kernel

/-- MRO handler names and `_fields` of the `ast` classes the model speaks, as CPython has them -/
theorem ast_classes_current : fromTableCurrent.classes =
    [⟨"Constant", ["map_Constant", "map_expr", "map_AST", "map_object"], ["value", "kind"]⟩,
     ⟨"Name", ["map_Name", "map_expr", "map_AST", "map_object"], ["id", "ctx"]⟩,
     ⟨"BinOp", ["map_BinOp", "map_expr", "map_AST", "map_object"], ["left", "op", "right"]⟩,
     ⟨"UnaryOp", ["map_UnaryOp", "map_expr", "map_AST", "map_object"], ["op", "operand"]⟩,
     ⟨"BoolOp", ["map_BoolOp", "map_expr", "map_AST", "map_object"], ["op", "values"]⟩,
     ⟨"IfExp", ["map_IfExp", "map_expr", "map_AST", "map_object"], ["test", "body", "orelse"]⟩,
     ⟨"Compare", ["map_Compare", "map_expr", "map_AST", "map_object"], ["left", "ops", "comparators"]⟩,
     ⟨"Call", ["map_Call", "map_expr", "map_AST", "map_object"], ["func", "args", "keywords"]⟩,
     ⟨"Attribute", ["map_Attribute", "map_expr", "map_AST", "map_object"], ["value", "attr", "ctx"]⟩,
     ⟨"Subscript", ["map_Subscript", "map_expr", "map_AST", "map_object"], ["value", "slice", "ctx"]⟩,
     ⟨"Tuple", ["map_Tuple", "map_expr", "map_AST", "map_object"], ["elts", "ctx"]⟩,
     ⟨"List", ["map_List", "map_expr", "map_AST", "map_object"], ["elts", "ctx"]⟩,
     ⟨"Slice", ["map_Slice", "map_expr", "map_AST", "map_object"], ["lower", "upper", "step"]⟩,
     ⟨"NoneType", ["map_NoneType", "map_object"], []⟩] := by decide +kernel

/-- `BoolOp`, `List`, `Slice` nodes and `None` have no handler: neither `map_<class>` nor
`map_expr`, `map_AST`, `map_object` is an attribute of `ASTToPymbolic` -/
theorem from_unhandled_current : ∀ n ∈ ["BoolOp", "List", "Slice", "NoneType"],
    c13FUnhandled fromTableCurrent n = true := by decide +kernel

mutual
/-- **The hand-written importer is the regenerated table, run.**  For EVERY Python AST of the
model (every constructor, every operator, comparison chains of any length, calls with and without
keywords, a `None` slice) `fromAst` equals the table interpreter `c13FromAstT` on the table of the
current tree: the dispatch (first `map_<class>` along the MRO, else `not_supported`), the operator
looked up in the class-level dictionary (`KeyError` ↦ the exception the handler raises), the order
in which the operands are mapped, the node class built and its argument order, `x, = expr.ops`
(`ValueError` on chains), the `keywords` branch of `map_Call`, all read from the table. -/
theorem fromAst_eq_table_current : ∀ a : PyAst, fromAst a = c13FromAstT fromTableCurrent a
  | .const _ => by rfl
  | .name _ => by rfl
  | .binop l op r => by
      simp only [c13FromAstT, ← fromAst_eq_table_current l, ← fromAst_eq_table_current r]
      -- the run up to the look-up of `type(expr.op)` in `bin_op_map` is the same for every operator;
      -- `whnf` does it: the handler body is a closed term of the generated table, so evaluation
      -- goes on by itself until it needs `op`
      conv => rhs; whnf
      cases op <;> rfl
  | .unop op a => by
      simp only [c13FromAstT, ← fromAst_eq_table_current a]
      conv => rhs; whnf
      cases op
      · rfl
      · rfl
      · show (fromAst a >>= astNeg) = (fromAst a >>= fun e =>
          (astNeg e >>= fun v => pure (C13FVal.expr v)) >>= C13FVal.toExpr)
        cases fromAst a with
        | error _ => rfl
        | ok x =>
          show astNeg x = ((astNeg x >>= fun v => pure (C13FVal.expr v)) >>= C13FVal.toExpr)
          cases astNeg x <;> rfl
      · rfl
  | .boolop .. | .list _ | .slice _ | .absent =>
      (c13FClass_unhandled (from_unhandled_current _ (by decide)) _).symm
  | .ifexp c t e => by
      simp only [c13FromAstT, ← fromAst_eq_table_current c, ← fromAst_eq_table_current t,
        ← fromAst_eq_table_current e]
      rfl
  | .compare l ops rs => by
      simp only [c13FromAstT, ← fromAst_eq_table_current l, ← fromAstRuns_eq_table_current rs]
      rcases ops with _ | ⟨op, _ | ⟨op2, ops⟩⟩
      · rfl
      · -- run up to the look-up of the operator, then, for each operator, up to
        -- `x, = expr.comparators`, and split the comparators there
        conv => rhs; whnf
        cases op <;> (conv => rhs; whnf) <;> rcases rs with _ | ⟨r, _ | ⟨r2, rs⟩⟩ <;> rfl
      · rfl
  | .call f as ns vs => by
      simp only [c13FromAstT, ← fromAst_eq_table_current f, ← fromAstRuns_eq_table_current as,
        ← fromAstRuns_eq_table_current vs, fromAst, fromAstL_eq_seq]
      rfl
  | .attribute v _ => by
      simp only [c13FromAstT, ← fromAst_eq_table_current v]
      rfl
  | .subscript v s => by
      -- the handler asks of the slice only whether it is `None`
      have step (b : Bool) : c13FClass fromTableCurrent "Subscript"
            [("value", .node v.c13IsNone (fromAst v)), ("slice", .node b (fromAst s))]
          = if b then fromAst v >>= fun x => pure (.subscript x (.const .none))
            else fromAst s >>= fun i => fromAst v >>= fun x => pure (.subscript x i) := by
        conv => lhs; whnf
        cases b <;> rfl
      rw [c13FromAstT, ← fromAst_eq_table_current v, ← fromAst_eq_table_current s, step]
      cases s <;> rfl
  | .tuple es => by
      simp only [c13FromAstT, ← fromAstRuns_eq_table_current es, fromAst, fromAstL_eq_seq]
      rfl
/-- the suspended recursive calls on the elements of a list-valued attribute agree -/
theorem fromAstRuns_eq_table_current : ∀ as : List PyAst,
    c13ModelRunsF as = c13FromAstRunsT fromTableCurrent as
  | [] => rfl
  | a :: as => by
      simp only [c13ModelRunsF, c13FromAstRunsT, ← fromAst_eq_table_current a,
        fromAstRuns_eq_table_current as]
end

example : c13FromAstT fromTableCurrent (.compare (.name "a") [.le] [.name "b"])
    = .ok (.cmp .le (.var "a") (.var "b")) := by rw [← fromAst_eq_table_current]; rfl
example : c13FromAstT fromTableCurrent (.unop .invert (.name "a")) = .ok (.un .bnot (.var "a")) := by
  rw [← fromAst_eq_table_current]; rfl

/-- WHAT AN EDIT DOES: with `ast.LtE` mapped to `"<"` the table interpreter imports `a <= b` as
`a < b` — not what `fromAst` does, so `fromAst_eq_table_current` cannot be proved for that table -/
theorem lte_as_lt_table_cex :
    let T := { fromTableCurrent with maps := [("comparison_op_map", [("LtE", .str "<")])] }
    c13FromAstT T (.compare (.name "a") [.le] [.name "b"]) = .ok (.cmp .lt (.var "a") (.var "b"))
      ∧ fromAst (.compare (.name "a") [.le] [.name "b"]) = .ok (.cmp .le (.var "a") (.var "b")) := by
  decide +kernel

/-- the same for `~a` imported through `_neg` (the defect repaired by `fix: ASTToPymbolic maps ~a
to BitwiseNot`): the table interpreter then answers `-a` -/
theorem invert_as_neg_table_cex :
    let T := { fromTableCurrent with maps := [("unary_op_map", [("Invert", .fn "_neg" 1 (.neg (.arg 0)))])] }
    c13FromAstT T (.unop .invert (.name "a")) = .ok (.nary .prod [negOne, .var "a"])
      ∧ fromAst (.unop .invert (.name "a")) = .ok (.un .bnot (.var "a")) := by
  decide +kernel

/-! ## B. `PymbolicToASTMapper` -/

/-- **The folding helper of the current source is the modelled one**: `result = rec_children[-1]`,
`for child in rec_children[-2::-1]: result = ast.BinOp(child, op_type, result)` -/
theorem fold_row_current : toTableCurrent.folds = [foldRowExpected] := by decide +kernel

/-- **`foldBin` is that loop**, for every operator and every operand list (right nesting, the last
operand innermost; `IndexError` without operands) -/
theorem foldBin_eq_table_current (o : PyBin) (xs : List PyAst) :
    (toTableCurrent.folds.head?).map (fun row => c13FoldT row (.opB o) xs) = some (foldBin o xs) := by
  rw [fold_row_current, foldBin_eq_table]; rfl

example : (toTableCurrent.folds.head?).map
    (fun row => c13FoldT row (.opB .add) [.name "a", .name "b", .name "c"])
    = some (.ok (.binop (.name "a") .add (.binop (.name "b") .add (.name "c")))) := by rfl

/-- WHAT AN EDIT DOES: the loop written the other way (`result = rec_children[0]`,
`for child in rec_children[1:]: result = ast.BinOp(result, op_type, child)`) nests to the left -/
theorem fold_left_table_cex :
    let row : C13FoldRow :=
      { foldRowExpected with
        init := 0, lo := some 1, hi := none, step := none, argRoles := [.acc, .opParam, .item] }
    c13FoldT row (.opB .sub) [.name "a", .name "b", .name "c"]
        = .ok (.binop (.binop (.name "a") .sub (.name "b")) .sub (.name "c"))
      ∧ foldBin .sub [.name "a", .name "b", .name "c"]
        = .ok (.binop (.name "a") .sub (.binop (.name "b") .sub (.name "c"))) := by
  constructor <;> rfl

/-- the row of the handler table of `PymbolicToASTMapper` each node class is dispatched to
(constants through `map_foreign` to `map_constant`, row 9; a string or `None` is an invalid foreign
object).  A row is the 0-based position of the handler in `Generated.c13ToTable.handlers`, which the
generator lists by name (1 `map_bitwise_and`, 9 `map_constant`, 14 `map_if`, 38 `map_sum`,
40 `map_variable`, …).  The numbers are not trusted: `class_table_current` compares each with the
look-up by name, and fails when a handler is added or renamed. -/
def toRowExpected : Expr → Option Nat
  | .const (.int _) | .const (.bool _) | .const (.flt ..) => some 9
  | .const _ => none
  | .var _ => some 40
  | .nary o _ => some (match o with
      | .sum => 38 | .prod => 29 | .bor => 3 | .bxor => 4 | .band => 1 | .lor => 20 | .land => 18
      | .min => 23 | .max => 22)
  | .bin o _ _ => some (match o with
      | .quot => 30 | .floordiv => 12 | .rem => 32 | .pow => 28 | .lshift => 16 | .rshift => 33)
  | .un o _ => some (match o with | .bnot => 2 | .lnot => 19)
  | .cmp .. => some 8 | .ite .. => some 14 | .call .. => some 5 | .callKw .. => some 6
  | .subscript .. => some 36 | .lookup .. => some 21 | .cse .. => some 7 | .subst .. => some 37
  | .deriv .. => some 10 | .slice _ => some 34 | .nan => some 25 | .wildcard => some 41
  | .dotWild _ => some 11 | .starWild _ => some 35 | .funcSym => some 13 | .tuple _ => some 39
  | .list _ => some 17

/-- the two facts about the class table of C04 this file needs.  They stand in one declaration
because the kernel decodes a string literal once per declaration, and both compare the same class
names. -/
theorem class_table_current :
    (∀ r ∈ classReps, c13TRow classesCurrent toTableCurrent r = toRowExpected r) ∧
    c13CtorFields.all (fun p => (c04FindClass classesCurrent p.1).map (·.fields) == some p.2) = true := by
  decide +kernel

/-- **The dispatch of the current tables, class by class**: the class table of C04 and the handler
names of `PymbolicToASTMapper` send every node class to the expected row. -/
theorem to_rows_current :
    ∀ r ∈ classReps, c13TRow classesCurrent toTableCurrent r = toRowExpected r :=
  class_table_current.1

/-- constructor argument order the table interpreter assumes = dataclass field order of the
regenerated class table (C04) -/
theorem ctor_fields_current :
    c13CtorFields.all (fun p => (c04FindClass classesCurrent p.1).map (·.fields) == some p.2) = true :=
  class_table_current.2

section
variable {M : Type → Type} [Monad M] (lift : {α : Type} → Except AErr α → M α)
  (wrap : Expr → M PyAst → M PyAst)

/-- a node runs the body in the row of its class (fuel `3`: see `c13TNode_row`) -/
theorem tNode_current {e : Expr} {ctx : C13TCtx M} {i : Nat} {h : C13THandler} {x : M PyAst}
    (hi : toRowExpected e.classRep = some i) (hh : toTableCurrent.handlers[i]? = some h)
    (hx : c13TRun lift toTableCurrent ctx (c13TRunHandler lift toTableCurrent ctx 3) h.body = x) :
    c13TNode lift classesCurrent toTableCurrent e ctx = x :=
  c13TNode_row lift ((to_rows_current _ e.classRep_mem).trans hi) hh hx

mutual
/-- **The regenerated handler table, run, is the mapper `toAstG`**, in every monad and for every
memo protocol `wrap` around `self.rec`.  For EVERY expression: the handler `Mapper.__call__`
reaches (class table of C04, `map_foreign` for constants and containers), the `ast` class it
builds, the operator object, the arguments in evaluation order under the field names Python binds
them to, n-ary nodes through the folding helper, keyword arguments sorted by name,
`ast.Slice(*parts)`, the `isinstance` / sign tests of `map_constant`, the refusals.  Of `lift` only
`hl` is used: `map_constant` builds the inner `ast.Constant` of a negative number first. -/
theorem toAstT_eq_G (hl : ∀ (a : PyAst) (f : PyAst → M PyAst), lift (pure a) >>= f = f a) :
    ∀ e : Expr, c13ToAstT lift classesCurrent toTableCurrent wrap e = toAstG lift wrap e
  | .const c => by
      cases c with
      | int n =>
        refine tNode_current lift rfl rfl ?_
        show (match (some (decide (n < 0)) : Option Bool) with
          | some true => lift (pure (.const (.int (-n)))) >>= fun a => lift (pure (PyAst.unop .usub a))
          | some false => lift (pure (PyAst.const (.int n)))
          | none => lift (throw .noClaim)) = lift (constToAst (.int n))
        by_cases h : n < 0 <;> simp [constToAst, h, hl]
      | flt r n d =>
        refine tNode_current lift rfl rfl ?_
        show (match (some (decide ((d = 0 ∧ r = "-inf") ∨ (d ≠ 0 ∧ n < 0))) : Option Bool) with
          | some true => lift (pure (.const (.flt (r.drop 1).toString (-n) d))) >>= fun a =>
              lift (pure (PyAst.unop .usub a))
          | some false => lift (pure (PyAst.const (.flt r n d)))
          | none => lift (throw .noClaim)) = lift (constToAst (.flt r n d))
        by_cases h : (d = 0 ∧ r = "-inf") ∨ (d ≠ 0 ∧ n < 0) <;> simp only [constToAst, h, hl] <;> rfl
      | bool b => exact tNode_current lift rfl rfl (by rfl)
      | _ => rfl
  | .var _ | .cmp .. | .cse .. | .subst .. | .deriv .. | .nan | .wildcard | .dotWild _
  | .starWild _ | .funcSym => tNode_current lift rfl rfl (by rfl)
  | .nary o cs => by
      simp only [c13ToAstT, toAstG, toAstRunsT_eq_G hl cs, foldBin_eq_table]
      cases o <;> exact tNode_current lift rfl rfl (by rfl)
  | .bin o a b => by
      simp only [c13ToAstT, toAstG, toAstT_eq_G hl a, toAstT_eq_G hl b, foldBin_eq_table]
      cases o <;> exact tNode_current lift rfl rfl (by rfl)
  | .un o a => by
      simp only [c13ToAstT, toAstG, toAstT_eq_G hl a]
      cases o <;> exact tNode_current lift rfl rfl (by rfl)
  | .ite c t e => by
      simp only [c13ToAstT, toAstG, toAstT_eq_G hl c, toAstT_eq_G hl t, toAstT_eq_G hl e]
      exact tNode_current lift rfl rfl (by rfl)
  | .call f as => by
      simp only [c13ToAstT, toAstG, toAstT_eq_G hl f, toAstRunsT_eq_G hl as]
      exact tNode_current lift rfl rfl (by rfl)
  | .callKw f as ns vs => by
      simp only [c13ToAstT, toAstG, toAstT_eq_G hl f, toAstRunsT_eq_G hl as, toAstRunsT_eq_G hl vs]
      exact tNode_current lift rfl rfl (by rfl)
  | .subscript a i => by
      simp only [c13ToAstT, toAstG, toAstT_eq_G hl a, toAstT_eq_G hl i]
      exact tNode_current lift rfl rfl (by rfl)
  | .lookup a _ => by
      simp only [c13ToAstT, toAstG, toAstT_eq_G hl a]
      exact tNode_current lift rfl rfl (by rfl)
  | .slice cs => by
      simp only [c13ToAstT, toAstG, toAstRunsT_eq_G hl cs, liftMkSlice_eq_table]
      exact tNode_current lift rfl rfl (by rfl)
  | .tuple cs | .list cs => by
      simp only [c13ToAstT, toAstG, toAstRunsT_eq_G hl cs]
      exact tNode_current lift rfl rfl (by rfl)
theorem toAstRunsT_eq_G (hl : ∀ (a : PyAst) (f : PyAst → M PyAst), lift (pure a) >>= f = f a) :
    ∀ cs : List Expr, c13ToAstRunsT lift classesCurrent toTableCurrent wrap cs = toAstGRuns lift wrap cs
  | [] => rfl
  | c :: cs => by
      simp only [c13ToAstRunsT, toAstGRuns, toAstT_eq_G hl c, toAstRunsT_eq_G hl cs]
end

end

/-- the memo-free reading of the regenerated table -/
abbrev toAstTP : Expr → Except AErr PyAst :=
  c13ToAstT (M := Except AErr) c13LiftId classesCurrent toTableCurrent c13NoMemo

/-- the mapper as coded: every `self.rec` goes through the memo protocol `withAstCache` -/
abbrev toAstTC : Expr → AstM PyAst :=
  c13ToAstT (M := AstM) AstM.lift classesCurrent toTableCurrent withAstCache

/-- **The hand-written exporter is the regenerated table, run** (memo-free reading, the one the
C13 theorems are about). -/
theorem toAst_eq_table_current : ∀ e : Expr, toAst e = toAstTP e :=
  fun e => (toAst_eq_G e).trans (toAstT_eq_G _ _ (fun _ _ => rfl) e).symm

/-- the suspended recursive calls on the elements of a tuple-valued attribute agree -/
theorem toAstRuns_eq_table_current : ∀ cs : List Expr,
    c13ModelRunsP cs
      = c13ToAstRunsT (M := Except AErr) c13LiftId classesCurrent toTableCurrent c13NoMemo cs :=
  fun cs => (modelRunsP_eq_G cs).trans (toAstRunsT_eq_G _ _ (fun _ _ => rfl) cs).symm

example : toAstTP (.nary .sum [.var "a", .const (.int (-2)), .var "c"])
    = .ok (.binop (.name "a") .add (.binop (.unop .usub (.const (.int 2))) .add (.name "c"))) := by
  rw [← toAst_eq_table_current]; rfl

/-- **The exporter AS CODED (a `CachedMapper`) is the regenerated table, run**: the same handlers
in the state-passing reading, every `self.rec(child)` wrapped in the memo protocol
(`withAstCache`: key hashed, hit returned, result stored), for every expression and every state
of the memo table.  This is the function the driver executes for the `to-ast` stream. -/
theorem toAstNode_eq_table_current : ∀ e : Expr, toAstNode e = toAstTC e :=
  fun e => (toAstNode_eq_G e).trans (toAstT_eq_G _ _ (fun _ _ => rfl) e).symm

/-- the suspended, memoized recursive calls on the elements of a tuple-valued attribute agree -/
theorem toAstRunsC_eq_table_current : ∀ cs : List Expr,
    c13ModelRunsC cs = c13ToAstRunsT (M := AstM) AstM.lift classesCurrent toTableCurrent withAstCache cs :=
  fun cs => (modelRunsC_eq_G cs).trans (toAstRunsT_eq_G _ _ (fun _ _ => rfl) cs).symm

/-- **`to_python_ast(expr)`**: a fresh instance of the mapper class the source names, called on the
expression — `toAstC` is the table interpreter started from the empty memo table -/
theorem toAstC_eq_table_current (e : Expr) :
    toAstC e = c13ToPythonAstT classesCurrent toTableCurrent e := by
  simp only [toAstC, c13ToPythonAstT, ← toAstNode_eq_table_current]
  rfl

example : c13ToPythonAstT classesCurrent toTableCurrent (.bin .pow (.const (.int (-2))) (.var "a"))
    = .ok (.binop (.unop .usub (.const (.int 2))) .pow (.name "a")) := by
  rw [← toAstC_eq_table_current]; rfl

/-! ## C. `CompileMapper` -/

/-- **The class body of `CompileMapper` in the current source**: `map_constant` (numpy-scalar
normalisation, `repr`, parenthesised iff not already wrapped, a sign in the text and the context
tighter than a sum), `map_common_subexpression` (the child at the enclosing precedence),
`rec_with_force_parens_around` (looks through the wrappers, then the base class's), the two
printers outside the tree model, `map_foreign` (the base class's) -/
theorem compile_mapper_overrides_current : compileMapperCurrent =
    { bases := ["StringifyMapper"],
      overrides := [
        ("map_constant", .constant true "repr" constCondExpected true false),
        ("map_common_subexpression", .recChild "child" true),
        ("rec_with_force_parens_around",
          .peelThenBase "CommonSubexpression" "child" "StringifyMapper" "rec_with_force_parens_around"),
        ("map_polynomial", .outside), ("map_numpy_array", .outside),
        ("map_foreign", .callBase "StringifyMapper" "map_foreign")] } := by decide +kernel

/-- the two parameters of the stringifier model these rows amount to -/
theorem printer_current (S : PrintPrec) :
    c13PrinterOf compileMapperCurrent S = some (c13ConstT S "repr" constCondExpected true false, true) := by
  rfl

/-- **`constPiecesRepr` is the `map_constant` row, run**, for every constant and enclosing
precedence (the text predicates on `repr(c)`: an int contains `-` iff negative, a float's `repr` is
part of the constant, no modelled text starts with a parenthesis) -/
theorem constPieces_eq_table_current (S : PrintPrec) (c : Const) (enc : Nat) :
    (c13PrinterOf compileMapperCurrent S).map (fun p => p.1 c enc) = some (constPiecesRepr S c enc) := by
  rw [printer_current, constPiecesRepr_eq_table]; rfl

/-- **The compile printer is the stringifier model with the overrides of the current class
body**: `CompileMapper()(e, enc)` as the table says = `strG` with the constant printer and the
common-subexpression handling the model was written with -/
theorem strG_eq_table_current (S : PrintPrec) (e : Expr) (enc : Nat) :
    strG S (constPiecesRepr S) true e enc = c13StrT compileMapperCurrent S e enc := by
  simp only [c13StrT, printer_current, constPiecesRepr_eq_table]

/-- `compilePieces` = the printer of the current class body at `PREC_NONE` -/
theorem compilePieces_eq_table_current (S : PrintPrec) (e : Expr) :
    compilePieces S e = c13StrT compileMapperCurrent S e S.none :=
  strG_eq_table_current S e S.none

example : (c13StrT compileMapperCurrent Generated.printPrec
    (.bin .pow (.const (.int (-2))) (.cse (.var "a") none "")) Generated.printPrec.none).map render
    = .ok "(-2)**a" := by rw [← compilePieces_eq_table_current]; decide +kernel

/-- WHAT AN EDIT DOES: a class body that drops `rec_with_force_parens_around` but keeps
`map_common_subexpression` (the child printed bare also where parentheses are forced) is not a printer the model
can express: the interpreter refuses, and `strG_eq_table_current` fails for that table -/
theorem cse_without_peel_table_cex :
    c13PrinterOf { compileMapperCurrent with overrides :=
      [("map_common_subexpression", .recChild "child" true)] } Generated.printPrec = none := by rfl

/-! ## D. `CompiledExpression` -/

/-- the flags `DependencyMapper(composite_leaves=False)` ends up with, from the `__init__` table
of C09 -/
theorem compile_dep_flags_current :
    c09InitFlags Generated.c09DepInit {} (some false) = compileDepFlags := dep_flags_current_aux

/-- **`CompiledExpression` of the current source, statement by statement** -/
theorem compiled_protocol_current : compiledCurrent =
    { initNoneDefault := true, initCallsCompile := true,
      compile := [
        .storeExpr "_Expression", .storeVars "_Variables" true, .ctxFromContext true,
        .ctxTryImport "numpy", .depsOf "DependencyMapper" (some false) "_Expression",
        .minusAttrSet "_Variables", .minusCtxVars, .toList, .sortByName, .allVars .listed .used,
        .body "CompileMapper" "_Expression" "PREC_NONE", .lambdaText ["lambda ", ": ", ""] ",",
        .evalCode "_code"],
      getstate := [.attr "_Expression", .attr "_Variables"],
      setstateCompileStar := true, callCodeStar := some "_code", contextKeys := ["math"] } := by
  decide +kernel

/-- **`compileModel` is `_compile` of the current source, run**: for every expression and every
list of listed variables — free-variable discovery (`DependencyMapper(composite_leaves=False)`),
the listed variables and the names bound in the eval globals (`context()` plus `numpy`) removed,
the rest sorted by name, `listed + rest` (listed FIRST), the body printed by `CompileMapper` at
`PREC_NONE` (class body of section C), errors in statement order. -/
theorem compileModel_eq_table_current (S : PrintPrec) (e : Expr) (listed : List String) :
    compileModel S e listed
      = c13CompileT Generated.c09DepInit (c13Printers compileMapperCurrent S) compiledCurrent S e
          listed := by
  rw [compileT_unfold, ← compilePieces_eq_table_current]
  simp only [compileModel, compileStr]
  cases deps compileDepFlags e with
  | error err => rfl
  | ok used =>
    cases compilePieces S e with
    | error err => rfl
    | ok ps =>
      simp [argOrder, contextNames, List.filter_filter, Except.map, pure, Except.pure, Bool.and_comm]

example : (c13CompileT Generated.c09DepInit (c13Printers compileMapperCurrent Generated.printPrec)
    compiledCurrent Generated.printPrec (.nary .sum [.var "b", .var "math", .var "a", .var "z"]) ["z"]).map
    (fun c => (c.args, c.src)) = .ok (["z", "a", "b"], "b + math + a + z") := by
  rw [← compileModel_eq_table_current]; decide +kernel

/-- WHAT AN EDIT DOES: `all_variables = used_variables + self._Variables` puts the listed variables
last -/
theorem listed_last_table_cex :
    let T := { compiledCurrent with compile := compiledCurrent.compile.map fun s =>
      match s with | .allVars _ _ => .allVars .used .listed | s => s }
    (c13CompileT Generated.c09DepInit (c13Printers compileMapperCurrent Generated.printPrec) T
      Generated.printPrec (.nary .sum [.var "a", .var "z"]) ["z"]).map (·.args) = .ok ["a", "z"]
    ∧ (compileModel Generated.printPrec (.nary .sum [.var "a", .var "z"]) ["z"]).map (·.args)
      = .ok ["z", "a"] := by decide +kernel

/-- the text handed to `eval` is the format string of the current source, filled -/
theorem lambdaSrc_eq_table_current (c : Compiled) :
    some c.lambdaSrc = c13LambdaT compiledCurrent c.args c.src := by
  simp [c13LambdaT, compiledCurrent, Generated.c13CompiledTable, Compiled.lambdaSrc, List.find?]

/-- **the pickled state of the current source is (expression, listed variables)** -/
theorem getstate_eq_table_current (c : Compiled) :
    some c.getstate = c13GetstateT compiledCurrent c := by
  simp [c13GetstateT, compiledCurrent, Generated.c13CompiledTable, Compiled.getstate, c13ExprAttr,
    c13VarsAttr, List.findSome?]

/-- **`__setstate__` of the current source compiles the state again** -/
theorem setstate_eq_table_current (S : PrintPrec) (st : Expr × List String) :
    setstate S st
      = c13SetstateT Generated.c09DepInit (c13Printers compileMapperCurrent S) compiledCurrent S st := by
  simp only [setstate, c13SetstateT, compileModel_eq_table_current]
  rfl

/-- WHAT AN EDIT DOES: `return self._Expression, []` forgets the listed variables -/
theorem getstate_drops_vars_table_cex :
    let T := { compiledCurrent with getstate := [.attr "_Expression", .emptyList] }
    let c : Compiled := { expr := .var "a", vars := ["z", "a"], args := ["z", "a"], src := "a" }
    c13GetstateT T c = some (.var "a", []) ∧ c.getstate = (.var "a", ["z", "a"]) := by decide +kernel

/-! ## E. `to_evaluatable_python_function` -/

/-- what the current source does before `ast.unparse` -/
theorem func_source_current : funcSrcCurrent =
    { depMapper := "CachedDependencyMapper", compositeLeaves := some false, namesSortedSet := true,
      kwonlyOnly := true, bodyReturnsToPythonAst := true, nameFromArg := true,
      unparse := "ast.unparse" } := by decide +kernel

/-- **the keyword-only signature and the returned expression are the table's**: names of the free
variables (`composite_leaves=False`), as a sorted set; the body is `to_python_ast(expr)` -/
theorem funcSig_eq_table_current (e : Expr) :
    funcSigModel e
      = c13FuncSigT Generated.c09DepInit classesCurrent toTableCurrent funcSrcCurrent e := by
  simp only [funcSigModel, c13FuncSigT, ← toAstC_eq_table_current]
  rfl

/-! ## The C13 theorems, about the regenerated tables -/

/-- **What the current source says preserves the value**: the AST the regenerated handler table
builds for `e` means what the evaluator computes, on the fragment `AstOk`
(`toAst_value` transported along `toAst_eq_table_current`). -/
theorem toAst_value_current (env : Env) (e : Expr) (a : PyAst) (h : toAstTP e = .ok a)
    (hok : AstOk env e) : denAst env a = den env e :=
  toAst_value env e a (by rw [toAst_eq_table_current]; exact h) hok

/-- **Export then import with the two regenerated tables gives the expression back, up to binary
nesting** (`fromAst_toAst` transported) -/
theorem fromAst_toAst_current (e : Expr) (a : PyAst) (h : toAstTP e = .ok a) (hok : RtOk e) :
    ∃ e', c13FromAstT fromTableCurrent a = .ok e' ∧ flattenNest e' = flattenNest e := by
  rw [← fromAst_eq_table_current]
  exact fromAst_toAst e a (by rw [toAst_eq_table_current]; exact h) hok

/-- **Argument order of the current `_compile`**: whatever the table run returns stores the
expression and the listed variables and has the argument list `listed ++ tail`, the tail strictly
increasing and exactly the free variables that are neither listed nor context names
(`compile_args` transported) -/
theorem compile_args_current (S : PrintPrec) (e : Expr) (listed : List String) (c : Compiled)
    (h : c13CompileT Generated.c09DepInit (c13Printers compileMapperCurrent S) compiledCurrent S e
      listed = .ok c) :
    c.expr = e ∧ c.vars = listed ∧ ∃ tail, c.args = listed ++ tail ∧ tail.Pairwise (· < ·) ∧
      ∀ x, x ∈ tail ↔ (x ∈ C09.fv e ∧ x ∉ listed ∧ x ∉ contextNames) :=
  compile_args S e listed c (by rw [compileModel_eq_table_current]; exact h)

/-- **Pickling with the current `__getstate__` / `__setstate__`**: the state the table names, fed
to the table's `__setstate__`, compiles to the same object (`pickle_same` transported) -/
theorem pickle_same_current (S : PrintPrec) (e : Expr) (listed : List String) (c : Compiled)
    (h : c13CompileT Generated.c09DepInit (c13Printers compileMapperCurrent S) compiledCurrent S e
      listed = .ok c) :
    (c13GetstateT compiledCurrent c).map
      (c13SetstateT Generated.c09DepInit (c13Printers compileMapperCurrent S) compiledCurrent S)
      = some (.ok c) := by
  rw [← getstate_eq_table_current, Option.map_some, ← setstate_eq_table_current]
  exact congrArg some (pickle_same S e listed c (by rw [compileModel_eq_table_current]; exact h))

example : (c13CompileT Generated.c09DepInit (c13Printers compileMapperCurrent Generated.printPrec)
    compiledCurrent Generated.printPrec (.var "a") ["z"]).isOk = true := by
  rw [← compileModel_eq_table_current]; decide +kernel

end PV.C13
