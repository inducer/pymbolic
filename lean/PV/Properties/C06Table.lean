import PV.Proofs.StrTableSteps
import PV.Proofs.SyntaxBEq
import PV.Generated.Prec
/-
  C06 (shared by C13, C14) — T-gen tie of the printer model to the source.

  `PV.Generated.c06tTable` is rewritten on every run by `extract/stringifier.py` from the source
  text of `StringifyMapper` in the working tree: for every node class the handler the dispatch
  reaches, and for every handler its body in the handler language of PV/Model/StrTable.lean (format
  templates and separators, the attribute printed by every recursion, the precedence constant
  passed to it, `rec` vs `rec_with_force_parens_around`, the class tuple under
  `force_parens_around`, the own precedence handed to `parenthesize_if_needed`, the sign test of
  `map_constant`, the tuple test of `map_subscript`, the one-element comma of `map_tuple`, the loop
  of `map_slice`, …), the helper parameters, the default precedence of `__call__`.

  `c06tStr T` RUNS a table: it knows no handler, only the language.  `strE_eq_table_current` proves
  that the hand-written printer model `strE` (PV/Model/Stringify.lean) — the one the driver
  executes, the theorems of PV/Properties/C06.lean (round trip), C07, C13 (`strG`, the compile
  printer, is `strE` up to its two overrides) and the lexer proofs are about — IS the interpreter
  applied to the regenerated table, for all expressions, all enclosing precedences and all
  precedence tables `S`.  An edit of a handler that changes its table entry (`PREC_SHIFT + 1` ↦
  `PREC_SHIFT` for a shift operand, a power base printed at `PREC_POWER`, comparison operands at
  `PREC_COMPARISON`, a class dropped from `force_parens_around`, the one-element tuple comma
  dropped, another separator, …) makes the lemma of that entry (PV/Proofs/StrTable.lean) and the
  corresponding case below fail to check.

  This file does not import the C06 round-trip proofs, so that C13 and C14 can state their own
  corollaries on top of it.
-/
namespace PV.C06
open PV PV.C06T PV.Syntax

mutual
/-- **The hand-written printer is the regenerated table, run.**  For every node (every
constructor, every operator), every enclosing precedence and every precedence table `S`: the
printer model `strE` equals the table interpreter on the table of the current tree (with the
model's limits `lim = true`: no claim about `Substitution` / `Derivative`).  Case analysis on the
constructor; in each case the left-hand side is computed from the table entry alone (dispatch:
class ↦ handler; handler ↦ body; body run on the node's attributes), so templates, separators,
child precedences, own precedence, forced classes and evaluation order are all read from the
table. -/
theorem strE_eq_table_current (S : PrintPrec) :
    ∀ e, c06tStr tableCurrent true S e = strE S e
  | .const (.int n) => by
      funext enc
      rw [c06tStr, strE, Const.c06tKind, c06tForeign_of c06t_foreign_int c06t_body_map_constant,
        map_constant_run rfl rfl rfl rfl]
      by_cases h : n < 0 <;> simp [Const.c06tBody, constPieces, h]
  | .const (.bool b) => by
      funext enc
      rw [c06tStr, strE, Const.c06tKind, c06tForeign_of c06t_foreign_bool c06t_body_map_constant,
        map_constant_run rfl rfl rfl rfl]
      rfl
  | .const (.flt r n d) => by
      funext enc
      rw [c06tStr, strE, Const.c06tKind, c06tForeign_of c06t_foreign_float c06t_body_map_constant,
        map_constant_run rfl rfl rfl rfl]
      by_cases hd : d = 0
      · subst hd
        rfl
      · simp [Const.c06tBody, constPieces, hd, Bool.or_right_comm]
  | .const (.str s) => by
      funext enc
      rw [c06tStr, Const.c06tKind, c06tForeign_none c06t_foreign_str, c06t_foreign_else]
      rfl
  | .const .none => by
      funext enc
      rw [c06tStr, Const.c06tKind, c06tForeign_none c06t_foreign_none, c06t_foreign_else]
      rfl
  | .var x => by
      funext enc
      rw [c06tStr, strE, c06tClass_of c06t_cls_Variable c06t_body_map_variable]
      c06t_run
  | .nary .sum cs => by
      funext enc
      rw [c06tStr, strE, kids_eq_table_current S cs, NaryOp.name,
        c06tClass_of c06t_cls_Sum c06t_body_map_sum]
      c06t_run
  | .nary .prod cs => by
      funext enc
      rw [c06tStr, strE, kids_eq_table_current S cs, NaryOp.name,
        c06tClass_of c06t_cls_Product c06t_body_map_product]
      c06t_run
  | .nary .bor cs => by
      funext enc
      rw [c06tStr, strE, kids_eq_table_current S cs, NaryOp.name,
        c06tClass_of c06t_cls_BitwiseOr c06t_body_map_bitwise_or]
      c06t_run
  | .nary .bxor cs => by
      funext enc
      rw [c06tStr, strE, kids_eq_table_current S cs, NaryOp.name,
        c06tClass_of c06t_cls_BitwiseXor c06t_body_map_bitwise_xor]
      c06t_run
  | .nary .band cs => by
      funext enc
      rw [c06tStr, strE, kids_eq_table_current S cs, NaryOp.name,
        c06tClass_of c06t_cls_BitwiseAnd c06t_body_map_bitwise_and]
      c06t_run
  | .nary .lor cs => by
      funext enc
      rw [c06tStr, strE, kids_eq_table_current S cs, NaryOp.name,
        c06tClass_of c06t_cls_LogicalOr c06t_body_map_logical_or]
      c06t_run
  | .nary .land cs => by
      funext enc
      rw [c06tStr, strE, kids_eq_table_current S cs, NaryOp.name,
        c06tClass_of c06t_cls_LogicalAnd c06t_body_map_logical_and]
      c06t_run
  | .nary .min cs => by
      funext enc
      rw [c06tStr, strE, kids_eq_table_current S cs, NaryOp.name,
        c06tClass_of c06t_cls_Min c06t_body_map_min]
      c06t_run
  | .nary .max cs => by
      funext enc
      rw [c06tStr, strE, kids_eq_table_current S cs, NaryOp.name,
        c06tClass_of c06t_cls_Max c06t_body_map_max]
      c06t_run
  | .bin .quot a b => by
      funext enc
      rw [c06tStr, strE, strE_eq_table_current S a, strE_eq_table_current S b, BinOp.name,
        c06tClass_of c06t_cls_Quotient c06t_body_map_quotient]
      c06t_run
  | .bin .floordiv a b => by
      funext enc
      rw [c06tStr, strE, strE_eq_table_current S a, strE_eq_table_current S b, BinOp.name,
        c06tClass_of c06t_cls_FloorDiv c06t_body_map_floor_div]
      c06t_run
  | .bin .rem a b => by
      funext enc
      rw [c06tStr, strE, strE_eq_table_current S a, strE_eq_table_current S b, BinOp.name,
        c06tClass_of c06t_cls_Remainder c06t_body_map_remainder]
      c06t_run
  | .bin .pow a b => by
      funext enc
      rw [c06tStr, strE, strE_eq_table_current S a, strE_eq_table_current S b, BinOp.name,
        c06tClass_of c06t_cls_Power c06t_body_map_power]
      c06t_run
  | .bin .lshift a b => by
      funext enc
      rw [c06tStr, strE, strE_eq_table_current S a, strE_eq_table_current S b, BinOp.name,
        c06tClass_of c06t_cls_LeftShift c06t_body_map_left_shift]
      c06t_run
  | .bin .rshift a b => by
      funext enc
      rw [c06tStr, strE, strE_eq_table_current S a, strE_eq_table_current S b, BinOp.name,
        c06tClass_of c06t_cls_RightShift c06t_body_map_right_shift]
      c06t_run
  | .un .bnot a => by
      funext enc
      rw [c06tStr, strE, strE_eq_table_current S a, UnOp.name,
        c06tClass_of c06t_cls_BitwiseNot c06t_body_map_bitwise_not]
      c06t_run
  | .un .lnot a => by
      funext enc
      rw [c06tStr, strE, strE_eq_table_current S a, UnOp.name,
        c06tClass_of c06t_cls_LogicalNot c06t_body_map_logical_not]
      c06t_run
  | .cmp o a b => by
      funext enc
      rw [c06tStr, strE, strE_eq_table_current S a, strE_eq_table_current S b,
        c06tClass_of c06t_cls_Comparison c06t_body_map_comparison]
      c06t_run
  | .ite c t e => by
      funext enc
      rw [c06tStr, strE, strE_eq_table_current S c, strE_eq_table_current S t,
        strE_eq_table_current S e, c06tClass_of c06t_cls_If c06t_body_map_if]
      c06t_run
  | .call f as => by
      funext enc
      rw [c06tStr, strE, strE_eq_table_current S f, kids_eq_table_current S as,
        c06tClass_of c06t_cls_Call c06t_body_map_call]
      c06t_run
  | .callKw f as ns vs => by
      funext enc
      rw [c06tStr, strE, strE_eq_table_current S f, kids_eq_table_current S as,
        kids_eq_table_current S vs,
        c06tClass_of c06t_cls_CallWithKwargs c06t_body_map_call_with_kwargs]
      c06t_run
  | .subscript a i => by
      funext enc
      have ih0 := strE_eq_table_current S a
      have ih1 := strE_eq_table_current S i
      cases i with
      | tuple cs =>
        rw [c06tStr, strE, ih0, kids_eq_table_current S cs,
          c06tClass_of c06t_cls_Subscript c06t_body_map_subscript]
        c06t_run
      | _ => exact subscript_nt_step S a _ (by intro cs h; cases h) ih0 ih1 enc
  | .lookup a n => by
      funext enc
      rw [c06tStr, strE, strE_eq_table_current S a,
        c06tClass_of c06t_cls_Lookup c06t_body_map_lookup]
      c06t_run
  | .cse c p s => by
      funext enc
      rw [c06tStr, strE, strE_eq_table_current S c,
        c06tClass_of c06t_cls_CommonSubexpression c06t_body_map_common_subexpression]
      c06t_run
  | .subst c vs xs => by
      funext enc
      simp only [c06tStr, strE, if_true]
  | .deriv c vs => by
      funext enc
      simp only [c06tStr, strE, if_true]
  | .slice cs => by
      funext enc
      rw [c06tStr, strE, kids_eq_table_current S cs,
        c06tClass_of c06t_cls_Slice c06t_body_map_slice]
      c06t_run
  | .nan => by
      funext enc
      rw [c06tStr, strE, c06tClass_of c06t_cls_NaN c06t_body_map_nan]
      c06t_run
  | .wildcard => by
      funext enc
      rw [c06tStr, strE, c06tClass_of c06t_cls_Wildcard c06t_body_map_wildcard]
      c06t_run
  | .dotWild n => by
      funext enc
      rw [c06tStr, strE, c06tClass_of c06t_cls_DotWildcard c06t_body_map_algebraic_leaf]
      c06t_run
  | .starWild n => by
      funext enc
      rw [c06tStr, strE, c06tClass_of c06t_cls_StarWildcard c06t_body_map_algebraic_leaf]
      c06t_run
  | .funcSym => by
      funext enc
      rw [c06tStr, strE, c06tClass_of c06t_cls_FunctionSymbol c06t_body_map_function_symbol]
      c06t_run
  | .tuple cs => by
      funext enc
      rw [c06tStr, strE, kids_eq_table_current S cs,
        c06tForeign_of c06t_foreign_tuple c06t_body_map_tuple]
      by_cases h : cs.length = 1 <;> c06t_run
  | .list cs => by
      funext enc
      rw [c06tStr, strE, kids_eq_table_current S cs,
        c06tForeign_of c06t_foreign_list c06t_body_map_list]
      c06t_run
/-- the suspended recursive calls on the elements of a tuple-valued attribute agree -/
theorem kids_eq_table_current (S : PrintPrec) :
    ∀ cs, c06tKids tableCurrent true S cs = kidsOf S cs
  | [] => by simp only [c06tKids, kidsOf]
  | c :: cs => by
      simp only [c06tKids, kidsOf, strE_eq_table_current S c, kids_eq_table_current S cs]
end

/-- the interpreter on a non-trivial tree: forced parentheses, a shift operand, a negative
constant under a power, a one-element tuple, a subscript with a tuple index and a slice -/
example :
    (c06tStrTop tableCurrent true Generated.printPrec (.nary .sum
      [.bin .quot (.var "a") (.nary .prod [.var "b", .bin .rem (.var "c") (.var "d")]),
       .bin .lshift (.var "x") (.bin .lshift (.var "y") (.const (.int 1))),
       .bin .pow (.const (.int (-2))) (.var "n"),
       .call (.var "f") [.tuple [.var "t"]],
       .subscript (.var "v") (.tuple [.var "i", .slice [.const .none, .var "j"]])])).map render
      = .ok "a / (b*(c % d)) + (x << (y << 1)) + (-2)**n + f((t,)) + v[i, :j]" := by
  decide +kernel

/-! ### corollaries: the other entry points of the model -/

/-- **`str(expr)`**: `StringifyMapper.__call__` with its default precedence (read from the
signature in the current source; `Expression.__str__` passes the same constant explicitly) is the
model's `strTop` -/
theorem strTop_eq_table_current (S : PrintPrec) (e : Expr) :
    c06tStrTop tableCurrent true S e = strTop S e := by
  simp only [c06tStrTop, strTop, ← strE_eq_table_current S e]
  rfl

example : (c06tStrTop tableCurrent true Generated.printPrec
    (.nary .prod [.var "a", .nary .sum [.var "b", .const (.int (-1))]])).map render
      = .ok "a*(b + -1)" := by decide +kernel

/-- **`map_constant`**: the sign parenthesisation of the model (`constPieces`, also used by the C
code printer) is what the current source prescribes -/
theorem constPieces_eq_table_current (S : PrintPrec) (c : Const) (enc : Nat) :
    c06tStr tableCurrent true S (.const c) enc = constPieces S c enc := by
  rw [strE_eq_table_current S (.const c)]
  simp only [strE]

example : (c06tStr tableCurrent true Generated.printPrec (.const (.int (-3))) 12).map render
    = .ok "(-3)" := by decide +kernel

/-- the list printers of the model (`join_rec` without / with the forced classes of
`map_product`, the loop of `map_slice`) are the interpreter's recursion over the child list -/
theorem strL_eq_table_current (S : PrintPrec) (cs : List Expr) (p : Nat) :
    c06tRunAll tableCurrent.helpers none (c06tKids tableCurrent true S cs) p = strL S cs p
    ∧ c06tRunAll tableCurrent.helpers (some ["Quotient", "FloorDiv", "Remainder"])
        (c06tKids tableCurrent true S cs) p = strForceL S false cs p
    ∧ c06tRunAllOpt [] (c06tKids tableCurrent true S cs) S.none = strSliceL S cs := by
  rw [kids_eq_table_current]
  exact ⟨runAll_plain _ S p cs, runAll_force_div S p cs, runAllOpt_eq S cs⟩

example : (strL Generated.printPrec [.var "a", .const (.int 1)] 0).map (·.map render)
    = .ok ["a", "1"] := by decide +kernel

/-- **`rec_with_force_parens_around`** of the current source is the model's `forceWrap`: the class
tuple of `map_product` is `isDivision`, `multiplicative_primitives` is `isMultiplicative` -/
theorem forceWrap_eq_table_current (S : PrintPrec) (c : Expr) (p : Nat) :
    c06tRecForce tableCurrent.helpers ["Quotient", "FloorDiv", "Remainder"]
        ⟨c.c06tCls, strE S c⟩ p = (do let r ← strE S c p; pure (forceWrap false c r))
    ∧ c06tRecForce tableCurrent.helpers ["Product", "Quotient", "FloorDiv", "Remainder"]
        ⟨c.c06tCls, strE S c⟩ p = (do let r ← strE S c p; pure (forceWrap true c r)) :=
  ⟨recForce_div S c p, recForce_mult S c p⟩

example : forceWrap true (.nary .prod [.var "a"]) [sy "a"] = [sy "(", sy "a", sy ")"] := by
  decide +kernel

/-! ### the handlers the model makes no claim about: `Substitution`, `Derivative` -/

/-- **The full table printer** (`lim = false`: every handler of the current source runs, the one
the `table-str` stream compares with the real printer) **is the model** on every tree without
`Substitution` / `Derivative` nodes -/
theorem table_full_eq_strE_current (S : PrintPrec) (e : Expr) (h : c06tPlain e = true) :
    c06tStr tableCurrent false S e = strE S e := by
  rw [full_eq_lim _ S e h, strE_eq_table_current]

example : c06tPlain (.nary .sum [.var "a", .cse (.var "b") none "s"]) = true := by decide +kernel

/-- the pieces of `d/dx d/dy` -/
def c06tDerivPieces (vars : List String) : Pieces :=
  joinWith [.sp] (vars.map fun v => [.tok (.ident "d"), sy "/", .tok (.ident "d"), .tok (.ident v)])

/-- **`map_derivative`** of the current source: `d/dx d/dy child`, the child at `PREC_PRODUCT`,
never parenthesised itself -/
theorem table_deriv_step_current (S : PrintPrec) (c : Expr) (vars : List String) (enc : Nat) :
    c06tStr tableCurrent false S (.deriv c vars) enc = (do
      let x ← c06tStr tableCurrent false S c S.product
      pure (c06tDerivPieces vars ++ [.sp] ++ x)) := by
  rw [c06tStr]
  generalize c06tStr tableCurrent false S c = f
  have := fillEach_deriv vars
  rw [if_neg Bool.false_ne_true, c06tClass_of c06t_cls_Derivative c06t_body_map_derivative]
  c06t_run
  simp [c06tDerivPieces]

example : (c06tStrTop tableCurrent false Generated.printPrec
    (.deriv (.nary .sum [.var "f", .const (.int 1)]) ["x", "y"])).map render
      = .ok "d/dx d/dy (f + 1)" := by decide +kernel

/-- **`map_substitution`** of the current source: `[child]{x=v, …}`; the values are printed (at
`PREC_NONE`) before the child -/
theorem table_subst_step_current (S : PrintPrec) (c : Expr) (vars : List String)
    (vals : List Expr) (enc : Nat) :
    c06tStr tableCurrent false S (.subst c vars vals) enc = (do
      let vs ← c06tRunAll tableCurrent.helpers none (c06tKids tableCurrent false S vals) S.none
      let x ← c06tStr tableCurrent false S c S.none
      pure (sy "[" :: x ++ [sy "]", sy "{"]
        ++ joinWith [sy ",", .sp]
            ((vars.zip vs).map fun p => (.tok (.ident p.1) : Piece) :: sy "=" :: p.2)
        ++ [sy "}"])) := by
  rw [c06tStr]
  generalize c06tStr tableCurrent false S c = f
  generalize c06tKids tableCurrent false S vals = ks
  rw [if_neg Bool.false_ne_true, c06tClass_of c06t_cls_Substitution c06t_body_map_substitution]
  c06t_run

example : (c06tStrTop tableCurrent false Generated.printPrec
    (.subst (.nary .sum [.var "f", .const (.int 1)]) ["x", "y"]
      [.const (.int 1), .nary .prod [.var "z", .const (.int 2)]])).map render
      = .ok "[f + 1]{x=1, y=z*2}" := by decide +kernel

/-! ### decidable facts about the regenerated table -/

/-- the attribute names the IR (and `harness/sexp.py`) assumes for every node class are the
dataclass fields of the live classes, in order -/
theorem printer_ir_fields_current :
    tableCurrent.classes.map (fun c => (c.cls, c.fields)) = c06tIRFields := rfl

/-- every literal of the handler bodies and helper templates is in the printer's alphabet, and the
pieces it is read as spell it -/
theorem printer_literals_render_current :
    (tableCurrent.literals.all fun s => (c06tLit s).map render == some s) = true := by
  decide +kernel

example : (c06tLit " // ").map render = some " // " := by decide +kernel

/-- the helpers of the current source: `parenthesize(s)` = `(s)`;
`parenthesize_if_needed`: `(s)` iff `enclosing_prec > my_prec`;
`rec_with_force_parens_around`: keyword `force_parens_around`, default `()`, `(result)` -/
theorem printer_helpers_current : tableCurrent.helpers =
    { parenthesize := [.lit "(", .hole, .lit ")"], parenIfCmp := .gt,
      parenIfWrap := [.lit "(", .hole, .lit ")"], forceKw := "force_parens_around",
      forceDefault := [], forceWrap := [.lit "(", .hole, .lit ")"] } := c06t_helpers

example : C06TCmp.gt.holds 12 11 = true ∧ C06TCmp.gt.holds 11 11 = false := by decide

/-- `str(expr)` = `StringifyMapper()(expr, PREC_NONE)`; `__call__` defaults to `PREC_NONE` and
hands over to `Mapper.__call__`, which is `rec` -/
theorem printer_entry_points_current :
    tableCurrent.mapper = "StringifyMapper"
    ∧ tableCurrent.strEntry = ("StringifyMapper", ⟨"PREC_NONE", 0⟩)
    ∧ tableCurrent.callDefaultPrec = ⟨"PREC_NONE", 0⟩
    ∧ tableCurrent.recOwner = "Mapper" := ⟨rfl, rfl, rfl, rfl⟩

/-- every node class of the IR is dispatched to a handler whose body was read (no dangling handler
name), and so are constants, tuples and lists -/
theorem printer_handlers_present_current :
    (tableCurrent.classes.all fun c => match c.handler with
      | none => false
      | some h => (tableCurrent.handlerBody h).isSome) = true
    ∧ (tableCurrent.foreign.all fun r =>
        r.1 == "numpy" || (tableCurrent.handlerBody r.2).isSome) = true := by
  decide +kernel

/-! ### Non-vacuity: the interpreter really reads the table -/

def c06tEdit (h : String) (body : C06TProg) : C06TTable :=
  { tableCurrent with
    handlers := tableCurrent.handlers.map fun e => if e.name = h then { e with body := body } else e }

/-- a table that differs from the current one only in the precedence `map_left_shift` passes to
its operands (`PREC_SHIFT` instead of `PREC_SHIFT + 1`) … -/
def tableShiftOperand : C06TTable :=
  c06tEdit "map_left_shift"
    (.ret (.parenIf (.fmt [.hole, .lit " << ", .hole]
      [.recF "shiftee" ⟨"PREC_SHIFT", 0⟩ false, .recF "shift" ⟨"PREC_SHIFT", 0⟩ false])
      ⟨"PREC_SHIFT", 0⟩))

/-- … prints `a << (b << c)` without its parentheses, the current table (and the model) with
them: the interpreter takes the operand precedence from the table, so
`strE_eq_table_current` would not check against such a source. -/
theorem shift_operand_table_cex :
    (c06tStrTop tableCurrent true Generated.printPrec
        (Expr.bin .lshift (.var "a") (.bin .lshift (.var "b") (.var "c")))).map render = .ok "a << (b << c)" ∧
    (c06tStrTop tableShiftOperand true Generated.printPrec
        (Expr.bin .lshift (.var "a") (.bin .lshift (.var "b") (.var "c")))).map render = .ok "a << b << c" ∧
    (strTop Generated.printPrec
        (Expr.bin .lshift (.var "a") (.bin .lshift (.var "b") (.var "c")))).map render = .ok "a << (b << c)" := by
  rw [strTop_eq_table_current]
  decide +kernel

/-- a table whose `map_tuple` lost the one-element comma … -/
def tableTupleComma : C06TTable :=
  c06tEdit "map_tuple"
    (.assign "el_str" (.join ", " (.recEach .self ⟨"PREC_NONE", 0⟩ false))
      (.ret (.fmt [.lit "(", .hole, .lit ")"] [.var "el_str"])))

/-- … prints the tuple `(a,)` as `(a)` -/
theorem tuple_comma_table_cex :
    (c06tStrTop tableCurrent true Generated.printPrec
        (Expr.tuple [.var "a"])).map render = .ok "(a,)" ∧
    (c06tStrTop tableTupleComma true Generated.printPrec
        (Expr.tuple [.var "a"])).map render = .ok "(a)" ∧
    (strTop Generated.printPrec
        (Expr.tuple [.var "a"])).map render = .ok "(a,)" := by
  rw [strTop_eq_table_current]
  decide +kernel

/-- a table whose `map_product` forces parentheses around `Quotient` and `FloorDiv` only … -/
def tableForceDropped : C06TTable :=
  c06tEdit "map_product"
    (.setForce ["Quotient", "FloorDiv"] ["Quotient", "FloorDiv"]
      (.ret (.parenIf (.join "*" (.recEach (.field "children") ⟨"PREC_PRODUCT", 0⟩ true))
        ⟨"PREC_PRODUCT", 0⟩)))

/-- … prints `a*(b % c)` as `a*b % c` -/
theorem force_dropped_table_cex :
    (c06tStrTop tableCurrent true Generated.printPrec
        (Expr.nary .prod [.var "a", .bin .rem (.var "b") (.var "c")])).map render = .ok "a*(b % c)" ∧
    (c06tStrTop tableForceDropped true Generated.printPrec
        (Expr.nary .prod [.var "a", .bin .rem (.var "b") (.var "c")])).map render = .ok "a*b % c" ∧
    (strTop Generated.printPrec
        (Expr.nary .prod [.var "a", .bin .rem (.var "b") (.var "c")])).map render = .ok "a*(b % c)" := by
  rw [strTop_eq_table_current]
  decide +kernel

end PV.C06
