import PV.Model.Parser
import PV.Generated.Prec
import PV.Proofs.SyntaxSuffix
import PV.Proofs.SyntaxGrouping
import PV.Proofs.SyntaxLexOrder
import PV.Proofs.SyntaxLexRender
import PV.Generated.Lex
/-
  C07 — the parser groups operators as Python does, and consumes the whole input or raises.

  Proved about the parser model (`parseExpr …`, tied to `pymbolic.parser.Parser` by the
  correspondence stream), for an ARBITRARY precedence table `P`:
  * `rest_is_suffix`, `consumes_all_or_error`: a parse function only ever removes a prefix of its
    input, and `parseTop` succeeds only if nothing is left;
  * `two_operator_grouping`, `prefix_operator_grouping`: `a o1 b o2 c` and `p a o b` are grouped
    according to one comparison of table entries (`absorbs2`, `absorbsPre`);
  * `grouping_agrees`: outside a table's deviations the grouping is Python's
    (`grouping_agrees_current`: the instance for the regenerated table);
  and, for the table regenerated from /repo, against Python's own grouping written down from the
  language reference (`pyGroup`, `pyPrefixWide`):
  * `grouping_deviations_current`, `prefix_deviations_current`: the operator pairs on which the
    parser deviates from Python are EXACTLY the listed ones;
  and about the LEXER model (`PV/Model/Lexer.lean`, tied to `pytools.lex.lex` on
  `Parser.lex_table` by the `lex` streams):
  * `lexer_partitions_input` (any table): the lexed items are non-empty and concatenate to the
    input; `parse_string_consumes_all`: a tree is returned only if lexer and parser consumed the
    whole string;
  * `operator_token_current`: every operator / keyword / punctuation token of the table is lexed
    as ONE item with its own tag whenever the next character cannot extend it (`**` before `*`,
    `//` before `/`, `<<` `<=` before `<`, `==` before `=`, keywords before identifiers);
  * `imaginary_rule_dead_current`: no lexed item ever carries the tag `imaginary`;
  * `lexer_order_current` (`decide` on the regenerated table): no literal rule hides a later
    one except the duplicated `==` entry, the float rule precedes the integer rule, the keyword
    and `True\b`/`False\b` rules (word boundary like the keywords) precede the identifier rule.

  The operator tokens with their guard, operand level and node (`BinTok`, `PreTok`), the grouping
  lemmas (`grouping`, `prefix_grouping`), `sufAll` and the facts about the lexer's matcher chain
  (`firstMatch_table`, `sym_step`, `shadowedIn`, `ruleIndex`, `hasBoundary`, …) are those of
  `PV/Proofs/Syntax*.lean`.
-/
namespace PV.C07
open PV PV.Syntax

/-! ### (a) the input is consumed from the left, completely or not at all -/

/-- whatever `parse_expression` leaves over is a suffix of what it was given -/
theorem rest_is_suffix (P : ParserPrec) (fuel m : Nat) (ts : List Tok) (e : Expr) (rest : List Tok)
    (h : parseExpr P fuel m ts = .ok (e, rest)) : rest <:+ ts :=
  (sufAll P fuel).1 m ts e rest h

/-- the same for the argument-list parser -/
theorem arglist_rest_is_suffix (P : ParserPrec) (fuel : Nat) (ts : List Tok) (a kn kv ca x)
    (rest : List Tok) (h : parseArglist P fuel ts a kn kv ca = .ok (x, rest)) : rest <:+ ts :=
  (sufAll P fuel).2.2.2 ts a kn kv ca x rest h

/-- **The parser consumes the whole input or raises.**  `parseTop` returns a tree only when
`parse_expression` stopped at the end of the token list; if tokens are left over the result is
the parse error. -/
theorem consumes_all_or_error (P : ParserPrec) (m : Nat) (ts : List Tok) :
    (∀ e, parseTop P m ts = .ok e → parseExpr P (2 * ts.length + 8) m ts = .ok (e, [])) ∧
    (∀ e t rest, parseExpr P (2 * ts.length + 8) m ts = .ok (e, t :: rest) →
      parseTop P m ts = .error .parse ∧ t :: rest <:+ ts) := by
  constructor
  · intro e h
    unfold parseTop at h
    split at h
    · simp only [pure, Except.pure, Except.ok.injEq] at h; subst h; assumption
    · cases h
    · cases h
  · intro e t rest h
    refine ⟨by simp [parseTop, h, throw, throwThe, MonadExceptOf.throw], ?_⟩
    exact rest_is_suffix P _ m ts e _ h

example : parseTop Generated.parserPrec 0 [.ident "a", .sym ")", .ident "b"] = .error .parse := by
  decide +kernel

/-! ### (b) the grouping of two operators, from the table -/

/-- the 16 binary operator tokens shared with Python:
`+ - * / // % ** << >> & | ^ == < and or` -/
def binToks : List BinTok :=
  [.op .plus, .minus, .op .times, .op .quot, .op .floordiv, .op .rem, .op .pow, .op .lshift,
   .op .rshift, .op .band, .op .bor, .op .bxor, .op (.cmp .eq), .op (.cmp .lt), .op .land,
   .op .lor]

example : binToks.map BinTok.sym =
    ["+", "-", "*", "/", "//", "%", "**", "<<", ">>", "&", "|", "^", "==", "<", "and", "or"] := by
  decide

/-- the right operand of `o1` swallows a following `o2`: the guard of `o2` exceeds the level
at which the right operand of `o1` is parsed -/
def absorbs2 (P : ParserPrec) (o1 o2 : BinTok) : Bool := decide (o2.guard P > o1.rhs P)

/-- the operand of a prefix operator swallows a following `o` -/
def absorbsPre (P : ParserPrec) (o : BinTok) : Bool := decide (o.guard P > P.unary)

/-- every binary operator is absorbed at the outermost level -/
def guardsPositive (P : ParserPrec) : Bool := binToks.all fun o => decide (o.guard P > 0)

theorem guards_pos {P : ParserPrec} (h : guardsPositive P = true) (o : BinTok) : o.guard P > 0 := by
  have h' : ∀ o ∈ binToks, o.guard P > 0 := fun o ho => of_decide_eq_true (List.all_eq_true.mp h o ho)
  cases o with
  | minus => exact h' .minus (by decide)
  | op o =>
    cases o with
    | cmp c => exact h' (.op (.cmp .eq)) (by decide)
    | _ => exact h' _ (by decide)

/-- **Two-operator grouping, generic in the table.**  `a o1 b o2 c` parses to the right
grouping `a o1 (b o2 c)` if `absorbs2 P o1 o2`, and to the left grouping `(a o1 b) o2 c`
otherwise (the nodes are built by `BinTok.build`: sums and products are spliced, `-` negates
its right operand). -/
theorem two_operator_grouping {P : ParserPrec} (hP : guardsPositive P = true) (o1 o2 : BinTok)
    (a b c : String) :
    parseTop P 0 [.ident a, .sym o1.sym, .ident b, .sym o2.sym, .ident c] =
      if absorbs2 P o1 o2 then o2.build (.var b) (.var c) >>= o1.build (.var a)
      else o1.build (.var a) (.var b) >>= fun l => o2.build l (.var c) := by
  rw [grouping (guards_pos hP) o1 o2 a b c]
  simp [absorbs2]

/-- **Prefix-operator grouping, generic in the table.**  `p a o b` (`p` one of `-`, `~`, `not`)
parses to `p (a o b)` if `absorbsPre P o`, and to `(p a) o b` otherwise. -/
theorem prefix_operator_grouping {P : ParserPrec} (hP : guardsPositive P = true) (p : PreTok)
    (o : BinTok) (a b : String) :
    parseTop P 0 [.sym p.sym, .ident a, .sym o.sym, .ident b] =
      if absorbsPre P o then o.build (.var a) (.var b) >>= p.build
      else p.build (.var a) >>= fun l => o.build l (.var b) := by
  rw [prefix_grouping (guards_pos hP) p o a b]
  simp [absorbsPre]

theorem guards_positive_current : guardsPositive Generated.parserPrec = true := by decide

example : parseTop Generated.parserPrec 0 [.ident "a", .sym "*", .ident "b", .sym "/", .ident "c"]
    = .ok (.nary .prod [.var "a", .bin .quot (.var "b") (.var "c")]) := by
  rw [show "*" = (BinTok.op .times).sym from rfl, show "/" = (BinTok.op .quot).sym from rfl,
    two_operator_grouping guards_positive_current]
  decide +kernel

/-! ### (c) Python's own grouping (The Python Language Reference, 6.17 "Operator precedence") -/

/-- binding strength in Python, weakest first: `or`, `and`, `not`, comparisons, `|`, `^`, `&`,
shifts, `+ -`, `* / // %`, unary `- ~`, `**` -/
def pyPrec : BinTok → Nat
  | .op .lor => 1 | .op .land => 2 | .op (.cmp _) => 4 | .op .bor => 5 | .op .bxor => 6
  | .op .band => 7 | .op .lshift | .op .rshift => 8 | .op .plus | .minus => 9
  | .op .times | .op .quot | .op .floordiv | .op .rem => 10 | .op .pow => 12

def pyPrecPre : PreTok → Nat
  | .lnot => 3 | .neg | .bnot => 11

inductive Grouping where
  | left     -- `(a o1 b) o2 c`
  | right    -- `a o1 (b o2 c)`
  | chain    -- `a < b < c` means `(a < b) and (b < c)`
  deriving Repr, DecidableEq

def isCmp : BinTok → Bool
  | .op (.cmp _) => true
  | _ => false

/-- Python: all binary operators associate to the left except `**`; comparisons chain -/
def pyGroup (o1 o2 : BinTok) : Grouping :=
  if isCmp o1 && isCmp o2 then .chain
  else if pyPrec o2 > pyPrec o1 then .right
  else if pyPrec o2 = pyPrec o1 ∧ o1 = .op .pow then .right
  else .left

def parserGroup (P : ParserPrec) (o1 o2 : BinTok) : Grouping :=
  if absorbs2 P o1 o2 then .right else .left

/-- Python: `p a o b` is `p (a o b)` iff `o` binds tighter than `p` (`**` binds tighter than a
unary operator on its left) -/
def pyPrefixWide (p : PreTok) (o : BinTok) : Bool := decide (pyPrec o > pyPrecPre p)

def allPairs : List (BinTok × BinTok) := binToks.flatMap fun a => binToks.map fun b => (a, b)

/-- operator pairs `(o1, o2)` on which `a o1 b o2 c` is grouped differently from Python -/
def groupingDeviations (P : ParserPrec) : List (BinTok × BinTok) :=
  allPairs.filter fun p => parserGroup P p.1 p.2 != pyGroup p.1 p.2

def prefixDeviations (P : ParserPrec) : List (PreTok × BinTok) :=
  ([PreTok.neg, .bnot, .lnot].flatMap fun p => binToks.map fun o => (p, o)).filter
    fun po => absorbsPre P po.2 != pyPrefixWide po.1 po.2

open PV.Generated in
/-- **The grouping matrix of the current code against Python's.**  Of the 256 pairs of binary
operators, the parser groups `a o1 b o2 c` differently from Python on exactly these 21:
* the right operand of `*` is parsed at the level of a sum, so it swallows a following
  `* / // %` (`a*b/c` is `a*(b/c)`; for `a*b*c` the difference disappears once products are
  flattened);
* comparisons rank ABOVE `& | ^` (`a & b == c` is `a & (b == c)`, `a == b & c` is
  `(a == b) & c`);
* `|` and `^` share one level (`a | b ^ c` is `(a | b) ^ c`);
* comparisons nest to the left instead of chaining. -/
theorem grouping_deviations_current :
    (groupingDeviations parserPrec).map (fun p => (p.1.sym, p.2.sym)) =
      [("*", "*"), ("*", "/"), ("*", "//"), ("*", "%"),
       ("&", "=="), ("&", "<"), ("|", "^"), ("|", "=="), ("|", "<"), ("^", "=="), ("^", "<"),
       ("==", "&"), ("==", "|"), ("==", "^"), ("==", "=="), ("==", "<"),
       ("<", "&"), ("<", "|"), ("<", "^"), ("<", "=="), ("<", "<")] := by
  decide +kernel

open PV.Generated in
/-- **Prefix operators against binary operators, current code against Python.**  The operand of
a prefix operator is parsed at `_PREC_UNARY`, above every binary operator: `-a**b` is `(-a)**b`,
`~a**b` is `(~a)**b`, and `not a o b` is `(not a) o b` for every binary `o` — Python agrees only
for `and` / `or`. -/
theorem prefix_deviations_current :
    (prefixDeviations parserPrec).map (fun p => (p.1.sym, p.2.sym)) =
      [("-", "**"), ("~", "**"),
       ("not", "+"), ("not", "-"), ("not", "*"), ("not", "/"), ("not", "//"), ("not", "%"),
       ("not", "**"), ("not", "<<"), ("not", ">>"), ("not", "&"), ("not", "|"), ("not", "^"),
       ("not", "=="), ("not", "<")] := by
  decide +kernel

/-- for every table with positive guards: on a pair of binary operators that is not among the
table's deviations the parser model returns Python's grouping (never `chain`: a deviation) -/
theorem grouping_agrees {P : ParserPrec} (hP : guardsPositive P = true) (o1 o2 : BinTok)
    (h1 : o1 ∈ binToks) (h2 : o2 ∈ binToks) (hd : (o1, o2) ∉ groupingDeviations P) (a b c : String) :
    parseTop P 0 [.ident a, .sym o1.sym, .ident b, .sym o2.sym, .ident c] =
      if pyGroup o1 o2 = .right then o2.build (.var b) (.var c) >>= o1.build (.var a)
      else o1.build (.var a) (.var b) >>= fun l => o2.build l (.var c) := by
  have hmem : (o1, o2) ∈ allPairs := List.mem_flatMap.mpr ⟨o1, h1, List.mem_map.mpr ⟨o2, h2, rfl⟩⟩
  have hg : parserGroup P o1 o2 = pyGroup o1 o2 :=
    Decidable.of_not_not fun hne => hd (List.mem_filter.mpr ⟨hmem, by simpa using hne⟩)
  rw [two_operator_grouping hP, ← hg, parserGroup]
  cases absorbs2 P o1 o2 <;> rfl

open PV.Generated in
/-- on every other pair of binary operators the parser model returns Python's grouping -/
theorem grouping_agrees_current (o1 o2 : BinTok) (h1 : o1 ∈ binToks) (h2 : o2 ∈ binToks)
    (hd : (o1, o2) ∉ groupingDeviations parserPrec) (a b c : String) :
    parseTop parserPrec 0 [.ident a, .sym o1.sym, .ident b, .sym o2.sym, .ident c] =
      match pyGroup o1 o2 with
      | .right => o2.build (.var b) (.var c) >>= o1.build (.var a)
      | _ => o1.build (.var a) (.var b) >>= fun l => o2.build l (.var c) := by
  rw [grouping_agrees guards_positive_current o1 o2 h1 h2 hd]
  cases pyGroup o1 o2 <;> rfl

/-- a pair on which parser and Python agree, and one on which they do not -/
example : parserGroup Generated.parserPrec (.op .plus) (.op .times) = pyGroup (.op .plus) (.op .times) := by
  decide
example : parserGroup Generated.parserPrec (.op .bor) (.op .bxor) = .left ∧
    pyGroup (.op .bor) (.op .bxor) = .right := by decide

/-- the deviations as parses: `a | b ^ c`, `a & b == c`, `a * b / c`, `a == b == c`, `-a ** b`,
`not a == b` (this theorem and the five after it) -/
theorem bor_bxor_grouping_cex :
    parseTop Generated.parserPrec 0 [.ident "a", .sym "|", .ident "b", .sym "^", .ident "c"]
      = .ok (.nary .bxor [.nary .bor [.var "a", .var "b"], .var "c"]) := by decide +kernel
theorem band_cmp_grouping_cex :
    parseTop Generated.parserPrec 0 [.ident "a", .sym "&", .ident "b", .sym "==", .ident "c"]
      = .ok (.nary .band [.var "a", .cmp .eq (.var "b") (.var "c")]) := by decide +kernel
theorem times_quot_grouping_cex :
    parseTop Generated.parserPrec 0 [.ident "a", .sym "*", .ident "b", .sym "/", .ident "c"]
      = .ok (.nary .prod [.var "a", .bin .quot (.var "b") (.var "c")]) := by decide +kernel
theorem chained_comparison_cex :
    parseTop Generated.parserPrec 0 [.ident "a", .sym "==", .ident "b", .sym "==", .ident "c"]
      = .ok (.cmp .eq (.cmp .eq (.var "a") (.var "b")) (.var "c")) := by decide +kernel
theorem neg_pow_grouping_cex :
    parseTop Generated.parserPrec 0 [.sym "-", .ident "a", .sym "**", .ident "b"]
      = .ok (.bin .pow (.nary .prod [.const (.int (-1)), .var "a"]) (.var "b")) := by decide +kernel
theorem not_cmp_grouping_cex :
    parseTop Generated.parserPrec 0 [.sym "not", .ident "a", .sym "==", .ident "b"]
      = .ok (.cmp .eq (.un .lnot (.var "a")) (.var "b")) := by decide +kernel


/-! ### (d) the lexer -/

section lexer
open PV.Lexer

/-- the regenerated rule table is the table the lexer model was written against (the C06
obligation `PV.C06.lex_table_current`, restated here: the statements below about the current
table go through it, so they do not break one by one when the table is edited) -/
theorem lexer_table_current : Generated.lexTable = Lexer.table := by decide +kernel

/-- **`lex` partitions the input** (for every rule table): the texts of the lexed items, in
order and with the whitespace items, concatenate to the input, and no item is empty. -/
theorem lexer_partitions_input (tbl : LexTable) (cs : List Char) (ls : List Lexed)
    (h : lexRawWith tbl cs = .ok ls) : (ls.map (·.2)).flatten = cs ∧ ∀ l ∈ ls, l.2 ≠ [] :=
  lexRawWith_partition h

/-- **A string is parsed completely or not at all**: `parseString` (`Parser.__call__`) returns a
tree only if the lexer split the WHOLE string into items and the parser consumed ALL their
tokens. -/
theorem parse_string_consumes_all (tbl : LexTable) (P : ParserPrec) (m : Nat) (s : String)
    (e : Expr) (h : parseStringWith tbl P m s = .ok e) :
    ∃ ls ts, lexRawWith tbl s.toList = .ok ls ∧ (ls.map (·.2)).flatten = s.toList ∧
      toksOf ls = .ok ts ∧ parseExpr P (2 * ts.length + 8) m ts = .ok (e, []) := by
  unfold parseStringWith at h
  split at h
  · cases h
  · rename_i ts hl
    split at h
    · rename_i e' hp
      simp only [Except.ok.injEq] at h; subst h
      unfold lexWith at hl
      cases hr : lexRawWith tbl s.toList with
      | error err => rw [hr] at hl; simp [bind, Except.bind] at hl
      | ok ls =>
        rw [hr] at hl
        simp only [bind, Except.bind] at hl
        exact ⟨ls, ts, rfl, (lexRawWith_partition hr).1, hl, (consumes_all_or_error P m ts).1 _ hp⟩
    · cases h

/-- **Operator tokens.**  Every operator, keyword and punctuation token of the current table
(`symTable`: text, tag, characters that must not follow) is matched as ONE item carrying its own
tag, at the head of any input, provided the next character cannot extend it: `**` is not two
`*`, `//` not two `/`, `<<` `<=` `>>` `>=` `==` `!=` are not split, a keyword is not the start of
a longer name. -/
theorem operator_token_current {s : List Char} {tag : String} {bad : Char → Bool}
    (hm : (s, tag, bad) ∈ symTable) (rest : List Char) (hn : nextNot bad rest.head? = true) :
    firstMatch Generated.lexTable Generated.lexTable (s ++ rest) = some (tag, s.length) := by
  have ht : Generated.lexTable = Lexer.table := lexer_table_current
  rw [ht, firstMatch_table]
  exact sym_step hm rest hn

/-- **Rule order of the current table** (`decide` on the regenerated table): the only literal
rule that hides a later literal rule is the first `==` entry (it hides its own duplicate); the
float rule comes before the integer rule; the five keyword rules and `True` / `False` (all seven with a
word boundary `\b` since the repair of the `Truex` defect) come before
the identifier rule. -/
theorem lexer_order_current :
    shadowedIn Generated.lexTable = [("equal", "equal")] ∧
    ruleIndex Generated.lexTable "float" < ruleIndex Generated.lexTable "int" ∧
    (["and", "or", "not", "if", "else", "True", "False"].all fun t =>
      decide (ruleIndex Generated.lexTable t < ruleIndex Generated.lexTable "identifier")) = true ∧
    (["and", "or", "not", "if", "else", "True", "False"].all
      (hasBoundary Generated.lexTable)) = true := by
  decide +kernel

/-- **The `imaginary` rule of the current table never fires**: every form of the `float` rule ends
in a greedy run of letters, so the `j` that the `imaginary` rule wants after a float is always
inside the float item (`1.5j`, `1j`, `1e5j` are float items with a letter tag, and
`parse_float` raises ValueError on them): complex literals are outside the text syntax, and no
lexed item ever carries the tag `imaginary`. -/
theorem imaginary_rule_dead_current (cs : List Char) (ls : List Lexed)
    (h : lexRawWith Generated.lexTable cs = .ok ls) : ∀ l ∈ ls, l.1 ≠ "imaginary" := by
  have ht : Generated.lexTable = Lexer.table := lexer_table_current
  rw [ht] at h
  exact lexRaw_no_imaginary h

/-- `lexLoop` with the matcher chain of the model's table in place of the table
(`firstMatch_table`).  It serves the examples below: evaluated through the table itself they would
resolve the source of every rule again at every character. -/
def lexLoopC : Nat → Nat → List Char → Except LexErr (List Lexed)
  | _, _, [] => pure []
  | 0, i, _ :: _ => throw (.invalidToken i)
  | fuel + 1, i, c :: cs =>
    match firstC rulesC (c :: cs) with
    | none => throw (.invalidToken i)
    | some (tag, n) => do
      let rest ← lexLoopC fuel (i + n) ((c :: cs).drop n)
      pure ((tag, (c :: cs).take n) :: rest)

theorem lexLoop_table (fuel i : Nat) (cs : List Char) :
    lexLoop Lexer.table fuel i cs = lexLoopC fuel i cs := by
  induction fuel generalizing i cs with
  | zero => cases cs <;> rfl
  | succ fuel ih =>
    cases cs with
    | nil => rfl
    | cons c cs => simp only [lexLoop, lexLoopC, firstMatch_table, ih]; rfl

theorem lexRawWith_current (cs : List Char) :
    lexRawWith Generated.lexTable cs = lexLoopC cs.length 0 cs := by
  rw [lexer_table_current, lexRawWith, tableOk_table, if_pos rfl, lexLoop_table]

theorem lexWith_current (s : String) :
    lexWith Generated.lexTable s = lexLoopC s.toList.length 0 s.toList >>= toksOf := by
  rw [lexWith, lexRawWith_current]

example : lexRawWith Generated.lexTable "1.5j".toList = .ok [("float", "1.5j".toList)] := by
  rw [lexRawWith_current]; decide +kernel

example : lexWith Generated.lexTable "a**b//c<<d<=e==f" =
    .ok [.ident "a", .sym "**", .ident "b", .sym "//", .ident "c", .sym "<<", .ident "d",
      .sym "<=", .ident "e", .sym "==", .ident "f"] := by
  rw [lexWith_current]; decide +kernel
example : lexWith Generated.lexTable "android or x" =
    .ok [.ident "android", .sym "or", .ident "x"] := by
  rw [lexWith_current]; decide +kernel
/-- numeric literals shared with Python: value and `repr` are computed by the model -/
example : lexWith Generated.lexTable "0.1+1e22" =
    .ok [.flt "0.1" 3602879701896397 36028797018963968, .sym "+",
      .flt "1e+22" 10000000000000000000000 1] := by
  rw [lexWith_current]; decide +kernel
/-- `parse("1e400")`: the literal overflows (no claim), `1.5x`: letter tag (ValueError) -/
example : lexWith Generated.lexTable "1e400" = .error .nonFinite := by
  rw [lexWith_current]; decide +kernel
example : lexWith Generated.lexTable "1.5x" = .error .floatText := by
  rw [lexWith_current]; decide +kernel

end lexer

end PV.C07
