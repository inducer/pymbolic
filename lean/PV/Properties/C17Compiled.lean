import PV.Proofs.CompiledOrder
import PV.Properties.C13Table
/-
  C17 — compiled expressions: the positional calling convention is the same in every process.

  A `CompiledExpression` pickles `(expression, variables)` and COMPILES AGAIN in the consumer
  (`compiled_roundtrip`, PV/Properties/C17.lean: the two fields survive).  The argument list of
  the re-compiled function is `variables` followed by the remaining free variables, which
  `_compile` takes out of a SET - iterated in an order that depends on the consumer's string-hash
  seed - and sorts.  The theorems below say when that list is the producer's.

  The sort key of the CURRENT source is the name itself: `compileModel_eq_table_current`
  (PV/Properties/C13Table.lean) proves `compileModel`, hence `argOrder`, equal to the interpreter
  of the statements of `_compile` re-read from pymbolic/compiler.py (`.sortByName` in
  PV/Generated/Codegen.lean).  What the real processes do is checked by the `compiled-expression`
  stream of harness/props/c17.py over names that differ only in case, digit runs, underscores,
  length and non-ASCII case - the names a "friendlier" key would tie.
-/
namespace PV.C17
open PV

/-- **compiled_args_cross_process.**  Whatever the iteration orders `used` (producer) and `used'`
(consumer) of the dependency set are, compiling the pickled state `(expression, listed)` again
gives the argument list the producer had: positional calls mean the same in both processes. -/
theorem compiled_args_cross_process (listed : List String) {used used' : List Expr}
    (h : used.Perm used') : argOrder listed used = argOrder listed used' :=
  C13.arg_order_perm listed h

/-- the model of the current source is the key-parameterised one at the key `name` -/
theorem argOrderBy_name (listed : List String) (used : List Expr) :
    argOrderBy id listed used = argOrder listed used := by
  simp only [argOrderBy, argOrder, sortByKey_id]

/-- **compiled_args_by_key_partial.**  For ANY sort key: if the key tells the free variables of
the expression apart (the explicit, decidable hypothesis), the argument list does not depend on
the iteration order of the set, so it is the same in producer and consumer.  Without the
hypothesis it is false: `compiled_args_key_tie_cex`. -/
theorem compiled_args_by_key_partial (key : String → String) (listed : List String)
    {used used' : List Expr}
    (hinj : ∀ a ∈ varNames used, ∀ b ∈ varNames used, key a = key b → a = b)
    (h : used.Perm used') : argOrderBy key listed used = argOrderBy key listed used' := by
  unfold argOrderBy
  rw [sortByKey_perm_eq key ?_ ((varNames_perm h).filter _)]
  intro a ha b hb
  exact hinj a (List.mem_filter.mp ha).1 b (List.mem_filter.mp hb).1

/-- **compiled_args_key_tie_cex** (what an edit of the key does).  With a case-insensitive key the
stable sort leaves `x` and `X` in the order the set happened to be iterated in: two processes that
iterate the same dependency set differently bind positional arguments differently. -/
theorem compiled_args_key_tie_cex :
    ∃ used used' : List Expr, used.Perm used' ∧
      argOrderBy asciiFold [] used ≠ argOrderBy asciiFold [] used' :=
  ⟨[.var "x", .var "X"], [.var "X", .var "x"], List.Perm.swap _ _ _, by decide⟩

example : argOrderBy asciiFold ["t"] [.var "x", .var "t", .var "X", .var "math"] = ["t", "x", "X"] := by
  decide +kernel
example : argOrderBy asciiFold ["t"] [.var "X", .var "t", .var "x", .var "math"] = ["t", "X", "x"] := by
  decide +kernel
example : argOrder ["t"] [.var "X", .var "t", .var "x"] = argOrder ["t"] [.var "x", .var "X", .var "t"] :=
  compiled_args_cross_process _ (by decide +kernel)
example : argOrderBy id ["t"] [.var "x", .var "t", .var "X"] = ["t", "X", "x"] := by decide +kernel

end PV.C17
