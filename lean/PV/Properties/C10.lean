import PV.Proofs.DiffMore
import PV.Proofs.DiffZero
import PV.Proofs.DiffTableCurrent
/-
  C10 — symbolic differentiation yields the true derivative.

  Model: `PV/Model/Diff.lean` (`diff`: the rules of `DifferentiationMapper` and
  `map_math_functions_by_name`; `diffC` / `differentiate`: the same with the CSE cache of one
  mapper instance).  Semantics: `evalR` (`PV/Proofs/DiffEval.lean`), a total real-valued meaning
  of trees over environments that map leaves (variables, subscripted variables) to reals;
  `updL ρ v t` sets every leaf that is Python-`==` to `v` to `t`; `Dom` is the domain predicate
  (`PV/Proofs/DiffSound.lean`).
-/
namespace PV.C10

open PV Real Filter Topology

/-! ### the derivative is the derivative -/

/-- **Main theorem.**  For every expression `e`, every differentiation variable `v` (a variable, a
subscripted variable — any tree; leaves are compared with Python `==` as the code does), every
setting `cfg`, every environment `ρ` and every value `t0` of `v`: if the differentiator returns
the tree `d` and the point lies in the domain of `e`, then the real function
`t ↦ ⟦e⟧(ρ[v ↦ t])` has the derivative `⟦d⟧(ρ[v ↦ t0])` at `t0` — Mathlib's `HasDerivAt`, the
real derivative, not a finite difference.

Partial in one respect only: under `"discontinuous"` every `copysign(a, b)` in `e` must have a
numeric literal as first argument (`csOk`; `copysign_first_argument_cex` shows that the code is
wrong otherwise).  For `If` the domain predicate demands that the condition is locally constant
in `v` (at a switching point the function need not be differentiable at all). -/
theorem diff_hasDerivAt_partial (cfg : Smooth) (v : Expr) (ρ : Expr → ℝ) (t0 : ℝ) (e d : Expr)
    (h : diff cfg v e = .ok d)
    (hcs : cfg = .discontinuous → csOk e = true)
    (hd : Dom v t0 (updL ρ v t0) e) :
    HasDerivAt (fun t => evalR (updL ρ v t) e) (evalR (updL ρ v t0) d) t0 := by
  have hfix : ∀ l, l.pyEq v = true → updL ρ v t0 l = t0 := by
    intro l hl; simp [updL, hl]
  have key := diff_sound cfg v (updL ρ v t0) t0 hfix e d h hcs hd
  have e2 : ∀ t, updL (updL ρ v t0) v t = updL ρ v t := by
    intro t; funext l; simp only [updL]; split <;> rfl
  simpa only [e2] using key

/-- environments keyed by variable names -/
def envOf (ρ : String → ℝ) : Expr → ℝ
  | .var x => ρ x
  | _ => 0

theorem updL_envOf (ρ : String → ℝ) (x : String) (t : ℝ) :
    updL (envOf ρ) (.var x) t = envOf (Function.update ρ x t) := by
  funext l
  cases l <;> simp [updL, envOf, Expr.pyEq, Function.update]

/-- **Full strength for the settings `"none"` and `"continuous"`** (where `copysign` and `If` are
refused), in the usual form: differentiation with respect to the variable named `x` at the point
`ρ`.  `HasDerivAt (t ↦ ⟦e⟧(ρ[x ↦ t])) ⟦d⟧(ρ) (ρ x)`. -/
theorem diff_hasDerivAt (cfg : Smooth) (hcfg : cfg ≠ .discontinuous) (x : String)
    (ρ : String → ℝ) (e d : Expr) (h : diff cfg (.var x) e = .ok d)
    (hd : Dom (.var x) (ρ x) (envOf ρ) e) :
    HasDerivAt (fun t => evalR (envOf (Function.update ρ x t)) e) (evalR (envOf ρ) d) (ρ x) := by
  have e0 : updL (envOf ρ) (.var x) (ρ x) = envOf ρ := by
    rw [updL_envOf, Function.update_eq_self]
  have := diff_hasDerivAt_partial cfg (.var x) (envOf ρ) (ρ x) e d h
    (fun hc => absurd hc hcfg) (by rw [e0]; exact hd)
  simpa only [updL_envOf, Function.update_eq_self] using this

private def X : Expr := .var "x"
private def Y : Expr := .var "y"

/-- non-vacuity: `d/dx (x*x)/y` at `x = 3, y = 2` (third branch of the quotient rule) -/
example : HasDerivAt
    (fun t => evalR (envOf (Function.update (fun s => if s = "x" then 3 else 2) "x" t))
      (.bin .quot (.nary .prod [X, X]) Y))
    (evalR (envOf (fun s => if s = "x" then 3 else 2)) (.bin .quot (.nary .sum [X, X]) Y)) 3 :=
  diff_hasDerivAt .none (by decide) "x" (fun s => if s = "x" then 3 else 2) _ _ rfl
    (by simp [Dom, DomL, evalR, envOf, X, Y])

/-- non-vacuity: subscripted variable, `d/da[1] sin(a[1] * x)` -/
example (ρ : Expr → ℝ) (t0 : ℝ) :
    HasDerivAt (fun t => evalR (updL ρ (.subscript (.var "a") one) t)
        (mcall .sin [.nary .prod [.subscript (.var "a") one, X]]))
      (evalR (updL ρ (.subscript (.var "a") one) t0)
        (.nary .prod [mcall .cos [.nary .prod [.subscript (.var "a") one, X]], X])) t0 :=
  diff_hasDerivAt_partial .none _ ρ t0 _ _ rfl (by intro h; cases h)
    (by simp [Dom, DomL, DomCall, callFn_mathf, mcall, X])

/-! ### the cache of one mapper instance does not change the answers -/

/-- `differentiate` (a fresh mapper with its CSE cache) computes exactly what the rules compute,
whenever Python `==` identifies no two different CSE nodes of the input (`S`: any duplicate-free
— up to `==` — list containing the CSE nodes of `e`). -/
theorem differentiate_eq_diff (cfg : Smooth) (v : Expr) (S : List Expr) (hS : Coherent S)
    (e : Expr) (hin : CsesIn S e) : differentiate cfg v e = diff cfg v e :=
  (diffC_agrees cfg v S hS e hin [] (by intro k r hm; cases hm)).1

/-- … and so does every later call on the same mapper instance -/
theorem diffHist_eq_diff (cfg : Smooth) (v : Expr) (S : List Expr) (hS : Coherent S) :
    ∀ (es : List Expr) (c : DCache), (∀ e ∈ es, CsesIn S e) → CacheOk cfg v S c →
      diffHist cfg v es c = es.map (diff cfg v)
  | [], _, _, _ => rfl
  | e :: es, c, hin, hc => by
      obtain ⟨h1, h2⟩ := diffC_agrees cfg v S hS e (hin e List.mem_cons_self) c hc
      simp only [diffHist, List.map_cons]
      rw [h1, diffHist_eq_diff cfg v S hS es _ (fun e' he' => hin e' (List.mem_cons_of_mem _ he')) h2]

/-- the main theorem for the entry point -/
theorem differentiate_hasDerivAt_partial (cfg : Smooth) (v : Expr) (ρ : Expr → ℝ) (t0 : ℝ)
    (e d : Expr) (S : List Expr) (hS : Coherent S) (hin : CsesIn S e)
    (h : differentiate cfg v e = .ok d)
    (hcs : cfg = .discontinuous → csOk e = true)
    (hd : Dom v t0 (updL ρ v t0) e) :
    HasDerivAt (fun t => evalR (updL ρ v t) e) (evalR (updL ρ v t0) d) t0 :=
  diff_hasDerivAt_partial cfg v ρ t0 e d
    (by rw [← differentiate_eq_diff cfg v S hS e hin]; exact h) hcs hd

/-- non-vacuity: the same CSE twice; the second occurrence is answered from the cache -/
example : differentiate .none X
      (.nary .sum [.cse (.nary .prod [X, X]) none "s", .cse (.nary .prod [X, X]) none "s"])
    = diff .none X
      (.nary .sum [.cse (.nary .prod [X, X]) none "s", .cse (.nary .prod [X, X]) none "s"]) :=
  differentiate_eq_diff .none X [.cse (.nary .prod [X, X]) none "s"]
    (by intro k hk k' hk' _; simp only [List.mem_singleton] at hk hk'; rw [hk, hk']) _
    (by simp [CsesIn, CsesInL, X])

/-! ### refusal -/

/-- `fabs` is refused with ValueError unless non-smoothness is allowed -/
theorem refuses_fabs (v p : Expr) : diff .none v (mcall .fabs [p]) = .error .valueError := rfl

/-- `copysign` is refused with ValueError unless discontinuities are allowed -/
theorem refuses_copysign (cfg : Smooth) (hcfg : cfg ≠ .discontinuous) (v a b : Expr) :
    diff cfg v (mcall .copysign [a, b]) = .error .valueError := by
  cases cfg
  · rfl
  · rfl
  · exact absurd rfl hcfg

/-- `If` is refused with ValueError unless discontinuities are allowed -/
theorem refuses_if (cfg : Smooth) (hcfg : cfg ≠ .discontinuous) (v c t e : Expr) :
    diff cfg v (.ite c t e) = .error .valueError := by
  cases cfg
  · rfl
  · rfl
  · exact absurd rfl hcfg

/-- a function that is not in the table, applied to at least one argument, is refused with
RuntimeError — whatever the setting -/
theorem refuses_unknown (cfg : Smooth) (v f p : Expr) (ps : List Expr) (hf : mathFn? f = none) :
    diff cfg v (.call f (p :: ps)) = .error .runtimeError := by
  have : funcMap cfg f (p :: ps) = .error .runtimeError := by
    unfold funcMap
    split <;> simp_all [throw, throwThe, MonadExceptOf.throw]
  simp only [diff, this]
  rfl

/-- **Refusal, anywhere in the tree.**  If a position the differentiator visits holds an `If` the
setting does not allow, or a call the table refuses (`callRefused`: unknown function or wrong
number of arguments; `fabs` under "none"; `copysign` unless "discontinuous"), then no derivative
tree is returned at all — in particular no wrong one. -/
theorem diff_refuses (cfg : Smooth) (v e : Expr) (h : needsRefusal cfg e = true) :
    ∀ d, diff cfg v e ≠ .ok d :=
  diff_refuses_aux cfg v e h

/-- the table refuses with ValueError or RuntimeError -/
theorem table_refuses (cfg : Smooth) (f : Expr) (args : List Expr)
    (h : callRefused cfg f args = true) :
    funcMap cfg f args = .error .valueError ∨ funcMap cfg f args = .error .runtimeError :=
  funcMap_refused h

/-- non-vacuity: `x * fabs(y)` under "none" -/
example : ∀ d, diff .none X (.nary .prod [X, mcall .fabs [Y]]) ≠ .ok d :=
  diff_refuses .none X _ rfl

/-- non-vacuity of the permission: under "continuous" `fabs` differentiates to `sign` -/
example : diff .continuous X (mcall .fabs [X]) = .ok (mcall .copysign [one, X]) := rfl

/-! ### the regenerated table (T-gen)

`Generated.c10DiffTable` is rewritten by `extract/differentiator.py` from the SOURCE of
`pymbolic/mapper/differentiator.py` before every build.  The theorems of this section are
re-checked against it: an edit of the source that changes a derivative, a sign, a gate, an error
class, the children a handler differentiates or the order in which it does so changes the table
and makes one of them fail. -/

open Generated in
/-- **The function table.**  `map_math_functions_by_name`, read as data from the source (the
`if func == make_f(name) and len(pars) == k` chain with the expression each branch returns, the
non-smoothness gates and the errors raised) and interpreted with the overloaded operators,
answers exactly what the hand-written `funcMap` answers — for every setting, every function
expression and every argument list. -/
theorem funcMap_eq_table_current (cfg : Smooth) (f : Expr) (pars : List Expr) :
    funcMap cfg f pars
      = c10FuncMapT c10DiffTable.fnModule c10DiffTable.fnElse cfg f pars c10DiffTable.fns :=
  (c10_funcMap_current cfg f pars).symm

open Generated in
/-- **The quotient rule** as written in `map_quotient` (four branches on the truthiness of the
children's derivatives, `-f*dg/g**2`, `self.rec(f)/g`, `(df*g-dg*f)/g**2`) is `quotRule`. -/
theorem quotRule_eq_table_current (f g df dg : Expr) :
    liftOp (quotRule f g df dg) = c10RuleEval c10DiffTable.quot f g df dg :=
  (c10_quot_current f g df dg).symm

open Generated in
/-- **The power rule** as written in `map_power` is `powRule`. -/
theorem powRule_eq_table_current (f g df dg : Expr) :
    liftOp (powRule f g df dg) = c10RuleEval c10DiffTable.pow f g df dg :=
  (c10_pow_current f g df dg).symm

open Generated in
/-- **The handlers.**  Every handler defined in the class body, in source order, has the shape
the model implements: `map_sum` sums the derivatives of all `children`; `map_product` sums, over
every split, the flattened product of the undifferentiated prefix, the differentiated child and
the undifferentiated suffix; `map_call` sums `function_map(i, function, parameters, setting) *
rec(parameter)`; `map_quotient` / `map_power` read (`numerator`, `denominator`) / (`base`,
`exponent`), differentiate the first child first, and `map_power` builds its logarithm with
`pymbolic.var("log")`; `map_if` is gated and rebuilds `(condition, rec(then), rec(else_))`; the
CSE handler differentiates `child` ONCE, answers the int literal `0` when `primitives.is_zero`
accepts the result (`cseZero = some 0`; `is_zero` is `not bool(·)`, read from primitives.py) and
otherwise rebuilds `(result, prefix, scope)`; `map_subscript` is `map_variable`;
`rec_undiff` is the identity; `differentiate` wraps a `variable` that is neither a `Variable`
nor a `Subscript`.  The only `self.rec` call written inside a result is `self.rec(f)` in the third
branch of `map_quotient` (performed by `diffC`); the accepted settings are the three of `Smooth`,
`None` stands for `"none"`. -/
theorem handler_shapes_current :
    c10DiffTable.shapes = c10ModelShapes ∧
    c10DiffTable.quot.recalls = [[], [], [.f], []] ∧
    c10DiffTable.pow.recalls = [[], [], [], []] ∧
    c10DiffTable.cseZero = some 0 ∧
    c10DiffTable.settings.map Smooth.ofName? = [some .none, some .continuous, some .discontinuous] ∧
    Smooth.ofName? c10DiffTable.noneSetting = some .none ∧
    c10DiffTable.bases = ["pymbolic.mapper.RecursiveMapper",
      "pymbolic.mapper.CSECachingMapperMixin"] :=
  ⟨rfl, rfl, rfl, rfl, rfl, rfl, rfl⟩

/-- **The table-driven differentiator is `diff`.**  `c10DiffT T` runs the differentiator with
the function table, the quotient and power rules, the `If` gate, the CSE handler's answer for a
vanishing child derivative and the leaf rules taken from a table `T`; on the table regenerated from the source it computes, for every setting, variable and
tree, exactly what the hand-written `diff` computes (tree or error). -/
theorem diff_eq_table_current (cfg : Smooth) (v e : Expr) :
    diff cfg v e = c10DiffT Generated.c10DiffTable cfg v e :=
  (c10DiffT_current cfg v e).symm

/-- The main theorem for EVERY table that denotes the proved rules (`c10RulesOf T =
c10ModelRules`: same function table, quotient rule, power rule, gate and leaf rules as functions,
however they are written down) … -/
theorem table_hasDerivAt_partial (T : C10DiffTable) (hT : c10RulesOf T = c10ModelRules)
    (cfg : Smooth) (v : Expr) (ρ : Expr → ℝ) (t0 : ℝ) (e d : Expr)
    (h : c10DiffT T cfg v e = .ok d)
    (hcs : cfg = .discontinuous → csOk e = true)
    (hd : Dom v t0 (updL ρ v t0) e) :
    HasDerivAt (fun t => evalR (updL ρ v t) e) (evalR (updL ρ v t0) d) t0 := by
  refine diff_hasDerivAt_partial cfg v ρ t0 e d ?_ hcs hd
  rw [← h]
  unfold c10DiffT
  rw [hT]
  exact (diffG_model cfg v e).symm

/-- … and for the table regenerated from the source on this run: what the source's rules,
read as data, build is the true derivative. -/
theorem generated_table_hasDerivAt_partial (cfg : Smooth) (v : Expr) (ρ : Expr → ℝ) (t0 : ℝ)
    (e d : Expr) (h : c10DiffT Generated.c10DiffTable cfg v e = .ok d)
    (hcs : cfg = .discontinuous → csOk e = true)
    (hd : Dom v t0 (updL ρ v t0) e) :
    HasDerivAt (fun t => evalR (updL ρ v t) e) (evalR (updL ρ v t0) d) t0 :=
  table_hasDerivAt_partial _ c10_rules_current cfg v ρ t0 e d h hcs hd

/-- refusal, for the regenerated table -/
theorem generated_table_refuses (cfg : Smooth) (v e : Expr) (h : needsRefusal cfg e = true) :
    ∀ d, c10DiffT Generated.c10DiffTable cfg v e ≠ .ok d := by
  intro d
  rw [← diff_eq_table_current]
  exact diff_refuses cfg v e h d

/-- non-vacuity: the regenerated table has the eleven entries, and running it on
`d/dx (x*x)/y` gives the tree of the third branch of the quotient rule -/
example : Generated.c10DiffTable.fns.length = 11 := rfl
example : c10DiffT Generated.c10DiffTable .none X (.bin .quot (.nary .prod [X, X]) Y)
    = .ok (.bin .quot (.nary .sum [X, X]) Y) := rfl
example : c10DiffT Generated.c10DiffTable .continuous X (mcall .fabs [X])
    = .ok (mcall .copysign [one, X]) := rfl
example : ∀ d, c10DiffT Generated.c10DiffTable .none X (.nary .prod [X, mcall .fabs [Y]]) ≠ .ok d :=
  generated_table_refuses .none X _ rfl

/-! ### a variable that does not occur -/

/-- If no leaf of `e` is `==` to the differentiation variable, the derivative tree evaluates to 0
in every environment (it is the literal `0` unless an `If` is kept around zeros:
`diff_var_absent_literal`). -/
theorem diff_var_absent (cfg : Smooth) (v e d : Expr) (h : diff cfg v e = .ok d)
    (ha : absent v e = true) (ρ : Expr → ℝ) : evalR ρ d = 0 :=
  diff_absent cfg v ρ e d h ha

example : diff .none (.var "w") (.bin .quot (.nary .prod [X, X]) (mcall .exp [Y])) = .ok zero := rfl
example (ρ : Expr → ℝ) :
    evalR ρ (.ite (.cmp .lt X Y) zero zero) = 0 :=
  diff_var_absent .discontinuous (.var "w") (.ite (.cmp .lt X Y) X Y) _ rfl rfl ρ

/-- **… and it is the literal `0`.**  If no leaf of `e` is `==` to the differentiation variable
and `e` contains no `If` (under "none" / "continuous" an `If` is refused anyway), the derivative is
the int literal `0` itself — not merely a tree that evaluates to 0.  This is what the product,
quotient and power rules test (`not df`): it holds because the CSE handler answers `0` for a
vanishing child derivative, not a (truthy) wrapper around it (repo commit 0a83556;
`cse_zero_wrapped_table_cex`: the handler before that commit); `If(c, 0, 0)` is the one wrapper
there is. -/
theorem diff_var_absent_literal (cfg : Smooth) (v e d : Expr) (h : diff cfg v e = .ok d)
    (ha : absent v e = true) (hi : cfg = .discontinuous → iteFree e = true) : d = zero :=
  diff_absent_zero cfg v e d h ha hi

/-- non-vacuity: nested wrappers, a product and a call around a variable that is not `w` -/
example : diff .none (.var "w")
    (.cse (.nary .prod [.cse X none "s", mcall .sin [.cse (.bin .pow X Y) (some "u") "t"]]) none "s")
    = .ok zero := rfl
example : diff .none (.var "w") (.cse X none "s") = .ok zero ∧
    diff .discontinuous (.var "w") (.ite (.cmp .lt X Y) X Y) = .ok (.ite (.cmp .lt X Y) zero zero) :=
  ⟨rfl, rfl⟩

/-! ### an exponent that does not depend on the variable: the plain power rule -/

/-- **The plain power rule** (repo commit 0a83556).  If the exponent `g` of `f ** g` does not depend on the
differentiation variable (no leaf of `g` is `==` to it; `g` may be any differentiable tree without
`If` — a constant, another variable, `CommonSubexpression(y)`, `sin(CSE(y*z))`, …), then the
derivative is the plain power rule `g * f**(g-1) * f'` (`plainPowRule`, no `log(f)` term — so the
tree can be evaluated wherever `f**(g-1)` can, in particular at `f <= 0` for an integer-valued
`g >= 1`, and needs no free variable `log`), or the literal `0` when `f'` vanishes as well. -/
theorem diff_pow_absent_exponent (cfg : Smooth) (v f g df dg : Expr)
    (hf : diff cfg v f = .ok df) (hg : diff cfg v g = .ok dg)
    (ha : absent v g = true) (hi : cfg = .discontinuous → iteFree g = true) :
    diff cfg v (.bin .pow f g)
      = if df.truthy then liftOp (plainPowRule f g df) else .ok zero := by
  have e := diff_absent_zero cfg v g dg hg ha hi
  subst e
  simp only [diff, hf, hg]
  show liftOp (powRule f g df zero) = _
  rw [powRule_dg_zero]
  split <;> rfl

/-- … in particular for an exponent wrapped in a `CommonSubexpression` (the shape the defect was
found on): `d/dv f ** CSE(g) = CSE(g) * f**(CSE(g) - 1) * f'`. -/
theorem diff_pow_cse_exponent (cfg : Smooth) (v f g df dg : Expr) (p : Option String) (s : String)
    (hf : diff cfg v f = .ok df) (hg : diff cfg v g = .ok dg) (hl : g.hasList = false)
    (ha : absent v g = true) (hi : cfg = .discontinuous → iteFree g = true) :
    diff cfg v (.bin .pow f (.cse g p s))
      = if df.truthy then liftOp (plainPowRule f (.cse g p s) df) else .ok zero :=
  diff_pow_absent_exponent cfg v f (.cse g p s) df (cseRule dg p s) hf
    (by simp only [diff, hl, hg]; rfl) (by simpa [absent] using ha)
    (fun hc => by simpa [iteFree] using hi hc)

/-- non-vacuity: `d/dx x ** CSE(y) = CSE(y) * x ** (CSE(y) + -1)`, and `d/da[1]` of it is `0` -/
example : diff .none X (.bin .pow X (.cse Y none "s"))
    = .ok (.nary .prod [.cse Y none "s", .bin .pow X (.nary .sum [.cse Y none "s", negOne])]) := rfl
example : diff .none X (.bin .pow X (.cse Y none "s"))
    = liftOp (plainPowRule X (.cse Y none "s") one) :=
  diff_pow_cse_exponent .none X X Y one zero none "s" rfl rfl rfl rfl (by intro h; cases h)
example : differentiate .none (.subscript (.var "a") one) (.bin .pow X (.cse Y none "s")) = .ok zero :=
  rfl

/-! ### known findings as theorems -/

/-- the table as `extract/differentiator.py` reads it from the source before repo commit 0a83556:
the CSE handler `return type(expr)(self.rec(expr.child, *args), expr.prefix, expr.scope)` wraps whatever
the child's derivative is -/
def c10OldCseTable : C10DiffTable :=
  { Generated.c10DiffTable with
    cseZero := none
    shapes := Generated.c10DiffTable.shapes.map fun (n, sh) =>
      if n = "map_common_subexpression_uncached" then
        (n, .rebuild false [(true, "child"), (false, "prefix"), (false, "scope")])
      else (n, sh) }

/-- **a wrapper around a vanishing derivative** (repo commit 0a83556).  With the CSE handler of
`c10OldCseTable`, which wraps unconditionally, the derivative of `x ** CSE(y)` with respect to `x` is
`log(x)*x**CSE(y)*CSE(0) + CSE(y)*x**(CSE(y) + -1)`: `CSE(0)` is truthy, so `map_power` does not
see that the exponent's derivative vanishes and emits the `log(x)` term (the tree cannot be
evaluated at `x <= 0`, where `x**y` is differentiable for an integer `y >= 1`, and calls the free
variable `log`); with respect to `a[1]`, which does not occur at all, it is
`log(x)*x**CSE(y)*CSE(0)` instead of `0`.  The table regenerated from the source gives the
plain power rule and the literal `0`. -/
theorem cse_zero_wrapped_table_cex :
    let G : Expr := .cse Y none "s"
    let a1 : Expr := .subscript (.var "a") one
    c10DiffT c10OldCseTable .none X (.bin .pow X G)
      = .ok (.nary .sum [.nary .prod [logCall X, .bin .pow X G, .cse zero none "s"],
                         .nary .prod [G, .bin .pow X (.nary .sum [G, negOne])]]) ∧
    c10DiffT Generated.c10DiffTable .none X (.bin .pow X G)
      = .ok (.nary .prod [G, .bin .pow X (.nary .sum [G, negOne])]) ∧
    c10DiffT c10OldCseTable .none a1 (.bin .pow X G)
      = .ok (.nary .prod [logCall X, .bin .pow X G, .cse zero none "s"]) ∧
    c10DiffT Generated.c10DiffTable .none a1 (.bin .pow X G) = .ok zero ∧
    c10OldCseTable.shapes ≠ c10ModelShapes ∧ c10RulesOf c10OldCseTable ≠ c10ModelRules := by
  refine ⟨rfl, rfl, rfl, rfl, by decide, ?_⟩
  intro h
  cases congrArg C10Rules.cseZero h

/-- **copysign, first argument.**  Under "discontinuous" the code differentiates
`copysign(x, 1)` with respect to `x` to the literal `0`; the function is `|x|`, whose derivative
at `1` is `1`.  (`csOk` fails exactly on this shape.) -/
theorem copysign_first_argument_cex :
    diff .discontinuous X (mcall .copysign [X, one]) = .ok zero ∧
    csOk (mcall .copysign [X, one]) = false ∧
    ∀ ρ : Expr → ℝ, ¬ HasDerivAt (fun t => evalR (updL ρ X t) (mcall .copysign [X, one]))
      (evalR (updL ρ X 1) zero) 1 := by
  refine ⟨rfl, rfl, ?_⟩
  intro ρ hder
  have efun : (fun t => evalR (updL ρ X t) (mcall .copysign [X, one])) = fun t => |t| := by
    funext t
    simp [mcall, evalR, callFn_mathf, evalArgs, evalCall, updL, X, Expr.pyEq, one, Const.toReal]
  rw [efun] at hder
  have h1 : HasDerivAt (fun t : ℝ => |t|) ((SignType.sign (1 : ℝ) : ℝ)) 1 :=
    hasDerivAt_abs one_ne_zero
  have := hder.unique h1
  simp at this

/-- **`If` around vanishing derivatives.**  `map_if` rebuilds `If(c, then', else_')` also when
both branch derivatives vanish; `If(c, 0, 0)` is truthy (the hypothesis `iteFree` of
`diff_var_absent_literal` / `diff_pow_absent_exponent` cannot be dropped): with an exponent
`If(y < 1, 2, 3)`, which does not depend on `x`, the power rule keeps the term
`log(x) * x**If(..) * If(y < 1, 0, 0)`. -/
theorem if_zero_wrapped_cex :
    let G : Expr := .ite (.cmp .lt Y one) two (.const (.int 3))
    let Z : Expr := .ite (.cmp .lt Y one) zero zero
    diff .discontinuous X (.bin .pow X G)
      = .ok (.nary .sum [.nary .prod [logCall X, .bin .pow X G, Z],
                         .nary .prod [G, .bin .pow X (.nary .sum [G, negOne])]]) ∧
    absent X G = true ∧ iteFree G = false ∧
    diff .discontinuous X G = .ok Z ∧ Z.truthy = true ∧ Z ≠ zero ∧
    ∀ ρ : Expr → ℝ, evalR ρ Z = 0 := by
  refine ⟨rfl, rfl, rfl, rfl, rfl, (fun h => by cases h), ?_⟩
  intro ρ
  simp only [evalR, evalR_zero ρ, ite_self]

/-- **log of an integer constant.**  `log(2)` — a constant — cannot be differentiated: the rule
builds `pymbolic.rational.Rational(1, 2)` whose product with `0` raises AttributeError. -/
theorem log_integer_constant_cex :
    diff .none X (mcall .log [.const (.int 2)]) = .error .attributeError ∧
    diff .none X (.nary .prod [X, mcall .log [.const (.int 2)]]) = .error .attributeError :=
  ⟨rfl, rfl⟩

/-- **the power rule's `log`.**  The derivative of `x**y` with respect to `y` calls the free
variable `log`, not `math.log`; it is not a function of the table, so differentiating once more
is refused. -/
theorem power_rule_unqualified_log_witness :
    differentiate .none Y (.bin .pow X Y) = .ok (.nary .prod [.call (.var "log") [X], .bin .pow X Y]) ∧
    mathFn? (.var "log") = none ∧
    differentiate .none X (.nary .prod [.call (.var "log") [X], .bin .pow X Y])
      = .error .runtimeError :=
  ⟨rfl, rfl, rfl⟩

end PV.C10
