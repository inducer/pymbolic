import PV.Properties.C09
/-
  C09 — falsy operands.  In Python every object has a truth value and pymbolic's node classes
  define theirs (`Expr.truthy`: a product with a zero factor, a quotient / floor division /
  remainder with a falsy numerator, a one-element sum of a falsy child are FALSE), so `0*n` —
  what substitution without constant folding leaves behind in `a[i*n:m]` — is a falsy object that
  has a variable in it.  An omitted slice part is `None`.  The dependency analysis must tell
  "omitted" from "present" by identity (`is not None`), never by truth value: the theorems below
  say that it does (every occurrence below a present slice part is reported, whatever the truth
  value of the part), that the truth-value idiom `filter(None, expr.children)` is a DIFFERENT
  function with a concrete missing variable, and that the two coincide exactly on slices without
  a falsy part (which is why no ordinary slice `a[:n]`, `a[1:n]`, `a[i*n:m]` can tell them apart).
-/
set_option linter.unusedTactic false
set_option linter.unreachableTactic false
namespace PV.C09
open PV

/-- **A falsy slice part is not skipped.**  For a well-formed slice, every variable occurring
(outside selected composites) in ANY of its parts is reported — in particular in a part whose
Python truth value is `False`. -/
theorem deps_slice_part_reported {fl : DepFlags} {cs : List Expr} {c : Expr} {n : String}
    {r : List Expr} (hwf : (Expr.slice cs).wf = true) (hc : c ∈ cs)
    (ho : Occurs fl c (.var n)) (h : deps fl (.slice cs) = .ok r) : .var n ∈ r :=
  deps_complete_var hwf (.slice hc ho) h

/-- the same below a subscript the analysis descends into (`a[0*n:m]`) -/
theorem deps_subscript_slice_part_reported {fl : DepFlags} {a : Expr} {cs : List Expr} {c : Expr}
    {n : String} {r : List Expr} (hs : fl.subscripts = false)
    (hwf : (Expr.subscript a (.slice cs)).wf = true) (hc : c ∈ cs)
    (ho : Occurs fl c (.var n)) (h : deps fl (.subscript a (.slice cs)) = .ok r) : .var n ∈ r :=
  deps_complete_var hwf (.subscript_r hs (.slice hc ho)) h

/-- every selected occurrence below a slice part, up to Python `==` -/
theorem deps_slice_part_complete {fl : DepFlags} {cs : List Expr} {c x : Expr}
    {r : List Expr} (hwf : (Expr.slice cs).wf = true) (hc : c ∈ cs)
    (ho : Occurs fl c x) (h : deps fl (.slice cs) = .ok r) : ∃ y ∈ r, y.pyEq x = true :=
  deps_complete hwf (.slice hc ho) h

/-- `0*n`: a falsy object with a variable in it -/
def zeroTimesN : Expr := .nary .prod [.const (.int 0), .var "n"]

example : zeroTimesN.truthy = false := by decide +kernel
example : (Expr.bin .floordiv zeroTimesN (.var "k")).truthy = false := by decide +kernel
example : (Expr.nary .sum [zeroTimesN]).truthy = false := by decide +kernel
/-- `a[0*n:m]` with all composite kinds off: `a`, `n`, `m` -/
example : deps offFlags (.subscript (.var "a") (.slice [zeroTimesN, .var "m"]))
    = .ok [.var "a", .var "n", .var "m"] := by decide +kernel
example : deps offFlags (.slice [.const .none, .bin .rem zeroTimesN (.var "k"), .const .none])
    = .ok [.var "n", .var "k"] := by decide +kernel

/-- the truth-value idiom: `self.combine(self.rec(ch) for ch in filter(None, expr.children))` -/
def depsSliceTruthy (fl : DepFlags) (cs : List Expr) : Except DepErr (List Expr) :=
  depsSlice fl (cs.filter Expr.truthy)

/-- **Sensitivity.**  Filtering the slice parts by truth value is not the analysis of the
property: on `[0*n : m]` the variable `n` occurs, and is missing from the result. -/
theorem slice_truthiness_filter_cex :
    ∃ (fl : DepFlags) (cs : List Expr) (n : String) (r : List Expr),
      (Expr.slice cs).wf = true ∧ Occurs fl (.slice cs) (.var n) ∧
      depsSliceTruthy fl cs = .ok r ∧ Expr.var n ∉ r ∧
      ∃ r', deps fl (.slice cs) = .ok r' ∧ Expr.var n ∈ r' := by
  refine ⟨offFlags, [zeroTimesN, .var "m"], "n", [.var "m"], by decide +kernel, ?_, by decide +kernel, by simp,
    [.var "n", .var "m"], by decide +kernel, by simp⟩
  exact .slice (c := zeroTimesN) (by simp) (.nary (c := .var "n") (by simp) (.var "n"))

/-- **Why ordinary slices cannot tell.**  When every present part of a slice is truthy the
truth-value idiom computes exactly what the analysis computes: only a falsy part separates
them. -/
theorem depsSliceTruthy_eq_of_truthy (fl : DepFlags) : ∀ (cs : List Expr),
    (∀ c ∈ cs, c ≠ .const .none → c.truthy = true) →
    depsSliceTruthy fl cs = depsSlice fl cs
  | [], _ => rfl
  | c :: cs, hc => by
      have ih := depsSliceTruthy_eq_of_truthy fl cs (fun d hd => hc d (by simp [hd]))
      unfold depsSliceTruthy at ih ⊢
      by_cases hn : c = .const .none
      · subst hn
        have : Expr.truthy (.const .none) = false := by decide +kernel
        simp only [List.filter_cons, this, Bool.false_eq_true, if_false, depsSlice]
        exact ih
      · have ht : c.truthy = true := hc c (by simp) hn
        simp only [List.filter_cons, ht, if_true]
        rw [depsSlice.eq_3 _ _ _ hn, depsSlice.eq_3 _ _ _ hn, ih]

example : depsSliceTruthy {} [.var "lo", .const .none, .nary .prod [.var "i", .var "n"]]
    = deps {} (.slice [.var "lo", .const .none, .nary .prod [.var "i", .var "n"]]) := by decide +kernel

end PV.C09
