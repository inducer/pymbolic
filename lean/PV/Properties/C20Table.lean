import PV.Properties.C20
import PV.Proofs.ImpTableFuse
import PV.Proofs.ImpTableDisamb
import PV.Proofs.ImpTableDot
/-
  C20 — T-gen tie of the statement-stream model to the source.

  `PV.Generated.c20Table` is rewritten on every run by `extract/imperative.py` from the source text
  of the working tree: the bodies of `fuse_statement_streams_with_unique_ids`,
  `disambiguate_identifiers`, `disambiguate_and_fuse` (transform.py), `get_all_used_identifiers`
  (analysis.py), `get_dot_dependency_graph` (utils.py) and, for the statement classes of
  statement.py, their MROs and the bodies of `get_written_variables`, `get_read_variables`,
  `map_expressions`, `get_dependency_mapper` — in the small Python of PV/Model/ImpTable.lean
  (assignments, in-place updates, loops, `while True`/`break`, comprehensions, method calls with
  MRO look-up and `super()`, nested `def`, function-level imports resolved to qualified names).

  `c20CallFunc` / `c20CallMethod` RUN a table: they know no function of pymbolic, only the
  language.  The theorems below prove that the hand-written model of PV/Model/Imperative.lean
  (`fuseG`, `Kind.reads`, `Kind.written`, `Stmt.mapExprs`, `usedIdentifiers`, `disambiguateG`,
  `disambiguateAndFuseG`, `dotEdges` / `dotText`) — the one the driver executes and the theorems of
  PV/Properties/C20.lean are about — IS the interpreter applied to the regenerated table, for all
  inputs.  Hence the C20 theorems restated at the end speak about what the current source text
  says.  An edit that changes a table entry (dependencies remapped inside the first loop, the
  generator seeded with one identifier set, `get_vars` scanning its argument, an edge line guarded
  or dropped, a `.copy()` removed, `add` ↦ `discard`, …) makes the corresponding theorem fail to
  check.

  Hand-written (primitives of the reading, not data): `pytools.UniqueNameGenerator` (the parameter
  `G`), `pytools.RecordWithoutPickling.copy` (field update), `Variable(...)`, `isinstance` against
  `Variable` / `Subscript`, `DependencyMapper(**flags)` = `deps`, `SubstitutionMapper` /
  `make_subst_func` = `substM`, `list`, string formatting of `str` values; `Statement.__init__`,
  `__str__` are outside the table.
-/
namespace PV.C20
open PV PV.Imp PV.Generated

variable {σ : Type}

/-- the table regenerated from the working tree -/
abbrev tableCurrent : C20Table := c20Table

/-- the run-time configuration of the table interpreter over the current table: name generator,
iteration order of `for` over a set of names, `while` budget -/
abbrev cfgCurrent (G : NameGen σ) (order : List String → List String) (whileFuel : Nat) :
    C20Cfg σ := cfgCur G order whileFuel

/-! ### entry points -/

theorem callMethod_unfold (k : C20Cfg σ) (d : Nat) (s : Stmt) (m : String) (args) :
    c20CallMethod k d s m args = c20Method (k.ctx (c20Run k d) none) (.stmt s) m args [] [] := rfl

/-! ### the statement methods -/

/-- **`get_written_variables` as the current source has it is `Kind.written`.** -/
theorem written_eq_table_current (G : NameGen σ) (order) (wf n : Nat) (s : Stmt) :
    c20CallMethod (cfgCurrent G order wf) (n + 1) s "get_written_variables" [] =
      C20Res.ofExcept .strSet s.kind.written :=
  written_method_eq_table G order wf (n + 1) (Nat.le_add_left ..) none s

/-- **`get_read_variables` as the current source has it is `Kind.reads`** — through the MRO of the
statement's class, `super()` included, with the dependency mapper the table's
`get_dependency_mapper` builds. -/
theorem reads_eq_table_current (G : NameGen σ) (order) (wf n : Nat) (s : Stmt) :
    c20CallMethod (cfgCurrent G order wf) (n + 3) s "get_read_variables" [] =
      C20Res.ofExcept .strSet s.kind.reads :=
  reads_method_eq_table G order wf (n + 3) (Nat.le_add_left ..) none s

/-- **`map_expressions(mapper)` as the current source has it is `Stmt.mapExprs`.** -/
theorem mapExprs_eq_table_current (G : NameGen σ) (order) (wf n : Nat) (s : Stmt)
    (f : Expr → Expr) :
    c20CallMethod (cfgCurrent G order wf) (n + 3) s "map_expressions" [.exprMap f] =
      .ok (.stmt (s.mapExprs f)) :=
  mapExprs_method_eq_table G order wf (n + 3) (Nat.le_add_left ..) none s f

/-- **The dependency mapper of the current source is the modelled one**: for every statement class
`get_dependency_mapper()` passes `include_subscripts=False, include_lookups=False` and the
parameter default `include_calls="descend_args"` — the flags `stmtFlags` of the model. -/
theorem depMapper_eq_table_current (G : NameGen σ) (order) (wf n : Nat) (s : Stmt) :
    c20CallMethod (cfgCurrent G order wf) (n + 1) s "get_dependency_mapper" [] =
      .ok (.depMap stmtFlags) :=
  get_deps_eq_table G order wf n none s

mutual
/-- does an expression of the table language mention the local `x` -/
def mentionsVar (x : String) : C20Expr → Bool
  | .var y => y == x
  | .glob _ => false
  | .lit _ => false
  | .attr e _ => mentionsVar x e
  | .call f as _ kv => mentionsVar x f || mentionsVarL x as || mentionsVarL x kv
  | .meth o _ as _ kv => mentionsVar x o || mentionsVarL x as || mentionsVarL x kv
  | .superMeth _ as _ kv => mentionsVarL x as || mentionsVarL x kv
  | .index a b => mentionsVar x a || mentionsVar x b
  | .bitOr a b => mentionsVar x a || mentionsVar x b
  | .bitAnd a b => mentionsVar x a || mentionsVar x b
  | .isNone a => mentionsVar x a
  | .isNotNone a => mentionsVar x a
  | .isInstance a b => mentionsVar x a || mentionsVar x b
  | .isIn a b => mentionsVar x a || mentionsVar x b
  | .notIn a b => mentionsVar x a || mentionsVar x b
  | .boolAnd a b => mentionsVar x a || mentionsVar x b
  | .notOp a => mentionsVar x a
  | .ifExp a b c => mentionsVar x a || mentionsVar x b || mentionsVar x c
  | .tuple es => mentionsVarL x es
  | .emptyList => false
  | .emptyDict => false
  | .emptySet => false
  | .frozensetOf es => mentionsVarL x es
  | .setComp elt y it => (y != x && mentionsVar x elt) || mentionsVar x it
  | .listComp elt y it => (y != x && mentionsVar x elt) || mentionsVar x it
  | .frozensetGen elt y it => (y != x && mentionsVar x elt) || mentionsVar x it
  | .fstr _ vs => mentionsVarL x vs
  | .joinStr _ e => mentionsVar x e
  | .notModelled _ => true
def mentionsVarL (x : String) : List C20Expr → Bool
  | [] => false
  | e :: es => mentionsVar x e || mentionsVarL x es
end

/-- the helper `get_vars` that `Assignment.get_read_variables` defines, as the table has it -/
def getVarsCurrent : Option (List String × List C20Stmt) :=
  match c20MethodOf c20Cls_Assignment "get_read_variables" with
  | some (.code _ body) =>
    body.findSome? fun
      | .defLocal "get_vars" ps b => some (ps, b)
      | _ => none
  | _ => none

/-- **The regenerated table SHOWS the known finding `assignment-reads-ignore-lhs`**: in the
current source `get_vars` takes a parameter `expr`, and its one statement returns
`frozenset(dep.name for dep in get_deps(self.rhs))` — an expression that does not mention `expr`. -/
theorem get_vars_ignores_argument_current :
    ∃ ret, getVarsCurrent = some (["expr"], [.ret ret]) ∧ mentionsVar "expr" ret = false ∧
      ret = .frozensetGen (.attr (.var "dep") "name") "dep"
        (.call (.var "get_deps") [.attr (.var "self") "rhs"] [] []) :=
  ⟨_, rfl, by decide +kernel, rfl⟩

/-- … and run by the table interpreter the statement of the finding, `a[x] <- y + 1`, reports the
reads `{y}` (the scan of its left-hand side finds `x` as well: `reads_scan_cex`). -/
theorem table_reads_cex_current (G : NameGen σ) (order) (wf : Nat) :
    c20CallMethod (cfgCurrent G order wf) 3 ⟨"i", [], cexStmt⟩ "get_read_variables" [] =
      .ok (.strSet ["y"]) := by
  rw [reads_eq_table_current G order wf 0, reads_scan_cex.1]
  rfl

/-! ### `get_all_used_identifiers` -/

/-- **`get_all_used_identifiers` as the current source has it is `usedIdentifiers`.** -/
theorem usedIdentifiers_eq_table_current (G : NameGen σ) (order) (wf n : Nat) (ss : List Stmt) :
    c20CallFunc (cfgCurrent G order wf) (n + 4)
      "pymbolic.imperative.analysis.get_all_used_identifiers" [.list (ss.map .stmt)] =
      C20Res.ofExcept .strSet (usedIdentifiers ss) := by
  have h := used_eq_table G order wf (n + 4) (Nat.le_add_left ..) none ss
  simp only [c20CallFunc]
  c20_run [h]

/-! ### fusion -/

/-- the mirrored `UniqueNameGenerator` is seeded by a set -/
theorem pyGen_seededBySet : pyGen.SeededBySet := by
  intro xs
  have : dedupS (dedupS xs) = dedupS xs := unionS_nil_left (nodup_dedupS xs)
  simp [pyGen, this]

/-- **`fuse_statement_streams_with_unique_ids` as the current source has it is `fuseG`**, for
every pair of streams and every generator that is seeded by a set. -/
theorem fuseG_eq_table_current (G : NameGen σ) (hG : G.SeededBySet) (order) (wf n : Nat)
    (A B : List Stmt) :
    c20CallFunc (cfgCurrent G order wf) (n + 1)
      "pymbolic.imperative.transform.fuse_statement_streams_with_unique_ids"
      [.list (A.map .stmt), .list (B.map .stmt)] =
      C20Res.ofExcept (fun r => .tuple [.list (r.1.map .stmt), .dict (encM r.2)]) (fuseG G A B) := by
  have h := fuse_fn_eq_table G hG order wf n none A B
  simp only [c20CallFunc]
  c20_run [h]

/-- … in particular with the mirrored pytools generator: the function the driver runs -/
theorem fuse_eq_table_current (order) (wf n : Nat) (A B : List Stmt) :
    c20CallFunc (cfgCurrent pyGen order wf) (n + 1)
      "pymbolic.imperative.transform.fuse_statement_streams_with_unique_ids"
      [.list (A.map .stmt), .list (B.map .stmt)] =
      C20Res.ofExcept (fun r => .tuple [.list (r.1.map .stmt), .dict (encM r.2)]) (fuse A B) :=
  fuseG_eq_table_current pyGen pyGen_seededBySet order wf n A B

/-! ### disambiguation -/

/-- **`disambiguate_identifiers` as the current source has it is `disambiguateG`**, for every
generator, filter, pair of streams and every order `ord` in which the `for` statement visits the
clash set (the model's `order` parameter is that order restricted to the names passing the
filter). -/
theorem disambiguateG_eq_table_current (G : NameGen σ) (ord : List String → List String)
    (hperm : ∀ xs, (ord xs).Perm xs) (wf n : Nat) (filter : String → Bool) (A B : List Stmt) :
    c20CallFunc (cfgCurrent G ord wf) (n + 5)
      "pymbolic.imperative.transform.disambiguate_identifiers"
      [.list (A.map .stmt), .list (B.map .stmt), .strPred filter] =
      C20Res.ofExcept (fun r => .tuple [.list (r.1.map .stmt), .dict (encE r.2)])
        (disambiguateG G filter (clashOrder ord filter A B) A B) := by
  have h := disamb_fn_eq_table G ord hperm wf n none filter A B
  simp only [c20CallFunc]
  c20_run [h]

/-- the same without a filter (`should_disambiguate_name=None`) -/
theorem disambiguateG_default_eq_table_current (G : NameGen σ) (ord : List String → List String)
    (hperm : ∀ xs, (ord xs).Perm xs) (wf n : Nat) (A B : List Stmt) :
    c20CallFunc (cfgCurrent G ord wf) (n + 5)
      "pymbolic.imperative.transform.disambiguate_identifiers"
      [.list (A.map .stmt), .list (B.map .stmt)] =
      C20Res.ofExcept (fun r => .tuple [.list (r.1.map .stmt), .dict (encE r.2)])
        (disambiguateG G (fun _ => true) (clashOrder ord (fun _ => true) A B) A B) := by
  have h := disamb_fn_default_eq_table G ord hperm wf n none A B
  simp only [c20CallFunc]
  c20_run [h]

/-- **`disambiguate_and_fuse` as the current source has it is `disambiguateAndFuseG`.** -/
theorem disambiguateAndFuseG_eq_table_current (G : NameGen σ) (hG : G.SeededBySet)
    (ord : List String → List String) (hperm : ∀ xs, (ord xs).Perm xs) (wf n : Nat)
    (filter : String → Bool) (A B : List Stmt) :
    c20CallFunc (cfgCurrent G ord wf) (n + 6)
      "pymbolic.imperative.transform.disambiguate_and_fuse"
      [.list (A.map .stmt), .list (B.map .stmt), .strPred filter] =
      C20Res.ofExcept
        (fun r => .tuple [.list (r.1.map .stmt), .dict (encE r.2.1), .dict (encM r.2.2)])
        (disambiguateAndFuseG G filter (clashOrder ord filter A B) A B) := by
  have h := disfuse_fn_eq_table G hG ord hperm wf n none filter A B
  simp only [c20CallFunc]
  c20_run [h]

/-! ### the dot export -/

/-- **`get_dot_dependency_graph` as the current source has it is `dotText`** (hence its edge
lines are `dotEdges`): for every stream, every stringifier and hooks, `use_stmt_ids` ∈ {`None`,
`True`, `False`}; with sets visited in the order of the model's lists (`order := fun xs => xs`, NOT
for every order) and the `while` budget `fuelFor (buildGraph ss)` the model uses. -/
theorem dotText_eq_table_current (G : NameGen σ) (n : Nat) (ss : List Stmt) (u : Option Bool)
    (pre post : List String) (str : Stmt → String) :
    c20CallFunc (cfgCurrent G (fun xs => xs) (fuelFor (buildGraph ss))) (n + 2)
      "pymbolic.imperative.utils.get_dot_dependency_graph"
      [.list (ss.map .stmt), c20OfOptBool u, .thunk (.list (pre.map .str)),
        .thunk (.list (post.map .str)), .stmtStr str, .none] =
      match dotText pre post (u.getD false) str ss with
      | .ok t => .ok (.str t)
      | .error _ => .fuel := by
  have h := dot_fn_eq_table G n none ss u pre post str
  simp only [c20CallFunc]
  c20_run [h]
  cases dotText pre post (u.getD false) str ss <;> rfl

/-- the text the model builds is: preamble, `rankdir=BT;`, one node line per statement, one
`a -> b` line per edge of `dotEdges`, the additional lines -/
theorem dotText_lines {pre post : List String} {b : Bool} {str : Stmt → String} {ss : List Stmt}
    {t : String} (h : dotText pre post b str ss = .ok t) :
    ∃ es, dotEdges ss = .ok es ∧
      t = "digraph code {\n" ++ "\n".intercalate (pre ++ ["rankdir=BT;"] ++
        ss.map (dotNodeLine b str) ++ es.map dotEdgeLine ++ post) ++ "\n}" := by
  unfold dotText at h
  cases he : dotEdges ss with
  | error e => simp [he, bind, Except.bind] at h
  | ok es =>
    simp only [he, bind, Except.bind, pure, Except.pure, Except.ok.injEq] at h
    exact ⟨es, rfl, h.symm⟩

/-! ### The C20 theorems, about the regenerated table -/

/-- **What the current source says never runs out of `while` budget**: the table interpreter run on
the regenerated `get_dot_dependency_graph` returns a text (`dot_export_total`, transported). -/
theorem table_dot_total_current (G : NameGen σ) (n : Nat) (ss : List Stmt) (u : Option Bool)
    (pre post : List String) (str : Stmt → String) :
    ∃ t es, c20CallFunc (cfgCurrent G (fun xs => xs) (fuelFor (buildGraph ss))) (n + 2)
        "pymbolic.imperative.utils.get_dot_dependency_graph"
        [.list (ss.map .stmt), c20OfOptBool u, .thunk (.list (pre.map .str)),
          .thunk (.list (post.map .str)), .stmtStr str, .none] = .ok (.str t) ∧
      dotEdges ss = .ok es ∧
      t = "digraph code {\n" ++ "\n".intercalate (pre ++ ["rankdir=BT;"] ++
        ss.map (dotNodeLine (u.getD false) str) ++ es.map dotEdgeLine ++ post) ++ "\n}" := by
  obtain ⟨es, hes⟩ := dot_export_total ss
  have ht : ∃ t, dotText pre post (u.getD false) str ss = .ok t := by
    simp [dotText, hes, bind, Except.bind, pure, Except.pure]
  obtain ⟨t, ht⟩ := ht
  obtain ⟨es', hes', rfl⟩ := dotText_lines ht
  refine ⟨_, es', ?_, hes', rfl⟩
  rw [dotText_eq_table_current, ht]

/-- **What the current source says keeps ids distinct** (`fuse_ids_distinct`, transported): if
the table interpreter run on the regenerated `fuse_statement_streams_with_unique_ids` returns the
statements `out`, and the ids of the first stream are distinct, so are those of `out`. -/
theorem table_fuse_ids_distinct_current (G : NameGen σ) (hG : G.Fresh) (hS : G.SeededBySet)
    (order) (wf n : Nat) {A B out : List Stmt} {mv : List (String × C20Val σ)}
    (hA : (A.map (·.id)).Nodup)
    (h : c20CallFunc (cfgCurrent G order wf) (n + 1)
      "pymbolic.imperative.transform.fuse_statement_streams_with_unique_ids"
      [.list (A.map .stmt), .list (B.map .stmt)] = .ok (.tuple [.list (out.map .stmt), .dict mv])) :
    (out.map (·.id)).Nodup := by
  rw [fuseG_eq_table_current G hS] at h
  cases hf : fuseG G A B with
  | error e => simp [hf, C20Res.ofExcept] at h
  | ok r =>
    obtain ⟨out', m⟩ := r
    simp only [hf, C20Res.ofExcept, C20Res.ok.injEq, C20Val.tuple.injEq, List.cons.injEq,
      C20Val.list.injEq, and_true] at h
    have hout : out' = out := by
      have := h.1
      exact List.map_injective_iff.2 (fun a b hab => by injection hab) this
    subst hout
    exact fuse_ids_distinct hG hA hf

/-! ### non-vacuity: the interpreter really runs the regenerated table -/

example : (match c20CallFunc (cfgCurrent pyGen id 0) 1
      "pymbolic.imperative.transform.fuse_statement_streams_with_unique_ids"
      [.list (demoA.map .stmt), .list (demoB.map .stmt)] with
    | .ok (.tuple [.list out, .dict m]) => out.length == 4 && m.length == 2
    | _ => false) = true := by decide +kernel

example : (match c20CallFunc (cfgCurrent pyGen id 20) 2
      "pymbolic.imperative.utils.get_dot_dependency_graph"
      [.list (demoDag.map .stmt), .bool true, .thunk (.list []), .thunk (.list []),
        .stmtStr (fun s => s.id), .none] with
    | .ok (.str t) => t == "digraph code {\nrankdir=BT;\n\"a\" [label=\"a\",shape=\"box\",tooltip=\"a\"];\n\"b\" [label=\"b\",shape=\"box\",tooltip=\"b\"];\n\"c\" [label=\"c\",shape=\"box\",tooltip=\"c\"];\na -> b\nb -> c\n}"
    | _ => false) = true := by decide +kernel

example : pyGen.SeededBySet := pyGen_seededBySet

end PV.C20
