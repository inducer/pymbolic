import PV.Properties.C19
import PV.Properties.C19Fft
import PV.Proofs.AlgoTableMap
import PV.Proofs.AlgoTableFft
/-!
  C19 — T-gen tie of the exact-arithmetic model to the source.

  `PV.Generated.c19Table` is rewritten on every run by `extract/algorithm.py` from the source text of
  the working tree: the BODY of every function under this property (`integer_power`,
  `extended_euclidean`, `gcd`, `lcm`, `find_factors`, `fft`, `ifft`, `_sort_uniq`, the `Polynomial`
  methods and properties, `traits`, `IntegerTraits`, `Rational.__init__`,
  `EvaluationMapper.map_polynomial`, `IdentityMapper.map_polynomial`), statement by statement, in
  the small imperative language of PV/Model/AlgoTable.lean (loops with their state and update order,
  early returns, tuple assignments, list mutation, comprehensions, `try/except`, method and
  constructor calls).

  `c19RunFn ops T ext fuel name args` RUNS a function of a table: it knows no function, only the
  language.  The theorems below prove that the hand-written model functions of PV/Model/Algo.lean
  and AlgoFft.lean — the ones the driver executes and the theorems of PV/Properties/C19.lean and
  C19Fft.lean are about — ARE what the interpreter computes on the regenerated table, for ALL
  inputs (induction on the loops' termination measures, symbolic execution of the bodies).  Hence
  the C19 theorems speak about what the current source text says.  An edit that changes behaviour
  (`aux *= x` moved after the squaring, the Euclid swap done in place, `last_exp` not reset in
  `_sort_uniq`, a twiddle exponent or a recombination index of `fft`, `any` for `all` in
  `IdentityMapper.map_polynomial`, …) changes the table, and the `…_body_current` literal or the
  symbolic run of the changed statement no longer checks.

  `fuel` bounds the call depth and the iterations of every `while` loop; every theorem gives an
  explicit bound (or, for `__divmod__`, the existence of one) from which on the run succeeds.
  Names outside the table (`ext`) are the environment: the defaulted callables of `fft` (`wrap_intermediate_with_level` returns its
  second argument, `scalar_tp` is the identity on scalars), `self.rec` of the two mappers.
-/

namespace PV.Properties.C19

open PV.Algo PV.Generated

/-- the table regenerated from the working tree -/
abbrev tableCurrent : C19Table := c19Table

variable {α : Type}

/-! ## a. `integer_power` -/

/-- **`integer_power` as regenerated IS `integerPower`** — on values of ANY kind (`emb`) whose `*`
the interpreter computes as `mul` at this call depth: carrier elements, Python ints, `Polynomial`
objects.  The `while n > 0` loop with `aux *= x` BEFORE the squaring and the early return at
`n == 1` is `integerPowerLoop`. -/
theorem integer_power_eq_table_current {β : Type} (ops : C19Ops α)
    (ext : String → List (C19V α) → C19R (C19V α)) (emb : β → C19V α) (mul : β → β → β) (n : ℕ)
    (hmul : ∀ a b, c19BinOp (c19CxAt ops tableCurrent ext n (n + 1)) .mul (emb a) (emb b)
      = .ok (emb (mul a b)))
    (x one : β) (m : ℕ) (hn : m ≤ n) :
    c19RunFn ops tableCurrent ext (n + 1) "algorithm.integer_power" [emb x, .int m, emb one]
      = .ok (emb (integerPower mul one x m)) :=
  c19_integer_power_run ops ext emb mul n hmul x one m hn

/-- on elements of any carrier (any monoid: the operation is `ops.mul`) -/
theorem integer_power_elem_eq_table_current (ops : C19Ops α)
    (ext : String → List (C19V α) → C19R (C19V α)) (x one : α) (m n : ℕ) (hn : m ≤ n) :
    c19RunFn ops tableCurrent ext (n + 1) "algorithm.integer_power" [.elem x, .int m, .elem one]
      = .ok (.elem (integerPower ops.mul one x m)) :=
  c19_integer_power_run ops ext C19V.elem ops.mul n (fun _ _ => rfl) x one m hn

/-- what `integer_power` answers on Python ints -/
def encIntPow : Option ℤ → C19R (C19V α)
  | some v => .ok (.int v)
  | none => .raise "RuntimeError"

/-- on Python ints, negative exponents included (`RuntimeError`): the regenerated body IS
`integerPowerInt` -/
theorem integer_power_int_eq_table_current (ops : C19Ops α)
    (ext : String → List (C19V α) → C19R (C19V α)) (x i : ℤ) (n : ℕ) (hn : i.natAbs ≤ n) :
    c19RunFn ops tableCurrent ext (n + 1) "algorithm.integer_power" [.int x, .int i, .int 1]
      = encIntPow (integerPowerInt x i) := by
  unfold integerPowerInt encIntPow
  by_cases hi : i < 0
  · simp only [hi, if_true]
    exact c19_integer_power_negative ops ext _ _ i hi n
  · simp only [hi, if_false]
    have h := c19_integer_power_run ops ext (fun v : ℤ => (C19V.int v : C19V α)) (· * ·) n
      (fun _ _ => rfl) x 1 i.toNat (by omega)
    have hc : ((i.toNat : ℕ) : ℤ) = i := by omega
    rw [hc] at h
    exact h

/-- **The regenerated `integer_power` computes `x ^ n` in every monoid.** -/
theorem integer_power_table_eq_pow {M : Type} [Monoid M]
    (ext : String → List (C19V M) → C19R (C19V M)) (ofInt : ℤ → M) (ofFrac : ℤ → ℤ → M)
    (tw : ℤ → ℤ → ℤ → M) (x : M) (m n : ℕ) (hn : m ≤ n) :
    c19RunFn ⟨(· * ·), (· * ·), ofInt, ofFrac, tw⟩ tableCurrent ext (n + 1)
        "algorithm.integer_power" [.elem x, .int m, .elem 1] = .ok (.elem (x ^ m)) := by
  rw [integer_power_elem_eq_table_current _ ext x 1 m n hn]
  exact congrArg _ (congrArg _ (integer_power_eq_pow x m))

example : c19RunFn ⟨(· * ·), (· * ·), id, fun a _ => a, fun _ _ _ => 0⟩ tableCurrent
    (fun _ _ => .stuck "") 6 "algorithm.integer_power" [.elem (3 : ℤ), .int (5 : ℕ), .elem 1]
    = .ok (.elem 243) := by
  rw [integer_power_table_eq_pow (fun _ _ => .stuck "") id (fun a _ => a) (fun _ _ _ => 0) 3 5 5
    (by decide)]
  rfl

/-! ## b. `extended_euclidean`, `gcd`, `lcm`, `find_factors` -/

section
variable (ops : C19Ops α) (ext : String → List (C19V α) → C19R (C19V α))

/-- **`extended_euclidean` as regenerated IS `extEuclid`** on Python ints: `common_traits(q, r)`
(`traits` of both arguments from the table, reduced by the table's rule chain: `IntegerTraits`),
the norm test (`IntegerTraits.norm = abs`, read from the table too) with ONE recursive call on the swapped
arguments and the coefficients swapped back, then the loop on `(q, r, Q, R)` whose simultaneous
assignments `q, r = r, t` and `Q, R = R, T` are `extEuclidLoop`. -/
theorem ext_euclid_eq_table_current (q r : ℤ) (n : ℕ) (hn : q.natAbs + r.natAbs + 3 ≤ n) :
    c19RunFn ops tableCurrent ext (n + 1) "algorithm.extended_euclidean" [.int q, .int r]
      = .ok (c19Enc3 (extEuclid q r)) :=
  c19_extended_euclidean_run (.inl rfl) ops ext q r n hn

/-- `gcd` as regenerated IS the model's `gcd` -/
theorem gcd_eq_table_current (q r : ℤ) (n : ℕ) (hn : q.natAbs + r.natAbs + 4 ≤ n) :
    c19RunFn ops tableCurrent ext (n + 1) "algorithm.gcd" [.int q, .int r]
      = .ok (.int (PV.Algo.gcd q r)) :=
  c19_gcd_run ops ext q r n hn

/-- `lcm` as regenerated IS the model's `lcm` (`ZeroDivisionError` when the gcd is zero) -/
theorem lcm_eq_table_current (q r : ℤ) (n : ℕ) (hn : q.natAbs + r.natAbs + 5 ≤ n) :
    c19RunFn ops tableCurrent ext (n + 1) "algorithm.lcm" [.int q, .int r]
      = c19EncLcm (PV.Algo.lcm q r) := by
  have hf : c19FindFn c19Table "algorithm.lcm" = some c19Fn_algorithm_lcm :=
    c19Table_find 3 c19Fn_algorithm_lcm (by rfl)
  obtain ⟨n, rfl⟩ : ∃ n', n = n' + 1 := ⟨n - 1, by omega⟩
  have hg := c19_gcd_run ops ext q r n (by omega)
  rw [c19RunFn_succ ops c19Table ext _ _ _ _ _ hf rfl]
  simp only [c19Fn_algorithm_lcm]
  unfold PV.Algo.lcm c19EncLcm
  by_cases h0 : PV.Algo.gcd q r = 0
  · c19_run [c19Call_gcd, hg, h0]
    rfl
  · c19_run [c19Call_gcd, hg, c19Scalar_floordiv_ne _ _ _ h0]
    simp [h0]

/-- **The regenerated `extended_euclidean` satisfies Bézout and returns a gcd**: the theorems of
PV/Properties/C19.lean restated for what the interpreter returns. -/
theorem ext_euclid_table_bezout (q r : ℤ) (n : ℕ) (hn : q.natAbs + r.natAbs + 3 ≤ n) :
    ∃ g a b : ℤ, c19RunFn ops tableCurrent ext (n + 1) "algorithm.extended_euclidean"
        [.int q, .int r] = .ok (.tup [.int g, .int a, .int b]) ∧
      g = a * q + b * r ∧ g.natAbs = Int.gcd q r :=
  ⟨(extEuclid q r).1, (extEuclid q r).2.1, (extEuclid q r).2.2,
    c19_extended_euclidean_run (.inl rfl) ops ext q r n hn, ext_euclid_bezout q r,
    (ext_euclid_gcd q r).2.2.2⟩
end

example : c19RunFn (⟨(· + ·), (· * ·), id, fun a _ => a, fun _ _ _ => 0⟩ : C19Ops ℤ) tableCurrent
    (fun _ _ => .stuck "") 300 "algorithm.extended_euclidean"
    [.int 240, .int 46] = .ok (.tup [.int 2, .int (-9), .int 47]) := by
  rw [ext_euclid_eq_table_current _ _ 240 46 299 (by decide)]
  have : extEuclid 240 46 = (2, -9, 47) := by decide +kernel
  rw [this]
  rfl

/-- **`find_factors` as regenerated IS `findFactorsPy`** (with the exact integer square root for
`int(sqrt(n))`): the search loop `while n % n1 != 0 and n1 <= max_n1`, the reset `n1 = n`, the
quotient — `ZeroDivisionError` for `n = 0`. -/
theorem find_factors_eq_table_current (ops : C19Ops α)
    (ext : String → List (C19V α) → C19R (C19V α)) (n d : ℕ) (hd : Nat.sqrt n + 2 ≤ d) :
    c19RunFn ops tableCurrent ext (d + 1) "algorithm.find_factors" [.int n]
      = c19EncFactors (findFactorsPy n) :=
  c19_find_factors_run ops ext n d hd

/-! ## c. `_sort_uniq` and the `Polynomial` methods -/

section
variable (ops : C19Ops α) (ext : String → List (C19V α) → C19R (C19V α))

/-- **`_sort_uniq` as regenerated IS `sortUniq`**: a stable sort by exponent, then the merge loop
in which `last_exp` IS reset after `uniq_result.pop()` (the repaired loop `mergeFix`; the loop
without the reset is `mergePy`, which differs: `sortUniqPy_defect`). -/
theorem sort_uniq_eq_table_current (l : List Term) (n : ℕ) :
    c19RunFn ops tableCurrent ext (n + 1) "polynomial._sort_uniq" [.tup (c19EncTerms l)]
      = .ok (.tup (c19EncTerms (sortUniq l))) :=
  c19_sort_uniq_run ops ext l n

/-- `Polynomial.__neg__` as regenerated IS `neg` -/
theorem poly_neg_eq_table_current (b : String) (p : Poly) (n : ℕ) :
    c19RunFn ops tableCurrent ext (n + 1 + 1) "Polynomial.__neg__" [c19EncPoly b p]
      = .ok (c19EncPoly b (neg p)) :=
  c19_poly_neg_run ops ext (.sym b) p n

/-- **`Polynomial.__add__` as regenerated IS `add`** (same base): the three `while` loops -/
theorem poly_add_eq_table_current (b : String) (p q : Poly) (n : ℕ)
    (hn : p.length + q.length + 1 ≤ n) :
    c19RunFn ops tableCurrent ext (n + 1) "Polynomial.__add__" [c19EncPoly b p, c19EncPoly b q]
      = .ok (c19EncPoly b (add p q)) :=
  c19_poly_add_run ops ext b p q n hn

/-- `Polynomial.__sub__` as regenerated IS `sub` -/
theorem poly_sub_eq_table_current (b : String) (p q : Poly) (n : ℕ)
    (hn : p.length + q.length + 2 ≤ n) :
    c19RunFn ops tableCurrent ext (n + 1) "Polynomial.__sub__" [c19EncPoly b p, c19EncPoly b q]
      = .ok (c19EncPoly b (sub p q)) :=
  c19_poly_sub_run ops ext b p q n hn

/-- **`Polynomial.__mul__` as regenerated IS `mul`** (same base): the double loop builds
`mulRaw p q`, `_sort_uniq` merges it. -/
theorem poly_mul_eq_table_current (b : String) (p q : Poly) (n : ℕ) :
    c19RunFn ops tableCurrent ext (n + 1 + 1) "Polynomial.__mul__" [c19EncPoly b p, c19EncPoly b q]
      = .ok (c19EncPoly b (mul p q)) :=
  c19_poly_mul_run ops ext b p q n

/-- **`Polynomial.__pow__` as regenerated IS `pow`**: the regenerated `integer_power` run on
polynomial objects whose `*` is the regenerated `__mul__`. -/
theorem poly_pow_eq_table_current (b : String) (p : Poly) (m n : ℕ) (hn : m ≤ n + 2) :
    c19RunFn ops tableCurrent ext (n + 1 + 1 + 1 + 1) "Polynomial.__pow__" [c19EncPoly b p, .int m]
      = .ok (c19EncPoly b (pow p m)) := by
  have hip := c19_integer_power_run ops ext (c19EncPoly b) mul (n + 1 + 1)
    (by intro x y; unfold c19EncPoly; rw [c19BinOp_poly_mul]; exact c19_poly_mul_run ops ext b x y n)
    p PV.Algo.one m (by omega)
  rw [c19RunFn_succ ops c19Table ext _ "Polynomial.__pow__" _ _ _
    (c19Table_find 19 c19Fn_Polynomial___pow__ (by rfl)) rfl]
  simp only [c19Fn_Polynomial___pow__]
  have hone : (c19PolyObj (.sym b) [.tup [.int 0, .int 1]] : C19V α) = c19EncPoly b PV.Algo.one := rfl
  unfold c19EncPoly at *
  c19_run [c19Attr_poly_base, c19New_polynomial, c19_poly_init_run, c19Call_integer_power, hone,
    hip]
  rfl

/-- **`Polynomial.__divmod__` as regenerated IS `divmodPy`** (same base, integer coefficients):
`ZeroDivisionError` for an empty divisor, otherwise the loop `while rem.degree >= other.degree`
with `divmod` of the leading coefficients, the early return on a non-zero remainder, and the
updates `quot += this_fac`, `rem -= this_fac * other` through the regenerated `__add__`,
`__sub__`, `__mul__`.  (`hfuel`: the fuel of the model's `divmodLoop` suffices; it always does on
well-formed operands: `divmod_total`.) -/
theorem poly_divmod_eq_table_current (b : String) (p other : Poly)
    (hfuel : degree other ≠ -1 → (leadTerm other).2 ≠ 0 → divmodPy p other ≠ none) :
    ∃ N, ∀ n, N ≤ n →
      c19RunFn ops tableCurrent ext n "Polynomial.__divmod__" [c19EncPoly b p, c19EncPoly b other]
        = c19EncDivmod b (divmodPy p other) := by
  by_cases h0 : other = []
  · subst h0
    refine ⟨2, fun n hn => ?_⟩
    obtain ⟨n, rfl⟩ : ∃ n', n = n' + 1 + 1 := ⟨n - 2, by omega⟩
    rw [c19RunFn_succ ops c19Table ext _ _ _ _ _ c19_find_poly_divmod
      (by rw [c19_poly_divmod_body_current]; rfl)]
    simp only [c19_poly_divmod_body_current]
    rw [c19ExecL_append, c19_dm_mixed, C19O.andThen_next, c19ExecL_append, c19_dm_pre_zero]
    simp [divmodPy, c19_degree_nil, c19EncDivmod]
  · have hdeg : degree other ≠ -1 := by
      have := c19_degree_nonneg other h0; omega
    by_cases hlc : (leadTerm other).2 = 0
    · by_cases hge : degree p ≥ degree other
      · -- the loop is entered and divides by zero
        have hp : p ≠ [] := by
          intro hr; subst hr
          have := c19_degree_nonneg other h0
          rw [c19_degree_nil] at hge; omega
        refine ⟨3, fun n hn => ?_⟩
        obtain ⟨n, rfl⟩ : ∃ n', n = n' + 1 + 1 + 1 := ⟨n - 3, by omega⟩
        rw [c19RunFn_succ ops c19Table ext _ _ _ _ _ c19_find_poly_divmod
          (by rw [c19_poly_divmod_body_current]; rfl)]
        simp only [c19_poly_divmod_body_current]
        rw [c19ExecL_append, c19_dm_mixed, C19O.andThen_next, c19ExecL_append,
          c19_dm_pre ops ext b p other h0, C19O.andThen_next, c19ExecL_while, c19CxAt_fuel]
        rw [c19While_succ_raise _ _ _ _ _
          (by rw [c19_dm_test ops ext b p other [] p _ (n + 1) _ (c19_dm_inv0 b p other)]; simp [hge])
          (c19_dm_body_zero ops ext b p other [] p _ _ _ (c19_dm_inv0 b p other) hp hlc)]
        simp [divmodPy, hdeg, hlc, hge, c19EncDivmod]
      · refine ⟨3, fun n hn => ?_⟩
        obtain ⟨n, rfl⟩ : ∃ n', n = n' + 1 + 1 + 1 := ⟨n - 3, by omega⟩
        rw [c19RunFn_succ ops c19Table ext _ _ _ _ _ c19_find_poly_divmod
          (by rw [c19_poly_divmod_body_current]; rfl)]
        simp only [c19_poly_divmod_body_current]
        rw [c19ExecL_append, c19_dm_mixed, C19O.andThen_next, c19ExecL_append,
          c19_dm_pre ops ext b p other h0, C19O.andThen_next, c19ExecL_while, c19CxAt_fuel]
        rw [c19While_succ_false _ _ _ _
          (by rw [c19_dm_test ops ext b p other [] p _ (n + 1) _ (c19_dm_inv0 b p other)]; simp [hge])]
        rw [C19O.andThen_next, c19_dm_ret _ b p other [] p _ (c19_dm_inv0 b p other)]
        simp [divmodPy, hdeg, hlc, hge, c19EncDivmod]
    · have hsome := hfuel hdeg hlc
      cases hr : divmodPy p other with
      | none => exact absurd hr hsome
      | some r =>
        have hr' : divmodLoop other (p.length + (degree p).toNat + 2) [] p = some r := by
          simpa [divmodPy, hdeg, hlc] using hr
        obtain ⟨N, hN⟩ := c19_dm_loop ops ext b p other h0 hlc _ [] p r hr'
        refine ⟨max N (p.length + (degree p).toNat + 2) + 3, fun n hn => ?_⟩
        obtain ⟨n, rfl⟩ : ∃ n', n = n' + 1 + 1 + 1 := ⟨n - 3, by omega⟩
        rw [c19RunFn_succ ops c19Table ext _ _ _ _ _ c19_find_poly_divmod
          (by rw [c19_poly_divmod_body_current]; rfl)]
        simp only [c19_poly_divmod_body_current]
        rw [c19ExecL_append, c19_dm_mixed, C19O.andThen_next, c19ExecL_append,
          c19_dm_pre ops ext b p other h0, C19O.andThen_next, c19ExecL_while, c19CxAt_fuel,
          hN (n + 1 + 1) (by omega) _ _ (by omega) _ (c19_dm_inv0 b p other)]
        rfl
end

/-- the exact mirror `divmodPy` agrees with `divmod` (about which `divmod_spec` and
`divmod_total` speak) whenever the leading coefficient of the divisor is not a stored zero -/
theorem divmodPy_eq_divmod (p other : Poly) (h : (leadTerm other).2 ≠ 0 ∨ other = []) :
    divmodPy p other = divmod p other := by
  unfold divmodPy divmod
  rcases h with h | h
  · simp [h]
  · subst h; rfl

/-- the corner in which the two models differ: with a STORED zero leading coefficient of the
divisor (`poly * 0` produces such data) and a dividend of smaller degree the code (`divmodPy`)
returns `(0, self)` — it never divides — where the specification-level model `divmod` (the one
`divmod_spec` / `divmod_total` of PV/Properties/C19.lean speak of) answers `ZeroDivisionError`. -/
theorem divmodPy_zero_lead_discrepancy :
    divmodPy [(0, 5)] [(1, 0)] = some ([], [(0, 5)]) ∧ divmod [(0, 5)] [(1, 0)] = none := by
  decide +kernel

example : divmodPy [(0, -1), (2, 1)] [(0, 1), (1, 1)] = some ([(0, -1), (1, 1)], []) := by
  decide +kernel

example (ops : C19Ops ℤ) (ext : String → List (C19V ℤ) → C19R (C19V ℤ)) :
    c19RunFn ops tableCurrent ext 2 "Polynomial.__mul__"
      [c19EncPoly "x" [(0, 1), (1, 1)], c19EncPoly "x" [(0, -1), (1, 1)]]
      = .ok (c19EncPoly "x" [(0, -1), (2, 1)]) := by
  rw [poly_mul_eq_table_current ops ext "x" _ _ 0]
  rfl

/-! ## d. the mapper handlers of polynomials, `Rational.__init__` -/

section
variable (ops : C19Ops α) (ext : String → List (C19V α) → C19R (C19V α))

/-- **`EvaluationMapper.map_polynomial` as regenerated IS `evalHornerPy`** (Horner's scheme over
`expr.data[::-1]` with the look-ahead `next_exp`): `self.rec` gives `x` for the base and the
coefficient for an integer coefficient. -/
theorem horner_eq_table_current (ks : List String) (vs : List (C19V α)) (b : String) (x : ℤ)
    (hb : ext "EvaluationMapper.rec" [c19EvalMapper ks vs, .sym b] = .ok (.int x))
    (hc : ∀ c : ℤ, ext "EvaluationMapper.rec" [c19EvalMapper ks vs, .int c] = .ok (.int c))
    (p : Poly) (v : ℤ) (hv : evalHornerPy p x = some v) (n : ℕ) :
    c19RunFn ops tableCurrent ext (n + 1 + 1) "EvaluationMapper.map_polynomial"
        [c19EvalMapper ks vs, c19EncPoly b p] = .ok (.int v) := by
  have hpre : c19ExecL (c19CxAt ops c19Table ext (n + 1) (n + 1 + 1)) c19HoPre
      [("self", c19EvalMapper ks vs), ("expr", c19EncPoly b p)]
      = .next [("self", c19EvalMapper ks vs), ("expr", c19EncPoly b p), ("result", .int 0),
          ("rev_data", .tup (c19EncTerms p.reverse)), ("ev_base", .int x)] := by
    have hrev : (c19EncTerms p : List (C19V α)).reverse = c19EncTerms p.reverse := by
      simp [c19EncTerms]
    unfold c19HoPre c19EncPoly
    c19_run [c19Attr_poly_data_prop, c19_poly_data_run, c19Slice_reverse, hrev,
      c19Attr_poly_base_prop, c19_poly_base_run, c19Method_eval_rec, hb]
  obtain ⟨σ', hl, hres⟩ := c19_ho_loop (c19CxAt ops c19Table ext (n + 1) (n + 1 + 1))
    (c19EvalMapper ks vs) x (fun c => by rw [c19Method_eval_rec, hc]) p.reverse [] 0 v
    [("self", c19EvalMapper ks vs), ("expr", c19EncPoly b p), ("result", .int 0),
      ("rev_data", .tup (c19EncTerms p.reverse)), ("ev_base", .int x)]
    ⟨rfl, rfl, rfl, rfl⟩ hv
  simp only [List.length_nil] at hl
  rw [c19RunFn_succ ops c19Table ext _ "EvaluationMapper.map_polynomial" _ _ _
    (c19Table_find 49 c19Fn_EvaluationMapper_map_polynomial (by rfl))
    (by rw [c19_horner_body_current]; rfl)]
  simp only [c19_horner_body_current]
  rw [c19ExecL_append, hpre, C19O.andThen_next,
    c19ExecL_for _ _ _ _ _ _ ((p.reverse.zipIdx 0).map fun t => c19EnumItem t.1 t.2) (by
      c19_run [c19Enumerate, c19_zipIdx_enum]),
    hl, C19O.andThen_next]
  c19_run [hres]
  rfl

/-- **`IdentityMapper.map_polynomial` as regenerated IS `c19IdentMapPoly`**: `expr` itself comes
back only when the base AND ALL coefficients came back identical (`all(…)`), otherwise a new
polynomial of the mapped base and ALL mapped coefficients. -/
theorem ident_map_polynomial_eq_table_current (ks : List String) (vs : List (C19V α))
    (args kwargs : C19V α) (rec : String → String)
    (hrec : ∀ s, ext "IdentityMapper.rec" [c19IdentMapper ks vs, .sym s, args, kwargs]
      = .ok (.sym (rec s)))
    (b : String) (data : List (ℕ × String)) (n : ℕ) :
    c19RunFn ops tableCurrent ext (n + 1 + 1) "IdentityMapper.map_polynomial"
        [c19IdentMapper ks vs, c19PolyObj (.sym b) (c19EncSTerms data), args, kwargs]
      = .ok (c19PolyObj (.sym (c19IdentMapPolyResult rec b data).1)
          (c19EncSTerms (c19IdentMapPolyResult rec b data).2)) := by
  rw [c19RunFn_succ ops c19Table ext _ "IdentityMapper.map_polynomial" _ _ _
    (c19Table_find 51 c19Fn_IdentityMapper_map_polynomial (by rfl)) rfl]
  simp only [c19Fn_IdentityMapper_map_polynomial]
  c19_run [c19Attr_poly_base_prop, c19_poly_base_run, c19Method_ident_rec, hrec,
    c19Attr_poly_data_prop, c19_poly_data_run]
  simp only [c19EncSTerms]
  rw [c19MapM_enc _ c19EncSTerm (fun t => c19EncSTerm (t.1, rec t.2)) data
    (by intro t _; unfold c19EncSTerm; c19_run [c19Method_ident_rec, hrec])]
  c19_run [c19Attr_poly_base_prop, c19_poly_base_run, c19Attr_poly_data_prop, c19_poly_data_run,
    c19Call_zip, c19Cmp_is_sym]
  rw [c19Zip_map]
  rw [c19MapM_enc _ (fun t : Nat × String => (.tup [c19EncSTerm (t.1, rec t.2), c19EncSTerm t] : C19V α))
    (fun t => .bool (rec t.2 == t.2)) data
    (by intro t _; unfold c19EncSTerm; c19_run [c19Cmp_is_sym])]
  have hnew : ∀ (b' : String) (d : List (Nat × String)),
      c19RunFn ops c19Table ext (n + 1) "Polynomial.__init__"
        [.obj "Polynomial" [] [], .sym b', .tup (c19EncSTerms d), .int 1, .none]
      = .ok (c19PolyObj (.sym b') (c19EncSTerms d)) := fun b' d => c19_poly_init_run ops ext _ _ n
  have hmapd : (List.map (fun t : Nat × String => (c19EncSTerm (t.1, rec t.2) : C19V α)) data)
      = c19EncSTerms (data.map fun t => (t.1, rec t.2)) := by
    simp [c19EncSTerms, List.map_map, Function.comp_def]
  unfold c19IdentMapPolyResult c19IdentMapPoly
  by_cases hb : rec b = b
  · have hbb : (rec b == b) = true := by simp [hb]
    by_cases hall : data.all (fun t => rec t.2 == t.2) = true
    · c19_run [hbb, c19Call_all, c19AllTruthy_bools, hall]
      simp [hb]
    · have hall' : data.all (fun t => rec t.2 == t.2) = false := by simpa using hall
      c19_run [hbb, c19Call_all, c19AllTruthy_bools, hall', c19Method_poly_class, hmapd, hnew]
      simp [hb, c19EncSTerms]
  · have hbb : (rec b == b) = false := by simp [hb]
    c19_run [hbb, c19Method_poly_class, hmapd, hnew]
    simp [hb, c19EncSTerms]

/-- **`Rational.__init__` as regenerated IS `c19RationalInit`** on Python ints -/
theorem rational_init_eq_table_current (num den : ℤ) (n : ℕ) :
    c19RunFn ops tableCurrent ext (n + 1 + 1 + 1) "Rational.__init__"
        [.obj "Rational" [] [], .int num, .int den] = c19EncRational (c19RationalInit num den) :=
  c19_rational_init_run ops ext num den n
end

/-- **A mapper rewrites EVERY coefficient** ("also after a mapper has rewritten their
coefficients"): whatever `map_polynomial` returns — `expr` itself or a new polynomial — its base is
the mapped base and its data are the mapped data, term by term.  (With `any` in place of `all` the
unchanged polynomial would come back as soon as ONE coefficient is untouched.) -/
theorem ident_map_polynomial_maps_all (rec : String → String) (b : String)
    (data : List (ℕ × String)) :
    c19IdentMapPolyResult rec b data = (rec b, data.map fun t => (t.1, rec t.2)) := by
  unfold c19IdentMapPolyResult c19IdentMapPoly
  split_ifs with h
  · obtain ⟨hb, hall⟩ := h
    have : data.map (fun t => (t.1, rec t.2)) = data := by
      rw [List.all_eq_true] at hall
      conv_rhs => rw [← List.map_id data]
      apply List.map_congr_left
      intro t ht
      have := hall t ht
      simp only [beq_iff_eq] at this
      simp [this]
    simp [hb, this]
  · rfl

example : c19IdentMapPoly (fun s => if s = "a" then "c" else s) "x" [(0, "a"), (2, "b")]
    = some ("x", [(0, "c"), (2, "b")]) := by decide
example : c19IdentMapPoly id "x" [(0, "a"), (2, "b")] = none := by decide

/-- the value of a `Rational` built from two ints is their quotient: both fields are divided by
the same unit `±1` -/
theorem rational_init_value (num den : ℤ) (r : (ℤ × ℤ) × (ℤ × ℤ))
    (h : c19RationalInit num den = some r) :
    r.1.1 = num ∧ r.2.1 = den ∧ r.1.2 = r.2.2 ∧ (r.1.2 = 1 ∨ r.1.2 = -1) ∧ 0 < r.2.1 * r.2.2 := by
  unfold c19RationalInit at h
  split_ifs at h with h1 h2
  · cases h; refine ⟨rfl, rfl, rfl, Or.inr rfl, ?_⟩; simp; omega
  · cases h; refine ⟨rfl, rfl, rfl, Or.inl rfl, ?_⟩; simp; omega

/-- a zero denominator is refused (`RuntimeError` from `IntegerTraits.get_unit`) -/
theorem rational_init_zero (num : ℤ) : c19RationalInit num 0 = none := by
  simp [c19RationalInit]

example : c19RationalInit 2 (-6) = some ((2, -1), (-6, -1)) := by decide

/-! ## e. `fft`, `ifft` -/

section
variable (ops : C19Ops α) (ext : String → List (C19V α) → C19R (C19V α))
  (hwrap : ∀ l v, ext "fft.wrap_intermediate_with_level" [l, v] = .ok v)
  (hstp : ∀ v, ext "fft.scalar_tp" [v] = .ok v)
include hwrap hstp

/-- **`fft` as regenerated IS `c19FftPy`**, over every carrier and for every length: the
recursion on `x[n1::N1]`, the twiddles `exp(sign·(-2πi)·n1·k2/(N1·N2))`, the recombination
`sum(subvec · exp(sign·(-2πi)·n1·k1/N1))` block by block, `ZeroDivisionError` for the empty
vector.  (`c19Rp ops sign m k = ops.tw sign m k` is the twiddle function the model takes.) -/
theorem fft_eq_table_current (x : List α) (sign : ℤ) (wi wil dt np : C19V α) (level : ℤ) (n : ℕ)
    (hn : 2 * x.length + 3 ≤ n) :
    c19RunFn ops tableCurrent ext (n + 1) "algorithm.fft"
        [c19EncVec x, .int sign, wi, wil, dt, np, .int level]
      = c19EncVecOpt (c19FftPy ops.add ops.mul (ops.ofInt 0) (c19Rp ops sign) x) :=
  c19_fft_run ops ext hstp hwrap x sign wi wil dt np level n hn

/-- **`ifft` as regenerated IS `c19IfftPy`**: `(1/len(x)) * fft(x, sign=-1, …)` -/
theorem ifft_eq_table_current (x : List α) (wi wil dt np : C19V α) (n : ℕ)
    (hn : 2 * x.length + 4 ≤ n) :
    c19RunFn ops tableCurrent ext (n + 1) "algorithm.ifft" [c19EncVec x, wi, wil, dt, np]
      = c19EncVecOpt (c19IfftPy ops.add ops.mul (ops.ofInt 0) (c19Rp ops (-1))
          (ops.ofFrac 1 x.length) x) := by
  obtain ⟨n, rfl⟩ : ∃ n', n = n' + 1 := ⟨n - 1, by omega⟩
  have hlen : ((x.map C19V.elem : List (C19V α)).length : Int) = (x.length : Int) := by simp
  rw [c19RunFn_succ ops c19Table ext _ "algorithm.ifft" _ _ _
    (c19Table_find 6 c19Fn_algorithm_ifft (by rfl)) rfl]
  simp only [c19Fn_algorithm_ifft]
  unfold c19IfftPy
  by_cases h0 : x.length = 0
  · have h0' : ((x.length : Int) = 0) := by omega
    unfold c19EncVec
    c19_run [hlen, h0']
    simp [h0, c19EncVecOpt]
  · have h0' : ((x.length : Int) ≠ 0) := by omega
    have hfft := c19_fft_run ops ext hstp hwrap x (-1) wi wil dt np 0 n (by omega)
    have hpy : findFactorsPy x.length ≠ none := by
      rw [Ne, findFactorsPy_eq_none_iff]; exact h0
    have hsome : c19FftPy ops.add ops.mul (ops.ofInt 0) (c19Rp ops (-1)) x
        = some (c19Fft ops.add ops.mul (ops.ofInt 0) (c19Rp ops (-1)) x) := by
      unfold c19FftPy
      cases h : findFactorsPy x.length with
      | none => exact absurd h hpy
      | some _ => rfl
    rw [hsome] at hfft
    simp only [c19EncVecOpt] at hfft
    have hmulv := c19Arith_frac_mul ops 1 (x.length : Int)
      (c19Fft ops.add ops.mul (ops.ofInt 0) (c19Rp ops (-1)) x)
    unfold c19EncVec at hfft hmulv ⊢
    c19_run [hlen, c19Scalar_truediv_ne _ _ _ h0', c19Call_fft, hfft, hmulv]
    simp [h0, c19EncVecOpt, c19Ifft, c19EncVec]
end

/-- **The regenerated `fft` computes the discrete Fourier transform** over every commutative
ring: with twiddles `tw sign m k = z^((n/m)·k)` for a `z` with `zⁿ = 1` (`n = len(x) ≥ 1`) the
interpreter returns `[∑_j z^(k·j)·x_j | k < n]`. -/
theorem fft_table_eq_dft {R : Type} [CommRing R] (z : R) (x : List R) (hpos : 1 ≤ x.length)
    (hz : z ^ x.length = 1) (ext : String → List (C19V R) → C19R (C19V R))
    (hwrap : ∀ l v, ext "fft.wrap_intermediate_with_level" [l, v] = .ok v)
    (hstp : ∀ v, ext "fft.scalar_tp" [v] = .ok v) (ofFrac : ℤ → ℤ → R)
    (sign : ℤ) (wi wil dt np : C19V R) (level : ℤ) (n : ℕ) (hn : 2 * x.length + 3 ≤ n) :
    c19RunFn ⟨(· + ·), (· * ·), fun i => (i : R), ofFrac,
        fun _ m k => z ^ (x.length / m.toNat * k.toNat)⟩ tableCurrent ext (n + 1) "algorithm.fft"
        [c19EncVec x, .int sign, wi, wil, dt, np, .int level]
      = .ok (c19EncVec ((List.range x.length).map fun k =>
          ∑ j ∈ Finset.range x.length, z ^ (k * j) * x.getD j 0)) := by
  rw [fft_eq_table_current _ ext hwrap hstp x sign wi wil dt np level n hn]
  have hpy : findFactorsPy x.length ≠ none := by
    rw [Ne, find_factors_fails_iff]; omega
  unfold c19FftPy
  cases h : findFactorsPy x.length with
  | none => exact absurd h hpy
  | some _ =>
    simp only [c19EncVecOpt]
    congr 2
    have := fft_eq_dft z (fun m k => z ^ (x.length / m * k)) x hpos hz (fun _ _ _ => rfl)
    rw [← this]
    have hrp : c19Rp (⟨(· + ·), (· * ·), fun i => (i : R), ofFrac,
        fun _ m k => z ^ (x.length / m.toNat * k.toNat)⟩ : C19Ops R) sign
        = fun m k => z ^ (x.length / m * k) := by
      funext m k
      simp [c19Rp]
    rw [hrp]
    simp

/-! ## f. what is read by shape only -/

/-- the parameter-processing statements of `fft` (the `TypeError` for two wrappers, the legacy
adapter, the default `wrap_intermediate_with_level(level, x) = x`, `pi`, the numpy and dtype
defaults, `scalar_tp = complex_dtype.type`) are the recognised ones, in this order -/
theorem fft_preamble_current :
    c19FftPreamble = ["atMostOneWrap", "legacyWrapAdapter", "defaultWrapIsSecondArgument",
      "importPi", "defaultNumpy", "defaultDtype", "normaliseDtype", "scalarTpIsDtypeType"] := by
  rfl

/-- `traits.common_traits` reduces its arguments' traits with the rule chain
"the more special of two traits objects, else `NoCommonTraitsError`" -/
theorem common_traits_rules_current :
    tableCurrent.commonTraits = ["ySubX", "xSubY", "raiseNoCommonTraits"] := by rfl

/-- `sym_fft` is plain data flow around `fft`: the input wrapped term by term, `fft` with the
wrapper passed on, the near-zero killer applied to the result -/
theorem sym_fft_flow_current :
    c19SymFftFlow = "NearZeroKiller()(fft(wrap_intermediate(x), sign=sign, wrap_intermediate=wrap_intermediate))" := by
  rfl

/-- the classes of the table with their MRO (method and property resolution, `isinstance`) -/
theorem table_classes_current :
    tableCurrent.classes = [
      ⟨"Polynomial", ["Polynomial", "Expression"]⟩,
      ⟨"PolynomialTraits", ["PolynomialTraits", "EuclideanRingTraits", "IntegralDomainTraits", "Traits"]⟩,
      ⟨"LexicalMonomialOrder", ["LexicalMonomialOrder"]⟩,
      ⟨"Traits", ["Traits"]⟩,
      ⟨"IntegralDomainTraits", ["IntegralDomainTraits", "Traits"]⟩,
      ⟨"EuclideanRingTraits", ["EuclideanRingTraits", "IntegralDomainTraits", "Traits"]⟩,
      ⟨"FieldTraits", ["FieldTraits", "IntegralDomainTraits", "Traits"]⟩,
      ⟨"IntegerTraits", ["IntegerTraits", "EuclideanRingTraits", "IntegralDomainTraits", "Traits"]⟩,
      ⟨"Rational", ["Rational", "Expression"]⟩,
      ⟨"EvaluationMapper", ["EvaluationMapper", "Mapper", "CSECachingMapperMixin", "ABC"]⟩,
      ⟨"IdentityMapper", ["IdentityMapper", "Mapper"]⟩] := by
  rfl

/-- the functions of the table, in source order -/
theorem table_functions_current :
    tableCurrent.fns.map (·.name) = [
      "algorithm.integer_power", "algorithm.extended_euclidean", "algorithm.gcd", "algorithm.lcm",
      "algorithm.find_factors", "algorithm.fft", "algorithm.ifft", "polynomial._sort_uniq",
      "polynomial.leading_coefficient", "traits.traits", "primitives.quotient", "Polynomial.__init__",
      "Polynomial.traits",
      "Polynomial.__neg__", "Polynomial.__add__", "Polynomial.__radd__", "Polynomial.__sub__",
      "Polynomial.__mul__", "Polynomial.__rmul__", "Polynomial.__pow__", "Polynomial.__divmod__",
      "Polynomial.__floordiv__", "Polynomial.__mod__", "Polynomial.data", "Polynomial.base",
      "Polynomial.unit", "Polynomial.degree", "PolynomialTraits.norm", "PolynomialTraits.get_unit",
      "EuclideanRingTraits.gcd_extended", "EuclideanRingTraits.gcd", "EuclideanRingTraits.lcm",
      "IntegerTraits.norm", "IntegerTraits.get_unit", "Rational.__init__", "Rational.__neg__",
      "Rational.__bool__", "Rational.numerator", "Rational.denominator", "Rational.reciprocal",
      "Rational.__add__", "Rational.__radd__", "Rational.__sub__", "Rational.__rsub__",
      "Rational.__mul__", "Rational.__rmul__", "Rational.__div__", "Rational.__rdiv__",
      "Rational.__pow__",
      "EvaluationMapper.map_polynomial", "EvaluationMapper.map_quotient",
      "IdentityMapper.map_polynomial"] :=
  c19Table_names

end PV.Properties.C19
