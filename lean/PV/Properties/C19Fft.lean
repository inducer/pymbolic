import PV.Proofs.Algo
import PV.Proofs.AlgoFftMod

/-!
  C19 (continued) — the ARITHMETIC of `fft` / `ifft` (`pymbolic/algorithm.py`): property theorems
  about the executable model `PV.Model.AlgoFft`, each with a small non-vacuity example.
-/

namespace PV.Properties.C19

open PV.Algo

/-! ## the arithmetic of `fft` / `ifft` (model `PV.Model.AlgoFft`)

`c19Fft add mul zero rp x` mirrors the whole recursion of `fft(x, sign, …)`; `rp m k` stands for
the twiddle `exp(sign·(-2πi)·k/m)`.  The theorems instantiate `add mul zero` with the operations
of an arbitrary commutative ring `R`. -/

/-- **`fft` computes the discrete Fourier transform** `F[x]_k = ∑_{j<n} z^(k j) x_j` — for every
commutative ring, every length `n ≥ 1` (prime, prime power, composite alike: the code does not
special-case them), every `z` with `z^n = 1`, every twiddle function `rp` that returns, for each
divisor `m` of `n`, the powers of the root `z^(n/m)` of length `m`.  NO primitivity of `z` is
needed for the forward transform. -/
theorem fft_eq_dft {R : Type*} [CommRing R] (z : R) (rp : ℕ → ℕ → R) (x : List R)
    (hpos : 1 ≤ x.length) (hz : z ^ x.length = 1)
    (hrp : ∀ m k, m ∣ x.length → rp m k = z ^ (x.length / m * k)) :
    c19Fft (· + ·) (· * ·) 0 rp x =
      (List.range x.length).map fun k =>
        ∑ j ∈ Finset.range x.length, z ^ (k * j) * x.getD j 0 :=
  c19Fft_eq_dft z rp x hpos hz hrp

example : c19Fft (· + ·) (· * ·) 0 (fun m k => (-1 : ℤ) ^ (2 / m * k)) [3, 5] = [8, -2] := by
  decide +kernel
example : ((-1 : ℤ)) ^ ([3, 5] : List ℤ).length = 1 := by decide
-- a length with two recursion levels (6 = 2·3) in Z_7, root 3 (3^6 = 729 = 1 mod 7)
example : c19FftMod 7 3 [1, 2, 3, 4, 5, 6] = some [0, 3, 6, 4, 2, 5] := by decide +kernel

/-- The transform as a function on `Fin n → R` (the shape of the docstring of `fft`). -/
def fftModel {R : Type*} [CommRing R] {n : ℕ} (z : R) (x : Fin n → R) : Fin n → R :=
  fun k => (c19Fft (· + ·) (· * ·) 0 (fun m k => z ^ (n / m * k)) (List.ofFn x)).getD k 0

/-- `fftModel z x = fun k => ∑ j, z^(k*j) * x j` for every commutative ring, `n ≥ 1`, `z^n = 1`. -/
theorem fft_eq_dft_fun {R : Type*} [CommRing R] {n : ℕ} (hn : 1 ≤ n) (z : R) (hz : z ^ n = 1)
    (x : Fin n → R) :
    fftModel z x = fun k : Fin n => ∑ j : Fin n, z ^ ((k : ℕ) * (j : ℕ)) * x j := by
  funext k
  unfold fftModel
  have hl : (List.ofFn x).length = n := List.length_ofFn
  rw [c19Fft_eq_dft z _ (List.ofFn x) (by omega) (by rw [hl]; exact hz)
    (by intro m k _; rw [hl]), c19Dft_getD _ _ _ (by rw [hl]; exact k.2), hl, Finset.sum_range]
  refine Finset.sum_congr rfl fun j _ => ?_
  congr 1
  rw [List.getD_eq_getElem?_getD, List.getElem?_ofFn]
  simp

example : fftModel (-1 : ℤ) ![3, 5] = fun k : Fin 2 => ∑ j : Fin 2, (-1 : ℤ) ^ ((k : ℕ) * (j : ℕ)) * ![3, 5] j :=
  fft_eq_dft_fun (by decide) (-1) (by decide) _

/-- **The recombination step in general**: one level of `fft`
(`N1, N2 = find_factors(n)`; `sub_ffts[n1] = sub(x[n1::N1]) * z^(n1·k2)`;
`result[k1·N2 + k2] = ∑_{n1} sub_ffts[n1][k2] · z^(N2·n1·k1)`) yields the DFT for the root `z`
provided only that the sub-transforms are DFTs for the root `z^N1` and `z^n = 1`. -/
theorem fft_step_recombination {R : Type*} [CommRing R] (z : R) (rp : ℕ → ℕ → R)
    (sub : List R → List R) (x : List R)
    (hN1 : 1 ≤ (findFactors x.length).1)
    (hz : z ^ x.length = 1)
    (hsub : ∀ n1 < (findFactors x.length).1,
      sub (stride x n1 (findFactors x.length).1) =
        c19Dft (z ^ (findFactors x.length).1) (stride x n1 (findFactors x.length).1))
    (htw : ∀ k, rp ((findFactors x.length).1 * (findFactors x.length).2) k = z ^ k)
    (htw1 : ∀ k, rp (findFactors x.length).1 k = z ^ ((findFactors x.length).2 * k)) :
    c19FftStep (· + ·) (· * ·) 0 rp sub x = c19Dft z x :=
  c19FftStep_eq_dft z rp sub x hN1 (findFactors_mul x.length) hz hsub htw htw1

/-- The exponent identity that makes the recombination work:
`z^((k1·N2+k2)·(n1+N1·j2)) = (z^N1)^(k2·j2) · z^(n1·k2) · z^(N2·n1·k1)` when `z^(N1·N2) = 1`. -/
theorem fft_twiddle_identity {R : Type*} [CommRing R] (z : R) (N1 N2 k1 k2 n1 j2 : ℕ)
    (hz : z ^ (N1 * N2) = 1) :
    z ^ ((k1 * N2 + k2) * (n1 + N1 * j2)) =
      (z ^ N1) ^ (k2 * j2) * z ^ (n1 * k2) * z ^ (N2 * (n1 * k1)) :=
  c19_twiddle_identity z N1 N2 k1 k2 n1 j2 hz

example : (2 : ZMod 5) ^ (2 * 2) = 1 := by decide

/-- Base cases exactly as coded: `len(x) == 1` returns `x` itself; `len(x) == 0` raises
(`find_factors(0)` divides by zero). -/
theorem fft_base_cases {α : Type*} (add mul : α → α → α) (zero : α) (rp : ℕ → ℕ → α) (a : α) :
    c19FftPy add mul zero rp [a] = some [a] ∧ c19FftPy add mul zero rp [] = none := by
  refine ⟨?_, ?_⟩
  · have h : findFactorsPy 1 = some (findFactors 1) := by decide +kernel
    simp [c19FftPy, h, c19Fft, c19FftAux]
  · have h : findFactorsPy 0 = none := by decide +kernel
    simp [c19FftPy, h]

/-- The fuel of the model recursion (`len(x)`) never runs out: any larger fuel gives the same
answer (termination of the Python recursion: sub-vectors are strictly shorter). -/
theorem fft_fuel_irrelevant {R : Type*} [CommRing R] (fuel : ℕ) (z : R) (rp : ℕ → ℕ → R)
    (x : List R) (hfuel : x.length ≤ fuel) (hpos : 1 ≤ x.length) (hz : z ^ x.length = 1)
    (hrp : ∀ m k, m ∣ x.length → rp m k = z ^ (x.length / m * k)) :
    c19FftAux (· + ·) (· * ·) 0 rp fuel x = c19Fft (· + ·) (· * ·) 0 rp x := by
  rw [c19FftAux_eq_dft fuel x z rp hfuel hpos hz hrp, c19Fft_eq_dft z rp x hpos hz hrp]

/-- **`ifft` inverts `fft`**: `ifft(x) = (1/n)·fft(x, sign=-1)`; for every commutative ring in
which `n` is invertible (`ninv`), every `z` with `z^n = 1`, inverse `zinv` and the orthogonality
`∑_{k<n} z^(k d) = 0` for `0 < d < n` (`c19Principal`: exactly the primitivity the inverse needs,
see `ifft_inverts_only_if`). -/
theorem ifft_inverts {R : Type*} [CommRing R] (z zinv ninv : R) (rp rpInv : ℕ → ℕ → R)
    (x : List R) (hpos : 1 ≤ x.length)
    (hz : z ^ x.length = 1) (hzi : z * zinv = 1) (hn : ninv * (x.length : R) = 1)
    (horth : c19Principal z x.length)
    (hrp : ∀ m k, m ∣ x.length → rp m k = z ^ (x.length / m * k))
    (hrpInv : ∀ m k, m ∣ x.length → rpInv m k = zinv ^ (x.length / m * k)) :
    c19Ifft (· + ·) (· * ·) 0 rpInv ninv (c19Fft (· + ·) (· * ·) 0 rp x) = x := by
  have hzinv : zinv ^ x.length = 1 := by
    have : (z * zinv) ^ x.length = 1 := by rw [hzi, one_pow]
    rwa [mul_pow, hz, one_mul] at this
  unfold c19Ifft
  rw [c19Fft_eq_dft z rp x hpos hz hrp]
  rw [c19Fft_eq_dft zinv rpInv (c19Dft z x) (by simpa using hpos) (by simpa using hzinv)
    (by simpa using hrpInv)]
  exact c19Dft_inv z zinv ninv x hz hzi hn horth

-- non-vacuity: Z_5, n = 2, z = 4 = -1, 1/2 = 3
example : c19Principal (4 : ZMod 5) 2 := by
  intro d h0 h1
  obtain rfl : d = 1 := by omega
  decide
example : (4 : ZMod 5) ^ 2 = 1 ∧ (4 : ZMod 5) * 4 = 1 ∧ (3 : ZMod 5) * ((2 : ℕ) : ZMod 5) = 1 := by
  decide

/-- The orthogonality hypothesis of `ifft_inverts` is necessary: if `(1/n)·DFT_{zinv}` undoes
`DFT_z` on all vectors of length `n` then `z` is a principal `n`-th root of unity. -/
theorem ifft_inverts_only_if {R : Type*} [CommRing R] (z zinv ninv : R) (n : ℕ)
    (hn : ninv * (n : R) = 1)
    (hinv : ∀ x : List R, x.length = n →
      (c19Dft zinv (c19Dft z x)).map (fun v => ninv * v) = x) :
    c19Principal z n :=
  c19Principal_of_inverts z zinv ninv n hn hinv

/-- In an integral domain (the complex numbers, `Z_p` for prime `p`) every primitive `n`-th root
of unity is principal, so `ifft_inverts` applies to `exp(-2πi/n)`. -/
theorem principal_of_primitive_root {R : Type*} [CommRing R] [IsDomain R] {z : R} {n : ℕ}
    (h : IsPrimitiveRoot z n) : c19Principal z n :=
  c19Principal_of_isPrimitiveRoot h

/-- A root of unity that is not principal does not invert: in `Z_15`, `n = 2`, `z = 4`
(`4² = 1`, `1/2 = 8`), `ifft(fft([1, 0])) = [1, 10]`. (Not a defect of the code: the complex
`exp(-2πi/n)` is primitive.) -/
theorem ifft_nonprincipal_witness :
    c19FftMod 15 4 [1, 0] = some [1, 1] ∧ c19IfftMod 15 4 8 [1, 1] = some [1, 10] := by
  decide +kernel

/-- The model is natural in its carrier: a map preserving `add`, `mul`, `zero` and the twiddles
commutes with `fft` (used to transport the ring theorem to the machine representation). -/
theorem fft_natural {A B : Type*} (f : A → B) (addA mulA : A → A → A) (zeroA : A)
    (addB mulB : B → B → B) (zeroB : B)
    (hadd : ∀ a b, f (addA a b) = addB (f a) (f b))
    (hmul : ∀ a b, f (mulA a b) = mulB (f a) (f b)) (hzero : f zeroA = zeroB)
    (rpA : ℕ → ℕ → A) (rpB : ℕ → ℕ → B) (hrp : ∀ m k, f (rpA m k) = rpB m k) (x : List A) :
    (c19Fft addA mulA zeroA rpA x).map f = c19Fft addB mulB zeroB rpB (x.map f) :=
  c19Fft_map f addA mulA zeroA addB mulB zeroB hadd hmul hzero rpA rpB hrp x

/-- **What the compiled driver answers** to `(c19-fft p z (x…))` — the instance compared
exactly with the real `fft` — is the DFT modulo `p`, for every modulus `p ≥ 1`, every `z` with
`z^n ≡ 1 (mod p)` and every vector of length `n ≥ 1`. -/
theorem fft_mod_eq_dft (p : ℕ) [NeZero p] (z : ℕ) (x : List ℕ) (hpos : 1 ≤ x.length)
    (hz : z ^ x.length % p = 1 % p) :
    c19FftMod p z x = some ((List.range x.length).map fun k =>
      (∑ j ∈ Finset.range x.length, z ^ (k * j) * x.getD j 0) % p) :=
  c19FftMod_eq_dftMod p z x hpos hz

example : c19FftMod 97 22 [1, 2, 3, 4] = some [10, 51, 95, 42] := by decide +kernel
example : 22 ^ 4 % 97 = 1 % 97 := by decide

/-- The driver's `(c19-ifft p zinv ninv (y…))` applied to the transform gives the input back
(mod `p`) whenever `z` is a principal `n`-th root in `ZMod p`. -/
theorem ifft_mod_inverts (p : ℕ) [NeZero p] (z zinv ninv : ℕ) (x : List ℕ) (hpos : 1 ≤ x.length)
    (hz : z ^ x.length % p = 1 % p) (hzi : z * zinv % p = 1 % p)
    (hn : ninv * x.length % p = 1 % p) (horth : c19Principal (z : ZMod p) x.length) :
    c19IfftMod p zinv ninv (c19DftMod p z x) = some (x.map (· % p)) := by
  have cast1 : ∀ a : ℕ, a % p = 1 % p → (a : ZMod p) = 1 := fun a h => by
    have := (ZMod.natCast_eq_natCast_iff' a 1 p).mpr h
    simpa using this
  have hzz : (z : ZMod p) ^ x.length = 1 := by simpa using cast1 _ hz
  have hzzi : (z : ZMod p) * (zinv : ZMod p) = 1 := by simpa using cast1 _ hzi
  have hnn : (ninv : ZMod p) * (x.length : ZMod p) = 1 := by simpa using cast1 _ hn
  have hzinv : (zinv : ZMod p) ^ x.length = 1 := by
    have : ((z : ZMod p) * zinv) ^ x.length = 1 := by rw [hzzi, one_pow]
    rwa [mul_pow, hzz, one_mul] at this
  have hlen : (c19DftMod p z x).length = x.length := by simp [c19DftMod]
  unfold c19IfftMod c19IfftPy
  rw [List.length_map, hlen, if_neg (by omega)]
  congr 1
  unfold c19Ifft
  have hy : (c19DftMod p z x).map (Nat.cast : ℕ → ZMod p) = c19Dft (z : ZMod p) (x.map Nat.cast) := by
    rw [c19DftMod_eq_val, List.map_map]
    conv_rhs => rw [← List.map_id (c19Dft (z : ZMod p) (x.map Nat.cast))]
    refine List.map_congr_left fun v _ => ?_
    simp only [Function.comp, id, ZMod.natCast_zmod_val]
  have h1 := c19FftMod_eq_val p zinv (c19DftMod p z x)
    (fun m k => (zinv : ZMod p) ^ (x.length / m * k)) (fun m k => by rw [hlen])
  rw [hlen] at h1
  rw [h1, hy, c19Fft_eq_dft (zinv : ZMod p) _ _ (by simpa using hpos) (by simpa using hzinv)
    (by intro m k _; simp)]
  have h2 := c19Dft_inv (z : ZMod p) (zinv : ZMod p) (ninv : ZMod p) (x.map Nat.cast)
    (by simpa using hzz) hzzi (by simpa using hnn) (by simpa using horth)
  have h3 : x.map (· % p) = (x.map (Nat.cast : ℕ → ZMod p)).map ZMod.val := by
    rw [List.map_map]
    refine List.map_congr_left fun a _ => ?_
    simp only [Function.comp, ZMod.val_natCast]
  have h4 : ∀ L : List (ZMod p), (L.map ZMod.val).map (fun v => c19MulMod p (ninv % p) v) =
      (L.map fun v => (ninv : ZMod p) * v).map ZMod.val := fun L => by
    rw [List.map_map, List.map_map]
    refine List.map_congr_left fun v _ => ?_
    simp only [Function.comp, c19MulMod]
    rw [ZMod.val_mul, ZMod.val_natCast, Nat.mod_mul_mod]
  rw [h4, h2, h3]

example : c19IfftMod 97 75 73 [10, 51, 95, 42] = some [1, 2, 3, 4] := by decide +kernel
example : 22 * 75 % 97 = 1 % 97 ∧ 73 * 4 % 97 = 1 % 97 := by decide

end PV.Properties.C19
