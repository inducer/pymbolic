import PV.Properties.C13
import PV.Proofs.CompileHistory
/-
  C13 — compiled objects over time (model: PV/Model/CompileHistory.lean).

  The property says "takes the explicitly listed variables first …" about the variables listed
  WHEN `compile()` IS CALLED, and "behaves identically after a pickle round trip".  Here this is
  stated for whole programs of the caller: lists that go on being changed in place, several
  objects built from one list, pickle round trips and calls in any order.  The correspondence
  stream `compile-history` of harness/props/c13.py runs such programs on the real code and compares
  the argument names of the lambdas that really run with `HState.run`; its oracle checks the
  values against the reference interpreter.
-/
namespace PV.C13
open PV

/-- **An object never changes after it was made**: whatever the caller does next — changing the
list it was compiled from (or any other list) in place, compiling other expressions, pickling,
calling — the object bound to an id stays the one that was bound. -/
theorem history_objects_stable (S : PrintPrec) (exprs : List Expr) (st : HState) (steps : List HStep)
    (fid : Nat) (c : Compiled) (h : lookupObj st.objs fid = some c) :
    lookupObj (st.run S exprs steps).objs fid = some c := by
  obtain ⟨extra, hx⟩ := run_objs_extend S exprs steps st
  rw [hx]
  exact lookupObj_append_of_some h

/-- the compile step binds the object `_compile` makes of the list's content AT THAT MOMENT -/
theorem compile_step_binds (S : PrintPrec) (exprs : List Expr) (st : HState) (fid e l : Nat)
    (ex : Expr) (L : List String) (c : Compiled)
    (hfid : lookupObj st.objs fid = none) (he : exprs[e]? = some ex) (hl : st.lists[l]? = some L)
    (hd : hasDup L = false) (hc : compileModel S ex L = .ok c) :
    lookupObj (st.step S exprs (.compile fid e l)).objs fid = some c := by
  simp only [HState.step, hfid, he, hl, hd, hc]
  exact lookupObj_append_new c hfid

/-- a call observes the argument names of the object bound to the id -/
theorem call_step_observes (S : PrintPrec) (exprs : List Expr) (st : HState) (fid : Nat) (c : Compiled)
    (h : lookupObj st.objs fid = some c) :
    (st.step S exprs (.call fid)).seen = st.seen ++ [(fid, c.args)] := by
  simp only [HState.step, h]

/-- **The listed variables are those listed when `compile()` was called.**  Let `f = compile(e, L)`
be made at some point of a program, `L` being the content of the caller's list at that moment.
After ANY further steps `rest` (in-place changes of that very list included) a call of `f` runs a
lambda whose arguments are `L` followed by a strictly increasing tail that consists exactly of the
variables of `e` that are neither in `L` nor context names. -/
theorem history_call_spec (S : PrintPrec) (exprs : List Expr) (st : HState) (fid e l : Nat)
    (ex : Expr) (L : List String) (c : Compiled) (rest : List HStep)
    (hfid : lookupObj st.objs fid = none) (he : exprs[e]? = some ex) (hl : st.lists[l]? = some L)
    (hd : hasDup L = false) (hc : compileModel S ex L = .ok c) :
    ∃ tail, (st.run S exprs (.compile fid e l :: rest ++ [.call fid])).seen
        = (st.run S exprs (.compile fid e l :: rest)).seen ++ [(fid, L ++ tail)] ∧
      tail.Pairwise (· < ·) ∧
      ∀ x, x ∈ tail ↔ (x ∈ C09.fv ex ∧ x ∉ L ∧ x ∉ contextNames) := by
  obtain ⟨_, _, tail, hargs, hstrict, hmem⟩ := compile_args S ex L c hc
  refine ⟨tail, ?_, hstrict, hmem⟩
  have hb := compile_step_binds S exprs st fid e l ex L c hfid he hl hd hc
  have hstable := history_objects_stable S exprs (st.step S exprs (.compile fid e l)) rest fid c hb
  rw [show HStep.compile fid e l :: rest ++ [HStep.call fid]
        = (HStep.compile fid e l :: rest) ++ [HStep.call fid] from rfl, run_append, run_singleton,
    run_cons, call_step_observes S exprs _ fid c hstable, hargs]

/-- every object of a state is a fixed point of the pickle round trip -/
def PickleStable (S : PrintPrec) (st : HState) : Prop :=
  ∀ q ∈ st.objs, setstate S q.2.getstate = .ok q.2

/-- every step keeps `PickleStable`: a new object comes out of `_compile` (`pickle_same`) -/
theorem pickleStable_step (S : PrintPrec) (exprs : List Expr) (st : HState) (s : HStep)
    (h : PickleStable S st) : PickleStable S (st.step S exprs s) := by
  cases s with
  | mutate l op =>
    simp only [HState.step]
    split <;> exact h
  | compile fid e l =>
    simp only [HState.step]
    split
    · split
      · exact h
      · split
        · rename_i c hc
          intro q hq
          rcases List.mem_append.mp hq with hq | hq
          · exact h q hq
          · simp only [List.mem_singleton] at hq
            subst hq
            exact pickle_same S _ _ c hc
        · exact h
    · exact h
  | pickle fid src =>
    simp only [HState.step]
    split
    · split
      · rename_i c' hc'
        intro q hq
        rcases List.mem_append.mp hq with hq | hq
        · exact h q hq
        · simp only [List.mem_singleton] at hq
          subst hq
          exact pickle_same S _ _ c' hc'
      · exact h
    · exact h
  | call fid =>
    simp only [HState.step]
    split <;> exact h

/-- … hence every program does -/
theorem pickleStable_run (S : PrintPrec) (exprs : List Expr) (steps : List HStep) :
    ∀ st : HState, PickleStable S st → PickleStable S (st.run S exprs steps) := by
  induction steps with
  | nil => intro st h; simpa [HState.run] using h
  | cons s rest ih =>
    intro st h
    rw [run_cons]
    exact ih _ (pickleStable_step S exprs st s h)

/-- **A pickle round trip anywhere in a program gives the same object** (same stored expression
and variables, same argument list, same source): in every state reached from a program's start
(no objects yet), `pickle.loads(pickle.dumps(f))` binds exactly what `f` is bound to — so by
`history_call_spec` / `history_objects_stable` it is called with the same arguments in the same
order, before or after anything else that happens. -/
theorem history_pickle_same (S : PrintPrec) (exprs : List Expr) (lists : List (List String))
    (steps : List HStep) (fid src : Nat) (c : Compiled)
    (hsrc : lookupObj (HState.run S exprs ⟨lists, [], []⟩ steps).objs src = some c)
    (hfid : lookupObj (HState.run S exprs ⟨lists, [], []⟩ steps).objs fid = none) :
    lookupObj (HState.run S exprs ⟨lists, [], []⟩ (steps ++ [.pickle fid src])).objs fid = some c := by
  have hst : PickleStable S (HState.run S exprs ⟨lists, [], []⟩ steps) :=
    pickleStable_run S exprs steps _ (by intro q hq; cases hq)
  obtain ⟨q, hq, hqc⟩ := lookupObj_mem hsrc
  have hfix : setstate S c.getstate = .ok c := hqc ▸ hst q hq
  rw [run_append, run_singleton]
  simp only [HState.step, hfid, hsrc, hfix]
  exact lookupObj_append_new c hfid

/-! ### Non-vacuity, and what the statement excludes -/

/-- `x*3 + y` compiled with the caller's list `[]`, which then gets `"y"` appended -/
def historySample : List HStep :=
  [.compile 0 0 0, .mutate 0 (.append "y"), .compile 1 0 0, .pickle 2 0, .call 0, .call 1, .call 2]

def historyExpr : Expr := .nary .sum [.nary .prod [.var "x", .const (.int 3)], .var "y"]

example : (HState.run Generated.printPrec [historyExpr] ⟨[[]], [], []⟩ historySample).seen
    = [(0, ["x", "y"]), (1, ["y", "x"]), (2, ["x", "y"])] := by decide +kernel

/-- **Witness: an object that looks at the caller's list only when it is first called is
excluded.**  In the program above the first object was compiled from `[]`; resolving the list at
call time (after the `append`) would give it the argument order `y, x` — another function. -/
theorem deferred_listed_cex :
    let st := HState.run Generated.printPrec [historyExpr] ⟨[[]], [], []⟩ historySample
    (st.seen.head?.map (·.2)) = some ["x", "y"] ∧
    deferredArgs Generated.printPrec [historyExpr] st 0 0 = some ["y", "x"] := by
  decide +kernel

end PV.C13
