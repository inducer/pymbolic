import PV.Properties.C19Table
import PV.Proofs.AlgoScalar
import PV.Proofs.AlgoTableScalar
/-!
  C19 — a `Polynomial` combined with an operand that is NOT a `Polynomial` (a Python int):
  quotient-with-remainder by a constant (`divmod(p, d)`, `p // d`, `p % d`), sums, differences and
  products with a constant on either side.  "The value of a sum, difference, product … or
  quotient-with-remainder … equals that operation on their values" — a constant is the polynomial
  of degree 0 with that value.

  * `divmod_scalar_spec` — the model `divmodScalar` (coefficient by coefficient, floor `divmod`)
    satisfies value(p) = value(q)·d + value(r) at every point;
  * `poly_divmod_scalar_eq_table_current` — the body of `Polynomial.__divmod__` re-read from the
    source on this run, called with an int divisor, IS `divmodScalar` (for ALL polynomials and
    divisors, `ZeroDivisionError` included), hence `poly_divmod_scalar_table_spec`: what the
    regenerated code returns satisfies the identity.  A change of that branch (terms dropped from
    one of the two results, quotient and remainder exchanged, …) changes the table and the proof
    of the run no longer checks;
  * `add_scalar_eval`, `sub_scalar_eval`, `mul_scalar_eval`, `rmul_scalar_eval` — the other
    operations with a constant (hand-written mirrors of the bodies; tied by stream `poly-scalar`);
  * `rsub_scalar_eval` — `Polynomial.__rsub__` as coded since repo fix 60a234e (`(-self) + other`)
    is homomorphic: value(c - p) = c - value(p).  `rsub_scalar_negated` / `rsub_scalar_cex` /
    `rsub_scalar_partial` are about `rsubScalarPy`, the code BEFORE that fix (`(-other) + self`
    computed `p - c`: finding `poly-scalar-rsub-negated`, status fixed), kept as the regression
    witness: if the old body ever returns, the driver disagrees and the oracle fires.
-/

namespace PV.Properties.C19

open PV.Algo PV.Generated

/-- **Quotient-with-remainder by a constant is homomorphic to values**: whenever
`divmod(p, d)` returns `(q, r)`, value(p) = value(q)·d + value(r) at every point `x`. -/
theorem divmod_scalar_spec (p q r : Poly) (d x : ℤ) (h : divmodScalar p d = some (q, r)) :
    evalSpec p x = evalSpec q x * d + evalSpec r x :=
  divmodScalar_spec p q r d x h

/-- it returns for every non-zero divisor (and for the empty polynomial) -/
theorem divmod_scalar_total (p : Poly) (d : ℤ) (hd : d ≠ 0) :
    divmodScalar p d = some (p.map fun t => (t.1, Int.fdiv t.2 d),
                             p.map fun t => (t.1, Int.fmod t.2 d)) := by
  simp [divmodScalar, hd]

-- 4x² + 1 by 2: quotient 2x² (+ a stored 0), remainder 1 (+ a stored 0): every term is kept
example : divmodScalar [(0, 1), (2, 4)] 2 = some ([(0, 0), (2, 2)], [(0, 1), (2, 0)]) := by decide
example : divmodScalar [(0, -1)] (-5) = some ([(0, 0)], [(0, -1)]) := by decide
example : divmodScalar [(0, 1)] 0 = none := by decide

section
variable {α : Type} (ops : C19Ops α) (ext : String → List (C19V α) → C19R (C19V α))

/-- **`Polynomial.__divmod__` as regenerated, called with an int divisor, IS `divmodScalar`** —
for all polynomials and all divisors (`ZeroDivisionError` for the divisor 0 as soon as there is a
term). -/
theorem poly_divmod_scalar_eq_table_current (b : String) (p : Poly) (d : ℤ) (n : ℕ) :
    c19RunFn ops tableCurrent ext (n + 1 + 1) "Polynomial.__divmod__" [c19EncPoly b p, .int d]
      = c19EncDivmod b (divmodScalar p d) := by
  rw [c19RunFn_succ ops c19Table ext _ _ _ _ _ c19_find_poly_divmod
    (by rw [c19_poly_divmod_body_current]; rfl)]
  simp only [c19_poly_divmod_body_current]
  rw [c19ExecL_append]
  by_cases hd : d = 0
  · subst hd
    cases p with
    | nil =>
      rw [c19_dm_scalar ops ext b [] 0 (.inr rfl)]
      rfl
    | cons t p =>
      rw [c19_dm_scalar_zero ops ext b t p]
      rfl
  · rw [c19_dm_scalar ops ext b p d (.inl hd)]
    simp [divmodScalar, hd, c19EncDivmod]

/-- what the regenerated `__divmod__` returns for a non-zero int divisor satisfies
value(p) = value(q)·d + value(r) -/
theorem poly_divmod_scalar_table_spec (b : String) (p : Poly) (d : ℤ) (hd : d ≠ 0) (n : ℕ) :
    ∃ q r, c19RunFn ops tableCurrent ext (n + 1 + 1) "Polynomial.__divmod__"
        [c19EncPoly b p, .int d] = .ok (.tup [c19EncPoly b q, c19EncPoly b r])
      ∧ ∀ x : ℤ, evalSpec p x = evalSpec q x * d + evalSpec r x := by
  refine ⟨_, _, ?_, fun x => divmodScalar_spec p _ _ d x (divmod_scalar_total p d hd)⟩
  rw [poly_divmod_scalar_eq_table_current, divmod_scalar_total p d hd]
  rfl
end

/-- `p + c` and `c + p` -/
theorem add_scalar_eval (p : Poly) (k x : ℤ) : evalSpec (addScalar p k) x = evalSpec p x + k :=
  addScalar_eval p k x

/-- `p - c` -/
theorem sub_scalar_eval (p : Poly) (k x : ℤ) : evalSpec (subScalar p k) x = evalSpec p x - k := by
  rw [subScalar, addScalar_eval]; ring

/-- `p * c` -/
theorem mul_scalar_eval (p : Poly) (k x : ℤ) : evalSpec (scale p k) x = evalSpec p x * k :=
  PV.Algo.scale_eval p k x

/-- `c * p` -/
theorem rmul_scalar_eval (p : Poly) (k x : ℤ) : evalSpec (rscale p k) x = k * evalSpec p x := by
  induction p with
  | nil => simp [rscale]
  | cons t p ih =>
    obtain ⟨e, c⟩ := t
    simp only [rscale, List.map_cons, evalSpec_cons] at ih ⊢
    rw [ih]; ring

example : addScalar [(0, 1), (2, 4)] (-1) = [(2, 4)] := by decide +kernel
example : subScalar [(2, 4)] 3 = [(0, -3), (2, 4)] := by decide +kernel

/-- **`c - p` is homomorphic**: `Polynomial.__rsub__` (`(-self) + other`, repo fix 60a234e) has the
value `c - value(p)` at every point -/
theorem rsub_scalar_eval (p : Poly) (k x : ℤ) : evalSpec (rsubScalar p k) x = k - evalSpec p x := by
  rw [rsubScalar, addScalar_eval, neg_eval]; ring

/-- the body before repo fix 60a234e, `(-other) + self`, computed `p - c` -/
theorem rsub_scalar_negated (p : Poly) (k x : ℤ) :
    evalSpec (rsubScalarPy p k) x = evalSpec p x - k := by
  rw [rsubScalarPy, addScalar_eval]; ring

/-- … which is the required `c - p` exactly at the points where value(p) = c -/
theorem rsub_scalar_partial (p : Poly) (k x : ℤ) (h : evalSpec p x = k) :
    evalSpec (rsubScalarPy p k) x = k - evalSpec p x := by
  rw [rsub_scalar_negated, h]

/-- negation witness: `3 - (1 + 4x²)` comes back as `4x² - 2`; at `x = 1` that is `2`, not `-2` -/
theorem rsub_scalar_cex :
    rsubScalarPy [(0, 1), (2, 4)] 3 = [(0, -2), (2, 4)] ∧
    evalSpec (rsubScalarPy [(0, 1), (2, 4)] 3) 1 ≠ 3 - evalSpec [(0, 1), (2, 4)] 1 := by
  decide +kernel

example : rsubScalar [(0, 1), (2, 4)] 3 = [(0, 2), (2, -4)] := by decide +kernel

end PV.Properties.C19
