import PV.Proofs.Algo

/-!
  C19 — exact-arithmetic helpers (`pymbolic.algorithm`, `pymbolic.polynomial`,
  `EvaluationMapper.map_polynomial`): property theorems about the executable model
  `PV.Model.Algo`, each with a small non-vacuity example.

  Naming: `mergePy`, `sortUniqPy`, `mulPy`, `powPy` are the bodies of `_sort_uniq`, `__mul__`,
  `__pow__` BEFORE the repair of `_sort_uniq` in the repository (repo commit c740aa9: `last_exp` is
  reset after `pop()`); they are kept as the regression witness.  The same names without `Py` use
  the merge loop with the reset, which is what the current source does (tied to the regenerated
  table in PV/Properties/C19Table.lean).  The `…_defect` / `…_indexError` theorems are
  machine-checked counterexamples of the old body, the `…_correct_when` theorems say on which
  inputs the old body already agreed with the current one.  (`divmodPy`, `evalHornerPy`,
  `findFactorsPy`, `c19FftPy` are a different use of the suffix: the model with Python's
  exceptions as `none`, the one tied to the table.)
-/

namespace PV.Properties.C19

open PV.Algo

/-! ## a. integer_power -/

/-- `integer_power(x, n, one)` computes `x ^ n` in every monoid (non-commutative included:
matrices, polynomials), for every `n ≥ 0`. -/
theorem integer_power_eq_pow {M : Type*} [Monoid M] (x : M) (n : ℕ) :
    integerPower (· * ·) 1 x n = x ^ n :=
  integerPower_eq_pow x n

example : integerPower (· * ·) 1 (3 : ℤ) 5 = 243 := by decide +kernel
example : integerPower (· * ·) 1 (3 : ℤ) 5 = 3 ^ 5 := integer_power_eq_pow 3 5

/-- Python-int front end: negative exponents are refused, otherwise the result is `x ^ n`. -/
theorem integer_power_int (x n : ℤ) :
    integerPowerInt x n = if n < 0 then none else some (x ^ n.toNat) := by
  unfold integerPowerInt
  split_ifs
  · rfl
  · rw [integerPower_eq_pow]

example : integerPowerInt 2 (-1) = none := by decide +kernel
example : integerPowerInt 2 10 = some 1024 := by decide +kernel

/-- Homomorphic version used for `Polynomial.__pow__`. -/
theorem integer_power_hom {α M : Type*} [Monoid M] (f : α → M) (mul : α → α → α) (one : α)
    (hmul : ∀ a b, f (mul a b) = f a * f b) (hone : f one = 1) (x : α) (n : ℕ) :
    f (integerPower mul one x n) = f x ^ n :=
  integerPower_hom f mul one hmul hone x n

/-! ## b. extended_euclidean / gcd / lcm -/

/-- Bézout identity of the returned triple. -/
theorem ext_euclid_bezout (q r : ℤ) :
    match extEuclid q r with
    | (g, a, b) => g = a * q + b * r := by
  rw [extEuclid]
  split_ifs with h
  · have h' : ¬ r.natAbs < q.natAbs := by omega
    rw [extEuclid, dif_neg h']
    simp only
    have := extEuclidLoop_bezout r q r q 1 0 0 1 (by ring) (by ring)
    rw [this]; ring
  · exact extEuclidLoop_bezout q r q r 1 0 0 1 (by ring) (by ring)

example : extEuclid 240 46 = (2, -9, 47) := by decide +kernel
example : (2 : ℤ) = -9 * 240 + 47 * 46 := by decide

/-- The first component is a greatest common divisor in the divisibility sense:
it divides both arguments and every common divisor divides it.  Its sign is NOT normalised. -/
theorem ext_euclid_gcd (q r : ℤ) :
    (extEuclid q r).1 ∣ q ∧ (extEuclid q r).1 ∣ r ∧
      (∀ d : ℤ, d ∣ q → d ∣ r → d ∣ (extEuclid q r).1) ∧
      (extEuclid q r).1.natAbs = Int.gcd q r :=
  ⟨(extEuclid_dvd q r).1, (extEuclid_dvd q r).2.1, (extEuclid_dvd q r).2.2,
    extEuclid_natAbs q r⟩

/-- The sign of the result: it follows the argument of smaller absolute value
(the second one on ties), or the other argument when that one is `0`. -/
theorem ext_euclid_sign (q r : ℤ) :
    (r.natAbs ≤ q.natAbs →
      (r = 0 → (extEuclid q r).1 = q) ∧ (0 < r → 0 < (extEuclid q r).1) ∧
        (r < 0 → (extEuclid q r).1 < 0)) ∧
    (q.natAbs < r.natAbs →
      (q = 0 → (extEuclid q r).1 = r) ∧ (0 < q → 0 < (extEuclid q r).1) ∧
        (q < 0 → (extEuclid q r).1 < 0)) := by
  constructor
  · intro h
    have h' : ¬ q.natAbs < r.natAbs := by omega
    rw [extEuclid, dif_neg h']
    exact extEuclidLoop_sign q r 1 0 0 1
  · intro h
    have h' : ¬ r.natAbs < q.natAbs := by omega
    rw [extEuclid, dif_pos h, extEuclid, dif_neg h']
    exact extEuclidLoop_sign r q 1 0 0 1

/-- Witness that the "gcd" can be negative. -/
theorem gcd_negative_witness : gcd 6 (-4) = -2 ∧ gcd (-4) 6 = -2 ∧ gcd 4 (-6) = 2 := by
  decide +kernel

example : extEuclid 0 0 = (0, 1, 0) := by decide +kernel
example : extEuclid 0 (-5) = (-5, 0, 1) := by decide +kernel

/-- `lcm` as coded: it raises (`none`) exactly for `q = r = 0`; otherwise
`lcm * gcd = |q*r|` exactly (no rounding in `//`), and `|lcm|` is the mathematical lcm.
Its sign is the sign of the computed gcd, so it can be negative. -/
theorem lcm_gcd (q r : ℤ) :
    (lcm q r = none ↔ q = 0 ∧ r = 0) ∧
    (∀ l, lcm q r = some l →
      l * gcd q r = ((q * r).natAbs : ℤ) ∧ l.natAbs = Int.lcm q r ∧
        (l ≠ 0 → (0 < l ↔ 0 < gcd q r))) :=
  ⟨lcm_eq_none_iff q r, fun l h =>
    ⟨lcm_mul_gcd q r l h, lcm_natAbs q r l h, lcm_sign q r l h⟩⟩

example : lcm 4 6 = some 12 := by decide +kernel
example : lcm 0 0 = none := by decide +kernel
/-- Witness that `lcm` can be negative. -/
theorem lcm_negative_witness : lcm 6 (-4) = some (-12) := by decide +kernel

/-! ## find_factors / fft skeleton -/

/-- `N1 * N2 == n` for every `n`, and for `n ≥ 2`: `N1 ≥ 2`, `0 < N2 < n`
(so the recursion of `fft` on sub-vectors of length `N2` terminates). -/
theorem find_factors_spec (n : ℕ) :
    (findFactors n).1 * (findFactors n).2 = n ∧
      (2 ≤ n → 2 ≤ (findFactors n).1 ∧ 0 < (findFactors n).2 ∧ (findFactors n).2 < n) :=
  ⟨findFactors_mul n, findFactors_lt n⟩

/-- `find_factors(n)` raises exactly for `n = 0` (so `fft` of an empty vector raises). -/
theorem find_factors_fails_iff (n : ℕ) : findFactorsPy n = none ↔ n = 0 :=
  findFactorsPy_eq_none_iff n

example : findFactorsPy 12 = some (2, 6) := by decide +kernel
example : findFactors 15 = (3, 5) := by decide +kernel
example : findFactors 13 = (13, 1) := by decide +kernel

/-- Index splitting of one Cooley–Tukey level: with `len(x) = N1*N2`, every sub-vector
`x[n1::N1]` (`n1 < N1`) has length `N2`, and input index `j` is entry `j / N1` of
sub-vector `j % N1`. -/
theorem fft_index_split {α : Type*} (x : List α) (N1 N2 : ℕ) (hlen : x.length = N1 * N2) :
    (∀ n1 < N1, (stride x n1 N1).length = N2) ∧
    (∀ j < x.length, j % N1 < N1 ∧ j / N1 < N2 ∧
      (stride x (j % N1) N1)[j / N1]? = x[j]?) :=
  ⟨fun n1 h => stride_length x N1 N2 n1 hlen h,
   fun j hj => PV.Algo.fft_index_split x N1 N2 j hlen hj⟩

/-- The split actually used by `fft` (`N1, N2 = find_factors(len(x))`). -/
theorem fft_split_shape {α : Type*} (x : List α) :
    (fftSplit x).length = (findFactors x.length).1 ∧
      ∀ l ∈ fftSplit x, l.length = (findFactors x.length).2 := by
  unfold fftSplit
  simp only [List.length_map, List.length_range, List.mem_map, List.mem_range, true_and]
  rintro l ⟨n1, hn1, rfl⟩
  exact stride_length x _ _ n1 (findFactors_mul x.length).symm hn1

example : fftSplit [0, 1, 2, 3, 4, 5] = [[0, 2, 4], [1, 3, 5]] := by decide +kernel

/-! ## c. `_sort_uniq` -/

/-- Repaired `_sort_uniq` preserves the value `Σ coeff * x^exp`. -/
theorem sortUniq_eval (l : List Term) (x : ℤ) : evalSpec (sortUniq l) x = evalSpec l x :=
  PV.Algo.sortUniq_eval l x

/-- Repaired `_sort_uniq` returns strictly increasing exponents, and introduces no zero
coefficient (a zero can only survive if the input already contained one). -/
theorem sortUniq_sorted (l : List Term) :
    StrictSorted (sortUniq l) ∧ (NoZero l → NoZero (sortUniq l)) :=
  ⟨PV.Algo.sortUniq_sorted l, sortUniq_noZero l⟩

/-- The model of `data.sort(key=exp)` is a stable sort: a permutation, weakly sorted by
exponent, keeping the relative order of equal exponents. -/
theorem sortByExp_stable_sort (l : List Term) :
    (sortByExp l).Perm l ∧ WeakSorted (sortByExp l) ∧
      ∀ e, (sortByExp l).filter (fun u => u.1 = e) = l.filter (fun u => u.1 = e) :=
  ⟨sortByExp_perm l, sortByExp_sorted l, sortByExp_stable l⟩

example : sortByExp [(2, 1), (0, 3), (2, -1), (0, 2)] = [(0, 3), (0, 2), (2, 1), (2, -1)] := by
  decide

example : sortUniq [(2, 1), (0, 3), (2, -1), (1, 4), (0, 2)] = [(0, 5), (1, 4)] := by decide
example : sortUniq [(0, 1), (1, 2), (1, -2), (1, 5)] = [(0, 1), (1, 5)] := by decide
example : NoZero [(2, 1), (0, 3), (2, -1)] := by decide
/-- A stored zero coefficient does survive (as in the Python code). -/
example : sortUniq [(3, 0)] = [(3, 0)] := by decide

/-- DEFECT of the body before repo commit c740aa9 (machine-checked witness): `_sort_uniq` did not
reset `last_exp` after `pop()`.  Three terms of equal exponent whose first two cancel make the third one be added
to an unrelated entry: the value changes (`1 + 5x` becomes `6x`). -/
theorem sortUniqPy_defect :
    sortUniqPy [(0, 1), (1, 2), (1, -2), (1, 5)] = some [(1, 6)] ∧
    evalSpec [(1, 6)] 2 ≠ evalSpec [(0, 1), (1, 2), (1, -2), (1, 5)] 2 := by
  decide

/-- DEFECT of the old body: the same situation with nothing left on the stack raised
`IndexError`. -/
theorem sortUniqPy_indexError : sortUniqPy [(1, 2), (1, -2), (1, 5)] = none := by decide

/-- The body before the repair already agreed with the current one when all coefficients are
positive, or when no exponent occurs more than twice (which inputs the defect could reach). -/
theorem sortUniqPy_correct_when (l : List Term) :
    (AllPos l → sortUniqPy l = some (sortUniq l)) ∧
    ((∀ e, l.countP (fun t => t.1 = e) ≤ 2) → sortUniqPy l = some (sortUniq l)) :=
  ⟨fun h => (sortUniqPy_eq_of_pos l h).1, sortUniqPy_eq_of_count l⟩

example : AllPos [(1, 2), (1, 3), (1, 5)] := by decide
example : ∀ e, ([(1, 2), (0, -2), (1, -2)] : List Term).countP (fun t => t.1 = e) ≤ 2 := by
  intro e
  simp only [List.countP_cons, List.countP_nil, decide_eq_true_eq]
  split_ifs <;> omega

/-! ## d. Horner evaluation -/

/-- `EvaluationMapper.map_polynomial` (Horner) equals `Σ coeff * x^exp` on data satisfying the
class invariant. -/
theorem evalHorner_eq_spec (p : Poly) (x : ℤ) (h : StrictSorted p) :
    evalHorner p x = evalSpec p x :=
  PV.Algo.evalHorner_eq_spec p x h

/-- `evalHornerPy`, the model with Python's exception (it fails when `exp - next_exp < 0`; the
one tied to the regenerated body), never fails on weakly sorted data and returns the specified value. -/
theorem evalHornerPy_eq_spec (p : Poly) (x : ℤ) (h : WeakSorted p) :
    evalHornerPy p x = some (evalSpec p x) :=
  PV.Algo.evalHornerPy_eq_spec p x h

example : StrictSorted [(0, 7), (2, -3), (5, 1)] := by decide
example : evalHorner [(0, 7), (2, -3), (5, 1)] 2 = 27 := by decide
example : evalSpec [(0, 7), (2, -3), (5, 1)] 2 = 27 := by decide
/-- On unsorted data Python leaves the integers (`2 ** -2`); the mirror reports `none`. -/
example : evalHornerPy [(2, 1), (0, 1)] 2 = none := by decide

/-! ## e. ring homomorphism `Poly → ℤ` at every point -/

theorem add_eval (p q : Poly) (x : ℤ) : evalSpec (add p q) x = evalSpec p x + evalSpec q x :=
  PV.Algo.add_eval p q x

theorem neg_eval (p : Poly) (x : ℤ) : evalSpec (neg p) x = -evalSpec p x :=
  PV.Algo.neg_eval p x

theorem sub_eval (p q : Poly) (x : ℤ) : evalSpec (sub p q) x = evalSpec p x - evalSpec q x :=
  PV.Algo.sub_eval p q x

/-- scalar `__mul__` / `__rmul__`. -/
theorem scale_eval (p : Poly) (k x : ℤ) : evalSpec (scale p k) x = evalSpec p x * k :=
  PV.Algo.scale_eval p k x

/-- `__mul__` (with the `_sort_uniq` of the current source). -/
theorem mul_eval (p q : Poly) (x : ℤ) : evalSpec (mul p q) x = evalSpec p x * evalSpec q x :=
  PV.Algo.mul_eval p q x

/-- `__pow__` (= `integer_power` over `mul`, starting from the constant `1`). -/
theorem pow_eval (p : Poly) (n : ℕ) (x : ℤ) : evalSpec (pow p n) x = evalSpec p x ^ n :=
  PV.Algo.pow_eval p n x

/-- The class invariant is preserved. -/
theorem ops_sorted (p q : Poly) (hp : StrictSorted p) (hq : StrictSorted q) :
    StrictSorted (add p q) ∧ StrictSorted (neg p) ∧ StrictSorted (sub p q) ∧
      StrictSorted (mul p q) ∧ (NoZero p → NoZero q → NoZero (add p q)) :=
  ⟨add_sorted p q hp hq, neg_sorted p hp, add_sorted p _ hp (neg_sorted q hq),
    mul_sorted p q, add_noZero p q⟩

example : add [(0, 1), (2, 3)] [(1, 1), (2, -3)] = [(0, 1), (1, 1)] := by decide +kernel
example : sub [(0, 1), (2, 3)] [(0, 1), (2, 3)] = [] := by decide +kernel
example : mul [(0, 1), (1, 1)] [(0, -1), (1, 1)] = [(0, -1), (2, 1)] := by decide
example : pow [(0, 1), (1, 1)] 3 = [(0, 1), (1, 3), (2, 3), (3, 1)] := by decide +kernel
/-- scalar multiplication by 0 keeps explicit zero coefficients (as in Python). -/
example : scale [(0, 1), (1, 2)] 0 = [(0, 0), (1, 0)] := by decide

/-- DEFECT before repo commit c740aa9 (machine-checked witness): `Polynomial.__mul__` over the old
`_sort_uniq` returned a wrong product for two well-formed polynomials:
`(1 + x + x²)(1 - x + x²)` is `1 + x² + x⁴`, the old code returned `2x² + x⁴` (values at `x = 2`:
21 vs 24). -/
theorem mulPy_defect :
    StrictSorted [(0, 1), (1, 1), (2, 1)] ∧ NoZero [(0, 1), (1, 1), (2, 1)] ∧
    StrictSorted [(0, 1), (1, -1), (2, 1)] ∧ NoZero [(0, 1), (1, -1), (2, 1)] ∧
    mulPy [(0, 1), (1, 1), (2, 1)] [(0, 1), (1, -1), (2, 1)] = some [(2, 2), (4, 1)] ∧
    mul [(0, 1), (1, 1), (2, 1)] [(0, 1), (1, -1), (2, 1)] = [(0, 1), (2, 1), (4, 1)] ∧
    evalSpec [(2, 2), (4, 1)] 2 ≠
      evalSpec [(0, 1), (1, 1), (2, 1)] 2 * evalSpec [(0, 1), (1, -1), (2, 1)] 2 := by
  decide

/-- DEFECT of the old body: `Polynomial.__mul__` raised `IndexError` on
`(-1 - x + x²) * (-1 + x - x² + x³)`. -/
theorem mulPy_indexError :
    mulPy [(0, -1), (1, -1), (2, 1)] [(0, -1), (1, 1), (2, -1), (3, 1)] = none := by
  decide

/-- Where the old body was right all the same: positive coefficients, or `self` with at most two
terms and a well-formed `other`. In those cases it is the homomorphic product. -/
theorem mulPy_correct_when (p q : Poly) (x : ℤ) :
    (AllPos p → AllPos q →
      ∃ r, mulPy p q = some r ∧ evalSpec r x = evalSpec p x * evalSpec q x) ∧
    (p.length ≤ 2 → StrictSorted q →
      ∃ r, mulPy p q = some r ∧ evalSpec r x = evalSpec p x * evalSpec q x) :=
  ⟨fun hp hq => ⟨mul p q, (mulPy_eq_of_pos p q hp hq).1, PV.Algo.mul_eval p q x⟩,
   fun hp hq => ⟨mul p q, mulPy_eq_of_length_le_two p q hp hq, PV.Algo.mul_eval p q x⟩⟩

/-- `__pow__` over the old `_sort_uniq` was right on polynomials with positive coefficients
(e.g. `(x+1)**n`). -/
theorem powPy_correct_when (p : Poly) (n : ℕ) (x : ℤ) (hp : AllPos p) :
    ∃ r, powPy p n = some r ∧ evalSpec r x = evalSpec p x ^ n :=
  ⟨pow p n, (powPy_eq_of_pos p n hp).1, PV.Algo.pow_eval p n x⟩

example : powPy [(0, 1), (1, 1)] 5 =
    some [(0, 1), (1, 5), (2, 10), (3, 10), (4, 5), (5, 1)] := by decide +kernel

/-! ## f. `__divmod__` -/

/-- Partial correctness of the model `divmod` of `Polynomial.__divmod__` (integer coefficients,
same base): whenever a pair is returned, `quot * other + rem = self` pointwise, and the loop stopped
for one of its two reasons. -/
theorem divmod_spec (p other q r : Poly) (h : divmod p other = some (q, r)) :
    (∀ x : ℤ, evalSpec q x * evalSpec other x + evalSpec r x = evalSpec p x) ∧
    (degree r < degree other ∨ Int.fmod (leadTerm r).2 (leadTerm other).2 ≠ 0) := by
  refine ⟨fun x => PV.Algo.divmod_spec p other q r x h, ?_⟩
  unfold divmod at h
  split_ifs at h
  exact divmodLoop_stop other _ [] p q r h

/-- Fuel sufficiency / totality of the specification-level model `divmod`: on well-formed
operands it returns `none` exactly for an empty divisor or a stored zero leading coefficient of
the divisor — the loop fuel `p.length + deg p + 2` is never exhausted because every iteration
strictly lowers `rem.degree` (≥ -1; one spare turn for the exit test).  The model tied to the
regenerated body is `divmodPy`, which raises for the zero leading coefficient only when the loop
is entered (`divmodPy_eq_divmod`, `divmodPy_zero_lead_discrepancy` in
PV/Properties/C19Table.lean). -/
theorem divmod_total (p other : Poly) (hp : StrictSorted p) (hother : StrictSorted other) :
    divmod p other = none ↔ degree other = -1 ∨ (leadTerm other).2 = 0 := by
  unfold divmod
  split_ifs with h1 h2
  · simp [h1]
  · simp [h2]
  · have ho : 0 ≤ degree other := by have := degree_ge_neg_one other; omega
    have hs := divmodLoop_isSome other hother ho (p.length + (degree p).toNat + 2) [] p hp
      (by push_cast; omega)
    constructor
    · intro h; rw [h] at hs; cases hs
    · rintro (h | h)
      · exact absurd h h1
      · exact absurd h h2

/-- The only product formed inside the division loop is `this_fac * other` with a one-term
`this_fac`; for a well-formed `other` the product over the old `_sort_uniq` (`mulPy`) coincides
with the `mul` used by the model `divmod`.  So the defect of the old `_sort_uniq` could not fire
inside `__divmod__`. -/
theorem divmod_mul_is_safe (dd : ℕ) (cf : ℤ) (other : Poly) (h : StrictSorted other) :
    mulPy [(dd, cf)] other = some (mul [(dd, cf)] other) :=
  mulPy_eq_of_length_le_two _ _ (by simp) h

/-- `(x² - 1) divmod (x + 1) = (x - 1, 0)`. -/
example : divmod [(0, -1), (2, 1)] [(0, 1), (1, 1)] = some ([(0, -1), (1, 1)], []) := by
  decide +kernel
/-- early exit: `x² divmod 2x` over the integers returns `(0, x²)`. -/
example : divmod [(2, 1)] [(1, 2)] = some ([], [(2, 1)]) := by decide +kernel
example : divmod [(2, 1)] [] = none := by decide +kernel

end PV.Properties.C19
