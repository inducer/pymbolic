import PV.Model.CCode
import PV.Generated.Prec
import PV.Proofs.CCodeInv
import PV.Proofs.CCodeValue
/-
  C14 — generated C code computes what the evaluator computes.

  Model: `PV/Model/CCode.lean` (`ccodeE` = `CCodeMapper.rec`, the allocator state `CSt`, operations
  `emit`/`copy`/`copyWithMappedCses`, the C reading `denC` of the printed structure).

  * `names_unique`, `assigned_once`, `known_wrapper_reuses_name`: ALL histories of calls on one
    mapper (any expressions, any prefixes, both sorting directions, any `cse_prefix`).
  * With `copy()` both statements are false: `names_unique_copy_cex`, `assigned_once_copy_cex`;
    they hold when every copy is made before anything is hoisted: `…_copy_partial`.
  * `assigned_before_use` holds for ALL histories, copies included.
  * `ccode_value_int_partial`: on the integer fragment the C value of the emitted structure is the
    evaluator's value; false for a remainder operand of a product and for `x**2` as a divisor:
    `ccode_value_int_cex`, `ccode_value_int_pow_cex`.
  * `ccode_value_c_partial`: the same for the C-expressible fragment `cFrag` (comparisons, `?:`,
    `&&`/`||`/`!`, `&`/`^`/`|`/`~`, shifts, two-operand `min`/`max` on top of the arithmetic part),
    with Python's `True`/`False` read as C's 1/0; `ccode_parens_sufficient`: on that fragment C's
    grammar groups the emitted text exactly as the tree (`c_reading_of_wellformed`: then the C
    value is the tree's value).  False for a bitwise operand of a comparison
    (`ccode_value_c_cmp_bitwise_cex`) and for one-operand `and`/`or`
    (`ccode_value_c_one_operand_cex`).
-/
namespace PV.C14
open PV

variable (S : PrintPrec)

/-! ### one mapper, all histories -/

/-- **Every hoisted name is unique** (and generated names never collide when prefixes repeat):
after any sequence of expressions sent through one mapper, the names of `cse_name_list` are
pairwise distinct. -/
theorem names_unique (reverse : Bool) (pfx : String) (es : List Expr)
    (outs : List (String × List String)) (st : CSt)
    (h : emits S { reverse, pfx } es = .ok (outs, st)) : st.assigned.Nodup :=
  (emits_inv S es _ outs st (inv_init reverse pfx) h).nodup

/-- **A wrapped subexpression is assigned once**: every entry of `cse_name_list` was hoisted for a
wrapper child, `cse_to_name` lists these children entry by entry, `cse_names` is the set of
assigned names, and the children of different entries are different under Python `==` — however
often and in whatever order wrappers recur in the history. -/
theorem assigned_once (reverse : Bool) (pfx : String) (es : List Expr)
    (outs : List (String × List String)) (st : CSt)
    (h : emits S { reverse, pfx } es = .ok (outs, st)) :
    (st.nameList.map entryKey).Pairwise (fun a b => a.eq b = false) ∧
    (∀ e ∈ st.nameList, e.child.isSome = true) ∧
    st.toName = st.nameList.map (fun e => (entryKey e, e.name)) ∧
    st.names = st.nameList.map (fun e => CCKey.text e.name) := by
  have i := emits_inv S es _ outs st (inv_init reverse pfx) h
  exact ⟨i.once, i.hoisted, i.toNameEq, i.namesEq⟩

/-- … and a wrapper whose child is already known (under any prefix) gets the known name back and
adds no assignment, in ANY state. -/
theorem known_wrapper_reuses_name (st : CSt) (c : Expr) (p : Option String) (sc : String)
    (kv : CCKey × String) (hl : c.hasList = false)
    (hk : st.toName.find? (fun kv => kv.1.eq (.expr c)) = some kv) :
    ccode S st (.cse c p sc) = .ok (.var kv.2, [kv.2], st) := by
  simp [ccode, ccodeE, ccodeCse, hl, hk, pure, Except.pure]

/-- **Every hoisted name is assigned before any use** — for ALL histories on a pool of mappers,
`copy()` and `copy_with_mapped_cses` included: in every mapper each assignment refers only to names
assigned by earlier entries of its `cse_name_list`, and the names a returned text refers to are
assigned in the mapper that returned it (then and ever after). -/
theorem assigned_before_use (reverse : Bool) (pfx : String) (ops : List COpn)
    (outs : List CStepOut) (pool : List CSt)
    (h : runOps S [{ reverse, pfx }] ops = .ok (outs, pool)) :
    (∀ st ∈ pool, refsBefore [] st.nameList) ∧ OutsOK pool ops outs := by
  have hp : ∀ st ∈ [({ reverse, pfx } : CSt)], RefInv st := by
    intro st hst
    simp only [List.mem_singleton] at hst
    subst hst
    exact refInv_init reverse pfx
  obtain ⟨a, _, c⟩ := runOps_ref S ops _ outs pool hp h
  exact ⟨fun st hst => (a st hst).before, c⟩

/-- the single-mapper form: the names every returned text refers to are assigned -/
theorem assigned_before_use_emits (reverse : Bool) (pfx : String) (es : List Expr)
    (outs : List (String × List String)) (st : CSt)
    (h : emits S { reverse, pfx } es = .ok (outs, st)) :
    refsBefore [] st.nameList ∧ ∀ o ∈ outs, ∀ r ∈ o.2, r ∈ st.assigned := by
  obtain ⟨a, _, c⟩ := emits_ref S es _ outs st (refInv_init reverse pfx) h
  exact ⟨a.before, c⟩

/-! ### with `copy()` -/

def xPlus1 : Expr := .nary .sum [.var "x", .const (.int 1)]

/-- `m(CSE(x+1,"u")*2); m2 = m.copy(); m2(CSE(x+1,"u") + CSE(y,"u"))` -/
def copyHistory : List COpn :=
  [.emit 0 (.nary .prod [.cse xPlus1 (some "u") "s", .const (.int 2)]),
   .copy 0,
   .emit 1 (.nary .sum [.cse xPlus1 (some "u") "s", .cse (.var "y") (some "u") "s"])]

def poolNames (r : Except CErr (List CStepOut × List CSt)) : List (List String) :=
  match r with
  | .ok (_, pool) => pool.map (·.assigned)
  | .error _ => []

/-- number of assignments of the text `t` in `cse_name_list` -/
def countText (st : CSt) (t : String) : Nat :=
  (st.nameList.filter fun e => match e.val with
    | .text s => s == t
    | .expr _ => false).length

def poolCounts (t : String) (r : Except CErr (List CStepOut × List CSt)) : List Nat :=
  match r with
  | .ok (_, pool) => pool.map (countText · t)
  | .error _ => []

theorem copyHistory_names :
    poolNames (runOps Generated.printPrec [{}] copyHistory) =
      [["_cse_u"], ["_cse_u", "_cse_u", "_cse_u_2"]] := by decide +kernel

theorem copyHistory_counts :
    poolCounts "x + 1" (runOps Generated.printPrec [{}] copyHistory) = [1, 2] := by decide +kernel

/-- **`names_unique` is false with `copy()`**: the copy hands out `_cse_u` a second time. -/
theorem names_unique_copy_cex :
    ∃ (ops : List COpn) (outs : List CStepOut) (pool : List CSt),
      runOps Generated.printPrec [{}] ops = .ok (outs, pool) ∧ ∃ st ∈ pool, ¬ st.assigned.Nodup := by
  have h := copyHistory_names
  cases hr : runOps Generated.printPrec [{}] copyHistory with
  | error e => rw [hr] at h; simp [poolNames] at h
  | ok v =>
    obtain ⟨outs, pool⟩ := v
    rw [hr] at h
    simp only [poolNames] at h
    refine ⟨copyHistory, outs, pool, hr, ?_⟩
    match pool, h with
    | [a, b], h =>
      simp only [List.map_cons, List.map_nil, List.cons.injEq, and_true] at h
      refine ⟨b, by simp, ?_⟩
      rw [h.2]
      decide +kernel

/-- **`assigned_once` is false with `copy()`**: the copy has forgotten that `x + 1` is hoisted and
assigns the same text again (the dictionary of the copy is keyed by strings). -/
theorem assigned_once_copy_cex :
    ∃ (ops : List COpn) (outs : List CStepOut) (pool : List CSt),
      runOps Generated.printPrec [{}] ops = .ok (outs, pool) ∧
      ∃ st ∈ pool, ∃ t, countText st t = 2 := by
  have h := copyHistory_counts
  cases hr : runOps Generated.printPrec [{}] copyHistory with
  | error e => rw [hr] at h; simp [poolCounts] at h
  | ok v =>
    obtain ⟨outs, pool⟩ := v
    rw [hr] at h
    simp only [poolCounts] at h
    refine ⟨copyHistory, outs, pool, hr, ?_⟩
    match pool, h with
    | [a, b], h =>
      simp only [List.map_cons, List.map_nil, List.cons.injEq, and_true] at h
      exact ⟨b, by simp, "x + 1", h.2⟩

/-- `m(CSE(x+1,"u")); m2 = m.copy(); m2(CSE(y,"u"))` -/
def copyHistory2 : List COpn :=
  [.emit 0 (.cse xPlus1 (some "u") "s"), .copy 0, .emit 1 (.cse (.var "y") (some "u") "s")]

def poolAssignments (r : Except CErr (List CStepOut × List CSt)) : List (List (String × String)) :=
  match r with
  | .ok (_, pool) => pool.map fun st => st.nameList.map fun e => (e.name, match e.val with
    | .text s => s
    | .expr _ => "?")
  | .error _ => []

/-- … and the collision is real: in the copy ONE C variable is assigned two different
subexpressions, so although every used name "is assigned before its use" (`assigned_before_use`),
the program no longer says which value a use means. -/
theorem names_unique_copy_values_cex :
    poolAssignments (runOps Generated.printPrec [{}] copyHistory2) =
      [[("_cse_u", "x + 1")], [("_cse_u", "x + 1"), ("_cse_u", "y")]] := by decide +kernel

/-- **`names_unique` and `assigned_once` with copies made before anything is hoisted**: when every
`copy()` / `copy_with_mapped_cses([])` of the history precedes every call, all mappers of the pool
satisfy both statements. -/
theorem names_unique_copy_partial (reverse : Bool) (pfx : String) (cps ems : List COpn)
    (hc : ∀ op ∈ cps, isPlainCopy op = true) (he : ∀ op ∈ ems, isEmit op = true)
    (outs : List CStepOut) (pool : List CSt)
    (h : runOps S [{ reverse, pfx }] (cps ++ ems) = .ok (outs, pool)) :
    ∀ st ∈ pool, st.assigned.Nodup := by
  intro st hst
  refine (runOps_copies_first_inv S ems he cps _ outs pool hc ?_ h st hst).nodup
  intro s hs
  simp only [List.mem_singleton] at hs
  subst hs
  exact ⟨rfl, rfl, rfl⟩

theorem assigned_once_copy_partial (reverse : Bool) (pfx : String) (cps ems : List COpn)
    (hc : ∀ op ∈ cps, isPlainCopy op = true) (he : ∀ op ∈ ems, isEmit op = true)
    (outs : List CStepOut) (pool : List CSt)
    (h : runOps S [{ reverse, pfx }] (cps ++ ems) = .ok (outs, pool)) :
    ∀ st ∈ pool, (st.nameList.map entryKey).Pairwise (fun a b => a.eq b = false) ∧
      st.toName = st.nameList.map (fun e => (entryKey e, e.name)) := by
  intro st hst
  have i := runOps_copies_first_inv S ems he cps _ outs pool hc (by
    intro s hs
    simp only [List.mem_singleton] at hs
    subst hs
    exact ⟨rfl, rfl, rfl⟩) h st hst
  exact ⟨i.once, i.toNameEq⟩

/-! ### the value of the generated C on the integer fragment -/

/-- **Generated C computes the evaluator's value (integer fragment).**  Let `e` be in `intFrag`
(integer constants, variables, sums incl. the `a + -1*b ⇒ a - b` rewrite, products of at least two
factors none of which is a remainder, floor division printed `(a/b)`, remainder whose divisor is
not a power, `x**2` printed `x * x`), let `denN env e = some v`: the evaluation succeeds on integer
variables with every `//` and `%` applied to a non-negative dividend and a positive divisor
(unbounded ints: no overflow).  Then for EVERY allocator state, the structure the mapper prints
denotes `v` under C's reading of its text (left-associative chains, truncating `/` and `%`), and
`v` is the evaluator's value. -/
theorem ccode_value_int_partial (hS : S.sum < S.product ∧ S.product < S.power) (env : Env)
    (e : Expr) (st : CSt) (d : Doc) (refs : List String) (st' : CSt) (v : Int)
    (hfrag : intFrag e = true) (hrun : ccode S st e = .ok (d, refs, st'))
    (hv : denN env e = some v) :
    denC env d = some v ∧ den env e = .ok (.int v) :=
  ⟨value_denC env S false hS (fun h => by cases h) e st d refs st' (.i v)
      (intFrag_cFragM e hfrag) hrun (denN_denV env e v hv),
    denN_sound env e v hv⟩

/-- **C's grammar groups the emitted text as the tree** (fragment `cFrag`).  Let `e` be in `cFrag`:
the arithmetic part of `intFrag`, shifts, comparisons whose operands are not bitwise operations,
`&`/`^`/`|`/`and`/`or` of at least two operands, `not`, `~`, `If` (printed `(c ? t : e)`), `Min`/`Max`
of two operands (printed `min(a, b)`), nested in any way.  Then for EVERY allocator state and
whatever the values are, the emitted structure `d` is well formed for C's ten levels of
left-associative binary operators (`cwf`): every infix operator has, to its left, only exposed
operators binding at least as tightly and, to its right, only operators binding tighter or
regroupable ones of its own level (`+ -`, `*`, `&`, `^`, `|`, `&&`, `||`), and prefix operators are
applied to primaries — the parentheses the mapper writes are sufficient. -/
theorem ccode_parens_sufficient (hS : PrecA S ∧ PrecB S) (e : Expr) (st : CSt) (d : Doc)
    (refs : List String) (st' : CSt) (hfrag : cFrag e = true)
    (hrun : ccode S st e = .ok (d, refs, st')) : cwf d = true :=
  (value_core [] S true hS.1 (fun _ => hS.2) _ st e _ d refs st' hfrag hrun).1.wf

/-- **C's reading of a well-formed text is the value of its tree**: grouping the flat chain of
primaries and binary operators around the last operator of the lowest precedence (C99 6.5.5 –
6.5.14), with short-circuit `&&`/`||` and lazy `?:`, gives the value obtained by evaluating the
structure node by node. -/
theorem c_reading_of_wellformed (env : Env) (d : Doc) (h : cwf d = true) :
    denC env d = denT env d := denC_eq_denT env d h

/-- **Generated C computes the evaluator's value (C-expressible integer fragment).**  Let `e` be
in `cFrag` and let `denV env e = some w`: the evaluation succeeds on integer variables with every
`//` and `%` applied to a non-negative dividend and a positive divisor, every `<<`/`>>` to a
non-negative value and an amount in `0 … 4096`, every `&`, `^`, `|` to non-negative operands,
`and`/`or`/`If` evaluating only the operands Python evaluates (unbounded ints: no overflow).  Then
for EVERY allocator state the text the mapper emits denotes, under C's reading (ten levels of
left-associative binary operators, truncating `/` `%`, 0/1-valued comparisons and `!`,
short-circuit `&&`/`||`, lazy `?:`, `min`/`max` of two ints), the number `w.toInt`, and `w` is the
evaluator's value: the same int where Python has an int, and 1 / 0 where Python has `True` /
`False`. -/
theorem ccode_value_c_partial (hS : PrecA S ∧ PrecB S) (env : Env) (e : Expr) (st : CSt) (d : Doc)
    (refs : List String) (st' : CSt) (w : CVal) (hfrag : cFrag e = true)
    (hrun : ccode S st e = .ok (d, refs, st')) (hv : denV env e = some w) :
    denC env d = some w.toInt ∧ den env e = .ok w.toValue :=
  ⟨value_denC env S true hS.1 (fun _ => hS.2) e st d refs st' w hfrag hrun hv,
    denV_sound env e w hv⟩

/-- the precedence table of the repository satisfies the hypothesis -/
theorem printPrec_ok : Generated.printPrec.sum < Generated.printPrec.product ∧
    Generated.printPrec.product < Generated.printPrec.power := by decide +kernel

/-- … and the hypothesis of `cFrag`: Python's order of all levels -/
theorem printPrec_ok_full : PrecA Generated.printPrec ∧ PrecB Generated.printPrec := by
  unfold PrecA PrecB
  decide +kernel

/-- the text and the C value (`denC`) of what the mapper emits for `e` in a fresh state -/
def cText (e : Expr) : Option String :=
  match ccode Generated.printPrec {} e with
  | .ok (d, _, _) => some d.render
  | .error _ => none

def cValue (env : Env) (e : Expr) : Option Int :=
  match ccode Generated.printPrec {} e with
  | .ok (d, _, _) => denC env d
  | .error _ => none

def envABC : Env := [("a", .int 7), ("b", .int 3), ("c", .int 2), ("x", .int 2)]

/-- **false for a remainder operand of a product**: `a * (b % c)` is emitted as `a * b % c`, which C
reads as `(a * b) % c`: 1 instead of 7. -/
theorem ccode_value_int_cex :
    ∃ (env : Env) (e : Expr), cText e = some "a * b % c" ∧ den env e = .ok (.int 7) ∧
      cValue env e = some 1 := by
  refine ⟨envABC, .nary .prod [.var "a", .bin .rem (.var "b") (.var "c")], by decide +kernel, ?_, by decide +kernel⟩
  exact denN_sound _ _ 7 (by decide +kernel)

/-- **false for `x**2` as a divisor**: `a % x**2` is emitted as `a % x * x`, which C reads as
`(a % x) * x`: 2 instead of 3. -/
theorem ccode_value_int_pow_cex :
    ∃ (env : Env) (e : Expr), cText e = some "a % x * x" ∧ den env e = .ok (.int 3) ∧
      cValue env e = some 2 := by
  refine ⟨envABC, .bin .rem (.var "a") (.bin .pow (.var "x") (.const (.int 2))), by decide +kernel, ?_,
    by decide +kernel⟩
  exact denN_sound _ _ 3 (by decide +kernel)

/-- non-vacuity of `ccode_value_int_partial`: sorting, the subtraction rewrite, `x * x`, `(a/b)`
and `%` all occur; text and value as computed by gcc -/
example :
    let e : Expr := .nary .sum [.var "c", .nary .prod [.const (.int (-1)), .var "b"],
      .bin .floordiv (.nary .prod [.var "a", .bin .pow (.var "x") (.const (.int 2))])
        (.nary .sum [.var "b", .const (.int 1)]),
      .bin .rem (.var "a") (.var "b")]
    intFrag e = true ∧ denN envABC e = some 7 ∧
      cText e = some "c + a % b + (a * x * x/(b + 1)) - b" ∧ cValue envABC e = some 7 := by
  decide +kernel

/-! ### the fragment `cFrag`: witnesses and non-vacuity -/

def envBits : Env := [("a", .int 6), ("b", .int 3), ("c", .int 5), ("x", .int 5)]

/-- **false for a bitwise operand of a comparison**: `(a & b) < c` is emitted as `a & b < c` (Python's
precedences), which C reads as `a & (b < c)`: 0 instead of `True`; likewise for `|` and `^`. -/
theorem ccode_value_c_cmp_bitwise_cex :
    (∃ (env : Env) (e : Expr), cText e = some "a & b < c" ∧ den env e = .ok (.bool true) ∧
      cValue env e = some 0) ∧
    (∃ (env : Env) (e : Expr), cText e = some "c | b < a" ∧ den env e = .ok (.bool false) ∧
      cValue env e = some 5) ∧
    (∃ (env : Env) (e : Expr), cText e = some "a ^ b < c" ∧ den env e = .ok (.bool false) ∧
      cValue env e = some 7) := by
  refine ⟨⟨envBits, .cmp .lt (.nary .band [.var "a", .var "b"]) (.var "c"), by decide +kernel, ?_, by decide +kernel⟩,
    ⟨envBits, .cmp .lt (.nary .bor [.var "c", .var "b"]) (.var "a"), by decide +kernel, ?_, by decide +kernel⟩,
    ⟨envBits, .cmp .lt (.nary .bxor [.var "a", .var "b"]) (.var "c"), by decide +kernel, ?_, by decide +kernel⟩⟩
  · exact denV_sound _ _ (.b true) (by decide +kernel)
  · exact denV_sound _ _ (.b false) (by decide +kernel)
  · exact denV_sound _ _ (.b false) (by decide +kernel)

/-- **false for `and` / `or` of one operand**: `LogicalAnd((x,))` is emitted as `x`: 5 in C, `True` for
the evaluator (`all([5])`). -/
theorem ccode_value_c_one_operand_cex :
    ∃ (env : Env) (e : Expr), cText e = some "x" ∧ den env e = .ok (.bool true) ∧
      cValue env e = some 5 := by
  refine ⟨envBits, .nary .land [.var "x"], by decide +kernel, ?_, by decide +kernel⟩
  exact denV_sound _ _ (.b true) (by decide +kernel)

set_option maxRecDepth 16000 in
/-- non-vacuity of `ccode_value_c_partial` / `ccode_parens_sufficient`: every shape of `cFrag` beyond the arithmetic ones occurs
(comparison, `?:`, `&&`, `||`, `!`, `~`, `&`, `^`, `|`, shifts, `min`, `max`, nested chains of one
level); text and value as computed by gcc; the `and` does not evaluate `a // (x - 5)` -/
example :
    let e : Expr := .ite
      (.nary .land [.cmp .ne (.var "x") (.const (.int 5)),
        .cmp .gt (.bin .floordiv (.var "a") (.nary .sum [.var "x", .const (.int (-5))])) (.const (.int 1))])
      (.const (.int 0))
      (.nary .sum [
        .nary .bor [.nary .band [.var "a", .nary .band [.var "b", .var "c"]],
                    .nary .bxor [.var "a", .bin .lshift (.var "b") (.const (.int 2))]],
        .nary .prod [.un .lnot (.nary .lor [.cmp .le (.var "a") (.var "b"), .un .lnot (.var "c")]),
                     .un .bnot (.bin .rshift (.var "a") (.const (.int 1)))],
        .nary .min [.var "a", .nary .max [.var "b", .bin .rem (.var "c") (.const (.int 3))]],
        .cmp .eq (.cmp .lt (.var "b") (.var "a")) (.const (.int 1))])
    cFrag e = true ∧ denV envBits e = some (.i 10) ∧
      cText e = some "(x != 5 && (a/(x + -5)) > 1 ? 0 : min(a, max(b, c % 3)) + (a & b & c | a ^ b << 2) + ((b < a) == 1) + !(a <= b || !c) * ~(a >> 1))" ∧
      cValue envBits e = some 10 ∧
      (match ccode Generated.printPrec {} e with
        | .ok (d, _, _) => cwf d
        | .error _ => false) = true := by
  decide +kernel

/-! non-vacuity: a history with shared wrappers, repeated prefixes, equal children under different
prefixes and an unprefixed wrapper succeeds, with the names Python produces -/
example :
    (match emits Generated.printPrec {}
        [.nary .sum [.cse xPlus1 (some "u") "s", .cse xPlus1 (some "v") "s",
                      .cse (.var "y") (some "u") "s", .cse (.var "z") none "s"],
         .cse (.var "a") (some "u_2") "s"] with
      | .ok (outs, st) => (outs.map (·.1), st.assigned)
      | .error _ => ([], [])) =
    (["_cse_u_2 + _cse_u + _cse_u + _cse0", "_cse_u_2_2"],
     ["_cse_u", "_cse_u_2", "_cse0", "_cse_u_2_2"]) := by decide +kernel

end PV.C14
