import PV.Properties.C02Table
import PV.Model.EvalProc
/-
  C02 — the meaning of an expression is a function of the expression and the environment ONLY:
  process histories (many evaluator objects, different environments), variables of any name,
  common subexpressions of any scope.
-/
namespace PV.C02
open PV

variable {U : Expr → Prop}

/-- every long-lived instance `k` (built around the environment `envOf k`) has sound caches -/
def ProcInv (U : Expr → Prop) (envOf : Nat → Env) (ps : ProcState) : Prop :=
  ∀ k s, (k, s) ∈ ps → EvInv (envOf k) U s

theorem procInv_empty (envOf : Nat → Env) : ProcInv U envOf [] := by
  intro k s h; simp at h

theorem stateOf_inv {envOf : Nat → Env} :
    ∀ (ps : ProcState), ProcInv U envOf ps → ∀ k, EvInv (envOf k) U (ProcState.stateOf ps k)
  | [], _, _ => evInv_empty
  | (k', s) :: rest, h, k => by
      simp only [ProcState.stateOf]
      by_cases hk : k' = k
      · simp only [hk, if_true]
        exact h k s (by simp [hk])
      · simp only [hk, if_false]
        exact stateOf_inv rest (fun k s hm => h k s (by simp [hm])) k

/-- **Process histories.**  Whatever was evaluated before in the same process — by fresh objects
(`evaluate`, `evaluate_kw`, a new mapper) in any environments, or on long-lived instances that each
keep their own environment — every evaluation, plain or memoizing, returns the standard meaning of
ITS expression in ITS environment (value or error). -/
theorem process_history_eq_den (hU : Universe U) (envOf : Nat → Env) :
    ∀ (steps : List ProcStep) (ps : ProcState),
      (∀ st ∈ steps, U st.e) →
      (∀ st ∈ steps, ∀ k, st.inst = some k → st.env = envOf k) →
      ProcInv U envOf ps →
      runProc steps ps = steps.map fun st => den st.env st.e
  | [], _, _, _, _ => rfl
  | st :: rest, ps, hUs, henv, hps => by
      obtain ⟨hUst, hUrest⟩ := List.forall_mem_cons.1 hUs
      obtain ⟨henvst, henvrest⟩ := List.forall_mem_cons.1 henv
      have hrest := fun ps' => process_history_eq_den hU envOf rest ps' hUrest henvrest
      simp only [runProc] at hrest ⊢
      cases hi : st.inst with
      | none =>
        obtain ⟨s', h1, _⟩ := evalG_eq_den (env := st.env) hU st.cached st.e hUst {} evInv_empty
        simp only [runProcWith, hi, h1, List.map_cons]
        rw [hrest ps hps]
      | some k =>
        have hek : st.env = envOf k := henvst k hi
        obtain ⟨s', h1, i1⟩ := evalG_eq_den (env := st.env) hU st.cached st.e hUst
          (ProcState.stateOf ps k) (hek ▸ stateOf_inv ps hps k)
        simp only [runProcWith, hi, h1, List.map_cons]
        rw [hrest ((k, s') :: ps) fun k2 s2 hm => by
          rcases List.mem_cons.1 hm with e | hm
          · cases e; exact hek ▸ i1
          · exact hps k2 s2 hm]

/-- model = table, run, over process histories -/
theorem runProc_eq_table_current (steps : List ProcStep) (ps : ProcState) :
    runProc steps ps = c02RunProcT tableCurrent steps ps := by
  have h : evalG = c02EvalGT tableCurrent := by
    funext c env e; exact evalG_eq_table_current c env e
  simp only [runProc, c02RunProcT, h]

/-- the evaluator described by the CURRENT SOURCE, over any process history -/
theorem process_history_table_eq_den_current (hU : Universe U) (envOf : Nat → Env)
    (steps : List ProcStep) (ps : ProcState) (hUs : ∀ st ∈ steps, U st.e)
    (henv : ∀ st ∈ steps, ∀ k, st.inst = some k → st.env = envOf k) (hps : ProcInv U envOf ps) :
    c02RunProcT tableCurrent steps ps = steps.map fun st => den st.env st.e := by
  rw [← runProc_eq_table_current]
  exact process_history_eq_den hU envOf steps ps hUs henv hps

/-- A missing variable — of ANY name — is reported as the unknown-variable error naming it, by the
plain and the memoizing evaluator, from any (sound) evaluator state. -/
theorem missing_var_reported (hU : Universe U) {env : Env} (cached : Bool) (x : String)
    (hx : env.get x = none) (hv : U (.var x)) (s : EvState) (hs : EvInv env U s) :
    (evalG cached env (.var x) s).1 = .error (.unknownVar x) := by
  obtain ⟨s', h1, _⟩ := evalG_eq_den hU cached (.var x) hv s hs
  rw [h1]; exact unknown_var_named x hx

/-- … and a name the caller binds means the caller's value. -/
theorem bound_var_value (hU : Universe U) {env : Env} (cached : Bool) (x : String) (v : Value)
    (hx : env.get x = some v) (hv : U (.var x)) (s : EvState) (hs : EvInv env U s) :
    (evalG cached env (.var x) s).1 = .ok v := by
  obtain ⟨s', h1, _⟩ := evalG_eq_den hU cached (.var x) hv s hs
  rw [h1]; simp [den, hx]; rfl

/-- A common subexpression of ANY scope and prefix means its child, through the evaluator as
coded, from any (sound) evaluator state. -/
theorem cse_any_scope_means_child (hU : Universe U) {env : Env} (cached : Bool) (c : Expr)
    (p : Option String) (sc : String) (hc : U (.cse c p sc)) (s : EvState) (hs : EvInv env U s) :
    (evalG cached env (.cse c p sc) s).1 = den env c := by
  obtain ⟨s', h1, _⟩ := evalG_eq_den hU cached (.cse c p sc) hc s hs
  rw [h1]; exact cse_means_child c p sc

/-- Non-vacuity: the same "global"-scope common subexpression evaluated by three objects in three
environments (one of them a long-lived memoizing instance used twice, one environment lacking the
variable) gives the meaning in each step's own environment. -/
example :
    let cse := Expr.cse (.nary .sum [.var "x", .const (.int 1)]) none "pymbolic_global"
    runProc [⟨none, true, [("x", .int 2)], cse⟩, ⟨some 0, true, [("x", .int 5)], cse⟩,
             ⟨none, false, [("x", .int 7)], cse⟩, ⟨some 0, true, [("x", .int 5)], cse⟩,
             ⟨none, true, [("math", .int 0)], cse⟩] []
      = [.ok (.int 3), .ok (.int 6), .ok (.int 8), .ok (.int 6), .error (.unknownVar "x")] := by
  rfl

end PV.C02
