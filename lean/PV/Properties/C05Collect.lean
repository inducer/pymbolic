/-
  PV/Properties/C05Collect.lean — C05, "any mapper class rewritten by the mapper optimizer returns
  exactly what its counterpart returns": the first step of `optimize_mapper`, gathering the methods
  of the class it flattens (model: `PV/Model/OptCollect.lean`).

  The flattened class must bind every method name to the body of the function that Python's
  attribute look-up resolves the name to ON THE CLASS AS WRITTEN.  In particular a name that a base
  class publishes as an alias (`map_product = map_sum` in `IdentityMapper`) stays bound to the BASE
  class's function when the user class overrides `map_sum`.

  * `flat_resolves`: the gathering loop of the model has that property for every class (any own
    definitions, any `dir` with distinct names, class-level assignments that agree with `dir`);
  * `collect_by_def_name_cex`, `collect_aliasing_cex`: two plausible short-cuts of the loop do not;
  * `collect_current`, `flattened_resolves_current`: the class bodies the LIVE `optimize_mapper()`
    emits for user classes of `harness/c05_subjects.py` (regenerated on every run by
    `extract/optcollect.py` into `PV/Generated/OptCollect.lean`) are the model's `collect` of the
    classes as written, and resolve every gathered name as Python does.
-/
import PV.Proofs.OptCollect
import PV.Generated.OptCollect

namespace PV.C05Collect
open PV.OptCollect

/-- **The flattened class resolves every gathered method name as Python resolves it on the class as
written** — for every class: any own definitions, any `dir(cls)` (names distinct), class-level
assignments that agree with it.  An alias of a base class keeps the base class's body even when the
class overrides the alias's target. -/
theorem flat_resolves {α : Type} (own : List (String × α)) (dir : List (DirRow α))
    (aliases : List (String × String)) (hd : dir.Pairwise (fun a b => a.name ≠ b.name))
    (ha : AliasesAgree dir aliases) (r : DirRow α) (hr : r ∈ dir) (ht : r.taken = true) :
    getD (flatNamespace (collect own dir) aliases) r.name = some r.body :=
  flatNamespace_keeps dir aliases _ ha (fun q hq hqt => collect_get dir own hd q hq hqt) r hr ht

/-- non-vacuity: a class that overrides `map_sum` (text 7) under a base class with
`map_product = map_sum` (text 3): products keep text 3 -/
example :
    let dir : List (DirRow Nat) := [⟨"map_product", false, 3, "map_sum"⟩, ⟨"map_sum", false, 7, "map_sum"⟩]
    getD (flatNamespace (collect [("map_sum", 7)] dir) []) "map_product" = some 3 ∧
    getD (flatNamespace (collect [("map_sum", 7)] dir) []) "map_sum" = some 7 := by
  decide +kernel

/-- … and a class that declares `map_max = map_sum` itself gets its own text for both -/
example :
    let dir : List (DirRow Nat) := [⟨"map_max", false, 7, "map_sum"⟩, ⟨"map_min", false, 4, "map_min"⟩,
                                   ⟨"map_sum", false, 7, "map_sum"⟩]
    getD (flatNamespace (collect [("map_sum", 7)] dir) [("map_max", "map_sum")]) "map_max" = some 7 := by
  decide +kernel

/-! ### two short-cuts that are not the loop -/

/-- **Re-using a definition collected under the function's `__name__` is wrong**: with the user's
`map_sum` already in `method_defs`, the base class's alias `map_product` (whose function is called
`map_sum` too) is given the user's text. -/
theorem collect_by_def_name_cex :
    ∃ (own : List (String × Nat)) (dir : List (DirRow Nat)) (r : DirRow Nat),
      r ∈ dir ∧ r.taken = true ∧ dir.Pairwise (fun a b => a.name ≠ b.name) ∧
      getD (collectByDefName own dir) r.name ≠ some r.body ∧
      getD (collect own dir) r.name = some r.body :=
  ⟨[("map_sum", 7)],
   [⟨"map_product", false, 3, "map_sum"⟩, ⟨"map_sum", false, 7, "map_sum"⟩],
   ⟨"map_product", false, 3, "map_sum"⟩, by decide +kernel⟩

/-- **Emitting `alias = <__name__>` assignments instead of separate definitions is wrong**: in the
flattened body the name `map_sum` is the user's override, not the base class's function the alias
pointed to. -/
theorem collect_aliasing_cex :
    ∃ (own : List (String × Nat)) (dir : List (DirRow Nat)) (r : DirRow Nat),
      r ∈ dir ∧ r.taken = true ∧ dir.Pairwise (fun a b => a.name ≠ b.name) ∧
      getD (flatNamespace (collectAliasing own dir).1 (collectAliasing own dir).2) r.name
        ≠ some r.body :=
  ⟨[("map_sum", 7)],
   [⟨"map_product", false, 3, "map_sum"⟩, ⟨"map_sum", false, 7, "map_sum"⟩],
   ⟨"map_product", false, 3, "map_sum"⟩, by decide +kernel⟩

/-! ### T-gen: what the live optimizer emits -/

open PV.Generated

/-- every regenerated row passes `ClassRow.checked`, and one of them overrides an alias target -/
theorem rows_current :
    c05CollectRows.all ClassRow.checked = true ∧
    c05CollectRows.any (fun c =>
      c.dir.any (fun r => r.name == "map_product" && r.defName == "map_sum" &&
        c.dir.any (fun q => q.name == "map_sum" && q.body != r.body))) = true := by
  decide +kernel

/-- **The method gathering of the current source is `collect`.**  For each user class read by
`extract/optcollect.py`: the definitions of the class body that the live `optimize_mapper()` emitted
answer every name like the model's loop run on the class as written (its own definitions, `dir(cls)`
with what `getattr` resolves), the class-level assignments are carried over unchanged, `dir` lists
every name once and the assignments of the body agree with it (the hypotheses of `flat_resolves`).
A gathering loop that takes the body for a name from anywhere else than the resolved function
changes the regenerated table and breaks this theorem. -/
theorem collect_current :
    c05CollectRows.all (fun c =>
      agreeD c.flatDefs (collect c.own c.dir) && decide (c.flatAliases = c.aliases)
        && distinctNames c.dir && aliasesAgreeB c.dir c.aliases) = true :=
  List.all_eq_true.2 fun c hc => (c.of_checked (List.all_eq_true.1 rows_current.1 c hc)).1

/-- **Every class the live optimizer rewrote binds every gathered method name to the body Python
resolves on the class as written** (base-class aliases of an overridden handler included):
`flatNamespace_keeps` on the emitted definitions, which are the gathered rows. -/
theorem flattened_resolves_current :
    c05CollectRows.all (fun c => resolvesB (flatNamespace c.flatDefs c.flatAliases) c.dir) = true :=
  List.all_eq_true.2 fun c hc => (c.of_checked (List.all_eq_true.1 rows_current.1 c hc)).2

/-- non-vacuity: the tables hold classes that override an alias target (`map_sum` under
`map_product = map_sum`), with the alias bound to another text than the override -/
theorem collect_rows_nontrivial :
    c05CollectRows.any (fun c =>
      c.dir.any (fun r => r.name == "map_product" && r.defName == "map_sum" &&
        c.dir.any (fun q => q.name == "map_sum" && q.body != r.body))) = true :=
  rows_current.2

end PV.C05Collect
