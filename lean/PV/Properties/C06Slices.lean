import PV.Properties.C06
/-
  C06 — slices as expressions in their own right, with an OMITTED LAST BOUND.

  The fragment of `roundtrip_partial` admits omitted slice parts everywhere except in the last
  place (`PrintableSlice`), so the general theorem says nothing about `a:`, `a:b:`, `:b:`.  These
  are exactly the slices after whose last colon the printer writes the FOLLOWER of the slice:
  `)` (last call argument, last keyword value, last tuple element, every parenthesised operand),
  `,` (an earlier argument / element), `]` (index, list element) or the end of the text — and the
  parser decides from that follower whether a bound follows the colon (it parses speculatively on a
  copy of the lexer state and falls back to "no bound").

  What is proved here, on the executable models with the precedence tables regenerated from the
  code (the parser model is tied to `pymbolic/parser.py` by `PV.C07.parser_table_current`, the
  printer by `PV.C06.strE_eq_table_current`): for EVERY context of the finite list `sliceCtxs`
  (every operator on either side, unary operators, branches and condition of a conditional, callee,
  aggregate, look-up, every argument / keyword / element / index position, nested ones) and EVERY
  expressible slice shape with two or three parts (`sliceShapes`: each part present or omitted, not
  two omitted parts at the end), the printed text of the context holding the slice is read back
  by the parser model (whole input, real fuel) as the same tree.
-/
namespace PV.C06
open PV PV.Syntax PV.Generated PV.Lexer

/-- `str(e)` is read back as `e` itself (decidable form of `Reparses P S e e`) -/
def roundtripsB (P : ParserPrec) (S : PrintPrec) (e : Expr) : Bool :=
  match strTop S e with
  | .ok ps =>
    match parseTop P 0 (toks ps) with
    | .ok e' => Expr.beq e' e
    | .error _ => false
  | .error _ => false

/-- the decidable form is the statement about printed text and parser -/
theorem reparses_of_roundtripsB {P : ParserPrec} {S : PrintPrec} {e : Expr}
    (h : roundtripsB P S e = true) : ∃ e', Reparses P S e e' ∧ Expr.beq e' e = true := by
  unfold roundtripsB at h
  split at h
  · rename_i ps hps
    split at h
    · rename_i e' he'
      exact ⟨e', ⟨ps, hps, he'⟩, h⟩
    · exact absurd h (by simp)
  · exact absurd h (by simp)

section slices
private abbrev a : Expr := .var "a"
private abbrev b : Expr := .var "b"
private abbrev c : Expr := .var "c"
private abbrev d : Expr := .var "d"
private abbrev e : Expr := .var "e"
private abbrev f : Expr := .var "f"
private abbrev g : Expr := .var "g"
private abbrev non : Expr := .const .none

/-- every slice of two or three parts the text can express (a slice ending in two omitted parts
prints like the slice one part shorter: `slice_trailing_omitted_cex`); the first six have a
PRESENT last bound (inside the fragment of `roundtrip_partial`), the last three (`openEndSlices`)
an OMITTED one -/
def sliceShapes : List Expr :=
  [.slice [a, b], .slice [non, b], .slice [a, b, e], .slice [a, non, e], .slice [non, b, e],
   .slice [non, non, e],
   .slice [a, non], .slice [a, b, non], .slice [non, b, non]]

/-- the slices with an omitted last bound -/
def openEndSlices : List Expr := [.slice [a, non], .slice [a, b, non], .slice [non, b, non]]

/-- the places of the text syntax a slice can stand in, by what follows it in the printed text -/
def sliceCtxs : List (Expr → Expr) :=
  [ fun s => s,                                            -- end of the text
    -- `)`: parenthesised operand of every operator, on either side
    fun s => .nary .sum [s, c], fun s => .nary .sum [c, s], fun s => .nary .sum [c, s, d],
    fun s => .nary .prod [s, c], fun s => .nary .prod [c, s],
    fun s => .bin .quot s c, fun s => .bin .quot c s,
    fun s => .bin .floordiv s c, fun s => .bin .floordiv c s,
    fun s => .bin .rem s c, fun s => .bin .rem c s,
    fun s => .bin .pow s c, fun s => .bin .pow c s,
    fun s => .bin .lshift s c, fun s => .bin .lshift c s,
    fun s => .bin .rshift s c, fun s => .bin .rshift c s,
    fun s => .nary .bor [s, c], fun s => .nary .bor [c, s],
    fun s => .nary .bxor [s, c], fun s => .nary .bxor [c, s],
    fun s => .nary .band [s, c], fun s => .nary .band [c, s],
    fun s => .nary .lor [s, c], fun s => .nary .lor [c, s],
    fun s => .nary .land [s, c], fun s => .nary .land [c, s],
    fun s => .cmp .lt s c, fun s => .cmp .lt c s, fun s => .cmp .eq s c, fun s => .cmp .eq c s,
    fun s => .un .bnot s, fun s => .un .lnot s,
    fun s => .nary .prod [.const (.int (-1)), s],
    fun s => .ite s c d, fun s => .ite c s d, fun s => .ite c d s,
    fun s => .call s [c], fun s => .call s [], fun s => .subscript s c, fun s => .lookup s "u",
    -- `)` directly after the bare slice: last argument, last keyword value, last element
    fun s => .call f [s], fun s => .call f [c, s], fun s => .call f [c, d, s],
    fun s => .callKw f [] ["k"] [s], fun s => .callKw f [c] ["k"] [s],
    fun s => .callKw f [] ["k", "l"] [d, s],
    fun s => .tuple [c, s], fun s => .tuple [c, d, s], fun s => .call f [.tuple [c, s]],
    fun s => .subscript g (.call f [c, s]), fun s => .nary .sum [.call f [s], c],
    -- `,` after the bare slice: an earlier argument / keyword value / element
    fun s => .call f [s, c], fun s => .call f [c, s, d], fun s => .callKw f [s] ["k"] [d],
    fun s => .callKw f [c] ["k", "l"] [s, d], fun s => .tuple [s], fun s => .tuple [s, c],
    fun s => .tuple [c, s, d], fun s => .subscript g (.tuple [s, c]), fun s => .list [s, c],
    -- `]` after the bare slice: index, last index element, list element
    fun s => .subscript g s, fun s => .subscript g (.tuple [c, s]), fun s => .list [s],
    fun s => .list [c, s] ]

/-- **open-ended slices round-trip in every context** (models, regenerated tables): for each of
the 66 contexts and each of the 9 expressible slice shapes, `parse(str(ctx(slice)))` is
`ctx(slice)` itself — whichever of `)`, `,`, `]`, end of text follows the slice's last colon. -/
theorem slice_contexts_roundtrip_current :
    ∀ ctx ∈ sliceCtxs, ∀ s ∈ sliceShapes, roundtripsB parserPrec printPrec (ctx s) = true := by
  decide +kernel

/-- every tree of the family is lexically safe (the names are plain identifiers) -/
theorem slice_contexts_lexsafe_current :
    ∀ ctx ∈ sliceCtxs, ∀ s ∈ sliceShapes, LexSafe printPrec (ctx s) = true := by
  decide +kernel

/-- the same on STRINGS (`parseStringWith lexTable` = `Parser.__call__`: the table-driven lexer on
the REGENERATED rule table, then the parser): `f(a:)`, `(a:) + c`, `g[c, a:b:]`, … are lexed into
the printer's tokens (`lex_render`) and parsed back to the tree -/
theorem slice_contexts_roundtrip_string_current :
    ∀ ctx ∈ sliceCtxs, ∀ s ∈ sliceShapes, ∃ ps e',
      strTop printPrec (ctx s) = .ok ps ∧
      parseStringWith lexTable parserPrec 0 (render ps) = .ok e' ∧ Expr.beq e' (ctx s) = true := by
  intro ctx hc s hs
  obtain ⟨e', ⟨ps, hps, he'⟩, hb⟩ :=
    reparses_of_roundtripsB (slice_contexts_roundtrip_current ctx hc s hs)
  have hl := slice_contexts_lexsafe_current ctx hc s hs
  refine ⟨ps, e', hps, ?_, hb⟩
  rw [lex_table_current, parseStringWith_of_lex (lex_render hl hps), he']
  rfl

/-- one instance spelt out: `f(a:)` (an open-ended slice as the last call
argument: the closing parenthesis follows the colon) reads back as itself -/
example : roundtripsB parserPrec printPrec (.call f [.slice [a, non]]) = true := by decide +kernel

/-- non-vacuity: the same check REFUSES a tree that does not come back (`v[a::]`, a slice with two
omitted parts at the end, reads back one part shorter) -/
theorem slice_trailing_omitted_not_roundtrips :
    roundtripsB parserPrec printPrec (.subscript g (.slice [a, non, non])) = false := by
  decide +kernel

/-- every open-ended slice of `openEndSlices` is OUTSIDE the fragment of `roundtrip_partial` (so
`slice_contexts_roundtrip_current` is not an instance of it) while the closed ones are inside -/
theorem open_end_outside_fragment_current :
    (∀ s ∈ openEndSlices, InFragment parserPrec printPrec (.call f [s]) = false) ∧
    InFragment parserPrec printPrec (.call f [.slice [a, b]]) = true := by
  decide +kernel

end slices
end PV.C06
