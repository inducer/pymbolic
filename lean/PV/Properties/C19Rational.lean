import PV.Properties.C19Table
import PV.Proofs.RationalTablePy2
import PV.Proofs.RationalTablePy3
import PV.Proofs.RationalValue
/-!
  C19 — `pymbolic.rational.Rational` arithmetic and `pymbolic.primitives.quotient`:
  "… and the exact quotient node built from two integers evaluates to their quotient."

  The bodies of `Rational.__add__ / __radd__ / __sub__ / __rsub__ / __mul__ / __rmul__ / __div__ /
  __rdiv__ / __pow__ / __neg__ / reciprocal`, of `primitives.quotient` and of
  `EvaluationMapper.map_quotient` are part of the table `tableCurrent`, re-read from the source on
  every run (extract/algorithm.py).  What they compute depends on the meaning of `/` on two ints:

  * **Python 3 (what runs today).**  `/` is true division: the constructor stores two FLOATS,
    `traits(float)` is `FieldTraits()`, a class without `gcd`, `lcm`, `get_unit`.  Section 3 proves,
    on the table as regenerated, that EVERY arithmetic method of a `Rational` with float fields
    raises `AttributeError` (`rational_*_py3_raises`) — whatever the operand.  What does work:
    `quotient(a, b)` builds the object (`quotient_int_eq_table_current`), and evaluating it
    (`map_quotient`) gives the float `a/b` (`quotient_int_evaluates_current`, idealised: a float
    is the exact fraction it was computed as), as does the `Quotient(a, b)` node
    (`quotient_node_evaluates_current`).
  * **Python 2 (what the file was written for).**  `int / int` is floor division.
    `tablePy2Current = tableCurrent.py2` is the SAME table with every `/` read as `//` (a
    syntactic map, PV/Model/RationalOps.lean; `truediv_sites_current` lists the functions it
    touches).  Section 1 proves that the hand-written functions `ratInit … ratPow` ARE the table
    interpreter on that table, for all integer fields; section 2 proves what they compute in ℚ:
    `+ − × ÷` are the operations of ℚ on the values, every division is exact, sums are returned
    in lowest terms with a positive denominator, products of reduced operands are reduced —
    and three quirks: `__pow__` exchanges numerator and denominator (`rational_pow_inverted_cex`),
    division by zero is a `RuntimeError`, an integral sum may come back as `Rational(k, 1)`.

  The Python-2 reading is tied to the real source by the stream `rational-py2`
  (harness/props/c19.py): the files `rational.py` and `traits.py` of the tree under test with the
  same map `/` ↦ `//` applied to their syntax trees, run in a worker process.
-/

namespace PV.Properties.C19

open PV.Algo PV.Generated

/-- the regenerated table under the Python-2 reading of `/` -/
abbrev tablePy2Current : C19Table := tableCurrent.py2

/-- the functions of the current table in which a `/` occurs: exactly these are read differently
by Python 2 and Python 3 -/
theorem truediv_sites_current :
    tableCurrent.truedivSites = ["algorithm.ifft", "EuclideanRingTraits.lcm", "Rational.__init__",
      "Rational.__add__", "Rational.__radd__", "Rational.__mul__", "Rational.__rmul__",
      "EvaluationMapper.map_quotient"] := by
  rfl

/-- the Python-2 reading changes nothing else: no `/` is left, the names, kinds, parameters,
classes and the rule chain of `common_traits` are the same -/
theorem py2_reading_shape_current :
    tablePy2Current.truedivSites = [] ∧
      tablePy2Current.fns.map (·.name) = tableCurrent.fns.map (·.name) ∧
      tablePy2Current.fns.map (·.params) = tableCurrent.fns.map (·.params) ∧
      tablePy2Current.classes = tableCurrent.classes ∧
      tablePy2Current.commonTraits = tableCurrent.commonTraits :=
  ⟨by decide +kernel, C19Table.py2_names _, C19Table.py2_params _, rfl, rfl⟩

variable {α : Type}

/-! ## 1. Python-2 reading: the model IS the regenerated source -/

section
variable (ops : C19Ops α) (ext : String → List (C19V α) → C19R (C19V α))

/-- **`Rational.__init__`** (`/=` read as `//=`) IS `ratInit`: both fields divided by the sign of
the denominator, `RuntimeError` for a zero denominator, no reduction -/
theorem rational_init_py2_eq_table_current (num den : ℤ) (n : ℕ) :
    c19RunFn ops tablePy2Current ext (n + 1 + 1 + 1) "Rational.__init__"
        [.obj "Rational" [] [], .int num, .int den] = c19EncRatRes (ratInit num den) :=
  c19p2_rational_init_run ops ext num den n

/-- **`primitives.quotient` on two ints** IS `ratQuotient`: the numerator itself when
`denominator - 1` is zero, else `Rational(numerator, denominator)` (the common traits of two ints
are `IntegerTraits`, a Euclidean ring) — never the `Quotient` node -/
theorem quotient_int_py2_eq_table_current (num den : ℤ) (n : ℕ) :
    c19RunFn ops tablePy2Current ext (n + 1 + 1 + 1 + 1) "primitives.quotient" [.int num, .int den]
      = c19EncRatRes (ratQuotient num den) :=
  c19p2_quotient_run ops ext num den n

/-- **`Rational.__add__`** IS `ratAdd` on the fields of `self` and of the operand (`Rational(other)`
for a plain int): `lcm` of the denominators through `EuclideanRingTraits.lcm` →
`extended_euclidean`, the two cross products, the gcd of the new pair, `quotient` of the two
reduced numbers.  `N` bounds the two runs of Euclid's loop (`ratAddFuel`). -/
theorem rational_add_eq_table_current (n1 d1 : ℤ) (other : RatArg) (N : ℕ)
    (hN : ratAddFuel n1 d1 other.fields.1 other.fields.2 ≤ N) :
    c19RunFn ops tablePy2Current ext (N + 1) "Rational.__add__"
        [c19RatObj n1 d1, c19EncRatArg other]
      = c19EncRatRes (ratAdd n1 d1 other.fields.1 other.fields.2) :=
  c19p2_rational_add_run ops ext n1 d1 other N hN

/-- `__radd__ = __add__`: the same body under the other name -/
theorem rational_radd_eq_table_current (n1 d1 : ℤ) (other : RatArg) (N : ℕ)
    (hN : ratAddFuel n1 d1 other.fields.1 other.fields.2 ≤ N) :
    c19RunFn ops tablePy2Current ext (N + 1) "Rational.__radd__"
        [c19RatObj n1 d1, c19EncRatArg other]
      = c19EncRatRes (ratAdd n1 d1 other.fields.1 other.fields.2) :=
  c19p2_rational_radd_run ops ext n1 d1 other N hN

/-- **`Rational.__mul__`** IS `ratMul`: the two cross gcds, the four divisions, the plain numerator
when the new denominator is one -/
theorem rational_mul_eq_table_current (n1 d1 : ℤ) (other : RatArg) (N : ℕ)
    (hN : ratMulFuel n1 d1 other.fields.1 other.fields.2 ≤ N) :
    c19RunFn ops tablePy2Current ext (N + 1) "Rational.__mul__"
        [c19RatObj n1 d1, c19EncRatArg other]
      = c19EncRatRes (ratMul n1 d1 other.fields.1 other.fields.2) :=
  c19p2_rational_mul_run ops ext n1 d1 other N hN

theorem rational_rmul_eq_table_current (n1 d1 : ℤ) (other : RatArg) (N : ℕ)
    (hN : ratMulFuel n1 d1 other.fields.1 other.fields.2 ≤ N) :
    c19RunFn ops tablePy2Current ext (N + 1) "Rational.__rmul__"
        [c19RatObj n1 d1, c19EncRatArg other]
      = c19EncRatRes (ratMul n1 d1 other.fields.1 other.fields.2) :=
  c19p2_rational_rmul_run ops ext n1 d1 other N hN

/-- **`Rational.__sub__`** IS `ratSub`: `self.__add__(-other)` through the regenerated `__neg__`
and `__add__` -/
theorem rational_sub_eq_table_current (n1 d1 : ℤ) (other : RatArg) (N : ℕ)
    (hN : ratSubFuel n1 d1 other ≤ N) :
    c19RunFn ops tablePy2Current ext (N + 1) "Rational.__sub__"
        [c19RatObj n1 d1, c19EncRatArg other] = c19EncRatRes (ratSub n1 d1 other) := by
  rw [c19RunFn_succ ops c19TablePy2 ext _ _ _ _ _
    (c19TablePy2_reading.find c19_find_rational_sub (by rfl)) rfl]
  simp only [c19Fn_Rational___sub__]
  unfold ratSubFuel at hN
  unfold ratSub
  cases other with
  | int i =>
    simp only [ratNegArg] at hN ⊢
    obtain ⟨M, rfl⟩ : ∃ M, N = M + 1 := ⟨N - 1, by omega⟩
    have ha : c19RunFn ops c19TablePy2 ext (M + 1) "Rational.__add__"
        [c19RatObj n1 d1, .int (-i)] = c19EncRatRes (ratAdd n1 d1 (-i) 1) :=
      c19p2_rational_add_run ops ext n1 d1 (.int (-i)) M
        (by show ratAddFuel n1 d1 (-i) 1 ≤ M; omega)
    simp only [c19EncRatArg]
    c19_run [c19p2_Method_add, ha, c19_ofR_encRatRes, c19RetRes_andThen, c19EncRatRes_finish]
  | rat a b =>
    simp only [ratNegArg] at hN ⊢
    simp only [c19EncRatArg]
    have hneg : ∀ M, _ := c19p2_rational_neg_run ops ext a b
    rcases ratInit_cases (-a) b with ⟨a', b', hr⟩ | hr <;> simp only [ratNeg, hr] at hN hneg ⊢ <;>
      obtain ⟨M, rfl⟩ : ∃ M, N = M + 1 + 1 + 1 + 1 := ⟨N - 4, by omega⟩
    · have ha : c19RunFn ops c19TablePy2 ext (M + 1 + 1 + 1 + 1) "Rational.__add__"
          [c19RatObj n1 d1, c19RatObj a' b'] = c19EncRatRes (ratAdd n1 d1 a' b') :=
        c19p2_rational_add_run ops ext n1 d1 (.rat a' b') (M + 1 + 1 + 1)
          (by show ratAddFuel n1 d1 a' b' ≤ M + 1 + 1 + 1; omega)
      c19_run [c19p2_Neg_rat, hneg, c19EncRatRes_rat, c19p2_Method_add, ha, c19_ofR_encRatRes,
        c19RetRes_andThen, c19EncRatRes_finish]
    · c19_run [c19p2_Neg_rat, hneg, c19EncRatRes_raise]
      rfl

/-- **`Rational.__rsub__`** IS `ratRsub`: `(-self).__radd__(other)` -/
theorem rational_rsub_eq_table_current (n1 d1 : ℤ) (other : RatArg) (N : ℕ)
    (hN : ratRsubFuel n1 d1 other ≤ N) :
    c19RunFn ops tablePy2Current ext (N + 1) "Rational.__rsub__"
        [c19RatObj n1 d1, c19EncRatArg other] = c19EncRatRes (ratRsub n1 d1 other) := by
  rw [c19RunFn_succ ops c19TablePy2 ext _ _ _ _ _
    (c19TablePy2_reading.find c19_find_rational_rsub (by rfl)) rfl]
  simp only [c19Fn_Rational___rsub__]
  unfold ratRsubFuel at hN
  unfold ratRsub
  obtain ⟨M, rfl⟩ : ∃ M, N = M + 1 + 1 + 1 + 1 := ⟨N - 4, by revert hN; split <;> omega⟩
  have hneg := c19p2_rational_neg_run ops ext n1 d1 M
  rcases ratInit_cases (-n1) d1 with ⟨a', b', hr⟩ | hr <;>
    simp only [ratNeg, hr, RatRes.bind] at hN hneg ⊢
  · have ha := c19p2_rational_radd_run ops ext a' b' other (M + 1 + 1 + 1) (by omega)
    c19_run [c19p2_Neg_rat, hneg, c19EncRatRes_rat, c19p2_Method_radd, ha, c19_ofR_encRatRes,
      c19RetRes_andThen, c19EncRatRes_finish]
  · c19_run [c19p2_Neg_rat, hneg, c19EncRatRes_raise]
    rfl

/-- **`Rational.__div__`** (the `/` of Python 2) IS `ratDiv`:
`self.__mul__(Rational(other.Denominator, other.Numerator))` -/
theorem rational_div_eq_table_current (n1 d1 : ℤ) (other : RatArg) (N : ℕ)
    (hN : ratDivFuel n1 d1 other ≤ N) :
    c19RunFn ops tablePy2Current ext (N + 1) "Rational.__div__"
        [c19RatObj n1 d1, c19EncRatArg other] = c19EncRatRes (ratDiv n1 d1 other) := by
  rw [c19RunFn_succ ops c19TablePy2 ext _ _ _ _ _
    (c19TablePy2_reading.find c19_find_rational_div (by rfl)) rfl]
  simp only [c19p3_rational_div_body_current, show c19RatCoerceSelf3 = c19RatCoerceSelf from rfl]
  unfold ratDivFuel at hN
  unfold ratDiv
  obtain ⟨M, rfl⟩ : ∃ M, N = M + 1 + 1 + 1 := ⟨N - 3, by revert hN; split <;> omega⟩
  have hi := c19p2_rational_init_run ops ext other.fields.2 other.fields.1 M
  rw [c19ExecL_append, c19_coerce_self_run _ _ _ _ (c19p2_coerce ops ext M _ other),
    C19O.andThen_next]
  rcases ratInit_cases other.fields.2 other.fields.1 with ⟨a', b', hr⟩ | hr <;>
    simp only [hr, RatRes.bind] at hN hi ⊢
  · have hm : c19RunFn ops c19TablePy2 ext (M + 1 + 1 + 1) "Rational.__mul__"
        [c19RatObj n1 d1, c19RatObj a' b'] = c19EncRatRes (ratMul n1 d1 a' b') :=
      c19p2_rational_mul_run ops ext n1 d1 (.rat a' b') (M + 1 + 1)
        (by show ratMulFuel n1 d1 a' b' ≤ M + 1 + 1; omega)
    c19_run [c19p2_Attr_num, c19p2_Attr_den, c19p2_New_rational, hi, c19EncRatRes_rat,
      c19p2_Method_mul, hm, c19_ofR_encRatRes, c19RetRes_andThen, c19EncRatRes_finish]
  · c19_run [c19p2_Attr_num, c19p2_Attr_den, c19p2_New_rational, hi, c19EncRatRes_raise]
    rfl

/-- **`Rational.__rdiv__`** IS `ratRdiv` -/
theorem rational_rdiv_eq_table_current (n1 d1 : ℤ) (other : RatArg) (N : ℕ)
    (hN : ratRdivFuel n1 d1 other ≤ N) :
    c19RunFn ops tablePy2Current ext (N + 1) "Rational.__rdiv__"
        [c19RatObj n1 d1, c19EncRatArg other] = c19EncRatRes (ratRdiv n1 d1 other) := by
  rw [c19RunFn_succ ops c19TablePy2 ext _ _ _ _ _
    (c19TablePy2_reading.find c19_find_rational_rdiv (by rfl)) rfl]
  simp only [c19p3_rational_rdiv_body_current, show c19RatCoerceSelf3 = c19RatCoerceSelf from rfl]
  unfold ratRdivFuel at hN
  unfold ratRdiv
  obtain ⟨M, rfl⟩ : ∃ M, N = M + 1 + 1 + 1 := ⟨N - 3, by revert hN; split <;> omega⟩
  have hi := c19p2_rational_init_run ops ext d1 n1 M
  rw [c19ExecL_append, c19_coerce_self_run _ _ _ _ (c19p2_coerce ops ext M _ other),
    C19O.andThen_next]
  rcases ratInit_cases d1 n1 with ⟨a', b', hr⟩ | hr <;> simp only [hr, RatRes.bind] at hN hi ⊢
  · have hm : c19RunFn ops c19TablePy2 ext (M + 1 + 1 + 1) "Rational.__rmul__"
        [c19RatObj a' b', c19RatObj other.fields.1 other.fields.2]
        = c19EncRatRes (ratMul a' b' other.fields.1 other.fields.2) :=
      c19p2_rational_rmul_run ops ext a' b' (.rat other.fields.1 other.fields.2) (M + 1 + 1)
        (by show ratMulFuel a' b' other.fields.1 other.fields.2 ≤ M + 1 + 1; omega)
    c19_run [c19p2_Attr_num, c19p2_Attr_den, c19p2_New_rational, hi, c19EncRatRes_rat,
      c19p2_Method_rmul, hm, c19_ofR_encRatRes, c19RetRes_andThen, c19EncRatRes_finish]
  · c19_run [c19p2_Attr_num, c19p2_Attr_den, c19p2_New_rational, hi, c19EncRatRes_raise]
    rfl

/-- **`Rational.__neg__`** IS `ratNeg` -/
theorem rational_neg_eq_table_current (n d : ℤ) (m : ℕ) :
    c19RunFn ops tablePy2Current ext (m + 1 + 1 + 1 + 1) "Rational.__neg__" [c19RatObj n d]
      = c19EncRatRes (ratNeg n d) :=
  c19p2_rational_neg_run ops ext n d m

/-- **`Rational.reciprocal`** IS `ratReciprocal` -/
theorem rational_reciprocal_eq_table_current (n d : ℤ) (m : ℕ) :
    c19RunFn ops tablePy2Current ext (m + 1 + 1 + 1 + 1) "Rational.reciprocal" [c19RatObj n d]
      = c19EncRatRes (ratReciprocal n d) := by
  rw [c19RunFn_succ ops c19TablePy2 ext _ _ _ _ _
    (c19TablePy2_reading.find c19_find_rational_reciprocal (by rfl)) rfl]
  simp only [c19Fn_Rational_reciprocal]
  unfold ratReciprocal
  c19_run [c19p2_Attr_num, c19p2_Attr_den, c19p2_New_rational, c19p2_rational_init_run,
    c19_ofR_encRatRes, c19RetRes_andThen, c19EncRatRes_finish]

/-- **`Rational.__pow__`** (natural exponent) IS `ratPow`:
`Rational(self.Denominator**other, self.Numerator**other)` — as written -/
theorem rational_pow_eq_table_current (n d : ℤ) (k m : ℕ) :
    c19RunFn ops tablePy2Current ext (m + 1 + 1 + 1 + 1) "Rational.__pow__" [c19RatObj n d, .int k]
      = c19EncRatRes (ratPow n d k) := by
  rw [c19RunFn_succ ops c19TablePy2 ext _ _ _ _ _
    (c19TablePy2_reading.find c19_find_rational_pow (by rfl)) rfl]
  simp only [c19Fn_Rational___pow__]
  unfold ratPow
  have hk : ¬ ((k : Int) < 0) := by omega
  have hk' : ((k : Int)).toNat = k := by omega
  c19_run [c19p2_Attr_num, c19p2_Attr_den, c19p2_New_rational, c19p2_rational_init_run,
    c19_ofR_encRatRes, c19RetRes_andThen, c19EncRatRes_finish, hk, hk']
end

example : ratAdd 1 2 1 3 = .rat 5 6 := by decide +kernel
example : ratAdd 1 2 1 2 = .int 1 := by decide +kernel
example : ratMul 2 3 3 4 = .rat 1 2 := by decide +kernel
example : ratMul 2 3 3 2 = .int 1 := by decide +kernel
example : ratSub 1 2 (.rat 1 3) = .rat 1 6 := by decide +kernel
example : ratDiv 1 2 (.int 3) = .rat 1 6 := by decide +kernel
example : ratInit 2 (-4) = .rat (-2) 4 := by decide +kernel

/-! ## 2. Python-2 reading: what is computed, in ℚ -/

/-- the constructor keeps the value and makes the denominator positive; a zero denominator is a
`RuntimeError` -/
theorem rational_init_py2_value (n d : ℤ) :
    (d ≠ 0 → (ratInit n d).value = some ((n : ℚ) / d) ∧ (ratInit n d).positive) ∧
      (d = 0 → ratInit n d = .raise "RuntimeError") :=
  ⟨fun hd => ⟨ratInit_value n d hd, ratInit_positive n d hd⟩, fun hd => by subst hd; exact ratInit_zero n⟩

/-- **the exact quotient built from two integers stands for their quotient**: `quotient(n, d)` is
the int `n` for `d = 1`, else a `Rational` whose value is `n / d` -/
theorem quotient_int_value (n d : ℤ) (hd : d ≠ 0) :
    (ratQuotient n d).value = some ((n : ℚ) / d) ∧ (ratQuotient n d).positive :=
  ⟨ratQuotient_value n d hd, ratQuotient_positive n d hd⟩

/-- **value(a + b) = value(a) + value(b)** for non-zero denominators: no exception, and the sum
comes back in lowest terms with a positive denominator (or as a plain int) -/
theorem rational_add_value (n1 d1 : ℤ) (other : RatArg) (h1 : d1 ≠ 0) (h2 : other.fields.2 ≠ 0) :
    (ratAdd n1 d1 other.fields.1 other.fields.2).value = some ((n1 : ℚ) / d1 + other.value) ∧
      (ratAdd n1 d1 other.fields.1 other.fields.2).reduced :=
  ratAdd_value n1 d1 _ _ h1 h2

/-- **value(a − b) = value(a) − value(b)** -/
theorem rational_sub_value (n1 d1 : ℤ) (other : RatArg) (h1 : d1 ≠ 0) (h2 : other.fields.2 ≠ 0) :
    (ratSub n1 d1 other).value = some ((n1 : ℚ) / d1 - other.value) ∧
      (ratSub n1 d1 other).reduced := by
  unfold ratSub RatArg.value
  cases other with
  | int i =>
    simp only [ratNegArg, RatArg.fields]
    obtain ⟨hv, hr⟩ := ratAdd_value n1 d1 (-i) 1 h1 (by decide)
    refine ⟨?_, hr⟩
    rw [hv]; congr 1; push_cast; ring
  | rat a b =>
    simp only [RatArg.fields] at h2 ⊢
    obtain ⟨n', d', he, hd', hq⟩ := ratNeg_eq a b h2
    simp only [ratNegArg, he]
    obtain ⟨hv, hr⟩ := ratAdd_value n1 d1 n' d' h1 (by omega)
    refine ⟨?_, hr⟩
    rw [hv, hq]; congr 1; ring

/-- **value(b − a)** for the reflected method -/
theorem rational_rsub_value (n1 d1 : ℤ) (other : RatArg) (h1 : d1 ≠ 0) (h2 : other.fields.2 ≠ 0) :
    (ratRsub n1 d1 other).value = some (other.value - (n1 : ℚ) / d1) ∧
      (ratRsub n1 d1 other).reduced := by
  unfold ratRsub RatArg.value
  obtain ⟨n', d', he, hd', hq⟩ := ratNeg_eq n1 d1 h1
  simp only [he, RatRes.bind]
  obtain ⟨hv, hr⟩ := ratAdd_value n' d' other.fields.1 other.fields.2 (by omega) h2
  refine ⟨?_, hr⟩
  rw [hv, hq]; congr 1; ring

/-- **value(a × b) = value(a) × value(b)**; the product of operands in lowest terms is in lowest
terms (non-reduced operands may give a non-reduced product: `rational_mul_not_reduced_witness`) -/
theorem rational_mul_value (n1 d1 : ℤ) (other : RatArg) (h1 : d1 ≠ 0) (h2 : other.fields.2 ≠ 0) :
    (ratMul n1 d1 other.fields.1 other.fields.2).value = some ((n1 : ℚ) / d1 * other.value) ∧
      (ratMul n1 d1 other.fields.1 other.fields.2).positive ∧
      (Int.gcd n1 d1 = 1 → Int.gcd other.fields.1 other.fields.2 = 1 →
        (ratMul n1 d1 other.fields.1 other.fields.2).reduced) :=
  ⟨(ratMul_value n1 d1 _ _ h1 h2).1, (ratMul_value n1 d1 _ _ h1 h2).2,
    ratMul_reduced n1 d1 _ _ h1 h2⟩

/-- **value(a ÷ b) = value(a) ÷ value(b)** when the divisor is not zero; a zero divisor raises
`RuntimeError` ("0 does not have a prime factor decomposition"), not `ZeroDivisionError` -/
theorem rational_div_value (n1 d1 : ℤ) (other : RatArg) (h1 : d1 ≠ 0) (h2 : other.fields.2 ≠ 0) :
    (other.fields.1 ≠ 0 → (ratDiv n1 d1 other).value = some ((n1 : ℚ) / d1 / other.value)) ∧
      (other.fields.1 = 0 → ratDiv n1 d1 other = .raise "RuntimeError") :=
  ⟨ratDiv_value n1 d1 other h1 h2, ratDiv_zero n1 d1 other⟩

/-- the reflected division: `other ÷ self` -/
theorem rational_rdiv_value (n1 d1 : ℤ) (other : RatArg) (h1 : d1 ≠ 0) (h2 : other.fields.2 ≠ 0) :
    (n1 ≠ 0 → (ratRdiv n1 d1 other).value = some (other.value / ((n1 : ℚ) / d1))) ∧
      (n1 = 0 → ratRdiv n1 d1 other = .raise "RuntimeError") :=
  ⟨ratRdiv_value n1 d1 other h1 h2, fun h => by subst h; exact ratRdiv_zero d1 other⟩

theorem rational_neg_value (n d : ℤ) (hd : d ≠ 0) : (ratNeg n d).value = some (-((n : ℚ) / d)) :=
  ratNeg_value n d hd

theorem rational_reciprocal_value (n d : ℤ) (hn : n ≠ 0) :
    (ratReciprocal n d).value = some ((d : ℚ) / n) :=
  ratInit_value d n hn

/-- **every `/` in `__add__` and `__mul__` divides exactly**: the floor division of the Python-2
reading drops no remainder (so "exact division" is the same reading) -/
theorem rational_divisions_exact (n1 d1 n2 d2 : ℤ) (h1 : d1 ≠ 0) :
    (let newden := Int.fdiv (d1 * d2) (PV.Algo.gcd d1 d2)
     let newnum := Int.fdiv (n1 * newden) d1 + Int.fdiv (n2 * newden) d2
     PV.Algo.gcd d1 d2 ∣ d1 * d2 ∧ d1 ∣ n1 * newden ∧ d2 ∣ n2 * newden ∧
       PV.Algo.gcd newden newnum ∣ newnum ∧ PV.Algo.gcd newden newnum ∣ newden) ∧
    (PV.Algo.gcd n1 d2 ∣ n1 ∧ PV.Algo.gcd n2 d1 ∣ Int.fdiv n1 (PV.Algo.gcd n1 d2) * n2 ∧
      PV.Algo.gcd n2 d1 ∣ d1 ∧ PV.Algo.gcd n1 d2 ∣ Int.fdiv d1 (PV.Algo.gcd n2 d1) * d2) :=
  ⟨ratAdd_divisions_exact n1 d1 n2 d2 h1, ratMul_divisions_exact n1 d1 n2 d2⟩

/-- what `__pow__` computes as coded: the power of the RECIPROCAL -/
theorem rational_pow_value (n d : ℤ) (k : ℕ) (hn : n ≠ 0) :
    (ratPow n d k).value = some (((d : ℚ) / n) ^ k) :=
  ratPow_value n d k hn

/-- **`Rational.__pow__` exchanges numerator and denominator**: `Rational(2, 3) ** 2` is built as
`Rational(9, 4)` — `(2/3)² = 4/9` -/
theorem rational_pow_inverted_cex :
    ratPow 2 3 2 = .rat 9 4 ∧ (ratPow 2 3 2).value ≠ some (((2 : ℚ) / 3) ^ 2) := by
  refine ⟨by decide +kernel, ?_⟩
  rw [ratPow_value 2 3 2 (by decide)]
  norm_num

/-- an integral sum may come back as a `Rational` with denominator one instead of an int: the
computed gcd is negative, so `quotient` sees the denominator `-1` -/
theorem rational_add_integral_not_int_witness : ratAdd (-1) 2 (-1) 2 = .rat (-1) 1 := by
  decide +kernel

/-- operands that are not in lowest terms may give a product that is not -/
theorem rational_mul_not_reduced_witness : ratMul 2 4 1 3 = .rat 2 12 := by decide +kernel

/-! ## 3. Python 3: what runs today -/

section
variable (ops : C19Ops α) (ext : String → List (C19V α) → C19R (C19V α))
  (hlcm : ∀ vs, ext "FieldTraits.lcm" vs = .raise "AttributeError")
  (hgcd : ∀ vs, ext "FieldTraits.gcd" vs = .raise "AttributeError")
  (hunit : ∀ vs, ext "FieldTraits.get_unit" vs = .raise "AttributeError")

/-- **`quotient(num, den)` on two ints as regenerated** (Python 3): the int `num` when `den - 1`
is zero, `RuntimeError` for `den = 0`, else the `Rational` object `Rational.__init__` fills —
with the two FLOATS `num / ±1`, `den / ±1` -/
theorem quotient_int_eq_table_current (num den : ℤ) (n : ℕ) :
    c19RunFn ops tableCurrent ext (n + 1 + 1 + 1 + 1) "primitives.quotient" [.int num, .int den]
      = c19EncQuotientInt num den :=
  c19_quotient_int_run ops ext (.inl rfl) num den n _ (c19_rational_init_run ops ext num den n)
    (by cases c19RationalInit num den
        · exact .inl rfl
        · exact .inr ⟨_, rfl⟩)

/-- **the exact quotient built from two integers evaluates to their quotient**: evaluating the
object `quotient(num, den)` (`den ∉ {0, 1}`; `Mapper.map_rational` delegates to `map_quotient`,
`self.rec` of a number is the number) gives the float `(num/u) / (den/u)`, `u = ±1` — as a
fraction exactly `num / den` (the last conjunct) -/
theorem quotient_int_evaluates_current (ks : List String) (vs : List (C19V α)) (num den : ℤ)
    (hd : den ≠ 0)
    (hrec : ∀ p q : ℤ, ext "EvaluationMapper.rec" [c19EvalMapper ks vs, .frac p q] = .ok (.frac p q))
    (n : ℕ) :
    ∃ u : ℤ, (u = 1 ∨ u = -1) ∧
      (c19EncRational (c19RationalInit num den) : C19R (C19V α)) = .ok (c19RatObjF num u den u) ∧
      c19RunFn ops tableCurrent ext (n + 1 + 1) "EvaluationMapper.map_quotient"
        [c19EvalMapper ks vs, c19RatObjF num u den u] = .ok (.frac (num * u) (u * den)) ∧
      ((num * u : ℤ) : ℚ) / ((u * den : ℤ) : ℚ) = (num : ℚ) / den := by
  by_cases h : den < 0
  · refine ⟨-1, Or.inr rfl, by simp [c19RationalInit, h, c19EncRational, c19RatObjF],
      c19p3_map_quotient_rational_run ops ext ks vs num (-1) den (-1) hd hrec n, ?_⟩
    push_cast
    rw [mul_comm, neg_one_mul, neg_one_mul, neg_div_neg_eq]
  · have h' : den > 0 := by omega
    refine ⟨1, Or.inl rfl, by simp [c19RationalInit, h, h', c19EncRational, c19RatObjF],
      c19p3_map_quotient_rational_run ops ext ks vs num 1 den 1 hd hrec n, ?_⟩
    push_cast
    rw [mul_one, one_mul]

/-- **the `Quotient` node of two ints evaluates to Python's `num / den`** (`ZeroDivisionError`
for a zero denominator) -/
theorem quotient_node_evaluates_current (ks : List String) (vs : List (C19V α)) (num den : ℤ)
    (hrec : ∀ p : ℤ, ext "EvaluationMapper.rec" [c19EvalMapper ks vs, .int p] = .ok (.int p))
    (n : ℕ) :
    c19RunFn ops tableCurrent ext (n + 1 + 1) "EvaluationMapper.map_quotient"
        [c19EvalMapper ks vs, c19QuotientObj num den]
      = if den = 0 then .raise "ZeroDivisionError" else .ok (.frac num den) :=
  c19p3_map_quotient_node_run ops ext ks vs num den hrec n

include hlcm in
/-- **Python 3: `Rational.__add__` / `__radd__` raise `AttributeError`** on every `Rational` the
constructor can build (float fields `a/b`, `c/e`), for an int operand and for a `Rational` one:
`common_traits` of two floats is `FieldTraits()`, and `FieldTraits` has no `lcm` -/
theorem rational_add_py3_raises (a b c e : ℤ) (other : RatArgF) (M : ℕ) :
    c19RunFn ops tableCurrent ext (M + 1 + 1 + 1 + 1) "Rational.__add__"
        [c19RatObjF a b c e, c19EncRatArgF other] = .raise "AttributeError" ∧
    c19RunFn ops tableCurrent ext (M + 1 + 1 + 1 + 1) "Rational.__radd__"
        [c19RatObjF a b c e, c19EncRatArgF other] = .raise "AttributeError" := by
  refine ⟨c19p3_rational_add_run ops ext hlcm a b c e other M, ?_⟩
  · exact c19p3_frame_run ops ext "Rational.__radd__" "Expression.__add__" _ M a b c e other
      (by rw [c19_find_rational_radd, c19p3_rational_radd_body_current,
        c19p3_rational_add_body_current])
      (c19p3_add_try_run ops ext hlcm _ _ a b c e _ _ _ _ _)

include hgcd in
/-- **Python 3: `Rational.__mul__` / `__rmul__` raise `AttributeError`** (`FieldTraits` has no
`gcd`) -/
theorem rational_mul_py3_raises (a b c e : ℤ) (other : RatArgF) (M : ℕ) :
    c19RunFn ops tableCurrent ext (M + 1 + 1 + 1 + 1) "Rational.__mul__"
        [c19RatObjF a b c e, c19EncRatArgF other] = .raise "AttributeError" ∧
    c19RunFn ops tableCurrent ext (M + 1 + 1 + 1 + 1) "Rational.__rmul__"
        [c19RatObjF a b c e, c19EncRatArgF other] = .raise "AttributeError" := by
  refine ⟨?_, ?_⟩
  · exact c19p3_frame_run ops ext "Rational.__mul__" "Expression.__mul__" _ M a b c e other
      (by rw [c19_find_rational_mul, c19p3_rational_mul_body_current])
      (c19p3_mul_try_run ops ext hgcd _ _ a b c e _ _ _ _ _)
  · exact c19p3_frame_run ops ext "Rational.__rmul__" "Expression.__mul__" _ M a b c e other
      (by rw [c19_find_rational_rmul, c19p3_rational_rmul_body_current,
        c19p3_rational_mul_body_current])
      (c19p3_mul_try_run ops ext hgcd _ _ a b c e _ _ _ _ _)

include hlcm hunit in
/-- **Python 3: `__sub__` / `__rsub__` raise `AttributeError`** -/
theorem rational_sub_py3_raises (a b c e : ℤ) (other : RatArgF) (M : ℕ) :
    c19RunFn ops tableCurrent ext (M + 1 + 1 + 1 + 1 + 1) "Rational.__sub__"
        [c19RatObjF a b c e, c19EncRatArgF other] = .raise "AttributeError" ∧
    c19RunFn ops tableCurrent ext (M + 1 + 1 + 1 + 1) "Rational.__rsub__"
        [c19RatObjF a b c e, c19EncRatArgF other] = .raise "AttributeError" := by
  refine ⟨?_, ?_⟩
  · rw [c19RunFn_succ ops c19Table ext _ _ _ _ _ c19_find_rational_sub rfl]
    simp only [c19Fn_Rational___sub__]
    cases other with
    | int i =>
      have ha := c19p3_rational_add_run ops ext hlcm a b c e (.int (-i)) M
      simp only [c19EncRatArgF] at ha ⊢
      c19_run [c19p3_Method_add, ha]
      rfl
    | rat a' b' c' e' =>
      simp only [c19EncRatArgF]
      c19_run [c19p3_Neg_rat, c19p3_rational_neg_run ops ext hunit]
      rfl
  · rw [c19RunFn_succ ops c19Table ext _ _ _ _ _ c19_find_rational_rsub rfl]
    simp only [c19Fn_Rational___rsub__]
    c19_run [c19p3_Neg_rat, c19p3_rational_neg_run ops ext hunit]
    rfl

include hunit in
/-- **Python 3: `__neg__`, `reciprocal`, `__div__`, `__rdiv__` raise `AttributeError`**: each
builds a `Rational(float, float)`, whose constructor asks `FieldTraits()` for `get_unit`.
(`a / b` does not reach `__div__` under Python 3: `__truediv__` is `Expression`'s.) -/
theorem rational_unit_py3_raises (a b c e : ℤ) (other : RatArgF) (M : ℕ) :
    c19RunFn ops tableCurrent ext (M + 1 + 1 + 1) "Rational.__neg__" [c19RatObjF a b c e]
      = .raise "AttributeError" ∧
    c19RunFn ops tableCurrent ext (M + 1 + 1 + 1) "Rational.reciprocal" [c19RatObjF a b c e]
      = .raise "AttributeError" ∧
    c19RunFn ops tableCurrent ext (M + 1 + 1 + 1 + 1) "Rational.__div__"
        [c19RatObjF a b c e, c19EncRatArgF other] = .raise "AttributeError" ∧
    c19RunFn ops tableCurrent ext (M + 1 + 1 + 1 + 1) "Rational.__rdiv__"
        [c19RatObjF a b c e, c19EncRatArgF other] = .raise "AttributeError" := by
  refine ⟨c19p3_rational_neg_run ops ext hunit a b c e M, ?_, ?_, ?_⟩
  · rw [c19RunFn_succ ops c19Table ext _ _ _ _ _ c19_find_rational_reciprocal rfl]
    simp only [c19Fn_Rational_reciprocal]
    c19_run [c19p3_Attr_num, c19p3_Attr_den, c19p3_New_rational,
      c19p3_rational_init_float ops ext hunit]
    rfl
  · rw [c19RunFn_succ ops c19Table ext _ _ _ _ _ c19_find_rational_div rfl]
    simp only [c19p3_rational_div_body_current]
    rw [c19ExecL_append, show c19RatCoerceSelf3 = c19RatCoerceSelf from rfl,
      c19_coerce_self_run _ _ _ _ (c19p3_coerce ops ext M _ other), C19O.andThen_next]
    c19_run [c19p3_Attr_num, c19p3_Attr_den, c19p3_New_rational,
      c19p3_rational_init_float ops ext hunit]
    rfl
  · rw [c19RunFn_succ ops c19Table ext _ _ _ _ _ c19_find_rational_rdiv rfl]
    simp only [c19p3_rational_rdiv_body_current]
    rw [c19ExecL_append, show c19RatCoerceSelf3 = c19RatCoerceSelf from rfl,
      c19_coerce_self_run _ _ _ _ (c19p3_coerce ops ext M _ other), C19O.andThen_next]
    c19_run [c19p3_Attr_num, c19p3_Attr_den, c19p3_New_rational,
      c19p3_rational_init_float ops ext hunit]
    rfl

include hunit in
/-- **Python 3: `Rational(…) ** k` raises** — `ZeroDivisionError` for `0.0 ** negative`,
`AttributeError` otherwise (`c ≠ 0`: a stored denominator is never zero) -/
theorem rational_pow_py3_raises (a b c e : ℤ) (hc : c ≠ 0) (k : ℤ) (M : ℕ) :
    c19RunFn ops tableCurrent ext (M + 1 + 1 + 1) "Rational.__pow__" [c19RatObjF a b c e, .int k]
      = c19EncRatRes3 (ratPowPy3 a k) := by
  rw [c19RunFn_succ ops c19Table ext _ _ _ _ _ c19_find_rational_pow rfl]
  simp only [c19Fn_Rational___pow__]
  unfold ratPowPy3
  by_cases hk : 0 ≤ k
  · have hk' : ¬ (k < 0 ∧ a = 0) := by omega
    c19_run [c19p3_Attr_num, c19p3_Attr_den, c19Arith_frac_int, c19Scalar_pow_frac, hk,
      c19p3_New_rational, c19p3_rational_init_float ops ext hunit]
    simp [hk', c19EncRatRes3, c19Finish]
  · by_cases ha : a = 0
    · have hk' : (k < 0 ∧ a = 0) := ⟨by omega, ha⟩
      c19_run [c19p3_Attr_num, c19p3_Attr_den, c19Arith_frac_int, c19Scalar_pow_frac, hk, hc, ha]
      simp [hk', c19EncRatRes3, c19Finish]
    · c19_run [c19p3_Attr_num, c19p3_Attr_den, c19Arith_frac_int, c19Scalar_pow_frac, hk, hc, ha,
        c19p3_New_rational, c19p3_rational_init_float ops ext hunit]
      simp [c19EncRatRes3, c19Finish]
end

/-- the objects the theorems of this section speak about are the ones the constructor builds:
`Rational(num, den)` under Python 3 has the float fields `num/u`, `den/u`, `u = ±1` -/
theorem rational_init_py3_fields (num den : ℤ) (hd : den ≠ 0) :
    ∃ u : ℤ, (c19EncRational (c19RationalInit num den) : C19R (C19V α))
      = .ok (c19RatObjF num u den u) := by
  by_cases h : den < 0
  · exact ⟨-1, by simp [c19RationalInit, h, c19EncRational, c19RatObjF]⟩
  · have h' : den > 0 := by omega
    exact ⟨1, by simp [c19RationalInit, h, h', c19EncRational, c19RatObjF]⟩

end PV.Properties.C19
