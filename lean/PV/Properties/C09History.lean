import PV.Model.AnalysisHistory
import PV.Properties.C09
/-
  C09 — histories: ONE analysis object is given several expressions in a row ("cached and
  uncached").  The model functions are pure, so the model answer of a history is the list of the
  single answers; the theorems below say that an answer inside a history is the single-call
  answer (whatever was asked before or afterwards), hence exact, and tie the running `count` of one
  `NodeCountMapper` to `get_num_nodes` of the tuple of everything it walked.
-/
set_option linter.unusedTactic false
set_option linter.unreachableTactic false
namespace PV.C09
open PV

/-- the loop over the steps is the map of the single calls -/
theorem depsHist_eq_map (steps : List (DepFlags × Bool × Expr)) :
    depsHist steps = steps.map (fun s => depsCall s.1 s.2.1 s.2.2) := by
  induction steps with
  | nil => rfl
  | cons s rest ih =>
    obtain ⟨fl, c, e⟩ := s
    simp [depsHist, ih]

example : depsHist [({}, true, .nary .sum [.var "x", .var "y"]), ({}, true, .var "x")]
    = [.ok [.var "x", .var "y"], .ok [.var "x"]] := by decide +kernel

/-- answers of a prefix are not changed by later calls, answers of later calls do not depend on
the calls before -/
theorem depsHist_append (a b : List (DepFlags × Bool × Expr)) :
    depsHist (a ++ b) = depsHist a ++ depsHist b := by
  simp [depsHist_eq_map]

/-- **History independence.**  The answer to a call inside a history — any calls before it, any
calls after it, on the same or on other mapper objects — is the answer of that call alone. -/
theorem depsHist_call (pre post : List (DepFlags × Bool × Expr)) (fl : DepFlags) (cached : Bool)
    (e : Expr) :
    (depsHist (pre ++ (fl, cached, e) :: post))[pre.length]? = some (depsCall fl cached e) := by
  simp [depsHist_eq_map]

/-- **Exactness inside a history**: a set answered anywhere in a history consists of occurrences
selected by the flags of the mapper asked, and every such occurrence is reported up to `==`. -/
theorem depsHist_exact (pre post : List (DepFlags × Bool × Expr)) (fl : DepFlags) (cached : Bool)
    (e : Expr) (r : List Expr) (hwf : e.wf = true)
    (h : (depsHist (pre ++ (fl, cached, e) :: post))[pre.length]? = some (.ok r)) :
    (∀ y ∈ r, Occurs fl e y) ∧ (∀ x, Occurs fl e x → ∃ y ∈ r, y.pyEq x = true) := by
  rw [depsHist_call] at h
  have h' : depsCall fl cached e = .ok r := by simpa using h
  unfold depsCall at h'
  split at h'
  · cases h'
  · exact deps_exact hwf h'

example : (∀ y ∈ [Expr.var "x"], Occurs {} (.var "x") y) ∧
    (∀ x, Occurs {} (.var "x") x → ∃ y ∈ [Expr.var "x"], y.pyEq x = true) :=
  depsHist_exact [({}, true, .nary .sum [.var "x", .var "y"])] [] {} true (.var "x") [.var "x"]
    (by decide +kernel) (by decide +kernel)

/-- `get_num_nodes` called repeatedly: every answer is the single answer -/
theorem numNodesHist_eq_map (es : List Expr) : numNodesHist es = es.map c09NumNodes := by
  induction es with
  | nil => rfl
  | cons e rest ih => simp [numNodesHist, ih]

/-- ONE `NodeCountMapper` given `es` one after the other: when the walk of the whole list from the
cache `cache` makes `k` `post_visit`s, the last value of `count` is the start value plus `k`. -/
theorem countHist_last : ∀ (es : List Expr) (n : Nat) (cache : List Expr) (k : Nat)
    (cache' : List Expr), es ≠ [] → Expr.hasListL es = false →
    c09CountWalkL es cache = .ok (k, cache') →
    (countHist es n cache).getLast? = some (.ok (n + k))
  | [], _, _, _, _, hne, _, _ => absurd rfl hne
  | e :: rest, n, cache, k, cache', _, hl, h => by
    simp only [Expr.hasListL, Bool.or_eq_false_iff] at hl
    simp only [c09CountWalkL] at h
    obtain ⟨x, c1, y, h1, h2, hk⟩ := c09Seq_eq_ok h
    simp only [countHist, hl.1, Bool.false_eq_true, if_false, h1]
    cases rest with
    | nil =>
      simp only [c09CountWalkL, Except.ok.injEq, Prod.mk.injEq] at h2
      simp [countHist, hk, ← h2.1]
    | cons e2 rest2 =>
      have ih := countHist_last (e2 :: rest2) (n + x) c1 y cache' (by simp) hl.2 h2
      rw [List.getLast?_cons, ih, hk]
      simp [Nat.add_assoc]

/-- **The running count of one `NodeCountMapper` is `get_num_nodes` of the tuple of everything
it walked, minus the tuple itself.** -/
theorem countHist_tuple (es : List Expr) (hne : es ≠ []) (m : Nat)
    (h : c09NumNodes (.tuple es) = .ok m) :
    1 ≤ m ∧ (countHist es 0 []).getLast? = some (.ok (m - 1)) := by
  unfold c09NumNodes c09NumNodesKeys at h
  by_cases hl : (Expr.tuple es).hasList = true
  · simp [hl] at h
  · have hl' : Expr.hasListL es = false := by
      simpa [Expr.hasList] using hl
    simp only [hl] at h
    rw [c09CountWalk] at h
    simp only [c09Cached, c09Hit, List.any_nil, Bool.false_eq_true, if_false] at h
    rcases hw : c09CountWalkL es [] with err | ⟨k, c1⟩
    · simp [hw, c09Store] at h
    · simp only [hw, c09Store, Except.ok.injEq] at h
      subst h
      refine ⟨by omega, ?_⟩
      have := countHist_last es 0 [] k c1 hne hl' hw
      simpa using this

/-- hence the bounds of `numNodes_between` hold for the running count: between the number of
classes under `==` and the number of structurally distinct subterms of everything walked so far
(the tuple of the history counts as one more subterm on both sides) -/
theorem countHist_between (es : List Expr) (hne : es ≠ []) (hwf : (Expr.tuple es).wf = true)
    (m : Nat) (h : c09NumNodes (.tuple es) = .ok m) :
    ∃ n, (countHist es 0 []).getLast? = some (.ok n) ∧
      (dedupBy Expr.pyEq (c09Subterms (.tuple es))).length ≤ n + 1 ∧
      n + 1 ≤ numDistinct (.tuple es) := by
  obtain ⟨h1, h2⟩ := countHist_tuple es hne m h
  obtain ⟨b1, b2⟩ := numNodes_between hwf h
  exact ⟨m - 1, h2, by omega, by omega⟩

example : (countHist [.nary .sum [.var "x", .var "y"], .var "x",
    .nary .prod [.var "x", .var "w"]] 0 []).getLast? = some (.ok 5) := by decide +kernel

/-- ONE memoizing `FlopCounter` given several trees: every count it answers is the independent
operation count of the tree asked — whatever it was asked before. -/
theorem flopsHist_plain_exact : ∀ (es : List Expr) (seen : List Expr) (i : Nat) (n : Nat),
    (flopsHist false es seen)[i]? = some (.ok n) → ∃ e, es[i]? = some e ∧ n = countOps e
  | [], _, i, n, h => by simp [flopsHist] at h
  | e :: rest, seen, i, n, h => by
    unfold flopsHist at h
    by_cases hl : e.hasList = true
    · simp only [hl, Bool.not_false, Bool.and_self, if_true] at h
      cases i <;> simp at h
    · simp only [hl, Bool.and_false, Bool.false_eq_true, if_false] at h
      rcases hf : flopsG false e seen with err | ⟨m, seen'⟩
      · simp only [hf] at h
        cases i <;> simp at h
      · simp only [hf] at h
        obtain ⟨hm, hs⟩ := flops_eq_count e seen m seen' hf
        cases i with
        | zero =>
          simp only [List.getElem?_cons_zero, Option.some.injEq, Except.ok.injEq] at h
          exact ⟨e, by simp, by omega⟩
        | succ j =>
          simp only [List.getElem?_cons_succ] at h
          obtain ⟨e', he', hn⟩ := flopsHist_plain_exact rest seen' j n h
          exact ⟨e', by simpa using he', hn⟩

example : flopsHist false [.nary .sum [.var "x", .var "y"], .nary .prod [.var "x", .var "y", .var "z"],
    .nary .sum [.var "x", .var "y"]] [] = [.ok 1, .ok 2, .ok 1] := by decide +kernel

/-- ONE `CSEAwareFlopCounter`: the seen-set an answered call leaves behind is the one the next
call starts from (per object, on purpose) — together with `flopsCse_once` / `flopsCse_first`: a
wrapper counted in an earlier call of the same object costs 0 afterwards. -/
theorem flopsHist_thread (aware : Bool) (e : Expr) (rest seen seen' : List Expr) (n : Nat)
    (hl : (!aware && e.hasList) = false) (h : flopsG aware e seen = .ok (n, seen')) :
    flopsHist aware (e :: rest) seen = .ok n :: flopsHist aware rest seen' := by
  rw [flopsHist]
  simp [hl, h]

example : flopsHist true [.nary .sum [.cse (.nary .prod [.var "x", .var "y"]) none "e", .var "z"],
    .cse (.nary .prod [.var "x", .var "y"]) none "e"] [] = [.ok 2, .ok 0] := by decide +kernel

end PV.C09
