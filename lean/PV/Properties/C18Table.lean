import PV.Properties.C18
import PV.Proofs.GATableLink
import PV.Proofs.GATableRefl
import PV.Generated.GATable
/-
  C18 — T-gen tie of the geometric-algebra model to the source.

  `PV.Generated.c18GAModule` is rewritten on every run by `extract/geometric_algebra.py` from the
  source text of `pymbolic/geometric_algebra/__init__.py` of the working tree: 55 functions /
  methods statement by statement in the small Python subset of PV/Model/GATable.lean (`C18Expr`,
  `C18Stmt`: loops, conditions, assignments, dict displays and comprehensions, calls), the class
  rows (bases, methods, aliases such as `orthogonal_blade_product_weight =
  generic_blade_product_weight`), the module imports, and every other definition as pinned text.

  `c18Call M Γ fuel q args kw` RUNS a function of such a table: it knows no function of the
  module, only the language (names resolve to locals, then to the functions / classes / imports
  OF THE TABLE, then builtins; operators on `MultiVector`s and attribute look-ups go through the
  class rows OF THE TABLE).  `Γ` is the space and coefficient type: zero test `z`, `==`, `/`,
  metric diagonal `g`, basis names, `is_orthogonal`, hash functions.

  `table_current` proves the regenerated table equal to the literal the proofs were made against
  (PV/Proofs/GATableExpected.lean); the theorems below prove that the hand-written model
  functions of PV/Model/GA.lean — the ones the driver executes and PV/Properties/C18.lean is
  about — ARE the interpreter run on the regenerated table, for all inputs (bitmaps below the
  loop bound `fuel`: a `while` loop may iterate `fuel` times; dict values with distinct keys,
  which every Python dict has).  An edit of the source that changes a translated statement (the
  reordering loop shifting `b_bits`, the inner-product weight taken over `a_bits`, the pruning
  `del` dropped from `_generic_product`, `rev` using `grade*(grade+1)`, another grade list in
  `inv`, …), a class row or a pinned definition makes `table_current` fail to check.
-/
namespace PV.C18
open PV PV.GA PV.GA.C18T

/-- the table regenerated from the working tree -/
abbrev gaTableCurrent : C18Module := Generated.c18GAModule

/-- **The regenerated function table is the one the model was written against**: every
translated statement of the 55 functions, their parameters, defaults, local variables and
decorators, the order of the function list, every class row, the module imports and the pinned
text of every definition that is not translated. -/
theorem table_current : gaTableCurrent = c18ExpectedModule := by rfl

/-- the function names the table lists are those of its function list, in order; no name
occurs twice (so look-up by name in a tail of the list is Python's look-up by name) -/
theorem table_names_current :
    gaTableCurrent.fns.map (·.qual) = gaTableCurrent.fnNames ∧ gaTableCurrent.fnNames.Nodup := by
  rw [table_current]
  exact ⟨c18ExpectedFns_quals, c18ExpectedFns_nodup⟩

section Generic
variable {R : Type} [Add R] [Mul R] [Neg R] [OfNat R 0] [OfNat R 1]
variable (Γ : C18Ctx R) (fuel : Nat)

/-- **`bit_count` of the current source is `bitCount`** (the Kernighan loop, statement by
statement) -/
theorem bit_count_eq_table_current (n : Nat) (h : n < fuel) :
    c18Call gaTableCurrent Γ fuel "bit_count" [.nat n] [] = .ok (.nat (bitCount n)) := by
  rw [table_current, c18Call_eq_tail]
  exact tail_bit_count 0 (by omega) n h

/-- **`canonical_reordering_sign` of the current source is `reorderSign`**: the shift loop over
`a_bits`, the popcount of `a_bits & b_bits` accumulated, the parity test, `-1` / `1` -/
theorem reorder_sign_eq_table_current (a b : Nat) (h : a < fuel) :
    c18Call gaTableCurrent Γ fuel "canonical_reordering_sign" [.nat a, .nat b] []
      = .ok (.ofInt (reorderSign a b)) := by
  rw [table_current, c18Call_eq_tail]
  exact tail_crs 0 (by omega) a b h

/-- **`_shared_metric_coeff` of the current source is `sharedMetricCoeff`**: the int `1` for the
empty bitmap, otherwise the coefficient the model computes (the model's own fuel never runs
out: `sharedMetricCoeff_eq_prodBits`) -/
theorem shared_metric_coeff_eq_table_current (sh : Nat) (h : sh < fuel) (h2 : 2 ≤ fuel) :
    ∃ v, c18Call gaTableCurrent Γ fuel "_shared_metric_coeff" [.nat sh, .space] [] = .ok v ∧
      c18ValR v = sharedMetricCoeff Γ.g sh := by
  rw [table_current, c18Call_eq_tail]
  exact ⟨_, tail_smc h2 0 (by omega) sh h, c18ValR_smcVal _ _⟩

/-- the function the class rows of the current source bind `Class.orthogonal_blade_product_weight`
to — `_OuterProduct` binds it to its `generic_blade_product_weight` by a class-body alias -/
theorem weight_rows_current :
    c18ClassAttr gaTableCurrent "_OuterProduct" "orthogonal_blade_product_weight"
      = some (.method "_OuterProduct.generic_blade_product_weight" "static") ∧
    c18ClassAttr gaTableCurrent "_GeometricProduct" "orthogonal_blade_product_weight"
      = some (.method "_GeometricProduct.orthogonal_blade_product_weight" "static") ∧
    c18ClassAttr gaTableCurrent "_InnerProduct" "orthogonal_blade_product_weight"
      = some (.method "_InnerProduct.orthogonal_blade_product_weight" "static") ∧
    c18ClassAttr gaTableCurrent "_LeftContractionProduct" "orthogonal_blade_product_weight"
      = some (.method "_LeftContractionProduct.orthogonal_blade_product_weight" "static") ∧
    c18ClassAttr gaTableCurrent "_RightContractionProduct" "orthogonal_blade_product_weight"
      = some (.method "_RightContractionProduct.orthogonal_blade_product_weight" "static") ∧
    c18ClassAttr gaTableCurrent "_ScalarProduct" "orthogonal_blade_product_weight"
      = some (.method "_ScalarProduct.orthogonal_blade_product_weight" "static") := by
  exact ⟨rfl, rfl, rfl, rfl, rfl, rfl⟩

/-- **The six `orthogonal_blade_product_weight`s of the current source are the model's weights**
`wOuter … wScalar`: each call returns an int `0`/`1` or a coefficient whose value as a
coefficient is the model's weight (conditions on `a_bits & b_bits`, which bitmap the metric
coefficient is taken over) -/
theorem weights_eq_table_current (a b : Nat) (h : a < fuel) (h2 : 2 ≤ fuel) :
    (∃ v, c18Call gaTableCurrent Γ fuel "_OuterProduct.generic_blade_product_weight"
        [.nat a, .nat b, .space] [] = .ok v ∧ c18ValR v = wOuter Γ.g a b) ∧
    (∃ v, c18Call gaTableCurrent Γ fuel "_GeometricProduct.orthogonal_blade_product_weight"
        [.nat a, .nat b, .space] [] = .ok v ∧ c18ValR v = wGeometric Γ.g a b) ∧
    (∃ v, c18Call gaTableCurrent Γ fuel "_InnerProduct.orthogonal_blade_product_weight"
        [.nat a, .nat b, .space] [] = .ok v ∧ c18ValR v = wInner Γ.g a b) ∧
    (∃ v, c18Call gaTableCurrent Γ fuel "_LeftContractionProduct.orthogonal_blade_product_weight"
        [.nat a, .nat b, .space] [] = .ok v ∧ c18ValR v = wLeftContraction Γ.g a b) ∧
    (∃ v, c18Call gaTableCurrent Γ fuel "_RightContractionProduct.orthogonal_blade_product_weight"
        [.nat a, .nat b, .space] [] = .ok v ∧ c18ValR v = wRightContraction Γ.g a b) ∧
    (∃ v, c18Call gaTableCurrent Γ fuel "_ScalarProduct.orthogonal_blade_product_weight"
        [.nat a, .nat b, .space] [] = .ok v ∧ c18ValR v = wScalar Γ.g a b) := by
  rw [table_current, c18Call_eq_tail]
  exact ⟨⟨_, (tail_wOuter 0 (by omega) a b h).1, c18ValR_wOuter Γ.g a b⟩,
    ⟨_, (tail_wGeometric h2 0 (by omega) a b h).1, c18ValR_wGeometric Γ.g a b⟩,
    ⟨_, (tail_wInner h2 0 (by omega) a b h).1, c18ValR_wInner Γ.g a b⟩,
    ⟨_, (tail_wLeft h2 0 (by omega) a b h).1, c18ValR_wLeft Γ.g a b⟩,
    ⟨_, (tail_wRight h2 0 (by omega) a b h).1, c18ValR_wRight Γ.g a b⟩,
    ⟨_, (tail_wScalar h2 0 (by omega) a b h).1, c18ValR_wScalar Γ.g a b⟩⟩

/-- in the current source the `generic_blade_product_weight` of every product but the outer one
(what `_generic_product` selects for a non-diagonal metric) raises `NotImplementedError` -/
theorem generic_weights_raise_current (a b : Nat) :
    c18Call gaTableCurrent Γ fuel "_GeometricProduct.generic_blade_product_weight"
        [.nat a, .nat b, .space] [] = .raise "NotImplementedError" ∧
    c18Call gaTableCurrent Γ fuel "_InnerProduct.generic_blade_product_weight"
        [.nat a, .nat b, .space] [] = .raise "NotImplementedError" ∧
    c18Call gaTableCurrent Γ fuel "_LeftContractionProduct.generic_blade_product_weight"
        [.nat a, .nat b, .space] [] = .raise "NotImplementedError" ∧
    c18Call gaTableCurrent Γ fuel "_RightContractionProduct.generic_blade_product_weight"
        [.nat a, .nat b, .space] [] = .raise "NotImplementedError" ∧
    c18Call gaTableCurrent Γ fuel "_ScalarProduct.generic_blade_product_weight"
        [.nat a, .nat b, .space] [] = .raise "NotImplementedError" := by
  rw [table_current, c18Call_eq_tail]
  have h := c18_wGeneric_raises Γ fuel
  refine ⟨?_, ?_, ?_, ?_, ?_⟩
  · exact (c18Tail_run Γ fuel 41 rfl (Nat.zero_le _) _ _).trans (h _ a b).1
  · exact (c18Tail_run Γ fuel 43 rfl (Nat.zero_le _) _ _).trans (h _ a b).2.1
  · exact (c18Tail_run Γ fuel 45 rfl (Nat.zero_le _) _ _).trans (h _ a b).2.2.1
  · exact (c18Tail_run Γ fuel 47 rfl (Nat.zero_le _) _ _).trans (h _ a b).2.2.2.1
  · exact (c18Tail_run Γ fuel 49 rfl (Nat.zero_le _) _ _).trans (h _ a b).2.2.2.2

/-- **`MultiVector(d, space)` of the current source stores a bitmap dict as given** (`ofBitsDict`):
`__init__` run statement by statement — not an array, a dict, no tuple keys, the `assert`, the
two attribute assignments -/
theorem init_dict_eq_table_current (d : MVOf R) :
    c18Call gaTableCurrent Γ fuel "MultiVector.__init__" [.obj false none, .dict d, .space] []
      = .ok (.mv (ofBitsDict d)) := by
  rw [table_current, c18Call_eq_tail]
  exact tail_init 0 (by omega) d

/-- **`rev`, `invol`, `project`, `odd`, `even` of the current source are the model's**: the loop
over `self.data.items()`, `bit_count`, the sign condition (`grade*(grade-1)//2 % 2 == 0` for
`rev`, `grade % 2 == 0` for `invol`) resp. the grade filter, the result handed to `MultiVector` -/
theorem grade_maps_eq_table_current (a : MVOf R) (ha : C18Dict fuel a) (r : Nat) :
    c18Call gaTableCurrent Γ fuel "MultiVector.rev" [.mv a] [] = .ok (.mv (rev a)) ∧
    c18Call gaTableCurrent Γ fuel "MultiVector.invol" [.mv a] [] = .ok (.mv (invol a)) ∧
    c18Call gaTableCurrent Γ fuel "MultiVector.project" [.mv a, .nat r] []
      = .ok (.mv (project a r)) ∧
    c18Call gaTableCurrent Γ fuel "MultiVector.odd" [.mv a] [] = .ok (.mv (odd a)) ∧
    c18Call gaTableCurrent Γ fuel "MultiVector.even" [.mv a] [] = .ok (.mv (even a)) := by
  rw [table_current, c18Call_eq_tail]
  exact ⟨tail_rev 0 (by omega) a ha, tail_invol 0 (by omega) a ha,
    tail_project 0 (by omega) a r ha, tail_odd 0 (by omega) a ha,
    tail_even 0 (by omega) a ha⟩

/-- **`_generic_product` of the current source is `genericProductZ`** for each of the six
product classes, in a space with a diagonal metric: the weight function is the class's
`orthogonal_blade_product_weight` (resolved through the class rows), the double loop over blade
pairs in insertion order, the skipped zero weights, `weight * sign * scoeff * ocoeff`, the
accumulation with `setdefault(new_bits, 0)`, and the pruning `del` when the sum is zero.
Python multiplies the int weight `1` with the int sign before the coefficients; the model
multiplies in `R`: hence `1 * r = r`.  `z 0` says the zero test finds the int `0`. -/
theorem generic_product_eq_table_current (h1 : ∀ r : R, 1 * r = r) (hz0 : Γ.z 0 = true)
    (horth : Γ.orth = true) (h2 : 2 ≤ fuel) (x y : MVOf R) (hk : ∀ k ∈ dkeys x, k < fuel) :
    c18Call gaTableCurrent Γ fuel "MultiVector._generic_product"
        [.mv x, .mv y, .cls "_OuterProduct"] []
      = .ok (.mv (genericProductZ Γ.z (wOuter Γ.g) x y)) ∧
    c18Call gaTableCurrent Γ fuel "MultiVector._generic_product"
        [.mv x, .mv y, .cls "_GeometricProduct"] []
      = .ok (.mv (genericProductZ Γ.z (wGeometric Γ.g) x y)) ∧
    c18Call gaTableCurrent Γ fuel "MultiVector._generic_product"
        [.mv x, .mv y, .cls "_InnerProduct"] []
      = .ok (.mv (genericProductZ Γ.z (wInner Γ.g) x y)) ∧
    c18Call gaTableCurrent Γ fuel "MultiVector._generic_product"
        [.mv x, .mv y, .cls "_LeftContractionProduct"] []
      = .ok (.mv (genericProductZ Γ.z (wLeftContraction Γ.g) x y)) ∧
    c18Call gaTableCurrent Γ fuel "MultiVector._generic_product"
        [.mv x, .mv y, .cls "_RightContractionProduct"] []
      = .ok (.mv (genericProductZ Γ.z (wRightContraction Γ.g) x y)) ∧
    c18Call gaTableCurrent Γ fuel "MultiVector._generic_product"
        [.mv x, .mv y, .cls "_ScalarProduct"] []
      = .ok (.mv (genericProductZ Γ.z (wScalar Γ.g) x y)) := by
  rw [table_current, c18Call_eq_tail]
  have ok : C18Ok Γ fuel := ⟨h1, hz0, horth, h2⟩
  exact ⟨tail_gp_outer ok 0 (by omega) x y hk, tail_gp_geometric ok 0 (by omega) x y hk,
    tail_gp_inner ok 0 (by omega) x y hk, tail_gp_left ok 0 (by omega) x y hk,
    tail_gp_right ok 0 (by omega) x y hk, tail_gp_scalar ok 0 (by omega) x y hk⟩

/-- **`MultiVector(x, space)` for a scalar and `_cast_or_ni` of the current source**: a scalar is
stored as `{}` when the zero test finds it zero and as `{0: x}` otherwise (`ofScalarZ`, the
repaired `mv-scalar-zero-stored`); `_cast_or_ni` hands a `MultiVector` back and wraps a scalar -/
theorem cast_eq_table_current (c : R) (y : MVOf R) :
    c18Call gaTableCurrent Γ fuel "MultiVector.__init__" [.obj false none, .coef c, .space] []
      = .ok (.mv (ofScalarZ Γ.z c)) ∧
    c18Call gaTableCurrent Γ fuel "_cast_or_ni" [.coef c, .space] []
      = .ok (.mv (ofScalarZ Γ.z c)) ∧
    c18Call gaTableCurrent Γ fuel "_cast_or_ni" [.mv y, .space] [] = .ok (.mv y) := by
  rw [table_current, c18Call_eq_tail]
  exact ⟨tail_init_scalar 0 (by omega) c, tail_cast 0 (by omega) _ _ rfl,
    tail_cast 0 (by omega) _ _ rfl⟩

/-- **The operators `* ^ | << >>` of the current source** (`__mul__`, `__xor__`, `__or__`,
`__lshift__`, `__rshift__`): the right operand goes through `_cast_or_ni` (a `MultiVector` or a
scalar), and `_generic_product` is called with the geometric / outer / inner / left- / right-
contraction class: the results are the model's products -/
theorem products_eq_table_current (ok : C18Ok Γ fuel) (x : MVOf R) (v : C18Val R) (y : MVOf R)
    (hv : c18CastOf Γ.z v = some y) (hk : ∀ k ∈ dkeys x, k < fuel) :
    c18Call gaTableCurrent Γ fuel "MultiVector.__mul__" [.mv x, v] []
      = .ok (.mv (genericProductZ Γ.z (wGeometric Γ.g) x y)) ∧
    c18Call gaTableCurrent Γ fuel "MultiVector.__xor__" [.mv x, v] []
      = .ok (.mv (genericProductZ Γ.z (wOuter Γ.g) x y)) ∧
    c18Call gaTableCurrent Γ fuel "MultiVector.__or__" [.mv x, v] []
      = .ok (.mv (genericProductZ Γ.z (wInner Γ.g) x y)) ∧
    c18Call gaTableCurrent Γ fuel "MultiVector.__lshift__" [.mv x, v] []
      = .ok (.mv (genericProductZ Γ.z (wLeftContraction Γ.g) x y)) ∧
    c18Call gaTableCurrent Γ fuel "MultiVector.__rshift__" [.mv x, v] []
      = .ok (.mv (genericProductZ Γ.z (wRightContraction Γ.g) x y)) := by
  rw [table_current, c18Call_eq_tail]
  exact ⟨tail_mul ok 0 (by omega) x v y hv hk, tail_xor ok 0 (by omega) x v y hv hk,
    tail_or ok 0 (by omega) x v y hv hk, tail_lshift ok 0 (by omega) x v y hv hk,
    tail_rshift ok 0 (by omega) x v y hv hk⟩

/-- **`as_scalar`, `scalar_product`, `norm_squared` of the current source**: `as_scalar` returns
Python's int `0` for empty data, the last coefficient when every key is `0`, and raises
`ValueError` otherwise (`asScalarVal`; as a coefficient that is the model's `asScalar`);
`scalar_product` is `as_scalar` of the `_ScalarProduct` product, `norm_squared` is
`self.rev().scalar_product(self)` — the model's `scalarProductZ` / `normSquaredZ` -/
theorem scalar_product_eq_table_current (ok : C18Ok Γ fuel) (a b : MVOf R)
    (ha : C18Dict fuel a) :
    c18Call gaTableCurrent Γ fuel "MultiVector.as_scalar" [.mv a] [] = c18ScalarRes a ∧
    (asScalarVal a (.nat 0 : C18Val R)).map c18ValR = asScalar a ∧
    c18Call gaTableCurrent Γ fuel "MultiVector.scalar_product" [.mv a, .mv b] []
      = c18ScalarRes (genericProductZ Γ.z (wScalar Γ.g) a b) ∧
    (asScalarVal (genericProductZ Γ.z (wScalar Γ.g) a b) (.nat 0 : C18Val R)).map c18ValR
      = scalarProductZ Γ.z Γ.g a b ∧
    c18Call gaTableCurrent Γ fuel "MultiVector.norm_squared" [.mv a] []
      = c18ScalarRes (genericProductZ Γ.z (wScalar Γ.g) (rev a) a) ∧
    (asScalarVal (genericProductZ Γ.z (wScalar Γ.g) (rev a) a) (.nat 0 : C18Val R)).map c18ValR
      = normSquaredZ Γ.z Γ.g a := by
  rw [table_current, c18Call_eq_tail]
  exact ⟨tail_as_scalar 0 (by omega) a, asScalarVal_model a,
    tail_scalar_product ok 0 (by omega) a (.mv b) b rfl ha.2, asScalarVal_model _,
    tail_norm_squared ok 0 (by omega) a ha, asScalarVal_model _⟩

/-- **`get_pure_grade`, `I`, `dual` of the current source** are the model's `getPureGrade`
(Python `None` = `none`), `pseudoscalar` (`{2**dims - 1: 1}`) and `dualZ`
(`self | self.I.rev()`) -/
theorem grade_dual_eq_table_current (ok : C18Ok Γ fuel) (a : MVOf R) (ha : C18Dict fuel a)
    (hdims : 2 ^ Γ.dims ≤ fuel) :
    c18Call gaTableCurrent Γ fuel "MultiVector.get_pure_grade" [.mv a] []
      = .ok (match getPureGrade a with | none => .none | some g => .nat g) ∧
    c18Call gaTableCurrent Γ fuel "MultiVector.I" [.mv a] [] = .ok (.mv (pseudoscalar Γ.dims)) ∧
    c18Call gaTableCurrent Γ fuel "MultiVector.dual" [.mv a] []
      = .ok (.mv (dualZ Γ.z Γ.g Γ.dims a)) := by
  rw [table_current, c18Call_eq_tail]
  refine ⟨?_, tail_I 0 (by omega) a, tail_dual ok 0 (by omega) a ha hdims⟩
  rw [tail_get_pure_grade 0 (by omega) a ha.2]
  cases getPureGrade a <;> rfl

/-- **`inv` of the current source is the model's `invZ`**: `norm_squared` first, empty data
raises `ZeroDivisionError`, more than one item requires `get_pure_grade()` to be in
`[0, 1, dims]` (otherwise `NotImplementedError`) and divides every coefficient, one item gets
the reversion sign `grade*(grade-1)//2 % 2` and is divided; a division by a `norm_squared` the
zero test finds zero raises `ZeroDivisionError` (`c18InvOf` spells the model's `InvResult` as
Python outcomes, the numerator divided by the denominator with `Γ.div`) -/
theorem inv_eq_table_current (ok : C18Ok Γ fuel) (a : MVOf R) (ha : C18Dict fuel a) :
    c18Call gaTableCurrent Γ fuel "MultiVector.inv" [.mv a] []
      = c18InvOf Γ (invZ Γ.z Γ.g Γ.dims a) := by
  rw [table_current, c18Call_eq_tail]
  exact tail_inv ok 0 (by omega) a ha

/-- **`__neg__`, `__bool__`, `__hash__`, `__eq__` of the current source**: `mvNeg`, `mvBool`,
`mvHash` (for the hash functions of `Γ`) and Python's dict `==` on the two data dicts (the
right operand cast) -/
theorem neg_bool_hash_eq_table_current (a : MVOf R) (hnd : (dkeys a).Nodup) (v : C18Val R)
    (y : MVOf R) (hv : c18CastOf Γ.z v = some y) :
    c18Call gaTableCurrent Γ fuel "MultiVector.__neg__" [.mv a] [] = .ok (.mv (mvNeg a)) ∧
    c18Call gaTableCurrent Γ fuel "MultiVector.__bool__" [.mv a] [] = .ok (.bool (mvBool a)) ∧
    c18Call gaTableCurrent Γ fuel "MultiVector.__hash__" [.mv a] []
      = .ok (.hash (a.foldl (fun r (p : Nat × R) => r ^^^ (Γ.hb p.1 ^^^ Γ.hc p.2)) Γ.hspace)) ∧
    c18Call gaTableCurrent Γ fuel "MultiVector.__eq__" [.mv a, v] []
      = .ok (.bool (a.length == y.length && a.all fun (p : Nat × R) =>
          match dictGet y p.1 with | some w => Γ.ceq p.2 w | none => false)) := by
  rw [table_current, c18Call_eq_tail]
  exact ⟨tail_neg 0 (by omega) a hnd, tail_bool 0 (by omega) a,
    tail_hash 0 (by omega) a, tail_eq 0 (by omega) a v y hv⟩

/-- **`__add__`, `__sub__`, `__truediv__` of the current source** are the model's `mvAddZ`
(key union, `get(bits, 0)` on both sides, zero sums skipped; the iteration order of the union is
the model's choice — CPython's set order is an implementation detail), `mvSubZ`
(`self + (-other)`) and `self * other.inv()` with the exceptions of `inv` propagated -/
theorem add_sub_div_eq_table_current (ok : C18Ok Γ fuel) (x y : MVOf R) (hx : C18Dict fuel x)
    (hy : C18Dict fuel y) :
    c18Call gaTableCurrent Γ fuel "MultiVector.__add__" [.mv x, .mv y] []
      = .ok (.mv (mvAddZ Γ.z x y)) ∧
    c18Call gaTableCurrent Γ fuel "MultiVector.__sub__" [.mv x, .mv y] []
      = .ok (.mv (mvSubZ Γ.z x y)) ∧
    c18Call gaTableCurrent Γ fuel "MultiVector.__truediv__" [.mv x, .mv y] []
      = c18TrueDivOf Γ x (invZ Γ.z Γ.g Γ.dims y) := by
  rw [table_current, c18Call_eq_tail]
  exact ⟨tail_add 0 (by omega) x y hx.1 hy.1, tail_sub 0 (by omega) x y hx.1 hy.1,
    tail_truediv ok 0 (by omega) x y hx.2 hy⟩

/-- **The reflected operators `* ^ | << >>` of the current source** (`__rmul__`, `__rxor__`,
`__ror__`, `__rlshift__`, `__rrshift__` — what Python calls when the LEFT operand is a plain
scalar `c` and the right one the multivector `x`): the scalar is wrapped as
`MultiVector(c, self.space)` (`ofScalarZ`: `{}` for a zero, `{0: c}` otherwise) and handed to
`_generic_product` as the LEFT factor with the class of the operator, so `c OP x` is the model's
product of the grade-0 multivector and `x` IN THIS ORDER — a plain scalar on the left behaves like
`MultiVector(c)` on the left.  (Aliasing the reflected methods to the forward ones changes these
rows of the table: `table_current` and with it this theorem stop checking; the order matters
for `<<` and `>>`, `scalar_contraction_order_matters`.) -/
theorem reflected_products_eq_table_current (ok : C18Ok Γ fuel) (x : MVOf R) (c : R) :
    c18Call gaTableCurrent Γ fuel "MultiVector.__rmul__" [.mv x, .coef c] []
      = .ok (.mv (genericProductZ Γ.z (wGeometric Γ.g) (ofScalarZ Γ.z c) x)) ∧
    c18Call gaTableCurrent Γ fuel "MultiVector.__rxor__" [.mv x, .coef c] []
      = .ok (.mv (genericProductZ Γ.z (wOuter Γ.g) (ofScalarZ Γ.z c) x)) ∧
    c18Call gaTableCurrent Γ fuel "MultiVector.__ror__" [.mv x, .coef c] []
      = .ok (.mv (genericProductZ Γ.z (wInner Γ.g) (ofScalarZ Γ.z c) x)) ∧
    c18Call gaTableCurrent Γ fuel "MultiVector.__rlshift__" [.mv x, .coef c] []
      = .ok (.mv (genericProductZ Γ.z (wLeftContraction Γ.g) (ofScalarZ Γ.z c) x)) ∧
    c18Call gaTableCurrent Γ fuel "MultiVector.__rrshift__" [.mv x, .coef c] []
      = .ok (.mv (genericProductZ Γ.z (wRightContraction Γ.g) (ofScalarZ Γ.z c) x)) := by
  rw [table_current, c18Call_eq_tail]
  exact ⟨tail_rmul Γ fuel ok 0 (by omega) x c, tail_rxor Γ fuel ok 0 (by omega) x c,
    tail_ror Γ fuel ok 0 (by omega) x c, tail_rlshift Γ fuel ok 0 (by omega) x c,
    tail_rrshift Γ fuel ok 0 (by omega) x c⟩

end Generic

/-! ### the instance the property theorems are about: a commutative ring with decidable equality -/

section Ring
variable {R : Type} [CommRing R] [DecidableEq R] [Div R]

/-- the space `(g, names)` with an orthogonal basis over a coefficient ring whose zero test and
`==` decide equality (Python ints, `Fraction`s, `Z/n`, …) -/
def ctxOfRing (g : Nat → R) (names : List String) : C18Ctx R :=
  { z := isZeroD, ceq := fun a b => decide (a = b), div := fun a b => a / b, g := g, names := names,
    orth := true, euclid := false, hspace := 0, hb := id, hc := fun _ => 0 }

theorem ctxOfRing_ok (g : Nat → R) (names : List String) (fuel : Nat) (h2 : 2 ≤ fuel) :
    C18Ok (ctxOfRing g names) fuel :=
  { one_mul := one_mul, z0 := by simp [ctxOfRing, isZeroD], orth := rfl, fuel2 := h2 }

/-- **What the C18 theorems are about is what the current source computes.**  For every
commutative ring with decidable equality, every diagonal metric `g` and all multivectors whose
bitmaps are below the loop bound: the operators `* ^ | << >>` of the current source are
`mvMul`, `mvOuter`, `mvInner`, `mvLeftContraction`, `mvRightContraction`; `rev`, `invol`,
`project` are the model's; `norm_squared` is `normSquared`; `inv` is the model's `inv`; `==`
is `mvEq`; `bool` is `mvBool`.  Hence `product_assoc`, `product_distrib`, `rev_antiauto`,
`invol_auto`, `inv_mul_self`, `norm_sq_general`, `eq_iff_coeffwise`, … (and `+`, `-`:
`mvAdd`, `mvSub`) of
PV/Properties/C18.lean are statements about the current source text. -/
theorem model_is_current_source (g : Nat → R) (names : List String) (fuel : Nat) (h2 : 2 ≤ fuel)
    (x y : MVOf R) (hx : C18Dict fuel x) (r : Nat) :
    let Γ := ctxOfRing g names
    c18Call gaTableCurrent Γ fuel "MultiVector.__mul__" [.mv x, .mv y] [] = .ok (.mv (mvMul g x y)) ∧
    c18Call gaTableCurrent Γ fuel "MultiVector.__xor__" [.mv x, .mv y] []
      = .ok (.mv (mvOuter g x y)) ∧
    c18Call gaTableCurrent Γ fuel "MultiVector.__or__" [.mv x, .mv y] []
      = .ok (.mv (mvInner g x y)) ∧
    c18Call gaTableCurrent Γ fuel "MultiVector.__lshift__" [.mv x, .mv y] []
      = .ok (.mv (mvLeftContraction g x y)) ∧
    c18Call gaTableCurrent Γ fuel "MultiVector.__rshift__" [.mv x, .mv y] []
      = .ok (.mv (mvRightContraction g x y)) ∧
    c18Call gaTableCurrent Γ fuel "MultiVector.rev" [.mv x] [] = .ok (.mv (rev x)) ∧
    c18Call gaTableCurrent Γ fuel "MultiVector.invol" [.mv x] [] = .ok (.mv (invol x)) ∧
    c18Call gaTableCurrent Γ fuel "MultiVector.project" [.mv x, .nat r] []
      = .ok (.mv (project x r)) ∧
    c18Call gaTableCurrent Γ fuel "MultiVector.inv" [.mv x] []
      = c18InvOf Γ (inv g names.length x) ∧
    c18Call gaTableCurrent Γ fuel "MultiVector.__eq__" [.mv x, .mv y] []
      = .ok (.bool (mvEq x y)) ∧
    c18Call gaTableCurrent Γ fuel "MultiVector.__bool__" [.mv x] [] = .ok (.bool (mvBool x)) ∧
    ((dkeys y).Nodup → (∀ k ∈ dkeys y, k < fuel) →
      c18Call gaTableCurrent Γ fuel "MultiVector.__add__" [.mv x, .mv y] []
        = .ok (.mv (mvAdd x y)) ∧
      c18Call gaTableCurrent Γ fuel "MultiVector.__sub__" [.mv x, .mv y] []
        = .ok (.mv (mvSub x y))) := by
  intro Γ
  have ok := ctxOfRing_ok g names fuel h2
  have hp := products_eq_table_current Γ fuel ok x (.mv y) y rfl hx.2
  have hg := grade_maps_eq_table_current Γ fuel x hx r
  have hn := neg_bool_hash_eq_table_current Γ fuel x hx.1 (.mv y) y rfl
  refine ⟨hp.1, hp.2.1, hp.2.2.1, hp.2.2.2.1, hp.2.2.2.2, hg.1, hg.2.1, hg.2.2.1,
    inv_eq_table_current Γ fuel ok x hx, ?_, hn.2.1, ?_⟩
  · rw [hn.2.2.2]
    congr 2
    exact eq_val_model x y
  · intro hy1 hy2
    have ha := add_sub_div_eq_table_current Γ fuel ok x y hx ⟨hy1, hy2⟩
    exact ⟨ha.1, ha.2.1⟩

/-- **A plain scalar on either side of `* ^ | << >>` is the grade-0 multivector on that side**, in
the current source, for every commutative ring with decidable equality: `c OP x` (reflected
methods) is the model's product `OP (ofScalar c) x`, `x OP c` (forward methods, `_cast_or_ni`) is
`OP x (ofScalar c)` — the products the grade-part theorems of PV/Properties/C18.lean
(`outer_is_grade_part` … `rc_is_grade_part`) are about. -/
theorem scalar_operand_is_current_source (g : Nat → R) (names : List String) (fuel : Nat)
    (h2 : 2 ≤ fuel) (x : MVOf R) (c : R) (hx : ∀ k ∈ dkeys x, k < fuel) :
    let Γ := ctxOfRing g names
    (c18Call gaTableCurrent Γ fuel "MultiVector.__rmul__" [.mv x, .coef c] []
        = .ok (.mv (mvMul g (ofScalar c) x)) ∧
      c18Call gaTableCurrent Γ fuel "MultiVector.__rxor__" [.mv x, .coef c] []
        = .ok (.mv (mvOuter g (ofScalar c) x)) ∧
      c18Call gaTableCurrent Γ fuel "MultiVector.__ror__" [.mv x, .coef c] []
        = .ok (.mv (mvInner g (ofScalar c) x)) ∧
      c18Call gaTableCurrent Γ fuel "MultiVector.__rlshift__" [.mv x, .coef c] []
        = .ok (.mv (mvLeftContraction g (ofScalar c) x)) ∧
      c18Call gaTableCurrent Γ fuel "MultiVector.__rrshift__" [.mv x, .coef c] []
        = .ok (.mv (mvRightContraction g (ofScalar c) x))) ∧
    (c18Call gaTableCurrent Γ fuel "MultiVector.__mul__" [.mv x, .coef c] []
        = .ok (.mv (mvMul g x (ofScalar c))) ∧
      c18Call gaTableCurrent Γ fuel "MultiVector.__xor__" [.mv x, .coef c] []
        = .ok (.mv (mvOuter g x (ofScalar c))) ∧
      c18Call gaTableCurrent Γ fuel "MultiVector.__or__" [.mv x, .coef c] []
        = .ok (.mv (mvInner g x (ofScalar c))) ∧
      c18Call gaTableCurrent Γ fuel "MultiVector.__lshift__" [.mv x, .coef c] []
        = .ok (.mv (mvLeftContraction g x (ofScalar c))) ∧
      c18Call gaTableCurrent Γ fuel "MultiVector.__rshift__" [.mv x, .coef c] []
        = .ok (.mv (mvRightContraction g x (ofScalar c)))) := by
  intro Γ
  have ok := ctxOfRing_ok g names fuel h2
  exact ⟨reflected_products_eq_table_current Γ fuel ok x c,
    products_eq_table_current Γ fuel ok x (.coef c) (ofScalar c) rfl hx⟩

end Ring

/-- **The order of the operands matters for the contractions even when one is a scalar**: with
the Euclidean metric over the integers `3 << e0 = 3 e0` but `e0 << 3 = 0`, and `3 >> e0 = 0` but
`e0 >> 3 = 3 e0` — "scalars commute with every multivector" holds for `* ^ |` only, so a reflected
contraction may not be computed by the forward one with the operands swapped. -/
theorem scalar_contraction_order_matters :
    mvLeftContraction (fun _ => (1 : Int)) (ofScalar 3) [(1, 1)] = [(1, 3)] ∧
    mvLeftContraction (fun _ => (1 : Int)) [(1, 1)] (ofScalar 3) = [] ∧
    mvRightContraction (fun _ => (1 : Int)) (ofScalar 3) [(1, 1)] = [] ∧
    mvRightContraction (fun _ => (1 : Int)) [(1, 1)] (ofScalar 3) = [(1, 3)] := by decide +kernel

/-! ### non-vacuity: the hypotheses of the theorems above are satisfiable -/

/-- the integers with the exact zero test, Euclidean metric, three dimensions -/
def ctxInt : C18Ctx Int :=
  { z := fun x => x == 0, ceq := fun a b => a == b, div := fun a b => a / b, g := fun _ => 1,
    names := ["e0", "e1", "e2"], orth := true, euclid := true, hspace := 0, hb := id,
    hc := fun c => c.toNat }

example : c18Call gaTableCurrent ctxInt 64 "bit_count" [.nat 0b101101] [] = .ok (.nat (bitCount 45)) :=
  bit_count_eq_table_current ctxInt 64 45 (by decide)
example : c18Call gaTableCurrent ctxInt 64 "canonical_reordering_sign" [.nat 2, .nat 1] []
    = .ok (.ofInt (reorderSign 2 1)) := reorder_sign_eq_table_current ctxInt 64 2 1 (by decide)
example : reorderSign 2 1 = -1 := by decide +kernel
example : C18Dict 64 ([(1, 2), (6, -1)] : MVOf Int) := by
  constructor <;> decide
example := (generic_product_eq_table_current ctxInt 64 (fun r => Int.one_mul r) rfl rfl (by decide)
  [(1, 2), (6, -1)] [(3, 1)] (by decide)).2.1
example := grade_maps_eq_table_current ctxInt 64 [(1, 2), (6, -1)] (by constructor <;> decide) 1

theorem ctxInt_ok : C18Ok ctxInt 64 :=
  { one_mul := fun r => Int.one_mul r, z0 := rfl, orth := rfl, fuel2 := by decide }

example := (products_eq_table_current ctxInt 64 ctxInt_ok [(1, 2), (6, -1)] (.coef 3) [(0, 3)] rfl
  (by decide)).1
example := (reflected_products_eq_table_current ctxInt 64 ctxInt_ok [(1, 2), (6, -1)] 3).2.2.2.1
example := ((scalar_operand_is_current_source (fun _ => (1 : Rat)) ["e0", "e1"] 16 (by decide)
  [(1, 2), (2, 1 / 2)] 3 (by decide)).1).2.2.2.2
example := inv_eq_table_current ctxInt 64 ctxInt_ok [(1, 2), (2, -1)] (by constructor <;> decide)
example := (scalar_product_eq_table_current ctxInt 64 ctxInt_ok [(1, 2), (2, -1)] [(1, 5)]
  (by constructor <;> decide)).2.2.1
example := add_sub_div_eq_table_current ctxInt 64 ctxInt_ok [(1, 2), (6, -1)] [(1, -2)]
  (by constructor <;> decide) (by constructor <;> decide)
example := grade_dual_eq_table_current ctxInt 64 ctxInt_ok [(1, 2), (6, -1)]
  (by constructor <;> decide) (by decide)
example := (model_is_current_source (fun _ => (1 : Rat)) ["e0", "e1"] 16 (by decide)
  [(1, 2), (2, 1 / 2)] [(3, 1)] (by constructor <;> decide) 1).2.2.2.2.2.2.2.2.1

end PV.C18
