import PV.Generated.Coefficient
import PV.Proofs.CoeffTableMain
import PV.Proofs.CoeffTableGauss
import PV.Proofs.CoeffTableSolve
import PV.Properties.C15
/-
  C15 — T-gen tie: the theorems of PV/Properties/C15.lean as statements about the CURRENT SOURCE.

  `extract/coefficient.py` re-reads, on every run, `CoefficientCollector` (every handler, the
  dispatch table, `__init__`, `Mapper.map_foreign`) and `gaussian_elimination`,
  `solve_affine_equations_for`, `lcm`, `gcd`, `gcd_many` from the working tree and writes them,
  statement by statement, into `PV/Generated/Coefficient.lean`.  Here:

    * `table_current` (+ the per-part `…_current` theorems): the regenerated table IS the literal the
      model was written against (`c15ExpTable`, PV/Proofs/CoeffTableLit.lean);
    * `coeffs_eq_table_current`, `gauss_eq_table_current`, `solve_eq_table_current` (and
      `solve_eq_table_own_order_current` for the parameter set's own order): for ALL inputs the
      hand-written model is the table interpreter (PV/Model/CoeffTable.lean) run on the regenerated
      table (PV/Proofs/CoeffTable*.lean prove this for the literal by induction over expressions,
      dictionaries, row lists and loop counters — no sampling);
    * `coeffs_sound_current`, `gauss_preserves_solutions_current`, …: the property theorems restated
      for the interpreter of the regenerated table.

  An edit of the source that changes what a handler or a loop does changes the regenerated table:
  `table_current` (and everything below it) no longer checks, while the streams `table-*` keep
  agreeing (the interpreter follows the new table) and the streams `coefficients` / `gauss` /
  `solve` with their oracles produce the failing input.
-/
namespace PV.C15
open PV PV.Coeff

/-! ## the regenerated table is the literal -/

/-- **The table regenerated from the source on this run is the table the model was written
against** — every handler body, the class ↦ handler dispatch, `map_foreign`, `__init__`, and the
five functions of algorithm.py, statement by statement. -/
theorem table_current : Generated.c15Table = c15ExpTable := by rfl

/-- the handlers of `CoefficientCollector` (own and inherited), as read from the source -/
theorem collector_handlers_current : Generated.c15Handlers = c15ExpHandlers := by rfl

/-- which handler the dispatch reaches for every node class of the IR (own `mapper_method`, else
the first one along the MRO that the collector implements), the foreign-object rules, `__init__` -/
theorem collector_dispatch_current :
    Generated.c15Classes = c15ExpClasses ∧ Generated.c15Init = c15ExpInit ∧
    Generated.c15Table.foreign = c15ExpTable.foreign ∧
    Generated.c15Table.foreignElse = c15ExpTable.foreignElse ∧
    Generated.c15Table.constKinds = c15ExpTable.constKinds := by
  refine ⟨by rfl, by rfl, by rfl, by rfl, by rfl⟩

/-- `gaussian_elimination` as read from the source: the loop nest, the pivot search
`for k in range(i, m)`, both row exchanges with their four `.copy()`s, `lcm`, the two floor
divisions, the row updates `u_fac*X[u] - i_fac*X[i]`, the `assert`, the gcd normalisation -/
theorem gaussian_elimination_current :
    Generated.c15Table.fn "gaussian_elimination" = some expGaussFn := by rfl

/-- `lcm`, `gcd`, `gcd_many` as read from the source; `extended_euclidean` is the only function
called but not translated (it is `Algo.extEuclid`, C19) -/
theorem helpers_current :
    Generated.c15Table.fn "lcm" = some expLcmFn ∧ Generated.c15Table.fn "gcd" = some expGcdFn ∧
    Generated.c15Table.fn "gcd_many" = some expGcdManyFn ∧
    Generated.c15Table.primitives = ["extended_euclidean"] := by
  refine ⟨by rfl, by rfl, by rfl, by rfl⟩

/-- `solve_affine_equations_for` as read from the source: the look-up tables, the parameter set, the
matrix assembly with its three-way key test and the accumulating `+=`, the call of the elimination,
the read-off (`np.where`, `len(...) != 1`, `abs(...) != 1`, `int(...) // div`, the `zip` loop with
`unknown_val += …`), `result[unknown] = unknown_val` -/
theorem solve_affine_equations_for_current :
    Generated.c15Table.fn "solve_affine_equations_for" = some expSolveFn := by rfl

/-! ## the model is the interpreter of the regenerated table -/

/-- **`coeffs` is what the current source prescribes.**  For every expression (every node class of
the IR, foreign objects included) and every `target_names`, running the regenerated handler table —
dispatch, the delegating handlers of `Mapper`, the bodies of `map_sum`, `map_product` (search for
the child with variables, the `assert`, the dictionary comprehension), `map_quotient` (the test
`len(d_den) > 1 or 1 not in d_den`, the scaling by `Quotient(1, val)`), `map_power`, `map_constant`,
`map_algebraic_leaf` (the target test `target_names is None or getattr(expr, "name", None) in
target_names`) — with the table interpreter gives exactly `coeffs tg e`: the same dictionary, in the
same order, or the same exception. -/
theorem coeffs_eq_table_current (tg : Option (List String)) (e : Expr) :
    c15CoeffsT Generated.c15Table tg e = coeffs tg e := by
  rw [table_current]; exact coeffsT_exp tg e

/-- non-vacuity: the interpreter really runs the table (`x/p + 3*x + y` for the target `x`) -/
example : c15CoeffsT Generated.c15Table (some ["x"]) demoExpr =
    .ok [(.var "x", .nary .sum [.bin .quot one (.var "p"), .const (.int 3)]), (one, .var "y")] := by
  rw [coeffs_eq_table_current]; rfl

/-- **`gaussElim` is what the current source prescribes.**  For every integer system (`s`: the
rows of `mat` and `rhs`, `n`: the column count of `mat`), running the regenerated body of
`gaussian_elimination` with the table interpreter — row views as references, `.copy()` as a
snapshot, the two assignments of an exchange in source order — returns `gaussElim`; in
particular no `ZeroDivisionError`, `IndexError` or failing `assert` is ever reached. -/
theorem gauss_eq_table_current (n : Nat) (s : List ARow) :
    c15RunGauss Generated.c15Table n s = .ok (gaussElim s.length n s) := by
  rw [table_current]; exact runGauss_exp n s

example : c15RunGauss Generated.c15Table 2 [([1, 1], [5]), ([1, -1], [1])] =
    .ok [([1, 0], [3]), ([0, 1], [2])] := by
  rw [gauss_eq_table_current]; decide +kernel

/-- **`solveAffine` is what the current source prescribes.**  Run the regenerated body of
`solve_affine_equations_for` (which calls the regenerated `gaussian_elimination`, `lcm`, `gcd`,
`gcd_many` and the regenerated collector) with the table interpreter, for distinct unknown names.
`S` is the parameter set as the loop `parameters.update(dep_map(lhs) - unknowns_set) …` builds it
(`paramSetL`), `order S` the order in which `list(parameters)` enumerates it — the one thing the
program text does not determine.  Then:
* an error of the dependency mapper is the error of the run;
* for every enumeration `params` of `S` (a permutation without `==`-duplicates) the run returns
  exactly `solveAffine names eqs params`: the same dictionary or the same exception
  (`nonlinear expression`, `key … not understood`, `cannot uniquely solve`, `division with
  remainder`, or the model's abstention on non-integer entries). -/
theorem solve_eq_table_current (order : List Expr → Option (List Expr)) (names : List String)
    (eqs : List (Expr × Expr)) (hn : names.Nodup) :
    match paramSetL (names.map Expr.var) [] eqs with
    | .error e => c15RunSolve Generated.c15Table order names eqs = .error (.py e)
    | .ok S => match order S with
      | none => c15RunSolve Generated.c15Table order names eqs = .error (.py .noClaim)
      | some params => DistinctE params → params.Perm S →
        c15RunSolve Generated.c15Table order names eqs = c15LiftCR (solveAffine names eqs params) := by
  rw [table_current]; exact runSolve_exp order names eqs hn

/-- the parameter set the loop builds has no `==`-duplicates, so its own order is an admissible
enumeration: with `order = some` the hypotheses of `solve_eq_table_current` are discharged -/
theorem solve_eq_table_own_order_current (names : List String) (eqs : List (Expr × Expr))
    (hn : names.Nodup) (S : List Expr) (hS : paramSetL (names.map Expr.var) [] eqs = .ok S) :
    c15RunSolve Generated.c15Table some names eqs = c15LiftCR (solveAffine names eqs S) := by
  have h := solve_eq_table_current some names eqs hn
  simp only [hS] at h
  exact h (paramSetL_distinct _ eqs [] S List.Pairwise.nil hS) (List.Perm.refl S)

/-- non-vacuity: `x + y = 2p + 1`, `x - y = 1` through the regenerated table -/
example : (match c15RunSolve Generated.c15Table some ["x", "y"] demoEqs with
    | .ok [(_, v1), (_, v2)] => v1 == .nary .sum [.const (.int 1), .var "p"] && v2 == .var "p"
    | _ => false) = true := by
  rw [solve_eq_table_own_order_current ["x", "y"] demoEqs (by decide) [.var "p"] (by rfl)]
  decide +kernel

/-! ## the property theorems about the current source -/

/-- `coeffs_sound` for the collector as the current source has it. -/
theorem coeffs_sound_current (env : Env) (tg : Option (List String)) (e : Expr) (d : Dict) (v : Value)
    (h : c15CoeffsT Generated.c15Table tg e = .ok d) (hs : e.simple = true)
    (hr : recipOK env tg e = true) (hv : den env e = .ok v) (hex : v.num?.isSome = true) :
    ∃ w, den env (recon d) = .ok w ∧ w.pyEq v = true :=
  coeffs_sound env tg e d v (by rwa [coeffs_eq_table_current] at h) hs hr hv hex

/-- `coeffs_rejects_nonaffine` for the collector as the current source has it. -/
theorem coeffs_rejects_nonaffine_current (tg : Option (List String)) :
    (∀ cs, 2 ≤ (cs.filter (armT tg)).length →
      ∃ err, c15CoeffsT Generated.c15Table tg (.nary .prod cs) = .error err) ∧
    (∀ a b, armT tg b = true → ∃ err, c15CoeffsT Generated.c15Table tg (.bin .quot a b) = .error err) ∧
    (∀ a b, armT tg a = true ∨ armT tg b = true →
      ∃ err, c15CoeffsT Generated.c15Table tg (.bin .pow a b) = .error err) := by
  simp only [coeffs_eq_table_current]
  exact coeffs_rejects_nonaffine tg

/-- `coeffs_complete_affine` for the collector as the current source has it. -/
theorem coeffs_complete_affine_current (tg : Option (List String)) (e : Expr)
    (h : affClass tg e = true) :
    ∃ d, c15CoeffsT Generated.c15Table tg e = .ok d ∧ (armT tg e = false → ∃ c, d = [(one, c)]) := by
  rw [coeffs_eq_table_current]; exact coeffs_complete_affine tg e h

/-- **No two keys of a returned dictionary are `==`** (what makes the dictionary comprehension of
`map_product` keep every entry); a fact about the model `coeffs`, which the tie of `map_product` uses. -/
theorem coeffs_keys_distinct (tg : Option (List String)) (e : Expr) (d : Dict)
    (h : coeffs tg e = .ok d) : d.Pairwise fun a b => a.1.pyEq b.1 = false :=
  coeffs_ok tg e d h

example : coeffs (some ["x"]) demoExpr = .ok [(.var "x", .nary .sum [.bin .quot one (.var "p"),
    .const (.int 3)]), (one, .var "y")] := rfl

/-- `gauss_preserves_solutions` for `gaussian_elimination` as the current source has it. -/
theorem gauss_preserves_solutions_current (n n' w : ℕ) (s s' : List ARow) (h : Rect n' w s)
    (hr : c15RunGauss Generated.c15Table n s = .ok s') (x p : ℕ → ℚ) :
    AllHold x p s' ↔ AllHold x p s := by
  rw [gauss_eq_table_current] at hr
  cases hr
  exact gauss_preserves_solutions s.length n n' w s h x p

/-- `solve_affine_sound_partial` for the solver as the current source has it: what the table run
returns for an admissible enumeration `params` of the parameter set satisfies every original
equation (under the single-entry shape `reducedOK`, which excludes the two known findings). -/
theorem solve_affine_sound_current_partial (env env' : Env) (order : List Expr → Option (List Expr))
    (names : List String) (eqs : List (Expr × Expr)) (S params : List Expr) (sol : List (Expr × Expr))
    (qs : List Rat) (hn : names.Nodup) (hS : paramSetL (names.map Expr.var) [] eqs = .ok S)
    (hord : order S = some params) (hd : DistinctE params) (hperm : params.Perm S)
    (h : c15RunSolve Generated.c15Table order names eqs = .ok sol)
    (hq : nvL env params = some qs) (hq' : nvL env' params = some qs)
    (hps : ∀ u ∈ params, u.simple = true)
    (hbind : ∀ kv ∈ sol, ∃ x, nv env kv.2 = some x ∧ nv env' kv.1 = some x)
    (hred : ∀ mat, eqs.mapM (assembleRow (names.map Expr.var) params) = .ok mat →
      reducedOK (gaussElim eqs.length (names.map Expr.var).length mat) = true) :
    ∀ eq ∈ eqs, eq.1.simple = true → eq.2.simple = true →
      recipOK env' none eq.1 = true → recipOK env' none eq.2 = true →
      ∀ ql qr, nv env' eq.1 = some ql → nv env' eq.2 = some qr → ql = qr := by
  have ht := solve_eq_table_current order names eqs hn
  simp only [hS, hord] at ht
  rw [ht hd hperm] at h
  have hsol : solveAffine names eqs params = .ok sol := by
    cases hsa : solveAffine names eqs params with
    | error e => rw [hsa] at h; cases h
    | ok s' => rw [hsa] at h; cases h; rfl
  exact solve_affine_sound_partial env env' names eqs params sol qs hsol hq hq' hps hbind hred

/-! ## the reading is sensitive to the edits it is meant to catch

Each witness runs the interpreter on the literal table with ONE piece of `gaussian_elimination` /
`solve_affine_equations_for` / `map_quotient` replaced the way a plausible source edit would replace
it, on a concrete input, and gets an answer different from the model's (the model's answer is what
the unedited table gives, by the theorems above). -/

/-- the body of the elimination loop with the row update as a parameter -/
def c15ElimVariant (upd : String → C15S) : List C15S := [
  .ifThen (.cmp .eq (.var "u") (.var "i")) [.continue_] [],
  .ifThen (.not_ (.index2 (.var "mat") (.var "u") (.var "j"))) [.continue_] [],
  .assign (.name "ell") (.call "lcm"
    [.index2 (.var "mat") (.var "u") (.var "j"), .index2 (.var "mat") (.var "i") (.var "j")]),
  .assign (.name "u_fac") (.bin .floordiv (.var "ell") (.index2 (.var "mat") (.var "u") (.var "j"))),
  .assign (.name "i_fac") (.bin .floordiv (.var "ell") (.index2 (.var "mat") (.var "i") (.var "j"))),
  upd "mat",
  upd "rhs",
  .assert_ (.cmp .eq (.index2 (.var "mat") (.var "u") (.var "j")) (.lit 0))]

/-- `gaussian_elimination` with the exchange of the right-hand rows, the row update and the start of
the pivot search as parameters -/
def c15GaussVariant (swapRhs : C15S) (upd : String → C15S) (pivotLo : C15E) : C15Fn :=
  { expGaussFn with body := [
      .assign (.tup2 (.name "m") (.name "n")) (.attr (.var "mat") "shape"),
      .assign (.name "i") (.lit 0),
      .assign (.name "j") (.lit 0),
      .while_ expWhileCond [
        .assign (.name "nonz_row") .pyNone,
        .forIn (.name "k") (.call "range" [pivotLo, .var "m"]) expPivotBody,
        .ifThen (.isNot (.var "nonz_row") .pyNone) [
          expSwap "mat",
          swapRhs,
          .forIn (.name "u") (.call "range" [.lit 0, .var "m"]) (c15ElimVariant upd),
          .aug "i" .add (.lit 1)] [],
        .aug "j" .add (.lit 1)],
      .forIn (.name "i") (.call "range" [.var "m"]) expNormBody,
      .ret (.tuple2 (.var "mat") (.var "rhs"))] }

/-- with the source's own pieces the variant IS the function read from the source -/
theorem c15GaussVariant_id : c15GaussVariant (expSwap "rhs") expRowUpdate (.var "i") = expGaussFn := rfl

def c15WithFn (f : C15Fn) : C15Table :=
  { c15ExpTable with fns := c15ExpTable.fns.map fun g => if g.name = f.name then f else g }

def c15WithHandler (f : C15Fn) : C15Table :=
  { c15ExpTable with handlers := c15ExpTable.handlers.map fun g => if g.name = f.name then f else g }

/-- `rhs[i], rhs[nonz_row] = rhs[nonz_row], rhs[i]`: views instead of copies -/
def c15AliasSwap : C15S :=
  .setSubs ["rhs", "rhs"] [.var "i", .var "nonz_row"]
    [.index (.var "rhs") (.var "nonz_row"), .index (.var "rhs") (.var "i")]

/-- `X[u] = u_fac*X[u] + i_fac*X[i]`: the sign lost -/
def c15PlusUpdate (x : String) : C15S :=
  .setSubs [x] [.var "u"]
    [.bin .add (.bin .mul (.var "u_fac") (.index (.var x) (.var "u")))
      (.bin .mul (.var "i_fac") (.index (.var x) (.var "i")))]

/-- **Aliased exchange.**  With the two right-hand rows exchanged through views the first assignment
overwrites the row the second one reads: `y = 3, x = 2` comes back as `x = 2, y = 2`. -/
theorem aliased_exchange_table_cex :
    c15RunGauss (c15WithFn (c15GaussVariant c15AliasSwap expRowUpdate (.var "i"))) 2
        [([0, 1], [3]), ([1, 0], [2])] = .ok [([1, 0], [2]), ([0, 1], [2])] ∧
    gaussElim 2 2 [([0, 1], [3]), ([1, 0], [2])] = [([1, 0], [2]), ([0, 1], [3])] :=
  ⟨by decide +kernel, by decide +kernel⟩

/-- **Sign lost in the row update.**  `u_fac*X[u] + i_fac*X[i]` does not clear the pivot column: the
`assert mat[u, j] == 0` of the source fires. -/
theorem sign_lost_table_cex :
    c15RunGauss (c15WithFn (c15GaussVariant (expSwap "rhs") c15PlusUpdate (.var "i"))) 2
        [([1, 1], [3]), ([1, 2], [5])] = .error (.py .assertion) ∧
    gaussElim 2 2 [([1, 1], [3]), ([1, 2], [5])] = [([1, 0], [1]), ([0, 1], [2])] :=
  ⟨by decide +kernel, by decide +kernel⟩

/-- **Pivot search from row 0.**  `for k in range(0, m)` finds the row already used as a pivot and
exchanges it back: the first unknown keeps a non-zero entry in two rows. -/
theorem pivot_from_zero_table_cex :
    c15RunGauss (c15WithFn (c15GaussVariant (expSwap "rhs") expRowUpdate (.lit 0))) 2
        [([1, 1], [3]), ([0, 1], [5])] = .ok [([1, 0], [-2]), ([1, 1], [3])] ∧
    gaussElim 2 2 [([1, 1], [3]), ([0, 1], [5])] = [([1, 0], [-2]), ([0, 1], [5])] :=
  ⟨by decide +kernel, by decide +kernel⟩

/-- `map_quotient` with the test `len(d_den) > 1 or 1 not in d_den` loosened to `1 not in d_den` -/
def c15LooseQuot : C15Fn := mkFn "map_quotient" "CoefficientCollector.map_quotient" [
  .importName "pymbolic.primitives" "Quotient" "Quotient",
  .assign (.name "d_num") (.recField "numerator"),
  .assign (.name "d_den") (.recField "denominator"),
  .ifThen (.notIn (.lit 1) (.var "d_den")) [.raise_ "RuntimeError" "nonlinear expression"] [],
  .assign (.name "val") (.index (.var "d_den") (.lit 1)),
  .mapValues "d_num" .mul (.mkNode "Quotient" [.lit 1, .var "val"]),
  .ret (.var "d_num")]

/-- **Loosened denominator check.**  `x / (x + 2)` is not affine in `x`; with the loosened test it is
accepted, with the coefficient `1/2`. -/
theorem loose_denominator_table_cex :
    (match c15CoeffsT (c15WithHandler c15LooseQuot) (some ["x"])
        (.bin .quot (.var "x") (.nary .sum [.var "x", .const (.int 2)])) with
      | .ok [(k, c)] => k == .var "x" && c == .bin .quot one (.const (.int 2))
      | _ => false) = true ∧
    coeffs (some ["x"]) (.bin .quot (.var "x") (.nary .sum [.var "x", .const (.int 2)]))
      = .error .nonlinear :=
  ⟨by decide +kernel, by rfl⟩

/-- the key test of the matrix assembly with `=` in place of `+=` -/
def c15AssignKeyBody : List C15S := [
  .ifThen (.in_ (.var "key") (.var "unknowns_set"))
    [.setSub2 "mat" (.var "i_eqn") (.index (.var "unknown_idx_lut") (.var "key"))
      (.bin .mul (.var "lhs_factor") (.var "coeff"))]
    [.ifThen (.in_ (.var "key") (.var "parameters"))
      [.setSub2 "rhs_mat" (.var "i_eqn") (.index (.var "parameter_idx_lut") (.var "key"))
        (.bin .mul (.neg (.var "lhs_factor")) (.var "coeff"))]
      [.ifThen (.cmp .eq (.var "key") (.lit 1))
        [.setSub2 "rhs_mat" (.var "i_eqn") (.lit (-1))
          (.bin .mul (.neg (.var "lhs_factor")) (.var "coeff"))]
        [.raise_ "ValueError" "key '{}' not understood"]]]]

/-- `solve_affine_equations_for` with the three-way key test of the assembly as a parameter -/
def c15SolveVariant (keyBody : List C15S) : C15Fn :=
  { expSolveFn with body := expSolveBody.map fun s => match s with
      | .forIn (.tup2 (.name "i_eqn") p) it _ =>
          .forIn (.tup2 (.name "i_eqn") p) it
            [.forIn (.tup2 (.name "lhs_factor") (.name "coeffs")) expSidesList
              [.forIn (.tup2 (.name "key") (.name "coeff")) (.meth (.var "coeffs") "items") keyBody]]
      | s => s }

/-- with the source's own key test the variant IS the function read from the source -/
theorem c15SolveVariant_id : c15SolveVariant expKeyBody = expSolveFn := rfl

/-- **`=` for `+=` in the assembly** (the defect repaired by 0e8d81e): for `x + 1 = 0` the constant
of the right-hand side overwrites the one of the left-hand side and the run answers `x = 0`; the
source as it is answers `x = -1`. -/
theorem assign_for_accumulate_table_cex :
    (match c15RunSolve (c15WithFn (c15SolveVariant c15AssignKeyBody)) some ["x"]
        [(.nary .sum [.var "x", .const (.int 1)], .const (.int 0))] with
      | .ok [(k, v)] => k == .var "x" && v == .const (.int 0)
      | _ => false) = true ∧
    (match c15RunSolve c15ExpTable some ["x"]
        [(.nary .sum [.var "x", .const (.int 1)], .const (.int 0))] with
      | .ok [(k, v)] => k == .var "x" && v == .const (.int (-1))
      | _ => false) = true := by
  refine ⟨by decide +kernel, ?_⟩
  rw [← table_current, solve_eq_table_own_order_current ["x"] _ (by decide) [] (by rfl)]
  decide +kernel

end PV.C15
