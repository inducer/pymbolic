import PV.Model.StockNodes
import PV.Proofs.WalkDispatch
import PV.Proofs.StockNodes
import PV.Proofs.WalkTable
import PV.Generated.Traversal
/-
  C04, continued — two clauses on the parts of the stock traversals the expression model has no
  constructor for:

  * "a node type it does not handle is reported by raising, never silently skipped", for nodes of
    USER classes below the library's base classes (`unhandled_reported`,
    `user_node_unhandled_reported`) and for the handler tables regenerated from the current source
    (`base_handlers_report_current`, `user_node_below_base_reported_current`);
  * "the walk mapper calls visit once per node occurrence ..." on numpy arrays of every rank
    (`array_walk_ndindex`, `array_walk_skip`), for the `map_numpy_array` rows regenerated from the
    current source (`array_rows_current`, `array_walk_table_current`), with the witnesses of what
    Python's iteration protocol does instead (`array_walk_each_rank2_cex`,
    `array_walk_each_rank0_cex`).
-/
namespace PV.C04
open PV PV.Generated

/-! ## 10. Nodes of user classes that nothing handles -/

/-- **Reported by raising.**  A mapper with ANY handler table, a node class with ANY MRO: if every
handler name along the MRO is one the mapper reports (it has no such attribute, or the function
behind it raises `NotImplementedError`), then the call ends in an error — the unsupported-
expression hook or that `NotImplementedError`; no result is returned. -/
theorem unhandled_reported (tbl : List C04Handler) (mro : List (Option String))
    (h : ∀ m, some m ∈ mro → c04Reports tbl m = true) :
    c04Reported (c04ResolveMro tbl mro) = true := by
  unfold c04ResolveMro
  rcases dispatchExpr_cases (tbl.map (·.name)) mro with ⟨m, hd, _, hmem⟩ | hu
  · rw [hd]
    have hr := h m hmem
    unfold c04Reports at hr
    cases hf : c04FindHandler tbl m with
    | none => simp [c04BodyOf_none_of_find_none tbl 4 m hf, c04Reported]
    | some hd' =>
      rw [hf] at hr
      have hb : c04BodyOf tbl 4 m = some .raises := by simpa using hr
      simp [hb, c04Reported]
  · rw [hu]; rfl

/-- **... wherever the class sits in the user's hierarchy.**  A user class whose MRO is `own`
(the user's classes, most derived first) followed by `base` (the library class it hangs off and
that one's ancestors): if the mapper implements none of the user's names and reports every
library name, the node is reported. -/
theorem user_node_unhandled_reported (tbl : List C04Handler) (own base : List (Option String))
    (hown : ∀ m, some m ∈ own → c04FindHandler tbl m = none)
    (hbase : ∀ m, some m ∈ base → c04Reports tbl m = true) :
    c04Reported (c04ResolveMro tbl (own ++ base)) = true := by
  apply unhandled_reported
  intro m hm
  rcases List.mem_append.mp hm with h | h
  · simp [c04Reports, hown m h]
  · exact hbase m h

/-- the stock traversals of the current source: `Collector` is `CombineMapper` plus its leaf
handlers -/
def c04StockTables : List (String × List C04Handler) :=
  [("WalkMapper", c04WalkTable), ("IdentityMapper", c04IdentityTable),
   ("CombineMapper", c04CombineTable),
   ("Collector", c04WithLeaves c04CollectorLeaves c04CombineTable),
   ("CallbackMapper", c04CallbackTable)]

/-- **The base classes of the current primitives** — the classes other library classes derive
from — hand down exactly these handler names. -/
theorem base_class_names_current :
    c04InheritedNames c04Classes =
      ["map_algebraic_leaf", "map_leaf", "map_quotient_base", "map__shift_operator"] := by
  decide +kernel

/-- **No stock traversal of the current source answers for a base class**: under each of the
names the library's base classes hand down, `WalkMapper`, `IdentityMapper`, `CombineMapper`,
`Collector` and `CallbackMapper` have no handler, or `Mapper`'s stub that raises
`NotImplementedError`. -/
theorem base_handlers_report_current :
    c04StockTables.all (fun t => (c04InheritedNames c04Classes).all (c04Reports t.2)) = true := by
  decide +kernel

/-- **A user node type below a base class is reported by the stock traversals of the current
source**: for `WalkMapper`, `IdentityMapper`, `CombineMapper`, `Collector`, `CallbackMapper`, for
every library class all of whose handler names are base-class names (`AlgebraicLeaf`, `Leaf`,
`QuotientBase`, ...; `Expression` itself: the empty MRO), and every chain of user classes on top
of it whose names the traversal does not implement, the call raises. -/
theorem user_node_below_base_reported_current (t : String × List C04Handler)
    (ht : t ∈ c04StockTables) (own base : List (Option String))
    (hown : ∀ m, some m ∈ own → c04FindHandler t.2 m = none)
    (hbase : ∀ m, some m ∈ base → m ∈ c04InheritedNames c04Classes) :
    c04Reported (c04ResolveMro t.2 (own ++ base)) = true := by
  apply user_node_unhandled_reported _ _ _ hown
  intro m hm
  have hall := base_handlers_report_current
  rw [List.all_eq_true] at hall
  have h1 := hall t ht
  rw [List.all_eq_true] at h1
  exact h1 m (hbase m hm)

/-- a handler for a base-class name that answers — `map_leaf = map_constant` in a collector — makes
every user node type below `Leaf` vanish silently: the fold goes on with an empty contribution -/
theorem base_handler_answers_cex :
    c04Reported (c04ResolveMro (c04WithLeaves ("map_leaf" :: c04CollectorLeaves) c04CombineTable)
      [some "map_port", some "map_leaf", some "map_algebraic_leaf", none]) = false := by
  decide +kernel

section examples
example : c04ResolveMro c04CombineTable
    [some "map_tagged_port", some "map_port", some "map_leaf", some "map_algebraic_leaf", none]
      = .ok .raises := by decide +kernel
example : c04ResolveMro c04WalkTable [some "map_marker", none] = .error .unsupported := by
  decide +kernel
example : c04Reports c04WalkTable "map_leaf" = true ∧ c04Reports c04WalkTable "map_variable" = false := by
  decide +kernel
/-- the hypotheses of `user_node_below_base_reported_current` are satisfiable -/
example : c04Reported (c04ResolveMro (c04WithLeaves c04CollectorLeaves c04CombineTable)
    ([some "map_port"] ++ [some "map_leaf", some "map_algebraic_leaf", none])) = true :=
  user_node_below_base_reported_current ("Collector", _)
    (.tail _ (.tail _ (.tail _ (.head _)))) _ _
    (by intro m hm; simp at hm; subst hm; decide +kernel)
    (by intro m hm; rw [base_class_names_current]; simp at hm; rcases hm with h | h <;> subst h <;> decide)
end examples

/-! ## 11. Arrays of every rank under the walk mapper -/

/-- the row `WalkMapper.map_numpy_array` has in the current source -/
def c04ArrayWalkRow : C04Body := .walk .guard true [⟨"", .ndindex, true⟩] true true

/-- what the row would be with the entries enumerated by Python's iteration protocol
(`for child in expr`, the body of `map_list`) -/
def c04ArrayWalkRowEach : C04Body := .walk .guard true [⟨"", .each, true⟩] true true

/-- **Once per node occurrence, on arrays of EVERY rank.**  With the entries enumerated by index
(`numpy.ndindex(expr.shape)`), the walk of an array of any shape — rank 0, axes of length 0 and 1
included — is `visit` on the array, `visit` / `post_visit` on each entry once in index order,
`post_visit` on the array; all with the extra arguments. -/
theorem array_walk_ndindex (args : Bool) (fuel : Nat) (shape : List Nat) :
    aWalkObj c04ArrayWalkRow false args (fuel + 1) (.array shape 0) = .ok (aSpec args shape) := by
  have h := seqL_entries c04ArrayWalkRow false args fuel 0 (List.range (shapeSize shape))
  simp only [Nat.zero_add, c04ArrayWalkRow] at h
  simp only [aWalkObj, c04ArrayWalkRow, aSeqSites, aItems, Bool.and_true, Nat.zero_add, aSpec]
  simp [bind, Except.bind, pure, Except.pure, h]

/-- **`visit` returning `False` on the array skips its entries** (and the post-visit). -/
theorem array_walk_skip (args : Bool) (fuel : Nat) (shape : List Nat) :
    aWalkObj c04ArrayWalkRow true args (fuel + 1) (.array shape 0)
      = .ok [⟨false, .array shape 0, args⟩] := by
  simp [aWalkObj, c04ArrayWalkRow, pure, Except.pure]

/-- **The array rows of the current source**: `WalkMapper`, `CombineMapper` and `IdentityMapper`
enumerate the entries of an array by index (`numpy.ndindex(expr.shape)` / `expr.flat`), forward
the extra arguments, and the walk handler brackets them with `visit` (guard) and `post_visit`. -/
theorem array_rows_current :
    c04BodyOf c04WalkTable 4 "map_numpy_array" = some c04ArrayWalkRow ∧
    c04BodyOf c04CombineTable 4 "map_numpy_array" = some (.fold true [⟨"", .ndindex, true⟩]) ∧
    c04BodyOf c04IdentityTable 4 "map_numpy_array"
      = some (.rebuild [⟨"", .ndindex, true⟩] false [] false .container) := by
  decide +kernel

/-- **The walk of an array by the `WalkMapper` of the current source is the property's trace**, for
every shape and both answers of `visit`. -/
theorem array_walk_table_current (args : Bool) (shape : List Nat) :
    aWalkTable c04WalkTable false args shape = .ok (aSpec args shape) ∧
    aWalkTable c04WalkTable true args shape = .ok [⟨false, .array shape 0, args⟩] := by
  unfold aWalkTable
  rw [array_rows_current.1]
  exact ⟨array_walk_ndindex args _ shape, array_walk_skip args _ shape⟩

/-- on 1-d arrays Python's iteration protocol yields the entries: the two enumerations agree -/
theorem array_walk_each_rank1 (args : Bool) (fuel n : Nat) :
    aWalkObj c04ArrayWalkRowEach false args (fuel + 1) (.array [n] 0) = .ok (aSpec args [n]) := by
  have h := seqL_entries c04ArrayWalkRowEach false args fuel 0 (List.range n)
  simp only [Nat.zero_add, c04ArrayWalkRowEach] at h
  simp only [aWalkObj, c04ArrayWalkRowEach, aSeqSites, aItems, Bool.and_true, Nat.zero_add, aSpec,
    shapeSize, Nat.mul_one]
  simp [bind, Except.bind, pure, Except.pure, h]

/-- ... on a 2 x 2 array it yields the two ROWS — views that are no nodes of the tree — and each is
walked as an array again: 14 events instead of 10, `visit` on objects the tree does not contain -/
theorem array_walk_each_rank2_cex :
    aWalkObj c04ArrayWalkRowEach false true 4 (.array [2, 2] 0) ≠ .ok (aSpec true [2, 2]) ∧
    (∃ evs, aWalkObj c04ArrayWalkRowEach false true 4 (.array [2, 2] 0) = .ok evs ∧
      evs.length = 14 ∧ (aSpec true [2, 2]).length = 10 ∧
      (⟨false, .array [2] 2, true⟩ : AEvent) ∈ evs) := by
  exact ⟨by decide, _, rfl, by decide, by decide, by decide⟩

/-- ... and a 0-d array cannot be iterated at all: the walk ends in an error instead of visiting
the entry -/
theorem array_walk_each_rank0_cex :
    aWalkObj c04ArrayWalkRowEach false true 4 (.array [] 0) = .error .foreign ∧
    aWalkObj c04ArrayWalkRow false true 4 (.array [] 0) = .ok (aSpec true []) :=
  ⟨rfl, rfl⟩

section examples
example : aSpec true [2, 1] =
    [⟨false, .array [2, 1] 0, true⟩, ⟨false, .entry 0, true⟩, ⟨true, .entry 0, true⟩,
     ⟨false, .entry 1, true⟩, ⟨true, .entry 1, true⟩, ⟨true, .array [2, 1] 0, true⟩] := by decide
example : aWalkTable c04WalkTable false true [2, 0, 3] =
    .ok [⟨false, .array [2, 0, 3] 0, true⟩, ⟨true, .array [2, 0, 3] 0, true⟩] := by decide +kernel
example : aItems .each [2, 3] 0 = some [.array [3] 0, .array [3] 3] := by decide
example : aItems .ndindex [2, 3] 0 = some [.entry 0, .entry 1, .entry 2, .entry 3, .entry 4, .entry 5] := by
  decide
end examples

end PV.C04
