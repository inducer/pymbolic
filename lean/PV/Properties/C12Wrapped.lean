import PV.Model.Cse
import PV.Proofs.SyntaxBEq
/-
  C12 — lists that already contain wrappers (the quantifier "pre-existing wrappers with and without
  prefixes and scopes"): what `UseCountMapper.map_common_subexpression` and
  `CSEMapper.map_common_subexpression` do with them, as statements about the model
  (PV/Model/Cse.lean: `useCount`, `cseMap`, `tagAll`).

  * the scope of a pre-existing wrapper plays no role in the mapper (`cseMap_wrapper_scope_irrelevant`);
  * an UNPREFIXED pre-existing wrapper of any scope around an operation that is to be eliminated is
    mapped to the canonical wrapper of that operation — the very node a bare occurrence is mapped to
    (`unprefixed_wrapper_shares`): both end up in ONE shared wrapper;
  * a wrapper met for the first time is walked through: the operations inside it are counted
    (`useCount_wrapper_first`), so that an operation occurring once inside a pre-existing wrapper and
    once elsewhere is eliminated (`inside_wrapper_shared_witness`);
  * finding: a PREFIXED pre-existing wrapper does not merge with the canonical wrapper of its child
    (`prefixed_wrapper_not_merged_cex`).

  The stream `prewrapped` of harness/props/c12.py checks the clause on the real code (operation
  handlers of one evaluator over all tagged expressions, counted per operation of the input).
-/
namespace PV.C12
open PV

/-- `CSEMapper.map_common_subexpression` does not look at the scope of the wrapper it meets. -/
theorem cseMap_wrapper_scope_irrelevant (elim : List CKey) (c : Expr) (p : Option String)
    (s s' : String) (T : Tbl) :
    cseMap elim (.cse c p s) T = cseMap elim (.cse c p s') T := by
  simp only [cseMap]

/-- what the mapper does with a pre-existing wrapper: map the child, pass it through
`wrap_in_cse` with the wrapper's prefix -/
theorem cseMap_wrapper (elim : List CKey) (c : Expr) (p : Option String) (s : String) (T : Tbl) :
    cseMap elim (.cse c p s) T = (cseMap elim c T).map fun rT => (wrapInCse rT.1 p, rT.2) := by
  simp only [cseMap]
  cases cseMap elim c T <;> rfl

/-- **An unprefixed pre-existing wrapper — of ANY scope — shares the wrapper of its child.**
Whenever the child is mapped to a wrapper `w` (it is an operation to be eliminated: `w` is its
canonical wrapper, new or looked up), the pre-existing wrapper around it is mapped to that same
node `w`, and the table of canonical wrappers is left as the child left it: the two occurrences
end up in one shared wrapper, and no wrapper is placed around a wrapper. -/
theorem unprefixed_wrapper_shares (elim : List CKey) (c : Expr) (s : String) (T T' : Tbl)
    (c' : Expr) (q : Option String) (sc : String)
    (h : cseMap elim c T = .ok (.cse c' q sc, T')) :
    cseMap elim (.cse c none s) T = .ok (.cse c' q sc, T') := by
  rw [cseMap_wrapper, h]; rfl

/-- the same for a bare occurrence that finds the canonical wrapper in the table (operations of the
property's fragment: sums, products, quotients, powers, calls): with `unprefixed_wrapper_shares`,
a bare occurrence and an unprefixed wrapper of any scope around an equal operation are mapped to
the SAME node -/
theorem bare_hit (elim : List CKey) (T : Tbl) (e w : Expr) (hop : e.isCseOp = true)
    (hl : e.hasList = false) (he : inElim elim (normalizedKey e) = true)
    (hw : T.find (normalizedKey e) = some w) : cseMap elim e T = .ok (w, T) := by
  have hm : opMode elim T e = .ok (.hit w) := by
    simp only [opMode, hop, hl, he, hw, ↓reduceIte, Bool.false_eq_true]; rfl
  cases e with
  | nary o cs => simp only [cseMap, hm]; rfl
  | bin o a b => simp only [cseMap, hm]; rfl
  | call f as => simp only [cseMap, hm]; rfl
  | _ => cases hop

/-- **A wrapper met for the first time is walked through**: the use counts after it are the use
counts of its child (every operation inside it is visited and counted), plus the entry of the
wrapper itself. -/
theorem useCount_wrapper_first (c : Expr) (p : Option String) (s : String) (cnt : Counts)
    (hl : c.hasList = false) (hn : cnt.find (normalizedKey (.cse c p s)) = none) :
    useCount (.cse c p s) cnt
      = (useCount c cnt).map fun c1 => c1.set (normalizedKey (.cse c p s)) 1 := by
  simp only [useCount, hl, hn]
  cases useCount c cnt <;> rfl

/-- … and a wrapper met again is only counted (its child is not walked a second time) -/
theorem useCount_wrapper_again (c : Expr) (p : Option String) (s : String) (cnt : Counts) (n : Nat)
    (hl : c.hasList = false) (hn : cnt.find (normalizedKey (.cse c p s)) = some n) :
    useCount (.cse c p s) cnt = .ok (cnt.incr (normalizedKey (.cse c p s))) := by
  simp only [useCount, hl, hn]; rfl

/-- non-vacuity, end to end: `[CSE(f(x), scope = expression) + 1, f(x)*2]` — the scoped wrapper and
the bare `f(x)` become ONE wrapper -/
theorem scoped_wrapper_shared_witness :
    let fx := Expr.call (.var "f") [.var "x"]
    let w := Expr.cse fx none evalScope
    (tagAll [.nary .sum [.cse fx none "pymbolic_expr", .const (.int 1)],
             .nary .prod [fx, .const (.int 2)]]).toOption
      = some [.nary .sum [w, .const (.int 1)], .nary .prod [w, .const (.int 2)]] := by
  decide +kernel

/-- `[CSE(f(x) + y), f(x)*2]` — `f(x)` occurs once inside a pre-existing wrapper and once outside:
it is counted twice, eliminated, and both occurrences become one wrapper -/
theorem inside_wrapper_shared_witness :
    let fx := Expr.call (.var "f") [.var "x"]
    let w := Expr.cse fx none evalScope
    (tagAll [.cse (.nary .sum [fx, .var "y"]) none evalScope,
             .nary .prod [fx, .const (.int 2)]]).toOption
      = some [.cse (.nary .sum [w, .var "y"]) none evalScope, .nary .prod [w, .const (.int 2)]] := by
  decide +kernel

/-- **finding**: a pre-existing wrapper WITH A PREFIX does not merge with the canonical wrapper of
its child: `[CSE(f(x), "a") + 1, f(x)*2]` — in the output `f(x)` is held by two distinct
wrappers (the prefixed one is rebuilt by `wrap_in_cse(canonical, "a")`). -/
theorem prefixed_wrapper_not_merged_cex :
    let fx := Expr.call (.var "f") [.var "x"]
    (tagAll [.nary .sum [.cse fx (some "a") evalScope, .const (.int 1)],
             .nary .prod [fx, .const (.int 2)]]).toOption
      = some [.nary .sum [.cse fx (some "a") evalScope, .const (.int 1)],
              .nary .prod [.cse fx none evalScope, .const (.int 2)]] := by
  decide +kernel

/-- a pre-existing wrapper around a variable is dropped: `wrap_in_cse` returns variables bare -/
example : (cseMap [] (.cse (.var "x") none "pymbolic_global") []).toOption.map (·.1) = some (.var "x") := by
  decide +kernel

/-- the hypothesis of `unprefixed_wrapper_shares` is met by an operation to be eliminated -/
example :
    let fx := Expr.call (.var "f") [.var "x"]
    (cseMap [normalizedKey fx] (.cse fx none "pymbolic_global") []).toOption.map (·.1)
      = some (.cse fx none evalScope) ∧
    (cseMap [normalizedKey fx] fx []).toOption.map (·.1) = some (.cse fx none evalScope) := by
  decide +kernel

end PV.C12
