import PV.Proofs.UnifySound
import PV.Proofs.SyntaxBEq
import PV.Proofs.UnifyCex
import PV.Proofs.UnifySem
import PV.Proofs.UnifyComplete
import PV.Proofs.MatchpyValue
import PV.Proofs.MatchpyRepl
import PV.Proofs.MatchpyInj
import PV.Proofs.MatchpyWf
import PV.Proofs.MatchpyLogic
import PV.Generated.MatchpyOps
/-
  C16 — pattern matching results are sound (the one-directional unifier of
  pymbolic/mapper/unifier.py; model: PV/Model/Unify.lean, tied to the code by the `unifier`
  correspondence stream of harness/props/c16.py).

  "Equal up to reordering and regrouping of sums and products" is the inductive congruence `ACEq`
  (PV/Proofs/UnifyAC.lean): Python equality, permutation of the operands of a sum / product, merging
  a nested sum into its parent sum (product into product), a one-operand sum / product is its
  operand — nothing else.

  On the current tree the instantiation law is FALSE in five shapes (the second bullet holds two; each a `…_cex` theorem below,
  each replayed on the real code by the probes of harness/props/c16.py):
    * a sum / product pattern with exactly one free-variable operand against a target with one
      operand fewer: the variable is bound to 0 (to 1 for a product)            — arity guard
    * leftover target operands that are zero-valued (one-valued in a product) are dropped by
      `flattened_sum` / `flattened_product`, a zero factor collapses the share to 0  — target guard
    * an EMPTY sum / product pattern returns a fresh empty record                  — pattern guard
    * a length-1 index tuple is unpacked on either side (`a[x]` matches `a[(b,)]`)   — both guards
  `unify_sound_partial` proves the law for every pattern / target / candidate set outside these
  shapes (the decidable hypothesis `guards`).

  At FULL strength (no guard): `unify_binds_only_candidates`, `unify_functional` (every record binds
  only declared variables, each once) and `unify_complete_renaming` (a renamed copy of the pattern
  is matched, by the renaming).  `acEq_value`: AC-equal trees have equal values; `acEquiv_sound`: the
  executable normal-form test used by the driver (and mirrored by the Python oracle) only accepts
  AC-equal trees.

  The matchpy BRIDGE (pymbolic/interop/matchpy; model PV/Model/Matchpy.lean, tied to the code by
  the `matchpy-convert`, `matchpy-from`, `matchpy-order`, `matchpy-tofrom-replacement` streams and
  by the flag table regenerated from the live classes) is the second half of this file: which trees
  convert, the conversion round trip (exact on `bridgeNormal` trees; up to `BridgeEq` and with the
  same value in general; four `…_cex` shapes that do not come back unchanged), soundness of the
  declared commutative / associative / one-identity flags for the arithmetic meaning `evalC`, and
  the multiplicity law of `ToFromReplacement`.  matchpy's matcher stays a trusted parameter.
-/
namespace PV.C16
open PV PV.Unify

/-- **Soundness of the one-directional unifier** (all patterns, targets and candidate sets that
satisfy the guards): every record returned binds only candidate variables, binds each of them
once, binds every candidate variable that occurs in the pattern, and instantiating the pattern
with the record gives the target up to reordering and regrouping of sums and products. -/
theorem unify_sound_partial (cands : List String) (pattern target : Expr)
    (hg : guards cands pattern target = true) :
    ∀ r ∈ unify cands pattern target,
      (∀ x ∈ r.lmap.keys, x ∈ cands) ∧ r.lmap.keys.Nodup ∧
      (∀ x ∈ varsOf pattern, x ∈ cands → x ∈ r.lmap.keys) ∧
      ACEq (inst r.lmap pattern) target := by
  intro r hr
  simp only [guards, Bool.and_eq_true] at hg
  obtain ⟨hgood, _, _, _, hs⟩ :=
    unifyE_sound cands (arities target) pattern target [URec.empty] hg.1.1 hg.2
      ⟨List.Subset.refl _, hg.1.2⟩
      (fun u hu => by simp only [List.mem_singleton] at hu; subst hu; exact good_empty cands) r hr
  exact ⟨hgood.1, hgood.2, hs.1, hs.2⟩

/-- the same for a call with any incoming records (`unifier(pattern, target, urecs)`): the result
extends one of the incoming records -/
theorem unify_extends_partial (cands : List String) (pattern target : Expr) (urecs : List URec)
    (hg : guards cands pattern target = true)
    (hu : ∀ u ∈ urecs, (∀ x ∈ u.lmap.keys, x ∈ cands) ∧ u.lmap.keys.Nodup) :
    ∀ r ∈ unifyE cands pattern target urecs,
      ∃ u ∈ urecs, (∀ x v, AMap.get u.lmap x = some v →
          ∃ v', AMap.get r.lmap x = some v' ∧ ACEq v v') ∧
        ACEq (inst r.lmap pattern) target := by
  intro r hr
  simp only [guards, Bool.and_eq_true] at hg
  obtain ⟨_, u, hu', he, hs⟩ :=
    unifyE_sound cands (arities target) pattern target urecs hg.1.1 hg.2
      ⟨List.Subset.refl _, hg.1.2⟩ hu r hr
  exact ⟨u, hu', he, hs.2⟩

/-! ### full strength on ALL inputs: only declared variables are bound, each once -/

/-- **Every record binds only declared pattern variables** (every pattern, target, candidate
set; no guard). -/
theorem unify_binds_only_candidates (cands : List String) (pattern target : Expr) :
    ∀ r ∈ unify cands pattern target, ∀ x ∈ r.lmap.keys, x ∈ cands := by
  intro r hr
  exact (unifyE_good cands pattern target [URec.empty]
    (fun u hu => by simp only [List.mem_singleton] at hu; subst hu; exact good_empty cands) r hr).1

/-- **Every record binds each variable to one value**: the bindings form a function (the keys of
the association list are duplicate-free), for every pattern, target and candidate set. -/
theorem unify_functional (cands : List String) (pattern target : Expr) :
    ∀ r ∈ unify cands pattern target, r.lmap.keys.Nodup := by
  intro r hr
  exact (unifyE_good cands pattern target [URec.empty]
    (fun u hu => by simp only [List.mem_singleton] at hu; subst hu; exact good_empty cands) r hr).2

/-- a record with two bindings, found through the partitioning of the leftovers -/
example : (unify ["x", "y"] (.nary .sum [.var "x", .var "y"])
    (.nary .sum [.var "a", .var "b", .var "c"])).map (fun r => r.lmap.keys) =
    [["x", "y"], ["x", "y"], ["x", "y"], ["x", "y"], ["x", "y"], ["x", "y"]] := by rfl

/-! ### completeness under injective renamings -/

/-- **Whenever the target is the pattern under an injective renaming of its variables, at least
one record is returned** — and one of the records returned binds every variable it binds as the
renaming does (that it binds ALL candidate variables of the pattern is not stated here).  `ρ` is
injective on the variables of the pattern and fixes those that are not candidates; the pattern
lies in the fragment `patC` (int / bool constants, variables, sums, products, binary and unary
operators, comparisons, conditionals, calls, subscripts with expression or tuple index, look-ups;
no guard on empty or one-operand sums: the statement is at full strength on this fragment). -/
theorem unify_complete_renaming (cands : List String) (pattern : Expr) (ρ : String → String)
    (hfrag : patC pattern = true)
    (hinj : ∀ x ∈ varsOf pattern, ∀ y ∈ varsOf pattern, ρ x = ρ y → x = y)
    (hfix : ∀ x ∈ varsOf pattern, x ∉ cands → ρ x = x) :
    ∃ r ∈ unify cands pattern (rename ρ pattern), ∀ p ∈ r.lmap, p.2 = .var (ρ p.1) := by
  obtain ⟨r, hr, hc⟩ := unifyE_complete (V := varsOf pattern) ⟨hinj, hfix⟩ pattern [URec.empty]
    hfrag (fun _ h => h) ⟨URec.empty, by simp, cons_empty _ _⟩
  exact ⟨r, hr, fun p hp => (hc.1 p hp).2⟩

/-- a renamed sum with a repeated variable, a nested product and a non-candidate symbol -/
example :
    let p : Expr := .nary .sum [.var "x", .nary .prod [.var "y", .var "c"], .var "x"]
    (unify ["x", "y"] p (rename (fun v => if v = "x" then "u" else if v = "y" then "x" else v) p)).length
      = 1 := by
  rfl

/-- the renaming may PERMUTE the pattern's own names — no hypothesis above asks the names of the
target to be disjoint from those of the pattern (`hinj` / `hfix` speak about `ρ` on the variables of
the pattern only).  `f(a) + f(b) + g(a)` against `f(b) + f(a) + g(b)` (`a` and `b` exchanged): the
operand `f(a)` occurs verbatim in the target and has to be paired with `f(b)` all the same (stream
`unifier-renaming` of harness/props/c16.py runs the model and the code on these cases) -/
example :
    let p : Expr := .nary .sum [.call (.var "f") [.var "a"], .call (.var "f") [.var "b"],
      .call (.var "g") [.var "a"]]
    (unify ["a", "b"] p
      (rename (fun v => if v = "a" then "b" else if v = "b" then "a" else v) p)).map (·.lmap)
      = [[("a", .var "b"), ("b", .var "a")]] := by
  rfl

/-- … and a partial overlap (`a ↦ b`, `b ↦ x`) under a product with a nested sum -/
example :
    let p : Expr := .nary .prod [.nary .sum [.var "a", .call (.var "f") [.var "b"]],
      .nary .sum [.var "b", .call (.var "f") [.var "a"]], .call (.var "g") [.var "a"]]
    (unify ["a", "b"] p
      (rename (fun v => if v = "a" then "b" else if v = "b" then "x" else v) p)).map (·.lmap)
      = [[("a", .var "b"), ("b", .var "x")]] := by
  rfl

/-! ### the basic rules (no guard needed) -/

/-- `map_variable`: a candidate variable against anything but a tuple / list binds exactly it (and
notes the target variable it was bound to, if the target is a variable) -/
theorem unify_var_binds (cands : List String) (x : String) (t : Expr) (hx : x ∈ cands)
    (ht : ∀ cs, t ≠ .tuple cs ∧ t ≠ .list cs) :
    unify cands (.var x) t =
      [⟨[(x, t)], match t with | .var y => [(y, .var x)] | _ => []⟩] := by
  have hc : cands.contains x = true := by simpa using hx
  have hr : recFromEq cands x t
      = some ⟨[(x, t)], match t with | .var y => [(y, .var x)] | _ => []⟩ := by
    unfold recFromEq
    split
    · exact absurd rfl (ht _).1
    · exact absurd rfl (ht _).2
    · simp [hx]
    · rename_i hv
      simp only [hc, if_true]
      split
      · exact absurd rfl (hv _)
      · rfl
  simp only [unify, unifyE, mapVariable, hr]
  split <;> simp [unifyMany, URec.unify, unifyMap, unifyMapGo, URec.empty, AMap.get]

/-- a variable that is not a candidate matches only itself, and binds nothing -/
theorem unify_var_literal (cands : List String) (x : String) (hx : x ∉ cands) :
    unify cands (.var x) (.var x) = [URec.empty] ∧
    ∀ t, t ≠ .var x → unify cands (.var x) t = [] := by
  have hrec : ∀ t, recFromEq cands x t = none := by
    intro t; unfold recFromEq; split <;> simp [hx]
  refine ⟨by simp [unify, unifyE, mapVariable, hrec, hx], fun t ht => ?_⟩
  simp only [unify, unifyE, mapVariable, hrec]
  cases t <;> simp
  rename_i y
  intro h; exact absurd (by rw [h]) ht

/-- `unify_map` is the consistency check: a key of both maps must carry `==`-equal values -/
theorem unifyMap_consistent (m1 m2 out : AMap) (h : unifyMap m1 m2 = some out) :
    (∀ x v, AMap.get m1 x = some v → AMap.get out x = some v) ∧
    (∀ x v w, AMap.get m1 x = some v → (x, w) ∈ m2 → v.pyEq w = true) := by
  obtain ⟨added, h1, _, h3, h4⟩ := unifyMapGo_spec m1 m2 m1 out h
  refine ⟨fun x v hv => by rw [h1]; exact AMap.get_append_some hv, fun x v w hv hw => ?_⟩
  rcases h4 (x, w) hw with ⟨v1, hv1, hpy⟩ | hadd
  · simp only at hv1; rw [hv] at hv1; cases hv1; exact hpy
  · have := h3 (x, w) hadd
    simp only at this
    rw [hv] at this; cases this

/-! ### the decision procedure used by the driver and mirrored by the Python oracle -/

/-- the AC normal form stays in the AC class of the tree -/
theorem acNorm_sound (e : Expr) : ACEq e (acNorm e) := acNorm_ac e

/-- `acEquiv` (Python equality of the normal forms) only accepts AC-equal trees -/
theorem acEquiv_sound (a b : Expr) (h : acEquiv a b = true) : ACEq a b :=
  (acNorm_ac a).trans ((ACEq.py h).trans (acNorm_ac b).symm)

/-- `acEquiv` is not vacuous: it rejects the pair of `unify_sound_emptyLeftover_cex` below (as it
does the other four `unify_sound_…_cex` pairs) and accepts a regrouped, reordered sum -/
example : acEquiv (.nary .sum [zero, .var "a", .var "b"]) (.nary .sum [.var "a", .var "b"]) = false := by
  rfl
example : acEquiv (.nary .sum [.var "b", .nary .sum [.var "c", .var "a"]])
    (.nary .sum [.nary .sum [.var "a", .var "b"], .var "c"]) = true := by
  rfl

/-! ### AC-equality means equal values -/

section
universe u
variable {K : Type u} [Field K] [CharZero K]

/-- **"Up to reordering and regrouping" is value-preserving**: AC-equal trees have the same value
(`evalC`: sums, products, quotients of ints / bools / exact floats and variables; undefined on both
sides otherwise) in every field of characteristic 0 under every assignment — the exact commutative
arithmetic that `Sum` / `Product` denote on Python ints, bools and Fractions. -/
theorem acEq_value (ρ : String → K) {a b : Expr} (h : ACEq a b) : evalC ρ a = evalC ρ b :=
  ACEq.evalC_eq ρ h

/-- the normal form has the value of the tree -/
theorem acNorm_value (ρ : String → K) (e : Expr) : evalC ρ (acNorm e) = evalC ρ e :=
  (ACEq.evalC_eq ρ (acNorm_ac e)).symm

/-- under the guards, the instantiated pattern has the value of the target -/
theorem unify_value_partial (ρ : String → K) (cands : List String) (pattern target : Expr)
    (hg : guards cands pattern target = true) :
    ∀ r ∈ unify cands pattern target, evalC ρ (inst r.lmap pattern) = evalC ρ target :=
  fun r hr => ACEq.evalC_eq ρ (unify_sound_partial cands pattern target hg r hr).2.2.2
end

/-- `evalC` is not vacuous: the value of `x + 3*y` -/
example {K : Type} [Field K] [CharZero K] (ρ : String → K) :
    evalC ρ (.nary .sum [.var "x", .nary .prod [.const (.int 3), .var "y"]])
      = some (ρ "x" + 3 * ρ "y") := by
  simp [evalC, evalCL, evalConst]

/-! ### the excluded shapes are real: negation witnesses -/

/-- `x + a + b` against `a + b` binds `x := 0`; `0 + a + b` is not `a + b` up to AC -/
theorem unify_sound_emptyLeftover_cex :
    ∃ (cands : List String) (p t : Expr) (r : URec),
      patGuard p = true ∧ tgtGuard t = true ∧ r ∈ unify cands p t ∧ ¬ ACEq (inst r.lmap p) t := by
  refine ⟨["x"], .nary .sum [.var "x", .var "a", .var "b"], .nary .sum [.var "a", .var "b"],
    ⟨[("x", zero)], []⟩, by rfl, by rfl, ?_, fun h => ?_⟩
  · have : unify ["x"] (.nary .sum [.var "x", .var "a", .var "b"])
        (.nary .sum [.var "a", .var "b"]) = [⟨[("x", zero)], []⟩] := by rfl
    rw [this]; simp
  · -- AC-equal trees have the same number of leaves (`cnt`, weight 1 per variable and constant):
    -- the witnesses below differ in this or another weighted count
    have := ACEq.cnt_eq (fun _ => 1) 1 0 h
    simp [inst, instL, AMap.get, cnt, cntL, zero] at this

/-- `x + b` against `b + 0 + a` binds `x := a`: the zero operand is lost -/
theorem unify_sound_dropsNeutral_cex :
    ∃ (cands : List String) (p t : Expr) (r : URec),
      patGuard p = true ∧ arityGuard cands (arities t) p = true ∧ r ∈ unify cands p t ∧
      ¬ ACEq (inst r.lmap p) t := by
  refine ⟨["x"], .nary .sum [.var "x", .var "b"], .nary .sum [.var "b", zero, .var "a"],
    ⟨[("x", .var "a")], [("a", .var "x")]⟩, by rfl, by rfl, ?_, fun h => ?_⟩
  · have : unify ["x"] (.nary .sum [.var "x", .var "b"])
        (.nary .sum [.var "b", zero, .var "a"]) = [⟨[("x", .var "a")], [("a", .var "x")]⟩] := by rfl
    rw [this]; simp
  · have := ACEq.cnt_eq (fun _ => 1) 1 0 h
    simp [inst, instL, AMap.get, cnt, cntL, zero] at this

/-- `x * b` against `b * 0 * a` binds `x := 0`: the factor `a` is lost -/
theorem unify_sound_zeroCollapse_cex :
    ∃ (cands : List String) (p t : Expr) (r : URec),
      patGuard p = true ∧ arityGuard cands (arities t) p = true ∧ r ∈ unify cands p t ∧
      ¬ ACEq (inst r.lmap p) t := by
  refine ⟨["x"], .nary .prod [.var "x", .var "b"], .nary .prod [.var "b", zero, .var "a"],
    ⟨[("x", zero)], []⟩, by rfl, by rfl, ?_, fun h => ?_⟩
  · have : unify ["x"] (.nary .prod [.var "x", .var "b"])
        (.nary .prod [.var "b", zero, .var "a"]) = [⟨[("x", zero)], []⟩] := by rfl
    rw [this]; simp
  · have := ACEq.cnt_eq (fun _ => 1) 1 0 h
    simp [inst, instL, AMap.get, cnt, cntL, zero] at this

/-- `f(x, Sum(()))` against `f(a, Sum(()))` returns the EMPTY record: `x` stays unbound -/
theorem unify_sound_emptyNary_cex :
    ∃ (cands : List String) (p t : Expr) (r : URec),
      arityGuard cands (arities t) p = true ∧ r ∈ unify cands p t ∧ ¬ ACEq (inst r.lmap p) t := by
  refine ⟨["x"], .call (.var "f") [.var "x", .nary .sum []],
    .call (.var "f") [.var "a", .nary .sum []], URec.empty, by rfl, ?_, fun h => ?_⟩
  · have : unify ["x"] (.call (.var "f") [.var "x", .nary .sum []])
        (.call (.var "f") [.var "a", .nary .sum []]) = [URec.empty] := by rfl
    rw [this]; simp
  · have := ACEq.cnt_eq (fun y => if y = "x" then 1 else 0) 0 0 h
    simp [inst, instL, AMap.get, cnt, cntL, URec.empty] at this

/-- `a[x]` against `a[(b,)]` binds `x := b`; `a[b]` is not `a[(b,)]` -/
theorem unify_sound_indexTuple_cex :
    ∃ (cands : List String) (p t : Expr) (r : URec),
      patGuard p = true ∧ arityGuard cands (arities t) p = true ∧ r ∈ unify cands p t ∧
      ¬ ACEq (inst r.lmap p) t := by
  refine ⟨["x"], .subscript (.var "a") (.var "x"), .subscript (.var "a") (.tuple [.var "b"]),
    ⟨[("x", .var "b")], [("b", .var "x")]⟩, by rfl, by rfl, ?_, fun h => ?_⟩
  · have : unify ["x"] (.subscript (.var "a") (.var "x"))
        (.subscript (.var "a") (.tuple [.var "b"])) = [⟨[("x", .var "b")], [("b", .var "x")]⟩] := by
      rfl
    rw [this]; simp
  · have := ACEq.cnt_eq (fun _ => 0) 0 1 h
    simp [inst, AMap.get, cnt, cntL] at this

/-! ### non-vacuity -/

/-- the guards hold and a record is returned: `x*2 + y + f(z)` against `f(c) + b + 2*a*d + e`
(`x := a*d`, `y := b + e`, `z := c`: the partition of the leftovers, the nested product and the call
all take part) -/
example :
    let p : Expr := .nary .sum [.nary .prod [.var "x", .const (.int 2)], .var "y",
      .call (.var "f") [.var "z"]]
    let t : Expr := .nary .sum [.call (.var "f") [.var "c"], .var "b",
      .nary .prod [.const (.int 2), .var "a", .var "d"], .var "e"]
    guards ["x", "y", "z"] p t = true ∧ (unify ["x", "y", "z"] p t).length = 1 := by
  constructor <;> rfl

example : guards ["x"] (.nary .sum [.var "x", .var "a", .var "b"])
    (.nary .sum [.var "a", .var "b"]) = false := by rfl

/-! ## The matchpy bridge -/

section bridge
open PV.Matchpy

/-! ### the tie to the live classes (T-gen) -/

/-- **The flag / arity table of the model is the table of the code**: `MOp.row` (class name,
`arity`, `commutative`, `associative`, `one_identity`, operand fields, `_mapper_method`) equals the
table regenerated from the live classes of `pymbolic.interop.matchpy` on every run. -/
theorem flag_table_current : Generated.matchpyOps = opTable := by
  simp [Generated.matchpyOps, opTable, MOp.all, MOp.row, binRow, acRow, unRow]

/-- the atom classes (`Scalar`, `Id`, `ComparisonOp`: dataclass fields, `_mapper_method`) and the
three wildcard constructors (`min_count`, `fixed_size`) of the model are those of the code -/
theorem atom_table_current :
    Generated.matchpyAtoms = atomTable ∧ Generated.matchpyWild = wildTable := by
  simp [Generated.matchpyAtoms, atomTable, Generated.matchpyWild, wildTable, WildKind.all, WildKind.name,
    WildKind.minCount, WildKind.fixed]

/-- the `map_*` methods of the two mappers of the model are exactly those the code defines
(as sets): every other node type is refused -/
theorem handler_table_current :
    (Generated.matchpyToHandlers.all (· ∈ toHandlers) && toHandlers.all (· ∈ Generated.matchpyToHandlers)
      && Generated.matchpyFromHandlers.all (· ∈ fromHandlers)
      && fromHandlers.all (· ∈ Generated.matchpyFromHandlers)) = true := by decide +kernel

/-- **The declared flags, exactly**: an operation class is declared commutative iff it is declared
associative iff it stands for one of the seven n-ary node types (`Sum`, `Product`, logical and
bitwise `or` / `and` / `xor`); no class is declared one-identity. -/
theorem flags_exactly (mo : MOp) :
    mo.row.comm = mo.nary?.isSome ∧ mo.row.assoc = mo.nary?.isSome ∧ mo.row.oneId = false := by
  cases mo <;> decide

/-! ### which trees convert -/

/-- **Which trees convert**: `ToMatchpyExpressionMapper` returns a term exactly for the trees that
satisfy the syntactic predicate `convertible` (ints, bools, floats, variables, the seven n-ary
operators other than `Min` / `Max`, the binary / unary operators, comparisons, conditionals,
calls, subscripts, dot / star wildcards); every other node type is refused. -/
theorem converts_iff (e : Expr) : (∃ t, toM e = .ok t) ↔ convertible e = true := toM_ok_iff e

example : convertible (.nary .sum [.var "a", .subscript (.var "b") (.const (.int 1))]) = true := by rfl
example : toM (.nary .min [.var "a"]) = .error .unsupported := by rfl
example : toM (.lookup (.var "a") "n") = .error .notImplemented := by rfl
example : toM (.nary .sum [.const (.str "s"), .nary .min []]) = .error .foreign := by rfl

/-! ### the conversion round trip -/

/-- **Round trip, exact** (partial: the decidable hypothesis `bridgeNormal`): a convertible tree
without wildcards in which no operator declared associative is applied directly to an application
of itself, the operands of every operator declared commutative are already in `list.sort()` order
and every subscript index is a tuple comes back UNCHANGED.  The four excluded shapes are real
(`roundtrip_flatten_cex`, `roundtrip_order_cex`, `roundtrip_index_cex`, `roundtrip_wildcard_cex`). -/
theorem roundtrip_exact_partial (e : Expr) (h : bridgeNormal e = true) : roundtrip e = .ok e := by
  obtain ⟨t, ht, hf⟩ := (roundtrip_exact_aux e.size).1 e (Nat.le_refl _) h
  simp [roundtrip, ht, hf, bind, Except.bind]

example : bridgeNormal (.nary .sum [.call (.var "f") [.var "a"], .const (.int 3),
    .subscript (.var "a") (.tuple [.var "i"]), .var "b"]) = true := by decide +kernel

/-- **Round trip, every convertible tree**: a tree without wildcards that converts always comes
back, and what comes back differs from it at most by `BridgeEq`: operand order of the operators the
bridge declares commutative, merging of nested applications of an operator it declares
associative, and tuple-writing of subscript indices. -/
theorem roundtrip_equiv (e : Expr) (hc : convertible e = true) (hw : hasWild e = false) :
    ∃ e', roundtrip e = .ok e' ∧ BridgeEq e e' := by
  obtain ⟨t, ht⟩ := (toM_ok_iff e).2 hc
  obtain ⟨e', hf, hrel⟩ := (roundtrip_aux e.size).1 e (Nat.le_refl _) t ht hw
  exact ⟨e', by simp [roundtrip, ht, hf, bind, Except.bind], hrel⟩

section
set_option linter.unusedSectionVars false
universe u
variable {K : Type u} [Field K] [CharZero K]

/-- **Round trip, same value**: what comes back has the value of the original (`evalC`, every field
of characteristic 0, every assignment) — in particular the flattening matchpy performs is harmless
for the arithmetic meaning. -/
theorem roundtrip_value (ρ : String → K) (e : Expr) (hc : convertible e = true)
    (hw : hasWild e = false) : ∃ e', roundtrip e = .ok e' ∧ evalC ρ e' = evalC ρ e := by
  obtain ⟨e', h, hrel⟩ := roundtrip_equiv e hc hw
  exact ⟨e', h, (BridgeEq.evalC_eq ρ hrel).symm⟩

/-- everything `BridgeEq` identifies has the same value -/
theorem bridgeEq_value (ρ : String → K) {a b : Expr} (h : BridgeEq a b) : evalC ρ a = evalC ρ b :=
  BridgeEq.evalC_eq ρ h

/-! ### the declared flags are sound for the arithmetic meaning -/

/-- **commutative only where the value is order-independent**: every class declared commutative
stands for an n-ary node type whose value does not depend on the order of its operands.  (For the
five logical / bitwise classes this holds because `evalC` is undefined on them; the content is in
sums and products.  The same for `associative_flag_sound`.) -/
theorem commutative_flag_sound (mo : MOp) (h : mo.row.comm = true) :
    ∃ o, mo.nary? = some o ∧ ∀ (ρ : String → K) (cs ds : List Expr), cs.Perm ds →
      evalC ρ (.nary o cs) = evalC ρ (.nary o ds) := by
  have := (flags_exactly mo).1
  rw [h] at this
  obtain ⟨o, ho⟩ := Option.isSome_iff_exists.1 this.symm
  exact ⟨o, ho, fun ρ _ _ hp => evalC_bridge_perm ρ (by simp [bridgeAC, nary?_mopOfNary ho]) hp⟩

/-- **associative only where regrouping preserves the value**: every class declared associative
stands for an n-ary node type for which merging a nested application into its parent (what
matchpy's constructor does) keeps the value. -/
theorem associative_flag_sound (mo : MOp) (h : mo.row.assoc = true) :
    ∃ o, mo.nary? = some o ∧ ∀ (ρ : String → K) (xs ys zs : List Expr),
      evalC ρ (.nary o (xs ++ .nary o ys :: zs)) = evalC ρ (.nary o (xs ++ ys ++ zs)) := by
  have := (flags_exactly mo).2.1
  rw [h] at this
  obtain ⟨o, ho⟩ := Option.isSome_iff_exists.1 this.symm
  exact ⟨o, ho, fun ρ xs ys zs =>
    evalC_bridge_flat ρ (by simp [bridgeAC, nary?_mopOfNary ho]) xs ys zs⟩

/-- **one-identity only where a one-operand node means its operand**: no class declares it (so
`Sum((a,))` stays a one-operand sum), hence the hypothesis is never met and the statement holds
for that reason alone … -/
theorem one_identity_flag_sound (mo : MOp) (h : mo.row.oneId = true) :
    ∃ o, mo.nary? = some o ∧ ∀ (ρ : String → K) (x : Expr), evalC ρ (.nary o [x]) = evalC ρ x := by
  rw [(flags_exactly mo).2.2] at h; cases h

/-- … although for sums and products the flag would be sound: a one-operand sum / product has the
value of its operand -/
theorem one_identity_would_be_sound (ρ : String → K) (x : Expr) :
    evalC ρ (.nary .sum [x]) = evalC ρ x ∧ evalC ρ (.nary .prod [x]) = evalC ρ x :=
  ⟨evalC_single ρ (Or.inl rfl) x, evalC_single ρ (Or.inr rfl) x⟩

/-- **what matchpy does with the flags keeps the meaning**: building an application of a flagged
class from operand terms (flatten, sort) yields a term whose image has the value of the n-ary node
over the images of the operands — this is why a match found by matchpy modulo the declared
commutativity / associativity is a match for pymbolic's meaning. -/
theorem mk_preserves_value (ρ : String → K) {mo : MOp} {o : NaryOp} (hn : mo.nary? = some o)
    {ts : List MTerm} {es : List Expr} (hes : fromML ts = .ok es) :
    ∃ e', fromM (mk mo ts) = .ok e' ∧ evalC ρ e' = evalC ρ (.nary o es) := by
  obtain ⟨e', h, hrel⟩ := mk_value hn hes
  exact ⟨e', h, (BridgeEq.evalC_eq ρ hrel).symm⟩

/-- the flag theorems are not vacuous: `Sum` is declared commutative and `2 + x = x + 2` -/
example (ρ : String → K) : MOp.sum.row.comm = true ∧
    evalC ρ (.nary .sum [.const (.int 2), .var "x"]) = evalC ρ (.nary .sum [.var "x", .const (.int 2)]) :=
  ⟨rfl, evalC_bridge_perm ρ (by decide) (List.Perm.swap _ _ _)⟩

end

/-! ### the flags on `LogicalOr` / `LogicalAnd`, for the evaluator's meaning

`evalC` gives the logical and bitwise operators no value, so for them the three flag theorems above
hold trivially.  For the two logical operators the statement is made against `den` (the exact
Python meaning the evaluator is proved to compute, C02): the flags are sound when every operand
evaluates and has a truth value — and not beyond, because `any` / `all` short-circuit. -/

/-- **commutative / associative are sound for `LogicalOr` / `LogicalAnd`** (partial: the
hypothesis `truths env … = .ok _`, computable: every operand evaluates without an exception to a
value with a truth value): reordering the operands, and merging a nested application into its
parent, keep the evaluator's value. -/
theorem logical_flags_den_partial (env : Env) {o : NaryOp} (ho : isLogical o) :
    (∀ (cs ds : List Expr) (bs : List Bool), truths env cs = .ok bs → cs.Perm ds →
      den env (.nary o cs) = den env (.nary o ds)) ∧
    (∀ (xs ys zs : List Expr) (bs : List Bool), truths env (xs ++ ys ++ zs) = .ok bs →
      den env (.nary o (xs ++ .nary o ys :: zs)) = den env (.nary o (xs ++ ys ++ zs))) :=
  ⟨fun _ _ _ h hp => den_logical_perm ho h hp, fun xs ys zs _ h => den_logical_flat ho xs ys zs h⟩

/-- non-vacuity: `x or 0 or y` with `x = 0`, `y = 2` -/
example : truths [("x", .int 0), ("y", .int 2)] [.var "x", .const (.int 0), .var "y"]
    = .ok [false, false, true] := by rfl

/-- **the flag is not sound beyond that**: `True or 1/0` is `True`, `1/0 or True` raises — the
sorting matchpy performs on an operation declared commutative can turn a tree that evaluates into
one that raises (the property allows the reordering; the meaning is kept only on operands that
evaluate) -/
theorem logical_commutative_den_cex :
    den [] (.nary .lor [.const (.bool true), .bin .quot (.const (.int 1)) (.const (.int 0))])
      = .ok (.bool true) ∧
    den [] (.nary .lor [.bin .quot (.const (.int 1)) (.const (.int 0)), .const (.bool true)])
      = .error .zeroDiv := by
  constructor <;> rfl

/-- **does not come back: nested associative operator** — `(a + b) + c` comes back as `a + b + c` -/
theorem roundtrip_flatten_cex :
    roundtrip (.nary .sum [.nary .sum [.var "a", .var "b"], .var "c"])
      = .ok (.nary .sum [.var "a", .var "b", .var "c"]) := by decide +kernel

/-- **does not come back: operand order** — `b + a` comes back as `a + b` (allowed by the property) -/
theorem roundtrip_order_cex :
    roundtrip (.nary .sum [.var "b", .var "a"]) = .ok (.nary .sum [.var "a", .var "b"]) := by decide +kernel

/-- **does not come back: index** — `a[b]` comes back as `a[(b,)]` (allowed by the property) -/
theorem roundtrip_index_cex :
    roundtrip (.subscript (.var "a") (.var "b"))
      = .ok (.subscript (.var "a") (.tuple [.var "b"])) := by rfl

/-- **does not come back: wildcards** — a dot / star wildcard converts to a matchpy wildcard, which
`FromMatchpyExpressionMapper` cannot map (`AttributeError: 'Wildcard' object has no attribute
'_mapper_method'`) -/
theorem roundtrip_wildcard_cex :
    convertible (.nary .sum [.dotWild "w_", .var "a"]) = true ∧
    roundtrip (.nary .sum [.dotWild "w_", .var "a"]) = .error .attrError := by
  constructor <;> rfl

/-- `list.sort()` as modelled only reorders, whatever `<` is … -/
theorem sort_is_permutation (ts : List MTerm) : (pySort MTerm.lt ts).Perm ts :=
  pySort_perm MTerm.lt ts

/-- … and the bridge's `<` is NOT an order: a dot wildcard is below a star wildcard and vice versa
(`Wildcard.__lt__` of matchpy), so the operand order of a pattern depends on the order it was
written in — which is why `pySort` models CPython's algorithm and not "the sorted list" -/
example : MTerm.lt (.wild .dot (some "d_")) (.wild .star (some "s_")) = true ∧
    MTerm.lt (.wild .star (some "s_")) (.wild .dot (some "d_")) = true ∧
    pySort MTerm.lt [.wild .dot (some "d_"), .wild .star (some "s_")]
      = [.wild .star (some "s_"), .wild .dot (some "d_")] ∧
    pySort MTerm.lt [.wild .star (some "s_"), .wild .dot (some "d_")]
      = [.wild .dot (some "d_"), .wild .star (some "s_")] := by
  refine ⟨by rfl, by rfl, by rfl, by rfl⟩

/-! ### `ToFromReplacement`: every captured operand reaches the callback with its multiplicity -/

/-- `ToFromReplacement(f, to, from)(**kwargs)` is `to(f(**converted))` -/
theorem toFromReplacement_spec (f : List (String × PArg) → Expr) (kwargs : List (String × MArg))
    {kw : List (String × PArg)} (h : convArgs kwargs = .ok kw) :
    toFromReplacement f kwargs = toM (f kw) := by
  simp [toFromReplacement, h, bind, Except.bind]

/-- a single captured term and a captured tuple (sequence wildcard below a non-commutative
operation) reach the callback as their images, in order (full strength) -/
theorem replacement_one_tuple {t : MTerm} {e : Expr} {ts : List MTerm} {es : List Expr}
    (ht : fromM t = .ok e) (hts : fromML ts = .ok es) :
    convArg (.one t) = .ok (.one e) ∧ convArg (.tuple ts) = .ok (.tuple es) := by
  simp [convArg, ht, hts, bind, Except.bind, pure, Except.pure]

/-- **the multiplicity law** (partial: the decidable hypothesis `pairwiseNe es` — the images of
the keys of the captured `Multiset` are pairwise different under Python `==`): the callback
receives the image of every captured operand with the multiplicity it was captured with.  This is
the statement behind the oracle key `matchpy-replacement-instantiation-differs`; the hypothesis
holds for everything matchpy captures from a converted subject (distinct keys of a `Multiset` of
subject terms have distinct images), and fails only for keys told apart by a `variable_name`
(`replacement_multiset_overwrite_cex`). -/
theorem replacement_receives_all_partial (items : List (MTerm × Nat)) (es : List Expr)
    (hes : fromML (items.map (·.1)) = .ok es) (hd : pairwiseNe es = true)
    (hpos : ∀ n ∈ items.map (·.2), n > 0) :
    convArg (.multiset items) = .ok (.multiset (es.zip (items.map (·.2)))) := by
  have h := convItems_distinct items [] es hes (by simpa using hd)
  simp only [convArg, h, bind, Except.bind, pure, Except.pure, List.nil_append]
  rw [filter_pos_zip hpos]

/-- **the multiplicity law for what matchpy captures**: the keys of a captured `Multiset` are
pairwise different terms (`pairwiseNeM`, decidable; a multiset has each key once); when they are
well-formed name-free terms (`MTerm.wf`, decidable: what a converted subject consists of), their
images are pairwise different as well (`fromM` reflects `==`), so the callback receives the image
of every captured operand with its multiplicity — no further hypothesis. -/
theorem replacement_receives_all_wf (items : List (MTerm × Nat))
    (hwf : ∀ t ∈ items.map (·.1), t.wf = true) (hkeys : pairwiseNeM (items.map (·.1)) = true)
    (hpos : ∀ n ∈ items.map (·.2), n > 0) :
    ∃ es, fromML (items.map (·.1)) = .ok es ∧
      convArg (.multiset items) = .ok (.multiset (es.zip (items.map (·.2)))) := by
  have hall : ∀ ts : List MTerm, (∀ t ∈ ts, t.wf = true) → ∃ es, fromML ts = .ok es := by
    intro ts
    induction ts with
    | nil => intro _; exact ⟨[], rfl⟩
    | cons t ts ih =>
      intro h
      obtain ⟨e, he, _, _⟩ := MTerm.wf_spec (h t (by simp))
      obtain ⟨es, hes⟩ := ih (fun u hu => h u (by simp [hu]))
      exact ⟨e :: es, fromML_cons_ok he hes⟩
  obtain ⟨es, hes⟩ := hall _ hwf
  exact ⟨es, hes, replacement_receives_all_partial items es hes
    (wf_images_distinct _ es hwf hes hkeys) hpos⟩

/-- **a converted subject consists of well-formed name-free terms**: every term
`ToMatchpyExpressionMapper` builds from a tree without wildcards satisfies `MTerm.wf`, so
`replacement_receives_all_wf` applies to whatever matchpy captures out of it. -/
theorem converted_subject_wf {e : Expr} {t : MTerm} (h : toM e = .ok t) (hw : hasWild e = false) :
    t.wf = true := toM_wf h hw

/-- the terms of a converted subject are well-formed and name-free; a term that carries a
`variable_name` is not -/
example : (match toM (.nary .sum [.bin .pow (.var "b") (.const (.int 2)),
      .call (.var "f") [.var "a", .subscript (.var "a") (.const (.int 1))]]) with
    | .ok t => t.wf | .error _ => false) = true := by decide +kernel
example : MTerm.wf (.op .variable [.id "a" none] (some "q")) = false := by decide +kernel

/-- non-vacuity: `{b: 2, c: 1}` captured, `{b: 2, c: 1}` received -/
example : convArg (.multiset [(.op .variable [.id "b" none] none, 2),
      (.op .variable [.id "c" none] none, 1)])
    = .ok (.multiset [(.var "b", 2), (.var "c", 1)]) := by rfl

/-- **the law is false without the hypothesis**: the dict comprehension
`{from_matchpy_expr(expr): count …}` OVERWRITES — two keys with the same image (here: the same
variable, once carrying a `variable_name`) captured 2 + 1 times reach the callback ONCE. -/
theorem replacement_multiset_overwrite_cex :
    convArg (.multiset [(.op .variable [.id "a" none] (some "q"), 2),
      (.op .variable [.id "a" none] none, 1)])
    = .ok (.multiset [(.var "a", 1)]) := by rfl

/-- `match` / `match_anywhere` convert dot-wildcard bindings only: a sequence binding (a
`Multiset` or a tuple) makes the conversion raise (`TypeError: unhashable type` /
`AttributeError`) — reported as a crash, not as a wrong match -/
theorem match_sequence_binding_raises (k : String) (items : List (MTerm × Nat)) (ts : List MTerm)
    (rest : List (String × MArg)) :
    matchConv ((k, .multiset items) :: rest) = .error .typeError ∧
    matchConv ((k, .tuple ts) :: rest) = .error .attrError := by
  constructor <;> rfl

end bridge

end PV.C16
