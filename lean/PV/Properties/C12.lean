import PV.Proofs.CseRel
import PV.Proofs.CseNest
import PV.Proofs.CseEval
import PV.Proofs.CseValue
import PV.Proofs.CseShare
import PV.Proofs.CseErase
import PV.Proofs.CseTallyMain
import PV.Proofs.CseTallyPlanSpec
import PV.Properties.C02
/-
  C12 — common-subexpression handling keeps meaning and shares work: property theorems.

  Model (PV/Model/Cse.lean): `tagAll` = `tag_common_subexpressions` (one `UseCountMapper` walk over
  the whole list, then one `CSEMapper` with its canonical-wrapper table), `wrapInCse` /
  `makeCse` = the two wrapping helpers, `evalTr` / `runTr` = `EvaluationMapper` with the CSE
  result cache of `CSECachingMapperMixin`, instrumented with a chronological event log
  (`child w v`: the child of wrapper `w` was computed and cached; `call`: an environment function
  was invoked).  The model is tied to the code on every run by the correspondence streams of
  harness/props/c12.py (tagged trees, use counts, helper results, event logs).

  "Simple" expressions (PV/Proofs/Simple.lean): no bool / float constants, keyword calls or Python
  lists, so that Python `==` (the dict-key equality the tagger relies on) is structural identity.
-/
namespace PV.C12
open PV

/-! ### 1. equal value -/

/-- a successful run of `tag_common_subexpressions`: the counting walk, then the mapper -/
theorem tagAll_ok {es outs : List Expr} (h : tagAll es = .ok outs) :
    ∃ cnt T, useCountL es [] = .ok cnt ∧ cseMapL (elimKeys cnt) es [] = .ok (outs, T) := by
  unfold tagAll at h
  obtain ⟨cnt, hc, h⟩ := except_bind_ok h
  obtain ⟨⟨out, T⟩, hm, h⟩ := except_bind_ok h
  cases h
  exact ⟨cnt, T, hc, hm⟩

/-- **Tagging preserves the value of every expression of the list**, for all environments: the
i-th tagged expression has a value iff the i-th input has one, and then it is the same value.
(Both may raise; the exception can differ, because a repeated sum or product is replaced by the
wrapper of its FIRST occurrence, whose operands may stand in another order — which is also why the
statement needs exact arithmetic: `den` abstains on floats.) -/
theorem tag_value (env : Env) (es outs : List Expr) (hs : ∀ e ∈ es, e.simple = true)
    (h : tagAll es = .ok outs) :
    outs.length = es.length ∧
      ∀ (i : Nat) (h1 : i < es.length) (h2 : i < outs.length) (v : Value),
        den env outs[i] = .ok v ↔ den env es[i] = .ok v := by
  obtain ⟨cnt, T, _, hm⟩ := tagAll_ok h
  obtain ⟨hr, _⟩ := cseMapL_rel (valueSpec env) (elimKeys cnt) es [] outs T hs
    (by intro p hp; simp at hp) hm
  refine ⟨(relL_length hr).symm, ?_⟩
  intro i h1 h2 v
  exact ((relL_get hr i h1 h2) v).symm

/-- a tagged expression raises iff the original does -/
theorem tag_error_iff (env : Env) (es outs : List Expr) (hs : ∀ e ∈ es, e.simple = true)
    (h : tagAll es = .ok outs) (i : Nat) (h1 : i < es.length) (h2 : i < outs.length) :
    (∃ k, den env outs[i] = .error k) ↔ (∃ k, den env es[i] = .error k) := by
  have := (tag_value env es outs hs h).2 i h1 h2
  constructor <;> intro ⟨k, hk⟩
  · cases hd : den env es[i] with
    | error k' => exact ⟨k', rfl⟩
    | ok v => rw [(this v).mpr hd] at hk; cases hk
  · cases hd : den env outs[i] with
    | error k' => exact ⟨k', rfl⟩
    | ok v => rw [(this v).mp hd] at hk; cases hk

/-- `wrap_in_cse` never changes the meaning (a wrapper denotes what its child denotes) -/
theorem wrap_value (env : Env) (e : Expr) (p : Option String) :
    den env (wrapInCse e p) = den env e := den_wrapInCse e p

/-- non-vacuity: two commuted sums inside two calls; both sums become ONE wrapper -/
example :
    let x := Expr.var "x"
    let f := Expr.var "f"
    let one := Expr.const (.int 1)
    let w := Expr.cse (.nary .sum [x, one]) none evalScope
    tagAll [.call f [.nary .sum [x, one]], .bin .pow (.nary .sum [one, x]) (.const (.int 2))]
      = .ok [.call f [w], .bin .pow w (.const (.int 2))] := by decide +kernel

/-! ### 2. no wrapper directly around a wrapper -/

/-- **The output contains no wrapper directly around a wrapper, given the input has none** — for
ALL expression lists (any node types, pre-existing wrappers with or without prefixes/scopes). -/
theorem no_cse_of_cse (es outs : List Expr) (hn : ∀ e ∈ es, e.noNest = true)
    (h : tagAll es = .ok outs) : ∀ o ∈ outs, o.noNest = true := by
  obtain ⟨cnt, T, _, hm⟩ := tagAll_ok h
  obtain ⟨hr, _⟩ := cseMapL_rel noNestSpec (elimKeys cnt) es [] outs T hn
    (by intro p hp; simp at hp) hm
  intro o ho
  obtain ⟨c, hc, hco⟩ := relL_mem hr o ho
  exact hco (hn c hc)

/-- `wrap_in_cse` (the only place where the mapper creates wrappers) never puts a wrapper
directly around a wrapper, whatever it is given -/
theorem wrapInCse_never_nests (r : Expr) (p : Option String) (c : Expr) (q : Option String)
    (s : String) (h : wrapInCse r p = .cse c q s) (hc : c.isCse = true) :
    ∃ q' s', r = .cse c q' s' := wrapInCse_top r p c q s h hc

/-- non-vacuity: a pre-existing wrapper around a repeated sum is merged with the canonical one -/
example :
    let s := Expr.nary .sum [.var "a", .var "b"]
    tagAll [.cse s none "pymbolic_expr", s] = .ok [.cse s none evalScope, .cse s none evalScope] := by
  rfl

/-! ### 3. repeated operations share one wrapper -/

/-- **Sharing.**  On the fragment of the property (variables, integer constants, sums, products,
divisions, powers, calls), whenever tagging succeeds all outputs are obtained from the
inputs by the STATELESS function `applyTbl` reading one final table `Tf`: at every operation node
whose normalised key was counted more than once it returns the wrapper stored under that key —
the same wrapper at every occurrence, in every expression of the list — and it rebuilds all other
nodes.  Every entry of `Tf` is a prefix-less, evaluation-scope wrapper directly around an
operation node, stored under the key of a simple expression. -/
theorem tag_shares (es outs : List Expr) (hf : Expr.fragL es = true) (h : tagAll es = .ok outs) :
    ∃ cnt Tf, useCountL es [] = .ok cnt ∧ outs = applyTblL (elimKeys cnt) Tf es ∧ TblKeys Tf ∧
      ∀ p ∈ Tf, ∃ r, p.2 = .cse r none evalScope ∧ r.isCseOp = true := by
  obtain ⟨cnt, T, hc, hm⟩ := tagAll_ok h
  obtain ⟨cs', Tf, h1, _, had, hap⟩ := cseMapL_frag (elimKeys cnt) es [] hf
  rw [hm] at h1
  injection h1 with h1; injection h1 with e1 e2; subst e1; subst e2
  refine ⟨cnt, T, hc, (hap T (Tbl.le_refl T)).symm, tblKeys_of_added had, ?_⟩
  intro p hp
  rcases had p hp with h | ⟨_, hw⟩
  · simp at h
  · exact hw

/-- … and `applyTbl` maps any two operation nodes with Python-equal normalised keys that are to be
eliminated to the SAME wrapper (two sums or two products with the same operands in another order
have equal keys: `keyEq_of_perm` below). -/
theorem same_key_same_wrapper (elim : List CKey) (Tf : Tbl) (hT : TblKeys Tf) (a b w : Expr)
    (ha : a.simple = true) (hb : b.simple = true) (oa : a.isCseOp = true) (ob : b.isCseOp = true)
    (ea : inElim elim (normalizedKey a) = true) (eb : inElim elim (normalizedKey b) = true)
    (hk : (normalizedKey a).eq (normalizedKey b) = true)
    (hw : Tf.find (normalizedKey a) = some w) :
    applyTbl elim Tf a = w ∧ applyTbl elim Tf b = w := by
  have hw' : Tf.find (normalizedKey b) = some w := by rw [← Tbl.find_congr ha hb hk hT]; exact hw
  have key : ∀ (e : Expr), e.isCseOp = true → inElim elim (normalizedKey e) = true →
      Tf.find (normalizedKey e) = some w → applyTbl elim Tf e = w := by
    intro e oe ee fe
    cases e <;> simp only [Expr.isCseOp, Bool.false_eq_true] at oe <;>
      simp only [applyTbl, choose, modeOf, Expr.isCseOp, oe, ee, fe, Bool.and_self, if_true]
  exact ⟨key a oa ea hw, key b ob eb hw'⟩

/-- sums / products of the same simple operands in another order have Python-equal keys -/
theorem keyEq_of_perm (o : NaryOp) (ho : o.isComm = true) (cs cs' : List Expr)
    (hs : Expr.simpleL cs = true) (hp : cs.Perm cs') :
    (normalizedKey (.nary o cs)).eq (normalizedKey (.nary o cs')) = true := by
  cases o <;> simp only [NaryOp.isComm, Bool.false_eq_true] at ho <;>
    simp only [normalizedKey] <;> exact PV.keyEq_of_perm _ hs hp

/-- non-vacuity of the sharing theorem: its hypotheses hold for a list with a repeated call, a
commuted sum and a nested repeated product -/
example :
    let a := Expr.var "a"; let b := Expr.var "b"; let f := Expr.var "f"
    let es := [Expr.call f [.nary .sum [a, b]], .nary .prod [.nary .sum [b, a], .call f [.nary .sum [a, b]]]]
    Expr.fragL es = true ∧
    tagAll es = .ok [.cse (.call f [.cse (.nary .sum [a, b]) none evalScope]) none evalScope,
      .nary .prod [.cse (.nary .sum [a, b]) none evalScope,
        .cse (.call f [.cse (.nary .sum [a, b]) none evalScope]) none evalScope]] := by
  decide +kernel

/-! ### 4. the evaluator computes the child of each distinct wrapper once -/

/-- **Each distinct wrapper's child is computed at most once per evaluator instance**, however
often the wrapper occurs and however many expressions are evaluated: in the event log of ANY
history of evaluations on one evaluator (fresh: `t = []`, or reused: any log reached before),
the wrappers of the `child` events (`computed`) are pairwise different.  (A computation that
raises aborts the whole `evaluate` call and stores nothing.) -/
theorem cse_child_once (env : Env) (es : List Expr) (hs : ∀ e ∈ es, e.simple = true) :
    (computed (runTr env es []).2).Nodup :=
  (runTr_good env es [] hs goodLog_nil).1

/-- the same on a reused evaluator -/
theorem cse_child_once_reused (env : Env) (es : List Expr) (t : Log)
    (hs : ∀ e ∈ es, e.simple = true) (ht : GoodLog t) : (computed (runTr env es t).2).Nodup :=
  (runTr_good env es t hs ht).1

/-- … **and at least once**: after a wrapper has been evaluated successfully it is in the cache
(so "exactly once"), and a wrapper that is in the cache is answered from it without any new event -/
theorem cse_child_cached (env : Env) (c : Expr) (p : Option String) (sc : String) (t : Log)
    (hs : (Expr.cse c p sc).simple = true) (v : Value)
    (h : (evalTr env (.cse c p sc) t).1 = .ok v) :
    findBy Expr.pyEq (.cse c p sc) (cacheOf (evalTr env (.cse c p sc) t).2) = some v := by
  have hl : c.hasList = false := by
    have := simple_nolist _ hs; simpa [Expr.hasList] using this
  simp only [evalTr, hl, Bool.false_eq_true, if_false] at h ⊢
  cases hf : findBy Expr.pyEq (.cse c p sc) (cacheOf t) with
  | some v' =>
    simp only [hf] at h ⊢
    injection h with h; subst h; rfl
  | none =>
    simp only [hf] at h ⊢
    cases hr : evalTr env c t with
    | mk r t1 =>
      simp only [hr] at h ⊢
      cases r with
      | error e => cases h
      | ok v' =>
        simp only at h ⊢
        injection h with h; subst h
        simp [cacheOf, findBy, pyEq_self_simple _ hs]

/-- a wrapper found in the cache is answered from it: no event is logged, the child is not run -/
theorem cse_hit_no_event (env : Env) (c : Expr) (p : Option String) (sc : String) (t : Log)
    (v : Value) (hl : c.hasList = false)
    (h : findBy Expr.pyEq (.cse c p sc) (cacheOf t) = some v) :
    evalTr env (.cse c p sc) t = (.ok v, t) := by
  simp [evalTr, hl, h]

/-- forgetting the log, the instrumented evaluator is the plain evaluator of C02 … -/
theorem evalTr_is_evalG (env : Env) (es : List Expr) (t : Log) (mem : List (Expr × Value)) :
    (runTr env es t).1 = runHist false env es ⟨cacheOf t, mem⟩ :=
  runTr_eq_runHist env es t mem

/-- … hence (C02) every result of every history is the standard meaning `den` -/
theorem runTr_eq_den (env : Env) (es : List Expr) (hs : ∀ e ∈ es, e.simple = true) :
    (runTr env es []).1 = es.map (den env) := by
  rw [runTr_eq_runHist env es [] []]
  exact C02.history_eq_den universe_simple false es _ hs C02.evInv_empty

/-- the cache of the log keeps the evaluator invariant of C02 (every entry holds the value of its
key) over a list of evaluations -/
theorem runTr_inv (env : Env) : ∀ (es : List Expr) (t : Log), (∀ e ∈ es, e.simple = true) →
    EvInv env (fun e => e.simple = true) ⟨cacheOf t, []⟩ →
    EvInv env (fun e => e.simple = true) ⟨cacheOf (runTr env es t).2, []⟩
  | [], t, _, h => by simpa [runTr] using h
  | e :: es, t, hs, h => by
    obtain ⟨s', h1, i1⟩ := C02.evalG_eq_den universe_simple false e (hs e (by simp)) _ h
    have h2 := (node_er env e t []).2
    simp only [evalG, withMemo_false] at h1
    rw [h1] at h2
    simp only at h2
    subst h2
    simp only [runTr]
    cases hr : evalTr env e t with
    | mk r t1 =>
      rw [hr] at i1
      simp only
      cases hr2 : runTr env es t1 with
      | mk rs t2 =>
        have := runTr_inv env es t1 (fun x hx => hs x (by simp [hx])) i1
        rw [hr2] at this
        exact this

/-- every value stored for a wrapper (and returned for all its later occurrences) is the
standard meaning of the wrapper -/
theorem cse_child_value (env : Env) (es : List Expr) (hs : ∀ e ∈ es, e.simple = true)
    (w : Expr) (v : Value) (h : EvEvent.child w v ∈ (runTr env es []).2) : den env w = .ok v := by
  have inv := runTr_inv env es [] hs C02.evInv_empty
  exact (inv.1 w v (mem_cacheOf.mpr h)).2

/-- non-vacuity: one wrapper five times in one sum and again in a second evaluation: one
`child` event, one call of `f` -/
example :
    let w := Expr.cse (.call (.var "f") [.var "x"]) none evalScope
    let env : Env := [("x", .int 1), ("f", .func "f")]
    (runTr env [.tuple [w, w, w, w, w], w] []).2 =
      [.child w (.app "f" [.int 1] [] []), .call "f" [.int 1] [] []] := by rfl

/-! ### 5. the wrapping helpers, each as the code defines it -/

/-- what the property sentence calls "left unwrapped" -/
def leafKind : Expr → Bool
  | .const (.int _) | .const (.bool _) | .const (.flt ..) => true
  | .var _ | .subscript _ _ | .cse .. => true
  | _ => false

/-- `wrap_in_cse` leaves variables and subscripts alone … -/
theorem wrapInCse_var (x : String) (p : Option String) : wrapInCse (.var x) p = .var x := rfl
theorem wrapInCse_subscript (a i : Expr) (p : Option String) :
    wrapInCse (.subscript a i) p = .subscript a i := rfl

/-- … and wrapped nodes wrapped ONCE: the child is kept; only a missing prefix is filled in -/
theorem wrapInCse_wrapper (c : Expr) (q p : Option String) (s : String) :
    ∃ q' s', wrapInCse (.cse c q s) p = .cse c q' s' ∧ (p = none → q' = q ∧ s' = s) ∧
      (q ≠ none → q' = q ∧ s' = s) := by
  cases p with
  | none => exact ⟨q, s, rfl, fun _ => ⟨rfl, rfl⟩, fun _ => ⟨rfl, rfl⟩⟩
  | some pp =>
    cases q with
    | none => exact ⟨some pp, evalScope, rfl, (fun h => (by cases h)), (fun h => absurd rfl h)⟩
    | some qq => exact ⟨some qq, s, rfl, (fun h => (by cases h)), (fun _ => ⟨rfl, rfl⟩)⟩

/-- everything else (constants included) gets one evaluation-scope wrapper with the prefix -/
theorem wrapInCse_wraps (e : Expr) (p : Option String)
    (h : ∀ x, e ≠ .var x) (h2 : ∀ a i, e ≠ .subscript a i) (h3 : ∀ c q s, e ≠ .cse c q s) :
    wrapInCse e p = .cse e p evalScope := by
  cases e <;> first
    | rfl
    | exact absurd rfl (h _)
    | exact absurd rfl (h2 _ _)
    | exact absurd rfl (h3 _ _ _)

/-- the sentence restricted to what `wrap_in_cse` really does: every leaf kind except constants -/
theorem wrap_leaves_wrapInCse_partial (e : Expr) (p : Option String) (hk : leafKind e = true)
    (hc : e.isConstant = false) :
    wrapInCse e p = e ∨ ∃ c q s q' s', e = .cse c q s ∧ wrapInCse e p = .cse c q' s' := by
  cases e <;> simp only [leafKind, Bool.false_eq_true] at hk
  case const c => cases c <;> simp_all [Expr.isConstant]
  case var x => exact Or.inl rfl
  case subscript a i => exact Or.inl rfl
  case cse c q s =>
    obtain ⟨q', s', h, _⟩ := wrapInCse_wrapper c q p s
    exact Or.inr ⟨c, q, s, q', s', rfl, h⟩

/-- **finding**: `wrap_in_cse` wraps a constant -/
theorem wrap_leaves_wrapInCse_cex :
    wrapInCse (.const (.int 3)) none = .cse (.const (.int 3)) none evalScope := rfl

/-- `make_common_subexpression` leaves constants alone … -/
theorem makeCse_constant (e : Expr) (p s : Option String) (h : e.isConstant = true) :
    makeCse e p s = e := by
  cases e <;> simp_all [makeCse, Expr.isConstant]

/-- … and wrappers whose scope is compatible with the requested one -/
theorem makeCse_wrapper (c : Expr) (q : Option String) (s : String) (p sc : Option String)
    (h : sc = none ∨ sc = some evalScope ∨ sc = some s) : makeCse (.cse c q s) p sc = .cse c q s := by
  rcases h with rfl | rfl | rfl <;> simp [makeCse]

/-- everything else gets one wrapper with the prefix and the scope (default: evaluation) -/
theorem makeCse_wraps (e : Expr) (p sc : Option String) (hc : e.isConstant = false)
    (h3 : ∀ c q s, e ≠ .cse c q s) : makeCse e p sc = .cse e p (sc.getD evalScope) := by
  cases e with
  | cse c q s => exact absurd rfl (h3 c q s)
  | _ => simp only [makeCse, hc, Bool.false_eq_true, ↓reduceIte]

/-- the sentence restricted to what `make_common_subexpression` really does -/
theorem wrap_leaves_makeCse_partial (e : Expr) (p sc : Option String)
    (h : e.isConstant = true ∨ ∃ c q s, e = .cse c q s ∧
      (sc = none ∨ sc = some evalScope ∨ sc = some s)) : makeCse e p sc = e := by
  rcases h with h | ⟨c, q, s, rfl, h⟩
  · exact makeCse_constant e p sc h
  · exact makeCse_wrapper c q s p sc h

/-- **findings**: `make_common_subexpression` wraps a variable, a subscript, and a wrapper whose
scope differs from a requested non-default scope (a wrapper directly around a wrapper) -/
theorem wrap_leaves_makeCse_variable_cex :
    makeCse (.var "x") none none = .cse (.var "x") none evalScope := rfl
theorem wrap_leaves_makeCse_subscript_cex :
    makeCse (.subscript (.var "a") (.var "x")) none none =
      .cse (.subscript (.var "a") (.var "x")) none evalScope := rfl
theorem wrap_leaves_makeCse_wrapper_cex :
    makeCse (.cse (.var "x") none evalScope) (some "p") (some "pymbolic_expr") =
      .cse (.cse (.var "x") none evalScope) (some "p") "pymbolic_expr" := rfl

/-! ### 6. end to end: tag, then evaluate everything with ONE evaluator — each operation once

Model (PV/Model/CseTally.lean): `evalCnt` is `evalTr` with two more kinds of events in its log —
`arithN` / `arithB` (one `+`, `*`, `/`, `//`, `%`, `**` was performed: what a counting number in
the environment observes) and `node e` (the handler of operation node `e` returned) — and with the
functions of the environment as a parameter `sem` (ANY pure functions).  `c12PlanL es []` is the
reference "every distinct operation once" of the harness oracle (`reference_counts` with the
one-level classifier): one representative per normalised key (`NormalizedKeyGetter`: sums and
products up to the order of their operands, the operands AS WRITTEN), in evaluation order.
`c12Count k` counts the operations of kind `k` in a log, `c12Cost k` those a list of operation
nodes stands for (a sum of n operands: n additions, as `sum(...)` performs them).

Which notion of "the same operation" does the code achieve?  NEITHER of the two the oracle
computes, exactly:
  * one-level (`onelevel_class`, the tagger's own key): each class is performed AT MOST once
    (`tagged_ops_once`, unconditional) and EXACTLY once — the run performs precisely the reference
    plan — when no two canonical wrappers are structurally equal (`tagged_ops_reference_partial`);
    two classes that differ only in the operand order of a NESTED sum/product and are both
    repeated get equal wrappers, and then the evaluator's cache merges them too: fewer operations
    than one per class (`tagged_tally_onelevel_cex`);
  * recursive (`recursive_class`): false in the other direction — `(a+b)*c` and `c*(b+a)` share
    `a+b` but the product is performed twice (`tagged_tally_recursive_cex`, the known finding
    nested-commuted-operands-not-merged). -/

/-- the counting evaluator is a thin copy of the instrumented evaluator of §4: forgetting the
arithmetic and handler events, same results and same `child` / `call` log — hence (C02,
`evalTr_is_evalG`) the values are those of `evalG` and `den` -/
theorem counting_is_evalTr (env : Env) (e : Expr) (t : C12Log) :
    (evalCnt c12SemApp env e t).1 = (evalTr env e (c12Erase t)).1 ∧
      c12Erase (evalCnt c12SemApp env e t).2 = (evalTr env e (c12Erase t)).2 :=
  cnt_er env e t

theorem counting_list_is_evalTr (env : Env) (es : List Expr) (t : C12Log) :
    (evalCntList c12SemApp env es t).1 = (evalTrList env es (c12Erase t)).1 ∧
      c12Erase (evalCntList c12SemApp env es t).2 = (evalTrList env es (c12Erase t)).2 :=
  cntList_er env es t

/-- **what the use counts mean.**  Counting a fragment list never fails, and wherever the
memoising reference walk over the inputs meets a key it has met before (`c12HitsElimL`: every memo
hit), that key has been counted at least twice, i.e. is in `to_eliminate`. -/
theorem repeats_are_eliminated (es : List Expr) (hf : Expr.fragL es = true) :
    ∃ cnt, useCountL es [] = .ok cnt ∧ c12HitsElimL (elimKeys cnt) es [] = true :=
  let ⟨cnt, h1, h2, _⟩ := useCountL_hitsElim es hf
  ⟨cnt, h1, h2⟩

/-- non-vacuity: `a+b`, `b+a` and `(a+b)**2`: one key (the sum) is counted twice and eliminated,
and the reference walk has exactly one memo hit, on that key -/
example :
    let a := Expr.var "a"; let b := Expr.var "b"
    let es := [Expr.nary .sum [a, b], .bin .pow (.nary .sum [b, a]) (.const (.int 2))]
    Expr.fragL es = true ∧ (c12Elim es).length = 1 ∧ c12HitsElimL (c12Elim es) es [] = true ∧
      c12HitsElimL [] es [] = false := by
  decide +kernel

/-- **the reference plan is "every distinct operation once".**  For a fragment list: no two
members of `c12PlanL es []` have the same normalised key, every member is an operation subterm of
the inputs (`c12OpsL`), and every operation subterm of the inputs has the key of a member. -/
theorem reference_plan_spec (es : List Expr) (hf : Expr.fragL es = true) :
    (c12PlanL es []).Pairwise (fun a b => c12SameKey a b = false) ∧
    (∀ s ∈ c12PlanL es [], s ∈ c12OpsL es) ∧
    (∀ x ∈ c12OpsL es, c12Has (c12PlanL es []) x = true) := by
  obtain ⟨dn, h, hI, hs, ha⟩ := c12PlanL_ok es [] hf
    ⟨by intro s hs; simp at hs, List.Pairwise.nil, by intro s hs; simp at hs⟩
  simp only [List.nil_append] at h
  refine ⟨hI.pw, ?_, ha⟩
  intro s hs'
  rw [h] at hs'
  exact (hs s hs').2

/-- non-vacuity: three operations, two keys (the commuted sum is the same operation) -/
example :
    let a := Expr.var "a"; let b := Expr.var "b"
    c12PlanL [.nary .sum [a, b], .bin .pow (.nary .sum [b, a]) (.const (.int 2))] [] =
      [.nary .sum [a, b], .bin .pow (.nary .sum [b, a]) (.const (.int 2))] := by decide +kernel

/-- **every successful run follows the value-free schedule**, for all environments and all
function semantics: the handlers that return (`c12Nodes`, oldest first) are `c12SchedL`, the
wrappers computed are its cache, and for every kind of operation the number performed is the
cost of the scheduled nodes. -/
theorem eval_follows_schedule (sem : C12Sem) (env : Env) (outs : List Expr) (vals : List Value)
    (t : C12Log) (hf : Expr.tfragL outs = true)
    (hr : evalCntList sem env outs [] = (.ok vals, t)) :
    (c12Nodes t).reverse = (c12SchedL outs []).1 ∧ c12Computed t = (c12SchedL outs []).2 ∧
      ∀ k, c12Count k t = c12Cost k (c12SchedL outs []).1 := by
  obtain ⟨new, e1, a1, b1, _, d1⟩ :=
    evalCntList_sched sem env outs [] t vals hf (by intro w hw; simp [c12Computed, c12CacheOf] at hw) hr
  simp only [List.append_nil] at e1; subst e1
  have hc : c12Computed ([] : C12Log) = [] := rfl
  rw [hc] at a1 b1 d1
  exact ⟨a1, b1, fun k => by simpa using d1 k⟩

/-- **End to end, at most once (unconditional).**  For inputs built from variables, integer
constants, sums, products, divisions, powers and calls: `tag_common_subexpressions` succeeds, and
whenever ALL its outputs are evaluated with ONE evaluator without an exception (any environment,
any pure functions in it), the operation nodes whose handler ran, in order, are a SUBLIST of the
tagged forms (`c12Rebuild`: operands replaced by their tagged versions) of the reference plan —
one representative per normalised key.  So no operation the tagger identifies (same normalised
key) is performed twice, and for every kind of operation the number performed is at most the
reference tally. -/
theorem tagged_ops_once (sem : C12Sem) (env : Env) (es : List Expr)
    (hf : Expr.fragL es = true) :
    ∃ outs, tagAll es = .ok outs ∧ ∀ vals t, evalCntList sem env outs [] = (.ok vals, t) →
      (c12Nodes t).reverse.Sublist
        ((c12PlanL es []).map (c12Rebuild (c12Elim es) (c12Table es))) ∧
      ∀ k, c12Count k t ≤ c12Cost k (c12PlanL es []) := by
  obtain ⟨outs, h1, _, h3, h4, _⟩ := tagAll_sched es hf
  refine ⟨outs, h1, fun vals t hr => ?_⟩
  obtain ⟨a, _, c⟩ := eval_follows_schedule sem env outs vals t h3 hr
  refine ⟨a ▸ h4, fun k => ?_⟩
  rw [c k, ← c12Cost_map_rebuild k (c12Elim es) (c12Table es) (c12PlanL es [])]
  exact c12Cost_sublist k h4

/-- **End to end, exactly the reference (when the canonical wrappers are pairwise distinct).**
Then the handlers that ran are EXACTLY the tagged forms of the reference plan, in its order: every
normalised key among the operations of the input is performed exactly once, and the tally of the
run (additions, multiplications, divisions, powers, calls) is the reference tally
`c12RefTally es` = "every distinct operation once" with the one-level classifier. -/
theorem tagged_ops_reference_partial (sem : C12Sem) (env : Env) (es : List Expr)
    (hf : Expr.fragL es = true) (hnc : c12NoCollapse es) :
    ∃ outs, tagAll es = .ok outs ∧ ∀ vals t, evalCntList sem env outs [] = (.ok vals, t) →
      (c12Nodes t).reverse = (c12PlanL es []).map (c12Rebuild (c12Elim es) (c12Table es)) ∧
      (∀ k, c12Count k t = c12Cost k (c12PlanL es [])) ∧
      c12TallyOfLog t = c12RefTally es := by
  obtain ⟨outs, h1, _, h3, _, h5⟩ := tagAll_sched es hf
  refine ⟨outs, h1, fun vals t hr => ?_⟩
  obtain ⟨a, _, c⟩ := eval_follows_schedule sem env outs vals t h3 hr
  have hk : ∀ k, c12Count k t = c12Cost k (c12PlanL es []) := by
    intro k
    rw [c k, h5 hnc, c12Cost_map_rebuild]
  refine ⟨by rw [a, h5 hnc], hk, ?_⟩
  simp only [c12TallyOfLog, c12RefTally, c12TallyOfNodes, hk]

/-- the same on the level of tallies, unconditional: never more than the reference -/
theorem tagged_tally_le_reference (sem : C12Sem) (env : Env) (es outs : List Expr)
    (vals : List Value) (t : C12Log) (hf : Expr.fragL es = true) (h : tagAll es = .ok outs)
    (hr : evalCntList sem env outs [] = (.ok vals, t)) :
    (c12TallyOfLog t).add ≤ (c12RefTally es).add ∧ (c12TallyOfLog t).mul ≤ (c12RefTally es).mul ∧
    (c12TallyOfLog t).div ≤ (c12RefTally es).div ∧ (c12TallyOfLog t).pow ≤ (c12RefTally es).pow ∧
    (c12TallyOfLog t).call ≤ (c12RefTally es).call := by
  obtain ⟨outs', h1, h2⟩ := tagged_ops_once sem env es hf
  rw [h] at h1; injection h1 with h1; subst h1
  have := (h2 vals t hr).2
  exact ⟨this _, this _, this _, this _, this _⟩

/-- non-vacuity: the hypotheses of the exact theorem hold for a list with a repeated call, a
commuted sum and a nested repeated product, evaluated with the counting function of the harness;
the run performs 2 additions, 2 multiplications and one call -/
example :
    let a := Expr.var "a"; let b := Expr.var "b"; let f := Expr.var "f"
    let es := [Expr.call f [.nary .sum [a, b]], .nary .prod [.nary .sum [b, a], .call f [.nary .sum [a, b]]]]
    let env : Env := [("a", .int 1), ("b", .int 2), ("f", .func "f")]
    Expr.fragL es = true ∧ c12NoCollapse es ∧
    c12RunTally c12SemAffine env es = some ⟨2, 2, 0, 0, 0, 0, 1⟩ ∧
    c12RefTally es = ⟨2, 2, 0, 0, 0, 0, 1⟩ := by
  decide +kernel

/-- **the one-level notion is not exact**: `[(a+b)*c, (a+b)*c, (b+a)*c, (b+a)*c]` — the two
products have different keys (their first operands are different expressions), both are repeated,
and both canonical wrappers are `CSE(CSE(a+b)*c)`; the run performs 2 multiplications, one per
class would be 4. -/
theorem tagged_tally_onelevel_cex :
    let a := Expr.var "a"; let b := Expr.var "b"; let c := Expr.var "c"
    let e0 := Expr.nary .prod [.nary .sum [a, b], c]
    let e1 := Expr.nary .prod [.nary .sum [b, a], c]
    let es := [e0, e0, e1, e1]
    let env : Env := [("a", .int 1), ("b", .int 2), ("c", .int 3)]
    Expr.fragL es = true ∧ ¬ c12NoCollapse es ∧ c12SameKey e0 e1 = false ∧
    c12RunTally c12SemApp env es = some ⟨2, 2, 0, 0, 0, 0, 0⟩ ∧
    c12RefTally es = ⟨2, 4, 0, 0, 0, 0, 0⟩ := by
  decide +kernel

/-- **the recursive notion fails**: `[(a+b)*c, c*(b+a)]` — `a+b` is shared, but the two products
have different keys, each occurs once, and both are performed (4 multiplications: a product of
n operands counts as n); as tagged
operations they ARE the same up to operand order: the handlers that ran include two products with
equal normalised key. -/
theorem tagged_tally_recursive_cex :
    let a := Expr.var "a"; let b := Expr.var "b"; let c := Expr.var "c"
    let w := Expr.cse (.nary .sum [a, b]) none evalScope
    let es := [Expr.nary .prod [.nary .sum [a, b], c], .nary .prod [c, .nary .sum [b, a]]]
    let env : Env := [("a", .int 1), ("b", .int 2), ("c", .int 3)]
    Expr.fragL es = true ∧ c12NoCollapse es ∧
    c12RunNodes c12SemApp env es =
      some [.nary .sum [a, b], .nary .prod [w, c], .nary .prod [c, w]] ∧
    c12SameKey (.nary .prod [w, c]) (.nary .prod [c, w]) = true ∧
    c12RunTally c12SemApp env es = some ⟨2, 4, 0, 0, 0, 0, 0⟩ := by
  decide +kernel

end PV.C12
