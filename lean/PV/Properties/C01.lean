import PV.Proofs.EqHash
import PV.Proofs.EqHashOwn
import PV.Proofs.EqHashStock
import PV.Proofs.Pickle
import PV.Properties.C17
import PV.Generated.Classes
import PV.Generated.PostInit
/-
  C01 — expression nodes: structural equality, consistent hashing, immutability.

  Model.  lean/PV/Model/Classes.lean: the class table (one record per `Expression` subclass; what
  the GENERATED source of `__eq__`, `__hash__`, `__getstate__`, `__setstate__`, `init_arg_names`,
  `__getinitargs__` of each decorated class mentions; frozen flag; mapper method), regenerated from
  the live classes on every check into `PV.Generated.classes`.
  lean/PV/Model/EqHash.lean: `eqGen tbl P` / `hashGen tbl P`, the generated methods written like
  the template and reading their field lists from the table; `step1` / `run1`: histories of
  hash / == / != / in / dict insert / dict lookup / copy / rebuild / identity mapper / pickle /
  unpickle / setattr / delattr over a pool of objects with per-instance `_hash_value` slots
  (extending lean/PV/Model/Pickle.lean).  Objects are `PV.Pickle.Obj`; `Obj.pyEq` is the property's
  notion of equality: same node class and pairwise `==` fields.

  lean/PV/Model/EqHashOwn.lean: the HAND-WRITTEN `__eq__` / `__ne__` / `__hash__` of `Polynomial`,
  `Rational` and their subclasses (and the constructor of `Rational`), run from the records
  `PV.Generated.c01OwnEqs` that extract/classes.py reads from their source, inside Python's `==` as
  CPython dispatches it (`ownEq`, `hashX`; sections 6 and 7 below).
  `ClassTable.inMode` / `step1D` / `run1D`: the same histories in an interpreter with
  `__debug__ = false` (`python -O`; the decorator says `frozen=__debug__`; section 8).

  Hypotheses and why:
    `tbl.Ok`         the decidable side condition on the class table (every generated method of
                     every decorated class mentions exactly the dataclass fields, in order; class
                     tested; frozen; hashable).  Discharged for the current tree by `ok_current`;
                     `eq_ignores_dropped_field_cex`, `eq_decided_by_hash_cex` show what happens
                     without it;
    `P.Ok`           CPython's hash contract (numbers by value, mappings order-independent);
    `o.wf`           no float nan CONSTANT inside (nan != nan), keyword names duplicate-free;
    `conforms tbl o` every instance in `o` is an instance of a class of the table, with one value
                     per field;
    `tbl.Immutable`  / "no operation rebound a field": see `hash_cache_inv`.
-/
namespace PV.C01
open PV PV.Pickle PV.EqHash

/-! ### T-gen: the class table of the current tree -/

/-- **ok_current.**  In the working tree the generated `__eq__`, `__hash__`, `__getstate__`,
`__setstate__`, `init_arg_names`, `__getinitargs__` of EVERY decorated class mention exactly the
dataclass fields of the class, in order; `__eq__` tests the class; the dataclass is frozen; it has
a `mapper_method`; every class is hashable and none defines `__eq__` without `__hash__`. -/
theorem ok_current : ClassTable.Ok Generated.classes = true := classes_current.1

/-- the table is not empty and covers the stock classes (non-vacuity of `ok_current`) -/
example : (Generated.classes.find? "CallWithKwargs").map (·.eqFields)
    = some ["function", "parameters", "kw_parameters"] := by decide +kernel
example : (Generated.classes.find? "Comparison").map (·.hashFields)
    = some ["left", "operator", "right"] := by decide +kernel
example : 30 ≤ (Generated.classes.filter (·.kind == .dataclass)).length := by decide +kernel

/-- **stock_current.**  For the class table of the CURRENT tree and all nan-free stock trees
`a`, `b` (every stock node class, any depth): their objects are instances of the table's classes
(`ofExpr_conforms`), so the generated `__eq__` answers the field-wise `==` of the two objects; and
trees that are `==` in the sense of `Expr.pyEq` (the `==` used by every other property's model) are
equal under the generated `__eq__`, in both directions, and have equal generated hashes. -/
theorem stock_current {P : HashParams} (hP : P.Ok) (a b : Expr) (wa : a.wf = true)
    (wb : b.wf = true) :
    eqGen Generated.classes P (ofExpr a) (ofExpr b) = (ofExpr a).pyEq (ofExpr b) ∧
    (a.pyEq b = true →
      eqGen Generated.classes P (ofExpr a) (ofExpr b) = true ∧
      eqGen Generated.classes P (ofExpr b) (ofExpr a) = true ∧
      hashGen Generated.classes P (ofExpr a) = hashGen Generated.classes P (ofExpr b)) := by
  have ca := ofExpr_conforms a
  have cb := ofExpr_conforms b
  have wa' := ofExpr_wf a wa
  have wb' := ofExpr_wf b wb
  have e1 := eqGen_eq_pyEq ok_current hP _ _ wa' wb' ca cb
  refine ⟨e1, fun h => ?_⟩
  have h1 : (ofExpr a).pyEq (ofExpr b) = true := ofExpr_pyEq a b h
  have h2 := Obj.pyEq_symm _ _ wa' wb' h1
  refine ⟨by rw [e1]; exact h1, by rw [eqGen_eq_pyEq ok_current hP _ _ wb' wa' cb ca]; exact h2, ?_⟩
  rw [hashGen_eq_hash ok_current P _ ca, hashGen_eq_hash ok_current P _ cb]
  exact Obj.eq_hash hP _ _ wa' wb' h1

/-- non-vacuity: `f(x, k=1, j=y) == f(x, j=y, k=1.0)` under the generated method of the current
table; a comparison differing in its operator is not -/
example :
    let a := Expr.callKw (.var "f") [.var "x"] ["k", "j"] [.const (.int 1), .var "y"]
    let b := Expr.callKw (.var "f") [.var "x"] ["j", "k"] [.var "y", .const (.flt "1.0" 1 1)]
    a.pyEq b = true ∧ eqGen Generated.classes (C17.exP 0) (ofExpr a) (ofExpr b) = true ∧
    eqGen Generated.classes (C17.exP 0) (ofExpr (.cmp .lt (.var "x") (.var "y")))
      (ofExpr (.cmp .le (.var "x") (.var "y"))) = false := by decide +kernel

/-! ### a small table for examples: a decorated class, an undecorated alias, a legacy subclass
with an extra init arg, a legacy class -/

def exInfo (name : String) (fields : List String) : ClassInfo :=
  { name := name, module := "ex", kind := .dataclass, base := name, fields := fields,
    eqFields := fields, eqClassChecked := true, hashFields := fields, hashInstalled := true,
    getstateFields := fields, setstateFields := fields, initArgNames := fields,
    getinitargsFields := fields, frozen := true, mapperMethod := some "map_x", hashable := true,
    ownEq := false, ownHash := false }

def exSub (name base : String) (fields : List String) : ClassInfo :=
  { name := name, module := "ex", kind := .sub, base := base, fields := fields,
    eqFields := [], eqClassChecked := false, hashFields := [], hashInstalled := false,
    getstateFields := [], setstateFields := [], initArgNames := [],
    getinitargsFields := [], frozen := false, mapperMethod := some "map_x", hashable := true,
    ownEq := false, ownHash := false }

def exTbl : ClassTable :=
  [exInfo "Variable" ["name"], exInfo "Lookup" ["aggregate", "name"],
   exSub "Alias" "Lookup" ["aggregate", "name"], exSub "Tagged" "Variable" ["name", "tag"],
   { exSub "Pair" "" ["left", "right"] with kind := .legacy }]

theorem exTbl_ok : exTbl.Ok = true := by decide +kernel

def vx : Obj := .inst "Variable" .dataclass [strAtom "x"] none
def vy : Obj := .inst "Variable" .dataclass [strAtom "yy"] none
def lookup (a : Obj) (n : String) : Obj := .inst "Lookup" .dataclass [a, strAtom n] none

/-! ### 1. `==` is "same class and pairwise-equal fields" -/

/-- **eq_iff_structural.**  For every class table satisfying `Ok`, every hash function meeting
CPython's contract and all well-formed objects over the table: the generated `__eq__` — class test,
hash fast path, legacy branch, field-wise comparison of the fields the table lists, nested fields
through the same method — answers exactly "same class and pairwise `==` fields".  The content is
that the hash fast path (`if hash(self) != hash(other): return False`) can never answer False for
structurally equal objects, at any nesting depth. -/
theorem eq_iff_structural {tbl : ClassTable} (ok : tbl.Ok = true) {P : HashParams} (hP : P.Ok)
    (a b : Obj) (wa : a.wf = true) (wb : b.wf = true) (ca : conforms tbl a = true)
    (cb : conforms tbl b = true) : eqGen tbl P a b = a.pyEq b :=
  eqGen_eq_pyEq ok hP a b wa wb ca cb

/-- the same for two instances, spelled out: equal iff same class, same number of fields, and the
fields are pairwise `==` -/
theorem eq_iff_structural_inst {tbl : ClassTable} (ok : tbl.Ok = true) {P : HashParams} (hP : P.Ok)
    (c c' : String) (k k' : Kind) (fs fs' : List Obj) (h h' : Option Nat)
    (wa : (Obj.inst c k fs h).wf = true) (wb : (Obj.inst c' k' fs' h').wf = true)
    (ca : conforms tbl (.inst c k fs h) = true) (cb : conforms tbl (.inst c' k' fs' h') = true) :
    eqGen tbl P (.inst c k fs h) (.inst c' k' fs' h') = true ↔
      c = c' ∧ k = k' ∧ fs.length = fs'.length ∧ ∀ p ∈ fs.zip fs', p.1.pyEq p.2 = true := by
  rw [eq_iff_structural ok hP _ _ wa wb ca cb]
  simp only [Obj.pyEq, Bool.and_eq_true, beq_iff_eq, pyEqL_iff, and_assoc]

/-- non-vacuity: objects that differ in exactly one field, objects of different classes with the
same fields, the undecorated alias of a decorated class, `1 == 1.0 == True` inside a field -/
example :
    eqGen exTbl (C17.exP 0) (lookup vx "a") (lookup vx "a") = true ∧
    eqGen exTbl (C17.exP 0) (lookup vx "a") (lookup vx "b") = false ∧
    eqGen exTbl (C17.exP 0) (lookup vx "a") (lookup vy "a") = false ∧
    eqGen exTbl (C17.exP 0) (lookup vx "a") (.inst "Alias" .dataclass [vx, strAtom "a"] none) = false ∧
    eqGen exTbl (C17.exP 0) (lookup (.atom (.int 1)) "a") (lookup (.atom (.bool true)) "a") = true ∧
    conforms exTbl (.inst "Alias" .dataclass [vx, strAtom "a"] none) = true := by decide +kernel

/-- what a constructor call stores (`__post_init__`): a comparison operator given by name and
`scope=None` are normalised, so the two source forms build `==` objects -/
example :
    eqGen Generated.classes (C17.exP 0)
      (postInit (.inst "Comparison" .dataclass [vx, strAtom "lt", vy] none))
      (postInit (.inst "Comparison" .dataclass [vx, strAtom "<", vy] none)) = true ∧
    eqGen Generated.classes (C17.exP 0)
      (postInit (.inst "CommonSubexpression" .dataclass [vx, .atom .none, .atom .none] none))
      (postInit (.inst "CommonSubexpression" .dataclass [vx, .atom .none, strAtom "pymbolic_eval"] none))
        = true := by decide +kernel

/-! ### 2. equivalence relation; equal ⇒ equal hash -/

/-- **eq_refl.** -/
theorem eq_refl {tbl : ClassTable} (ok : tbl.Ok = true) {P : HashParams} (hP : P.Ok) (a : Obj)
    (wa : a.wf = true) (ca : conforms tbl a = true) : eqGen tbl P a a = true := by
  rw [eq_iff_structural ok hP a a wa wa ca ca]
  exact Obj.pyEq_refl a wa

/-- **eq_symm.** -/
theorem eq_symm {tbl : ClassTable} (ok : tbl.Ok = true) {P : HashParams} (hP : P.Ok) (a b : Obj)
    (wa : a.wf = true) (wb : b.wf = true) (ca : conforms tbl a = true) (cb : conforms tbl b = true)
    (h : eqGen tbl P a b = true) : eqGen tbl P b a = true := by
  rw [eq_iff_structural ok hP _ _ wa wb ca cb] at h
  rw [eq_iff_structural ok hP _ _ wb wa cb ca]
  exact Obj.pyEq_symm a b wa wb h

/-- **eq_trans.** -/
theorem eq_trans {tbl : ClassTable} (ok : tbl.Ok = true) {P : HashParams} (hP : P.Ok) (a b c : Obj)
    (wa : a.wf = true) (wb : b.wf = true) (wc : c.wf = true) (ca : conforms tbl a = true)
    (cb : conforms tbl b = true) (cc : conforms tbl c = true)
    (h1 : eqGen tbl P a b = true) (h2 : eqGen tbl P b c = true) : eqGen tbl P a c = true := by
  rw [eq_iff_structural ok hP _ _ wa wb ca cb] at h1
  rw [eq_iff_structural ok hP _ _ wb wc cb cc] at h2
  rw [eq_iff_structural ok hP _ _ wa wc ca cc]
  exact Obj.pyEq_trans a b c wa wb wc h1 h2

/-- **eq_hash.**  Equal objects have equal hashes — the generated `__hash__` of one and of the
other, for every hash function meeting CPython's contract — so each can stand in for the other as
a dict or set key. -/
theorem eq_hash {tbl : ClassTable} (ok : tbl.Ok = true) {P : HashParams} (hP : P.Ok) (a b : Obj)
    (wa : a.wf = true) (wb : b.wf = true) (ca : conforms tbl a = true) (cb : conforms tbl b = true)
    (h : eqGen tbl P a b = true) : hashGen tbl P a = hashGen tbl P b := by
  rw [eq_iff_structural ok hP _ _ wa wb ca cb] at h
  rw [hashGen_eq_hash ok P a ca, hashGen_eq_hash ok P b cb]
  exact Obj.eq_hash hP a b wa wb h

/-- the nan CONSTANT is the reason for `wf` (a `NaN` NODE is an ordinary instance and fine) -/
example : eqGen exTbl (C17.exP 0) (lookup (.atom (.flt "nan" 0 0)) "a")
    (lookup (.atom (.flt "nan" 0 0)) "a") = false := by decide +kernel

/-- **legacy_eq_hash.**  The same laws for instances of legacy classes (init-args protocol:
`Expression.__eq__` / `is_equal` / `get_hash`, or the legacy branch of the generated methods of a
decorated ancestor), the init args being the positional fields of the instance: the answer is
structural, symmetric, and equal instances hash equal. -/
theorem legacy_eq_hash {tbl : ClassTable} (ok : tbl.Ok = true) {P : HashParams} (hP : P.Ok)
    (c : String) (k : Kind) (fs : List Obj) (h : Option Nat) (_hk : k ≠ .dataclass) (b : Obj)
    (wa : (Obj.inst c k fs h).wf = true) (wb : b.wf = true)
    (ca : conforms tbl (.inst c k fs h) = true) (cb : conforms tbl b = true) :
    eqGen tbl P (.inst c k fs h) b = (Obj.inst c k fs h).pyEq b ∧
      (eqGen tbl P (.inst c k fs h) b = true →
        eqGen tbl P b (.inst c k fs h) = true ∧
        hashGen tbl P (.inst c k fs h) = hashGen tbl P b) :=
  ⟨eq_iff_structural ok hP _ _ wa wb ca cb,
   fun he => ⟨eq_symm ok hP _ _ wa wb ca cb he, eq_hash ok hP _ _ wa wb ca cb he⟩⟩

/-- non-vacuity: a legacy subclass with an extra init arg, a legacy class -/
example :
    let t1 : Obj := .inst "Tagged" .legacySub [strAtom "v", .atom (.int 1)] none
    let t2 : Obj := .inst "Tagged" .legacySub [strAtom "v", .atom (.int 2)] none
    let p1 : Obj := .inst "Pair" .legacy [vx, .atom (.int 1)] none
    conforms exTbl t1 = true ∧ conforms exTbl p1 = true ∧
    eqGen exTbl (C17.exP 0) t1 t1 = true ∧ eqGen exTbl (C17.exP 0) t1 t2 = false ∧
    eqGen exTbl (C17.exP 0) p1 p1 = true ∧
    eqGen exTbl (C17.exP 0) p1 (.inst "Pair" .legacy [vy, .atom (.int 1)] none) = false := by decide +kernel

/-! ### 3. why `Ok` is needed -/

/-- a template that forgot `name` in `__eq__` (and in `__hash__`) -/
def tblDropped : ClassTable :=
  [exInfo "Variable" ["name"],
   { exInfo "Lookup" ["aggregate", "name"] with
     eqFields := ["aggregate"], hashFields := ["aggregate"] }]

/-- **eq_ignores_dropped_field_cex.**  For a table whose `__eq__` (and `__hash__`) omit a field,
two nodes that differ in exactly that field compare equal: `Lookup(x, "a") == Lookup(x, "b")`. -/
theorem eq_ignores_dropped_field_cex :
    tblDropped.Ok = false ∧
    conforms tblDropped (lookup vx "a") = true ∧ conforms tblDropped (lookup vx "b") = true ∧
    (lookup vx "a").pyEq (lookup vx "b") = false ∧
    eqGen tblDropped (C17.exP 0) (lookup vx "a") (lookup vx "b") = true := by decide +kernel

/-- a template whose `__hash__` covers `name` while `__eq__` forgot it -/
def tblHashExtra : ClassTable :=
  [exInfo "Variable" ["name"],
   { exInfo "Lookup" ["aggregate", "name"] with eqFields := ["aggregate"] }]

/-- every string hashes to 0: allowed by the contract (`P.Ok`), all strings collide -/
def collideP : HashParams := { C17.exP 0 with str := fun _ => 0 }

theorem collideP_ok : collideP.Ok := ⟨fun _ _ _ _ _ _ _ => rfl, fun _ _ h => h.length_eq⟩

/-- **eq_decided_by_hash_cex.**  For a table whose `__hash__` covers a field that `__eq__`
ignores, whether two nodes differing in that field are `==` is decided by the hash function of the
process (the hash fast path is all that separates them): equal in a process where the two strings
collide, unequal in another.  (With the fast path in place "equal but different hash" cannot be
observed directly; what is lost is that `==` is a function of the fields.) -/
theorem eq_decided_by_hash_cex :
    tblHashExtra.Ok = false ∧
    eqGen tblHashExtra collideP (lookup vx "a") (lookup vx "bb") = true ∧
    eqGen tblHashExtra (C17.exP 0) (lookup vx "a") (lookup vx "bb") = false := by decide +kernel

/-! ### 4. fields cannot be rebound -/

/-- **frozen_rejects.**  `setattr` / `delattr` on an attribute that the class table protects
(`frozenFor`) answers `FrozenInstanceError` and changes nothing: not the fields, not a slot, not
the dict. -/
theorem frozen_rejects (tbl : ClassTable) (P : HashParams) (w : World1) (i : Nat) (c f : String)
    (k : Kind) (fs : List Obj) (h : Option Nat) (v : Obj)
    (hi : w.base.pool[i]? = some (.inst c k fs h)) (hf : tbl.frozenFor c f = true) :
    step1 tbl P w (.setattr i f v) = (w, .frozen) ∧ step1 tbl P w (.delattr i f) = (w, .frozen) := by
  simp only [step1, hi, hf, if_true, and_self]

/-- for a table satisfying `Ok`: EVERY attribute of an instance of a decorated class is protected
(`type(self) is cls` in the frozen dataclass's `__setattr__`) -/
theorem ok_frozen_dataclass {tbl : ClassTable} (ok : tbl.Ok = true) {c : String} {i : ClassInfo}
    (hi : tbl.find? c = some i) (hk : i.kind = .dataclass) (f : String) :
    tbl.frozenFor c f = true := by
  have hm := (find?_spec hi).1
  simp only [ClassTable.Ok, Bool.and_eq_true, List.all_eq_true] at ok
  have := ok.2 i hm
  simp only [ClassInfo.ok, hk] at this
  simp only [ClassTable.frozenFor, hi, hk, (okDataclass_spec this).2.2.2.2]

/-- … and every dataclass field inherited by an undecorated subclass is protected -/
theorem ok_frozen_sub {tbl : ClassTable} (ok : tbl.Ok = true) {c : String} {i b : ClassInfo}
    (hi : tbl.find? c = some i) (hk : i.kind = .sub) (hb : tbl.find? i.base = some b) (f : String)
    (hf : f ∈ b.fields) : tbl.frozenFor c f = true := by
  have hm := (find?_spec hi).1
  simp only [ClassTable.Ok, Bool.and_eq_true, List.all_eq_true] at ok
  have h1 := ok.2 i hm
  simp only [ClassInfo.ok, hk, hb, Bool.and_eq_true, beq_iff_eq] at h1
  have h2 := ok.2 b (find?_spec hb).1
  simp only [ClassInfo.ok, h1.2] at h2
  simp only [ClassTable.frozenFor, hi, hk, hb, (okDataclass_spec h2).2.2.2.2, Bool.true_and,
    List.contains_iff_mem, hf]

/-- non-vacuity, and the two kinds of attribute that are NOT protected: the extra init arg of a
legacy subclass of a decorated class, and every init arg of a legacy class -/
example :
    exTbl.frozenFor "Lookup" "name" = true ∧ exTbl.frozenFor "Lookup" "anything" = true ∧
    exTbl.frozenFor "Alias" "name" = true ∧ exTbl.frozenFor "Tagged" "name" = true ∧
    exTbl.frozenFor "Tagged" "tag" = false ∧ exTbl.frozenFor "Pair" "left" = false ∧
    exTbl.Immutable = false := by decide +kernel

/-! ### 5. the cached hash never goes stale -/

/-- **hash_cache_inv.**  From any coherent state (every `_hash_value` slot that is set holds the
hash of its object), any history of hash / == / != / `in` / dict insert / dict lookup / copy /
rebuild / identity mapper / pickle / unpickle / setattr / delattr operations in which no `setattr`
went through on a field
  (a) keeps every slot coherent, and
  (b) answers exactly as the slot-free reference semantics does, i.e. as the same operations on
      freshly built objects.
For the operations of Pickle.lean this is `PV.C17.history_refines` (via `step_sim`); the other
operations are treated in `PV.EqHash.step1_sim`. -/
theorem hash_cache_inv (tbl : ClassTable) {P : HashParams} (hP : P.Ok) (w : World1)
    (hc : w.base.coherent P) (hw : w.base.wf) (ops : List Op1)
    (hno : ∀ o ∈ (run1 tbl P w ops).2, o.rebound = false) :
    (run1 tbl P w ops).1.base.coherent P ∧
      (run1 tbl P w ops).2.map Out1.core = (run1Ref tbl w.erased ops).2 := by
  obtain ⟨h1, _, _, h4⟩ := run1_sim tbl hP ops w hc hw hno
  exact ⟨h1, h4⟩

/-- the histories of C17 are the special case (cited: `PV.C17.history_refines`) -/
theorem hash_cache_inv_base {P : HashParams} (hP : P.Ok) (w : World) (hc : w.coherent P)
    (hw : w.wf) (ops : List Op) :
    (run P w ops).1.coherent P ∧ (run P w ops).2.map Out.core = (runRef w.erased ops).2 :=
  C17.history_refines hP w hc hw ops

/-- **hash_cache_inv_frozen.**  When every declared field / init arg of every class of the table
is protected (`Immutable`), NO history rebinds a field, so the conclusion of `hash_cache_inv`
holds for all histories: equality class and hash of every object stay the same for its whole
lifetime, whatever copies, mappers, dict and set look-ups touch it. -/
theorem hash_cache_inv_frozen (tbl : ClassTable) (im : tbl.Immutable = true) {P : HashParams}
    (hP : P.Ok) (w : World1) (hc : w.base.coherent P) (hw : w.base.wf) (ops : List Op1) :
    (run1 tbl P w ops).1.base.coherent P ∧
      (run1 tbl P w ops).2.map Out1.core = (run1Ref tbl w.erased ops).2 :=
  hash_cache_inv tbl hP w hc hw ops (run1_not_rebound tbl im P ops w)

/-- a table of decorated classes and their undecorated aliases satisfying `Ok` is `Immutable`
(non-vacuity of `hash_cache_inv_frozen`) -/
example : ClassTable.Immutable [exInfo "Variable" ["name"], exInfo "Lookup" ["aggregate", "name"],
    exSub "Alias" "Lookup" ["aggregate", "name"]] = true := by decide +kernel

/-- the slot-aware `==` and `hash` answer like the table-driven generated methods -/
theorem cached_eq_is_generated {tbl : ClassTable} (ok : tbl.Ok = true) {P : HashParams} (hP : P.Ok)
    (a b : Obj) (ha : a.coherent P) (hb : b.coherent P) (wa : a.wf = true) (wb : b.wf = true)
    (ca : conforms tbl a = true) (cb : conforms tbl b = true) :
    (eqC P a b).1 = eqGen tbl P a b ∧ (a.hashC P).1 = hashGen tbl P a := by
  rw [(eqC_spec hP a b ha hb wa wb).ans, eq_iff_structural ok hP a b wa wb ca cb,
    (hashC_spec P a ha).1, hashGen_eq_hash ok P a ca]
  exact ⟨rfl, rfl⟩

/-- a decidable view of an output -/
def view : Out1 → Nat × Bool × List Bool × List Bool
  | .base (.hash f b) => (0, f, b, [])
  | .base (.eq r a b) => (1, r, a, b)
  | .base (.member r a b) => (2, r, a, b)
  | .base _ => (3, true, [], [])
  | .ne r a b => (4, r, a, b)
  | .copied b => (5, true, b, [])
  | .rebuilt b => (6, true, b, [])
  | .same => (7, true, [], [])
  | .dictSet r b => (8, r, b, [])
  | .dictGet v b => (9, v.isSome, b, [])
  | .frozen => (10, true, [], [])
  | .attrSet f b => (11, f, b, [])
  | .attrDeleted f => (12, f, [], [])
  | .bad => (13, false, [], [])

/-- non-vacuity of the histories: hash, copy, compare, use as dict key, try to rebind -/
example :
    ((run1 exTbl (C17.exP 0) ⟨⟨[lookup vx "a", lookup vx "a"], []⟩, []⟩
        [.base (.hash 0), .copy 0, .base (.eq 2 1), .dictSet 0 7, .dictGet 1,
         .setattr 0 "name" (strAtom "b"), .ne 0 1]).2).map view
      = [(0, true, [true, true], []), (5, true, [false, true], []),
         (1, true, [true, true], [true, true]), (8, false, [true, true], []),
         (9, true, [true, true], []), (10, true, [], []),
         (4, false, [true, true], [true, true])] := by decide +kernel

/-- **unfrozen_rebind_stale_cex** (known finding `legacy-fields-rebindable`).  What the frozen
flag prevents, on a class that does not have it: a legacy instance `Pair(x, 1)` is hashed, its init
arg `left` is rebound to `y` (the assignment goes through, the `_hash_value` slot stays), and now
it compares UNEQUAL to a freshly built `Pair(y, 1)` — same class, pairwise-equal fields — because
the stale hash makes the hash fast path fire; it is also not found in a set holding the fresh
object. -/
theorem unfrozen_rebind_stale_cex :
    let w : World1 := ⟨⟨[.inst "Pair" .legacy [vx, .atom (.int 1)] none,
                        .inst "Pair" .legacy [vy, .atom (.int 1)] none], []⟩, []⟩
    let r := run1 exTbl (C17.exP 0) w [.base (.hash 0), .setattr 0 "left" vy, .base (.eq 0 1),
                                       .base (.member 0 1)]
    r.2.map view = [(0, true, [true, true], []), (11, true, [true, false], []),
                    (1, false, [true, false], [true, true]), (2, false, [true, false], [true, true])] ∧
    (match r.1.base.pool with
     | [a, b] => a.pyEq b
     | _ => false) = true := by decide +kernel

/-! ### 6. the hand-written `__eq__` / `__hash__` of `Polynomial` and `Rational` -/

/-- class table and hand-written-method records of the CURRENT tree -/
def curX (P : HashParams) : OwnCtx := ⟨Generated.classes, Generated.c01OwnEqs, P⟩

/-- **own_current.**  In the working tree every class whose `__eq__` is hand-written (`Polynomial`,
`Rational`, their subclasses) takes `__eq__`, `__hash__`, `__getinitargs__` from one defining
class; the source of those methods has one of the two known shapes; `__hash__` hashes
`type(self).__name__` and exactly the attributes `__eq__` compares; `__eq__` tests `isinstance`;
`__ne__` is `not self.__eq__(other)`; the constructors have the expected text. -/
theorem own_current : ClassTable.OwnOk Generated.classes Generated.c01OwnEqs = true := by decide +kernel

/-- which record each class runs (non-vacuity of `own_current`), and ordinary classes run none -/
theorem own_current_lookup (P : HashParams) :
    ((curX P).own? "Rational").map (fun o => (o.shape, o.eqAttrs)) = some (.rational, ["Numerator", "Denominator"]) ∧
    ((curX P).own? "SubRat").map (·.name) = some "Rational" ∧
    ((curX P).own? "Polynomial").map (fun o => (o.shape, o.eqAttrs)) = some (.polynomial, ["Base", "Data"]) ∧
    ((curX P).own? "SubPoly").map (·.name) = some "Polynomial" ∧
    ((curX P).own? "Variable").isNone = true ∧ ((curX P).own? "LBase").isNone = true := by
  have h : ∀ c, (curX P).own? c = (curX (C17.exP 0)).own? c := fun _ => rfl
  simp only [h]
  decide +kernel

/-- **own_conservative.**  On objects with no instance of a hand-written class inside, Python's
`==` as modelled with all of its dispatch (a proper subclass on the right is asked first, builtin
left operands hand over to the reflected method, tuples compare elementwise then by length, `and`
short-circuits) and `hash` ARE the table-driven generated methods: every theorem of sections 1–5
applies to them unchanged. -/
theorem own_conservative (X : OwnCtx) (ok : X.tbl.Ok = true) (a b : Obj)
    (fa : ownFree X a = true) (fb : ownFree X b = true) :
    ownEq X a b = .ok (eqGen X.tbl X.P a b) ∧ ownNe X a b = .ok (!eqGen X.tbl X.P a b) ∧
    hashX X a = hashGen X.tbl X.P a := by
  have h := ownEq_free X ok a b fa fb
  exact ⟨h, by simp only [ownNe, h, Res.not], hashX_free X a fa⟩

/-- **own_eq_fuel_enough.**  `ownEq a b` runs the fuel-indexed recursion `eqF` with
`depth a + depth b + 1` levels; for EVERY pair of objects (hand-written classes nested to any depth,
reflected calls, coercions) any larger amount of fuel gives the same answer: an answer
`Res.unmodelled` never means "out of fuel", only one of the stated abstentions. -/
theorem own_eq_fuel_enough (X : OwnCtx) (a b : Obj) (fuel : Nat)
    (h : objDepth a + objDepth b < fuel) : eqF X fuel a b = ownEq X a b :=
  ownEq_eq_eqF X a b fuel h

example : ownFree (curX (C17.exP 0)) (lookup vx "a") = true ∧
    ownEq (curX (C17.exP 0)) (lookup vx "a") (lookup vx "a") = .ok true ∧
    ownEq (curX (C17.exP 0)) (lookup vx "a") (lookup vy "a") = .ok false := by decide +kernel

/-- **own_eq_inst_iff.**  Two instances of the class that DEFINES a hand-written `__eq__` (or of
subclasses: the test is `isinstance`), attribute values ordinary trees: `==` answers exactly the
pairwise `==` of the attributes the method compares (`Base`, `Data` for `Polynomial`; `Numerator`,
`Denominator` for `Rational` — as stored: `Rational(2, 4)` and `Rational(1, 2)` differ) — whatever
the two classes are, whatever the other init args (`Unit`, `VarLess`) hold, and whichever of the
two operands CPython asks first.  So among instances of ONE class the relation is structural on
the compared attributes; it is not "same class" (`own_subclass_hash_cex`) and it ignores init args
(`poly_unit_ignored_cex`). -/
theorem own_eq_inst_iff (X : OwnCtx) (ok : X.tbl.Ok = true) (hP : X.P.Ok) {o : C01OwnEqInfo}
    {c c' : String} (hc : X.own? c = some o) (hc' : X.own? c' = some o)
    (hin : o.eqIsinstance = true) (hi : X.isInstance c o.name = true)
    (hi' : X.isInstance c' o.name = true) (k k' : Kind) (fs fs' : List Obj) (h h' : Option Nat)
    (pf : ∀ x ∈ fs, Plain X x) (pf' : ∀ x ∈ fs', Plain X x) :
    ownEq X (.inst c k fs h) (.inst c' k' fs' h') = .ok (pairsEq (eqVals o fs) (eqVals o fs')) ∧
    ownNe X (.inst c k fs h) (.inst c' k' fs' h') = .ok (!pairsEq (eqVals o fs) (eqVals o fs')) := by
  have h1 := ownEq_inst_spec X ok hP hc hc' hin hi hi' k k' fs fs' h h' pf pf'
  exact ⟨h1, by simp only [ownNe, h1, Res.not]⟩

/-- **own_eq_inst_equiv.**  On instances of the defining class and its subclasses (same number of
init args, ordinary attribute values) the hand-written `==` is reflexive, symmetric and
transitive. -/
theorem own_eq_inst_equiv (X : OwnCtx) (ok : X.tbl.Ok = true) (hP : X.P.Ok) {o : C01OwnEqInfo}
    {c₁ c₂ c₃ : String} (h₁ : X.own? c₁ = some o) (h₂ : X.own? c₂ = some o) (h₃ : X.own? c₃ = some o)
    (hin : o.eqIsinstance = true) (i₁ : X.isInstance c₁ o.name = true)
    (i₂ : X.isInstance c₂ o.name = true) (i₃ : X.isInstance c₃ o.name = true)
    (k₁ k₂ k₃ : Kind) (f₁ f₂ f₃ : List Obj) (s₁ s₂ s₃ : Option Nat)
    (p₁ : ∀ x ∈ f₁, Plain X x) (p₂ : ∀ x ∈ f₂, Plain X x) (p₃ : ∀ x ∈ f₃, Plain X x)
    (l₁₂ : f₁.length = f₂.length) (l₂₃ : f₂.length = f₃.length) :
    ownEq X (.inst c₁ k₁ f₁ s₁) (.inst c₁ k₁ f₁ s₁) = .ok true ∧
    (ownEq X (.inst c₁ k₁ f₁ s₁) (.inst c₂ k₂ f₂ s₂) = .ok true →
      ownEq X (.inst c₂ k₂ f₂ s₂) (.inst c₁ k₁ f₁ s₁) = .ok true) ∧
    (ownEq X (.inst c₁ k₁ f₁ s₁) (.inst c₂ k₂ f₂ s₂) = .ok true →
      ownEq X (.inst c₂ k₂ f₂ s₂) (.inst c₃ k₃ f₃ s₃) = .ok true →
      ownEq X (.inst c₁ k₁ f₁ s₁) (.inst c₃ k₃ f₃ s₃) = .ok true) := by
  have w₁ : ∀ x ∈ eqVals o f₁, x.wf = true := fun x hx => (p₁ x (pick_subset hx)).wf
  have w₂ : ∀ x ∈ eqVals o f₂, x.wf = true := fun x hx => (p₂ x (pick_subset hx)).wf
  have w₃ : ∀ x ∈ eqVals o f₃, x.wf = true := fun x hx => (p₃ x (pick_subset hx)).wf
  rw [ownEq_inst_spec X ok hP h₁ h₁ hin i₁ i₁ k₁ k₁ f₁ f₁ s₁ s₁ p₁ p₁,
    ownEq_inst_spec X ok hP h₁ h₂ hin i₁ i₂ k₁ k₂ f₁ f₂ s₁ s₂ p₁ p₂,
    ownEq_inst_spec X ok hP h₂ h₁ hin i₂ i₁ k₂ k₁ f₂ f₁ s₂ s₁ p₂ p₁,
    ownEq_inst_spec X ok hP h₂ h₃ hin i₂ i₃ k₂ k₃ f₂ f₃ s₂ s₃ p₂ p₃,
    ownEq_inst_spec X ok hP h₁ h₃ hin i₁ i₃ k₁ k₃ f₁ f₃ s₁ s₃ p₁ p₃]
  refine ⟨by rw [pairsEq_refl _ w₁], fun h => ?_, fun h h' => ?_⟩
  · rw [pairsEq_symm _ _ w₂ w₁]; exact h
  · simp only [Res.ok.injEq] at h h' ⊢
    exact pairsEq_trans _ _ _ (pick_length _ _ _ l₁₂ _) (pick_length _ _ _ l₂₃ _) w₁ w₂ w₃ h h'

/-- **own_eq_hash_partial.**  Equal ⇒ equal hash for two instances OF THE SAME CLASS with a
hand-written `__eq__` whose `__hash__` has no unit test (polynomial shape).  The hypothesis "same
class" is needed: the hash contains `type(self).__name__` while `__eq__` accepts subclass
instances (`own_subclass_hash_cex`). -/
theorem own_eq_hash_partial (X : OwnCtx) (ok : X.tbl.Ok = true) (hP : X.P.Ok) {o : C01OwnEqInfo}
    {c : String} (hc : X.own? c = some o) (hok : o.ok = true) (hs : o.shape = .polynomial)
    (hi : X.isInstance c o.name = true) (k k' : Kind) (fs fs' : List Obj) (h h' : Option Nat)
    (hl : fs.length = fs'.length) (pf : ∀ x ∈ fs, Plain X x) (pf' : ∀ x ∈ fs', Plain X x)
    (he : ownEq X (.inst c k fs h) (.inst c k' fs' h') = .ok true) :
    hashX X (.inst c k fs h) = hashX X (.inst c k' fs' h') := by
  simp only [C01OwnEqInfo.ok, hs, Bool.and_eq_true, decide_eq_true_eq, beq_iff_eq, and_assoc,
    Bool.not_eq_true', Option.isNone_iff_eq_none] at hok
  -- the conjuncts of `C01OwnEqInfo.ok` in order: initAttrs.Nodup, eqIsinstance, hashTagged,
  -- neIsNotEq, initAsExpected, hashAttrs = eqAttrs, eqAttrs ⊆ initAttrs, then those of the shape
  -- (polynomial: no coercion, no unit attribute (hu), no unit value)
  obtain ⟨_, hin, _, _, _, hh, _, _, hu, _⟩ := hok
  rw [ownEq_inst_spec X ok hP hc hc hin hi hi k k' fs fs' h h' pf pf'] at he
  exact ownHash_eq_of_pairsEq X ok hP hc hu hh k k' fs fs' h h' hl pf pf' (by simpa using he)

/-- `Polynomial(x, ((1, 1),))` under the current table -/
def polyX (cls : String) (unit : Int) : Obj :=
  .inst cls .legacy [vx, .tuple [.tuple [.atom (.int 1), .atom (.int 1)]], .atom (.int unit),
    strAtom "<LexicalMonomialOrder>"] none

def ratOf (cls : String) (n d : Obj) : Obj := .inst cls .legacy [n, d] none
def one : Obj := .atom (.int 1)
def two : Obj := .atom (.int 2)
def sumOf (a b : Obj) : Obj := .inst "Sum" .dataclass [.tuple [a, b]] none

/-- **own_subclass_hash_cex** (known findings `eq-not-structural:Polynomial.__eq__`,
`equal-but-hash-differs:Rational.__eq__:subclass`).  `SubPoly(x, ((1, 1),)) == Polynomial(x, ((1, 1),))` and
`SubRat(x, 2) == Rational(x, 2)` (in both orders) although the classes differ, and their hashes
differ (the class name is hashed): neither finds the other as a dict key. -/
theorem own_subclass_hash_cex :
    let X := curX (C17.exP 0)
    ownEq X (polyX "SubPoly" 1) (polyX "Polynomial" 1) = .ok true ∧
    ownEq X (polyX "Polynomial" 1) (polyX "SubPoly" 1) = .ok true ∧
    hashX X (polyX "SubPoly" 1) ≠ hashX X (polyX "Polynomial" 1) ∧
    ownFinds X (polyX "Polynomial" 1) (polyX "SubPoly" 1) = .ok false ∧
    ownEq X (ratOf "SubRat" vx two) (ratOf "Rational" vx two) = .ok true ∧
    ownEq X (ratOf "Rational" vx two) (ratOf "SubRat" vx two) = .ok true ∧
    hashX X (ratOf "SubRat" vx two) ≠ hashX X (ratOf "Rational" vx two) ∧
    ownFinds X (ratOf "Rational" vx two) (ratOf "SubRat" vx two) = .ok false := by decide +kernel

/-- **poly_unit_ignored_cex** (known finding `eq-not-structural:Polynomial.__eq__`).  The init arg
`Unit` takes no part: `Polynomial(x, ((1, 1),), unit=1) == Polynomial(x, ((1, 1),), unit=2)`, same
hash, although the two objects do not have pairwise-equal fields. -/
theorem poly_unit_ignored_cex :
    let X := curX (C17.exP 0)
    (polyX "Polynomial" 1).pyEq (polyX "Polynomial" 2) = false ∧
    ownEq X (polyX "Polynomial" 1) (polyX "Polynomial" 2) = .ok true ∧
    hashX X (polyX "Polynomial" 1) = hashX X (polyX "Polynomial" 2) := by decide +kernel

/-- **poly_eq_other.**  A `Polynomial` is never `==` to anything that is not a `Polynomial`:
not to a number, a tuple, a string, an ordinary node — in particular
`Polynomial(x, ((0, 1),)) == 1` is False (and so is `1 == Polynomial(x, ((0, 1),))`, which CPython
hands to the same method), so the different hashes of the two are no defect. -/
theorem poly_eq_other (X : OwnCtx) {o : C01OwnEqInfo} {c : String} (hc : X.own? c = some o)
    (hs : o.shape = .polynomial) (hok : o.ok = true) (k : Kind) (fs : List Obj) (h : Option Nat) :
    (∀ d : Const, ownEq X (.inst c k fs h) (.atom d) = .ok false ∧
                  ownEq X (.atom d) (.inst c k fs h) = .ok false) ∧
    (∀ xs, ownEq X (.inst c k fs h) (.tuple xs) = .ok false) ∧
    (∀ c' k' fs' h', X.isInstance c' o.name = false → X.properSub c' c = false →
      ownEq X (.inst c k fs h) (.inst c' k' fs' h') = .ok false) := by
  simp only [C01OwnEqInfo.ok, hs, Bool.and_eq_true, decide_eq_true_eq, beq_iff_eq, and_assoc,
    Bool.not_eq_true', Option.isNone_iff_eq_none] at hok
  -- the conjuncts of `C01OwnEqInfo.ok` in order: initAttrs.Nodup, eqIsinstance, hashTagged,
  -- neIsNotEq, initAsExpected, hashAttrs = eqAttrs, eqAttrs ⊆ initAttrs, then those of the shape
  -- (polynomial: no coercion (hco), no unit attribute, no unit value)
  obtain ⟨_, hin, _, _, _, _, _, hco, _, _⟩ := hok
  refine ⟨fun d => ⟨?_, ?_⟩, fun xs => ?_, fun c' k' fs' h' hni hps => ?_⟩
  · simp only [ownEq, objDepth]; rw [eqF_inst_atom]; simp [methEq, hc, hco]
  · simp only [ownEq, objDepth]; rw [eqF_atom_inst]; simp [methEq, hc, hco]
  · simp only [ownEq, objDepth, eqF]; simp [methEq, hc, hco]
  · simp only [ownEq, objDepth]; rw [eqF_inst_inst]; simp [methEq, hc, hco, hin, hni, hps]

example : ownEq (curX (C17.exP 0)) (.inst "Polynomial" .legacy
      [vx, .tuple [.tuple [.atom (.int 0), one]], one, strAtom "<LexicalMonomialOrder>"] none) one
    = .ok false := by decide +kernel

/-- **rational_eq_node.**  `Rational(n, d) == e` for an ordinary node `e`: the method builds
`Rational(e)` = (`e`, `1.0`) and compares: the answer is `n == e and d == 1.0` — a Rational with
denominator one EQUALS its bare numerator although the classes differ.  The other way round,
`e == Rational(n, d)`, the node's own generated `__eq__` answers False.  When the answer is True
the two hashes agree (`__hash__` returns `hash(self.Numerator)` when the denominator is one). -/
theorem rational_eq_node (X : OwnCtx) (ok : X.tbl.Ok = true) (hP : X.P.Ok) {o : C01OwnEqInfo}
    {c : String} (hc : X.own? c = some o) (hs : o.shape = .rational) (hok : o.ok = true)
    (k : Kind) (n : Obj) (dc : Const) (h : Option Nat)
    (c' : String) (k' : Kind) (fs' : List Obj) (h' : Option Nat)
    (he : X.own? c' = none) (hni : X.isInstance c' o.name = false)
    (hps : X.properSub c' c = false) (hps' : X.properSub c c' = false)
    (pn : Plain X n) (pd : dc.wf = true) (pe : Plain X (.inst c' k' fs' h')) :
    ownEq X (.inst c k [n, .atom dc] h) (.inst c' k' fs' h')
      = .ok (n.pyEq (.inst c' k' fs' h') && (Obj.atom dc).pyEq floatOne) ∧
    ownEq X (.inst c' k' fs' h') (.inst c k [n, .atom dc] h) = .ok false ∧
    (ownEq X (.inst c k [n, .atom dc] h) (.inst c' k' fs' h') = .ok true →
      hashX X (.inst c k [n, .atom dc] h) = hashX X (.inst c' k' fs' h')) := by
  obtain ⟨an, ad, rs⟩ := ratShape_of_ok hok hs
  have h1 := ratEq_plain X ok hP hc rs k n (.atom dc) h c' k' fs' h' he hni hps pn
    (plain_atom X dc pd) pe
  refine ⟨h1, plainEq_rat X ok hc k _ h c' k' fs' h' he hps', fun ht => ?_⟩
  rw [h1] at ht
  exact ratEq_other_hash X ok hP hc rs k n dc h _ pn pe (by simpa using ht)

/-- **rational_symm_cex** (known finding `eq-not-structural:Rational.__eq__`).
`Rational(x, 1) == x` is True, `x == Rational(x, 1)` is False; the defect reaches ordinary nodes:
`Sum((Rational(x, 1), 1)) == Sum((x, 1))` is True (equal hashes: the hash fast path does not
separate them), the reverse is False; as dict keys: `x` finds a stored `Rational(x, 1)`,
`Rational(x, 1)` does not find a stored `x`. -/
theorem rational_symm_cex :
    let X := curX (C17.exP 0)
    let r := ratOf "Rational" vx one
    ownEq X r vx = .ok true ∧ ownEq X vx r = .ok false ∧ hashX X r = hashX X vx ∧
    ownEq X (sumOf r one) (sumOf vx one) = .ok true ∧ ownEq X (sumOf vx one) (sumOf r one) = .ok false ∧
    hashX X (sumOf r one) = hashX X (sumOf vx one) ∧
    ownFinds X r vx = .ok true ∧ ownFinds X vx r = .ok false := by decide +kernel

/-- **rational_trans_cex.**  With a subclass in play `==` is not transitive:
`Rational(Rational(x, 1), 1) == Rational(x, 1)`, `Rational(x, 1) == SubRat(x, 1)`, but
`Rational(Rational(x, 1), 1) == SubRat(x, 1)` is False — CPython asks the subclass instance on the
right first, and `x == Rational(x, 1)` is False.  (Without subclasses no non-transitive triple was
found on the real code.) -/
theorem rational_trans_cex :
    let X := curX (C17.exP 0)
    let a := ratOf "Rational" (ratOf "Rational" vx one) one
    let b := ratOf "Rational" vx one
    let c := ratOf "SubRat" vx one
    ownEq X a b = .ok true ∧ ownEq X b c = .ok true ∧ ownEq X a c = .ok false := by decide +kernel

/-- **rational_eq_number.**  Against a number `k` (int within the exact float range, bool, float)
`Rational(n, d) == k` and `k == Rational(n, d)` are the SAME call (`int.__eq__` answers
`NotImplemented`), both answer `n == k and d == 1`: symmetric, and when True the hashes agree
(`hash(Rational(2, 1)) == hash(2)`). -/
theorem rational_eq_number (X : OwnCtx) (ok : X.tbl.Ok = true) (hP : X.P.Ok) {o : C01OwnEqInfo}
    {c : String} (hc : X.own? c = some o) (hs : o.shape = .rational) (hok : o.ok = true)
    (k : Kind) (n : Obj) (dc : Const) (h : Option Nat) (kc fl : Const)
    (hn : constIsNumeric kc = true) (hf : constToFloat? kc = some fl) (hw : kc.wf = true)
    (pn : Plain X n) (pd : dc.wf = true) :
    ownEq X (.inst c k [n, .atom dc] h) (.atom kc)
      = .ok (n.pyEq (.atom kc) && (Obj.atom dc).pyEq floatOne) ∧
    ownEq X (.atom kc) (.inst c k [n, .atom dc] h) = ownEq X (.inst c k [n, .atom dc] h) (.atom kc) ∧
    (ownEq X (.inst c k [n, .atom dc] h) (.atom kc) = .ok true →
      hashX X (.inst c k [n, .atom dc] h) = hashX X (.atom kc)) := by
  obtain ⟨an, ad, rs⟩ := ratShape_of_ok hok hs
  obtain ⟨h1, h2⟩ := ratEq_num X ok hP hc rs k n (.atom dc) h kc fl hn hf hw pn (plain_atom X dc pd)
  refine ⟨h1, by rw [h1, h2], fun ht => ?_⟩
  rw [h1] at ht
  exact ratEq_other_hash X ok hP hc rs k n dc h _ pn (plain_atom X kc hw) (by simpa using ht)

example : let X := curX (C17.exP 0)
    ownEq X (ratOf "Rational" two one) two = .ok true ∧ ownEq X two (ratOf "Rational" two one) = .ok true ∧
    ownEq X (ratOf "Rational" two one) (.atom (.bool true)) = .ok false ∧
    ownEq X (ratOf "Rational" two two) one = .ok false := by decide +kernel

/-- **rational_eq_hash.**  Two `==` instances of the same Rational class (ordinary numerators,
number denominators) hash equal — unnormalised fractions included: `==` and `hash` both look at
the stored numerator and denominator only. -/
theorem rational_eq_hash (X : OwnCtx) (ok : X.tbl.Ok = true) (hP : X.P.Ok) {o : C01OwnEqInfo}
    {c : String} (hc : X.own? c = some o) (hs : o.shape = .rational) (hok : o.ok = true)
    (hi : X.isInstance c o.name = true) (k k' : Kind) (n n' : Obj) (dc dc' : Const)
    (h h' : Option Nat) (pn : Plain X n) (pn' : Plain X n') (pd : dc.wf = true) (pd' : dc'.wf = true)
    (he : ownEq X (.inst c k [n, .atom dc] h) (.inst c k' [n', .atom dc'] h') = .ok true) :
    hashX X (.inst c k [n, .atom dc] h) = hashX X (.inst c k' [n', .atom dc'] h') := by
  obtain ⟨an, ad, rs⟩ := ratShape_of_ok hok hs
  have pf : ∀ x ∈ [n, Obj.atom dc], Plain X x := by
    intro x hx; simp only [List.mem_cons, List.not_mem_nil, or_false] at hx
    rcases hx with rfl | rfl
    · exact pn
    · exact plain_atom X dc pd
  have pf' : ∀ x ∈ [n', Obj.atom dc'], Plain X x := by
    intro x hx; simp only [List.mem_cons, List.not_mem_nil, or_false] at hx
    rcases hx with rfl | rfl
    · exact pn'
    · exact plain_atom X dc' pd'
  rw [ownEq_inst_spec X ok hP hc hc rs.isinst hi hi k k' _ _ h h' pf pf', rs.eqVals, rs.eqVals] at he
  exact ratEq_hash X ok hP hc rs k k' n n' dc dc' h h' pn pn'
    (by simpa [pairsEq, Obj.pyEq] using he)

/-- unnormalised fractions: `Rational(2, 4)` (stored as given) is not `==` to `Rational(1, 2)`;
this IS "pairwise-equal fields" -/
example : let X := curX (C17.exP 0)
    ownEq X (ratOf "Rational" two (.atom (.int 4))) (ratOf "Rational" one two) = .ok false ∧
    ownEq X (ratOf "Rational" two (.atom (.int 4))) (ratOf "Rational" (.atom (.flt "2.0" 2 1)) (.atom (.int 4)))
      = .ok true := by decide +kernel

/-- **rational_eq_nonnumber_raises.**  `Rational(n, d) == other` RAISES (`TypeError` out of
`Rational(other)`: `other /= 1`) when `other` is a string, `None`, a tuple or a mapping — also with
the Rational on the right (`"abc" == Rational(x, 2)` is handed to the same method). -/
theorem rational_eq_nonnumber_raises (X : OwnCtx) {o : C01OwnEqInfo} {c : String}
    (hc : X.own? c = some o) (hs : o.shape = .rational) (hok : o.ok = true)
    (k : Kind) (fs : List Obj) (h : Option Nat) :
    (∀ s, ownEq X (.inst c k fs h) (strAtom s) = .raises ∧ ownEq X (strAtom s) (.inst c k fs h) = .raises) ∧
    ownEq X (.inst c k fs h) (.atom .none) = .raises ∧
    (∀ xs, ownEq X (.inst c k fs h) (.tuple xs) = .raises) ∧
    (∀ ks vs, ownEq X (.inst c k fs h) (.dict ks vs) = .raises) := by
  obtain ⟨an, ad, rs⟩ := ratShape_of_ok hok hs
  refine ⟨fun s => ⟨?_, ?_⟩, ?_, fun xs => ?_, fun ks vs => ?_⟩
  · simp only [ownEq, objDepth, strAtom]; rw [eqF_inst_atom]
    exact methEq_own_coerce_raises X _ hc rs.coerces k fs h _ (Or.inl ⟨_, rfl, rfl⟩)
  · simp only [ownEq, objDepth, strAtom]; rw [eqF_atom_inst]
    exact methEq_own_coerce_raises X _ hc rs.coerces k fs h _ (Or.inl ⟨_, rfl, rfl⟩)
  · simp only [ownEq, objDepth]; rw [eqF_inst_atom]
    exact methEq_own_coerce_raises X _ hc rs.coerces k fs h _ (Or.inl ⟨_, rfl, rfl⟩)
  · simp only [ownEq, objDepth, eqF]
    exact methEq_own_coerce_raises X _ hc rs.coerces k fs h _ (Or.inr (Or.inl ⟨_, rfl⟩))
  · simp only [ownEq, objDepth, eqF]
    exact methEq_own_coerce_raises X _ hc rs.coerces k fs h _ (Or.inr (Or.inr ⟨_, _, rfl⟩))

example : ownEq (curX (C17.exP 0)) (ratOf "Rational" vx two) (strAtom "abc") = .raises := by decide +kernel

/-! ### 7. the constructor of `Rational` -/

/-- **rational_init_stores.**  `Rational(n, d)` for an `int` denominator: the unit of `d` is its
sign; numerator and denominator are DIVIDED by it (true division: ints become floats) and stored —
nothing is reduced, the stored denominator is the float `|d|`; a zero denominator raises
`RuntimeError`, a float one `AttributeError`, an expression `NoTraitsError`. -/
theorem rational_init_stores (X : OwnCtx) (n d : Int) (hd : d ≠ 0)
    (hn : -twoPow53 ≤ n ∧ n ≤ twoPow53) (hdr : d.natAbs ≤ twoPow53.natAbs) :
    ∃ r r', rationalInit X (.atom (.int n)) (.atom (.int d))
      = .stored (.atom (.flt r (if d > 0 then n else -n) 1)) (.atom (.flt r' d.natAbs 1)) := by
  simp only [rationalInit, hd, if_false, Nat.not_lt.mpr hdr, constIsNumeric, Bool.not_true,
    Bool.false_eq_true]
  by_cases hp : d > 0
  · simp only [hp, if_true, constToFloat?, hn, and_self]
    exact ⟨_, _, rfl⟩
  · simp only [hp, if_false, constNegFloat?, hn, and_self, if_true]
    by_cases h0 : n = 0
    · subst h0; exact ⟨_, _, rfl⟩
    · simp only [h0, if_false]; exact ⟨_, _, rfl⟩

example : let X := curX (C17.exP 0)
    (match rationalInit X two (.atom (.int 4)) with
     | .stored n d => n.pyEq two && d.pyEq (.atom (.int 4))
     | _ => false) = true ∧
    (match rationalInit X vx (.atom (.int (-2))) with
     | .stored n d => n.pyEq (.inst "Quotient" .dataclass [vx, .atom (.int (-1))] none) && d.pyEq two
     | _ => false) = true ∧
    (match rationalInit X vx (.atom (.int 0)) with | .err "RuntimeError" => true | _ => false) = true ∧
    (match rationalInit X vx (.atom (.flt "2.0" 2 1)) with | .err "AttributeError" => true | _ => false) = true ∧
    (match rationalInit X vx vy with | .err "NoTraitsError" => true | _ => false) = true := by decide +kernel

/-! ### 8. interpreter modes: `frozen=__debug__` -/

/-- **frozen_source_current.**  The `frozen=` keyword of the decorator of the working tree
(`frozen=__debug__` today; read from its source) evaluates to true in the default interpreter
mode. -/
theorem frozen_source_current : Generated.c01FrozenSource.eval true = true := by decide +kernel

/-- the keyword `__debug__` evaluates to false under `python -O`, `True` does not -/
example : C01FrozenSource.debugFlag.eval false = false ∧ C01FrozenSource.always.eval false = true := by decide +kernel

/-- **frozen_rejects_default.**  `frozen_rejects` with the interpreter mode as a parameter of the
`setattr` / `delattr` model: in the DEFAULT mode (`__debug__ = true`) an attempt on a protected
attribute answers `FrozenInstanceError` and changes nothing. -/
theorem frozen_rejects_default (tbl : ClassTable) (P : HashParams) (w : World1) (i : Nat)
    (c f : String) (k : Kind) (fs : List Obj) (h : Option Nat) (v : Obj)
    (hi : w.base.pool[i]? = some (.inst c k fs h)) (hf : tbl.frozenFor c f = true) :
    step1D .debugFlag true tbl P w (.setattr i f v) = (w, .frozen) ∧
    step1D .debugFlag true tbl P w (.delattr i f) = (w, .frozen) := by
  simp only [step1D, inMode_default]
  exact frozen_rejects tbl P w i c f k fs h v hi hf

/-- **optimized_never_rejects.**  Under `python -O` (`__debug__ = false`) NO `setattr` / `delattr`
answers `FrozenInstanceError`, for any class table: a `setattr` on a field rebinds it and leaves
the `_hash_value` slot as it is. -/
theorem optimized_never_rejects (tbl : ClassTable) (P : HashParams) (w : World1) (i : Nat)
    (c f : String) (k : Kind) (fs : List Obj) (h : Option Nat) (v : Obj)
    (hi : w.base.pool[i]? = some (.inst c k fs h)) :
    (step1D .debugFlag false tbl P w (.setattr i f v)).2 ≠ .frozen ∧
    (step1D .debugFlag false tbl P w (.delattr i f)).2 ≠ .frozen ∧
    (∀ idx, fieldIndex tbl c f = some idx →
      step1D .debugFlag false tbl P w (.setattr i f v) =
        ({ w with base := { w.base with pool := w.base.pool.set i (.inst c k (fs.set idx v) h) } },
         .attrSet true (Obj.inst c k (fs.set idx v) h).bits)) := by
  simp only [step1D, step1, hi, frozenFor_optimized, Bool.false_eq_true, if_false, fieldIndex_inMode]
  refine ⟨?_, by simp, fun idx hidx => by simp only [hidx]⟩
  cases fieldIndex tbl c f <;> simp

/-- **optimized_rebind_stale_cex.**  What the frozen flag prevents, happening to a DECORATED class
under `python -O`: `Lookup(x, "a")` is hashed, its field `name` is rebound to `"bb"` (no exception),
and now it compares UNEQUAL to a freshly built `Lookup(x, "bb")` — same class, pairwise-equal
fields — and is not found in a set holding it; in the default mode the same history stops at the
`setattr` with `FrozenInstanceError` and the object stays equal to `Lookup(x, "a")`. -/
theorem optimized_rebind_stale_cex :
    let w : World1 := ⟨⟨[lookup vx "a", lookup vx "bb", lookup vx "a"], []⟩, []⟩
    let ops : List Op1 := [.base (.hash 0), .setattr 0 "name" (strAtom "bb"), .base (.eq 0 1),
                           .base (.member 0 1), .base (.eq 0 2)]
    let r := run1D .debugFlag false exTbl (C17.exP 0) w ops
    let r' := run1D .debugFlag true exTbl (C17.exP 0) w ops
    r.2.map view = [(0, true, [true, true], []), (11, true, [true, true], []),
                    (1, false, [true, true], [true, true]), (2, false, [true, true], [true, true]),
                    (1, false, [true, true], [true, true])] ∧
    (match r.1.base.pool with
     | a :: b :: _ => a.pyEq b
     | _ => false) = true ∧
    r'.2.map view = [(0, true, [true, true], []), (10, true, [], []),
                     (1, false, [true, true], [true, true]), (2, false, [true, true], [true, true]),
                     (1, true, [true, true], [true, true])] := by decide +kernel

/-- **optimized_untouched_same.**  A history WITHOUT `setattr` / `delattr` attempts runs identically
in both interpreter modes (no other operation looks at the frozen flag): hashes, `==`, `!=`,
dict and set answers and the slots of untouched objects under `python -O` are those of the default
mode. -/
theorem optimized_untouched_same (src : C01FrozenSource) (tbl : ClassTable) (P : HashParams)
    (w : World1) (ops : List Op1) (h : ∀ op ∈ ops, op.isAttrOp = false) :
    run1D src false tbl P w ops = run1D src true tbl P w ops := by
  simp only [run1D]
  exact run1_tbl_irrelevant _ _ P ops w h

/-- **hash_cache_inv_optimized.**  `hash_cache_inv` in any interpreter mode: as long as no
`setattr` went through on a field, every cached hash stays coherent and every answer is the answer
on fresh objects — under `python -O` the hypothesis is no longer guaranteed by the classes
(`optimized_rebind_stale_cex`), it is a duty of the caller. -/
theorem hash_cache_inv_optimized (src : C01FrozenSource) (debug : Bool) (tbl : ClassTable)
    {P : HashParams} (hP : P.Ok) (w : World1) (hc : w.base.coherent P) (hw : w.base.wf)
    (ops : List Op1) (hno : ∀ o ∈ (run1D src debug tbl P w ops).2, o.rebound = false) :
    (run1D src debug tbl P w ops).1.base.coherent P ∧
      (run1D src debug tbl P w ops).2.map Out1.core
        = (run1Ref (tbl.inMode src debug) w.erased ops).2 :=
  hash_cache_inv (tbl.inMode src debug) hP w hc hw ops hno

/-! ### 9. field normalisation at construction (`__post_init__`) -/

/-- **post_init_current.**  The `__post_init__` methods of the node classes of the working tree,
re-read statement by statement on every run (`extract/postinit.py`; any other statement shape is an
extraction error), are exactly the three normalisers the harness and the class model assume:
`CallWithKwargs.kw_parameters` is replaced by an `immutabledict` of itself exactly when HASHING it
raises (so the stored mapping is always hashable and the node's hash never raises), a `Comparison`
operator given by name is translated through `name_to_operator` and anything unknown is refused with
`RuntimeError`, and a `CommonSubexpression` scope of `None` becomes `cse_scope.EVALUATION`.  No other
node class rewrites a field after construction, so for every other class the fields compared by the
generated `__eq__` are the constructor arguments themselves. -/
theorem post_init_current :
    Generated.postInit =
      [ ("CallWithKwargs", "normaliseIfHashRaises", ["kw_parameters", "immutabledict.immutabledict"]),
        ("CommonSubexpression", "defaultIfNone", ["scope", "cse_scope.EVALUATION"]),
        ("Comparison", "translateOrRaise",
          ["operator", "operator_to_name", "name_to_operator", "RuntimeError"]) ] := by decide +kernel

end PV.C01
