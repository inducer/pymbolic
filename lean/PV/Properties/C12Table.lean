import PV.Proofs.CseTable
import PV.Generated.Cse
import PV.Properties.C12
/-
  C12 (T-gen) — the common-subexpression models against the tables REGENERATED from the source.

  `Generated.c12KeyTable`, `c12CountTable`, `c12MapTable`, `c12TagAllTable`, `c12CtorTable`,
  `c12WrapTree`, `c12MakeTree`, `c12HistTable`, `c12TagTable` are rewritten by extract/cse.py from
  the live source of pymbolic/cse.py, pymbolic/mapper/cse_tagger.py and pymbolic/primitives.py on
  every check (and, through extract/traversal.py, `c04WalkTable`, `c04IdentityTable`, `c04Classes`
  from pymbolic/mapper/__init__.py and the node classes).  The theorems below tie the hand-written
  models `normalizedKey`, `useCount`, `cseMap`, `tagAll`, `wrapInCse`, `makeCse` (PV/Model/Cse.lean)
  and `c12HistWalk`, `c12HistTag` (PV/Model/CseTagger.lean) to those tables for ALL expressions,
  dictionaries, sets `to_eliminate`, tables of canonical wrappers, prefixes and scopes: an edit of
  the source that drops the multiplicities from the key, normalises only sums, moves the
  elimination threshold, wraps a wrapper, lets `wrap_in_cse` skip other leaf kinds, counts before
  descending into an existing wrapper, forgets to store the canonical wrapper, aliases `map_sum`
  to another set of node classes, … changes a table and breaks them; the streams of
  harness/props/c12.py then name the failing input.

  What stays hand-written (tied by the correspondence streams only): Python `==` / `hash` of
  expressions (`Expr.pyEq`, `Expr.hasList`), dict / frozenset as association lists, `is_constant`
  / `is_zero` (`Expr.isConstant`, `Expr.isZero`; C03 reads their source), the componentwise
  branches of `make_common_subexpression` for object arrays and multivectors (recognised by their
  text; stream `wraparray`), derived wrapper classes (the `else` branch of
  `CSEMapper.map_common_subexpression` is read and interpreted but no node of the model reaches
  it), the evaluator's CSE cache (C02 / C05 read that source).
-/
namespace PV.C12
open PV Generated

/-! ### the regenerated tables are the tables the models implement -/

/-- Everything that is checked by evaluation against the regenerated tables: the nine tables are
the hand tables (first conjunct, in the order of the nine theorems below), and what each of the
five look-ups of a handler body finds for each node class (second conjunct: counting walk,
histogram walk, `CSEMapper`, `CSETagMapper`, `IdentityMapper`'s own row).  The facts stand in one
declaration because they compare the same class and handler names and the kernel decodes a
string literal once per declaration. -/
theorem tables_current :
    (c12KeyTable = c12KeyHand ∧ c12CountTable = c12CountHand ∧ c12MapTable = c12MapHand ∧
      c12TagAllTable = c12TagAllHand ∧ c12CtorTable = c12CtorHand ∧ c12WrapTree = c12WrapHand ∧
      c12MakeTree = c12MakeHand ∧ c12HistTable = c12HistHand ∧ c12TagTable = c12TagHand) ∧
    ∀ r ∈ classReps,
      c12CResolve c04Classes c04WalkTable c12CountTable r = c12CountBody r ∧
      c12CResolve c04Classes c04WalkTable c12HistTable r = c12HistBody r ∧
      c12MResolve c04Classes c04IdentityTable c12MapTable r = c12MapBody r ∧
      c12MResolve c04Classes c04IdentityTable c12TagTable r = c12TagBody r ∧
      c12IdentOwn c04Classes c04IdentityTable r = c12IdentOwnHand r := by
  decide +kernel

/-- **`NormalizedKeyGetter`** of the current source: sums and products (and no other node class)
are normalised; operands are counted from 0 in steps of 1; the key is the pair of the class and
the frozenset of (operand, count) ITEMS; every other node is its own key. -/
theorem key_table_current : c12KeyTable = c12KeyHand := tables_current.1.1

/-- **`UseCountMapper`** of the current source: `visit` counts the key and descends only on the
first occurrence; the only override is the wrapper handler (known key: count, do not descend;
unknown key: walk the child FIRST, then enter the key with count 1). -/
theorem count_table_current : c12CountTable = c12CountHand := tables_current.1.2.1

/-- **`CSEMapper`** of the current source: `map_sum` (key test against `to_eliminate`, `get_cse`
on a hit, `IdentityMapper`'s handler otherwise) is bound to exactly sum, product, quotient, floor
division, remainder, power and call; the wrapper handler; `map_substitution`; `get_cse` looks the
table up first, wraps the rebuilt node with `wrap_in_cse` (no prefix) and stores it. -/
theorem map_table_current : c12MapTable = c12MapHand := tables_current.1.2.2.1

/-- **`tag_common_subexpressions`** of the current source: one counter and one mapper for the
whole list, the same key getter for both, keys with count `> 1` are eliminated. -/
theorem tagall_table_current : c12TagAllTable = c12TagAllHand := tables_current.1.2.2.2.1

/-- **`CommonSubexpression`**: fields `child, prefix, scope`; default scope and the value
`__post_init__` substitutes for `scope=None` are `cse_scope.EVALUATION = "pymbolic_eval"`. -/
theorem ctor_table_current : c12CtorTable = c12CtorHand := tables_current.1.2.2.2.2.1

/-- **`wrap_in_cse`** of the current source, as a decision tree: variables and subscripts are
returned; a wrapper is returned, except that an exact `CommonSubexpression` without prefix gets the
requested prefix (same child — never a wrapper around a wrapper); everything else is wrapped. -/
theorem wrap_tree_current : c12WrapTree = c12WrapHand := tables_current.1.2.2.2.2.2.1

/-- **`make_common_subexpression`** of the current source (scalar path): a wrapper is returned
when no scope / the evaluation scope / its own scope is requested; constants are returned;
everything else — wrappers of another scope included — is wrapped with prefix and scope. -/
theorem make_tree_current : c12MakeTree = c12MakeHand := tables_current.1.2.2.2.2.2.2.1

/-- **`CSEWalkMapper`** of the current source: `visit` counts the node itself and always descends;
no handler is overridden. -/
theorem hist_table_current : c12HistTable = c12HistHand := tables_current.1.2.2.2.2.2.2.2.1

/-- **`CSETagMapper`** of the current source: `map_call` (histogram count `> 1`: a fresh wrapper
around the ORIGINAL node, else `IdentityMapper`'s handler) is bound to exactly twenty handler
names; nothing else is overridden (so `IdentityMapper.map_common_subexpression` is inherited). -/
theorem tag_table_current : c12TagTable = c12TagHand := tables_current.1.2.2.2.2.2.2.2.2

/-! ### which body runs for which node (dispatch through the class MRO, overrides first) -/

/-- for every node the handler body `UseCountMapper` runs — `Mapper.__call__` dispatch against
the handler names of the class and of `WalkMapper`, the class body searched first, `Mapper` stubs
followed — is the body `useCount` implements -/
theorem count_resolve_current (e : Expr) :
    c12CResolve c04Classes c04WalkTable c12CountTable e = c12CountBody e :=
  Expr.eq_of_classReps (c12CResolve_classRep _ _ _) c12CountBody_classRep
    (fun r hr => (tables_current.2 r hr).1) e

/-- … and the same for `CSEMapper` over `IdentityMapper` -/
theorem map_resolve_current (e : Expr) :
    c12MResolve c04Classes c04IdentityTable c12MapTable e = c12MapBody e :=
  Expr.eq_of_classReps (c12MResolve_classRep _ _ _) c12MapBody_classRep
    (fun r hr => (tables_current.2 r hr).2.2.1) e

/-- `getattr(IdentityMapper, expr.mapper_method)` is the `IdentityMapper` row of the node's own
class (what `CSEMapper.map_sum` / `get_cse` and `CSETagMapper.map_call` fall back to) -/
theorem ident_own_current (e : Expr) :
    c12IdentOwn c04Classes c04IdentityTable e = c12IdentOwnHand e :=
  Expr.eq_of_classReps (c12IdentOwn_classRep _ _) c12IdentOwnHand_classRep
    (fun r hr => (tables_current.2 r hr).2.2.2.2) e

theorem hist_resolve_current (e : Expr) :
    c12CResolve c04Classes c04WalkTable c12HistTable e = c12HistBody e :=
  Expr.eq_of_classReps (c12CResolve_classRep _ _ _) c12HistBody_classRep
    (fun r hr => (tables_current.2 r hr).2.1) e

theorem tag_resolve_current (e : Expr) :
    c12MResolve c04Classes c04IdentityTable c12TagTable e = c12TagBody e :=
  Expr.eq_of_classReps (c12MResolve_classRep _ _ _) c12TagBody_classRep
    (fun r hr => (tables_current.2 r hr).2.2.2.1) e

example : c12MResolve c04Classes c04IdentityTable c12MapTable (.bin .floordiv (.var "a") (.var "b"))
    = .ok (.own (.keyed .getCse (.expr .identity))) :=
  map_resolve_current _

example : c12MResolve c04Classes c04IdentityTable c12MapTable (.bin .lshift (.var "a") (.var "b"))
    = .ok (.inherited (.rebuild [⟨"shiftee", .one, true⟩, ⟨"shift", .one, true⟩] true
        ["shiftee", "shift"] false (.sameClass [.rebuilt "shiftee", .rebuilt "shift"] false))) :=
  map_resolve_current _

/-! ### the models ARE the table interpreters run on the regenerated tables -/

/-- **`normalizedKey` is `NormalizedKeyGetter.__call__` of the current source**, for every node. -/
theorem normalizedKey_eq_table_current (e : Expr) :
    c12KeyT c12KeyTable e = some (normalizedKey e) := by
  rw [key_table_current]; exact normalizedKey_eq_table e

example : c12KeyT c12KeyTable (.nary .sum [.var "a", .var "b", .var "a"]) =
    some (.comm .sum [(.var "a", 2), (.var "b", 1)]) := by
  rw [normalizedKey_eq_table_current]; rfl

/-- **`wrapInCse` is `wrap_in_cse` of the current source**, for every node and prefix. -/
theorem wrapInCse_eq_table_current (e : Expr) (p : Option String) :
    c12WTreeT c12CtorTable e [("prefix", p)] c12WrapTree = some (wrapInCse e p) := by
  rw [ctor_table_current, wrap_tree_current]; exact wrapInCse_eq_table e p

/-- **`makeCse` is `make_common_subexpression` of the current source** on scalar fields. -/
theorem makeCse_eq_table_current (e : Expr) (p sc : Option String) :
    c12WTreeT c12CtorTable e [("prefix", p), ("scope", sc)] c12MakeTree = some (makeCse e p sc) := by
  rw [ctor_table_current, make_tree_current]; exact makeCse_eq_table e p sc

example : c12WTreeT c12CtorTable (.const (.int 3)) [("prefix", none)] c12WrapTree =
    some (.cse (.const (.int 3)) none evalScope) := by
  rw [wrapInCse_eq_table_current]; rfl

/-- **`useCount` is the table-driven counting walk of the current source**: on every node and
dictionary, one handler call as the regenerated tables describe it (`c12CountStep`: the override
of `UseCountMapper` or the `WalkMapper` row, `UseCountMapper.visit`, `NormalizedKeyGetter`),
recursing through `useCount`. -/
theorem useCount_table_step_current (e : Expr) (c : Counts) :
    c12Lift (useCount e c) =
      c12CountStep c04Classes c04WalkTable c12KeyTable c12CountTable c12UC e c := by
  have hk : c12KeyT c12KeyTable = c12KeyH := funext normalizedKey_eq_table_current
  rw [c12CountStep, count_resolve_current, hk, count_table_current]
  exact useCount_eq_stepB e c

/-- … and the only such function (so the theorems about `useCount` — `repeats_are_eliminated`, …
— speak about what the current source says) -/
theorem useCount_unique_current (f : Expr → Counts → Except DepErr Counts)
    (hf : ∀ e c, f e c = c12CountStep c04Classes c04WalkTable c12KeyTable c12CountTable f e c) :
    ∀ e c, f e c = c12Lift (useCount e c) :=
  c12Count_unique (c12KeyT c12KeyTable) c12CountTable.visit
    (fun e => c12CResolve c04Classes c04WalkTable c12CountTable e) f c12UC hf
    useCount_table_step_current

/-- the hypothesis of `useCount_unique_current` is satisfiable (by `useCount` itself) -/
example : ∀ e c, c12UC e c = c12Lift (useCount e c) :=
  useCount_unique_current c12UC useCount_table_step_current

/-- the table-driven walk itself (the step iterated) computes `useCount` -/
theorem useCount_eq_table_current (e : Expr) (c : Counts) :
    c12CountT c04Classes c04WalkTable c12KeyTable c12CountTable e c = c12Lift (useCount e c) :=
  c12CountT_eq _ _ _ _ c12UC useCount_table_step_current e c

example : c12CountT c04Classes c04WalkTable c12KeyTable c12CountTable
    (.nary .sum [.var "a", .var "a"]) [] =
    .ok [(.comm .sum [(.var "a", 2)], 1), (.plain (.var "a"), 2)] := by
  rw [useCount_eq_table_current]; rfl

/-- what the handlers of `CSEMapper` and `CSETagMapper` consult, built from the regenerated tables,
is what the models consult -/
theorem env_current (g : Option C12GetCse) (rec : C12Rec) :
    ({ keyOf := c12KeyT c12KeyTable,
       wrap := fun r p => c12WTreeT c12CtorTable r [("prefix", p)] c12WrapTree,
       mkCse := fun x => c12MkCse c12CtorTable x none none,
       identOf := c12IdentOwn c04Classes c04IdentityTable,
       getCse := g, recur := rec } : C12MEnv) =
      c12EnvHand rec g := by
  have hk : c12KeyT c12KeyTable = c12KeyH := funext normalizedKey_eq_table_current
  have hw : (fun r p => c12WTreeT c12CtorTable r [("prefix", p)] c12WrapTree) =
      fun r p => some (wrapInCse r p) := by
    funext r p; exact wrapInCse_eq_table_current r p
  have hi : c12IdentOwn c04Classes c04IdentityTable = c12IdentOwnHand := funext ident_own_current
  rw [hk, hw, hi, ctor_table_current]
  rfl

theorem map_env_current (rec : C12Rec) :
    ({ keyOf := c12KeyT c12KeyTable,
       wrap := fun r p => c12WTreeT c12CtorTable r [("prefix", p)] c12WrapTree,
       mkCse := fun x => c12MkCse c12CtorTable x none none,
       identOf := c12IdentOwn c04Classes c04IdentityTable,
       getCse := c12MapTable.getCse, recur := rec } : C12MEnv) =
      c12EnvHand rec (some c12GetCseHand) := by
  rw [env_current, map_table_current]; rfl

theorem tag_env_current (rec : C12Rec) :
    ({ keyOf := c12KeyT c12KeyTable,
       wrap := fun r p => c12WTreeT c12CtorTable r [("prefix", p)] c12WrapTree,
       mkCse := fun x => c12MkCse c12CtorTable x none none,
       identOf := c12IdentOwn c04Classes c04IdentityTable,
       getCse := c12TagTable.getCse, recur := rec } : C12MEnv) =
      c12EnvHand rec none := by
  rw [env_current, tag_table_current]; rfl

/-- **`cseMap` is the table-driven `CSEMapper` of the current source**: for every set
`to_eliminate`, node and table of canonical wrappers, one handler call as the regenerated tables
describe it (`c12MapStep`), recursing through `cseMap`. -/
theorem cseMap_table_step_current (elim : List CKey) (hist : Counts) (e : Expr) (T : Tbl) :
    c12Lift (cseMap elim e T) =
      c12MapStep c04Classes c04IdentityTable c12KeyTable c12CtorTable c12WrapTree c12MapTable
        elim hist (c12CM elim) e T := by
  rw [c12MapStep, env_current, map_resolve_current, map_table_current]
  exact cseMap_eq_stepB elim hist e T

/-- … and the only such function (so `tag_value`, `no_cse_of_cse`, `tag_shares`, … speak about
what the current source says) -/
theorem cseMap_unique_current (elim : List CKey) (hist : Counts) (f : C12Rec)
    (hf : ∀ e T, f e T = c12MapStep c04Classes c04IdentityTable c12KeyTable c12CtorTable
      c12WrapTree c12MapTable elim hist f e T) :
    ∀ e T, f e T = c12Lift (cseMap elim e T) := by
  have key := c12Map_unique
    { keyOf := c12KeyT c12KeyTable,
      wrap := fun r p => c12WTreeT c12CtorTable r [("prefix", p)] c12WrapTree,
      mkCse := fun x => c12MkCse c12CtorTable x none none,
      identOf := c12IdentOwn c04Classes c04IdentityTable,
      getCse := c12MapTable.getCse, recur := f } elim hist
    (fun e => c12MResolve c04Classes c04IdentityTable c12MapTable e) f (c12CM elim)
  exact key hf (cseMap_table_step_current elim hist)

/-- the hypothesis of `cseMap_unique_current` is satisfiable (by `cseMap` itself) -/
example (elim : List CKey) : ∀ e T, c12CM elim e T = c12Lift (cseMap elim e T) :=
  cseMap_unique_current elim [] (c12CM elim) (cseMap_table_step_current elim [])

/-- the table-driven mapper itself (the step iterated) computes `cseMap` -/
theorem cseMap_eq_table_current (elim : List CKey) (hist : Counts) (e : Expr) (T : Tbl) :
    c12MapT c04Classes c04IdentityTable c12KeyTable c12CtorTable c12WrapTree c12MapTable elim hist
      e T = c12Lift (cseMap elim e T) :=
  c12MapT_eq _ _ _ _ _ _ elim hist (c12CM elim) (cseMap_table_step_current elim hist) e T

/-- all the tables of the current source the tagger of pymbolic/cse.py is read into -/
def c12Current : C12Tables :=
  { classes := c04Classes, walk := c04WalkTable, ident := c04IdentityTable, key := c12KeyTable,
    count := c12CountTable, mapper := c12MapTable, tagAll := c12TagAllTable, ctor := c12CtorTable,
    wrap := c12WrapTree }

/-- **`tagAll` is `tag_common_subexpressions` of the current source**: the statement sequence of
the function (one counter, threshold, one mapper) run with the table-driven counting walk and the
table-driven rebuilding mapper — every ingredient re-read from the source on this run. -/
theorem tagAll_eq_table_current (es : List Expr) :
    c12TagAllRun c12Current es = c12Lift (tagAll es) := by
  have h1 : c12CountT c04Classes c04WalkTable c12KeyTable c12CountTable = c12UC := by
    funext e c; exact useCount_eq_table_current e c
  have h2 : (fun elim => c12MapT c04Classes c04IdentityTable c12KeyTable c12CtorTable c12WrapTree
      c12MapTable elim []) = c12CM := by
    funext elim e T; exact cseMap_eq_table_current elim [] e T
  simp only [c12TagAllRun, c12Current, h1, h2, tagall_table_current]
  exact (tagAll_eq_table es).symm

example :
    let x := Expr.var "x"; let f := Expr.var "f"; let one := Expr.const (.int 1)
    let w := Expr.cse (.nary .sum [x, one]) none evalScope
    c12TagAllRun c12Current
      [.call f [.nary .sum [x, one]], .bin .pow (.nary .sum [one, x]) (.const (.int 2))]
      = .ok [.call f [w], .bin .pow w (.const (.int 2))] := by
  intro x f one w; rw [tagAll_eq_table_current]; decide +kernel

/-! ### the property theorems, read on the current source -/

theorem tagAll_of_table {es outs : List Expr} (h : c12TagAllRun c12Current es = .ok outs) :
    tagAll es = .ok outs := by
  rw [tagAll_eq_table_current] at h
  cases ht : tagAll es <;> rw [ht] at h <;> cases h
  rfl

/-- `tag_value` for the table-driven tagger: whatever `tag_common_subexpressions` — as the
regenerated tables describe it — returns for a list of simple expressions evaluates, entry by
entry and in every environment, like the input. -/
theorem tag_value_current (env : Env) (es outs : List Expr) (hs : ∀ e ∈ es, e.simple = true)
    (h : c12TagAllRun c12Current es = .ok outs) :
    outs.length = es.length ∧
      ∀ (i : Nat) (h1 : i < es.length) (h2 : i < outs.length) (v : Value),
        den env outs[i] = .ok v ↔ den env es[i] = .ok v := by
  exact tag_value env es outs hs (tagAll_of_table h)

/-- `no_cse_of_cse` for the table-driven tagger -/
theorem no_cse_of_cse_current (es outs : List Expr) (hn : ∀ e ∈ es, e.noNest = true)
    (h : c12TagAllRun c12Current es = .ok outs) : ∀ o ∈ outs, o.noNest = true := by
  exact no_cse_of_cse es outs hn (tagAll_of_table h)

/-- `tag_shares` for the table-driven tagger: on the fragment of the property the outputs are the
inputs read through one final table of canonical wrappers, and the use counts are those of the
table-driven counting walk -/
theorem tag_shares_current (es outs : List Expr) (hf : Expr.fragL es = true)
    (h : c12TagAllRun c12Current es = .ok outs) :
    ∃ cnt Tf, c12CountSeqL (c12CountT c04Classes c04WalkTable c12KeyTable c12CountTable) es [] = .ok cnt ∧
      outs = applyTblL (elimKeys cnt) Tf es ∧ TblKeys Tf ∧
      ∀ p ∈ Tf, ∃ r, p.2 = .cse r none evalScope ∧ r.isCseOp = true := by
  obtain ⟨cnt, Tf, h1, h2, h3, h4⟩ := tag_shares es outs hf (tagAll_of_table h)
  refine ⟨cnt, Tf, ?_, h2, h3, h4⟩
  have : c12CountT c04Classes c04WalkTable c12KeyTable c12CountTable = c12UC := by
    funext e c; exact useCount_eq_table_current e c
  rw [this, useCountL_eq_seqL, h1]; rfl

/-! ### what the named edits would do (the interpreters run on EDITED tables) -/

/-- a key getter that drops the multiplicities (`frozenset(kid_count)`) identifies `a+a+b` with
`a+b+b`; the current one does not -/
theorem key_without_multiplicities_table_cex :
    let a := Expr.var "a"; let b := Expr.var "b"
    let e1 := Expr.nary .sum [a, a, b]; let e2 := Expr.nary .sum [a, b, b]
    let K' : C12KeyTable := { c12KeyHand with items := false }
    (match c12KeyT K' e1, c12KeyT K' e2 with
      | some k1, some k2 => k1.eq k2
      | _, _ => false) = true ∧
    (normalizedKey e1).eq (normalizedKey e2) = false := by
  decide +kernel

/-- a key getter that normalises only sums distinguishes `a*b` from `b*a`; the current one
identifies them -/
theorem key_only_sums_table_cex :
    let a := Expr.var "a"; let b := Expr.var "b"
    let e1 := Expr.nary .prod [a, b]; let e2 := Expr.nary .prod [b, a]
    let K' : C12KeyTable := { c12KeyHand with commClasses := ["Sum"] }
    (match c12KeyT K' e1, c12KeyT K' e2 with
      | some k1, some k2 => k1.eq k2
      | _, _ => true) = false ∧
    (normalizedKey e1).eq (normalizedKey e2) = true := by
  decide +kernel

/-- with the threshold `>= 1` every counted key would be eliminated; with `> 1` a key counted once
is not -/
theorem threshold_table_cex :
    let cnt : Counts := [(.plain (.var "a"), 1)]
    (c12ElimT { c12TagAllHand with threshold := ⟨.ge, 1⟩ } cnt).length = 1 ∧
    (c12ElimT c12TagAllHand cnt).length = 0 := by
  decide +kernel

/-- a `wrap_in_cse` that skipped constants as well would return `3`; the current one wraps it
(the known finding `wrap-in-cse-wraps-constant`) -/
theorem wrap_skips_constants_table_cex :
    let W' : C12WTree := .ite .isConstant .same c12WrapHand
    c12WTreeT c12CtorHand (.const (.int 3)) [("prefix", none)] W' = some (.const (.int 3)) ∧
    c12WTreeT c12CtorHand (.const (.int 3)) [("prefix", none)] c12WrapHand =
      some (.cse (.const (.int 3)) none evalScope) := by
  decide +kernel

/-! ### the histogram tagger of pymbolic/mapper/cse_tagger.py -/

/-- **`c12HistWalk` is the table-driven `CSEWalkMapper` of the current source** -/
theorem histWalk_table_step_current (e : Expr) (c : Counts) :
    c12Lift (c12HistWalk e c) =
      c12CountStep c04Classes c04WalkTable c12KeyTable c12HistTable c12HW e c := by
  rw [c12CountStep, hist_resolve_current, hist_table_current]
  exact histWalk_eq_stepB _ e c

theorem histWalk_unique_current (f : Expr → Counts → Except DepErr Counts)
    (hf : ∀ e c, f e c = c12CountStep c04Classes c04WalkTable c12KeyTable c12HistTable f e c) :
    ∀ e c, f e c = c12Lift (c12HistWalk e c) :=
  c12Count_unique (c12KeyT c12KeyTable) c12HistTable.visit
    (fun e => c12CResolve c04Classes c04WalkTable c12HistTable e) f c12HW hf
    histWalk_table_step_current

example : ∀ e c, c12HW e c = c12Lift (c12HistWalk e c) :=
  histWalk_unique_current c12HW histWalk_table_step_current

theorem histWalk_eq_table_current (e : Expr) (c : Counts) :
    c12CountT c04Classes c04WalkTable c12KeyTable c12HistTable e c = c12Lift (c12HistWalk e c) :=
  c12CountT_eq _ _ _ _ c12HW histWalk_table_step_current e c

/-- **`c12HistTag` is the table-driven `CSETagMapper` of the current source**, for every
histogram -/
theorem histTag_table_step_current (elim : List CKey) (hist : Counts) (e : Expr) (T : Tbl) :
    c12HT hist e T =
      c12MapStep c04Classes c04IdentityTable c12KeyTable c12CtorTable c12WrapTree c12TagTable
        elim hist (c12HT hist) e T := by
  rw [c12MapStep, env_current, tag_resolve_current, tag_table_current]
  exact histTag_eq_stepB elim hist e T

theorem histTag_unique_current (elim : List CKey) (hist : Counts) (f : C12Rec)
    (hf : ∀ e T, f e T = c12MapStep c04Classes c04IdentityTable c12KeyTable c12CtorTable
      c12WrapTree c12TagTable elim hist f e T) :
    ∀ e T, f e T = c12HT hist e T := by
  have key := c12Map_unique
    { keyOf := c12KeyT c12KeyTable,
      wrap := fun r p => c12WTreeT c12CtorTable r [("prefix", p)] c12WrapTree,
      mkCse := fun x => c12MkCse c12CtorTable x none none,
      identOf := c12IdentOwn c04Classes c04IdentityTable,
      getCse := c12TagTable.getCse, recur := f } elim hist
    (fun e => c12MResolve c04Classes c04IdentityTable c12TagTable e) f (c12HT hist)
  exact key hf (histTag_table_step_current elim hist)

/-- the hypothesis of `histTag_unique_current` is satisfiable (by `c12HT hist` itself) -/
example (hist : Counts) : ∀ e T, c12HT hist e T = c12HT hist e T :=
  histTag_unique_current [] hist (c12HT hist) (histTag_table_step_current [] hist)

/-- **`c12HistTagRun` is `w = CSEWalkMapper(); w(e); CSETagMapper(w)(e)` of the current source** -/
theorem histTagRun_eq_table_current (e : Expr) :
    c12HistRun c04Classes c04WalkTable c04IdentityTable c12KeyTable c12CtorTable c12WrapTree
      c12HistTable c12TagTable e = c12Lift (c12HistTagRun e) := by
  simp only [c12HistRun, histWalk_eq_table_current, c12HistTagRun, bind, Except.bind]
  cases h : c12HistWalk e [] with
  | error err => rfl
  | ok hist =>
    simp only [c12Lift_ok]
    rw [c12MapT_eq _ _ _ _ _ _ [] hist (c12HT hist) (histTag_table_step_current [] hist) e []]
    simp only [c12HT_apply]
    cases c12HistTag hist e with
    | error err => rfl
    | ok r => rfl

/-- a node whose class is among the twenty and whose histogram count exceeds 1 becomes a fresh
wrapper around the ORIGINAL node: its operands are not looked at -/
theorem histTag_hit (hist : Counts) (e : Expr) (hop : e.isTagOp = true) (hl : e.hasList = false)
    (hc : (hist.find (.plain e)).getD 0 > 1) :
    c12HistTag hist e = .ok (.cse e none evalScope) := by
  have hm : c12TagMode hist e = .ok (some (.cse e none evalScope)) := by
    simp [c12TagMode, hop, hl, hc]; rfl
  cases e <;> simp only [Expr.isTagOp, Bool.false_eq_true] at hop <;>
    simp only [c12HistTag, hm] <;> rfl

example : c12HistTag [(.plain (.nary .sum [.var "a", .var "b"]), 2)] (.nary .sum [.var "a", .var "b"]) =
    .ok (.cse (.nary .sum [.var "a", .var "b"]) none evalScope) :=
  histTag_hit _ _ rfl rfl (by decide)

/-- **finding** (`tagmapper-wrapper-around-wrapper`): a repeated node that is already the child
of a wrapper is wrapped again -/
theorem histTag_wrapper_around_wrapper_cex :
    let a := Expr.var "a"; let b := Expr.var "b"
    let ab := Expr.nary .prod [a, b]
    c12HistTagRun (.nary .sum [.cse ab none evalScope, ab]) =
      .ok (.nary .sum [.cse (.cse ab none evalScope) none evalScope, .cse ab none evalScope]) := by
  decide +kernel

/-- **finding** (`tagmapper-zero-wrapper-collapses`): a wrapper whose mapped child is falsy as an
expression is replaced by the constant 0 (`CSE(0/x)` raises at `x = 0`, the result does not) -/
theorem histTag_zero_collapse_cex :
    c12HistTagRun (.cse (.bin .quot (.const (.int 0)) (.var "x")) none evalScope) =
      .ok (.const (.int 0)) := by
  decide +kernel

end PV.C12
