import PV.Model.Traverse
import PV.Model.Dispatch
import PV.Proofs.Subterm
import PV.Proofs.WalkDispatch
import PV.Proofs.WalkSpec
import PV.Proofs.WalkFacts
import PV.Proofs.WalkCombine
import PV.Proofs.WalkIdentity
import PV.Properties.C08
import PV.Proofs.WalkTable
import PV.Proofs.WalkCallback
import PV.Generated.Traversal
import PV.Proofs.DispatchTable
import PV.Generated.Dispatch
import PV.Proofs.ForeignTable
/-
  C04 — mapper dispatch (`Mapper.__call__`, `rec_fallback`, `CachedMapper.__call__`, `map_foreign`),
  handler names of expression dataclasses, and the contracts of the stock traversals
  (`WalkMapper` = `walk`, `CombineMapper` = `combineL`, `IdentityMapper` = `substM {}`).
-/
namespace PV.C04
open PV

/-! ## 1. Dispatch -/

/-- **Nearest handler.**  `Mapper.__call__` returns the handler picked by the specification
`firstImplemented`: the own class's handler name if the mapper implements it, else the first
ancestor entry (MRO order) whose non-empty name the mapper implements, else the
unsupported-expression hook. -/
theorem dispatch_nearest (hs : List String) (mro : List (Option String)) :
    dispatchExpr hs mro =
      match firstImplemented hs mro with
      | some m => .handler m
      | none => .unsupported := by
  rw [dispatchExpr_first]; cases firstImplemented hs mro <;> rfl

/-- the specification, spelled out with `List.find?`: own entry first, then the first ancestor -/
theorem firstImplemented_cons (hs : List String) (own : Option String)
    (rest : List (Option String)) :
    firstImplemented hs (own :: rest) =
      if mroImplements hs true own then own
      else (rest.find? (mroImplements hs false)).join := rfl

/-- **Nearest handler, index form.**  The result is `handler m` exactly when `m` is the entry at
the FIRST position `i` of the MRO (position 0 = own class) whose name the mapper implements
(ancestor names must be non-empty): no earlier position qualifies. -/
theorem dispatch_handler_iff (hs : List String) (mro : List (Option String)) (m : String) :
    dispatchExpr hs mro = .handler m ↔
      ∃ i : Nat, mro[i]? = some (some m) ∧ m ∈ hs ∧ (i ≠ 0 → m ≠ "") ∧
        ∀ j : Nat, j < i → ∀ m', mro[j]? = some (some m') → ¬ (m' ∈ hs ∧ (j ≠ 0 → m' ≠ "")) :=
  dispatchExpr_handler_iff hs mro m

/-- … and the unsupported-expression hook is invoked exactly when NO position qualifies. -/
theorem dispatch_unsupported_iff (hs : List String) (mro : List (Option String)) :
    dispatchExpr hs mro = .unsupported ↔
      ∀ (i : Nat) (m : String), mro[i]? = some (some m) → ¬ (m ∈ hs ∧ (i ≠ 0 → m ≠ "")) :=
  dispatchExpr_unsupported_iff hs mro

/-- **Never silent.**  Dispatch on an expression yields a handler the mapper really implements and
the class hierarchy really names, or the unsupported hook — there is no default result. -/
theorem dispatch_never_silent (hs : List String) (mro : List (Option String)) :
    (∃ m, dispatchExpr hs mro = .handler m ∧ m ∈ hs ∧ some m ∈ mro) ∨
      dispatchExpr hs mro = .unsupported :=
  dispatchExpr_cases hs mro

/-- `rec_fallback` is `Mapper.__call__` on the same MRO with the own class's name blanked out. -/
theorem dispatch_fallback_skips_own (hs : List String) (own : Option String)
    (rest : List (Option String)) :
    dispatchFallback hs (own :: rest) = dispatchExpr hs (none :: rest) := rfl

/-- **The copies of the dispatch logic agree**, unconditionally: `CachedMapper.__call__` (own
handler, else `rec_fallback`) picks what `Mapper.__call__` picks, for every handler set and MRO. -/
theorem dispatch_copies_agree (hs : List String) (mro : List (Option String)) :
    dispatchCached hs mro = dispatchExpr hs mro := by
  cases mro with
  | nil => rfl
  | cons own rest => cases own <;> rfl

/-- **Foreign objects**: numbers, arrays, lists and tuples go to their own handlers, anything else
is rejected (`ValueError`); a foreign object never reaches an expression handler nor the
unsupported hook. -/
theorem foreign_routing :
    dispatchForeign .number = .foreign "map_constant" ∧
    dispatchForeign .numpyArray = .foreign "map_numpy_array" ∧
    dispatchForeign .list = .foreign "map_list" ∧
    dispatchForeign .tuple = .foreign "map_tuple" ∧
    dispatchForeign .other = .invalidForeign ∧
    (∀ k, dispatchForeign k = .invalidForeign ↔ k = .other) ∧
    (∀ k m, dispatchForeign k ≠ .handler m) ∧ (∀ k, dispatchForeign k ≠ .unsupported) := by
  refine ⟨rfl, rfl, rfl, rfl, rfl, ?_, ?_, ?_⟩
  · intro k; cases k <;> simp [dispatchForeign]
  · intro k m; cases k <;> simp [dispatchForeign]
  · intro k; cases k <;> simp [dispatchForeign]

/-- own class unimplemented, first ancestor has no name, second is implemented -/
example : dispatchExpr ["map_sum", "map_foo"] [some "map_bar", none, some "map_foo", some "map_sum"]
    = .handler "map_foo" := by decide +kernel
example : firstImplemented ["map_sum", "map_foo"] [some "map_bar", none, some "map_foo", some "map_sum"]
    = some "map_foo" := by decide +kernel
/-- nothing implemented: the hook -/
example : dispatchExpr ["map_x"] [some "map_bar", some "map_foo"] = .unsupported := by decide +kernel
/-- an empty name counts for the own class, not for an ancestor (as coded) -/
example : dispatchExpr [""] [some ""] = .handler "" ∧ dispatchExpr [""] [none, some ""] = .unsupported := by
  decide +kernel
example : dispatchFallback ["map_bar", "map_foo"] [some "map_bar", some "map_foo"] = .handler "map_foo" := by
  decide +kernel
example : dispatchCached ["map_foo"] [some "map_bar", some "map_foo"] = .handler "map_foo" := by decide +kernel

/-! ## 2. Handler names -/

/-- **Decorated classes get the derived name** unless they set one themselves — whatever value is
inherited from the parent. -/
theorem decorated_default_name (n : String) (parent : Option String) :
    effectiveMethod n (.decorated none) parent = some ("map_" ++ camelToSnake n) := rfl

/-- a name set in the class body is kept, decorated or not -/
theorem own_name_kept (n m : String) (parent : Option String) :
    effectiveMethod n (.decorated (some m)) parent = some m ∧
    effectiveMethod n (.legacy (some m)) parent = some m := ⟨rfl, rfl⟩

/-- an undecorated class that sets nothing inherits the parent's name -/
theorem legacy_inherits (n : String) (parent : Option String) :
    effectiveMethod n (.legacy none) parent = parent := rfl

/-- the derived name only ever inserts underscores -/
theorem camelToSnake_length_ge (s : String) : s.length ≤ (camelToSnake s).length :=
  camelToSnake_length_le s

/-- a name that is already snake case (lower-case ASCII letters, digits, underscores) is unchanged -/
theorem camelToSnake_snake (s : String)
    (h : ∀ c ∈ s.toList, isLowerAscii c = true ∨ c = '_' ∨ c.isDigit = true) :
    camelToSnake s = s :=
  camelToSnake_of_snake s h

example : camelToSnake "CallWithKwargs" = "call_with_kwargs" := by decide +kernel
example : camelToSnake "HTTPServer" = "http_server" := by decide +kernel
example : camelToSnake "Sum" = "sum" ∧ camelToSnake "FloorDiv" = "floor_div" := by decide +kernel
example : camelToSnake "map_2d" = "map_2d" := camelToSnake_snake _ (by decide +kernel)
example : effectiveMethod "MyNode" (.decorated none) (some "map_sum") = some "map_my_node" := by decide +kernel
/-- base sets a name, a legacy subclass inherits it, a decorated sub-subclass gets its own -/
example : effectiveChain [("Base", .legacy (some "map_base")), ("Mid", .legacy none),
    ("LeafNode", .decorated none)] none = [some "map_leaf_node", some "map_base", some "map_base"] := by
  decide +kernel

/-! ## 3. The walk mapper -/

/-- **The coded walk is the specification** `walkSpec` (visit, the children's traces once each in
traversal order unless skipped, post-visit) whenever the walk reaches no string / `None` constant
outside slice parts (`walkOK`, decidable) … -/
theorem walk_eq_spec (skip : List String) (args : Bool) (e : Expr) (h : walkOK skip e = true) :
    walk skip args e = .ok (walkSpec skip args e) := by
  rw [walk_total, h]; rfl

/-- … and otherwise it raises (`map_foreign` rejects the object): exactly then. -/
theorem walk_foreign_iff (skip : List String) (args : Bool) (e : Expr) :
    walk skip args e = .error .foreign ↔ walkOK skip e = false := by
  rw [walk_total]; cases walkOK skip e <;> simp [okIf]

/-- in particular the walk succeeds on every tree free of string / `None` constants -/
theorem walk_eq_spec_clean (skip : List String) (args : Bool) (e : Expr)
    (h : ∀ t, Subterm t e → t.isRejectedConst = false) :
    walk skip args e = .ok (walkSpec skip args e) :=
  walk_eq_spec skip args e (walkOK_of_clean skip e h)

/-- the walk never returns a silently shortened trace -/
theorem walk_never_silent (skip : List String) (args : Bool) (e : Expr) :
    walk skip args e = .ok (walkSpec skip args e) ∨ walk skip args e = .error .foreign := by
  rw [walk_total]; cases walkOK skip e
  · exact .inr rfl
  · exact .inl rfl

theorem walk_ok_spec {skip : List String} {args : Bool} {e : Expr} {evs : List Event}
    (h : walk skip args e = .ok evs) : evs = walkSpec skip args e ∧ walkOK skip e = true := by
  rw [walk_total] at h
  cases hk : walkOK skip e <;> simp [okIf, hk] at h
  exact ⟨h.symm, rfl⟩

/-- the side condition, generically: the node is no string / `None`, and unless its children are
skipped every child the walk descends into satisfies it -/
theorem walkOK_step (skip : List String) (e : Expr) :
    walkOK skip e = (!e.isRejectedConst &&
      ((!e.isLeafNode && skip.contains e.kind) || (walkChildren e).all (walkOK skip))) :=
  walkOK_eq skip e

/-- **Once per node occurrence.**  With a `visit` that never returns `False`: the visited nodes are
the node occurrences in pre-order (a node before its children), the post-visited nodes are the same
occurrences in post-order (a node after its children); each list has `walkCount e` entries. -/
theorem walk_visits_once (args : Bool) (e : Expr) (evs : List Event)
    (h : walk [] args e = .ok evs) :
    (evs.filter (fun ev => !ev.post)).map (·.node) = preorder e ∧
    (evs.filter (fun ev => ev.post)).map (·.node) = postorder e ∧
    (evs.filter (fun ev => !ev.post)).length = walkCount e ∧
    (evs.filter (fun ev => ev.post)).length = walkCount e := by
  obtain ⟨rfl, -⟩ := walk_ok_spec h
  have h1 := walkSpec_visit_nodes args e
  have h2 := walkSpec_post_nodes args e
  refine ⟨h1, h2, ?_, ?_⟩
  · rw [← preorder_length, ← h1, List.length_map]
  · rw [← postorder_length, ← h2, List.length_map]

/-- the occurrences reached are ALL nodes of the tree (`Expr.size`), unless a slice has `None`
parts (which are not nodes to visit) -/
theorem walkCount_all_nodes (e : Expr) (h : NoNoneParts e) : walkCount e = e.size :=
  walkCount_eq_size e h

/-- **Extra arguments pass through unchanged**: every `visit` / `post_visit` call of the traversal
receives exactly the extra arguments of the top-level call. -/
theorem walk_args_unchanged (skip : List String) (args : Bool) (e : Expr) (evs : List Event)
    (h : walk skip args e = .ok evs) : ∀ ev ∈ evs, ev.args = args := by
  obtain ⟨rfl, -⟩ := walk_ok_spec h
  exact walkSpec_args skip args e

/-- **Visit before the children, post-visit after them.**  A successful walk starts with the
`visit` of the root; if the root is not skipped the rest is the concatenation of the walks of its
children (`mapM`: each child exactly once, in traversal order, each a successful walk of that
child with the same arguments) followed by the root's `post_visit`. -/
theorem walk_pre_post (skip : List String) (args : Bool) (e : Expr) (evs : List Event)
    (h : walk skip args e = .ok evs) :
    evs.head? = some ⟨false, e, args⟩ ∧
    ((e.isLeafNode = true ∨ skip.contains e.kind = false) →
      ∃ traces : List (List Event),
        (walkChildren e).mapM (walk skip args) = .ok traces ∧
        evs = ⟨false, e, args⟩ :: (traces.flatten ++ [⟨true, e, args⟩])) := by
  obtain ⟨rfl, hok⟩ := walk_ok_spec h
  cases hl : e.isLeafNode with
  | true =>
    rw [walkSpec_leaf _ _ hl]
    refine ⟨rfl, fun _ => ⟨[], ?_, rfl⟩⟩
    rw [walkChildren_nil_of_leaf hl]; rfl
  | false =>
    rw [walkSpec_node _ _ hl]
    cases hs : skip.contains e.kind with
    | true => simp
    | false =>
      refine ⟨by simp, fun _ => ⟨(walkChildren e).map (walkSpec skip args), ?_, ?_⟩⟩
      · rw [walkOK_eq, hl, hs] at hok
        simp only [Bool.not_false, Bool.and_false, Bool.false_or, Bool.and_eq_true,
          List.all_eq_true] at hok
        exact mapM_ok_of_mem _ _ (fun c hc => walk_eq_spec skip args c (hok.2 c hc))
      · simp [List.flatMap_def]

/-- **`visit` returning `False` skips the children** (and the post-visit): the trace of a skipped
inner node is its `visit` alone — whatever is below it. -/
theorem walk_skip (skip : List String) (args : Bool) (e : Expr) (hl : e.isLeafNode = false)
    (hs : skip.contains e.kind = true) : walk skip args e = .ok [⟨false, e, args⟩] := by
  have hr : e.isRejectedConst = false := by
    cases e <;> simp_all [Expr.isLeafNode, Expr.isRejectedConst]
  have hok : walkOK skip e = true := by rw [walkOK_eq, hr, hl, hs]; rfl
  rw [walk_eq_spec skip args e hok, walkSpec_node _ _ hl, if_pos hs]

section examples
/-- `x << (y + 1)` with extra arguments: the shift count `y + 1` is walked before `x` -/
def shiftE : Expr := .bin .lshift (.var "x") (.nary .sum [.var "y", .const (.int 1)])

example : walkOK [] shiftE = true := by decide +kernel
example : walk [] true shiftE = .ok
    [⟨false, shiftE, true⟩,
      ⟨false, .nary .sum [.var "y", .const (.int 1)], true⟩,
        ⟨false, .var "y", true⟩, ⟨true, .var "y", true⟩,
        ⟨false, .const (.int 1), true⟩, ⟨true, .const (.int 1), true⟩,
      ⟨true, .nary .sum [.var "y", .const (.int 1)], true⟩,
      ⟨false, .var "x", true⟩, ⟨true, .var "x", true⟩,
     ⟨true, shiftE, true⟩] := by
  simp [shiftE, walk, wrapWalk, leafWalk, walkL, bind, Except.bind, pure, Except.pure]
example : walkChildren shiftE = [.nary .sum [.var "y", .const (.int 1)], .var "x"] := by
  simp [shiftE, walkChildren, BinOp.isShift]
example : preorder shiftE =
    [shiftE, .nary .sum [.var "y", .const (.int 1)], .var "y", .const (.int 1), .var "x"] := by
  simp [shiftE, preorder_eq, walkChildren, BinOp.isShift, Expr.children]
example : postorder shiftE =
    [.var "y", .const (.int 1), .nary .sum [.var "y", .const (.int 1)], .var "x", shiftE] := by
  simp [shiftE, postorder_eq, walkChildren, BinOp.isShift, Expr.children]
example : walkCount shiftE = 5 ∧ shiftE.size = 5 :=
  ⟨by simp [shiftE, walkCount_eq, walkChildren, BinOp.isShift, Expr.children], by decide +kernel⟩
example : walkCount shiftE = shiftE.size :=
  walkCount_all_nodes _ (noNoneParts_of_check (by decide +kernel))
/-- a `None` slice part is not a node occurrence -/
example : walkCount (.slice [.const .none]) = 1 ∧ (Expr.slice [.const .none]).size = 2 :=
  ⟨by simp [walkCount_eq, walkChildren, Expr.isNoneConst], by decide +kernel⟩
/-- skipping sums: the children `y`, `1` are not visited, the sum gets no post-visit -/
example : walk ["Sum"] false (.nary .sum [.var "y", .const (.str "oops")]) =
    .ok [⟨false, .nary .sum [.var "y", .const (.str "oops")], false⟩] :=
  walk_skip _ _ _ rfl (by decide +kernel)
/-- a slice with a `None` part: the part is not visited; elsewhere `None` is rejected -/
example : walkOK [] (.slice [.var "a", .const .none]) = true ∧
    walkOK [] (.nary .sum [.var "a", .const .none]) = false := by decide +kernel
example : walk [] false (.nary .sum [.var "a", .const .none]) = .error .foreign :=
  (walk_foreign_iff _ _ _).2 (by decide +kernel)
example : walkChildren (.slice [.var "a", .const .none, .var "b"]) = [.var "a", .var "b"] := by
  simp [walkChildren, Expr.isNoneConst]
end examples

/-! ## 4. The combine mapper -/

/-- **Every child is folded in.**  When the combine mapper returns, its result is the list of ALL
leaf occurrences of the tree (constants, variables, wildcards, function symbols), in field order
through every child — nothing is dropped. -/
theorem combineL_eq_leaves (e : Expr) (xs : List Expr) (h : combineL e = .ok xs) :
    xs = leavesOf e := by
  have := combineL_total e
  cases hb : combineBad e <;> simp [CombineOutcome, hb, h] at this
  exact this

/-- **Reported by raising, never silently skipped**: the combine mapper raises exactly when the
tree contains a node type it has no handler for (slice, substitution, derivative, NaN) or a
string / `None` constant. -/
theorem combineL_unsupported_iff (e : Expr) :
    (∃ err, combineL e = .error err) ↔ ∃ t, Subterm t e ∧ t.combineUnhandled = true := by
  rw [← combineBad_iff]
  have := combineL_total e
  cases hb : combineBad e <;> simp only [CombineOutcome, hb, if_true, Bool.false_eq_true,
    if_false] at this
  · simp [this]
  · obtain ⟨err, he, -⟩ := this
    simp [he]

/-- the two outcomes: the full fold, or an unsupported-expression / foreign-object error -/
theorem combineL_never_silent (e : Expr) :
    combineL e = .ok (leavesOf e) ∨
      ∃ err, combineL e = .error err ∧ (err = .unsupported ∨ err = .foreign) := by
  have := combineL_total e
  cases hb : combineBad e <;> simp only [CombineOutcome, hb, if_true, Bool.false_eq_true,
    if_false] at this
  · exact .inl this
  · exact .inr this

/-- **One step of the fold**: the result at an inner node is the concatenation of the results of
ALL its children (`mapM`: each child once, in field order, each a successful fold of that child). -/
theorem combineL_folds_children (e : Expr) (xs : List Expr) (h : combineL e = .ok xs)
    (hl : e.isCombineLeaf = false) :
    ∃ parts : List (List Expr),
      e.children.mapM combineL = .ok parts ∧ xs = parts.flatten := by
  have hb : combineBad e = false := by
    have := combineL_total e
    cases hb : combineBad e <;> simp [CombineOutcome, hb, h] at this
    rfl
  have hx := combineL_eq_leaves e xs h
  rw [leavesOf_eq, hl] at hx
  refine ⟨e.children.map leavesOf, mapM_ok_of_mem _ _ (fun c hc => ?_), by simp [hx, List.flatMap_def]⟩
  rw [combineBad_eq, Bool.or_eq_false_iff, List.any_eq_false] at hb
  have hc' : combineBad c = false := by simpa using hb.2 c hc
  have := combineL_total c
  simpa [CombineOutcome, hc'] using this

section examples
def combE : Expr :=
  .ite (.cmp .lt (.var "x") (.const (.int 0))) (.call .funcSym [.var "y", .wildcard])
    (.callKw (.var "f") [.var "a"] ["k"] [.cse (.var "b") none "s"])

example : combineL combE =
    .ok [.var "x", .const (.int 0), .funcSym, .var "y", .wildcard, .var "f", .var "a", .var "b"] := by
  simp [combE, combineL, combineLL, bind, Except.bind, pure, Except.pure]
example : combineL (.nary .sum [.var "x", .deriv (.var "y") ["y"]]) = .error .unsupported := by
  simp [combineL, combineLL, bind, Except.bind, pure, Except.pure]; rfl
example : ∃ t, Subterm t (.nary .sum [.var "x", .nan]) ∧ t.combineUnhandled = true :=
  ⟨.nan, .child (by simp [Expr.children]), rfl⟩
end examples

/-! ## 5. The identity mapper -/

/-- **Equal tree.**  The identity mapper returns a tree equal to its input — provided no
`CommonSubexpression` wrapper has a zero child (see `identity_equal_cex`). -/
theorem identity_equal_partial (e : Expr) (h : NoZeroCseChild e) : (substM {} e).1 = e := by
  rw [(substM_spec {} e).1]; exact substE_empty e h

/-- **Same object.**  If moreover the tree contains no Python list (`map_list` always builds a new
list), the identity mapper returns the very same object. -/
theorem identity_same_object_partial (e : Expr) (hl : ∀ cs, ¬ Subterm (.list cs) e)
    (hz : NoZeroCseChild e) : substM {} e = (e, false) :=
  C08.subst_untouched_same {} e ⟨fun t _ => SubstMap.empty_apply t, hl, hz⟩

/-- whenever the mapper claims "same object" the tree is the same (no hypothesis) -/
theorem identity_flag_sound (e : Expr) (h : (substM {} e).2 = false) : (substM {} e).1 = e :=
  C08.subst_flag_sound {} e h

/-- `IdentityMapper()(CommonSubexpression(0))` is the constant `0`: not an equal tree. -/
theorem identity_equal_cex :
    substM {} (.cse (.const (.int 0)) none "s") = (.const (.int 0), true) ∧
    (substM {} (.cse (.const (.int 0)) none "s")).1 ≠ .cse (.const (.int 0)) none "s" := by
  constructor
  · rfl
  · intro h; cases h

/-- a list below the root: an equal tree, but reported as a new object although nothing changed -/
theorem identity_same_object_cex :
    substM {} (.call (.var "f") [.list [.var "x"]]) = (.call (.var "f") [.list [.var "x"]], true) := by
  rfl

example : substM {} combE = (combE, false) :=
  identity_same_object_partial _ (noList_of_check (by decide +kernel)) (noZeroCseChild_of_check (by decide +kernel))
example : (substM {} (.list [combE, .cse (.const (.int 1)) none "s"])).1 =
    .list [combE, .cse (.const (.int 1)) none "s"] :=
  identity_equal_partial _ (noZeroCseChild_of_check (by decide +kernel))

/-! ## 6. The handlers of the CURRENT source (T-gen)

`Generated.c04WalkTable`, `c04IdentityTable`, `c04CombineTable`, `c04Classes`, … are regenerated
by extract/traversal.py from the live source of pymbolic/mapper/__init__.py on every check.  The
theorems below tie the hand-written models (`walk`, `walkChildren`, `combineL`, `Expr.children`,
`substM`) to those tables for ALL expressions; an edit of the source that reorders, drops or adds
a child, drops a `visit` / `post_visit`, stops forwarding the extra arguments or permutes
constructor arguments changes the table and breaks them. -/

open Generated

/-- Everything the theorems of this section and the next read off the regenerated tables, on one
representative per node class (`classReps`) or on the whole table.  The facts stand in one
declaration because the kernel decodes a string literal once per declaration.  The conjuncts, in
order, and the theorem each one feeds:
1. walk handler shapes (`walk_resolve_current`), 2. combine (`combine_resolve_current`),
3. identity (`identity_resolve_current`), 4. callback (`callback_resolve_current`),
5. field names and kinds (`fields_current`), 6. hooked handler names and 7. the hook table
(`substHooks_current`), 8. every expression-bearing field once, for the three tables
(`fields_once_current`), 9. constructor argument order (`identity_ctor_order_current`).
`c04BodyOf _ 4` in the checks: the fuel bounds how many `return self.map_x(expr, …)` stubs are
followed; in the regenerated tables no stub points at another stub, so any fuel ≥ 2 gives the
same bodies. -/
theorem tables_current :
    (∀ r ∈ classReps, c04Resolve c04Classes c04WalkTable r = c04WalkBody r) ∧
    (∀ r ∈ classReps, c04Resolve c04Classes (c04WithLeaves c04CollectorLeaves c04CombineTable) r =
      c04CombineBody r) ∧
    (∀ r ∈ classReps, c04Resolve c04Classes c04IdentityTable r = c04IdentBody r) ∧
    (∀ r ∈ classReps, c04Resolve c04Classes c04CallbackTable r = c04CallbackBody r) ∧
    (∀ r ∈ classReps, r.c04IsNode = true →
      (c04FindClass c04Classes r.kind).map (fun c => (c.fields, c.kinds)) =
        some (r.c04Fields.map (·.1), r.c04Fields.map (·.2.kindName))) ∧
    (∀ r ∈ classReps, r.isRejectedConst = false →
      (match c04HandlerName c04Classes c04IdentityTable r with
        | some n => c04SubstHooks.any (fun h => h.1 == n)
        | none => false) = r.c04Hooked) ∧
    c04HooksOk c04SubstHooks c04IdentityTable = true ∧
    (c04FieldsOnceOk c04Classes c04WalkTable = true ∧
      c04FieldsOnceOk c04Classes c04CombineTable = true ∧
      c04FieldsOnceOk c04Classes c04IdentityTable = true) ∧
    c04CtorOrderOk c04Classes c04IdentityTable = true := by
  decide +kernel

/-- **Walk handler shapes.**  For every node the `WalkMapper` handler the current source
dispatches it to (class MRO against the handler names, `Mapper` stubs and aliases followed) has
exactly the shape `c04WalkBody` states and `walk` follows: same bracket, same recursion sites in the same order,
extra arguments forwarded everywhere. -/
theorem walk_resolve_current (e : Expr) :
    c04Resolve c04Classes c04WalkTable e = c04WalkBody e :=
  have ⟨h, _⟩ := tables_current
  Expr.eq_of_classReps (c04Resolve_classRep _ _) c04WalkBody_classRep h e

/-- **Combine handler shapes** of the current source, for a subclass that makes the leaves
`Collector` makes (`c04CollectorLeaves`) leaves; node kinds without a handler (slice,
substitution, derivative: unsupported; NaN: the `Mapper` stub raises) included. -/
theorem combine_resolve_current (e : Expr) :
    c04Resolve c04Classes (c04WithLeaves c04CollectorLeaves c04CombineTable) e =
      c04CombineBody e :=
  have ⟨_, h, _⟩ := tables_current
  Expr.eq_of_classReps (c04Resolve_classRep _ _) c04CombineBody_classRep h e

/-- **Identity handler shapes** of the current source: recursion sites in evaluation order, the
fields the "same object" test compares, the zero-collapse quirk of `map_common_subexpression`,
constructor arguments in source order. -/
theorem identity_resolve_current (e : Expr) :
    c04Resolve c04Classes c04IdentityTable e = c04IdentBody e :=
  have ⟨_, _, h, _⟩ := tables_current
  Expr.eq_of_classReps (c04Resolve_classRep _ _) c04IdentBody_classRep h e

/-- **Field names.**  The field names (and their order) the model reads a node under are the
dataclass fields of the node's class in the current pymbolic/primitives.py, and the model treats
a field as one expression / a tuple of expressions / a mapping to expressions / plain data exactly
as its declared type says. -/
theorem fields_current (e : Expr) (h : e.c04IsNode = true) :
    (c04FindClass c04Classes e.kind).map (fun c => (c.fields, c.kinds)) =
      some (e.c04Fields.map (·.1), e.c04Fields.map (·.2.kindName)) := by
  have ⟨_, _, _, _, hr, _⟩ := tables_current
  have hr := hr _ e.classRep_mem
  cases e with
  | const k => cases h
  | tuple cs => cases h
  | list cs => cases h
  | bin o a b => cases o <;> exact hr rfl
  | _ => exact hr rfl

/-- `Expr.children` = the expression content of the dataclass fields, in field order -/
theorem children_eq_fields (e : Expr) :
    e.children = e.c04Fields.flatMap (fun p => p.2.exprs) :=
  Expr.children_eq_c04Fields e

/-- **`walkChildren` is what the current `WalkMapper` source recurses into**, in that order, for
every node the mapper accepts. -/
theorem walkChildren_eq_table_current (e : Expr) (h : e.isRejectedConst = false) :
    c04TableChildren c04Classes c04WalkTable e = some (walkChildren e) := by
  have hb := walkChildren_eq_recs e
  rw [c04TableChildren, walk_resolve_current]
  cases e with
  | const k => cases k <;> simp_all [Expr.isRejectedConst, c04WalkBody, c04BodyRecs]
  | bin o a b => cases o <;> simpa [c04WalkBody, c04BodyRecs] using hb
  | _ => simpa [c04WalkBody, c04BodyRecs] using hb

/-- **`walk` is the table-driven walk of the current source**: on every node, one handler call as
the regenerated `WalkMapper` table describes it (`c04WalkStep`), recursing through `walk`. -/
theorem walk_table_step_current (skip : List String) (args : Bool) (e : Expr) :
    walk skip args e = c04WalkStep c04Classes c04WalkTable (walk skip) skip args e := by
  rw [c04WalkStep, walk_resolve_current]; exact walk_eq_stepB skip args e

/-- … and the only such function: anything that makes one table-driven handler call per node and
recurses through itself IS `walk` (so `walk_eq_spec`, `walk_visits_once`, `walk_args_unchanged`, …
are theorems about what the current source says). -/
theorem walk_unique_current (skip : List String)
    (f : Bool → Expr → Except DepErr (List Event))
    (hf : ∀ a e, f a e = c04WalkStep c04Classes c04WalkTable f skip a e) :
    ∀ args e, f args e = walk skip args e := by
  intro args e
  exact c04Walk_unique (fun e => c04Resolve c04Classes c04WalkTable e) skip f (walk skip) hf
    (fun a e => walk_table_step_current skip a e) e args

/-- **Every `WalkMapper` handler of the current source** — those of node kinds outside the model
(numpy arrays, multivectors, polynomials, `map_if_positive`) included — calls `visit` first and
`post_visit` last with the extra arguments, forwards them to every recursive call, and only
childless handlers ignore the answer of `visit`. -/
theorem walkTable_rows_ok_current : c04WalkTable.all (fun h => c04WalkRowOk h.body) = true := by
  decide +kernel

/-- **Every expression-bearing field once — all node classes.**  For every node class of the
current primitives (whether the model has a constructor for it or not) the `WalkMapper` handler of
the class recurses into exactly the fields declared to hold expressions, each once, enumerating
each as its declared type demands; likewise the `CombineMapper` and `IdentityMapper` handlers. -/
theorem fields_once_current :
    c04FieldsOnceOk c04Classes c04WalkTable = true ∧
    c04FieldsOnceOk c04Classes c04CombineTable = true ∧
    c04FieldsOnceOk c04Classes c04IdentityTable = true :=
  have ⟨_, _, _, _, _, _, _, h, _⟩ := tables_current
  h

/-- **`Expr.children` in field order is what the current `CombineMapper` source folds**, for every
node that has a handler. -/
theorem combineChildren_eq_table_current (e : Expr) (hl : e.isCombineLeaf = false)
    (hu : e.combineUnhandled = false) :
    c04TableChildren c04Classes (c04WithLeaves c04CollectorLeaves c04CombineTable) e =
      some e.children := by
  have hb := combineChildren_eq_recs e hl hu
  rw [c04TableChildren, combine_resolve_current]
  cases e with
  | const k => cases k <;> simp_all [Expr.isCombineLeaf]
  | bin o a b => cases o <;> simpa [c04CombineBody, c04BodyRecs] using hb
  | _ => simp_all [c04CombineBody, c04BodyRecs, Expr.isCombineLeaf, Expr.combineUnhandled]

/-- **`combineL` is the table-driven fold of the current source.** -/
theorem combineL_table_step_current (e : Expr) :
    combineL e = c04CombineStep c04Classes c04CombineTable c04CollectorLeaves combineL e := by
  rw [c04CombineStep, combine_resolve_current]; exact combineL_eq_stepB e

/-- … and the only one (so `combineL_eq_leaves`, `combineL_unsupported_iff`, … speak about the
current source). -/
theorem combineL_unique_current (f : Expr → Except DepErr (List Expr))
    (hf : ∀ e, f e = c04CombineStep c04Classes c04CombineTable c04CollectorLeaves f e) :
    ∀ e, f e = combineL e :=
  c04Combine_unique
    (fun e => c04Resolve c04Classes (c04WithLeaves c04CollectorLeaves c04CombineTable) e)
    f combineL hf combineL_table_step_current

/-- every `CombineMapper` handler of the current source forwards the extra arguments to every
recursive call -/
theorem combineTable_rows_ok_current : c04CombineTable.all (fun h => c04FoldRowOk h.body) = true := by
  decide +kernel

/-- **The children the current `IdentityMapper` source maps** are all direct children in field
order (for a slice: its non-`None` parts; `None` stays in place). -/
theorem identityChildren_eq_table_current (e : Expr) (h : e.isRejectedConst = false) :
    c04TableChildren c04Classes c04IdentityTable e =
      some (match e with
        | .slice cs => cs.filter (fun c => !c.c04IsNone)
        | e => e.children) := by
  have hb := identChildren_eq_recs e
  rw [c04TableChildren, identity_resolve_current]
  cases e with
  | const k =>
    cases k <;> first
      | (simp [Expr.isRejectedConst] at h; done)
      | simpa [c04IdentBody, c04BodyRecs] using hb
  | bin o a b => cases o <;> simpa [c04IdentBody, c04BodyRecs] using hb
  | _ => simpa [c04IdentBody, c04BodyRecs] using hb

/-- **`substM` is the table-driven rebuild of the current source** wherever the substitution
function does not answer: children mapped in the order of the source, the node itself returned iff
every field the source's test compares is unchanged, otherwise `type(expr)(…)` with the arguments
in the order of the source (zero-collapse quirk of `map_common_subexpression` included). -/
theorem substM_table_step_current (σ : SubstMap) (e : Expr) (hr : e.isRejectedConst = false)
    (hh : c04SubstHook σ e = none) :
    c04IdentStep c04Classes c04IdentityTable (substM σ) e = some (.ok (substM σ e)) := by
  rw [c04IdentStep, identity_resolve_current]; exact substM_eq_stepB σ e hr hh

/-- the plain identity mapper (`substM {}`): no hypothesis on the substitution function -/
theorem identity_table_step_current (e : Expr) (hr : e.isRejectedConst = false) :
    c04IdentStep c04Classes c04IdentityTable (substM {}) e = some (.ok (substM {} e)) :=
  substM_table_step_current {} e hr (by cases e <;> simp [c04SubstHook, SubstMap.empty_apply])

/-- … and on trees free of string / `None` constants `substM {}` is the only function that is,
on every node, one table-driven `IdentityMapper` handler call of the current source recursing
through itself (so `identity_equal_partial`, `identity_same_object_partial`, `identity_flag_sound`
speak about the current source). -/
theorem identity_unique_current (f : Expr → Expr × Bool)
    (hf : ∀ e, e.isRejectedConst = false →
      c04IdentStep c04Classes c04IdentityTable f e = some (.ok (f e))) :
    ∀ e, c04NoRejected e → f e = substM {} e :=
  c04Ident_unique (fun e => c04Resolve c04Classes c04IdentityTable e) f (substM {}) hf
    identity_table_step_current

/-- when the substitution function answers, its answer is returned as a new object -/
theorem substM_hook_answer (σ : SubstMap) (e r : Expr) (h : c04SubstHook σ e = some r) :
    substM σ e = (r, true) :=
  substM_hook h

/-- **The hooked node kinds are those the current `SubstitutionMapper` overrides**: a node's
identity handler is in `c04SubstHooks` exactly for variables, subscripts and look-ups; and each
hook falls back to `IdentityMapper`'s handler of the same name (or returns `expr` where that
handler does). -/
theorem substHooks_current :
    (∀ e : Expr, e.isRejectedConst = false →
      (match c04HandlerName c04Classes c04IdentityTable e with
        | some n => c04SubstHooks.any (fun h => h.1 == n)
        | none => false) = e.c04Hooked) ∧
    c04HooksOk c04SubstHooks c04IdentityTable = true := by
  have ⟨_, _, _, _, _, hr, hok, _⟩ := tables_current
  refine ⟨fun e h => ?_, hok⟩
  have hn : c04HandlerName c04Classes c04IdentityTable e =
      c04HandlerName c04Classes c04IdentityTable e.classRep := by
    rw [c04HandlerName, c04Dispatch_classRep]; rfl
  have hr := hr _ e.classRep_mem
  rw [hn]
  cases e with
  | const k => cases k <;> first | exact hr rfl | cases h
  | _ => exact hr rfl

/-- **Constructor argument order.**  For every node class of the current primitives whose identity
handler rebuilds with `type(expr)(…)`, the positional arguments are the class's dataclass fields
in declaration order. -/
theorem identity_ctor_order_current : c04CtorOrderOk c04Classes c04IdentityTable = true :=
  have ⟨_, _, _, _, _, _, _, _, h⟩ := tables_current
  h

/-- **Every `IdentityMapper` handler of the current source** (unmodelled ones included) forwards
the extra arguments, compares in its "same object" test exactly the fields it mapped, and passes
exactly the mapped fields to the constructor in the order it mapped them. -/
theorem identityTable_rows_ok_current :
    c04IdentityTable.all (fun h => c04RebuildRowOk h.body) = true := by
  decide +kernel

section examples
/-- the shift handler of the current source recurses into `shift` before `shiftee` -/
example : c04TableChildren c04Classes c04WalkTable shiftE =
    some [.nary .sum [.var "y", .const (.int 1)], .var "x"] := by
  rw [walkChildren_eq_table_current _ rfl]; simp [shiftE, walkChildren, BinOp.isShift]
example : c04FindHandler c04WalkTable "map_right_shift" =
    some ⟨"map_right_shift", "WalkMapper", "map_left_shift",
      .walk .guard true [⟨"shift", .one, true⟩, ⟨"shiftee", .one, true⟩] true true⟩ := by decide +kernel
/-- a table that drops the `shift` child is NOT the current one: the step differs from `walk` -/
example : c04WalkStepB (.ok (.walk .guard true [⟨"shiftee", .one, true⟩] true true))
    (walk []) [] false shiftE ≠ walk [] false shiftE := by
  simp [shiftE, c04WalkStepB, c04SeqSites, c04RecChildren, Expr.c04Field, Expr.c04Fields, c04Assoc,
    c04SeqL, walk, wrapWalk, leafWalk, walkL, Expr.kind, BinOp.name, bind, Except.bind, pure,
    Except.pure]
example : c04TableChildren c04Classes (c04WithLeaves c04CollectorLeaves c04CombineTable) combE =
    some combE.children := combineChildren_eq_table_current _ rfl rfl
example : c04Resolve c04Classes (c04WithLeaves c04CollectorLeaves c04CombineTable) (.slice []) =
    .error .unsupported := by decide +kernel
example : c04IdentStep c04Classes c04IdentityTable (substM {}) combE = some (.ok (combE, false)) := by
  rw [identity_table_step_current _ rfl]
  exact congrArg _ (congrArg _ (identity_same_object_partial _ (noList_of_check (by decide +kernel))
    (noZeroCseChild_of_check (by decide +kernel))))
/-- swapped constructor arguments are not the current table: the rebuilt node differs -/
example : c04IdentStepB (.ok (.rebuild [⟨"aggregate", .one, true⟩, ⟨"index", .one, true⟩] true
      ["aggregate", "index"] false (.sameClass [.rebuilt "index", .rebuilt "aggregate"] false)))
    (fun e => (e, true)) (.subscript (.var "a") (.var "i")) =
    some (.ok (.subscript (.var "i") (.var "a"), true)) := by
  simp [c04IdentStepB, c04MapRecs, c04MapRec, Expr.c04Field, Expr.c04Fields, c04Assoc, c04Rebuild,
    c04OptSeq, c04ArgVal, Expr.c04Construct]
example : (Expr.var "x").c04Hooked = true ∧ (Expr.nan).c04Hooked = false := ⟨rfl, rfl⟩
end examples

/-! ## 7. The callback mapper -/

/-- **Callback handler shapes of the current source**: the `CallbackMapper` of the current source
hands a node to `function` (with the extra arguments) for exactly the node kinds
`c04CallbackBody` says; for every other kind dispatch ends at a raising `Mapper` stub or finds no
handler at all. -/
theorem callback_resolve_current (e : Expr) :
    c04Resolve c04Classes c04CallbackTable e = c04CallbackBody e :=
  have ⟨_, _, _, h, _⟩ := tables_current
  Expr.eq_of_classReps (c04Resolve_classRep _ _) c04CallbackBody_classRep h e

/-- **`function` is called on exactly the listed kinds.**  One call of the current
`CallbackMapper` on a node of a listed kind is `function(expr, self, *args, **kwargs)` … -/
theorem callback_calls_function {β : Type} (function : Bool → Expr → Except DepErr β)
    (args : Bool) (e : Expr) (h : e.c04CallbackListed = true) :
    c04CallbackStep c04Classes c04CallbackTable function args e = function args e := by
  rw [c04CallbackStep, callback_resolve_current, c04CallbackBody_listed h]
  simp [c04CallbackStepB]

/-- … and on a node of any other kind it raises, whatever `function` is: never a silent default,
never a call of `function`. -/
theorem callback_unlisted_never_silent {β : Type} (function : Bool → Expr → Except DepErr β)
    (args : Bool) (e : Expr) (h : e.c04CallbackListed = false) :
    ∃ err, c04CallbackStep c04Classes c04CallbackTable function args e = .error err := by
  rw [c04CallbackStep, callback_resolve_current]
  rcases c04CallbackBody_unlisted h with hb | ⟨err, hb⟩ <;> rw [hb]
  · exact ⟨_, rfl⟩
  · exact ⟨_, rfl⟩

/-- every handler `CallbackMapper` defines in the current source (those of node kinds outside the
model included) is the callback with the extra arguments forwarded, and `__init__` points the
fallback mapper's `rec` back at the callback mapper -/
theorem callbackTable_rows_ok_current :
    c04CallbackTable.all (fun h => h.definedIn != "CallbackMapper" || h.body == .callback true) = true ∧
    c04CallbackRedirectsRec = true := by
  decide +kernel

/-- **The delegating callback sees every node once.**  `CallbackMapper(function,
IdentityMapper())` with a `function` that answers `mapper.fallback_mapper(expr, …)`: when every
node of the tree is of a listed kind, `function` is called on every node occurrence exactly once,
in pre-order through ALL children in field order, each time with the extra arguments … -/
theorem callbackTrace_all_nodes (args : Bool) (e : Expr)
    (h : ∀ t, Subterm t e → t.c04CallbackListed = true) :
    callbackTrace args e = .ok ((c04Pre e).map (fun n => (n, args))) := by
  have hall : allSub Expr.c04CallbackListed e = true := by
    induction e using Expr.induct with
    | h e ih =>
      rw [allSub_eq, Bool.and_eq_true, List.all_eq_true]
      exact ⟨h e (.refl e), fun c hc => ih c hc (fun t ht => h t (ht.trans (.child hc)))⟩
  have := callbackTrace_total args e
  simpa [C04Outcome, hall] using this

/-- … and when some node is of a kind the callback mapper does not list, the traversal raises. -/
theorem callbackTrace_never_silent (args : Bool) (e t : Expr) (ht : Subterm t e)
    (h : t.c04CallbackListed = false) : ∃ err, callbackTrace args e = .error err := by
  have hall : allSub Expr.c04CallbackListed e = false := by
    cases hb : allSub Expr.c04CallbackListed e with
    | false => rfl
    | true => exact absurd (allSub_sound hb t ht) (by simp [h])
  have := callbackTrace_total args e
  simpa [C04Outcome, hall] using this

section examples
example : callbackTrace true shiftE = .ok
    [(shiftE, true), (.var "x", true), (.nary .sum [.var "y", .const (.int 1)], true),
     (.var "y", true), (.const (.int 1), true)] := by
  rw [callbackTrace_all_nodes _ _ (allSub_sound (by decide +kernel))]
  simp [shiftE, c04Pre_eq, Expr.children]
example : ∃ err, callbackTrace false (.nary .sum [.var "x", .nary .min [.var "y"]]) = .error err :=
  callbackTrace_never_silent _ _ (.nary .min [.var "y"]) (.child (by simp [Expr.children])) rfl
example : (Expr.callKw (.var "f") [] [] []).c04CallbackListed = false ∧
    (Expr.call (.var "f") []).c04CallbackListed = true := ⟨rfl, rfl⟩
end examples

/-! ## 8. The dispatch CODE and the fold step of the current source (T-gen)

`Generated.c04DispatchSource` is `Mapper.__call__` / `Mapper.rec_fallback` of the tree under test,
read statement by statement by extract/dispatch.py (a statement the reader does not know — any
statement touching something else than the locals `method_name`, `method`, `result`, `cls`, e.g. a
memo table shared between calls / instances / mapper classes — is an extraction error).  `dRun` is
the interpreter of that statement language (`PV/Model/DispatchTable.lean`). -/

/-- **The dispatch source is the one the model reads**: the table regenerated from the source on
this run is, statement for statement, `dispatchSourceLit`. -/
theorem dispatch_source_current : c04DispatchSource = dispatchSourceLit := rfl

/-- **`Mapper.__call__` of the current source IS `dispatchExpr`**: the statements of the
regenerated table, run by the interpreter on an expression whose class has MRO `mro` for a mapper
implementing `hs`, return exactly what the dispatch model says — for all handler sets and MROs. -/
theorem dispatch_call_eq_table_current (hs : List String) (mro : List (Option String)) :
    dRun c04DispatchSource.call hs (.expr mro) = .ret (dispatchExpr hs mro) := by
  rw [dispatch_source_current]; exact dRun_call_lit_expr hs mro

/-- **`Mapper.rec_fallback` of the current source IS `dispatchFallback`.** -/
theorem dispatch_fallback_eq_table_current (hs : List String) (mro : List (Option String)) :
    dRun c04DispatchSource.fallback hs (.expr mro) = .ret (dispatchFallback hs mro) := by
  rw [dispatch_source_current]; exact dRun_fallback_lit_expr hs mro

/-- **Foreign objects** leave both routines of the current source through `map_foreign`. -/
theorem dispatch_foreign_eq_table_current (hs : List String) (k : ForeignKind) :
    dRun c04DispatchSource.call hs (.foreign k) = .ret (dispatchForeign k) ∧
    dRun c04DispatchSource.fallback hs (.foreign k) = .ret (dispatchForeign k) := by
  rw [dispatch_source_current]
  exact ⟨dRun_call_lit_foreign hs k, dRun_fallback_lit_foreign hs k⟩

/-- **Nearest handler, for the current source**: the statements of `Mapper.__call__` as they are
in the tree under test pick the own class's handler if the mapper implements it, else the first
ancestor's (MRO order) it implements, else the unsupported-expression hook — and nothing else
enters: the outcome is a function of the handler set and the MRO alone (no state survives a
call). -/
theorem dispatch_nearest_table_current (hs : List String) (mro : List (Option String)) :
    dRun c04DispatchSource.call hs (.expr mro) =
      .ret (match firstImplemented hs mro with
        | some m => .handler m
        | none => .unsupported) := by
  rw [dispatch_call_eq_table_current, dispatch_nearest]

/-- the recursive entry point `rec` is `__call__` itself, both routines take
`(self, expr, *args, **kwargs)`, and the only classes of `pymbolic.mapper` with a dispatch routine
of their own are `Mapper`, `CachedMapper` (`dispatchCached`) and `CachingMapperMixin`. -/
theorem dispatch_entry_points_current :
    c04DispatchSource.recIsCall = true ∧ c04DispatchSource.callSig = true ∧
    c04DispatchSource.fallbackSig = true ∧
    c04DispatchSource.overriders =
      [("CachedMapper", "__call__"), ("CachedMapper", "rec"), ("CachingMapperMixin", "__call__"),
       ("CachingMapperMixin", "rec"), ("Mapper", "__call__"), ("Mapper", "rec"),
       ("Mapper", "rec_fallback")] := by decide +kernel

/-- a table whose ancestor loop starts one class too late is NOT the current one: on a class whose
direct parent's handler is the only one implemented it reaches the hook. -/
theorem dispatch_table_edit_cex :
    dRun [.ifS .isExpression [.forMro 2 dispatchLoopBodyLit [.returnHook]] [.returnForeign]]
        ["map_b"] (.expr [some "map_c", some "map_b", some "map_a"]) = .ret .unsupported ∧
    dRun c04DispatchSource.fallback ["map_b"] (.expr [some "map_c", some "map_b", some "map_a"])
      = .ret (.handler "map_b") := by
  constructor
  · decide +kernel
  · rw [dispatch_fallback_eq_table_current]; decide +kernel

/-- **The fold step of the stock collectors, current source**: `Collector.combine` is
`reduce(operator.or_, values, set())` — a NEW set per call, the children's result sets are only
read (`|`, never `|=`) — `CombineMapper.combine` is the `NotImplementedError` stub, and the cached
flavours add nothing but `CachedMapper` in front.  (The same source fact as `PV.C09.combine_current`,
here as an obligation of C04: an in-place union into a child's set changes the table.) -/
theorem collector_combine_current :
    c04CollectorCombine = .reduceOr ∧ c04CombineMapperCombine = .notImplemented ∧
    c04CachedCollectorMro = ["CachedCollector", "CachedMapper", "Collector", "CombineMapper", "Mapper"] ∧
    c04CachedCombineMro = ["CachedCombineMapper", "CachedMapper", "CombineMapper", "Mapper"] := by
  decide +kernel

section examples
example : dRun c04DispatchSource.call ["map_sum", "map_foo"]
    (.expr [some "map_bar", none, some "map_foo", some "map_sum"]) = .ret (.handler "map_foo") := by
  rw [dispatch_call_eq_table_current]; decide +kernel
example : dRun c04DispatchSource.call [""] (.expr [some ""]) = .ret (.handler "") ∧
    dRun c04DispatchSource.call [""] (.expr [none, some ""]) = .ret .unsupported := by
  rw [dispatch_call_eq_table_current, dispatch_call_eq_table_current]; decide +kernel
example : dRun c04DispatchSource.call [] (.foreign .tuple) = .ret (.foreign "map_tuple") :=
  (dispatch_foreign_eq_table_current [] .tuple).1
end examples

/-! ## 9. `Mapper.map_foreign` of the current source and the run-time registry of number classes

`Generated.c04ForeignSource` is `Mapper.map_foreign` of the tree under test read test by test, each
test with WHAT IT REFERS TO: `.constLive` = `pymbolic.primitives.VALID_CONSTANT_CLASSES` looked up
through the module attribute when the mapper is called — the global that
`register_constant_class` / `unregister_constant_class` rebind (also read, statement by statement)
— as opposed to `.constCaptured`, a value computed from it when `pymbolic.mapper` was imported.
`fRun` runs the chain for a registry at call time (`live`) and one at import time (`captured`). -/

/-- **The source of `map_foreign` and of the registry functions is the one the model reads**
(`foreignSourceLit`), test for test. -/
theorem foreign_source_current : c04ForeignSource = foreignSourceLit := rfl

/-- **`map_foreign` of the current source IS `dispatchForeign`, on the kind the object has under
the registry AT CALL TIME**: numbers (instances of a class registered right now) to
`map_constant`, else arrays, lists, tuples to their handlers, anything else rejected — for every
registry, every object, and whatever the registry was when the module was imported. -/
theorem foreign_chain_eq_table_current (live captured : Registry) (o : FObj) :
    fRun c04ForeignSource.chain live captured o = dispatchForeign (o.kind live) := by
  rw [foreign_source_current]; exact fRun_lit live captured o

/-- **Routing follows a registration**: right after `register_constant_class(c)` every instance
of `c` goes to `map_constant`, whatever was registered before. -/
theorem foreign_follows_registration_current (reg captured : Registry) (c : String) (o : FObj)
    (h : c ∈ o.classes) :
    fRun c04ForeignSource.chain (reg.register c) captured o = .foreign "map_constant" := by
  have hc : o.isConst (reg.register c) = true := by
    rw [isConst_register]; simp [List.contains_eq_mem, h]
  rw [foreign_chain_eq_table_current]
  simp [FObj.kind, hc, dispatchForeign]

/-- **Routing follows an unregistration**: an object that is no instance of a class still
registered is routed by its shape alone, and rejected when it is no array, list or tuple. -/
theorem foreign_follows_unregistration_current (reg captured : Registry) (c : String) (o : FObj)
    (h : o.isConst (reg.unregister c) = false) :
    fRun c04ForeignSource.chain (reg.unregister c) captured o = dispatchForeign (o.kind []) ∧
    (o.isArray = false → o.isList = false → o.isTuple = false →
      fRun c04ForeignSource.chain (reg.unregister c) captured o = .invalidForeign) := by
  rw [foreign_chain_eq_table_current]
  have h0 : o.isConst [] = false := by simp [FObj.isConst]
  constructor
  · simp [FObj.kind, h, h0]
  · intro ha hl ht; simp [FObj.kind, h, ha, hl, ht, dispatchForeign]

/-- … in particular an instance of exactly the class `c`, registered once: rejected again. -/
theorem foreign_unregistered_rejected_current (reg captured : Registry) (c : String)
    (hn : reg.Nodup) :
    fRun c04ForeignSource.chain (reg.unregister c) captured { classes := [c] } = .invalidForeign := by
  have h : ({ classes := [c] } : FObj).isConst (reg.unregister c) = false := by
    simp only [FObj.isConst, List.any_cons, List.any_nil, Bool.or_false]
    exact unregister_removes reg c hn
  exact (foreign_follows_unregistration_current reg captured c _ h).2 rfl rfl rfl

/-- **Histories**: registrations, unregistrations and dispatches in any order — every dispatch of
the current source goes where the object's kind under the registry OF THAT MOMENT says
(`fHistorySpec`), independently of the registry at import time. -/
theorem foreign_history_current (captured live : Registry) (steps : List FStep) :
    fHistory c04ForeignSource.chain captured live steps = fHistorySpec live steps := by
  rw [foreign_source_current]; exact fHistory_lit captured steps live

/-- the registry functions of `pymbolic.primitives` rebind ONE module global — the one the first
test of the chain reads — `register` by appending to a new tuple, `unregister` by removing the
first occurrence, `is_constant` tests against the same global; `map_foreign` takes
`(self, expr, *args, **kwargs)`, rejects with `ValueError`, and no stock mapper replaces it
(`CompileMapper.map_foreign` re-routes to `Mapper.map_foreign` with its own argument). -/
theorem foreign_registry_fns_current :
    c04ForeignSource.sig = true ∧ c04ForeignSource.elseRaises = "ValueError" ∧
    c04ForeignSource.registryGlobal = "VALID_CONSTANT_CLASSES" ∧
    c04ForeignSource.register = .appendOne c04ForeignSource.registryGlobal ∧
    c04ForeignSource.unregister = .removeFirst c04ForeignSource.registryGlobal ∧
    c04ForeignSource.isConstant = .isinstanceOf c04ForeignSource.registryGlobal ∧
    c04ForeignSource.overriders = ["CompileMapper", "Mapper"] := by decide +kernel

/-- a chain whose first test refers to a value captured at import time is NOT the current one: a
class registered later is rejected, a class unregistered later is still accepted — while the
chain of the current source follows the registry both times. -/
theorem foreign_captured_table_cex :
    let captured : List (FTest × String) :=
      [(.constCaptured, "map_constant"), (.numpyArray, "map_numpy_array"),
       (.builtinList, "map_list"), (.builtinTuple, "map_tuple")]
    let frac : FObj := { classes := ["Fraction", "numbers.Rational"] }
    let flt : FObj := { classes := ["float"] }
    fRun captured (baseRegistry.register "Fraction") baseRegistry frac = .invalidForeign ∧
    fRun c04ForeignSource.chain (baseRegistry.register "Fraction") baseRegistry frac
      = .foreign "map_constant" ∧
    fRun captured (baseRegistry.unregister "float") baseRegistry flt = .foreign "map_constant" ∧
    fRun c04ForeignSource.chain (baseRegistry.unregister "float") baseRegistry flt
      = .invalidForeign := by
  decide +kernel

section examples
example : fHistory c04ForeignSource.chain baseRegistry baseRegistry
    [.call { classes := ["Fraction"] }, .op (.register "Fraction"), .call { classes := ["Fraction"] },
     .op (.register "Decimal"), .call { classes := ["Decimal"] }, .op (.unregister "Fraction"),
     .call { classes := ["Fraction"] }, .call { classes := [], isTuple := true }]
    = [.invalidForeign, .foreign "map_constant", .foreign "map_constant", .invalidForeign,
       .foreign "map_tuple"] := by
  rw [foreign_history_current]; decide +kernel
example : ({ classes := ["int", "numbers.Rational"] } : FObj).kind baseRegistry = .number := by decide +kernel
end examples

end PV.C04
