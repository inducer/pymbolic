import PV.Proofs.RewriteTableEntry
import PV.Generated.Rewrite
import PV.Properties.C11
/-
  C11, T-gen — the rewriting mappers against the table regenerated from the source.

  `extract/rewrite.py` re-reads, on every run, the LIVE source of `FlattenMapper`,
  `ConstantFoldingMapperBase.{fold,is_constant,evaluate,map_sum}`,
  `CommutativeConstantFoldingMapperBase.map_product`, the two folder classes (MRO, the CSE mix-in,
  `map_common_subexpression_uncached = IdentityMapper.map_common_subexpression`),
  `TermCollector.{__init__,get_dependencies,split_term,map_sum}`,
  `DistributeMapper.{__init__,collect,map_sum,map_product (with the nested dist),map_quotient,
  map_power}`, `flatten`, `distribute` (with its defaults) and which functions `pymbolic.flatten`,
  `pymbolic.expand`, `pymbolic.distribute` are, and writes them STATEMENT BY STATEMENT in the
  table language of PV/Model/RewriteTable.lean into PV/Generated/Rewrite.lean.

  Here: (1) `*_table_current` — the regenerated table is, literally, the table the proofs of
  PV/Proofs/RewriteTable*.lean are about (`rfl`; any edit of the source that changes a
  statement, an operand order, a branch, a default or an alias changes the generated text and
  breaks these); (2) `*_eq_table_current` — for ALL inputs (every expression, every fuel, every
  parameter set / configuration) the hand-written models `flattenM`, `foldM`, `collectM`,
  `splitTerm`, `distLoop`, `distM` ARE the table interpreter run on the regenerated table, the
  inherited handlers going through the regenerated C04 rows of `IdentityMapper`; (3) the property
  theorems of C11.lean restated about the table-driven functions, i.e. about what the current
  source says.  Witnesses (`*_table_cex`): tables read from edited sources, interpreted, differ from
  the model on concrete inputs — the interpreter is sensitive to exactly the edits named there.
-/
namespace PV.C11
open PV
open PV.Generated (c04Classes c04IdentityTable)
universe u

/-! ### (1) the regenerated table is the one the proofs are about -/

/-- `FlattenMapper` -/
theorem flatten_table_current : PV.Generated.c11Class_flatten = PV.C11Expected.c11Class_flatten := rfl

/-- `ConstantFoldingMapperBase.fold / is_constant / evaluate / map_sum` and the class
`ConstantFoldingMapper` (MRO, CSE mix-in, `_uncached` alias) -/
theorem plain_folder_table_current :
    PV.Generated.c11Class_plainFolder = PV.C11Expected.c11Class_plainFolder := rfl

/-- … and `CommutativeConstantFoldingMapper` with `map_product` -/
theorem comm_folder_table_current :
    PV.Generated.c11Class_commFolder = PV.C11Expected.c11Class_commFolder := rfl

/-- `TermCollector.__init__ / get_dependencies / split_term / map_sum` -/
theorem collector_table_current :
    PV.Generated.c11Class_collector = PV.C11Expected.c11Class_collector := rfl

/-- `DistributeMapper.__init__ / collect / map_sum / map_product (dist) / map_quotient / map_power` -/
theorem distributor_table_current :
    PV.Generated.c11Class_distributor = PV.C11Expected.c11Class_distributor := rfl

/-- `flatten`, `distribute` with the defaults `parameters=None`, `commutative=True`, and
`pymbolic.flatten` / `pymbolic.expand` / `pymbolic.distribute` being these functions -/
theorem entry_table_current :
    PV.Generated.c11Table.entries = PV.C11Expected.c11Table.entries ∧
    PV.Generated.c11Table.aliases = PV.C11Expected.c11Table.aliases := ⟨rfl, rfl⟩

/-- the whole table -/
theorem rewrite_table_current : PV.Generated.c11Table = PV.C11Expected.c11Table := rfl

/-- every mapper class dispatches with `Mapper.__call__` (no own `rec` / `__call__`) -/
theorem rec_is_dispatch_current :
    PV.Generated.c11Table.flatten.recIsDispatch = true ∧
    PV.Generated.c11Table.plainFolder.recIsDispatch = true ∧
    PV.Generated.c11Table.commFolder.recIsDispatch = true ∧
    PV.Generated.c11Table.collector.recIsDispatch = true ∧
    PV.Generated.c11Table.distributor.recIsDispatch = true := ⟨rfl, rfl, rfl, rfl, rfl⟩

/-! ### (2) the hand-written models ARE the table interpreter on the regenerated table -/

/-- **Inherited handlers.**  A handler none of the classes overrides is the regenerated C04 row of
`IdentityMapper` (read by `extract/traversal.py`), and that row, run with any `self.rec`, is
`idMap`: children in source order, constructor arguments in source order, the zero-collapse of
`map_common_subexpression`. -/
theorem inherited_eq_table_current (rec : Expr → RwR) (e : Expr) (n : String)
    (h : c11Dispatch c04Classes c04IdentityTable e = .ok n) :
    c11IdentRow c04IdentityTable n rec e = idMap rec e :=
  c11_inherited rec e n h

/-- **`FlattenMapper` / `pymbolic.flatten`**: for every expression and fuel. -/
theorem flatten_eq_table_current (fuel : Nat) (e : Expr) :
    c11RunPublic c04Classes c04IdentityTable PV.Generated.c11Table "flatten" [.expr e] fuel
      = flattenM fuel e ∧
    c11RunClass c04Classes c04IdentityTable PV.Generated.c11Table .flattenMapper [] e fuel
      = flattenM fuel e := by
  rw [rewrite_table_current]
  exact ⟨c11RunPublic_flatten e fuel, c11RunClass_flatten e fuel⟩

/-- **`ConstantFoldingMapper()(e)` / `CommutativeConstantFoldingMapper()(e)`** -/
theorem fold_eq_table_current (comm : Bool) (fuel : Nat) (e : Expr) :
    c11RunClass c04Classes c04IdentityTable PV.Generated.c11Table
      (if comm then .commFolder else .plainFolder) [] e fuel = foldM comm fuel e := by
  rw [rewrite_table_current]; exact c11RunClass_folder comm e fuel

/- The method-level theorems below (`fold_loop`, `split_term`, `dist`, `map_power`) are stated about
the regenerated functions `PV.Generated.c11_…` and proved by lemmas about `PV.C11Expected.c11_…` with
no rewriting: both names unfold to the same literal (`*_table_current`). -/

/-- **`ConstantFoldingMapperBase.fold`** on its own: the `while queue:` loop (pop from the front,
children of a nested node of the folded class pushed to the FRONT, `is_constant` then `evaluate`,
`None` = not evaluable), `reduce(op, constants)` and `constructor((constant, *nonconstants))` — for
any `self.rec`, both operand classes. -/
theorem fold_loop_eq_table_current (ctx : C11Ctx) (h : C11FoldCtx ctx) (fuel : Nat) (isProd : Bool)
    (o : NaryOp) (cs : List Expr) :
    c11ToRw (c11RunFn ctx fuel PV.Generated.c11_ConstantFoldingMapperBase_fold
      [.expr (.nary o cs), c11FoldKlass isProd, .glob (c11FoldOp isProd), .glob (c11FoldCtor isProd)])
    = (do let (consts, non) ← foldLoop ctx.recur isProd fuel cs [] []
          foldFinish isProd consts non) :=
  c11_fold ctx h fuel isProd o cs

/-- **`TermCollector(parameters)(e)`** for every parameter set. -/
theorem collect_eq_table_current (params : List Expr) (fuel : Nat) (e : Expr) :
    c11RunClass c04Classes c04IdentityTable PV.Generated.c11Table .termCollector
      [.set (params.map .expr)] e fuel = collectM params fuel e := by
  rw [rewrite_table_current]; exact c11RunClass_collector params e fuel

/-- **`TermCollector.split_term`** on its own, for any `self.rec`: `base` / `exponent`, the
`isinstance` chain, `base2exp[mybase] += myexp` (the exponent of a repeated factor is ADDED), the
coefficient test `get_dependencies(term) <= self.parameters`, the frozenset of pairs. -/
theorem split_term_eq_table_current (ctx : C11Ctx) (params : List Expr) (h : C11CollCtx ctx params)
    (fuel : Nat) (t : Expr) :
    c11RunFn ctx fuel PV.Generated.c11_TermCollector_split_term [.expr t] =
      c11SplitResult (splitTerm ctx.recur params t) :=
  c11_split_term ctx params h fuel t

/-- **the nested function `dist` of `DistributeMapper.map_product`** is `distLoop`, for any
`self.collect`: `flattened_product(leading)` multiplies from the LEFT onto `dist(sumchild*rest)`. -/
theorem dist_eq_table_current (ctx : C11Ctx) (collect : Expr → RwR)
    (h : ∀ e, ctx.callSelf "collect" [.expr e] = c11LiftE (collect e)) (fuel : Nat) (p : Expr) :
    c11CallLocal ctx PV.Generated.c11_DistributeMapper_map_product.defs fuel "dist" [.expr p] =
      c11LiftE (distLoop collect fuel p) :=
  c11_dist_call ctx collect h fuel p

/-- **`DistributeMapper.map_power`**, for any `self.rec` / `self.map_product`: a product base that
stays a product gets the exponent on every factor; otherwise only an `int` exponent `> 0` over a
base that maps to a Sum is multiplied out; everything else is `IdentityMapper.map_power`. -/
theorem map_power_eq_table_current (ctx : C11Ctx) (collect : Expr → RwR) (hc : C11DistCtx ctx collect)
    (mapProduct : Expr → RwR)
    (hmp : ∀ e, ctx.callSelf "map_product" [.expr e] = c11LiftE (mapProduct e))
    (fuel : Nat) (base ex : Expr) :
    c11ToRw (c11RunFn ctx fuel PV.Generated.c11_DistributeMapper_map_power [.expr (.bin .pow base ex)])
      = c11PowStep ctx.recur mapProduct base ex :=
  c11_dist_map_power ctx collect hc mapProduct hmp fuel base ex

/-- **`pymbolic.expand(e[, parameters[, commutative]])` / `pymbolic.distribute(…)`**, end to end:
defaults filled in from the regenerated signature, `TermCollector(parameters)` or `lambda x: x`,
`DistributeMapper.__init__` with its defaults, then the mapper — is `distM` with the configuration
the arguments stand for, for every expression and fuel. -/
theorem expand_eq_table_current (name : String) (hn : name = "expand" ∨ name = "distribute")
    (e : Expr) (parameters : Option (List Expr)) (commutative : Option Bool) (fuel : Nat) :
    c11RunPublic c04Classes c04IdentityTable PV.Generated.c11Table name
      (c11DistributeArgs e parameters commutative) fuel
      = distM (c11DistributeCfg parameters commutative) fuel e := by
  rw [rewrite_table_current]; exact c11RunPublic_distribute name hn e parameters commutative fuel

/-- the defaults of the current source: `expand(e)` is commutative with no parameters -/
theorem expand_defaults_current (e : Expr) (fuel : Nat) :
    c11RunPublic c04Classes c04IdentityTable PV.Generated.c11Table "expand" [.expr e] fuel
      = distM {} fuel e :=
  expand_eq_table_current "expand" (Or.inl rfl) e none none fuel

/-! ### (3) the property theorems, about what the current source says -/

variable {K : Type u} [Field K] [DecidableEq K]

/-- flattening (the regenerated `flatten`) preserves the value … -/
theorem flatten_value_current (ρ : String → K) (fuel : Nat) (e e' : Expr) (v : K)
    (h : c11RunPublic c04Classes c04IdentityTable PV.Generated.c11Table "flatten" [.expr e] fuel
      = .ok e') (hv : evalK ρ e = some v) : evalK ρ e' = some v := by
  rw [(flatten_eq_table_current fuel e).1] at h
  exact flatten_value ρ fuel e e' v h hv

/-- … and reaches its normal form -/
theorem flatten_nf_current (fuel : Nat) (e e' : Expr)
    (h : c11RunPublic c04Classes c04IdentityTable PV.Generated.c11Table "flatten" [.expr e] fuel
      = .ok e') : e'.flatNF = true := by
  rw [(flatten_eq_table_current fuel e).1] at h
  exact flatten_nf fuel e e' h

/-- both regenerated constant folders preserve the value … -/
theorem fold_value_current (ρ : String → K) (comm : Bool) (fuel : Nat) (e e' : Expr) (v : K)
    (h : c11RunClass c04Classes c04IdentityTable PV.Generated.c11Table
      (if comm then .commFolder else .plainFolder) [] e fuel = .ok e')
    (hv : evalK ρ e = some v) : evalK ρ e' = some v := by
  rw [fold_eq_table_current] at h
  exact fold_value ρ comm fuel e e' v h hv

/-- … and leave at most one constant operand in a folded sum -/
theorem fold_one_const_current (comm : Bool) (fuel : Nat) (cs ds : List Expr)
    (h : c11RunClass c04Classes c04IdentityTable PV.Generated.c11Table
      (if comm then .commFolder else .plainFolder) [] (.nary .sum cs) fuel = .ok (.nary .sum ds)) :
    ds.countP Expr.isConstant ≤ 1 := by
  rw [fold_eq_table_current] at h
  exact fold_one_const comm fuel cs ds h

/-- the regenerated `TermCollector` preserves the value, for every parameter set -/
theorem collect_value_current (ρ : String → K) (params : List Expr) (fuel : Nat) (e e' : Expr)
    (v : K)
    (h : c11RunClass c04Classes c04IdentityTable PV.Generated.c11Table .termCollector
      [.set (params.map .expr)] e fuel = .ok e')
    (hv : evalK ρ e = some v) : evalK ρ e' = some v := by
  rw [collect_eq_table_current] at h
  exact collect_value ρ params fuel e e' v h hv

/-- the regenerated `expand` / `distribute` preserve the value, for every argument combination -/
theorem distribute_value_current (ρ : String → K) (name : String)
    (hn : name = "expand" ∨ name = "distribute") (parameters : Option (List Expr))
    (commutative : Option Bool) (fuel : Nat) (e e' : Expr) (v : K)
    (h : c11RunPublic c04Classes c04IdentityTable PV.Generated.c11Table name
      (c11DistributeArgs e parameters commutative) fuel = .ok e')
    (hv : evalK ρ e = some v) : evalK ρ e' = some v := by
  rw [expand_eq_table_current name hn] at h
  exact distribute_value ρ _ fuel e e' v h hv

/-! ### examples: the interpreter run on the regenerated table -/

private def x : Expr := .var "x"
private def y : Expr := .var "y"
private def i (n : Int) : Expr := .const (.int n)
private def S (l : List Expr) : Expr := .nary .sum l
private def P (l : List Expr) : Expr := .nary .prod l
private def pw (a : Expr) (n : Int) : Expr := .bin .pow a (i n)

example : c11RunPublic c04Classes c04IdentityTable PV.Generated.c11Table "expand"
    [.expr (pw (S [x, i 1]) 2)] 30 = .ok (S [i 1, P [i 2, x], pw x 2]) := by
  rw [expand_defaults_current]; rfl
example : c11RunPublic c04Classes c04IdentityTable PV.Generated.c11Table "flatten"
    [.expr (S [x, S [i 0, y]])] 10 = .ok (S [x, y]) := by
  rw [(flatten_eq_table_current _ _).1]; rfl
example : c11RunClass c04Classes c04IdentityTable PV.Generated.c11Table .commFolder [] 
    (P [x, i 2, P [i 3, y]]) 10 = .ok (P [i 6, x, y]) :=
  (fold_eq_table_current true 10 _).trans rfl
example : c11RunClass c04Classes c04IdentityTable PV.Generated.c11Table .termCollector
    [.set ([].map .expr)] (S [P [i 2, x, y], P [y, x]]) 10 = .ok (P [i 3, x, y]) := by
  rw [collect_eq_table_current]; rfl

/-- the hypotheses of the method-level theorems are what the class-level runs supply: e.g. inside a
folder instance `self.is_constant` / `self.evaluate` are the two table functions … -/
example (S : C11Self) (h : C11IsFolder S.cls) (fuel : Nat) : C11FoldCtx (c11CtxOf S fuel 2) :=
  c11_folder_ctx S h fuel
/-- … inside a `TermCollector(parameters)` `self.get_dependencies` / `self.parameters` are … -/
example (S : C11Self) (h : S.cls = PV.C11Expected.c11Class_collector) (ps : List Expr)
    (hp : S.selfAttrs = [("parameters", .set (ps.map .expr))]) (fuel : Nat) :
    C11CollCtx (c11CtxOf S fuel 2) ps :=
  c11_collector_ctx S h ps hp fuel
/-- … and inside a `DistributeMapper` `IdentityMapper.map_x(self, e)` and `self.collect` are. -/
example (S : C11Self) (cfg : DistCfg) (fuel : Nat) (h : C11IsDist S cfg fuel) :
    C11DistCtx (c11CtxOf S fuel 3) (distCollect cfg fuel) :=
  c11_distributor_ctx S cfg fuel h 2
example : c11SplitResult (splitTerm (collectM [] 5) [] (P [x, y, pw x 2, i 3])) =
    .ok (.list [.set (c11B2E [(x, i 3), (y, i 1)]), .expr (i 3)]) := rfl

/-! ### witnesses: tables read from EDITED sources

Each `c11Mut_*` below is what `extract/rewrite.py` writes for the named function after the named
one-line edit of the source; the rest of the table is unchanged.  Interpreted, these tables differ
from the model on a concrete input — so the `*_table_current` / `*_eq_table_current` theorems cannot
survive these edits — and agree there with the edited code. -/

/-- `split_term` after `base2exp[mybase] += myexp` ↦ `base2exp[mybase] = myexp` -/
def c11Mut_split_term : C11Fn :=
  { name := "split_term", definedIn := "pymbolic.mapper.collector.TermCollector.split_term",
    params := ["mul_term"], defaults := [],
    locals := ["base", "exponent", "terms", "base2exp", "term", "mybase", "myexp", "coefficients", "cleaned_base2exp", "exp"],
    defs := [
      { name := "base", params := ["term"], locals := [], recursive := false,
        body := [
          .ifThen (.call (.glob .pyIsinstance) [(.var "term"), (.glob .clsPower)]) [
            .ret (.attr (.var "term") "base")]
            [
            .ret (.var "term")]] },
      { name := "exponent", params := ["term"], locals := [], recursive := false,
        body := [
          .ifThen (.call (.glob .pyIsinstance) [(.var "term"), (.glob .clsPower)]) [
            .ret (.attr (.var "term") "exponent")]
            [
            .ret (.int 1)]] }],
    body := [
      .defFn "base",
      .defFn "exponent",
      .ifThen (.call (.glob .pyIsinstance) [(.var "mul_term"), (.glob .clsProduct)]) [
        .assign "terms" (.attr (.var "mul_term") "children")]
        [
        .ifThen (.call (.glob .pyIsinstance) [(.var "mul_term"), (.seq [(.glob .clsPower), (.glob .clsAlgebraicLeaf)])]) [
          .assign "terms" (.seq [(.var "mul_term")])]
          [
          .ifThen (.not (.call (.glob .pyBool) [(.selfCall "get_dependencies" [(.var "mul_term")])])) [
            .assign "terms" (.seq [(.var "mul_term")])]
            [
            .raise .runtimeError]]],
      .assign "base2exp" .emptyDict,
      .for ["term"] (.var "terms") [
        .assign "mybase" (.call (.var "base") [(.var "term")]),
        .assign "myexp" (.call (.var "exponent") [(.var "term")]),
        .ifThen (.cmp .isIn (.var "mybase") (.var "base2exp")) [
          .setItem "base2exp" (.var "mybase") (.var "myexp")]
          [
          .setItem "base2exp" (.var "mybase") (.var "myexp")]],
      .assign "coefficients" (.seq []),
      .assign "cleaned_base2exp" .emptyDict,
      .for ["base", "exp"] (.method (.var "base2exp") "items" []) [
        .assign "term" (.bin .pow (.var "base") (.var "exp")),
        .ifThen (.cmp .le (.selfCall "get_dependencies" [(.var "term")]) (.selfAttr "parameters")) [
          .append "coefficients" (.var "term")]
          [
          .setItem "cleaned_base2exp" (.var "base") (.var "exp")]],
      .assign "term" (.call (.glob .pyFrozenset) [(.comp (.seq [(.var "base"), (.var "exp")]) ["base", "exp"] (.method (.var "cleaned_base2exp") "items" []))]),
      .ret (.seq [(.var "term"), (.selfCall "rec" [(.call (.glob .flattenedProduct) [(.var "coefficients")])])])] }

/-- `fold` after inserting `if not constant and nonconstants: return constructor(tuple(nonconstants))` -/
def c11Mut_fold : C11Fn :=
  { name := "fold", definedIn := "pymbolic.mapper.constant_folder.ConstantFoldingMapperBase.fold",
    params := ["expr", "klass", "op", "constructor"], defaults := [],
    locals := ["constants", "nonconstants", "queue", "queue.pop(0)", "child", "value", "constant"],
    defs := [],
    body := [
      .assign "constants" (.seq []),
      .assign "nonconstants" (.seq []),
      .assign "queue" (.call (.glob .pyList) [(.attr (.var "expr") "children")]),
      .while (.var "queue") [
        .popFront "queue.pop(0)" "queue",
        .assign "child" (.selfCall "rec" [(.var "queue.pop(0)")]),
        .ifThen (.call (.glob .pyIsinstance) [(.var "child"), (.var "klass")]) [
          .assign "queue" (.bin .add (.call (.glob .pyList) [(.attr (.var "child") "children")]) (.var "queue"))]
          [
          .ifThen (.selfCall "is_constant" [(.var "child")]) [
            .assign "value" (.selfCall "evaluate" [(.var "child")]),
            .ifThen (.cmp .is (.var "value") .pyNone) [
              .append "nonconstants" (.var "child")]
              [
              .append "constants" (.var "value")]]
            [
            .append "nonconstants" (.var "child")]]],
      .ifThen (.var "constants") [
        .assign "constant" (.call (.glob .reduce) [(.var "op"), (.var "constants")]),
        .ifThen (.and (.not (.var "constant")) (.var "nonconstants")) [
          .ret (.call (.var "constructor") [(.call (.glob .pyTuple) [(.var "nonconstants")])])]
          [],
        .ret (.call (.var "constructor") [(.seq [(.var "constant"), (.star (.var "nonconstants"))])])]
        [
        .ret (.call (.var "constructor") [(.call (.glob .pyTuple) [(.var "nonconstants")])])]] }

/-- `map_product` after `flattened_product(leading) * dist(sumchild*rest)` ↦
`dist(sumchild*rest) * flattened_product(leading)` -/
def c11Mut_map_product : C11Fn :=
  { name := "map_product", definedIn := "pymbolic.mapper.distributor.DistributeMapper.map_product",
    params := ["expr"], defaults := [],
    locals := ["dist"],
    defs := [
      { name := "dist", params := ["prod"], locals := ["leading", "i", "result", "sum", "rest"], recursive := true,
        body := [
          .ifThen (.not (.call (.glob .pyIsinstance) [(.var "prod"), (.glob .clsProduct)])) [
            .ret (.var "prod")]
            [],
          .assign "leading" (.seq []),
          .for ["i"] (.attr (.var "prod") "children") [
            .ifThen (.call (.glob .pyIsinstance) [(.var "i"), (.glob .clsSum)]) [
              .brk]
              [
              .append "leading" (.var "i")]],
          .ifThen (.cmp .eq (.call (.glob .pyLen) [(.var "leading")]) (.call (.glob .pyLen) [(.attr (.var "prod") "children")])) [
            .assign "result" (.call (.glob .flattenedProduct) [(.attr (.var "prod") "children")]),
            .ret (.var "result")]
            [
            .assign "sum" (.index (.attr (.var "prod") "children") (.call (.glob .pyLen) [(.var "leading")])),
            .assertS (.call (.glob .pyIsinstance) [(.var "sum"), (.glob .clsSum)]),
            .assign "rest" (.sliceFrom (.attr (.var "prod") "children") (.bin .add (.call (.glob .pyLen) [(.var "leading")]) (.int 1))),
            .ifThen (.var "rest") [
              .assign "rest" (.call (.var "dist") [(.call (.glob .clsProduct) [(.var "rest")])])]
              [
              .assign "rest" (.int 1)],
            .assign "result" (.selfCall "collect" [(.call (.glob .flattenedSum) [(.comp (.bin .mul (.call (.var "dist") [(.bin .mul (.var "sumchild") (.var "rest"))]) (.call (.glob .flattenedProduct) [(.var "leading")])) ["sumchild"] (.attr (.var "sum") "children"))])]),
            .ret (.var "result")]] }],
    body := [
      .defFn "dist",
      .ret (.call (.var "dist") [(.superCall .identityMapper "map_product" [(.var "expr")])])] }

/-- `distribute` after `commutative=True` ↦ `commutative=False` -/
def c11Mut_distribute : C11Fn :=
  { name := "distribute", definedIn := "pymbolic.mapper.distributor.distribute",
    params := ["expr", "parameters", "commutative"], defaults := [("parameters", .pyNone), ("commutative", (.pyBool false))],
    locals := [],
    defs := [],
    body := [
      .ifThen (.cmp .is (.var "parameters") .pyNone) [
        .assign "parameters" (.call (.glob .pyFrozenset) [])]
        [],
      .ifThen (.var "commutative") [
        .ret (.call (.call (.glob .distributeMapper) [(.call (.glob .termCollector) [(.var "parameters")])]) [(.var "expr")])]
        [
        .ret (.call (.call (.glob .distributeMapper) [.lambdaId]) [(.var "expr")])]] }

/-- replace the function behind one attribute of a class -/
def c11MutClass (C : C11Class) (name : String) (fn : C11Fn) : C11Class :=
  { C with methods := C.methods.map fun m => if m.name == name then { m with h := .own fn } else m }

/-- the four witnesses below stand in one declaration because the kernel decodes a string literal of
the tables once per declaration -/
theorem table_cex_all :
    (c11RunClass c04Classes c04IdentityTable
      { PV.C11Expected.c11Table with
        collector := c11MutClass PV.C11Expected.c11Class_collector "split_term" c11Mut_split_term }
      .termCollector [.set []] (S [P [x, x]]) 20 = .ok x ∧
    collectM [] 20 (S [P [x, x]]) = .ok (pw x 2)) ∧
    (c11RunClass c04Classes c04IdentityTable
      { PV.C11Expected.c11Table with
        commFolder := c11MutClass PV.C11Expected.c11Class_commFolder "fold" c11Mut_fold }
      .commFolder [] (P [i 0, x]) 20 = .ok x ∧
    foldM true 20 (P [i 0, x]) = .ok (i 0)) ∧
    (c11RunPublic c04Classes c04IdentityTable
      { PV.C11Expected.c11Table with
        distributor := c11MutClass PV.C11Expected.c11Class_distributor "map_product"
          c11Mut_map_product }
      "distribute" [.expr (P [x, S [y, i 1]]), .none, .bool false] 20 = .ok (S [x, P [y, x]]) ∧
    distM { collector := none } 20 (P [x, S [y, i 1]]) = .ok (S [x, P [x, y]])) ∧
    (c11RunPublic c04Classes c04IdentityTable
      { PV.C11Expected.c11Table with entries := [PV.C11Expected.c11_entry_flatten, c11Mut_distribute] }
      "expand" [.expr (S [x, x])] 20 = .ok (S [x, x]) ∧
    distM {} 20 (S [x, x]) = .ok (P [i 2, x])) := by
  decide +kernel

/-- **split_term forgetting an exponent**: `TermCollector()(x*x)` of the edited table is `x`,
of the model `x**2`. -/
theorem split_term_forgets_exponent_table_cex :
    c11RunClass c04Classes c04IdentityTable
      { PV.C11Expected.c11Table with
        collector := c11MutClass PV.C11Expected.c11Class_collector "split_term" c11Mut_split_term }
      .termCollector [.set []] (S [P [x, x]]) 20 = .ok x ∧
    collectM [] 20 (S [P [x, x]]) = .ok (pw x 2) :=
  table_cex_all.1

/-- **the folder dropping a falsy constant of a product**: `0*x` folds to `x` with the edited
table, to `0` in the model. -/
theorem fold_drops_falsy_constant_table_cex :
    c11RunClass c04Classes c04IdentityTable
      { PV.C11Expected.c11Table with
        commFolder := c11MutClass PV.C11Expected.c11Class_commFolder "fold" c11Mut_fold }
      .commFolder [] (P [i 0, x]) 20 = .ok x ∧
    foldM true 20 (P [i 0, x]) = .ok (i 0) :=
  table_cex_all.2.1

/-- **`dist` multiplying on the wrong side**: `distribute(x*(y+1), commutative=False)` of the edited
table ends in `y*x`, of the model in `x*y`. -/
theorem dist_wrong_side_table_cex :
    c11RunPublic c04Classes c04IdentityTable
      { PV.C11Expected.c11Table with
        distributor := c11MutClass PV.C11Expected.c11Class_distributor "map_product"
          c11Mut_map_product }
      "distribute" [.expr (P [x, S [y, i 1]]), .none, .bool false] 20 = .ok (S [x, P [y, x]]) ∧
    distM { collector := none } 20 (P [x, S [y, i 1]]) = .ok (S [x, P [x, y]]) :=
  table_cex_all.2.2.1

/-- **a changed default of `expand`**: with `commutative=False` as the default `expand(x + x)`
stays `x + x`; the model (and the current source) collect it to `2*x`. -/
theorem expand_default_table_cex :
    c11RunPublic c04Classes c04IdentityTable
      { PV.C11Expected.c11Table with entries := [PV.C11Expected.c11_entry_flatten, c11Mut_distribute] }
      "expand" [.expr (S [x, x])] 20 = .ok (S [x, x]) ∧
    distM {} 20 (S [x, x]) = .ok (P [i 2, x]) :=
  table_cex_all.2.2.2

end PV.C11
