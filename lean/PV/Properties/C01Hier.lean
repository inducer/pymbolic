import PV.Properties.C01
/-
  C01 — legacy classes several levels below a decorated class.

  The generated `__eq__` / `__hash__` of a decorated class `D` also answer for every undecorated
  class below `D`, at any depth: an undecorated class whose init args are `D`'s fields takes the
  dataclass path, one that brings other init args (`init_arg_names` / `__getinitargs__`) takes the
  legacy path (`is_equal` / `get_hash` over the init args).  In the model this decision is a function
  of the class's OWN table row (`kind`, `fields`); no row of an ancestor between the class and `D`
  (e.g. an undecorated alias that adds nothing) takes part, and there is no per-class state.  The
  theorems below state that for every `Ok` table and pin it down on the regenerated table for the
  harness's three-level shape `MAliasTag(MAlias(DMid))` — the shape of a user class with an extra
  init arg below the library's own undecorated `MultiVectorVariable(Variable)`.  The run-time side
  (the order in which the classes of a hierarchy are first hashed / compared) is the oracle-only
  stream `class-hierarchies` of harness/props/c01.py.
-/
namespace PV.C01
open PV PV.Pickle PV.EqHash

/-- **legacy_sub_eq_iff_init_args.**  Two instances of one legacy subclass (other init args than
its decorated ancestor's fields): the generated `__eq__` answers True exactly when the init args
are pairwise `==`.  The statement mentions no class between `c` and its decorated ancestor: in
the model only the row of `c` itself takes part (see the head of this file), so this is
`eq_iff_structural_inst` at the kind `legacySub`. -/
theorem legacy_sub_eq_iff_init_args {tbl : ClassTable} (ok : tbl.Ok = true) {P : HashParams}
    (hP : P.Ok) (c : String) (fs fs' : List Obj) (h h' : Option Nat)
    (wa : (Obj.inst c .legacySub fs h).wf = true) (wb : (Obj.inst c .legacySub fs' h').wf = true)
    (ca : conforms tbl (.inst c .legacySub fs h) = true)
    (cb : conforms tbl (.inst c .legacySub fs' h') = true) :
    eqGen tbl P (.inst c .legacySub fs h) (.inst c .legacySub fs' h') = true ↔
      fs.length = fs'.length ∧ ∀ p ∈ fs.zip fs', p.1.pyEq p.2 = true := by
  rw [eq_iff_structural_inst ok hP c c .legacySub .legacySub fs fs' h h' wa wb ca cb]
  simp

/-- non-vacuity: the hypotheses hold for the legacy subclass of the example table, and the answer
really follows the extra init arg -/
example :
    let t1 : Obj := .inst "Tagged" .legacySub [strAtom "v", .atom (.int 1)] none
    let t2 : Obj := .inst "Tagged" .legacySub [strAtom "v", .atom (.int 2)] none
    t1.wf = true ∧ t2.wf = true ∧ conforms exTbl t1 = true ∧ conforms exTbl t2 = true ∧
    eqGen exTbl (C17.exP 0) t1 t2 = false ∧ eqGen exTbl (C17.exP 0) t1 t1 = true := by decide +kernel

/-- **legacy_sub_eq_hash.**  … and then the two hash alike, whichever of them is hashed first. -/
theorem legacy_sub_eq_hash {tbl : ClassTable} (ok : tbl.Ok = true) {P : HashParams}
    (hP : P.Ok) (c : String) (fs fs' : List Obj) (h h' : Option Nat)
    (wa : (Obj.inst c .legacySub fs h).wf = true) (wb : (Obj.inst c .legacySub fs' h').wf = true)
    (ca : conforms tbl (.inst c .legacySub fs h) = true)
    (cb : conforms tbl (.inst c .legacySub fs' h') = true)
    (he : eqGen tbl P (.inst c .legacySub fs h) (.inst c .legacySub fs' h') = true) :
    hashGen tbl P (.inst c .legacySub fs h) = hashGen tbl P (.inst c .legacySub fs' h') :=
  eq_hash ok hP _ _ wa wb ca cb he

/-- **three_level_legacy_current.**  On the table regenerated from the working tree, for the
harness classes `DMid` (decorated) ← `MAlias` (undecorated, no init arg of its own) ← `MAliasTag`
(undecorated, init args `u, v, t`): the alias is a dataclass-path row with `DMid`'s fields, the
class below it is a legacy-path row of the SAME decorated base with its own three init args;
instances that differ only in the third-level init arg `t` are unequal, equal ones are equal and
hash alike, an alias instance with the same leading fields is a different node. -/
theorem three_level_legacy_current :
    let P := C17.exP 0
    let x : Obj := .inst "Variable" .dataclass [strAtom "x"] none
    let t1 : Obj := .inst "MAliasTag" .legacySub [x, x, .atom (.int 1)] none
    let t1' : Obj := .inst "MAliasTag" .legacySub [x, x, .atom (.flt "1.0" 1 1)] none
    let t2 : Obj := .inst "MAliasTag" .legacySub [x, x, .atom (.int 2)] none
    let a : Obj := .inst "MAlias" .dataclass [x, x] none
    (Generated.classes.find? "MAlias").map (fun i => (i.kind, i.base, i.fields))
        = some (.sub, "DMid", ["u", "v"]) ∧
    (Generated.classes.find? "MAliasTag").map (fun i => (i.kind, i.base, i.fields))
        = some (.sub, "DMid", ["u", "v", "t"]) ∧
    conforms Generated.classes t1 = true ∧ conforms Generated.classes a = true ∧
    eqGen Generated.classes P t1 t1' = true ∧ hashGen Generated.classes P t1 = hashGen Generated.classes P t1' ∧
    eqGen Generated.classes P t1 t2 = false ∧ eqGen Generated.classes P t2 t1 = false ∧
    eqGen Generated.classes P a t1 = false ∧ eqGen Generated.classes P t1 a = false := by decide +kernel

end PV.C01
