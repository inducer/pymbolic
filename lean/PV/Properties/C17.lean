import PV.Proofs.Pickle
import PV.Proofs.PickleDigest
import PV.Proofs.PersistentHashInj
import PV.Proofs.SyntaxBEq
import PV.Generated.Traversal
import PV.Generated.PersistentHash
/-
  C17 — pickles and persistent keys are stable across processes: property theorems.

  Model: lean/PV/Model/Pickle.lean.  An object (`Obj`) is a tree of builtin values and INSTANCES
  (class name, kind of class, field values, `_hash_value` slot); every instance at every depth has
  its own slot.  A process is a `HashParams` (`str` is the seed-dependent part).  `hashC`, `eqC`,
  `memberC`, `pickle`, `unpickle` follow the generated `__hash__`, `__eq__`, `__getstate__`,
  `__setstate__` (and `Expression.__eq__/__hash__/__getstate__/__setstate__` for legacy classes);
  `run`/`crossRun` are histories of these operations in a producer process followed by a consumer
  process.  The agreement of all of this with the real code — results and which slots are set
  after every operation, in real interpreter processes with different PYTHONHASHSEED / -O, pickle
  protocols 0–5, stock, user and legacy classes — is checked by harness/props/c17.py on every run.

  Hypotheses used below and why:
    `P.Ok`           the process hashes numbers by value and mappings independently of order
                     (true of CPython; needed so that `==` objects have equal hashes);
    `o.wf`           no float nan inside (nan != nan, so such an expression is not == to its own
                     copy), keyword names duplicate-free (always true of a dict);
    `l.coherent P`   the locally built object may itself have been hashed already — in ITS process.
  No hypothesis relates the producer's hash parameters to the consumer's.

  Persistent-hash digest (sections 6–8): `digest` (PV/Model/Pickle.lean) is the list of byte strings
  `PersistentHashWalkMapper` feeds to its hash object.  Section 7 proves it equal, for all
  expressions, to the interpreter `c17DigestT` of the class body re-read from the source on every
  run (lean/PV/Generated/PersistentHash.lean) on top of the regenerated `WalkMapper` rows.
  Section 8 states what the feed determines: hypotheses `c17Sep ar a` (every variadic node has the
  number of children the rank discipline `ar` gives its class; variable names read as names,
  float reprs as floats — PV/Model/PersistentHashSep.lean) and, for the concatenated bytes, a
  self-delimiting piece encoding; conclusion up to the never-fed fields (`c17Erase`).
-/
namespace PV.C17
open PV PV.Pickle

/-! ### hash parameters exist, are seed dependent, and satisfy `Ok` (non-vacuity of what follows) -/

/-- a small process: strings hash differently for different seeds, numbers by value -/
def exP (seed : Nat) : HashParams where
  num := fun _ _ => 0
  str := fun s => seed + s.length
  none := 0
  tuple := fun _ hs => hs.sum + 1
  mapping := fun l => l.length

theorem exP_ok (seed : Nat) : (exP seed).Ok :=
  ⟨fun _ _ _ _ _ _ _ => rfl, fun _ _ h => h.length_eq⟩

example : (exP 0).str "x" ≠ (exP 1).str "x" := by decide +kernel

/-- `Variable("x")`, freshly built -/
def varX : Obj := .inst "Variable" .dataclass [strAtom "x"] none

/-! ### 1. The pickle never contains the cached hash -/

/-- **pickle_drops_cache.**  Two object graphs with the same fields have the same pickle, whatever
`_hash_value` slots are set, anywhere in the graph, to whatever values: the pickle is a function of
the fields alone (the generated `__getstate__` returns the field tuple only, at every level). -/
theorem pickle_drops_cache (a b : Obj) (h : a.erase = b.erase) : a.pickle = b.pickle := by
  rw [← pickle_erase a, ← pickle_erase b, h]

/-- in particular: hashing (in any process) before pickling changes nothing in the pickle -/
theorem pickle_after_hash (P : HashParams) (o : Obj) (ho : o.coherent P) :
    (o.hashC P).2.pickle = o.pickle :=
  pickle_drops_cache _ _ (hashC_spec P o ho).2.2

/-- what is excluded: with default pickling (state = `__dict__`) the slot travels -/
example : (varX.hashC (exP 0)).2.pickleNaive.unpickleNaive.bits = [true] := by decide +kernel
example : (varX.hashC (exP 0)).2.pickle.unpickle.bits = [false] := by decide +kernel

/-- **unpickle_fresh.**  Whatever the bytes, an unpickled object has no slot set, at any depth
(the generated `__setstate__` sets the fields only). -/
theorem unpickle_fresh (p : Pk) : p.unpickle.noCache = true := unpickle_noCache p

/-- the round trip returns the fields: a new object equal to the cache-free original -/
theorem unpickle_pickle (o : Obj) : o.pickle.unpickle = o.erase := Pickle.unpickle_pickle o

/-! ### 2. The consumer computes ITS hash -/

/-- **unpickle_hash_local.**  `o` is an object in ANY state (slots filled by any producer process,
coherent or not); `l` is the object built from the same source in the consumer process `P₂`,
possibly hashed there already.  Then `hash` of the unpickled object in the consumer is the
consumer's structural hash of the fields, which is what `hash(l)` returns. -/
theorem unpickle_hash_local (P₂ : HashParams) (o l : Obj) (hl : l.coherent P₂)
    (hsrc : l.erase = o.erase) :
    (o.pickle.unpickle.hashC P₂).1 = o.erase.hash P₂ ∧
      (o.pickle.unpickle.hashC P₂).1 = (l.hashC P₂).1 := by
  have hu := hashC_spec P₂ o.pickle.unpickle (noCache_coherent P₂ _ (unpickle_fresh _))
  rw [Pickle.unpickle_pickle] at hu ⊢
  refine ⟨hu.1, ?_⟩
  rw [hu.1, (hashC_spec P₂ l hl).1, hash_erase]
  exact (hash_congr P₂ hsrc).symm

/-- the same with the producer explicit: built from source and hashed under `P₁`, pickled,
unpickled and hashed under `P₂`: the result is `P₂`'s hash, for all `P₁ P₂` -/
theorem hashed_then_pickled (P₁ P₂ : HashParams) (src : Obj) (hs : src.noCache = true) :
    ((src.hashC P₁).2.pickle.unpickle.hashC P₂).1 = src.hash P₂ := by
  have h1 := hashC_spec P₁ src (noCache_coherent P₁ src hs)
  have := (unpickle_hash_local P₂ (src.hashC P₁).2 src (noCache_coherent P₂ src hs) h1.2.2.symm).1
  rw [this, hash_erase]
  exact hash_congr P₂ h1.2.2

/-- … and it is the hash of ANY locally built object that is `==` to the original (keyword
arguments in another order, `1` for `1.0`, …) -/
theorem unpickle_hash_local_eq {P₂ : HashParams} (hP : P₂.Ok) (o l : Obj) (hl : l.coherent P₂)
    (wo : o.wf = true) (wl : l.wf = true) (heq : l.pyEq o = true) :
    (o.pickle.unpickle.hashC P₂).1 = (l.hashC P₂).1 := by
  have hu := hashC_spec P₂ o.pickle.unpickle (noCache_coherent P₂ _ (unpickle_fresh _))
  rw [hu.1, (hashC_spec P₂ l hl).1, Pickle.unpickle_pickle, hash_erase]
  exact (Obj.eq_hash hP l o wl wo heq).symm

/-- the stale-hash failure the mechanism prevents really is expressible in the model: with naive
pickling the consumer (`exP 1`) would return the producer's (`exP 0`) hash -/
example :
    ((varX.hashC (exP 0)).2.pickleNaive.unpickleNaive.hashC (exP 1)).1 ≠ varX.hash (exP 1) := by
  decide +kernel
example : ((varX.hashC (exP 0)).2.pickle.unpickle.hashC (exP 1)).1 = varX.hash (exP 1) := by
  decide +kernel

/-! ### 3. The unpickled object is `==` to the locally built one and finds it -/

/-- **unpickle_eq.**  In the consumer the unpickled object and the one built from the same source
compare equal, in both directions, through the generated `__eq__` (hash comparison included). -/
theorem unpickle_eq {P₂ : HashParams} (hP : P₂.Ok) (o l : Obj) (hl : l.coherent P₂)
    (wo : o.wf = true) (hsrc : l.erase = o.erase) :
    (eqC P₂ o.pickle.unpickle l).1 = true ∧ (eqC P₂ l o.pickle.unpickle).1 = true := by
  have hu := noCache_coherent P₂ _ (unpickle_fresh o.pickle)
  have wu : o.pickle.unpickle.wf = true := by rw [Pickle.unpickle_pickle, wf_erase]; exact wo
  have wl : l.wf = true := by rw [wf_congr hsrc]; exact wo
  have e1 := (eqC_spec hP _ l hu hl wu wl).ans
  have e2 := (eqC_spec hP l _ hl hu wl wu).ans
  rw [Pickle.unpickle_pickle] at e1 e2
  rw [Pickle.unpickle_pickle, e1, e2]
  exact ⟨by rw [pyEq_congr (erase_erase o) hsrc]; exact Obj.pyEq_refl o wo,
    by rw [pyEq_congr hsrc (erase_erase o)]; exact Obj.pyEq_refl o wo⟩

/-- a locally built object that is `==` to the original (not necessarily from the same source:
keyword arguments in another order, `1.0` for `1`, …) is `==` to the unpickled one, both ways -/
theorem unpickle_eq_of_pyEq {P₂ : HashParams} (hP : P₂.Ok) (o l : Obj) (hl : l.coherent P₂)
    (wo : o.wf = true) (wl : l.wf = true) (heq : l.pyEq o = true) :
    (eqC P₂ l o.pickle.unpickle).1 = true ∧ (eqC P₂ o.pickle.unpickle l).1 = true := by
  have hu := noCache_coherent P₂ _ (unpickle_fresh o.pickle)
  have wu : o.pickle.unpickle.wf = true := by rw [Pickle.unpickle_pickle, wf_erase]; exact wo
  rw [(eqC_spec hP l _ hl hu wl wu).ans, (eqC_spec hP _ l hu hl wu wl).ans,
    Pickle.unpickle_pickle, pyEq_erase_right, pyEq_erase_left]
  exact ⟨heq, Obj.pyEq_symm l o wl wo heq⟩

/-- … and each finds the other in sets and dicts -/
theorem unpickle_member_of_pyEq {P₂ : HashParams} (hP : P₂.Ok) (o l : Obj) (hl : l.coherent P₂)
    (wo : o.wf = true) (wl : l.wf = true) (heq : l.pyEq o = true) :
    (memberC P₂ o.pickle.unpickle l).1 = true ∧ (memberC P₂ l o.pickle.unpickle).1 = true := by
  have hu := noCache_coherent P₂ _ (unpickle_fresh o.pickle)
  have wu : o.pickle.unpickle.wf = true := by rw [Pickle.unpickle_pickle, wf_erase]; exact wo
  rw [(memberC_spec hP _ l hu hl wu wl).ans, (memberC_spec hP l _ hl hu wl wu).ans,
    Pickle.unpickle_pickle, pyEq_erase_right, pyEq_erase_left]
  exact ⟨heq, Obj.pyEq_symm l o wl wo heq⟩

/-- **unpickle_member.**  `unpickled in {local}` / `{local: 1}` and `local in {unpickled}` /
`{unpickled: 1}` are both true in the consumer. -/
theorem unpickle_member {P₂ : HashParams} (hP : P₂.Ok) (o l : Obj) (hl : l.coherent P₂)
    (wo : o.wf = true) (hsrc : l.erase = o.erase) :
    (memberC P₂ o.pickle.unpickle l).1 = true ∧ (memberC P₂ l o.pickle.unpickle).1 = true := by
  have hu := noCache_coherent P₂ _ (unpickle_fresh o.pickle)
  have wu : o.pickle.unpickle.wf = true := by rw [Pickle.unpickle_pickle, wf_erase]; exact wo
  have wl : l.wf = true := by rw [wf_congr hsrc]; exact wo
  have e1 := (memberC_spec hP _ l hu hl wu wl).ans
  have e2 := (memberC_spec hP l _ hl hu wl wu).ans
  rw [Pickle.unpickle_pickle] at e1 e2
  rw [Pickle.unpickle_pickle, e1, e2]
  exact ⟨by rw [pyEq_congr hsrc (erase_erase o)]; exact Obj.pyEq_refl o wo,
    by rw [pyEq_congr (erase_erase o) hsrc]; exact Obj.pyEq_refl o wo⟩

/-- non-vacuity: a user node type `Norm(Variable("x"), 2)` hashed under seed 0, pickled, looked up
under seed 1 -/
example :
    let o : Obj := .inst "Norm" .dataclass [varX, .atom (.int 2)] none
    (memberC (exP 1) ((o.hashC (exP 0)).2.pickle.unpickle) o).1 = true := by decide +kernel

/-- **expr_unpickle_found.**  Stock node classes: `a` is any well-formed expression, `o` its object
in the producer in ANY slot state; `b` is an expression built in the consumer with `b == a`
(Python `==`, C01).  Then the unpickled object hashes, in the consumer, to `hash(b)`,
`b == unpickled` holds, and each is found in a set / dict holding the other. -/
theorem expr_unpickle_found {P₂ : HashParams} (hP : P₂.Ok) (a b : Expr) (ha : a.wf = true)
    (hb : b.wf = true) (heq : b.pyEq a = true) (o : Obj) (ho : o.erase = ofExpr a) :
    (o.pickle.unpickle.hashC P₂).1 = ((ofExpr b).hashC P₂).1 ∧
      (eqC P₂ (ofExpr b) o.pickle.unpickle).1 = true ∧
      (memberC P₂ o.pickle.unpickle (ofExpr b)).1 = true ∧
      (memberC P₂ (ofExpr b) o.pickle.unpickle).1 = true := by
  have wo : o.wf = true := by
    rw [← wf_erase, ho]; exact ofExpr_wf a ha
  have wl := ofExpr_wf b hb
  have hl := noCache_coherent P₂ _ (ofExpr_noCache b)
  have hq : (ofExpr b).pyEq o = true := by
    rw [← pyEq_erase_right, ho]; exact ofExpr_pyEq b a heq
  exact ⟨unpickle_hash_local_eq hP o _ hl wo wl hq, (unpickle_eq_of_pyEq hP o _ hl wo wl hq).1,
    unpickle_member_of_pyEq hP o _ hl wo wl hq⟩

/-! ### 4. All operation orders: histories in a producer and a consumer process -/

/-- **history_refines.**  From any coherent state of a process, any sequence of `hash`, `==`,
`in`, `pickle`, `unpickle` operations (a) keeps every slot coherent with this process, and (b)
answers exactly as the slot-free, process-free reference semantics does. -/
theorem history_refines {P : HashParams} (hP : P.Ok) (w : World) (hc : w.coherent P) (hw : w.wf)
    (ops : List Op) :
    (run P w ops).1.coherent P ∧ (run P w ops).2.map Out.core = (runRef w.erased ops).2 := by
  obtain ⟨h1, _, _, h4⟩ := run_sim hP ops w hc hw
  exact ⟨h1, h4⟩

/-- **cross_process_independent.**  Producer with hash parameters `P₁`, consumer with `P₂`, the
same pool built from source in both, arbitrary operation sequences `ops₁` / `ops₂` (the consumer
reads the producer's pickles): every answer — in both processes — is the answer of the reference
run, which mentions neither `P₁` nor `P₂`. -/
theorem cross_process_independent {P₁ P₂ : HashParams} (h₁ : P₁.Ok) (h₂ : P₂.Ok) (src : List Obj)
    (hsrc : ∀ o ∈ src, o.wf = true) (ops₁ ops₂ : List Op) :
    (crossRun P₁ P₂ src ops₁ ops₂).1.map Out.core = (crossRef src ops₁ ops₂).1 ∧
      (crossRun P₁ P₂ src ops₁ ops₂).2.map Out.core = (crossRef src ops₁ ops₂).2 := by
  have coh : ∀ (P : HashParams) (bl : List Pk), World.coherent P ⟨Obj.eraseL src, bl⟩ := by
    intro P bl o ho
    obtain ⟨s, _, rfl⟩ := eraseL_mem ho
    exact noCache_coherent P _ (erase_noCache s)
  have wfp : ∀ o ∈ Obj.eraseL src, o.wf = true := by
    intro o ho
    obtain ⟨s, hs, rfl⟩ := eraseL_mem ho
    rw [wf_erase]; exact hsrc s hs
  have er : ∀ bl : List Pk, World.erased ⟨Obj.eraseL src, bl⟩ = ⟨Obj.eraseL src, bl⟩ := by
    intro bl
    simp only [World.erased, eraseL_eq_map, List.map_map]
    congr 1
    apply List.map_congr_left
    intro o _
    exact erase_erase o
  obtain ⟨_, a2, a3, a4⟩ := run_sim h₁ ops₁ ⟨Obj.eraseL src, []⟩ (coh P₁ [])
    ⟨wfp, by simp⟩
  rw [er] at a3 a4
  have hb : (run P₁ ⟨Obj.eraseL src, []⟩ ops₁).1.blobs =
      (runRef ⟨Obj.eraseL src, []⟩ ops₁).1.blobs := by
    have := congrArg World.blobs a3
    simpa [World.erased] using this
  obtain ⟨_, _, _, b4⟩ := run_sim h₂ ops₂
    ⟨Obj.eraseL src, (run P₁ ⟨Obj.eraseL src, []⟩ ops₁).1.blobs⟩ (coh P₂ _) ⟨wfp, a2.2⟩
  rw [er] at b4
  refine ⟨a4, ?_⟩
  show List.map Out.core (run P₂ ⟨Obj.eraseL src, (run P₁ ⟨Obj.eraseL src, []⟩ ops₁).1.blobs⟩ ops₂).2
    = (runRef ⟨Obj.eraseL src, (runRef ⟨Obj.eraseL src, []⟩ ops₁).1.blobs⟩ ops₂).2
  rw [← hb]
  exact b4

/-- the answers do not depend on the hash seeds of the two processes -/
theorem cross_process_seed_free {P₁ P₂ Q₁ Q₂ : HashParams} (h₁ : P₁.Ok) (h₂ : P₂.Ok) (k₁ : Q₁.Ok)
    (k₂ : Q₂.Ok) (src : List Obj) (hsrc : ∀ o ∈ src, o.wf = true) (ops₁ ops₂ : List Op) :
    (crossRun P₁ P₂ src ops₁ ops₂).2.map Out.core = (crossRun Q₁ Q₂ src ops₁ ops₂).2.map Out.core := by
  rw [(cross_process_independent h₁ h₂ src hsrc ops₁ ops₂).2,
    (cross_process_independent k₁ k₂ src hsrc ops₁ ops₂).2]

/-- **cross_hash_fresh.**  In every cross-process history every `hash` call of the consumer (and
of the producer) returns that process's hash of a freshly built object with the same fields —
for all `P₁`, `P₂` and all orders of operations. -/
theorem cross_hash_fresh {P₁ P₂ : HashParams} (h₁ : P₁.Ok) (h₂ : P₂.Ok) (src : List Obj)
    (hsrc : ∀ o ∈ src, o.wf = true) (ops₁ ops₂ : List Op) :
    (∀ o ∈ (crossRun P₁ P₂ src ops₁ ops₂).1, Out.hashFresh o = true) ∧
      (∀ o ∈ (crossRun P₁ P₂ src ops₁ ops₂).2, Out.hashFresh o = true) := by
  obtain ⟨e1, e2⟩ := cross_process_independent h₁ h₂ src hsrc ops₁ ops₂
  constructor
  · intro o ho
    rw [← core_fresh]
    apply runRef_fresh ops₁ ⟨Obj.eraseL src, []⟩
    have : o.core ∈ (crossRun P₁ P₂ src ops₁ ops₂).1.map Out.core := List.mem_map_of_mem ho
    rw [e1] at this
    exact this
  · intro o ho
    rw [← core_fresh]
    apply runRef_fresh ops₂ ⟨Obj.eraseL src, (runRef ⟨Obj.eraseL src, []⟩ ops₁).1.blobs⟩
    have : o.core ∈ (crossRun P₁ P₂ src ops₁ ops₂).2.map Out.core := List.mem_map_of_mem ho
    rw [e2] at this
    exact this

/-- the processes the compiled driver executes in the correspondence runs (`toyParams seed`) are
instances of the theorems above, for every pair of seeds -/
theorem driver_instance (s₁ s₂ : Nat) (src : List Obj) (hsrc : ∀ o ∈ src, o.wf = true)
    (ops₁ ops₂ : List Op) :
    (crossRun (toyParams s₁) (toyParams s₂) src ops₁ ops₂).1.map Out.core = (crossRef src ops₁ ops₂).1 ∧
      (crossRun (toyParams s₁) (toyParams s₂) src ops₁ ops₂).2.map Out.core
        = (crossRef src ops₁ ops₂).2 :=
  cross_process_independent (toyParams_ok s₁) (toyParams_ok s₂) src hsrc ops₁ ops₂

/-- a decidable view of an output: (kind, answer, slots, slots) -/
def Out.view : Out → Nat × Bool × List Bool × List Bool
  | .hash f b => (0, f, b, [])
  | .eq r a b => (1, r, a, b)
  | .member r a b => (2, r, a, b)
  | .pickled => (3, true, [], [])
  | .unpickled o => (4, o.noCache, o.bits, [])
  | .bad => (5, false, [], [])

/-- non-vacuity: hash, pickle (producer, seed 0); unpickle, look up, hash (consumer, seed 1) -/
example :
    ((crossRun (exP 0) (exP 1) [varX] [.hash 0, .pickle 0 2]
        [.unpickle 0, .member 1 0, .hash 1]).2).map Out.view
      = [(4, true, [false], []), (2, true, [true], [true]), (0, true, [true], [])] := by decide +kernel

/-! ### 5. Compiled expressions -/

/-- **compiled_roundtrip.**  A compiled expression pickles `(expression, variables)` and
re-compiles: after the round trip into process `P₂` it holds the same expression and variables
(so the same code, a function of the two), and every slot the re-compilation set is `P₂`'s. -/
theorem compiled_roundtrip (P₂ : HashParams) (c : Compiled) :
    (Compiled.unpickle P₂ c.pickle).expr.erase = c.expr.erase ∧
      (Compiled.unpickle P₂ c.pickle).vars = c.vars ∧
      (Compiled.unpickle P₂ c.pickle).expr.coherent P₂ := by
  have h := hashVars_spec P₂ c.expr.pickle.unpickle (noCache_coherent P₂ _ (unpickle_fresh _))
  refine ⟨?_, rfl, h.1⟩
  show (c.expr.pickle.unpickle.hashVars P₂).erase = c.expr.erase
  rw [h.2, Pickle.unpickle_pickle, erase_erase]

/-! ### 6. The persistent-hash digest -/

/-- **digest_structural_partial.**  Trees that are `==`, whose constants at corresponding
positions have the same Python type (and, for floats, the same `repr`: the digest hashes `repr`, so
`1`, `1.0`, `True` — or `0.0`, `-0.0` — are `==` but digest differently; "equal" in the property's
sense is "same structure"), and whose keyword arguments — if there are any — were inserted in the
same order (`sameShape`), feed the same byte strings to the key hash.

    Full-strength target (keyword mappings compared as mappings), NOT true of the code:
      theorem digest_structural (a b) : a.wf → b.wf → a.pyEq b → sameShapeModuloKwOrder a b →
        digest a = digest b
    see `digest_kwargs_order_cex`. -/
theorem digest_structural_partial (a b : Expr) (ha : a.wf = true) (hb : b.wf = true)
    (heq : a.pyEq b = true) (hs : sameShape a b = true) : digest a = digest b :=
  digest_ok a b ha hb heq hs

/-- the hypothesis is satisfiable and the conclusion non-trivial -/
example :
    let a := Expr.callKw (.var "f") [.const (.int 1)] ["k", "j"] [.var "x", .const (.flt "0.5" 1 2)]
    sameShape a a = true ∧ a.pyEq a = true ∧
      (digest a).toOption = some ["CallWithKwargs", "f", "1", "x", "0.5"] := by decide +kernel

/-- **digest_kwargs_order_cex** (known finding `persistent-hash-kwargs-order`).
`f(b, k=c, j=x)` and `f(b, j=x, k=c)` are `==` but their digest streams differ: keyword values are
walked in insertion order and keyword names are not hashed at all. -/
theorem digest_kwargs_order_cex :
    let a := Expr.callKw (.var "f") [.var "b"] ["k", "j"] [.var "c", .var "x"]
    let b := Expr.callKw (.var "f") [.var "b"] ["j", "k"] [.var "x", .var "c"]
    a.wf = true ∧ b.wf = true ∧ a.pyEq b = true ∧ digest a ≠ digest b := by
  refine ⟨by decide +kernel, by decide +kernel, by decide +kernel, fun h => ?_⟩
  have := congrArg Except.toOption h
  revert this
  decide +kernel

/-- expected, not a finding: numerically equal constants of different type digest differently -/
example : (Expr.const (.int 1)).pyEq (.const (.bool true)) = true ∧
    (digest (.const (.int 1))).toOption ≠ (digest (.const (.bool true))).toOption := by decide +kernel

/-- **digest_process_independent.**  The digest computed in a process with hash parameters `P₁`,
optimised or not, is the digest computed in any other: the digest model has no hash parameter, no
object identity and no set iteration. -/
theorem digest_process_independent (P₁ P₂ : HashParams) (o₁ o₂ : Bool) (e : Expr) :
    digestIn P₁ o₁ e = digestIn P₂ o₂ e := rfl

/-- with the previous theorem: structurally equal trees get the same digest in any two processes -/
theorem digest_cross_process (P₁ P₂ : HashParams) (o₁ o₂ : Bool) (a b : Expr) (ha : a.wf = true)
    (hb : b.wf = true) (heq : a.pyEq b = true) (hs : sameShape a b = true) :
    digestIn P₁ o₁ a = digestIn P₂ o₂ b :=
  digest_structural_partial a b ha hb heq hs

/-! ### 7. The digest model IS the current source (T-gen)

`lean/PV/Generated/PersistentHash.lean` is rewritten on every run by extract/persistent_hash.py
from the class body of `PersistentHashWalkMapper` (what `visit` feeds and returns, every `map_*`
override: which pieces go to `self.key_hash.update`, by `repr` or by value, in which order, between
which recursive calls) and `lean/PV/Generated/Traversal.lean` by extract/traversal.py from
`WalkMapper`.  `c17DigestT` (PV/Model/PersistentHashTable.lean) interprets the two tables. -/

open PV.Generated in
/-- the two finite facts about the regenerated tables: (1) the handler every node class resolves
to (`digest_resolve_current`), (2) the rest of the class body (`hash_table_rows_current`).  They
stand in one declaration because the kernel decodes a string literal of the tables once per
declaration. -/
theorem tables_current :
    (∀ r ∈ classReps, c17Resolve c04Classes c04WalkTable c17HashTable r = c17HandBody r) ∧
    (c17HashTable.storesKeyHash = true ∧ c17HashTable.base = "WalkMapper" ∧
      c17HashTable.exprUpdate = .absent ∧
      (c17FindOverride c17HashTable "map_constant").map (·.numpyItem) = some true ∧
      c17HashTable.overrides.all (fun h => (c04WalkTable.map (·.name)).contains h.name) = true) := by
  decide +kernel

open PV.Generated in
/-- **Handler shapes of the current source.**  For every node the function that runs — an override
of `PersistentHashWalkMapper` if the class body has one for the handler the node is dispatched to
(class MRO against the `map_*` names, `Mapper` stubs followed), otherwise the inherited `WalkMapper`
handler — is the one `digest` was written from: `map_constant` feeds `repr(expr)` (after the numpy
normalisation) and does not call `visit`; `map_variable` feeds `expr.name` by value and does not
call `visit`; `map_comparison` feeds `repr(expr.operator)` between its operands under
`if self.visit(expr):`; everything else is `WalkMapper`'s row. -/
theorem digest_resolve_current (e : Expr) :
    c17Resolve c04Classes c04WalkTable c17HashTable e = c17HandBody e := by
  revert e
  exact Expr.eq_of_classReps (c17Resolve_classRep _ _ _) c17HandBody_classRep tables_current.1

open PV.Generated in
/-- `visit` feeds `type(expr).__name__` and returns `True`; `post_visit` feeds nothing -/
theorem hash_table_std_current : c17HashTable.Std := ⟨rfl, rfl, rfl⟩

open PV.Generated in
/-- the rest of the class body: `__init__` stores the hash object as `self.key_hash`; the only
base is `WalkMapper`; `map_constant` normalises numpy scalars before `repr`; every override
replaces a handler `WalkMapper` has; `Expression.update_persistent_hash` is not defined (pytools'
`KeyBuilder` keys expression dataclasses itself — this mapper runs only where it is called) -/
theorem hash_table_rows_current :
    c17HashTable.storesKeyHash = true ∧ c17HashTable.base = "WalkMapper" ∧
      c17HashTable.exprUpdate = .absent ∧
      (c17FindOverride c17HashTable "map_constant").map (·.numpyItem) = some true ∧
      c17HashTable.overrides.all (fun h => (c04WalkTable.map (·.name)).contains h.name) = true :=
  tables_current.2

open PV.Generated in
/-- **`digest` is one table-driven handler call per node of the current source**, recursing
through `digest`. -/
theorem digest_table_step_current (e : Expr) :
    digest e = c17DigestStep c04Classes c04WalkTable c17HashTable digest e := by
  rw [c17DigestStep, digest_resolve_current]
  exact digest_eq_stepB hash_table_std_current e

open PV.Generated in
/-- … and the only such function -/
theorem digest_unique_current (f : Expr → Except DepErr (List String))
    (hf : ∀ e, f e = c17DigestStep c04Classes c04WalkTable c17HashTable f e) :
    ∀ e, f e = digest e :=
  c17Digest_unique c17HashTable (fun e => c17Resolve c04Classes c04WalkTable c17HashTable e) f
    digest hf digest_table_step_current

open PV.Generated in
/-- **digest_eq_table_current.**  For ALL expressions the hand-written `digest` is the
table-driven digest `c17DigestT` of the tables regenerated from the source on this run: the byte
strings prescribed by the regenerated rows of `PersistentHashWalkMapper`, in the traversal order of
the regenerated rows of `WalkMapper`.  Every theorem about `digest` in this file is therefore a
theorem about what the current source says. -/
theorem digest_eq_table_current (e : Expr) :
    digest e = c17DigestT c04Classes c04WalkTable c17HashTable e :=
  (c17DigestFuel_eq c04Classes c04WalkTable c17HashTable digest digest_table_step_current
    e.size e (Nat.le_refl _)).symm

open PV.Generated in
/-- non-vacuity: the table interpreter run on the regenerated tables -/
example :
    (c17DigestT c04Classes c04WalkTable c17HashTable
      (.cmp .lt (.var "x") (.bin .lshift (.const (.int 1)) (.var "n")))).toOption
      = some ["Comparison", "x", "'<'", "LeftShift", "n", "1"] := by decide +kernel

open PV.Generated in
/-- `digest_structural_partial` about the table-driven digest of the current source -/
theorem digest_structural_table_partial (a b : Expr) (ha : a.wf = true) (hb : b.wf = true)
    (heq : a.pyEq b = true) (hs : sameShape a b = true) :
    c17DigestT c04Classes c04WalkTable c17HashTable a =
      c17DigestT c04Classes c04WalkTable c17HashTable b := by
  rw [← digest_eq_table_current, ← digest_eq_table_current]
  exact digest_structural_partial a b ha hb heq hs

/-- a class body that no longer feeds the variable name -/
def noNameTable : C17Table :=
  { PV.Generated.c17HashTable with
    overrides := [c17CmpRow, c17ConstRow, ⟨"map_variable", false, false, []⟩] }

/-- a class body that feeds `repr(expr.name)` instead of the name -/
def reprNameTable : C17Table :=
  { PV.Generated.c17HashTable with
    overrides := [c17CmpRow, c17ConstRow,
      ⟨"map_variable", false, false, [.feed (.reprField "name")]⟩] }

/-- a class body whose `map_comparison` no longer feeds the operator -/
def noOperatorTable : C17Table :=
  { PV.Generated.c17HashTable with
    overrides := [⟨"map_comparison", true, false,
        [.recur ⟨"left", .one, false⟩, .recur ⟨"right", .one, false⟩]⟩, c17ConstRow, c17VarRow] }

open PV.Generated in
/-- **table_edit_cex.**  The table is load-bearing: for class bodies that differ from the current
one in a single fed piece the table-driven digest differs from `digest` (so
`digest_eq_table_current` cannot survive such an edit of the source). -/
theorem table_edit_cex :
    (c17DigestT c04Classes c04WalkTable noNameTable (.var "x")).toOption = some [] ∧
    (c17DigestT c04Classes c04WalkTable reprNameTable (.var "x")).toOption = some ["'x'"] ∧
    (c17DigestT c04Classes c04WalkTable noOperatorTable (.cmp .lt (.var "x") (.var "y"))).toOption
      = some ["Comparison", "x", "y"] ∧
    (digest (.var "x")).toOption = some ["x"] ∧
    (digest (.cmp .lt (.var "x") (.var "y"))).toOption = some ["Comparison", "x", "'<'", "y"] := by
  decide +kernel

/-! ### 8. What the feed determines: injectivity up to the known deviations

The feed is a preorder listing without arity marks, the leaves carry no class name, several fields
are never fed, and the hash object concatenates the pieces.  `digest_injective_partial` states
exactly under which assumptions two trees with the same feed are the same tree; the `…_cex`
theorems show that none of the assumptions can be dropped — each is a pair of DIFFERENT (`!=`)
expressions that get the same persistent key from the real code (known findings
`persistent-hash-collision:*`). -/

/-- **digest_injective_partial.**  `ar` is a rank discipline (class name ↦ number of children).
`a` and `b` are SEPARABLE for it (`c17Sep`): every variadic node (`Sum`, `Product`, …, `Call`,
`CallWithKwargs` positional / keyword values, `Substitution` values, non-`None` `Slice` parts,
tuples, lists) has the number of children `ar` prescribes for its class, every variable name reads
as a name (not as a class name, a number, `True`/`False`, `inf`/`nan`) and every float `repr` as a
float.  If `PersistentHashWalkMapper` feeds the same sequence of byte strings for both, then `a`
and `b` are the same tree up to the fields that are never fed (`c17Erase`: look-up names, CSE
prefix and scope, substitution and derivative variable names, keyword names, wildcard names,
`None` slice parts, the value behind a float `repr`): same classes, same operators, same variable
names, same comparison operators, same constant types and reprs, same keyword-value order.

    Full-strength target, NOT true of the code:
      theorem digest_injective (a b) : digest a = digest b → a = b
    see `digest_arity_collision_cex`, `digest_leaf_token_collision_cex`,
    `digest_unfed_field_collision_cex`, `digest_concat_collision_cex`. -/
theorem digest_injective_partial (ar : String → Nat) (a b : Expr) (l : List String)
    (sa : c17Sep ar a = true) (sb : c17Sep ar b = true) (da : digest a = .ok l)
    (db : digest b = .ok l) : c17Erase a = c17Erase b :=
  c17_digest_inj ar a b l sa sb da db

/-- the decidable form: `c17CommonSep a b` computes a rank discipline from the two trees -/
theorem digest_injective_common_partial (a b : Expr) (l : List String)
    (hs : c17CommonSep a b = true) (da : digest a = .ok l) (db : digest b = .ok l) :
    c17Erase a = c17Erase b := by
  simp only [c17CommonSep, Bool.and_eq_true] at hs
  exact c17_digest_inj _ a b l hs.1 hs.2 da db

/-- non-vacuity: binary sums / products over names, ints, floats, comparisons, calls of rank 2 -/
example :
    let a := Expr.cmp .le (.nary .sum [.var "x", .const (.flt "0.5" 1 2)])
      (.call (.var "f") [.const (.int (-3)), .lookup (.var "s") "fld"])
    c17CommonSep a a = true ∧
      (digest a).toOption = some ["Comparison", "Sum", "x", "0.5", "'<='", "Call", "f", "-3",
        "Lookup", "s"] := by decide +kernel

/-- **digest_erase_invariant.**  Conversely — unconditionally — the feed does not see what
`c17Erase` removes: trees with the same erasure have the same digest. -/
theorem digest_erase_invariant (a b : Expr) (h : c17Erase a = c17Erase b) : digest a = digest b :=
  digest_of_c17Erase_eq h

/-- **digest_separates_iff_partial.**  On separable trees the digest separates exactly what
`c17Erase` keeps. -/
theorem digest_separates_iff_partial (ar : String → Nat) (a b : Expr) (l : List String)
    (sa : c17Sep ar a = true) (sb : c17Sep ar b = true) (da : digest a = .ok l) :
    digest b = .ok l ↔ c17Erase a = c17Erase b :=
  ⟨fun db => c17_digest_inj ar a b l sa sb da db,
   fun h => by rw [← digest_of_c17Erase_eq h]; exact da⟩

open PV.Generated in
/-- `digest_injective_partial` about the table-driven digest of the current source -/
theorem digest_injective_table_partial (ar : String → Nat) (a b : Expr) (l : List String)
    (sa : c17Sep ar a = true) (sb : c17Sep ar b = true)
    (da : c17DigestT c04Classes c04WalkTable c17HashTable a = .ok l)
    (db : c17DigestT c04Classes c04WalkTable c17HashTable b = .ok l) :
    c17Erase a = c17Erase b := by
  rw [← digest_eq_table_current] at da db
  exact c17_digest_inj ar a b l sa sb da db

/-- structurally equal trees (`sameShape`, `==`) are the same tree after erasure, on the separable
class: what `digest_structural_partial` identifies is within what `c17Erase` identifies -/
theorem structural_erase_partial (ar : String → Nat) (a b : Expr) (l : List String)
    (ha : a.wf = true) (hb : b.wf = true) (heq : a.pyEq b = true) (hs : sameShape a b = true)
    (sa : c17Sep ar a = true) (sb : c17Sep ar b = true) (da : digest a = .ok l) :
    c17Erase a = c17Erase b :=
  c17_digest_inj ar a b l sa sb da (by rw [← digest_structural_partial a b ha hb heq hs]; exact da)

/-- **digest_flat_injective_partial.**  What the hash object sees is the CONCATENATION of the
pieces.  If every piece went through a self-delimiting encoding `enc` (`C17PrefixFree`: an encoded
piece followed by anything decodes in one way), equal byte streams would mean equal trees on the
separable class. -/
theorem digest_flat_injective_partial (enc : String → List Char) (hp : C17PrefixFree enc)
    (ar : String → Nat) (a b : Expr) (la lb : List String)
    (sa : c17Sep ar a = true) (sb : c17Sep ar b = true) (da : digest a = .ok la)
    (db : digest b = .ok lb) (h : c17Flat enc la = c17Flat enc lb) :
    c17Erase a = c17Erase b := by
  have := c17_flat_inj hp la lb h
  subst this
  exact c17_digest_inj ar a b la sa sb da db

/-- a self-delimiting encoding: every character behind a `1`, then a `0` -/
def markEnc (s : String) : List Char := s.toList.flatMap (fun c => ['1', c]) ++ ['0']

theorem markEnc_aux : ∀ (x y u v : List Char),
    x.flatMap (fun c => ['1', c]) ++ '0' :: u = y.flatMap (fun c => ['1', c]) ++ '0' :: v →
    x = y ∧ u = v
  | [], [], u, v, h => by simpa using h
  | [], d :: y, u, v, h => by simp at h
  | c :: x, [], u, v, h => by simp at h
  | c :: x, d :: y, u, v, h => by
    simp only [List.flatMap_cons, List.cons_append, List.nil_append, List.cons.injEq,
      true_and] at h
    obtain ⟨rfl, h⟩ := h
    obtain ⟨rfl, rfl⟩ := markEnc_aux x y u v h
    exact ⟨rfl, rfl⟩

/-- the assumption of `digest_flat_injective_partial` is satisfiable -/
theorem markEnc_prefixFree : C17PrefixFree markEnc := by
  intro s t u v h
  simp only [markEnc, List.append_assoc, List.cons_append, List.nil_append] at h
  obtain ⟨h1, h2⟩ := markEnc_aux _ _ _ _ h
  exact ⟨String.ext h1, h2⟩

/-- **digest_concat_collision_cex** (known finding `persistent-hash-collision:concatenation`).
The real pieces are fed as they are (`enc = String.toList`, not self-delimiting):
`Power(Variable("a"), Variable("bc"))` and `Power(Variable("ab"), Variable("c"))` — and
`Sum((1, 23))` and `Sum((12, 3))` — are separable under one rank discipline, are different trees
even after erasure, have different chunk sequences, and the hash object sees the same bytes. -/
theorem digest_concat_collision_cex :
    (let a := Expr.bin .pow (.var "a") (.var "bc")
     let b := Expr.bin .pow (.var "ab") (.var "c")
     c17CommonSep a b = true ∧ c17Erase a ≠ c17Erase b ∧
       (digest a).toOption = some ["Power", "a", "bc"] ∧
       (digest b).toOption = some ["Power", "ab", "c"] ∧
       c17Flat String.toList ["Power", "a", "bc"] = c17Flat String.toList ["Power", "ab", "c"]) ∧
    (let a := Expr.nary .sum [.const (.int 1), .const (.int 23)]
     let b := Expr.nary .sum [.const (.int 12), .const (.int 3)]
     c17CommonSep a b = true ∧ c17Erase a ≠ c17Erase b ∧
       (digest a).toOption = some ["Sum", "1", "23"] ∧
       (digest b).toOption = some ["Sum", "12", "3"] ∧
       c17Flat String.toList ["Sum", "1", "23"] = c17Flat String.toList ["Sum", "12", "3"]) := by
  decide +kernel

/-- **digest_arity_collision_cex** (known finding `persistent-hash-collision:arity`).
`f(a + b, c)` and `f(a + b + c)`: all names read as names, the chunk sequences are EQUAL, the
trees differ — and no rank discipline fits both (`Call` with two arguments and with one). -/
theorem digest_arity_collision_cex :
    let a := Expr.call (.var "f") [.nary .sum [.var "a", .var "b"], .var "c"]
    let b := Expr.call (.var "f") [.nary .sum [.var "a", .var "b", .var "c"]]
    (digest a).toOption = some ["Call", "f", "Sum", "a", "b", "c"] ∧
      (digest b).toOption = some ["Call", "f", "Sum", "a", "b", "c"] ∧
      c17Erase a ≠ c17Erase b ∧ a.pyEq b = false ∧
      ∀ ar, ¬ (c17Sep ar a = true ∧ c17Sep ar b = true) := by
  refine ⟨by decide +kernel, by decide +kernel, by decide +kernel, by decide +kernel, ?_⟩
  rintro ar ⟨h1, h2⟩
  simp only [c17Sep, c17SepL, Bool.and_eq_true, beq_iff_eq, List.length_cons, List.length_nil]
    at h1 h2
  omega

/-- **digest_leaf_token_collision_cex** (known finding `persistent-hash-collision:leaf-token`).
Leaves carry no class name: `Sum((Variable("1"), x))` and `Sum((1, x))`, `Variable("NaN")` and
`NaN()`, `Variable("Sum")` and `Sum(())` have equal chunk sequences and fit one rank discipline;
the variable names do not read as names. -/
theorem digest_leaf_token_collision_cex :
    (let a := Expr.nary .sum [.var "1", .var "x"]
     let b := Expr.nary .sum [.const (.int 1), .var "x"]
     (digest a).toOption = (digest b).toOption ∧ (digest a).toOption = some ["Sum", "1", "x"] ∧
       c17Erase a ≠ c17Erase b ∧ a.pyEq b = false ∧ c17TokClass "1" ≠ (0, 0)) ∧
    ((digest (.var "NaN")).toOption = (digest .nan).toOption ∧ c17TokClass "NaN" ≠ (0, 0)) ∧
    ((digest (.var "Sum")).toOption = (digest (.nary .sum [])).toOption ∧
       c17TokClass "Sum" ≠ (0, 0)) := by
  decide +kernel

/-- **digest_unfed_field_collision_cex** (known finding `persistent-hash-collision:unfed-field`).
Fields that are never fed: `x.a` and `x.b`, `Derivative(x, ("a",))` and `Derivative(x, ("b",))`,
`f(k=x)` and `f(j=x)`, `Slice((x, None))` and `Slice((None, x))` are different (`!=`) expressions
with the same erasure, hence the same digest. -/
theorem digest_unfed_field_collision_cex :
    (let a := Expr.lookup (.var "x") "a"
     let b := Expr.lookup (.var "x") "b"
     a.pyEq b = false ∧ c17Erase a = c17Erase b ∧ (digest a).toOption = (digest b).toOption) ∧
    (let a := Expr.deriv (.var "x") ["a"]
     let b := Expr.deriv (.var "x") ["b"]
     a.pyEq b = false ∧ c17Erase a = c17Erase b) ∧
    (let a := Expr.callKw (.var "f") [] ["k"] [.var "x"]
     let b := Expr.callKw (.var "f") [] ["j"] [.var "x"]
     a.pyEq b = false ∧ c17Erase a = c17Erase b) ∧
    (let a := Expr.slice [.var "x", .const .none]
     let b := Expr.slice [.const .none, .var "x"]
     a.pyEq b = false ∧ c17Erase a = c17Erase b) := by
  decide +kernel

end PV.C17
