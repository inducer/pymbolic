import PV.Model.MemoArgs
import PV.Proofs.MemoTable
import PV.Generated.Caching
/-
  C05 — "results are never shared between calls with different extra arguments", for extra
  arguments that are arbitrary hashable VALUES (constants and nested tuples; PV/Model/MemoArgs.lean).

  The defects this file is about are cache keys that confuse DIFFERENT combinations of extra
  arguments: a positional `("k", 7)` pair with the keyword argument `k=7` (a key that splices the
  keyword items into the positional tuple), `(1, 2)` passed as one argument with `1, 2`, an empty
  tuple / `None` with no argument.  The stock key `(type(expr), expr, args, immutabledict(kwargs))`
  keeps the boundary between positional and keyword arguments, the order and the nesting of the
  positional ones; it identifies exactly the calls Python calls equal (same positional tuple under
  `==`, same keyword mapping — in any order).
-/
namespace PV.C05
open PV PV.Memo PV.Generated

/-! ### scalar arguments are the special case -/

theorem pyEqL_consts : ∀ (as bs : List Const),
    Expr.pyEqL (as.map .const) (bs.map .const) = constsEq as bs
  | [], [] | [], _ :: _ | _ :: _, [] => by simp [Expr.pyEqL, constsEq]
  | a :: as, b :: bs => by simp [Expr.pyEqL, constsEq, Expr.pyEq, pyEqL_consts as bs]

theorem kwLookupV_consts (n : String) (kws : List (String × Const)) :
    kwLookupV n (kws.map fun p => (p.1, Expr.const p.2)) = (kwLookup n kws).map .const := by
  induction kws with
  | nil => simp [kwLookupV, kwLookup]
  | cons p kws ih =>
    obtain ⟨m, v⟩ := p
    by_cases h : m = n <;> simp [kwLookupV, kwLookup, h, ih]

theorem kwEqV_consts (a b : List (String × Const)) :
    kwEqV (a.map fun p => (p.1, Expr.const p.2)) (b.map fun p => (p.1, Expr.const p.2))
      = kwEq a b := by
  simp only [kwEqV, kwEq, List.length_map, List.all_map]
  congr 1
  apply List.all_congr rfl
  simp only [Function.comp, kwLookupV_consts]
  intro p
  cases kwLookup p.1 b <;> simp [Expr.pyEq]

/-- **The keys of Memo.lean are the special case** of scalar arguments: on them the key equalities
of this file are `Key.eq` / `Key.cseEq` (the `keq` of every `cachedSpec` / `cseMixinSpec`, about
which the transparency and at-most-once theorems of C05.lean speak). -/
theorem keyV_extends_key (a b : Key) :
    KeyV.eq a.toV b.toV = Key.eq a b ∧ KeyV.cseEq a.toV b.toV = Key.cseEq a b := by
  constructor
  · simp [KeyV.eq, Key.eq, Key.toV, ArgKey.toV, ArgKeyV.pyEq, ArgKey.pyEq, pyEqL_consts,
      kwEqV_consts]
  · simp [KeyV.cseEq, Key.cseEq, Key.toV, ArgKey.toV, Expr.pyEqL, pyEqL_consts]

/-! ### what an equal key says about the extra arguments -/

theorem pyEqL_length : ∀ {as bs : List Expr}, Expr.pyEqL as bs = true → as.length = bs.length
  | [], [], _ => rfl
  | a :: as, b :: bs, h => by
    simp only [Expr.pyEqL, Bool.and_eq_true] at h
    simp [pyEqL_length h.2]

/-- **The key keeps the boundary between positional and keyword arguments.**  Two calls with the
same key have the same NUMBER of positional and of keyword arguments, the positional ones are
pairwise `==` IN ORDER, and every keyword of the one is bound in the other to an `==` value.  So no
positional argument is ever taken for a keyword item, a nested tuple for its elements, or an empty
argument for a missing one. -/
theorem key_keeps_argument_boundary (a b : KeyV) (h : KeyV.eq a b = true) :
    a.args.args.length = b.args.args.length ∧
    a.args.kwargs.length = b.args.kwargs.length ∧
    Expr.pyEqL a.args.args b.args.args = true ∧
    ∀ p ∈ a.args.kwargs, ∃ w, kwLookupV p.1 b.args.kwargs = some w ∧ p.2.pyEq w = true := by
  simp only [KeyV.eq, ArgKeyV.pyEq, kwEqV, Bool.and_eq_true, beq_iff_eq, List.all_eq_true] at h
  obtain ⟨_, hp, hl, hk⟩ := h
  refine ⟨pyEqL_length hp, hl, hp, ?_⟩
  intro p hp'
  have := hk p hp'
  cases hw : kwLookupV p.1 b.args.kwargs with
  | none => simp [hw] at this
  | some w => exact ⟨w, rfl, by simpa [hw] using this⟩

/-- a positional `(name, value)` pair is never the keyword argument `name=value` (whatever the
other positional arguments, the expression and the value are) -/
theorem positional_pair_is_not_keyword (e e' : Expr) (as : List Expr) (n : String) (v : Expr) :
    KeyV.eq ⟨e, ⟨as ++ [.tuple [.const (.str n), v]], []⟩⟩ ⟨e', ⟨as, [(n, v)]⟩⟩ = false ∧
    KeyV.eq ⟨e, ⟨as, [(n, v)]⟩⟩ ⟨e', ⟨as ++ [.tuple [.const (.str n), v]], []⟩⟩ = false := by
  constructor <;>
  · apply Bool.eq_false_iff.mpr
    intro h
    have := (key_keeps_argument_boundary _ _ h).2.1
    simp at this

/-- a tuple passed as ONE argument is never its elements passed one by one (unless it has exactly
one element, where the two calls differ by `x` / `(x,)`) -/
theorem nested_is_not_flat (e e' : Expr) (xs : List Expr) (kw kw' : List (String × Expr))
    (h : xs.length ≠ 1) :
    KeyV.eq ⟨e, ⟨[.tuple xs], kw⟩⟩ ⟨e', ⟨xs, kw'⟩⟩ = false := by
  apply Bool.eq_false_iff.mpr
  intro hk
  have := (key_keeps_argument_boundary _ _ hk).1
  simp at this
  omega

/-- an argument that is present — `()`, `None`, `""`, anything — is never a missing one, neither
as a positional nor as a keyword argument -/
theorem present_is_not_missing (e e' : Expr) (as : List Expr) (kw : List (String × Expr))
    (n : String) (x : Expr) :
    KeyV.eq ⟨e, ⟨as ++ [x], kw⟩⟩ ⟨e', ⟨as, kw⟩⟩ = false ∧
    KeyV.eq ⟨e, ⟨x :: as, kw⟩⟩ ⟨e', ⟨as, kw⟩⟩ = false ∧
    KeyV.eq ⟨e, ⟨as, (n, x) :: kw⟩⟩ ⟨e', ⟨as, kw⟩⟩ = false := by
  refine ⟨?_, ?_, ?_⟩ <;>
  · apply Bool.eq_false_iff.mpr
    intro h
    have h1 := (key_keeps_argument_boundary _ _ h).1
    have h2 := (key_keeps_argument_boundary _ _ h).2.1
    simp at h1 h2

theorem kwLookupV_of_mem {kw : List (String × Expr)} (hn : (kw.map (·.1)).Nodup)
    {p : String × Expr} (hp : p ∈ kw) : kwLookupV p.1 kw = some p.2 := by
  induction kw with
  | nil => simp at hp
  | cons q kw ih =>
    obtain ⟨m, w⟩ := q
    simp only [List.map_cons, List.nodup_cons, List.mem_map, not_exists, not_and] at hn
    rcases List.mem_cons.mp hp with rfl | hp'
    · simp [kwLookupV]
    · have : m ≠ p.1 := fun hm => hn.1 p hp' hm.symm
      simp [kwLookupV, this, ih hn.2 hp']

/-- **Equal calls share one key**: the same keyword arguments passed in ANOTHER ORDER are the same
key (with the same expression and positional arguments; `e`, `as` and the values self-equal, i.e.
no NaN) — the later call is a hit, which is what "each distinct (expression, arguments) key is
computed at most once" needs. -/
theorem kwargs_order_irrelevant (e : Expr) (as : List Expr) (kw kw' : List (String × Expr))
    (hp : kw.Perm kw') (hn : (kw.map (·.1)).Nodup) (he : e.pyEq e = true)
    (ha : Expr.pyEqL as as = true) (hv : ∀ p ∈ kw, p.2.pyEq p.2 = true) :
    KeyV.eq ⟨e, ⟨as, kw⟩⟩ ⟨e, ⟨as, kw'⟩⟩ = true := by
  have hn' : (kw'.map (·.1)).Nodup := (hp.map _).nodup_iff.mp hn
  simp only [KeyV.eq, Expr.keyEq, ArgKeyV.pyEq, kwEqV, he, ha, hp.length_eq, beq_self_eq_true,
    Bool.true_and, List.all_eq_true]
  intro p hpm
  rw [kwLookupV_of_mem hn' (hp.mem_iff.mp hpm)]
  exact hv p hpm

/-- the shapes a sloppy key confuses, on `x` (non-vacuity of the theorems above, and the pairs the
`argkeys` / `keyeq-args` streams replay on the real code): `m(x, ("scale", 2))` / `m(x, scale=2)`,
`m(x, 1, ("k", 7))` / `m(x, 1, k=7)`, `m(x, (1, 2))` / `m(x, 1, 2)`, `m(x, 1, 2)` / `m(x, 2, 1)`,
`m(x, 1)` / `m(x, "1")`, `m(x, ())` / `m(x)`, `m(x, None)` / `m(x)`, `m(x, k=None)` / `m(x)`,
`m(x, a=1, b=2)` / `m(x, a=2, b=1)`, `m(x, k=1)` / `m(x, l=1)`, `m(x, 1)` / `m(x, k=1)` have
different keys; `m(x, a=1, b=2)` / `m(x, b=2, a=1)` have ONE key. -/
theorem key_separates_argument_shapes :
    let x : Expr := .var "x"
    let i (n : Int) : Expr := .const (.int n)
    let s (t : String) : Expr := .const (.str t)
    KeyV.eq ⟨x, ⟨[.tuple [s "scale", i 2]], []⟩⟩ ⟨x, ⟨[], [("scale", i 2)]⟩⟩ = false ∧
    KeyV.eq ⟨x, ⟨[i 1, .tuple [s "k", i 7]], []⟩⟩ ⟨x, ⟨[i 1], [("k", i 7)]⟩⟩ = false ∧
    KeyV.eq ⟨x, ⟨[.tuple [i 1, i 2]], []⟩⟩ ⟨x, ⟨[i 1, i 2], []⟩⟩ = false ∧
    KeyV.eq ⟨x, ⟨[i 1, i 2], []⟩⟩ ⟨x, ⟨[i 2, i 1], []⟩⟩ = false ∧
    KeyV.eq ⟨x, ⟨[i 1], []⟩⟩ ⟨x, ⟨[s "1"], []⟩⟩ = false ∧
    KeyV.eq ⟨x, ⟨[i 1], []⟩⟩ ⟨x, ⟨[.tuple [i 1]], []⟩⟩ = false ∧
    KeyV.eq ⟨x, ⟨[.tuple []], []⟩⟩ ⟨x, ⟨[], []⟩⟩ = false ∧
    KeyV.eq ⟨x, ⟨[.const .none], []⟩⟩ ⟨x, ⟨[], []⟩⟩ = false ∧
    KeyV.eq ⟨x, ⟨[], [("k", .const .none)]⟩⟩ ⟨x, ⟨[], []⟩⟩ = false ∧
    KeyV.eq ⟨x, ⟨[], [("a", i 1), ("b", i 2)]⟩⟩ ⟨x, ⟨[], [("a", i 2), ("b", i 1)]⟩⟩ = false ∧
    KeyV.eq ⟨x, ⟨[], [("k", i 1)]⟩⟩ ⟨x, ⟨[], [("l", i 1)]⟩⟩ = false ∧
    KeyV.eq ⟨x, ⟨[i 1], []⟩⟩ ⟨x, ⟨[], [("k", i 1)]⟩⟩ = false ∧
    KeyV.eq ⟨x, ⟨[], [("a", i 1), ("b", i 2)]⟩⟩ ⟨x, ⟨[], [("b", i 2), ("a", i 1)]⟩⟩ = true := by
  decide +kernel

/-- As for the scalars of Memo.lean, the TYPES of extra arguments are not part of the key, at any
depth: `m(x, (1, 2))` and `m(x, (True, 2.0))` look up the same entry (`(1, 2) == (True, 2.0)`). -/
example : KeyV.eq ⟨.var "x", ⟨[.tuple [.const (.int 1), .const (.int 2)]], []⟩⟩
    ⟨.var "x", ⟨[.tuple [.const (.bool true), .const (.flt "2.0" 2 1)]], []⟩⟩ = true := by
  decide +kernel

/-- **A flat key shares results between different calls** (the defect class of this file): with
`(type(expr), expr, *args, *sorted(kwargs.items()))` the calls `m(x, ("scale", 2))` and
`m(x, scale=2)` — and `m(x, 1, ("k", 7))` and `m(x, 1, k=7)` — have ONE key although their extra
arguments differ: the second call is answered from the entry of the first. -/
theorem flat_key_confuses_positional_keyword_cex :
    ∃ a b : KeyV, KeyV.flatEq a b = true ∧ KeyV.eq a b = false ∧
      a.args.args.length ≠ b.args.args.length := by
  refine ⟨⟨.var "x", ⟨[.const (.int 1), .tuple [.const (.str "k"), .const (.int 7)]], []⟩⟩,
          ⟨.var "x", ⟨[.const (.int 1)], [("k", .const (.int 7))]⟩⟩, ?_, ?_, ?_⟩ <;> decide +kernel

/-! ### the key of the current source, read on argument values -/

theorem tupleEqV_exprs : ∀ (as bs : List Expr),
    tupleEqV (as.map KValV.expr) (bs.map KValV.expr) = Expr.pyEqL as bs
  | [], [] | [], _ :: _ | _ :: _, [] => by simp [tupleEqV, Expr.pyEqL]
  | a :: as, b :: bs => by simp [tupleEqV, Expr.pyEqL, KValV.eq, tupleEqV_exprs as bs]

/-- **The cache key of the current source, on arbitrary argument values.**  Python's `==` on the
tuples the regenerated `get_cache_key` builds for two calls is `KeyV.eq`: the positional arguments
are ONE component (a tuple), the keyword arguments another (a mapping).  A key that splices either
into the enclosing tuple changes the regenerated table and breaks this theorem (and
`key_shape_current`). -/
theorem key_shape_current_args (a b : KeyV) :
    c05TupleEqV c05GetCacheKey.items a b = KeyV.eq a b := by
  have h : c05GetCacheKey = c05ExpectedGetKey := rfl
  rw [h]
  simp [c05ExpectedGetKey, Code.stock, c05TupleEqV, c05KeyValsV, tupleEqV, KValV.eq, KeyV.eq,
    Expr.keyEq, ArgKeyV.pyEq, Bool.and_assoc]

/-- **The key of the CSE mix-in in the current source, on arbitrary argument values**, is
`KeyV.cseEq`: `(expr, *args)` — flat, but the method takes no keyword arguments, so there is nothing
the positional ones could be confused with. -/
theorem cse_key_shape_current_args (a b : KeyV) :
    c05TupleEqV c05CseMixinKey a b = KeyV.cseEq a b := by
  have h : c05CseMixinKey = [.part .expr, .splatArgs] := rfl
  rw [h]
  simp [c05TupleEqV, c05KeyValsV, tupleEqV, KValV.eq, KeyV.cseEq, Expr.pyEqL, tupleEqV_exprs]

/-- the regenerated key separates a positional pair from a keyword argument; the same tuple with
the positional arguments spliced in (`*args` for `args`) and no keyword component does not -/
example :
    let a : KeyV := ⟨.var "x", ⟨[.tuple [.const (.int 1), .const (.int 2)]], []⟩⟩
    let b : KeyV := ⟨.var "x", ⟨[.const (.int 1), .const (.int 2)], []⟩⟩
    c05TupleEqV c05GetCacheKey.items a b = false ∧
    c05TupleEqV c05GetCacheKey.items
      ⟨.var "x", ⟨[.tuple [.const (.str "k"), .const (.int 7)]], []⟩⟩
      ⟨.var "x", ⟨[], [("k", .const (.int 7))]⟩⟩ = false := by
  decide +kernel

/-! ### renaming the extra arguments of a history -/

/-- the index of the first related element identifies the class, for an equivalence relation -/
theorem firstIdx_eq_iff {α : Type} (r : α → α → Bool) (cs : List α) (a b : α)
    (hs : ∀ x y, r x y = true → r y x = true)
    (ht : ∀ x y z, r x y = true → r y z = true → r x z = true)
    (ha : ∃ c ∈ cs, r c a = true) (hb : ∃ c ∈ cs, r c b = true) :
    (firstIdx r a cs = firstIdx r b cs) ↔ r a b = true := by
  induction cs with
  | nil => simp at ha
  | cons c cs ih =>
    simp only [firstIdx]
    by_cases hca : r c a = true <;> by_cases hcb : r c b = true
    · simpa [hca, hcb] using ht _ _ _ (hs _ _ hca) hcb
    · have : r a b ≠ true := fun hab => hcb (ht _ _ _ hca hab)
      simp [hca, hcb, this]
    · have : r a b ≠ true := fun hab => hca (ht _ _ _ hcb (hs _ _ hab))
      simp [hca, hcb, this]
    · simp only [hca, hcb, if_false, Nat.add_right_cancel_iff, Bool.false_eq_true]
      exact ih (by simpa [hca] using ha) (by simpa [hcb] using hb)

/-- **Renaming is faithful.**  On a history whose combinations of extra arguments `cs` are compared
by an equivalence (`==` on numbers, strings, `None` and tuples of these is one, NaN aside), the
renamed calls (`internKey`: one scalar argument, the index of the first `==` combination) have
equal `Key`s exactly when the original calls have equal `KeyV`s: the hit / miss behaviour of the
renamed history under `Key.eq` — what the handler families of Memo.lean and the theorems of
C05.lean are about — is that of the original one under `KeyV.eq`. -/
theorem intern_key_eq (cs : List ArgKeyV) (a b : KeyV)
    (hs : ∀ x y, ArgKeyV.pyEq x y = true → ArgKeyV.pyEq y x = true)
    (ht : ∀ x y z, ArgKeyV.pyEq x y = true → ArgKeyV.pyEq y z = true → ArgKeyV.pyEq x z = true)
    (ha : ∃ c ∈ cs, ArgKeyV.pyEq c a.args = true) (hb : ∃ c ∈ cs, ArgKeyV.pyEq c b.args = true) :
    Key.eq (internKey cs a) (internKey cs b) = KeyV.eq a b := by
  have h := firstIdx_eq_iff ArgKeyV.pyEq cs a.args b.args hs ht ha hb
  simp only [Key.eq, KeyV.eq, internKey, ArgKey.pyEq, constsEq, kwEq, Const.pyEq, Const.numVal?]
  by_cases hab : ArgKeyV.pyEq a.args b.args = true
  · have := h.mpr hab
    simp [hab, this]
  · have : firstIdx ArgKeyV.pyEq a.args cs ≠ firstIdx ArgKeyV.pyEq b.args cs := fun e => hab (h.mp e)
    simp only [Bool.not_eq_true] at hab
    simp [hab]
    omega

end PV.C05
