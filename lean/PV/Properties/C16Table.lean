import PV.Proofs.UnifyTableUnique
import PV.Proofs.WalkTable
import PV.Generated.Unifier
import PV.Generated.Traversal
/-
  C16, T-gen tie of the UNIFIER: the hand-written model of pymbolic/mapper/unifier.py
  (PV/Model/Unify.lean — what `PV.C16.unify_sound_partial`, `unify_complete_renaming`, … speak
  about) is what the CURRENT SOURCE prescribes.

  `extract/unifier.py` re-reads the source of the module on every run and writes every function of
  it, statement by statement, into `PV.Generated.c16Unifier` (language and interpreter:
  PV/Model/UnifyTable.lean).  The theorems below say, for the table of THIS run:

    * `unifier_table_current`      the regenerated table is the literal table `c16Expected` the
                                   closed forms are about (a source edit that changes a statement, a class-body
                                   alias, an MRO or the meaning of a free name breaks this `rfl`);
    * `handler_resolve_current`    dispatch (`Mapper.__call__`, the model of C04, on the regenerated
                                   node-class table) + attribute resolution along the MRO reach
                                   exactly the handler the model has for every node kind;
    * `record_functions_current`,
      `generators_current`,
      `commut_assoc_current`       running the table's `unify_map`, `UnificationRecord(…)`,
                                   `.unify`, `unify_many`, `unification_record_from_equation`,
                                   `treat_mismatch`, `subsets`, `partitions`,
                                   `match_plain_var_candidates`, `match_children`, `map_commut_assoc`
                                   — each in a context where the calls that leave it mean the MODEL's
                                   functions — computes the model's functions, for all arguments;
    * `unifyE_eq_table_current`    one dispatched call `self.rec(expr, other, urecs)` of the table
                                   is `unifyE`, for every node kind of the model, every target and
                                   every list of records;
    * `unify_entry_current`        `UnidirectionalUnifier(cands)(pattern, target)` is `unify`;
    * `unifyE_unique_current`      `unifyE` is the only function that satisfies the dispatch
                                   equation of the table.

  Around them: `rec_is_dispatch_current`, `mapper_attrs_current`, `handler_outside_current` (what the
  table does outside the model), `table_step_current` (one call with `self.rec` left open),
  `safe_of_guard_current`, `fragment_inside_guards_current`, `unify_eq_table_current` (the driver's
  fragment lies inside the hypotheses), `table_edit_cex`.

  Hypotheses that appear: records are Python dicts (`URec.WF`: distinct keys — trivially true of
  `[UnificationRecord([])]`, preserved by everything: `unifyE_wf_current`); the operands of a target
  sum / product are not tuples / lists (`c16SafeTop`; otherwise `unification_record_from_equation`
  returns `None` and `result.unify(None)` raises, where the model — written for the fragment —
  just drops the partition).
-/
namespace PV.C16
open PV PV.Unify PV.Generated

/-- **The regenerated table is the one the proofs are about.** -/
theorem unifier_table_current : c16Unifier = c16Expected := rfl

example : (c16Unifier.fns.map (·.name)).length = 30 ∧ c16Unifier.recImpl = "Mapper.__call__" := by
  decide

/-- `self.rec` is the plain dispatch `Mapper.__call__` (not the entry point `UnifierBase.__call__`),
and `UnidirectionalUnifier(cands)` runs `UnifierBase.__init__`. -/
theorem rec_is_dispatch_current :
    c16Unifier.recImpl = "Mapper.__call__" ∧ c16Unifier.initImpl = "UnifierBase.__init__" ∧
    c16Resolve c16Unifier c16Mapper "rec" = some "Mapper.__call__" ∧
    c16Resolve c16Unifier c16Mapper "__call__" = some "UnifierBase.__call__" := by
  decide +kernel

/-! The dispatch and the choice of the handler look only at the class of the node
(`Expr.classRep`), so what they do on all nodes is a finite check. -/

theorem c16HandlerOf_classRep (classes : List C04NodeClass) (T : C16Table) (e : Expr) :
    c16HandlerOf classes T e = c16HandlerOf classes T e.classRep := by
  rw [c16HandlerOf, c04Dispatch_classRep]; rfl

theorem c16ExpectedHandler_classRep (e : Expr) :
    c16ExpectedHandler e.classRep = c16ExpectedHandler e := by
  cases e with
  | const c => cases c <;> rfl
  | nary o _ => cases o <;> rfl
  | bin o _ _ => cases o <;> rfl
  | _ => rfl

theorem c16Top_classRep (e : Expr) : c16Top e.classRep = c16Top e := by
  cases e with
  | const c => cases c <;> rfl
  | _ => rfl

deriving instance DecidableEq for C16Res

/-- C04 dispatch and MRO resolution evaluated on the regenerated tables, for one node of each class -/
theorem handler_classes_current :
    (∀ r ∈ classReps, c16Top r = true →
      c16HandlerOf c04Classes c16Unifier r = .ok (c16ExpectedHandler r)) ∧
    c16HandlerOf c04Classes c16Unifier (.const (.str "s")) = .raises "ValueError" ∧
    c16HandlerOf c04Classes c16Unifier (.list []) = .ok "UnifierBase.map_list" ∧
    c16HandlerOf c04Classes c16Unifier (.nary .min []) = .ok "UnifierBase.map_sum" ∧
    c16HandlerOf c04Classes c16Unifier (.callKw (.var "f") [] [] []) = .ok "Mapper.map_algebraic_leaf" := by
  decide +kernel

/-- **Dispatch reaches the handler the model has**, for every node kind of the model: the dispatch
model of C04 run on the regenerated node classes and the `map_*` names of the regenerated unifier
table, then Python's attribute resolution along the MRO of `UnidirectionalUnifier`. -/
theorem handler_resolve_current (e : Expr) (h : c16Top e = true) :
    c16HandlerOf c04Classes c16Unifier e = .ok (c16ExpectedHandler e) := by
  rw [c16HandlerOf_classRep, ← c16ExpectedHandler_classRep]
  exact handler_classes_current.1 _ e.classRep_mem (c16Top_classRep e ▸ h)

example : c16HandlerOf c04Classes c16Unifier (.bin .floordiv (.var "x") (.var "y"))
    = .ok "UnifierBase.map_quotient" := handler_resolve_current _ rfl

/-- what the dispatch does with the node kinds OUTSIDE the model: strings / `None` are invalid
foreign objects, a Python list goes to `map_list`, the other n-ary classes to `UnifierBase.map_sum`
(which dies in `generate_permutations(range(n))` for n ≥ 2), `CallWithKwargs` (like the wildcards and
`FunctionSymbol`) to `Mapper.map_algebraic_leaf` (`NotImplementedError`).  Not stated here: `NaN`
reaches `Mapper.map_nan`; `CommonSubexpression`, `Substitution`, `Derivative`, `Slice` have no
handler on the MRO (`UnsupportedExpressionError`). -/
theorem handler_outside_current :
    c16HandlerOf c04Classes c16Unifier (.const (.str "s")) = .raises "ValueError" ∧
    c16HandlerOf c04Classes c16Unifier (.list []) = .ok "UnifierBase.map_list" ∧
    c16HandlerOf c04Classes c16Unifier (.nary .min []) = .ok "UnifierBase.map_sum" ∧
    c16HandlerOf c04Classes c16Unifier (.callKw (.var "f") [] [] []) = .ok "Mapper.map_algebraic_leaf" :=
  handler_classes_current.2

/-- **The attributes of `UnidirectionalUnifier(cands)`** as the table's `__init__` leaves them:
`lhs_mapping_candidates = cands`, `rhs_mapping_candidates = None`, `force_var_match = True`. -/
theorem mapper_attrs_current (cands : List String) :
    c16MapperAttrs c16Unifier cands = c16ModelAttrs cands := by
  rw [unifier_table_current]; exact c16MapperAttrs_expected cands

/-- **The record-level functions of the current source are the model's**: `unify_map` is `unifyMap`,
`UnificationRecord([(lhs, rhs)])` builds `lmap` / `rmap` as `recFromEq` does, `a.unify(b)` is
`URec.unify` (both maps merged, `None` as soon as one value differs), `unify_many` is `unifyMany`,
`unification_record_from_equation` is `recFromEq` (never binds a name outside the candidates, never
a tuple / list), `treat_mismatch` of `UnidirectionalUnifier` returns no record. -/
theorem record_functions_current (cands : List String) (recur : Expr → Expr → List URec → List URec)
    (cl : Option C16Env) :
    C16FnSpec cands (c16LinkFn c16Unifier (c16ModelCtx cands recur cl)) := by
  rw [unifier_table_current]
  exact c16LinkFn_spec cands _ (c16ModelFn_spec cands) rfl

example : (URec.unify ⟨[("x", .var "a")], []⟩ ⟨[("x", .var "b")], []⟩).isNone = true := by decide +kernel

/-- **The nested generators of `map_commut_assoc` in the current source are the model's**:
`subsets` is `subsetsUpTo`, `partitions` is `partitions`, `match_plain_var_candidates` is
`matchPlain` (leftovers bound only when `match_children` has consumed every compound operand; the
FIRST consistent partition when compound operands exist, all of them merged with the incoming
records otherwise), `match_children` is `matchChildren` (a consumed target operand is never
matched again; records merged through `unify_many`). -/
theorem generators_current (cands : List String) (recur : Expr → Expr → List URec → List URec) :
    C16GenSpec cands (c16LinkGen c16Unifier (c16ModelCtx cands recur none)) := by
  rw [unifier_table_current]
  exact c16LinkGen_spec cands _ (c16ModelFn_spec cands) (c16ModelGen_spec cands recur)

/-- **`map_commut_assoc` of the current source** is the split of the operands, the candidate table
and `matchChildren` from the empty record with every target operand left over. -/
theorem commut_assoc_current (cands : List String) (recur : Expr → Expr → List URec → List URec)
    (hrec : ∀ a b vs, (∀ v ∈ vs, v.WF) → ∀ r ∈ recur a b vs, r.WF) :
    C16CASpec cands recur (c16LinkGen c16Unifier (c16ModelCtx cands recur none)) := by
  rw [unifier_table_current]
  exact c16LinkGen_ca cands (c16ModelCtx cands recur none) (c16ModelFn_spec cands)
    (c16ModelGen_spec cands recur) rfl hrec

/-- `unifyE` never produces a record with a repeated key -/
theorem unifyE_wf_current (cands : List String) (e oth : Expr) (us : List URec)
    (hus : ∀ v ∈ us, v.WF) : ∀ r ∈ unifyE cands e oth us, r.WF :=
  unifyE_wf' cands e oth us hus

/-- **One dispatched call of the current source, `self.rec` left open.**  For ANY meaning `recur`
of the recursive calls: the handler the table prescribes for the node computes `c16UnifyF` (the
body of `unifyE` with `recur` in place of the recursive calls). -/
theorem table_step_current (cands : List String) (recur : Expr → Expr → List URec → List URec)
    (e oth : Expr) (us : List URec) (ht : c16Top e = true) (hus : ∀ u ∈ us, u.WF)
    (hsafe : c16SafeTop e oth) :
    c16Step c04Classes c16Unifier (c16ModelCtx cands recur none) e oth us
      = .ok (c16UnifyF cands recur e oth us) := by
  rw [c16Step, handler_resolve_current e ht, unifier_table_current]
  exact c16Step_expected cands _ (c16ModelCtx_ok cands recur none) e oth us ht hus hsafe

/-- **`unifyE` is the table interpreter run on the current source**: for every node kind of the
model, every target, every list of records, one dispatched call `self.rec(expr, other, urecs)` —
dispatch, MRO resolution, the handler body statement by statement, with the recursive calls and
the other functions of the module meaning the model — returns `unifyE cands expr other urecs`. -/
theorem unifyE_eq_table_current (cands : List String) (e oth : Expr) (us : List URec)
    (ht : c16Top e = true) (hus : ∀ u ∈ us, u.WF) (hsafe : c16SafeTop e oth) :
    c16Step c04Classes c16Unifier (c16ModelCtx cands (unifyE cands) none) e oth us
      = .ok (unifyE cands e oth us) := by
  rw [table_step_current cands _ e oth us ht hus hsafe, ← unifyE_eq_F]

example : c16Step c04Classes c16Unifier (c16ModelCtx ["x"] (unifyE ["x"]) none)
    (.bin .quot (.var "x") (.const (.int 2))) (.bin .quot (.var "a") (.const (.int 2))) [URec.empty]
    = .ok (unify ["x"] (.bin .quot (.var "x") (.const (.int 2))) (.bin .quot (.var "a") (.const (.int 2)))) :=
  unifyE_eq_table_current _ _ _ _ rfl (fun u hu => by simp at hu; subst hu; exact wf_empty) trivial

/-- **The entry point**: `UnidirectionalUnifier(cands)(pattern, target)` — the table's `__call__`
with the default `urecs = [UnificationRecord([])]` — is `unify cands pattern target`. -/
theorem unify_entry_current (cands : List String) (p t : Expr) :
    c16CallVal (c16ModelCtx cands (unifyE cands) none)
      ((c16FindFn c16Unifier "UnifierBase.__call__").getD default) [.self, .obj p, .obj t]
      = .ok (C16Val.ofRecs (unify cands p t)) := by
  rw [unifier_table_current, show c16FindFn c16Expected "UnifierBase.__call__" = some c16X_Base_call
    from c16FindFn_mem (fn := c16X_Base_call) (by repeat constructor)]
  exact c16Call_entry cands _ (c16ModelFn_spec cands) p t

/-- **The decidable guard behind `c16SafeTop`**: when no tuple / list is an operand of an n-ary
node of the target (`c16TgtSafe`; in particular for every target of the driver's fragment `tgtOk`),
`flattened_sum` / `flattened_product` never return a tuple / list, so
`unification_record_from_equation` never returns `None` for a leftover share. -/
theorem safe_of_guard_current (e oth : Expr) (h : c16TgtSafe oth = true) : c16SafeTop e oth :=
  c16SafeTop_of_tgtSafe e oth h

theorem fragment_inside_guards_current (p t : Expr) (hp : patOk p = true) (ht : tgtOk t = true) :
    c16PatOk p = true ∧ c16TgtSafe t = true :=
  ⟨patOk_c16PatOk p hp, (tgtSafe_of_tgtOk t ht).1⟩

example : c16TgtSafe (.nary .sum [.var "a", .nary .prod [.var "b", .const (.int 2)]]) = true ∧
    c16TgtSafe (.nary .sum [.var "a", .tuple [.var "b"]]) = false := by decide +kernel

/-- **The whole run is `unify`** on the fragment of the driver: for a pattern / target of the
fragment, one dispatched call from `[UnificationRecord([])]` is `unify cands pattern target`. -/
theorem unify_eq_table_current (cands : List String) (p t : Expr) (hp : patOk p = true)
    (ht : tgtOk t = true) :
    c16Step c04Classes c16Unifier (c16ModelCtx cands (unifyE cands) none) p t [URec.empty]
      = .ok (unify cands p t) :=
  unifyE_eq_table_current cands p t [URec.empty] (c16Top_of_patOk (patOk_c16PatOk p hp))
    (fun u hu => by simp at hu; subst hu; exact wf_empty)
    (c16SafeTop_of_tgtSafe p t (tgtSafe_of_tgtOk t ht).1)

/-- **`unifyE` is the only solution of the dispatch equation of the current source.**  Any `f`
that on every node kind of the model returns what one dispatched handler call of the regenerated
table returns when `self.rec` is `f` itself (the other callees meaning the model's functions,
which by `record_functions_current` / `generators_current` / `commut_assoc_current` is what the
table's own functions compute) is `unifyE` on every pattern built from node kinds of the model —
so `unify_sound_partial`, `unify_complete_renaming`, … are theorems about any such `f`. -/
theorem unifyE_unique_current (cands : List String) (f : Expr → Expr → List URec → List URec)
    (hf : ∀ e oth us, c16Top e = true → (∀ u ∈ us, u.WF) → c16TgtSafe oth = true →
      c16Step c04Classes c16Unifier (c16ModelCtx cands f none) e oth us = .ok (f e oth us)) :
    ∀ (e : Expr), c16PatOk e = true → ∀ (oth : Expr) (us : List URec),
      (∀ u ∈ us, u.WF) → c16TgtSafe oth = true → f e oth us = unifyE cands e oth us := by
  intro e hp oth us hus hs
  refine unifyE_unique cands f ?_ e.size e (Nat.le_refl _) hp oth us hus hs
  intro e' oth' us' ht hus' hs'
  have h1 := hf e' oth' us' ht hus' hs'
  rw [table_step_current cands f e' oth' us' ht hus' (c16SafeTop_of_tgtSafe e' oth' hs')] at h1
  exact (C16Res.ok.inj h1).symm

/-- what a behaviour-changing edit of the source does to these theorems: a table in which
`match_children` no longer skips consumed operands is a different table -/
theorem table_edit_cex :
    ({ c16Unifier with fns := c16Unifier.fns.filter (·.name != c16N_match_children) } : C16Table).fns.length
      ≠ c16Unifier.fns.length := by decide +kernel

end PV.C16
