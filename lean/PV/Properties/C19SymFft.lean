import PV.Properties.C19Table
import PV.Proofs.AlgoTableFft
import PV.Proofs.SymFft
import PV.Proofs.SyntaxBEq
/-!
  C19 — "… the symbolic FFT evaluates to the same transform."

  `sym_fft(x, sign)` is `NearZeroKiller()(fft(wrap_intermediate(x), sign=sign,
  wrap_intermediate=wrap_intermediate))` (`sym_fft_flow_current`): the SAME routine `fft` whose
  regenerated body the theorems of PV/Properties/C19Table.lean are about, run on numpy object
  arrays of expressions — `+` and `*` are the overloaded operators of `Expression` (C03's model
  `Ops.bin`) — with every block of sub-transforms wrapped in `CommonSubexpression`.

  * `fft_wrap_eq_table_current`: the regenerated `fft` with ANY wrapper (the meaning of the
    external name `fft.wrap_intermediate_with_level`, a hypothesis) is the recursion `c19FftW`;
    `fft_wrap_id`: with the default wrapper that is `c19Fft`, the transform `fft_eq_dft` is about.
  * `sym_fft_eq_table_current`: run with the expression-building operators, the
    `CommonSubexpression` wrapper and SYMBOLIC twiddle factors `tw e` (the expression standing for
    `exp(sign·(-2πi)·e/n)`), the regenerated `fft` returns the trees `symFft tw xs`
    (PV/Model/SymFft.lean; compared node for node with the real code by the stream
    `symfft-trees`).
  * `sym_fft_den` — the property: for every environment in which the inputs have exact values
    (int / bool / Fraction) and `tw e` has the value `ζ^e` with `ζ^n = 1`, every operator
    application succeeds and the `k`-th tree EVALUATES (`den`, PV/Model/Eval.lean) to an exact
    number with value `∑_j ζ^(k·j) · value(x_j)`.  The homomorphism step is C03's `bin_sound`
    (the tree built by `Ops.bin` evaluates to the plain value), the transform itself is
    `c19Fft_eq_dft`, over ℚ.  `sym_fft_den_power`: the instance `tw e = Power(z, e)` (`1` for
    `e = 0`) for a variable `z` holding `ζ`.

  What stays outside: numpy's complex exponential (the root of unity is a parameter here; over the
  exact values of the model, ℚ, it is ±1 — the statement and its proof do not use more than
  `ζ^n = 1`), `NearZeroKiller` (an identity mapper that rewrites complex float constants only:
  `sym_fft_parts_current`; on the trees above it changes nothing), the parameter-processing block
  of `fft`, and the float rounding of the real twiddles (runtime oracle, tolerance).
-/

namespace PV.Properties.C19

open PV PV.Algo PV.Generated

/-! ## a. `fft` with a wrapper is the same recursion -/

section
variable {α : Type} (ops : C19Ops α) (ext : String → List (C19V α) → C19R (C19V α))
  (wrap : List α → List α)
  (hwrap : ∀ (l : C19V α) (v : List α),
    ext "fft.wrap_intermediate_with_level" [l, .vec (v.map C19V.elem)]
      = .ok (.vec ((wrap v).map C19V.elem)))
  (hstp : ∀ v, ext "fft.scalar_tp" [v] = .ok v)
include hwrap hstp

/-- **`fft` as regenerated, with a wrapper, IS `c19FftW`**: over every carrier, for every length
≥ 1 and every function `wrap` that `wrap_intermediate_with_level(level, ·)` computes on a block
(at every level: `sym_fft` passes the legacy `wrap_intermediate`, which IS handed down) -/
theorem fft_wrap_eq_table_current (x : List α) (hpos : 1 ≤ x.length) (sign : ℤ)
    (wi wil dt np : C19V α) (level : ℤ) (n : ℕ) (hn : 2 * x.length + 3 ≤ n) :
    c19RunFn ops tableCurrent ext (n + 1) "algorithm.fft"
        [c19EncVec x, .int sign, wi, wil, dt, np, .int level]
      = .ok (c19EncVec (c19FftW ops.add ops.mul (ops.ofInt 0) (c19Rp ops sign) wrap x)) :=
  c19_fftW_run ops ext hstp wrap hwrap x hpos sign wi wil dt np level n hn
end

/-- with the default wrapper (`wrap_intermediate_with_level(level, x) = x`) `c19FftW` is the
transform of `fft_eq_dft` -/
theorem fft_wrap_id {α : Type} (add mul : α → α → α) (zero : α) (rp : ℕ → ℕ → α) (x : List α) :
    c19FftW add mul zero rp (fun v => v) x = c19Fft add mul zero rp x :=
  c19FftW_id add mul zero rp x

/-- the two nested definitions of `sym_fft` have the recognised shapes: `NearZeroKiller` is an
identity mapper whose `map_constant` rewrites COMPLEX constants only, `wrap_intermediate` wraps
every entry of an array longer than one in a `CommonSubexpression` and returns shorter arrays
unchanged -/
theorem sym_fft_parts_current :
    c19SymFftParts = ["nearZeroKillerRewritesComplexConstantsOnly",
      "wrapIsCseEachIfLongerThanOne"] := by decide

/-! ## b. the regenerated `fft` on expression objects -/

/-- the carrier operations of the symbolic run: objects are expression trees (`none`: an operator
refused), `+` / `*` the overloaded operators, the int `0` of `sum`, the twiddle
`exp(sign·(-2πi)·k/m)` the symbol `tw ((n/m·k) mod n)` -/
def symOps (tw : ℕ → Expr) (n : ℕ) : C19Ops (Option Expr) where
  add := symOp .add
  mul := symOp .mul
  ofInt i := some (.const (.int i))
  ofFrac _ _ := none
  tw _ m k := some (tw ((n / m.toNat * k.toNat) % n))

/-- **the regenerated `fft`, run the way `sym_fft` runs it, returns the trees `symFft tw xs`**:
carrier = expression objects, wrapper = `CommonSubexpression` on every entry of a block longer
than one, input = the wrapped `xs` (at least two: a single input is returned as it is,
`sym_fft_singleton`) -/
theorem sym_fft_eq_table_current (tw : ℕ → Expr) (xs : List Expr) (hlen : 1 ≤ xs.length)
    (ext : String → List (C19V (Option Expr)) → C19R (C19V (Option Expr)))
    (hwrap : ∀ (l : C19V (Option Expr)) (v : List (Option Expr)),
      ext "fft.wrap_intermediate_with_level" [l, .vec (v.map C19V.elem)]
        = .ok (.vec ((symWrap v).map C19V.elem)))
    (hstp : ∀ v, ext "fft.scalar_tp" [v] = .ok v)
    (sign : ℤ) (wi wil dt np : C19V (Option Expr)) (level : ℤ) (n : ℕ)
    (hn : 2 * xs.length + 3 ≤ n) :
    c19RunFn (symOps tw xs.length) tableCurrent ext (n + 1) "algorithm.fft"
        [c19EncVec (symWrap (xs.map some)), .int sign, wi, wil, dt, np, .int level]
      = .ok (c19EncVec (symFft tw xs)) := by
  have hl : (symWrap (xs.map some)).length = xs.length := by
    unfold symWrap; split_ifs <;> simp
  rw [fft_wrap_eq_table_current (symOps tw xs.length) ext symWrap hwrap hstp _ (by omega) sign
    wi wil dt np level n (by omega)]
  have hrp : c19Rp (symOps tw xs.length) sign
      = fun m k => some (tw ((xs.length / m * k) % xs.length)) := by
    funext m k
    simp [c19Rp, symOps]
  rw [hrp]
  rfl

/-! ## c. the trees evaluate to the transform -/

/-- **The symbolic FFT evaluates to the same transform.**  For every environment `env`, all input
expressions `xs` (ANY expressions — `sym_fft` wraps each in a `CommonSubexpression` first — at
least two) with exact values in `env`, twiddle symbols `tw e` (`e < n`) that are not bool constants
and have the exact value `ζ^e`, `ζ^n = 1`:  every operator application inside `fft` succeeds
(`symFft tw xs` has no `none`), and the `k`-th tree evaluates to an exact number whose value is
the `k`-th entry of the discrete Fourier transform of the values of the inputs.  (`ζ : ℚ` with
`ζ^n = 1` is `±1`, see the head of this file.) -/
theorem sym_fft_den (env : Env) (tw : ℕ → Expr) (xs : List Expr) (ζ : ℚ) (hlen : 2 ≤ xs.length)
    (hx : ∀ x ∈ xs, ∃ q, SymHas env x q) (hζ : ζ ^ xs.length = 1)
    (htw : ∀ e < xs.length, (tw e).isBoolConst = false ∧ SymHas env (tw e) (ζ ^ e)) :
    ∃ ts : List Expr, symFft tw xs = ts.map some ∧ ts.length = xs.length ∧
      ∀ k (hk : k < ts.length), SymHas env ts[k]
        (∑ j ∈ Finset.range xs.length, ζ ^ (k * j) * (xs.map (symValue env)).getD j 0) :=
  symFft_den env tw xs ζ hlen hx hζ htw

/-- a single input is returned as it is -/
theorem sym_fft_singleton (tw : ℕ → Expr) (x : Expr) : symFft tw [x] = [some x] :=
  symFft_singleton tw x

/-- **the instance with the root as a variable**: `tw e = Power(z, e)` (`1` for `e = 0`), the
variable `z` bound to an exact number `ζ` with `ζ^n = 1`; `n ≤ 4097` because the model of Python
numbers abstains on exponents above 4096 -/
theorem sym_fft_den_power (env : Env) (z : String) (v : Value) (ζ : ℚ) (f : Bool)
    (hz : env.get z = some v) (hv : v.view = some (ζ, f)) (xs : List Expr)
    (hlen : 2 ≤ xs.length) (hbig : xs.length ≤ 4097)
    (hx : ∀ x ∈ xs, ∃ q, SymHas env x q) (hζ : ζ ^ xs.length = 1) :
    ∃ ts : List Expr, symFft (symTw z) xs = ts.map some ∧ ts.length = xs.length ∧
      ∀ k (hk : k < ts.length), SymHas env ts[k]
        (∑ j ∈ Finset.range xs.length, ζ ^ (k * j) * (xs.map (symValue env)).getD j 0) :=
  symFft_den env (symTw z) xs ζ hlen hx hζ
    (fun e he => symTw_has env z v ζ f hz hv e (by omega))

/-- what "evaluates to an exact number with value `q`" means: `den` answers an int, a bool or a
Fraction whose rational value is `q` -/
theorem symHas_iff (env : Env) (t : Expr) (q : ℚ) :
    SymHas env t q ↔ ∃ w, den env t = .ok w ∧
      ((∃ n : ℤ, w = .int n ∧ q = n) ∨ (∃ b : Bool, w = .bool b ∧ q = ((if b then 1 else 0 : ℤ) : ℚ))
        ∨ w = .frac q) := by
  constructor
  · rintro ⟨w, f, hw, hv⟩
    refine ⟨w, hw, ?_⟩
    rcases view_cases hv with ⟨n, rfl, rfl, rfl⟩ | ⟨b, rfl, rfl, rfl⟩ | ⟨rfl, rfl⟩
    · exact Or.inl ⟨n, rfl, rfl⟩
    · exact Or.inr (Or.inl ⟨b, rfl, rfl⟩)
    · exact Or.inr (Or.inr rfl)
  · rintro ⟨w, hw, ⟨n, rfl, rfl⟩ | ⟨b, rfl, rfl⟩ | rfl⟩
    · exact ⟨_, false, hw, rfl⟩
    · exact ⟨_, false, hw, rfl⟩
    · exact ⟨_, true, hw, rfl⟩

/-- non-vacuity: the two-point transform of `x0`, `x1` -/
example : symFft (symTw "z") [.var "x0", .var "x1"]
    = [some (.nary .sum [symCse (.var "x0"), symCse (.var "x1")]),
       some (.nary .sum [symCse (.var "x0"),
         .nary .prod [symCse (.var "x1"), .bin .pow (.var "z") (.const (.int 1))]])] := by
  decide +kernel

/-- the hypotheses of `sym_fft_den_power` are satisfiable: `x0 = 3`, `x1 = 1/2`, `z = -1` -/
example : ∃ ts : List Expr, symFft (symTw "z") [.var "x0", .var "x1"] = ts.map some ∧
    ts.length = 2 ∧ ∀ k (hk : k < ts.length),
      SymHas [("x0", .int 3), ("x1", .frac (1/2)), ("z", .int (-1))] ts[k]
        (∑ j ∈ Finset.range 2, (-1 : ℚ) ^ (k * j) *
          ([Expr.var "x0", .var "x1"].map
            (symValue [("x0", .int 3), ("x1", .frac (1/2)), ("z", .int (-1))])).getD j 0) :=
  sym_fft_den_power [("x0", .int 3), ("x1", .frac (1/2)), ("z", .int (-1))] "z" (.int (-1)) (-1)
    false rfl (by simp [Value.view]) [.var "x0", .var "x1"] (by decide) (by decide)
    (fun x hx => by
      simp only [List.mem_cons, List.mem_nil_iff, or_false] at hx
      rcases hx with rfl | rfl
      · exact ⟨3, .int 3, false, rfl, by simp [Value.view]⟩
      · exact ⟨1/2, .frac (1/2), true, rfl, by simp [Value.view]⟩)
    (by norm_num)

end PV.Properties.C19
